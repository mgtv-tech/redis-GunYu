/-
  C17 — the recovery-format switch: the states its request prefixes leave (Model/MigrateNs.lean), for
  Props/C17Migrate.lean. Core only.
-/
import GunYu.Proofs.MigrateNs

namespace GunYu.MigrateNs
open GunYu GunYu.Checkpoint GunYu.Migrate

theorem parseMode_bytes (m : BMode) : parseMode m.bytes = some m := by cases m <;> decide

theorem loadMode_after (t : Checkpoint.Target) (nm : Bytes) (m : BMode) (now : Int) :
    loadMode (applyReq t (Req.hsetCp 0 nm (modeEntries m now))) nm = some (some m) := by
  unfold loadMode
  rw [applyReq_hsetCp_cps, if_pos ⟨rfl, rfl⟩]
  let e1 : Entry := ⟨modeField, .other, m.bytes⟩
  let e2 : Entry := ⟨modeField, .mtime, intToDec now⟩
  show (match (hsetOne (hsetOne (t.cps 0 nm) e1) e2).find? (fun e => e.rid = modeField ∧ e.kind = .other) with
    | none => none | some e => some (parseMode e.val)) = _
  have hk12 : e1.key ≠ e2.key := by simp [Entry.key, e1, e2]
  have hmem : e1 ∈ hsetOne (hsetOne (t.cps 0 nm) e1) e2 := mem_hsetOne_of_ne (mem_hsetOne_self _ _) hk12
  -- the field found is the one written: the hash holds one field of that name
  cases hfind : (hsetOne (hsetOne (t.cps 0 nm) e1) e2).find? (fun e => e.rid = modeField ∧ e.kind = .other) with
  | none => exact absurd (List.find?_eq_none.mp hfind e1 hmem) (by simp [e1])
  | some e =>
    have hp : e.rid = modeField ∧ e.kind = .other := by simpa using List.find?_some hfind
    have hke : e.key = e1.key := by rw [Entry.key, hp.1, hp.2]; rfl
    have : e = e1 := by
      rcases mem_hsetOne (List.mem_of_find?_eq_some hfind) with h | h
      · exact absurd (h ▸ hke).symm hk12
      · exact hsetOne_key h hke
    rw [this]
    exact congrArg some (parseMode_bytes m)

theorem loadMode_congr {t t' : Checkpoint.Target} {nm : Bytes} (h : t'.cps 0 nm = t.cps 0 nm) :
    loadMode t' nm = loadMode t nm := by unfold loadMode; rw [h]

/-- the facts about the target once the hash is repointed to a seeded namespace -/
structure Seeded (id1 id2 newName : Bytes) (desired : BMode) (S : Int) (t : Checkpoint.Target) : Prop where
  hash : getHash t.hash [id1, id2] = some (newName, id1)
  holds : Holds [id1, id2] t newName 0 S
  mode : loadMode t newName = some (some desired)

theorem seeded_post {id1 id2 newName : Bytes} {desired : BMode} {S : Int} (hne : id1 ≠ id2) (h1 : id1 ≠ [])
    (rs : List Req) : ∀ {t : Checkpoint.Target}, Seeded id1 id2 newName desired S t →
      (∀ q ∈ rs, PostReq id1 newName q) → Seeded id1 id2 newName desired S (applyAll t rs) :=
  applyAll_inv (I := Seeded id1 id2 newName desired S) (fun _ q h hq =>
    have hk := postReq_keeps hne h1 h.hash q hq
    ⟨hk.1, h.holds.congr hk.2, (loadMode_congr (hk.2 0)).trans h.mode⟩) rs

theorem seeded_after_three {id1 id2 n newName ver : Bytes} (A : MArgs id1 id2 n newName) {t : Checkpoint.Target}
    (hf : Fresh [id1, id2] t newName) (desired : BMode) (S now1 now2 : Int) (hS0 : 0 ≤ S)
    (hSr : InInt64 S) (hnow : InInt64 now1) :
    Seeded id1 id2 newName desired S (applyAll t
      [Req.hsetCp 0 newName (cpEntries { runId := id1, offset := S, version := ver } now1),
       Req.hsetCp 0 newName (modeEntries desired now2), Req.hsetHash id1 newName]) :=
  ⟨getHash_of_first (hlookup_hashSet_self _ _ _) A.hnew0,
    (holds_hset_nonmatching (holds_after_root A hf S now1 hS0 hSr hnow (ver := ver)).1 0 newName _
      (A.modeEntries desired now2)).congr fun _ => rfl,
    loadMode_after _ newName desired now2⟩

/-- the namespace whose recovery state a request changes -/
def nsName : BReq → Option Bytes
  | .cp _ => none
  | .seedFrontier name _ => some name
  | .seedLatest name _ => some name
  | .dropJournal name => some name
  | .dropSlots name => some name
  | .delRoot name => some name

theorem applyB_ns_other (b : BT) (q : BReq) (nm : Bytes) (h : nsName q ≠ some nm) : (applyB b q).ns nm = b.ns nm := by
  cases q
  case cp => rfl
  all_goals exact if_neg fun hc => h (congrArg some hc.symm)

theorem applyAllB_ns_other (rs : List BReq) (nm : Bytes) : ∀ b : BT, (∀ q ∈ rs, nsName q ≠ some nm) →
    (applyAllB b rs).ns nm = b.ns nm := by
  induction rs with
  | nil => intro b _; rfl
  | cons q rs ih =>
    intro b h
    exact (ih (applyB b q) (fun q' hq' => h q' (List.mem_cons_of_mem _ hq'))).trans
      (applyB_ns_other b q nm (h q (List.mem_cons_self ..)))

theorem applyAllB_append (b : BT) (x y : List BReq) : applyAllB b (x ++ y) = applyAllB (applyAllB b x) y :=
  List.foldl_append ..

end GunYu.MigrateNs
