/-
  Helper lemmas for Props/C16Reader.lean: what ONE reader of the C05 cache model delivers
  over a whole run of the leader's input.

  Disk backend (`GunYu.Store.Disk`), from C05's invariant `DInv` (Proofs/StoreDisk.lean):
  * `reader_step`   : how one step changes one reader (identity, ghost `start`, kind are
                      kept; a closed reader stays closed; a step that closes a reader does
                      not change what it delivered; a step that changes the channel's label
                      leaves it closed)
  * `RInv`, `RInv.run` : the run invariant, generic in the predicate `Q` on outputs

  Memory backend (`GunYu.Store.Mem`), from C05's `MemInv` / `SnapInv`:
  * `segOf`, `IsSrc`          : bytes of a source
  * `step_readers`            : the leader's input (writers, id operations) leaves the readers alone
  * `OneReader`, `mem_reader_step` : what a reader operation does to the state; how one step
                                changes one reader: what its copy loop wrote to the pipe (the
                                rest of the segment it holds), what its consumer took
  * `MemServes`, `MemServes.step` : the pipe protocol of one stream reader, one step
  * `KeepFrame`, `HeldSeg`, `Held`, `Held.step` : the heap facts C05's invariant lacks — a
                                segment a copy loop still holds after a reset took it out of the
                                index keeps its bytes and is found by `Mem.lookup`
-/
import GunYu.Model.Store
import GunYu.Proofs.StoreDisk
import GunYu.Proofs.StoreMem
import GunYu.Proofs.StoreMemInv
import GunYu.Proofs.StoreMemSnap
import GunYu.Proofs.Replica

namespace GunYu.Store
open GunYu

/-! ### runs -/

theorem Disk.run_append (s : Disk) (a b : List DOp) : s.run (a ++ b) = (s.run a).run b := by
  induction a generalizing s with
  | nil => rfl
  | cons op rest ih => exact ih _

theorem Disk.wf_append (s : Disk) (a b : List DOp) : s.wf (a ++ b) ↔ s.wf a ∧ (s.run a).wf b := by
  induction a generalizing s with
  | nil => simp [Disk.wf, Disk.run]
  | cons op rest ih =>
    show (s.okOp op ∧ (s.step op).1.wf (rest ++ b)) ↔ (s.okOp op ∧ (s.step op).1.wf rest) ∧ _
    rw [ih]
    exact ⟨fun ⟨h1, h2, h3⟩ => ⟨⟨h1, h2⟩, h3⟩, fun ⟨⟨h1, h2⟩, h3⟩ => ⟨h1, h2, h3⟩⟩

/-! ### how one step changes one reader -/

/-- `r'` is what a step made of reader `r`: same identity, same ghost `start`, same kind;
    it is open only if `r` was; and if it is closed it has delivered exactly what `r` had
    (closing never delivers) -/
def Follows (r r' : DReader) : Prop :=
  r'.id = r.id ∧ r'.start = r.start ∧ r'.isAof = r.isAof ∧
  (r'.isOpen = true → r.isOpen = true) ∧ (r'.isOpen = false → r'.out = r.out)

theorem Follows.refl (r : DReader) : Follows r r := ⟨rfl, rfl, rfl, id, fun _ => rfl⟩

/-- `r'` is `r`, or `r` closed -/
def SameOrClosed (r r' : DReader) : Prop := r' = r ∨ r' = r.close

theorem SameOrClosed.follows {r r' : DReader} (h : SameOrClosed r r') : Follows r r' := by
  rcases h with h | h <;> subst h
  · exact Follows.refl _
  · exact ⟨rfl, rfl, rfl, fun h => absurd h (by simp [DReader.close]), fun _ => rfl⟩

theorem SameOrClosed.trans {a b c : DReader} (h1 : SameOrClosed a b) (h2 : SameOrClosed b c) :
    SameOrClosed a c := by
  rcases h1 with h1 | h1 <;> rcases h2 with h2 | h2 <;> subst h1 <;> subst h2
  · exact Or.inl rfl
  · exact Or.inr rfl
  · exact Or.inr rfl
  · exact Or.inr rfl

theorem map_sameOrClosed {rs : List DReader} {f : DReader → DReader}
    (hf : ∀ x, f x = x ∨ f x = x.close) {r : DReader} (hr : r ∈ rs) :
    ∃ r' ∈ rs.map f, SameOrClosed r r' :=
  ⟨f r, List.mem_map_of_mem hr, hf r⟩

theorem closeLive_sameOrClosed (s : Disk) {r : DReader} (hr : r ∈ s.readers) :
    ∃ r' ∈ s.closeLive.readers, SameOrClosed r r' := by
  obtain ⟨f, hf, e⟩ := closeLive_readers s
  rw [e]
  exact map_sameOrClosed hf hr

theorem closeLive_runId (s : Disk) : s.closeLive.runId = s.runId := by
  unfold Disk.closeLive
  split
  · rfl
  · split <;> rfl

theorem appendLive_runId (s : Disk) (chunk : Bytes) : (s.appendLive chunk).1.runId = s.runId := by
  unfold Disk.appendLive
  split
  · rfl
  · simp only []; split <;> rfl

/-- **one step, one reader.** Every reader is still there after any operation, with the
    same identity, ghost start offset and kind; no operation re-opens it; an operation after
    which it is closed did not change what it had delivered; and if it is still open the step
    did not change the channel's label: the label changes only by a first `setRunId` (which
    resets: every reader closed), a replication-id SWITCH (everything open on the old index is
    closed) or an id delete (reset). -/
theorem reader_step {s : Disk} (h : DInv s) (op : DOp) {r : DReader} (hr : r ∈ s.readers) :
    ∃ r' ∈ (s.step op).1.readers, Follows r r' ∧
      (r'.isOpen = true → (s.step op).1.runId = s.runId) := by
  have same : ∀ s' : Disk, s'.readers = s.readers → s'.runId = s.runId →
      ∃ r' ∈ s'.readers, Follows r r' ∧ (r'.isOpen = true → s'.runId = s.runId) :=
    fun s' e e' => ⟨r, e ▸ hr, Follows.refl r, fun _ => e'⟩
  -- the reader is, or may be, closed; the label stays
  have closes : ∀ (s' : Disk) (r' : DReader), r' ∈ s'.readers → SameOrClosed r r' → s'.runId = s.runId →
      ∃ r' ∈ s'.readers, Follows r r' ∧ (r'.isOpen = true → s'.runId = s.runId) :=
    fun s' r' hr' hsc e' => ⟨r', hr', hsc.follows, fun _ => e'⟩
  -- every reader is closed; the label may change
  have reset : ∀ (s' : Disk) (r' : DReader), r' ∈ s'.readers → SameOrClosed r r' → r'.isOpen = false →
      ∃ r' ∈ s'.readers, Follows r r' ∧ (r'.isOpen = true → s'.runId = s.runId) :=
    fun s' r' hr' hsc hcl => ⟨r', hr', hsc.follows, fun ho => by rw [hcl] at ho; cases ho⟩
  have viaSet : ∀ (r0 r1 : DReader), r0 ∈ s.readers → r1.id = r0.id → Follows r0 r1 →
      ∃ r' ∈ setReader s.readers r1, Follows r r' ∧ (r'.isOpen = true → s.runId = s.runId) := by
    intro r0 r1 h0 hid hf
    by_cases e : r.id = r0.id
    · have : r = r0 := eq_of_mem_of_id h.ids hr h0 e
      subst this
      exact ⟨r1, mem_setReader_same hr hid, hf, fun _ => rfl⟩
    · exact ⟨r, mem_setReader_other hr (by rw [hid]; exact e), Follows.refl r, fun _ => rfl⟩
  have hclose : r.close ∈ closeAllReaders s.readers := List.mem_map_of_mem hr
  cases op with
  | setRunId id =>
    simp only [Disk.step]
    split
    · exact reset _ _ hclose (.inr rfl) rfl
    · split
      · exact same _ rfl rfl
      · have hs0 : r.close ∈ (({ s with readers := closeAllReaders s.readers } : Disk).dropWritingRdb).readers := by
          rw [(dropWritingRdb_fields _).2.2.1]; exact hclose
        obtain ⟨r2, hr2, h2⟩ := closeLive_sameOrClosed _ hs0
        refine reset _ r2 ?_ ((SameOrClosed.trans (.inr rfl) h2)) (by rcases h2 with e | e <;> rw [e] <;> rfl)
        show r2 ∈ s.closeAllForSwitch.rescan.readers
        rw [(rescan_hist _).2.2]; exact hr2
  | delRunId =>
    simp only [Disk.step]
    split
    · exact same _ rfl rfl
    · exact reset _ _ hclose (.inr rfl) rfl
  | newRdbWriter off size => exact closes _ _ hclose (.inr rfl) rfl
  | rdbAppend chunk =>
    simp only [Disk.step]; repeat' split
    all_goals exact same _ rfl rfl
  | rdbClose =>
    rcases rdbClose_cases s with e | e <;> rw [e]
    · exact same _ rfl rfl
    · obtain ⟨r', hr', h'⟩ := map_sameOrClosed (f := fun x => if x.isAof then x else x.close)
        (fun x => by cases x.isAof <;> simp) hr
      exact closes _ r' hr' h' rfl
  | newAofWriter off =>
    simp only [Disk.step]
    obtain ⟨r1, hr1, h1⟩ := closeLive_sameOrClosed s hr
    obtain ⟨r2, hr2, h2⟩ := map_sameOrClosed (f := fun x => if x.isAof then x.close else x)
      (fun x => ite_close _ x) hr1
    exact ⟨r2, hr2, (h1.trans h2).follows, fun _ => closeLive_runId s⟩
  | aofAppend chunk =>
    simp only [Disk.step]
    have h1 := appendLive_readers s chunk
    have h2 := appendLive_runId s chunk
    cases hp : s.appendLive chunk with
    | mk s' ok =>
      rw [hp] at h1 h2
      cases ok
      · exact same _ rfl rfl
      · exact same _ h1 h2
  | aofClose =>
    obtain ⟨r1, hr1, h1⟩ := closeLive_sameOrClosed s hr
    exact closes _ r1 hr1 h1 (closeLive_runId s)
  | gc =>
    simp only [Disk.step, Disk.gc]; repeat' split
    all_goals exact same _ rfl rfl
  | openReader rid off crcOk =>
    show ∃ r' ∈ (s.open rid off crcOk).1.readers, Follows r r' ∧
      (r'.isOpen = true → (s.open rid off crcOk).1.runId = s.runId)
    rcases open_readers s rid off crcOk with e | ⟨x, _, e⟩ <;> rw [e]
    · exact same _ rfl rfl
    · exact ⟨r, List.mem_append_left _ hr, Follows.refl r, fun _ => rfl⟩
  | read rid n =>
    -- a successful read delivers: the reader stays open
    have delivers : ∀ (r0 : DReader) (bs : Bytes), r0 ∈ s.readers → r0.isOpen = true →
        ∃ r' ∈ setReader s.readers { r0 with pos := r0.pos + bs.length, out := r0.out ++ bs },
          Follows r r' ∧ (r'.isOpen = true → s.runId = s.runId) :=
      fun r0 bs h0 ho => viaSet r0 _ h0 rfl ⟨rfl, rfl, rfl, fun _ => ho, fun hcl => by simp [ho] at hcl⟩
    simp only [Disk.step, Disk.read]
    cases hf : findReader s.readers rid with
    | none => exact same _ rfl rfl
    | some r0 =>
      obtain ⟨h0, _⟩ := findReader_some hf
      dsimp only
      by_cases ho : r0.isOpen = true
      · rw [if_neg (by simp [ho])]
        by_cases ha : r0.isAof = true
        · rw [if_pos ha]
          cases findSeg s.all r0.cur with
          | none => exact same _ rfl rfl
          | some g =>
            dsimp only
            split
            · exact same _ rfl rfl
            · exact delivers r0 _ h0 ho
        · rw [if_neg ha]
          cases s.rdb with
          | none => exact same _ rfl rfl
          | some rd =>
            dsimp only
            split
            · exact same _ rfl rfl
            · exact delivers r0 _ h0 ho
      · rw [if_pos (by simpa using ho)]
        exact same _ rfl rfl
  | advAcquire rid =>
    simp only [Disk.step, Disk.advAcquire]
    cases hf : findReader s.readers rid with
    | none => exact same _ rfl rfl
    | some r0 =>
      simp only []
      split
      · exact viaSet r0 _ (findReader_some hf).1 rfl ⟨rfl, rfl, rfl, id, fun _ => rfl⟩
      · exact same _ rfl rfl
  | advRelease rid =>
    simp only [Disk.step, Disk.advRelease]
    cases hf : findReader s.readers rid with
    | none => exact same _ rfl rfl
    | some r0 =>
      simp only []
      split
      · exact viaSet r0 _ (findReader_some hf).1 rfl ⟨rfl, rfl, rfl, id, fun _ => rfl⟩
      · exact same _ rfl rfl
  | closeReader rid =>
    simp only [Disk.step, Disk.closeReader]
    cases hf : findReader s.readers rid with
    | none => exact same _ rfl rfl
    | some r0 => exact viaSet r0 r0.close (findReader_some hf).1 rfl (SameOrClosed.follows (.inr rfl))

/-! ### the run invariant of one reader -/

/-- a property of every state of a run (the state before each operation, and the last one) -/
def AlongRun (P : Disk → Prop) : Disk → List DOp → Prop
  | s, [] => P s
  | s, op :: rest => P s ∧ AlongRun P (s.step op).1 rest

/-- in state `t`, if the channel is labelled `x`, every slice of the held history that
    starts at `off` satisfies `Q` -/
def SliceOk (Q : Bytes → Prop) (x : String) (off : Nat) (t : Disk) : Prop :=
  t.runId = x → t.hbase ≤ off → ∀ m, (off - t.hbase) + m ≤ t.hist.length →
    Q ((t.hist.drop (off - t.hbase)).take m)

/-- the invariant: reader `rid` exists, what it delivered satisfies `Q`, and while it is
    open the channel is labelled `x` and it is a stream reader opened at `off` -/
def RInv (Q : Bytes → Prop) (x : String) (rid off : Nat) (s : Disk) : Prop :=
  ∃ r ∈ s.readers, r.id = rid ∧ Q r.out ∧
    (r.isOpen = true → s.runId = x ∧ r.isAof = true ∧ r.start = off)

theorem RInv.step {Q : Bytes → Prop} {x : String} {rid off : Nat} {s : Disk} (hinv : DInv s)
    (op : DOp) (hok : s.okOp op) (h : RInv Q x rid off s) (hq : SliceOk Q x off (s.step op).1) :
    RInv Q x rid off (s.step op).1 := by
  obtain ⟨r, hr, hid, hQ, hopen⟩ := h
  obtain ⟨r', hr', ⟨hid', hstart, haof, ho, hout⟩, hrun⟩ := reader_step hinv op hr
  have hinv' := hinv.step op hok
  refine ⟨r', hr', hid'.trans hid, ?_, ?_⟩
  · cases hoo : r'.isOpen with
    | false => rw [hout hoo]; exact hQ
    | true =>
      obtain ⟨hx, ha, hs⟩ := hopen (ho hoo)
      have hrun := hrun hoo
      obtain ⟨⟨g, hg, _, _, hpr⟩, _, hb, hp, hout'⟩ := (hinv'.readersOk r' hr' hoo).1 (haof.trans ha)
      have hge := (hinv'.embed g hg).2.1
      have hso : r'.start = off := hstart.trans hs
      rw [hout', hso]
      rw [hso] at hb hp
      exact hq (hrun.trans hx) hb _ (by omega)
  · intro hoo
    obtain ⟨hx, ha, hs⟩ := hopen (ho hoo)
    exact ⟨(hrun hoo).trans hx, haof.trans ha, hstart.trans hs⟩

/-- **the run invariant.** Over ANY continuation respecting C05's protocol, from a state
    satisfying C05's invariant. -/
theorem RInv.run {Q : Bytes → Prop} {x : String} {rid off : Nat} {s : Disk} (hinv : DInv s)
    (ops : List DOp) (hwf : s.wf ops) (h : RInv Q x rid off s)
    (hq : AlongRun (SliceOk Q x off) s ops) : RInv Q x rid off (s.run ops) := by
  induction ops generalizing s with
  | nil => exact h
  | cons op rest ih =>
    have hq' : AlongRun (SliceOk Q x off) (s.step op).1 rest := hq.2
    have hhead : SliceOk Q x off (s.step op).1 := by
      cases rest with
      | nil => exact hq'
      | cons _ _ => exact hq'.1
    exact ih (hinv.step op hwf.1) hwf.2 (h.step hinv op hwf.1 hhead) hq'

/-- opening a stream reader establishes the invariant -/
theorem RInv.open {Q : Bytes → Prop} {s : Disk} {rid off : Nat} {crc : Bool}
    (hopen : (s.open rid off crc).2 = Out.aof off) (hq : Q []) :
    RInv Q s.runId rid off (s.open rid off crc).1 := by
  unfold Disk.open at hopen ⊢
  by_cases h1 : (findReader s.readers rid).isSome = true
  · rw [if_pos h1] at hopen; cases hopen
  rw [if_neg h1] at hopen ⊢
  by_cases h2 : (!s.inRange off) = true
  · rw [if_pos h2] at hopen; cases hopen
  rw [if_neg h2] at hopen ⊢
  cases hidx : indexAof s.all off with
  | some g =>
    exact ⟨_, List.mem_append_right _ (List.mem_singleton.mpr rfl), rfl, hq, fun _ => ⟨rfl, rfl, rfl⟩⟩
  | none =>
    rw [hidx] at hopen
    dsimp only at hopen
    repeat' split at hopen
    all_goals cases hopen

/-- the reader with a given id is unique -/
theorem RInv.elim {Q : Bytes → Prop} {x : String} {rid off : Nat} {s : Disk} (hinv : DInv s)
    (h : RInv Q x rid off s) :
    ∀ r ∈ s.readers, r.id = rid → Q r.out ∧ (r.isOpen = true → s.runId = x) := by
  obtain ⟨r0, hr0, hid0, hQ, hopen⟩ := h
  intro r hr hid
  have : r = r0 := eq_of_mem_of_id hinv.ids hr hr0 (hid.trans hid0.symm)
  subst this
  exact ⟨hQ, fun ho => (hopen ho).1⟩

/-! ## Memory backend -/

/-! ### bytes of a source -/

/-- bytes `[b, b+n)` of a source (`GunYu.Props.C16.srcSeg` is the same term) -/
def segOf (src : Nat → UInt8) (b n : Nat) : Bytes := (List.range n).map (fun i => src (b + i))

theorem segOf_eq_hseg (src : Nat → UInt8) (b n : Nat) :
    segOf src b n = Replica.hseg ⟨fun _ => src, fun _ _ => []⟩ "" b n := rfl

@[simp] theorem segOf_length (src : Nat → UInt8) (b n : Nat) : (segOf src b n).length = n :=
  Replica.hseg_length ⟨fun _ => src, fun _ _ => []⟩ "" b n

theorem segOf_append (src : Nat → UInt8) (b n m : Nat) :
    segOf src b (n + m) = segOf src b n ++ segOf src (b + n) m :=
  Replica.hseg_append ⟨fun _ => src, fun _ _ => []⟩ "" b n m

theorem segOf_slice (src : Nat → UInt8) (b n k m : Nat) (h : k + m ≤ n) :
    ((segOf src b n).drop k).take m = segOf src (b + k) m := by
  rw [segOf_eq_hseg, Replica.hseg_drop, Replica.hseg_take _ _ _ _ _ (by omega)]
  rfl

/-- `l` is the source's bytes from offset `b` on -/
def IsSrc (src : Nat → UInt8) (b : Nat) (l : Bytes) : Prop := l = segOf src b l.length

theorem IsSrc.nil (src : Nat → UInt8) (b : Nat) : IsSrc src b [] := rfl

theorem IsSrc.append {src : Nat → UInt8} {b : Nat} {l m : Bytes} (hl : IsSrc src b l)
    (hm : IsSrc src (b + l.length) m) : IsSrc src b (l ++ m) := by
  unfold IsSrc at *
  rw [List.length_append, segOf_append, ← hl, ← hm]

theorem IsSrc.drop {src : Nat → UInt8} {b : Nat} {l : Bytes} (hl : IsSrc src b l) (k : Nat) :
    IsSrc src (b + k) (l.drop k) :=
  Replica.hseg_self_drop (h := ⟨fun _ => src, fun _ _ => []⟩) (id := "") hl k

theorem IsSrc.prefix {src : Nat → UInt8} {b : Nat} {l p : Bytes} (hl : IsSrc src b l) (hp : p <+: l) :
    IsSrc src b p := by
  unfold IsSrc at hl
  rw [hl] at hp
  exact Replica.hseg_prefix ⟨fun _ => src, fun _ _ => []⟩ "" _ _ _ hp

/-! ### writers leave the readers alone -/

theorem aofRotate_readers (s : Mem) (cur : Nat) (seg : MSeg) (rotate : Bool) :
    (aofRotate s cur seg rotate).1.readers = s.readers := by
  unfold aofRotate; cases rotate <;> rfl

theorem appendAofLoop_readers (fuel : Nat) (s : Mem) (buf : Bytes) (done : Nat) :
    (Mem.appendAofLoop fuel s buf done).1.readers = s.readers :=
  (appendAofLoop_run (R := fun a _ b => b.readers = a.readers) (fun _ => rfl) (fun h1 h2 => h2.trans h1)
    (fun s cur seg _ _ _ => aofRotate_readers s cur seg _) (fun s n => (ensure_frame s n).readers)
    (fun _ _ _ _ => rfl) fuel s buf done).2

theorem finishRdb_readers (s : Mem) (failed : Bool) : (s.finishRdb failed).readers = s.readers :=
  (finishRdb_frame s failed).1.readers

theorem finishAof_readers (s : Mem) (cur : Nat) (isCurrent : Bool) :
    (s.finishAof cur isCurrent).readers = s.readers :=
  (finishAof_frame s cur isCurrent).1.readers

/-- the pending-buffer retry and the two appends: one traversal (store-mem's `appends_keep`) -/
theorem appends_readers (s : Mem) :
    s.retry.1.readers = s.readers ∧ (∀ chunk, (s.step (.aofAppend chunk)).1.readers = s.readers) ∧
      ∀ chunk, (s.step (.rdbAppend chunk)).1.readers = s.readers :=
  appends_keep (P := fun s' => s'.readers = s.readers) (fun _ _ _ h => h)
    (fun fuel s' buf h => (appendAofLoop_readers fuel s' buf 0).trans h)
    (fun fuel s' buf h => (appendRdbLoop_frame fuel s' buf 0).readers.trans h)
    (fun s' h => (finishRdb_readers s' false).trans h) s rfl

theorem step_readers (s : Mem) (op : MOp) (hop : op.readerOp = false) : (s.step op).1.readers = s.readers := by
  cases op with
  | setRunId id => rfl
  | delRunId id => simp only [Mem.step]; split <;> rfl
  | newRdbWriter off size => rfl
  | rdbAppend chunk => exact (appends_readers s).2.2 chunk
  | rdbClose => exact finishRdb_readers s false
  | rdbFail => exact finishRdb_readers s true
  | newAofWriter off =>
    rw [step_newAofWriter_eq]
    cases hi : s.installWriter off with
    | none => rfl
    | some s1 =>
      have e : s1.readers = s.readers := by rw [(installWriter_spec hi).1]
      dsimp only
      cases s.aofW with
      | none => exact e
      | some old => exact (finishAof_readers s1 old false).trans e
  | aofAppend chunk => exact (appends_readers s).2.1 chunk
  | aofClose =>
    simp only [Mem.step]
    split
    · exact finishAof_readers s _ true
    · rfl
  | retryAppend => exact (appends_readers s).1
  | _ => cases hop

/-! ### how one step changes one reader (memory) -/

theorem mFindReader_id {rs : List MReader} {rid : Nat} {r : MReader} (h : mFindReader rs rid = some r) :
    r.id = rid := by
  have := List.find?_some h
  simpa using this

theorem mFindReader_setReader_ne (rs : List MReader) (r1 : MReader) (rid : Nat) (h : r1.id ≠ rid) :
    mFindReader (mSetReader rs r1) rid = mFindReader rs rid := by
  unfold mFindReader mSetReader
  induction rs with
  | nil => rfl
  | cons a t ih =>
    simp only [List.map_cons, List.find?_cons]
    by_cases ha : a.id = r1.id
    · have h1 : (a.id == r1.id) = true := by simpa using ha
      have h2 : (r1.id == rid) = false := by simpa using h
      have h3 : (a.id == rid) = false := by rw [ha]; exact h2
      simp only [h1, if_true, h2, h3]
      exact ih
    · have h1 : (a.id == r1.id) = false := by simpa using ha
      simp only [h1, Bool.false_eq_true, if_false]
      cases (a.id == rid)
      · exact ih
      · rfl

theorem mFindReader_setReader_eq (rs : List MReader) (r0 r1 : MReader) (rid : Nat) (hid : r1.id = rid)
    (h : mFindReader rs rid = some r0) : mFindReader (mSetReader rs r1) rid = some r1 := by
  unfold mFindReader mSetReader at *
  induction rs with
  | nil => simp at h
  | cons a t ih =>
    simp only [List.map_cons, List.find?_cons] at h ⊢
    by_cases ha : a.id = rid
    · have h1 : (a.id == r1.id) = true := by simp [ha, hid]
      have h2 : (r1.id == rid) = true := by simpa using hid
      simp only [h1, if_true, h2]
    · have h1 : (a.id == r1.id) = false := by rw [hid]; simpa using ha
      have h3 : (a.id == rid) = false := by simpa using ha
      simp only [h1, Bool.false_eq_true, if_false, h3] at h ⊢
      exact ih h

theorem mFindReader_append_some (rs : List MReader) (x : MReader) (rid : Nat) {r : MReader}
    (h : mFindReader rs rid = some r) : mFindReader (rs ++ [x]) rid = some r := by
  unfold mFindReader at *
  rw [List.find?_append, h]; rfl

/-- what is in the reader's pipe: in the consumer's `bufio.Reader`, then in the pipe itself -/
def pipe (r : MReader) : Bytes := r.bbuf ++ r.buf

/-- the bytes an operation's reply hands to the caller -/
def delivered : Out → Bytes
  | .data d => d
  | _ => []

/-- the bytes the consumer of reader `rid` takes out of the pipe by operation `op` (reply `o`) -/
def taken (rid : Nat) (op : MOp) (o : Out) : Bytes :=
  match op with
  | .consume rid' _ => if rid' = rid then delivered o else []
  | _ => []

/-- `r'` is what one operation made of reader `r`: `bs` are the bytes its copy loop wrote to
    the pipe in this step (the rest of the segment it holds, from its position on), `t` the
    bytes its consumer took out of the pipe -/
structure ReaderStep (s : Mem) (r r' : MReader) (t bs : Bytes) : Prop where
  isAof : r'.isAof = r.isAof
  out : r'.out = r.out ++ bs
  pos : r'.pos = r.pos + bs.length
  pipe : t ++ pipe r' = pipe r ++ bs
  src : bs ≠ [] → r.released = false ∧ ∃ g, s.lookup r.seg = some g ∧ g.left ≤ r.pos ∧
    bs = g.data.drop (r.pos - g.left)
  rel : r'.released = false → r.released = false
  seg : r.isAof = true → r'.seg = r.seg ∨ ∃ nx ∈ s.segs, nx.sid = r'.seg

theorem ReaderStep.refl (s : Mem) (r : MReader) : ReaderStep s r r [] [] :=
  ⟨rfl, by simp, by simp, by simp, fun h => absurd rfl h, id, fun _ => Or.inl rfl⟩

/-- `r'` differs from `r` in flags only -/
theorem ReaderStep.flags (s : Mem) (r r' : MReader) (ha : r'.isAof = r.isAof) (ho : r'.out = r.out)
    (hp : r'.pos = r.pos) (hb : r'.bbuf = r.bbuf) (hbu : r'.buf = r.buf) (hs : r'.seg = r.seg)
    (hrel : r'.released = false → r.released = false) : ReaderStep s r r' [] [] :=
  ⟨ha, by simp [ho], by simp [hp], by simp [GunYu.Store.pipe, hb, hbu], fun h => absurd rfl h, hrel, fun _ => Or.inl hs⟩

theorem ReaderStep.returned (s : Mem) (r : MReader) (st : RSt) :
    ReaderStep s r { r with st := st, released := true } [] [] :=
  ReaderStep.flags s r _ rfl rfl rfl rfl rfl rfl (fun h => by simp at h)

theorem ReaderStep.copied {s : Mem} {r : MReader} {g : MSeg} (hrel : r.released = false)
    (hlk : s.lookup r.seg = some g) (hle : g.left ≤ r.pos) :
    ReaderStep s r { r with pos := r.pos + (g.data.drop (r.pos - g.left)).length,
                            buf := r.buf ++ g.data.drop (r.pos - g.left),
                            out := r.out ++ g.data.drop (r.pos - g.left) } [] (g.data.drop (r.pos - g.left)) :=
  ⟨rfl, rfl, rfl, by simp [GunYu.Store.pipe], fun _ => ⟨hrel, g, hlk, hle, rfl⟩, id, fun _ => Or.inl rfl⟩

theorem ReaderStep.moved (s : Mem) (r : MReader) (nx : Nat)
    (hnx : r.isAof = true → ∃ g ∈ s.segs, g.sid = nx) : ReaderStep s r { r with seg := nx } [] [] :=
  ⟨rfl, by simp, by simp, by simp [GunYu.Store.pipe], fun h => absurd rfl h, id, fun h => Or.inr (hnx h)⟩

theorem ReaderStep.set {s : Mem} {rid' rid : Nat} {r0 r1 r : MReader} {t bs : Bytes}
    (hf : mFindReader s.readers rid' = some r0) (hid : r1.id = r0.id)
    (hr : mFindReader s.readers rid = some r)
    (hstep : rid' = rid → ReaderStep s r0 r1 t bs) (ht : rid' ≠ rid → t = []) :
    ∃ r' bs, mFindReader (mSetReader s.readers r1) rid = some r' ∧ ReaderStep s r r' t bs := by
  have hid0 := mFindReader_id hf
  by_cases e : rid' = rid
  · subst e
    rw [hr] at hf; cases hf
    exact ⟨r1, bs, mFindReader_setReader_eq _ _ _ _ (hid.trans hid0) hr, hstep rfl⟩
  · rw [ht e, mFindReader_setReader_ne _ _ _ (by rw [hid, hid0]; exact e)]
    exact ⟨r, [], hr, ReaderStep.refl s r⟩

theorem mNextOf_mem {l : List MSeg} {sid : Nat} {nx : MSeg} (h : mNextOf l sid = some nx) : nx ∈ l := by
  obtain ⟨pre, g0, post, e, _⟩ := mNextOf_some h
  rw [e]; simp

/-! #### what the reader operations do to the state -/

/-- `s'` is `s` with at most the reader `rid` replaced; `t` is what its consumer took out of
    the pipe -/
def OneReader (s s' : Mem) (rid : Nat) (t : Bytes) : Prop :=
  (s' = s ∧ t = []) ∨ ∃ r r' bs, mFindReader s.readers rid = some r ∧
    s' = { s with readers := mSetReader s.readers r' } ∧ r'.id = r.id ∧ ReaderStep s r r' t bs

theorem OneReader.reader {s s' : Mem} {rid' rid : Nat} {t : Bytes} (h : OneReader s s' rid' t)
    {r : MReader} (hr : mFindReader s.readers rid = some r) :
    ∃ r' bs, mFindReader s'.readers rid = some r' ∧ ReaderStep s r r' (if rid' = rid then t else []) bs := by
  rcases h with ⟨rfl, rfl⟩ | ⟨r0, r1, bs, hf, rfl, hid, hst⟩
  · exact ⟨r, [], hr, by rw [ite_self]; exact ReaderStep.refl _ r⟩
  · exact ReaderStep.set hf hid hr (fun e => by rw [if_pos e]; exact hst) (fun e => if_neg e)

/-- an open that reports a stream reader at `off`: the id was fresh, a segment of the
    contiguous run covers `off`, and the reader appended holds it -/
theorem open_aof {s : Mem} {rid off : Nat} (hopen : (s.open rid off).2 = Out.aof off) :
    ∃ g, s.indexAof off = some g ∧
      mFindReader (s.open rid off).1.readers rid =
        some ⟨rid, true, g.sid, off, 0, .running, false, false, false, [], [], off, []⟩ := by
  unfold Mem.open at hopen ⊢
  by_cases h1 : (mFindReader s.readers rid).isSome = true
  · rw [if_pos h1] at hopen; cases hopen
  rw [if_neg h1] at hopen ⊢
  by_cases h2 : (!s.inRange (off : Int)) = true
  · rw [if_pos h2] at hopen; cases hopen
  rw [if_neg h2] at hopen ⊢
  cases hidx : s.indexAof off with
  | some g =>
    refine ⟨g, rfl, ?_⟩
    have hnone : mFindReader s.readers rid = none := by simpa using h1
    unfold mFindReader at hnone ⊢
    dsimp only
    rw [List.find?_append, hnone]
    simp
  | none =>
    rw [hidx] at hopen
    dsimp only at hopen
    repeat' split at hopen
    all_goals cases hopen

theorem copyStep_oneReader (s : Mem) (rid : Nat) : OneReader s (s.copyStep rid).1 rid [] := by
  rcases copyStep_cases s rid with h | ⟨r, r', hf, hrel, hm, h⟩ <;> rw [h]
  · exact .inl ⟨rfl, rfl⟩
  · cases hm with
    | finish st => exact .inr ⟨r, _, [], hf, rfl, rfl, ReaderStep.returned s r st⟩
    | deliver g hl hpos _ => exact .inr ⟨r, _, _, hf, rfl, rfl, ReaderStep.copied hrel hl hpos⟩
    | nextAof g nx _ _ _ _ hn =>
      exact .inr ⟨r, _, [], hf, rfl, rfl, ReaderStep.moved s r nx.sid fun _ => ⟨nx, mNextOf_mem hn, rfl⟩⟩
    | nextRdb g nx ha _ _ _ _ =>
      exact .inr ⟨r, _, [], hf, rfl, rfl, ReaderStep.moved s r nx fun h => by rw [ha] at h; cases h⟩

theorem consume_oneReader (s : Mem) (rid n : Nat) :
    OneReader s (s.consume rid n).1 rid (delivered (s.consume rid n).2) := by
  unfold Mem.consume
  cases hf : mFindReader s.readers rid with
  | none => exact .inl ⟨rfl, rfl⟩
  | some r =>
    dsimp only
    by_cases hbb : (!r.bbuf.isEmpty) = true
    · -- bytes waiting in the bufio buffer
      rw [if_pos hbb]
      exact .inr ⟨r, _, [], hf, rfl, rfl, rfl, by simp, by simp,
        by simp [GunYu.Store.pipe, delivered, ← List.append_assoc], fun h => absurd rfl h, id, fun _ => Or.inl rfl⟩
    rw [if_neg hbb]
    have hbb' : r.bbuf = [] := by simpa using hbb
    by_cases hb : (!r.buf.isEmpty) = true
    · -- one pipe read refills the bufio buffer
      rw [if_pos hb]
      exact .inr ⟨r, _, [], hf, rfl, rfl, rfl, by simp, by simp, by simp [GunYu.Store.pipe, delivered, hbb'],
        fun h => absurd rfl h, id, fun _ => Or.inl rfl⟩
    rw [if_neg hb]
    split
    · split <;> exact .inl ⟨rfl, rfl⟩
    · exact .inl ⟨rfl, rfl⟩

theorem startReader_oneReader (s : Mem) (rid : Nat) : OneReader s (s.step (.startReader rid)).1 rid [] := by
  simp only [Mem.step]
  cases hf : mFindReader s.readers rid with
  | none => exact .inl ⟨rfl, rfl⟩
  | some r =>
    dsimp only
    split
    · exact .inl ⟨rfl, rfl⟩
    · exact .inr ⟨r, _, [], hf, rfl, rfl, ReaderStep.flags s r _ rfl rfl rfl rfl rfl rfl id⟩

theorem closeReader_oneReader (s : Mem) (rid : Nat) : OneReader s (s.closeReader rid).1 rid [] := by
  unfold Mem.closeReader
  cases hf : mFindReader s.readers rid with
  | none => exact .inl ⟨rfl, rfl⟩
  | some r =>
    dsimp only
    split
    · exact .inr ⟨r, _, [], hf, rfl, rfl, ReaderStep.flags s r _ rfl rfl rfl rfl rfl rfl id⟩
    · exact .inr ⟨r, _, [], hf, rfl, rfl, ReaderStep.flags s r _ rfl rfl rfl rfl rfl rfl (fun h => by simp at h)⟩

/-- reader operations leave the index, the snapshot and the heap alone -/
theorem step_index_readerOp (s : Mem) (op : MOp) (hop : op.readerOp = true) :
    (s.step op).1.rdb = s.rdb ∧ (s.step op).1.segs = s.segs ∧ (s.step op).1.heap = s.heap := by
  rw [step_readerOp s hop]
  exact ⟨rfl, rfl, rfl⟩

/-- **one step, one reader (memory).** The reader `rid` (the first with that id) is still
    there after any operation; its copy loop wrote `bs` (possibly nothing) to the pipe, taken
    from the segment it holds at its position; its consumer took `taken …` out of the pipe. -/
theorem mem_reader_step (s : Mem) (op : MOp) (rid : Nat) {r : MReader} (hr : mFindReader s.readers rid = some r) :
    ∃ r' bs, mFindReader (s.step op).1.readers rid = some r' ∧
      ReaderStep s r r' (taken rid op (s.step op).2) bs := by
  have other : ∀ {rid' : Nat} {s' : Mem}, OneReader s s' rid' [] →
      ∃ r' bs, mFindReader s'.readers rid = some r' ∧ ReaderStep s r r' [] bs := by
    intro rid' s' h
    have := h.reader hr
    rwa [ite_self] at this
  cases op with
  | openReader rid' off =>
    show ∃ r' bs, mFindReader (s.open rid' off).1.readers rid = some r' ∧ ReaderStep s r r' [] bs
    rcases open_shape s rid' off with h | ⟨x, h, _⟩ <;> rw [h]
    · exact ⟨r, [], hr, ReaderStep.refl s r⟩
    · exact ⟨r, [], mFindReader_append_some _ _ _ hr, ReaderStep.refl s r⟩
  | startReader rid' => exact other (startReader_oneReader s rid')
  | copyStep rid' => exact other (copyStep_oneReader s rid')
  | consume rid' n => exact (consume_oneReader s rid' n).reader hr
  | closeReader rid' => exact other (closeReader_oneReader s rid')
  | _ => exact ⟨r, [], by rw [step_readers s _ rfl]; exact hr, ReaderStep.refl s r⟩

/-! ### the reader serves the source (memory), one step -/

/-- an indexed segment holds the source's bytes when the held history does -/
theorem indexed_isSrc {src : Nat → UInt8} {s : Mem} (hi : MemInv s)
    (hlab : s.hist = segOf src s.hbase s.hist.length) {g : MSeg} (hg : g ∈ s.segs) : IsSrc src g.left g.data := by
  have hst := hi.stream
  unfold StreamInv at hst
  obtain ⟨lo, hi', hd⟩ := hst.segOk g hg
  unfold IsSrc
  conv => lhs; rw [hd, hlab]
  unfold MSeg.right at hi'
  rw [segOf_slice _ _ _ _ _ (by omega)]
  congr 1
  omega

/-- a segment reader `rid` still holds although it is no longer indexed (a reset moved it
    out of the index) holds the source's bytes -/
def StaleOk (src : Nat → UInt8) (rid : Nat) (s : Mem) : Prop :=
  ∀ r, mFindReader s.readers rid = some r → r.isAof = true → r.released = false → mFind s.segs r.seg = none →
    ∀ g, s.lookup r.seg = some g → IsSrc src g.left g.data

/-- reader `rid` is a stream reader opened at `off`; everything its copy loop wrote to the
    pipe is the source's bytes from `off` on; `c` (what its consumer took so far) and what is
    still in the pipe make up what was written -/
def MemServes (src : Nat → UInt8) (rid off : Nat) (s : Mem) (c : Bytes) : Prop :=
  ∃ r, mFindReader s.readers rid = some r ∧ r.isAof = true ∧ IsSrc src off r.out ∧
    r.pos = off + r.out.length ∧ c ++ pipe r = r.out

theorem MemServes.step {src : Nat → UInt8} {rid off : Nat} {s : Mem} {c : Bytes} (hi : MemInv s)
    (hlab : s.hist = segOf src s.hbase s.hist.length) (hst : StaleOk src rid s)
    (h : MemServes src rid off s c) (op : MOp) :
    MemServes src rid off (s.step op).1 (c ++ taken rid op (s.step op).2) := by
  obtain ⟨r, hr, ha, hout, hpos, hc⟩ := h
  obtain ⟨r', bs, hr', st⟩ := mem_reader_step s op rid hr
  refine ⟨r', hr', st.isAof.trans ha, ?_, ?_, ?_⟩
  · rw [st.out]
    by_cases hbs : bs = []
    · rw [hbs, List.append_nil]; exact hout
    · obtain ⟨hrel, g, hlk, hle, hbs'⟩ := st.src hbs
      have hg : IsSrc src g.left g.data := by
        cases hm : mFind s.segs r.seg with
        | some g0 =>
          have : s.lookup r.seg = some g0 := by unfold Mem.lookup; rw [hm]
          rw [this] at hlk; cases hlk
          exact indexed_isSrc hi hlab (mFind_some hm).1
        | none => exact hst r hr ha hrel hm g hlk
      apply IsSrc.append hout
      rw [hbs', ← hpos]
      have := hg.drop (r.pos - g.left)
      rwa [show g.left + (r.pos - g.left) = r.pos by omega] at this
  · rw [st.pos, st.out, hpos, List.length_append]; omega
  · rw [List.append_assoc, st.pipe, ← List.append_assoc, hc, st.out]

/-- opening a stream reader: nothing written, nothing taken -/
theorem MemServes.open {src : Nat → UInt8} {s : Mem} {rid off : Nat}
    (hopen : (s.open rid off).2 = Out.aof off) : MemServes src rid off (s.open rid off).1 [] := by
  obtain ⟨g, _, hf⟩ := open_aof hopen
  exact ⟨_, hf, rfl, IsSrc.nil _ _, rfl, rfl⟩

/-! ### segments a reader holds outside the index (the heap)

    C05's invariant does not speak of `heap`. What is needed here: a segment referenced by a
    copy loop is never collected; a reset (or the trimming of an empty segment) moves it to
    the FRONT of the heap with its bytes; nothing else with its identity is ever put in front
    of it; fresh segments get fresh identities. -/

theorem mFind_append (a b : List MSeg) (sid : Nat) : mFind (a ++ b) sid = (mFind a sid).or (mFind b sid) := by
  unfold mFind; exact List.find?_append

theorem mFind_cons_ne {g : MSeg} {sid : Nat} (l : List MSeg) (h : g.sid ≠ sid) : mFind (g :: l) sid = mFind l sid := by
  unfold mFind
  have : (g.sid == sid) = false := by simpa using h
  simp [this]

theorem mFind_cons_eq {g : MSeg} {sid : Nat} (l : List MSeg) (h : g.sid = sid) : mFind (g :: l) sid = some g := by
  unfold mFind
  simp [h]

theorem mFind_none_iff {l : List MSeg} {sid : Nat} : mFind l sid = none ↔ ∀ g ∈ l, g.sid ≠ sid := by
  unfold mFind
  rw [List.find?_eq_none]
  constructor
  · intro h g hg; simpa using h g hg
  · intro h g hg; simpa using h g hg

theorem mFind_map (f : MSeg → MSeg) (hf : ∀ g, (f g).sid = g.sid) (l : List MSeg) (sid : Nat) :
    mFind (l.map f) sid = (mFind l sid).map f := by
  induction l with
  | nil => rfl
  | cons a t ih =>
    by_cases h : a.sid = sid
    · rw [List.map_cons, mFind_cons_eq _ ((hf a).trans h), mFind_cons_eq _ h]; rfl
    · rw [List.map_cons, mFind_cons_ne _ (by rw [hf a]; exact h), mFind_cons_ne _ h, ih]

theorem mFind_mUpdate (l : List MSeg) (c : Nat) (f : MSeg → MSeg) (hf : ∀ g, (f g).sid = g.sid) (sid : Nat) :
    mFind (mUpdate l c f) sid = (mFind l sid).map (fun g => if g.sid == c then f g else g) := by
  unfold mUpdate
  exact mFind_map _ (fun g => by split <;> simp [hf]) l sid

theorem mFind_filter_ne (l : List MSeg) (c sid : Nat) (h : sid ≠ c) :
    mFind (l.filter (fun x => x.sid != c)) sid = mFind l sid := by
  induction l with
  | nil => rfl
  | cons a t ih =>
    simp only [List.filter_cons]
    by_cases ha : a.sid = c
    · have : (a.sid != c) = false := by simp [ha]
      simp only [this, Bool.false_eq_true, if_false]
      rw [ih, mFind_cons_ne _ (by rw [ha]; exact fun e => h e.symm)]
    · have : (a.sid != c) = true := by simpa using ha
      simp only [this, if_true]
      by_cases hs : a.sid = sid
      · rw [mFind_cons_eq _ hs, mFind_cons_eq _ hs]
      · rw [mFind_cons_ne _ hs, mFind_cons_ne _ hs, ih]

/-- no snapshot segment has the identity `sid` -/
def NoRdbSid (sid : Nat) (s : Mem) : Prop := ∀ rd, s.rdb = some rd → ∀ g ∈ rd.segs, g.sid ≠ sid

/-- a copy loop that has not returned holds the segment `sid` -/
def Referenced (sid : Nat) (s : Mem) : Prop := ∃ r ∈ s.readers, r.released = false ∧ r.seg = sid

theorem Referenced.mRefs_ne {sid : Nat} {s : Mem} (h : Referenced sid s) : mRefs s.readers sid ≠ 0 := by
  obtain ⟨r, hr, hrel, hs⟩ := h
  unfold mRefs
  have : 0 < (s.readers.filter (fun r => !r.released && r.seg == sid)).length :=
    List.length_filter_pos_iff.mpr ⟨r, hr, by simp [hrel, hs]⟩
  omega

/-- what an operation that does not move the segment `sid` out of the index leaves alone:
    identities stay fresh, no snapshot segment gets the identity, an indexed `sid` stays
    indexed, and for a non-indexed `sid` the first heap entry is the same -/
structure KeepFrame (sid : Nat) (s s' : Mem) : Prop where
  next : s.nextSid ≤ s'.nextSid
  readers : s'.readers = s.readers
  rdb : NoRdbSid sid s → NoRdbSid sid s'
  idx : mFind s.segs sid ≠ none → mFind s'.segs sid ≠ none
  stale : NoRdbSid sid s → mFind s.segs sid = none →
    mFind s'.segs sid = none ∧ mFind s'.heap sid = mFind s.heap sid

theorem KeepFrame.refl (sid : Nat) (s : Mem) : KeepFrame sid s s :=
  ⟨Nat.le_refl _, rfl, id, id, fun _ h => ⟨h, rfl⟩⟩

theorem KeepFrame.trans {sid : Nat} {a b c : Mem} (h1 : KeepFrame sid a b) (h2 : KeepFrame sid b c) :
    KeepFrame sid a c :=
  ⟨Nat.le_trans h1.next h2.next, h2.readers.trans h1.readers, fun h => h2.rdb (h1.rdb h),
   fun h => h2.idx (h1.idx h),
   fun hn h => by
     obtain ⟨x1, x2⟩ := h1.stale hn h
     obtain ⟨y1, y2⟩ := h2.stale (h1.rdb hn) x1
     exact ⟨y1, y2.trans x2⟩⟩

/-- the preconditions travel along a frame -/
theorem KeepFrame.pre {sid : Nat} {s s' : Mem} (h : KeepFrame sid s s') (hlt : sid < s.nextSid)
    (href : Referenced sid s) : sid < s'.nextSid ∧ Referenced sid s' := by
  refine ⟨Nat.lt_of_lt_of_le hlt h.next, ?_⟩
  obtain ⟨r, hr, h1, h2⟩ := href
  exact ⟨r, by rw [h.readers]; exact hr, h1, h2⟩

/-- two steps, each keeping the frame from a state that meets the preconditions -/
theorem KeepFrame.andThen {sid : Nat} {a b c : Mem} (h1 : sid < a.nextSid → Referenced sid a → KeepFrame sid a b)
    (h2 : sid < b.nextSid → Referenced sid b → KeepFrame sid b c) (hlt : sid < a.nextSid)
    (href : Referenced sid a) : KeepFrame sid a c :=
  (h1 hlt href).trans (h2 ((h1 hlt href).pre hlt href).1 ((h1 hlt href).pre hlt href).2)

theorem gcAof_keep {s s' : Mem} (h : s.gcAof = some s') {sid : Nat} (href : Referenced sid s) :
    KeepFrame sid s s' := by
  unfold Mem.gcAof at h
  split at h
  · rename_i first rest hs
    split at h
    · rename_i hc
      simp only [Bool.and_eq_true, beq_iff_eq, bne_iff_ne, ne_eq] at hc
      simp at h; subst h
      have hne : first.sid ≠ sid := by
        intro e
        have := href.mRefs_ne
        rw [← e] at this
        exact this hc.1.2
      refine ⟨Nat.le_refl _, rfl, id, ?_, ?_⟩
      · intro hi; rw [hs, mFind_cons_ne _ hne] at hi; exact hi
      · intro _ hn
        rw [hs, mFind_cons_ne _ hne] at hn
        exact ⟨hn, mFind_cons_ne _ hne⟩
    · simp at h
  · simp at h

theorem gcRdb_keep {s s' : Mem} (h : s.gcRdb = some s') {sid : Nat} (href : Referenced sid s) :
    KeepFrame sid s s' := by
  unfold Mem.gcRdb at h
  split at h
  · rename_i r hr
    split at h
    · rename_i first rest hrs
      split at h
      · rename_i hc
        simp only [Bool.and_eq_true, beq_iff_eq] at hc
        simp at h; subst h
        have hne : first.sid ≠ sid := by
          intro e
          have := href.mRefs_ne
          rw [← e] at this
          exact this hc.2
        refine ⟨Nat.le_refl _, rfl, ?_, id, fun _ hn => ⟨hn, mFind_cons_ne _ hne⟩⟩
        intro hn rd hrd g hg
        dsimp only at hrd
        split at hrd
        · cases hrd
        · cases hrd
          exact hn r hr g (by rw [hrs]; exact List.mem_cons_of_mem _ hg)
      · simp at h
    · simp at h
  · simp at h

theorem gcOnce_keep {s s' : Mem} (h : s.gcOnce = some s') {sid : Nat} (href : Referenced sid s) :
    KeepFrame sid s s' := by
  unfold Mem.gcOnce at h
  split at h
  · rename_i s1 h1
    simp at h; subst h
    exact gcAof_keep h1 href
  · exact gcRdb_keep h href

theorem gc_keep (s : Mem) (need : Nat) {sid : Nat} (hlt : sid < s.nextSid) (href : Referenced sid s) :
    KeepFrame sid s (s.gc need) :=
  gc_rel (R := fun a b => sid < a.nextSid → Referenced sid a → KeepFrame sid a b)
    (fun s _ _ => KeepFrame.refl sid s)
    KeepFrame.andThen
    (fun hg _ href => gcOnce_keep hg href) s need hlt href

theorem ensure_keep (s : Mem) (need : Nat) {sid : Nat} (hlt : sid < s.nextSid) (href : Referenced sid s) :
    KeepFrame sid s (s.ensure need).1 := by
  unfold Mem.ensure
  split
  · exact KeepFrame.refl _ _
  · exact gc_keep s need hlt href

theorem mUpdate_sid_ne {l : List MSeg} {c : Nat} {f : MSeg → MSeg} (hf : ∀ g, (f g).sid = g.sid) {sid : Nat}
    (h : ∀ g ∈ l, g.sid ≠ sid) : ∀ g ∈ mUpdate l c f, g.sid ≠ sid := by
  intro g hg
  obtain ⟨a, ha, rfl⟩ := mem_mUpdate.mp hg
  split
  · rw [hf]; exact h a ha
  · exact h a ha

theorem mFind_mUpdate_none {l : List MSeg} {c : Nat} {f : MSeg → MSeg} (hf : ∀ g, (f g).sid = g.sid) {sid : Nat} :
    mFind (mUpdate l c f) sid = none ↔ mFind l sid = none := by
  rw [mFind_mUpdate l c f hf sid]
  cases mFind l sid <;> simp

/-! #### the stream writer keeps the frame -/

theorem aofRotate_keep (s : Mem) (cur : Nat) (seg : MSeg) (rotate : Bool) {sid : Nat} (hlt : sid < s.nextSid) :
    KeepFrame sid s (aofRotate s cur seg rotate).1 := by
  unfold aofRotate
  cases rotate with
  | false => exact KeepFrame.refl _ _
  | true =>
    simp only [if_true]
    have hnew : ∀ g ∈ [({ sid := s.nextSid, left := seg.right, data := [], closed := false, next := none } : MSeg)],
        g.sid ≠ sid := by
      intro g hg; simp only [List.mem_singleton] at hg; subst hg; dsimp only; omega
    refine ⟨Nat.le_succ _, rfl, id, ?_, ?_⟩
    · intro hi
      dsimp only
      rw [mFind_append]
      intro hn
      have : mFind (mUpdate s.segs cur fun g => { g with closed := true }) sid = none := by
        cases hx : mFind (mUpdate s.segs cur fun g => { g with closed := true }) sid with
        | none => rfl
        | some y => rw [hx] at hn; simp at hn
      exact hi ((mFind_mUpdate_none (by intro _; rfl)).mp this)
    · intro _ hn
      dsimp only
      refine ⟨?_, rfl⟩
      rw [mFind_append, (mFind_mUpdate_none (by intro _; rfl)).mpr hn, mFind_none_iff.mpr hnew]
      rfl

theorem aofPut_keep (s2 : Mem) (cur1 : Nat) (piece : Bytes) (sid : Nat) : KeepFrame sid s2 (aofPut s2 cur1 piece) := by
  unfold aofPut
  refine ⟨Nat.le_refl _, rfl, id, ?_, ?_⟩
  · intro hi hn
    exact hi ((mFind_mUpdate_none (by intro _; rfl)).mp hn)
  · intro _ hn
    exact ⟨(mFind_mUpdate_none (by intro _; rfl)).mpr hn, rfl⟩

theorem appendAofLoop_keep (fuel : Nat) {sid : Nat} (s : Mem) (buf : Bytes) (done : Nat)
    (hlt : sid < s.nextSid) (href : Referenced sid s) : KeepFrame sid s (Mem.appendAofLoop fuel s buf done).1 :=
  (appendAofLoop_run (R := fun a _ b => sid < a.nextSid → Referenced sid a → KeepFrame sid a b)
    (fun s _ _ => KeepFrame.refl sid s)
    KeepFrame.andThen
    (fun s cur seg _ _ _ hlt _ => aofRotate_keep s cur seg _ hlt)
    (fun s n hlt href => ensure_keep s n hlt href)
    (fun s cur piece _ _ _ => aofPut_keep s cur piece sid) fuel s buf done).2 hlt href

/-! #### the snapshot writer keeps the frame -/

theorem rdbRotate_keep (s : Mem) (r : MRdb) (seg : MSeg) (rotate : Bool) (hr : s.rdb = some r) {sid : Nat}
    (hlt : sid < s.nextSid) : KeepFrame sid s (rdbRotate s r seg rotate).1 := by
  unfold rdbRotate
  cases rotate with
  | false => exact KeepFrame.refl _ _
  | true =>
    simp only [if_true]
    refine ⟨Nat.le_succ _, rfl, ?_, id, fun _ hn => ⟨hn, rfl⟩⟩
    intro hn rd hrd g hg
    dsimp only at hrd
    cases hrd
    unfold rdbRotated at hg
    dsimp only at hg
    rcases List.mem_append.mp hg with h | h
    · exact mUpdate_sid_ne (by intro _; rfl) (hn r hr) g h
    · simp only [List.mem_singleton] at h; subst h; dsimp only; omega

theorem rdbPut_keep (s2 : Mem) (r2 : MRdb) (cur1 : Nat) (piece : Bytes) (hr : s2.rdb = some r2) (sid : Nat) :
    KeepFrame sid s2 (rdbPut s2 r2 cur1 piece) := by
  unfold rdbPut
  refine ⟨Nat.le_refl _, rfl, ?_, id, fun _ hn => ⟨hn, rfl⟩⟩
  intro hn rd hrd g hg
  dsimp only at hrd
  cases hrd
  exact mUpdate_sid_ne (by intro _; rfl) (hn r2 hr) g hg

theorem appendRdbLoop_keep (fuel : Nat) {sid : Nat} (s : Mem) (buf : Bytes) (done : Nat)
    (hlt : sid < s.nextSid) (href : Referenced sid s) : KeepFrame sid s (Mem.appendRdbLoop fuel s buf done).1 :=
  (appendRdbLoop_run (R := fun a _ b => sid < a.nextSid → Referenced sid a → KeepFrame sid a b)
    (fun s _ _ => KeepFrame.refl sid s)
    KeepFrame.andThen
    (fun s r seg _ hr _ _ hlt _ => rdbRotate_keep s r seg _ hr hlt)
    (fun s n hlt href => ensure_keep s n hlt href)
    (fun s r piece hr _ _ _ => rdbPut_keep s r r.cur piece hr sid) fuel s buf done).2 hlt href

theorem finishRdb_keep (s : Mem) (failed : Bool) (sid : Nat) : KeepFrame sid s (s.finishRdb failed) := by
  rcases finishRdb_cases s failed with e | ⟨r, hr, _, e | ⟨_, _, e⟩⟩ <;> rw [e]
  · exact KeepFrame.refl _ _
  · -- the snapshot's segments go to the front of the heap: none of them is `sid`
    refine ⟨Nat.le_refl _, rfl, (fun _ rd hrd => by cases hrd), id, fun hn hs => ⟨hs, ?_⟩⟩
    dsimp only
    rw [mFind_append, (mFind_mUpdate_none (by intro _; rfl)).mpr (mFind_none_iff.mpr (hn r hr))]
    rfl
  · refine ⟨Nat.le_refl _, rfl, ?_, id, fun _ hs => ⟨hs, rfl⟩⟩
    intro hn rd hrd g hg
    cases hrd
    exact mUpdate_sid_ne (by intro _; rfl) (hn r hr) g hg

theorem withPend_keep (s : Mem) (a r : Option Bytes) (sid : Nat) : KeepFrame sid s { s with pendA := a, pendR := r } :=
  ⟨Nat.le_refl _, rfl, id, id, fun _ h => ⟨h, rfl⟩⟩

/-- the pending-buffer retry and the two appends keep the frame: one traversal (`appends_keep`) -/
theorem appends_keepFrame (s : Mem) {sid : Nat} (hlt : sid < s.nextSid) (href : Referenced sid s) :
    KeepFrame sid s s.retry.1 ∧ (∀ chunk, KeepFrame sid s (s.step (.aofAppend chunk)).1) ∧
      ∀ chunk, KeepFrame sid s (s.step (.rdbAppend chunk)).1 :=
  appends_keep (P := KeepFrame sid s) (fun s' a r k => k.trans (withPend_keep s' a r sid))
    (fun fuel s' buf k => KeepFrame.andThen (fun _ _ => k) (appendAofLoop_keep fuel s' buf 0) hlt href)
    (fun fuel s' buf k => KeepFrame.andThen (fun _ _ => k) (appendRdbLoop_keep fuel s' buf 0) hlt href)
    (fun s' k => k.trans (finishRdb_keep s' false sid)) s (KeepFrame.refl sid s)

/-! #### what is known of the segment a reader holds -/

/-- the segment holds the source's bytes at its offsets -/
def Good (src : Nat → UInt8) (g : MSeg) : Prop := IsSrc src g.left g.data

/-- the indexed segment `sid` (if any) is good -/
def IdxGood (src : Nat → UInt8) (sid : Nat) (s : Mem) : Prop := ∀ g, mFind s.segs sid = some g → Good src g

/-- the identity `sid` is not a snapshot segment's, and if it is not indexed, the heap entry
    `Mem.lookup` finds for it is good -/
structure HeldSeg (src : Nat → UInt8) (sid : Nat) (s : Mem) : Prop where
  noRdb : NoRdbSid sid s
  heap : mFind s.segs sid = none → ∀ g, mFind s.heap sid = some g → Good src g

theorem HeldSeg.keep {src : Nat → UInt8} {sid : Nat} {s s' : Mem} (h : HeldSeg src sid s)
    (k : KeepFrame sid s s') : HeldSeg src sid s' :=
  ⟨k.rdb h.noRdb, fun hn g hg => by
    by_cases hs : mFind s.segs sid = none
    · obtain ⟨_, e⟩ := k.stale h.noRdb hs
      rw [e] at hg
      exact h.heap hs g hg
    · exact absurd hn (k.idx hs)⟩

theorem mCloseAll_eq_map (l : List MSeg) : mCloseAll l = l.map (fun g => { g with closed := true }) := rfl

theorem HeldSeg.reset {src : Nat → UInt8} {sid : Nat} {s : Mem} (h : HeldSeg src sid s)
    (hidx : IdxGood src sid s) : HeldSeg src sid s.reset := by
  refine ⟨fun rd hrd => (by cases hrd), fun _ g hg => ?_⟩
  have hg' : mFind (mCloseAll (s.segs ++ (match s.rdb with | some r => r.segs | none => [])) ++ s.heap) sid = some g := hg
  rw [mFind_append, mCloseAll_eq_map, mFind_map (fun g => ({ g with closed := true } : MSeg)) (fun _ => rfl),
    mFind_append] at hg'
  have hrd : mFind (match s.rdb with | some r => r.segs | none => []) sid = none := by
    cases hr : s.rdb with
    | none => rfl
    | some r => exact mFind_none_iff.mpr (h.noRdb r hr)
  rw [hrd] at hg'
  cases hm : mFind s.segs sid with
  | some g0 =>
    rw [hm] at hg'
    simp at hg'
    subst hg'
    exact hidx g0 hm
  | none =>
    rw [hm] at hg'
    simp at hg'
    exact h.heap hm g hg'

theorem HeldSeg.finishAof {src : Nat → UInt8} {sid : Nat} {s : Mem} (h : HeldSeg src sid s)
    (hlt : sid < s.nextSid) (href : Referenced sid s) (cur : Nat) (isCurrent : Bool) :
    HeldSeg src sid (s.finishAof cur isCurrent) := by
  obtain ⟨X, e, hX⟩ := finishAof_cases s cur isCurrent
  rw [e]
  -- after closing the segment
  have hheap : ∀ g', mFind (mUpdate s.heap cur (fun g => ({ g with closed := true } : MSeg))) sid = some g' →
      ∃ g, mFind s.heap sid = some g ∧ g'.left = g.left ∧ g'.data = g.data := by
    intro g' hg'
    rw [mFind_mUpdate _ _ (fun g => ({ g with closed := true } : MSeg)) (fun _ => rfl)] at hg'
    cases hm : mFind s.heap sid with
    | none => rw [hm] at hg'; simp at hg'
    | some g =>
      rw [hm] at hg'
      simp only [Option.map_some, Option.some.injEq] at hg'
      subst hg'
      refine ⟨g, rfl, ?_, ?_⟩ <;> split <;> rfl
  have base : HeldSeg src sid (finishAofClosed s cur (if isCurrent then none else s.aofW)) := by
    unfold finishAofClosed
    refine ⟨h.noRdb, fun hn g' hg' => ?_⟩
    obtain ⟨g, hg, e1, e2⟩ := hheap g' hg'
    have := h.heap ((mFind_mUpdate_none (by intro _; rfl)).mp hn) g hg
    unfold Good at *
    rw [e1, e2]; exact this
  have hXs : X.nextSid = s.nextSid ∧ X.readers = s.readers := by
    rcases hX with ⟨rfl, _⟩ | ⟨g, _, _, rfl⟩ <;> exact ⟨rfl, rfl⟩
  refine HeldSeg.keep ?_ (gc_keep X 0 (hXs.1 ▸ hlt) (by rw [Referenced, hXs.2]; exact href))
  rcases hX with ⟨rfl, _⟩ | ⟨g, hf, hgd, rfl⟩
  · exact base
  have hgs : g.sid = cur := (mFind_some hf).2
  by_cases hsc : sid = cur
  · -- the reader's own (empty) segment is trimmed: it goes to the front of the heap
    refine ⟨h.noRdb, fun _ g' hg' => ?_⟩
    have hg'' : mFind (g :: mUpdate s.heap cur (fun g => ({ g with closed := true } : MSeg))) sid = some g' := hg'
    rw [mFind_cons_eq _ (hgs.trans hsc.symm)] at hg''
    cases hg''
    unfold Good
    rw [hgd]; exact IsSrc.nil _ _
  · refine ⟨h.noRdb, fun hn g' hg' => ?_⟩
    have hn' : mFind ((mUpdate s.segs cur (fun g => ({ g with closed := true } : MSeg))).filter
        (fun x => x.sid != cur)) sid = none := hn
    rw [mFind_filter_ne _ _ _ hsc] at hn'
    have hg'' : mFind (g :: mUpdate s.heap cur (fun g => ({ g with closed := true } : MSeg))) sid = some g' := hg'
    rw [mFind_cons_ne _ (by rw [hgs]; exact fun e => hsc e.symm)] at hg''
    exact base.heap hn' g' hg''

/-- a state that differs only in fields the frame does not mention -/
theorem HeldSeg.congr {src : Nat → UInt8} {sid : Nat} {s s' : Mem} (h : HeldSeg src sid s)
    (e1 : s'.rdb = s.rdb) (e2 : s'.segs = s.segs) (e3 : s'.heap = s.heap) : HeldSeg src sid s' :=
  ⟨fun rd hrd => h.noRdb rd (e1 ▸ hrd), fun hn g hg => h.heap (e2 ▸ hn) g (e3 ▸ hg)⟩

/-- a fresh segment is pushed on the index -/
theorem HeldSeg.push {src : Nat → UInt8} {sid : Nat} {s s' : Mem} (h : HeldSeg src sid s) (seg : MSeg)
    (hne : seg.sid ≠ sid) (e1 : s'.rdb = s.rdb) (e2 : s'.segs = s.segs ++ [seg]) (e3 : s'.heap = s.heap) :
    HeldSeg src sid s' := by
  refine ⟨fun rd hrd => h.noRdb rd (e1 ▸ hrd), fun hn g hg => ?_⟩
  rw [e2, mFind_append, mFind_cons_ne _ hne] at hn
  have : mFind s.segs sid = none := by
    cases hm : mFind s.segs sid with
    | none => rfl
    | some y => rw [hm] at hn; simp [mFind] at hn
  exact h.heap this g (e3 ▸ hg)

/-- **the leader's input keeps what the reader holds.** Every writer / id operation: the
    segment `sid`, held by a copy loop that has not returned, keeps being what `HeldSeg` says. -/
theorem HeldSeg.step_writer {src : Nat → UInt8} {sid : Nat} {s : Mem} (h : HeldSeg src sid s)
    (hidx : IdxGood src sid s) (hlt : sid < s.nextSid) (href : Referenced sid s) (op : MOp)
    (hop : op.readerOp = false) : HeldSeg src sid (s.step op).1 := by
  cases op with
  | setRunId id => exact h.congr rfl rfl rfl
  | delRunId id =>
    simp only [Mem.step]
    split
    · exact h
    · exact (h.reset hidx).congr rfl rfl rfl
  | newRdbWriter off size =>
    have hr := h.reset hidx
    refine ⟨fun rd hrd g hg => ?_, hr.heap⟩
    simp only [Mem.step] at hrd
    cases hrd
    simp only [List.mem_singleton] at hg
    subst hg
    show s.reset.nextSid ≠ sid
    have : s.reset.nextSid = s.nextSid := rfl
    omega
  | rdbAppend chunk => exact h.keep ((appends_keepFrame s hlt href).2.2 chunk)
  | rdbClose => exact h.keep (finishRdb_keep s false sid)
  | rdbFail => exact h.keep (finishRdb_keep s true sid)
  | newAofWriter off =>
    rw [step_newAofWriter_eq]
    cases hi : s.installWriter off with
    | none => exact h
    | some s1 =>
      have e := (installWriter_spec hi).1
      have h1 : HeldSeg src sid s1 :=
        h.push { sid := s.nextSid, left := off, data := [], closed := false, next := none } (Nat.ne_of_gt hlt)
          (by rw [e]) (by rw [e]) (by rw [e])
      have hn : s1.nextSid = s.nextSid + 1 := by rw [e]
      have hrs : s1.readers = s.readers := by rw [e]
      dsimp only
      cases s.aofW with
      | none => exact h1
      | some old => exact h1.finishAof (by omega) (by rw [Referenced, hrs]; exact href) old false
  | aofAppend chunk => exact h.keep ((appends_keepFrame s hlt href).2.1 chunk)
  | aofClose =>
    simp only [Mem.step]
    split
    · exact h.finishAof hlt href _ true
    · exact h
  | retryAppend => exact h.keep (appends_keepFrame s hlt href).1
  | _ => cases hop

/-- what is known of the segment the stream reader `rid` holds while its copy loop runs -/
def Held (src : Nat → UInt8) (rid : Nat) (s : Mem) : Prop :=
  ∀ r, mFindReader s.readers rid = some r → r.isAof = true → r.released = false → HeldSeg src r.seg s

/-- **`Held` is kept by every operation** from a state satisfying C05's invariants whose held
    history is the source's. -/
theorem Held.step {src : Nat → UInt8} {rid : Nat} {s : Mem} (hfull : FullInv s)
    (hlab : s.hist = segOf src s.hbase s.hist.length) {r : MReader} (hr : mFindReader s.readers rid = some r)
    (h : Held src rid s) (op : MOp) : Held src rid (s.step op).1 := by
  intro r' hr' ha' hrel'
  obtain ⟨r'', bs, hr'', st⟩ := mem_reader_step s op rid hr
  rw [hr'] at hr''; cases hr''
  have ha : r.isAof = true := st.isAof ▸ ha'
  have hrel : r.released = false := st.rel hrel'
  have hs := h r hr ha hrel
  by_cases hop : op.readerOp = true
  · obtain ⟨e1, e2, e3⟩ := step_index_readerOp s op hop
    rcases st.seg ha with hseg | ⟨nx, hnx, hseg⟩
    · rw [hseg]; exact hs.congr e1 e2 e3
    · rw [← hseg]
      refine ⟨fun rd hrd g hg => ?_, fun hn => ?_⟩
      · rw [e1] at hrd
        exact fun e => hfull.2.disj rd hrd nx hnx g hg e.symm
      · rw [e2] at hn
        exact absurd rfl (mFind_none_iff.mp hn nx hnx)
  · have hop' : op.readerOp = false := by simpa using hop
    have : r' = r := by
      rw [step_readers s op hop', hr] at hr'; cases hr'; rfl
    subst this
    have hst := hfull.1.stream
    unfold StreamInv at hst
    have hm := mFindReader_mem hr
    refine hs.step_writer ?_ (hst.readers _ hm ha).1 ⟨_, hm, hrel, rfl⟩ op hop'
    intro g hg
    exact indexed_isSrc hfull.1 hlab (mFind_some hg).1

/-- `Held` gives what the one-step lemma `MemServes.step` asks of non-indexed segments -/
theorem Held.staleOk {src : Nat → UInt8} {rid : Nat} {s : Mem} (h : Held src rid s) : StaleOk src rid s := by
  intro r hr ha hrel hm g hlk
  have hs := h r hr ha hrel
  unfold Mem.lookup at hlk
  rw [hm] at hlk
  dsimp only at hlk
  cases hrd : s.rdb with
  | none =>
    rw [hrd] at hlk
    exact hs.heap hm g hlk
  | some rd =>
    rw [hrd] at hlk
    dsimp only at hlk
    rw [mFind_none_iff.mpr (hs.noRdb rd hrd)] at hlk
    exact hs.heap hm g hlk

/-- a freshly opened stream reader holds an indexed segment -/
theorem Held.open {src : Nat → UInt8} {s : Mem} (hfull : FullInv s) {rid off : Nat}
    (hopen : (s.open rid off).2 = Out.aof off) : Held src rid (s.open rid off).1 := by
  have hst := hfull.1.stream
  unfold StreamInv at hst
  obtain ⟨g, hidx, hf⟩ := open_aof hopen
  obtain ⟨hg, _, _⟩ := mem_indexAof_some hst.contig hidx
  obtain ⟨e1, e2, _⟩ := step_index_readerOp s (.openReader rid off) rfl
  intro r hr _ _
  rw [hf] at hr
  cases hr
  refine ⟨fun rd hrd x hx => ?_, fun hn => ?_⟩
  · rw [show (s.open rid off).1.rdb = s.rdb from e1] at hrd
    exact fun e => hfull.2.disj rd hrd g hg x hx e.symm
  · rw [show (s.open rid off).1.segs = s.segs from e2] at hn
    exact absurd rfl (mFind_none_iff.mp hn g hg)

end GunYu.Store
