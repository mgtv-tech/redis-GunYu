/-
  The split-queue replay system (Model/FrontierTraffic.lean): equations and one case principle for `tstep`;
  the number a fresh start resumes after is the largest one covered (by the visible snapshot or a visible
  journal record) without a gap, so a step that keeps everything covered does not move it backwards; the
  invariant `TInv` says the queued requests keep everything covered. Core only.
-/
import GunYu.Model.FrontierTraffic
import GunYu.Model.FrontierProc
import GunYu.Proofs.FrontierSys
import GunYu.Proofs.FrontierRestart
import GunYu.Proofs.FrontierMax

namespace GunYu.Frontier
open GunYu

theorem tstep_start {W : World} {s : TSys} (hr : s.run = none) : tstep W s .start = tstartRun W s := by
  simp only [tstep, hr]

theorem tstep_commit {W : World} {s : TSys} {r : Run} {i : Int} (mt : Int) (hr : s.run = some r)
    (hq : s.rq = []) (hlt : r.startSeq < i) :
    tstep W s (.commit i mt) =
      { s with ns := applyReq s.ns (.commit (unitRec W i mt)), committed := i :: s.committed } := by
  simp only [tstep, hr, hq, hlt, and_self, if_true]

theorem tstep_report {W : World} {s : TSys} {r : Run} {i : Int} (mt now : Int) (hr : s.run = some r)
    (hq : s.rq = []) (hc : i ∈ s.committed) (hlt : r.startSeq < i) :
    tstep W s (.report i mt now) =
      { s with run := some { r with coord := (coordOnCommitted r.coord (unitRec W i mt) now W.pol).1 },
               cq := s.cq ++ (coordOnCommitted r.coord (unitRec W i mt) now W.pol).2 } := by
  simp only [tstep, hr, hq, hc, hlt, and_self, if_true]

theorem tstep_tick {W : World} {s : TSys} {r : Run} (now : Int) (hr : s.run = some r) (hq : s.rq = []) :
    tstep W s (.tick now) =
      { s with run := some { r with coord := (coordFlush r.coord now).1 },
               cq := s.cq ++ (coordFlush r.coord now).2 } := by
  simp only [tstep, hr, hq, if_true]

theorem tstep_apply_rq {W : World} {s : TSys} {q : Req} {rest : List Req} (hq : s.rq = q :: rest) :
    tstep W s .apply = { s with ns := applyReq s.ns q, rq := rest } := by
  simp only [tstep, hq]

theorem tstep_apply_cq {W : World} {s : TSys} {q : Req} {rest : List Req} (hq : s.rq = []) (hc : s.cq = q :: rest) :
    tstep W s .apply = { s with ns := applyReq s.ns q, cq := rest } := by
  simp only [tstep, hq, hc]

/-- A step does nothing, or it is a crash or one of the six above; and two states with the same run, queues and ghost
    state take the same branch (`t := s`: what a step can do). -/
theorem tstep_cases {W : World} {s t : TSys} (hrun : t.run = s.run) (hrq : t.rq = s.rq) (hcq : t.cq = s.cq)
    (hcom : t.committed = s.committed) {P : Step → TSys → TSys → Prop} (st : Step) (same : P st s t)
    (start : s.run = none → P .start (tstartRun W s) (tstartRun W t))
    (commit : ∀ r i mt, s.run = some r → s.rq = [] → r.startSeq < i →
      P (.commit i mt)
        { s with ns := applyReq s.ns (.commit (unitRec W i mt)), committed := i :: s.committed }
        { t with ns := applyReq t.ns (.commit (unitRec W i mt)), committed := i :: t.committed })
    (report : ∀ r i mt now, s.run = some r → s.rq = [] → i ∈ s.committed → r.startSeq < i →
      P (.report i mt now)
        { s with run := some { r with coord := (coordOnCommitted r.coord (unitRec W i mt) now W.pol).1 },
                 cq := s.cq ++ (coordOnCommitted r.coord (unitRec W i mt) now W.pol).2 }
        { t with run := some { r with coord := (coordOnCommitted r.coord (unitRec W i mt) now W.pol).1 },
                 cq := t.cq ++ (coordOnCommitted r.coord (unitRec W i mt) now W.pol).2 })
    (tick : ∀ r now, s.run = some r → s.rq = [] →
      P (.tick now)
        { s with run := some { r with coord := (coordFlush r.coord now).1 },
                 cq := s.cq ++ (coordFlush r.coord now).2 }
        { t with run := some { r with coord := (coordFlush r.coord now).1 },
                 cq := t.cq ++ (coordFlush r.coord now).2 })
    (applyR : ∀ q rest, s.rq = q :: rest →
      P .apply { s with ns := applyReq s.ns q, rq := rest } { t with ns := applyReq t.ns q, rq := rest })
    (applyC : ∀ q rest, s.rq = [] → s.cq = q :: rest →
      P .apply { s with ns := applyReq s.ns q, cq := rest } { t with ns := applyReq t.ns q, cq := rest })
    (crash : P .crash { s with run := none, rq := [], cq := [] } { t with run := none, rq := [], cq := [] }) :
    P st (tstep W s st) (tstep W t st) := by
  have same' : tstep W s st = s → tstep W t st = t → P st (tstep W s st) (tstep W t st) := by
    intro e₁ e₂; rw [e₁, e₂]; exact same
  cases st with
  | start =>
    cases hr : s.run with
    | none => rw [tstep_start hr, tstep_start (hrun.trans hr)]; exact start hr
    | some r => exact same' (by simp only [tstep, hr]) (by simp only [tstep, hrun.trans hr])
  | commit i mt =>
    cases hr : s.run with
    | none => exact same' (by simp only [tstep, hr]) (by simp only [tstep, hrun.trans hr])
    | some r =>
      by_cases hc : s.rq = [] ∧ r.startSeq < i
      · rw [tstep_commit mt hr hc.1 hc.2, tstep_commit mt (hrun.trans hr) (hrq.trans hc.1) hc.2]
        exact commit r i mt hr hc.1 hc.2
      · exact same' (by simp only [tstep, hr, hc, if_false]) (by simp only [tstep, hrun.trans hr, hrq, hc, if_false])
  | report i mt now =>
    cases hr : s.run with
    | none => exact same' (by simp only [tstep, hr]) (by simp only [tstep, hrun.trans hr])
    | some r =>
      by_cases hc : s.rq = [] ∧ i ∈ s.committed ∧ r.startSeq < i
      · rw [tstep_report mt now hr hc.1 hc.2.1 hc.2.2,
          tstep_report mt now (hrun.trans hr) (hrq.trans hc.1) (hcom ▸ hc.2.1) hc.2.2]
        exact report r i mt now hr hc.1 hc.2.1 hc.2.2
      · exact same' (by simp only [tstep, hr, hc, if_false])
          (by simp only [tstep, hrun.trans hr, hrq, hcom, hc, if_false])
  | tick now =>
    cases hr : s.run with
    | none => exact same' (by simp only [tstep, hr]) (by simp only [tstep, hrun.trans hr])
    | some r =>
      by_cases hc : s.rq = []
      · rw [tstep_tick now hr hc, tstep_tick now (hrun.trans hr) (hrq.trans hc)]
        exact tick r now hr hc
      · exact same' (by simp only [tstep, hr, hc, if_false]) (by simp only [tstep, hrun.trans hr, hrq, hc, if_false])
  | apply =>
    cases hq : s.rq with
    | cons q rest => rw [tstep_apply_rq hq, tstep_apply_rq (hrq.trans hq)]; exact applyR q rest hq
    | nil =>
      cases hc : s.cq with
      | cons q rest =>
        rw [tstep_apply_cq hq hc, tstep_apply_cq (hrq.trans hq) (hcq.trans hc)]; exact applyC q rest hq hc
      | nil => exact same' (by simp only [tstep, hq, hc]) (by simp only [tstep, hrq.trans hq, hcq.trans hc])
  | crash => exact crash

theorem tstep_sim (W : World) (s : TSys) (st : Step) :
    (tstep W s st).toSys = step W s.toSys st ∨ tstep W s st = s := by
  refine tstep_cases (t := s) rfl rfl rfl rfl (P := fun st s' _ => s'.toSys = step W s.toSys st ∨ s' = s) st
    (Or.inr rfl) ?_ ?_ ?_ ?_ ?_ ?_ (Or.inl rfl)
  · intro hr
    left
    simp only [step, TSys.toSys, hr, tstartRun, startRun]
    cases startFrontier W.ver s.ns W.ids with
    | mk p reqs => cases p <;> simp only [hr, List.append_nil]
  · intro r i mt hr hq hlt
    exact Or.inl (by simp only [step, TSys.toSys, hr, hq, hlt, if_true, List.nil_append])
  · intro r i mt now hr hq hc hlt
    exact Or.inl (by simp only [step, TSys.toSys, hr, hq, hc, hlt, and_self, if_true, List.nil_append])
  · intro r now hr hq
    exact Or.inl (by simp only [step, TSys.toSys, hr, hq, List.nil_append])
  · intro q rest hq
    exact Or.inl (by simp only [step, TSys.toSys, hq, List.cons_append])
  · intro q rest hq hc
    exact Or.inl (by simp only [step, TSys.toSys, hq, hc, List.nil_append])

theorem tstep_inv {W : World} {s : TSys} (hi : SysInv W s.toSys) (st : Step) :
    SysInv W (tstep W s st).toSys := by
  rcases tstep_sim W s st with h | h
  · rw [h]; exact step_inv hi st
  · rw [h]; exact hi

/-- sequence number of the visible frontier snapshot (0: none) -/
def snapSeq (ns : NS) (ids : List Bytes) : Int := baseSeq (loadSnapshot ns ids)

/-- a journal record with number `m` is among those a start loads -/
def Vis (ns : NS) (ids : List Bytes) (m : Int) : Prop := ∃ j ∈ startRecords ns ids, j.r.seq = m

/-- number `m` is covered: by the snapshot or by a visible journal record -/
def Cov (ns : NS) (ids : List Bytes) (m : Int) : Prop := m ≤ snapSeq ns ids ∨ Vis ns ids m

theorem minSeqFor_eq (ns : NS) (ids : List Bytes) (h0 : 0 ≤ snapSeq ns ids) :
    minSeqFor (loadSnapshot ns ids) = snapSeq ns ids + 1 := by
  unfold minSeqFor snapSeq baseSeq at *
  cases h : loadSnapshot ns ids with
  | none => rfl
  | some f =>
    rw [h] at h0; simp only at h0 ⊢
    split
    · rfl
    · omega

/-- what a namespace must satisfy for the characterisation: the numbering is monotone, stored
    offsets follow it, the visible snapshot is at a number ≥ 0 -/
structure NsOk (W : World) (ns : NS) : Prop where
  cons : Consistent W ns
  snap0 : 0 ≤ snapSeq ns W.ids

theorem cov_of_le_startSeq (ver : Bytes) (ns : NS) (ids : List Bytes) (m : Int) (h0 : 0 < m)
    (hm : m ≤ startSeqOf ver ns ids) : Cov ns ids m := by
  unfold startSeqOf at hm
  rcases startFrontier_cases ver ns ids with ⟨_, hst⟩ | ⟨root, reqs, _, hst, _⟩ | ⟨root, f, _, hrb, _, _, hst⟩
  · rw [hst] at hm; simp only at hm; omega
  · rw [hst] at hm; simp only [rootPoint] at hm; omega
  · rw [hst] at hm; simp only at hm
    obtain ⟨_, hb2, _, _⟩ := rebuild_spec ver _ _ f hrb
    by_cases hle : m ≤ snapSeq ns ids
    · exact Or.inl hle
    · right
      obtain ⟨r, hr, hs, _⟩ := hb2 m (by unfold snapSeq at hle; omega) hm
      obtain ⟨j, hj, rfl⟩ := List.mem_map.mp hr
      exact ⟨j, hj, hs⟩

theorem not_cov_succ_startSeq {W : World} {ns : NS} (hk : NsOk W ns) {root0 : Bytes × Int × Nat}
    (hr : ns.root = some root0) :
    ¬ Cov ns W.ids (startSeqOf W.ver ns W.ids + 1) := by
  -- a frontier rebuilt in a consistent namespace is not behind the root checkpoint
  have hnew : ∀ root f, ns.root = some root →
      rebuild W.ver (loadSnapshot ns W.ids) ((startRecords ns W.ids).map (·.r)) = .ok (some f) → f.seq > 0 →
      rootNewer root f.offset W.ids = false := by
    intro root f hroot hrb hpos
    obtain ⟨hfe, _⟩ := selected_consistent hk.cons f hrb hpos
    exact rootNewer_of_le W.ids (by rw [hk.cons.root root hroot, hfe]; exact hk.cons.mono 0 f.seq (by omega))
  unfold startSeqOf
  rcases startFrontier_cases W.ver ns W.ids with ⟨hn, _⟩ | ⟨root, reqs, hroot, hst, _, hfb⟩ |
      ⟨root, f, hroot, hrb, hpos, _, hst⟩
  · exact nomatch hr.symm.trans hn
  · -- the root: the rebuild gave nothing above sequence 0
    rw [hst]
    intro hc
    have hz : ∀ f, rebuild W.ver (loadSnapshot ns W.ids) ((startRecords ns W.ids).map (·.r)) = .ok (some f) →
        f.seq ≤ 0 := by
      intro f hrb
      refine Int.not_lt.mp fun hpos => ?_
      have := hfb f hrb hpos
      rw [hnew root f hroot hrb hpos] at this
      cases this
    obtain ⟨hb, hno⟩ := rebuild_zero W.ver _ _ hk.snap0 hz
    rcases hc with hc | ⟨j, hj, hs⟩
    · unfold snapSeq at hc; simp only [rootPoint] at hc; omega
    · exact hno j.r (List.mem_map.mpr ⟨j, hj, rfl⟩) (by simp only [rootPoint] at hs; omega)
  · rw [hst]
    intro hc
    obtain ⟨hb1, _, _, _⟩ := rebuild_spec W.ver _ _ f hrb
    rcases hc with hc | ⟨j, hj, hs⟩
    · unfold snapSeq at hc; dsimp only at hc; omega
    · have := rebuild_maximal W.ver _ _ f hrb j.r (List.mem_map.mpr ⟨j, hj, rfl⟩) hs
      omega

theorem startSeqOf_nonneg (ver : Bytes) (ns : NS) (ids : List Bytes) : 0 ≤ startSeqOf ver ns ids := by
  unfold startSeqOf
  rcases startFrontier_cases ver ns ids with ⟨_, hst⟩ | ⟨root, reqs, _, hst, _⟩ | ⟨root, f, _, _, hpos, _, hst⟩
  · rw [hst]; simp
  · rw [hst]; simp [rootPoint]
  · rw [hst]; simp only; omega

theorem startSeq_mono {W : World} {ns ns' : NS} (hk' : NsOk W ns') {root' : Bytes × Int × Nat}
    (hr' : ns'.root = some root')
    (hcov : ∀ m, 0 < m → m ≤ startSeqOf W.ver ns W.ids → Cov ns' W.ids m) :
    startSeqOf W.ver ns W.ids ≤ startSeqOf W.ver ns' W.ids := by
  by_cases h : startSeqOf W.ver ns W.ids ≤ startSeqOf W.ver ns' W.ids
  · exact h
  · exfalso
    have h0 := startSeqOf_nonneg W.ver ns' W.ids
    exact not_cov_succ_startSeq hk' hr' (hcov _ (by omega) (by omega))

theorem startOff_eq {W : World} {ns : NS} (hc : Consistent W ns) {root : Bytes × Int × Nat}
    (hr : ns.root = some root) : startOffOf W.ver ns W.ids = W.e (startSeqOf W.ver ns W.ids) := by
  obtain ⟨db, rid, seq, h, _⟩ := start_point_of_consistent hc root hr
  simp only [startOffOf, startSeqOf, h]

/-- journal keys carry their record's number; index members are scored with their key's number -/
structure Keyed (ns : NS) : Prop where
  jr : ∀ j ∈ ns.journal, j.r.seq = j.kseq
  ix : ∀ p ∈ ns.index, p.1 = p.2

theorem vis_elim {ns : NS} {ids : List Bytes} {m : Int} (h : Vis ns ids m) :
    ∃ p j, p ∈ ns.index ∧ p.1 ≥ minSeqFor (loadSnapshot ns ids) ∧
      ns.journal.find? (fun x => x.kseq = p.2) = some j ∧ matchRun j.r.runId ids = true ∧
      j.kseq = p.2 ∧ j ∈ ns.journal ∧ j.r.seq = m := by
  obtain ⟨j, hj, hs⟩ := h
  unfold startRecords at hj
  obtain ⟨p, hp, hge, hf, hm⟩ := (mem_loadRecords_iff ns ids _ j).mp hj
  refine ⟨p, j, hp, hge, hf, hm, ?_, List.mem_of_find?_eq_some hf, hs⟩
  simpa using List.find?_some hf

theorem vis_intro {ns : NS} {ids : List Bytes} {m : Int} (p : Int × Int) (j : JRec) (hp : p ∈ ns.index)
    (hge : p.1 ≥ minSeqFor (loadSnapshot ns ids))
    (hf : ns.journal.find? (fun x => x.kseq = p.2) = some j) (hm : matchRun j.r.runId ids = true)
    (hs : j.r.seq = m) : Vis ns ids m :=
  ⟨j, (mem_loadRecords_iff ns ids _ j).mpr ⟨p, hp, hge, hf, hm⟩, hs⟩

/-- What stays covered: the visible snapshot does not go down, and every index member above it keeps its place and
    a readable record with the same number under its key. -/
theorem cov_keep {ns ns' : NS} {ids : List Bytes} (hk : Keyed ns) (h0 : 0 ≤ snapSeq ns ids)
    (hss : snapSeq ns ids ≤ snapSeq ns' ids)
    (hkeep : ∀ p j, p ∈ ns.index → snapSeq ns' ids < p.2 → j ∈ ns.journal →
      ns.journal.find? (fun x => x.kseq = p.2) = some j → matchRun j.r.runId ids = true →
      p ∈ ns'.index ∧ ∃ j', ns'.journal.find? (fun x => x.kseq = p.2) = some j' ∧
        matchRun j'.r.runId ids = true ∧ j'.r.seq = j.r.seq)
    (m : Int) (h : Cov ns ids m) : Cov ns' ids m := by
  by_cases hle : m ≤ snapSeq ns' ids
  · exact Or.inl hle
  · rcases h with h | h
    · exact absurd (Int.le_trans h hss) hle
    · obtain ⟨p, j, hp, _, hf, hm, hjk, hjm, hs⟩ := vis_elim h
      have hpm : p.2 = m := by rw [← hjk, ← hk.jr j hjm, hs]
      obtain ⟨hp', j', hf', hm', hs'⟩ := hkeep p j hp (by omega) hjm hf hm
      refine Or.inr (vis_intro p j' hp' ?_ hf' hm' (hs'.trans hs))
      rw [minSeqFor_eq ns' ids (by omega), hk.ix p hp, hpm]
      show snapSeq ns' ids + 1 ≤ m
      omega

theorem cov_commit {ns : NS} {ids : List Bytes} (hk : Keyed ns) (h0 : 0 ≤ snapSeq ns ids) (r : Rec)
    (hr : matchRun r.runId ids = true) (m : Int) (h : Cov ns ids m) :
    Cov (applyReq ns (.commit r)) ids m := by
  refine cov_keep (ns' := applyReq ns (.commit r)) hk h0 (Int.le_refl _) (fun p j hp _ hjm hf hm => ?_) m h
  show p ∈ ns.index.filter (fun p => decide (p.2 ≠ r.seq)) ++ [(r.seq, r.seq)] ∧
    ∃ j', (ns.journal.filter (fun j => decide (j.kseq ≠ r.seq)) ++ [(⟨r.seq, r⟩ : JRec)]).find?
      (fun x => decide (x.kseq = p.2)) = some j' ∧ _
  rw [List.find?_append]
  by_cases hpi : p.2 = r.seq
  · -- the record with this key is replaced by the new one
    have hnone : (ns.journal.filter (fun j => decide (j.kseq ≠ r.seq))).find? (fun x => decide (x.kseq = p.2)) = none := by
      apply List.find?_eq_none.mpr
      intro x hx
      have := (List.mem_filter.mp hx).2
      rw [hpi]; simpa using this
    have hjk : j.kseq = p.2 := by simpa using List.find?_some hf
    refine ⟨List.mem_append_right _ (List.mem_singleton.mpr (Prod.ext ((hk.ix p hp).trans hpi) hpi)), ⟨r.seq, r⟩, ?_, hr,
      by rw [hk.jr j hjm, hjk, hpi]⟩
    rw [hnone, hpi]; simp
  · have hsome : (ns.journal.filter (fun j => decide (j.kseq ≠ r.seq))).find? (fun x => decide (x.kseq = p.2)) = some j := by
      rw [find?_filter_of_imp]
      · exact hf
      · intro x hx
        simp only [decide_eq_true_eq] at hx ⊢
        rw [hx]; exact hpi
    refine ⟨List.mem_append_left _ (List.mem_filter.mpr ⟨hp, by simpa using hpi⟩), j, ?_, hm, rfl⟩
    rw [hsome]; rfl

theorem cov_shrink {ns : NS} {ids : List Bytes} {q : Req} (hq : (∃ k, q = Req.delRec k) ∨ (∃ ks, q = Req.zrem ks))
    (m : Int) (h : Cov (applyReq ns q) ids m) : Cov ns ids m := by
  rcases h with h | h
  · rcases hq with ⟨k, rfl⟩ | ⟨ks, rfl⟩ <;> exact Or.inl h
  · right
    obtain ⟨p, j, hp, hge, hf, hm, hjk, hjm, hs⟩ := vis_elim h
    rcases hq with ⟨k, rfl⟩ | ⟨ks, rfl⟩
    · -- the record found in the filtered journal is found in the whole one
      simp only [applyReq] at hf hjm
      refine vis_intro (ns := ns) p j hp hge ?_ hm hs
      have hjne : j.kseq ≠ k := by simpa using (List.mem_filter.mp hjm).2
      rw [find?_filter_of_imp] at hf
      · exact hf
      · intro x hx
        simp only [decide_eq_true_eq] at hx ⊢
        rw [hx, ← hjk]; exact hjne
    · simp only [applyReq] at hp
      exact vis_intro (ns := ns) p j (List.mem_filter.mp hp).1 hge hf hm hs

/-- a queue of coordinator / clean-up requests is safe w.r.t. bound `b` (the number of the visible
    snapshot): every save is visible and not below the bound in force, every delete names numbers
    the bound in force covers; a save raises the bound for what follows -/
def QSafe (ids : List Bytes) : Int → List Req → Prop
  | _, [] => True
  | b, .saveFrontier f :: rest => matchRun f.runId ids = true ∧ b ≤ f.seq ∧ QSafe ids f.seq rest
  | b, .delRec k :: rest => k ≤ b ∧ QSafe ids b rest
  | b, .zrem ks :: rest => (∀ k ∈ ks, k ≤ b) ∧ QSafe ids b rest
  | _, _ :: _ => False

/-- the bound in force after the queue -/
def lastBound : Int → List Req → Int
  | b, [] => b
  | _, .saveFrontier f :: rest => lastBound f.seq rest
  | b, _ :: rest => lastBound b rest

theorem QSafe_append (ids : List Bytes) (q q' : List Req) :
    ∀ b, QSafe ids b q → QSafe ids (lastBound b q) q' → QSafe ids b (q ++ q') := by
  induction q with
  | nil => intro b _ h; exact h
  | cons x q ih =>
    intro b h h'
    cases x with
    | saveFrontier f => exact ⟨h.1, h.2.1, ih _ h.2.2 h'⟩
    | delRec k => exact ⟨h.1, ih _ h.2 h'⟩
    | zrem ks => exact ⟨h.1, ih _ h.2 h'⟩
    | delFrontier => exact h.elim
    | commit r => exact h.elim
    | commitLatest r => exact h.elim

theorem lastBound_append (q q' : List Req) : ∀ b, lastBound b (q ++ q') = lastBound (lastBound b q) q' := by
  induction q with
  | nil => intro b; rfl
  | cons x q ih => intro b; cases x <;> simp only [List.cons_append, lastBound, ih]

theorem QSafe_dels (ids : List Bytes) (b : Int) (keys : List Int) (h : ∀ k ∈ keys, k ≤ b) :
    QSafe ids b (keys.map Req.delRec ++ [Req.zrem keys]) ∧
    lastBound b (keys.map Req.delRec ++ [Req.zrem keys]) = b := by
  have aux : ∀ (l : List Int), (∀ k ∈ l, k ≤ b) →
      QSafe ids b (l.map Req.delRec ++ [Req.zrem keys]) ∧ lastBound b (l.map Req.delRec ++ [Req.zrem keys]) = b := by
    intro l
    induction l with
    | nil => intro _; exact ⟨⟨h, trivial⟩, rfl⟩
    | cons k l ih =>
      intro hl
      obtain ⟨a, c⟩ := ih (fun k' hk' => hl k' (List.mem_cons_of_mem _ hk'))
      exact ⟨⟨hl k (List.mem_cons_self ..), a⟩, c⟩
  exact aux keys h

/-- a purge still to be applied: deletes, then the snapshot -/
def PurgeQ (q : List Req) : Prop :=
  ∃ dels, q = dels ++ [Req.delFrontier] ∧ ∀ x ∈ dels, (∃ k, x = Req.delRec k) ∨ (∃ ks, x = Req.zrem ks)

theorem purgeReqs_purgeQ (ns : NS) (ids : List Bytes) : PurgeQ (purgeReqs ns ids) := by
  unfold purgeReqs
  refine ⟨_, rfl, ?_⟩
  intro x hx
  rcases List.mem_append.mp hx with hx | hx
  · obtain ⟨k, _, rfl⟩ := List.mem_map.mp hx; exact Or.inl ⟨k, rfl⟩
  · split at hx
    · simp at hx
    · have := List.mem_singleton.mp hx; exact Or.inr ⟨_, this⟩

theorem purgeQ_cons {q : Req} {rest : List Req} (h : PurgeQ (q :: rest)) :
    (q = Req.delFrontier ∧ rest = []) ∨
    (PurgeQ rest ∧ ((∃ k, q = Req.delRec k) ∨ (∃ ks, q = Req.zrem ks))) := by
  obtain ⟨dels, hd, hdels⟩ := h
  cases dels with
  | nil => exact Or.inl (List.cons.inj hd)
  | cons d dels' =>
    obtain ⟨rfl, hrest⟩ := List.cons.inj hd
    exact Or.inr ⟨⟨dels', hrest, fun x hx => hdels x (List.mem_cons_of_mem _ hx)⟩, hdels q List.mem_cons_self⟩

theorem purgeQ_tail {q : Req} {rest : List Req} (h : PurgeQ (q :: rest)) (hne : rest ≠ []) :
    PurgeQ rest ∧ ((∃ k, q = Req.delRec k) ∨ (∃ ks, q = Req.zrem ks)) :=
  (purgeQ_cons h).resolve_left (fun h' => hne h'.2)

theorem purgeQ_ne_nil {q : List Req} (h : PurgeQ q) : q ≠ [] := by
  obtain ⟨dels, rfl, _⟩ := h
  exact List.append_ne_nil_of_right_ne_nil _ (List.cons_ne_nil _ _)

theorem coordAdvance_bound (rid : Bytes) :
    ∀ (fuel : Nat) (c : Coord),
      c.frontier.seq ≤ (coordAdvance fuel c).1.frontier.seq ∧
      (∀ a ∈ (coordAdvance fuel c).2, a.seq ≤ (coordAdvance fuel c).1.frontier.seq) ∧
      (coordAdvance fuel c).1.advanced = c.advanced ∧
      (∀ p ∈ (coordAdvance fuel c).1.pending, p ∈ c.pending) ∧
      ((coordAdvance fuel c).2 = [] → (coordAdvance fuel c).1.frontier = c.frontier) ∧
      ((∀ p ∈ c.pending, p.runId = rid) → (coordAdvance fuel c).2 ≠ [] →
        (coordAdvance fuel c).1.frontier.runId = rid) := by
  intro fuel
  induction fuel with
  | zero => intro c; simp [coordAdvance]
  | succ fuel ih =>
    intro c
    unfold coordAdvance
    cases hg : pendingGet c.pending (c.frontier.seq + 1) with
    | none => simp
    | some r =>
      simp only
      obtain ⟨hmem, hseq⟩ := pendingGet_some hg
      obtain ⟨h1, h2, h3, h4, h5, h6⟩ := ih
        { c with pending := c.pending.filter (fun x => x.seq ≠ r.seq),
                 frontier := { c.frontier with runId := r.runId, seq := r.seq, offset := r.endOff, mtime := r.mtime } }
      simp only at h1 h2 h3 h4 h5 h6
      refine ⟨by omega, ?_, h3, ?_, by simp, ?_⟩
      · intro a ha
        rcases List.mem_cons.mp ha with rfl | ha
        · exact h1
        · exact h2 a ha
      · intro p hp; exact (List.mem_filter.mp (h4 p hp)).1
      · intro hall _
        by_cases hadv : (coordAdvance fuel
            { c with pending := c.pending.filter (fun x => x.seq ≠ r.seq),
                     frontier := { c.frontier with runId := r.runId, seq := r.seq, offset := r.endOff, mtime := r.mtime } }).2 = []
        · rw [h5 hadv]; exact hall r hmem
        · exact h6 (fun p hp => hall p (List.mem_filter.mp hp).1) hadv

/-- what the coordinator must satisfy w.r.t. the bound `B` in force at the end of the queues -/
structure CoordOk (W : World) (c : Coord) (B : Int) : Prop where
  cb : B ≤ c.frontier.seq
  adv : ∀ a ∈ c.advanced, a.seq ≤ c.frontier.seq
  vis : c.advanced ≠ [] → matchRun c.frontier.runId W.ids = true
  pend : ∀ p ∈ c.pending, p.runId = W.rid

theorem coordFlush_q {W : World} (c : Coord) (now : Int) (B : Int) (h : CoordOk W c B) :
    QSafe W.ids B (coordFlush c now).2 ∧
    CoordOk W (coordFlush c now).1 (lastBound B (coordFlush c now).2) := by
  unfold coordFlush
  by_cases he : c.advanced.isEmpty = true
  · rw [if_pos he]; exact ⟨trivial, h⟩
  · rw [if_neg he]
    have hne : c.advanced ≠ [] := by intro h'; rw [h'] at he; exact he rfl
    have hk : ∀ k ∈ c.advanced.map (·.seq), k ≤ c.frontier.seq := by
      intro k hk
      obtain ⟨a, ha, rfl⟩ := List.mem_map.mp hk
      exact h.adv a ha
    obtain ⟨hq, hl⟩ := QSafe_dels W.ids c.frontier.seq (c.advanced.map (·.seq)) hk
    refine ⟨⟨h.vis hne, h.cb, hq⟩, ?_⟩
    simp only [lastBound]
    rw [hl]
    exact ⟨Int.le_refl _, by simp, by simp, h.pend⟩

theorem coordOnCommitted_q {W : World} (hvis : matchRun W.rid W.ids = true) (c : Coord) (r : Rec) (now : Int)
    (B : Int) (h : CoordOk W c B) (hr : r.runId = W.rid) :
    QSafe W.ids B (coordOnCommitted c r now W.pol).2 ∧
    CoordOk W (coordOnCommitted c r now W.pol).1 (lastBound B (coordOnCommitted c r now W.pol).2) := by
  refine coordOnCommitted_cases (P := fun x => QSafe W.ids B x.2 ∧ CoordOk W x.1 (lastBound B x.2)) c r now W.pol ?_
  intro c₁ c₂ adv hc₁ hadv
  obtain ⟨h1, h2, h3, h4, h5, h6⟩ := coordAdvance_bound W.rid c₁.pending.length c₁
  rw [hadv] at h1 h2 h3 h4 h5 h6
  have hpend₁ : ∀ p ∈ c₁.pending, p.runId = W.rid := by
    rw [hc₁]
    intro p hp
    rcases List.mem_append.mp hp with hp | hp
    · exact h.pend p (List.mem_filter.mp hp).1
    · rw [List.mem_singleton.mp hp]; exact hr
  have hpend₂ : ∀ p ∈ c₂.pending, p.runId = W.rid := fun p hp => hpend₁ p (h4 p hp)
  have hf₁ : c₁.frontier = c.frontier := by rw [hc₁]
  have ha₁ : c₁.advanced = c.advanced := by rw [hc₁]
  dsimp only at h1 h2 h3 h5 h6
  rw [hf₁] at h1 h5
  rw [ha₁] at h3
  refine ⟨fun hnil => ⟨trivial, ?_⟩, fun hne => ?_⟩
  · have hf := h5 hnil
    exact ⟨by rw [hf]; exact h.cb, by rw [h3, hf]; exact h.adv, by rw [h3, hf]; exact h.vis, hpend₂⟩
  · have hok : CoordOk W { c₂ with advanced := c₂.advanced ++ adv } B := by
      refine ⟨Int.le_trans h.cb h1, fun a ha => ?_, fun _ => by rw [h6 hpend₁ hne]; exact hvis, hpend₂⟩
      rcases List.mem_append.mp ha with ha | ha
      · rw [h3] at ha; exact Int.le_trans (h.adv a ha) h1
      · exact h2 a ha
    exact ⟨coordFlush_q _ now B hok, trivial, hok⟩

/-- what a start on a target with a root checkpoint leaves: the namespace untouched, a run from the root with
    sequence 0 behind a purge (or nothing stored to purge), or a run from the rebuilt frontier `f` behind its
    clean-up -/
theorem tstartRun_fields (W : World) (s : TSys) {root : Bytes × Int × Nat} (hroot : s.ns.root = some root) :
    ∃ rid off seq, (tstartRun W s).ns = s.ns ∧ (tstartRun W s).committed = s.committed ∧
      (tstartRun W s).run = some (mkRun W.ver rid off seq) ∧ (tstartRun W s).cq = [] ∧
      startSeqOf W.ver s.ns W.ids = seq ∧
      ((seq = 0 ∧ rid = root.1 ∧ off = root.2.1 ∧
          (PurgeQ (tstartRun W s).rq ∨ ((tstartRun W s).rq = [] ∧ loadSnapshot s.ns W.ids = none))) ∨
       (∃ f, rebuild W.ver (loadSnapshot s.ns W.ids) ((startRecords s.ns W.ids).map (·.r)) = .ok (some f) ∧
          f.seq > 0 ∧ seq = f.seq ∧ off = f.offset ∧
          (tstartRun W s).rq = recoveryReqs (startRecords s.ns W.ids) f)) := by
  unfold tstartRun startSeqOf
  rcases startFrontier_cases W.ver s.ns W.ids with ⟨hn, _⟩ | ⟨root', reqs, hroot', hst, hp, _⟩ |
      ⟨_, f, _, hrb, hpos, _, hst⟩
  · exact nomatch hroot.symm.trans hn
  · cases hroot.symm.trans hroot'
    rw [hst]
    refine ⟨_, _, _, rfl, rfl, rfl, rfl, rfl, Or.inl ⟨rfl, rfl, rfl, ?_⟩⟩
    rcases hp with rfl | hp
    · exact Or.inl (purgeReqs_purgeQ s.ns W.ids)
    · exact Or.inr hp
  · rw [hst]
    exact ⟨_, _, _, rfl, rfl, rfl, rfl, rfl, Or.inr ⟨f, hrb, hpos, rfl, rfl, rfl⟩⟩

/-- the coordinator / recovery phase of a running process -/
def Phase (W : World) (s : TSys) (r : Run) : Prop :=
  (PurgeQ s.rq ∧ s.cq = [] ∧ startSeqOf W.ver s.ns W.ids = 0 ∧ r.coord.frontier.seq = 0 ∧
     r.coord.advanced = [] ∧ r.coord.pending = []) ∨
  (QSafe W.ids (snapSeq s.ns W.ids) (s.rq ++ s.cq) ∧
     CoordOk W r.coord (lastBound (snapSeq s.ns W.ids) (s.rq ++ s.cq)))

structure TInv (W : World) (s : TSys) : Prop where
  hi : SysInv W s.toSys
  ix : ∀ p ∈ s.ns.index, p.1 = p.2
  root : ∃ root, s.ns.root = some root
  idle : s.run = none → s.rq = [] ∧ s.cq = []
  phase : ∀ r, s.run = some r → Phase W s r

theorem consistent_of_sysInv {W : World} {s : Sys} (hm : ∀ i j, i ≤ j → W.e i ≤ W.e j) (hi : SysInv W s) :
    Consistent W s.ns :=
  ⟨hm, fun j hj => (hi.jr j hj).2.1, fun f hf => (hi.fr f hf).2.1, hi.root⟩

theorem snap0_of_sysInv {W : World} {s : Sys} (hi : SysInv W s) : 0 ≤ snapSeq s.ns W.ids := by
  unfold snapSeq baseSeq
  cases h : loadSnapshot s.ns W.ids with
  | none => simp
  | some f => exact (hi.fr f (loadSnapshot_some h)).1

theorem nsOk_of_sysInv {W : World} {s : Sys} (hm : ∀ i j, i ≤ j → W.e i ≤ W.e j) (hi : SysInv W s) :
    NsOk W s.ns := ⟨consistent_of_sysInv hm hi, snap0_of_sysInv hi⟩

theorem TInv.start_prefix {W : World} (hm : ∀ i j, i ≤ j → W.e i ≤ W.e j) {s : TSys} (h : TInv W s) :
    startOffOf W.ver s.ns W.ids = W.e (startSeqOf W.ver s.ns W.ids) ∧
    ∀ j, 0 < j → j ≤ startSeqOf W.ver s.ns W.ids → j ∈ s.committed := by
  obtain ⟨root, hroot⟩ := h.root
  refine ⟨startOff_eq (consistent_of_sysInv hm h.hi) hroot, fun j hj0 hj => ?_⟩
  cases hst : startFrontier W.ver s.ns W.ids with
  | mk st reqs =>
    cases st with
    | empty => simp only [startSeqOf, hst] at hj; omega
    | point db rid off seq =>
      simp only [startSeqOf, hst] at hj
      exact (start_sound h.hi db rid off seq reqs hst).1.2.2 j hj0 hj

theorem TInv.keyed {W : World} {s : TSys} (h : TInv W s) : Keyed s.ns :=
  ⟨fun j hj => (h.hi.jr j hj).1, h.ix⟩

theorem apply_safe {W : World} {ns : NS} (hk : Keyed ns) (h0 : 0 ≤ snapSeq ns W.ids) (q : Req)
    (rest : List Req) (c : Coord) (hq : QSafe W.ids (snapSeq ns W.ids) (q :: rest))
    (hc : CoordOk W c (lastBound (snapSeq ns W.ids) (q :: rest))) :
    QSafe W.ids (snapSeq (applyReq ns q) W.ids) rest ∧
    CoordOk W c (lastBound (snapSeq (applyReq ns q) W.ids) rest) ∧
    (∀ m, Cov ns W.ids m → Cov (applyReq ns q) W.ids m) ∧
    (∀ p ∈ (applyReq ns q).index, p.1 = p.2) := by
  cases q with
  | saveFrontier f =>
    obtain ⟨hv, hge, hr⟩ := hq
    have hss : snapSeq (applyReq ns (.saveFrontier f)) W.ids = f.seq := by
      unfold snapSeq; rw [loadSnapshot_eq_some.mpr (⟨rfl, hv⟩ : (applyReq ns (.saveFrontier f)).frontier = some f ∧ _)]; rfl
    rw [hss]
    exact ⟨hr, hc, cov_keep (ns' := applyReq ns (.saveFrontier f)) hk h0 (by rw [hss]; exact hge)
      (fun p j hp _ _ hf hm => ⟨hp, j, hf, hm, rfl⟩), hk.ix⟩
  | delRec k =>
    obtain ⟨hle, hr⟩ := hq
    have hss : snapSeq (applyReq ns (.delRec k)) W.ids = snapSeq ns W.ids := rfl
    rw [hss]
    refine ⟨hr, hc, cov_keep (ns' := applyReq ns (.delRec k)) hk h0 (Int.le_refl _)
      (fun p j hp hlt _ hf hm => ⟨hp, j, ?_, hm, rfl⟩), hk.ix⟩
    show (ns.journal.filter (fun j => decide (j.kseq ≠ k))).find? (fun x => decide (x.kseq = p.2)) = some j
    rw [find?_filter_of_imp]
    · exact hf
    · intro x hx
      simp only [decide_eq_true_eq] at hx ⊢
      rw [hx]
      exact fun e => absurd (e ▸ hlt) (Int.not_lt.mpr hle)
  | zrem ks =>
    obtain ⟨hle, hr⟩ := hq
    have hss : snapSeq (applyReq ns (.zrem ks)) W.ids = snapSeq ns W.ids := rfl
    rw [hss]
    refine ⟨hr, hc, cov_keep (ns' := applyReq ns (.zrem ks)) hk h0 (Int.le_refl _) (fun p j hp hlt _ hf hm =>
      ⟨List.mem_filter.mpr ⟨hp, by simpa using fun hmem => absurd hlt (Int.not_lt.mpr (hle p.2 hmem))⟩, j, hf, hm, rfl⟩), ?_⟩
    intro p hp
    simp only [applyReq] at hp
    exact hk.ix p (List.mem_filter.mp hp).1
  | delFrontier => exact hq.elim
  | commit r => exact hq.elim
  | commitLatest r => exact hq.elim

theorem recoveryReqs_safe {W : World} {s : Sys} (hm : ∀ i j, i ≤ j → W.e i ≤ W.e j) (hi : SysInv W s) (f : Snap)
    (hrb : rebuild W.ver (loadSnapshot s.ns W.ids) ((startRecords s.ns W.ids).map (·.r)) = .ok (some f))
    (hpos : f.seq > 0) :
    QSafe W.ids (snapSeq s.ns W.ids) (recoveryReqs (startRecords s.ns W.ids) f) ∧
    lastBound (snapSeq s.ns W.ids) (recoveryReqs (startRecords s.ns W.ids) f) ≤ f.seq := by
  obtain ⟨hb1, _, _, _⟩ := rebuild_spec W.ver _ _ f hrb
  obtain ⟨_, hv⟩ := selected_consistent (consistent_of_sysInv hm hi) f hrb hpos
  unfold recoveryReqs
  split
  · exact ⟨trivial, hb1⟩
  · have hk : ∀ k ∈ cleanupKeys (startRecords s.ns W.ids) f.seq, k ≤ f.seq := by
      intro k hk
      unfold cleanupKeys at hk
      rw [List.mem_eraseDups] at hk
      obtain ⟨j, hj, rfl⟩ := List.mem_map.mp hk
      obtain ⟨hjm, hc⟩ := List.mem_filter.mp hj
      have := (hi.jr j (mem_loadRecords hjm)).1
      simp only [decide_eq_true_eq] at hc
      omega
    obtain ⟨hq, hl⟩ := QSafe_dels W.ids f.seq _ hk
    refine ⟨⟨hv, hb1, hq⟩, ?_⟩
    simp only [lastBound]; rw [hl]; exact Int.le_refl _

theorem phase_fresh {W : World} {s : TSys} {r : Run} (hcq : s.cq = [])
    (hq : QSafe W.ids (snapSeq s.ns W.ids) s.rq)
    (hb : lastBound (snapSeq s.ns W.ids) s.rq ≤ r.coord.frontier.seq)
    (ha : r.coord.advanced = []) (hp : r.coord.pending = []) : Phase W s r := by
  refine Or.inr ?_
  rw [hcq, List.append_nil]
  exact ⟨hq, hb, by rw [ha]; exact (fun _ h => nomatch h), by rw [ha]; exact (fun h => absurd rfl h),
    by rw [hp]; exact (fun _ h => nomatch h)⟩

theorem TInv.running {W : World} {s : TSys} (h : TInv W s) (hne : s.rq ≠ [] ∨ s.cq ≠ []) :
    ∃ r, s.run = some r := by
  cases hr : s.run with
  | some r => exact ⟨r, rfl⟩
  | none => exact absurd (h.idle hr) (fun hh => hne.elim (fun a => a hh.1) (fun b => b hh.2))

theorem Phase.safe {W : World} {s : TSys} {r : Run} (h : Phase W s r) (hq : s.rq = []) :
    QSafe W.ids (snapSeq s.ns W.ids) (s.rq ++ s.cq) ∧
    CoordOk W r.coord (lastBound (snapSeq s.ns W.ids) (s.rq ++ s.cq)) := by
  rcases h with ⟨hp, _⟩ | h
  · exact absurd hq (purgeQ_ne_nil hp)
  · exact h

theorem Phase.append {W : World} {s : TSys} {r : Run} (h : Phase W s r) (hq : s.rq = []) {c' : Coord}
    {out : List Req} (hout : ∀ B, CoordOk W r.coord B → QSafe W.ids B out ∧ CoordOk W c' (lastBound B out)) :
    QSafe W.ids (snapSeq s.ns W.ids) (s.rq ++ (s.cq ++ out)) ∧
    CoordOk W c' (lastBound (snapSeq s.ns W.ids) (s.rq ++ (s.cq ++ out))) := by
  obtain ⟨hqs, hco⟩ := h.safe hq
  rw [hq, List.nil_append] at hqs hco ⊢
  obtain ⟨h1, h2⟩ := hout _ hco
  exact ⟨QSafe_append W.ids _ _ _ hqs h1, by rw [lastBound_append]; exact h2⟩

theorem tstep_tinv {W : World} (hm : ∀ i j, i ≤ j → W.e i ≤ W.e j) (hvis : matchRun W.rid W.ids = true)
    {s : TSys} (h : TInv W s) (st : Step) :
    TInv W (tstep W s st) ∧
      startSeqOf W.ver s.ns W.ids ≤ startSeqOf W.ver (tstep W s st).ns W.ids := by
  obtain ⟨root, hroot⟩ := h.root
  have h0 := snap0_of_sysInv h.hi
  have hroot' : ∀ q, ∃ root, (applyReq s.ns q).root = some root :=
    fun q => ⟨root, by rw [applyReq_root]; exact hroot⟩
  -- a step that applies a request keeping everything covered does not move the start backwards
  have hgrow : ∀ (s' : TSys) (q : Req), SysInv W s'.toSys → s'.ns = applyReq s.ns q →
      (∀ m, Cov s.ns W.ids m → Cov (applyReq s.ns q) W.ids m) →
      startSeqOf W.ver s.ns W.ids ≤ startSeqOf W.ver s'.ns W.ids := by
    intro s' q hi' e hc
    have hok : NsOk W s'.ns := nsOk_of_sysInv hm hi'
    rw [e] at hok ⊢
    apply startSeq_mono hok (root' := root) (by rw [applyReq_root]; exact hroot)
    intro m hm0 hle
    exact hc m (cov_of_le_startSeq W.ver s.ns W.ids m hm0 hle)
  refine tstep_cases (t := s) rfl rfl rfl rfl
    (P := fun _ s' _ => SysInv W s'.toSys →
      TInv W s' ∧ startSeqOf W.ver s.ns W.ids ≤ startSeqOf W.ver s'.ns W.ids)
    st (fun _ => ⟨h, Int.le_refl _⟩) ?_ ?_ ?_ ?_ ?_ ?_ ?_ (tstep_inv h.hi st)
  · -- start
    intro _ hi'
    obtain ⟨rid, off, seq, hns, _, hrun, hcq, hseq, hcase⟩ := tstartRun_fields W s hroot
    refine ⟨⟨hi', by rw [hns]; exact h.ix, ⟨root, by rw [hns]; exact hroot⟩,
      (fun hn => nomatch hrun.symm.trans hn), fun r hr => ?_⟩, by rw [hns]; exact Int.le_refl _⟩
    cases hrun.symm.trans hr
    rcases hcase with ⟨rfl, _, _, hp | ⟨hrq, hnone⟩⟩ | ⟨f, hrb, hpos, rfl, _, hrq⟩
    · exact Or.inl ⟨hp, hcq, by rw [hns]; exact hseq, rfl, rfl, rfl⟩
    · refine phase_fresh hcq ?_ ?_ rfl rfl
      · rw [hrq]; trivial
      · rw [hrq, hns]
        show snapSeq s.ns W.ids ≤ 0
        unfold snapSeq; rw [hnone]; exact Int.le_refl _
    · obtain ⟨hq, hl⟩ := recoveryReqs_safe hm h.hi f hrb hpos
      refine phase_fresh hcq ?_ ?_ rfl rfl
      · rw [hrq, hns]; exact hq
      · rw [hrq, hns]; exact hl
  · -- commit
    intro r i mt hr hq _ hi'
    refine ⟨⟨hi', ?_, hroot' _, (fun hn => nomatch hr.symm.trans hn),
        fun r' hr' => Or.inr ((h.phase r' hr').safe hq)⟩,
      hgrow _ _ hi' rfl (cov_commit h.keyed h0 (unitRec W i mt) hvis)⟩
    intro p hp
    rcases List.mem_append.mp hp with hp | hp
    · exact h.ix p (List.mem_filter.mp hp).1
    · rw [List.mem_singleton.mp hp]
  · -- report
    intro r i mt now hr hq _ _ hi'
    refine ⟨⟨hi', h.ix, ⟨root, hroot⟩, (fun hn => nomatch hn), fun r' hr' => ?_⟩, Int.le_refl _⟩
    cases hr'
    exact Or.inr ((h.phase r hr).append hq (fun B hB => coordOnCommitted_q hvis _ _ now B hB rfl))
  · -- tick
    intro r now hr hq hi'
    refine ⟨⟨hi', h.ix, ⟨root, hroot⟩, (fun hn => nomatch hn), fun r' hr' => ?_⟩, Int.le_refl _⟩
    cases hr'
    exact Or.inr ((h.phase r hr).append hq (fun B hB => coordFlush_q _ now B hB))
  · -- a recovery request is applied
    intro q rest hq hi'
    obtain ⟨r, hr⟩ := h.running (Or.inl (by rw [hq]; exact List.cons_ne_nil _ _))
    have hidle : s.run = none → rest = [] ∧ s.cq = [] := (fun hn => nomatch hr.symm.trans hn)
    rcases h.phase r hr with ⟨hpq, hcq, hz, hf0, ha0, hp0⟩ | ⟨hqs, hco⟩
    · -- a purge is being applied: the start number is 0
      have hmono : startSeqOf W.ver s.ns W.ids ≤ startSeqOf W.ver (applyReq s.ns q) W.ids := by
        rw [hz]; exact startSeqOf_nonneg _ _ _
      rw [hq] at hpq
      rcases purgeQ_cons hpq with ⟨rfl, rfl⟩ | ⟨hrest, hdq⟩
      · -- the snapshot goes last
        refine ⟨⟨hi', h.ix, ⟨root, hroot⟩, hidle, fun r' hr' => ?_⟩, hmono⟩
        cases hr.symm.trans hr'
        refine phase_fresh hcq trivial ?_ ha0 hp0
        show snapSeq (applyReq s.ns .delFrontier) W.ids ≤ r.coord.frontier.seq
        rw [hf0]; exact Int.le_refl _
      · -- deleting shrinks what is covered: the start number stays 0
        have hz' : startSeqOf W.ver (applyReq s.ns q) W.ids = 0 := by
          have hle : startSeqOf W.ver (applyReq s.ns q) W.ids ≤ startSeqOf W.ver s.ns W.ids := by
            apply startSeq_mono (nsOk_of_sysInv hm h.hi) (root' := root) hroot
            intro m hm0 hle
            exact cov_shrink hdq m (cov_of_le_startSeq W.ver (applyReq s.ns q) W.ids m hm0 hle)
          have := startSeqOf_nonneg W.ver (applyReq s.ns q) W.ids
          omega
        refine ⟨⟨hi', ?_, hroot' q, hidle, fun r' hr' => ?_⟩, hmono⟩
        · intro p hp
          rcases hdq with ⟨k, rfl⟩ | ⟨ks, rfl⟩
          · exact h.ix p hp
          · exact h.ix p (List.mem_filter.mp hp).1
        · cases hr.symm.trans hr'
          exact Or.inl ⟨hrest, hcq, hz', hf0, ha0, hp0⟩
    · rw [hq] at hqs hco
      obtain ⟨a, b, c, d⟩ := apply_safe h.keyed h0 q (rest ++ s.cq) r.coord hqs hco
      refine ⟨⟨hi', d, hroot' q, hidle, fun r' hr' => ?_⟩, hgrow _ q hi' rfl c⟩
      cases hr.symm.trans hr'
      exact Or.inr ⟨a, b⟩
  · -- a coordinator request is applied
    intro q rest hq hcq hi'
    obtain ⟨r, hr⟩ := h.running (Or.inr (by rw [hcq]; exact List.cons_ne_nil _ _))
    obtain ⟨hqs, hco⟩ := (h.phase r hr).safe hq
    rw [hq, hcq] at hqs hco
    obtain ⟨a, b, c, d⟩ := apply_safe h.keyed h0 q rest r.coord hqs hco
    refine ⟨⟨hi', d, hroot' q, (fun hn => nomatch hr.symm.trans hn), fun r' hr' => ?_⟩, hgrow _ q hi' rfl c⟩
    cases hr.symm.trans hr'
    refine Or.inr ?_
    show QSafe W.ids _ (s.rq ++ rest) ∧ CoordOk W _ (lastBound _ (s.rq ++ rest))
    rw [hq]; exact ⟨a, b⟩
  · -- crash
    intro hi'
    exact ⟨⟨hi', h.ix, ⟨root, hroot⟩, fun _ => ⟨rfl, rfl⟩, fun _ hr => nomatch hr⟩, Int.le_refl _⟩

theorem trunSteps_tinv {W : World} (hm : ∀ i j, i ≤ j → W.e i ≤ W.e j) (hvis : matchRun W.rid W.ids = true)
    (steps : List Step) :
    ∀ {s : TSys}, TInv W s → TInv W (trunSteps W s steps) ∧
      startSeqOf W.ver s.ns W.ids ≤ startSeqOf W.ver (trunSteps W s steps).ns W.ids :=
  foldl_inv_mono (f := tstep W) (I := TInv W) (fun s => startSeqOf W.ver s.ns W.ids)
    (fun _ st h => tstep_tinv hm hvis h st) steps

theorem trunSteps_append (W : World) (s : TSys) (a b : List Step) :
    trunSteps W s (a ++ b) = trunSteps W (trunSteps W s a) b := by
  simp [trunSteps, List.foldl_append]

end GunYu.Frontier
