/-
  Helper lemmas for C07: which checkpoint offsets one loop iteration can emit.
-/
import GunYu.Proofs.SenderStep

namespace GunYu.Sender

def cpOfReq : Req → Option Int
  | .cpOffset o => some o
  | _ => none

/-- checkpoint offsets written by one batch, in wire order -/
def cpOffsetsB (b : Batch) : List Int := b.filterMap cpOfReq

/-- checkpoint offsets written by a list of batches, in wire order -/
def cpOffsets (out : List Batch) : List Int := out.flatMap cpOffsetsB

@[simp] theorem cpOffsets_nil : cpOffsets [] = [] := rfl
@[simp] theorem cpOffsets_append (a b : List Batch) :
    cpOffsets (a ++ b) = cpOffsets a ++ cpOffsets b := by simp [cpOffsets]
@[simp] theorem cpOffsets_none : cpOffsets (optToList none) = [] := rfl
@[simp] theorem cpOffsets_some (b : Batch) : cpOffsets (optToList (some b)) = cpOffsetsB b := by
  simp [cpOffsets, optToList]

theorem cpOffsetsB_append (a b : Batch) : cpOffsetsB (a ++ b) = cpOffsetsB a ++ cpOffsetsB b := by
  simp [cpOffsetsB]

theorem cpOffsetsB_cpPart (c : SCfg) (s : SState) (u : Bool) (off : Int) :
    cpOffsetsB (cpPart c s u off) = if u && c.resume then [off] else [] := by
  rcases cpPart_shape c s u off with h | ⟨hu, h⟩ <;> rw [h]
  · cases (u && c.resume) <;> rfl
  · rw [hu]; rfl

theorem cpOffsetsB_sendReqs (c : SCfg) (s : SState) (tb u : Bool) (off : Int) :
    cpOffsetsB (sendReqs c s tb u off) = if u && c.resume then [off] else [] := by
  rw [cpOffsetsB, filterMap_sendReqs cpOfReq rfl rfl, ← cpOffsetsB, cpOffsetsB_cpPart]
  simp [cpOfReq]

/-- what `sendOnce` writes: at most one offset, equal to `off`, never negative;
    `lastOffset` is not touched -/
theorem sendOnce_cp (c : SCfg) (s : SState) (tb up : Bool) (off : Int) :
    (sendOnce c s tb up off).1.lastOffset = s.lastOffset ∧
    (cpOffsets (optToList (sendOnce c s tb up off).2) = [] ∨
      (cpOffsets (optToList (sendOnce c s tb up off).2) = [off] ∧ 0 ≤ off)) := by
  rcases sendOnce_cases c s tb up off with ⟨_, h⟩ | h <;> rw [h]
  · exact ⟨rfl, .inl rfl⟩
  · simp only [cpOffsets_some, cpOffsetsB_sendReqs, true_and]
    by_cases h3 : (up && decide (0 ≤ off) && c.resume) = true
    · right
      simp only [h3, ↓reduceIte, true_and]
      simp only [Bool.and_eq_true, decide_eq_true_eq] at h3
      exact h3.1.2
    · left; simp [h3]

theorem tail_cp (c : SCfg) (s : SState) (tb up : Bool) (out : List Batch) :
    (tail c s tb up out).1.lastOffset = s.lastOffset ∧
    ∃ l2, cpOffsets (tail c s tb up out).2 = cpOffsets out ++ l2 ∧
      (l2 = [] ∨ (l2 = [s.lastOffset] ∧ 0 ≤ s.lastOffset)) := by
  rw [tail_eq]
  split
  · have h := sendOnce_cp c s tb up s.lastOffset
    exact ⟨h.1, _, cpOffsets_append .., h.2⟩
  · exact ⟨rfl, [], by simp, .inl rfl⟩

/-- the offset the loop holds after an event -/
def newLast (s : SState) : Ev → Int
  | .item it => it.offset
  | _ => s.lastOffset

/-- shape of the offsets one iteration writes -/
def StepShape (old new : Int) (l : List Int) : Prop :=
  ∃ l1 l2, l = l1 ++ l2 ∧
    (l1 = [] ∨ (l1 = [old] ∧ 0 ≤ old) ∨ (l1 = [new] ∧ 0 ≤ new)) ∧
    (l2 = [] ∨ (l2 = [new] ∧ 0 ≤ new))

theorem shape_nil (old new : Int) : StepShape old new [] :=
  ⟨[], [], rfl, Or.inl rfl, Or.inl rfl⟩

theorem shape_of_tail (c : SCfg) (s : SState) (tb up : Bool) (old : Int) :
    StepShape old s.lastOffset (cpOffsets (tail c s tb up []).2) := by
  obtain ⟨_, l2, h, hl⟩ := tail_cp c s tb up []
  exact ⟨[], l2, by simpa using h, Or.inl rfl, hl⟩

theorem shape_of_flush_tail (c : SCfg) (s s2 : SState) (tb up tb' up' : Bool) (old off : Int)
    (hoff : off = old ∨ off = s2.lastOffset) :
    StepShape old s2.lastOffset
      (cpOffsets (tail c s2 tb' up' (optToList (sendOnce c s tb up off).2)).2) := by
  obtain ⟨_, l2, h, hl⟩ := tail_cp c s2 tb' up' (optToList (sendOnce c s tb up off).2)
  refine ⟨_, l2, h, ?_, hl⟩
  rcases (sendOnce_cp c s tb up off).2 with h0 | ⟨h1, hpos⟩
  · exact Or.inl h0
  · rcases hoff with rfl | rfl
    · exact Or.inr (Or.inl ⟨h1, hpos⟩)
    · exact Or.inr (Or.inr ⟨h1, hpos⟩)

theorem preFlush_cp (c : SCfg) (s : SState) (t : Txn) (nf : Bool) (prev : Int) :
    (preFlush c s t nf prev).1.lastOffset = s.lastOffset ∧
    (cpOffsets (preFlush c s t nf prev).2 = [] ∨
      (cpOffsets (preFlush c s t nf prev).2 = [prev] ∧ 0 ≤ prev) ∨
      (cpOffsets (preFlush c s t nf prev).2 = [s.lastOffset] ∧ 0 ≤ s.lastOffset)) := by
  unfold preFlush
  split
  · have h := sendOnce_cp c s c.txnMode (c.resume && c.txnMode) (if t = Txn.commit then s.lastOffset else prev)
    refine ⟨h.1, h.2.imp id fun h1 => ?_⟩
    by_cases ht : t = Txn.commit <;> simp only [ht, ↓reduceIte] at h1 ⊢
    · exact .inr h1
    · exact .inl h1
  · exact ⟨rfl, Or.inl rfl⟩

theorem absorb_last (s : SState) (t : Txn) (it : Item) :
    (absorb s t it).lastOffset = s.lastOffset := by
  unfold absorb; split
  · rfl
  · split <;> rfl

theorem stepItemTxn_cp (c : SCfg) (s : SState) (t : Txn) (nf : Bool) (it : Item) (prev : Int) :
    (stepItemTxn c s t nf it prev).1.lastOffset = s.lastOffset ∧
    StepShape prev s.lastOffset (cpOffsets (stepItemTxn c s t nf it prev).2) := by
  unfold stepItemTxn
  simp only
  obtain ⟨hlast, hcp⟩ := preFlush_cp c s t nf prev
  have habs : (absorb (preFlush c s t nf prev).1 t it).lastOffset = s.lastOffset := by
    rw [absorb_last, hlast]
  obtain ⟨htl, l2, h2, hl2⟩ := tail_cp c (absorb (preFlush c s t nf prev).1 t it)
    c.txnMode (c.resume && c.txnMode) (preFlush c s t nf prev).2
  refine ⟨by rw [htl, habs], _, l2, h2, hcp, ?_⟩
  rw [habs] at hl2; exact hl2

theorem stepItemPlain_cp (c : SCfg) (s : SState) (t : Txn) (it : Item) (prev : Int) :
    (stepItemPlain c s t it).1.lastOffset = s.lastOffset ∧
    StepShape prev s.lastOffset (cpOffsets (stepItemPlain c s t it).2) := by
  unfold stepItemPlain
  split
  · exact ⟨rfl, shape_nil _ _⟩
  · split
    · exact ⟨(tail_cp ..).1, shape_of_tail c { s with needFlush := true } _ _ prev⟩
    · exact ⟨(tail_cp ..).1, shape_of_tail c (enqueue s it) _ _ prev⟩

theorem stepItem_cp (c : SCfg) (s : SState) (it : Item) (prev : Int) :
    (stepItem c s it prev).1.lastOffset = s.lastOffset ∧
    StepShape prev s.lastOffset (cpOffsets (stepItem c s it prev).2) := by
  unfold stepItem
  simp only
  split
  · exact stepItemTxn_cp c _ _ _ it prev
  · exact stepItemPlain_cp c _ _ it prev

theorem tick_cp (c : SCfg) (s : SState) (ev : Ev) (hev : ∀ it, ev ≠ .item it) :
    (step c s ev).1.lastOffset = s.lastOffset ∧
    StepShape s.lastOffset s.lastOffset (cpOffsets (step c s ev).2) := by
  rcases step_tick c s ev hev with ⟨nf, up, -, h⟩ | ⟨-, h⟩ <;> rw [h]
  · exact ⟨(tail_cp ..).1, shape_of_tail c { s with needFlush := nf } ..⟩
  · exact ⟨(tail_cp ..).1,
      shape_of_tail c { s with queue := [pingItem s.lastOffset], needFlush := true } ..⟩

theorem step_cp (c : SCfg) (s : SState) (ev : Ev) :
    (step c s ev).1.lastOffset = newLast s ev ∧
    StepShape s.lastOffset (newLast s ev) (cpOffsets (step c s ev).2) := by
  cases ev with
  | item it =>
    simp only [step, newLast]
    split
    · exact ⟨rfl, shape_nil _ _⟩
    · exact stepItem_cp c { s with lastOffset := it.offset } it s.lastOffset
  | _ => exact tick_cp c s _ nofun

end GunYu.Sender
