/-
  The REGENERATED `lpEncodeBacklen` and `Listpack.Next` of pkg/redis/types/listpack.go
  (lean/GunYu/Gen/FnListpack.lean, generator `gofn_listpack`) against the hand model of
  Model/Rdb/Listpack.lean (`lpSkip`, `lpNext` on `rem = data[p:]`).
  Side conditions: `len(data) < 2^31` and `p ≤ len(data)` (then no uint32 cursor arithmetic of a
  successful call wraps; the model works on lists and has no cursor width).
-/
import GunYu.Proofs.Rdb.Listpack
import GunYu.Gen.FnListpack

namespace GunYu.Proofs.GenS5
open GunYu GunYu.Gen GunYu.Rdb

theorem gen_lpEncodeBacklen_eq (len : BitVec 32) :
    Fn.lpEncodeBacklen len = some (BitVec.ofNat 32 (lpSkip len.toNat)) := by
  have hadd : ∀ c : Nat, len + BitVec.ofNat 32 c = BitVec.ofNat 32 (len.toNat + c) := fun c => by
    rw [BitVec.ofNat_add, BitVec.ofNat_toNat, BitVec.setWidth_eq]
  unfold Fn.lpEncodeBacklen lpSkip
  simp only [BitVec.le_def, BitVec.lt_def, BitVec.toNat_ofNat, Nat.reduceMod, Nat.reducePow, hadd, pure,
    apply_ite (BitVec.ofNat 32), apply_ite some]

theorem idx_off (data : Bytes) (p : BitVec 32) (k : Nat) (hlen : data.length < 2147483648)
    (hp : p.toNat ≤ data.length) (hk : k < 2147483648) :
    GoSem.index data (GoSem.bvToI (p + BitVec.ofNat 32 k)) = (data.drop p.toNat)[k]? := by
  unfold GoSem.index GoSem.bvToI
  have : (p + BitVec.ofNat 32 k).toNat = p.toNat + k := by
    rw [BitVec.toNat_add, BitVec.toNat_ofNat]; omega
  rw [this, List.getElem?_drop]
  have h0 : (0 : Int) ≤ ((p.toNat + k : Nat) : Int) := by omega
  simp only [h0, ↓reduceIte, Int.toNat_natCast]

theorem idx_0 (data : Bytes) (p : BitVec 32) :
    GoSem.index data (GoSem.bvToI p) = (data.drop p.toNat)[0]? := by
  unfold GoSem.index GoSem.bvToI
  simp [List.getElem?_drop]

theorem u8_cases (P : UInt8 → Prop) (h : ∀ n : Fin 256, P (UInt8.ofNat n.val)) (b : UInt8) : P b := by
  have := h ⟨b.toNat, b.toNat_lt⟩
  simpa using this

theorem lp_masks (b : UInt8) :
    ((b &&& 128 = 0) ↔ b.toNat / 128 = 0) ∧ ((b &&& 192 = 128) ↔ b.toNat / 64 = 2) ∧
    ((b &&& 224 = 192) ↔ b.toNat / 32 = 6) ∧ ((b &&& 240 = 224) ↔ b.toNat / 16 = 14) ∧
    ((b &&& 255 = 240) ↔ b.toNat = 240) ∧ ((b &&& 255 = 241) ↔ b.toNat = 241) ∧
    ((b &&& 255 = 242) ↔ b.toNat = 242) ∧ ((b &&& 255 = 243) ↔ b.toNat = 243) ∧
    ((b &&& 255 = 244) ↔ b.toNat = 244) ∧
    (b &&& 127).toNat = b.toNat % 128 ∧ (b &&& 63).toNat = b.toNat % 64 ∧
    (b &&& 31).toNat = b.toNat % 32 ∧ (b &&& 15).toNat = b.toNat % 16 := by
  revert b
  apply u8_cases
  decide +kernel

theorem u8_widen {w : Nat} (x : UInt8) (hw : 8 ≤ w) : (BitVec.setWidth w x.toBitVec).toNat = x.toNat := by
  have := x.toNat_lt
  have : 2 ^ 8 ≤ 2 ^ w := Nat.pow_le_pow_right (by decide) hw
  rw [BitVec.toNat_setWidth, UInt8.toNat_toBitVec, Nat.mod_eq_of_lt (by omega)]

theorem add_small (L : BitVec 32) (k : Nat) (h : L.toNat + k < 4294967296) :
    (L + BitVec.ofNat 32 k).toNat = k + L.toNat := by
  rw [BitVec.toNat_add, BitVec.toNat_ofNat, Nat.add_comm k]; omega

theorem be2_widen {w : Nat} (hi lo : UInt8) (hw : 16 ≤ w) :
    (BitVec.setWidth w hi.toBitVec <<< 8 + BitVec.setWidth w lo.toBitVec).toNat = hi.toNat * 256 + lo.toNat := by
  have := hi.toNat_lt
  have := lo.toNat_lt
  have : 2 ^ 16 ≤ 2 ^ w := Nat.pow_le_pow_right (by decide) hw
  rw [BitVec.toNat_add, BitVec.toNat_shiftLeft, u8_widen hi (by omega), u8_widen lo (by omega), Nat.shiftLeft_eq,
    Nat.mod_eq_of_lt (a := hi.toNat * 2 ^ 8) (by omega), Nat.mod_eq_of_lt (by omega)]

/-- one more byte of a little-endian read `b₁<<0 + b₂<<8 + …` as Go spells it out -/
theorem le_step {w : Nat} (acc : BitVec w) (bs : Bytes) (b : UInt8) (s : Nat) (hs : s = 8 * bs.length) (hw : s + 8 ≤ w)
    (hacc : acc.toNat = ofLE bs) : (acc + BitVec.setWidth w b.toBitVec <<< s).toNat = ofLE (bs ++ [b]) := by
  have hb := b.toNat_lt
  have hlt := ofLE_lt_two_pow bs
  have hpw : 2 ^ s * 256 ≤ 2 ^ w :=
    calc 2 ^ s * 256 = 2 ^ (s + 8) := by rw [Nat.pow_add]
      _ ≤ 2 ^ w := Nat.pow_le_pow_right (by decide) hw
  rw [ofLE_append, BitVec.toNat_add, BitVec.toNat_shiftLeft, u8_widen b (by omega), hacc, Nat.shiftLeft_eq, pow256, ← hs]
  simp only [ofLE, Nat.mul_zero, Nat.add_zero]
  rw [← hs] at hlt
  generalize 2 ^ s = P at *
  have h255 : b.toNat * P ≤ 255 * P := Nat.mul_le_mul_right P (by omega)
  rw [Nat.mod_eq_of_lt (a := b.toNat * P) (by omega), Nat.mul_comm P, Nat.mod_eq_of_lt (by omega)]

theorem le_first {w : Nat} (b : UInt8) (hw : 8 ≤ w) : (BitVec.setWidth w b.toBitVec <<< 0).toNat = ofLE [b] := by
  rw [BitVec.shiftLeft_zero, u8_widen b hw]; rfl

end GunYu.Proofs.GenS5
