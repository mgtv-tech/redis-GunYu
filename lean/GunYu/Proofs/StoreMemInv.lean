/-
  C05, memory backend: the GLOBAL invariant of `GunYu.Store.Mem` over arbitrary
  operation lists (the analogue of `DInv` for the disk index), its preservation
  by every operation, and the refinement facts that follow from it.
-/
import GunYu.Model.StoreMemWindow
import GunYu.Model.StoreMemRecv
import GunYu.Proofs.StoreMem

namespace GunYu.Store
open GunYu

def MContig : List MSeg → Prop
  | [] => True
  | [_] => True
  | g :: h :: rest => g.right = h.left ∧ MContig (h :: rest)

theorem MContig.tail {g : MSeg} {l : List MSeg} (h : MContig (g :: l)) : MContig l := by
  cases l with
  | nil => trivial
  | cons a t => exact h.2

theorem mcontig_append_single (l : List MSeg) (n : MSeg) :
    MContig (l ++ [n]) ↔ MContig l ∧ ∀ g, l.getLast? = some g → g.right = n.left := by
  induction l with
  | nil => simp [MContig]
  | cons a t ih =>
    cases t with
    | nil => simp [MContig]
    | cons b t' =>
      simp only [List.cons_append, MContig]
      have := ih
      simp only [List.cons_append] at this
      rw [this]
      simp [List.getLast?_cons_cons, and_assoc]

theorem mcontig_suffix (pre : List MSeg) (l : List MSeg) (h : MContig (pre ++ l)) : MContig l := by
  induction pre with
  | nil => exact h
  | cons a t ih => exact ih h.tail

theorem mcontig_map (f : MSeg → MSeg) (hl : ∀ g, (f g).left = g.left) (hr : ∀ g, (f g).right = g.right)
    (l : List MSeg) (h : MContig l) : MContig (l.map f) := by
  induction l with
  | nil => trivial
  | cons a t ih =>
    cases t with
    | nil => trivial
    | cons b t' =>
      simp only [List.map_cons, MContig]
      exact ⟨by rw [hr, hl]; exact h.1, ih h.2⟩

theorem mContigRun_of_contig (l : List MSeg) (h : MContig l) : mContigRun l = l := by
  induction l with
  | nil => rfl
  | cons a t ih =>
    cases t with
    | nil => rfl
    | cons b t' =>
      simp only [mContigRun]
      rw [ih h.2]
      simp [h.1]

/-- `l` covers `lo … hi` without gap: each segment starts where the one before ends -/
def MSpan (lo : Nat) : List MSeg → Nat → Prop
  | [], hi => lo = hi
  | g :: t, hi => g.left = lo ∧ MSpan g.right t hi

theorem MContig.span : ∀ (l : List MSeg) (a : MSeg), MContig (a :: l) →
    ∃ hi, MSpan a.left (a :: l) hi ∧ ∃ b, (a :: l).getLast? = some b ∧ b.right = hi
  | [], a, _ => ⟨a.right, ⟨rfl, rfl⟩, a, rfl, rfl⟩
  | c :: t, a, h => by
    obtain ⟨hi, sp, b, hb, e⟩ := MContig.span t c h.2
    exact ⟨hi, ⟨rfl, h.1 ▸ sp⟩, b, by rw [List.getLast?_cons_cons]; exact hb, e⟩

/-- segments without data may be left out of a span -/
theorem MSpan.filter (p : MSeg → Bool) : ∀ (l : List MSeg) {lo hi : Nat}, MSpan lo l hi →
    (∀ g ∈ l, p g = false → g.data = []) → MSpan lo (l.filter p) hi
  | [], _, _, h, _ => h
  | a :: t, lo, hi, h, he => by
    have ih := MSpan.filter p t h.2 (fun g hg => he g (List.mem_cons_of_mem _ hg))
    cases hp : p a with
    | true => rw [List.filter_cons_of_pos hp]; exact ⟨h.1, ih⟩
    | false =>
      rw [List.filter_cons_of_neg (by simp [hp])]
      -- an empty segment ends where it starts
      have : a.right = lo := by rw [← h.1]; simp [MSeg.right, he a (List.mem_cons_self ..) hp]
      exact this ▸ ih

theorem MSpan.contig : ∀ (l : List MSeg) {lo hi : Nat}, MSpan lo l hi →
    MContig l ∧ ∀ y, l.getLast? = some y → y.right = hi
  | [], _, _, _ => ⟨trivial, fun y hy => by cases hy⟩
  | [a], _, _, h => ⟨trivial, fun y hy => by cases hy; exact h.2⟩
  | a :: c :: t, _, _, h => by
    obtain ⟨ct, hl⟩ := MSpan.contig (c :: t) h.2
    exact ⟨⟨h.2.1.symm, ct⟩, fun y hy => hl y (by rwa [List.getLast?_cons_cons] at hy)⟩

theorem getLast?_append_cons' {α} (l : List α) (a : α) (t : List α) :
    (l ++ a :: t).getLast? = (a :: t).getLast? := by
  induction l with
  | nil => rfl
  | cons x xs ih =>
    cases xs with
    | nil => simp [List.getLast?_cons_cons]
    | cons y ys =>
      rw [List.cons_append, List.cons_append, List.getLast?_cons_cons]
      exact ih

theorem mslice_append_left {α} (l p : List α) (a b : Nat) (h : a + b ≤ l.length) :
    ((l ++ p).drop a).take b = (l.drop a).take b := by
  rw [List.drop_append_of_le_length (by omega), List.take_append_of_le_length (by simp; omega)]

theorem slice_glue {α} (l : List α) (a b c : Nat) :
    (l.drop a).take b ++ (l.drop (a + b)).take c = (l.drop a).take (b + c) := by
  rw [← List.drop_drop]
  rw [List.take_add]

theorem mFind_some {l : List MSeg} {sid : Nat} {g : MSeg} (h : mFind l sid = some g) : g ∈ l ∧ g.sid = sid := by
  unfold mFind at h
  exact ⟨List.mem_of_find?_eq_some h, by simpa using List.find?_some h⟩

theorem sid_unique {l : List MSeg} (hn : (l.map (·.sid)).Nodup) {a b : MSeg} (ha : a ∈ l) (hb : b ∈ l)
    (e : a.sid = b.sid) : a = b := by
  induction l with
  | nil => cases ha
  | cons x t ih =>
    simp only [List.map_cons, List.nodup_cons, List.mem_map, not_exists, not_and] at hn
    rcases List.mem_cons.mp ha with h1 | h1 <;> rcases List.mem_cons.mp hb with h2 | h2
    · rw [h1, h2]
    · subst h1; exact absurd e.symm (hn.1 b h2)
    · subst h2; exact absurd e (hn.1 a h1)
    · exact ih hn.2 h1 h2

theorem mFind_of_mem {l : List MSeg} (hn : (l.map (·.sid)).Nodup) {g : MSeg} (hg : g ∈ l) :
    mFind l g.sid = some g := by
  unfold mFind
  cases h : l.find? (·.sid == g.sid) with
  | none =>
    have := List.find?_eq_none.mp h g hg
    simp at this
  | some x =>
    have hx := List.mem_of_find?_eq_some h
    have hs : x.sid = g.sid := by simpa using List.find?_some h
    rw [sid_unique hn hx hg hs]

theorem mem_mUpdate {l : List MSeg} {sid : Nat} {f : MSeg → MSeg} {x : MSeg} :
    x ∈ mUpdate l sid f ↔ ∃ g ∈ l, x = if g.sid == sid then f g else g := by
  unfold mUpdate
  simp only [List.mem_map]
  constructor
  · rintro ⟨g, hg, rfl⟩; exact ⟨g, hg, rfl⟩
  · rintro ⟨g, hg, rfl⟩; exact ⟨g, hg, rfl⟩

theorem mUpdate_sids {l : List MSeg} {sid : Nat} {f : MSeg → MSeg} (hf : ∀ g, (f g).sid = g.sid) :
    (mUpdate l sid f).map (·.sid) = l.map (·.sid) := by
  unfold mUpdate
  rw [List.map_map]
  apply List.map_congr_left
  intro g _
  simp only [Function.comp]
  split <;> simp [hf]

theorem mUpdate_getLast? {l : List MSeg} {sid : Nat} {f : MSeg → MSeg} :
    (mUpdate l sid f).getLast? = l.getLast?.map (fun g => if g.sid == sid then f g else g) := by
  unfold mUpdate
  rw [List.getLast?_map]

/-- an indexed segment holds the bytes of the written history at its offsets -/
structure SegOk (hbase : Nat) (hist : Bytes) (g : MSeg) : Prop where
  lo : hbase ≤ g.left
  hi : g.right ≤ hbase + hist.length
  data : g.data = (hist.drop (g.left - hbase)).take g.data.length

/-- a copy loop that holds the indexed segment `g`: it is inside `g`, and it has
    written to its pipe exactly the history's bytes `[start, pos)` -/
structure MAofOk (hbase : Nat) (hist : Bytes) (r : MReader) (g : MSeg) : Prop where
  inl : g.left ≤ r.pos
  inr : r.pos ≤ g.right
  base : hbase ≤ r.start
  ord : r.start ≤ r.pos
  out : r.out = (hist.drop (r.start - hbase)).take (r.pos - r.start)

structure StreamOk (k : Bool) (segs : List MSeg) (aofW : Option Nat) (readers : List MReader) (nextSid hbase : Nat)
    (hist : Bytes) : Prop where
  contig : MContig segs
  segOk : ∀ g ∈ segs, SegOk hbase hist g
  lastEnd : ∀ g, segs.getLast? = some g → g.right = hbase + hist.length
  nodup : (segs.map (·.sid)).Nodup
  bound : ∀ g ∈ segs, g.sid < nextSid
  writer : ∀ cur, aofW = some cur → ∃ g, segs.getLast? = some g ∧ g.sid = cur
  readers : ∀ r ∈ readers, r.isAof = k →
    r.seg < nextSid ∧ (r.released = false → ∀ g ∈ segs, g.sid = r.seg → MAofOk hbase hist r g)

def StreamInv (s : Mem) : Prop := StreamOk true s.segs s.aofW s.readers s.nextSid s.hbase s.hist

theorem StreamOk.empty {k : Bool} (rs : List MReader) (n hb : Nat) (hi : Bytes) (hr : ∀ r ∈ rs, r.isAof = k → r.seg < n) :
    StreamOk k [] none rs n hb hi where
  contig := trivial
  segOk := by intro g hg; cases hg
  lastEnd := by intro g hg; simp at hg
  nodup := by simp
  bound := by intro g hg; cases hg
  writer := by intro c hc; cases hc
  readers := by intro r hr' ha; exact ⟨hr r hr' ha, by intro _ g hg; cases hg⟩

section
variable {k : Bool} {l : List MSeg} {w : Option Nat} {rs : List MReader} {n hb : Nat} {hi : Bytes}

/-- the segment the stream writer is attached to is the last one -/
theorem StreamOk.writerLast (h : StreamOk k l w rs n hb hi) {g : MSeg} (hg : g ∈ l) (hw : w = some g.sid) :
    l.getLast? = some g := by
  obtain ⟨last, hlast, hls⟩ := h.writer g.sid hw
  rw [sid_unique h.nodup hg (List.mem_of_getLast? hlast) hls.symm]
  exact hlast

theorem StreamOk.dropPrefix {pre : List MSeg}
    (h : StreamOk k (pre ++ l) w rs n hb hi) (hw : ∀ g ∈ pre, w ≠ some g.sid) : StreamOk k l w rs n hb hi where
  contig := mcontig_suffix pre l h.contig
  segOk := fun g hg => h.segOk g (List.mem_append_right _ hg)
  lastEnd := by
    intro g hg
    apply h.lastEnd
    cases l with
    | nil => simp at hg
    | cons a t => rw [getLast?_append_cons']; exact hg
  nodup := by
    have := h.nodup
    rw [List.map_append] at this
    exact (List.nodup_append.mp this).2.1
  bound := fun g hg => h.bound g (List.mem_append_right _ hg)
  writer := by
    intro cur hc
    obtain ⟨g, hg, hs⟩ := h.writer cur hc
    cases l with
    | nil =>
      simp at hg
      have := List.mem_of_getLast? hg
      exact absurd (by rw [hc, hs]) (hw g this)
    | cons a t =>
      rw [getLast?_append_cons'] at hg
      exact ⟨g, hg, hs⟩
  readers := by
    intro r hr ha
    obtain ⟨h1, h2⟩ := h.readers r hr ha
    exact ⟨h1, fun hrel g hg hs => h2 hrel g (List.mem_append_right _ hg) hs⟩

theorem StreamOk.seg_bound (h : StreamOk k l w rs n hb hi) : ∀ r ∈ rs, r.isAof = k → r.seg < n :=
  fun r hr ha => (h.readers r hr ha).1

theorem SegOk.congr {hb : Nat} {hi : Bytes} {g g' : MSeg} (h : SegOk hb hi g) (hl : g'.left = g.left)
    (hd : g'.data = g.data) : SegOk hb hi g' :=
  ⟨by rw [hl]; exact h.lo, by unfold MSeg.right at *; rw [hl, hd]; exact h.hi, by rw [hl, hd]; exact h.data⟩

theorem MAofOk.congr {hb : Nat} {hi : Bytes} {r : MReader} {g g' : MSeg} (h : MAofOk hb hi r g) (hl : g'.left = g.left)
    (hd : g'.data = g.data) : MAofOk hb hi r g' :=
  ⟨by rw [hl]; exact h.inl, by unfold MSeg.right at *; rw [hl, hd]; exact h.inr, h.base, h.ord, h.out⟩

theorem MAofOk.congrReader {hb : Nat} {hi : Bytes} {r r' : MReader} {g : MSeg} (h : MAofOk hb hi r g)
    (hp : r'.pos = r.pos) (hs : r'.start = r.start) (ho : r'.out = r.out) : MAofOk hb hi r' g :=
  ⟨by rw [hp]; exact h.inl, by rw [hp]; exact h.inr, by rw [hs]; exact h.base, by rw [hs, hp]; exact h.ord,
   by rw [ho, hs, hp]; exact h.out⟩

theorem StreamOk.mapSegs
    (h : StreamOk k l w rs n hb hi) (f : MSeg → MSeg) (hs : ∀ g, (f g).sid = g.sid) (hl : ∀ g, (f g).left = g.left)
    (hd : ∀ g, (f g).data = g.data) : StreamOk k (l.map f) w rs n hb hi where
  contig := mcontig_map f hl (fun g => by unfold MSeg.right; rw [hl, hd]) l h.contig
  segOk := by
    intro g hg
    obtain ⟨g0, hg0, rfl⟩ := List.mem_map.mp hg
    exact (h.segOk g0 hg0).congr (hl g0) (hd g0)
  lastEnd := by
    intro g hg
    rw [List.getLast?_map] at hg
    cases hlast : l.getLast? with
    | none => rw [hlast] at hg; simp at hg
    | some g0 =>
      rw [hlast] at hg; simp at hg; subst hg
      have := h.lastEnd g0 hlast
      unfold MSeg.right at *; rw [hl, hd]; exact this
  nodup := by
    have : (l.map f).map (·.sid) = l.map (·.sid) := by
      rw [List.map_map]; apply List.map_congr_left; intro g _; exact hs g
    rw [this]; exact h.nodup
  bound := by
    intro g hg
    obtain ⟨g0, hg0, rfl⟩ := List.mem_map.mp hg
    rw [hs]; exact h.bound g0 hg0
  writer := by
    intro cur hc
    obtain ⟨g, hg, hsid⟩ := h.writer cur hc
    exact ⟨f g, by rw [List.getLast?_map, hg]; rfl, by rw [hs]; exact hsid⟩
  readers := by
    intro r hr ha
    obtain ⟨h1, h2⟩ := h.readers r hr ha
    refine ⟨h1, fun hrel g hg hsid => ?_⟩
    obtain ⟨g0, hg0, rfl⟩ := List.mem_map.mp hg
    exact (h2 hrel g0 hg0 (by rw [← hs]; exact hsid)).congr (hl g0) (hd g0)

theorem mUpdate_eq_map (l : List MSeg) (sid : Nat) (f : MSeg → MSeg) :
    mUpdate l sid f = l.map (fun g => if g.sid == sid then f g else g) := rfl

theorem StreamOk.closeSeg (h : StreamOk k l w rs n hb hi) (cur : Nat) :
    StreamOk k (mUpdate l cur (fun g => { g with closed := true })) w rs n hb hi := by
  rw [mUpdate_eq_map]
  apply h.mapSegs <;> intro g <;> split <;> rfl

theorem mUpdate_last {init : List MSeg} {last : MSeg} (hn : ((init ++ [last]).map (·.sid)).Nodup)
    (f : MSeg → MSeg) : mUpdate (init ++ [last]) last.sid f = init ++ [f last] := by
  unfold mUpdate
  rw [List.map_append]
  congr 1
  · have : ∀ g ∈ init, g.sid ≠ last.sid := by
      intro g hg e
      have := sid_unique hn (List.mem_append_left _ hg) (List.mem_append_right _ (List.mem_singleton.mpr rfl)) e
      subst this
      rw [List.map_append, List.nodup_append] at hn
      exact hn.2.2 g.sid (List.mem_map.mpr ⟨g, hg, rfl⟩) g.sid (by simp) rfl
    conv => rhs; rw [← List.map_id init]
    apply List.map_congr_left
    intro g hg
    simp [this g hg]
  · simp

/-- the writer appends a piece to its (last) segment; the history records it -/
theorem StreamOk.appendPiece {cur : Nat} (h : StreamOk k l (some cur) rs n hb hi) (piece : Bytes) :
    StreamOk k (mUpdate l cur (fun g => { g with data := g.data ++ piece })) (some cur) rs n hb (hi ++ piece) := by
  obtain ⟨last, hlast, hsid⟩ := h.writer cur rfl
  obtain ⟨init, rfl⟩ := List.getLast?_eq_some_iff.mp hlast
  subst hsid
  rw [mUpdate_last h.nodup]
  have hL := h.segOk last (by simp)
  have hLE := h.lastEnd last hlast
  have hinit : ∀ g ∈ init, SegOk hb (hi ++ piece) g := by
    intro g hg
    have hg' := h.segOk g (List.mem_append_left _ hg)
    refine ⟨hg'.lo, by have := hg'.hi; simp; omega, ?_⟩
    rw [mslice_append_left _ _ _ _ (by have := hg'.hi; have := hg'.lo; unfold MSeg.right at *; omega)]
    exact hg'.data
  have hrd : ∀ r g, MAofOk hb hi r g → g.right ≤ hb + hi.length →
      r.out = ((hi ++ piece).drop (r.start - hb)).take (r.pos - r.start) := by
    intro r g hr hg
    rw [mslice_append_left _ _ _ _ (by have := hr.inr; have := hr.base; have := hr.ord; omega)]
    exact hr.out
  constructor
  · rw [mcontig_append_single]
    have := (mcontig_append_single init last).mp h.contig
    exact ⟨this.1, this.2⟩
  · intro g hg
    rcases List.mem_append.mp hg with hg | hg
    · exact hinit g hg
    · rw [List.mem_singleton] at hg; subst hg
      refine ⟨hL.lo, by unfold MSeg.right at *; simp; omega, ?_⟩
      show last.data ++ piece = _
      have hfull : hi.drop (last.left - hb) = last.data := by
        have hd := hL.data
        have hlen : (hi.drop (last.left - hb)).length = last.data.length := by
          have := hL.lo; unfold MSeg.right at hLE; simp; omega
        rw [hd]; exact (List.take_of_length_le (by omega)).symm
      rw [List.drop_append_of_le_length (by have := hL.lo; unfold MSeg.right at hLE; dsimp only; omega), hfull]
      exact (List.take_of_length_le (by simp)).symm
  · intro g hg
    rw [getLast?_append_cons'] at hg
    simp at hg; subst hg
    unfold MSeg.right at *; simp; omega
  · have : (init ++ [({ last with data := last.data ++ piece } : MSeg)]).map (·.sid) = (init ++ [last]).map (·.sid) := by simp
    rw [this]; exact h.nodup
  · intro g hg
    rcases List.mem_append.mp hg with hg | hg
    · exact h.bound g (List.mem_append_left _ hg)
    · rw [List.mem_singleton] at hg; subst hg
      exact h.bound last (by simp)
  · intro c hc
    cases hc
    exact ⟨({ last with data := last.data ++ piece } : MSeg), by rw [getLast?_append_cons']; rfl, rfl⟩
  · intro r hr ha
    obtain ⟨h1, h2⟩ := h.readers r hr ha
    refine ⟨h1, fun hrel g hg hs => ?_⟩
    rcases List.mem_append.mp hg with hg | hg
    · have hok := h2 hrel g (List.mem_append_left _ hg) hs
      exact ⟨hok.inl, hok.inr, hok.base, hok.ord, hrd r g hok (h.segOk g (List.mem_append_left _ hg)).hi⟩
    · rw [List.mem_singleton] at hg; subst hg
      have hok := h2 hrel last (by simp) hs
      exact ⟨hok.inl, by have := hok.inr; unfold MSeg.right at *; simp; omega, hok.base, hok.ord, hrd r last hok hL.hi⟩

/-- a new, empty segment at the end of the history (rotation, new writer) -/
theorem StreamOk.pushSeg
    (h : StreamOk k l w rs n hb hi) (x : MSeg) (hs : x.sid = n) (hd : x.data = []) (hl : x.left = hb + hi.length) :
    StreamOk k (l ++ [x]) (some n) rs (n + 1) hb hi where
  contig := by
    rw [mcontig_append_single]
    exact ⟨h.contig, fun g hg => by rw [h.lastEnd g hg, hl]⟩
  segOk := by
    intro g hg
    rcases List.mem_append.mp hg with hg | hg
    · exact h.segOk g hg
    · rw [List.mem_singleton] at hg; subst hg
      exact ⟨by omega, by unfold MSeg.right; rw [hd]; simp; omega, by rw [hd]; simp⟩
  lastEnd := by
    intro g hg
    rw [getLast?_append_cons'] at hg; simp at hg; subst hg
    unfold MSeg.right; rw [hd]; simp; exact hl
  nodup := by
    rw [List.map_append, List.nodup_append]
    refine ⟨h.nodup, by simp, ?_⟩
    intro a ha b hb' e
    simp at hb'; subst hb'
    obtain ⟨g, hg, rfl⟩ := List.mem_map.mp ha
    have := h.bound g hg
    omega
  bound := by
    intro g hg
    rcases List.mem_append.mp hg with hg | hg
    · have := h.bound g hg; omega
    · rw [List.mem_singleton] at hg; subst hg; omega
  writer := by
    intro c hc; cases hc
    exact ⟨x, by rw [getLast?_append_cons']; rfl, hs⟩
  readers := by
    intro r hr ha
    obtain ⟨h1, h2⟩ := h.readers r hr ha
    refine ⟨by omega, fun hrel g hg hsid => ?_⟩
    rcases List.mem_append.mp hg with hg | hg
    · exact h2 hrel g hg hsid
    · rw [List.mem_singleton] at hg; subst hg; omega

/-- an empty segment that is not the writer's leaves the index -/
theorem StreamOk.filterEmpty
    (h : StreamOk k l w rs n hb hi) (cur : Nat) (he : ∀ g ∈ l, g.sid = cur → g.data = []) (hw : w ≠ some cur) :
    StreamOk k (l.filter (fun x => x.sid != cur)) w rs n hb hi := by
  -- the index as a span from its first segment to the end of the history, without the empty segment
  have hsp : MContig (l.filter (fun x => x.sid != cur)) ∧
      ∀ y, (l.filter (fun x => x.sid != cur)).getLast? = some y → y.right = hb + hi.length := by
    cases l with
    | nil => exact ⟨trivial, fun y hy => by cases hy⟩
    | cons a t =>
      obtain ⟨_, sp, b, hlast, rfl⟩ := MContig.span t a h.contig
      rw [h.lastEnd b hlast] at sp
      exact (MSpan.filter _ _ sp (fun g hg hp => he g hg (by simpa using hp))).contig
  constructor
  · exact hsp.1
  · intro g hg; exact h.segOk g (List.mem_filter.mp hg).1
  · exact hsp.2
  · exact List.Nodup.sublist (List.Sublist.map _ List.filter_sublist) h.nodup
  · intro g hg; exact h.bound g (List.mem_filter.mp hg).1
  · intro c hc
    obtain ⟨g, hg, hs⟩ := h.writer c hc
    obtain ⟨init, rfl⟩ := List.getLast?_eq_some_iff.mp hg
    refine ⟨g, ?_, hs⟩
    rw [List.filter_append]
    have : [g].filter (fun x => x.sid != cur) = [g] := by
      have : g.sid ≠ cur := by intro e; apply hw; rw [hc, hs.symm, e]
      simp [this]
    rw [this, getLast?_append_cons']; rfl
  · intro r hr ha
    obtain ⟨h1, h2⟩ := h.readers r hr ha
    exact ⟨h1, fun hrel g hg hs => h2 hrel g (List.mem_filter.mp hg).1 hs⟩

/-- the writer goes (`mc.aofWriter = nil`) -/
theorem StreamOk.noWriter (h : StreamOk k l w rs n hb hi) : StreamOk k l none rs n hb hi :=
  ⟨h.contig, h.segOk, h.lastEnd, h.nodup, h.bound, (by intro c hc; cases hc), h.readers⟩

theorem mem_mSetReader {rs : List MReader} {r x : MReader} (hx : x ∈ mSetReader rs r) : x ∈ rs ∨ x = r := by
  unfold mSetReader at hx
  obtain ⟨y, hy, rfl⟩ := List.mem_map.mp hx
  split
  · right; rfl
  · left; exact hy

theorem StreamOk.setReader (h : StreamOk k l w rs n hb hi) (r' : MReader)
    (hr' : r'.isAof = k → r'.seg < n ∧ (r'.released = false → ∀ g ∈ l, g.sid = r'.seg → MAofOk hb hi r' g)) :
    StreamOk k l w (mSetReader rs r') n hb hi :=
  ⟨h.contig, h.segOk, h.lastEnd, h.nodup, h.bound, h.writer, by
      intro r hr ha
      rcases mem_mSetReader hr with hr | rfl
      · exact h.readers r hr ha
      · exact hr' ha⟩

theorem StreamOk.addReader (h : StreamOk k l w rs n hb hi) (r' : MReader)
    (hr' : r'.isAof = k → r'.seg < n ∧ (r'.released = false → ∀ g ∈ l, g.sid = r'.seg → MAofOk hb hi r' g)) :
    StreamOk k l w (rs ++ [r']) n hb hi :=
  ⟨h.contig, h.segOk, h.lastEnd, h.nodup, h.bound, h.writer, by
      intro r hr ha
      rcases List.mem_append.mp hr with hr | hr
      · exact h.readers r hr ha
      · rw [List.mem_singleton] at hr; subst hr; exact hr' ha⟩

theorem StreamOk.touchReader
    (h : StreamOk k l w rs n hb hi) {r : MReader} (hr : r ∈ rs) (r' : MReader) (ha : r'.isAof = r.isAof)
    (hseg : r'.seg = r.seg) (hp : r'.pos = r.pos) (hs : r'.start = r.start) (ho : r'.out = r.out)
    (hrel : r'.released = false → r.released = false) : StreamOk k l w (mSetReader rs r') n hb hi := by
  apply h.setReader
  intro ha'
  obtain ⟨h1, h2⟩ := h.readers r hr (by rw [← ha]; exact ha')
  refine ⟨by rw [hseg]; exact h1, fun hr' g hg hsid => ?_⟩
  exact (h2 (hrel hr') g hg (by rw [← hseg]; exact hsid)).congrReader hp hs ho

theorem StreamOk.monoSid {m : Nat} (h : StreamOk k l w rs n hb hi) (hnm : n ≤ m) : StreamOk k l w rs m hb hi :=
  ⟨h.contig, h.segOk, h.lastEnd, h.nodup, fun g hg => Nat.lt_of_lt_of_le (h.bound g hg) hnm, h.writer,
   fun r hr ha => ⟨Nat.lt_of_lt_of_le (h.readers r hr ha).1 hnm, (h.readers r hr ha).2⟩⟩

end

structure MRdbOk (ro : Option MRdb) (n : Nat) : Prop where
  nonempty : ∀ r, ro = some r → r.segs ≠ []
  live : ∀ r, ro = some r → r.writing = true ∨ r.size ≤ r.written
  whole : ∀ r, ro = some r → r.replayable = true → mBuffered r.segs = r.written
  nodup : ∀ r, ro = some r → (r.segs.map (·.sid)).Nodup
  bound : ∀ r, ro = some r → ∀ g ∈ r.segs, g.sid < n
  cur : ∀ r, ro = some r → r.writing = true → ∃ g, r.segs.getLast? = some g ∧ g.sid = r.cur ∧ g.closed = false

theorem MRdbOk.none (n : Nat) : MRdbOk none n :=
  ⟨(by intro r h; cases h), (by intro r h; cases h), (by intro r h; cases h), (by intro r h; cases h),
   (by intro r h; cases h), (by intro r h; cases h)⟩

theorem MRdbOk.some {r : MRdb} {n : Nat} (h1 : r.segs ≠ []) (h2 : r.writing = true ∨ r.size ≤ r.written)
    (h3 : r.replayable = true → mBuffered r.segs = r.written) (h4 : (r.segs.map (·.sid)).Nodup) (h5 : ∀ g ∈ r.segs, g.sid < n)
    (h6 : r.writing = true → ∃ g, r.segs.getLast? = some g ∧ g.sid = r.cur ∧ g.closed = false) : MRdbOk (some r) n :=
  ⟨fun _ h => by cases h; exact h1, fun _ h => by cases h; exact h2, fun _ h => by cases h; exact h3,
   fun _ h => by cases h; exact h4, fun _ h => by cases h; exact h5, fun _ h => by cases h; exact h6⟩

theorem MRdbOk.mono {ro : Option MRdb} {n m : Nat} (h : MRdbOk ro n) (hnm : n ≤ m) : MRdbOk ro m :=
  ⟨h.nonempty, h.live, h.whole, h.nodup, fun r hr g hg => Nat.lt_of_lt_of_le (h.bound r hr g hg) hnm, h.cur⟩

/-- a live snapshot writer appends to the last segment, and an update at its identity changes that segment only -/
theorem MRdbOk.writerSeg {ro : Option MRdb} {n : Nat} {r : MRdb} (h : MRdbOk ro n) (hr : ro = Option.some r) (hw : r.writing = true)
    (f : MSeg → MSeg) :
    ∃ init last, r.segs = init ++ [last] ∧ last.sid = r.cur ∧ last.closed = false ∧ mUpdate r.segs r.cur f = init ++ [f last] := by
  obtain ⟨last, hlast, hls, hlc⟩ := h.cur r hr hw
  obtain ⟨init, hinit⟩ := List.getLast?_eq_some_iff.mp hlast
  have hnd := h.nodup r hr
  rw [hinit] at hnd
  exact ⟨init, last, hinit, hls, hlc, by rw [hinit, ← hls]; exact mUpdate_last hnd f⟩

/-- the global invariant of the memory backend -/
structure MemInv (s : Mem) : Prop where
  stream : StreamInv s
  rdb : MRdbOk s.rdb s.nextSid

/-- how the collector may change the snapshot -/
def RdbStep (a b : Option MRdb) : Prop :=
  b = a ∨ b = none ∨ ∃ r r', a = some r ∧ b = some r' ∧ r'.replayable = false ∧ r'.cur = r.cur ∧
    r'.writing = r.writing ∧ r'.size = r.size ∧ r'.written = r.written ∧ r'.left = r.left

theorem RdbStep.refl (a : Option MRdb) : RdbStep a a := Or.inl rfl

theorem RdbStep.trans {a b c : Option MRdb} (h1 : RdbStep a b) (h2 : RdbStep b c) : RdbStep a c := by
  rcases h2 with rfl | rfl | ⟨r, r', hb, hc, p1, p2, p3, p4, p5, p6⟩
  · exact h1
  · exact Or.inr (Or.inl rfl)
  · rcases h1 with rfl | rfl | ⟨q, q', ha, hb', q1, q2, q3, q4, q5, q6⟩
    · exact Or.inr (Or.inr ⟨r, r', hb, hc, p1, p2, p3, p4, p5, p6⟩)
    · cases hb
    · rw [hb'] at hb; cases hb
      exact Or.inr (Or.inr ⟨q, r', ha, hc, p1, by rw [p2, q2], by rw [p3, q3], by rw [p4, q4], by rw [p5, q5], by rw [p6, q6]⟩)

/-- what the collector leaves alone -/
structure GcFrame (s s' : Mem) : Prop where
  aofW : s'.aofW = s.aofW
  readers : s'.readers = s.readers
  nextSid : s'.nextSid = s.nextSid
  hbase : s'.hbase = s.hbase
  hist : s'.hist = s.hist
  logSize : s'.logSize = s.logSize
  maxSize : s'.maxSize = s.maxSize
  runId : s'.runId = s.runId
  pendA : s'.pendA = s.pendA
  pendR : s'.pendR = s.pendR
  rdb : RdbStep s.rdb s'.rdb
  segs : ∃ pre, s.segs = pre ++ s'.segs

theorem GcFrame.refl (s : Mem) : GcFrame s s :=
  ⟨rfl, rfl, rfl, rfl, rfl, rfl, rfl, rfl, rfl, rfl, RdbStep.refl _, ⟨[], rfl⟩⟩

theorem GcFrame.trans {a b c : Mem} (h1 : GcFrame a b) (h2 : GcFrame b c) : GcFrame a c :=
  ⟨h2.aofW.trans h1.aofW, h2.readers.trans h1.readers, h2.nextSid.trans h1.nextSid, h2.hbase.trans h1.hbase,
   h2.hist.trans h1.hist, h2.logSize.trans h1.logSize, h2.maxSize.trans h1.maxSize, h2.runId.trans h1.runId,
   h2.pendA.trans h1.pendA, h2.pendR.trans h1.pendR, h1.rdb.trans h2.rdb,
   by obtain ⟨p1, e1⟩ := h1.segs; obtain ⟨p2, e2⟩ := h2.segs; exact ⟨p1 ++ p2, by rw [e1, e2, List.append_assoc]⟩⟩

theorem gcOnce_frame {s s' : Mem} (h : s.gcOnce = some s') : GcFrame s s' := by
  rcases (gcOnce_cases h).imp gcAof_eq gcRdb_eq with ⟨first, rest, hs, _, _, _, rfl⟩ | ⟨r, first, rest, hr, _, _, _, rfl⟩
  · exact ⟨rfl, rfl, rfl, rfl, rfl, rfl, rfl, rfl, rfl, rfl, RdbStep.refl _, ⟨[first], hs⟩⟩
  · refine ⟨rfl, rfl, rfl, rfl, rfl, rfl, rfl, rfl, rfl, rfl, ?_, ⟨[], rfl⟩⟩
    cases rest with
    | nil => exact Or.inr (Or.inl rfl)
    | cons x xs => exact Or.inr (Or.inr ⟨r, _, hr, rfl, rfl, rfl, rfl, rfl, rfl, rfl⟩)

theorem gcOnce_inv {s s' : Mem} (h : s.gcOnce = some s') (hi : MemInv s) : MemInv s' := by
  rcases (gcOnce_cases h).imp gcAof_eq gcRdb_eq with ⟨first, rest, hs, _, _, hcur, rfl⟩ | ⟨r, first, rest, hr, hrs, _, _, rfl⟩
  · refine ⟨?_, hi.rdb⟩
    have hst : StreamOk true s.segs s.aofW s.readers s.nextSid s.hbase s.hist := hi.stream
    rw [hs] at hst
    exact hst.dropPrefix (pre := [first]) (by intro g hg; rw [List.mem_singleton] at hg; subst hg; exact hcur)
  · refine ⟨hi.stream, ?_⟩
    have hR := hi.rdb
    dsimp only
    cases rest with
    | nil => exact MRdbOk.none _
    | cons x xs =>
      have hnd := hR.nodup r hr
      rw [hrs] at hnd
      refine MRdbOk.some ?_ ?_ ?_ ?_ ?_ ?_
      · simp
      · exact hR.live r hr
      · intro hrep; cases hrep
      · exact (List.nodup_cons.mp hnd).2
      · intro g hg
        exact hR.bound r hr g (by rw [hrs]; exact List.mem_cons_of_mem _ hg)
      · intro hw
        obtain ⟨g, hg, hs1, hs2⟩ := hR.cur r hr hw
        rw [hrs, List.getLast?_cons_cons] at hg
        exact ⟨g, hg, hs1, hs2⟩

theorem gc_frame (s : Mem) (need : Nat) : GcFrame s (s.gc need) :=
  gc_rel GcFrame.refl GcFrame.trans gcOnce_frame s need

theorem ensure_frame (s : Mem) (need : Nat) : GcFrame s (s.ensure need).1 :=
  ensure_rel GcFrame.refl GcFrame.trans gcOnce_frame s need

theorem gc_inv (s : Mem) (need : Nat) (hi : MemInv s) : MemInv (s.gc need) ∧ GcFrame s (s.gc need) :=
  ⟨gc_keeps gcOnce_inv s need hi, gc_frame s need⟩

theorem ensure_inv (s : Mem) (need : Nat) (hi : MemInv s) : MemInv (s.ensure need).1 :=
  ensure_keeps gcOnce_inv s need hi

/-- the rotation inside `appendAof` -/
def aofRotate (s : Mem) (cur : Nat) (seg : MSeg) (rotate : Bool) : Mem × Nat :=
  if rotate then
    ({ s with segs := (mUpdate s.segs cur (fun g => { g with closed := true })) ++
                [{ sid := s.nextSid, left := seg.right, data := [], closed := false, next := none }],
              aofW := some s.nextSid, nextSid := s.nextSid + 1 }, s.nextSid)
  else (s, cur)

/-- one piece appended to the writer's segment -/
def aofPut (s2 : Mem) (cur1 : Nat) (piece : Bytes) : Mem :=
  { s2 with segs := mUpdate s2.segs cur1 (fun g => { g with data := g.data ++ piece }),
            total := s2.total + piece.length, hist := s2.hist ++ piece }

theorem appendAofLoop_succ (fuel : Nat) (s : Mem) (buf : Bytes) (done : Nat) :
    Mem.appendAofLoop (fuel + 1) s buf done =
      if buf.isEmpty then (s, done, false) else
      match s.aofW with
      | none => (s, done, false)
      | some cur =>
        match mFind s.segs cur with
        | none => (s, done, false)
        | some seg =>
          let ps := pieceSpace s.logSize seg.data.length buf.length
          let s1 := aofRotate s cur seg ps.2
          let e := s1.1.ensure ps.1
          if !e.2 then (e.1, done, true) else
          Mem.appendAofLoop fuel (aofPut e.1 s1.2 (buf.take ps.1)) (buf.drop ps.1) (done + (buf.take ps.1).length) := by
  rw [Mem.appendAofLoop]
  by_cases hb : buf.isEmpty = true
  · simp only [hb, if_true]
  · simp only [hb, if_false, Bool.false_eq_true]
    cases s.aofW with
    | none => rfl
    | some cur =>
      dsimp only
      cases mFind s.segs cur with
      | none => rfl
      | some seg =>
        generalize pieceSpace s.logSize seg.data.length buf.length = ps
        obtain ⟨space, rotate⟩ := ps
        dsimp only [aofRotate, aofPut]
        cases rotate <;> rfl

theorem take_piece (buf : Bytes) (sp k : Nat) :
    buf.take sp ++ (buf.drop sp).take k = buf.take ((buf.take sp).length + k) := by
  by_cases h : sp ≤ buf.length
  · rw [List.length_take, Nat.min_eq_left h, List.take_add]
  · have h' : buf.length ≤ sp := by omega
    rw [List.take_of_length_le h', List.drop_eq_nil_of_le h', List.take_of_length_le (Nat.le_add_right _ _)]
    simp

theorem aofRotate_aofW (s : Mem) (cur : Nat) (seg : MSeg) (rotate : Bool) (hw : s.aofW = some cur) :
    (aofRotate s cur seg rotate).1.aofW = some (aofRotate s cur seg rotate).2 := by
  unfold aofRotate
  split
  · rfl
  · exact hw

/-- The append loop of the stream writer is a sequence of rotations, collector runs and pieces
    appended to the writer's segment. Read `R s bs s'` as “`s'` is reached from `s`, appending
    `bs`”: if `R` is reflexive, composes and holds of these three steps, it holds of the loop,
    `bs` being the prefix of `buf` of the length the loop reports. -/
theorem appendAofLoop_run {R : Mem → Bytes → Mem → Prop} (refl : ∀ s, R s [] s)
    (trans : ∀ {a b c x y}, R a x b → R b y c → R a (x ++ y) c)
    (rot : ∀ s cur seg n, s.aofW = some cur → mFind s.segs cur = some seg →
      R s [] (aofRotate s cur seg (pieceSpace s.logSize seg.data.length n).2).1)
    (ens : ∀ s n, R s [] (s.ensure n).1)
    (put : ∀ s cur piece, s.aofW = some cur → R s piece (aofPut s cur piece)) (fuel : Nat) :
    ∀ (s : Mem) (buf : Bytes) (done : Nat), done ≤ (Mem.appendAofLoop fuel s buf done).2.1 ∧
      R s (buf.take ((Mem.appendAofLoop fuel s buf done).2.1 - done)) (Mem.appendAofLoop fuel s buf done).1 := by
  have stop : ∀ {s s' : Mem} {buf : Bytes} {done : Nat}, R s [] s' → done ≤ done ∧ R s (buf.take (done - done)) s' := by
    intro s s' buf done h; rw [Nat.sub_self]; exact ⟨Nat.le_refl _, h⟩
  induction fuel with
  | zero => intro s buf done; exact stop (refl s)
  | succ fuel ih =>
    intro s buf done
    rw [appendAofLoop_succ]
    split
    · exact stop (refl s)
    · cases haw : s.aofW with
      | none => exact stop (refl s)
      | some cur =>
        dsimp only
        cases hf : mFind s.segs cur with
        | none => exact stop (refl s)
        | some seg =>
          dsimp only
          have h1 := rot s cur seg buf.length haw hf
          generalize pieceSpace s.logSize seg.data.length buf.length = ps at h1 ⊢
          have h2 : R s [] _ := trans h1 (ens _ ps.1)
          split
          · exact stop h2
          · -- the collector leaves the writer alone: the piece goes to the segment the rotation made current
            have hw : ((aofRotate s cur seg ps.2).1.ensure ps.1).1.aofW = some (aofRotate s cur seg ps.2).2 :=
              (ensure_frame _ _).aofW.trans (aofRotate_aofW s cur seg ps.2 haw)
            have h3 : R s (buf.take ps.1) _ := trans h2 (put _ _ (buf.take ps.1) hw)
            have hi := ih (aofPut ((aofRotate s cur seg ps.2).1.ensure ps.1).1 (aofRotate s cur seg ps.2).2 (buf.take ps.1))
              (buf.drop ps.1) (done + (buf.take ps.1).length)
            generalize Mem.appendAofLoop fuel _ _ _ = res at hi ⊢
            have h := trans h3 hi.2
            rw [take_piece] at h
            rw [show res.2.1 - done = (buf.take ps.1).length + (res.2.1 - (done + (buf.take ps.1).length)) by omega]
            exact ⟨by omega, h⟩

theorem aofRotate_inv (s : Mem) (cur : Nat) (seg : MSeg) (rotate : Bool) (hi : MemInv s) (hw : s.aofW = some cur)
    (hf : mFind s.segs cur = some seg) : MemInv (aofRotate s cur seg rotate).1 := by
  unfold aofRotate
  cases rotate with
  | false => exact hi
  | true =>
    simp only [if_true]
    refine ⟨?_, hi.rdb.mono (Nat.le_succ _)⟩
    have hst := hi.stream
    unfold StreamInv at hst ⊢
    dsimp only
    obtain ⟨hm, hs⟩ := mFind_some hf
    exact (hst.closeSeg cur).pushSeg _ rfl rfl (hst.lastEnd seg (hst.writerLast hm (by rw [hs]; exact hw)))

theorem aofPut_inv (s2 : Mem) (cur1 : Nat) (piece : Bytes) (hi : MemInv s2) (hw : s2.aofW = some cur1) :
    MemInv (aofPut s2 cur1 piece) := by
  refine ⟨?_, hi.rdb⟩
  have hst := hi.stream
  unfold StreamInv at hst ⊢
  unfold aofPut
  dsimp only
  rw [hw] at hst ⊢
  exact hst.appendPiece piece

theorem appendAofLoop_keeps {P : Mem → Prop}
    (rot : ∀ s cur seg n, s.aofW = some cur → mFind s.segs cur = some seg → P s →
      P (aofRotate s cur seg (pieceSpace s.logSize seg.data.length n).2).1)
    (ens : ∀ s n, P s → P (s.ensure n).1) (put : ∀ s cur piece, s.aofW = some cur → P s → P (aofPut s cur piece))
    (fuel : Nat) (s : Mem) (buf : Bytes) (done : Nat) (h : P s) : P (Mem.appendAofLoop fuel s buf done).1 :=
  (appendAofLoop_run (R := fun a _ b => P a → P b) (fun _ h => h) (fun f g h => g (f h)) rot ens put fuel s buf done).2 h

theorem appendAofLoop_inv (fuel : Nat) (s : Mem) (buf : Bytes) (done : Nat) (hi : MemInv s) :
    MemInv (Mem.appendAofLoop fuel s buf done).1 :=
  appendAofLoop_keeps (fun s cur seg _ hw hf hi => aofRotate_inv s cur seg _ hi hw hf) ensure_inv
    (fun s cur piece hw hi => aofPut_inv s cur piece hi hw) fuel s buf done hi

/-- what a step leaves of the ghost history / identities (used to chain steps) -/
structure Keeps (s s' : Mem) : Prop where
  nextSid : s.nextSid ≤ s'.nextSid
  hbase : s'.hbase = s.hbase
  hist : s'.hist = s.hist
  readers : s'.readers = s.readers

theorem GcFrame.keeps {s s' : Mem} (h : GcFrame s s') : Keeps s s' := ⟨Nat.le_of_eq h.nextSid.symm, h.hbase, h.hist, h.readers⟩

theorem Keeps.refl (s : Mem) : Keeps s s := ⟨Nat.le_refl _, rfl, rfl, rfl⟩

theorem Keeps.trans {a b c : Mem} (h1 : Keeps a b) (h2 : Keeps b c) : Keeps a c :=
  ⟨Nat.le_trans h1.nextSid h2.nextSid, h2.hbase.trans h1.hbase, h2.hist.trans h1.hist, h2.readers.trans h1.readers⟩

/-- the state inside `finishAof` after the segment is closed -/
def finishAofClosed (s : Mem) (cur : Nat) (aw : Option Nat) : Mem :=
  { s with segs := mUpdate s.segs cur (fun g => { g with closed := true }),
           heap := mUpdate s.heap cur (fun g => { g with closed := true }),
           aofW := aw, pendA := none }

theorem finishAof_cases (s : Mem) (cur : Nat) (isCurrent : Bool) :
    ∃ X : Mem, s.finishAof cur isCurrent = X.gc 0 ∧
      ((X = finishAofClosed s cur (if isCurrent then none else s.aofW) ∧ ∀ g, mFind X.segs cur = some g → g.data ≠ []) ∨
       ∃ g, mFind (finishAofClosed s cur (if isCurrent then none else s.aofW)).segs cur = some g ∧ g.data = [] ∧
        X = { finishAofClosed s cur (if isCurrent then none else s.aofW) with
              segs := (mUpdate s.segs cur (fun g => { g with closed := true })).filter (fun x => x.sid != cur),
              heap := g :: mUpdate s.heap cur (fun g => { g with closed := true }) }) := by
  have hdef : s.finishAof cur isCurrent =
      (match mFind (finishAofClosed s cur (if isCurrent then none else s.aofW)).segs cur with
        | some g => if g.data.isEmpty then
            { finishAofClosed s cur (if isCurrent then none else s.aofW) with
              segs := (mUpdate s.segs cur (fun g => { g with closed := true })).filter (fun x => x.sid != cur),
              heap := g :: mUpdate s.heap cur (fun g => { g with closed := true }) }
          else finishAofClosed s cur (if isCurrent then none else s.aofW)
        | none => finishAofClosed s cur (if isCurrent then none else s.aofW)).gc 0 := rfl
  rw [hdef]
  cases hf : mFind (finishAofClosed s cur (if isCurrent then none else s.aofW)).segs cur with
  | none => exact ⟨_, rfl, Or.inl ⟨rfl, fun g hg => by rw [hf] at hg; cases hg⟩⟩
  | some g =>
    dsimp only
    cases he : g.data.isEmpty with
    | false =>
      rw [if_neg Bool.false_ne_true]
      exact ⟨_, rfl, Or.inl ⟨rfl, fun g' hg' => by rw [hf] at hg'; cases hg'; intro e; rw [e] at he; cases he⟩⟩
    | true =>
      rw [if_pos rfl]
      exact ⟨_, rfl, Or.inr ⟨g, rfl, List.isEmpty_iff.mp he, rfl⟩⟩

theorem finishAof_frame (s : Mem) (cur : Nat) (isCurrent : Bool) :
    Keeps s (s.finishAof cur isCurrent) ∧ (s.finishAof cur isCurrent).aofW = (if isCurrent then none else s.aofW) ∧
      (s.finishAof cur isCurrent).pendA = none := by
  obtain ⟨X, e, h⟩ := finishAof_cases s cur isCurrent
  have k : Keeps s X ∧ X.aofW = (if isCurrent then none else s.aofW) ∧ X.pendA = none := by
    rcases h with ⟨rfl, _⟩ | ⟨g, _, _, rfl⟩ <;> exact ⟨⟨Nat.le_refl _, rfl, rfl, rfl⟩, rfl, rfl⟩
  have f := gc_frame X 0
  rw [e]
  exact ⟨k.1.trans f.keeps, f.aofW.trans k.2.1, f.pendA.trans k.2.2⟩

theorem finishAof_inv (s : Mem) (cur : Nat) (isCurrent : Bool) (hi : MemInv s)
    (hw : isCurrent = false → s.aofW ≠ some cur) :
    MemInv (s.finishAof cur isCurrent) ∧ Keeps s (s.finishAof cur isCurrent) ∧
      (s.finishAof cur isCurrent).aofW = (if isCurrent then none else s.aofW) ∧
      (s.finishAof cur isCurrent).pendA = none := by
  refine ⟨?_, finishAof_frame s cur isCurrent⟩
  have h1 : StreamOk true (mUpdate s.segs cur (fun g => { g with closed := true })) (if isCurrent then none else s.aofW)
      s.readers s.nextSid s.hbase s.hist := by
    cases isCurrent with
    | true => exact (hi.stream.closeSeg cur).noWriter
    | false => exact hi.stream.closeSeg cur
  obtain ⟨X, e, h⟩ := finishAof_cases s cur isCurrent
  rw [e]
  rcases h with ⟨rfl, _⟩ | ⟨g, hf, he, rfl⟩
  · exact (gc_inv (finishAofClosed s cur _) 0 ⟨h1, hi.rdb⟩).1
  · refine (gc_inv { finishAofClosed s cur _ with segs := _, heap := _ } 0
      ⟨h1.filterEmpty cur (fun x hx hs => ?_) ?_, hi.rdb⟩).1
    · obtain ⟨hgm, hgs⟩ := mFind_some hf
      rw [sid_unique h1.nodup hx hgm (by rw [hs, hgs])]; exact he
    · cases isCurrent with
      | true => simp
      | false => simpa using hw rfl

theorem reset_inv (s : Mem) (hi : MemInv s) : MemInv s.reset := by
  refine ⟨?_, MRdbOk.none _⟩
  unfold StreamInv Mem.reset
  dsimp only
  exact StreamOk.empty _ _ _ _ hi.stream.seg_bound

theorem mBuffered_append (a b : List MSeg) : mBuffered (a ++ b) = mBuffered a + mBuffered b := by
  unfold mBuffered; simp

theorem mBuffered_map_data (l : List MSeg) (f : MSeg → MSeg) (hd : ∀ g, (f g).data = g.data) :
    mBuffered (l.map f) = mBuffered l := by
  unfold mBuffered
  rw [List.map_map]
  congr 1
  apply List.map_congr_left
  intro g _; simp [Function.comp, hd]

theorem mUpdate_close_buffered (l : List MSeg) (sid : Nat) (f : MSeg → MSeg) (hd : ∀ g, (f g).data = g.data) :
    mBuffered (mUpdate l sid f) = mBuffered l := by
  rw [mUpdate_eq_map]
  apply mBuffered_map_data
  intro g; split
  · exact hd g
  · rfl

theorem finishRdb_frame (s : Mem) (failed : Bool) :
    Keeps s (s.finishRdb failed) ∧ (s.finishRdb failed).aofW = s.aofW ∧ (s.finishRdb failed).segs = s.segs := by
  rcases finishRdb_cases s failed with e | ⟨r, _, _, e | ⟨_, _, e⟩⟩ <;> rw [e] <;>
    exact ⟨⟨Nat.le_refl _, rfl, rfl, rfl⟩, rfl, rfl⟩

theorem finishRdb_inv (s : Mem) (failed : Bool) (hi : MemInv s) : MemInv (s.finishRdb failed) := by
  rcases finishRdb_cases s failed with e | ⟨r, hr, hw, e | ⟨_, hc, e⟩⟩ <;> rw [e]
  · exact hi
  · exact ⟨hi.stream, MRdbOk.none _⟩
  · refine ⟨hi.stream, ?_⟩
    have hR := hi.rdb
    refine MRdbOk.some ?_ ?_ ?_ ?_ ?_ ?_
    · have := hR.nonempty r hr
      unfold mUpdate; simpa using this
    · exact Or.inr hc
    · intro hrep
      dsimp only
      rw [mUpdate_close_buffered r.segs r.cur (fun g => ({ g with closed := true } : MSeg)) (fun g => rfl)]
      exact hR.whole r hr hrep
    · dsimp only
      rw [mUpdate_sids (l := r.segs) (sid := r.cur) (f := fun g => ({ g with closed := true } : MSeg)) (fun g => rfl)]
      exact hR.nodup r hr
    · intro g hg
      obtain ⟨g0, hg0, rfl⟩ := mem_mUpdate.mp hg
      have := hR.bound r hr g0 hg0
      split <;> exact this
    · intro hw'; cases hw'

/-- the snapshot after the rotation inside `appendRdb` -/
def rdbRotated (r : MRdb) (seg : MSeg) (n : Nat) : MRdb :=
  { r with segs := (mUpdate r.segs r.cur (fun g => { g with closed := true, next := some n })) ++
                     [{ sid := n, left := seg.right, data := [], closed := false, next := none }],
           cur := n }

def rdbRotate (s : Mem) (r : MRdb) (seg : MSeg) (rotate : Bool) : Mem × MRdb :=
  if rotate then
    ({ s with rdb := some (rdbRotated r seg s.nextSid), nextSid := s.nextSid + 1 }, rdbRotated r seg s.nextSid)
  else (s, r)

def rdbPut (s2 : Mem) (r2 : MRdb) (cur1 : Nat) (piece : Bytes) : Mem :=
  { s2 with rdb := some { r2 with segs := mUpdate r2.segs cur1 (fun g => { g with data := g.data ++ piece }),
                                  written := r2.written + piece.length },
            total := s2.total + piece.length }

theorem appendRdbLoop_succ (fuel : Nat) (s : Mem) (buf : Bytes) (done : Nat) :
    Mem.appendRdbLoop (fuel + 1) s buf done =
      if buf.isEmpty then (s, done, false) else
      match s.rdb with
      | none => (s, done, false)
      | some r =>
        if !r.writing then (s, done, false) else
        match mFind r.segs r.cur with
        | none => (s, done, false)
        | some seg =>
          let ps := pieceSpace s.logSize seg.data.length buf.length
          let s1 := rdbRotate s r seg ps.2
          let e := s1.1.ensure ps.1
          if !e.2 then (e.1, done, true) else
          match e.1.rdb with
          | none => (e.1, done, true)
          | some r2 =>
            Mem.appendRdbLoop fuel (rdbPut e.1 r2 s1.2.cur (buf.take ps.1)) (buf.drop ps.1)
              (done + (buf.take ps.1).length) := by
  rw [Mem.appendRdbLoop]
  dsimp only [rdbRotate, rdbPut, rdbRotated]
  by_cases hb : buf.isEmpty = true
  · simp only [hb, if_true]
  · simp only [hb, if_false, Bool.false_eq_true]
    cases s.rdb with
    | none => rfl
    | some r =>
      dsimp only
      cases r.writing with
      | false => rfl
      | true =>
        simp only [Bool.not_true, Bool.false_eq_true, if_false]
        cases mFind r.segs r.cur with
        | none => rfl
        | some seg =>
          cases (pieceSpace s.logSize seg.data.length buf.length).2 <;> rfl

theorem rdbRotate_inv (s : Mem) (r : MRdb) (seg : MSeg) (rotate : Bool) (hi : MemInv s) (hr : s.rdb = some r)
    (hw : r.writing = true) : MemInv (rdbRotate s r seg rotate).1 := by
  unfold rdbRotate
  cases rotate with
  | false => exact hi
  | true =>
    simp only [if_true]
    refine ⟨StreamOk.monoSid hi.stream (Nat.le_succ _), ?_⟩
    have hR := hi.rdb
    rw [hr] at hR
    dsimp only
    obtain ⟨last, hlast, hls, hlc⟩ := hR.cur r rfl hw
    have hsids : (mUpdate r.segs r.cur (fun g => ({ g with closed := true, next := some s.nextSid } : MSeg))).map (·.sid)
        = r.segs.map (·.sid) := mUpdate_sids (fun g => rfl)
    refine MRdbOk.some ?_ ?_ ?_ ?_ ?_ ?_
    · simp [rdbRotated]
    · exact Or.inl hw
    · intro hrep
      simp only [rdbRotated, mBuffered_append]
      have := mUpdate_close_buffered r.segs r.cur (fun g => ({ g with closed := true, next := some s.nextSid } : MSeg)) (fun g => rfl)
      rw [this]
      have := hR.whole r rfl hrep
      simp [mBuffered] at this ⊢
      exact this
    · simp only [rdbRotated, List.map_append, hsids]
      rw [List.nodup_append]
      refine ⟨hR.nodup r rfl, by simp, ?_⟩
      intro a ha b hb e
      simp at hb; subst hb
      obtain ⟨g, hg, rfl⟩ := List.mem_map.mp ha
      have := hR.bound r rfl g hg
      omega
    · intro g hg
      simp only [rdbRotated] at hg
      rcases List.mem_append.mp hg with hg | hg
      · obtain ⟨g0, hg0, rfl⟩ := mem_mUpdate.mp hg
        have := hR.bound r rfl g0 hg0
        split
        · show g0.sid < s.nextSid + 1; omega
        · show g0.sid < s.nextSid + 1; omega
      · rw [List.mem_singleton] at hg; subst hg
        show s.nextSid < s.nextSid + 1; omega
    · intro _
      exact ⟨_, by simp only [rdbRotated]; rw [getLast?_append_cons']; rfl, rfl, rfl⟩

theorem rdbPut_inv (s2 : Mem) (r2 : MRdb) (piece : Bytes) (hi : MemInv s2) (hr : s2.rdb = some r2)
    (hw : r2.writing = true) : MemInv (rdbPut s2 r2 r2.cur piece) := by
  refine ⟨hi.stream, ?_⟩
  have hR := hi.rdb
  rw [hr] at hR
  unfold rdbPut
  dsimp only
  obtain ⟨init, last, hinit, hls, hlc, hupd⟩ := hR.writerSeg rfl hw (fun g => ({ g with data := g.data ++ piece } : MSeg))
  have hnd := hR.nodup r2 rfl
  refine MRdbOk.some ?_ ?_ ?_ ?_ ?_ ?_
  · dsimp only; rw [hupd]; simp
  · exact Or.inl hw
  · intro hrep
    dsimp only
    have := hR.whole r2 rfl hrep
    rw [hupd, mBuffered_append]
    rw [hinit, mBuffered_append] at this
    simp [mBuffered] at this ⊢
    omega
  · dsimp only
    rw [hupd]
    rw [hinit] at hnd
    simpa using hnd
  · intro g hg
    dsimp only at hg
    rw [hupd] at hg
    rcases List.mem_append.mp hg with hg | hg
    · exact hR.bound r2 rfl g (by rw [hinit]; exact List.mem_append_left _ hg)
    · rw [List.mem_singleton] at hg; subst hg
      exact hR.bound r2 rfl last (by rw [hinit]; simp)
  · intro _
    dsimp only
    rw [hupd]
    exact ⟨({ last with data := last.data ++ piece } : MSeg), by rw [getLast?_append_cons']; rfl, hls, hlc⟩

theorem RdbStep.writer {a b : Option MRdb} {r r2 : MRdb} (h : RdbStep a b) (ha : a = some r) (hb : b = some r2) :
    r2.cur = r.cur ∧ r2.writing = r.writing := by
  rcases h with rfl | rfl | ⟨q, q', hq, hq', _, hc, hw, _⟩
  · rw [ha] at hb; cases hb; exact ⟨rfl, rfl⟩
  · cases hb
  · rw [ha] at hq; cases hq; rw [hb] at hq'; cases hq'; exact ⟨hc, hw⟩

theorem rdbRotate_rdb (s : Mem) (r : MRdb) (seg : MSeg) (rotate : Bool) (hr : s.rdb = some r) :
    (rdbRotate s r seg rotate).1.rdb = some (rdbRotate s r seg rotate).2 ∧
      (rdbRotate s r seg rotate).2.writing = r.writing := by
  unfold rdbRotate
  split
  · exact ⟨rfl, rfl⟩
  · exact ⟨hr, rfl⟩

/-- The append loop of the snapshot writer, like `appendAofLoop_run`: rotations, collector
    runs (which keep the writer's segment, or drop the whole snapshot and so end the loop)
    and pieces appended to the writer's segment. -/
theorem appendRdbLoop_run {R : Mem → Bytes → Mem → Prop} (refl : ∀ s, R s [] s)
    (trans : ∀ {a b c x y}, R a x b → R b y c → R a (x ++ y) c)
    (rot : ∀ s r seg n, s.rdb = some r → r.writing = true → mFind r.segs r.cur = some seg →
      R s [] (rdbRotate s r seg (pieceSpace s.logSize seg.data.length n).2).1)
    (ens : ∀ s n, R s [] (s.ensure n).1)
    (put : ∀ s r piece, s.rdb = some r → r.writing = true → R s piece (rdbPut s r r.cur piece)) (fuel : Nat) :
    ∀ (s : Mem) (buf : Bytes) (done : Nat), done ≤ (Mem.appendRdbLoop fuel s buf done).2.1 ∧
      R s (buf.take ((Mem.appendRdbLoop fuel s buf done).2.1 - done)) (Mem.appendRdbLoop fuel s buf done).1 := by
  have stop : ∀ {s s' : Mem} {buf : Bytes} {done : Nat}, R s [] s' → done ≤ done ∧ R s (buf.take (done - done)) s' := by
    intro s s' buf done h; rw [Nat.sub_self]; exact ⟨Nat.le_refl _, h⟩
  induction fuel with
  | zero => intro s buf done; exact stop (refl s)
  | succ fuel ih =>
    intro s buf done
    rw [appendRdbLoop_succ]
    split
    · exact stop (refl s)
    · cases hr : s.rdb with
      | none => exact stop (refl s)
      | some r =>
        dsimp only
        cases hw : r.writing with
        | false => exact stop (refl s)
        | true =>
          simp only [Bool.not_true, Bool.false_eq_true, if_false]
          cases hf : mFind r.segs r.cur with
          | none => exact stop (refl s)
          | some seg =>
            dsimp only
            have h1 := rot s r seg buf.length hr hw hf
            generalize pieceSpace s.logSize seg.data.length buf.length = ps at h1 ⊢
            have h2 : R s [] _ := trans h1 (ens _ ps.1)
            split
            · exact stop h2
            · cases hr2 : ((rdbRotate s r seg ps.2).1.ensure ps.1).1.rdb with
              | none => exact stop h2
              | some r2 =>
                dsimp only
                obtain ⟨e1, w1⟩ := rdbRotate_rdb s r seg ps.2 hr
                obtain ⟨hc, hw2⟩ := (ensure_frame (rdbRotate s r seg ps.2).1 ps.1).rdb.writer e1 hr2
                rw [← hc]
                have h3 : R s (buf.take ps.1) _ := trans h2 (put _ r2 (buf.take ps.1) hr2 (by rw [hw2, w1, hw]))
                have hi := ih (rdbPut ((rdbRotate s r seg ps.2).1.ensure ps.1).1 r2 r2.cur (buf.take ps.1))
                  (buf.drop ps.1) (done + (buf.take ps.1).length)
                generalize Mem.appendRdbLoop fuel _ _ _ = res at hi ⊢
                have h := trans h3 hi.2
                rw [take_piece] at h
                rw [show res.2.1 - done = (buf.take ps.1).length + (res.2.1 - (done + (buf.take ps.1).length)) by omega]
                exact ⟨by omega, h⟩

theorem appendRdbLoop_keeps {P : Mem → Prop}
    (rot : ∀ s r seg n, s.rdb = some r → r.writing = true → mFind r.segs r.cur = some seg → P s →
      P (rdbRotate s r seg (pieceSpace s.logSize seg.data.length n).2).1)
    (ens : ∀ s n, P s → P (s.ensure n).1)
    (put : ∀ s r piece, s.rdb = some r → r.writing = true → P s → P (rdbPut s r r.cur piece))
    (fuel : Nat) (s : Mem) (buf : Bytes) (done : Nat) (h : P s) : P (Mem.appendRdbLoop fuel s buf done).1 :=
  (appendRdbLoop_run (R := fun a _ b => P a → P b) (fun _ h => h) (fun f g h => g (f h)) rot ens put fuel s buf done).2 h

theorem appendRdbLoop_inv (fuel : Nat) (s : Mem) (buf : Bytes) (done : Nat) (hi : MemInv s) :
    MemInv (Mem.appendRdbLoop fuel s buf done).1 :=
  appendRdbLoop_keeps (fun s r seg _ hr hw _ hi => rdbRotate_inv s r seg _ hi hr hw) ensure_inv
    (fun s r piece hr hw hi => rdbPut_inv s r piece hi hr hw) fuel s buf done hi

theorem appendRdbLoop_frame (fuel : Nat) (s : Mem) (buf : Bytes) (done : Nat) : Keeps s (Mem.appendRdbLoop fuel s buf done).1 :=
  (appendRdbLoop_run (R := fun a _ b => Keeps a b) Keeps.refl (fun h1 h2 => h1.trans h2)
    (fun s r seg n _ _ _ => by unfold rdbRotate; split <;> first | exact Keeps.refl _ | exact ⟨Nat.le_succ _, rfl, rfl, rfl⟩)
    (fun s n => (ensure_frame s n).keeps) (fun s r piece _ _ => ⟨Nat.le_refl _, rfl, rfl, rfl⟩) fuel s buf done).2

theorem mem_indexAof_some {s : Mem} (hc : MContig s.segs) {off : Nat} {g : MSeg} (h : s.indexAof off = some g) :
    g ∈ s.segs ∧ g.left ≤ off ∧ off ≤ g.right := by
  unfold Mem.indexAof Mem.runRev at h
  have hm := List.mem_of_find?_eq_some h
  have hp := List.find?_some h
  rw [mContigRun_of_contig _ hc, List.mem_reverse] at hm
  simp only [Bool.and_eq_true, decide_eq_true_eq] at hp
  exact ⟨hm, hp.1, hp.2⟩

/-- a segment a reader holds is found under its identity: in the index, in the snapshot or on the heap -/
theorem lookup_cases {s : Mem} {sid : Nat} {g : MSeg} (h : s.lookup sid = some g) :
    g.sid = sid ∧ (g ∈ s.segs ∨ (∃ rd, s.rdb = some rd ∧ g ∈ rd.segs) ∨ g ∈ s.heap) := by
  unfold Mem.lookup at h
  split at h
  · rename_i g' hg'; cases h; exact ⟨(mFind_some hg').2, Or.inl (mFind_some hg').1⟩
  · split at h
    · rename_i g' hg'
      cases h
      split at hg'
      · rename_i rd hrd; exact ⟨(mFind_some hg').2, Or.inr (Or.inl ⟨rd, hrd, (mFind_some hg').1⟩)⟩
      · cases hg'
    · exact ⟨(mFind_some h).2, Or.inr (Or.inr (mFind_some h).1)⟩

theorem lookup_of_indexed {s : Mem} (hn : (s.segs.map (·.sid)).Nodup) {g : MSeg} (hg : g ∈ s.segs) :
    s.lookup g.sid = some g := by
  unfold Mem.lookup
  rw [mFind_of_mem hn hg]

theorem mNextOf_some {l : List MSeg} {sid : Nat} {nx : MSeg} (h : mNextOf l sid = some nx) :
    ∃ pre g0 post, l = pre ++ g0 :: nx :: post ∧ g0.sid = sid := by
  induction l with
  | nil => simp [mNextOf] at h
  | cons a t ih =>
    cases t with
    | nil => simp [mNextOf] at h
    | cons b t' =>
      simp only [mNextOf] at h
      split at h
      · rename_i hs
        cases h
        exact ⟨[], a, t', rfl, by simpa using hs⟩
      · obtain ⟨pre, g0, post, e, hs⟩ := ih h
        exact ⟨a :: pre, g0, post, by rw [e]; rfl, hs⟩

theorem mcontig_adjacent {pre post : List MSeg} {g0 nx : MSeg} (h : MContig (pre ++ g0 :: nx :: post)) :
    g0.right = nx.left := (mcontig_suffix pre _ h).1

theorem open_inv (s : Mem) (rid off : Nat) (hi : MemInv s) : MemInv (s.open rid off).1 := by
  rcases open_shape s rid off with h | ⟨r, h, ho, hs, hk⟩ <;> rw [h]
  · exact hi
  refine ⟨hi.stream.addReader r (fun ha => ?_), hi.rdb⟩
  rcases hk with ⟨g, hidx, _, hseg, hp⟩ | ⟨_, _, _, _, _, ha', _⟩
  · have hst := hi.stream
    obtain ⟨hg, hl, hr⟩ := mem_indexAof_some hst.contig hidx
    refine ⟨hseg ▸ hst.bound g hg, fun _ g' hg' hs' => ?_⟩
    have : g' = g := sid_unique hst.nodup hg' hg (hs'.trans hseg)
    subst this
    exact ⟨hp ▸ hl, hp ▸ hr, by rw [hs, hp]; exact Nat.le_trans (hst.segOk g' hg).lo hl, Nat.le_of_eq hs, by rw [ho, hs]; simp⟩
  · rw [ha'] at ha; cases ha

/-- the copy loop writes the rest of the held segment to the pipe -/
theorem MAofOk.advance {hb : Nat} {hi : Bytes} {r : MReader} {g : MSeg} (hok : MAofOk hb hi r g) (hseg : SegOk hb hi g)
    (r' : MReader) (hp : r'.pos = r.pos + (g.data.drop (r.pos - g.left)).length) (hs : r'.start = r.start)
    (ho : r'.out = r.out ++ g.data.drop (r.pos - g.left)) : MAofOk hb hi r' g := by
  have hlen : (g.data.drop (r.pos - g.left)).length = g.right - r.pos := by
    have := hok.inl; have := hok.inr; unfold MSeg.right at *; simp; omega
  refine ⟨by rw [hp]; have := hok.inl; omega, by rw [hp, hlen]; have := hok.inr; omega,
    by rw [hs]; exact hok.base, by rw [hs, hp]; have := hok.ord; omega, ?_⟩
  rw [ho, hs, hp, hok.out, hlen]
  have hbs' : g.data.drop (r.pos - g.left) = (hi.drop (r.pos - hb)).take (g.right - r.pos) := by
    rw [hseg.data, List.drop_take, List.drop_drop]
    have := hok.inl; have := hseg.lo; have := hok.inr
    congr 1
    · unfold MSeg.right; omega
    · congr 1; omega
  rw [hbs']
  have e1 : r.pos - hb = (r.start - hb) + (r.pos - r.start) := by
    have := hok.base; have := hok.ord; omega
  have e2 : r.pos + (g.right - r.pos) - r.start = (r.pos - r.start) + (g.right - r.pos) := by
    have := hok.ord; have := hok.inr; omega
  rw [e1, e2]
  exact slice_glue _ _ _ _

/-- a drained segment: the copy loop stands at its end -/
theorem MAofOk.drained {hb : Nat} {hi : Bytes} {r : MReader} {g : MSeg} (hok : MAofOk hb hi r g)
    (he : g.data.drop (r.pos - g.left) = []) : r.pos = g.right := by
  have := List.drop_eq_nil_iff.mp he
  have := hok.inl; have := hok.inr; unfold MSeg.right at *; omega

theorem MAofOk.next {hb : Nat} {hi : Bytes} {r : MReader} {g nx : MSeg} (hok : MAofOk hb hi r g)
    (he : g.data.drop (r.pos - g.left) = []) (hadj : g.right = nx.left) (r' : MReader) (hp : r'.pos = r.pos)
    (hs : r'.start = r.start) (ho : r'.out = r.out) : MAofOk hb hi r' nx := by
  have := hok.drained he
  exact ⟨by omega, by unfold MSeg.right at *; omega, by rw [hs]; exact hok.base, by rw [hs, hp]; exact hok.ord,
    by rw [ho, hs, hp]; exact hok.out⟩

theorem copyStep_inv (s : Mem) (rid : Nat) (hi : MemInv s) : MemInv (s.copyStep rid).1 := by
  rcases copyStep_cases s rid with h | ⟨r, r', hf, hrel, hm, h⟩
  · rw [h]; exact hi
  rw [h]
  have hst := hi.stream
  have hr := mFindReader_mem hf
  refine ⟨hst.setReader r' (fun ha => ?_), hi.rdb⟩
  cases hm with
  | finish st => exact ⟨(hst.readers r hr ha).1, fun hrel' => by cases hrel'⟩
  | deliver g hl hpos hne =>
    -- bytes of the held segment go to the pipe
    refine ⟨(hst.readers r hr ha).1, fun _ g' hg' hs => ?_⟩
    have : g' = g := by
      have := lookup_of_indexed hst.nodup hg'
      rw [hs, hl] at this; cases this; rfl
    subst this
    exact ((hst.readers r hr ha).2 hrel g' hg' hs).advance (hst.segOk g' hg') _ rfl rfl rfl
  | nextAof g nx _ hl hpos hd hn =>
    -- the held segment is closed and drained: on to the next one
    obtain ⟨pre, g0, post, hsplit, hs0⟩ := mNextOf_some hn
    have hg0 : g0 ∈ s.segs := by rw [hsplit]; simp
    have hnx : nx ∈ s.segs := by rw [hsplit]; simp
    have hgs : g.sid = r.seg := (lookup_cases hl).1
    have : g0 = g := by
      have := lookup_of_indexed hst.nodup hg0
      rw [hs0, hgs, hl] at this; cases this; rfl
    subst this
    refine ⟨hst.bound nx hnx, fun _ g' hg' hs => ?_⟩
    have : g' = nx := sid_unique hst.nodup hg' hnx hs
    subst this
    exact ((hst.readers r hr ha).2 hrel g0 hg0 hgs).next hd (mcontig_adjacent (hsplit ▸ hst.contig)) _ rfl rfl rfl
  | nextRdb g nx ha' => rw [show r.isAof = true from ha] at ha'; cases ha'

theorem MemInv.touched {s s' : Mem} (hi : MemInv s) (h : Touched s s') : MemInv s' := by
  rcases h with rfl | ⟨r, r', rfl, hr, ha, hseg, hp, hs, ho, hrel⟩
  · exact hi
  · exact ⟨hi.stream.touchReader hr r' ha hseg hp hs ho hrel, hi.rdb⟩

theorem setPend_inv (s : Mem) (hi : MemInv s) (a r : Option Bytes) : MemInv { s with pendA := a, pendR := r } :=
  ⟨hi.stream, hi.rdb⟩

/-- A snapshot append, and the retry of a blocked one, are made of the snapshot writer's loop,
    `finishRdb` and changes of the chunk that waits. Read `R s bs s'` as in `appendRdbLoop_run`: if `R`
    is reflexive, composes with steps that append nothing and holds of these three, it holds of both
    operations, `bs` being what the operation reports as accepted. -/
theorem rdbAppends_run {R : Mem → Bytes → Mem → Prop} (refl : ∀ s, R s [] s)
    (trans : ∀ {a b c x}, R a x b → R b [] c → R a x c) (pend : ∀ s r, R s [] { s with pendR := r })
    (rdb : ∀ fuel s buf, R s (buf.take (Mem.appendRdbLoop fuel s buf 0).2.1) (Mem.appendRdbLoop fuel s buf 0).1)
    (fin : ∀ s, R s [] (s.finishRdb false)) (s : Mem) :
    (s.pendA = none → R s (s.rdbAccepted .retryAppend) s.retry.1) ∧
      ∀ chunk, R s (s.rdbAccepted (.rdbAppend chunk)) (s.step (.rdbAppend chunk)).1 := by
  -- after an append that was not blocked the writer is finished if everything announced is written
  have done : ∀ {β : Type} {bs : Bytes} (s1 : Mem) (x y : β), R s bs s1 → R s bs (match s1.rdb with
      | some r => if (r.writing && decide (r.written ≥ r.size)) = true then (s1.finishRdb false, x) else (s1, y)
      | none => (s1, y)).1 := by
    intro β bs s1 x y h1
    split
    · split
      · exact trans h1 (fin s1)
      · exact h1
    · exact h1
  refine ⟨fun hpa => ?_, fun chunk => ?_⟩
  · unfold Mem.retry
    split
    · rename_i hs; rw [hpa] at hs; cases hs
    · split
      · rename_i buf hpr
        split
        · rename_i hr
          rw [show s.rdbAccepted .retryAppend = [] by simp only [Mem.rdbAccepted, hpa, hpr, hr]]
          exact pend s none
        · rename_i r hr
          split
          · rename_i hw
            rw [show s.rdbAccepted .retryAppend = [] by simp only [Mem.rdbAccepted, hpa, hpr, hr, hw, if_true]]
            exact pend s none
          · rename_i hw
            rw [show s.rdbAccepted .retryAppend = buf.take (Mem.appendRdbLoop (buf.length + 1) s buf 0).2.1 by
              simp only [Mem.rdbAccepted, hpa, hpr, hr, hw, Bool.false_eq_true, if_false]]
            dsimp only
            split
            · exact trans (rdb _ s buf) (pend _ _)
            · exact done _ _ _ (trans (rdb _ s buf) (pend _ none))
      · rename_i hpr
        rw [show s.rdbAccepted .retryAppend = [] by simp only [Mem.rdbAccepted, hpa, hpr]]
        exact refl s
  · simp only [Mem.step, Mem.rdbAccepted]
    split
    · exact refl s
    · split
      · exact trans (rdb _ s chunk) (pend _ _)
      · exact done _ _ _ (rdb _ s chunk)

theorem rdbAppends_keep {P : Mem → Prop} (pend : ∀ s r, P s → P { s with pendR := r })
    (rdb : ∀ fuel s buf, P s → P (Mem.appendRdbLoop fuel s buf 0).1)
    (fin : ∀ s, P s → P (s.finishRdb false)) (s : Mem) (h : P s) :
    (s.pendA = none → P s.retry.1) ∧ ∀ chunk, P (s.step (.rdbAppend chunk)).1 :=
  have k := rdbAppends_run (R := fun a _ b => P a → P b) (fun _ h => h) (fun f g h => g (f h)) pend rdb fin s
  ⟨fun hpa => k.1 hpa h, fun chunk => k.2 chunk h⟩

theorem aofAppends_keep {P : Mem → Prop} (pend : ∀ s a, P s → P { s with pendA := a })
    (aof : ∀ fuel s buf, P s → P (Mem.appendAofLoop fuel s buf 0).1) (s : Mem) (h : P s) :
    (s.pendA ≠ none → P s.retry.1) ∧ ∀ chunk, P (s.step (.aofAppend chunk)).1 := by
  refine ⟨fun hpa => ?_, fun chunk => ?_⟩
  · unfold Mem.retry
    split
    · split
      · exact pend s none h
      · dsimp only
        split
        · exact pend _ _ (aof _ s _ h)
        · exact pend _ _ (aof _ s _ h)
    · rename_i hn; exact absurd hn hpa
  · simp only [Mem.step]
    split
    · exact h
    · split
      · exact h
      · split
        · exact pend _ _ (aof _ s chunk h)
        · exact aof _ s chunk h

theorem appends_keep {P : Mem → Prop} (pend : ∀ s a r, P s → P { s with pendA := a, pendR := r })
    (aof : ∀ fuel s buf, P s → P (Mem.appendAofLoop fuel s buf 0).1)
    (rdb : ∀ fuel s buf, P s → P (Mem.appendRdbLoop fuel s buf 0).1)
    (fin : ∀ s, P s → P (s.finishRdb false)) (s : Mem) (h : P s) :
    P s.retry.1 ∧ (∀ chunk, P (s.step (.aofAppend chunk)).1) ∧ ∀ chunk, P (s.step (.rdbAppend chunk)).1 := by
  have ha := aofAppends_keep (fun s a => pend s a s.pendR) aof s h
  have hr := rdbAppends_keep (fun s r => pend s s.pendA r) rdb fin s h
  refine ⟨?_, ha.2, hr.2⟩
  cases hpa : s.pendA with
  | none => exact hr.1 hpa
  | some b => exact ha.1 (by rw [hpa]; exact Option.some_ne_none b)

theorem appends_inv (s : Mem) (hi : MemInv s) :
    MemInv s.retry.1 ∧ (∀ chunk, MemInv (s.step (.aofAppend chunk)).1) ∧ ∀ chunk, MemInv (s.step (.rdbAppend chunk)).1 :=
  appends_keep (fun s a r hi => setPend_inv s hi a r) (fun fuel s buf hi => appendAofLoop_inv fuel s buf 0 hi)
    (fun fuel s buf hi => appendRdbLoop_inv fuel s buf 0 hi) (fun s hi => finishRdb_inv s false hi) s hi

theorem retry_inv (s : Mem) (hi : MemInv s) : MemInv s.retry.1 := (appends_inv s hi).1

theorem mLastRight_eq (l : List MSeg) : mLastRight l = l.getLast?.map (·.right) := by
  induction l with
  | nil => rfl
  | cons a t ih =>
    cases t with
    | nil => rfl
    | cons b t' =>
      simp only [mLastRight, List.getLast?_cons_cons]
      exact ih

theorem MemInv.init (l m : Nat) : MemInv (Mem.init l m) :=
  ⟨StreamOk.empty _ _ _ _ (by intro r hr; cases hr), MRdbOk.none _⟩

/-- `.newAofWriter` is the two lock sections of `NewAofWritter` (Model/StoreMemWindow.lean) in one step:
    the new writer is installed, then the old one, if any, is finished -/
theorem step_newAofWriter_eq (s : Mem) (off : Nat) :
    (s.step (.newAofWriter off)).1 = match s.installWriter off with
      | none => s
      | some s1 => (match s.aofW with
        | some old => s1.finishAof old false
        | none => s1) := by
  simp only [Mem.step, Mem.installWriter]
  cases mLastRight s.segs with
  | some r =>
    dsimp only
    by_cases hr : (r != off) = true
    · simp only [hr, if_true]
    · simp only [hr, if_false, Bool.false_eq_true]
      cases s.aofW <;> rfl
  | none => rfl

/-- the new segment continues the history, or — nothing being indexed — starts a new one at `off` -/
theorem installWriter_spec {s s1 : Mem} {off : Nat} (h : s.installWriter off = some s1) :
    s1 = { s with segs := s.segs ++ [{ sid := s.nextSid, left := off, data := [], closed := false, next := none }],
                  aofW := some s.nextSid, nextSid := s.nextSid + 1, hbase := s1.hbase, hist := s1.hist } ∧
    ((∃ last, s.segs.getLast? = some last ∧ last.right = off ∧ s1.hbase = s.hbase ∧ s1.hist = s.hist) ∨
     (s.segs = [] ∧ s1.hbase = off ∧ s1.hist = [])) := by
  unfold Mem.installWriter at h
  rw [mLastRight_eq] at h
  cases hl : s.segs.getLast? with
  | some last =>
    rw [hl] at h
    dsimp only [Option.map] at h
    split at h
    · cases h
    · rename_i hne
      cases h
      exact ⟨rfl, Or.inl ⟨last, rfl, by simpa using hne, rfl, rfl⟩⟩
  | none =>
    rw [hl] at h
    cases h
    have hs : s.segs = [] := List.getLast?_eq_none_iff.mp hl
    exact ⟨by rw [hs]; rfl, Or.inr ⟨hs, rfl, rfl⟩⟩

theorem installWriter_inv {s s1 : Mem} {off : Nat} (h : s.installWriter off = some s1) (hi : MemInv s) : MemInv s1 := by
  obtain ⟨e, hh⟩ := installWriter_spec h
  rw [e]
  refine ⟨?_, hi.rdb.mono (Nat.le_succ _)⟩
  rcases hh with ⟨last, hl, hr, hb, hh⟩ | ⟨hs, hb, hh⟩
  · rw [hb, hh]
    exact hi.stream.pushSeg _ rfl rfl (by rw [← hi.stream.lastEnd last hl]; exact hr.symm)
  · rw [hb, hh, hs]
    exact (StreamOk.empty s.readers s.nextSid off [] hi.stream.seg_bound).pushSeg _ rfl rfl (by simp)

theorem installWriter_old {s s1 : Mem} {off old : Nat} (h : s.installWriter off = some s1) (hi : MemInv s)
    (haw : s.aofW = some old) : s1.aofW ≠ some old := by
  rw [(installWriter_spec h).1]
  obtain ⟨g, hg, hsid⟩ := hi.stream.writer old haw
  have := hi.stream.bound g (List.mem_of_getLast? hg)
  intro e; cases e; omega

theorem step_inv (s : Mem) (op : MOp) (hi : MemInv s) : MemInv (s.step op).1 := by
  cases op with
  | setRunId id => exact ⟨hi.stream, hi.rdb⟩
  | delRunId id =>
    simp only [Mem.step]
    split
    · exact hi
    · exact ⟨(reset_inv s hi).stream, (reset_inv s hi).rdb⟩
  | newRdbWriter off size =>
    simp only [Mem.step]
    refine ⟨StreamOk.monoSid (reset_inv s hi).stream (Nat.le_succ _), ?_⟩
    dsimp only
    refine MRdbOk.some ?_ ?_ ?_ ?_ ?_ ?_
    · simp
    · exact Or.inl rfl
    · intro _; simp [mBuffered]
    · simp
    · intro g hg
      simp only [List.mem_singleton] at hg; subst hg
      show s.reset.nextSid < s.reset.nextSid + 1; omega
    · intro _
      exact ⟨_, rfl, rfl, rfl⟩
  | rdbAppend chunk => exact (appends_inv s hi).2.2 chunk
  | rdbClose => exact finishRdb_inv s false hi
  | rdbFail => exact finishRdb_inv s true hi
  | newAofWriter off =>
    rw [step_newAofWriter_eq]
    cases hin : s.installWriter off with
    | none => exact hi
    | some s1 =>
      dsimp only
      cases haw : s.aofW with
      | none => exact installWriter_inv hin hi
      | some old =>
        exact (finishAof_inv s1 old false (installWriter_inv hin hi) (fun _ => installWriter_old hin hi haw)).1
  | aofAppend chunk => exact (appends_inv s hi).2.1 chunk
  | aofClose =>
    simp only [Mem.step]
    cases haw : s.aofW with
    | none => exact hi
    | some cur => exact (finishAof_inv s cur true hi (by intro h; cases h)).1
  | openReader rid off => exact open_inv s rid off hi
  | startReader rid => exact hi.touched (startReader_touched s rid)
  | copyStep rid => exact copyStep_inv s rid hi
  | consume rid n => exact hi.touched (consume_touched s rid n)
  | closeReader rid => exact hi.touched (closeReader_touched s rid)
  | retryAppend => exact retry_inv s hi

theorem run_inv (s : Mem) (ops : List MOp) (hi : MemInv s) : MemInv (s.run ops) := run_keeps step_inv ops s hi

theorem settle_inv (s : Mem) (hi : MemInv s) : MemInv s.settle := settle_keeps copyStep_inv retry_inv s hi

/-- the data of a span of true segments is the history's slice `lo … e` -/
theorem MSpan.flat {hb : Nat} {hi : Bytes} : ∀ (l : List MSeg) {lo e : Nat}, MSpan lo l e → (∀ g ∈ l, SegOk hb hi g) →
    lo ≤ e ∧ l.flatMap (·.data) = (hi.drop (lo - hb)).take (e - lo)
  | [], _, _, h, _ => by cases h; simp
  | a :: t, lo, e, h, hs => by
    obtain ⟨hle, ih⟩ := MSpan.flat t h.2 (fun g hg => hs g (List.mem_cons_of_mem _ hg))
    have hf := hs a (List.mem_cons_self ..)
    obtain ⟨rfl, _⟩ := h
    have hlo := hf.lo
    unfold MSeg.right at hle ih
    refine ⟨by omega, ?_⟩
    have e1 : a.left + a.data.length - hb = (a.left - hb) + a.data.length := by omega
    have e2 : e - a.left = a.data.length + (e - (a.left + a.data.length)) := by omega
    rw [List.flatMap_cons, ih, e1, e2, ← slice_glue, ← hf.data]

theorem StreamOk.flat {k : Bool} {l : List MSeg} {w : Option Nat} {rs : List MReader} {n hb : Nat} {hi : Bytes}
    (h : StreamOk k l w rs n hb hi) (first : MSeg) (rest : List MSeg) (hl : l = first :: rest) :
    hb ≤ first.left ∧ l.flatMap (·.data) = hi.drop (first.left - hb) ∧
      first.left + (l.flatMap (·.data)).length = hb + hi.length := by
  subst hl
  obtain ⟨_, sp, last, hlast, rfl⟩ := MContig.span rest first h.contig
  obtain ⟨hfl, hflat⟩ := MSpan.flat _ sp h.segOk
  have hend := h.lastEnd last hlast
  have hlo := (h.segOk first (by simp)).lo
  have hfull : (hi.drop (first.left - hb)).take (last.right - first.left) = hi.drop (first.left - hb) := by
    apply List.take_of_length_le
    simp; omega
  refine ⟨hlo, by rw [hflat, hfull], ?_⟩
  rw [hflat, hfull]
  simp; omega

theorem runRev_eq (s : Mem) (hi : MemInv s) : s.runRev = s.segs.reverse := by
  unfold Mem.runRev
  rw [mContigRun_of_contig _ hi.stream.contig]

/-- what the cache holds is the suffix of the written history from its base -/
theorem mem_abs_bytes_eq (s : Mem) (hi : MemInv s) (hne : s.segs ≠ []) :
    s.hbase ≤ s.abs.base ∧ s.abs.bytes = s.hist.drop (s.abs.base - s.hbase) ∧
      s.abs.base + s.abs.bytes.length = s.hbase + s.hist.length := by
  cases hs : s.segs with
  | nil => exact absurd hs hne
  | cons first rest =>
    have hst := hi.stream
    unfold StreamInv at hst
    have hf := hst.flat first rest hs
    have hb : s.abs.base = first.left := by
      unfold Mem.abs
      dsimp only
      rw [runRev_eq s hi, hs]
      simp
    have hby : s.abs.bytes = s.segs.flatMap (·.data) := by
      unfold Mem.abs
      dsimp only
      rw [runRev_eq s hi, List.reverse_reverse]
    rw [hb, hby]
    exact hf

/-- an offset is reported valid exactly if a reader can be opened there -/
theorem mem_inRange_iff_open (s : Mem) (hi : MemInv s) (rid off : Nat) (hfresh : mFindReader s.readers rid = none) :
    s.inRange (off : Int) = true ↔ (s.open rid off).2 ≠ Out.notExist := by
  unfold Mem.open
  rw [hfresh]
  simp only [Option.isSome_none, Bool.false_eq_true, if_false]
  cases hin : s.inRange (off : Int) with
  | false => simp
  | true =>
    simp only [Bool.not_true, Bool.false_eq_true, if_false, true_iff]
    cases hidx : s.indexAof off with
    | some g => simp
    | none =>
      dsimp only
      unfold Mem.inRange at hin
      have hnn : ¬ ((off : Int) < 0) := by omega
      simp only [hnn, if_false, Int.toNat_natCast, hidx, Option.isSome_none, Bool.false_or] at hin
      cases hro : s.rdbOffered with
      | none => rw [hro] at hin; simp at hin
      | some rd =>
        rw [hro] at hin
        dsimp only at hin ⊢
        simp only [Bool.and_eq_true, decide_eq_true_eq] at hin
        have hle : off ≤ rd.left := by omega
        simp only [hle, if_true]
        have := hi.rdb.nonempty rd (rdbOffered_replayable s rd hro).1
        cases hsg : rd.segs with
        | nil => exact absurd hsg this
        | cons first rest => simp

/-- the snapshot's own offset is valid only while the log starts there (or nothing is held) — a3509d3 -/
theorem snapshot_offset_valid (s : Mem) (rd : MRdb) (hro : s.rdbOffered = some rd)
    (hv : s.inRange (rd.left : Int) = true) : (s.indexAof rd.left).isSome = true ∨ s.segs = [] := by
  unfold Mem.inRange at hv
  have hnn : ¬ ((rd.left : Int) < 0) := by omega
  simp only [hnn, if_false, Int.toNat_natCast, hro, Bool.or_eq_true, Bool.and_eq_true, decide_eq_true_eq] at hv
  rcases hv with h | ⟨_, h⟩
  · exact Or.inl h
  · rcases h with h | h
    · omega
    · exact Or.inr (List.isEmpty_iff.mp h)

/-- an offered snapshot is being received or completely received, and every byte received is held -/
theorem offered_complete_or_live (s : Mem) (hi : MemInv s) (rd : MRdb) (hro : s.rdbOffered = some rd) :
    (rd.writing = true ∨ rd.size ≤ rd.written) ∧ mBuffered rd.segs = rd.written ∧ rd.segs ≠ [] := by
  have hrdb := rdbOffered_replayable s rd hro
  exact ⟨hi.rdb.live rd hrdb.1, hi.rdb.whole rd hrdb.1 hrdb.2, hi.rdb.nonempty rd hrdb.1⟩

theorem appendAofLoop_hist (fuel : Nat) (s : Mem) (buf : Bytes) (done : Nat) :
    (Mem.appendAofLoop fuel s buf done).1.hbase = s.hbase ∧ done ≤ (Mem.appendAofLoop fuel s buf done).2.1 ∧
    (Mem.appendAofLoop fuel s buf done).1.hist = s.hist ++ buf.take ((Mem.appendAofLoop fuel s buf done).2.1 - done) := by
  obtain ⟨hle, hb, hh⟩ := appendAofLoop_run (R := fun a bs b => b.hbase = a.hbase ∧ b.hist = a.hist ++ bs)
    (fun s => ⟨rfl, (List.append_nil _).symm⟩)
    (fun h1 h2 => ⟨h2.1.trans h1.1, by rw [h2.2, h1.2, List.append_assoc]⟩)
    (fun s cur seg n _ _ => by unfold aofRotate; split <;> exact ⟨rfl, (List.append_nil _).symm⟩)
    (fun s n => ⟨(ensure_frame s n).hbase, by rw [(ensure_frame s n).hist, List.append_nil]⟩)
    (fun s cur piece _ => ⟨rfl, rfl⟩) fuel s buf done
  exact ⟨hb, hle, hh⟩

/-- how one operation may change the ghost history -/
inductive HistStep (s s' : Mem) : Prop where
  | same (hb : s'.hbase = s.hbase) (hh : s'.hist = s.hist)
  | appended (bytes : Bytes) (hb : s'.hbase = s.hbase) (hh : s'.hist = s.hist ++ bytes)
  | fresh (hh : s'.hist = [])

theorem Keeps.histStep {s s' : Mem} (k : Keeps s s') : HistStep s s' := .same k.hbase k.hist

theorem Keeps.sameHist {s s' : Mem} (k : Keeps s s') : s'.hbase = s.hbase ∧ s'.hist = s.hist := ⟨k.hbase, k.hist⟩

/-- the snapshot writer's appends leave the stream's history alone -/
theorem rdbAppends_hist (s : Mem) :
    (s.pendA = none → s.retry.1.hbase = s.hbase ∧ s.retry.1.hist = s.hist) ∧
      ∀ chunk, (s.step (.rdbAppend chunk)).1.hbase = s.hbase ∧ (s.step (.rdbAppend chunk)).1.hist = s.hist :=
  rdbAppends_keep (P := fun x => x.hbase = s.hbase ∧ x.hist = s.hist) (fun _ _ h => h)
    (fun fuel x buf h => ⟨(appendRdbLoop_frame fuel x buf 0).hbase.trans h.1, (appendRdbLoop_frame fuel x buf 0).hist.trans h.2⟩)
    (fun x h => ⟨(finishRdb_frame x false).1.hbase.trans h.1, (finishRdb_frame x false).1.hist.trans h.2⟩) s ⟨rfl, rfl⟩

theorem retry_hist (s : Mem) : s.retry.1.hbase = s.hbase ∧ (s.retry.1.hist = s.hist ∨
    ∃ buf k, s.pendA = some buf ∧ s.retry.1.hist = s.hist ++ buf.take k ∧
      (s.retry.1.pendA = some (buf.drop k) ∨ s.retry.1.pendA = none)) := by
  cases hpa : s.pendA with
  | none =>
    exact ⟨((rdbAppends_hist s).1 hpa).1, Or.inl ((rdbAppends_hist s).1 hpa).2⟩
  | some buf =>
    unfold Mem.retry
    rw [hpa]
    dsimp only
    split
    · exact ⟨rfl, Or.inl rfl⟩
    · obtain ⟨i1, _, i3⟩ := appendAofLoop_hist (buf.length + 1) s buf 0
      split
      · exact ⟨i1, Or.inr ⟨buf, _, rfl, i3, Or.inl rfl⟩⟩
      · exact ⟨i1, Or.inr ⟨buf, _, rfl, i3, Or.inr rfl⟩⟩

theorem retry_histStep (s : Mem) (hi : MemInv s) :
    HistStep s s.retry.1 ∧ (∀ b, s.retry.1.hist = s.hist ++ b → b ≠ [] → ∃ buf k, s.pendA = some buf ∧ b = buf.take k) := by
  obtain ⟨hb, hh | ⟨buf, k, hpa, hh, _⟩⟩ := retry_hist s
  · exact ⟨.same hb hh, fun b e hne => absurd (by rw [hh] at e; simpa using e) hne⟩
  · exact ⟨.appended _ hb hh, fun b e _ => ⟨buf, k, hpa, (List.append_cancel_left (hh.symm.trans e)).symm⟩⟩

theorem pieceSpace_pos (logSize segLen bufLen : Nat) (hb : 0 < bufLen) : 0 < (pieceSpace logSize segLen bufLen).1 := by
  unfold pieceSpace
  split
  · exact hb
  · rename_i hl
    split
    · show 0 < min bufLen logSize; omega
    · rename_i hc
      show 0 < min bufLen (logSize - segLen); omega

theorem appendAofLoop_complete (fuel : Nat) : ∀ (s : Mem) (buf : Bytes) (done : Nat), MemInv s → s.aofW.isSome = true →
    buf.length < fuel → (Mem.appendAofLoop fuel s buf done).2.2 = false →
    (Mem.appendAofLoop fuel s buf done).2.1 = done + buf.length := by
  induction fuel with
  | zero => intro s buf done _ _ hf; omega
  | succ fuel ih =>
    intro s buf done hi haw hf hnb
    rw [appendAofLoop_succ] at hnb ⊢
    by_cases hb : buf.isEmpty = true
    · simp only [hb, if_true]
      have : buf = [] := List.isEmpty_iff.mp hb
      simp [this]
    · simp only [hb, if_false, Bool.false_eq_true] at hnb ⊢
      obtain ⟨cur, hw⟩ := Option.isSome_iff_exists.mp haw
      -- the writer is attached: its current segment is found
      obtain ⟨last, hlast, hsid⟩ := hi.stream.writer cur hw
      have hfind : mFind s.segs cur = some last := by
        rw [← hsid]; exact mFind_of_mem hi.stream.nodup (List.mem_of_getLast? hlast)
      simp only [hw, hfind] at hnb ⊢
      have hne : 0 < buf.length := by cases buf <;> simp at hb ⊢
      have hsp := pieceSpace_pos s.logSize last.data.length buf.length hne
      generalize pieceSpace s.logSize last.data.length buf.length = ps at hsp hnb ⊢
      have w1 : ((aofRotate s cur last ps.2).1.ensure ps.1).1.aofW = some (aofRotate s cur last ps.2).2 :=
        (ensure_frame _ _).aofW.trans (aofRotate_aofW s cur last ps.2 hw)
      have h2 := ensure_inv _ ps.1 (aofRotate_inv s cur last ps.2 hi hw hfind)
      split at hnb
      · cases hnb
      · rename_i hfit
        rw [if_neg hfit]
        rw [ih _ (buf.drop ps.1) _ (aofPut_inv _ _ _ h2 w1)
          (by show ((aofRotate s cur last ps.2).1.ensure ps.1).1.aofW.isSome = true; rw [w1]; rfl)
          (by simp; omega) hnb]
        simp
        omega

def MOp.resetsHistory : MOp → Bool
  | .newRdbWriter _ _ => true
  | .delRunId _ => true
  | .newAofWriter _ => true      -- the first writer of a history (nothing held)
  | _ => false

/-- **the ghost is tied.** One operation leaves the written history alone; or it is an
    `aofAppend chunk` that reports `.ok` and recorded the WHOLE chunk, or reports
    `.blocked n` and recorded exactly the first `n` bytes, the rest waiting in `pendA`;
    or it is the retry of such a blocked append and records a prefix of what was
    waiting (all of it, or the rest keeps waiting); or it is one of the three
    operations that start a new, empty history. -/
theorem step_hist (s : Mem) (op : MOp) (hi : MemInv s) :
    ((s.step op).1.hbase = s.hbase ∧ (s.step op).1.hist = s.hist) ∨
    (∃ chunk, op = .aofAppend chunk ∧ (s.step op).1.hbase = s.hbase ∧
        (((s.step op).2 = .ok ∧ (s.step op).1.hist = s.hist ++ chunk) ∨
         (∃ n, (s.step op).2 = .blocked n ∧ (s.step op).1.hist = s.hist ++ chunk.take n ∧
            (s.step op).1.pendA = some (chunk.drop n)))) ∨
    (∃ buf k, op = .retryAppend ∧ s.pendA = some buf ∧ (s.step op).1.hbase = s.hbase ∧
        (s.step op).1.hist = s.hist ++ buf.take k ∧
        ((s.step op).1.pendA = some (buf.drop k) ∨ (s.step op).1.pendA = none)) ∨
    ((s.step op).1.hist = [] ∧ op.resetsHistory = true) := by
  cases op with
  | setRunId id => exact Or.inl ⟨rfl, rfl⟩
  | delRunId id =>
    simp only [Mem.step]
    split
    · exact Or.inl ⟨rfl, rfl⟩
    · exact Or.inr (Or.inr (Or.inr ⟨rfl, rfl⟩))
  | newRdbWriter off size => exact Or.inr (Or.inr (Or.inr ⟨rfl, rfl⟩))
  | rdbAppend chunk => exact Or.inl ((rdbAppends_hist s).2 chunk)
  | rdbClose => exact Or.inl (finishRdb_frame s false).1.sameHist
  | rdbFail => exact Or.inl (finishRdb_frame s true).1.sameHist
  | newAofWriter off =>
    rw [step_newAofWriter_eq]
    cases hin : s.installWriter off with
    | none => exact Or.inl ⟨rfl, rfl⟩
    | some s1 =>
      dsimp only
      -- finishing the old writer keeps the history the installation left
      have k : (match s.aofW with | some old => s1.finishAof old false | none => s1).hbase = s1.hbase ∧
          (match s.aofW with | some old => s1.finishAof old false | none => s1).hist = s1.hist := by
        cases s.aofW with
        | none => exact ⟨rfl, rfl⟩
        | some old => exact (finishAof_frame s1 old false).1.sameHist
      rcases (installWriter_spec hin).2 with ⟨_, _, _, hb, hh⟩ | ⟨_, _, hh⟩
      · exact Or.inl ⟨k.1.trans hb, k.2.trans hh⟩
      · exact Or.inr (Or.inr (Or.inr ⟨k.2.trans hh, rfl⟩))
  | aofAppend chunk =>
    simp only [Mem.step]
    cases haw : s.aofW with
    | none => exact Or.inl ⟨rfl, rfl⟩
    | some cur =>
      dsimp only
      obtain ⟨i1, _, i3⟩ := appendAofLoop_hist (chunk.length + 1) s chunk 0
      split
      · exact Or.inl ⟨rfl, rfl⟩
      · split
        · exact Or.inr (Or.inl ⟨chunk, rfl, i1, Or.inr ⟨_, rfl, by simpa using i3, rfl⟩⟩)
        · rename_i hnb
          have hc := appendAofLoop_complete (chunk.length + 1) s chunk 0 hi (by rw [haw]; rfl) (by omega)
            (by simpa using hnb)
          refine Or.inr (Or.inl ⟨chunk, rfl, i1, Or.inl ⟨rfl, ?_⟩⟩)
          rw [i3, hc]; simp
  | aofClose =>
    simp only [Mem.step]
    cases haw : s.aofW with
    | none => exact Or.inl ⟨rfl, rfl⟩
    | some cur => exact Or.inl (finishAof_frame s cur true).1.sameHist
  | retryAppend =>
    obtain ⟨hb, hh | ⟨buf, k, hpa, hh, hp⟩⟩ := retry_hist s
    · exact Or.inl ⟨hb, hh⟩
    · exact Or.inr (Or.inr (Or.inl ⟨buf, k, rfl, hpa, hb, hh, hp⟩))
  | openReader _ _ | startReader _ | copyStep _ | consume _ _ | closeReader _ =>
    rw [step_readerOp s rfl]; exact Or.inl ⟨rfl, rfl⟩

end GunYu.Store
