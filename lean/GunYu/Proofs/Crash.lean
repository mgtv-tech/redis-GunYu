/-
  C02: what a target that dies after ANY prefix of the wire has executed.
  The executed requests are a PREFIX of the bodies of the batches in order
  (a MULTI/EXEC block that did not get its EXEC contributes nothing).
-/
import GunYu.Proofs.SenderWire
import GunYu.Proofs.TargetSeq

namespace GunYu.Target
open GunYu GunYu.Sender

theorem lookup_filter_ne (cps : List (Int × CpRec)) (d k : Int) (h : d ≠ k) :
    (cps.filter (fun p => p.1 ≠ k)).lookup d = cps.lookup d := by
  induction cps with
  | nil => rfl
  | cons p ps ih =>
    obtain ⟨a, r⟩ := p
    by_cases hp : a = k
    · subst hp
      have hda : (d == a) = false := by simpa using h
      simpa [List.lookup_cons, hda] using ih
    · cases hda : d == a
      · simpa [List.lookup_cons, hp, hda] using ih
      · simp [List.lookup_cons, hp, hda]

theorem getCp_setCp_ne (cps : List (Int × CpRec)) (d k : Int) (r : CpRec) (h : d ≠ k) :
    getCp (setCp cps k r) d = getCp cps d := by
  unfold getCp setCp
  have hne : (d == k) = false := by simpa using h
  rw [List.lookup_cons]
  simp only [hne]
  rw [lookup_filter_ne cps d k h]

theorem getCp_setCp_eq (cps : List (Int × CpRec)) (k : Int) (r : CpRec) :
    getCp (setCp cps k r) k = r := by
  simp [getCp, setCp]

/-- the bodies of the batches, in order: what executes if nothing crashes -/
def bodies (out : List Batch) : List Req := out.flatMap stripB

theorem stripB_plain (body : List Req) (hb : ∀ r ∈ body, Plain r = true) : stripB body = body := by
  cases body with
  | nil => rfl
  | cons r rest =>
    cases r with
    | multi => have := hb .multi (List.mem_cons_self ..); simp [Plain] at this
    | _ => rfl

theorem stripB_block (body : List Req) : stripB ([Req.multi] ++ body ++ [Req.exec]) = body := by
  simp [stripB]

theorem stripB_wf (b : Batch) (h : WFBatch b) :
    ∃ body, (∀ r ∈ body, Plain r = true) ∧ stripB b = body ∧
      (b = body ∨ b = [Req.multi] ++ body ++ [Req.exec]) := by
  obtain ⟨body, hp, h | h⟩ := h
  · exact ⟨body, hp, by rw [h]; exact stripB_plain body hp, Or.inl h⟩
  · exact ⟨body, hp, by rw [h]; exact stripB_block body, Or.inr h⟩

/-- two target states agree on what a restart can observe -/
def SameData (a b : TState) : Prop := a.applied = b.applied ∧ a.cps = b.cps

/-- **Crash = whole batches (+ part of an unbracketed one).** Whatever prefix of the
    wire the target received before it died, the requests it executed are the bodies of
    the first `m` batches, followed by a prefix of the next batch only if that batch is
    not a MULTI/EXEC block (an unfinished block contributes nothing); together a prefix
    of the bodies of all batches. -/
theorem crash_whole_batches_prefix (out : List Batch) (hwf : AllWF out) (t : TState)
    (hq : t.queued = none) (k : Nat) :
    ∃ m E', SameData (applyLog t (out.flatten.take k)) ((bodies (out.take m) ++ E').foldl execReq t) ∧
      (E' = [] ∨ ∃ b, b ∈ out ∧ stripB b = b ∧ E' <+: b) ∧
      bodies (out.take m) ++ E' <+: bodies out := by
  induction out generalizing t k with
  | nil => exact ⟨0, [], by simp [applyLog, SameData, bodies], Or.inl rfl, by simp [bodies]⟩
  | cons b rest ih =>
    obtain ⟨body, hp, hstrip, hshape⟩ := stripB_wf b (hwf b (List.mem_cons_self ..))
    have hrest : AllWF rest := fun x hx => hwf x (List.mem_cons_of_mem _ hx)
    have hbod : bodies (b :: rest) = body ++ bodies rest := by simp [bodies, hstrip]
    by_cases hk : b.length ≤ k
    · -- the whole batch was received
      have htk : (b :: rest).flatten.take k = b ++ rest.flatten.take (k - b.length) := by
        simp only [List.flatten_cons, List.take_append]
        rw [List.take_of_length_le hk]
      have hb := applyLog_batch hp t hq hshape
      have hq1 : (body.foldl execReq t).queued = none := by rw [foldl_execReq_queued, hq]
      obtain ⟨m, E', hs, hE', hpre⟩ := ih hrest (body.foldl execReq t) hq1 (k - b.length)
      have hbm : bodies ((b :: rest).take (m + 1)) = body ++ bodies (rest.take m) := by
        simp [bodies, hstrip]
      refine ⟨m + 1, E', ?_, ?_, ?_⟩
      · rw [htk, applyLog_append, hb, hbm, List.append_assoc, List.foldl_append]
        exact hs
      · rcases hE' with h | ⟨b', hb', h1, h2⟩
        · exact Or.inl h
        · exact Or.inr ⟨b', List.mem_cons_of_mem _ hb', h1, h2⟩
      · rw [hbm, hbod, List.append_assoc]
        exact (List.prefix_append_right_inj body).mpr hpre
    · -- the crash is inside this batch
      have hlt : k < b.length := Nat.lt_of_not_le hk
      have htk : (b :: rest).flatten.take k = b.take k := by
        simp only [List.flatten_cons, List.take_append]
        have : k - b.length = 0 := by omega
        simp [this]
      rw [htk]
      rcases hshape with h | h
      · -- not bracketed: the received part executed request by request
        refine ⟨0, body.take k, ?_, Or.inr ⟨b, List.mem_cons_self .., ?_, ?_⟩, ?_⟩
        · rw [h, applyLog_plain _ (fun r hr => hp r (List.mem_of_mem_take hr)) t hq]
          simp [bodies, SameData]
        · rw [hstrip, h]
        · rw [h]; exact List.take_prefix k body
        · rw [hbod]
          simp only [List.take_zero, bodies, List.flatMap_nil, List.nil_append]
          exact (List.take_prefix k body).trans (List.prefix_append _ _)
      · -- bracketed and EXEC not received: nothing executed
        refine ⟨0, [], ?_, Or.inl rfl, by simp [bodies]⟩
        cases k with
        | zero => simp [applyLog, SameData, bodies]
        | succ j =>
          have hj : j ≤ body.length := by
            rw [h] at hlt; simp at hlt; omega
          have htake : b.take (j + 1) = Req.multi :: body.take j := by
            rw [h]
            simp only [List.cons_append, List.take_succ_cons, List.nil_append]
            rw [List.take_append_of_le_length hj]
          rw [htake, applyLog_open_block _ (fun r hr => hp r (List.mem_of_mem_take hr)) t hq]
          simp [bodies, SameData]

theorem crash_whole_batches (out : List Batch) (hwf : AllWF out) (t : TState)
    (hq : t.queued = none) (k : Nat) :
    ∃ m E', SameData (applyLog t (out.flatten.take k)) ((bodies (out.take m) ++ E').foldl execReq t) ∧
      (E' = [] ∨ ∃ b, b ∈ out ∧ stripB b = b ∧ E' <+: b) := by
  obtain ⟨m, E', h1, h2, _⟩ := crash_whole_batches_prefix out hwf t hq k
  exact ⟨m, E', h1, h2⟩

/-- **Crash = prefix of bodies.** Whatever prefix of the wire the target received
    before it died, the requests it executed form a prefix `E` of the batch
    bodies in order; an unfinished MULTI block contributes nothing. -/
theorem crash_executes_body_prefix (out : List Batch) (hwf : AllWF out) (t : TState)
    (hq : t.queued = none) (k : Nat) :
    ∃ E, E <+: bodies out ∧ SameData (applyLog t (out.flatten.take k)) (E.foldl execReq t) := by
  obtain ⟨m, E', h1, _, h3⟩ := crash_whole_batches_prefix out hwf t hq k
  exact ⟨_, h3, h1⟩

theorem filterMap_bodies {α} (f : Req → Option α) (hm : f .multi = none) (he : f .exec = none)
    (out : List Batch) (hwf : AllWF out) :
    (bodies out).filterMap f = out.flatMap (·.filterMap f) := by
  induction out with
  | nil => rfl
  | cons b rest ih =>
    obtain ⟨body, _, hstrip, hshape⟩ := stripB_wf b (hwf b (List.mem_cons_self ..))
    have hb : (stripB b).filterMap f = b.filterMap f := by
      rw [hstrip]
      rcases hshape with h | h <;> rw [h]
      simp [List.filterMap_append, hm, he]
    rw [bodies, List.flatMap_cons, List.filterMap_append, hb, List.flatMap_cons,
      ← ih (fun x hx => hwf x (List.mem_cons_of_mem _ hx))]
    rfl

theorem keys_bodies (out : List Batch) (hwf : AllWF out) : keysB (bodies out) = keys out :=
  filterMap_bodies keyOfReq rfl rfl out hwf

end GunYu.Target
