/-
  CRC-64/Jones as the repo computes it detects every single-byte change:
  two byte strings of equal length that differ in exactly one position have
  different checksums. (One shift-register step is injective because the
  reflected polynomial has its top bit set; hence the per-byte update is
  injective in the state and in the byte.) Used by C04 `alteration_detected`.

  Builds on C03's `crc64TabStep_eq_specStep` (table-driven step = bitwise step).
-/
import GunYu.Proofs.Rdb.Crc64

namespace GunYu.Rdb

theorem jonesPolyRev_msb : jonesPolyRev[63] = true := by
  rw [jonesPolyRev_val]; decide

theorem shr1_msb (x : BitVec 64) : (x >>> 1)[63] = false := by
  rw [BitVec.getElem_ushiftRight]
  apply BitVec.getLsbD_of_ge; omega

/-- a register is determined by its low bit and the rest -/
theorem eq_of_lsb_shr1 (x y : BitVec 64) (h0 : x[0] = y[0]) (h1 : x >>> 1 = y >>> 1) : x = y := by
  ext i hi
  cases i with
  | zero => exact h0
  | succ j =>
    have := congrArg (fun v => v.getLsbD j) h1
    simp only [BitVec.getLsbD_ushiftRight] at this
    have e : 1 + j = j + 1 := by omega
    rw [e] at this
    rw [← BitVec.getLsbD_eq_getElem hi, ← BitVec.getLsbD_eq_getElem hi]
    exact this

theorem xor_right_cancel64 (a b c : BitVec 64) (h : a ^^^ c = b ^^^ c) : a = b := by
  have := congrArg (· ^^^ c) h
  simp only [BitVec.xor_assoc, BitVec.xor_self, BitVec.xor_zero] at this
  exact this

theorem xor_left_cancel64 (a b c : BitVec 64) (h : c ^^^ a = c ^^^ b) : a = b := by
  rw [BitVec.xor_comm c a, BitVec.xor_comm c b] at h
  exact xor_right_cancel64 a b c h

theorem crc64BitStep_inj (x y : BitVec 64) (h : crc64BitStep x = crc64BitStep y) : x = y := by
  unfold crc64BitStep at h
  cases hx : x[0] <;> cases hy : y[0] <;> simp only [hx, hy, if_true, if_false, Bool.false_eq_true] at h
  · exact eq_of_lsb_shr1 x y (by rw [hx, hy]) h
  · exfalso
    have := congrArg (fun v => v[63]) h
    simp only [BitVec.getElem_xor, shr1_msb, jonesPolyRev_msb] at this
    cases this
  · exfalso
    have := congrArg (fun v => v[63]) h
    simp only [BitVec.getElem_xor, shr1_msb, jonesPolyRev_msb] at this
    cases this
  · exact eq_of_lsb_shr1 x y (by rw [hx, hy]) (xor_right_cancel64 _ _ _ h)

theorem crc64BitStep8_inj (x y : BitVec 64) (h : crc64BitStep8 x = crc64BitStep8 y) : x = y := by
  unfold crc64BitStep8 at h
  exact crc64BitStep_inj _ _ (crc64BitStep_inj _ _ (crc64BitStep_inj _ _ (crc64BitStep_inj _ _
    (crc64BitStep_inj _ _ (crc64BitStep_inj _ _ (crc64BitStep_inj _ _ (crc64BitStep_inj _ _ h)))))))

theorem crc64TabStep_inj_state (s s' : BitVec 64) (b : UInt8) (h : crc64TabStep s b = crc64TabStep s' b) : s = s' := by
  rw [crc64TabStep_eq_specStep, crc64TabStep_eq_specStep] at h
  exact xor_right_cancel64 _ _ _ (crc64BitStep8_inj _ _ h)

theorem byte_setWidth_inj (x y : UInt8) (h : x.toBitVec.setWidth 64 = y.toBitVec.setWidth 64) : x = y := by
  have := congrArg BitVec.toNat h
  simp only [BitVec.toNat_setWidth] at this
  have hx : x.toBitVec.toNat < 256 := x.toBitVec.isLt
  have hy : y.toBitVec.toNat < 256 := y.toBitVec.isLt
  rw [Nat.mod_eq_of_lt (by omega), Nat.mod_eq_of_lt (by omega)] at this
  exact UInt8.toNat_inj.mp this

theorem crc64TabStep_inj_byte (s : BitVec 64) (x y : UInt8) (h : crc64TabStep s x = crc64TabStep s y) : x = y := by
  rw [crc64TabStep_eq_specStep, crc64TabStep_eq_specStep] at h
  exact byte_setWidth_inj x y (xor_left_cancel64 _ _ _ (crc64BitStep8_inj _ _ h))

theorem crc64TabFrom_inj_state (z : Bytes) : ∀ (s s' : BitVec 64), crc64TabFrom s z = crc64TabFrom s' z → s = s' := by
  induction z with
  | nil => intro s s' h; exact h
  | cons b z ih =>
    intro s s' h
    simp only [crc64TabFrom, List.foldl_cons] at h
    exact crc64TabStep_inj_state s s' b (ih _ _ h)

/-- **single-byte change ⇒ different CRC64** -/
theorem crc64Tab_single_byte (a z : Bytes) (x y : UInt8) (hxy : x ≠ y) :
    crc64Tab (a ++ x :: z) ≠ crc64Tab (a ++ y :: z) := by
  intro h
  unfold crc64Tab at h
  rw [crc64TabFrom_append, crc64TabFrom_append] at h
  simp only [crc64TabFrom, List.foldl_cons] at h
  have := crc64TabFrom_inj_state z _ _ h
  exact hxy (crc64TabStep_inj_byte _ x y this)

end GunYu.Rdb
