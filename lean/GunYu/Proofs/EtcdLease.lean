/-
  Helper lemmas for the etcd half of C15 (property statements: Props/C15Etcd.lean).

  1. the *generated* requests evaluated symbolically: `evalTxn Gen.etcdCampaignTxn`
     / `evalTxn Gen.etcdResignTxn` / the plain Get and Delete equal closed-form
     specifications for every store and every argument. These proofs are what
     is re-checked when etcd_election.go's requests are edited;
  2. facts about `minCreate` / `firstCreate`, the owner test, well-formed key spaces.
-/
import GunYu.Model.EtcdLease
import GunYu.Proofs.EtcdHex

set_option linter.unusedSimpArgs false

namespace GunYu.Etcd
open GunYu

def newKV (a : Args) (st : Store) : KV := { key := a.key, val := a.val, create := st.rev + 1, lease := a.lease }

/-- what `try`'s transaction is expected to do: create the caller's key at a
    new revision if it is absent (refused when the session's lease is gone),
    otherwise read it back; in both cases report the first-created key under
    the prefix as seen AFTER that -/
def campaignTxnSpec (a : Args) (st : Store) : Option (Store × TxnResp) :=
  if a.key = [] ∨ a.pfx = [] then none else
  match findKey st.kvs a.key with
  | none =>
    if st.leaseLive a.lease then
      some ({ st with kvs := st.kvs ++ [newKV a st], rev := st.rev + 1 },
            { ok := true, hdr := st.rev + 1, resps := [[], (firstCreate (st.kvs ++ [newKV a st]) a.pfx).toList] })
    else none
  | some kv =>
    some (st, { ok := false, hdr := st.rev, resps := [[kv], (firstCreate st.kvs a.pfx).toList] })

theorem campaignTxn_eval (a : Args) (st : Store) (hpos : ∀ kv ∈ st.kvs, 1 ≤ kv.create) :
    evalTxn Gen.etcdCampaignTxn a st = campaignTxnSpec a st := by
  unfold evalTxn campaignTxnSpec Gen.etcdCampaignTxn
  by_cases hk : a.key = []
  · simp [keysOk, Op.ref, Args.ref, hk]
  by_cases hp : a.pfx = []
  · simp [keysOk, Op.ref, Args.ref, hk, hp]
  cases hf : findKey st.kvs a.key with
  | none =>
    by_cases hl : st.leaseLive a.lease = true
    · simp [keysOk, Op.ref, Args.ref, hk, hp, evalCmp, createRevOf, hf, evalOps, evalOp, putKV, hl, newKV]
    · simp [keysOk, Op.ref, Args.ref, hk, hp, evalCmp, createRevOf, hf, evalOps, evalOp, putKV, hl, newKV]
  | some kv =>
    have hmem : kv ∈ st.kvs := List.mem_of_find?_eq_some hf
    have hc : ¬ kv.create = 0 := by have := hpos kv hmem; omega
    simp [keysOk, Op.ref, Args.ref, hk, hp, evalCmp, createRevOf, hf, evalOps, evalOp, hc]

/-- `Resign`'s transaction: delete the caller's key only if it is still there
    at the create revision the caller knows -/
def resignTxnSpec (a : Args) (st : Store) : Option (Store × TxnResp) :=
  if a.key = [] then none else
  if some (createRevOf st.kvs a.key) = a.rev then
    some ({ st with kvs := delKV st.kvs a.key, rev := if (findKey st.kvs a.key).isSome then st.rev + 1 else st.rev },
          { ok := true, hdr := if (findKey st.kvs a.key).isSome then st.rev + 1 else st.rev, resps := [[]] })
  else some (st, { ok := false, hdr := st.rev, resps := [] })

theorem resignTxn_eval (a : Args) (st : Store) :
    evalTxn Gen.etcdResignTxn a st = resignTxnSpec a st := by
  unfold evalTxn resignTxnSpec Gen.etcdResignTxn
  by_cases hk : a.key = []
  · simp [keysOk, Op.ref, Args.ref, hk]
  by_cases hc : some (createRevOf st.kvs a.key) = a.rev
  · simp [keysOk, Op.ref, Args.ref, hk, evalCmp, hc, evalOps, evalOp]
  · simp [keysOk, Op.ref, Args.ref, hk, evalCmp, hc, evalOps, evalOp]

theorem renewGet_eval (a : Args) (st : Store) :
    evalSingle Gen.etcdRenewGet a st =
      if a.pfx = [] then none else some (st, (firstCreate st.kvs a.pfx).toList) := by
  unfold evalSingle Gen.etcdRenewGet
  by_cases hp : a.pfx = []
  · simp [keysOk, Op.ref, Args.ref, hp]
  · simp [keysOk, Op.ref, Args.ref, hp, evalOp]

theorem leaderGet_eval (a : Args) (st : Store) :
    evalSingle Gen.etcdLeaderGet a st =
      if a.pfx = [] then none else some (st, (firstCreate st.kvs a.pfx).toList) := by
  unfold evalSingle Gen.etcdLeaderGet
  by_cases hp : a.pfx = []
  · simp [keysOk, Op.ref, Args.ref, hp]
  · simp [keysOk, Op.ref, Args.ref, hp, evalOp]

theorem loserDelete_eval (a : Args) (st : Store) :
    evalSingle Gen.etcdLoserDelete a st =
      if a.key = [] then none else
        some ({ st with kvs := delKV st.kvs a.key,
                        rev := if (findKey st.kvs a.key).isSome then st.rev + 1 else st.rev }, []) := by
  unfold evalSingle Gen.etcdLoserDelete
  by_cases hk : a.key = []
  · simp [keysOk, Op.ref, Args.ref, hk]
  · simp [keysOk, Op.ref, Args.ref, hk, evalOp]

theorem minCreate_mem : ∀ {l : List KV} {m : KV}, minCreate l = some m → m ∈ l
  | [], m, h => by simp [minCreate] at h
  | kv :: rest, m, h => by
    simp only [minCreate] at h
    cases hr : minCreate rest with
    | none => simp [hr] at h; subst h; simp
    | some b =>
      simp only [hr] at h
      by_cases hle : kv.create ≤ b.create
      · simp [hle] at h; subst h; simp
      · simp [hle] at h; subst h
        exact List.mem_cons_of_mem _ (minCreate_mem hr)

theorem minCreate_le : ∀ {l : List KV} {m : KV}, minCreate l = some m → ∀ x ∈ l, m.create ≤ x.create
  | [], m, h => by simp [minCreate] at h
  | kv :: rest, m, h => by
    intro x hx
    simp only [minCreate] at h
    cases hr : minCreate rest with
    | none =>
      simp [hr] at h; subst h
      have hnil : rest = [] := by
        cases rest with
        | nil => rfl
        | cons y ys =>
          simp only [minCreate] at hr
          cases hh : minCreate ys <;> simp [hh] at hr
          split at hr <;> simp at hr
      subst hnil
      simp at hx; subst hx; exact Nat.le_refl _
    | some b =>
      simp only [hr] at h
      have hb := minCreate_le hr
      by_cases hle : kv.create ≤ b.create
      · simp [hle] at h; subst h
        rcases List.mem_cons.1 hx with rfl | hx
        · exact Nat.le_refl _
        · exact Nat.le_trans hle (hb x hx)
      · simp [hle] at h; subst h
        rcases List.mem_cons.1 hx with rfl | hx
        · omega
        · exact hb x hx

theorem minCreate_none : ∀ {l : List KV}, minCreate l = none → l = []
  | [], _ => rfl
  | kv :: rest, h => by
    simp only [minCreate] at h
    cases hr : minCreate rest with
    | none => simp [hr] at h
    | some b => simp only [hr] at h; split at h <;> simp at h

theorem firstCreate_some {kvs : List KV} {p : Bytes} {m : KV} (h : firstCreate kvs p = some m) :
    m ∈ kvs ∧ p.isPrefixOf m.key = true ∧ ∀ x ∈ kvs, p.isPrefixOf x.key = true → m.create ≤ x.create := by
  unfold firstCreate underPfx at h
  have hm := minCreate_mem h
  have hle := minCreate_le h
  rw [List.mem_filter] at hm
  refine ⟨hm.1, hm.2, fun x hx hp => hle x ?_⟩
  rw [List.mem_filter]; exact ⟨hx, hp⟩

theorem firstCreate_none {kvs : List KV} {p : Bytes} (h : firstCreate kvs p = none) :
    ∀ x ∈ kvs, p.isPrefixOf x.key = true → False := by
  unfold firstCreate underPfx at h
  have := minCreate_none h
  intro x hx hp
  have hm : x ∈ kvs.filter (fun kv => p.isPrefixOf kv.key) := by rw [List.mem_filter]; exact ⟨hx, hp⟩
  rw [this] at hm; simp at hm

/-- the owner test of `Campaign`: no key under the prefix, or the first-created one has revision `c` -/
def ownerIs (kvs : List KV) (p : Bytes) (c : Nat) : Bool :=
  match firstCreate kvs p with
  | none => true
  | some ow => ow.create == c

/-- `len(ownerKey) == 0 || ownerKey[0].CreateRevision == e.rev` on the answer to the prefix Get -/
theorem ownerTest_eq (kvs : List KV) (p : Bytes) (c : Nat) :
    ((firstCreate kvs p).toList.isEmpty || ((firstCreate kvs p).toList.head?.map (·.create)) == some c)
      = ownerIs kvs p c := by
  unfold ownerIs
  cases firstCreate kvs p <;> simp [Option.toList]

theorem ownerIs_min {kvs : List KV} {p : Bytes} {c : Nat} (h : ownerIs kvs p c = true) :
    ∀ kv ∈ kvs, p.isPrefixOf kv.key = true → c ≤ kv.create := by
  unfold ownerIs at h
  intro kv hkv hp
  cases hfc : firstCreate kvs p with
  | none => exact absurd hp (fun hp => firstCreate_none hfc kv hkv hp)
  | some ow =>
    rw [hfc] at h
    have := (firstCreate_some hfc).2.2 kv hkv hp
    simp only [beq_iff_eq] at h
    omega

theorem findKey_some {kvs : List KV} {k : Bytes} {kv : KV} (h : findKey kvs k = some kv) :
    kv ∈ kvs ∧ kv.key = k := by
  unfold findKey at h
  refine ⟨List.mem_of_find?_eq_some h, ?_⟩
  have := List.find?_some h
  simpa using this

theorem findKey_none {kvs : List KV} {k : Bytes} (h : findKey kvs k = none) :
    ∀ kv ∈ kvs, kv.key ≠ k := by
  unfold findKey at h
  intro kv hkv
  have := List.find?_eq_none.1 h kv hkv
  simpa using this

/-- well-formed key space: create revisions are positive, at most the store
    revision and pairwise different; keys are pairwise different, never empty
    and never `"\x00"` -/
structure Wf (kvs : List KV) (rev : Nat) : Prop where
  pos : ∀ kv ∈ kvs, 1 ≤ kv.create ∧ kv.create ≤ rev
  keys : kvs.Pairwise (fun a b => a.key ≠ b.key)
  creates : kvs.Pairwise (fun a b => a.create ≠ b.create)
  names : ∀ kv ∈ kvs, kv.key ≠ [] ∧ kv.key ≠ nulKey

theorem Wf.nil (rev : Nat) : Wf [] rev :=
  ⟨by simp, List.Pairwise.nil, List.Pairwise.nil, by simp⟩

theorem Wf.filter {kvs : List KV} {rev : Nat} (h : Wf kvs rev) (f : KV → Bool) (rev' : Nat) (hr : rev ≤ rev') :
    Wf (kvs.filter f) rev' := by
  refine ⟨fun kv hkv => ?_, h.keys.filter _, h.creates.filter _, fun kv hkv => h.names kv (List.mem_filter.1 hkv).1⟩
  have := h.pos kv (List.mem_filter.1 hkv).1
  omega

theorem Wf.append {kvs : List KV} {rev : Nat} (h : Wf kvs rev) (kv : KV)
    (hnew : ∀ x ∈ kvs, x.key ≠ kv.key) (hc : kv.create = rev + 1)
    (hn : kv.key ≠ [] ∧ kv.key ≠ nulKey) : Wf (kvs ++ [kv]) (rev + 1) := by
  refine ⟨fun x hx => ?_, ?_, ?_, fun x hx => ?_⟩
  · rcases List.mem_append.1 hx with hx | hx
    · have := h.pos x hx; omega
    · simp at hx; subst hx; omega
  · rw [List.pairwise_append]
    refine ⟨h.keys, List.pairwise_singleton _ _, fun a ha b hb => ?_⟩
    simp at hb; subst hb; exact hnew a ha
  · rw [List.pairwise_append]
    refine ⟨h.creates, List.pairwise_singleton _ _, fun a ha b hb => ?_⟩
    simp at hb; subst hb
    have := h.pos a ha; omega
  · rcases List.mem_append.1 hx with hx | hx
    · exact h.names x hx
    · simp at hx; subst hx; exact hn

theorem pairwise_eq_of {α β : Type} (f : α → β) : ∀ {l : List α}, l.Pairwise (fun a b => f a ≠ f b) →
    ∀ {a b : α}, a ∈ l → b ∈ l → f a = f b → a = b
  | [], _, a, _, ha, _, _ => by simp at ha
  | x :: xs, h, a, b, ha, hb, e => by
    rw [List.pairwise_cons] at h
    rcases List.mem_cons.1 ha with hax | ha' <;> rcases List.mem_cons.1 hb with hbx | hb'
    · rw [hax, hbx]
    · rw [hax] at e; exact absurd e (h.1 b hb')
    · rw [hbx] at e; exact absurd e.symm (h.1 a ha')
    · exact pairwise_eq_of f h.2 ha' hb' e

theorem Wf.eq_of_create {kvs : List KV} {rev : Nat} (h : Wf kvs rev) {a b : KV}
    (ha : a ∈ kvs) (hb : b ∈ kvs) (hc : a.create = b.create) : a = b :=
  pairwise_eq_of (fun kv => kv.create) h.creates ha hb hc

theorem Wf.eq_of_key {kvs : List KV} {rev : Nat} (h : Wf kvs rev) {a b : KV}
    (ha : a ∈ kvs) (hb : b ∈ kvs) (hk : a.key = b.key) : a = b :=
  pairwise_eq_of (fun kv => kv.key) h.keys ha hb hk

end GunYu.Etcd
