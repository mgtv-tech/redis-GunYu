/-
  C01/C02/C09 at run level: over any event list the loop forwards `fwd`, emits only
  well-formed batches, and a forced flush empties the queue.
-/
import GunYu.Proofs.SenderDataO
import GunYu.Proofs.SenderCp
import GunYu.Proofs.TargetExec

namespace GunYu.Sender
open GunYu.Target

/-- the forwarded stream of a schedule: what the documented removals leave
    (keep-alives, transaction brackets); the loop stops at `done` -/
def fwd (t : Txn) : List Ev → List Cmd
  | [] => []
  | ev :: rest => (fwd1 t ev).1 ++ (if ev = .done then [] else fwd (fwd1 t ev).2 rest)

theorem run_data (c : SCfg) (s : SState) (evs : List Ev) :
    dataOut (run c s evs).2 ++ qd (run c s evs).1 = qd s ++ fwd s.txn evs := by
  induction evs generalizing s with
  | nil => simp [run, fwd]
  | cons ev rest ih =>
    obtain ⟨h1, ht⟩ := step_data c s ev
    simp only [run, fwd]
    split
    · simp only [List.append_nil]; exact h1
    · rw [dataOut_append, List.append_assoc, ih, ht, ← List.append_assoc, h1, List.append_assoc]

/-! every batch the loop emits is well formed (plain body, optionally bracketed) -/

def AllWF (out : List Batch) : Prop := ∀ b ∈ out, WFBatch b

theorem allWF_nil : AllWF [] := by intro b hb; cases hb
theorem allWF_append {a b : List Batch} (ha : AllWF a) (hb : AllWF b) : AllWF (a ++ b) := by
  intro x hx; rcases List.mem_append.mp hx with h | h
  · exact ha x h
  · exact hb x h

theorem sendOnce_wf (c : SCfg) (s : SState) (tb up : Bool) (off : Int) :
    AllWF (optToList (sendOnce c s tb up off).2) := by
  rcases sendOnce_cases c s tb up off with ⟨_, h⟩ | h <;> rw [h]
  · exact allWF_nil
  · intro b hb
    cases List.mem_singleton.mp hb
    exact wf_sendReqs ..

theorem tail_wf (c : SCfg) (s : SState) (tb up : Bool) (out : List Batch) (h : AllWF out) :
    AllWF (tail c s tb up out).2 := by
  rw [tail_eq]
  split
  · exact allWF_append h (sendOnce_wf _ _ _ _ _)
  · exact h

theorem preFlush_wf (c : SCfg) (s : SState) (t : Txn) (nf : Bool) (prev : Int) :
    AllWF (preFlush c s t nf prev).2 := by
  unfold preFlush
  split
  · exact sendOnce_wf _ _ _ _ _
  · exact allWF_nil

theorem tick_wf (c : SCfg) (s : SState) (ev : Ev) (hev : ∀ it, ev ≠ .item it) :
    AllWF (step c s ev).2 := by
  rcases step_tick c s ev hev with ⟨_, _, -, h⟩ | ⟨-, h⟩ <;> rw [h] <;> exact tail_wf _ _ _ _ _ allWF_nil

theorem step_wf (c : SCfg) (s : SState) (ev : Ev) : AllWF (step c s ev).2 := by
  cases ev with
  | item it =>
    simp only [step]
    split
    · exact allWF_nil
    · unfold stepItem
      simp only
      split
      · exact tail_wf _ _ _ _ _ (preFlush_wf _ _ _ _ _)
      · unfold stepItemPlain
        split
        · exact allWF_nil
        · split <;> exact tail_wf _ _ _ _ _ allWF_nil
  | _ => exact tick_wf c s _ nofun

theorem run_wf (c : SCfg) (s : SState) (evs : List Ev) : AllWF (run c s evs).2 := by
  induction evs generalizing s with
  | nil => exact allWF_nil
  | cons ev rest ih =>
    simp only [run]
    split
    · exact step_wf c s ev
    · exact allWF_append (step_wf c s ev) (ih _)

theorem sendOnce_queue_nil (c : SCfg) (s : SState) (tb up : Bool) (off : Int) :
    (sendOnce c s tb up off).1.queue = [] := by
  rcases sendOnce_cases c s tb up off with ⟨hq, h⟩ | h <;> rw [h]
  exact hq

theorem tail_forced_queue_nil (c : SCfg) (s : SState) (tb up : Bool) (out : List Batch)
    (h : s.needFlush = true) : (tail c s tb up out).1.queue = [] := by
  rw [tail_eq, h]
  exact sendOnce_queue_nil ..

theorem tail_quiet (c : SCfg) (s : SState) (tb up : Bool) (out : List Batch)
    (h1 : s.inTxn = true) (h2 : s.needFlush = false) : tail c s tb up out = (s, out) := by
  rw [tail_eq, h1, h2]
  rfl

/-- a forced in-item flush leaves an empty queue and resets the flags -/
theorem preFlush_forced (c : SCfg) (s : SState) (t : Txn) (prev : Int) :
    (preFlush c s t true prev).1.queue = [] ∧ (preFlush c s t true prev).1.needFlush = false ∧
    (preFlush c s t true prev).1.inTxn = false ∧ (preFlush c s t true prev).1.txn = s.txn ∧
    (preFlush c s t true prev).1.lastOffset = s.lastOffset := by
  unfold preFlush
  rw [if_pos rfl]
  refine ⟨?_, rfl, rfl, ?_, ?_⟩
  · exact sendOnce_queue_nil _ _ _ _ _
  · exact (sendOnce_data _ _ _ _ _).2
  · exact (sendOnce_cp _ _ _ _ _).1

end GunYu.Sender
