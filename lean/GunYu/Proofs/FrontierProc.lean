/-
  The replay system with the memory of the process (Model/FrontierProc.lean): restarts inside one process
  (frontier-miss fast path), loops that stop, clean-ups that give up. The invariant `PInv` extends `TInv`; it is
  kept by the four quiet steps (`pinv_quiet`), a start, a stop and a give-up, each in a lemma. Core only.
-/
import GunYu.Model.FrontierProc
import GunYu.Proofs.FrontierTraffic

namespace GunYu.Frontier
open GunYu

theorem QSafe_le_lastBound (ids : List Bytes) (q : List Req) : ∀ b, QSafe ids b q → b ≤ lastBound b q := by
  induction q with
  | nil => intro b _; exact Int.le_refl _
  | cons x q ih =>
    intro b h
    cases x with
    | saveFrontier f => exact Int.le_trans h.2.1 (ih _ h.2.2)
    | delRec k => exact ih _ h.2
    | zrem ks => exact ih _ h.2
    | delFrontier => exact h.elim
    | commit r => exact h.elim
    | commitLatest r => exact h.elim

theorem CoordOk.weaken {W : World} {c : Coord} {B B' : Int} (h : CoordOk W c B) (hb : B' ≤ B) :
    CoordOk W c B' := ⟨Int.le_trans hb h.cb, h.adv, h.vis, h.pend⟩

theorem coordFlush_frontier (c : Coord) (now : Int) : (coordFlush c now).1.frontier = c.frontier := by
  unfold coordFlush; split <;> rfl

theorem coordOnCommitted_frontier_le (c : Coord) (r : Rec) (now : Int) (pol : FlushPolicy) :
    c.frontier.seq ≤ (coordOnCommitted c r now pol).1.frontier.seq := by
  refine coordOnCommitted_cases (P := fun x => c.frontier.seq ≤ x.1.frontier.seq) c r now pol ?_
  intro c₁ c₂ adv hc₁ hadv
  have h1 := (coordAdvance_bound [] c₁.pending.length c₁).1
  rw [hadv, hc₁] at h1
  exact ⟨fun _ => h1, fun _ => ⟨by rw [coordFlush_frontier]; exact h1, h1⟩⟩

theorem startMisses_snapSeq {ver : Bytes} {ns : NS} {ids : List Bytes} (h0 : 0 ≤ snapSeq ns ids)
    (h : startMisses ver ns ids = true) : snapSeq ns ids = 0 := by
  unfold startMisses at h
  refine (rebuild_zero ver _ ((startRecords ns ids).map (·.r)) h0 fun f hrb => ?_).1
  rw [hrb] at h
  exact of_decide_eq_true h

/-- a start that does not miss returns a positive number or the root because it is newer -/
theorem startMisses_false {ver : Bytes} {ns : NS} {ids : List Bytes} (h : startMisses ver ns ids = false) :
    ∃ f, rebuild ver (loadSnapshot ns ids) ((startRecords ns ids).map (·.r)) = .ok (some f) ∧ f.seq > 0 := by
  unfold startMisses at h
  cases hrb : rebuild ver (loadSnapshot ns ids) ((startRecords ns ids).map (·.r)) with
  | error m => rw [hrb] at h; exact absurd h (by simp)
  | ok res =>
    cases res with
    | none => rw [hrb] at h; exact absurd h (by simp)
    | some f =>
      rw [hrb] at h
      simp only [decide_eq_false_iff_not] at h
      exact ⟨f, rfl, by omega⟩

/-- what `commit`, `report`, `tick`, `apply` do to the fields the process invariant talks about -/
structure Quiet (s s' : TSys) : Prop where
  root : s'.ns.root = s.ns.root
  run : ∀ r', s'.run = some r' → ∃ r, s.run = some r ∧ r'.startSeq = r.startSeq ∧
          r.coord.frontier.seq ≤ r'.coord.frontier.seq
  idle : s'.run = none → s' = s
  rq : (s'.rq = s.rq ∧ (s.rq ≠ [] → s' = s)) ∨ ∃ q, s.rq = q :: s'.rq ∧ s'.ns = applyReq s.ns q ∧ s'.cq = s.cq
  com : ∀ x, x ∈ s.committed → x ∈ s'.committed

theorem tstep_quiet {W : World} {s : TSys} (hidle : s.run = none → s.rq = [] ∧ s.cq = []) (st : Step)
    (h1 : st ≠ .start) (h2 : st ≠ .crash) : Quiet s (tstep W s st) := by
  have keep : ∀ r', s.run = some r' → ∃ r, s.run = some r ∧ r'.startSeq = r.startSeq ∧
      r.coord.frontier.seq ≤ r'.coord.frontier.seq := fun r' hr' => ⟨r', hr', rfl, Int.le_refl _⟩
  refine tstep_cases (t := s) rfl rfl rfl rfl (P := fun st s' _ => st ≠ .start → st ≠ .crash → Quiet s s') st
    (fun _ _ => ⟨rfl, keep, fun _ => rfl, Or.inl ⟨rfl, fun _ => rfl⟩, fun _ hx => hx⟩)
    (fun _ h _ => absurd rfl h) ?_ ?_ ?_ ?_ ?_ (fun _ h => absurd rfl h) h1 h2
  · intro r i mt hr hq _ _ _
    exact ⟨applyReq_root _ _, keep, (fun hn => nomatch hr.symm.trans hn), Or.inl ⟨rfl, fun hn => absurd hq hn⟩,
      fun x hx => List.mem_cons_of_mem _ hx⟩
  · intro r i mt now hr hq _ _ _ _
    refine ⟨rfl, fun r' hr' => ?_, (fun hn => nomatch hn), Or.inl ⟨rfl, fun hn => absurd hq hn⟩, fun x hx => hx⟩
    cases hr'
    exact ⟨r, hr, rfl, coordOnCommitted_frontier_le _ _ _ _⟩
  · intro r now hr hq _ _
    refine ⟨rfl, fun r' hr' => ?_, (fun hn => nomatch hn), Or.inl ⟨rfl, fun hn => absurd hq hn⟩, fun x hx => hx⟩
    cases hr'
    exact ⟨r, hr, rfl, by rw [coordFlush_frontier]; exact Int.le_refl _⟩
  · intro q rest hq _ _
    exact ⟨applyReq_root _ _, keep, fun hn => absurd (hidle hn).1 (by rw [hq]; exact List.cons_ne_nil _ _),
      Or.inr ⟨q, hq, rfl, rfl⟩, fun x hx => hx⟩
  · intro q rest hq hc _ _
    exact ⟨applyReq_root _ _, keep, fun hn => absurd (hidle hn).2 (by rw [hc]; exact List.cons_ne_nil _ _),
      Or.inl ⟨rfl, fun hn => absurd hq hn⟩, fun x hx => hx⟩

/-- the fast path will answer the next start of this process -/
def Armed (W : World) (ns : NS) (m : Mem) : Prop :=
  ∃ root, ns.root = some root ∧ root.1 ≠ [] ∧ matchRun root.1 W.ids = true ∧ m.miss = root.1

/-- the purge of a start that fell back to the root is outstanding -/
def PurgeOut (s : TSys) : Prop := ∃ r, s.run = some r ∧ r.startSeq = 0 ∧ s.rq ≠ []

structure PInv (W : World) (s : PSys) : Prop where
  ti : TInv W s.t
  rqcq : s.t.rq ≠ [] → s.t.cq = []
  runMem : ∀ r, s.t.run = some r → ∃ m, s.mem = some m
  adv : ∀ r, s.t.run = some r → r.startSeq ≤ r.coord.frontier.seq
  purge : ∀ r, s.t.run = some r → r.startSeq = 0 → s.t.rq ≠ [] → PurgeQ s.t.rq
  memOk : ∀ m, s.mem = some m →
    0 ≤ m.seq ∧ (0 < m.seq → m.off = W.e m.seq) ∧ PrefixCommitted s.t.committed m.seq
  snapLe : ∀ m, s.mem = some m → Armed W s.t.ns m → (s.t.run = none ∨ PurgeOut s.t) →
    snapSeq s.t.ns W.ids ≤ m.seq
  fl0 : s.mem = none → s.floor = 0
  flNonneg : 0 ≤ s.floor
  flRun : ∀ r, s.t.run = some r → s.floor = r.startSeq
  flMem : ∀ m, s.mem = some m → s.t.run = none → s.floor ≤ m.seq
  flFresh : (∀ m, s.mem = some m → ¬ Armed W s.t.ns m) → s.floor ≤ startSeqOf W.ver s.t.ns W.ids

theorem mono_of_strict {W : World} (hs : ∀ i j, i < j → W.e i < W.e j) : ∀ i j, i ≤ j → W.e i ≤ W.e j := by
  intro i j h
  by_cases e : i = j
  · rw [e]; exact Int.le_refl _
  · exact Int.le_of_lt (hs i j (by omega))

theorem fastPath_some {root : Bytes × Int × Nat} {ids : List Bytes} {m : Mem} {a : Nat × Bytes × Int × Int}
    (h : fastPath root ids m = some a) :
    root.1 ≠ [] ∧ matchRun root.1 ids = true ∧ m.miss = root.1 ∧
      ((m.seq > 0 ∧ m.off > root.2.1 ∧ a = (0, root.1, m.off, m.seq)) ∨
       (¬ (m.seq > 0 ∧ m.off > root.2.1) ∧ a = (root.2.2, root.1, root.2.1, 0))) := by
  unfold fastPath at h
  by_cases h1 : root.1 = [] ∨ matchRun root.1 ids = false
  · rw [if_pos h1] at h; cases h
  · by_cases h2 : m.miss ≠ root.1
    · rw [if_neg h1, if_pos h2] at h; cases h
    · rw [if_neg h1, if_neg h2] at h
      have hm : matchRun root.1 ids = true := by
        cases hm : matchRun root.1 ids with
        | true => rfl
        | false => exact absurd (Or.inr hm) h1
      refine ⟨fun e => h1 (Or.inl e), hm, Classical.not_not.mp h2, ?_⟩
      by_cases h3 : m.seq > 0 ∧ m.off > root.2.1
      · rw [if_pos h3] at h; exact Or.inl ⟨h3.1, h3.2, (Option.some.inj h).symm⟩
      · rw [if_neg h3] at h; exact Or.inr ⟨h3, (Option.some.inj h).symm⟩

theorem fastPath_none {root : Bytes × Int × Nat} {ids : List Bytes} {m : Mem}
    (h : fastPath root ids m = none) : ¬ (root.1 ≠ [] ∧ matchRun root.1 ids = true ∧ m.miss = root.1) := by
  intro ⟨a, b, c⟩
  unfold fastPath at h
  rw [if_neg (by intro hh; rcases hh with hh | hh; exact a hh; rw [b] at hh; exact absurd hh (by simp))] at h
  rw [if_neg (by intro hh; exact hh c)] at h
  split at h <;> exact absurd h (by simp)

theorem pinv_quiet {W : World} (hm : ∀ i j, i ≤ j → W.e i ≤ W.e j) (hvis : matchRun W.rid W.ids = true)
    {s : PSys} (h : PInv W s) (st : Step) (h1 : st ≠ .start) (h2 : st ≠ .crash) :
    PInv W { s with t := tstep W s.t st } ∧
      startSeqOf W.ver s.t.ns W.ids ≤ startSeqOf W.ver (tstep W s.t st).ns W.ids := by
  obtain ⟨hti, hmono⟩ := tstep_tinv hm hvis h.ti st
  have hq := tstep_quiet (W := W) h.ti.idle st h1 h2
  have harm : ∀ m, Armed W (tstep W s.t st).ns m ↔ Armed W s.t.ns m := by
    intro m; unfold Armed; rw [hq.root]
  -- a run of the new state with the recovery queue not empty: the run and the queue it came from
  have hout : ∀ r', (tstep W s.t st).run = some r' → r'.startSeq = 0 → (tstep W s.t st).rq ≠ [] →
      ∃ r, s.t.run = some r ∧ r.startSeq = 0 ∧
        (tstep W s.t st = s.t ∨ ∃ q, s.t.rq = q :: (tstep W s.t st).rq ∧
          (tstep W s.t st).ns = applyReq s.t.ns q ∧ PurgeQ (q :: (tstep W s.t st).rq)) := by
    intro r' hr' h0 hne
    obtain ⟨r, hr, e1, _⟩ := hq.run r' hr'
    refine ⟨r, hr, e1 ▸ h0, ?_⟩
    rcases hq.rq with ⟨e3, e4⟩ | ⟨q, e3, e4, _⟩
    · exact Or.inl (e4 (e3 ▸ hne))
    · exact Or.inr ⟨q, e3, e4, e3 ▸ h.purge r hr (e1 ▸ h0) (by rw [e3]; exact List.cons_ne_nil _ _)⟩
  refine ⟨⟨hti, ?_, ?_, ?_, ?_, ?_, ?_, h.fl0, h.flNonneg, ?_, ?_, ?_⟩, hmono⟩
  · intro hne
    rcases hq.rq with ⟨e1, e2⟩ | ⟨q, e1, _, e3⟩
    · rw [e1] at hne; rw [e2 hne]; exact h.rqcq hne
    · rw [e3]; exact h.rqcq (by rw [e1]; exact List.cons_ne_nil _ _)
  · intro r' hr'
    obtain ⟨r, hr, _⟩ := hq.run r' hr'
    exact h.runMem r hr
  · intro r' hr'
    obtain ⟨r, hr, e1, e2⟩ := hq.run r' hr'
    rw [e1]; exact Int.le_trans (h.adv r hr) e2
  · intro r' hr' h0 hne
    obtain ⟨r, hr, hz, e | ⟨q, _, _, hpq⟩⟩ := hout r' hr' h0 hne
    · rw [e] at hne ⊢; exact h.purge r hr hz hne
    · exact (purgeQ_tail hpq hne).1
  · intro m hmem
    obtain ⟨a, b, c⟩ := h.memOk m hmem
    exact ⟨a, b, fun j h1 h2 => hq.com j (c j h1 h2)⟩
  · intro m hmem harm' hcase
    rw [harm] at harm'
    rcases hcase with hn | ⟨r', hr', h0, hne⟩
    · have e := hq.idle hn
      rw [e] at hn ⊢; exact h.snapLe m hmem harm' (Or.inl hn)
    · obtain ⟨r, hr, hz, e | ⟨q, e3, e4, hpq⟩⟩ := hout r' hr' h0 hne
      · rw [e] at hne ⊢; exact h.snapLe m hmem harm' (Or.inr ⟨r, hr, hz, hne⟩)
      · -- a delete of the purge was applied: the snapshot is still there
        have hle := h.snapLe m hmem harm' (Or.inr ⟨r, hr, hz, by rw [e3]; exact List.cons_ne_nil _ _⟩)
        rw [e4]
        rcases (purgeQ_tail hpq hne).2 with ⟨k, rfl⟩ | ⟨ks, rfl⟩ <;> exact hle
  · intro r' hr'
    obtain ⟨r, hr, e1, _⟩ := hq.run r' hr'
    rw [e1]; exact h.flRun r hr
  · intro m hmem hn
    have e := hq.idle hn
    rw [e] at hn; exact h.flMem m hmem hn
  · intro hna
    exact Int.le_trans (h.flFresh (fun m hmem ha => hna m hmem ((harm m).mpr ha))) hmono

theorem pinv_start {W : World} (hs : ∀ i j, i < j → W.e i < W.e j) (hvis : matchRun W.rid W.ids = true)
    {s : PSys} (h : PInv W s) (hr : s.t.run = none) :
    PInv W (pstart W s) ∧ startSeqOf W.ver s.t.ns W.ids ≤ startSeqOf W.ver (pstart W s).t.ns W.ids ∧
      s.floor ≤ (pstart W s).floor := by
  have hm := mono_of_strict hs
  obtain ⟨root, hroot⟩ := h.ti.root
  have hroot0 : root.2.1 = W.e 0 := h.ti.hi.root root hroot
  -- the memory the start works with: that of the live process, or a fresh one
  have hmem0 : 0 ≤ (s.mem.getD {}).seq ∧ (0 < (s.mem.getD {}).seq → (s.mem.getD {}).off = W.e (s.mem.getD {}).seq) ∧
      PrefixCommitted s.t.committed (s.mem.getD {}).seq ∧ (s.mem = none → (s.mem.getD {}).miss = []) ∧
      (∀ m', s.mem = some m' → m' = s.mem.getD {}) := by
    cases hmem : s.mem with
    | none => exact ⟨by decide, fun hh => absurd hh (by decide), fun j h1 h2 => absurd (Int.lt_of_lt_of_le h1 h2) (by decide),
        fun _ => rfl, fun m' hm' => nomatch hm'⟩
    | some m0 =>
      obtain ⟨a, b, c⟩ := h.memOk m0 hmem
      exact ⟨a, b, c, (fun hn => nomatch hn), fun m' hm' => (Option.some.inj hm').symm⟩
  obtain ⟨hm0a, hm0b, hm0c, hm0d, hm0e⟩ := hmem0
  cases hfp : fastPath root W.ids (s.mem.getD {}) with
  | some a =>
    obtain ⟨hr1, hr2, hr3, hcase⟩ := fastPath_some hfp
    -- the memory is that of a live process, and it is armed
    have hsome : s.mem = some (s.mem.getD {}) := by
      cases hmem : s.mem with
      | none => rw [hm0d hmem] at hr3; exact absurd hr3.symm hr1
      | some m0 => rfl
    have harmed : Armed W s.t.ns (s.mem.getD {}) := ⟨root, hroot, hr1, hr2, hr3⟩
    have hsnap := h.snapLe _ hsome harmed (Or.inl hr)
    have hfl := h.flMem _ hsome hr
    -- the answer: (rid, off, seq) with a sound frontier
    have hans : ∃ db off seq, a = (db, root.1, off, seq) ∧ 0 ≤ seq ∧ off = W.e seq ∧
        PrefixCommitted s.t.committed seq ∧ snapSeq s.t.ns W.ids ≤ seq ∧ s.floor ≤ seq := by
      rcases hcase with ⟨h1, h2, h3⟩ | ⟨h1, h3⟩
      · exact ⟨_, _, _, h3, hm0a, hm0b h1, hm0c, hsnap, hfl⟩
      · have hz : (s.mem.getD {}).seq = 0 := by
          by_cases hp : 0 < (s.mem.getD {}).seq
          · exact absurd ⟨hp, by rw [hm0b hp, hroot0]; exact hs 0 _ hp⟩ h1
          · omega
        rw [hz] at hsnap hfl
        exact ⟨_, _, _, h3, Int.le_refl _, hroot0, fun j h1 h2 => by omega, hsnap, hfl⟩
    obtain ⟨db, off, seq, rfl, hq0, hoff, hpre, hsn, hflo⟩ := hans
    have e : pstart W s = { t := { s.t with run := some (mkRun W.ver root.1 off seq), rq := [], cq := [] }, mem := some (s.mem.getD {}), floor := seq } := by
      simp only [pstart, hroot, hfp]
    rw [e]
    refine ⟨⟨⟨⟨h.ti.hi.root, h.ti.hi.jr, h.ti.hi.fr, fun r' hr' => ?_, fun q hq => nomatch hq⟩, h.ti.ix, ⟨root, hroot⟩,
        (fun hn => nomatch hn), fun r' hr' => ?_⟩,
      fun hne => absurd rfl hne, fun _ _ => ⟨_, rfl⟩, fun r' hr' => ?_, fun _ _ _ hne => absurd rfl hne,
      fun m hmem => ?_, fun _ _ _ hc => ?_, (fun hn => nomatch hn), hq0, fun r' hr' => ?_, (fun _ _ hn => nomatch hn),
      fun hna => absurd harmed (hna _ rfl)⟩, Int.le_refl _, hflo⟩
    · cases hr'; exact ⟨⟨hq0, hoff, hpre⟩, hq0, fun _ hp => nomatch hp⟩
    · cases hr'; exact phase_fresh rfl trivial hsn rfl rfl
    · cases hr'; exact Int.le_refl _
    · cases hmem; exact ⟨hm0a, hm0b, hm0c⟩
    · rcases hc with hc | ⟨_, _, _, hne⟩
      · cases hc
      · exact absurd rfl hne
    · cases hr'; rfl
  | none =>
    have hnarm := fastPath_none hfp
    have e : pstart W s = { t := tstartRun W s.t, mem := some { (s.mem.getD {}) with miss := missAfter root (startMisses W.ver s.t.ns W.ids) (s.mem.getD {}).miss }, floor := startSeqOf W.ver s.t.ns W.ids } := by
      simp only [pstart, hroot, hfp]
    rw [e]
    obtain ⟨hti, -⟩ := tstep_tinv hm hvis h.ti .start
    rw [tstep_start hr] at hti
    obtain ⟨rid, off, seq, hns, hcom, hrun, hcq, hseq, hcase⟩ := tstartRun_fields W s.t hroot
    have hnot : ∀ m, s.mem = some m → ¬ Armed W s.t.ns m := by
      intro m hmem ⟨root', hroot', a, b, c⟩
      cases hroot.symm.trans hroot'
      rw [hm0e m hmem] at c
      exact hnarm ⟨a, b, c⟩
    refine ⟨⟨hti, fun _ => hcq, fun _ _ => ⟨_, rfl⟩, fun r' hr' => ?_, fun r' hr' hz hne => ?_, fun m hmem => ?_,
      fun m hmem harm _ => ?_, (fun hn => nomatch hn), startSeqOf_nonneg _ _ _, fun r' hr' => ?_,
      (fun _ _ hn => nomatch hrun.symm.trans hn), fun _ => by rw [hns]; exact Int.le_refl _⟩,
      by rw [hns]; exact Int.le_refl _, h.flFresh hnot⟩
    · cases hrun.symm.trans hr'; exact Int.le_refl _
    · cases hrun.symm.trans hr'
      rcases hcase with ⟨_, _, _, hp | ⟨hrq, _⟩⟩ | ⟨f, _, hpos, rfl, _⟩
      · exact hp
      · exact absurd hrq hne
      · exact absurd hz (Int.ne_of_gt hpos)
    · cases hmem; rw [hcom]; exact ⟨hm0a, hm0b, hm0c⟩
    · cases hmem
      rw [hns] at harm ⊢
      obtain ⟨root', hroot', a, b, c⟩ := harm
      cases hroot.symm.trans hroot'
      -- armed after a start that read the target: it missed
      have hmiss : startMisses W.ver s.t.ns W.ids = true := by
        cases hmm : startMisses W.ver s.t.ns W.ids with
        | true => rfl
        | false =>
          rw [hmm] at c
          simp only [missAfter, Bool.false_eq_true, if_false] at c
          split at c
          · exact absurd c.symm a
          · rename_i hh; exact absurd c (fun cc => hh (Or.inr cc))
      have h0 : 0 ≤ snapSeq s.t.ns W.ids := snap0_of_sysInv h.ti.hi
      rw [startMisses_snapSeq h0 hmiss]; exact hm0a
    · cases hrun.symm.trans hr'; exact hseq

theorem pinv_stop {W : World} (hm : ∀ i j, i ≤ j → W.e i ≤ W.e j) (hvis : matchRun W.rid W.ids = true)
    {s : PSys} (h : PInv W s) {r : Run} (hr : s.t.run = some r) :
    PInv W (pstop s) ∧ (pstop s).t.ns = s.t.ns ∧ s.floor = (pstop s).floor := by
  obtain ⟨hti, -⟩ := tstep_tinv hm hvis h.ti .crash
  have e2 : tstep W s.t .crash = { s.t with run := none, rq := [], cq := [] } := rfl
  rw [e2] at hti
  obtain ⟨m, hmem⟩ := h.runMem r hr
  obtain ⟨hco, hst0, _⟩ := h.ti.hi.co r hr
  by_cases hc : r.startSeq = 0 ∧ s.t.rq ≠ []
  · have e : pstop s = { s with t := { s.t with run := none, rq := [], cq := [] } } := by
      simp only [pstop, hr, hc, ne_eq, not_false_eq_true, and_self, if_true]
    rw [e]
    refine ⟨⟨hti, fun hne => absurd rfl hne, (fun _ hr' => nomatch hr'), (fun _ hr' => nomatch hr'),
      (fun _ hr' => nomatch hr'), h.memOk, fun m' hm' harm _ => h.snapLe m' hm' harm (Or.inr ⟨r, hr, hc.1, hc.2⟩),
      h.fl0, h.flNonneg, (fun _ hr' => nomatch hr'), fun m' hm' _ => ?_, fun _ => ?_⟩, rfl, rfl⟩
    · rw [h.flRun r hr, hc.1]; exact (h.memOk m' hm').1
    · rw [h.flRun r hr, hc.1]; exact startSeqOf_nonneg _ _ _
  · have e : pstop s = { s with t := { s.t with run := none, rq := [], cq := [] }, mem := some { m with seq := r.coord.frontier.seq, off := r.coord.frontier.offset } } := by
      simp only [pstop, hr, hc, if_false, hmem, Option.map_some]
    rw [e]
    have hsn : snapSeq s.t.ns W.ids ≤ r.coord.frontier.seq := by
      rcases h.ti.phase r hr with ⟨hpq, _, _, hf0, _⟩ | ⟨hq, hcok⟩
      · have := h.adv r hr
        exact absurd ⟨by omega, purgeQ_ne_nil hpq⟩ hc
      · exact Int.le_trans (QSafe_le_lastBound _ _ _ hq) hcok.cb
    refine ⟨⟨hti, fun hne => absurd rfl hne, (fun _ hr' => nomatch hr'), (fun _ hr' => nomatch hr'),
      (fun _ hr' => nomatch hr'), fun m' hm' => ?_, fun m' hm' _ _ => ?_, (fun hn => nomatch hn), h.flNonneg,
      (fun _ hr' => nomatch hr'), fun m' hm' _ => ?_, fun hna => h.flFresh (fun m' hm' ha => ?_)⟩, rfl, rfl⟩
    · cases hm'; exact ⟨hco.1, fun _ => hco.2.1, hco.2.2⟩
    · cases hm'; exact hsn
    · cases hm'; rw [h.flRun r hr]; exact h.adv r hr
    · cases hmem.symm.trans hm'; exact hna _ rfl ha

theorem pinv_giveUp {W : World} {s : PSys} (h : PInv W s) {r : Run} (hr : s.t.run = some r) (hc : 0 < r.startSeq) :
    PInv W { s with t := { s.t with rq := [] } } := by
  refine ⟨⟨⟨h.ti.hi.root, h.ti.hi.jr, h.ti.hi.fr, h.ti.hi.co, fun q hq => h.ti.hi.qu q (List.mem_append_right _ hq)⟩,
      h.ti.ix, h.ti.root, (fun hn => nomatch hr.symm.trans hn), fun r' hr' => ?_⟩,
    fun hne => absurd rfl hne, h.runMem, h.adv, fun _ _ _ hne => absurd rfl hne, h.memOk, fun m hmem harm hcase => ?_,
    h.fl0, h.flNonneg, h.flRun, h.flMem, h.flFresh⟩
  · cases hr.symm.trans hr'
    rcases h.ti.phase r hr with ⟨_, _, _, hf0, _⟩ | ⟨hq, hcok⟩
    · have := h.adv r hr; omega
    · refine Or.inr ?_
      show QSafe W.ids _ ([] ++ s.t.cq) ∧ CoordOk W _ (lastBound _ ([] ++ s.t.cq))
      by_cases hne : s.t.rq = []
      · rw [hne] at hq hcok; exact ⟨hq, hcok⟩
      · rw [h.rqcq hne]
        exact ⟨trivial, hcok.weaken (QSafe_le_lastBound _ _ _ hq)⟩
  · rcases hcase with hcase | ⟨_, _, _, hne⟩
    · exact nomatch hr.symm.trans hcase
    · exact absurd rfl hne

theorem pstep_pinv {W : World} (hs : ∀ i j, i < j → W.e i < W.e j) (hvis : matchRun W.rid W.ids = true)
    {s : PSys} (h : PInv W s) (st : PStep) :
    PInv W (pstep W s st) ∧
      startSeqOf W.ver s.t.ns W.ids ≤ startSeqOf W.ver (pstep W s st).t.ns W.ids ∧
      (st ≠ .sys .crash → s.floor ≤ (pstep W s st).floor) := by
  have hm := mono_of_strict hs
  have hsame : pstep W s st = s → PInv W (pstep W s st) ∧
      startSeqOf W.ver s.t.ns W.ids ≤ startSeqOf W.ver (pstep W s st).t.ns W.ids ∧
      (st ≠ .sys .crash → s.floor ≤ (pstep W s st).floor) := by
    intro e; rw [e]; exact ⟨h, Int.le_refl _, fun _ => Int.le_refl _⟩
  have hquiet : ∀ st', st' ≠ Step.start → st' ≠ Step.crash →
      PInv W { s with t := tstep W s.t st' } ∧
      startSeqOf W.ver s.t.ns W.ids ≤ startSeqOf W.ver (tstep W s.t st').ns W.ids ∧
      (PStep.sys st' ≠ .sys .crash → s.floor ≤ s.floor) := fun st' h1 h2 =>
    ⟨(pinv_quiet hm hvis h st' h1 h2).1, (pinv_quiet hm hvis h st' h1 h2).2, fun _ => Int.le_refl _⟩
  cases st with
  | sys st' =>
    cases st' with
    | commit i mt => exact hquiet _ Step.noConfusion Step.noConfusion
    | report i mt now => exact hquiet _ Step.noConfusion Step.noConfusion
    | tick now => exact hquiet _ Step.noConfusion Step.noConfusion
    | apply => exact hquiet _ Step.noConfusion Step.noConfusion
    | crash =>
      obtain ⟨hti, hmono⟩ := tstep_tinv hm hvis h.ti .crash
      exact ⟨⟨hti, fun hne => absurd rfl hne, (fun _ hr => nomatch hr), (fun _ hr => nomatch hr),
        (fun _ hr => nomatch hr), (fun _ hm => nomatch hm), (fun _ hm => nomatch hm), fun _ => rfl, Int.le_refl _,
        (fun _ hr => nomatch hr), (fun _ hm => nomatch hm), fun _ => startSeqOf_nonneg _ _ _⟩, hmono,
        fun hn => absurd rfl hn⟩
    | start =>
      cases hr : s.t.run with
      | some r => exact hsame (by simp only [pstep, hr])
      | none =>
        have e0 : pstep W s (.sys .start) = pstart W s := by simp only [pstep, hr]
        rw [e0]
        obtain ⟨a, b, c⟩ := pinv_start hs hvis h hr
        exact ⟨a, b, fun _ => c⟩
  | stop =>
    cases hr : s.t.run with
    | none => exact hsame (by simp only [pstep, pstop, hr])
    | some r =>
      obtain ⟨a, b, c⟩ := pinv_stop hm hvis h hr
      exact ⟨a, by rw [show pstep W s .stop = pstop s from rfl, b]; exact Int.le_refl _,
        fun _ => Int.le_of_eq c⟩
  | giveUp =>
    cases hr : s.t.run with
    | none => exact hsame (by simp only [pstep, pgiveUp, hr])
    | some r =>
      by_cases hc : 0 < r.startSeq
      · have e : pstep W s .giveUp = { s with t := { s.t with rq := [] } } := by
          simp only [pstep, pgiveUp, hr, hc, if_true]
        rw [e]
        exact ⟨pinv_giveUp h hr hc, Int.le_refl _, fun _ => Int.le_refl _⟩
      · exact hsame (by simp only [pstep, pgiveUp, hr, hc, if_false])

theorem pstart_run_seq (W : World) (s : PSys) (hr : s.t.run = none) (r : Run)
    (h : (pstart W s).t.run = some r) : r.coord.frontier.seq = r.startSeq := by
  unfold pstart at h
  cases hroot : s.t.ns.root with
  | none => rw [hroot] at h; exact nomatch hr.symm.trans h
  | some root =>
    rw [hroot] at h
    dsimp only at h
    cases hfp : fastPath root W.ids (s.mem.getD {}) with
    | some a => rw [hfp] at h; cases h; rfl
    | none =>
      rw [hfp] at h
      obtain ⟨_, _, _, _, _, hrun, _⟩ := tstartRun_fields W s.t hroot
      cases hrun.symm.trans h
      rfl

theorem prunSteps_pinv {W : World} (hs : ∀ i j, i < j → W.e i < W.e j) (hvis : matchRun W.rid W.ids = true)
    (steps : List PStep) :
    ∀ {s : PSys}, PInv W s → PInv W (prunSteps W s steps) ∧
      startSeqOf W.ver s.t.ns W.ids ≤ startSeqOf W.ver (prunSteps W s steps).t.ns W.ids ∧
      ((∀ st ∈ steps, st ≠ .sys .crash) → s.floor ≤ (prunSteps W s steps).floor) := by
  induction steps with
  | nil => intro s h; exact ⟨h, Int.le_refl _, fun _ => Int.le_refl _⟩
  | cons st rest ih =>
    intro s h
    obtain ⟨h1, h2, h3⟩ := pstep_pinv hs hvis h st
    obtain ⟨h4, h5, h6⟩ := ih h1
    refine ⟨h4, Int.le_trans h2 h5, ?_⟩
    intro hall
    exact Int.le_trans (h3 (hall st (List.mem_cons_self ..)))
      (h6 (fun x hx => hall x (List.mem_cons_of_mem _ hx)))

theorem prunSteps_append (W : World) (s : PSys) (a b : List PStep) :
    prunSteps W s (a ++ b) = prunSteps W (prunSteps W s a) b := by
  simp [prunSteps, List.foldl_append]

end GunYu.Frontier
