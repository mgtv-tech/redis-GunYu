/-
  C08 — above one directory: whatever the id-level operations (SetRunId with the
  rename of `changeReplId`, VerifyRunId among several ids, DelRunId = RemoveAll in any
  order) and the writers' lives (Proofs/StoreFsXResume.lean) do to the base
  directory, and wherever the process dies, every directory stays one whose files hold
  the bytes of ITS replication id.
-/
import GunYu.Proofs.StoreFsXResume

namespace GunYu.StoreFsX
open GunYu GunYu.Store GunYu.StoreFs

/-- a directory a new process can start from: its stream files hold the source's
    bytes, no name twice, committed snapshots complete -/
def DirOk (src : Nat → UInt8) (fs : FS) : Prop := FsTrue src fs ∧ NodupNames fs ∧ SnapOk fs

/-- every directory holds the bytes of its own replication id -/
def RootOk (srcOf : String → Nat → UInt8) (r : Root) : Prop := ∀ e ∈ r, DirOk (srcOf e.1) e.2

theorem dirOk_nil (src : Nat → UInt8) : DirOk src [] :=
  ⟨fsTrue_nil src, List.nodup_nil, by intro e he; cases he⟩

theorem DirOk.del {src : Nat → UInt8} {fs : FS} (h : DirOk src fs) (n : FName) : DirOk src (fs.del n) :=
  ⟨FsTrue_del h.1 n, nodup_del h.2.1 n, RdbOkP_del h.2.2 n⟩

theorem Root.get_some_mem {r : Root} {id : String} {fs : FS} (h : r.get id = some fs) : (id, fs) ∈ r := by
  unfold Root.get at h
  cases hf : r.find? (fun e => e.1 == id) with
  | none => simp [hf] at h
  | some e =>
    simp [hf] at h
    have h1 := List.mem_of_find?_eq_some hf
    have h2 := List.find?_some hf
    simp at h2
    rw [← h, ← h2]; exact h1

theorem Root.mem_set {r : Root} {id : String} {fs : FS} {e : String × FS} (he : e ∈ r.set id fs) :
    e = (id, fs) ∨ e ∈ r := by
  unfold Root.set at he
  split at he
  · obtain ⟨x, hx, rfl⟩ := List.mem_map.mp he
    split
    · left; rfl
    · right; exact hx
  · rcases List.mem_append.mp he with h | h
    · right; exact h
    · left; simpa using h

theorem RootOk.set {srcOf : String → Nat → UInt8} {r : Root} (h : RootOk srcOf r) (id : String) (fs : FS)
    (hfs : DirOk (srcOf id) fs) : RootOk srcOf (r.set id fs) := by
  intro e he
  rcases Root.mem_set he with rfl | h'
  · exact hfs
  · exact h e h'

theorem RootOk.del {srcOf : String → Nat → UInt8} {r : Root} (h : RootOk srcOf r) (id : String) :
    RootOk srcOf (r.del id) :=
  fun e he => h e (List.mem_filter.mp he).1

theorem RootOk.get {srcOf : String → Nat → UInt8} {r : Root} (h : RootOk srcOf r) {id : String} {fs : FS}
    (hg : r.get id = some fs) : DirOk (srcOf id) fs :=
  h (id, fs) (Root.get_some_mem hg)

/-- a rename is allowed when the directory's content is truthful under the new id
    (the callers switch the id when the source continues the same history under a new
    replication id — the offsets held are offsets of both, C06) -/
def RenOk1 (srcOf : String → Nat → UInt8) (r : Root) : RSys → Prop
  | .renameDir a b => ∀ fs, r.get a = some fs → FsTrue (srcOf b) fs
  | _ => True

def RenOk (srcOf : String → Nat → UInt8) : Root → List RSys → Prop
  | _, [] => True
  | r, s :: rest => RenOk1 srcOf r s ∧ RenOk srcOf (r.applySys s) rest

theorem applySys_ok {srcOf : String → Nat → UInt8} {r : Root} (h : RootOk srcOf r) (s : RSys)
    (hren : RenOk1 srcOf r s) : RootOk srcOf (r.applySys s) := by
  cases s with
  | mkdir id =>
    simp only [Root.applySys]
    split
    · exact h
    · exact h.set id [] (dirOk_nil _)
  | renameDir a b =>
    simp only [Root.applySys]
    cases hg : r.get a with
    | none => exact h
    | some fs =>
      simp only []
      split
      · exact h
      · have hd := h.get hg
        exact (h.del a).set b fs ⟨hren fs hg, hd.2.1, hd.2.2⟩
  | unlink id n =>
    simp only [Root.applySys]
    cases hg : r.get id with
    | none => exact h
    | some fs => exact h.set id _ ((h.get hg).del n)
  | rmdir id =>
    simp only [Root.applySys]
    split
    · exact h.del id
    · exact h

theorem applyAllSys_ok {srcOf : String → Nat → UInt8} : ∀ (l : List RSys) (r : Root), RootOk srcOf r → RenOk srcOf r l →
    RootOk srcOf (r.applyAllSys l) := by
  intro l
  induction l with
  | nil => intro r h _; exact h
  | cons s rest ih =>
    intro r h hren
    exact ih _ (applySys_ok h s hren.1) hren.2

theorem renOk_take {srcOf : String → Nat → UInt8} : ∀ (l : List RSys) (r : Root) (n : Nat), RenOk srcOf r l →
    RenOk srcOf r (l.take n) := by
  intro l
  induction l with
  | nil => intro r n _; simp [RenOk]
  | cons s rest ih =>
    intro r n h
    cases n with
    | zero => simp [RenOk]
    | succ n => exact ⟨h.1, ih _ n h.2⟩

/-- **death at any syscall of any id-level operation** -/
theorem sys_crash_ok {srcOf : String → Nat → UInt8} (r : Root) (h : RootOk srcOf r) (l : List RSys)
    (hren : RenOk srcOf r l) (n : Nat) : RootOk srcOf (r.applyAllSys (l.take n)) :=
  applyAllSys_ok _ r h (renOk_take l r n hren)

theorem renOk_of_no_rename {srcOf : String → Nat → UInt8} : ∀ (l : List RSys) (r : Root),
    (∀ s ∈ l, ∀ a b, s ≠ .renameDir a b) → RenOk srcOf r l := by
  intro l
  induction l with
  | nil => intro r _; trivial
  | cons s rest ih =>
    intro r h
    refine ⟨?_, ih _ (fun x hx => h x (List.mem_cons_of_mem _ hx))⟩
    cases s with
    | renameDir a b => exact absurd rfl (h _ (by simp) a b)
    | mkdir id => trivial
    | unlink id n => trivial
    | rmdir id => trivial

theorem newRunIdSys_no_rename (r : Root) (cur id : String) : ∀ s ∈ newRunIdSys r cur id, ∀ a b, s ≠ .renameDir a b := by
  intro s hs a b e
  subst e
  unfold newRunIdSys at hs
  split at hs
  · cases hs
  · simp only [] at hs
    split at hs
    · split at hs <;> simp at hs
    · rcases List.mem_append.mp hs with h | h
      · split at h <;> simp at h
      · simp at h

/-- `DelRunId` (RemoveAll in ANY order) and `SetRunId` on an existing directory never rename -/
theorem delRunIdSys_no_rename (r : Root) (id : String) (order : List FName) :
    ∀ s ∈ delRunIdSys r id order, ∀ a b, s ≠ .renameDir a b := by
  intro s hs a b e
  subst e
  unfold delRunIdSys at hs
  split at hs
  · cases hs
  · simp at hs

theorem setRunIdSys_no_rename (r : Root) (cur new : String) (hex : r.has new = true) :
    ∀ s ∈ setRunIdSys r cur new, ∀ a b, s ≠ .renameDir a b := by
  unfold setRunIdSys
  split
  · intro s hs; cases hs
  split
  · exact newRunIdSys_no_rename r cur new
  · split
    · exact newRunIdSys_no_rename r cur new
    · rename_i h2
      simp [hex] at h2

/-- **RootOk after DelRunId, death anywhere, whatever order the entries are unlinked in** -/
theorem delRunId_crash_ok {srcOf : String → Nat → UInt8} (r : Root) (h : RootOk srcOf r) (id : String)
    (order : List FName) (n : Nat) : RootOk srcOf (r.applyAllSys ((delRunIdSys r id order).take n)) :=
  sys_crash_ok r h _ (renOk_of_no_rename _ _ (delRunIdSys_no_rename r id order)) n

/-- `SetRunId(new)` renames the current directory: there is one, and the new id has none -/
def setRunIdRenames (r : Root) (cur new : String) : Bool :=
  !(cur == "" || !r.has cur) && !(new == "" || r.has new)

theorem setRunIdSys_no_rename' (r : Root) (cur new : String) (h : setRunIdRenames r cur new = false) :
    ∀ s ∈ setRunIdSys r cur new, ∀ a b, s ≠ .renameDir a b := by
  unfold setRunIdSys
  split
  · intro s hs; cases hs
  split
  · exact newRunIdSys_no_rename r cur new
  · split
    · exact newRunIdSys_no_rename r cur new
    · rename_i h1 h2
      simp [setRunIdRenames, h1, h2] at h

/-- **RootOk after SetRunId, death anywhere; the rename of `changeReplId` needs the
    new id to continue the old one's history on what the directory holds** -/
theorem setRunId_crash_ok {srcOf : String → Nat → UInt8} (r : Root) (h : RootOk srcOf r) (cur new : String)
    (hcont : setRunIdRenames r cur new = true → ∀ fs, r.get cur = some fs → FsTrue (srcOf new) fs) (n : Nat) :
    RootOk srcOf (r.applyAllSys ((setRunIdSys r cur new).take n)) := by
  apply sys_crash_ok r h
  unfold setRunIdSys
  split
  · exact renOk_of_no_rename _ _ (by intro s hs; cases hs)
  split
  · exact renOk_of_no_rename _ _ (newRunIdSys_no_rename r cur new)
  · split
    · exact renOk_of_no_rename _ _ (newRunIdSys_no_rename r cur new)
    · rename_i h1 h2
      exact ⟨hcont (by simp [setRunIdRenames, h1, h2]), renOk_of_no_rename _ _ (newRunIdSys_no_rename _ cur new)⟩

/-- every stream byte a directory holds lies below offset `x` -/
def HeldBelow (x : Nat) (fs : FS) : Prop :=
  ∀ e ∈ fs, ∀ l, parseAofName e.1 = some l → l + (e.2.length - headerSize) ≤ x

/-- how the rename hypothesis is discharged: PSYNC2's `Agree` (C06, Model/Psync.lean: the new
    id's history equals the old one's below the switch offset `x`) and the directory holding
    nothing at or beyond `x` (C06 `cache_consistent_after` / `Holds`: the cache labelled with an
    id holds only bytes of that id's history) -/
theorem renOk_of_agree {srcOld srcNew : Nat → UInt8} {fs : FS} (x : Nat) (h : FsTrue srcOld fs)
    (hag : ∀ n, n < x → srcNew n = srcOld n) (hb : HeldBelow x fs) : FsTrue srcNew fs := by
  intro e he l hp i b hbyte
  have hi : i < (e.2.drop headerSize).length := (List.getElem?_eq_some_iff.mp hbyte).1
  rw [List.length_drop] at hi
  have := hb e he l hp
  rw [hag (l + i) (by omega)]
  exact h e he l hp i b hbyte

/-- `VerifyRunId`: what it does is a list of syscalls without a rename, and the id it
    takes is one of those asked for whose directory exists -/
theorem verifyRunId_spec : ∀ (ids : List String) (r : Root) (cur : String),
    (∀ s ∈ (verifyRunId r cur ids).1, ∀ a b, s ≠ .renameDir a b) ∧
    (verifyRunId r cur ids).2.1 = r.applyAllSys (verifyRunId r cur ids).1 ∧
    (∀ id, (verifyRunId r cur ids).2.2.2 = some id → id ∈ ids ∧ realId id = true) := by
  intro ids
  induction ids with
  | nil =>
    intro r cur
    refine ⟨?_, rfl, ?_⟩
    · intro s hs; simp [verifyRunId] at hs
    · intro id h; simp [verifyRunId] at h
  | cons id rest ih =>
    intro r cur
    simp only [verifyRunId]
    split
    · obtain ⟨h1, h2, h3⟩ := ih r cur
      exact ⟨h1, h2, fun x hx => ⟨List.mem_cons_of_mem _ (h3 x hx).1, (h3 x hx).2⟩⟩
    · rename_i hcond
      simp only [Bool.or_eq_true, Bool.not_eq_true', not_or, Bool.not_eq_false] at hcond
      obtain ⟨hreal, hhas⟩ := hcond
      split
      · obtain ⟨h1, h2, h3⟩ := ih (r.applyAllSys (setRunIdSys r cur id)) (setRunIdCur cur id)
        refine ⟨?_, ?_, fun x hx => ⟨List.mem_cons_of_mem _ (h3 x hx).1, (h3 x hx).2⟩⟩
        · intro s hs
          rcases List.mem_append.mp hs with h | h
          · exact setRunIdSys_no_rename r cur id hhas s h
          · exact h1 s h
        · show _ = r.applyAllSys (_ ++ _)
          unfold Root.applyAllSys
          rw [List.foldl_append]
          exact h2
      · exact ⟨setRunIdSys_no_rename r cur id hhas, rfl, fun x hx => by
          simp at hx; subst hx; exact ⟨by simp, hreal⟩⟩

/-- `VerifyRunId`'s choice, as a rule: ids that are not real or have no directory are skipped;
    a real id with a directory is entered (`SetRunId`: re-scan) and taken unless its newest
    offset is 0, in which case the search goes on from the state that `SetRunId` left -/
inductive Chosen : Root → String → List String → String → Prop
  | take (r : Root) (cur id : String) (rest : List String) : realId id = true → r.has id = true →
      latestOf (((r.applyAllSys (setRunIdSys r cur id)).get id).getD []) ≠ 0 → Chosen r cur (id :: rest) id
  | skip (r : Root) (cur j id : String) (rest : List String) : (realId j = false ∨ r.has j = false) →
      Chosen r cur rest id → Chosen r cur (j :: rest) id
  | zero (r : Root) (cur j id : String) (rest : List String) : realId j = true → r.has j = true →
      latestOf (((r.applyAllSys (setRunIdSys r cur j)).get j).getD []) = 0 →
      Chosen (r.applyAllSys (setRunIdSys r cur j)) (setRunIdCur cur j) rest id → Chosen r cur (j :: rest) id

theorem verifyRunId_rule : ∀ (ids : List String) (r : Root) (cur id : String),
    (verifyRunId r cur ids).2.2.2 = some id ↔ Chosen r cur ids id := by
  intro ids
  induction ids with
  | nil =>
    intro r cur id
    constructor
    · intro h; simp [verifyRunId] at h
    · intro h; cases h
  | cons j rest ih =>
    intro r cur id
    simp only [verifyRunId]
    by_cases hc : (!realId j || !r.has j) = true
    · rw [if_pos hc]
      have hc' : realId j = false ∨ r.has j = false := by
        simp only [Bool.or_eq_true, Bool.not_eq_true'] at hc; exact hc
      constructor
      · intro h; exact Chosen.skip r cur j id rest hc' ((ih r cur id).mp h)
      · intro h
        cases h with
        | take _ _ _ _ h1 h2 _ => exact hc'.elim (fun h' => nomatch h'.symm.trans h1) (fun h' => nomatch h'.symm.trans h2)
        | skip _ _ _ _ _ _ h3 => exact (ih r cur id).mpr h3
        | zero _ _ _ _ _ h1 h2 _ _ => exact hc'.elim (fun h' => nomatch h'.symm.trans h1) (fun h' => nomatch h'.symm.trans h2)
    · rw [if_neg hc]
      simp only [Bool.or_eq_true, Bool.not_eq_true', not_or, Bool.not_eq_false] at hc
      obtain ⟨hreal, hhas⟩ := hc
      by_cases hz : latestOf (((r.applyAllSys (setRunIdSys r cur j)).get j).getD []) = 0
      · have hz' : (latestOf (((r.applyAllSys (setRunIdSys r cur j)).get j).getD []) == 0) = true := by simp [hz]
        simp only [hz', if_true]
        constructor
        · intro h; exact Chosen.zero r cur j id rest hreal hhas hz ((ih _ _ id).mp h)
        · intro h
          cases h with
          | take _ _ _ _ _ _ h3 => exact absurd hz h3
          | skip _ _ _ _ _ h1 _ => exact h1.elim (fun h' => nomatch h'.symm.trans hreal) (fun h' => nomatch h'.symm.trans hhas)
          | zero _ _ _ _ _ _ _ _ h4 => exact (ih _ _ id).mpr h4
      · have hz' : (latestOf (((r.applyAllSys (setRunIdSys r cur j)).get j).getD []) == 0) = false := by simp [hz]
        simp only [hz']
        constructor
        · intro h
          simp at h; subst h
          exact Chosen.take r cur j rest hreal hhas hz
        · intro h
          cases h with
          | take _ _ _ _ _ _ _ => simp
          | skip _ _ _ _ _ h1 _ => exact h1.elim (fun h' => nomatch h'.symm.trans hreal) (fun h' => nomatch h'.symm.trans hhas)
          | zero _ _ _ _ _ _ _ h3 _ => exact absurd h3 hz

/-- the base directories reachable by: id-level operations cut at any syscall, and
    lives of the writers (re-opening of a directory, any script with faults, death at
    any instant, the last write torn) -/
inductive RootReach (srcOf : String → Nat → UInt8) : Root → Prop
  | empty : RootReach srcOf []
  | sys (r : Root) (l : List RSys) (n : Nat) : RootReach srcOf r → RenOk srcOf r l →
      RootReach srcOf (r.applyAllSys (l.take n))
  | life (r : Root) (id : String) (l m : Nat) (xs : List XOp) (n k : Nat) : RootReach srcOf r →
      wfX (XDisk.reopened ((r.get id).getD []) l m id) xs →
      SrcOkX (srcOf id) (XDisk.reopened ((r.get id).getD []) l m id) xs →
      RootReach srcOf (r.set id (crashImageX (reopenFs ((r.get id).getD []))
        (xScriptOps (XDisk.reopened ((r.get id).getD []) l m id) xs) n k))

theorem rootReach_ok {srcOf : String → Nat → UInt8} {r : Root} (h : RootReach srcOf r) : RootOk srcOf r := by
  induction h with
  | empty => intro e he; cases he
  | sys r l n _ hren ih => exact sys_crash_ok r ih l hren n
  | life r id l m xs n k _ hwf hsrc ih =>
    have hd : DirOk (srcOf id) ((r.get id).getD []) := by
      cases hg : r.get id with
      | none => exact dirOk_nil _
      | some fs => exact ih.get hg
    exact ih.set id _ (resume_closed _ hd.1 hd.2.1 hd.2.2 l m id xs hwf hsrc n k)

end GunYu.StoreFsX
