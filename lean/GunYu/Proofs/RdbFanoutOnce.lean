/-
  C04 — multiplicity in the fan-out (Model/RdbFanout.lean): every entry the
  distributor took is, at every moment, in EXACTLY ONE place — applied, dropped
  by a failing worker, or queued for the one worker its route names — and when
  the checkpoint is written nothing is dropped or queued: the applied entries
  are a permutation of the snapshot's entries (exactly once).
-/
import GunYu.Proofs.RdbFanout
import GunYu.Model.RdbFanoutG

namespace GunYu.RdbFanout

theorem flatMap_congr' {α} {l : List Nat} {f g : Nat → List α} (h : ∀ i ∈ l, f i = g i) :
    l.flatMap f = l.flatMap g := by
  induction l with
  | nil => rfl
  | cons x t ih =>
    simp only [List.flatMap_cons]
    rw [h x (List.mem_cons_self), ih (fun i hi => h i (List.mem_cons_of_mem _ hi))]

theorem flatMap_upd_split {α} (f : Nat → List α) (j : Nat) (v : List α) : ∀ n, j < n →
    ∃ pre post, (List.range n).flatMap f = pre ++ f j ++ post ∧
      (List.range n).flatMap (upd f j v) = pre ++ v ++ post
  | 0, h => by omega
  | n+1, h => by
    by_cases hj : j = n
    · subst hj
      refine ⟨(List.range j).flatMap f, [], ?_, ?_⟩
      · rw [List.range_succ, List.flatMap_append]; simp
      · rw [List.range_succ, List.flatMap_append]
        have : (List.range j).flatMap (upd f j v) = (List.range j).flatMap f :=
          flatMap_congr' (fun i hi => upd_other _ _ _ _ (by have := List.mem_range.mp hi; omega))
        rw [this]; simp [upd_same]
    · obtain ⟨pre, post, h1, h2⟩ := flatMap_upd_split f j v n (by omega)
      refine ⟨pre, post ++ f n, ?_, ?_⟩
      · rw [List.range_succ, List.flatMap_append, h1]; simp
      · rw [List.range_succ, List.flatMap_append, h2]; simp [upd_other _ _ _ _ (Ne.symm hj)]

theorem queued_push {α} (f : Nat → List α) {j n : Nat} (hj : j < n) (a : α) :
    ((List.range n).flatMap (upd f j (f j ++ [a]))).Perm ((List.range n).flatMap f ++ [a]) := by
  obtain ⟨pre, post, h1, h2⟩ := flatMap_upd_split f j (f j ++ [a]) n hj
  rw [h1, h2]
  simp only [List.append_assoc]
  exact (List.perm_append_comm.append_left _).append_left _

theorem queued_pop {α} (f : Nat → List α) {j n : Nat} (hj : j < n) {a : α} {q : List α} (hp : f j = a :: q) :
    ((List.range n).flatMap f).Perm (a :: (List.range n).flatMap (upd f j q)) := by
  obtain ⟨pre, post, h1, h2⟩ := flatMap_upd_split f j q n hj
  rw [h1, h2, hp]
  simp only [List.append_assoc, List.cons_append]
  exact List.perm_middle

theorem flatMap_nil_of {α} (f : Nat → List α) : ∀ n, (∀ i, i < n → f i = []) → (List.range n).flatMap f = []
  | 0, _ => rfl
  | n+1, h => by
    rw [List.range_succ, List.flatMap_append, flatMap_nil_of f n (fun i hi => h i (by omega))]
    simp [h n (by omega)]

structure Once {α} (c : Cfg α) (s : St α) : Prop where
  /-- every entry the distributor took is in exactly one place -/
  perm : s.consumed.Perm (s.applied ++ s.dropped ++ queued c s)
  /-- an entry is only ever queued for the worker its route names -/
  lane : ∀ i, i < c.n → ∀ a ∈ s.pipes i, c.route a % c.n = i
  /-- once the checkpoint is written every goroutine has returned, nothing is dropped or queued -/
  cpDone : s.checkpoint = true →
    s.dist.isSome = true ∧ (∀ i, i < c.n → (s.wres i).isSome = true) ∧ s.dropped = [] ∧ queued c s = []

theorem init_once {α} (c : Cfg α) (items : List (Item α)) : Once c (init items) := by
  refine ⟨?_, ?_, ?_⟩
  · simp only [init, queued]
    rw [flatMap_nil_of _ c.n (fun _ _ => rfl)]
    exact List.Perm.refl _
  · intro i _ a ha; simp [init] at ha
  · intro h; simp [init] at h

theorem pop_perm {α} (c : Cfg α) (s : St α) {i : Nat} (hin : i < c.n) {a : α} {q : List α} (hp : s.pipes i = a :: q)
    (dst rest : List α) (h : s.consumed.Perm (dst ++ rest ++ queued c s)) :
    s.consumed.Perm (dst ++ [a] ++ rest ++ (List.range c.n).flatMap (upd s.pipes i q)) := by
  refine (h.trans ((queued_pop s.pipes hin hp).append_left _)).trans ?_
  simp only [List.append_assoc, List.singleton_append]
  exact List.perm_middle.append_left dst

section
variable {α : Type} (c : Cfg α) (items0 : List (Item α)) (s : St α) (inv : Inv c items0 s) (o : Once c s)
include o

theorem parse_once : Once c (stepParse c s) := by
  unfold stepParse
  cases s.todo with
  | nil => exact ite_elim o ⟨o.perm, o.lane, o.cpDone⟩
  | cons it rest => exact ite_elim ⟨o.perm, o.lane, o.cpDone⟩ o

theorem dist_once (hn : 0 < c.n) : Once c (stepDist c s) := by
  unfold stepDist
  split
  · exact o
  · next hdn =>
    have hd0 : s.dist = none := by simpa using hdn
    have hnocp : s.checkpoint = true → False := by
      intro h; have := (o.cpDone h).1; rw [hd0] at this; cases this
    split
    · split
      · exact ⟨o.perm, o.lane, fun h => absurd h (by simpa using hnocp)⟩
      · exact o
    · exact ⟨o.perm, o.lane, fun h => absurd h (by simpa using hnocp)⟩
    · exact ⟨o.perm, o.lane, fun h => absurd h (by simpa using hnocp)⟩
    · next a rest hp =>
      split
      · have hj : c.route a % c.n < c.n := Nat.mod_lt _ hn
        refine ⟨?_, ?_, fun h => absurd h (by simpa using hnocp)⟩
        · show (s.consumed ++ [a]).Perm (s.applied ++ s.dropped ++
            (List.range c.n).flatMap (upd s.pipes (c.route a % c.n) (s.pipes (c.route a % c.n) ++ [a])))
          refine (o.perm.append_right [a]).trans ?_
          rw [List.append_assoc (s.applied ++ s.dropped)]
          exact (queued_push s.pipes hj a).symm.append_left _
        · intro i hi x hx
          by_cases hji : i = c.route a % c.n
          · subst hji
            simp only [upd_same] at hx
            rcases List.mem_append.mp hx with hx | hx
            · exact o.lane _ hi x hx
            · simp at hx; subst hx; rfl
          · simp only [upd_other _ _ _ _ hji] at hx
            exact o.lane i hi x hx
      · exact o

theorem distCancel_once : Once c (stepDistCancel s) := by
  unfold stepDistCancel
  split
  · next h =>
    have hd0 : s.dist = none := by
      have := h; simp only [Bool.and_eq_true] at this; simpa using this.1
    refine ⟨o.perm, o.lane, fun hc => ?_⟩
    have := (o.cpDone hc).1; rw [hd0] at this; cases this
  · exact o

theorem pop_lane {i : Nat} {a : α} {q : List α} (hp : s.pipes i = a :: q) :
    ∀ j, j < c.n → ∀ x ∈ upd s.pipes i q j, c.route x % c.n = j := by
  intro j hj x hx
  by_cases hji : j = i
  · subst hji
    rw [upd_same] at hx
    exact o.lane j hj x (by rw [hp]; exact List.mem_cons_of_mem _ hx)
  · rw [upd_other _ _ _ _ hji] at hx
    exact o.lane j hj x hx

theorem no_cp_of_running {i : Nat} (hin : i < c.n) (hw0 : s.wres i = none) : s.checkpoint = true → False := by
  intro h; have := (o.cpDone h).2.1 i hin; rw [hw0] at this; cases this

theorem work_once (i : Nat) : Once c (stepWork c s i) := by
  unfold stepWork
  split
  · exact o
  · next hg =>
    simp only [Bool.or_eq_true, not_or] at hg
    have hin : i < c.n := by simpa using hg.1
    have hnocp := no_cp_of_running c s o hin (by simpa using hg.2)
    split
    · exact o
    · next a q hp =>
      exact ⟨pop_perm c s hin hp s.applied s.dropped o.perm, pop_lane c s o hp, fun h => (hnocp h).elim⟩

theorem workFail_once (i : Nat) : Once c (stepWorkFail c s i) := by
  unfold stepWorkFail
  split
  · exact o
  · next hg =>
    simp only [Bool.or_eq_true, not_or] at hg
    have hin : i < c.n := by simpa using hg.1
    have hnocp := no_cp_of_running c s o hin (by simpa using hg.2)
    split
    · exact ⟨o.perm, o.lane, fun h => (hnocp h).elim⟩
    · next a q hp =>
      refine ⟨?_, pop_lane c s o hp, fun h => (hnocp h).elim⟩
      have := pop_perm c s hin hp (s.applied ++ s.dropped) [] (by simpa using o.perm)
      simpa [queued, List.append_assoc] using this

theorem workOk_once (i : Nat) : Once c { s with wres := upd s.wres i (some .ok) } := by
  refine ⟨o.perm, o.lane, fun h => ?_⟩
  obtain ⟨h1, h2, h3, h4⟩ := o.cpDone h
  refine ⟨h1, fun j hj => ?_, h3, h4⟩
  by_cases hji : j = i
  · subst hji; simp [upd_same]
  · simp only [upd_other _ _ _ _ hji]; exact h2 j hj

theorem workCancel_once (i : Nat) : Once c (stepWorkCancel c s i) := ite_elim (workOk_once c s o i) o

theorem workClosed_once (i : Nat) : Once c (stepWorkClosed c s i) := ite_elim (workOk_once c s o i) o

theorem collectD_once : Once c (stepCollectD s) := by
  unfold stepCollectD
  split
  · exact o
  · split
    · exact o
    · exact ⟨o.perm, o.lane, o.cpDone⟩
    · exact ⟨o.perm, o.lane, o.cpDone⟩

theorem collectW_once (i : Nat) : Once c (stepCollectW c s i) := by
  unfold stepCollectW
  refine ite_elim o ?_
  cases s.wres i with
  | none => exact o
  | some r => cases r <;> exact ⟨o.perm, o.lane, o.cpDone⟩

include inv in
theorem finish_once (cpOk : Bool) : Once c (stepFinish c s cpOk) := by
  rcases stepFinish_cases c s cpOk with h | ⟨_, h⟩ | ⟨_, hgd, hall, herr, hcan, h⟩
  · rw [h]; exact o
  · rw [h]; exact ⟨o.perm, o.lane, o.cpDone⟩
  · rw [h]
    obtain ⟨hdist, hw, hdrop⟩ := inv.quiescent hgd hall herr hcan
    exact ⟨o.perm, o.lane, fun _ => ⟨by rw [hdist]; rfl, fun i hi => by rw [(hw i hi).1]; rfl, hdrop,
      flatMap_nil_of _ c.n (fun i hi => (hw i hi).2)⟩⟩

end

theorem step_once {α} (c : Cfg α) (items0 : List (Item α)) (hn : 0 < c.n)
    (s : St α) (e : Ev) (inv : Inv c items0 s) (o : Once c s) : Once c (step c s e) := by
  cases e with
  | parse => exact parse_once c s o
  | dist => exact dist_once c s o hn
  | distCancel => exact distCancel_once c s o
  | work i => exact work_once c s o i
  | workFail i => exact workFail_once c s o i
  | workCancel i => exact workCancel_once c s o i
  | workClosed i => exact workClosed_once c s o i
  | cancel => exact ⟨o.perm, o.lane, o.cpDone⟩
  | collectD => exact collectD_once c s o
  | collectW i => exact collectW_once c s o i
  | finish cpOk => exact finish_once c items0 s inv o cpOk

theorem run_once {α} (c : Cfg α) (items0 : List (Item α)) (hn : 0 < c.n)
    (sched : List Ev) (s : St α) (hi : Inv c items0 s) (ho : Once c s) : Once c (run c s sched) :=
  (run_invariant c (P := fun s => Inv c items0 s ∧ Once c s)
    (fun s e h => ⟨step_inv c items0 hn s e h.1, step_once c items0 hn s e h.1 h.2⟩) sched s ⟨hi, ho⟩).2

end GunYu.RdbFanout
