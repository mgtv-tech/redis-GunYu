/-
  The commands of the committed transaction (marker, record, index) are plain,
  routable by the static key tables, and name one control key each (used by
  C13 and C18).
-/
import GunYu.Proofs.BisyncTxn
namespace GunYu.BisyncUnit
open GunYu GunYu.Slot

theorem keyIndexes_generic (name key : Bytes) (rest : List Bytes)
    (h1 : Gen.commandKeyExtractors.lookup (lower name) = none)
    (h2 : Gen.commandKeyPositions.lookup (lower name) = some (1, 1, 1)) :
    Filter.keyIndexes name (key :: rest) = some [0] := by
  have h : ¬ ((1 : Int) - 1 < 0 ∨ (1 : Int) - 1 ≥ ((rest.length + 1 : Nat) : Int) ∨ (1 : Int) ≤ 0 ∨ (1 : Int) ≤ 0) := by
    omega
  simp only [Filter.keyIndexes, Filter.tableIndexes, List.isEmpty_cons, Bool.false_eq_true, ↓reduceIte, h1, h2,
    List.length_cons, show ((1 : Int) > 0) = True from by simp, h]
  rfl

theorem commandKeys_generic (name key : Bytes) (rest : List Bytes)
    (h1 : Gen.commandKeyExtractors.lookup (lower name) = none)
    (h2 : Gen.commandKeyPositions.lookup (lower name) = some (1, 1, 1)) :
    commandKeys name (key :: rest) = some [key] := by
  unfold commandKeys
  rw [keyIndexes_generic name key rest h1 h2]
  simp

theorem set_keys (key : Bytes) (rest : List Bytes) : commandKeys wSet (key :: rest) = some [key] :=
  commandKeys_generic wSet key rest (by decide +kernel) (by decide +kernel)
theorem hset_keys (key : Bytes) (rest : List Bytes) : commandKeys wHset (key :: rest) = some [key] :=
  commandKeys_generic wHset key rest (by decide +kernel) (by decide +kernel)
theorem zadd_keys (key : Bytes) (rest : List Bytes) : commandKeys wZadd (key :: rest) = some [key] :=
  commandKeys_generic wZadd key rest (by decide +kernel) (by decide +kernel)

theorem ctl_routable (fb : Bytes → List Bytes → Fb) (name key : Bytes) (rest : List Bytes)
    (h : commandKeys name (key :: rest) = some [key]) :
    resolverWith fb name (key :: rest) = .ok [key] := by
  unfold resolverWith; rw [h]

theorem ctl_plain (name key : Bytes) (rest : List Bytes) (h : upperName name ∉ specialRouted) :
    Plain ⟨name, key :: rest⟩ := ⟨h, by simp⟩

/-- the committed transaction: the marker SET, the unit's commands, then the
    record commands — an HSET or ZADD each, on one control key -/
theorem commitCmds_eq (cp : Bytes) (k : CommitKind) (u : RUnit) (p : Payload) :
    ∃ tail, commitCmds cp k u p = markerCmd cp u p :: (u.cmds ++ tail) ∧
      ∀ c ∈ tail, ∃ key ∈ controlKeys cp k u p, ∃ rest, c = ⟨wHset, key :: rest⟩ ∨ c = ⟨wZadd, key :: rest⟩ := by
  cases k with
  | rdb => exact ⟨[], (List.append_nil _).symm ▸ rfl, fun _ h => nomatch h⟩
  | latest =>
    refine ⟨_, rfl, fun c hc => ?_⟩
    rw [List.mem_singleton.mp hc]
    exact ⟨_, .tail _ (.head _), _, .inl rfl⟩
  | journal =>
    refine ⟨_, rfl, fun c hc => ?_⟩
    rcases List.mem_cons.mp hc with rfl | hc
    · exact ⟨_, .tail _ (.head _), _, .inl rfl⟩
    · rw [List.mem_singleton.mp hc]
      exact ⟨_, .tail _ (.tail _ (.head _)), _, .inr rfl⟩

theorem markerKey_mem_controlKeys (cp : Bytes) (k : CommitKind) (u : RUnit) (p : Payload) :
    Gen.markerKey cp u.slotTag ∈ controlKeys cp k u p := by
  cases k <;> simp [controlKeys]

theorem commit_cmds_shape (cp : Bytes) (k : CommitKind) (u : RUnit) (p : Payload) (fb : Bytes → List Bytes → Fb) :
    ∀ c ∈ commitCmds cp k u p, c ∈ u.cmds ∨
      (Plain c ∧ ∃ key ∈ controlKeys cp k u p, resolverWith fb c.name c.args = .ok [key]) := by
  obtain ⟨tail, heq, htail⟩ := commitCmds_eq cp k u p
  intro c hc
  rw [heq, List.mem_cons, List.mem_append] at hc
  rcases hc with rfl | hc | hc
  · exact .inr ⟨ctl_plain _ _ _ (by decide +kernel), _, markerKey_mem_controlKeys cp k u p, ctl_routable fb _ _ _ (set_keys _ _)⟩
  · exact .inl hc
  · obtain ⟨key, hkey, rest, rfl | rfl⟩ := htail c hc
    · exact .inr ⟨ctl_plain _ _ _ (by decide +kernel), key, hkey, ctl_routable fb _ _ _ (hset_keys _ _)⟩
    · exact .inr ⟨ctl_plain _ _ _ (by decide +kernel), key, hkey, ctl_routable fb _ _ _ (zadd_keys _ _)⟩

theorem commitCmds_ne_nil (cp : Bytes) (k : CommitKind) (u : RUnit) (p : Payload) :
    ∃ c cs, commitCmds cp k u p = c :: cs := by
  cases k <;> exact ⟨_, _, rfl⟩

end GunYu.BisyncUnit
