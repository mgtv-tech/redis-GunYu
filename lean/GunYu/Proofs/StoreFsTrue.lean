/-
  C08: the writers' own scripts keep the directory truthful (discharges the
  hypothesis of `crash_images_truthful` for `scriptOps`).
-/
import GunYu.Proofs.StoreFs

namespace GunYu.StoreFs
open GunYu GunYu.Store

/-- the source's bytes, as far as the history records them -/
def HistTrue (src : Nat → UInt8) (s : Disk) : Prop :=
  ∀ i b, s.hist[i]? = some b → b = src (s.hbase + i)

/-- the bytes one call appends are the source's bytes at the offsets they are appended at -/
def ChunkOk (src : Nat → UInt8) (s : Disk) : DOp → Prop
  | .aofAppend chunk => ∀ i b, chunk[i]? = some b → b = src (s.hbase + s.hist.length + i)
  | _ => True

/-- … for every call of a script -/
def SrcOk (src : Nat → UInt8) (s : Disk) : List DOp → Prop
  | [] => True
  | op :: rest => ChunkOk src s op ∧ SrcOk src (s.step op).1 rest

/-- the file of an indexed segment: a 16-byte header, then exactly the segment's data -/
def FileOf (fs : FS) (g : DSeg) : Prop :=
  ∃ hdr : Bytes, hdr.length = headerSize ∧ fs.get (aofName g.left) = some (hdr ++ g.data)

def FilesOk (s : Disk) (fs : FS) : Prop := ∀ g ∈ s.all, FileOf fs g

theorem seg_true {src : Nat → UInt8} {s : Disk} (h : DInv s) (ht : HistTrue src s) {g : DSeg} (hg : g ∈ s.all) :
    ∀ i b, g.data[i]? = some b → b = src (g.left + i) := by
  intro i b hb
  obtain ⟨e1, e2, e3⟩ := h.embed g hg
  rw [e3] at hb
  have hi : i < g.data.length := by
    have := (List.getElem?_eq_some_iff.mp hb).1
    simp at this; omega
  rw [List.getElem?_take_of_lt hi, List.getElem?_drop] at hb
  have := ht _ b hb
  rw [this]; congr 1; omega

theorem contentTrue_file {src : Nat → UInt8} {l : Nat} {hdr d : Bytes} (hh : hdr.length = headerSize)
    (hd : ∀ i b, d[i]? = some b → b = src (l + i)) : ContentTrue src (aofName l) (hdr ++ d) := by
  intro l' hp i b hb
  simp [parseAofName, aofName] at hp; subst hp
  rw [drop_hdr hh] at hb
  exact hd i b hb

theorem contentTrue_not_aof {src : Nat → UInt8} {n : FName} (c : Bytes) (h : parseAofName n = none) :
    ContentTrue src n c := by
  intro l hp; rw [h] at hp; cases hp

theorem aofName_inj {a b : Nat} (h : aofName a = aofName b) : a = b := by
  simp [aofName] at h; exact h

theorem HistTrue_step {src : Nat → UInt8} {s : Disk} (ht : HistTrue src s) (op : DOp)
    (hsrc : ChunkOk src s op) : HistTrue src (s.step op).1 := by
  rcases hist_step s op with ⟨h1, h2⟩ | ⟨chunk, rfl, _, h1, h2⟩ | h3
  · intro i b hb; rw [h2] at hb; rw [h1]; exact ht i b hb
  · intro i b hb
    rw [h2] at hb; rw [h1]
    exact getElem?_append_cases (P := fun i b => b = src (s.hbase + i)) ht
      (fun k b hb => by rw [hsrc _ b hb, Nat.add_assoc]) i b hb
  · intro i b hb; rw [h3] at hb; simp at hb

theorem all_lefts_unique {s : Disk} (h : DInv s) {a b : DSeg} (ha : a ∈ s.all) (hb : b ∈ s.all)
    (e : a.left = b.left) : a = b :=
  lefts_unique h.contig (all_initNonempty h.nonempty) ha hb e

theorem get_apply_create_eq (fs : FS) (n : FName) : (fs.apply (.create n)).get n = some [] := get_set_eq _ _ _

theorem get_apply_pwrite_eq {fs : FS} {n : FName} {c : Bytes} (hdr : Bytes) (h : fs.get n = some c) :
    (fs.apply (.pwriteHdr n hdr)).get n = some (hdr ++ c.drop hdr.length) := by
  simp only [FS.apply, h]; exact get_set_eq _ _ _

theorem get_append_data {fs : FS} {n : FName} {hdr0 d : Bytes} (chunk : Bytes) (h : fs.get n = some (hdr0 ++ d)) :
    (fs.apply (.append n chunk)).get n = some (hdr0 ++ (d ++ chunk)) := by
  rw [get_apply_append_eq _ h, List.append_assoc]

theorem get_other_aof (fs : FS) (op : FsOp) {l m : Nat} (h : op.names = [aofName m]) (hne : l ≠ m) :
    (fs.apply op).get (aofName l) = fs.get (aofName l) :=
  get_apply_other _ _ _ (by rw [h, List.mem_singleton]; exact fun e => hne (aofName_inj e))

theorem get_pwrite_closed {fs : FS} {n : FName} {hdr0 d : Bytes} (hh0 : hdr0.length = headerSize)
    (h : fs.get n = some (hdr0 ++ d)) :
    (fs.apply (.pwriteHdr n (closedHeader d))).get n = some (closedHeader d ++ d) := by
  rw [get_apply_pwrite_eq _ h, closedHeader_length]
  congr 2
  exact drop_hdr hh0

theorem closeLiveOps_get {s : Disk} (fs : FS) {g : DSeg} (hl : s.live = some g) :
    (∀ l, l ≠ g.left → (fs.applyAll (closeLiveOps s)).get (aofName l) = fs.get (aofName l)) ∧
    (g.data.isEmpty = false → ∀ hdr0 : Bytes, hdr0.length = headerSize → fs.get (aofName g.left) = some (hdr0 ++ g.data) →
      (fs.applyAll (closeLiveOps s)).get (aofName g.left) = some (closedHeader g.data ++ g.data)) := by
  simp only [closeLiveOps, hl]
  cases g.data.isEmpty with
  | true =>
    simp only [if_true, applyAll_cons, applyAll_nil]
    exact ⟨fun l hne => get_other_aof fs _ rfl hne, fun h => nomatch h⟩
  | false =>
    simp only [Bool.false_eq_true, if_false, applyAll_cons, applyAll_nil]
    exact ⟨fun l hne => get_other_aof fs _ rfl hne, fun _ hdr0 hh0 h => get_pwrite_closed hh0 h⟩

theorem openSeg_get (fs : FS) (off : Nat) :
    ((fs.apply (.create (aofName off))).apply (.append (aofName off) fixHeader)).get (aofName off) = some fixHeader ∧
    ∀ l, l ≠ off → ((fs.apply (.create (aofName off))).apply (.append (aofName off) fixHeader)).get (aofName l) =
      fs.get (aofName l) :=
  ⟨by rw [get_apply_append_eq _ (get_apply_create_eq _ _)]; rfl,
   fun l hne => by rw [get_other_aof _ _ rfl hne, get_other_aof _ _ rfl hne]⟩

theorem openSeg_true (src : Nat → UInt8) (fs : FS) (off : Nat) :
    ∀ p1 o p2, [FsOp.create (aofName off), FsOp.append (aofName off) fixHeader] = p1 ++ o :: p2 →
      OpTrue src (fs.applyAll p1) o := by
  refine positions_append (A := [_]) (B := [_]) (single_op_positions trivial) (single_op_positions ?_)
  intro c hc
  have : (fs.apply (.create (aofName off))).get (aofName off) = some c := hc
  rw [get_apply_create_eq] at this; cases this
  intro l _ i b hb
  simp [fixHeader, headerSize] at hb

theorem fixHeader_file (fs : FS) {g : DSeg} (h : fs.get (aofName g.left) = some fixHeader) (hd : g.data = []) :
    FileOf fs g :=
  ⟨fixHeader, by simp [fixHeader, headerSize], by rw [h, hd, List.append_nil]⟩

theorem aofAppend_all {s : Disk} {g : DSeg} (hl : s.live = some g) (chunk : Bytes) :
    (s.step (.aofAppend chunk)).1.all = s.segs ++ [{ g with data := g.data ++ chunk }] ++
      (if 16 + (g.data ++ chunk).length > s.logSize then [{ left := g.left + (g.data ++ chunk).length, data := [] }]
       else []) := by
  simp only [Disk.step, Disk.appendLive, hl]
  split <;> simp [Disk.all, DSeg.right]

theorem aofAppend_get {s : Disk} {fs : FS} {g : DSeg} {hdr0 : Bytes} (hl : s.live = some g) {chunk : Bytes}
    (hc : chunk ≠ []) (hh0 : hdr0.length = headerSize) (hget0 : fs.get (aofName g.left) = some (hdr0 ++ g.data)) :
    (∀ l, l ≠ g.left → l ≠ g.left + (g.data ++ chunk).length →
      (fs.applyAll (fsOps s (.aofAppend chunk))).get (aofName l) = fs.get (aofName l)) ∧
    (fs.applyAll (fsOps s (.aofAppend chunk))).get (aofName g.left) =
      some ((if 16 + (g.data ++ chunk).length > s.logSize then closedHeader (g.data ++ chunk) else hdr0) ++
        (g.data ++ chunk)) ∧
    (16 + (g.data ++ chunk).length > s.logSize →
      (fs.applyAll (fsOps s (.aofAppend chunk))).get (aofName (g.left + (g.data ++ chunk).length)) = some fixHeader) := by
  have hget1 := get_append_data chunk hget0
  have hclen : 0 < chunk.length := List.length_pos_iff.mpr hc
  simp only [fsOps, hl]
  by_cases hrot : 16 + (g.data ++ chunk).length > s.logSize
  · simp only [hrot, if_true, List.singleton_append, applyAll_cons, applyAll_nil]
    refine ⟨fun l h1 h2 => ?_, ?_, fun _ => (openSeg_get _ _).1⟩
    · rw [(openSeg_get _ _).2 l h2, get_other_aof _ _ rfl h1, get_other_aof _ _ rfl h1]
    · rw [(openSeg_get _ _).2 _ (by simp only [List.length_append]; omega)]
      exact get_pwrite_closed hh0 hget1
  · simp only [hrot, if_false, List.append_nil, applyAll_cons, applyAll_nil]
    exact ⟨fun l h1 _ => get_other_aof fs _ rfl h1, hget1, fun h => h.elim⟩

theorem closeLive_files {src : Nat → UInt8} {s : Disk} {fs : FS} (h : DInv s) (hf : FilesOk s fs) :
    (∀ p1 o p2, closeLiveOps s = p1 ++ o :: p2 → OpTrue src (fs.applyAll p1) o) ∧
    FilesOk s.closeLive (fs.applyAll (closeLiveOps s)) := by
  cases hl : s.live with
  | none =>
    have e1 : closeLiveOps s = [] := by simp only [closeLiveOps, hl]
    have e2 : s.closeLive = s := by simp only [Disk.closeLive, hl]
    rw [e1, e2]
    exact ⟨fun p1 o p2 he => by simp at he, hf⟩
  | some g =>
    have hall := all_of_live hl
    have hgm : g ∈ s.all := by rw [hall]; simp
    obtain ⟨hdr0, hh0, hget0⟩ := hf g hgm
    obtain ⟨hoth, hcl⟩ := closeLiveOps_get fs hl
    constructor
    · -- one operation: a removal, or the header rewrite of a file that has its header
      simp only [closeLiveOps, hl]
      split
      · exact single_op_positions trivial
      · refine single_op_positions ⟨closedHeader_length _, fun c hc => ?_⟩
        rw [hget0] at hc; cases hc
        simp; omega
    · intro g' hg'
      rw [closeLive_all_eq hl] at hg'
      cases he : g.data.isEmpty with
      | true =>
        rw [he] at hg'
        have hg's : g' ∈ s.segs := hg'
        have hg'a : g' ∈ s.all := by rw [hall]; exact List.mem_append_left _ hg's
        have hne : g'.left ≠ g.left := by
          intro e
          rw [all_lefts_unique h hg'a hgm e] at hg's
          exact h.nonempty g hg's (List.isEmpty_iff.mp he)
        obtain ⟨hdr, hh, hget⟩ := hf g' hg'a
        exact ⟨hdr, hh, by rw [hoth _ hne]; exact hget⟩
      | false =>
        rw [he] at hg'
        have hg'a : g' ∈ s.all := by rw [hall]; exact hg'
        by_cases e : g'.left = g.left
        · rw [all_lefts_unique h hg'a hgm e]
          exact ⟨_, closedHeader_length _, hcl he hdr0 hh0 hget0⟩
        · obtain ⟨hdr, hh, hget⟩ := hf g' hg'a
          exact ⟨hdr, hh, by rw [hoth _ e]; exact hget⟩

theorem positions_all_true {src : Nat → UInt8} {fs : FS} {A : List FsOp} (h : ∀ o ∈ A, ∀ fs', OpTrue src fs' o) :
    ∀ p1 o p2, A = p1 ++ o :: p2 → OpTrue src (fs.applyAll p1) o := by
  intro p1 o p2 he
  exact h o (by rw [he]; simp) _

theorem opTrue_remove (src : Nat → UInt8) (fs : FS) (n : FName) : OpTrue src fs (.remove n) := trivial
theorem opTrue_create (src : Nat → UInt8) (fs : FS) (n : FName) : OpTrue src fs (.create n) := trivial

theorem filesOk_of_untouched {s s' : Disk} {fs : FS} {ops : List FsOp} (hf : FilesOk s fs)
    (hall : ∀ g ∈ s'.all, g ∈ s.all) (hno : ∀ o ∈ ops, ∀ g ∈ s'.all, aofName g.left ∉ o.names) :
    FilesOk s' (fs.applyAll ops) := by
  intro g hg
  obtain ⟨hdr, hh, hget⟩ := hf g (hall g hg)
  exact ⟨hdr, hh, by rw [get_applyAll_other ops fs _ (fun o ho => hno o ho g hg)]; exact hget⟩

theorem lefts_lt_of_split {pre rest : List DSeg} (hc : Contig (pre ++ rest)) (hn : InitNonempty (pre ++ rest))
    {a b : DSeg} (ha : a ∈ pre) (hb : b ∈ rest) : a.left < b.left := by
  induction pre with
  | nil => cases ha
  | cons x t ih =>
    rcases List.mem_cons.mp ha with h | h
    · subst h
      exact contig_head_lt hc hn (by simp [hb])
    · exact ih hc.tail hn.tail h

/-- one writer step keeps every file operation truthful where it is applied, and the
    files of the new index are again header + data -/
theorem fsOps_true_step {src : Nat → UInt8} (s : Disk) (fs : FS) (op : DOp) (h : DInv s) (hok : s.okOp op)
    (ht : HistTrue src s)
    (hsrc : ChunkOk src s op)
    (hf : FilesOk s fs) :
    (∀ p1 o p2, fsOps s op = p1 ++ o :: p2 → OpTrue src (fs.applyAll p1) o) ∧
    FilesOk (s.step op).1 (fs.applyAll (fsOps s op)) := by
  have nil_case : ∀ (s' : Disk), (∀ g ∈ s'.all, g ∈ s.all) →
      (∀ p1 o p2, ([] : List FsOp) = p1 ++ o :: p2 → OpTrue src (fs.applyAll p1) o) ∧ FilesOk s' (fs.applyAll []) :=
    fun s' hall => ⟨fun p1 o p2 he => by simp at he, fun g hg => hf g (hall g hg)⟩
  by_cases hop : op.isReaderOp = true
  · rw [fsOps_readerOp s hop]
    refine nil_case _ (fun g hg => ?_)
    obtain ⟨_, e⟩ := readerOp_eq s hop
    rw [e] at hg; exact hg
  cases op with
  | newRdbWriter off size =>
    simp only [fsOps]
    constructor
    · apply positions_append
      · -- resetOps: (remove tmp)? ++ closeLiveOps ++ removes
        unfold resetOps
        simp only [List.append_assoc]
        apply positions_append
        · apply positions_all_true
          intro o ho fs'
          split at ho
          · split at ho <;> simp at ho
            subst ho; trivial
          · simp at ho
        · apply positions_append
          · refine (closeLive_files (src := src) h ?_).1
            -- removing the temporary file does not touch stream files
            refine filesOk_of_untouched hf (fun g hg => hg) ?_
            intro o ho g _
            split at ho
            · split at ho <;> simp at ho
              subst ho; simp [FsOp.names, aofName, rdbTmpName]
            · simp at ho
          · apply positions_all_true
            intro o ho fs'
            obtain ⟨n, _, rfl⟩ := List.mem_map.mp ho
            trivial
      · exact single_op_positions (P := OpTrue src) trivial
    · intro g hg
      simp [Disk.step, Disk.reset, Disk.all] at hg
  | rdbAppend chunk =>
    simp only [fsOps, Disk.step]
    cases hrdb : s.rdb with
    | none => simp only []; exact nil_case s (fun g hg => hg)
    | some r =>
      simp only []
      by_cases hw : r.writing = true
      · simp only [hw, if_true]
        have hops : ∀ o ∈ ([FsOp.append (rdbTmpName r.left r.size) chunk] ++
            (if r.data.length + chunk.length = r.size then [FsOp.rename (rdbTmpName r.left r.size) (rdbName r.left r.size)] else [])),
            (∀ fs', OpTrue src fs' o) ∧ (∀ l, aofName l ∉ o.names) := by
          intro o ho
          rcases List.mem_append.mp ho with h1 | h1
          · simp at h1; subst h1
            exact ⟨fun fs' c _ => contentTrue_not_aof _ rfl, by intro l; simp [FsOp.names, aofName, rdbTmpName]⟩
          · split at h1
            · simp at h1; subst h1
              exact ⟨fun fs' c _ => contentTrue_not_aof _ rfl, by intro l; simp [FsOp.names, aofName, rdbTmpName, rdbName]⟩
            · simp at h1
        refine ⟨positions_all_true (fun o ho => (hops o ho).1), ?_⟩
        apply filesOk_of_untouched hf
        · intro g hg
          split at hg <;> simpa [Disk.all] using hg
        · intro o ho g _
          exact (hops o ho).2 _
      · simp only [hw]
        exact nil_case s (fun g hg => hg)
  | rdbClose =>
    simp only [fsOps, Disk.step]
    cases hrdb : s.rdb with
    | none => simp only []; exact nil_case s (fun g hg => hg)
    | some r =>
      simp only []
      by_cases hw : r.writing = true
      · simp only [hw, if_true]
        refine ⟨single_op_positions (P := OpTrue src) trivial, ?_⟩
        apply filesOk_of_untouched hf
        · intro g hg; simpa [Disk.all] using hg
        · intro o ho g _
          simp at ho; subst ho; simp [FsOp.names, aofName, rdbTmpName]
      · simp only [hw]
        exact nil_case s (fun g hg => hg)
  | newAofWriter off =>
    simp only [fsOps]
    obtain ⟨hcl1, hcl2⟩ := closeLive_files (src := src) h hf
    have hall1 : s.closeLive.all = s.closeLive.segs := by simp [Disk.all, closeLive_live s]
    refine ⟨positions_append hcl1 (openSeg_true src _ off), ?_⟩
    rw [applyAll_append]
    intro g hg
    have hg' : g ∈ s.closeLive.segs ++ [({ left := off, data := [] } : DSeg)] := by
      simpa [Disk.step, Disk.all] using hg
    rcases List.mem_append.mp hg' with hm | hm
    · obtain ⟨hdr, hh, hget⟩ := hcl2 g (by rw [hall1]; exact hm)
      exact ⟨hdr, hh, ((openSeg_get _ off).2 _ (newAofWriter_fresh h hok g hm)).trans hget⟩
    · simp at hm; subst hm
      exact fixHeader_file _ (openSeg_get _ off).1 rfl
  | aofClose =>
    simp only [fsOps]
    exact closeLive_files (src := src) h hf
  | aofAppend chunk =>
    have hcne : chunk ≠ [] := hok
    cases hl : s.live with
    | none =>
      have e1 : fsOps s (.aofAppend chunk) = [] := by simp only [fsOps, hl]
      have e2 : (s.step (.aofAppend chunk)).1 = s := by simp [Disk.step, Disk.appendLive, hl]
      rw [e1, e2]; exact nil_case s (fun g hg => hg)
    | some g =>
      have hall := all_of_live hl
      have hgm : g ∈ s.all := by rw [hall]; simp
      obtain ⟨hdr0, hh0, hget0⟩ := hf g hgm
      obtain ⟨hoth, hlive, hnext⟩ := aofAppend_get (fs := fs) hl hcne hh0 hget0
      have hclen : 0 < chunk.length := List.length_pos_iff.mpr hcne
      have hgend : g.right = s.hbase + s.hist.length := by
        apply h.lastEnd; rw [hall, lastRight_append_single]
      have hgrow : ∀ i b, (g.data ++ chunk)[i]? = some b → b = src (g.left + i) :=
        getElem?_append_cases (seg_true h ht hgm) (fun k b hb => by
          rw [hsrc _ b hb]; congr 1
          simp only [DSeg.right] at hgend; omega)
      have hop0 : OpTrue src fs (.append (aofName g.left) chunk) := by
        intro c hc
        rw [hget0] at hc; cases hc
        rw [List.append_assoc]
        exact contentTrue_file hh0 hgrow
      constructor
      · simp only [fsOps, hl]
        refine positions_append (single_op_positions hop0) ?_
        split
        · -- rotation: the header of a file that has one is rewritten, then the next file is opened
          refine positions_append (A := [_]) (B := [_, _])
            (single_op_positions ⟨closedHeader_length _, fun c hc => ?_⟩) (openSeg_true src _ _)
          have : (fs.apply (.append (aofName g.left) chunk)).get (aofName g.left) = some c := hc
          rw [get_apply_append_eq _ hget0] at this
          cases this
          simp; omega
        · intro p1 o p2 he; simp at he
      · intro g' hg'
        rw [aofAppend_all hl] at hg'
        rcases List.mem_append.mp hg' with hm | hm
        · rcases List.mem_append.mp hm with hm | hm
          · -- an older segment: a smaller offset, another file
            have hlt := lefts_lt_of_split (pre := s.segs) (rest := [g]) (hall ▸ h.contig)
              (hall ▸ all_initNonempty h.nonempty) hm (List.mem_singleton.mpr rfl)
            obtain ⟨hdr, hh, hget⟩ := hf g' (by rw [hall]; exact List.mem_append_left _ hm)
            exact ⟨hdr, hh, by rw [hoth _ (by omega) (by omega)]; exact hget⟩
          · simp at hm; subst hm
            exact ⟨_, by split <;> simp [closedHeader_length, hh0], hlive⟩
        · split at hm
          · rename_i hrot
            rw [List.mem_singleton] at hm; subst hm
            exact fixHeader_file _ (hnext hrot) rfl
          · cases hm
  | gc =>
    simp only [fsOps]
    obtain ⟨pre, hp, _, _, _, he⟩ := gc_cases s
    have hlive : s.gc.live = s.live := by rw [he]
    have hrem : gcRemoved s = pre := by
      unfold gcRemoved
      have : s.segs.length - s.gc.segs.length = pre.length := by
        have := congrArg List.length hp; simp at this; omega
      rw [this]
      conv => lhs; rw [hp]
      simp
    constructor
    · apply positions_all_true
      intro o ho fs'
      simp only [List.mem_append] at ho
      rcases ho with h1 | h1
      · split at h1
        · simp at h1; subst h1; trivial
        · simp at h1
      · obtain ⟨g, _, rfl⟩ := List.mem_map.mp h1; trivial
    · apply filesOk_of_untouched hf
      · intro g hg
        simp only [Disk.step, Disk.all, hlive] at hg ⊢
        rcases List.mem_append.mp hg with hm | hm
        · rw [hp]; simp [hm]
        · simp [hm]
      · intro o ho g hg
        simp only [Disk.step, Disk.all, hlive] at hg
        simp only [List.mem_append] at ho
        rcases ho with h1 | h1
        · split at h1
          · simp at h1; subst h1; simp [FsOp.names, aofName, rdbName]
          · simp at h1
        · obtain ⟨x, hx, rfl⟩ := List.mem_map.mp h1
          rw [hrem] at hx
          simp only [FsOp.names, List.mem_singleton]
          intro e
          have hxl := aofName_inj e
          -- x is in the removed prefix, g in what remains: their left ends differ
          have hall : s.all = pre ++ (s.gc.segs ++ s.live.toList) := by simp [Disk.all, hp]
          have := lefts_lt_of_split (hall ▸ h.contig) (hall ▸ all_initNonempty h.nonempty) hx hg
          omega
  | setRunId id =>
    simp only [fsOps]
    apply nil_case
    intro g hg
    simp only [Disk.step] at hg
    split at hg
    · simp [Disk.reset, Disk.all] at hg
    · split at hg
      · exact hg
      · rename_i hne hid
        obtain ⟨hl, hrw⟩ := hok hne hid
        obtain ⟨hd, hl', hr', _, _, _⟩ := closeAllForSwitch_spec h
        rw [rescan_eq_self hd hl' hr'] at hg
        -- with no live segment, closing for the switch leaves the segments as they are
        have hsegs : s.closeAllForSwitch.segs = s.segs ∧ s.closeAllForSwitch.live = none := by
          unfold Disk.closeAllForSwitch
          have hf := dropWritingRdb_fields ({ s with readers := closeAllReaders s.readers } : Disk)
          have hlive0 : ({ s with readers := closeAllReaders s.readers } : Disk).dropWritingRdb.live = none := by
            rw [hf.2.2.2.2.1]; exact hl
          unfold Disk.closeLive
          rw [hlive0]
          exact ⟨hf.2.2.2.1, hlive0⟩
        have : g ∈ s.closeAllForSwitch.all := hg
        simp only [Disk.all, hsegs.1, hsegs.2] at this
        simp only [Disk.all, hl]
        exact this
  | delRunId =>
    simp only [fsOps]
    apply nil_case
    intro g hg
    simp only [Disk.step] at hg
    split at hg
    · exact hg
    · simp [Disk.reset, Disk.all] at hg
  | _ => exact absurd rfl hop

theorem scriptOps_true {src : Nat → UInt8} (ops : List DOp) :
    ∀ (s : Disk) (fs : FS), DInv s → s.wf ops → HistTrue src s → SrcOk src s ops → FilesOk s fs →
      ∀ pre op post, scriptOps s ops = pre ++ op :: post → OpTrue src (fs.applyAll pre) op := by
  induction ops with
  | nil => intro s fs _ _ _ _ _ pre op post he; simp [scriptOps] at he
  | cons o rest ih =>
    intro s fs h hwf ht hsrc hf pre op post he
    have hs : ChunkOk src s o := hsrc.1
    obtain ⟨htrue, hfiles⟩ := fsOps_true_step (src := src) s fs o h hwf.1 ht hs hf
    simp only [scriptOps] at he
    rcases append_eq_split _ _ _ _ _ he with ⟨p2, h1, _⟩ | ⟨p1, h1, h2⟩
    · exact htrue pre op p2 h1
    · rw [h1, applyAll_append]
      exact ih _ _ (h.step o hwf.1) hwf.2 (HistTrue_step ht o hs) hsrc.2 hfiles p1 op post h2

theorem histTrue_init (src : Nat → UInt8) (l m : Nat) : HistTrue src (Disk.init l m) := by
  intro i b hb; simp [Disk.init] at hb

theorem filesOk_init (l m : Nat) (fs : FS) : FilesOk (Disk.init l m) fs := by
  intro g hg; simp [Disk.init, Disk.all] at hg

theorem fsTrue_nil (src : Nat → UInt8) : FsTrue src [] := by
  rw [FsTrue_iff]; intro e he; cases he

/-- at every crash instant of every script of the writers (from an empty directory),
    every byte in every segment file is the source's byte at that offset -/
theorem crashImage_true (src : Nat → UInt8) (l m : Nat) (ops : List DOp) (hwf : (Disk.init l m).wf ops)
    (hsrc : SrcOk src (Disk.init l m) ops) (n k : Nat) :
    FsTrue src (crashImage [] (scriptOps (Disk.init l m) ops) n k) := by
  exact crashImage_inv (I := FsTrue src) (P := OpTrue src) (fun _ op h => FsTrue_apply h op)
    (fun _ _ _ k => OpTrue_torn k) (fsTrue_nil src)
    (scriptOps_true ops _ _ (DInv.init l m) hwf (histTrue_init src l m) hsrc (filesOk_init l m [])) n k

end GunYu.StoreFs
