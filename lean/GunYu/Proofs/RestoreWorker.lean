/-
  C20 — the worker loop with its filter branch and DB mapping (`runWorkerF`, Model/RestoreWorker.lean)
  IS the plain loop `runWorker` over the stream `es.filterMap (wmap w)`:
    * an entry of a black-listed DB is not there at all;
    * an entry whose key is filtered is a keyless entry without commands in the mapped DB (it costs the SELECT);
    * every other entry is the entry rewritten by replaceHashTag, in the mapped DB.
  So every theorem about `runWorker` over an arbitrary stream speaks about the real loop.

  Core Lean only.
-/
import GunYu.Model.RestoreWorker
import GunYu.Proofs.RestoreRun

namespace GunYu.Restore
open GunYu

/-- the DB an entry is replayed in (`selectDB`; −1 stays −1) -/
def WCfg.mapDbI (w : WCfg) (d : Int) : Int := if d ≥ 0 then Int.ofNat (w.mapDb d.toNat) else d

/-- what the loop body makes of a source entry before `Replay` sees it -/
def wmap (w : WCfg) (e : Entry) : Option Entry :=
  if e.db ≥ 0 ∧ w.filterDb e.db.toNat = true then none
  else if w.filterKey e.key = true then some { e with db := w.mapDbI e.db, otype := .aux, cmds := [] }
  else some { retag w.rht e with db := w.mapDbI e.db }

theorem replay_db (pol : Policy) (cfg : Cfg) (st : RState) (v : View) (e : Entry) (d : Int) :
    replay pol cfg st v { e with db := d } = replay pol cfg st v e := rfl

theorem buildUnit_db (pol : Policy) (cfg : Cfg) (st : RState) (v : View) (e : Entry) (d : Int) :
    buildUnit pol cfg st v { e with db := d } = buildUnit pol cfg st v e := rfl

theorem viewOf_db (t : Target) (e : Entry) (d : Int) : viewOf t { e with db := d } = viewOf t e := rfl

theorem applyReqs_nil (t : Target) : applyReqs t [] = t := rfl

theorem sel_mapDbI (w : WCfg) (e : Entry) (cur : Nat) :
    (if w.mapDbI e.db ≥ 0 ∧ (w.mapDbI e.db).toNat ≠ cur then [Req.select (w.mapDbI e.db).toNat] else [])
      = (if e.db ≥ 0 ∧ w.mapDb e.db.toNat ≠ cur then [Req.select (w.mapDb e.db.toNat)] else []) ∧
    (if w.mapDbI e.db ≥ 0 then (w.mapDbI e.db).toNat else cur) = (if e.db ≥ 0 then w.mapDb e.db.toNat else cur) := by
  unfold WCfg.mapDbI
  by_cases h : e.db ≥ 0
  · simp [h]
  · simp [h]

theorem stepF_eq (w : WCfg) (b : Bool) (pol : Policy) (cfg : Cfg) (cur : Nat) (st : RState) (t : Target) (e : Entry) :
    stepF w b pol cfg cur st t e =
      if e.db ≥ 0 ∧ w.filterDb e.db.toNat = true then
        { sent := false, sel := [], reqs := [], out := .ok, st := st, cur := cur }
      else
        let sel : List Req := if e.db ≥ 0 ∧ w.mapDb e.db.toNat ≠ cur then [Req.select (w.mapDb e.db.toNat)] else []
        let cur' := if e.db ≥ 0 then w.mapDb e.db.toNat else cur
        if w.filterKey e.key = true then
          { sent := true, sel := sel, reqs := [], out := .ok, st := st, cur := cur' }
        else
          let r := stepOf b pol cfg st (applyReqs t sel) (retag w.rht e)
          { sent := true, sel := sel, reqs := r.reqs, out := r.out, st := r.st, cur := cur' } := by
  cases b <;> rfl

theorem stepOf_db (b : Bool) (pol : Policy) (cfg : Cfg) (st : RState) (t : Target) (e : Entry) (d : Int) :
    stepOf b pol cfg st t { e with db := d } = stepOf b pol cfg st t e := by
  cases b <;> rfl

/-- a key-filtered entry as the replayers would see it: nothing is sent, nothing is remembered -/
theorem stepOf_ghost (b : Bool) (pol : Policy) (cfg : Cfg) (st : RState) (t : Target) (e : Entry) (d : Int) :
    stepOf b pol cfg st t { e with db := d, otype := .aux, cmds := [] } = { reqs := [], out := .ok, st := st, tgt := t } := by
  cases b
  · simp [stepOf, plainStep, replay, applyReqs]
  · simp [stepOf, bisyncStep, buildUnit, expandB, unitReqs, bOut, applyReqs]

theorem runWorkerF_eq (w : WCfg) (b : Bool) (pol : Policy) (cfg : Cfg) :
    ∀ (es : List Entry) (cur : Nat) (st : RState) (t : Target),
      runWorkerF w b pol cfg cur st t es = runWorker b pol cfg cur st t (es.filterMap (wmap w))
  | [], cur, st, t => by simp [runWorkerF, runWorker]
  | e :: rest, cur, st, t => by
    have ih := runWorkerF_eq w b pol cfg rest
    obtain ⟨hs, hc⟩ := sel_mapDbI w e cur
    rw [runWorkerF, stepF_eq, List.filterMap_cons]
    by_cases hfd : e.db ≥ 0 ∧ w.filterDb e.db.toNat = true
    · simp only [wmap, hfd, and_self, if_true]
      exact ih cur st t
    · by_cases hfk : w.filterKey e.key = true
      · simp only [wmap, hfd, hfk, if_false, if_true, runWorker_cons, stepOf_ghost, hs, hc, List.append_nil, ih,
          Bool.true_eq_false]
      · have htgt := (stepOf_ok b pol cfg).tgt st (applyReqs t
          (if e.db ≥ 0 ∧ w.mapDb e.db.toNat ≠ cur then [Req.select (w.mapDb e.db.toNat)] else [])) (retag w.rht e)
        simp only [wmap, hfd, hfk, if_false, Bool.false_eq_true, runWorker_cons, stepOf_db, hs, hc, Bool.true_eq_false]
        generalize stepOf b pol cfg st _ (retag w.rht e) = r at htgt
        cases r.out <;> simp [ih, applyReqs_append, htgt]

end GunYu.Restore
