/-
  Helper lemmas for C15 (property statements are in Props/C15.lean).

  1. decimal round trip `decToNat? (natToDec n) = some n` (the Go client
     renders the `int` ttl in decimal, Redis parses it back);
  2. the two *generated* scripts evaluated symbolically: `campaignCall` /
     `resignCall` equal closed-form specifications (`campaignSpec`,
     `resignSpec`) for every store, clock, key, id and ttl. These two proofs
     are what is re-checked when a script is edited;
  3. the invariant of the system of instances and its preservation by every
     event;
  4. what the calls of the others leave alone: the belief of an instance that
     issues no call (`told_run_notBy`) and the expiry of its entries (`OwnBound`).
-/
import GunYu.Model.Lease

set_option linter.unusedSimpArgs false

namespace GunYu.Lease
open GunYu GunYu.Lua

def decStep (acc : Nat) (b : UInt8) : Nat := acc * 10 + (b.toNat - 48)

theorem digit_toNat (n : Nat) : (UInt8.ofNat (48 + n % 10)).toNat = 48 + n % 10 := by
  have : n % 10 < 10 := Nat.mod_lt _ (by decide)
  simp only [UInt8.toNat_ofNat']
  omega

theorem digit_isDigit (n : Nat) : isDigit (UInt8.ofNat (48 + n % 10)) = true := by
  have h := digit_toNat n
  have : n % 10 < 10 := Nat.mod_lt _ (by decide)
  simp only [isDigit, Bool.and_eq_true, decide_eq_true_eq, UInt8.le_iff_toNat_le, h]
  constructor
  · show (48:UInt8).toNat ≤ _ ; simp
  · show _ ≤ (57:UInt8).toNat; simp; omega

theorem natToDecAux_foldl (fuel n : Nat) (acc : Bytes) (h : n < fuel) :
    (natToDecAux fuel n acc).foldl decStep 0 = acc.foldl decStep n := by
  induction fuel generalizing n acc with
  | zero => omega
  | succ f ih =>
    simp only [natToDecAux]
    split
    · rename_i h0
      simp only [List.foldl_cons, decStep, digit_toNat]
      congr 1; omega
    · rename_i h0
      rw [ih _ _ (by omega)]
      simp only [List.foldl_cons, decStep, digit_toNat]
      congr 1; omega

theorem natToDecAux_all (fuel n : Nat) (acc : Bytes) (hacc : acc.all isDigit = true) :
    (natToDecAux fuel n acc).all isDigit = true := by
  induction fuel generalizing n acc with
  | zero => simpa [natToDecAux] using hacc
  | succ f ih =>
    simp only [natToDecAux]
    split
    · simp only [List.all_cons, digit_isDigit, hacc, Bool.and_self]
    · apply ih; simp only [List.all_cons, digit_isDigit, hacc, Bool.and_self]

theorem natToDecAux_ne_nil (fuel n : Nat) (acc : Bytes) (h : n < fuel) :
    natToDecAux fuel n acc ≠ [] := by
  induction fuel generalizing n acc with
  | zero => omega
  | succ f ih =>
    simp only [natToDecAux]
    split
    · simp
    · apply ih; omega

theorem decToNat_natToDec (n : Nat) : decToNat? (natToDec n) = some n := by
  unfold decToNat? natToDec
  have h1 := natToDecAux_ne_nil (n+1) n [] (by omega)
  have h2 := natToDecAux_all (n+1) n [] (by rfl)
  have h3 := natToDecAux_foldl (n+1) n [] (by omega)
  simp only [List.isEmpty_iff, h1, ↓reduceIte, h2]
  simp only [List.foldl_nil] at h3
  exact congrArg some h3

/-- what the campaign script is expected to do: take the key if it is free,
    extend it if it holds the caller's value, otherwise change nothing
    (the ttl = 0 corner: `SET … EX 0` is an error, `EXPIRE k 0` deletes) -/
def campaignSpec (st : Store) (now : Nat) (key id : Bytes) (ttl : Nat) : Store × Reply :=
  match lookup st now key with
  | none => if ttl = 0 then (st, .err) else (st.set key ⟨id, now + ttl * 1000⟩, .int 1)
  | some e =>
    if e.val = id then
      (if ttl = 0 then (st.del key, .int 1) else (st.set key ⟨e.val, now + ttl * 1000⟩, .int 1))
    else (st, .int 0)

/-- what the resign script is expected to do: delete the key only if it holds
    the caller's value -/
def resignSpec (st : Store) (now : Nat) (key id : Bytes) : Store × Reply :=
  match lookup st now key with
  | none => (st, .int 1)
  | some e => if e.val = id then (st.del key, .int 1) else (st, .int 0)

theorem campaignCall_eq_spec (st : Store) (now : Nat) (key id : Bytes) (ttl : Nat) :
    campaignCall st now key id ttl = campaignSpec st now key id ttl := by
  unfold campaignCall campaignSpec evalLua Gen.campaignScript
  cases h : lookup st now key with
  | none =>
    by_cases ht : ttl = 0
    · simp [evalBlk, evalCall, evalExpr, envGet, idx1, argStr, argInt, truthy, toReply, h, ht, decToNat_natToDec]
    · simp [evalBlk, evalCall, evalExpr, envGet, idx1, argStr, argInt, truthy, toReply, h, ht, decToNat_natToDec]
  | some e =>
    by_cases hv : e.val = id
    · by_cases ht : ttl = 0
      · simp [evalBlk, evalCall, evalExpr, envGet, idx1, argStr, argInt, truthy, toReply, h, ht, hv, decToNat_natToDec]
      · simp [evalBlk, evalCall, evalExpr, envGet, idx1, argStr, argInt, truthy, toReply, h, ht, hv, decToNat_natToDec]
    · simp [evalBlk, evalCall, evalExpr, envGet, idx1, argStr, argInt, truthy, toReply, h, hv, decToNat_natToDec]

theorem resignCall_eq_spec (st : Store) (now : Nat) (key id : Bytes) (ttl : Nat) :
    resignCall st now key id ttl = resignSpec st now key id := by
  unfold resignCall resignSpec evalLua Gen.resignScript
  cases h : lookup st now key with
  | none =>
    simp [evalBlk, evalCall, evalExpr, envGet, idx1, argStr, truthy, toReply, h]
  | some e =>
    by_cases hv : e.val = id
    · simp [evalBlk, evalCall, evalExpr, envGet, idx1, argStr, truthy, toReply, h, hv]
    · simp [evalBlk, evalCall, evalExpr, envGet, idx1, argStr, truthy, toReply, h, hv]

theorem lookup_some {st : Store} {now : Nat} {k : Bytes} {e : Entry}
    (h : lookup st now k = some e) : st k = some e ∧ now ≤ e.exp := by
  unfold lookup at h
  cases hs : st k with
  | none => simp [hs] at h
  | some e' =>
    simp only [hs] at h
    by_cases hle : now ≤ e'.exp
    · simp only [hle, ↓reduceIte, Option.some.injEq] at h
      subst h; exact ⟨rfl, hle⟩
    · simp [hle] at h

theorem lookup_of_live {st : Store} {now : Nat} {k : Bytes} {e : Entry}
    (h : st k = some e) (hle : now ≤ e.exp) : lookup st now k = some e := by
  unfold lookup; simp [h, hle]

theorem lookup_none_of {st : Store} {now : Nat} {k : Bytes}
    (h : lookup st now k = none) (e : Entry) (hs : st k = some e) : e.exp < now := by
  unfold lookup at h
  simp only [hs] at h
  by_cases hle : now ≤ e.exp
  · simp [hle] at h
  · omega

theorem set_same (st : Store) (k : Bytes) (e : Entry) : (st.set k e) k = some e := by
  simp [Store.set]

theorem set_other (st : Store) (k k' : Bytes) (e : Entry) (h : k' ≠ k) : (st.set k e) k' = st k' := by
  simp [Store.set, h]

theorem del_same (st : Store) (k : Bytes) : (st.del k) k = none := by
  simp [Store.del]

theorem del_other (st : Store) (k k' : Bytes) (h : k' ≠ k) : (st.del k) k' = st k' := by
  simp [Store.del, h]

theorem campaign_cases (st : Store) (now : Nat) (key id : Bytes) (ttl : Nat) (h1 : 1 ≤ ttl) :
    ((lookup st now key = none ∨ ∃ e, lookup st now key = some e ∧ e.val = id) ∧
      campaignCall st now key id ttl = (st.set key ⟨id, now + ttl * 1000⟩, .int 1)) ∨
    ((∃ e, lookup st now key = some e ∧ e.val ≠ id) ∧
      campaignCall st now key id ttl = (st, .int 0)) := by
  have h0 : ttl ≠ 0 := by omega
  rw [campaignCall_eq_spec]
  unfold campaignSpec
  cases hl : lookup st now key with
  | none => left; simp [h0]
  | some e =>
    by_cases hv : e.val = id
    · left; simp [h0, hv]
    · right; simp [hv]

theorem campaignCall_store (st : Store) (now : Nat) (key id : Bytes) (ttl : Nat) :
    (campaignCall st now key id ttl).1 = st ∨
    (campaignCall st now key id ttl).1 = st.set key ⟨id, now + ttl * 1000⟩ ∨
    (campaignCall st now key id ttl).1 = st.del key := by
  rw [campaignCall_eq_spec]
  unfold campaignSpec
  split
  · split <;> simp
  · next e _ =>
    by_cases hv : e.val = id
    · simp only [hv, ↓reduceIte]; split <;> simp
    · simp [hv]

theorem resignCall_store (st : Store) (now : Nat) (key id : Bytes) (ttl : Nat) :
    (resignCall st now key id ttl).1 = st ∨ (resignCall st now key id ttl).1 = st.del key := by
  rw [resignCall_eq_spec]
  unfold resignSpec
  split
  · exact Or.inl rfl
  · split <;> simp

/-- Whoever believes to be leader of `key` until `d`:
    (a) `d` is at most one ttl ahead of the store's clock, and
    (b) while `d` has not passed, the store holds its value for `key` with an
        expiry not before `d`. -/
def Inv (cfg : Bytes → Nat) (s : Sys) : Prop :=
  ∀ key id d, s.told key id = some d →
    d ≤ s.now + cfg id * 1000 ∧
    (s.now ≤ d → ∃ e, s.store key = some e ∧ e.val = id ∧ d ≤ e.exp)

theorem inv_init (cfg : Bytes → Nat) (st : Store) (now : Nat) : Inv cfg (Sys.init st now) := by
  intro key id d h
  simp [Sys.init] at h

theorem holder_unique_of_inv {cfg : Bytes → Nat} {s : Sys} (hinv : Inv cfg s)
    {key i j : Bytes} (hi : holder s key i) (hj : holder s key j) : i = j := by
  obtain ⟨di, hti, hdi⟩ := hi
  obtain ⟨dj, htj, hdj⟩ := hj
  obtain ⟨ei, hsi, hvi, _⟩ := (hinv key i di hti).2 hdi
  obtain ⟨ej, hsj, hvj, _⟩ := (hinv key j dj htj).2 hdj
  rw [hsi] at hsj
  cases hsj
  rw [← hvi, ← hvj]

/-- the key is free or the caller's: the store effect of a campaign that
    takes / extends the lease, with belief set to the new deadline or left
    unchanged (lost reply) -/
theorem inv_acquire {cfg : Bytes → Nat} {s : Sys} (hinv : Inv cfg s) (key' id' : Bytes)
    (hfree : lookup s.store s.now key' = none ∨
             ∃ e, lookup s.store s.now key' = some e ∧ e.val = id')
    (told' : Bytes → Bytes → Option Nat)
    (hoth : ∀ key id, ¬ (key = key' ∧ id = id') → told' key id = s.told key id)
    (hown : told' key' id' = some (s.now + cfg id' * 1000) ∨ told' key' id' = s.told key' id') :
    Inv cfg { store := s.store.set key' ⟨id', s.now + cfg id' * 1000⟩, now := s.now, told := told' } := by
  intro key id d htold
  dsimp only at htold ⊢
  by_cases hk : key = key' ∧ id = id'
  · obtain ⟨rfl, rfl⟩ := hk
    rcases hown with h | h
    · rw [h] at htold
      cases htold
      exact ⟨Nat.le_refl _, fun _ => ⟨_, set_same _ _ _, rfl, Nat.le_refl _⟩⟩
    · rw [h] at htold
      have := hinv key id d htold
      exact ⟨this.1, fun _ => ⟨_, set_same _ _ _, rfl, this.1⟩⟩
  · rw [hoth key id hk] at htold
    have h := hinv key id d htold
    refine ⟨h.1, fun hle => ?_⟩
    obtain ⟨e, hs, hv, hd⟩ := h.2 hle
    by_cases hkey : key = key'
    · subst hkey
      have hid : id ≠ id' := fun h => hk ⟨rfl, h⟩
      have hl := lookup_of_live hs (Nat.le_trans hle hd)
      rcases hfree with hf | ⟨e2, hf, hv2⟩
      · rw [hf] at hl; cases hl
      · rw [hf] at hl; cases hl; exact absurd (hv.symm.trans hv2) hid
    · exact ⟨e, by simp only [set_other _ _ _ _ hkey]; exact hs, hv, hd⟩

/-- no store change; belief of (key', id') cleared or kept -/
theorem inv_keep {cfg : Bytes → Nat} {s : Sys} (hinv : Inv cfg s) (key' id' : Bytes)
    (told' : Bytes → Bytes → Option Nat)
    (hoth : ∀ key id, ¬ (key = key' ∧ id = id') → told' key id = s.told key id)
    (hown : told' key' id' = none ∨ told' key' id' = s.told key' id') :
    Inv cfg { store := s.store, now := s.now, told := told' } := by
  intro key id d htold
  dsimp only at htold ⊢
  by_cases hk : key = key' ∧ id = id'
  · obtain ⟨rfl, rfl⟩ := hk
    rcases hown with h | h
    · rw [h] at htold; cases htold
    · rw [h] at htold; exact hinv key id d htold
  · rw [hoth key id hk] at htold
    exact hinv key id d htold

/-- the key holds the caller's value and is deleted; the caller's belief is
    cleared -/
theorem inv_release {cfg : Bytes → Nat} {s : Sys} (hinv : Inv cfg s) (key' id' : Bytes)
    (e' : Entry) (hl : lookup s.store s.now key' = some e') (hv' : e'.val = id') :
    Inv cfg { store := s.store.del key', now := s.now, told := setTold s.told key' id' none } := by
  intro key id d htold
  dsimp only at htold ⊢
  simp only [setTold] at htold
  by_cases hk : key = key' ∧ id = id'
  · simp [hk] at htold
  · simp only [hk, ↓reduceIte] at htold
    have h := hinv key id d htold
    refine ⟨h.1, fun hle => ?_⟩
    obtain ⟨e, hs, hv, hd⟩ := h.2 hle
    by_cases hkey : key = key'
    · subst hkey
      have hid : id ≠ id' := fun h => hk ⟨rfl, h⟩
      have hl2 := lookup_of_live hs (Nat.le_trans hle hd)
      rw [hl] at hl2; cases hl2
      exact absurd (hv.symm.trans hv') hid
    · exact ⟨e, by simp only [del_other _ _ _ hkey]; exact hs, hv, hd⟩

theorem inv_tick {cfg : Bytes → Nat} {s : Sys} (hinv : Inv cfg s) (δ : Nat) :
    Inv cfg { s with now := s.now + δ } := by
  intro key id d htold
  have h := hinv key id d htold
  refine ⟨by simp only; omega, fun hle => ?_⟩
  exact h.2 (by simp only at hle; omega)

/-- instances named in an event have a ttl of at least one second -/
def Ev.ttlOk (cfg : Bytes → Nat) : Ev → Prop
  | .campaign _ id => 1 ≤ cfg id
  | .renew _ id => 1 ≤ cfg id
  | .resign _ id => 1 ≤ cfg id
  | .lostCampaign _ id _ => 1 ≤ cfg id
  | .lostResign _ id _ => 1 ≤ cfg id
  | _ => True

theorem setTold_other (t : Bytes → Bytes → Option Nat) (key' id' : Bytes) (v : Option Nat)
    (key id : Bytes) (h : ¬ (key = key' ∧ id = id')) : setTold t key' id' v key id = t key id := by
  simp [setTold, h]

theorem setTold_same (t : Bytes → Bytes → Option Nat) (key' id' : Bytes) (v : Option Nat) :
    setTold t key' id' v key' id' = v := by
  simp [setTold]

/-- no store change; the belief of (key', id') cleared -/
theorem inv_clear {cfg : Bytes → Nat} {s : Sys} (hinv : Inv cfg s) (key' id' : Bytes) :
    Inv cfg { store := s.store, now := s.now, told := setTold s.told key' id' none } :=
  inv_keep hinv key' id' _ (fun _ _ h => setTold_other _ _ _ _ _ _ h) (Or.inl (setTold_same _ _ _ _))

theorem inv_campaign {cfg : Bytes → Nat} {s : Sys} (hinv : Inv cfg s) (key' id' : Bytes)
    (h1 : 1 ≤ cfg id') :
    Inv cfg { store := (campaignCall s.store s.now key' id' (cfg id')).1, now := s.now,
              told := toldAfter s.told key' id' (s.now + cfg id' * 1000)
                        (campaignResult (campaignCall s.store s.now key' id' (cfg id')).2).1 } := by
  rcases campaign_cases s.store s.now key' id' (cfg id') h1 with ⟨hfree, hc⟩ | ⟨_, hc⟩
  · rw [hc]
    exact inv_acquire hinv key' id' hfree _ (fun k i h => setTold_other _ _ _ _ _ _ h)
      (Or.inl (setTold_same _ _ _ _))
  · rw [hc]
    exact inv_clear hinv key' id'

theorem inv_lostCampaign {cfg : Bytes → Nat} {s : Sys} (hinv : Inv cfg s) (key' id' : Bytes)
    (h1 : 1 ≤ cfg id') :
    Inv cfg { store := (campaignCall s.store s.now key' id' (cfg id')).1, now := s.now,
              told := s.told } := by
  rcases campaign_cases s.store s.now key' id' (cfg id') h1 with ⟨hfree, hc⟩ | ⟨_, hc⟩
  · rw [hc]; exact inv_acquire hinv key' id' hfree _ (fun _ _ _ => rfl) (Or.inr rfl)
  · rw [hc]; exact inv_keep hinv key' id' _ (fun _ _ _ => rfl) (Or.inr rfl)

theorem inv_resign {cfg : Bytes → Nat} {s : Sys} (hinv : Inv cfg s) (key' id' : Bytes) :
    Inv cfg { store := (resignCall s.store s.now key' id' (cfg id')).1, now := s.now,
              told := setTold s.told key' id' none } := by
  rw [resignCall_eq_spec]
  unfold resignSpec
  cases hl : lookup s.store s.now key' with
  | none =>
    exact inv_clear hinv key' id'
  | some e =>
    by_cases hv : e.val = id'
    · simp only [hv, ↓reduceIte]
      exact inv_release hinv key' id' e hl hv
    · simp only [hv, ↓reduceIte]
      exact inv_clear hinv key' id'

theorem inv_step {cfg : Bytes → Nat} {s : Sys} (hinv : Inv cfg s) (ev : Ev)
    (hok : ev.ttlOk cfg) : Inv cfg (step cfg s ev).1 := by
  cases ev with
  | campaign key id => exact inv_campaign hinv key id hok
  | renew key id => exact inv_campaign hinv key id hok
  | resign key id => exact inv_resign hinv key id
  | leader key => exact hinv
  | tick d => exact inv_tick hinv d
  | lostCampaign key id applied =>
    cases applied with
    | true => exact inv_lostCampaign hinv key id hok
    | false => exact hinv
  | lostResign key id applied =>
    cases applied with
    | true => exact inv_resign hinv key id
    | false => exact inv_clear hinv key id

theorem run_inv (cfg : Bytes → Nat) (P : Sys → Prop) (evs : List Ev)
    (h : ∀ s, ∀ ev ∈ evs, P s → P (step cfg s ev).1) (s : Sys) (hs : P s) : P (run cfg s evs) := by
  induction evs generalizing s with
  | nil => exact hs
  | cons ev rest ih =>
    exact ih (fun s e he => h s e (List.mem_cons_of_mem _ he)) _ (h s ev (List.mem_cons_self ..) hs)

theorem inv_run {cfg : Bytes → Nat} (evs : List Ev) {s : Sys} (hinv : Inv cfg s)
    (hok : ∀ ev ∈ evs, ev.ttlOk cfg) : Inv cfg (run cfg s evs) :=
  run_inv cfg (Inv cfg) evs (fun _ ev he h => inv_step h ev (hok ev he)) s hinv

/-- the event is a call issued by instance `id` contending for `key` -/
def Ev.isBy (key id : Bytes) : Ev → Bool
  | .campaign k i => k = key ∧ i = id
  | .renew k i => k = key ∧ i = id
  | .resign k i => k = key ∧ i = id
  | .lostCampaign k i _ => k = key ∧ i = id
  | .lostResign k i _ => k = key ∧ i = id
  | _ => false

theorem toldAfter_other (t : Bytes → Bytes → Option Nat) (key' id' : Bytes) (dl : Nat) (r : Role)
    (key id : Bytes) (h : ¬ (key = key' ∧ id = id')) : toldAfter t key' id' dl r key id = t key id := by
  cases r <;> simp [toldAfter, setTold, h]

theorem told_step_notBy (cfg : Bytes → Nat) (s : Sys) (ev : Ev) (key id : Bytes)
    (h : ev.isBy key id = false) : (step cfg s ev).1.told key id = s.told key id := by
  have hne : ∀ k i : Bytes, decide (k = key ∧ i = id) = false → ¬ (key = k ∧ id = i) := by
    intro k i h ⟨a, b⟩; simp [a, b] at h
  cases ev with
  | campaign k i | renew k i => exact toldAfter_other _ _ _ _ _ _ _ (hne k i h)
  | resign k i | lostResign k i a => exact setTold_other _ _ _ _ _ _ (hne k i h)
  | leader k | tick d | lostCampaign k i a => rfl

theorem now_step_le (cfg : Bytes → Nat) (s : Sys) (ev : Ev) : s.now ≤ (step cfg s ev).1.now := by
  cases ev <;> simp [step]

theorem told_run_notBy (cfg : Bytes → Nat) (evs : List Ev) (s : Sys) (key id : Bytes)
    (h : ∀ ev ∈ evs, ev.isBy key id = false) : (run cfg s evs).told key id = s.told key id :=
  run_inv cfg (fun s' => s'.told key id = s.told key id) evs
    (fun s' ev he hs => (told_step_notBy cfg s' ev key id (h ev he)).trans hs) s rfl

/-- every entry of `key` carrying value `id` expires by `D` -/
def OwnBound (s : Sys) (key id : Bytes) (D : Nat) : Prop :=
  ∀ e, s.store key = some e → e.val = id → e.exp ≤ D

theorem ownBound_set {s s' : Sys} {key id k i : Bytes} {D x : Nat} (h : OwnBound s key id D)
    (hne : ¬ (k = key ∧ i = id)) (hs : s'.store = s.store.set k ⟨i, x⟩) : OwnBound s' key id D := by
  intro e he hv
  rw [hs] at he
  by_cases hk : key = k
  · subst hk; rw [set_same] at he; cases he; exact absurd ⟨rfl, hv⟩ hne
  · rw [set_other _ _ _ _ hk] at he; exact h e he hv

theorem ownBound_del {s s' : Sys} {key id k : Bytes} {D : Nat} (h : OwnBound s key id D)
    (hs : s'.store = s.store.del k) : OwnBound s' key id D := by
  intro e he hv
  rw [hs] at he
  by_cases hk : key = k
  · subst hk; rw [del_same] at he; cases he
  · rw [del_other _ _ _ hk] at he; exact h e he hv

theorem ownBound_step (cfg : Bytes → Nat) (s : Sys) (ev : Ev) (key id : Bytes) (D : Nat)
    (hby : ev.isBy key id = false) (h : OwnBound s key id D) :
    OwnBound (step cfg s ev).1 key id D := by
  have camp : ∀ k i now told, ¬ (k = key ∧ i = id) →
      OwnBound ⟨(campaignCall s.store s.now k i (cfg i)).1, now, told⟩ key id D := by
    intro k i now told hne
    rcases campaignCall_store s.store s.now k i (cfg i) with e | e | e <;> simp only [e]
    · exact h
    · exact ownBound_set h hne rfl
    · exact ownBound_del h rfl
  have res : ∀ k i now told, OwnBound ⟨(resignCall s.store s.now k i (cfg i)).1, now, told⟩ key id D := by
    intro k i now told
    rcases resignCall_store s.store s.now k i (cfg i) with e | e <;> simp only [e]
    · exact h
    · exact ownBound_del h rfl
  cases ev with
  | campaign k i | renew k i => exact camp k i _ _ (by simpa [Ev.isBy] using hby)
  | resign k i => exact res k i _ _
  | leader k | tick d => exact h
  | lostCampaign k i a =>
    cases a with
    | false => exact h
    | true => exact camp k i _ _ (by simpa [Ev.isBy] using hby)
  | lostResign k i a =>
    cases a with
    | false => exact h
    | true => exact res k i _ _

theorem ownBound_run (cfg : Bytes → Nat) (evs : List Ev) (s : Sys) (key id : Bytes) (D : Nat)
    (hby : ∀ ev ∈ evs, ev.isBy key id = false) (h : OwnBound s key id D) :
    OwnBound (run cfg s evs) key id D :=
  run_inv cfg (OwnBound · key id D) evs (fun s ev he => ownBound_step cfg s ev key id D (hby ev he)) s h

end GunYu.Lease
