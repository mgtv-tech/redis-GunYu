/-
  The generated `Listpack.Next` against the model's `lpNext`: after one pass that turns Go's indexing and
  slicing at cursor `p` into `readN` on `data[p:]`, the proof goes by the class of the first byte, each class
  through the model's equation for it (`lpNext_u7` … `lpNext_other`); the integer classes share `int_tail`.
-/
import GunYu.Proofs.GenS5Listpack

namespace GunYu.Proofs.GenS5
open GunYu GunYu.Gen GunYu.Rdb

/-- what the model returns, read off the Go result: the element and `data[p':]` -/
def lpProj (r : Fn.Listpack × List UInt8) : Bytes × Bytes := (r.2, r.1.data.drop r.1.p.toNat)

/-- the same with the fields `Next` must leave alone -/
def lpProjF (r : Fn.Listpack × List UInt8) : Bytes × Bytes × Bytes × BitVec 32 × Int :=
  (r.2, r.1.data.drop r.1.p.toNat, r.1.data, r.1.numBytes, r.1.numElements)

/-- Go's `data[p+a : p+a+L]` is `io.ReadFull` of `L` bytes at offset `a` of `data[p:]` (a start `p+a` past the end
    panics even for `L = 0`) -/
theorem slice_off (data : Bytes) (p : BitVec 32) (a : Nat) (L : BitVec 32) (hlen : data.length < 2147483648)
    (hp : p.toNat ≤ data.length) (ha : a < 16) :
    GoSem.slice data (GoSem.bvToI (p + BitVec.ofNat 32 a)) (GoSem.bvToI ((p + BitVec.ofNat 32 a) + L)) =
      if a ≤ (data.drop p.toNat).length then (readN L.toNat ((data.drop p.toNat).drop a)).map (·.1) else none := by
  unfold GoSem.slice GoSem.bvToI GoSem.len readN
  have hL := L.isLt
  have e1 : (p + BitVec.ofNat 32 a).toNat = p.toNat + a := by
    rw [BitVec.toNat_add, BitVec.toNat_ofNat]; omega
  have e2 : ((p + BitVec.ofNat 32 a) + L).toNat = (p.toNat + a + L.toNat) % 4294967296 := by
    rw [BitVec.toNat_add, e1]
  rw [e1, e2]
  simp only [List.drop_drop, List.length_take, List.length_drop, Int.ofNat_le, Int.natCast_nonneg, true_and,
    Int.toNat_natCast]
  by_cases h : p.toNat + a + L.toNat ≤ data.length
  · rw [Nat.mod_eq_of_lt (by omega), if_pos (by omega), if_pos (by omega), if_pos (by omega)]
    simp only [Option.map_some]
    congr 2; omega
  · rw [if_neg (by omega)]
    by_cases h' : a ≤ data.length - p.toNat
    · rw [if_pos h', if_neg (by omega)]; rfl
    · rw [if_neg h']

theorem drop_cursor (data : Bytes) (p : BitVec 32) (hlen : data.length < 2147483648) (hp : p.toNat ≤ data.length)
    (n : Nat) (hn : n ≤ (data.drop p.toNat).length) :
    data.drop (p + BitVec.ofNat 32 (lpSkip n)).toNat = (data.drop p.toNat).drop (lpSkip n) := by
  have := (lpSkip_bounds n).2
  rw [List.length_drop] at hn
  rw [BitVec.toNat_add, BitVec.toNat_ofNat, List.drop_drop]
  congr 1; omega

theorem formatInt_nat (n : Nat) : GoSem.formatInt (n : Int) = natToDec n := by
  unfold GoSem.formatInt intToDec
  rw [if_neg (by omega), Int.toNat_natCast]

/-- the common tail of the integer encodings: two's complement of a `bits` wide value by hand, then FormatInt -/
theorem int_tail (lp' : Fn.Listpack) (bits : Nat) (hb : 0 < bits ∧ bits ≤ 64)
    (uval negstart negmax : BitVec 64) (hns : negstart.toNat = 2 ^ (bits - 1)) (hnm : negmax.toNat = 2 ^ bits - 1)
    (hu : uval.toNat < 2 ^ bits) :
    (if uval ≥ negstart then
        (pure (GoSem.subI (GoSem.negI (GoSem.bv64ToI (negmax - uval))) 1, negmax - uval) : Option (Int × BitVec 64)).bind
          fun x => pure (lp', GoSem.formatInt x.fst)
      else
        (pure (GoSem.bv64ToI uval, uval) : Option (Int × BitVec 64)).bind fun x => pure (lp', GoSem.formatInt x.fst)) =
      some (lp', lpInt bits uval.toNat) := by
  have h2 : 2 ^ bits = 2 * 2 ^ (bits - 1) := by
    rw [Nat.mul_comm, ← Nat.pow_succ]; congr 1; omega
  have h64 : 2 ^ bits ≤ 2 ^ 64 := Nat.pow_le_pow_right (by decide) hb.2
  unfold lpInt toSigned GoSem.formatInt
  rw [h2] at hnm hu h64 ⊢
  generalize 2 ^ (bits - 1) = ns at *
  by_cases h : uval ≥ negstart
  · have h' : ns ≤ uval.toNat := hns ▸ BitVec.le_def.mp h
    have e : (negmax - uval).toNat = 2 * ns - 1 - uval.toNat := by
      rw [BitVec.toNat_sub, hnm]; omega
    rw [if_pos h, if_neg (by omega), GoSem.bv64ToI_of_lt _ (by rw [e]; omega), e]
    unfold GoSem.subI GoSem.negI
    have e3 : GoSem.wrap64 (-((2 * ns - 1 - uval.toNat : Nat) : Int)) = -((2 * ns - 1 - uval.toNat : Nat) : Int) :=
      GoSem.wrap64_eq (by omega) (by omega)
    rw [e3, GoSem.wrap64_eq (by omega) (by omega)]
    simp only [pure, Option.bind_some]
    congr 3; omega
  · have h' : uval.toNat < ns := hns ▸ Nat.lt_of_not_le (fun hh => h (BitVec.le_def.mpr hh))
    rw [if_neg h, if_pos h', GoSem.bv64ToI_of_lt _ (by omega)]
    rfl

theorem gen_lpNext_eq_model_frame (lp : Fn.Listpack) (hlen : lp.data.length < 2147483648) (hp : lp.p.toNat ≤ lp.data.length) :
    (Fn.lpNext lp).map lpProjF =
      (Rdb.lpNext (lp.data.drop lp.p.toNat)).map (fun er => (er.1, er.2, lp.data, lp.numBytes, lp.numElements)) := by
  obtain ⟨data, p, nb, ne⟩ := lp
  simp only at hlen hp ⊢
  have ix := fun k => idx_off data p k hlen hp
  have sx := fun a L => slice_off data p a L hlen hp
  have e5 : (p + 1#32) + 4#32 = p + 5#32 := by bv_omega
  have proj : ∀ n e, n ≤ (data.drop p.toNat).length →
      lpProjF (⟨data, p + BitVec.ofNat 32 (lpSkip n), nb, ne⟩, e) = (e, (data.drop p.toNat).drop (lpSkip n), data, nb, ne) :=
    fun n e hn => by simp only [lpProjF, drop_cursor data p hlen hp n hn]
  have hrl : (data.drop p.toNat).length < 2147483648 := by rw [List.length_drop]; omega
  unfold Fn.lpNext
  simp only [idx_0, ix, e5, sx, Nat.reduceLT, gen_lpEncodeBacklen_eq, BitVec.reduceToNat]
  generalize data.drop p.toNat = rem at *
  cases rem with
  | nil => rfl
  | cons b r =>
    obtain ⟨m1, m2, m3, m4, m5, m6, m7, m8, m9, v127, v63, v31, v15⟩ := lp_masks b
    simp only [List.getElem?_cons_zero, Option.bind_some, bind, m1, m2, m3, m4, m5, m6, m7, m8, m9]
    clear ix sx e5 m1 m2 m3 m4 m5 m6 m7 m8 m9
    have hc := b.toNat_lt
    by_cases c1 : b.toNat / 128 = 0
    · -- 7 bit unsigned
      have hu : (BitVec.setWidth 64 (b &&& 127).toBitVec).toNat = b.toNat % 128 := by rw [u8_widen _ (by decide), v127]
      have hge : ¬ (BitVec.setWidth 64 (b &&& 127).toBitVec ≥ 18446744073709551615#64) := fun h => by
        have := BitVec.le_def.mp h
        rw [hu] at this; simp at this; omega
      rw [lpNext_u7 b r c1]
      simp only [c1, hge, ↓reduceIte, pure, Option.bind_some, Option.map_some, proj 1 _ (Nat.le_add_left 1 r.length)]
      rw [GoSem.bv64ToI_of_lt _ (by rw [hu]; omega), hu, formatInt_nat]
    by_cases c2 : b.toNat / 64 = 2
    · -- 6 bit string
      have hl : (BitVec.setWidth 32 (b &&& 63).toBitVec).toNat = b.toNat % 64 := by rw [u8_widen _ (by decide), v63]
      have hl1 : (BitVec.setWidth 32 (b &&& 63).toBitVec + 1#32).toNat = 1 + b.toNat % 64 := by
        rw [add_small _ 1 (by omega), hl]
      rw [lpNext_s6 b r c2]
      simp only [c1, c2, ↓reduceIte, hl, hl1, List.length_cons, Nat.le_add_left, List.drop_succ_cons, List.drop_zero]
      cases hr : readN (b.toNat % 64) r with
      | none => rfl
      | some s =>
        have := readN_le hr
        simp only [pure, Option.bind_some, Option.map_some, proj (1 + b.toNat % 64) _ (by rw [List.length_cons]; omega)]
    by_cases c3 : b.toNat / 32 = 6
    · -- 13 bit signed
      rw [lpNext_i13 b r c3]
      simp only [c1, c2, c3, ↓reduceIte]
      cases r with
      | nil => rfl
      | cons b1 r1 =>
        have hb1 := b1.toNat_lt
        have hu := be2_widen (w := 64) (b &&& 31) b1 (by decide)
        rw [v31] at hu
        simp only [List.getElem?_cons_succ, List.getElem?_cons_zero, Option.bind_some, List.head?_cons]
        rw [int_tail _ 13 (by decide) _ _ _ rfl rfl (by rw [hu]; omega), hu]
        simp only [Option.map_some, proj 2 _ (Nat.le_add_left 2 r1.length)]
    by_cases c4 : b.toNat / 16 = 14
    · -- 12 bit string
      rw [lpNext_s12 b r c4]
      simp only [c1, c2, c3, c4, ↓reduceIte]
      cases r with
      | nil => rfl
      | cons b1 r1 =>
        have hb1 := b1.toNat_lt
        have hl := be2_widen (w := 32) (b &&& 15) b1 (by decide)
        rw [v15] at hl
        have hl2 : (BitVec.setWidth 32 (b &&& 15).toBitVec <<< 8 + BitVec.setWidth 32 b1.toBitVec + 2#32).toNat =
            2 + (b.toNat % 16 * 256 + b1.toNat) := by
          rw [add_small _ 2 (by omega), hl]
        have h2 : 2 ≤ (b :: b1 :: r1).length := Nat.le_add_left 2 r1.length
        simp only [List.getElem?_cons_succ, List.getElem?_cons_zero, Option.bind_some, hl, hl2, h2, ↓reduceIte,
          List.drop_succ_cons, List.drop_zero, List.head?_cons, List.tail_cons]
        cases hr : readN (b.toNat % 16 * 256 + b1.toNat) r1 with
        | none => rfl
        | some s =>
          have := readN_le hr
          simp only [pure, Option.bind_some, Option.map_some,
            proj (2 + (b.toNat % 16 * 256 + b1.toNat)) _ (by simp only [List.length_cons]; omega)]
    by_cases c5 : b.toNat = 240
    · -- 32 bit string
      rw [lpNext_s32 b r c5]
      simp only [c5, Nat.reduceDiv, Nat.reduceEqDiff, ↓reduceIte]
      rcases r with _ | ⟨b1, _ | ⟨b2, _ | ⟨b3, _ | ⟨b4, r4⟩⟩⟩⟩
      · rfl
      · rfl
      · rfl
      · rfl
      have hl : (_ : BitVec 32).toNat = ofLE [b1, b2, b3, b4] :=
        le_step _ [b1, b2, b3] b4 24 rfl (by decide) (le_step _ [b1, b2] b3 16 rfl (by decide)
          (le_step _ [b1] b2 8 rfl (by decide) (le_first b1 (by decide))))
      have h5 : 5 ≤ (b :: b1 :: b2 :: b3 :: b4 :: r4).length := Nat.le_add_left 5 r4.length
      have h4 : readN 4 (b1 :: b2 :: b3 :: b4 :: r4) = some ([b1, b2, b3, b4], r4) := rfl
      simp only [List.getElem?_cons_succ, List.getElem?_cons_zero, Option.bind_some, h5, h4, ↓reduceIte,
        List.drop_succ_cons, List.drop_zero, BitVec.toNat_add _ 5#32, BitVec.reduceToNat, hl]
      generalize ofLE [b1, b2, b3, b4] = len
      cases hr : readN len r4 with
      | none => rfl
      | some s =>
        have := readN_le hr
        simp only [List.length_cons] at hrl
        rw [Nat.mod_eq_of_lt (by omega), Nat.add_comm len 5]
        simp only [pure, Option.bind_some, Option.map_some, proj (5 + len) _ (by simp only [List.length_cons]; omega)]
    by_cases c6 : b.toNat = 241
    · -- 16 bit signed
      rw [lpNext_le b r 2 (by simp [c6])]
      simp only [c6, Nat.reduceDiv, Nat.reduceEqDiff, ↓reduceIte]
      rcases r with _ | ⟨b1, _ | ⟨b2, r2⟩⟩
      · rfl
      · rfl
      have hu : (_ : BitVec 64).toNat = ofLE [b1, b2] := le_step _ [b1] b2 8 rfl (by decide) (le_first b1 (by decide))
      have h2 : readN 2 (b1 :: b2 :: r2) = some ([b1, b2], r2) := rfl
      simp only [List.getElem?_cons_succ, List.getElem?_cons_zero, Option.bind_some, h2]
      rw [int_tail _ 16 (by decide) _ _ _ (by decide) (by decide) (hu ▸ ofLE_lt_two_pow [b1, b2]), hu]
      simp only [Option.map_some, proj 3 _ (Nat.le_add_left 3 r2.length)]
    by_cases c7 : b.toNat = 242
    · -- 24 bit signed
      rw [lpNext_le b r 3 (by simp [c7])]
      simp only [c7, Nat.reduceDiv, Nat.reduceEqDiff, ↓reduceIte]
      rcases r with _ | ⟨b1, _ | ⟨b2, _ | ⟨b3, r3⟩⟩⟩
      · rfl
      · rfl
      · rfl
      have hu : (_ : BitVec 64).toNat = ofLE [b1, b2, b3] :=
        le_step _ [b1, b2] b3 16 rfl (by decide) (le_step _ [b1] b2 8 rfl (by decide) (le_first b1 (by decide)))
      have h3 : readN 3 (b1 :: b2 :: b3 :: r3) = some ([b1, b2, b3], r3) := rfl
      simp only [List.getElem?_cons_succ, List.getElem?_cons_zero, Option.bind_some, h3]
      rw [int_tail _ 24 (by decide) _ _ _ (by decide) (by decide) (hu ▸ ofLE_lt_two_pow [b1, b2, b3]), hu]
      simp only [Option.map_some, proj 4 _ (Nat.le_add_left 4 r3.length)]
    by_cases c8 : b.toNat = 243
    · -- 32 bit signed
      rw [lpNext_le b r 4 (by simp [c8])]
      simp only [c8, Nat.reduceDiv, Nat.reduceEqDiff, ↓reduceIte]
      rcases r with _ | ⟨b1, _ | ⟨b2, _ | ⟨b3, _ | ⟨b4, r4⟩⟩⟩⟩
      · rfl
      · rfl
      · rfl
      · rfl
      have hu : (_ : BitVec 64).toNat = ofLE [b1, b2, b3, b4] :=
        le_step _ [b1, b2, b3] b4 24 rfl (by decide) (le_step _ [b1, b2] b3 16 rfl (by decide)
          (le_step _ [b1] b2 8 rfl (by decide) (le_first b1 (by decide))))
      have h4 : readN 4 (b1 :: b2 :: b3 :: b4 :: r4) = some ([b1, b2, b3, b4], r4) := rfl
      simp only [List.getElem?_cons_succ, List.getElem?_cons_zero, Option.bind_some, h4]
      rw [int_tail _ 32 (by decide) _ _ _ (by decide) (by decide) (hu ▸ ofLE_lt_two_pow [b1, b2, b3, b4]), hu]
      simp only [Option.map_some, proj 5 _ (Nat.le_add_left 5 r4.length)]
    by_cases c9 : b.toNat = 244
    · -- 64 bit signed
      rw [lpNext_le b r 8 (by simp [c9])]
      simp only [c9, Nat.reduceDiv, Nat.reduceEqDiff, ↓reduceIte]
      rcases r with _ | ⟨b1, _ | ⟨b2, _ | ⟨b3, _ | ⟨b4, _ | ⟨b5, _ | ⟨b6, _ | ⟨b7, _ | ⟨b8, r8⟩⟩⟩⟩⟩⟩⟩⟩
      · rfl
      · rfl
      · rfl
      · rfl
      · rfl
      · rfl
      · rfl
      · rfl
      have hu : (_ : BitVec 64).toNat = ofLE [b1, b2, b3, b4, b5, b6, b7, b8] :=
        le_step _ [b1, b2, b3, b4, b5, b6, b7] b8 56 rfl (by decide) (le_step _ [b1, b2, b3, b4, b5, b6] b7 48 rfl (by decide)
          (le_step _ [b1, b2, b3, b4, b5] b6 40 rfl (by decide) (le_step _ [b1, b2, b3, b4] b5 32 rfl (by decide)
          (le_step _ [b1, b2, b3] b4 24 rfl (by decide) (le_step _ [b1, b2] b3 16 rfl (by decide)
          (le_step _ [b1] b2 8 rfl (by decide) (le_first b1 (by decide))))))))
      have h8 : readN 8 (b1 :: b2 :: b3 :: b4 :: b5 :: b6 :: b7 :: b8 :: r8) = some ([b1, b2, b3, b4, b5, b6, b7, b8], r8) :=
        rfl
      simp only [List.getElem?_cons_succ, List.getElem?_cons_zero, Option.bind_some, h8]
      rw [int_tail _ 64 (by decide) _ _ _ (by decide) (by decide) (hu ▸ ofLE_lt_two_pow [b1, b2, b3, b4, b5, b6, b7, b8]), hu]
      simp only [Option.map_some, proj 9 _ (Nat.le_add_left 9 r8.length)]
    -- 0xF5..0xFF: panic in Go, none in the model
    rw [lpNext_other b r c1 c2 c3 c4 c5 c6 c7 c8 c9]
    simp only [c1, c2, c3, c4, c5, c6, c7, c8, c9, ↓reduceIte, Option.map_none]

theorem gen_lpNext_eq_model (lp : Fn.Listpack) (hlen : lp.data.length < 2147483648) (hp : lp.p.toNat ≤ lp.data.length) :
    (Fn.lpNext lp).map lpProj = Rdb.lpNext (lp.data.drop lp.p.toNat) := by
  have h := congrArg (Option.map fun t => (t.1, t.2.1)) (gen_lpNext_eq_model_frame lp hlen hp)
  rw [Option.map_map, Option.map_map] at h
  exact h.trans Option.map_id'

/-- `Listpack.Next` changes nothing of the listpack but the cursor -/
theorem gen_lpNext_frame (lp lp' : Fn.Listpack) (e : Bytes) (hlen : lp.data.length < 2147483648)
    (hp : lp.p.toNat ≤ lp.data.length) (h : Fn.lpNext lp = some (lp', e)) :
    lp'.data = lp.data ∧ lp'.numBytes = lp.numBytes ∧ lp'.numElements = lp.numElements := by
  have hm := gen_lpNext_eq_model_frame lp hlen hp
  rw [h] at hm
  cases hx : Rdb.lpNext (lp.data.drop lp.p.toNat) with
  | none => rw [hx] at hm; cases hm
  | some x =>
    rw [hx] at hm
    have hm := Option.some.inj hm
    exact ⟨congrArg (·.2.2.1) hm, congrArg (·.2.2.2.1) hm, congrArg (·.2.2.2.2) hm⟩

/-- D23's property on the REGENERATED code: a call of `Listpack.Next` that returns leaves strictly
    fewer bytes behind the cursor - a caller iterating until the end marker terminates -/
theorem gen_lpNext_progress (lp lp' : Fn.Listpack) (e : Bytes) (hlen : lp.data.length < 2147483648)
    (hp : lp.p.toNat ≤ lp.data.length) (h : Fn.lpNext lp = some (lp', e)) :
    (lp'.data.drop lp'.p.toNat).length < (lp.data.drop lp.p.toNat).length := by
  have hm := gen_lpNext_eq_model lp hlen hp
  rw [h] at hm
  exact lpNext_shorter _ _ _ hm.symm

end GunYu.Proofs.GenS5
