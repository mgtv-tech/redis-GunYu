/-
  C08 — life after the restart: the index a new process builds from ANY truthful
  directory (whatever a crash, a failed removal, an interrupted RemoveAll left)
  satisfies the invariants the writers' steps keep, so the writers go on from it and
  every crash image of the next life is truthful again (`resume_*`).
-/
import GunYu.Model.StoreRoot
import GunYu.Proofs.StoreFsXSafe
import GunYu.Proofs.StoreFsBridge

namespace GunYu.StoreFsX
open GunYu GunYu.Store GunYu.StoreFs

/-- a directory has no two entries of the same name -/
def NodupNames (fs : FS) : Prop := (fs.map (·.1)).Nodup

/-- every committed snapshot file holds as many bytes as its name announces, more than none -/
def SnapOk (fs : FS) : Prop := RdbOkP (fun _ S c => 0 < S ∧ c.length = S) fs

theorem get_of_mem_nodup {fs : FS} (h : NodupNames fs) {e : FName × Bytes} (he : e ∈ fs) : fs.get e.1 = some e.2 := by
  induction fs with
  | nil => cases he
  | cons a t ih =>
    unfold NodupNames at h
    simp only [List.map_cons, List.nodup_cons] at h
    unfold FS.get
    rcases List.mem_cons.mp he with h1 | h1
    · subst h1
      simp [List.find?]
    · have hne : (a.1 == e.1) = false := by
        simp only [beq_eq_false_iff_ne, ne_eq]
        intro e'
        exact h.1 (e' ▸ List.mem_map.mpr ⟨e, h1, rfl⟩)
      simp only [List.find?, hne]
      exact ih h.2 h1

theorem nodup_del {fs : FS} (h : NodupNames fs) (n : FName) : NodupNames (fs.del n) := by
  unfold NodupNames FS.del at *
  exact (List.Sublist.map _ List.filter_sublist).nodup h

theorem mem_names_set {fs : FS} {n : FName} {c : Bytes} {m : FName} (hm : m ∈ (fs.set n c).map (·.1)) :
    m = n ∨ m ∈ fs.map (·.1) := by
  obtain ⟨e, he, rfl⟩ := List.mem_map.mp hm
  rcases mem_set he with rfl | h'
  · left; rfl
  · right; exact List.mem_map.mpr ⟨e, h', rfl⟩

theorem nodup_set {fs : FS} (h : NodupNames fs) (n : FName) (c : Bytes) : NodupNames (fs.set n c) := by
  unfold FS.set
  split
  · -- replaced in place: the names do not change
    have : (fs.map (fun e => if e.1 == n then (n, c) else e)).map (·.1) = fs.map (·.1) := by
      rw [List.map_map]
      apply List.map_congr_left
      intro e _
      simp only [Function.comp]
      split
      · rename_i he; simp at he; exact he.symm
      · rfl
    unfold NodupNames
    rw [this]; exact h
  · rename_i hno
    unfold NodupNames
    rw [List.map_append, List.nodup_append]
    refine ⟨h, by simp, ?_⟩
    intro a ha b hb
    simp at hb; subst hb
    intro e; subst e
    apply hno
    rw [get_isSome_iff]
    obtain ⟨e, he, rfl⟩ := List.mem_map.mp ha
    exact ⟨e, he, rfl⟩

theorem nodup_apply {fs : FS} (h : NodupNames fs) (op : FsOp) : NodupNames (fs.apply op) := by
  cases op with
  | create n => exact nodup_set h n []
  | remove n => exact nodup_del h n
  | append n bs =>
    simp only [FS.apply]
    cases fs.get n with
    | none => exact h
    | some c => exact nodup_set h n _
  | pwriteHdr n hd =>
    simp only [FS.apply]
    cases fs.get n with
    | none => exact h
    | some c => exact nodup_set h n _
  | rename a b =>
    simp only [FS.apply]
    cases fs.get a with
    | none => exact h
    | some c => exact nodup_set (nodup_del h a) b c

theorem nodup_applyAll (ops : List FsOp) : ∀ fs : FS, NodupNames fs → NodupNames (fs.applyAll ops) := by
  induction ops with
  | nil => intro fs h; exact h
  | cons o rest ih => intro fs h; exact ih _ (nodup_apply h o)

/-- the segment a directory entry gives in the scan -/
def segOf (e : FName × Bytes) : Option DSeg :=
  match parseAofName e.1 with
  | some l => if e.2.length > headerSize then some { left := l, data := e.2.drop headerSize } else none
  | none => none

theorem scanSegs_eq (fs : FS) : scanSegs fs = fs.filterMap segOf := rfl

theorem segOf_some {e : FName × Bytes} {g : DSeg} (h : segOf e = some g) :
    e.1 = aofName g.left ∧ headerSize < e.2.length ∧ g.data = e.2.drop headerSize := by
  unfold segOf at h
  cases hp : parseAofName e.1 with
  | none => simp [hp] at h
  | some l =>
    simp only [hp] at h
    split at h
    · rename_i hlen
      simp at h; subst h
      refine ⟨?_, hlen, rfl⟩
      cases hn : e.1 <;> simp [hn, parseAofName] at hp
      subst hp; rfl
    · cases h

theorem scanSegs_mem {fs : FS} {g : DSeg} (hg : g ∈ scanSegs fs) :
    ∃ e ∈ fs, e.1 = aofName g.left ∧ headerSize < e.2.length ∧ g.data = e.2.drop headerSize := by
  obtain ⟨e, he, hsome⟩ := List.mem_filterMap.mp hg
  exact ⟨e, he, segOf_some hsome⟩

theorem scanSegs_lefts_nodup {fs : FS} (h : NodupNames fs) : ((scanSegs fs).map (·.left)).Nodup := by
  induction fs with
  | nil => simp [scanSegs]
  | cons e t ih =>
    unfold NodupNames at h
    simp only [List.map_cons, List.nodup_cons] at h
    rw [scanSegs_eq, List.filterMap_cons]
    cases hg : segOf e with
    | none => simp only []; rw [← scanSegs_eq]; exact ih h.2
    | some g =>
      simp only [List.map_cons, List.nodup_cons]
      rw [← scanSegs_eq]
      refine ⟨?_, ih h.2⟩
      intro hm
      obtain ⟨g', hg', hl'⟩ := List.mem_map.mp hm
      obtain ⟨e', he', hn', _, _⟩ := scanSegs_mem hg'
      apply h.1
      rw [(segOf_some hg).1]
      have hl'' : g'.left = g.left := hl'
      rw [← hl'', ← hn']
      exact List.mem_map.mpr ⟨e', he', rfl⟩

theorem insertSeg_perm (g : DSeg) (l : List DSeg) : (insertSeg g l).Perm (g :: l) := by
  induction l with
  | nil => exact List.Perm.refl _
  | cons a t ih =>
    simp only [insertSeg]
    split
    · exact List.Perm.refl _
    · exact (List.Perm.cons a ih).trans (List.Perm.swap g a t)

theorem sortSegs_perm (l : List DSeg) : (sortSegs l).Perm l := by
  induction l with
  | nil => exact List.Perm.refl _
  | cons a t ih =>
    show (insertSeg a (sortSegs t)).Perm (a :: t)
    exact (insertSeg_perm a _).trans (List.Perm.cons a ih)

theorem reopen_segs_nonempty (fs : FS) : ∀ g ∈ (reopen fs).segs, g.data ≠ [] := by
  intro g hg
  rw [reopen_segs] at hg
  obtain ⟨e, _, _, hlen, hd⟩ := scanSegs_mem (mem_sortSegs.mp (mem_contigRun hg))
  intro hnil
  have := congrArg List.length (hd.symm.trans hnil)
  simp at this; omega

/-- the file of an indexed segment is still there after `initDataSet`'s removals: a
    16-byte header followed by the segment's data -/
theorem reopen_fileOf {fs : FS} (hn : NodupNames fs) {g : DSeg} (hg : g ∈ (reopen fs).segs) :
    FileOf (reopenFs fs) g := by
  rw [reopen_segs] at hg
  obtain ⟨cut, hcut⟩ := contigRun_suffix (sortSegs (scanSegs fs))
  obtain ⟨e, he, hname, hlen, hd⟩ := scanSegs_mem (mem_sortSegs.mp (mem_contigRun hg))
  have hget : fs.get (aofName g.left) = some e.2 := by rw [← hname]; exact get_of_mem_nodup hn he
  -- the lefts of cut and run are disjoint
  have hnd : ((cut ++ contigRun (sortSegs (scanSegs fs))).map (·.left)).Nodup := by
    rw [← hcut]
    exact ((sortSegs_perm _).map _).nodup_iff.mpr (scanSegs_lefts_nodup hn)
  rw [List.map_append, List.nodup_append] at hnd
  have hdisj : ∀ x ∈ cut, x.left ≠ g.left :=
    fun x hx => hnd.2.2 _ (List.mem_map.mpr ⟨x, hx, rfl⟩) _ (List.mem_map.mpr ⟨g, hg, rfl⟩)
  refine ⟨e.2.take headerSize, by simp [List.length_take]; omega, ?_⟩
  unfold reopenFs reopenOps
  rw [get_applyAll_other]
  · rw [hget, hd, List.take_append_drop]
  · intro op hop
    obtain ⟨n, hnm, rfl⟩ := List.mem_map.mp hop
    simp only [FsOp.names, List.mem_singleton]
    unfold reopen at hnm
    simp only [] at hnm
    rcases List.mem_append.mp hnm with h1 | h1
    · split at h1
      · simp at h1; subst h1; simp [aofName, rdbName]
      · cases h1
    · obtain ⟨x, hx, rfl⟩ := List.mem_map.mp h1
      intro e'
      have hlen' : (sortSegs (scanSegs fs)).length - (contigRun (sortSegs (scanSegs fs))).length = cut.length := by
        have := congrArg List.length hcut
        rw [List.length_append] at this
        omega
      rw [hlen'] at hx
      have hx' : x ∈ cut := by
        have : (sortSegs (scanSegs fs)).take cut.length = cut := by
          conv => lhs; rw [hcut]
          exact List.take_left' rfl
        rw [this] at hx; exact hx
      exact hdisj x hx' (aofName_inj e').symm

theorem contig_embed : ∀ (l : List DSeg), Contig l →
    ∀ g ∈ l, (firstLeft l).getD 0 ≤ g.left ∧ g.right ≤ (firstLeft l).getD 0 + (l.flatMap (·.data)).length ∧
      g.data = ((l.flatMap (·.data)).drop (g.left - (firstLeft l).getD 0)).take g.data.length := by
  intro l
  induction l with
  | nil => intro _ g hg; cases hg
  | cons a t ih =>
    intro hc g hg
    simp only [firstLeft, Option.getD_some, List.flatMap_cons, List.length_append]
    rcases List.mem_cons.mp hg with h | h
    · subst h
      refine ⟨Nat.le_refl _, by simp [DSeg.right], ?_⟩
      simp
    · cases t with
      | nil => cases h
      | cons b u =>
        have hab : a.right = b.left := hc.1
        obtain ⟨h1, h2, h3⟩ := ih hc.tail g h
        simp only [firstLeft, Option.getD_some] at h1 h2 h3
        simp only [DSeg.right] at hab h2 ⊢
        refine ⟨by omega, by omega, ?_⟩
        rw [List.drop_append]
        have hz : List.drop (g.left - a.left) a.data = [] := List.drop_of_length_le (by omega)
        rw [hz, List.nil_append]
        have : g.left - a.left - a.data.length = g.left - b.left := by omega
        rw [this]
        exact h3

theorem contig_lastRight : ∀ (l : List DSeg) (f r : Nat), Contig l → firstLeft l = some f → lastRight l = some r →
    r = f + (l.flatMap (·.data)).length := by
  intro l
  induction l with
  | nil => intro f r _ hf; simp [firstLeft] at hf
  | cons a t ih =>
    intro f r hc hf hr
    simp [firstLeft] at hf; subst hf
    cases t with
    | nil => simp [lastRight] at hr; subst hr; simp [DSeg.right]
    | cons b u =>
      rw [lastRight_cons_cons] at hr
      have := ih b.left r hc.tail rfl hr
      have hab : a.right = b.left := hc.1
      simp only [List.flatMap_cons, List.length_append] at this ⊢
      simp only [DSeg.right] at hab
      omega

theorem flat_true (src : Nat → UInt8) : ∀ (l : List DSeg), Contig l → (∀ g ∈ l, SegTrue src g) →
    ∀ i b, (l.flatMap (·.data))[i]? = some b → b = src ((firstLeft l).getD 0 + i) := by
  intro l
  induction l with
  | nil => intro _ _ i b hb; simp at hb
  | cons a t ih =>
    intro hc ht
    simp only [firstLeft, Option.getD_some, List.flatMap_cons]
    refine getElem?_append_cases (fun i b hb => ht a (by simp) i b hb) (fun i b hb => ?_)
    cases t with
    | nil => simp at hb
    | cons b' u =>
      rw [← Nat.add_assoc, show a.left + a.data.length = b'.left from hc.1]
      exact ih hc.tail (fun g hg => ht g (List.mem_cons_of_mem _ hg)) i b hb

theorem reopened_rdb {fs : FS} (hs : SnapOk fs) {l s : Nat} (h : (reopen fs).rdb = some (l, s)) :
    ∃ c, fs.get (rdbName l s) = some c ∧ 0 < s ∧ c.length = s :=
  reopen_rdb_okP hs h

theorem reopenDisk_rdb {fs : FS} {logSize maxSize : Nat} {runId : String} {r : DRdb}
    (h : (reopenDisk fs logSize maxSize runId).rdb = some r) :
    ∃ l s, (reopen fs).rdb = some (l, s) ∧
      r = { left := l, size := s, data := (fs.get (rdbName l s)).getD [], writing := false, final := true } := by
  simp only [reopenDisk] at h
  cases hrd : (reopen fs).rdb with
  | none => rw [hrd] at h; cases h
  | some p =>
    obtain ⟨l, s⟩ := p
    rw [hrd] at h
    exact ⟨l, s, rfl, (Option.some.inj h).symm⟩

theorem tmpRel_reopened (fs : FS) (logSize maxSize : Nat) (runId : String) :
    TmpRel (reopenDisk fs logSize maxSize runId) (reopenFs fs) := by
  intro r hr hw
  obtain ⟨_, _, _, rfl⟩ := reopenDisk_rdb hr
  cases hw

theorem dinv_reopened (fs : FS) (hs : SnapOk fs) (logSize maxSize : Nat) (runId : String) :
    DInv (reopenDisk fs logSize maxSize runId) := by
  have hc := reopen_contig fs
  have hall : (reopenDisk fs logSize maxSize runId).all = (reopen fs).segs := by simp [reopenDisk, Disk.all]
  have hsegs : (reopenDisk fs logSize maxSize runId).segs = (reopen fs).segs := rfl
  have hhist : (reopenDisk fs logSize maxSize runId).hist = (reopen fs).segs.flatMap (·.data) := rfl
  have hbase : (reopenDisk fs logSize maxSize runId).hbase = (firstLeft (reopen fs).segs).getD 0 := rfl
  refine ⟨?_, ?_, ?_, ?_, ?_, ?_, ?_, ?_⟩
  · rw [hall]; exact hc
  · rw [hsegs]; exact reopen_segs_nonempty fs
  · intro g hg
    rw [hall] at hg
    rw [hhist, hbase]
    exact contig_embed _ hc g hg
  · intro r hr
    rw [hall] at hr
    rw [hhist, hbase]
    cases hf : firstLeft (reopen fs).segs with
    | none =>
      cases hseg : (reopen fs).segs with
      | nil => rw [hseg] at hr; simp [lastRight] at hr
      | cons a t => rw [hseg] at hf; simp [firstLeft] at hf
    | some f => exact contig_lastRight _ f r hc hf hr
  · intro r l hr hfl
    rw [hall] at hfl
    obtain ⟨l', s', hrd, rfl⟩ := reopenDisk_rdb hr
    cases hseg : (reopen fs).segs with
    | nil => rw [hseg] at hfl; simp [firstLeft] at hfl
    | cons a t =>
      rw [hseg] at hfl; simp [firstLeft] at hfl; subst hfl
      exact reopen_rdb_aligned fs l' s' a t hrd hseg
  · intro r hr
    obtain ⟨l', s', hrd, rfl⟩ := reopenDisk_rdb hr
    obtain ⟨c, hget, hpos, hlen⟩ := reopened_rdb hs hrd
    simp [hget, hpos, hlen]
  · show ((reopenDisk fs logSize maxSize runId).readers.map (·.id)).Nodup
    simp [reopenDisk]
  · intro r hr
    have : (reopenDisk fs logSize maxSize runId).readers = [] := rfl
    rw [this] at hr; cases hr

theorem xinv_reopened {src : Nat → UInt8} (fs : FS) (ht : FsTrue src fs) (hn : NodupNames fs) (hs : SnapOk fs)
    (logSize maxSize : Nat) (runId : String) : XInv src (XDisk.reopened fs logSize maxSize runId) := by
  have hc := reopen_contig fs
  have hall : (reopenDisk fs logSize maxSize runId).all = (reopen fs).segs := by simp [reopenDisk, Disk.all]
  have hhist : (reopenDisk fs logSize maxSize runId).hist = (reopen fs).segs.flatMap (·.data) := rfl
  have hbase : (reopenDisk fs logSize maxSize runId).hbase = (firstLeft (reopen fs).segs).getD 0 := rfl
  refine ⟨dinv_reopened fs hs logSize maxSize runId, ?_, ?_, tmpRel_reopened fs logSize maxSize runId⟩
  · -- the history ghost is what the segments hold
    intro i b hb
    have hb' : ((reopen fs).segs.flatMap (·.data))[i]? = some b := hb
    show b = src ((reopenDisk fs logSize maxSize runId).hbase + i)
    rw [hbase]
    exact flat_true src _ hc (reopen_segs_true ht) i b hb'
  · intro g hg
    have hg' : g ∈ (reopenDisk fs logSize maxSize runId).all := hg
    rw [hall] at hg'
    exact reopen_fileOf hn hg'

theorem ginv_reopened (fs : FS) (hs : SnapOk fs) (logSize maxSize : Nat) (runId : String) :
    GInv (reopenDisk fs logSize maxSize runId) (reopenGhost fs runId) := by
  refine ⟨rfl, ?_, ?_⟩
  · intro r hr
    obtain ⟨l', s', hrd, rfl⟩ := reopenDisk_rdb hr
    obtain ⟨c, hget, hpos, _⟩ := reopened_rdb hs hrd
    simp [reopenGhost, hrd, hpos]
  · intro hnone x hx
    simp only [reopenDisk] at hnone
    cases hrd : (reopen fs).rdb with
    | none => simp [reopenGhost, hrd] at hx
    | some p => rw [hrd] at hnone; obtain ⟨l', s'⟩ := p; simp at hnone

theorem reopenFs_true {src : Nat → UInt8} {fs : FS} (h : FsTrue src fs) : FsTrue src (reopenFs fs) := by
  unfold reopenFs reopenOps
  apply applyAll_inv (I := FsTrue src) (P := OpTrueX src) (fun _ op h => FsTrue_applyX h op) _ _ h
  exact Pos.ofAll (fun o ho fs' => by obtain ⟨n, _, rfl⟩ := List.mem_map.mp ho; trivial)

theorem reopenFs_rdbOkP {P : Nat → Nat → Bytes → Prop} {fs : FS} (h : RdbOkP P fs) : RdbOkP P (reopenFs fs) := by
  unfold reopenFs reopenOps
  apply applyAll_inv (I := RdbOkP P) (P := RdbSafeP P) (fun _ op h => RdbOkP_apply h op) _ _ h
  exact Pos.ofAll (fun o ho fs' => by obtain ⟨n, _, rfl⟩ := List.mem_map.mp ho; trivial)

/-- **a new process on ANY truthful directory, any script with faults, death at any
    instant: the directory is truthful again** -/
theorem resume_true {src : Nat → UInt8} (fs : FS) (ht : FsTrue src fs) (hn : NodupNames fs) (hs : SnapOk fs)
    (l m : Nat) (id : String) (xs : List XOp) (hwf : wfX (XDisk.reopened fs l m id) xs)
    (hsrc : SrcOkX src (XDisk.reopened fs l m id) xs) (n k : Nat) :
    FsTrue src (crashImageX (reopenFs fs) (xScriptOps (XDisk.reopened fs l m id) xs) n k) := by
  have := (xrun_ok (src := src) (P := fun _ _ _ => True) (reopenGhost fs id) xs (fun _ _ _ _ => trivial) xs [] _ rfl
    hwf hsrc (xinv_reopened fs ht hn hs l m id) (ginv_reopened fs hs l m id)).1
  exact crashImageX_true (reopenFs_true ht) _ this n k

/-- … and every committed snapshot file is one the directory already held, or holds
    exactly the bytes a snapshot writer of this life received (`P0`: what is known of
    the files the directory held before) -/
theorem resume_received {P0 : Nat → Nat → Bytes → Prop} (fs : FS) (hs : SnapOk fs) (h0 : RdbOkP P0 fs)
    (l m : Nat) (id : String) (xs : List XOp) (hwf : wfX (XDisk.reopened fs l m id) xs) (n k : Nat) :
    RdbOkP (fun L S c => P0 L S c ∨ RecvFrom (reopenGhost fs id) (xs.map recvOp) L S c)
      (crashImageX (reopenFs fs) (xScriptOps (XDisk.reopened fs l m id) xs) n k) := by
  have hx := xrun_safe (P := fun L S c => P0 L S c ∨ RecvFrom (reopenGhost fs id) (xs.map recvOp) L S c)
    (reopenGhost fs id) xs (fun _ _ _ h => Or.inr h) xs [] (XDisk.reopened fs l m id) rfl hwf
    (tmpRel_reopened fs l m id) (ginv_reopened fs hs l m id)
  apply crashImageX_rdbOkP _ _ hx n k
  apply reopenFs_rdbOkP
  intro e he L S hp
  exact Or.inl (h0 e he L S hp)

/-- the next image is again a directory a new process can start from -/
theorem resume_closed {src : Nat → UInt8} (fs : FS) (ht : FsTrue src fs) (hn : NodupNames fs) (hs : SnapOk fs)
    (l m : Nat) (id : String) (xs : List XOp) (hwf : wfX (XDisk.reopened fs l m id) xs)
    (hsrc : SrcOkX src (XDisk.reopened fs l m id) xs) (n k : Nat) :
    let img := crashImageX (reopenFs fs) (xScriptOps (XDisk.reopened fs l m id) xs) n k
    FsTrue src img ∧ NodupNames img ∧ SnapOk img := by
  refine ⟨resume_true fs ht hn hs l m id xs hwf hsrc n k, ?_, ?_⟩
  · exact nodup_applyAll _ _ (nodup_applyAll _ _ hn)
  · have := resume_received (P0 := fun _ S c => 0 < S ∧ c.length = S) fs hs hs l m id xs hwf n k
    intro e he L S hp
    rcases this e he L S hp with h | h
    · exact h
    · exact ⟨h.1, h.2.1⟩

end GunYu.StoreFsX
