/-
  C17 — `Good` is kept by the steps that do not write fields: deletions (gc, the tail of
  UpdateCheckpoint), a source failover / a new second id (ghost steps), a crash. Core only.
-/
import GunYu.Proofs.BookGood

namespace GunYu.Checkpoint
open GunYu

set_option linter.unusedSimpArgs false
set_option linter.unusedVariables false

theorem LocOk.congr {ids : List Bytes} {t t' : Checkpoint.Target} {loc : Bytes} {d : Nat} {X : Int}
    (h : LocOk ids t loc d X) (hc : ∀ db, t'.cps db loc = t.cps db loc) : LocOk ids t' loc d X :=
  ⟨fun db => by rw [hc]; exact h.parses db, fun db hdb => by rw [hc]; exact h.below db hdb,
   by rw [hc]; exact h.atd, fun db e he => by rw [hc] at he; exact h.ridok db e he⟩

theorem LocOk.sel {ids ids' : List Bytes} {t : Checkpoint.Target} {loc : Bytes} {d : Nat} {X : Int}
    (h : LocOk ids t loc d X) (hs : ∀ db, ∀ e ∈ t.cps db loc, matchId ids' e.rid = matchId ids e.rid) :
    LocOk ids' t loc d X := by
  refine ⟨?_, ?_, ?_, ?_⟩
  · intro db e he hm hk
    rw [hs db e he] at hm
    exact h.parses db e he hm hk
  · intro db hdb x hx hsx
    rw [offSel_of_match (hs db x hx)] at hsx
    exact h.below db hdb x hx hsx
  · rcases h.atd with ha | ha
    · left
      rw [offOf_congr (fun e he => offSel_of_match (hs d e he))]; exact ha
    · right
      intro e he; rw [hs d e he]; exact ha e he
  · intro db e he hsx
    rw [ridSel_of_match (hs db e he)] at hsx
    exact h.ridok db e he hsx

end GunYu.Checkpoint

namespace GunYu.BookSys
open GunYu GunYu.Checkpoint

set_option linter.unusedSimpArgs false
set_option linter.unusedVariables false

/-- an HDEL that takes a `_runid` field takes the `_offset` field of the same id too -/
def KsOK (ks : List FKey) : Prop := ∀ ρ, (ρ, Kind.runid) ∈ ks → (ρ, Kind.offset) ∈ ks

theorem ksOK_fourKeys (ρ : Bytes) : KsOK (fourKeys ρ) := by
  intro ρ' h
  have : ρ' = ρ := by simpa [fourKeys] using h
  subst this; simp [fourKeys]

theorem ksOK_staleKeys (ρ : Bytes) (b : Bool) : KsOK (staleKeys ρ b) := by
  unfold staleKeys
  split
  · intro ρ' h
    simp only [List.mem_cons, Prod.mk.injEq, List.not_mem_nil, or_false] at h
    rcases h with h | h
    · exact absurd h.2 (by decide)
    · exact absurd h.2 (by decide)
  · exact ksOK_fourKeys ρ

/-- the deletions of gc and of UpdateCheckpoint -/
def DelReq (c : Ctl) : Req → Prop
  | .hdelCp _ name ks => KsOK ks ∧ ∀ p, c.pend = some p → name ≠ p
  | .hdelHash rid => rid ≠ c.lab
  | _ => False

theorem hasrid_hdel {N : Bytes} {fs : Cp} {ks : List FKey} (hks : KsOK ks)
    (h : hasKey (N, Kind.offset) fs → hasKey (N, Kind.runid) fs) :
    hasKey (N, Kind.offset) (hdelMany fs ks) → hasKey (N, Kind.runid) (hdelMany fs ks) := by
  intro ho
  rw [hasKey_hdelMany] at ho ⊢
  exact ⟨h ho.1, fun hin => ho.2 (hks N hin)⟩

theorem PendOK.congr {t t' : Checkpoint.Target} {c : Ctl} {p : Bytes} {X : Int} {d : Nat} (P : PendOK t c p X d)
    (hc : ∀ db, t'.cps db p = t.cps db p) (hh : ∀ q ∈ t'.hash, q ∈ t.hash) : PendOK t' c p X d :=
  ⟨P.ne, P.p0, P.mem, P.ok.congr hc, fun db e he => P.rid db e (by rw [hc] at he; exact he),
    fun q hq => P.unm q (hh q hq), fun db => by rw [hc]; exact P.hasrid db⟩

theorem frame_del {t : Checkpoint.Target} {c : Ctl} {X : Int} {d : Nat} (F : Frame t c X d) (q : Req)
    (hq : DelReq c q) : Frame (applyReq t q) c X d := by
  cases q with
  | hsetCp db name es => exact absurd hq (by simp [DelReq])
  | delKeys db names => exact absurd hq (by simp [DelReq])
  | hsetHash rid name => exact absurd hq (by simp [DelReq])
  | hsetnxHash rid name => exact absurd hq (by simp [DelReq])
  | hdelCp db name ks =>
    obtain ⟨hks, hpn⟩ := hq
    refine ⟨F.hashL, F.hashM, strA_applyReq F.str _ trivial,
      fun db' => hdelCp_keeps (F.ord db') (fun h => h.hdelMany ks),
      fun db' => hdelCp_keeps (P := fun fs => OffLe [c.sec] fs X) (F.sle db') (fun h => h.hdelMany ks),
      fun db' => hdelCp_keeps (P := fun fs => hasKey (c.mas, Kind.offset) fs → hasKey (c.mas, Kind.runid) fs)
        (F.hasrid db') (hasrid_hdel hks), ?_⟩
    · intro p hp
      refine (F.pend p hp).congr (fun db' => ?_) (fun _ h => h)
      rw [applyReq_hdelCp_cps, if_neg (fun hc => hpn p hp hc.2.symm)]
  | hdelHash rid =>
    have hl : rid ≠ c.lab := hq
    refine ⟨?_, ?_, strA_applyReq F.str _ trivial, F.ord, F.sle, F.hasrid, ?_⟩
    · show hlookup (hashDel t.hash rid) c.lab = _
      rw [hlookup_hashDel_ne _ _ _ (fun h => hl h.symm)]; exact F.hashL
    · intro h; exact (F.hashM h).hashDel
    · exact fun p hp => (F.pend p hp).congr (fun _ => rfl) (fun _ hq' => (List.mem_filter.mp hq').1)

theorem frame_dels {c : Ctl} {X : Int} {d : Nat} (rs : List Req) {t : Checkpoint.Target}
    (F : Frame t c X d) (hq : ∀ q ∈ rs, DelReq c q) : Frame (applyAll t rs) c X d :=
  applyAll_inv (I := fun t => Frame t c X d) (fun _ q F hq => frame_del F q hq) rs F hq

theorem delStale_shape {t : Checkpoint.Target} {names ids : List Bytes} (hstr : StrA t names ids) (cpn rid : Bytes)
    (before : Int) (ex : Bool) (order : List Nat) :
    ∀ q ∈ (delStale t cpn rid before ex order).2.2,
      ∃ db ρ, q = Req.hdelCp db cpn (staleKeys ρ ex) ∧ (ρ = rid ∨ ρ = qmark) := by
  intro q hq
  unfold delStale at hq
  cases hs : staleScan t cpn rid order with
  | none => rw [hs] at hq; cases hq
  | some s =>
    rw [hs] at hq
    obtain ⟨p, hp, rfl⟩ := List.mem_map.mp hq
    have hfetch := staleScan_found t cpn rid order {} s (fun _ h => nomatch h) hs p (List.mem_filter.mp hp).1
    exact ⟨p.1, p.2.runId, rfl,
      fetch_one_runId rid (t.cps p.1 cpn) p.2 (fun e he => (hstr.ok p.1 cpn e he).2) {} (Or.inr rfl) hfetch⟩

/-- the shape of the requests of a gc pass: HDELs under key names the hash maps — of a live id only `_offset` and
    `_mtime` (D24) — and HDELs of hash entries of ids that are not live -/
theorem gcLoop_shape (live : List Bytes) (before : Int) {names ids : List Bytes} :
    ∀ (pairs : List (Bytes × Bytes)) (orders : List (List Nat)) (t : Checkpoint.Target), StrA t names ids →
    ∀ q ∈ gcLoop live before t pairs orders,
      (∃ db name ρ b, q = Req.hdelCp db name (staleKeys ρ b) ∧ (∃ p ∈ pairs, p.2 = name) ∧
        (ρ ∈ live → ρ ≠ qmark → b = true)) ∨
      (∃ rid, q = Req.hdelHash rid ∧ rid ∉ live) := by
  intro pairs
  induction pairs with
  | nil => intro orders t _ q hq; cases hq
  | cons pr rest ih =>
    intro orders t hstr q hq
    obtain ⟨rid, cpn⟩ := pr
    simp only [gcLoop] at hq
    rcases List.mem_append.mp hq with hq | hq
    · rcases List.mem_append.mp hq with hq | hq
      · obtain ⟨db, ρ, rfl, hρ⟩ := delStale_shape hstr cpn rid before _ _ q hq
        refine Or.inl ⟨db, cpn, ρ, _, rfl, ⟨(rid, cpn), List.mem_cons_self .., rfl⟩, fun hl hq' => ?_⟩
        rw [hρ.resolve_right hq'] at hl
        exact List.contains_iff_mem.mpr hl
      · split at hq
        · rename_i hc
          exact Or.inr ⟨rid, List.mem_singleton.mp hq, fun h => hc.1 (List.contains_iff_mem.mpr h)⟩
        · cases hq
    · -- the requests of this pair are deletions: the rest of the pass runs on a well-formed target
      refine (ih _ _ (strA_applyAll _ hstr ?_) q hq).imp ?_ id
      · intro q' hq'
        rcases List.mem_append.mp hq' with h | h
        · obtain ⟨_, _, rfl, _⟩ := delStale_shape hstr cpn rid before _ _ q' h; trivial
        · split at h
          · rw [List.mem_singleton.mp h]; trivial
          · cases h
      · rintro ⟨db, name, ρ, b, h1, ⟨p, hp, h2⟩, h3⟩
        exact ⟨db, name, ρ, b, h1, ⟨p, List.mem_cons_of_mem _ hp, h2⟩, h3⟩

/-- **a gc pass, stopped after any number of its requests, keeps `Good`** (both reported ids are
    in the live set) -/
theorem good_gc {t : Checkpoint.Target} {c : Ctl} {X : Int} {d : Nat} (G : Good t c X d)
    (live : List Bytes) (h1 : c.mas ∈ live) (h2 : c.sec ∈ live) (before : Int)
    (orders : List (List Nat)) (k : Nat) :
    Good (applyAll t ((gcReqs t live before orders).take k)) c X d := by
  have hi := gcLoop_prefix G.ctl.hne G.ctl.m0 G.ctl.lab G.labq live h1 h2 before t.hash orders t
    G.toInv (G.ownAll _) k
  have hlive : c.lab ∈ live := by rcases G.ctl.lab with h | h <;> rw [h] <;> assumption
  refine ⟨G.ctl, ?_, hi.holds, hi.carrier⟩
  apply frame_dels _ G.fr
  intro q hq
  rcases gcLoop_shape live before t.hash orders t G.fr.str q (mem_take hq) with ⟨db, name, ρ, b, rfl, ⟨p, hp, hpn⟩, _⟩ | ⟨rid, rfl, hr⟩
  · refine ⟨ksOK_staleKeys ρ b, ?_⟩
    intro p' hp' hc
    exact (G.fr.pend p' hp').unm p hp (hpn.trans hc)
  · exact fun hc => hr (hc ▸ hlive)

theorem good_crash {t : Checkpoint.Target} {c : Ctl} {X : Int} {d : Nat} (G : Good t c X d) :
    Good t { c with up := false } X d := by
  obtain ⟨C, F, hH, hC⟩ := G
  exact ⟨⟨C.hne, C.m0, C.mq, C.sq, C.lab, C.l0, C.key0, C.keyIn, C.masIn, C.secIn, (fun h => by cases h), C.s0⟩,
    ⟨F.hashL, F.hashM, F.str, F.ord, F.sle, F.hasrid,
      fun p hp => let P := F.pend p hp; ⟨P.ne, P.p0, P.mem, P.ok, P.rid, P.unm, P.hasrid⟩⟩, hH, hC⟩

def NoField (z : Bytes) (t : Checkpoint.Target) : Prop := ∀ db n, ∀ e ∈ t.cps db n, e.rid ≠ z

theorem match_fresh_first {z M : Bytes} {e : Entry} (h : e.rid ≠ z) :
    matchId [z, M] e.rid = matchId [M] e.rid := by
  rw [Bool.eq_iff_iff, matchId_pair, matchId_one]
  constructor
  · rintro (h' | h'); exact absurd h' h; exact h'
  · exact Or.inr

theorem match_fresh_second {z M : Bytes} {e : Entry} (h : e.rid ≠ z) :
    matchId [M, z] e.rid = matchId [M] e.rid := by
  rw [matchId_swap]; exact match_fresh_first h

/-- the position carried by `M` alone is the position of the pair of `M` and an id without checkpoint fields
    under the key -/
theorem holds_fresh {t : Checkpoint.Target} {names ids : List Bytes} (hs : StrA t names ids)
    {z M key : Bytes} {d : Nat} {X : Int} (hX : 0 ≤ X) (hc : Carrier M t key d X)
    (hb : ∀ db, db ≠ d → OffBelow [M] (t.cps db key) X)
    (hz : ∀ db, ∀ e ∈ t.cps db key, e.rid = z → e.kind = Kind.other) :
    Holds [z, M] t key d X := by
  have hsel : ∀ db, ∀ e ∈ t.cps db key, offSel [z, M] e = offSel [M] e ∧ ridSel [z, M] e = ridSel [M] e := by
    intro db e he
    by_cases h : e.rid = z
    · have hk := hz db e he h
      constructor <;> rw [Bool.eq_iff_iff]
      · rw [offSel_iff, offSel_iff, hk]; exact ⟨fun h => (nomatch h.2), fun h => (nomatch h.2)⟩
      · rw [ridSel_iff, ridSel_iff, hk]; exact ⟨fun h => (nomatch h.2), fun h => (nomatch h.2)⟩
    · exact ⟨offSel_of_match (match_fresh_first h), ridSel_of_match (match_fresh_first h)⟩
  refine ⟨hX, fun db => parses_of_ok hs _ db _, ?_, ?_, ?_⟩
  · rw [offOf_congr (fun e he => (hsel d e he).1)]; exact hc.1
  · rw [ridOf_congr (fun e he => (hsel d e he).2)]; exact hc.2
  · intro db hdb x hx hsx
    rw [(hsel db x hx).1] at hsx
    exact hb db hdb x hx hsx

/-- **a source failover**: the position is labelled with the master id `mas`; the source now reports
    `[N', mas]` with `N'` an id never used on this target -/
theorem good_failover {t : Checkpoint.Target} {c : Ctl} {X : Int} {d : Nat} (G : Good t c X d)
    (hl : c.lab = c.mas) (N' : Bytes) (hN : N' ∉ c.ids) (hN0 : N' ≠ []) (hNq : N' ≠ qmark) :
    Good t { c with mas := N', sec := c.mas, ids := N' :: c.ids } X d := by
  have hmb := G.masBelow
  obtain ⟨C, F, hH, hC⟩ := G
  have hz : NoField N' t := (F.str.ids N' hN).1
  have hNM : N' ≠ c.mas := fun h => hN (h ▸ C.masIn)
  have hC' : Carrier c.mas t c.key d X := hl ▸ hC
  refine ⟨⟨hNM, hN0, hNq, C.mq, Or.inr hl, C.l0, C.key0, C.keyIn, List.mem_cons_self ..,
    List.mem_cons_of_mem _ C.masIn, C.upk, C.m0⟩, ?_, ?_, hC⟩
  · refine ⟨F.hashL, fun _ => Or.inl (F.str.ids N' hN).2,
      F.str.weaken (fun _ h => h) (fun _ h => List.mem_cons_of_mem _ h), ?_, ?_, ?_, ?_⟩
    · exact fun db => noAfter_of_no (Or.inl fun ⟨e, he, hk⟩ => hz db c.key e he (congrArg Prod.fst hk))
    · intro db x hx hsx v hv
      by_cases hdb : db = d
      · subst hdb
        rw [offSel_iff, matchId_one] at hsx
        have := offOf_one_of_mem (F.str.nodup db c.key) hx
          (show x.key = (c.mas, Kind.offset) by show (x.rid, x.kind) = _; rw [hsx.1, hsx.2]) hv
        rw [hC'.1] at this; omega
      · exact Int.le_of_lt (hmb db hdb x hx hsx v hv)
    · rintro db ⟨e, he, hk⟩
      exact absurd (congrArg Prod.fst hk) (hz db c.key e he)
    · intro p hp
      have P := F.pend p hp
      refine ⟨P.ne, P.p0, P.mem, ?_, P.rid, P.unm, ?_⟩
      rotate_left
      · rintro db ⟨e, he, hk⟩
        exact absurd (congrArg Prod.fst hk) (hz db p e he)
      apply P.ok.sel
      intro db e he
      show matchId [N', c.mas] e.rid = matchId [c.mas, c.sec] e.rid
      rw [P.rid db e he, hl, Bool.eq_iff_iff, matchId_pair, matchId_pair]
      exact ⟨fun _ => Or.inl rfl, fun _ => Or.inr rfl⟩
  · show Holds [N', c.mas] t c.key d X
    exact holds_fresh F.str hH.nonneg hC' hmb
      (fun db e he h => absurd h (hz db c.key e he))

/-- **the source stops reporting the old second id** (it reports `[mas, z]`, `z` never used on this
    target, e.g. the all-zero id) -/
theorem good_newSecond {t : Checkpoint.Target} {c : Ctl} {X : Int} {d : Nat} (G : Good t c X d)
    (hl : c.lab = c.mas) (z : Bytes) (hz' : z ∉ c.ids) (hzq : z ≠ qmark) (hz0 : z ≠ []) :
    Good t { c with sec := z, ids := z :: c.ids } X d := by
  have hmb := G.masBelow
  obtain ⟨C, F, hH, hC⟩ := G
  have hz : NoField z t := (F.str.ids z hz').1
  have hMz : c.mas ≠ z := fun h => hz' (h ▸ C.masIn)
  have hC' : Carrier c.mas t c.key d X := hl ▸ hC
  refine ⟨⟨hMz, C.m0, C.mq, hzq, Or.inl hl, C.l0, C.key0, C.keyIn, List.mem_cons_of_mem _ C.masIn,
    List.mem_cons_self .., C.upk, hz0⟩, ?_, ?_, hC⟩
  · refine ⟨F.hashL, fun h => absurd hl h,
      F.str.weaken (fun _ h => h) (fun _ h => List.mem_cons_of_mem _ h), ?_, ?_, F.hasrid, ?_⟩
    · exact fun db => noAfter_of_no (Or.inr fun ⟨e, he, hk⟩ => hz db c.key e he (congrArg Prod.fst hk))
    · intro db x hx hsx
      rw [offSel_iff, matchId_one] at hsx
      exact absurd hsx.1 (hz db c.key x hx)
    · intro p hp
      have P := F.pend p hp
      refine ⟨P.ne, P.p0, P.mem, ?_, P.rid, P.unm, P.hasrid⟩
      apply P.ok.sel
      intro db e he
      show matchId [c.mas, z] e.rid = matchId [c.mas, c.sec] e.rid
      rw [P.rid db e he, hl, Bool.eq_iff_iff, matchId_pair, matchId_pair]
      exact ⟨fun _ => Or.inl rfl, fun _ => Or.inl rfl⟩
  · show Holds [c.mas, z] t c.key d X
    exact (holds_fresh F.str hH.nonneg hC' hmb
      (fun db e he h => absurd h (hz db c.key e he))).swap

end GunYu.BookSys
