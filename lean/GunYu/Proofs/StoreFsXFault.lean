/-
  C08, extended operation set: the steps WITH FAULTS (failing / torn header
  rewrite at close and at rotation, failing open at rotation, failing removals)
  keep the invariants; `xstep_ok` covers every step.
-/
import GunYu.Proofs.StoreFsXStep

namespace GunYu.StoreFsX
open GunYu GunYu.Store GunYu.StoreFs

theorem Pos.cons {P : FS → FsOp → Prop} {fs : FS} {o : FsOp} {rest : List FsOp} (h : P fs o)
    (hr : Pos P (fs.apply o) rest) : Pos P fs (o :: rest) := by
  have : Pos P fs ([o] ++ rest) := Pos.append (Pos.single h) hr
  simpa using this

theorem hdrs_ok (src : Nat → UInt8) (n : FName) (dd : Bytes) (hs : List FsOp)
    (hall : ∀ o ∈ hs, ∃ h, o = FsOp.pwriteHdr n h ∧ h.length ≤ headerSize) :
    ∀ (fs : FS) (hdr0 : Bytes), hdr0.length = headerSize → fs.get n = some (hdr0 ++ dd) →
      Pos (OpTrueX src) fs hs ∧
      ∃ hdr', hdr'.length = headerSize ∧ (fs.applyAll hs).get n = some (hdr' ++ dd) := by
  induction hs with
  | nil => intro fs hdr0 hh hget; exact ⟨Pos.nil, hdr0, hh, hget⟩
  | cons o rest ih =>
    intro fs hdr0 hh hget
    obtain ⟨h, rfl, hl⟩ := hall o (by simp)
    have hget1 : (fs.apply (.pwriteHdr n h)).get n = some ((h ++ hdr0.drop h.length) ++ dd) := by
      rw [get_apply_pwrite_eq _ hget]
      congr 1
      rw [List.drop_append_of_le_length (by omega), List.append_assoc]
    have hlen1 : (h ++ hdr0.drop h.length).length = headerSize := by
      simp [List.length_drop]; omega
    obtain ⟨hp, hdr', hh', hget'⟩ := ih (fun o ho => hall o (by simp [ho])) _ _ hlen1 hget1
    refine ⟨Pos.cons ⟨hl, ?_⟩ hp, hdr', hh', hget'⟩
    intro c hc
    rw [hget] at hc; cases hc
    simp; omega

theorem hdrTornOps_all (n : FName) (data : Bytes) (k : Nat) :
    ∀ o ∈ hdrTornOps n (closedHeader data) k, ∃ h, o = FsOp.pwriteHdr n h ∧ h.length ≤ headerSize := by
  intro o ho
  refine ⟨_, hdrTornOps_mem ho, ?_⟩
  have := closedHeader_length data
  simp only [List.length_take]
  omega

theorem single_hdr_all (n : FName) (data : Bytes) :
    ∀ o ∈ [FsOp.pwriteHdr n (closedHeader data)], ∃ h, o = FsOp.pwriteHdr n h ∧ h.length ≤ headerSize := by
  intro o ho
  simp at ho; subst ho
  exact ⟨_, rfl, by rw [closedHeader_length]; exact Nat.le_refl _⟩

def OnAof (l : Nat) (ops : List FsOp) : Prop :=
  ∀ o ∈ ops, (∃ bs, o = .append (aofName l) bs) ∨ (∃ hd, o = .pwriteHdr (aofName l) hd) ∨ o = .create (aofName l) ∨
    o = .remove (aofName l)

theorem OnAof.names {l : Nat} {ops : List FsOp} (h : OnAof l ops) : ∀ o ∈ ops, o.names = [aofName l] := by
  intro o ho
  rcases h o ho with ⟨bs, rfl⟩ | ⟨hd, rfl⟩ | rfl | rfl <;> rfl

theorem OnAof.safe {P : Nat → Nat → Bytes → Prop} {l : Nat} {ops : List FsOp} (h : OnAof l ops) (fs : FS) :
    Pos (RdbSafeP P) fs ops :=
  Pos.ofAll (fun o ho fs' => (aof_op_safe l o (h o ho)).1 fs')

theorem OnAof.tmp {l : Nat} {ops : List FsOp} (h : OnAof l ops) : ∀ o ∈ ops, ∀ l' sz, rdbTmpName l' sz ∉ o.names :=
  fun o ho => (aof_op_safe (P := fun _ _ _ => True) l o (h o ho)).2

theorem OnAof.other {l : Nat} {ops : List FsOp} (h : OnAof l ops) (fs : FS) {m : Nat} (hm : m ≠ l) :
    (fs.applyAll ops).get (aofName m) = fs.get (aofName m) := by
  apply get_applyAll_other
  intro o ho
  rw [h.names o ho]
  simp only [List.mem_singleton]
  exact fun e => hm (aofName_inj e)

theorem onAof_hdrs {l : Nat} {hs : List FsOp}
    (hall : ∀ o ∈ hs, ∃ h, o = FsOp.pwriteHdr (aofName l) h ∧ h.length ≤ headerSize) : OnAof l hs := by
  intro o ho
  obtain ⟨h, rfl, _⟩ := hall o ho
  exact Or.inr (Or.inl ⟨h, rfl⟩)

theorem onAof_append_hdrs (l : Nat) (chunk : Bytes) {hs : List FsOp}
    (hall : ∀ o ∈ hs, ∃ h, o = FsOp.pwriteHdr (aofName l) h ∧ h.length ≤ headerSize) :
    OnAof l ([FsOp.append (aofName l) chunk] ++ hs) := by
  intro o ho
  rcases List.mem_append.mp ho with h1 | h1
  · simp at h1; subst h1; exact Or.inl ⟨_, rfl⟩
  · exact onAof_hdrs hall o h1

theorem closeLive_rdb (s : Disk) : s.closeLive.rdb = s.rdb := (closeLive_hist s).2.2

theorem histTrue_closeLive {src : Nat → UInt8} {s : Disk} (h : HistTrue src s) : HistTrue src s.closeLive := by
  intro i b hb
  rw [(closeLive_hist s).2.1] at hb
  rw [(closeLive_hist s).1]
  exact h i b hb

theorem close_with_hdrs {src : Nat → UInt8} {P : Nat → Nat → Bytes → Prop} (s : XDisk) (hinv : XInv src s)
    (g : DSeg) (hl : s.d.live = some g) (hs : List FsOp)
    (hall : ∀ o ∈ hs, ∃ h, o = FsOp.pwriteHdr (aofName g.left) h ∧ h.length ≤ headerSize)
    (z' : List Nat) (fails : List Att) (hfails : okOps fails = []) :
    StepOk src P s (⟨s.d.closeLive, s.fs.applyAll hs, z'⟩, allOk hs ++ fails) := by
  have hgm : g ∈ s.d.all := by simp [Disk.all, hl]
  obtain ⟨hdr0, hh0, hget0⟩ := hinv.files g hgm
  obtain ⟨hpos, hdr', hh', hget'⟩ := hdrs_ok src (aofName g.left) g.data hs hall s.fs hdr0 hh0 hget0
  have hon := onAof_hdrs hall
  have hok := okOps_allOk_fails hs hfails
  refine StepOk.mk' (by rw [hok]) (by rw [hok]; exact hpos) (by rw [hok]; exact hon.safe _) ?_
  refine ⟨hinv.dinv.closeLive, histTrue_closeLive hinv.hist, ?_, ?_⟩
  · intro x hx
    have hxa := closeLive_all_subset s.d x hx
    by_cases e : x.left = g.left
    · have := all_lefts_unique hinv.dinv hxa hgm e
      subst this
      exact ⟨hdr', hh', hget'⟩
    · obtain ⟨hdr, hh, hget⟩ := hinv.files x hxa
      exact ⟨hdr, hh, by show (s.fs.applyAll hs).get _ = _; rw [hon.other _ e]; exact hget⟩
  · exact tmpRel_frame hinv.tmp (fun r hr _ => by rw [closeLive_rdb] at hr; exact hr) hon.tmp

theorem rot_fail_all (s : Disk) (g : DSeg) (chunk : Bytes) (hl : s.live = some g)
    (hrot : 16 + (g.data ++ chunk).length > s.logSize) :
    (s.step (.aofAppend chunk)).1.closeLive.all = s.segs ++ [{ g with data := g.data ++ chunk }] ∧
    (s.step (.aofAppend chunk)).1.closeLive.rdb = s.rdb := by
  have e : (s.step (.aofAppend chunk)).1 =
      { s with segs := s.segs ++ [{ g with data := g.data ++ chunk }],
               live := some { left := ({ g with data := g.data ++ chunk } : DSeg).right, data := [] },
               hist := s.hist ++ chunk } := by
    simp only [Disk.step, Disk.appendLive, hl]
    rw [if_pos hrot]
    rfl
  rw [e]
  constructor
  · simp [Disk.closeLive, Disk.all]
  · rw [closeLive_rdb]

theorem rot_fail {src : Nat → UInt8} {P : Nat → Nat → Bytes → Prop} (s : XDisk) (hinv : XInv src s)
    (g : DSeg) (chunk : Bytes) (hl : s.d.live = some g) (hcne : chunk ≠ [])
    (hsrc : ChunkOk src s.d (.aofAppend chunk))
    (hrot : 16 + (g.data ++ chunk).length > s.d.logSize) (hs : List FsOp)
    (hall : ∀ o ∈ hs, ∃ h, o = FsOp.pwriteHdr (aofName g.left) h ∧ h.length ≤ headerSize)
    (z' : List Nat) (fails : List Att) (hfails : okOps fails = []) :
    StepOk src P s (⟨(s.d.step (.aofAppend chunk)).1.closeLive,
      s.fs.applyAll ([FsOp.append (aofName g.left) chunk] ++ hs), z'⟩,
      allOk ([FsOp.append (aofName g.left) chunk] ++ hs) ++ fails) := by
  have hok : s.d.okOp (.aofAppend chunk) := hcne
  have hall0 : s.d.all = s.d.segs ++ [g] := by simp [Disk.all, hl]
  have hgm : g ∈ s.d.all := by rw [hall0]; simp
  obtain ⟨hdr0, hh0, hget0⟩ := hinv.files g hgm
  -- the append itself: truthful (first operation of the fault-free step)
  obtain ⟨ht, _⟩ := fsOps_true_step (src := src) s.d s.fs (.aofAppend chunk) hinv.dinv hok hinv.hist hsrc hinv.files
  have e1 : fsOps s.d (.aofAppend chunk) = [FsOp.append (aofName g.left) chunk] ++
      [FsOp.pwriteHdr (aofName g.left) (closedHeader (g.data ++ chunk)),
       FsOp.create (aofName (g.left + (g.data ++ chunk).length)),
       FsOp.append (aofName (g.left + (g.data ++ chunk).length)) fixHeader] := by
    simp only [fsOps, hl]
    rw [if_pos hrot]
  have hop0 : OpTrueX src s.fs (.append (aofName g.left) chunk) :=
    OpTrueX_of_OpTrue _ _ (ht [] _ _ (by rw [e1]; rfl))
  have hget1 := get_append_data chunk hget0
  obtain ⟨hpos, hdr', hh', hget'⟩ := hdrs_ok src (aofName g.left) (g.data ++ chunk) hs hall _ hdr0 hh0 hget1
  have hon := onAof_append_hdrs g.left chunk hall
  have hokops := okOps_allOk_fails ([FsOp.append (aofName g.left) chunk] ++ hs) hfails
  obtain ⟨hall', hrdb'⟩ := rot_fail_all s.d g chunk hl hrot
  have hother : ∀ x ∈ s.d.segs, x.left ≠ g.left := by
    intro x hx
    have hlt := lefts_lt_of_split (pre := s.d.segs) (rest := [g]) (hall0 ▸ hinv.dinv.contig)
      (hall0 ▸ all_initNonempty hinv.dinv.nonempty) hx (List.mem_singleton.mpr rfl)
    omega
  refine StepOk.mk' (by rw [hokops]) (by rw [hokops]; exact Pos.append (Pos.single hop0) hpos)
    (by rw [hokops]; exact hon.safe _) ?_
  refine ⟨(hinv.dinv.step _ hok).closeLive, histTrue_closeLive (HistTrue_step hinv.hist _ hsrc), ?_, ?_⟩
  · intro x hx
    show FileOf (s.fs.applyAll ([FsOp.append (aofName g.left) chunk] ++ hs)) x
    rw [hall'] at hx
    rcases List.mem_append.mp hx with hm | hm
    · obtain ⟨hdr, hh, hget⟩ := hinv.files x (by rw [hall0]; simp [hm])
      exact ⟨hdr, hh, by rw [hon.other _ (hother x hm)]; exact hget⟩
    · simp at hm; subst hm
      refine ⟨hdr', hh', ?_⟩
      rw [applyAll_append]
      exact hget'
  · exact tmpRel_frame hinv.tmp (fun r hr _ => by rw [hrdb'] at hr; exact hr) hon.tmp

/-- the invariants do not mention the rotation limit -/
theorem XInv.setLog {src : Nat → UInt8} {d : Disk} {fs : FS} {z z' : List Nat} (L : Nat) (h : XInv src ⟨d, fs, z⟩) :
    XInv src ⟨{ d with logSize := L }, fs, z'⟩ :=
  ⟨⟨h.dinv.contig, h.dinv.nonempty, h.dinv.embed, h.dinv.lastEnd, h.dinv.rdbAlign, h.dinv.rdbShape, h.dinv.ids,
    h.dinv.readersOk⟩, h.hist, h.files, h.tmp⟩

theorem StepOk.seq {src : Nat → UInt8} {P : Nat → Nat → Bytes → Prop} {s s1 : XDisk} {r2 : XDisk × List Att}
    {ops1 : List FsOp} {fails : List Att} (hfs : s1.fs = s.fs.applyAll ops1) (ht1 : Pos (OpTrueX src) s.fs ops1)
    (hs1 : Pos (RdbSafeP P) s.fs ops1) (hfails : okOps fails = []) (h2 : StepOk src P s1 r2) :
    StepOk src P s (r2.1, allOk ops1 ++ fails ++ r2.2) :=
  have ht := Pos.seq hfs ht1 hfails h2.fsEq h2.true
  ⟨ht.1, ht.2, (Pos.seq hfs hs1 hfails h2.fsEq h2.safe).2, h2.inv⟩

theorem short_step {src : Nat → UInt8} (s : XDisk) (hinv : XInv src s) (g : DSeg) (chunk : Bytes) (k : Nat)
    (hl : s.d.live = some g) (hk : 0 < k ∧ k < chunk.length) (hsrc : ChunkOk src s.d (.aofAppend chunk)) :
    XInv src ⟨{ s.d with live := some { g with data := g.data ++ chunk.take k }, hist := s.d.hist ++ chunk.take k },
      s.fs.applyAll [FsOp.append (aofName g.left) (chunk.take k)], s.zombies⟩ ∧
    Pos (OpTrueX src) s.fs [FsOp.append (aofName g.left) (chunk.take k)] := by
  obtain ⟨d, fs, z⟩ := s
  obtain ⟨logSize, maxSize, runId, rdb, segs, live, readers, hbase, hist⟩ := d
  simp only at hl
  subst hl
  have hpne : chunk.take k ≠ [] := by
    intro e
    have h1 : (chunk.take k).length = 0 := by rw [e]; rfl
    rw [List.length_take] at h1
    omega
  -- the same store with a rotation limit the append does not reach
  have hinvL := XInv.setLog (z' := z) (16 + (g.data ++ chunk.take k).length) hinv
  have hsrcL : ChunkOk src
      (⟨16 + (g.data ++ chunk.take k).length, maxSize, runId, rdb, segs, some g, readers, hbase, hist⟩ : Disk)
      (.aofAppend (chunk.take k)) := by
    intro i b hb
    apply hsrc i b
    have hi : i < (chunk.take k).length := (List.getElem?_eq_some_iff.mp hb).1
    rw [List.length_take] at hi
    rw [List.getElem?_take_of_lt (by omega)] at hb
    exact hb
  have hA := xbase_generic (src := src) (P := fun _ _ _ => True)
    ⟨⟨16 + (g.data ++ chunk.take k).length, maxSize, runId, rdb, segs, some g, readers, hbase, hist⟩, fs, z⟩
    (.aofAppend (chunk.take k)) (by intro _ _ e; cases e) (by intro e; cases e) hinvL hpne hsrcL (fun _ _ _ _ _ _ => trivial)
  unfold xbase at hA
  simp only [baseOps, baseDisk, fsOps, Disk.step, Disk.appendLive, Nat.lt_irrefl, gt_iff_lt, if_false, if_true,
    List.append_nil] at hA
  constructor
  · exact XInv.setLog (z' := z) logSize hA.inv
  · have := hA.true
    rw [okOps_allOk] at this
    exact this

theorem commitFail_okOps_mem (r : DRdb) (chunk : Bytes) (ren rmOk : Bool) :
    ∀ o ∈ okOps (commitFailAtts r chunk ren rmOk),
      o = .append (rdbTmpName r.left r.size) chunk ∨ o = .remove (rdbTmpName r.left r.size) := by
  intro o ho
  cases ren <;> cases rmOk <;> simp [commitFailAtts, okOps] at ho <;> simp [ho]

theorem commitFail_okOps_names (r : DRdb) (chunk : Bytes) (ren rmOk : Bool) :
    ∀ o ∈ okOps (commitFailAtts r chunk ren rmOk), o.names = [rdbTmpName r.left r.size] := by
  intro o ho
  rcases commitFail_okOps_mem r chunk ren rmOk o ho with rfl | rfl <;> rfl

/-- the fault of step `x` finds nothing to act on: the step is the fault-free step of `o` -/
structure ActsAs (s : XDisk) (x : XOp) (o : DOp) : Prop where
  ok : s.d.okOp o
  recv : ∀ g, recvStep g (recvOp x) = recvStep g o
  chunk : ∀ src, ChunkOkX src s x → ChunkOk src s.d o
  commit : ∀ r c, o = .rdbAppend c → s.d.rdb = some r → r.writing = true → r.data.length + c.length = r.size →
    x = .op (.rdbAppend c)

/-- The outcomes of a step under the callers' protocol, one premise for each: the fault-free step of some
    operation, or one of the eight faults taking effect. Every property of `xstep` is proved through this. -/
theorem xstep_elim {C : XOp → XDisk × List Att → Prop} (s : XDisk)
    (base : ∀ x o, ActsAs s x o → C x (xbase s o))
    (closeHdr : ∀ k g, s.d.live = some g → ¬ g.data.isEmpty = true →
      C (.aofCloseHdrFail k)
        (⟨s.d.closeLive, s.fs.applyAll (hdrTornOps (aofName g.left) (closedHeader g.data) k), g.left :: s.zombies⟩,
         allOk (hdrTornOps (aofName g.left) (closedHeader g.data) k) ++
           [⟨.pwriteHdr (aofName g.left) ((closedHeader g.data).drop k), false⟩]))
    (appendHdr : ∀ chunk k g, s.d.live = some g → chunk ≠ [] → 16 + (g.data ++ chunk).length > s.d.logSize →
      C (.aofAppendHdrFail chunk k)
        (⟨(s.d.step (.aofAppend chunk)).1.closeLive,
          s.fs.applyAll ([FsOp.append (aofName g.left) chunk] ++
            hdrTornOps (aofName g.left) (closedHeader (g.data ++ chunk)) k), g.left :: s.zombies⟩,
         allOk ([FsOp.append (aofName g.left) chunk] ++ hdrTornOps (aofName g.left) (closedHeader (g.data ++ chunk)) k) ++
           [⟨.pwriteHdr (aofName g.left) ((closedHeader (g.data ++ chunk)).drop k), false⟩]))
    (appendOpen : ∀ chunk g, s.d.live = some g → chunk ≠ [] → 16 + (g.data ++ chunk).length > s.d.logSize →
      C (.aofAppendOpenFail chunk)
        (⟨(s.d.step (.aofAppend chunk)).1.closeLive,
          s.fs.applyAll [FsOp.append (aofName g.left) chunk,
            FsOp.pwriteHdr (aofName g.left) (closedHeader (g.data ++ chunk))], s.zombies⟩,
         allOk [FsOp.append (aofName g.left) chunk, FsOp.pwriteHdr (aofName g.left) (closedHeader (g.data ++ chunk))] ++
           [⟨.create (aofName (g.left + (g.data ++ chunk).length)), false⟩]))
    (short : ∀ chunk k g, s.d.live = some g → 0 < k ∧ k < chunk.length →
      ∀ s1 : XDisk, s1 = ⟨{ s.d with live := some { g with data := g.data ++ chunk.take k },
                                     hist := s.d.hist ++ chunk.take k },
                          s.fs.applyAll [FsOp.append (aofName g.left) (chunk.take k)], s.zombies⟩ →
      C (.aofAppendShort chunk k)
        ((xbase s1 .aofClose).1,
         allOk [FsOp.append (aofName g.left) (chunk.take k)] ++ [⟨.append (aofName g.left) (chunk.drop k), false⟩] ++
           (xbase s1 .aofClose).2))
    (closeRm : ∀ g, s.d.live = some g → g.data.isEmpty = true →
      C .aofCloseRmFail (⟨s.d.closeLive, s.fs, s.zombies⟩, [⟨.remove (aofName g.left), false⟩]))
    (rdbCloseRm : ∀ r, s.d.rdb = some r → r.writing = true →
      C .rdbCloseRmFail (⟨(s.d.step .rdbClose).1, s.fs, s.zombies⟩, [⟨.remove (rdbTmpName r.left r.size), false⟩]))
    (commitFail : ∀ chunk ren rmOk r, s.d.rdb = some r → r.writing = true → r.data.length + chunk.length = r.size →
      C (.rdbCommitFail chunk ren rmOk)
        (⟨(s.d.step .rdbClose).1, s.fs.applyAll (okOps (commitFailAtts r chunk ren rmOk)), s.zombies⟩,
         commitFailAtts r chunk ren rmOk))
    (gcRm : ∀ stuck all,
      C (.gcRmFail stuck all)
        (⟨gcZ s.d s.zombies,
          s.fs.applyAll (okOps ((gcOpsZ s.d s.zombies).map (fun o => (⟨o, !gcStuck stuck all o⟩ : Att)))),
          zKeep s.zombies (gcZ s.d s.zombies)⟩,
         (gcOpsZ s.d s.zombies).map (fun o => (⟨o, !gcStuck stuck all o⟩ : Att)))) :
    ∀ x, okX s x → C x (xstep s x) := by
  intro x hok
  have hclose : ∀ {x}, recvOp x = .aofClose → C x (xbase s .aofClose) := fun {x} hx =>
    base x .aofClose ⟨trivial, fun g => by rw [hx], fun _ _ => trivial, fun r c e => nomatch e⟩
  have happ : ∀ {x} chunk, chunk ≠ [] → recvOp x = .aofClose →
      (∀ src, ChunkOkX src s x → ChunkOk src s.d (.aofAppend chunk)) → C x (xbase s (.aofAppend chunk)) :=
    fun {x} chunk hc hx hsrc => base x (.aofAppend chunk) ⟨hc, fun g => by rw [hx]; rfl, hsrc, fun r c e => nomatch e⟩
  cases x with
  | op o => exact base _ o ⟨hok, fun _ => rfl, fun _ h => h, fun r c e _ _ _ => by rw [e]⟩
  | aofCloseHdrFail k =>
    simp only [xstep]
    cases hl : s.d.live with
    | none => exact hclose rfl
    | some g =>
      simp only []
      split
      · exact hclose rfl
      · rename_i hne
        exact closeHdr k g hl hne
  | aofAppendHdrFail chunk k =>
    simp only [xstep]
    cases hl : s.d.live with
    | none => exact happ chunk hok.1 rfl (fun _ h => h)
    | some g =>
      simp only []
      split
      · rename_i hrot
        exact appendHdr chunk k g hl hok.1 hrot
      · exact happ chunk hok.1 rfl (fun _ h => h)
  | aofAppendOpenFail chunk =>
    simp only [xstep]
    cases hl : s.d.live with
    | none => exact happ chunk hok rfl (fun _ h => h)
    | some g =>
      simp only []
      split
      · rename_i hrot
        exact appendOpen chunk g hl hok hrot
      · exact happ chunk hok rfl (fun _ h => h)
  | aofAppendShort chunk k =>
    simp only [xstep]
    cases hl : s.d.live with
    | none =>
      refine happ chunk ?_ rfl (fun _ h => h)
      intro e
      rw [e] at hok
      exact absurd hok.2 (Nat.not_lt_zero _)
    | some g => exact short chunk k g hl hok _ rfl
  | aofCloseRmFail =>
    simp only [xstep]
    cases hl : s.d.live with
    | none => exact hclose rfl
    | some g =>
      simp only []
      split
      · rename_i he
        exact closeRm g hl he
      · exact hclose rfl
  | rdbCloseRmFail =>
    have hb : C .rdbCloseRmFail (xbase s .rdbClose) :=
      base _ .rdbClose ⟨trivial, fun _ => rfl, fun _ _ => trivial, fun r c e => nomatch e⟩
    simp only [xstep]
    cases hr : s.d.rdb with
    | none => exact hb
    | some r =>
      simp only []
      split
      · rename_i hw
        exact rdbCloseRm r hr hw
      · exact hb
  | rdbCommitFail chunk ren rmOk =>
    simp only [xstep]
    cases hr : s.d.rdb with
    | none =>
      exact base _ (.rdbAppend chunk) ⟨hok, fun _ => rfl, fun _ _ => trivial,
        fun r c _ hr' => by rw [hr] at hr'; cases hr'⟩
    | some r =>
      simp only []
      split
      · rename_i hc
        simp only [Bool.and_eq_true, decide_eq_true_eq] at hc
        exact commitFail chunk ren rmOk r hr hc.1 hc.2
      · rename_i hc
        refine base _ (.rdbAppend chunk) ⟨hok, fun _ => rfl, fun _ _ => trivial, fun r' c e hr' hw hlen => ?_⟩
        rw [hr] at hr'; cases hr'; cases e
        exact absurd (by simp [hw, hlen]) hc
  | gcRmFail stuck all => exact gcRm stuck all

theorem xstep_ok {src : Nat → UInt8} {P : Nat → Nat → Bytes → Prop} (s : XDisk) (x : XOp)
    (hinv : XInv src s) (hok : okX s x) (hsrc : ChunkOkX src s x)
    (hP : ∀ r chunk, x = .op (.rdbAppend chunk) → s.d.rdb = some r → r.writing = true →
      r.data.length + chunk.length = r.size → P r.left r.size (r.data ++ chunk)) :
    StepOk src P s (xstep s x) := by
  -- the index drops a snapshot that was being written; the stream files are not touched
  have hdrop : ∀ (r : DRdb) (fs' : FS) (z' : List Nat), s.d.rdb = some r → r.writing = true →
      (∀ g ∈ s.d.all, fs'.get (aofName g.left) = s.fs.get (aofName g.left)) →
      XInv src ⟨(s.d.step .rdbClose).1, fs', z'⟩ := by
    intro r fs' z' hr hw hkeep
    have e : (s.d.step .rdbClose).1 = { s.d with rdb := none, readers := closeRdbReaders s.d.readers } := by
      simp only [Disk.step, hr, hw, if_true]
    refine ⟨hinv.dinv.step .rdbClose trivial, HistTrue_step hinv.hist .rdbClose trivial, ?_, ?_⟩
    · intro x hx
      rw [e] at hx
      have hx' : x ∈ s.d.all := by simpa [Disk.all] using hx
      obtain ⟨hdr, hh, hget⟩ := hinv.files x hx'
      exact ⟨hdr, hh, (hkeep x hx').trans hget⟩
    · intro r' hr'
      rw [e] at hr'
      cases hr'
  refine xstep_elim (C := fun x r => ChunkOkX src s x →
    (∀ r chunk, x = .op (.rdbAppend chunk) → s.d.rdb = some r → r.writing = true →
      r.data.length + chunk.length = r.size → P r.left r.size (r.data ++ chunk)) → StepOk src P s r)
    s ?base ?closeHdr ?appendHdr ?appendOpen ?short ?closeRm ?rdbCloseRm ?commitFail ?gcRm x hok hsrc hP
  case base =>
    intro x o ha hsrc hP
    exact xbase_ok s o hinv ha.ok (ha.chunk src hsrc) (fun r c e hr hw hl => hP r c (ha.commit r c e hr hw hl) hr hw hl)
  case closeHdr =>
    intro k g hl _ _ _
    exact close_with_hdrs s hinv g hl _ (hdrTornOps_all _ _ _) _ _ (okOps_fail1 _)
  case appendHdr =>
    intro chunk k g hl hc hrot hsrc _
    exact rot_fail s hinv g chunk hl hc hsrc hrot _ (hdrTornOps_all _ _ _) _ _ (okOps_fail1 _)
  case appendOpen =>
    intro chunk g hl hc hrot hsrc _
    exact rot_fail s hinv g chunk hl hc hsrc hrot _ (single_hdr_all _ _) _ _ (okOps_fail1 _)
  case short =>
    intro chunk k g hl hk s1 rfl hsrc _
    obtain ⟨hinv1, hpos1⟩ := short_step s hinv g chunk k hl hk hsrc
    have hon : OnAof g.left [FsOp.append (aofName g.left) (chunk.take k)] :=
      onAof_append_hdrs g.left _ (hs := []) (fun _ ho => nomatch ho)
    exact StepOk.seq (s := s) rfl hpos1 (hon.safe _) (okOps_fail1 _)
      (xbase_ok (P := P) _ .aofClose hinv1 trivial trivial (fun r c e => nomatch e))
  case closeRm =>
    intro g hl _ _ _
    have := close_with_hdrs (P := P) s hinv g hl [] (by intro o ho; cases ho) s.zombies
      [⟨.remove (aofName g.left), false⟩] (okOps_fail1 _)
    simpa [allOk, FS.applyAll] using this
  case rdbCloseRm =>
    intro r hr hw _ _
    exact StepOk.mk' (by rw [okOps_fail1]; rfl) (by rw [okOps_fail1]; exact Pos.nil)
      (by rw [okOps_fail1]; exact Pos.nil) (hdrop r _ _ hr hw (fun _ _ => rfl))
  case commitFail =>
    intro chunk ren rmOk r hr hw _ _ _
    refine StepOk.mk' rfl ?_ ?_ (hdrop r _ _ hr hw (fun g _ => ?_))
    · exact Pos.ofAll (fun o ho fs' => by
        rcases commitFail_okOps_mem r chunk ren rmOk o ho with rfl | rfl
        · intro c _; exact contentTrue_not_aof _ rfl
        · trivial)
    · exact Pos.ofAll (fun o ho fs' => by
        rcases commitFail_okOps_mem r chunk ren rmOk o ho with rfl | rfl
        · rfl
        · trivial)
    · exact get_applyAll_other _ _ _ (fun o ho => by
        rw [commitFail_okOps_names r chunk ren rmOk o ho]; simp [aofName, rdbTmpName])
  case gcRm =>
    intro stuck all _ _
    exact gc_atts_ok s hinv (fun o ho => mem_okOps_map ho)

end GunYu.StoreFsX
