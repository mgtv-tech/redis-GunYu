/-
  C08 — what the FILE of a closed segment is, in every state a script with faults reaches:
  exactly `closedHeader g.data ++ g.data` (the header `closeAof` writes, then the data),
  for every indexed closed segment except those whose header rewrite failed at some point
  of the script (`t`, the taint) and those the life began with (`u`: a re-opened directory
  may hold segments whose headers a crash left torn).
-/
import GunYu.Proofs.StoreFsXSafe

namespace GunYu.StoreFsX
open GunYu GunYu.Store GunYu.StoreFs

def CInv (u t : List Nat) (s : XDisk) : Prop :=
  ∀ g ∈ s.d.segs, g.left ∉ u → g.left ∉ t →
    s.fs.get (aofName g.left) = some (closedHeader g.data ++ g.data)

/-- the segments whose header rewrite failed at some point of the script, accumulated -/
def taintRun (t : List Nat) (s : XDisk) : List XOp → List Nat
  | [] => t
  | x :: rest => taintRun (t ++ (xstep s x).1.zombies) (xstep s x).1 rest

theorem cinv_of {u t t' : List Nat} {s : XDisk} {d' : Disk} {fs' : FS} {z' : List Nat} (h : CInv u t s)
    (hsub : ∀ l, l ∈ t → l ∈ t')
    (hA : ∀ g ∈ d'.segs, g.left ∉ t' →
      (g ∈ s.d.segs ∧ fs'.get (aofName g.left) = s.fs.get (aofName g.left)) ∨
      fs'.get (aofName g.left) = some (closedHeader g.data ++ g.data)) :
    CInv u t' ⟨d', fs', z'⟩ := by
  intro g hg hu ht'
  rcases hA g hg ht' with ⟨h1, h2⟩ | h3
  · show fs'.get _ = _
    rw [h2]; exact h g h1 hu (fun hm => ht' (hsub _ hm))
  · exact h3

theorem live_left_ne {d : Disk} (hd : DInv d) {g : DSeg} (hl : d.live = some g) : ∀ x ∈ d.segs, x.left < g.left := by
  intro x hx
  have hall0 : d.all = d.segs ++ [g] := by simp [Disk.all, hl]
  exact lefts_lt_of_split (pre := d.segs) (rest := [g]) (hall0 ▸ hd.contig)
    (hall0 ▸ all_initNonempty hd.nonempty) hx (List.mem_singleton.mpr rfl)

theorem all_of_live_none {d : Disk} (h : d.live = none) : d.all = d.segs := by simp [Disk.all, h]

theorem closeLive_closed {d : Disk} {fs : FS} (hd : DInv d) (hf : FilesOk d fs) :
    ∀ x ∈ d.closeLive.segs,
      (x ∈ d.segs ∧ (fs.applyAll (closeLiveOps d)).get (aofName x.left) = fs.get (aofName x.left)) ∨
      (fs.applyAll (closeLiveOps d)).get (aofName x.left) = some (closedHeader x.data ++ x.data) := by
  intro x hx
  cases hl : d.live with
  | none =>
    have e1 : closeLiveOps d = [] := by simp only [closeLiveOps, hl]
    have e2 : d.closeLive = d := by simp only [Disk.closeLive, hl]
    rw [e2] at hx; rw [e1]
    exact Or.inl ⟨hx, rfl⟩
  | some g =>
    obtain ⟨hoth, hcl⟩ := closeLiveOps_get fs hl
    have old : x ∈ d.segs → x ∈ d.segs ∧ _ := fun hm =>
      ⟨hm, hoth _ (Nat.ne_of_lt (live_left_ne hd hl x hm))⟩
    rw [← all_of_live_none (closeLive_live d), closeLive_all_eq hl] at hx
    cases he : g.data.isEmpty with
    | true => rw [he] at hx; exact Or.inl (old hx)
    | false =>
      rw [he] at hx
      rcases List.mem_append.mp hx with hm | hm
      · exact Or.inl (old hm)
      · rw [List.mem_singleton] at hm; subst hm
        obtain ⟨hdr0, hh0, hget0⟩ := hf x (by rw [all_of_live hl]; simp)
        exact Or.inr (hcl he hdr0 hh0 hget0)

theorem closeLive_segs_lefts {d : Disk} (hd : DInv d) : ∀ x ∈ d.closeLive.segs, x ∈ d.all := by
  intro x hx
  apply closeLive_all_subset
  simp [Disk.all, closeLive_live, hx]

theorem truncateGap_segs (rdb : Option DRdb) (segs : List DSeg) : (truncateGap rdb segs).2 = contigRun segs := by
  unfold truncateGap
  simp only []
  repeat' split
  all_goals rfl

theorem id_ops_segs (d : Disk) (o : DOp) (hok : d.okOp o) (h : (∃ id, o = .setRunId id) ∨ o = .delRunId) :
    ∀ g ∈ (d.step o).1.segs, g ∈ d.segs := by
  rcases h with ⟨id, rfl⟩ | rfl
  · intro g hg
    simp only [Disk.step] at hg
    split at hg
    · simp [Disk.reset] at hg
    · split at hg
      · exact hg
      · rename_i hne hid
        obtain ⟨hl, _⟩ := hok hne hid
        -- the re-scan keeps a sub-list of what was indexed
        have hg' : g ∈ (d.closeAllForSwitch.rescan).segs := hg
        unfold Disk.rescan at hg'
        simp only [truncateGap_segs] at hg'
        have h1 := mem_sortSegs.mp (mem_contigRun hg')
        have h2 := (List.mem_filter.mp h1).1
        unfold Disk.closeAllForSwitch at h2
        have h3 := closeLive_all_subset _ g h2
        have hf := dropWritingRdb_fields ({ d with readers := closeAllReaders d.readers } : Disk)
        have hsegs := hf.2.2.2.1
        have hlive := hf.2.2.2.2.1
        unfold Disk.all at h3
        rw [hsegs, hlive] at h3
        have hl' : ({ d with readers := closeAllReaders d.readers } : Disk).live = none := hl
        rw [hl'] at h3
        simpa using h3
  · intro g hg
    simp only [Disk.step] at hg
    split at hg
    · exact hg
    · simp [Disk.reset] at hg

theorem mem_t_append {t z : List Nat} : ∀ l, l ∈ t → l ∈ t ++ z := fun _ h => List.mem_append.mpr (Or.inl h)

theorem gcZ_segs_sub (d : Disk) (z : List Nat) : ∀ g ∈ (gcZ d z).segs, g ∈ d.segs := by
  intro g hg
  obtain ⟨pre, segs', rdb', he, hp, _⟩ := gcZ_cases d z
  rw [he] at hg
  rw [hp]
  exact List.mem_append.mpr (Or.inr hg)

theorem cinv_xbase {src : Nat → UInt8} {u t : List Nat} (s : XDisk) (o : DOp) (hinv : XInv src s) (hok : s.d.okOp o)
    (h : CInv u t s) : CInv u (t ++ (xbase s o).1.zombies) (xbase s o).1 := by
  show CInv u _ ⟨baseDisk s o, s.fs.applyAll (baseOps s o), zKeep (baseZombies s o) (baseDisk s o)⟩
  apply cinv_of h mem_t_append
  intro g hg _
  by_cases hop : o.isReaderOp = true
  · have e1 : baseDisk s o = (s.d.step o).1 := by cases o <;> first | rfl | cases hop
    have e2 : baseOps s o = [] := by cases o <;> first | rfl | cases hop
    obtain ⟨_, e⟩ := readerOp_eq s.d hop
    rw [e1, e] at hg
    rw [e2]
    exact Or.inl ⟨hg, rfl⟩
  cases o with
  | newRdbWriter off size => simp [baseDisk, Disk.step, Disk.reset] at hg
  | gc =>
    simp only [baseDisk] at hg
    simp only [baseOps]
    exact Or.inl ⟨gcZ_segs_sub s.d s.zombies g hg,
      gc_kept hinv.dinv _ (fun _ h => h) _ g (List.mem_append.mpr (Or.inl hg))⟩
  | aofClose =>
    simp only [baseDisk, Disk.step] at hg
    simp only [baseOps, fsOps]
    exact closeLive_closed hinv.dinv hinv.files g hg
  | newAofWriter off =>
    have hg' : g ∈ s.d.closeLive.segs := by simpa [baseDisk, Disk.step] using hg
    simp only [baseOps, fsOps]
    rw [applyAll_append]
    have hextra : ((s.fs.applyAll (closeLiveOps s.d)).applyAll
        [FsOp.create (aofName off), FsOp.append (aofName off) fixHeader]).get (aofName g.left) =
        (s.fs.applyAll (closeLiveOps s.d)).get (aofName g.left) :=
      (openSeg_get _ off).2 _ (newAofWriter_fresh hinv.dinv hok g hg')
    rw [hextra]
    exact closeLive_closed hinv.dinv hinv.files g hg'
  | aofAppend chunk =>
    have hcne : chunk ≠ [] := hok
    cases hl : s.d.live with
    | none =>
      have e1 : (s.d.step (.aofAppend chunk)).1 = s.d := by simp [Disk.step, Disk.appendLive, hl]
      have e2 : fsOps s.d (.aofAppend chunk) = [] := by simp only [fsOps, hl]
      simp only [baseDisk, e1] at hg
      simp only [baseOps, e2]
      exact Or.inl ⟨hg, rfl⟩
    | some lv =>
      obtain ⟨hdr0, hh0, hget0⟩ := hinv.files lv (by rw [all_of_live hl]; simp)
      obtain ⟨hoth, hlive, _⟩ := aofAppend_get (fs := s.fs) hl hcne hh0 hget0
      have old : g ∈ s.d.segs → g ∈ s.d.segs ∧ _ := fun hm =>
        ⟨hm, hoth _ (Nat.ne_of_lt (live_left_ne hinv.dinv hl g hm)) (by have := live_left_ne hinv.dinv hl g hm; omega)⟩
      simp only [baseDisk, Disk.step, Disk.appendLive, hl] at hg
      simp only [baseOps]
      split at hg
      · -- rotation: the segment just closed has its header
        rename_i hrot
        rcases List.mem_append.mp hg with hm | hm
        · exact Or.inl (old hm)
        · rw [List.mem_singleton] at hm; subst hm
          rw [if_pos hrot] at hlive
          exact Or.inr hlive
      · exact Or.inl (old hg)
  | setRunId id =>
    exact Or.inl ⟨id_ops_segs s.d _ hok (Or.inl ⟨id, rfl⟩) g hg, rfl⟩
  | delRunId =>
    exact Or.inl ⟨id_ops_segs s.d _ hok (Or.inr rfl) g hg, rfl⟩
  | rdbAppend c =>
    obtain ⟨_, e, _⟩ := rdbAppend_eq s.d c
    simp only [baseDisk, e] at hg
    exact Or.inl ⟨hg, get_applyAll_other _ _ _ (fun op hop => rdbWrite_names s.d _ (Or.inl ⟨c, rfl⟩) op hop g.left)⟩
  | rdbClose =>
    obtain ⟨_, _, e⟩ := rdbClose_eq s.d
    simp only [baseDisk, e] at hg
    exact Or.inl ⟨hg, get_applyAll_other _ _ _ (fun op hop => rdbWrite_names s.d _ (Or.inr rfl) op hop g.left)⟩
  | _ => exact absurd rfl hop

theorem cinv_xstep {src : Nat → UInt8} {u t : List Nat} (s : XDisk) (x : XOp) (hinv : XInv src s) (hok : okX s x)
    (hsrc : ChunkOkX src s x) (h : CInv u t s) : CInv u (t ++ (xstep s x).1.zombies) (xstep s x).1 := by
  -- the state after a rotation that failed: the older segments' files are untouched
  have hrot : ∀ (g : DSeg) (chunk : Bytes) (ops : List FsOp) (z' : List Nat), s.d.live = some g →
      16 + (g.data ++ chunk).length > s.d.logSize → OnAof g.left ops →
      ((s.fs.applyAll ops).get (aofName g.left) = some (closedHeader (g.data ++ chunk) ++ (g.data ++ chunk)) ∨ g.left ∈ z') →
      CInv u (t ++ z') ⟨(s.d.step (.aofAppend chunk)).1.closeLive, s.fs.applyAll ops, z'⟩ := by
    intro g chunk ops z' hl hcross hon hfile
    apply cinv_of h mem_t_append
    intro x hx hnt
    have hxa : x ∈ (s.d.step (.aofAppend chunk)).1.closeLive.all := by
      rw [all_of_live_none (closeLive_live _)]; exact hx
    rw [(rot_fail_all s.d g chunk hl hcross).1] at hxa
    rcases List.mem_append.mp hxa with hm | hm
    · have := live_left_ne hinv.dinv hl x hm
      exact Or.inl ⟨hm, hon.other _ (by omega)⟩
    · simp at hm; subst hm
      rcases hfile with hf | hz
      · exact Or.inr hf
      · exact absurd (List.mem_append.mpr (Or.inr hz)) hnt
  -- the index drops the snapshot; only the temporary snapshot file is touched
  have hdrop : ∀ (ops : List FsOp) (z' : List Nat), (∀ o ∈ ops, ∀ l, aofName l ∉ o.names) →
      CInv u (t ++ z') ⟨(s.d.step .rdbClose).1, s.fs.applyAll ops, z'⟩ := by
    intro ops z' hno
    apply cinv_of h mem_t_append
    intro x hx _
    obtain ⟨_, _, e⟩ := rdbClose_eq s.d
    rw [e] at hx
    exact Or.inl ⟨hx, get_applyAll_other _ _ _ (fun o ho => hno o ho x.left)⟩
  refine xstep_elim (C := fun x r => ChunkOkX src s x → CInv u (t ++ r.1.zombies) r.1)
    s ?base ?closeHdr ?appendHdr ?appendOpen ?short ?closeRm ?rdbCloseRm ?commitFail ?gcRm x hok hsrc
  case base => intro x o ha _; exact cinv_xbase s o hinv ha.ok h
  case closeHdr =>
    intro k g hl hne _
    apply cinv_of h mem_t_append
    intro x hx hnt
    rw [← all_of_live_none (closeLive_live _), closeLive_all_eq hl, if_neg hne] at hx
    rcases List.mem_append.mp hx with hm | hm
    · have := live_left_ne hinv.dinv hl x hm
      exact Or.inl ⟨hm, (onAof_hdrs (hdrTornOps_all _ _ _)).other _ (by omega)⟩
    · simp at hm; subst hm
      exact absurd (List.mem_append.mpr (Or.inr (by simp))) hnt
  case appendHdr =>
    intro chunk k g hl _ hcross _
    exact hrot g chunk _ _ hl hcross (onAof_append_hdrs _ _ (hdrTornOps_all _ _ _)) (Or.inr (by simp))
  case appendOpen =>
    intro chunk g hl _ hcross _
    apply hrot g chunk _ _ hl hcross (onAof_append_hdrs _ _ (single_hdr_all _ _))
    left
    have hgm : g ∈ s.d.all := by simp [Disk.all, hl]
    obtain ⟨hdr0, hh0, hget0⟩ := hinv.files g hgm
    simp only [FS.applyAll, List.cons_append, List.nil_append, List.foldl_cons, List.foldl_nil]
    exact get_pwrite_closed hh0 (get_append_data chunk hget0)
  case short =>
    intro chunk k g hl hk s1 rfl hsrc
    obtain ⟨hinv1, _⟩ := short_step s hinv g chunk k hl hk hsrc
    refine cinv_xbase _ .aofClose hinv1 trivial ?_
    apply cinv_of h (fun _ hm => hm)
    intro x hx _
    have hx' : x ∈ s.d.segs := hx
    have := live_left_ne hinv.dinv hl x hx'
    refine Or.inl ⟨hx', ?_⟩
    simp only [FS.applyAll, List.foldl_cons, List.foldl_nil]
    exact get_apply_other _ _ _ (by simp only [FsOp.names, List.mem_singleton]; intro e; have := aofName_inj e; omega)
  case closeRm =>
    intro g hl he _
    apply cinv_of h mem_t_append
    intro x hx _
    rw [← all_of_live_none (closeLive_live _), closeLive_all_eq hl, if_pos he] at hx
    exact Or.inl ⟨hx, rfl⟩
  case rdbCloseRm => intro r _ _ _; exact hdrop [] _ (fun _ ho => nomatch ho)
  case commitFail =>
    intro chunk ren rmOk r _ _ _ _
    refine hdrop _ _ (fun o ho l => ?_)
    rw [commitFail_okOps_names r chunk ren rmOk o ho]
    simp [aofName, rdbTmpName]
  case gcRm =>
    intro stuck all _
    apply cinv_of h mem_t_append
    intro x hx _
    exact Or.inl ⟨gcZ_segs_sub s.d s.zombies x hx,
      gc_kept hinv.dinv _ (fun _ ho => mem_okOps_map ho) _ x (List.mem_append.mpr (Or.inl hx))⟩

/-- **after every script with faults** the invariant holds for the accumulated taint -/
theorem cinv_run {src : Nat → UInt8} {u : List Nat} : ∀ (xs : List XOp) (s : XDisk) (t : List Nat), wfX s xs →
    SrcOkX src s xs → XInv src s → CInv u t s → CInv u (taintRun t s xs) (xfinal s xs) := by
  intro xs
  induction xs with
  | nil => intro s t _ _ _ h; exact h
  | cons x rest ih =>
    intro s t hwf hsrc hinv h
    exact ih _ _ hwf.2 hsrc.2
      (xstep_ok (src := src) (P := fun _ _ _ => True) s x hinv hwf.1 hsrc.1 (fun _ _ _ _ _ _ => trivial)).inv
      (cinv_xstep s x hinv hwf.1 hsrc.1 h)

theorem cinv_init (u t : List Nat) (l m : Nat) : CInv u t (XDisk.init l m) := by
  intro g hg; simp [XDisk.init, Disk.init] at hg

theorem plain_zombies (s : XDisk) (o : DOp) (h : s.zombies = []) : (xbase s o).1.zombies = [] := by
  show zKeep (baseZombies s o) (baseDisk s o) = []
  have : baseZombies s o = [] := by
    cases o <;> simp [baseZombies, h]
  rw [this]; rfl

theorem taintRun_plain : ∀ (ops : List DOp) (s : XDisk), s.zombies = [] → taintRun [] s (ops.map XOp.op) = [] := by
  intro ops
  induction ops with
  | nil => intro s _; rfl
  | cons o rest ih =>
    intro s h
    have hz := plain_zombies s o h
    simp only [List.map_cons, taintRun, xstep]
    rw [hz, List.append_nil]
    exact ih _ hz

end GunYu.StoreFsX
