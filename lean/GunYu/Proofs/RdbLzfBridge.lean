/-
  C04 ↔ C03 — the decision of the buffer-following LZF walk (Model/RdbLzf.lean,
  the code after D33) is the decision of the content-producing decoder of
  Model/Rdb/Str.lean (C03's `lzfDecompress`, which models the output as a buffer
  of exactly `outlen` bytes): the growth policy of the buffer changes what is
  allocated, never which inputs are accepted.
-/
import GunYu.Proofs.RdbLzf
import GunYu.Model.Rdb.Str

namespace GunYu.RdbLzf
open GunYu

/-- C03's back-reference copy: it succeeds iff the reference does not reach before the start of the output and the
    run fits the room that is left -/
theorem lzfCopy_spec : ∀ (n dist : Nat) (acc : Bytes) (room : Nat), 0 < dist →
    (match Rdb.lzfCopy n dist acc room with
     | some (acc', room') => (n = 0 ∨ (dist ≤ acc.length ∧ n ≤ room)) ∧ acc'.length = acc.length + n ∧ room' = room - n
     | none => ¬ (n = 0 ∨ (dist ≤ acc.length ∧ n ≤ room)))
  | 0, dist, acc, room, _ => by simp [Rdb.lzfCopy]
  | n+1, dist, acc, room, hd => by
    unfold Rdb.lzfCopy
    by_cases hr : room = 0
    · simp only [hr, if_true]; omega
    · simp only [hr, if_false]
      cases hg : acc[dist - 1]? with
      | none =>
        have : acc.length ≤ dist - 1 := List.getElem?_eq_none_iff.mp hg
        simp only; omega
      | some b =>
        obtain ⟨hlt, _⟩ := List.getElem?_eq_some_iff.mp hg
        simp only
        have ih := lzfCopy_spec n dist (b :: acc) (room - 1) hd
        cases hc : Rdb.lzfCopy n dist (b :: acc) (room - 1) with
        | none =>
          rw [hc] at ih; simp only at ih ⊢
          simp only [List.length_cons] at ih
          omega
        | some p =>
          obtain ⟨acc', room'⟩ := p
          rw [hc] at ih; simp only at ih ⊢
          simp only [List.length_cons] at ih
          omega

theorem walk_agrees (step outlen : Nat) : ∀ (fuel : Nat) (inp : Bytes) (o blen : Nat) (tr : List (Nat × Nat)) (acc : Bytes),
    WInv step outlen o blen tr → acc.length = o →
      (walk step outlen fuel inp o blen tr).ok = (Rdb.lzfLoop fuel inp acc (outlen - o)).isSome
  | 0, inp, o, blen, tr, acc, inv, ha => by
    have : o ≤ outlen := Nat.le_trans inv.ob inv.bo
    simp only [walk, Rdb.lzfLoop]
    by_cases h1 : inp.isEmpty = true
    · by_cases h2 : o = outlen
      · simp [h1, h2]
      · have : outlen - o ≠ 0 := by omega
        simp [h1, h2, this]
    · simp [h1]
  | fuel+1, [], o, blen, tr, acc, inv, ha => by
    have : o ≤ outlen := Nat.le_trans inv.ob inv.bo
    simp only [walk, Rdb.lzfLoop]
    by_cases h2 : o = outlen
    · simp [h2]
    · have : outlen - o ≠ 0 := by omega
      simp [h2, this]
  | fuel+1, ctrl :: r, o, blen, tr, acc, inv, ha => by
    have hoo : o ≤ outlen := Nat.le_trans inv.ob inv.bo
    have hc : ctrl.toNat < 256 := ctrl.toNat_lt
    unfold walk Rdb.lzfLoop
    simp only
    by_cases hlit : ctrl.toNat < 32
    · simp only [hlit, if_true]
      have hfit : (o + ctrl.toNat + 1 ≤ room step blen (o + ctrl.toNat + 1) outlen) ↔ ctrl.toNat + 1 ≤ outlen - o :=
        room_fits_iff (n := ctrl.toNat + 1) inv.bo hoo
      by_cases hok : hasLen r (ctrl.toNat + 1) = true ∧ o + ctrl.toNat + 1 ≤ room step blen (o + ctrl.toNat + 1) outlen
      · have h2 : ctrl.toNat + 1 ≤ r.length ∧ ctrl.toNat + 1 ≤ outlen - o := ⟨(hasLen_iff _ _).mp hok.1, hfit.mp hok.2⟩
        rw [if_pos hok, if_pos h2]
        have hnext := inv.next (ctrl.toNat + 1) (by omega) hok.2
        have hroom : outlen - o - (ctrl.toNat + 1) = outlen - (o + ctrl.toNat + 1) := by omega
        rw [hroom]
        apply walk_agrees step outlen fuel _ _ _ _ _ hnext
        rw [List.length_append, List.length_reverse, List.length_take, ha]
        have := h2.1; omega
      · have h2 : ¬ (ctrl.toNat + 1 ≤ r.length ∧ ctrl.toNat + 1 ≤ outlen - o) := by
          intro h; exact hok ⟨(hasLen_iff _ _).mpr h.1, hfit.mpr h.2⟩
        rw [if_neg hok, if_neg h2]; rfl
    · simp only [hlit, if_false]
      cases hlen : (if ctrl.toNat / 32 = 7 then
          (match r with | [] => none | x :: r1 => some (ctrl.toNat / 32 + x.toNat, r1))
          else some (ctrl.toNat / 32, r)) with
      | none => rfl
      | some p =>
        obtain ⟨len, r1⟩ := p
        simp only
        have hlen264 := (refLen_le hc hlen).1
        cases r1 with
        | nil => rfl
        | cons lo r2 =>
          simp only
          have hspec := lzfCopy_spec (len + 2) (ctrl.toNat % 32 * 256 + lo.toNat + 1) acc (outlen - o) (by omega)
          have hfit : (o + len + 2 ≤ room step blen (o + len + 2) outlen) ↔ len + 2 ≤ outlen - o :=
            room_fits_iff (n := len + 2) inv.bo hoo
          by_cases hok : ctrl.toNat % 32 * 256 + lo.toNat + 1 ≤ o ∧ o + len + 2 ≤ room step blen (o + len + 2) outlen
          · rw [if_pos hok]
            cases hcp : Rdb.lzfCopy (len + 2) (ctrl.toNat % 32 * 256 + lo.toNat + 1) acc (outlen - o) with
            | none =>
              rw [hcp] at hspec; simp only at hspec
              exfalso; apply hspec; right
              exact ⟨by rw [ha]; exact hok.1, hfit.mp hok.2⟩
            | some q =>
              obtain ⟨acc', room'⟩ := q
              rw [hcp] at hspec; simp only at hspec ⊢
              obtain ⟨_, hal, hrm⟩ := hspec
              have hnext := inv.next (len + 2) hlen264 hok.2
              have : room' = outlen - (o + len + 2) := by omega
              rw [this]
              exact walk_agrees step outlen fuel r2 _ _ _ acc' hnext (by rw [hal, ha]; omega)
          · rw [if_neg hok]
            cases hcp : Rdb.lzfCopy (len + 2) (ctrl.toNat % 32 * 256 + lo.toNat + 1) acc (outlen - o) with
            | none => rfl
            | some q =>
              obtain ⟨acc', room'⟩ := q
              rw [hcp] at hspec; simp only at hspec
              exfalso; apply hok
              rcases hspec.1 with h | ⟨h1, h2⟩
              · omega
              · exact ⟨by rw [← ha]; exact h1, hfit.mpr h2⟩

/-- **the buffer policy does not change the decision**: `lzfDecompress` after D33 accepts exactly what the
    decoder with a full-size buffer accepts (C03's model); the guard on the declared length refuses nothing that
    decoder accepts, since an accepted input produces at most 264 bytes per byte -/
theorem run_agrees (step : Nat) (inp : Bytes) (outlen : Nat) :
    (run step inp outlen).ok = (Rdb.lzfDecompress inp outlen).isSome := by
  have hw := walk_agrees step outlen inp.length inp 0 (min outlen step) [] [] (init_inv step outlen) rfl
  rw [Nat.sub_zero] at hw
  unfold run Rdb.lzfDecompress
  split
  · obtain ⟨_, _, hle, hok⟩ := walk_inv step outlen inp.length inp 0 (min outlen step) [] (init_inv step outlen)
    rw [← hw]
    cases hs : (walk step outlen inp.length inp 0 (min outlen step) []).ok with
    | false => rfl
    | true => have := hok hs; omega
  · exact hw

end GunYu.RdbLzf
