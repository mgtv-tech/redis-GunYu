/-
  C20 — the invariant of the concurrent replay system (`Sys`, Model/RestoreWorker.lean) and what follows from it.

  `Inv`: for every worker `i` and every `n ≥ done_i`, on the cells of worker `i`'s keys `soloKs (n − done_i) W_i S.ks`
  is what worker `i` alone makes of the first `n` entries of its pipe from the initial keyspace — whatever the other
  workers have done meanwhile.

  Core Lean only.
-/
import GunYu.Proofs.RestoreConc

namespace GunYu.Restore
open GunYu

theorem tgt_applyReq (E : Env) (cur : Nat) (ks : KS) (q : Req) (h : noSel q) :
    applyReq (E.tgt cur ks) q = E.tgt cur (applyReq (E.tgt cur ks) q).ks := by
  apply target_ext
  · rw [applyReq_cur _ _ h]; rfl
  · rw [applyReq_now]; rfl
  · rfl
  · rw [applyReq_bad]; rfl

theorem forall_set {α : Type} {P : Nat → α → Prop} {l : List α} {j : Nat} {a : α} (hj : P j a)
    (ho : ∀ i x, j ≠ i → l[i]? = some x → P i x) : ∀ i x, (l.set j a)[i]? = some x → P i x := by
  intro i x h
  rw [List.getElem?_set] at h
  split at h
  · next hji =>
    split at h
    · cases h; exact hji ▸ hj
    · cases h
  · next hji => exact ho i x hji h

theorem wstep_halted (E : Env) (c o : Bool) (W : WSt) (ks : KS) (h : W.halted = true) : wstep E c o W ks = (W, ks, false) := by
  simp [wstep, h]

theorem wstep_exec (E : Env) (c o : Bool) (W : WSt) (ks : KS) (q : Req) (qs : List Req) (h : W.halted = false)
    (hp : W.pend = q :: qs) : wstep E c o W ks = ({ W with pend := qs }, (applyReq (E.tgt W.cur ks) q).ks, false) := by
  simp [wstep, h, hp]

theorem wstep_fail (E : Env) (c o : Bool) (W : WSt) (ks : KS) (h : W.halted = false) (hp : W.pend = [])
    (ho : W.out ≠ .ok) : wstep E c o W ks = ({ W with halted := true }, ks, true) := by
  simp [wstep, h, hp, ho]

theorem wstep_observe (E : Env) (c o : Bool) (W : WSt) (ks : KS) (h : W.halted = false) (hp : W.pend = [])
    (ho : W.out = .ok) (hc : c = true ∧ o = true) : wstep E c o W ks = ({ W with halted := true }, ks, false) := by
  simp [wstep, h, hp, ho, hc.1, hc.2]

theorem wstep_drain (E : Env) (c o : Bool) (W : WSt) (ks : KS) (h : W.halted = false) (hp : W.pend = [])
    (ho : W.out = .ok) (hc : ¬ (c = true ∧ o = true)) (hq : W.queue = []) :
    wstep E c o W ks = ({ W with halted := true }, ks, false) := by
  simp only [wstep, h, hp, ho, hq]
  simp [hc]

theorem wstep_take (E : Env) (c o : Bool) (W : WSt) (ks : KS) (e : Entry) (rest : List Entry) (h : W.halted = false)
    (hp : W.pend = []) (ho : W.out = .ok) (hc : ¬ (c = true ∧ o = true)) (hq : W.queue = e :: rest) :
    wstep E c o W ks =
      ({ W with cur := (stepF E.w E.bisync E.pol E.cfg W.cur W.st (E.tgt W.cur ks) e).cur,
                st := (stepF E.w E.bisync E.pol E.cfg W.cur W.st (E.tgt W.cur ks) e).st,
                pend := (stepF E.w E.bisync E.pol E.cfg W.cur W.st (E.tgt W.cur ks) e).reqs,
                queue := rest,
                out := (stepF E.w E.bisync E.pol E.cfg W.cur W.st (E.tgt W.cur ks) e).out,
                done := W.done + 1 }, ks, false) := by
  simp only [wstep, h, hp, ho, hq]
  simp [hc]

theorem soloKs_pend_nil (E : Env) (W : WSt) (ks : KS) (hp : W.pend = []) : soloKs E 0 W ks = ks := by
  unfold soloKs
  rw [hp]
  split <;> simp [applyReqs_nil, List.take_zero, runWorkerF, workerTarget, Env.tgt]

/-- the entry just taken, seen from `soloKs`: replaying `m + 1` entries from before = finishing it and replaying `m` more -/
theorem soloKs_take (E : Env) (W : WSt) (ks : KS) (e : Entry) (rest : List Entry) (m : Nat)
    (hp : W.pend = []) (ho : W.out = .ok) (hq : W.queue = e :: rest) :
    soloKs E m
      { W with cur := (stepF E.w E.bisync E.pol E.cfg W.cur W.st (E.tgt W.cur ks) e).cur,
               st := (stepF E.w E.bisync E.pol E.cfg W.cur W.st (E.tgt W.cur ks) e).st,
               pend := (stepF E.w E.bisync E.pol E.cfg W.cur W.st (E.tgt W.cur ks) e).reqs,
               queue := rest,
               out := (stepF E.w E.bisync E.pol E.cfg W.cur W.st (E.tgt W.cur ks) e).out,
               done := W.done + 1 } ks
      = soloKs E (m + 1) W ks := by
  have hsel := stepF_sel E.w E.bisync E.pol E.cfg W.cur W.st (E.tgt W.cur ks) (E.tgt W.cur ks) e rfl
  have hun := stepF_unsent E.w E.bisync E.pol E.cfg W.cur W.st (E.tgt W.cur ks) e
  unfold soloKs
  simp only [hp, ho, hq, applyReqs_nil, List.take_succ_cons, if_true]
  simp only [runWorkerF]
  generalize stepF E.w E.bisync E.pol E.cfg W.cur W.st (E.tgt W.cur ks) e = r at hsel hun
  have htg : ({ E.tgt W.cur ks with cur := r.cur } : Target) = E.tgt r.cur ks := rfl
  cases hs : r.sent with
  | false =>
    obtain ⟨u1, u2, u3, u4, _⟩ := hun hs
    simp only [if_true, u1, u2, u3, u4, applyReqs_nil]
  | true =>
    simp only [Bool.true_eq_false, if_false]
    cases hout : r.out with
    | ok =>
      simp only [if_true, workerTarget_cons, applyReqs_append, hsel, htg]
    | errExists => simp [workerTarget, applyReqs_append, hsel, htg]
    | errModule => simp [workerTarget, applyReqs_append, hsel, htg]
    | errBad => simp [workerTarget, applyReqs_append, hsel, htg]

/-- everything the invariant needs to know about the outcome `r` of one step of worker `W`, whose pending requests and
    pipe concern `K`, on the keyspace `ks` (`c`: the cancel flag before the step) -/
structure StepFacts (E : Env) (K : Bytes → Prop) (c : Bool) (W : WSt) (ks : KS) (r : WSt × KS × Bool) : Prop where
  wok : WOK E K r.1
  frame : ∀ d k, ¬ K k → r.2.1 d k = ks d k
  done : W.done ≤ r.1.done
  solo : ∀ n, r.1.done ≤ n → soloKs E (n - r.1.done) r.1 r.2.1 = soloKs E (n - W.done) W ks
  queue : r.1.queue = W.queue.drop (r.1.done - W.done)
  quiet : r.1.halted = true → (c || r.2.2) = false → (W.halted = true → W.queue = [] ∧ W.out = .ok) →
    r.1.queue = [] ∧ r.1.out = .ok
  cnt : r.1.done + r.1.queue.length = W.done + W.queue.length

theorem StepFacts.halt {E : Env} {K : Bytes → Prop} {c : Bool} {W : WSt} {ks : KS} (hw : WOK E K W) (hp : W.pend = [])
    (raise : Bool) (hq : (c || raise) = false → W.queue = [] ∧ W.out = .ok) :
    StepFacts E K c W ks ({ W with halted := true }, ks, raise) where
  wok := ⟨hw.pend, hw.queue, fun _ => hp⟩
  frame := fun _ _ _ => rfl
  done := Nat.le_refl _
  solo := fun _ _ => rfl
  queue := by simp
  quiet := fun _ h _ => hq h
  cnt := rfl

theorem wstep_facts (E : Env) (K : Bytes → Prop) (c o : Bool) (W : WSt) (ks : KS) (hw : WOK E K W) :
    StepFacts E K c W ks (wstep E c o W ks) := by
  cases hh : W.halted with
  | true =>
    rw [wstep_halted E c o W ks hh]
    exact ⟨hw, fun _ _ _ => rfl, Nat.le_refl _, fun _ _ => rfl, by simp, fun _ _ h => h hh, rfl⟩
  | false =>
    have running : ¬ W.halted = true := by simp [hh]
    cases hp : W.pend with
    | cons q qs =>
      rw [wstep_exec E c o W ks q qs hh hp]
      have hq := hw.pend q (by rw [hp]; exact List.mem_cons_self ..)
      refine ⟨⟨fun r hr => hw.pend r (by rw [hp]; exact List.mem_cons_of_mem _ hr), hw.queue, fun h => absurd h running⟩,
        fun d k hk => ?_, Nat.le_refl _, fun n _ => ?_, by simp, fun h => absurd h running, rfl⟩
      · show (applyReq (E.tgt W.cur ks) q).ks d k = ks d k
        rw [applyReq_ks _ _ hq.1]
        simp only [Env.tgt]
        by_cases hd : d = W.cur
        · simp only [hd, ↓reduceIte]
          unfold objStep
          by_cases hr : reqKey q = some k
          · exact absurd (hq.2 k hr) hk
          · rw [if_neg hr]
        · simp only [hd, ↓reduceIte]
      · have heq : applyReqs (E.tgt W.cur ks) (q :: qs) = applyReqs (E.tgt W.cur (applyReq (E.tgt W.cur ks) q).ks) qs :=
          congrArg (fun t => applyReqs t qs) (tgt_applyReq E W.cur ks q hq.1)
        unfold soloKs
        dsimp only
        rw [hp, heq]
    | nil =>
      by_cases ho : W.out = .ok
      · by_cases hc : c = true ∧ o = true
        · rw [wstep_observe E c o W ks hh hp ho hc]
          exact .halt hw hp false fun h => by simp [hc.1] at h
        · cases hq : W.queue with
          | nil =>
            rw [wstep_drain E c o W ks hh hp ho hc hq]
            exact .halt hw hp false fun _ => ⟨hq, ho⟩
          | cons e rest =>
            rw [wstep_take E c o W ks e rest hh hp ho hc hq]
            have he := hw.queue e (by rw [hq]; exact List.mem_cons_self ..)
            refine ⟨⟨stepF_reqs E.w E.bisync E.pol E.cfg W.cur W.st (E.tgt W.cur ks) e K he,
                fun x hx => hw.queue x (by rw [hq]; exact List.mem_cons_of_mem _ hx), fun h => absurd h running⟩,
              fun _ _ _ => rfl, Nat.le_succ _, fun n hn => ?_, by simp [hq], fun h => absurd h running, by simp [hq]; omega⟩
            have : n - W.done = (n - (W.done + 1)) + 1 := by
              have : W.done + 1 ≤ n := hn
              omega
            rw [this]
            exact soloKs_take E W ks e rest _ hp ho hq
      · rw [wstep_fail E c o W ks hh hp ho]
        exact .halt hw hp true fun h => by simp at h

/-- `K i` = the keys of worker `i`; `ks0`, `W0` = the keyspace and the workers at the start -/
structure Inv (E : Env) (K : Nat → Bytes → Prop) (ks0 : KS) (W0 : List WSt) (S : Sys) : Prop where
  len  : S.ws.length = W0.length
  wok  : ∀ (i : Nat) (W : WSt), S.ws[i]? = some W → WOK E (K i) W
  solo : ∀ (i : Nat) (W Wi : WSt), S.ws[i]? = some W → W0[i]? = some Wi → ∀ n, W.done ≤ n → n ≤ W.done + W.queue.length →
           AgreeOn (K i) (soloKs E (n - W.done) W S.ks) (soloKs E n Wi ks0)
  cnt  : S.cut = false → ∀ (i : Nat) (W Wi : WSt), S.ws[i]? = some W → W0[i]? = some Wi → W.queue = Wi.queue.drop W.done
  free : ∀ d k, (∀ i, i < W0.length → ¬ K i k) → S.ks d k = ks0 d k
  quiet : ∀ (i : Nat) (W : WSt), S.ws[i]? = some W → W.halted = true → S.cancel = false → W.queue = [] ∧ W.out = .ok

theorem Inv.init (E : Env) (K : Nat → Bytes → Prop) (ks0 : KS) (W0 : List WSt)
    (hw : ∀ (i : Nat) (W : WSt), W0[i]? = some W → WOK E (K i) W ∧ W.done = 0 ∧ W.halted = false) :
    Inv E K ks0 W0 { ks := ks0, ws := W0 } where
  len := rfl
  wok := fun i W h => (hw i W h).1
  solo := by
    intro i W Wi h1 h2 n _ _
    have : W = Wi := by rw [h1] at h2; exact Option.some.inj h2
    subst this
    rw [(hw i W h1).2.1]
    intro d k _; rfl
  cnt := by
    intro _ i W Wi h1 h2
    have : W = Wi := by rw [h1] at h2; exact Option.some.inj h2
    subst this
    rw [(hw i W h1).2.1]; rfl
  free := fun _ _ _ => rfl
  quiet := by
    intro i W h1 h2
    rw [(hw i W h1).2.2] at h2; cases h2

theorem Inv.step {E : Env} {K : Nat → Bytes → Prop} (hdis : ∀ i j k, K i k → K j k → i = j) {ks0 : KS} {W0 : List WSt}
    {S : Sys} (h : Inv E K ks0 W0 S) (j : Nat) (obs : Bool) : Inv E K ks0 W0 (Sys.step E S j obs) := by
  unfold Sys.step
  cases hj : S.ws[j]? with
  | none => exact h
  | some Wj =>
    simp only
    have hjlt : j < S.ws.length := (List.getElem?_eq_some_iff.mp hj).1
    have f := wstep_facts E (K j) S.cancel obs Wj S.ks (h.wok j Wj hj)
    generalize wstep E S.cancel obs Wj S.ks = r at f ⊢
    have hnc : (S.cancel || r.2.2) = false → S.cancel = false := by cases S.cancel <;> simp
    refine ⟨by simp [h.len], forall_set f.wok fun i W _ => h.wok i W, fun i W Wi hi => ?_, fun hcut i W Wi hi => ?_, ?_,
      fun i W hi hh hc => ?_⟩
    · revert i W
      refine forall_set ?_ ?_
      · intro hi0 n hn hb
        rw [f.solo n hn]
        exact h.solo j Wj Wi hj hi0 n (Nat.le_trans f.done hn) (by have := f.cnt; omega)
      · intro i W hji hi hi0 n hn hb d k hk
        rw [soloKs_local E (K i) (n - W.done) W (h.wok i W hi) r.2.1 S.ks
          (fun d k hk => f.frame d k fun hkj => hji (hdis j i k hkj hk)) d k hk]
        exact h.solo i W Wi hi hi0 n hn hb d k hk
    · revert i W
      refine forall_set ?_ fun i W _ hi => h.cnt hcut i W Wi hi
      intro hi0
      rw [f.queue, h.cnt hcut j Wj Wi hj hi0, List.drop_drop]
      have := f.done
      congr 1; omega
    · intro d k hfree
      exact (f.frame d k (hfree j (by rw [← h.len]; exact hjlt))).trans (h.free d k hfree)
    · revert i W
      exact forall_set (fun hh => f.quiet hh hc fun hwh => h.quiet j Wj hj hwh (hnc hc))
        fun i W _ hi hh => h.quiet i W hi hh (hnc hc)

theorem soloKs_trunc (E : Env) (m k : Nat) (W : WSt) (ks : KS) (h : m ≤ (W.queue.take k).length) :
    soloKs E m { W with queue := W.queue.take k } ks = soloKs E m W ks := by
  have hk : m ≤ k := Nat.le_trans h (by simp [List.length_take]; omega)
  unfold soloKs
  simp only [List.take_take, Nat.min_eq_left hk]

theorem move_close_none (E : Env) (S : Sys) (j k : Nat) (h : S.ws[j]? = none) : Sys.move E S (.close j k) = S := by
  simp [Sys.move, h]

theorem move_close_some (E : Env) (S : Sys) (j k : Nat) (W : WSt) (h : S.ws[j]? = some W) :
    Sys.move E S (.close j k) = { S with ws := S.ws.set j { W with queue := W.queue.take k }, cut := true } := by
  simp [Sys.move, h]

/-- the environment's moves keep the invariant: a cancel from outside, a pipe closed after a prefix -/
theorem Inv.move {E : Env} {K : Nat → Bytes → Prop} (hdis : ∀ i j k, K i k → K j k → i = j) {ks0 : KS} {W0 : List WSt}
    {S : Sys} (h : Inv E K ks0 W0 S) (m : Move) : Inv E K ks0 W0 (Sys.move E S m) := by
  cases m with
  | work i obs => exact h.step hdis i obs
  | cancel =>
    exact ⟨h.len, h.wok, h.solo, h.cnt, h.free, fun _ _ _ _ hc => by cases hc⟩
  | close j k =>
    cases hj : S.ws[j]? with
    | none => rw [move_close_none E S j k hj]; exact h
    | some Wj =>
      rw [move_close_some E S j k Wj hj]
      have hwj := h.wok j Wj hj
      refine ⟨by simp [h.len], ?_, fun i W Wi hi => ?_, (fun hc => by cases hc), h.free, fun i W hi hh hc => ?_⟩
      · exact forall_set ⟨hwj.pend, fun e he => hwj.queue e (List.mem_of_mem_take he), hwj.halt⟩ fun i W _ => h.wok i W
      · revert i W
        refine forall_set ?_ fun i W _ hi => h.solo i W Wi hi
        intro hi0 n hn hb
        simp only at hn hb ⊢
        rw [soloKs_trunc E (n - Wj.done) k Wj S.ks (by omega)]
        refine h.solo j Wj Wi hj hi0 n hn ?_
        have : (Wj.queue.take k).length ≤ Wj.queue.length := by simp [List.length_take]; omega
        omega
      · revert i W
        refine forall_set (fun hh => ?_) fun i W _ hi hh => h.quiet i W hi hh hc
        obtain ⟨q1, q2⟩ := h.quiet j Wj hj hh hc
        exact ⟨by simp [q1], q2⟩

theorem Inv.run {E : Env} {K : Nat → Bytes → Prop} (hdis : ∀ i j k, K i k → K j k → i = j) {ks0 : KS} {W0 : List WSt} :
    ∀ (sched : List Move) {S : Sys}, Inv E K ks0 W0 S → Inv E K ks0 W0 (Sys.run E S sched)
  | [], _, h => h
  | m :: rest, _, h => Inv.run hdis rest (h.move hdis m)

/-- at an entry boundary of worker `i` (nothing pending — in particular once it has halted, for whatever reason), the
    cells of ITS keys hold exactly what worker `i`, ALONE on the initial keyspace, makes of the entries it has taken -/
theorem Inv.boundary (E : Env) (K : Nat → Bytes → Prop) (ks0 : KS) (W0 : List WSt) (S : Sys) (h : Inv E K ks0 W0 S)
    (i : Nat) (W Wi : WSt) (hi : S.ws[i]? = some W) (hi0 : W0[i]? = some Wi) (hp : W.pend = []) :
    AgreeOn (K i) S.ks (soloKs E W.done Wi ks0) := by
  have := h.solo i W Wi hi hi0 W.done (Nat.le_refl _) (Nat.le_add_right _ _)
  rw [Nat.sub_self, soloKs_pend_nil E W S.ks hp] at this
  exact this

/-- what one move does to a halted worker and to the cells of its keys: nothing -/
theorem move_halted {E : Env} {K : Nat → Bytes → Prop} (hdis : ∀ i j k, K i k → K j k → i = j) {ks0 : KS} {W0 : List WSt}
    {S : Sys} (h : Inv E K ks0 W0 S) (m : Move) (i : Nat) (W : WSt) (hi : S.ws[i]? = some W) (hh : W.halted = true) :
    (∃ W', (Sys.move E S m).ws[i]? = some W' ∧ W'.halted = true) ∧ ∀ d k, K i k → (Sys.move E S m).ks d k = S.ks d k := by
  have hset : ∀ (j : Nat) (Wj a : WSt), S.ws[j]? = some Wj → (j = i → a.halted = true) →
      ∃ W', (S.ws.set j a)[i]? = some W' ∧ W'.halted = true := by
    intro j Wj a hj ha
    rw [List.getElem?_set]
    by_cases hji : j = i
    · simp only [hji, (List.getElem?_eq_some_iff.mp (hji ▸ hj)).1, if_true]; exact ⟨a, rfl, ha hji⟩
    · simp only [hji, if_false]; exact ⟨W, hi, hh⟩
  cases m with
  | cancel => exact ⟨⟨W, hi, hh⟩, fun _ _ _ => rfl⟩
  | close j k =>
    cases hj : S.ws[j]? with
    | none => rw [move_close_none E S j k hj]; exact ⟨⟨W, hi, hh⟩, fun _ _ _ => rfl⟩
    | some Wj =>
      rw [move_close_some E S j k Wj hj]
      exact ⟨hset j Wj _ hj fun hji => by subst hji; rw [hj] at hi; cases hi; exact hh, fun _ _ _ => rfl⟩
  | work j obs =>
    show (∃ W', (Sys.step E S j obs).ws[i]? = some W' ∧ W'.halted = true) ∧ ∀ d k, K i k → (Sys.step E S j obs).ks d k = S.ks d k
    unfold Sys.step
    cases hj : S.ws[j]? with
    | none => exact ⟨⟨W, hi, hh⟩, fun _ _ _ => rfl⟩
    | some Wj =>
      simp only
      refine ⟨hset j Wj _ hj fun hji => ?_, fun d k hk => ?_⟩
      · subst hji; rw [hj] at hi; cases hi; rw [wstep_halted E _ _ W _ hh]; exact hh
      · by_cases hji : j = i
        · subst hji; rw [hj] at hi; cases hi; rw [wstep_halted E _ _ W _ hh]
        · exact (wstep_facts E (K j) S.cancel obs Wj S.ks (h.wok j Wj hj)).frame d k fun hkj => hji (hdis j i k hkj hk)

/-- once a worker has halted, the cells of its keys never change again, whatever the others — and the environment — do -/
theorem halted_frozen {E : Env} {K : Nat → Bytes → Prop} (hdis : ∀ i j k, K i k → K j k → i = j) {ks0 : KS} {W0 : List WSt} :
    ∀ (sched : List Move) {S : Sys}, Inv E K ks0 W0 S → ∀ (i : Nat) (W : WSt), S.ws[i]? = some W → W.halted = true →
      ∀ d k, K i k → (Sys.run E S sched).ks d k = S.ks d k
  | [], _, _, _, _, _, _ => fun _ _ _ => rfl
  | m :: rest, S, h, i, W, hi, hh => by
    obtain ⟨⟨W', k1, k1h⟩, k2⟩ := move_halted hdis h m i W hi hh
    have r2 := halted_frozen hdis rest (h.move hdis m) i W' k1 k1h
    exact fun d k hk => (r2 d k hk).trans (k2 d k hk)

end GunYu.Restore
