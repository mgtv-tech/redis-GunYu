/-
  C05, memory backend — progress as safety.

  `TailInv`: every indexed stream segment other than the writer's current one is
  CLOSED and NON-EMPTY (a reader at the end of such a segment finds it closed and a
  successor that holds bytes — it never waits on a segment nobody will write to).
  Preserved by every operation; with `MemInv` it gives the catch-up step
  `pump2_delivers` (Proofs/StoreMemProgress.lean).
-/
import GunYu.Model.StoreProgress
import GunYu.Proofs.StoreMemInv

namespace GunYu.Store
open GunYu

def TailInv (s : Mem) : Prop :=
  ∀ g ∈ s.segs, s.aofW ≠ some g.sid → g.closed = true ∧ g.data ≠ []

theorem TailInv.init (l m : Nat) : TailInv (Mem.init l m) := by
  intro g hg; cases hg

theorem TailInv.suffix {s s' : Mem} (h : TailInv s) (hw : s'.aofW = s.aofW) (hs : ∃ pre, s.segs = pre ++ s'.segs) :
    TailInv s' := by
  obtain ⟨pre, hp⟩ := hs
  intro g hg hne
  exact h g (by rw [hp]; exact List.mem_append_right _ hg) (by rw [← hw]; exact hne)

theorem TailInv.same {s s' : Mem} (h : TailInv s) (hw : s'.aofW = s.aofW) (hs : s'.segs = s.segs) : TailInv s' :=
  h.suffix hw ⟨[], by simp [hs]⟩

theorem pieceSpace_rotate (logSize segLen bufLen : Nat) (h : (pieceSpace logSize segLen bufLen).2 = true) : 0 < segLen := by
  unfold pieceSpace at h
  split at h
  · cases h
  · split at h
    · rename_i hc; exact hc.2
    · cases h

theorem aofRotate_tail (s : Mem) (cur : Nat) (seg : MSeg) (rotate : Bool) (hi : MemInv s) (ht : TailInv s)
    (hw : s.aofW = some cur) (hf : mFind s.segs cur = some seg) (hne : rotate = true → seg.data ≠ []) :
    TailInv (aofRotate s cur seg rotate).1 := by
  unfold aofRotate
  cases rotate with
  | false => exact ht
  | true =>
    simp only [if_true]
    intro g hg hnw
    have hnw' : some s.nextSid ≠ some g.sid := hnw
    rcases List.mem_append.mp hg with hg | hg
    · obtain ⟨g0, hg0, rfl⟩ := mem_mUpdate.mp hg
      by_cases hc : (g0.sid == cur) = true
      · simp only [hc, if_true]
        refine ⟨by trivial, ?_⟩
        obtain ⟨hm, hs⟩ := mFind_some hf
        have : g0 = seg := sid_unique hi.stream.nodup hg0 hm (by rw [hs]; exact beq_iff_eq.mp hc)
        rw [this]; exact hne rfl
      · simp only [hc]
        apply ht g0 hg0
        rw [hw]
        intro e; cases e; simp at hc
    · rw [List.mem_singleton] at hg; subst hg
      exact absurd rfl hnw'

theorem aofPut_tail (s2 : Mem) (cur1 : Nat) (piece : Bytes) (ht : TailInv s2) (hw : s2.aofW = some cur1) :
    TailInv (aofPut s2 cur1 piece) := by
  intro g hg hnw
  have hnw' : s2.aofW ≠ some g.sid := hnw
  obtain ⟨g0, hg0, rfl⟩ := mem_mUpdate.mp hg
  by_cases hc : (g0.sid == cur1) = true
  · exfalso
    apply hnw'
    simp only [hc, if_true]
    rw [hw, beq_iff_eq.mp hc]
  · simp only [hc] at hnw' ⊢
    exact ht g0 hg0 hnw'

theorem appendAofLoop_tail (fuel : Nat) (s : Mem) (buf : Bytes) (done : Nat) (hi : MemInv s) (ht : TailInv s) :
    TailInv (Mem.appendAofLoop fuel s buf done).1 :=
  (appendAofLoop_keeps (P := fun s => MemInv s ∧ TailInv s)
    (fun s cur seg _ hw hf h => ⟨aofRotate_inv s cur seg _ h.1 hw hf, aofRotate_tail s cur seg _ h.1 h.2 hw hf
      (fun hr => List.length_pos_iff.mp (pieceSpace_rotate _ _ _ hr))⟩)
    (fun s n h => ⟨ensure_inv s n h.1, h.2.suffix (ensure_frame s n).aofW (ensure_frame s n).segs⟩)
    (fun s cur piece hw h => ⟨aofPut_inv s cur piece h.1 hw, aofPut_tail s cur piece h.2 hw⟩) fuel s buf done ⟨hi, ht⟩).2

/-- `finishAof` for the writer of segment `cur`: the segment is closed and, when empty,
    leaves the index. `hP`: the OTHER segments that will not be the writer's are closed
    and non-empty already. -/
theorem finishAof_tail (s : Mem) (cur : Nat) (isCurrent : Bool) (hn : (s.segs.map (·.sid)).Nodup)
    (hP : ∀ g ∈ s.segs, g.sid ≠ cur → (if isCurrent then none else s.aofW) ≠ some g.sid → g.closed = true ∧ g.data ≠ []) :
    TailInv (s.finishAof cur isCurrent) := by
  obtain ⟨X, e, h⟩ := finishAof_cases s cur isCurrent
  rw [e]
  -- before the collector runs: what is left of `cur` in the index holds bytes
  have key : X.aofW = (if isCurrent then none else s.aofW) ∧
      (∀ x ∈ X.segs, x ∈ mUpdate s.segs cur (fun g => { g with closed := true })) ∧
      ∀ x ∈ X.segs, x.sid = cur → x.data ≠ [] := by
    rcases h with ⟨rfl, hne⟩ | ⟨g, _, _, rfl⟩
    · refine ⟨rfl, fun x hx => hx, fun x hx hs => hne x ?_⟩
      have hn1 : ((mUpdate s.segs cur (fun g => ({ g with closed := true } : MSeg))).map (·.sid)).Nodup := by
        rw [mUpdate_sids (l := s.segs) (sid := cur) (f := fun g => ({ g with closed := true } : MSeg)) (fun g => rfl)]
        exact hn
      exact hs ▸ mFind_of_mem hn1 hx
    · refine ⟨rfl, fun x hx => (List.mem_filter.mp hx).1, fun x hx hs => ?_⟩
      have := (List.mem_filter.mp hx).2
      simp [hs] at this
  refine TailInv.suffix ?_ (gc_frame X 0).aofW (gc_frame X 0).segs
  intro x hx hnw
  obtain ⟨g0, hg0, rfl⟩ := mem_mUpdate.mp (key.2.1 x hx)
  by_cases hc : (g0.sid == cur) = true
  · simp only [hc, if_true]
    refine ⟨by trivial, ?_⟩
    have := key.2.2 _ hx (by simp only [hc, if_true]; exact beq_iff_eq.mp hc)
    simpa [hc] using this
  · simp only [hc] at hnw ⊢
    exact hP g0 hg0 (by simpa using hc) (by rw [← key.1]; exact hnw)

/-! ### the snapshot writer never touches the stream index except through the collector -/

theorem appendRdbLoop_tail (fuel : Nat) (s : Mem) (buf : Bytes) (done : Nat) (ht : TailInv s) :
    TailInv (Mem.appendRdbLoop fuel s buf done).1 :=
  appendRdbLoop_keeps
    (fun s r seg _ _ _ _ ht => by unfold rdbRotate; split <;> first | exact ht | exact ht.same rfl rfl)
    (fun s n ht => ht.suffix (ensure_frame s n).aofW (ensure_frame s n).segs)
    (fun s r piece _ _ ht => ht.same rfl rfl) fuel s buf done ht

theorem finishRdb_tail (s : Mem) (failed : Bool) (ht : TailInv s) : TailInv (s.finishRdb failed) :=
  ht.same (finishRdb_frame s failed).2.1 (finishRdb_frame s failed).2.2

theorem appends_tail (s : Mem) (hi : MemInv s) (ht : TailInv s) :
    TailInv s.retry.1 ∧ (∀ chunk, TailInv (s.step (.aofAppend chunk)).1) ∧ ∀ chunk, TailInv (s.step (.rdbAppend chunk)).1 := by
  have := appends_keep (P := fun s => MemInv s ∧ TailInv s) (fun s a r h => ⟨setPend_inv s h.1 a r, h.2.same rfl rfl⟩)
    (fun fuel s buf h => ⟨appendAofLoop_inv fuel s buf 0 h.1, appendAofLoop_tail fuel s buf 0 h.1 h.2⟩)
    (fun fuel s buf h => ⟨appendRdbLoop_inv fuel s buf 0 h.1, appendRdbLoop_tail fuel s buf 0 h.2⟩)
    (fun s h => ⟨finishRdb_inv s false h.1, finishRdb_tail s false h.2⟩) s ⟨hi, ht⟩
  exact ⟨this.1.2, fun c => (this.2.1 c).2, fun c => (this.2.2 c).2⟩

theorem step_tail (s : Mem) (op : MOp) (hi : MemInv s) (ht : TailInv s) : TailInv (s.step op).1 := by
  cases op with
  | setRunId id => exact ht.same rfl rfl
  | delRunId id =>
    simp only [Mem.step]
    split
    · exact ht
    · intro g hg; cases hg
  | newRdbWriter off size => intro g hg; cases hg
  | rdbAppend chunk => exact (appends_tail s hi ht).2.2 chunk
  | rdbClose => exact finishRdb_tail s false ht
  | rdbFail => exact finishRdb_tail s true ht
  | newAofWriter off =>
    rw [step_newAofWriter_eq]
    cases hin : s.installWriter off with
    | none => exact ht
    | some s1 =>
      dsimp only
      -- a segment of `s1` that is not the new writer's was indexed before
      have old : ∀ g ∈ s1.segs, s1.aofW ≠ some g.sid → g ∈ s.segs := by
        rw [(installWriter_spec hin).1]
        intro g hg hnw
        rcases List.mem_append.mp hg with hg | hg
        · exact hg
        · rw [List.mem_singleton] at hg; subst hg; exact absurd rfl hnw
      cases haw : s.aofW with
      | none => exact fun g hg hnw => ht g (old g hg hnw) (by rw [haw]; simp)
      | some o =>
        refine finishAof_tail s1 o false (installWriter_inv hin hi).stream.nodup (fun g hg hne hnw => ?_)
        exact ht g (old g hg hnw) (by rw [haw]; intro e; cases e; exact hne rfl)
  | aofAppend chunk => exact (appends_tail s hi ht).2.1 chunk
  | aofClose =>
    simp only [Mem.step]
    cases haw : s.aofW with
    | none => exact ht
    | some cur =>
      dsimp only
      apply finishAof_tail s cur true hi.stream.nodup
      intro g hg hne _
      exact ht g hg (by rw [haw]; intro e; cases e; exact hne rfl)
  | retryAppend => exact (appends_tail s hi ht).1
  | openReader _ _ | startReader _ | copyStep _ | consume _ _ | closeReader _ =>
    rw [step_readerOp s rfl]; exact ht.same rfl rfl

theorem run_tail (s : Mem) (ops : List MOp) (hi : MemInv s) (ht : TailInv s) : TailInv (s.run ops) :=
  (run_keeps (P := fun s => MemInv s ∧ TailInv s) (fun s op h => ⟨step_inv s op h.1, step_tail s op h.1 h.2⟩) ops s ⟨hi, ht⟩).2

end GunYu.Store
