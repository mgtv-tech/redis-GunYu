/-
  C05, disk backend with several run-id directories — the callers' protocol derived
  over `DiskD`.

  In `DiskD` the sequence the callers issue to clear the cache, `DelRunId(current);
  SetRunId(rid)`, LOADS the directory of `rid` when one exists, and `SetRunId(rid)` with
  another id current SWITCHES to it: `Continues q` / "cleared" do not survive that in
  general. They do for the id the callers pass — the FIRST id of the list they asked
  `VerifyRunId` with — because after `VerifyRunId (rid :: …)` either `rid` is the current id
  or it has no directory (`verify_head_free`), PROVIDED no directory holds "latest offset 0"
  (`VerifyRunId` skips such a directory AFTER having switched to it: `newest == 0 → continue`).
  That proviso is derived from `PosXOp`: every writer is created at an offset > 0.
-/
import GunYu.Proofs.StoreDirs
import GunYu.Proofs.StoreCaller

namespace GunYu.Store
open GunYu

def Pos (s : Disk) : Prop := (∀ g ∈ s.all, 0 < g.left) ∧ (∀ rd, s.rdb = some rd → 0 < rd.left)

def PosOp : DOp → Prop
  | .newAofWriter off => 0 < off
  | .newRdbWriter off _ => 0 < off
  | _ => True

theorem Pos.of_same {s s' : Disk} (h : Pos s) (ha : ∀ g ∈ s'.all, g ∈ s.all)
    (hr : ∀ r', s'.rdb = some r' → ∃ r, s.rdb = some r ∧ r'.left = r.left) : Pos s' := by
  refine ⟨fun g hg => h.1 g (ha g hg), fun rd hrd => ?_⟩
  obtain ⟨r, e1, e2⟩ := hr rd hrd
  rw [e2]
  exact h.2 r e1

theorem lastRight_mem : ∀ (l : List DSeg) (r : Nat), lastRight l = some r → ∃ g ∈ l, g.right = r := by
  intro l
  induction l with
  | nil => intro r h; cases h
  | cons a t ih =>
    intro r h
    cases t with
    | nil => cases h; exact ⟨a, List.mem_singleton.mpr rfl, rfl⟩
    | cons b u =>
      obtain ⟨g, hg, e⟩ := ih r h
      exact ⟨g, List.mem_cons_of_mem _ hg, e⟩

theorem Pos.latest_ne_zero {s : Disk} (h : Pos s) : s.latest ≠ 0 := by
  unfold Disk.latest
  cases hl : lastRight s.all with
  | some r =>
    obtain ⟨g, hg, e⟩ := lastRight_mem _ r hl
    have := h.1 g hg
    simp only [DSeg.right] at e
    simp only []
    omega
  | none =>
    cases hr : s.rdb with
    | some rd => have := h.2 rd hr; simp only []; omega
    | none => simp

theorem closeLive_all_sub (s : Disk) : ∀ g ∈ s.closeLive.all, g ∈ s.all := by
  unfold Disk.closeLive
  cases hl : s.live with
  | none => exact fun _ hg => hg
  | some x =>
    dsimp only
    by_cases he : x.data.isEmpty = true
    · rw [if_pos he]; exact fun g hg => List.mem_append_left _ (by simpa [Disk.all] using hg)
    · rw [if_neg he]; exact fun g hg => by simpa [Disk.all, hl] using hg

theorem Pos.closeLive {s : Disk} (h : Pos s) : Pos s.closeLive :=
  h.of_same (closeLive_all_sub s) (fun r' e => ⟨r', (closeLive_hist s).2.2 ▸ e, rfl⟩)

theorem Pos.closeAllForSwitch {s : Disk} (h : Pos s) : Pos s.closeAllForSwitch := by
  unfold Disk.closeAllForSwitch
  apply Pos.closeLive
  rcases dropWritingRdb_cases { s with readers := closeAllReaders s.readers } with e | e <;> rw [e]
  · exact h
  · exact h.of_same (fun _ hg => hg) (fun _ e => nomatch e)

theorem Pos.empty {s : Disk} (ha : s.all = []) (hr : s.rdb = none) : Pos s :=
  ⟨(fun _ hg => nomatch ha ▸ hg), (fun _ h => nomatch hr ▸ h)⟩

theorem Pos.reset (s : Disk) : Pos s.reset := Pos.empty rfl rfl

theorem gc_all_subset (s : Disk) : ∀ g ∈ s.gc.all, g ∈ s.all := by
  obtain ⟨pre, hp, _, _, _, he⟩ := gc_cases s
  intro g hg
  rw [he] at hg
  unfold Disk.all at hg ⊢
  rw [hp]
  rcases List.mem_append.mp hg with h | h
  · exact List.mem_append_left _ (List.mem_append_right _ h)
  · exact List.mem_append_right _ h

theorem Pos.step {s : Disk} (hi : DInv s) (h : Pos s) (o : DOp) (hp : PosOp o) : Pos (s.step o).1 := by
  by_cases hr : o.isReaderOp = true
  · obtain ⟨_, e⟩ := readerOp_eq s hr
    rw [e]
    exact h
  cases o with
  | setRunId id =>
    rcases setRunId_step hi id with e | e | e <;> rw [e]
    · exact Pos.reset s
    · exact h
    · exact h.closeAllForSwitch
  | delRunId =>
    simp only [Disk.step]
    by_cases he : s.runId = ""
    · rw [if_pos he]; exact h
    · rw [if_neg he]; exact Pos.reset s
  | newRdbWriter off size => exact ⟨(fun _ hg => nomatch hg), (fun rd hrd => by cases hrd; exact hp)⟩
  | rdbAppend chunk =>
    obtain ⟨rdb', e, hr⟩ := rdbAppend_eq s chunk
    rw [e]
    exact h.of_same (fun _ hg => hg) hr
  | rdbClose =>
    rcases rdbClose_cases s with e | e <;> rw [e]
    · exact h
    · exact h.of_same (fun _ hg => hg) (fun _ e => nomatch e)
  | newAofWriter off =>
    -- the live segment is closed, the new one starts at `off`
    have hc := h.closeLive
    refine ⟨fun g hg => ?_, hc.2⟩
    simp only [Disk.step, Disk.all, Option.toList_some, List.mem_append, List.mem_singleton] at hg
    rcases hg with h1 | rfl
    · exact hc.1 g (List.mem_append_left _ h1)
    · exact hp
  | aofAppend chunk =>
    rw [aofAppend_step]
    unfold Disk.appendLive
    cases hl : s.live with
    | none => exact h
    | some g =>
      -- the appended segment keeps its offset; after a rotation the new one starts behind it
      have hg : 0 < g.left := h.1 g (by unfold Disk.all; rw [hl]; simp)
      have hs : ∀ x ∈ s.segs, 0 < x.left := fun x hx => h.1 x (List.mem_append_left _ hx)
      dsimp only
      by_cases hrot : 16 + (g.data ++ chunk).length > s.logSize
      · rw [if_pos hrot]
        refine ⟨fun x hx => ?_, h.2⟩
        simp only [Disk.all, Option.toList_some, List.mem_append, List.mem_singleton] at hx
        rcases hx with (h1 | rfl) | rfl
        · exact hs x h1
        · exact hg
        · exact Nat.lt_of_lt_of_le hg (Nat.le_add_right _ _)
      · rw [if_neg hrot]
        refine ⟨fun x hx => ?_, h.2⟩
        simp only [Disk.all, Option.toList_some, List.mem_append, List.mem_singleton] at hx
        rcases hx with h1 | rfl
        · exact hs x h1
        · exact hg
  | aofClose => exact h.closeLive
  | gc => exact h.of_same (gc_all_subset s) (fun r' e => by
      rcases (gc_ghost s).2.2.2.2.2 with e1 | e0
      · exact ⟨r', e1 ▸ e, rfl⟩
      · exact nomatch e0 ▸ e)
  | _ => exact absurd rfl hr

/-! ### the current id only changes through the run-id operations -/

theorem closeLive_runId (s : Disk) : s.closeLive.runId = s.runId := by
  unfold Disk.closeLive
  cases s.live with
  | none => rfl
  | some g => dsimp only; split <;> rfl

theorem appendLive_runId (s : Disk) (chunk : Bytes) : (s.appendLive chunk).1.runId = s.runId := by
  unfold Disk.appendLive
  cases s.live with
  | none => rfl
  | some g => dsimp only; split <;> rfl

theorem step_runId (s : Disk) (o : DOp) (h1 : ∀ id, o ≠ .setRunId id) (h2 : o ≠ .delRunId) :
    (s.step o).1.runId = s.runId := by
  by_cases hr : o.isReaderOp = true
  · obtain ⟨_, e⟩ := readerOp_eq s hr
    rw [e]
  cases o with
  | setRunId id => exact absurd rfl (h1 id)
  | delRunId => exact absurd rfl h2
  | newRdbWriter off size => rfl
  | rdbAppend chunk => obtain ⟨_, e, _⟩ := rdbAppend_eq s chunk; rw [e]
  | rdbClose => rcases rdbClose_cases s with e | e <;> rw [e]
  | newAofWriter off => exact closeLive_runId s
  | aofAppend chunk => rw [aofAppend_step]; exact appendLive_runId s chunk
  | aofClose => exact closeLive_runId s
  | gc => exact (gc_ghost s).2.2.2.1
  | _ => exact absurd rfl hr

/-- no directory is filed under a placeholder id or under the current id -/
structure KeysInv (x : DiskD) : Prop where
  cur : x.cur.runId ≠ "?"
  keys : ∀ e ∈ x.dirs, e.1 ≠ "" ∧ e.1 ≠ "?" ∧ e.1 ≠ x.cur.runId

theorem KeysInv.init (l m : Nat) : KeysInv (DiskD.init l m) :=
  ⟨(by decide : "" ≠ "?"), fun _ he => nomatch he⟩

theorem dirLookup_none_iff {dirs : List (String × Disk)} {id : String} :
    dirLookup dirs id = none ↔ ∀ e ∈ dirs, e.1 ≠ id := by
  unfold dirLookup
  rw [Option.map_eq_none_iff, List.find?_eq_none]
  exact forall₂_congr fun e _ => by simp

theorem parkCur_keys {x : DiskD} (h : KeysInv x) : ∀ e ∈ x.parkCur, e.1 ≠ "" ∧ e.1 ≠ "?" :=
  parkCur_forall (fun e he => ⟨(h.keys e he).1, (h.keys e he).2.1⟩) (fun hne => ⟨hne, h.cur⟩)

theorem loaded_runId (img : Disk) (id : String) (rs : List DReader) : (img.loaded id rs).runId = id := rfl

theorem KeysInv.setRunId {x : DiskD} (h : KeysInv x) (new : String) : KeysInv (x.setRunId new) := by
  rcases setRunId_cases x new with ⟨_, e⟩ | ⟨_, h1, _, ⟨img, _, e⟩ | ⟨hl, ⟨_, e⟩ | ⟨_, e⟩⟩⟩ <;> rw [e]
  · exact h
  · exact ⟨h1, fun d hd => ⟨(parkCur_keys h d (dirErase_mem hd)).1, (parkCur_keys h d (dirErase_mem hd)).2,
      (by simpa using (List.mem_filter.mp hd).2 : d.1 ≠ new)⟩⟩
  all_goals exact ⟨h1, fun d hd => ⟨(h.keys d hd).1, (h.keys d hd).2.1, dirLookup_none_iff.mp hl d hd⟩⟩

theorem KeysInv.delRunId {x : DiskD} (h : KeysInv x) (id : String) : KeysInv (x.delRunId id) := by
  rcases delRunId_cases x id with ⟨_, e⟩ | ⟨_, _, ⟨_, e⟩ | ⟨_, _, e⟩⟩ <;> rw [e]
  · exact h
  · exact ⟨(by decide : "" ≠ "?"), fun d hd => ⟨(h.keys d hd).1, (h.keys d hd).2.1, (h.keys d hd).1⟩⟩
  · exact ⟨(by decide : "" ≠ "?"), fun d hd =>
      have hk := parkCur_keys h d (dirErase_mem hd)
      ⟨hk.1, hk.2, hk.1⟩⟩

theorem KeysInv.verifyRunId (ids : List String) {x : DiskD} (h : KeysInv x) : KeysInv (x.verifyRunId ids).1 :=
  verifyRunId_ind (fun _ id h => h.setRunId id) ids h

theorem KeysInv.restart {x : DiskD} (h : KeysInv x) : KeysInv x.restart :=
  ⟨(by decide : "" ≠ "?"), fun d hd => ⟨(parkCur_keys h d hd).1, (parkCur_keys h d hd).2, (parkCur_keys h d hd).1⟩⟩

theorem KeysInv.step {x : DiskD} (h : KeysInv x) (op : XOp) : KeysInv (x.step op).1 := by
  refine XOp.byKind (P := fun op => KeysInv (x.step op).1) h.setRunId h.setRunId h.delRunId (h.delRunId _)
    (fun ids => h.verifyRunId ids) h.restart (fun o h1 h2 => ?_) op
  rw [step_base x h1 h2]
  have e : (x.cur.step o).1.runId = x.cur.runId := step_runId x.cur o h1 h2
  exact ⟨e ▸ h.cur, fun d hd => ⟨(h.keys d hd).1, (h.keys d hd).2.1, e ▸ (h.keys d hd).2.2⟩⟩

structure PosD (x : DiskD) : Prop where
  cur : Pos x.cur
  parked : ∀ e ∈ x.dirs, Pos e.2

theorem PosD.init (l m : Nat) : PosD (DiskD.init l m) :=
  ⟨Pos.empty rfl rfl, fun _ he => nomatch he⟩

theorem Pos.parked {s : Disk} (h : Pos s) : Pos s.parked :=
  h.closeAllForSwitch

theorem Pos.loaded {img : Disk} (hi : DInv img) (hw : img.noWriter) (h : Pos img) (id : String) (rs : List DReader)
    (hc : ∀ r ∈ rs, r.isOpen = false) (hn : (rs.map (·.id)).Nodup) : Pos (img.loaded id rs) := by
  rw [loaded_eq hi hw]
  exact h

theorem PosD.parkCur {x : DiskD} (h : PosD x) : ∀ e ∈ x.parkCur, Pos e.2 :=
  parkCur_forall h.parked (fun _ => h.cur.parked)

theorem PosD.setRunId {x : DiskD} (hd : DInvD x) (h : PosD x) (new : String) : PosD (x.setRunId new) := by
  rcases setRunId_cases x new with ⟨_, e⟩ | ⟨_, _, _, ⟨img, hl, e⟩ | ⟨_, ⟨_, e⟩ | ⟨_, e⟩⟩⟩ <;> rw [e]
  · exact h
  · obtain ⟨hi, hw, _⟩ := hd.parked _ (dirLookup_mem hl)
    exact ⟨(h.parked _ (dirLookup_mem hl)).loaded hi hw new _ (closeAllReaders_closed _)
      (closeAllReaders_ids _ hd.cur.ids), fun e he => h.parkCur e (dirErase_mem he)⟩
  · exact ⟨Pos.reset x.cur, h.parked⟩
  · refine ⟨?_, h.parked⟩
    show Pos { x.cur.closeAllForSwitch.rescan with runId := new }
    rw [rescan_closeAllForSwitch hd.cur]
    exact h.cur.closeAllForSwitch

theorem PosD.delRunId {x : DiskD} (h : PosD x) (id : String) : PosD (x.delRunId id) := by
  rcases delRunId_cases x id with ⟨_, e⟩ | ⟨_, _, ⟨_, e⟩ | ⟨_, _, e⟩⟩ <;> rw [e]
  · exact h
  · exact ⟨Pos.reset x.cur, h.parked⟩
  · exact ⟨Pos.reset x.cur, fun e he => h.parkCur e (dirErase_mem he)⟩

theorem PosD.verifyRunId (ids : List String) {x : DiskD} (hd : DInvD x) (h : PosD x) : PosD (x.verifyRunId ids).1 :=
  (verifyRunId_ind (P := fun x => DInvD x ∧ PosD x) (fun _ id h => ⟨h.1.setRunId id, h.2.setRunId h.1 id⟩) ids ⟨hd, h⟩).2

/-- every writer is created at a positive offset -/
def PosXOp : XOp → Prop
  | .base o => PosOp o
  | _ => True

theorem PosD.step {x : DiskD} (hd : DInvD x) (h : PosD x) (op : XOp) (hp : PosXOp op) : PosD (x.step op).1 := by
  revert hp
  refine XOp.byKind (P := fun op => PosXOp op → PosD (x.step op).1) (fun id _ => h.setRunId hd id)
    (fun id _ => h.setRunId hd id) (fun id _ => h.delRunId id) (fun _ => h.delRunId _)
    (fun ids _ => h.verifyRunId ids hd) (fun _ => ⟨Pos.empty rfl rfl, h.parkCur⟩) (fun o h1 h2 hp => ?_) op
  rw [step_base x h1 h2]
  exact ⟨h.cur.step hd.cur o hp, h.parked⟩

/-! ### `VerifyRunId`: the first id of the list is current afterwards, or has no directory -/

theorem setRunId_cur (x : DiskD) (new : String) (h0 : new ≠ "") (h1 : new ≠ "?") : (x.setRunId new).cur.runId = new := by
  rcases setRunId_cases x new with ⟨hc, e⟩ | ⟨_, _, _, ⟨img, _, e⟩ | ⟨_, ⟨_, e⟩ | ⟨_, e⟩⟩⟩ <;> rw [e]
  · exact ((hc.resolve_left h0).resolve_left h1).symm
  all_goals rfl

theorem setRunId_live (x : DiskD) (new : String) : (x.setRunId new).cur = x.cur ∨ (x.setRunId new).cur.live = none := by
  rcases setRunId_cases x new with ⟨_, e⟩ | ⟨_, _, _, ⟨img, _, e⟩ | ⟨_, ⟨_, e⟩ | ⟨_, e⟩⟩⟩ <;> rw [e]
  · exact Or.inl rfl
  · right; simp [Disk.loaded, Disk.rescan]
  · exact Or.inr rfl
  · right; simp [Disk.rescan]

theorem verify_live (ids : List String) {x : DiskD} (h : x.cur.live = none) : (x.verifyRunId ids).1.cur.live = none :=
  verifyRunId_ind (P := fun x => x.cur.live = none)
    (fun x id h => (setRunId_live x id).elim (fun e => e ▸ h) (fun e => e)) ids h

/-- `rid` is nowhere: neither current nor a directory -/
def Nowhere (rid : String) (x : DiskD) : Prop := dirLookup x.dirs rid = none ∧ x.cur.runId ≠ rid

theorem nowhere_setRunId {rid : String} {x : DiskD} (h : Nowhere rid x) (id : String) (hne : id ≠ rid) :
    Nowhere rid (x.setRunId id) := by
  obtain ⟨hl, hc⟩ := h
  have hpark : ∀ e ∈ x.parkCur, e.1 ≠ rid := parkCur_forall (dirLookup_none_iff.mp hl) (fun _ => hc)
  rcases setRunId_cases x id with ⟨_, e⟩ | ⟨_, _, _, ⟨img, _, e⟩ | ⟨_, ⟨_, e⟩ | ⟨_, e⟩⟩⟩ <;> rw [e]
  · exact ⟨hl, hc⟩
  · exact ⟨dirLookup_none_iff.mpr (fun e he => hpark e (dirErase_mem he)), hne⟩
  all_goals exact ⟨hl, hne⟩

/-- the id `h` the run is going to set: current already, or without a directory -/
def HeadFree (h : String) (x : DiskD) : Prop := h = x.cur.runId ∨ dirLookup x.dirs h = none

theorem verify_free {rid : String} : ∀ (rest : List String) {x : DiskD}, DInvD x → PosD x → Nowhere rid x →
    HeadFree rid (x.verifyRunId rest).1 := by
  intro rest
  induction rest with
  | nil => intro x _ _ h; exact Or.inr h.1
  | cons id t ih =>
    intro x hd hp h
    unfold DiskD.verifyRunId
    by_cases h1 : id = "" ∨ id = "?"
    · rw [if_pos h1]; exact ih hd hp h
    rw [if_neg h1]
    by_cases hex : (!x.exists id) = true
    · rw [if_pos hex]; exact ih hd hp h
    rw [if_neg hex]
    -- `id` has a directory, `rid` has none: they differ; the switch to `id` is final
    have hne : id ≠ rid := by
      rintro rfl
      apply hex
      have : (id != "" && id == x.cur.runId) = false := by
        simp only [Bool.and_eq_false_imp, bne_iff_ne, beq_eq_false_iff_ne]
        exact fun _ e => h.2 e.symm
      simp [DiskD.exists, this, h.1]
    dsimp only
    rw [if_neg (hp.setRunId hd id).cur.latest_ne_zero]
    exact Or.inr (nowhere_setRunId h id hne).1

theorem verify_head_free (rid : String) (rest : List String) {x : DiskD} (hd : DInvD x) (hk : KeysInv x) (hp : PosD x) :
    HeadFree rid (x.verifyRunId (rid :: rest)).1 := by
  by_cases hph : rid = "" ∨ rid = "?"
  · -- a placeholder is never the key of a directory
    have hk' := hk.verifyRunId (rid :: rest)
    refine Or.inr (dirLookup_none_iff.mpr fun e he => ?_)
    rcases hph with r | r <;> rw [r]
    · exact (hk'.keys e he).1
    · exact (hk'.keys e he).2.1
  · have h0 : rid ≠ "" := fun e => hph (Or.inl e)
    have h1 : rid ≠ "?" := fun e => hph (Or.inr e)
    unfold DiskD.verifyRunId
    rw [if_neg hph]
    by_cases hex : (!x.exists rid) = true
    · rw [if_pos hex]
      -- no directory of `rid`
      refine verify_free rest hd hp ?_
      unfold DiskD.exists at hex
      simp only [Bool.not_eq_true', Bool.or_eq_false_iff, Bool.and_eq_false_imp, bne_iff_ne, beq_eq_false_iff_ne] at hex
      refine ⟨?_, fun e => hex.1 h0 e.symm⟩
      cases hl : dirLookup x.dirs rid with
      | none => rfl
      | some d => rw [hl] at hex; simp at hex
    · rw [if_neg hex]
      dsimp only
      rw [if_neg (hp.setRunId hd rid).cur.latest_ne_zero]
      exact Or.inl (setRunId_cur x rid h0 h1).symm

inductive COpD where
  | ask (ids : List String)      -- `StoreChannel.StartPoint(ids)`: `VerifyRunId(ids)` (nothing for an empty list), then the answer
  | op (o : XOp)
deriving Repr, DecidableEq

/-- what the run knows about the current index, and the id it asked for first (the one
    it will pass to `SetRunId`: `sOffset.RunId = id1`, `leaderSp.RunId`) -/
structure CStD where
  k : CSt
  head : String
deriving Repr, DecidableEq

def DiskD.askD (x : DiskD) (ids : List String) : DiskD := if ids = [] then x else (x.verifyRunId ids).1

def callerAllowsD (c : CStD) (x : DiskD) : XOp → Prop
  | .base (.newAofWriter off) => x.cur.runId ≠ "" ∧ (c.k = .asked off ∨ c.k = .cleared)
  | o => x.okOp o

instance (c : CStD) (x : DiskD) (op : XOp) : Decidable (callerAllowsD c x op) := by
  cases op with
  | base o => cases o <;> simp only [callerAllowsD] <;> infer_instance
  | setRunId id => simp only [callerAllowsD]; infer_instance
  | delRunId id => simp only [callerAllowsD]; infer_instance
  | verifyRunId ids => simp only [callerAllowsD]; infer_instance
  | restart => simp only [callerAllowsD]; infer_instance

instance (op : XOp) : Decidable (PosXOp op) := by
  cases op with
  | base o => cases o <;> simp only [PosXOp, PosOp] <;> infer_instance
  | setRunId id => exact isTrue trivial
  | delRunId id => exact isTrue trivial
  | verifyRunId ids => exact isTrue trivial
  | restart => exact isTrue trivial

def setNext (c : CStD) (x : DiskD) (id : String) : CStD :=
  if id = "" ∨ id = "?" ∨ id = x.cur.runId ∨ id = c.head then c else ⟨.none, ""⟩

def delNext (c : CStD) (x : DiskD) (id : String) : CStD :=
  if id = x.cur.runId then ⟨if x.cur.runId = "" then c.k else .cleared, c.head⟩ else ⟨.none, ""⟩

def callerNextD (c : CStD) (x : DiskD) : XOp → CStD
  | .base (.setRunId id) => setNext c x id
  | .setRunId id => setNext c x id
  | .base .delRunId => delNext c x x.cur.runId
  | .delRunId id => delNext c x id
  | .base o => ⟨callerNext c.k x.cur o, c.head⟩
  | .verifyRunId _ => ⟨.none, ""⟩
  | .restart => ⟨.none, ""⟩

def callerOkD : CStD → DiskD → List COpD → Prop
  | _, _, [] => True
  | _, x, .ask ids :: rest =>
    x.cur.noWriter ∧ callerOkD ⟨askAnswer (x.askD ids).cur, ids.head?.getD ""⟩ (x.askD ids) rest
  | c, x, .op o :: rest => callerAllowsD c x o ∧ PosXOp o ∧ callerOkD (callerNextD c x o) (x.step o).1 rest

instance callerOkD.dec : (c : CStD) → (x : DiskD) → (cops : List COpD) → Decidable (callerOkD c x cops)
  | _, _, [] => isTrue trivial
  | _, x, .ask ids :: rest =>
    have := callerOkD.dec ⟨askAnswer (x.askD ids).cur, ids.head?.getD ""⟩ (x.askD ids) rest
    inferInstanceAs (Decidable (x.cur.noWriter ∧ callerOkD _ (x.askD ids) rest))
  | c, x, .op o :: rest =>
    have := callerOkD.dec (callerNextD c x o) (x.step o).1 rest
    inferInstanceAs (Decidable (callerAllowsD c x o ∧ PosXOp o ∧ callerOkD _ (x.step o).1 rest))

def COpD.erase : List COpD → List XOp
  | [] => []
  | .ask ids :: rest => if ids = [] then COpD.erase rest else .verifyRunId ids :: COpD.erase rest
  | .op o :: rest => o :: COpD.erase rest

structure KnowsD (c : CStD) (x : DiskD) : Prop where
  k : Knows c.k x.cur
  head : HeadFree c.head x

theorem headFree_empty {x : DiskD} (hk : KeysInv x) : HeadFree "" x :=
  Or.inr (dirLookup_none_iff.mpr (fun e he => (hk.keys e he).1))

theorem knows_cleared_of_reset (s : Disk) (id : String) (k : CSt) : Knows k ({ s.reset with runId := id } : Disk) := by
  cases k with
  | none => trivial
  | asked q => exact Continues.empty q rfl rfl rfl
  | cleared => exact fun q => Continues.empty q rfl rfl rfl

theorem knowsD_setRunId {c : CStD} {x : DiskD} (hd : DInvD x) (hk : KeysInv x) (h : KnowsD c x) (id : String) :
    KnowsD (setNext c x id) (x.setRunId id) := by
  unfold setNext
  rcases setRunId_cases x id with ⟨hc, e⟩ | ⟨h0, h1, h2, hcase⟩
  · rw [e, if_pos (hc.imp_right (Or.imp_right Or.inl))]
    exact h
  by_cases h3 : id = c.head
  · rw [if_pos (Or.inr (Or.inr (Or.inr h3)))]
    -- the id the run asked for first: it has no directory, so the index is fresh or relabelled
    have hl : dirLookup x.dirs id = none := by
      rw [h3]; exact h.head.resolve_left (fun e => h2 (h3.trans e))
    refine ⟨?_, Or.inl (h3 ▸ (setRunId_cur x id h0 h1).symm)⟩
    rcases hcase with ⟨img, hi, _⟩ | ⟨_, ⟨_, e⟩ | ⟨hr, e⟩⟩
    · rw [hl] at hi; cases hi
    · rw [e]; exact knows_cleared_of_reset _ _ _
    · have es : (x.cur.step (.setRunId id)).1 = { x.cur.closeAllForSwitch.rescan with runId := id } := by
        simp only [Disk.step, hr, h2, if_false]
      rw [e, ← es]
      exact knows_step hd.cur h.k (.setRunId id)
  · rw [if_neg (fun e => e.elim h0 (fun e => e.elim h1 (fun e => e.elim h2 h3)))]
    exact ⟨trivial, headFree_empty (hk.setRunId id)⟩

theorem knowsD_delRunId {c : CStD} {x : DiskD} (hk : KeysInv x) (h : KnowsD c x) (id : String) :
    KnowsD (delNext c x id) (x.delRunId id) := by
  unfold delNext
  by_cases he : id = x.cur.runId
  · rw [if_pos he]
    rcases delRunId_cases x id with ⟨hc, e⟩ | ⟨h0, _, ⟨_, e⟩ | ⟨hne, _⟩⟩
    · -- no current id: nothing happens
      have hr : x.cur.runId = "" := by
        rcases hc with e' | e' | e'
        · exact he ▸ e'
        · exact absurd (he ▸ e') hk.cur
        · exact absurd he e'.1
      rw [e, if_pos hr]
      exact ⟨h.k, h.head⟩
    · rw [e, if_neg (he ▸ h0)]
      refine ⟨knows_cleared_of_reset _ _ .cleared, Or.inr ?_⟩
      show dirLookup x.dirs c.head = none
      rcases h.head with e | e
      · rw [e]; exact dirLookup_none_iff.mpr (fun d hd => (hk.keys d hd).2.2)
      · exact e
    · exact absurd he hne
  · rw [if_neg he]
    exact ⟨trivial, headFree_empty (hk.delRunId id)⟩

theorem knowsD_step {c : CStD} {x : DiskD} (hd : DInvD x) (hk : KeysInv x) (h : KnowsD c x) (op : XOp) :
    KnowsD (callerNextD c x op) (x.step op).1 := by
  refine XOp.byKind (P := fun op => KnowsD (callerNextD c x op) (x.step op).1) (knowsD_setRunId hd hk h)
    (knowsD_setRunId hd hk h) (knowsD_delRunId hk h) (knowsD_delRunId hk h _)
    (fun ids => ⟨trivial, headFree_empty (hk.verifyRunId ids)⟩) ⟨trivial, headFree_empty hk.restart⟩
    (fun o h1 h2 => ?_) op
  have en : callerNextD c x (.base o) = ⟨callerNext c.k x.cur o, c.head⟩ := by
    cases o with
    | setRunId id => exact absurd rfl (h1 id)
    | delRunId => exact absurd rfl h2
    | _ => rfl
  rw [step_base x h1 h2, en]
  exact ⟨knows_step hd.cur h.k o, h.head.imp_left (fun e => e.trans (step_runId x.cur o h1 h2).symm)⟩

theorem knowsD_ask {x : DiskD} (hd : DInvD x) (hk : KeysInv x) (hp : PosD x) (hw : x.cur.noWriter) (ids : List String) :
    KnowsD ⟨askAnswer (x.askD ids).cur, ids.head?.getD ""⟩ (x.askD ids) := by
  have hl : x.cur.live = none := ((noWriter_iff x.cur).mp hw).1
  unfold DiskD.askD
  cases ids with
  | nil => exact ⟨knows_ask hl, headFree_empty hk⟩
  | cons rid rest => exact ⟨knows_ask (verify_live _ hl), verify_head_free rid rest hd hk hp⟩

theorem callerAllowsD_okOp {c : CStD} {x : DiskD} (h : KnowsD c x) (op : XOp) (ha : callerAllowsD c x op) : x.okOp op := by
  cases op with
  | base o =>
    cases o with
    | newAofWriter off =>
      refine ⟨ha.1, ?_⟩
      have hk := h.k
      rcases ha.2 with e | e <;> rw [e] at hk
      · exact continues_okOp hk
      · exact continues_okOp (hk off)
    | _ => exact ha
  | _ => exact ha

/-- **the callers' runs respect the protocol, several directories.** -/
theorem callerD_wf : ∀ (cops : List COpD) (c : CStD) (x : DiskD), DInvD x → KeysInv x → PosD x → KnowsD c x →
    callerOkD c x cops → x.wf (COpD.erase cops) := by
  intro cops
  induction cops with
  | nil => intro c x _ _ _ _ _; trivial
  | cons a rest ih =>
    intro c x hd hk hp hkn hok
    cases a with
    | ask ids =>
      obtain ⟨hw, hrest⟩ := hok
      have hkn' := knowsD_ask hd hk hp hw ids
      simp only [COpD.erase]
      by_cases he : ids = []
      · simp only [he, if_true]
        have : x.askD ids = x := by unfold DiskD.askD; simp [he]
        rw [this] at hkn' hrest
        exact ih _ x hd hk hp hkn' hrest
      · simp only [he, if_false]
        have : x.askD ids = (x.step (.verifyRunId ids)).1 := by unfold DiskD.askD; simp [he, DiskD.step]
        rw [this] at hkn' hrest
        have hokv : x.okOp (.verifyRunId ids) := Or.inl hw
        exact ⟨hokv, ih _ _ (hd.step _ hokv) (hk.step _) (hp.step hd _ trivial) hkn' hrest⟩
    | op o =>
      obtain ⟨ha, hpo, hrest⟩ := hok
      have hko := callerAllowsD_okOp hkn o ha
      exact ⟨hko, ih _ _ (hd.step o hko) (hk.step o) (hp.step hd o hpo) (knowsD_step hd hk hkn o) hrest⟩

end GunYu.Store
