/-
  C02 (transactional mode): every batch that carries data is ONE MULTI/EXEC
  block whose last keyed request is a checkpoint write. Together with the wire
  order (SenderWire) and "crash = whole batches" this gives: whatever a crashed
  target has executed is covered by a checkpoint write it has executed too.
-/
import GunYu.Proofs.Crash

namespace GunYu.Sender
open GunYu.Target

/-- a batch of transactional+resumable mode: no data, or one block ending
    (before EXEC) with the checkpoint write -/
def TxnShape (b : Batch) : Prop :=
  dataB b = [] ∨
  ((∃ body, (∀ r ∈ body, Plain r = true) ∧ b = [Req.multi] ++ body ++ [Req.exec]) ∧
    (∃ K o, keysB b = K ++ [2 * o + 1]))

def AllShape (out : List Batch) : Prop := ∀ b ∈ out, TxnShape b

theorem allShape_nil : AllShape [] := by intro b hb; cases hb
theorem allShape_append {a b : List Batch} (ha : AllShape a) (hb : AllShape b) : AllShape (a ++ b) := by
  intro x hx; rcases List.mem_append.mp hx with h | h
  · exact ha x h
  · exact hb x h

theorem qd_nil_iff (s : SState) : qd s = [] ↔ qkeys s.queue = [] := by
  unfold qd qkeys
  induction s.queue with
  | nil => simp
  | cons i q ih =>
    simp only [List.filterMap_cons, itemCmd]
    by_cases hp : i.cmd = bPing <;> simp [hp, ih]

/-- one flush in transactional+resumable mode -/
theorem sendOnce_shape (c : SCfg) (hres : c.resume = true) (s : SState) (tb up : Bool) (off : Int)
    (h : (tb = true ∧ up = true ∧ (qkeys s.queue ≠ [] → 0 ≤ off)) ∨ qkeys s.queue = []) :
    AllShape (optToList (sendOnce c s tb up off).2) := by
  rcases sendOnce_cases c s tb up off with ⟨_, h'⟩ | h' <;> rw [h']
  · exact allShape_nil
  · intro b hb
    cases List.mem_singleton.mp hb
    by_cases hq : qkeys s.queue = []
    · left; rw [dataB_sendReqs]; exact (qd_nil_iff s).mpr hq
    · rcases h with ⟨htb, hup, hoff⟩ | hq'
      · right
        subst htb; subst hup
        have h0 : 0 ≤ off := hoff hq
        have hu : (true && decide (0 ≤ off) && c.resume) = true := by simp [h0, hres]
        refine ⟨⟨sendBody c s (true && decide (0 ≤ off)) off, plain_sendBody _ _ _ _, ?_⟩,
          qkeys s.queue, off, ?_⟩
        · rw [sendReqs_eq]; simp
        · rw [keysB_sendReqs]; simp only [hu, ↓reduceIte]
      · exact absurd hq' hq

theorem tail_shape (c : SCfg) (hres : c.resume = true) (s : SState) (tb up : Bool) (out : List Batch)
    (h : (tb = true ∧ up = true ∧ (qkeys s.queue ≠ [] → 0 ≤ s.lastOffset)) ∨ qkeys s.queue = [])
    (hout : AllShape out) : AllShape (tail c s tb up out).2 := by
  rw [tail_eq]
  split
  · exact allShape_append hout (sendOnce_shape c hres s tb up _ h)
  · exact hout

/-- the loop state invariant needed: nothing keyed is queued before the first
    item arrived (`lastOffset` still negative) -/
def I0 (s : SState) : Prop := qkeys s.queue = [] ∨ 0 ≤ s.lastOffset

theorem tail_queue (c : SCfg) (s : SState) (tb up : Bool) (out : List Batch) :
    (tail c s tb up out).1.queue = s.queue ∨ (tail c s tb up out).1.queue = [] := by
  rw [tail_eq]
  split
  · exact .inr (sendOnce_queue_nil ..)
  · exact .inl rfl

theorem tail_I0 (c : SCfg) (s : SState) (tb up : Bool) (out : List Batch) (h : I0 s) :
    I0 (tail c s tb up out).1 := by
  rcases tail_queue c s tb up out with hq | hq
  · rcases h with h1 | h1
    · exact .inl (by rw [hq]; exact h1)
    · exact .inr (by rw [(tail_cp c s tb up out).1]; exact h1)
  · exact .inl (by rw [hq]; rfl)

/-- nonnegative item offsets -/
def NonNeg : List Ev → Prop
  | [] => True
  | .item it :: rest => 0 ≤ it.offset ∧ NonNeg rest
  | _ :: rest => NonNeg rest

theorem stepItemTxn_shape (c : SCfg) (hc : c.txnMode = true) (hres : c.resume = true) (s : SState)
    (t : Txn) (nf : Bool) (it : Item) (prev : Int) (h0 : 0 ≤ s.lastOffset)
    (hprev : qkeys s.queue ≠ [] → 0 ≤ prev) : AllShape (stepItemTxn c s t nf it prev).2 := by
  have hup : (c.resume && c.txnMode) = true := by simp [hc, hres]
  have hpf : AllShape (preFlush c s t nf prev).2 := by
    unfold preFlush
    split
    · refine sendOnce_shape c hres s _ _ _ (.inl ⟨hc, hup, fun hne => ?_⟩)
      split
      · exact h0
      · exact hprev hne
    · exact allShape_nil
  have hl : (absorb (preFlush c s t nf prev).1 t it).lastOffset = s.lastOffset := by
    rw [absorb_last, (preFlush_cp ..).1]
  exact tail_shape c hres _ _ _ _ (.inl ⟨hc, hup, fun _ => by rw [hl]; exact h0⟩) hpf

theorem tick_shape_txn (c : SCfg) (hc : c.txnMode = true) (hres : c.resume = true) (s : SState)
    (hI : I0 s) (ev : Ev) (hev : ∀ it, ev ≠ .item it) :
    AllShape (step c s ev).2 ∧ I0 (step c s ev).1 := by
  rcases step_tick c s ev hev with ⟨nf, up, hu, h⟩ | ⟨-, h⟩ <;> rw [h]
  · have hup : up = true := by rcases hu with rfl | rfl <;> simp [hc, hres]
    refine ⟨tail_shape c hres _ _ _ [] ?_ allShape_nil, tail_I0 c _ _ _ _ hI⟩
    rcases hI with h1 | h1
    · exact .inr h1
    · exact .inl ⟨hc, hup, fun _ => h1⟩
  · have hping : qkeys [pingItem s.lastOffset] = [] := rfl
    exact ⟨tail_shape c hres _ _ _ [] (.inr hping) allShape_nil, tail_I0 c _ _ _ _ (.inl hping)⟩

theorem step_shape_txn (c : SCfg) (hc : c.txnMode = true) (hres : c.resume = true) (s : SState)
    (hI : I0 s) (ev : Ev) (hnn : ∀ it, ev = .item it → 0 ≤ it.offset) :
    AllShape (step c s ev).2 ∧ I0 (step c s ev).1 := by
  cases ev with
  | item it =>
    have h0 := hnn it rfl
    simp only [step]
    split
    · exact ⟨allShape_nil, .inr h0⟩
    · have hl := (stepItem_cp c { s with lastOffset := it.offset } it s.lastOffset).1
      refine ⟨?_, .inr (by rw [hl]; exact h0)⟩
      unfold stepItem
      simp only [hc, ↓reduceIte]
      exact stepItemTxn_shape c hc hres _ _ _ it _ h0 (fun hne => hI.resolve_left hne)
  | _ => exact tick_shape_txn c hc hres s hI _ nofun

theorem run_shape_txn (c : SCfg) (hc : c.txnMode = true) (hres : c.resume = true) (s : SState)
    (hI : I0 s) (evs : List Ev) (hnn : NonNeg evs) : AllShape (run c s evs).2 := by
  induction evs generalizing s with
  | nil => exact allShape_nil
  | cons ev rest ih =>
    have hev : ∀ it, ev = .item it → 0 ≤ it.offset := by
      intro it h; subst h; exact hnn.1
    have hrest : NonNeg rest := by cases ev <;> first | exact hnn.2 | exact hnn
    obtain ⟨h1, h2⟩ := step_shape_txn c hc hres s hI ev hev
    simp only [run]
    split
    · exact h1
    · exact allShape_append h1 (ih _ h2 hrest)

end GunYu.Sender
