/-
  Helper lemmas for C18: when `buildUnit` succeeds (any mode, through equations for its
  two loops; then cluster and standalone mode), the slots of the control keys, and that
  the builder looks at the resolver on its own commands only.
-/
import GunYu.Model.BisyncUnit
import GunYu.Proofs.BisyncTags
import GunYu.Proofs.FilterKeys
import GunYu.Props.C11

namespace GunYu.BisyncUnit
open GunYu GunYu.Slot

/-! ### vocabulary -/

/-- the keys the resolver names for one command (none when it fails) -/
def resolvedKeys (r : Resolver) (c : Cmd) : List Bytes :=
  match r c.name c.args with
  | .ok ks => ks
  | _ => []

/-- all business keys of a command list -/
def allKeys (r : Resolver) (cmds : List Cmd) : List Bytes := cmds.flatMap (resolvedKeys r)

/-- the resolver determines at least one key -/
def Routable (r : Resolver) (c : Cmd) : Prop := ∃ ks, r c.name c.args = .ok ks ∧ ks ≠ []

theorem unitKeys_eq (r : Resolver) (u : RUnit) : unitKeys r u = allKeys r u.cmds := rfl

theorem resolvedKeys_of_ok {r : Resolver} {c : Cmd} {ks : List Bytes} (h : r c.name c.args = .ok ks) :
    resolvedKeys r c = ks := by
  unfold resolvedKeys; rw [h]

theorem allKeys_cons (r : Resolver) (c : Cmd) (cs : List Cmd) :
    allKeys r (c :: cs) = resolvedKeys r c ++ allKeys r cs := List.flatMap_cons

/-- the range and emptiness tests of `commandKeys` never fire: `keyIndexes` answers with a
    non-empty list of argument positions -/
theorem commandKeys_eq (name : Bytes) (args : List Bytes) :
    commandKeys name args = (Filter.keyIndexes name args).map (·.map (args.getD · [])) := by
  unfold commandKeys
  cases hk : Filter.keyIndexes name args with
  | none => rfl
  | some idx =>
    obtain ⟨hne, hlt⟩ := Filter.keyIndexes_inRange hk
    show (if idx.isEmpty then none else if idx.any (fun i => i ≥ args.length) then none else _) = _
    rw [if_neg (by simpa using hne), if_neg (by simpa using hlt)]
    rfl

/-! ### the loops -/

theorem keysLoop_cluster_cons (idx : Nat) (k : Bytes) (ks : List Bytes) (s seen : Nat) :
    keysLoop clusterMode idx (k :: ks) (s, true, seen) =
      if keyToSlot k != s then .error .crossSlot
      else keysLoop clusterMode (idx + 1) ks (s, true, seen + 1) := by
  rw [keysLoop]; rfl

theorem cmdsLoop_cons_ok_iff (m : SlotMode) (r : Resolver) (c : Cmd) (cs : List Cmd) (st st₂ : LoopSt) :
    cmdsLoop m r (c :: cs) st = .ok st₂ ↔
      ∃ ks, r c.name c.args = .ok ks ∧ ks ≠ [] ∧
        ∃ st₁, keysLoop m 0 ks st = .ok st₁ ∧ cmdsLoop m r cs st₁ = .ok st₂ := by
  rw [cmdsLoop]
  cases r c.name c.args with
  | err => exact ⟨nofun, fun ⟨_, h, _⟩ => nomatch h⟩
  | notOk => exact ⟨nofun, fun ⟨_, h, _⟩ => nomatch h⟩
  | ok ks =>
    cases ks with
    | nil => exact ⟨nofun, fun ⟨_, h, hne, _⟩ => absurd (Res.ok.inj h).symm hne⟩
    | cons k ks =>
      show (match keysLoop m 0 (k :: ks) st with
        | Except.error e => Except.error e
        | Except.ok st' => cmdsLoop m r cs st') = _ ↔ _
      constructor
      · intro h
        cases hk : keysLoop m 0 (k :: ks) st with
        | error e => rw [hk] at h; cases h
        | ok st₁ => rw [hk] at h; exact ⟨_, rfl, nofun, st₁, hk, h⟩
      · rintro ⟨_, ⟨⟩, _, st₁, hk, h⟩
        rw [hk]
        exact h

theorem keysLoop_known (idx : Nat) (keys : List Bytes) (s seen : Nat) (st : LoopSt) :
    keysLoop clusterMode idx keys (s, true, seen) = .ok st ↔
      (∀ k ∈ keys, keyToSlot k = s) ∧ st = (s, true, seen + keys.length) := by
  induction keys generalizing idx seen with
  | nil => simp [keysLoop, eq_comm]
  | cons k ks ih =>
    rw [keysLoop_cluster_cons]
    by_cases hk : keyToSlot k = s
    · simp [hk, ih, Nat.add_assoc, Nat.add_comm 1]
    · simp [hk]

theorem keysLoop_first (k : Bytes) (ks : List Bytes) (s0 seen : Nat) :
    keysLoop clusterMode 0 (k :: ks) (s0, false, seen) =
      keysLoop clusterMode 1 ks (keyToSlot k, true, seen + 1) := rfl

theorem cmdsLoop_known (r : Resolver) (cmds : List Cmd) (s seen : Nat) (st : LoopSt) :
    cmdsLoop clusterMode r cmds (s, true, seen) = .ok st ↔
      (∀ c ∈ cmds, Routable r c) ∧ (∀ k ∈ allKeys r cmds, keyToSlot k = s) ∧
      st = (s, true, seen + (allKeys r cmds).length) := by
  induction cmds generalizing seen with
  | nil => simp [cmdsLoop, allKeys, eq_comm]
  | cons c cs ih =>
    rw [cmdsLoop_cons_ok_iff, allKeys_cons]
    constructor
    · rintro ⟨ks, hr, hne, st₁, hk, hcs⟩
      obtain ⟨hks, rfl⟩ := (keysLoop_known ..).mp hk
      obtain ⟨hrt, hcks, rfl⟩ := (ih ..).mp hcs
      rw [resolvedKeys_of_ok hr]
      refine ⟨?_, ?_, by rw [List.length_append, Nat.add_assoc]⟩
      · intro c' hc'
        rcases List.mem_cons.mp hc' with rfl | e
        · exact ⟨ks, hr, hne⟩
        · exact hrt c' e
      · intro k hk
        exact (List.mem_append.mp hk).elim (hks k) (hcks k)
    · rintro ⟨hrt, hks, hst⟩
      obtain ⟨ks, hr, hne⟩ := hrt c List.mem_cons_self
      rw [resolvedKeys_of_ok hr] at hks hst
      subst hst
      refine ⟨ks, hr, hne, _, (keysLoop_known ..).mpr ⟨fun k hk => hks k (List.mem_append_left _ hk), rfl⟩,
        (ih ..).mpr ⟨fun c' hc' => hrt c' (List.mem_cons_of_mem _ hc'),
          fun k hk => hks k (List.mem_append_right _ hk), by rw [List.length_append, Nat.add_assoc]⟩⟩

/-- while the slot is unknown the first key of the first command sets it, which is what the
    loop does to that key when the slot is already the key's own -/
theorem cmdsLoop_unknown {r : Resolver} {c : Cmd} {k : Bytes} {ks : List Bytes}
    (hr : r c.name c.args = .ok (k :: ks)) (cs : List Cmd) (s0 seen : Nat) :
    cmdsLoop clusterMode r (c :: cs) (s0, false, seen) =
      cmdsLoop clusterMode r (c :: cs) (keyToSlot k, true, seen) := by
  rw [cmdsLoop, cmdsLoop, hr]
  simp only [keysLoop_first, keysLoop_cluster_cons, bne_self_eq_false, Bool.false_eq_true, if_false]

theorem allKeys_ne_nil {r : Resolver} {cmds : List Cmd} (hne : cmds ≠ [])
    (h : ∀ c ∈ cmds, Routable r c) : allKeys r cmds ≠ [] := by
  cases cmds with
  | nil => exact absurd rfl hne
  | cons c cs =>
    obtain ⟨ks, hr, hks⟩ := h c List.mem_cons_self
    rw [allKeys_cons, resolvedKeys_of_ok hr]
    exact fun e => hks (List.append_eq_nil_iff.mp e).1

theorem buildUnit_ok_iff (m : SlotMode) (r : Resolver) (cmds : List Cmd) (u : RUnit) :
    buildUnit m r cmds = .ok u ↔
      cmds ≠ [] ∧ ∃ seen, seen ≠ 0 ∧ cmdsLoop m r cmds (initSt m) = .ok (u.slot, true, seen) ∧
        u.slotTag = slotTag u.slot ∧ u.cmds = cmds := by
  unfold buildUnit
  cases cmds with
  | nil => simp
  | cons c cs =>
    cases u with | mk slot tag cmds' =>
    cases h : cmdsLoop m r (c :: cs) (initSt m) with
    | error e => simp
    | ok st =>
      obtain ⟨s, known, seen⟩ := st
      cases known
      · simp
      · by_cases hs : seen = 0
        · simp [hs]
        · simp [hs, Nat.pos_iff_ne_zero]
          rintro rfl
          exact and_congr eq_comm eq_comm

/-- `buildUnit` in cluster mode succeeds exactly on non-empty lists of routable
    commands whose keys all have one `KeyToSlot` value, and then returns that
    slot, its tag, and the commands unchanged. -/
theorem buildUnit_cluster_iff (r : Resolver) (cmds : List Cmd) (u : RUnit) :
    buildUnit clusterMode r cmds = .ok u ↔
      cmds ≠ [] ∧ (∀ c ∈ cmds, Routable r c) ∧ (∀ k ∈ allKeys r cmds, keyToSlot k = u.slot) ∧
      u.slotTag = slotTag u.slot ∧ u.cmds = cmds := by
  rw [buildUnit_ok_iff]
  refine and_congr_right fun hne => ?_
  obtain ⟨c, cs, rfl⟩ := List.exists_cons_of_ne_nil hne
  show (∃ seen, seen ≠ 0 ∧ cmdsLoop clusterMode r (c :: cs) (0, false, 0) = _ ∧ _) ↔ _
  constructor
  · rintro ⟨seen, _, hl, htag⟩
    obtain ⟨ks, hr, hks, _⟩ := (cmdsLoop_cons_ok_iff ..).mp hl
    obtain ⟨k, ks, rfl⟩ := List.exists_cons_of_ne_nil hks
    rw [cmdsLoop_unknown hr, cmdsLoop_known] at hl
    obtain ⟨hrt, hkeys, hst⟩ := hl
    injection hst with hslot
    rw [← hslot] at hkeys
    exact ⟨hrt, hkeys, htag⟩
  · rintro ⟨hrt, hkeys, htag⟩
    obtain ⟨ks, hr, hks⟩ := hrt c List.mem_cons_self
    obtain ⟨k, ks, rfl⟩ := List.exists_cons_of_ne_nil hks
    have hslot : keyToSlot k = u.slot :=
      hkeys k (by rw [allKeys_cons, resolvedKeys_of_ok hr]; exact List.mem_append_left _ List.mem_cons_self)
    refine ⟨(allKeys r (c :: cs)).length, ?_, ?_, htag⟩
    · exact fun e => allKeys_ne_nil hne hrt (List.eq_nil_of_length_eq_zero e)
    · rw [cmdsLoop_unknown hr, cmdsLoop_known, hslot, Nat.zero_add]
      exact ⟨hrt, hkeys, rfl⟩

theorem unit_cmd_keys_slot {r : Resolver} {cmds : List Cmd} {u : RUnit} (h : buildUnit clusterMode r cmds = .ok u)
    {c : Cmd} (hc : c ∈ u.cmds) {ks : List Bytes} (hr : r c.name c.args = .ok ks) :
    ∀ k ∈ ks, hashSlotSpec k = u.slot := by
  obtain ⟨_, _, hkeys, _, hcmds⟩ := (buildUnit_cluster_iff r cmds u).mp h
  intro k hk
  rw [← Props.C11.keyToSlot_eq_spec]
  exact hkeys k (List.mem_flatMap.mpr ⟨c, hcmds ▸ hc, by rw [resolvedKeys_of_ok hr]; exact hk⟩)

/-! ### control keys -/

/-- shape shared by the generated constructors: `prefix:cp<infix ending in {>tag}post` -/
theorem ctl_slot (cp infixNoBrace tag post : Bytes) (hcp : lbrace ∉ cp) (hin : lbrace ∉ infixNoBrace)
    (ht : rbrace ∉ tag) (hne : tag ≠ []) :
    hashSlotSpec (Gen.bisyncKeyPrefix ++ [58] ++ cp ++ (infixNoBrace ++ [lbrace]) ++ tag ++ (rbrace :: post)) =
      hashSlotSpec (braced tag) := by
  have hpre : lbrace ∉ Gen.bisyncKeyPrefix ++ [58] ++ cp ++ infixNoBrace := by
    simp only [List.mem_append, not_or]
    exact ⟨⟨⟨by decide, by decide⟩, hcp⟩, hin⟩
  rw [← hashSlotSpec_wrap _ tag post hpre ht hne]
  simp only [List.append_assoc, List.cons_append, List.nil_append]

theorem markerKey_slot (cp tag : Bytes) (hcp : lbrace ∉ cp) (ht : rbrace ∉ tag) (hne : tag ≠ []) :
    hashSlotSpec (Gen.markerKey cp tag) = hashSlotSpec (braced tag) :=
  ctl_slot cp [58,109,97,114,107,101,114,58] tag [] hcp (by decide) ht hne

theorem latestKey_slot (cp tag : Bytes) (hcp : lbrace ∉ cp) (ht : rbrace ∉ tag) (hne : tag ≠ []) :
    hashSlotSpec (Gen.latestKey cp tag) = hashSlotSpec (braced tag) :=
  ctl_slot cp [58,108,97,116,101,115,116,58] tag [] hcp (by decide) ht hne

theorem commitIndexKey_slot (cp tag : Bytes) (hcp : lbrace ∉ cp) (ht : rbrace ∉ tag) (hne : tag ≠ []) :
    hashSlotSpec (Gen.commitIndexKey cp tag) = hashSlotSpec (braced tag) :=
  ctl_slot cp [58,105,110,100,101,120,58] tag [] hcp (by decide) ht hne

theorem commitRecordKey_slot (cp tag : Bytes) (seq : Nat) (hcp : lbrace ∉ cp) (ht : rbrace ∉ tag)
    (hne : tag ≠ []) :
    hashSlotSpec (Gen.commitRecordKey cp tag seq) = hashSlotSpec (braced tag) := by
  rw [Gen.commitRecordKey, List.append_assoc]
  exact ctl_slot cp [58,99,111,109,109,105,116,58] tag (58 :: Gen.pad20 seq) hcp (by decide) ht hne

theorem rdbRecordKey_slot (cp tag : Bytes) (seq : Nat) (hcp : lbrace ∉ cp) (ht : rbrace ∉ tag)
    (hne : tag ≠ []) :
    hashSlotSpec (Gen.rdbRecordKey cp tag seq) = hashSlotSpec (braced tag) := by
  rw [Gen.rdbRecordKey, List.append_assoc]
  exact ctl_slot cp [58,114,100,98,58] tag (58 :: Gen.pad20 seq) hcp (by decide) ht hne

theorem controlKeys_slot (cp : Bytes) (k : CommitKind) (u : RUnit) (p : Payload) (hcp : lbrace ∉ cp)
    (hs : u.slot < 16384) (htag : u.slotTag = slotTag u.slot) :
    ∀ key ∈ controlKeys cp k u p, hashSlotSpec key = u.slot := by
  obtain ⟨h1, _, h3, h4⟩ := slotTag_spec u.slot hs
  intro key hkey
  cases k <;> simp only [controlKeys, htag, List.mem_cons, List.not_mem_nil, or_false] at hkey
  · rcases hkey with e | e
    · rw [e, markerKey_slot cp _ hcp h3 h4, h1]
    · rw [e, latestKey_slot cp _ hcp h3 h4, h1]
  · rcases hkey with e | e | e
    · rw [e, markerKey_slot cp _ hcp h3 h4, h1]
    · rw [e, commitRecordKey_slot cp _ _ hcp h3 h4, h1]
    · rw [e, commitIndexKey_slot cp _ hcp h3 h4, h1]
  · rw [hkey, markerKey_slot cp _ hcp h3 h4, h1]

/-! ### standalone mode -/

theorem keysLoop_standalone (idx : Nat) (keys : List Bytes) (s seen : Nat) :
    keysLoop standaloneMode idx keys (s, true, seen) = .ok (s, true, seen + keys.length) := by
  induction keys generalizing idx seen with
  | nil => rfl
  | cons k ks ih =>
    show keysLoop standaloneMode (idx + 1) ks (s, true, seen + 1) = _
    rw [ih, List.length_cons, Nat.add_assoc, Nat.add_comm 1]

theorem cmdsLoop_standalone (r : Resolver) (cmds : List Cmd) (s seen : Nat) (h : ∀ c ∈ cmds, Routable r c) :
    cmdsLoop standaloneMode r cmds (s, true, seen) = .ok (s, true, seen + (allKeys r cmds).length) := by
  induction cmds generalizing seen with
  | nil => rfl
  | cons c cs ih =>
    obtain ⟨ks, hk, hne⟩ := h c List.mem_cons_self
    rw [cmdsLoop_cons_ok_iff]
    refine ⟨ks, hk, hne, _, keysLoop_standalone 0 ks s seen, ?_⟩
    rw [ih _ (fun c' hc' => h c' (List.mem_cons_of_mem _ hc')), allKeys_cons, resolvedKeys_of_ok hk,
      List.length_append, Nat.add_assoc]

theorem buildUnit_standalone (r : Resolver) (cmds : List Cmd) (hne : cmds ≠ []) (h : ∀ c ∈ cmds, Routable r c) :
    buildUnit standaloneMode r cmds = .ok ⟨0, slotTag 0, cmds⟩ := by
  rw [buildUnit_ok_iff]
  refine ⟨hne, _, ?_, cmdsLoop_standalone r cmds 0 0 h, rfl, rfl⟩
  rw [Nat.zero_add]
  exact fun e => allKeys_ne_nil hne h (List.eq_nil_of_length_eq_zero e)

/-! ### the builder only looks at the resolver on its commands -/

theorem cmdsLoop_congr (m : SlotMode) (r1 r2 : Resolver) (cmds : List Cmd) (st : LoopSt)
    (h : ∀ c ∈ cmds, r1 c.name c.args = r2 c.name c.args) : cmdsLoop m r1 cmds st = cmdsLoop m r2 cmds st := by
  induction cmds generalizing st with
  | nil => rfl
  | cons c cs ih =>
    rw [cmdsLoop, cmdsLoop, h c (by simp)]
    cases r2 c.name c.args with
    | err => rfl
    | notOk => rfl
    | ok keys =>
      simp only
      split
      · rfl
      · cases keysLoop m 0 keys st with
        | error e => rfl
        | ok st' => exact ih st' (fun c' hc' => h c' (List.mem_cons_of_mem _ hc'))

theorem buildUnit_congr (m : SlotMode) (r1 r2 : Resolver) (cmds : List Cmd)
    (h : ∀ c ∈ cmds, r1 c.name c.args = r2 c.name c.args) : buildUnit m r1 cmds = buildUnit m r2 cmds := by
  unfold buildUnit
  rw [cmdsLoop_congr m r1 r2 cmds _ h]

theorem resolverWith_congr (fb1 fb2 : Bytes → List Bytes → Fb) (c : Cmd)
    (h : commandKeys c.name c.args = none → fb1 c.name c.args = fb2 c.name c.args) :
    resolverWith fb1 c.name c.args = resolverWith fb2 c.name c.args := by
  unfold resolverWith
  cases hk : commandKeys c.name c.args with
  | some ks => rfl
  | none => simp only; rw [h hk]

theorem resolverWith_some {fb : Bytes → List Bytes → Fb} {name : Bytes} {args ks : List Bytes}
    (h : commandKeys name args = some ks) : resolverWith fb name args = .ok ks := by
  unfold resolverWith; rw [h]

theorem resolverWith_none_ok {fb : Bytes → List Bytes → Fb} {name : Bytes} {args ks : List Bytes}
    (hn : commandKeys name args = none) (h : resolverWith fb name args = .ok ks) : fb name args = .keys ks := by
  unfold resolverWith at h
  rw [hn] at h
  cases hf : fb name args with
  | err => rw [hf] at h; cases h
  | none => rw [hf] at h; cases h
  | keys xs =>
    rw [hf] at h
    simp only at h
    split at h
    · cases h
    · rw [Res.ok.inj h]

end GunYu.BisyncUnit
