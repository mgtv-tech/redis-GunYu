/-
  Helper lemmas for C08: what `reopen` rebuilds from an arbitrary directory
  image, what `serve` returns from it, checksum verification of closed
  segments, and the file operations that keep a directory truthful.
-/
import GunYu.Model.StoreFs
import GunYu.Proofs.StoreDisk

namespace GunYu.StoreFs
open GunYu GunYu.Store

theorem reopen_segs (fs : FS) : (reopen fs).segs = contigRun (sortSegs (scanSegs fs)) := rfl

theorem reopen_contig (fs : FS) : Contig (reopen fs).segs := by
  rw [reopen_segs]; exact contigRun_contig _

theorem contigRun_maximal (l : List DSeg) :
    ∀ pre, l = pre ++ contigRun l → pre ≠ [] →
      ∃ a f, pre.getLast? = some a ∧ (contigRun l).head? = some f ∧ a.right ≠ f.left := by
  induction l with
  | nil => intro pre h; simp [contigRun] at h; intro hne; exact absurd h hne
  | cons a t ih =>
    cases t with
    | nil =>
      intro pre h hne
      simp [contigRun] at h
      exact absurd h hne
    | cons b u =>
      intro pre h hne
      simp only [contigRun] at h ⊢
      split at h
      · -- everything kept: `pre` must be empty
        rename_i hc
        have h2 := congrArg List.length h
        simp only [List.length_append, List.length_cons] at h2
        have := hc.1
        simp only [List.length_cons] at this
        exact absurd (List.eq_nil_of_length_eq_zero (by omega)) hne
      · rename_i hc
        simp only [hc, if_false]
        -- `a` is cut off; either the tail run is the whole tail (then `a` is
        -- the last dropped one) or the gap is further right
        cases pre with
        | nil => exact absurd rfl hne
        | cons p ps =>
          simp only [List.cons_append, List.cons.injEq] at h
          obtain ⟨hp, hrest⟩ := h
          subst hp
          by_cases hps : ps = []
          · subst hps
            simp at hrest
            have hfull : (contigRun (b :: u)).length = (b :: u).length := by rw [← hrest]
            have hnot : ¬ a.right = b.left := by
              intro e; exact hc ⟨hfull, e⟩
            refine ⟨a, b, rfl, ?_, hnot⟩
            rw [← hrest]; rfl
          · obtain ⟨x, f, hx, hf, hne'⟩ := ih ps hrest hps
            refine ⟨x, f, ?_, hf, hne'⟩
            cases ps with
            | nil => exact absurd rfl hps
            | cons q qs => simpa [List.getLast?_cons_cons] using hx

/-- a segment holds the source's bytes at its offsets -/
def SegTrue (src : Nat → UInt8) (g : DSeg) : Prop :=
  ∀ i b, g.data[i]? = some b → b = src (g.left + i)

/-- every stream file `<l>.aof` of the directory holds, after its header, a
    prefix of the bytes the source sent from offset `l` on -/
def FsTrue (src : Nat → UInt8) (fs : FS) : Prop :=
  ∀ e ∈ fs, ∀ l, parseAofName e.1 = some l →
    ∀ i b, (e.2.drop headerSize)[i]? = some b → b = src (l + i)

theorem scanSegs_true {src : Nat → UInt8} {fs : FS} (h : FsTrue src fs) :
    ∀ g ∈ scanSegs fs, SegTrue src g := by
  intro g hg
  unfold scanSegs at hg
  obtain ⟨e, he, hsome⟩ := List.mem_filterMap.mp hg
  cases hp : parseAofName e.1 with
  | none => simp [hp] at hsome
  | some l =>
    simp only [hp] at hsome
    split at hsome
    · simp at hsome; subst hsome
      intro i b hb
      exact h e he l hp i b hb
    · simp at hsome

theorem mem_insertSeg {g x : DSeg} {l : List DSeg} : x ∈ insertSeg g l ↔ x = g ∨ x ∈ l := by
  induction l with
  | nil => simp [insertSeg]
  | cons a t ih =>
    simp only [insertSeg]
    split
    · simp
    · simp [ih]; constructor
      · rintro (h | h | h) <;> simp [h]
      · rintro (h | h | h) <;> simp [h]

theorem mem_sortSegs {x : DSeg} {l : List DSeg} : x ∈ sortSegs l ↔ x ∈ l := by
  induction l with
  | nil => simp [sortSegs]
  | cons a t ih =>
    show x ∈ insertSeg a (sortSegs t) ↔ _
    rw [mem_insertSeg, ih]; simp

theorem mem_contigRun {x : DSeg} {l : List DSeg} (h : x ∈ contigRun l) : x ∈ l := by
  obtain ⟨pre, hp⟩ := contigRun_suffix l
  rw [hp]; simp [h]

theorem reopen_segs_true {src : Nat → UInt8} {fs : FS} (h : FsTrue src fs) :
    ∀ g ∈ (reopen fs).segs, SegTrue src g := by
  intro g hg
  rw [reopen_segs] at hg
  exact scanSegs_true h g (mem_sortSegs.mp (mem_contigRun hg))

theorem mem_takeWhile_p {α} {p : α → Bool} {l : List α} {x : α} (h : x ∈ l.takeWhile p) : p x = true := by
  induction l with
  | nil => cases h
  | cons a t ih =>
    simp only [List.takeWhile] at h
    cases hp : p a with
    | false => rw [hp] at h; cases h
    | true =>
      rw [hp] at h
      rcases List.mem_cons.mp h with h1 | h1
      · rw [h1]; exact hp
      · exact ih h1

theorem index_chain {l : List DSeg} (hc : Contig l) (hn : InitNonempty l) {off : Nat} {x : DSeg}
    (hi : indexAof l off = some x) :
    ∃ A B, l = A ++ x :: B ∧ l.dropWhile (fun y => y.left != x.left) = x :: B ∧ x.left ≤ off ∧ off ≤ x.right := by
  obtain ⟨hx, hl, hr⟩ := indexAof_some hi
  have hsplit := (List.takeWhile_append_dropWhile (p := fun y : DSeg => y.left != x.left) (l := l)).symm
  have hxin : x ∈ l.dropWhile (fun y => y.left != x.left) := by
    rw [hsplit] at hx
    rcases List.mem_append.mp hx with h | h
    · have := mem_takeWhile_p h
      simp at this
    · exact h
  obtain ⟨B, hB⟩ : ∃ B, l.dropWhile (fun y => y.left != x.left) = x :: B := by
    cases hdw : l.dropWhile (fun y => y.left != x.left) with
    | nil => rw [hdw] at hxin; cases hxin
    | cons y ys =>
      have hy : y.left = x.left := by
        have := List.head?_dropWhile_not (fun y : DSeg => y.left != x.left) l
        rw [hdw] at this
        simpa using this
      have hym : y ∈ l := by rw [hsplit, hdw]; simp
      rw [lefts_unique hc hn hym hx hy]
      exact ⟨ys, rfl⟩
  exact ⟨_, B, by rw [hB] at hsplit; exact hsplit, hB, hl, hr⟩

theorem reopen_nonempty (fs : FS) : ∀ g ∈ (reopen fs).segs, g.data ≠ [] := by
  intro y hy
  rw [reopen_segs] at hy
  have hsc := mem_sortSegs.mp (mem_contigRun hy)
  unfold scanSegs at hsc
  obtain ⟨e, _, hsome⟩ := List.mem_filterMap.mp hsc
  split at hsome
  · split at hsome
    · simp at hsome; subst hsome
      intro hnil
      have := congrArg List.length hnil
      simp at this; omega
    · simp at hsome
  · simp at hsome

theorem getElem?_append_cases {α} {A B : List α} {P : Nat → α → Prop} (hA : ∀ k b, A[k]? = some b → P k b)
    (hB : ∀ k b, B[k]? = some b → P (A.length + k) b) : ∀ k b, (A ++ B)[k]? = some b → P k b := by
  intro k b hb
  by_cases hk : k < A.length
  · rw [List.getElem?_append_left hk] at hb; exact hA k b hb
  · rw [List.getElem?_append_right (by omega)] at hb
    have := hB _ b hb
    rwa [Nat.add_sub_cancel' (by omega)] at this

theorem segTrue_drop {src : Nat → UInt8} {g : DSeg} (ht : SegTrue src g) {off : Nat} (hl : g.left ≤ off) :
    ∀ k b, (g.data.drop (off - g.left))[k]? = some b → b = src (off + k) := by
  intro k b hb
  rw [List.getElem?_drop] at hb
  rw [ht _ b hb]; congr 1; omega

theorem drop_length_right {g : DSeg} {off : Nat} (hl : g.left ≤ off) (hr : off ≤ g.right) :
    off + (g.data.drop (off - g.left)).length = g.right := by
  simp [DSeg.right] at hr ⊢; omega

/-- following contiguous, truthful segments from `off` yields the source's
    bytes from `off` on — whatever is (or is not) verified on the way -/
theorem serveFrom_true (src : Nat → UInt8) (fs : FS) (v : Bool) :
    ∀ (segs : List DSeg) (off : Nat), Contig segs → (∀ g ∈ segs, SegTrue src g) →
      (∀ g, segs.head? = some g → g.left ≤ off ∧ off ≤ g.right) →
      ∀ k b, (serveFrom fs v segs off).1[k]? = some b → b = src (off + k) := by
  intro segs
  induction segs with
  | nil => intro off _ _ _ k b hb; simp [serveFrom] at hb
  | cons g rest ih =>
    intro off hc ht hh
    obtain ⟨hl, hr⟩ := hh g rfl
    simp only [serveFrom]
    cases fs.get (aofName g.left) with
    | none => intro k b hb; simp at hb
    | some file =>
      simp only []
      split
      · intro k b hb; simp at hb
      · refine getElem?_append_cases (segTrue_drop (ht g List.mem_cons_self) hl) (fun k b hb => ?_)
        rw [← Nat.add_assoc, drop_length_right hl hr]
        refine ih g.right hc.tail (fun x hx => ht x (List.mem_cons_of_mem _ hx)) ?_ k b hb
        intro x hx
        cases rest with
        | nil => cases hx
        | cons y ys =>
          cases hx
          exact ⟨Nat.le_of_eq hc.1.symm, by rw [hc.1]; simp [DSeg.right]⟩

theorem leBytes_length (k n : Nat) : (leBytes k n).length = k := by
  induction k generalizing n with
  | zero => rfl
  | succ k ih => simp [leBytes, ih]

theorem ofLE_leBytes (k n : Nat) : ofLE (leBytes k n) = n % 256 ^ k := by
  induction k generalizing n with
  | zero => simp [leBytes, ofLE, Nat.mod_one]
  | succ k ih =>
    simp only [leBytes, ofLE, ih]
    have h1 : (UInt8.ofNat (n % 256)).toNat = n % 256 := by
      simp
    rw [h1, Nat.pow_succ, Nat.mul_comm (256 ^ k) 256, Nat.mod_mul]

theorem crc64_lt (bs : Bytes) : crc64 bs < 2 ^ 64 := by
  unfold crc64; exact UInt64.toNat_lt _

theorem closedHeader_length (data : Bytes) : (closedHeader data).length = headerSize := by
  simp [closedHeader, leBytes_length, headerSize]

theorem drop_hdr {hdr d : Bytes} (hh : hdr.length = headerSize) : (hdr ++ d).drop headerSize = d := by
  rw [List.drop_append_of_le_length (by omega), List.drop_of_length_le (by omega)]; rfl

/-- the check reads the file through its length, header bytes 1..8 and 9..12, and the data -/
theorem segVerifyOk_hdr_data (hdr data : Bytes) (hl : hdr.length = headerSize) :
    segVerifyOk (hdr ++ data) =
      ((ofLE ((hdr.drop 9).take 4) == data.length) && (ofLE ((hdr.drop 1).take 8) == crc64 data)) := by
  unfold segVerifyOk
  have hl16 : hdr.length = 16 := hl
  have h16 : headerSize = 16 := rfl
  have h1 : ((hdr ++ data).drop 9).take 4 = (hdr.drop 9).take 4 := by
    rw [List.drop_append_of_le_length (by omega), List.take_append_of_le_length (by simp [List.length_drop]; omega)]
  have h2 : ((hdr ++ data).drop 1).take 8 = (hdr.drop 1).take 8 := by
    rw [List.drop_append_of_le_length (by omega), List.take_append_of_le_length (by simp; omega)]
  have h3 : (hdr ++ data).drop headerSize = data := drop_hdr hl
  have h4 : (hdr ++ data).length - headerSize = data.length := by simp; omega
  have h5 : decide (headerSize ≤ (hdr ++ data).length) = true := by simp; omega
  rw [h1, h2, h3, h4, h5]
  simp

theorem segVerifyOk_fields (c n : Nat) (data : Bytes) :
    segVerifyOk ((1 :: (leBytes 8 c ++ leBytes 4 n ++ [0, 0, 0])) ++ data) =
      ((n % 256 ^ 4 == data.length) && (c % 256 ^ 8 == crc64 data)) := by
  rw [segVerifyOk_hdr_data _ _ (by simp [leBytes_length, headerSize])]
  have hsz : ((1 :: (leBytes 8 c ++ leBytes 4 n ++ [0, 0, 0])).drop 9).take 4 = leBytes 4 n := by
    simp only [List.drop_succ_cons, List.append_assoc]
    rw [List.drop_append_of_le_length (by simp [leBytes_length]), List.drop_of_length_le (by simp [leBytes_length])]
    simp only [List.nil_append]
    rw [List.take_append_of_le_length (by simp [leBytes_length]), List.take_of_length_le (by simp [leBytes_length])]
  have hcrc : ((1 :: (leBytes 8 c ++ leBytes 4 n ++ [0, 0, 0])).drop 1).take 8 = leBytes 8 c := by
    simp only [List.drop_succ_cons, List.drop_zero, List.append_assoc]
    rw [List.take_append_of_le_length (by simp [leBytes_length]), List.take_of_length_le (by simp [leBytes_length])]
  rw [hsz, hcrc, ofLE_leBytes, ofLE_leBytes]

theorem segVerifyOk_closed (data data' : Bytes) :
    segVerifyOk (closedHeader data ++ data') =
      (decide (data.length % 4294967296 = data'.length) && decide (crc64 data = crc64 data')) := by
  unfold closedHeader
  rw [segVerifyOk_fields, Nat.mod_eq_of_lt (show crc64 data < 256 ^ 8 from crc64_lt data),
    show data.length % 4294967296 % 256 ^ 4 = data.length % 4294967296 from Nat.mod_mod _ _]
  rfl

theorem segVerifyOk_written (data : Bytes) (h : data.length < 4294967296) :
    segVerifyOk (closedHeader data ++ data) = true := by
  rw [segVerifyOk_closed]; simp [Nat.mod_eq_of_lt h]

theorem serveFrom_refuses (fs : FS) (g : DSeg) (rest : List DSeg) (off : Nat) (file : Bytes)
    (hf : fs.get (aofName g.left) = some file) (hbad : segVerifyOk file = false) :
    serveFrom fs true (g :: rest) off = ([], ServeEnd.corrupt) := by
  simp [serveFrom, hf, hbad]

/-- a temporary snapshot file is never read as a snapshot -/
theorem parseRdbName_tmp (l sz : Nat) : parseRdbName (rdbTmpName l sz) = none := rfl

theorem parseRdbName_some {n : FName} {l sz : Nat} (h : parseRdbName n = some (l, sz)) : n = rdbName l sz := by
  cases n <;> simp [parseRdbName] at h
  obtain ⟨rfl, rfl⟩ := h; rfl

theorem mem_sortNames {x : FName} {l : List FName} (h : x ∈ sortNames l) : x ∈ l := by
  induction l with
  | nil => simp [sortNames] at h
  | cons a t ih =>
    have hx' : x ∈ insertName a (sortNames t) := h
    have ins : ∀ (m : List FName), x ∈ insertName a m → x = a ∨ x ∈ m := by
      intro m
      induction m with
      | nil => intro h'; simp [insertName] at h'; exact Or.inl h'
      | cons b u ihm =>
        intro h'
        simp only [insertName] at h'
        split at h'
        · simp at h'; rcases h' with h' | h' | h' <;> simp [h']
        · simp at h'
          rcases h' with h' | h'
          · simp [h']
          · rcases ihm h' with h'' | h'' <;> simp [h'']
    rcases ins _ hx' with h' | h'
    · simp [h']
    · simp [ih h']

theorem sizedRdb_some {fs : FS} {n : FName} {l sz : Nat} (h : sizedRdb fs n = some (l, sz)) :
    parseRdbName n = some (l, sz) ∧ ((fs.get n).getD []).length = sz := by
  unfold sizedRdb at h
  split at h
  · rename_i l' s' hp
    split at h
    · rename_i hl
      simp at h; obtain ⟨rfl, rfl⟩ := h
      exact ⟨hp, hl⟩
    · cases h
  · cases h

theorem scanRdb_some {fs : FS} {l sz : Nat} (h : scanRdb fs = some (l, sz)) :
    ∃ e ∈ fs, parseRdbName e.1 = some (l, sz) := by
  unfold scanRdb at h
  have hm := List.mem_of_getLast? h
  obtain ⟨n, hn, hp⟩ := List.mem_filterMap.mp hm
  obtain ⟨e, he, rfl⟩ := List.mem_map.mp (mem_sortNames hn)
  exact ⟨e, he, (sizedRdb_some hp).1⟩

theorem scanRdb_sized {fs : FS} {l sz : Nat} (h : scanRdb fs = some (l, sz)) :
    ((fs.get (rdbName l sz)).getD []).length = sz := by
  unfold scanRdb at h
  have hm := List.mem_of_getLast? h
  obtain ⟨n, _, hp⟩ := List.mem_filterMap.mp hm
  obtain ⟨h1, h2⟩ := sizedRdb_some hp
  have : n = rdbName l sz := by
    cases n <;> simp [parseRdbName] at h1
    obtain ⟨rfl, rfl⟩ := h1; rfl
  rw [← this]; exact h2

theorem reopen_rdb_some {fs : FS} {l sz : Nat} (h : (reopen fs).rdb = some (l, sz)) :
    scanRdb fs = some (l, sz) := by
  unfold reopen at h
  simp only [] at h
  repeat' split at h
  all_goals simp_all

/-- the content of a stream file named `n` is truthful -/
def ContentTrue (src : Nat → UInt8) (n : FName) (c : Bytes) : Prop :=
  ∀ l, parseAofName n = some l → ∀ i b, (c.drop headerSize)[i]? = some b → b = src (l + i)

theorem FsTrue_iff (src : Nat → UInt8) (fs : FS) : FsTrue src fs ↔ ∀ e ∈ fs, ContentTrue src e.1 e.2 :=
  Iff.rfl

theorem FsTrue_del {src : Nat → UInt8} {fs : FS} (h : FsTrue src fs) (n : FName) : FsTrue src (fs.del n) := by
  intro e he
  exact h e (List.mem_filter.mp he).1

theorem mem_set {fs : FS} {n : FName} {c : Bytes} {e : FName × Bytes} (he : e ∈ fs.set n c) :
    e = (n, c) ∨ e ∈ fs := by
  unfold FS.set at he
  split at he
  · obtain ⟨x, hx, rfl⟩ := List.mem_map.mp he
    split
    · left; rfl
    · right; exact hx
  · rcases List.mem_append.mp he with h | h
    · right; exact h
    · left; simpa using h

theorem FsTrue_set {src : Nat → UInt8} {fs : FS} (h : FsTrue src fs) (n : FName) (c : Bytes)
    (hc : ContentTrue src n c) : FsTrue src (fs.set n c) := by
  intro e he
  rcases mem_set he with rfl | h'
  · exact hc
  · exact h e h'

theorem get_some_mem {fs : FS} {n : FName} {c : Bytes} (h : fs.get n = some c) : (n, c) ∈ fs := by
  unfold FS.get at h
  cases hf : fs.find? (fun e => e.1 == n) with
  | none => simp [hf] at h
  | some e =>
    simp [hf] at h
    have h1 := List.mem_of_find?_eq_some hf
    have h2 := List.find?_some hf
    simp at h2
    rw [← h, ← h2]; exact h1

/-- which operations keep the directory truthful: creating, removing, rewriting
    a header (the first `headerSize` bytes), appending bytes that leave the file
    truthful, renaming onto a name that is truthful for the content -/
def OpTrue (src : Nat → UInt8) (fs : FS) : FsOp → Prop
  | .create _ => True
  | .remove _ => True
  | .pwriteHdr n hdr => hdr.length = headerSize ∧ ∀ c, fs.get n = some c → headerSize ≤ c.length
  | .append n bs => ∀ c, fs.get n = some c → ContentTrue src n (c ++ bs)
  | .rename a b => ∀ c, fs.get a = some c → ContentTrue src b c

theorem FsTrue_pwriteHdr {src : Nat → UInt8} {fs : FS} (h : FsTrue src fs) (n : FName) (hdr : Bytes)
    (hl : hdr.length ≤ headerSize) (hc : ∀ c, fs.get n = some c → headerSize ≤ c.length) :
    FsTrue src (fs.apply (.pwriteHdr n hdr)) := by
  simp only [FS.apply]
  cases hg : fs.get n with
  | none => exact h
  | some c =>
    apply FsTrue_set h
    have hlen := hc c hg
    have hold : ContentTrue src n c := h (n, c) (get_some_mem hg)
    intro l hp i b hb
    apply hold l hp i b
    have hd : (hdr ++ c.drop hdr.length).drop headerSize = c.drop headerSize := by
      rw [List.drop_append, List.drop_of_length_le hl, List.nil_append, List.drop_drop]
      congr 1
      omega
    rw [hd] at hb
    exact hb

theorem FsTrue_apply {src : Nat → UInt8} {fs : FS} (h : FsTrue src fs) (op : FsOp) (hop : OpTrue src fs op) :
    FsTrue src (fs.apply op) := by
  cases op with
  | create n =>
    apply FsTrue_set h
    intro l _ i b hb; simp at hb
  | remove n => exact FsTrue_del h n
  | append n bs =>
    simp only [FS.apply]
    cases hg : fs.get n with
    | none => exact h
    | some c => exact FsTrue_set h n _ (hop c hg)
  | pwriteHdr n hdr => exact FsTrue_pwriteHdr h n hdr (Nat.le_of_eq hop.1) hop.2
  | rename a b =>
    simp only [FS.apply]
    cases hg : fs.get a with
    | none => exact h
    | some c => exact FsTrue_set (FsTrue_del h a) b c (hop c hg)

theorem OpTrue_torn {src : Nat → UInt8} {fs : FS} {n : FName} {bs : Bytes} (k : Nat)
    (h : OpTrue src fs (.append n bs)) : OpTrue src fs (.append n (bs.take k)) := by
  intro c hc l hp i b hb
  apply h c hc l hp i b
  have hpre : (c ++ bs.take k) <+: (c ++ bs) := by
    exact (List.prefix_append_right_inj c).mpr (List.take_prefix k bs)
  have hpre2 : (c ++ bs.take k).drop headerSize <+: (c ++ bs).drop headerSize := by
    obtain ⟨t, ht⟩ := hpre
    rw [← ht]
    by_cases hl : headerSize ≤ (c ++ bs.take k).length
    · rw [List.drop_append_of_le_length hl]; exact List.prefix_append _ _
    · rw [List.drop_of_length_le (by omega)]; exact List.nil_prefix
  obtain ⟨t, ht⟩ := hpre2
  rw [← ht, List.getElem?_append_left]
  · exact hb
  · exact (List.getElem?_eq_some_iff.mp hb).1

theorem dropLast_concat_of_getLast? {α} {l : List α} {a : α} (h : l.getLast? = some a) :
    l.dropLast ++ [a] = l := by
  have hne : l ≠ [] := by intro e; rw [e] at h; simp at h
  have := List.dropLast_concat_getLast hne
  rw [List.getLast?_eq_some_getLast hne] at h
  cases h
  exact this

theorem applyAll_append (fs : FS) (a b : List FsOp) : fs.applyAll (a ++ b) = (fs.applyAll a).applyAll b := by
  unfold FS.applyAll; rw [List.foldl_append]

theorem applyAll_cons (fs : FS) (op : FsOp) (rest : List FsOp) :
    fs.applyAll (op :: rest) = (fs.apply op).applyAll rest := rfl

theorem applyAll_nil (fs : FS) : fs.applyAll [] = fs := rfl

/-! ### invariants of the directory at every crash instant

An invariant `I` of directories that every operation satisfying `P` keeps holds after any list of
operations each of which satisfies `P` where it is applied — also when the last write is torn,
provided a torn write satisfies `P` if the whole one does. Truthfulness of the stream files
(`FsTrue`, `OpTrue`) and completeness of the committed snapshots (`RdbOkP`, `RdbSafeP`) are the instances. -/

section crash
variable {I : FS → Prop} {P : FS → FsOp → Prop}

theorem positions_left {fs : FS} {A B : List FsOp}
    (h : ∀ pre op post, A ++ B = pre ++ op :: post → P (fs.applyAll pre) op) :
    ∀ pre op post, A = pre ++ op :: post → P (fs.applyAll pre) op :=
  fun pre op post he => h pre op (post ++ B) (by rw [he]; simp)

theorem positions_take {fs : FS} {ops : List FsOp}
    (hops : ∀ pre op post, ops = pre ++ op :: post → P (fs.applyAll pre) op) (n : Nat) :
    ∀ pre op post, ops.take n = pre ++ op :: post → P (fs.applyAll pre) op :=
  positions_left (B := ops.drop n) (by rw [List.take_append_drop]; exact hops)

theorem applyAll_inv (hstep : ∀ fs op, I fs → P fs op → I (fs.apply op)) (ops : List FsOp) :
    ∀ (fs : FS), I fs → (∀ pre op post, ops = pre ++ op :: post → P (fs.applyAll pre) op) →
      I (fs.applyAll ops) := by
  induction ops with
  | nil => intro fs h _; exact h
  | cons op rest ih =>
    intro fs h hall
    exact ih _ (hstep fs op h (hall [] op rest rfl)) (fun pre op' post he => hall (op :: pre) op' post (by simp [he]))

theorem applyAll_inv_last (hstep : ∀ fs op, I fs → P fs op → I (fs.apply op)) {fs : FS} {xs : List FsOp}
    {last last' : FsOp} (hl : xs.getLast? = some last) (h : I fs)
    (hx : ∀ pre op post, xs = pre ++ op :: post → P (fs.applyAll pre) op)
    (hrep : ∀ fs', P fs' last → P fs' last') : I (fs.applyAll (xs.dropLast ++ [last'])) := by
  have hxs := dropLast_concat_of_getLast? hl
  rw [applyAll_append]
  exact hstep _ _ (applyAll_inv hstep _ fs h (positions_left (B := [last]) (by rw [hxs]; exact hx)))
    (hrep _ (hx xs.dropLast last [] hxs.symm))

theorem crashImage_inv (hstep : ∀ fs op, I fs → P fs op → I (fs.apply op))
    (htorn : ∀ fs n bs k, P fs (.append n bs) → P fs (.append n (bs.take k))) {fs : FS} (h : I fs)
    {ops : List FsOp} (hops : ∀ pre op post, ops = pre ++ op :: post → P (fs.applyAll pre) op) (n k : Nat) :
    I (crashImage fs ops n k) := by
  have hx := positions_take hops n
  unfold crashImage tornLast
  cases hl : (ops.take n).getLast? with
  | none => exact applyAll_inv hstep _ fs h hx
  | some last =>
    cases last with
    | append nm bs => exact applyAll_inv_last hstep hl h hx (fun _ => htorn _ nm bs k)
    | _ => exact applyAll_inv hstep _ fs h hx

end crash

theorem rename_not_mem_closeLiveOps (s : Disk) (a b : FName) : FsOp.rename a b ∉ closeLiveOps s := by
  unfold closeLiveOps
  split
  · simp
  · split <;> simp

theorem rename_not_mem_resetOps (s : Disk) (a b : FName) : FsOp.rename a b ∉ resetOps s := by
  unfold resetOps
  simp only [List.mem_append, not_or]
  refine ⟨⟨?_, rename_not_mem_closeLiveOps s a b⟩, by simp⟩
  split
  · split <;> simp
  · simp

theorem rename_only_when_complete (s : Disk) (op : DOp) (a b : FName) (h : FsOp.rename a b ∈ fsOps s op) :
    ∃ r chunk, op = .rdbAppend chunk ∧ s.rdb = some r ∧ r.writing = true ∧
      r.data.length + chunk.length = r.size ∧ a = rdbTmpName r.left r.size ∧ b = rdbName r.left r.size := by
  cases op with
  | rdbAppend chunk =>
    simp only [fsOps] at h
    cases hr : s.rdb with
    | none => simp [hr] at h
    | some r =>
      simp only [hr] at h
      by_cases hw : r.writing = true
      · simp only [hw, if_true] at h
        by_cases hc : r.data.length + chunk.length = r.size
        · simp [hc] at h
          exact ⟨r, chunk, rfl, rfl, hw, hc, h.1, h.2⟩
        · simp [hc] at h
      · simp [hw] at h
  | newRdbWriter off size =>
    exfalso
    simp only [fsOps, List.mem_append] at h
    rcases h with h | h
    · exact rename_not_mem_resetOps s a b h
    · simp at h
  | rdbClose =>
    exfalso
    simp only [fsOps] at h
    split at h
    · split at h <;> simp at h
    · simp at h
  | newAofWriter off =>
    exfalso
    simp only [fsOps, List.mem_append] at h
    rcases h with h | h
    · exact rename_not_mem_closeLiveOps s a b h
    · simp at h
  | aofAppend chunk =>
    exfalso
    simp only [fsOps] at h
    split at h
    · simp at h
    · simp only [List.mem_append] at h
      rcases h with h | h
      · simp at h
      · split at h <;> simp at h
  | aofClose => exact absurd h (rename_not_mem_closeLiveOps s a b)
  | gc =>
    exfalso
    simp only [fsOps, List.mem_append] at h
    rcases h with h | h
    · split at h <;> simp at h
    · simp at h
  | _ => cases h

def RdbOkP (P : Nat → Nat → Bytes → Prop) (fs : FS) : Prop :=
  ∀ e ∈ fs, ∀ L S, parseRdbName e.1 = some (L, S) → P L S e.2

/-- operations that keep `RdbOkP P`: nothing but a rename ever produces or touches a committed
    name, and a rename onto `<L>_<S>.rdb` moves a file whose content satisfies `P L S` -/
def RdbSafeP (P : Nat → Nat → Bytes → Prop) (fs : FS) : FsOp → Prop
  | .create n => parseRdbName n = none
  | .append n _ => parseRdbName n = none
  | .pwriteHdr n _ => parseRdbName n = none
  | .rename a b => ∀ L S, parseRdbName b = some (L, S) → ∀ c, fs.get a = some c → P L S c
  | .remove _ => True

theorem RdbOkP_set {P : Nat → Nat → Bytes → Prop} {fs : FS} (h : RdbOkP P fs) (n : FName) (c : Bytes)
    (hc : ∀ L S, parseRdbName n = some (L, S) → P L S c) : RdbOkP P (fs.set n c) := by
  intro e he L S hp
  rcases mem_set he with rfl | h'
  · exact hc L S hp
  · exact h e h' L S hp

theorem RdbOkP_del {P : Nat → Nat → Bytes → Prop} {fs : FS} (h : RdbOkP P fs) (n : FName) : RdbOkP P (fs.del n) := by
  intro e he
  exact h e (List.mem_filter.mp he).1

theorem RdbOkP_apply {P : Nat → Nat → Bytes → Prop} {fs : FS} (h : RdbOkP P fs) (op : FsOp) (hop : RdbSafeP P fs op) :
    RdbOkP P (fs.apply op) := by
  cases op with
  | create n => exact RdbOkP_set h n [] (fun L S hp => by rw [hop] at hp; cases hp)
  | remove n => exact RdbOkP_del h n
  | append n bs =>
    simp only [FS.apply]
    cases hg : fs.get n with
    | none => exact h
    | some c => exact RdbOkP_set h n _ (fun L S hp => by rw [hop] at hp; cases hp)
  | pwriteHdr n hdr =>
    simp only [FS.apply]
    cases hg : fs.get n with
    | none => exact h
    | some c => exact RdbOkP_set h n _ (fun L S hp => by rw [hop] at hp; cases hp)
  | rename a b =>
    simp only [FS.apply]
    cases hg : fs.get a with
    | none => exact h
    | some c => exact RdbOkP_set (RdbOkP_del h a) b c (fun L S hp => hop L S hp c hg)

theorem find_map_set (l : FS) (n : FName) (c : Bytes) (h : ∃ e ∈ l, e.1 = n) :
    (l.map (fun e => if e.1 == n then (n, c) else e)).find? (fun e => e.1 == n) = some (n, c) := by
  induction l with
  | nil => obtain ⟨e, he, _⟩ := h; cases he
  | cons a t ih =>
    simp only [List.map_cons, List.find?_cons]
    by_cases ha : (a.1 == n) = true
    · simp [ha]
    · have ha' : (a.1 == n) = false := by simpa using ha
      simp only [ha', Bool.false_eq_true, if_false]
      apply ih
      obtain ⟨e, he, hen⟩ := h
      rcases List.mem_cons.mp he with h1 | h1
      · subst h1; simp [hen] at ha'
      · exact ⟨e, h1, hen⟩

theorem find_map_ne (l : FS) {n m : FName} (c : Bytes) (h : m ≠ n) :
    (l.map (fun e => if e.1 == n then (n, c) else e)).find? (fun e => e.1 == m) = l.find? (fun e => e.1 == m) := by
  induction l with
  | nil => rfl
  | cons a t ih =>
    simp only [List.map_cons, List.find?_cons]
    by_cases ha : (a.1 == n) = true
    · have han : a.1 = n := by simpa using ha
      have h1 : (a.1 == m) = false := by
        simp only [beq_eq_false_iff_ne, ne_eq]; intro e; exact h (by rw [← e, han])
      have h2 : (n == m) = false := by
        simp only [beq_eq_false_iff_ne, ne_eq]; intro e; exact h e.symm
      simp only [ha, if_true, h1, h2]
      exact ih
    · have ha' : (a.1 == n) = false := by simpa using ha
      simp only [ha', Bool.false_eq_true, if_false]
      by_cases hm : (a.1 == m) = true
      · simp [hm]
      · have hm' : (a.1 == m) = false := by simpa using hm
        simp only [hm']
        exact ih

theorem get_isSome_iff (fs : FS) (n : FName) : (fs.get n).isSome = true ↔ ∃ e ∈ fs, e.1 = n := by
  unfold FS.get
  cases hf : fs.find? (fun e => e.1 == n) with
  | none =>
    simp only [Option.map_none, Option.isSome_none, Bool.false_eq_true, false_iff]
    rintro ⟨e, he, hen⟩
    have := List.find?_eq_none.mp hf e he
    simp [hen] at this
  | some e =>
    simp only [Option.map_some, Option.isSome_some, true_iff]
    have h1 := List.mem_of_find?_eq_some hf
    have h2 := List.find?_some hf
    exact ⟨e, h1, by simpa using h2⟩

theorem get_set_eq (fs : FS) (n : FName) (c : Bytes) : (fs.set n c).get n = some c := by
  unfold FS.set
  split
  · rename_i hs
    unfold FS.get
    rw [find_map_set fs n c ((get_isSome_iff fs n).mp hs)]
    rfl
  · rename_i hs
    unfold FS.get
    have hnone : fs.find? (fun e => e.1 == n) = none := by
      cases hf : fs.find? (fun e => e.1 == n) with
      | none => rfl
      | some e =>
        exfalso; apply hs
        unfold FS.get; rw [hf]; rfl
    rw [List.find?_append, hnone]
    simp

theorem get_set_ne (fs : FS) {n m : FName} (c : Bytes) (h : m ≠ n) : (fs.set n c).get m = fs.get m := by
  unfold FS.set
  split
  · unfold FS.get
    rw [find_map_ne fs c h]
  · unfold FS.get
    rw [List.find?_append]
    cases hf : fs.find? (fun e => e.1 == m) with
    | some e => simp
    | none =>
      have : (n == m) = false := by
        simp only [beq_eq_false_iff_ne, ne_eq]; intro e; exact h e.symm
      simp [this]

theorem get_del_ne (fs : FS) {n m : FName} (h : m ≠ n) : (fs.del n).get m = fs.get m := by
  unfold FS.del FS.get
  congr 1
  induction fs with
  | nil => rfl
  | cons a t ih =>
    simp only [List.filter_cons]
    by_cases ha : (a.1 != n) = true
    · simp only [ha, if_true, List.find?_cons]
      by_cases hm : (a.1 == m) = true
      · simp [hm]
      · have hm' : (a.1 == m) = false := by simpa using hm
        simp only [hm']; exact ih
    · have han : a.1 = n := by simpa using ha
      have : (a.1 == m) = false := by
        simp only [beq_eq_false_iff_ne, ne_eq]; intro e; exact h (by rw [← e, han])
      simp only [ha, List.find?_cons, this]
      exact ih

def FsOp.names : FsOp → List FName
  | .create n => [n]
  | .append n _ => [n]
  | .pwriteHdr n _ => [n]
  | .rename a b => [a, b]
  | .remove n => [n]

theorem get_apply_other (fs : FS) (op : FsOp) (m : FName) (h : m ∉ op.names) : (fs.apply op).get m = fs.get m := by
  cases op with
  | create n => simp [FsOp.names] at h; exact get_set_ne fs [] h
  | remove n => simp [FsOp.names] at h; exact get_del_ne fs h
  | append n bs =>
    simp [FsOp.names] at h
    simp only [FS.apply]
    cases fs.get n with
    | none => rfl
    | some c => exact get_set_ne fs _ h
  | pwriteHdr n hdr =>
    simp [FsOp.names] at h
    simp only [FS.apply]
    cases fs.get n with
    | none => rfl
    | some c => exact get_set_ne fs _ h
  | rename a b =>
    simp [FsOp.names] at h
    simp only [FS.apply]
    cases fs.get a with
    | none => rfl
    | some c => rw [get_set_ne _ _ h.2, get_del_ne _ h.1]

theorem get_applyAll_other (ops : List FsOp) (fs : FS) (m : FName) (h : ∀ op ∈ ops, m ∉ op.names) :
    (fs.applyAll ops).get m = fs.get m := by
  induction ops generalizing fs with
  | nil => rfl
  | cons op rest ih =>
    show ((fs.apply op).applyAll rest).get m = _
    rw [ih _ (fun o ho => h o (List.mem_cons_of_mem _ ho)), get_apply_other fs op m (h op (by simp))]

theorem rdbWrite_names (s : Disk) (o : DOp) (h : (∃ c, o = .rdbAppend c) ∨ o = .rdbClose) :
    ∀ op ∈ fsOps s o, ∀ l, aofName l ∉ op.names := by
  intro op hop l
  rcases h with ⟨c, rfl⟩ | rfl <;> simp only [fsOps] at hop
  · split at hop
    · split at hop
      · rcases List.mem_append.mp hop with h1 | h1
        · rw [List.mem_singleton] at h1; subst h1
          simp [FsOp.names, aofName, rdbTmpName]
        · split at h1
          · rw [List.mem_singleton] at h1; subst h1
            simp [FsOp.names, aofName, rdbTmpName, rdbName]
          · cases h1
      · cases hop
    · cases hop
  · split at hop
    · split at hop
      · rw [List.mem_singleton] at hop; subst hop
        simp [FsOp.names, aofName, rdbTmpName]
      · cases hop
    · cases hop

/-- the temporary file of a snapshot being written holds exactly the bytes written so far -/
def TmpRel (s : Disk) (fs : FS) : Prop :=
  ∀ r, s.rdb = some r → r.writing = true → fs.get (rdbTmpName r.left r.size) = some r.data

def AofOrFinalOnly (ops : List FsOp) : Prop :=
  ∀ op ∈ ops, (∀ l s, rdbTmpName l s ∉ op.names) ∧ (∀ P fs, RdbSafeP P fs op)

theorem closeLiveOps_aof (s : Disk) : AofOrFinalOnly (closeLiveOps s) := by
  intro op hop
  unfold closeLiveOps at hop
  split at hop
  · simp at hop
  · split at hop <;> (simp at hop; subst hop; exact ⟨by intro l s; simp [FsOp.names, aofName, rdbTmpName], by intro P fs; simp [RdbSafeP, aofName, parseRdbName]⟩)

theorem safe_of_aofOnly {ops : List FsOp} (h : AofOrFinalOnly ops) (P : Nat → Nat → Bytes → Prop) (fs : FS) :
    ∀ p1 op p2, ops = p1 ++ op :: p2 → RdbSafeP P (fs.applyAll p1) op := by
  intro p1 op p2 he
  exact (h op (by rw [he]; simp)).2 _ _

theorem tmpRel_of_aofOnly {ops : List FsOp} (h : AofOrFinalOnly ops) {s s' : Disk} {fs : FS}
    (hr : TmpRel s fs) (hrdb : ∀ r, s'.rdb = some r → r.writing = true → s.rdb = some r) :
    TmpRel s' (fs.applyAll ops) := by
  intro r hr' hw
  rw [get_applyAll_other ops fs _ (fun op hop => (h op hop).1 r.left r.size)]
  exact hr r (hrdb r hr' hw) hw

theorem parseRdbName_rdbName {l s L S : Nat} (h : parseRdbName (rdbName l s) = some (L, S)) : l = L ∧ s = S := by
  simp [parseRdbName, rdbName] at h; exact h

theorem truncateGap_rdb (rdb : Option DRdb) (segs : List DSeg) :
    (truncateGap rdb segs).1 = none ∨ (truncateGap rdb segs).1 = rdb := by
  unfold truncateGap
  simp only []
  repeat' split
  all_goals simp_all

theorem rescan_rdb_not_writing (s : Disk) : ∀ r, s.rescan.rdb = some r → r.writing = false := by
  intro r hr
  have hrdb : s.rescan.rdb = (truncateGap (match s.rdb with
      | some r => if r.final then some { r with writing := false } else none
      | none => none) (sortSegs (s.all.filter (fun g => !g.data.isEmpty)))).1 := rfl
  rw [hrdb] at hr
  rcases truncateGap_rdb (match s.rdb with
      | some r => if r.final then some { r with writing := false } else none
      | none => none) (sortSegs (s.all.filter (fun g => !g.data.isEmpty))) with h | h
  · rw [h] at hr; cases hr
  · rw [h] at hr
    split at hr
    · split at hr
      · simp at hr; subst hr; rfl
      · cases hr
    · cases hr

theorem append_eq_split {α} (a b pre post : List α) (x : α) (h : a ++ b = pre ++ x :: post) :
    (∃ p2, a = pre ++ x :: p2 ∧ post = p2 ++ b) ∨ (∃ p1, pre = a ++ p1 ∧ b = p1 ++ x :: post) := by
  induction a generalizing pre with
  | nil => right; exact ⟨pre, by simp, by simpa using h⟩
  | cons y t ih =>
    cases pre with
    | nil =>
      simp at h
      left; exact ⟨t, by simp [h.1], h.2.symm⟩
    | cons z u =>
      simp at h
      rcases ih u h.2 with ⟨p2, h1, h2⟩ | ⟨p1, h1, h2⟩
      · left; exact ⟨p2, by simp [h.1, h1], h2⟩
      · right; exact ⟨p1, by simp [h.1, h1], h2⟩

theorem single_op_positions {P : FS → FsOp → Prop} {fs : FS} {o : FsOp} (h : P fs o) :
    ∀ p1 x p2, [o] = p1 ++ x :: p2 → P (fs.applyAll p1) x := by
  intro p1 x p2 he
  cases p1 with
  | nil => simp at he; rw [← he.1]; exact h
  | cons a t => simp at he

theorem positions_append {P : FS → FsOp → Prop} {fs : FS} {A B : List FsOp}
    (hA : ∀ p1 o p2, A = p1 ++ o :: p2 → P (fs.applyAll p1) o)
    (hB : ∀ p1 o p2, B = p1 ++ o :: p2 → P ((fs.applyAll A).applyAll p1) o) :
    ∀ p1 o p2, A ++ B = p1 ++ o :: p2 → P (fs.applyAll p1) o := by
  intro p1 o p2 he
  rcases append_eq_split _ _ _ _ _ he with ⟨q, h1, _⟩ | ⟨q, h1, h2⟩
  · exact hA p1 o q h1
  · rw [h1, applyAll_append]; exact hB q o p2 h2

theorem get_apply_append_eq {fs : FS} {n : FName} {c : Bytes} (bs : Bytes) (h : fs.get n = some c) :
    (fs.apply (.append n bs)).get n = some (c ++ bs) := by
  simp only [FS.apply, h]; exact get_set_eq _ _ _

theorem fsOps_readerOp (s : Disk) {op : DOp} (hop : op.isReaderOp = true) : fsOps s op = [] := by
  cases op <;> first | rfl | cases hop

/-- One writer step: its file operations are safe where they are applied, and the temporary-file
    relation holds again afterwards. Only the snapshot writer's three operations act on a temporary
    file; all others touch stream files and committed snapshots and leave a snapshot being written
    as it is. -/
theorem fsOps_step (P : Nat → Nat → Bytes → Prop) (s : Disk) (fs : FS) (op : DOp) (hok : s.okOp op)
    (hr : TmpRel s fs)
    (hP : ∀ r chunk, op = .rdbAppend chunk → s.rdb = some r → r.writing = true →
      r.data.length + chunk.length = r.size → P r.left r.size (r.data ++ chunk)) :
    (∀ p1 o p2, fsOps s op = p1 ++ o :: p2 → RdbSafeP P (fs.applyAll p1) o) ∧
    TmpRel (s.step op).1 (fs.applyAll (fsOps s op)) := by
  have frame : ∀ (ops : List FsOp) (s' : Disk), AofOrFinalOnly ops →
      (∀ r, s'.rdb = some r → r.writing = true → s.rdb = some r) →
      (∀ p1 o p2, ops = p1 ++ o :: p2 → RdbSafeP P (fs.applyAll p1) o) ∧ TmpRel s' (fs.applyAll ops) :=
    fun ops s' hops hrdb => ⟨safe_of_aofOnly hops P fs, tmpRel_of_aofOnly hops hr hrdb⟩
  have none : AofOrFinalOnly [] := fun _ h => nomatch h
  have aofOp : ∀ {o : FsOp} {n : Nat}, o.names = [aofName n] → (∀ P fs, RdbSafeP P fs o) →
      (∀ l s, rdbTmpName l s ∉ o.names) ∧ (∀ P fs, RdbSafeP P fs o) :=
    fun hn hs => ⟨by intro l s; rw [hn]; simp [aofName, rdbTmpName], hs⟩
  by_cases hop : op.isReaderOp = true
  · rw [fsOps_readerOp s hop]
    refine frame [] _ none (fun r hr' _ => ?_)
    obtain ⟨_, e⟩ := readerOp_eq s hop
    rw [e] at hr'; exact hr'
  cases op with
  | newRdbWriter off size =>
    simp only [fsOps]
    constructor
    · intro p1 o p2 he
      -- every operation is a remove, a header rewrite or remove of a stream file, or the creation of the temporary file
      have hm : o ∈ resetOps s ++ [FsOp.create (rdbTmpName off size)] := by rw [he]; simp
      rcases List.mem_append.mp hm with h1 | h1
      · unfold resetOps at h1
        simp only [List.mem_append] at h1
        rcases h1 with (h1 | h1) | h1
        · split at h1
          · split at h1 <;> simp at h1
            subst h1; trivial
          · simp at h1
        · exact (closeLiveOps_aof s o h1).2 _ _
        · obtain ⟨n, _, rfl⟩ := List.mem_map.mp h1; trivial
      · simp at h1; subst h1; simp [RdbSafeP, rdbTmpName, parseRdbName]
    · intro r hr' hw
      simp only [Disk.step] at hr'
      cases hr'
      rw [applyAll_append]
      exact get_set_eq _ _ _
  | rdbAppend chunk =>
    simp only [fsOps, Disk.step]
    cases hrdb : s.rdb with
    | none => exact frame [] s none (fun r h _ => h)
    | some r =>
      cases hw : r.writing with
      | false => simpa [hw] using frame [] s none (fun r h _ => h)
      | true =>
        simp only [hw, if_true]
        have happ := get_apply_append_eq chunk (hr r hrdb hw)
        have hsafe : RdbSafeP P fs (.append (rdbTmpName r.left r.size) chunk) := by
          simp [RdbSafeP, rdbTmpName, parseRdbName]
        by_cases hc : r.data.length + chunk.length = r.size
        · have hc' : (r.data ++ chunk).length = r.size := by simp [hc]
          simp only [hc, hc', if_true]
          constructor
          · -- the append, then the rename of a file that holds what the index holds and the chunk
            apply positions_append (single_op_positions hsafe) (single_op_positions _)
            intro L S hp c hcget
            have : (fs.apply (.append (rdbTmpName r.left r.size) chunk)).get (rdbTmpName r.left r.size) = some c := hcget
            rw [happ] at this
            cases this
            obtain ⟨rfl, rfl⟩ := parseRdbName_rdbName hp
            exact hP r chunk rfl hrdb hw hc
          · intro r' hr' hw'
            cases hr'; cases hw'
        · have hc' : ¬ (r.data ++ chunk).length = r.size := by simp; exact hc
          simp only [hc, hc', if_false, List.append_nil]
          refine ⟨single_op_positions hsafe, ?_⟩
          intro r' hr' hw'
          cases hr'
          exact happ
  | rdbClose =>
    simp only [fsOps, Disk.step]
    cases hrdb : s.rdb with
    | none => exact frame [] s none (fun r h _ => h)
    | some r =>
      cases hw : r.writing with
      | false => simpa [hw] using frame [] s none (fun r h _ => h)
      | true =>
        simp only [hw, if_true]
        exact ⟨single_op_positions (P := RdbSafeP P) trivial, fun r' hr' => nomatch hr'⟩
  | newAofWriter off =>
    refine frame _ _ (fun o ho => ?_) (fun r hr' _ => ?_)
    · rcases List.mem_append.mp ho with h1 | h1
      · exact closeLiveOps_aof s o h1
      · simp at h1
        rcases h1 with rfl | rfl <;> exact aofOp rfl (by intro P fs; simp [RdbSafeP, aofName, parseRdbName])
    · rw [← (closeLive_hist s).2.2]; exact hr'
  | aofAppend chunk =>
    simp only [fsOps]
    cases hl : s.live with
    | none =>
      refine frame [] _ none (fun r hr' _ => ?_)
      simp only [Disk.step, Disk.appendLive, hl] at hr'
      exact hr'
    | some g =>
      refine frame _ _ (fun o ho => ?_) (fun r hr' _ => ?_)
      · rcases List.mem_append.mp ho with h1 | h1
        · simp at h1; subst h1; exact aofOp rfl (by intro P fs; simp [RdbSafeP, aofName, parseRdbName])
        · split at h1
          · simp at h1
            rcases h1 with rfl | rfl | rfl <;> exact aofOp rfl (by intro P fs; simp [RdbSafeP, aofName, parseRdbName])
          · cases h1
      · simp only [Disk.step, Disk.appendLive, hl] at hr'
        split at hr' <;> exact hr'
  | aofClose =>
    exact frame _ _ (closeLiveOps_aof s) (fun r hr' _ => by rw [← (closeLive_hist s).2.2]; exact hr')
  | gc =>
    refine frame _ _ (fun o ho => ?_) (fun r hr' _ => ?_)
    · simp only [fsOps, List.mem_append] at ho
      rcases ho with h1 | h1
      · split at h1
        · simp at h1; subst h1
          exact ⟨by intro l s; simp [FsOp.names, rdbName, rdbTmpName], by intro P fs; trivial⟩
        · cases h1
      · obtain ⟨g, _, rfl⟩ := List.mem_map.mp h1
        exact aofOp rfl (by intro P fs; trivial)
    · rcases (gc_ghost s).2.2.2.2.2 with e | e
      · rw [← e]; exact hr'
      · rw [show s.gc.rdb = some r from hr'] at e; cases e
  | setRunId id =>
    refine frame [] _ none (fun r hr' hw => ?_)
    simp only [Disk.step] at hr'
    split at hr'
    · cases hr'
    · split at hr'
      · exact hr'
      · have := rescan_rdb_not_writing s.closeAllForSwitch r hr'
        rw [this] at hw; cases hw
  | delRunId =>
    refine frame [] _ none (fun r hr' _ => ?_)
    simp only [Disk.step] at hr'
    split at hr'
    · exact hr'
    · cases hr'
  | _ => exact absurd rfl hop

theorem tmpRel_init (l m : Nat) : TmpRel (Disk.init l m) [] := by
  intro r hr; simp [Disk.init] at hr

theorem get_some_of_mem {fs : FS} {n : FName} {c : Bytes} (h : (n, c) ∈ fs) : ∃ c', fs.get n = some c' ∧ (n, c') ∈ fs := by
  have : (fs.get n).isSome = true := (get_isSome_iff fs n).mpr ⟨(n, c), h, rfl⟩
  obtain ⟨c', hc'⟩ := Option.isSome_iff_exists.mp this
  exact ⟨c', hc', get_some_mem hc'⟩

theorem reopen_rdb_okP {P : Nat → Nat → Bytes → Prop} {fs : FS} (hok : RdbOkP P fs) {l sz : Nat}
    (h : (reopen fs).rdb = some (l, sz)) : ∃ c, fs.get (rdbName l sz) = some c ∧ P l sz c := by
  obtain ⟨e, he, hp⟩ := scanRdb_some (reopen_rdb_some h)
  obtain ⟨c, hget, hmem⟩ := get_some_of_mem (n := rdbName l sz) (c := e.2) (by rw [← parseRdbName_some hp]; exact he)
  exact ⟨c, hget, hok _ hmem l sz rfl⟩

theorem serveFrom_stops_at_corrupt (fs : FS) (pre : List DSeg) (g : DSeg) (post : List DSeg) (off : Nat)
    (file : Bytes) (hf : fs.get (aofName g.left) = some file) (hbad : segVerifyOk file = false) :
    (serveFrom fs true (pre ++ g :: post) off).1.length ≤ (pre.map (·.data.length)).sum ∧
    (serveFrom fs true (pre ++ g :: post) off).2 ≠ ServeEnd.eof := by
  induction pre generalizing off with
  | nil =>
    simp only [List.nil_append, serveFrom_refuses fs g post off file hf hbad]
    simp
  | cons a t ih =>
    simp only [List.cons_append, serveFrom]
    cases hg : fs.get (aofName a.left) with
    | none => simp
    | some fa =>
      simp only []
      split
      · simp
      · obtain ⟨h1, h2⟩ := ih a.right
        simp only [List.map_cons, List.sum_cons, List.length_append, List.length_drop]
        exact ⟨by omega, h2⟩

theorem segVerifyOk_altered_crc (data : Bytes) (c : Nat) (hc : c < 2 ^ 64) (hne : c ≠ crc64 data) :
    segVerifyOk ((1 :: (leBytes 8 c ++ leBytes 4 (data.length % 4294967296) ++ [0, 0, 0])) ++ data) = false := by
  rw [segVerifyOk_fields, Nat.mod_eq_of_lt (show c < 256 ^ 8 from hc)]
  have hne' : (c == crc64 data) = false := by simpa using hne
  rw [hne', Bool.and_false]

end GunYu.StoreFs
