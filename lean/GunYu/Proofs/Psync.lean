/-
  The cache's query API under `CacheWF` (both backends answer alike), Redis's admission rule, and
  `syncMeta`'s decision as ONE table (`table`, rows `Row`) of which `decision`, `decisionL` and
  `decisionG` are readings: every fact about a decision is a case split over five rows.
-/
import GunYu.Model.PsyncMach

namespace GunYu.Psync

/-! ### cache queries under well-formedness (both backends agree) -/

/-- the snapshot serves the offsets before it, and its own offset while no log is held
    (with a log starting there the log serves it; with a log starting later — memory,
    after the collector — nobody does) -/
def rdbCovers (c : Cache) (off : Int) : Prop :=
  match c.rdb with | some (left, _) => off < left ∨ (off = left ∧ c.aof = none) | none => False
def aofCovers (c : Cache) (off : Int) : Prop :=
  match c.aof with | some (l, r) => l ≤ off ∧ off ≤ r | none => False

theorem inRange_iff {c : Cache} (h : CacheWF c) (off : Int) :
    c.inRange off = true ↔ rdbCovers c off ∨ aofCovers c off := by
  obtain ⟨be, rid, rdb, aof⟩ := c
  obtain ⟨ha, hr, hc, _⟩ := h
  cases be <;> cases rdb <;> cases aof <;>
    simp only [Cache.inRange, Cache.range, maxInt64, rdbCovers, aofCovers] <;>
    (try rename_i x; obtain ⟨a, b⟩ := x) <;> (try rename_i y; obtain ⟨a', b'⟩ := y) <;>
    simp
  all_goals (simp only [maxInt64, if_true, if_false, reduceCtorEq] at ha hr hc; omega)

theorem CacheWF.aof_bounds {c : Cache} (h : CacheWF c) {l r : Int} (ha : c.aof = some (l, r)) :
    0 ≤ l ∧ l ≤ r ∧ r ≤ maxInt64 := by
  have := h.aof_ok; rw [ha] at this; exact this

theorem CacheWF.rdb_bounds {c : Cache} (h : CacheWF c) {left size : Int} (hr : c.rdb = some (left, size)) :
    0 ≤ left ∧ 0 < size ∧ left ≤ maxInt64 := by
  have := h.rdb_ok; rw [hr] at this; exact this

theorem CacheWF.left_le_log {c : Cache} (h : CacheWF c) {left size l r : Int} (hr : c.rdb = some (left, size))
    (ha : c.aof = some (l, r)) : left ≤ l := by
  have := h.contig; rw [hr, ha] at this
  simp only at this
  split at this <;> omega

theorem latest_aof {c : Cache} {l r : Int} (h : c.aof = some (l, r)) : c.latest = r := by
  simp [Cache.latest, h]

theorem latest_rdb {c : Cache} {left size : Int} (ha : c.aof = none) (h : c.rdb = some (left, size)) :
    c.latest = left := by
  simp [Cache.latest, h, ha]

theorem latest_none {c : Cache} (ha : c.aof = none) (h : c.rdb = none) : c.latest = -1 := by
  simp [Cache.latest, h, ha]

theorem CacheWF.left_le_latest {c : Cache} (h : CacheWF c) {left size : Int} (hr : c.rdb = some (left, size)) :
    left ≤ c.latest := by
  cases ha : c.aof with
  | none => rw [latest_rdb ha hr]; exact Int.le_refl _
  | some p => rw [latest_aof ha]; have := h.left_le_log hr ha; have := h.aof_bounds ha; omega

/-- the right end reported by `GetOffsetRange` is the newest offset -/
theorem range_snd {c : Cache} (h : CacheWF c) (hd : c.rdb.isSome ∨ c.aof.isSome) :
    c.range.2 = c.latest := by
  obtain ⟨be, rid, rdb, aof⟩ := c
  obtain ⟨ha, hr, hc, _⟩ := h
  cases be <;> cases rdb <;> cases aof <;>
    simp only [Cache.range, Cache.latest, maxInt64] <;>
    (try rename_i x; obtain ⟨a, b⟩ := x) <;> (try rename_i y; obtain ⟨a', b'⟩ := y) <;>
    simp at hd ⊢
  all_goals (simp only [maxInt64, if_true, if_false, reduceCtorEq] at ha hr hc; omega)

theorem openReader_aof_inv {c : Cache} {off o : Int} (h : openReader c off = .aof o) :
    o = off ∧ ∃ l r, c.aof = some (l, r) ∧ l ≤ off ∧ off ≤ r := by
  unfold openReader at h
  split at h
  · cases h
  · split at h
    · split at h
      · cases h; exact ⟨rfl, _, _, ‹c.aof = _›, ‹_ ∧ _›⟩
      · split at h
        · split at h <;> cases h
        · cases h
    · split at h
      · split at h <;> cases h
      · cases h

theorem openReader_rdb_inv {c : Cache} {off left size : Int} (h : openReader c off = .rdb left size) :
    c.rdb = some (left, size) ∧ off ≤ left := by
  unfold openReader at h
  split at h
  · cases h
  · split at h
    · split at h
      · cases h
      · split at h
        · split at h
          · cases h; exact ⟨‹c.rdb = _›, ‹_›⟩
          · cases h
        · cases h
    · split at h
      · split at h
        · cases h; exact ⟨‹c.rdb = _›, ‹_›⟩
        · cases h
      · cases h

/-! ### start point -/

theorem contains_ids {a b x : Id} : [a, b].contains x = true ↔ x = a ∨ x = b := by
  simp

theorem served_real {s : Source} (hs : SourceWF s) {x : Id} (h : x = s.id1 ∨ x = s.id2) : x ≠ [] ∧ x ≠ qId := by
  rcases h with e | e <;> rw [e]
  · exact ⟨hs.id1_ne, hs.id1_nq⟩
  · exact ⟨hs.id2_ne, hs.id2_nq⟩

theorem startPoint_in {s : Source} (hs : SourceWF s) (c : Cache)
    (h : [s.id1, s.id2].contains (c.startPoint [s.id1, s.id2]).runId = true) :
    c.startPoint [s.id1, s.id2] = ⟨c.runId, c.latest⟩ ∧ (c.runId = s.id1 ∨ c.runId = s.id2) := by
  have hq : ¬(SP.initial.runId = s.id1 ∨ SP.initial.runId = s.id2) := fun e => (served_real hs e).2 rfl
  rw [contains_ids] at h
  cases hb : c.backend <;> simp only [Cache.startPoint, hb] at h ⊢
  · -- disk: the offset answered is `latest` when the id was found, and 0 = `latest` when it was not
    generalize hfd : ([s.id1, s.id2].any fun id => realId id && id == c.runId && c.latest != 0) = found at h ⊢
    by_cases hi : (if found = true then c.latest else 0) < 0 ∨ c.runId = []
    · rw [if_pos hi] at h; exact absurd h hq
    · rw [if_neg hi] at h ⊢
      refine ⟨?_, h⟩
      cases found
      · obtain ⟨h1, h2⟩ := served_real hs h
        have hp := List.any_eq_false.mp hfd c.runId (by simpa using h)
        have : c.latest = 0 := by simpa [realId, h1, h2] using hp
        rw [this]; rfl
      · rfl
  · by_cases hi : ([s.id1, s.id2].any fun id => realId id && id == c.runId && c.runId != []) = true
    · rw [if_pos hi] at h ⊢; exact ⟨rfl, h⟩
    · rw [if_neg hi] at h; exact absurd h hq

/-! ### admission and SendPSync -/

theorem admit_cont {s : Source} {id : Id} {off : Int} {nid : Id} (h : admitPsync s id off = .cont nid) :
    (id = s.id1 ∨ (id = s.id2 ∧ off ≤ s.switchOff + 1)) ∧ s.backlog = true ∧
      s.backlogFirst ≤ off ∧ off ≤ s.backlogFirst + s.backlogLen := by
  unfold admitPsync at h
  split at h
  · cases h
  · split at h
    · cases h
    · rename_i h1 h2
      refine ⟨?_, ?_, ?_, ?_⟩
      · by_cases e1 : id = s.id1
        · exact Or.inl e1
        · by_cases e2 : id = s.id2
          · right; refine ⟨e2, ?_⟩
            false_or_by_contra; rename_i hgt
            exact h1 ⟨e1, Or.inr (by omega)⟩
          · exact absurd ⟨e1, Or.inl e2⟩ h1
      · cases hb : s.backlog <;> simp_all
      · false_or_by_contra; rename_i hlt; exact h2 (Or.inr (Or.inl (by omega)))
      · false_or_by_contra; rename_i hgt; exact h2 (Or.inr (Or.inr (by omega)))

theorem admit_cont_iff (s : Source) (id : Id) (off : Int) :
    (∃ n, admitPsync s id off = .cont n) ↔
      (id = s.id1 ∨ (id = s.id2 ∧ off ≤ s.switchOff + 1)) ∧ s.backlog = true ∧
        s.backlogFirst ≤ off ∧ off ≤ s.backlogFirst + s.backlogLen := by
  refine ⟨fun ⟨n, h⟩ => admit_cont h, fun ⟨hid, hb, h3, h4⟩ => ⟨if s.capaId then s.id1 else [], ?_⟩⟩
  unfold admitPsync
  rw [if_neg fun h => hid.elim h.1 fun e => h.2.elim (· e.1) (by omega),
    if_neg fun h => h.elim (by rw [hb]; exact Bool.noConfusion) fun h => h.elim (by omega) (by omega)]

theorem admit_full {s : Source} {id : Id} {off : Int} {fid : Id} {o : Int}
    (h : admitPsync s id off = .full fid o) : fid = s.id1 ∧ o = s.masterOff := by
  unfold admitPsync at h
  split at h
  · cases h; exact ⟨rfl, rfl⟩
  · split at h
    · cases h; exact ⟨rfl, rfl⟩
    · cases h

theorem sendPSync_reqId (s : Source) (id : Id) (off : Int) : (sendPSync s id off).reqId = id := by
  unfold sendPSync
  cases h : admitPsync s id (wireOf off) <;> rfl

theorem sendPSync_wire (s : Source) (id : Id) (off : Int) : (sendPSync s id off).wireOff = wireOf off := by
  unfold sendPSync
  cases h : admitPsync s id (wireOf off) <;> rfl

theorem sendPSync_full {s : Source} {id : Id} {off : Int} (h : (sendPSync s id off).full = true) :
    (sendPSync s id off).runId = s.id1 ∧ (sendPSync s id off).off = s.masterOff ∧
      (sendPSync s id off).rdbSize = s.snapLen := by
  unfold sendPSync at h ⊢
  cases heq : admitPsync s id (wireOf off) with
  | cont nid => simp [heq] at h
  | full fid o =>
    have := admit_full heq
    simp only [heq] at h ⊢
    simp [this.1, this.2]

theorem sendPSync_cont {s : Source} (hs : SourceWF s) {id : Id} {off : Int}
    (h : (sendPSync s id off).full = false) :
    0 ≤ off ∧ (sendPSync s id off).wireOff = off + 1 ∧ (sendPSync s id off).off = off ∧
      (id = s.id1 ∨ (id = s.id2 ∧ off ≤ s.switchOff)) ∧ off ≤ s.masterOff ∧ s.backlogFirst ≤ off + 1 ∧
      s.backlog = true := by
  have hf := hs.first_pos
  unfold sendPSync at h ⊢
  cases heq : admitPsync s id (wireOf off) with
  | full fid o => simp [heq] at h
  | cont nid =>
    simp only [heq] at h ⊢
    have ha := admit_cont heq
    obtain ⟨h1, hb, h3, h4⟩ := ha
    have ht := hs.tail hb
    unfold wireOf at h1 h3 h4 ⊢
    by_cases hoff : off ≥ 0
    · rw [if_pos hoff] at h1 h3 h4
      rw [if_pos hoff]
      refine ⟨hoff, rfl, by omega, ?_, by omega, h3, hb⟩
      rcases h1 with h1 | ⟨h1, h2⟩
      · exact Or.inl h1
      · exact Or.inr ⟨h1, by omega⟩
    · rw [if_neg hoff] at h3
      omega

/-! ### the decision table, case by case -/

theorem qId_not_admitted {s : Source} (hs : SourceWF s) (off : Int) : (sendPSync s qId off).full = true := by
  cases h : (sendPSync s qId off).full
  · have := sendPSync_cont hs h
    rcases this.2.2.2.1 with e | ⟨e, _⟩
    · exact absurd e.symm hs.id1_nq
    · exact absurd e.symm hs.id2_nq
  · rfl

/-- `IsValidOffset(cache id, off)` for a real cache id is `inRange` -/
theorem isValid_own {c : Cache} (hq : c.runId ≠ qId) (off : Int) :
    c.isValidOffset c.runId off = c.inRange off := by
  simp [Cache.isValidOffset, hq]

/-- `syncMeta`'s decision table with the cache's answers as parameters: `loc0` is what
    `StartPoint` returned, `valid` what `IsValidOffset` said of the stored offset, `rdb` what
    `GetRdb` returned, `loc4` the writer start of branch 4. `decision`, `decisionL` and
    `decisionG` are this table read with different answers. -/
def table (src : Source) (sp loc0 : SP) (valid : Bool) (rdb : Int × Int) (loc4 : SP) : Decision :=
  let ids := [src.id1, src.id2]
  if ids.contains sp.runId && ids.contains loc0.runId then
    if valid then
      ⟨1, sendPSync src loc0.runId loc0.offset, false, loc0, sp.offset⟩
    else
      let ps := sendPSync src sp.runId sp.offset
      ⟨2, ps, true, if ps.full then loc0 else ⟨ps.runId, sp.offset⟩, sp.offset⟩
  else if ids.contains sp.runId then
    let ps := sendPSync src sp.runId sp.offset
    ⟨3, ps, true, if ps.full then loc0 else ⟨ps.runId, sp.offset⟩, sp.offset⟩
  else if ids.contains loc0.runId && sp.isInitial then
    if rdb.1 ≠ -1 ∧ rdb.2 ≠ -1 then
      let ps := sendPSync src loc0.runId loc0.offset
      if ps.full then ⟨4, ps, false, loc0, sp.offset⟩
      else ⟨4, { ps with rdbSize := rdb.2 }, false, loc4, rdb.1 - rdb.2⟩
    else
      ⟨5, sendPSync src qId (-1), false, loc0, sp.offset⟩
  else
    ⟨6, sendPSync src qId (-1), false, loc0, sp.offset⟩

inductive Row (s : Source) (sp loc0 : SP) (valid : Bool) (rdb : Int × Int) (loc4 : SP) : Decision → Prop
  | keep : (sp.runId = s.id1 ∨ sp.runId = s.id2) → (loc0.runId = s.id1 ∨ loc0.runId = s.id2) → valid = true →
      Row s sp loc0 valid rdb loc4 ⟨1, sendPSync s loc0.runId loc0.offset, false, loc0, sp.offset⟩
  | clear (br : Nat) : (sp.runId = s.id1 ∨ sp.runId = s.id2) →
      (br = 2 ∧ (loc0.runId = s.id1 ∨ loc0.runId = s.id2) ∨ br = 3) →
      Row s sp loc0 valid rdb loc4 ⟨br, sendPSync s sp.runId sp.offset, true,
        if (sendPSync s sp.runId sp.offset).full then loc0 else ⟨(sendPSync s sp.runId sp.offset).runId, sp.offset⟩,
        sp.offset⟩
  | snapFull : (loc0.runId = s.id1 ∨ loc0.runId = s.id2) → sp.isInitial = true → (rdb.1 ≠ -1 ∧ rdb.2 ≠ -1) →
      (sendPSync s loc0.runId loc0.offset).full = true →
      Row s sp loc0 valid rdb loc4 ⟨4, sendPSync s loc0.runId loc0.offset, false, loc0, sp.offset⟩
  | snap : (loc0.runId = s.id1 ∨ loc0.runId = s.id2) → sp.isInitial = true → (rdb.1 ≠ -1 ∧ rdb.2 ≠ -1) →
      (sendPSync s loc0.runId loc0.offset).full = false →
      Row s sp loc0 valid rdb loc4
        ⟨4, { sendPSync s loc0.runId loc0.offset with rdbSize := rdb.2 }, false, loc4, rdb.1 - rdb.2⟩
  | fresh (br : Nat) : (br = 5 ∧ (loc0.runId = s.id1 ∨ loc0.runId = s.id2) ∨ br = 6) →
      Row s sp loc0 valid rdb loc4 ⟨br, sendPSync s qId (-1), false, loc0, sp.offset⟩

theorem table_row (s : Source) (sp loc0 : SP) (valid : Bool) (rdb : Int × Int) (loc4 : SP) :
    Row s sp loc0 valid rdb loc4 (table s sp loc0 valid rdb loc4) := by
  unfold table
  by_cases hS : [s.id1, s.id2].contains sp.runId = true <;>
    by_cases hL : [s.id1, s.id2].contains loc0.runId = true <;>
    simp only [hS, hL, Bool.and_self, Bool.and_false, Bool.false_and, Bool.true_and, Bool.false_eq_true, if_true, if_false]
  · cases valid
    · exact .clear 2 (contains_ids.mp hS) (.inl ⟨rfl, contains_ids.mp hL⟩)
    · exact .keep (contains_ids.mp hS) (contains_ids.mp hL) rfl
  · exact .clear 3 (contains_ids.mp hS) (.inr rfl)
  · by_cases hi : sp.isInitial = true
    · rw [if_pos hi]
      by_cases hr : rdb.1 ≠ -1 ∧ rdb.2 ≠ -1
      · rw [if_pos hr]
        by_cases hf : (sendPSync s loc0.runId loc0.offset).full = true
        · rw [if_pos hf]; exact .snapFull (contains_ids.mp hL) hi hr hf
        · rw [if_neg hf]; exact .snap (contains_ids.mp hL) hi hr (Bool.eq_false_iff.mpr hf)
      · rw [if_neg hr]; exact .fresh 5 (.inl ⟨rfl, contains_ids.mp hL⟩)
    · rw [if_neg hi]; exact .fresh 6 (.inr rfl)
  · exact .fresh 6 (.inr rfl)

theorem decisionL_row (s : Source) (sp : SP) (c : Cache) (loc0 : SP) :
    Row s sp loc0 (c.isValidOffset loc0.runId sp.offset) (c.getRdb loc0.runId)
      ⟨loc0.runId, (c.getOffsetRange loc0.runId).2⟩ (decisionL s sp c loc0) :=
  table_row ..

theorem decisionG_row (s : Source) (sp : SP) (c0 : Cache) (g : GcSched) :
    Row s sp (c0.startPoint [s.id1, s.id2]) (g.c1.isValidOffset (c0.startPoint [s.id1, s.id2]).runId sp.offset)
      (g.c2.getRdb (c0.startPoint [s.id1, s.id2]).runId) (c0.startPoint [s.id1, s.id2]) (decisionG s sp c0 g) :=
  table_row ..

theorem Row.reqId {s : Source} {sp loc0 : SP} {valid : Bool} {rdb : Int × Int} {loc4 : SP} {dc : Decision}
    (h : Row s sp loc0 valid rdb loc4 dc) :
    dc.ps.reqId = s.id1 ∨ dc.ps.reqId = s.id2 ∨ dc.ps.reqId = qId := by
  cases h with
  | keep _ hl _ => simp only [sendPSync_reqId]; exact hl.imp id .inl
  | clear _ hs _ => simp only [sendPSync_reqId]; exact hs.imp id .inl
  | snapFull hl _ _ _ => simp only [sendPSync_reqId]; exact hl.imp id .inl
  | snap hl _ _ _ => simp only [sendPSync_reqId]; exact hl.imp id .inl
  | fresh _ _ => exact .inr (.inr (sendPSync_reqId ..))

theorem Row.full {s : Source} {sp loc0 : SP} {valid : Bool} {rdb : Int × Int} {loc4 : SP} {dc : Decision}
    (h : Row s sp loc0 valid rdb loc4 dc) (hf : dc.ps.full = true) :
    dc.ps.runId = s.id1 ∧ dc.ps.off = s.masterOff ∧ dc.ps.rdbSize = s.snapLen := by
  cases h with
  | snap _ _ _ hc => have : (sendPSync s loc0.runId loc0.offset).full = true := hf; rw [hc] at this; cases this
  | _ => exact sendPSync_full hf

/-- "correct run id": every reading of the table relabels with the source's current id -/
theorem Row.runId {s : Source} {sp loc0 : SP} {valid : Bool} {rdb : Int × Int} {loc4 : SP} {dc : Decision}
    (h : Row s sp loc0 valid rdb loc4 dc) : (if dc.ps.full = true then dc.ps.runId else s.id1) = s.id1 := by
  cases hf : dc.ps.full
  · rfl
  · exact (h.full hf).1

theorem Row.outOff {s : Source} {sp loc0 : SP} {valid : Bool} {rdb : Int × Int} {loc4 : SP} {dc : Decision}
    (h : Row s sp loc0 valid rdb loc4 dc) (hb : dc.branch ≠ 4) : dc.outOff = sp.offset := by
  cases h with
  | snap _ _ _ _ => exact absurd rfl hb
  | _ => rfl

theorem Row.served {s : Source} {sp loc0 : SP} {valid : Bool} {rdb : Int × Int} {loc4 : SP} {dc : Decision}
    (h : Row s sp loc0 valid rdb loc4 dc) (hs : SourceWF s) (hnf : dc.ps.full = false) (hb : dc.branch ≠ 4) :
    sp.runId = s.id1 ∨ sp.runId = s.id2 := by
  cases h with
  | keep hS _ _ => exact hS
  | clear _ hS _ => exact hS
  | snapFull _ _ _ _ => exact absurd rfl hb
  | snap _ _ _ _ => exact absurd rfl hb
  | fresh _ _ => rw [show _ = _ from qId_not_admitted hs (-1)] at hnf; cases hnf

theorem Row.branch4 {s : Source} {sp loc0 : SP} {valid : Bool} {rdb : Int × Int} {loc4 : SP} {dc : Decision}
    (h : Row s sp loc0 valid rdb loc4 dc) (hb : dc.branch = 4) (hnf : dc.ps.full = false) :
    (rdb.1 ≠ -1 ∧ rdb.2 ≠ -1) ∧ dc.clearLocal = false ∧ dc.loc = loc4 ∧ dc.outOff = rdb.1 - rdb.2 ∧
      (loc0.runId = s.id1 ∨ loc0.runId = s.id2) := by
  cases h with
  | keep _ _ _ => cases hb
  | clear br _ h => simp only at hb; omega
  | snapFull _ _ _ hf => rw [show _ = _ from hf] at hnf; cases hnf
  | snap hL _ hr _ => exact ⟨hr, rfl, rfl, rfl, hL⟩
  | fresh br h => simp only at hb; omega

theorem table_loc4 (s : Source) (sp loc0 : SP) (valid : Bool) (rdb : Int × Int) {a b : SP}
    (h : (loc0.runId = s.id1 ∨ loc0.runId = s.id2) → rdb.1 ≠ -1 → a = b) :
    table s sp loc0 valid rdb a = table s sp loc0 valid rdb b := by
  by_cases hL : [s.id1, s.id2].contains loc0.runId = true
  · by_cases hr : rdb.1 ≠ -1 ∧ rdb.2 ≠ -1
    · rw [h (contains_ids.mp hL) hr.1]
    · simp only [table, hr, if_false]
  · simp only [table, hL, Bool.false_and, Bool.and_false, Bool.false_eq_true, if_false]

/-- `GetRdb` answers something other than `(-1, -1)` only with the snapshot held -/
theorem getRdb_some {c : Cache} {id : Id} (h : (c.getRdb id).1 ≠ -1) : c.rdb = some (c.getRdb id) := by
  revert h
  unfold Cache.getRdb
  split
  · exact fun h => absurd rfl h
  · cases c.rdb with
    | none => exact fun h => absurd rfl h
    | some p => exact fun _ => rfl

/-- branch 4's two readings agree: with a snapshot held, `GetOffsetRange` ends at the newest offset -/
theorem range_own {c : Cache} (hc : CacheWF c) (h : (c.getRdb c.runId).1 ≠ -1) :
    (c.getOffsetRange c.runId).2 = c.latest := by
  simp only [Cache.getOffsetRange, ne_eq, not_true_eq_false, if_false]
  exact range_snd hc (.inl (by rw [getRdb_some h]; rfl))

/-! ### DelRunId / SetRunId -/

@[simp] theorem qId_ne_nil : qId ≠ [] := by decide
@[simp] theorem nil_ne_qId : ([] : Id) ≠ qId := by decide

theorem del_set_cleared {c : Cache} (h : CacheWF c) {new : Id} (hn : new ≠ []) (hq : new ≠ qId) :
    (c.delRunId c.runId).setRunId new = ⟨c.backend, new, none, none⟩ := by
  obtain ⟨be, rid, rdb, aof⟩ := c
  have hl := h.label
  cases be
  · by_cases e : rid = [] ∨ rid = qId
    · obtain ⟨h1, h2⟩ := hl e
      simp only at h1 h2
      subst h1; subst h2
      rcases e with e | e <;> subst e <;> simp [Cache.delRunId, Cache.setRunId, hn, hq]
    · have e1 : rid ≠ [] := fun x => e (Or.inl x)
      have e2 : rid ≠ qId := fun x => e (Or.inr x)
      simp [Cache.delRunId, Cache.setRunId, hn, hq, e1, e2]
  · simp [Cache.delRunId, Cache.setRunId]

theorem set_keep {c : Cache} (hr : c.runId ≠ []) {new : Id} (hn : new ≠ []) (hq : new ≠ qId) :
    c.setRunId new = { c with runId := new } := by
  obtain ⟨be, rid, rdb, aof⟩ := c
  cases be <;> simp_all [Cache.setRunId]

end GunYu.Psync
