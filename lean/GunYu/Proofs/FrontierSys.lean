/-
  The invariant of the replay transition system (Model/FrontierSys.lean): whatever the target stores, the
  coordinator holds or a queue carries as a frontier names a committed prefix of the units and the offset its
  last unit ends at. One case analysis of `startFrontier` (`startFrontier_cases`) serves every later proof
  about a start. Core only.
-/
import GunYu.Model.FrontierRenumber
import GunYu.Proofs.Frontier

namespace GunYu.Frontier
open GunYu

/-- every unit up to `m` has been committed -/
def PrefixCommitted (cm : List Int) (m : Int) : Prop := ∀ j, 0 < j → j ≤ m → j ∈ cm

/-- a frontier value that names a committed prefix and the offset its last unit ends at -/
def SoundSnap (W : World) (cm : List Int) (f : Snap) : Prop :=
  0 ≤ f.seq ∧ f.offset = W.e f.seq ∧ PrefixCommitted cm f.seq

theorem SoundSnap.mono {W : World} {cm cm' : List Int} {f : Snap} (h : SoundSnap W cm f)
    (hs : ∀ x, x ∈ cm → x ∈ cm') : SoundSnap W cm' f :=
  ⟨h.1, h.2.1, fun j h1 h2 => hs j (h.2.2 j h1 h2)⟩

/-- requests the coordinator / the recovery may have in flight -/
def QOk (W : World) (cm : List Int) : Req → Prop
  | .saveFrontier f => SoundSnap W cm f
  | .delRec _ => True
  | .zrem _ => True
  | .delFrontier => True
  | _ => False

theorem QOk.mono {W : World} {cm cm' : List Int} {q : Req} (h : QOk W cm q)
    (hs : ∀ x, x ∈ cm → x ∈ cm') : QOk W cm' q := by
  cases q with
  | saveFrontier f => exact SoundSnap.mono h hs
  | _ => exact h

def RecSound (W : World) (cm : List Int) (p : Rec) : Prop :=
  p.endOff = W.e p.seq ∧ p.seq ∈ cm ∧ 0 < p.seq

theorem RecSound.mono {W : World} {cm cm' : List Int} {p : Rec} (h : RecSound W cm p)
    (hs : ∀ x, x ∈ cm → x ∈ cm') : RecSound W cm' p := ⟨h.1, hs _ h.2.1, h.2.2⟩

structure SysInv (W : World) (s : Sys) : Prop where
  root : ∀ x, s.ns.root = some x → x.2.1 = W.e 0
  jr : ∀ j ∈ s.ns.journal, j.r.seq = j.kseq ∧ RecSound W s.committed j.r
  fr : ∀ f, s.ns.frontier = some f → SoundSnap W s.committed f
  co : ∀ r, s.run = some r → SoundSnap W s.committed r.coord.frontier ∧ 0 ≤ r.startSeq ∧
        (∀ p ∈ r.coord.pending, RecSound W s.committed p)
  qu : ∀ q ∈ s.queue, QOk W s.committed q

theorem rootNewer_iff {root : Bytes × Int × Nat} {off : Int} {ids : List Bytes} :
    rootNewer root off ids = true ↔ root.1 ≠ [] ∧ root.2.1 > off ∧ matchRun root.1 ids = true := by
  unfold rootNewer
  simp only [decide_eq_true_eq]

theorem rootNewer_of_le {root : Bytes × Int × Nat} {off : Int} (ids : List Bytes) (h : root.2.1 ≤ off) :
    rootNewer root off ids = false := by
  rw [Bool.eq_false_iff, Ne, rootNewer_iff]
  exact fun hb => absurd hb.2.1 (Int.not_lt.mpr h)

theorem loadSnapshot_eq_some {ns : NS} {ids : List Bytes} {f : Snap} :
    loadSnapshot ns ids = some f ↔ ns.frontier = some f ∧ matchRun f.runId ids = true := by
  unfold loadSnapshot
  cases ns.frontier with
  | none => exact ⟨(fun h => nomatch h), fun h => nomatch h.1⟩
  | some s =>
    dsimp only
    constructor
    · intro h
      split at h
      · cases h; exact ⟨rfl, ‹_›⟩
      · cases h
    · rintro ⟨h, hm⟩
      cases h
      rw [if_pos hm]

theorem loadSnapshot_some {ns : NS} {ids : List Bytes} {f : Snap} (h : loadSnapshot ns ids = some f) :
    ns.frontier = some f :=
  (loadSnapshot_eq_some.mp h).1

theorem mem_idxInsert (x y : Int × Int) (l : List (Int × Int)) : y ∈ idxInsert x l ↔ y = x ∨ y ∈ l := by
  induction l with
  | nil => simp [idxInsert]
  | cons z l ih =>
    unfold idxInsert
    split
    · simp
    · simp only [List.mem_cons, ih]
      exact or_left_comm

theorem mem_idxSort (y : Int × Int) (l : List (Int × Int)) : y ∈ idxSort l ↔ y ∈ l := by
  induction l with
  | nil => simp [idxSort]
  | cons x l ih =>
    have : idxSort (x :: l) = idxInsert x (idxSort l) := rfl
    rw [this, mem_idxInsert, ih]; simp

theorem mem_loadRecords_iff (ns : NS) (ids : List Bytes) (m : Int) (j : JRec) :
    j ∈ loadRecords ns ids m ↔
      ∃ p ∈ ns.index, p.1 ≥ m ∧ ns.journal.find? (fun x => x.kseq = p.2) = some j ∧
        matchRun j.r.runId ids = true := by
  unfold loadRecords
  rw [List.mem_filterMap]
  constructor
  · rintro ⟨p, hp, hj⟩
    rw [mem_idxSort, List.mem_filter] at hp
    refine ⟨p, hp.1, by simpa using hp.2, ?_⟩
    split at hj
    · exact absurd hj (by simp)
    · rename_i j' hf
      split at hj
      · rename_i hm
        simp only [Option.some.injEq] at hj; subst hj
        exact ⟨hf, hm⟩
      · exact absurd hj (by simp)
  · rintro ⟨p, hp, hge, hf, hm⟩
    refine ⟨p, ?_, ?_⟩
    · rw [mem_idxSort, List.mem_filter]; exact ⟨hp, by simpa using hge⟩
    · simp only [hf, hm, if_true]

theorem mem_loadRecords {ns : NS} {ids : List Bytes} {m : Int} {j : JRec}
    (h : j ∈ loadRecords ns ids m) : j ∈ ns.journal :=
  let ⟨_, _, _, hf, _⟩ := (mem_loadRecords_iff ns ids m j).mp h
  List.mem_of_find?_eq_some hf

theorem loadRecords_match {ns : NS} {ids : List Bytes} {m : Int} {j : JRec}
    (h : j ∈ loadRecords ns ids m) : matchRun j.r.runId ids = true :=
  let ⟨_, _, _, _, hm⟩ := (mem_loadRecords_iff ns ids m j).mp h
  hm

theorem restartFromRoot_eq (ns : NS) (ids : List Bytes) (root : Bytes × Int × Nat) :
    ∃ reqs, restartFromRoot ns ids root = (rootPoint root, reqs) ∧
      (reqs = purgeReqs ns ids ∨ (reqs = [] ∧ loadSnapshot ns ids = none)) := by
  unfold restartFromRoot
  by_cases hc : (loadSnapshot ns ids).isSome = true ∨ ¬ (startRecords ns ids).isEmpty = true
  · rw [if_pos hc]; exact ⟨_, rfl, Or.inl rfl⟩
  · rw [if_neg hc]
    refine ⟨[], rfl, Or.inr ⟨rfl, ?_⟩⟩
    cases h : loadSnapshot ns ids with
    | none => rfl
    | some f => exact absurd (Or.inl (by rw [h]; rfl)) hc

/-- a start finds no root checkpoint, or falls back to it, or selects the rebuilt frontier `f` -/
theorem startFrontier_cases (ver : Bytes) (ns : NS) (ids : List Bytes) :
    (ns.root = none ∧ startFrontier ver ns ids = (.empty, [])) ∨
    (∃ root reqs, ns.root = some root ∧ startFrontier ver ns ids = (rootPoint root, reqs) ∧
      (reqs = purgeReqs ns ids ∨ (reqs = [] ∧ loadSnapshot ns ids = none)) ∧
      ∀ f, rebuild ver (loadSnapshot ns ids) ((startRecords ns ids).map (·.r)) = .ok (some f) → f.seq > 0 →
        rootNewer root f.offset ids = true) ∨
    (∃ root f, ns.root = some root ∧
      rebuild ver (loadSnapshot ns ids) ((startRecords ns ids).map (·.r)) = .ok (some f) ∧
      f.seq > 0 ∧ rootNewer root f.offset ids = false ∧
      startFrontier ver ns ids =
        (.point 0 (if f.runId = [] then ids.headD [] else f.runId) f.offset f.seq,
         recoveryReqs (startRecords ns ids) f)) := by
  unfold startFrontier
  cases hroot : ns.root with
  | none => exact Or.inl ⟨rfl, rfl⟩
  | some root =>
    obtain ⟨reqs, hR, hreqs⟩ := restartFromRoot_eq ns ids root
    refine Or.inr ?_
    dsimp only
    rw [hR]
    cases hrb : rebuild ver (loadSnapshot ns ids) ((startRecords ns ids).map (·.r)) with
    | error m => exact Or.inl ⟨root, reqs, rfl, rfl, hreqs, fun _ h => nomatch h⟩
    | ok res =>
      cases res with
      | none => exact Or.inl ⟨root, reqs, rfl, rfl, hreqs, fun _ h => nomatch h⟩
      | some f =>
        dsimp only
        by_cases hpos : f.seq > 0
        · rw [if_pos hpos]
          by_cases hnew : rootNewer root f.offset ids = true
          · rw [if_pos hnew]
            exact Or.inl ⟨root, reqs, rfl, rfl, hreqs, fun f' h _ => Option.some.inj (Except.ok.inj h) ▸ hnew⟩
          · rw [if_neg hnew]
            exact Or.inr ⟨root, f, rfl, rfl, hpos, (Bool.not_eq_true _).mp hnew, rfl⟩
        · rw [if_neg hpos]
          exact Or.inl ⟨root, reqs, rfl, rfl, hreqs,
            fun f' h hp => absurd (Option.some.inj (Except.ok.inj h) ▸ hp) hpos⟩

theorem qOk_of_isDelete {W : World} {cm : List Int} {q : Req} (h : isDelete q = true) : QOk W cm q := by
  cases q with
  | delRec _ => trivial
  | zrem _ => trivial
  | delFrontier => trivial
  | _ => cases h

theorem purgeReqs_form (ns : NS) (ids : List Bytes) : ∀ q ∈ purgeReqs ns ids, isDelete q = true := by
  intro q hq
  unfold purgeReqs at hq
  rcases List.mem_append.mp hq with hq | hq
  · rcases List.mem_append.mp hq with hq | hq
    · obtain ⟨k, _, rfl⟩ := List.mem_map.mp hq; rfl
    · split at hq
      · cases hq
      · rw [List.mem_singleton.mp hq]; rfl
  · rw [List.mem_singleton.mp hq]; rfl

theorem qOk_dels {W : World} {cm : List Int} (keys K : List Int) :
    ∀ q ∈ keys.map Req.delRec ++ [Req.zrem K], QOk W cm q := by
  intro q hq
  rcases List.mem_append.mp hq with hq | hq
  · obtain ⟨k, _, rfl⟩ := List.mem_map.mp hq; trivial
  · rw [List.mem_singleton.mp hq]; trivial

theorem start_sound {W : World} {s : Sys} (hi : SysInv W s) (db : Nat) (rid : Bytes) (off seq : Int)
    (reqs : List Req) (h : startFrontier W.ver s.ns W.ids = (.point db rid off seq, reqs)) :
    (0 ≤ seq ∧ off = W.e seq ∧ PrefixCommitted s.committed seq) ∧ (∀ q ∈ reqs, QOk W s.committed q) := by
  rcases startFrontier_cases W.ver s.ns W.ids with ⟨_, hst⟩ | ⟨root, reqs', hroot, hst, hreqs, _⟩ |
      ⟨root, f, _, hrb, hpos, _, hst⟩
  · rw [hst] at h; cases h
  · -- the root checkpoint, and a purge
    rw [hst] at h
    cases h
    refine ⟨⟨Int.le_refl _, hi.root root hroot, fun j h1 h2 => by omega⟩, fun q hq => ?_⟩
    rcases hreqs with rfl | ⟨rfl, _⟩
    · exact qOk_of_isDelete (purgeReqs_form s.ns W.ids q hq)
    · cases hq
  · -- the rebuilt frontier
    rw [hst] at h
    cases h
    obtain ⟨hb1, hb2, _, _⟩ := rebuild_spec W.ver _ _ f hrb
    have hrec : ∀ r ∈ (startRecords s.ns W.ids).map (·.r), RecSound W s.committed r := by
      intro r hr
      obtain ⟨j, hj, rfl⟩ := List.mem_map.mp hr
      exact (hi.jr j (mem_loadRecords hj)).2
    have hf : SoundSnap W s.committed f := by
      refine ⟨by omega, ?_, fun j hj1 hj2 => ?_⟩
      · rcases rebuild_origin hrb hpos with h1 | ⟨r, hr, hrs, hro, _⟩
        · exact (hi.fr f (loadSnapshot_some h1)).2.1
        · rw [← hro, (hrec r hr).1, hrs]
      · by_cases hjb : j ≤ baseSeq (loadSnapshot s.ns W.ids)
        · cases hsn : loadSnapshot s.ns W.ids with
          | none => rw [hsn] at hjb; exact absurd (Int.lt_of_lt_of_le hj1 hjb) (Int.lt_irrefl _)
          | some sn => rw [hsn] at hjb; exact (hi.fr sn (loadSnapshot_some hsn)).2.2 j hj1 hjb
        · obtain ⟨r, hr, hrs, _⟩ := hb2 j (by omega) hj2
          exact hrs ▸ (hrec r hr).2.1
    refine ⟨hf, fun q hq => ?_⟩
    unfold recoveryReqs at hq
    split at hq
    · cases hq
    · rcases List.mem_cons.mp hq with rfl | hq
      · exact hf
      · exact qOk_dels _ _ q hq

theorem pendingGet_some {p : List Rec} {n : Int} {r : Rec} (h : pendingGet p n = some r) :
    r ∈ p ∧ r.seq = n := by
  unfold pendingGet at h
  exact ⟨List.mem_of_find?_eq_some h, by simpa using List.find?_some h⟩

theorem coordAdvance_sound {W : World} {cm : List Int} :
    ∀ (fuel : Nat) (c : Coord), SoundSnap W cm c.frontier → (∀ p ∈ c.pending, RecSound W cm p) →
      SoundSnap W cm (coordAdvance fuel c).1.frontier ∧
      (∀ p ∈ (coordAdvance fuel c).1.pending, RecSound W cm p) := by
  intro fuel
  induction fuel with
  | zero => intro c h1 h2; exact ⟨h1, h2⟩
  | succ fuel ih =>
    intro c h1 h2
    unfold coordAdvance
    cases hg : pendingGet c.pending (c.frontier.seq + 1) with
    | none => exact ⟨h1, h2⟩
    | some r =>
      simp only
      obtain ⟨hmem, hseq⟩ := pendingGet_some hg
      have hr := h2 r hmem
      apply ih
      · refine ⟨by simp only; have := hr.2.2; omega, by simp only; exact hr.1, ?_⟩
        intro j hj1 hj2
        simp only at hj2
        by_cases hj : j ≤ c.frontier.seq
        · exact h1.2.2 j hj1 hj
        · have : j = r.seq := by omega
          rw [this]; exact hr.2.1
      · intro p hp
        exact h2 p (List.mem_filter.mp hp).1

theorem coordFlush_sound {W : World} {cm : List Int} (c : Coord) (now : Int)
    (h1 : SoundSnap W cm c.frontier) (h2 : ∀ p ∈ c.pending, RecSound W cm p) :
    SoundSnap W cm (coordFlush c now).1.frontier ∧
    (∀ p ∈ (coordFlush c now).1.pending, RecSound W cm p) ∧
    (∀ q ∈ (coordFlush c now).2, QOk W cm q) := by
  unfold coordFlush
  split
  · exact ⟨h1, h2, by simp⟩
  · refine ⟨h1, h2, ?_⟩
    intro q hq
    rcases List.mem_cons.mp hq with rfl | hq
    · exact h1
    · exact qOk_dels _ _ q hq

/-- `onCommitted`: the record is filed, the advancing loop runs over what is pending; then nothing is
    issued (nothing advanced, or the policy says wait) or the advanced records are flushed -/
theorem coordOnCommitted_cases {P : Coord × List Req → Prop} (c : Coord) (r : Rec) (now : Int) (pol : FlushPolicy)
    (h : ∀ c₁ c₂ adv, c₁ = { c with pending := c.pending.filter (fun x => x.seq ≠ r.seq) ++ [r] } →
      coordAdvance c₁.pending.length c₁ = (c₂, adv) →
      (adv = [] → P (c₂, [])) ∧
      (adv ≠ [] → P (coordFlush { c₂ with advanced := c₂.advanced ++ adv } now) ∧
        P ({ c₂ with advanced := c₂.advanced ++ adv }, []))) :
    P (coordOnCommitted c r now pol) := by
  unfold coordOnCommitted
  generalize hc₁ : ({ c with pending := c.pending.filter (fun x => x.seq ≠ r.seq) ++ [r] } : Coord) = c₁
  dsimp only
  cases hadv : coordAdvance c₁.pending.length c₁ with
  | mk c₂ adv =>
    obtain ⟨h0, h1⟩ := h c₁ c₂ adv hc₁.symm hadv
    dsimp only
    split
    · exact h0 (List.isEmpty_iff.mp ‹_›)
    · have hne : adv ≠ [] := fun e => ‹¬ adv.isEmpty = true› (List.isEmpty_iff.mpr e)
      split
      · exact (h1 hne).1
      · exact (h1 hne).2

theorem coordOnCommitted_sound {W : World} {cm : List Int} (c : Coord) (r : Rec) (now : Int) (pol : FlushPolicy)
    (h1 : SoundSnap W cm c.frontier) (h2 : ∀ p ∈ c.pending, RecSound W cm p) (hr : RecSound W cm r) :
    SoundSnap W cm (coordOnCommitted c r now pol).1.frontier ∧
    (∀ p ∈ (coordOnCommitted c r now pol).1.pending, RecSound W cm p) ∧
    (∀ q ∈ (coordOnCommitted c r now pol).2, QOk W cm q) := by
  refine coordOnCommitted_cases (P := fun x => SoundSnap W cm x.1.frontier ∧
    (∀ p ∈ x.1.pending, RecSound W cm p) ∧ ∀ q ∈ x.2, QOk W cm q) c r now pol ?_
  intro c₁ c₂ adv hc₁ hadv
  obtain ⟨ha1, ha2⟩ := coordAdvance_sound (W := W) (cm := cm) c₁.pending.length c₁ (by rw [hc₁]; exact h1) (by
    rw [hc₁]
    intro p hp
    rcases List.mem_append.mp hp with hp | hp
    · exact h2 p (List.mem_filter.mp hp).1
    · rw [List.mem_singleton.mp hp]; exact hr)
  rw [hadv] at ha1 ha2
  exact ⟨fun _ => ⟨ha1, ha2, fun q hq => nomatch hq⟩,
    fun _ => ⟨coordFlush_sound _ now ha1 ha2, ha1, ha2, fun q hq => nomatch hq⟩⟩

theorem SysInv.coordStep {W : World} {s : Sys} (hi : SysInv W s) {r : Run} (hr : s.run = some r) {c' : Coord}
    {out : List Req} (h : SoundSnap W s.committed c'.frontier ∧ (∀ p ∈ c'.pending, RecSound W s.committed p) ∧
      ∀ q ∈ out, QOk W s.committed q) :
    SysInv W { s with run := some { r with coord := c' }, queue := s.queue ++ out } := by
  refine ⟨hi.root, hi.jr, hi.fr, fun r' hr' => ?_, fun q hq => ?_⟩
  · cases hr'
    exact ⟨h.1, (hi.co r hr).2.1, h.2.1⟩
  · rcases List.mem_append.mp hq with hq | hq
    · exact hi.qu q hq
    · exact h.2.2 q hq

theorem step_inv {W : World} {s : Sys} (hi : SysInv W s) (st : Step) : SysInv W (step W s st) := by
  cases st with
  | start =>
    unfold step
    cases hr : s.run with
    | some _ => exact hi
    | none =>
      simp only
      unfold startRun
      cases hst : startFrontier W.ver s.ns W.ids with
      | mk st reqs =>
        cases st with
        | empty => exact hi
        | point db rid off seq =>
          simp only
          obtain ⟨⟨h0, hoff, hpre⟩, hq⟩ := start_sound hi db rid off seq reqs hst
          refine ⟨hi.root, hi.jr, hi.fr, ?_, hq⟩
          intro r hr'
          simp only [Option.some.injEq] at hr'
          subst hr'
          exact ⟨⟨h0, hoff, hpre⟩, h0, by simp⟩
  | commit i mt =>
    unfold step
    cases hr : s.run with
    | none => exact hi
    | some r =>
      simp only
      by_cases hlt : r.startSeq < i
      · rw [if_pos hlt]
        have hsub : ∀ x, x ∈ s.committed → x ∈ i :: s.committed := fun x hx => List.mem_cons_of_mem _ hx
        have hstart := (hi.co r hr).2.1
        refine ⟨hi.root, ?_, fun f hf => (hi.fr f hf).mono hsub, ?_, fun q hq => (hi.qu q hq).mono hsub⟩
        · intro j hj
          simp only [applyReq] at hj
          rcases List.mem_append.mp hj with hj | hj
          · have := hi.jr j (List.mem_filter.mp hj).1
            exact ⟨this.1, this.2.mono hsub⟩
          · have : j = ⟨i, unitRec W i mt⟩ := by simpa [unitRec] using hj
            subst this
            exact ⟨rfl, rfl, List.mem_cons_self .., by simp only [unitRec]; omega⟩
        · intro r' hr'
          simp only [Option.some.injEq] at hr'; subst hr'
          obtain ⟨a, b, c⟩ := hi.co r hr
          exact ⟨a.mono hsub, b, fun p hp => (c p hp).mono hsub⟩
      · rw [if_neg hlt]; exact hi
  | report i mt now =>
    unfold step
    cases hr : s.run with
    | none => exact hi
    | some r =>
      simp only
      by_cases hc : i ∈ s.committed ∧ r.startSeq < i
      · rw [if_pos hc]
        obtain ⟨a, b, c⟩ := hi.co r hr
        have hrec : RecSound W s.committed (unitRec W i mt) := ⟨rfl, hc.1, by simp only [unitRec]; omega⟩
        exact hi.coordStep hr (coordOnCommitted_sound r.coord (unitRec W i mt) now W.pol a c hrec)
      · rw [if_neg hc]; exact hi
  | tick now =>
    unfold step
    cases hr : s.run with
    | none => exact hi
    | some r =>
      obtain ⟨a, _, c⟩ := hi.co r hr
      exact hi.coordStep hr (coordFlush_sound r.coord now a c)
  | apply =>
    unfold step
    cases hq : s.queue with
    | nil => exact hi
    | cons q rest =>
      simp only
      have hqok := hi.qu q (by rw [hq]; exact List.mem_cons_self ..)
      have hrest : ∀ q' ∈ rest, QOk W s.committed q' :=
        fun q' h' => hi.qu q' (by rw [hq]; exact List.mem_cons_of_mem _ h')
      cases q with
      | saveFrontier f =>
        refine ⟨hi.root, hi.jr, ?_, hi.co, hrest⟩
        intro f' hf'
        simp only [applyReq, Option.some.injEq] at hf'; subst hf'; exact hqok
      | delRec k =>
        refine ⟨hi.root, ?_, hi.fr, hi.co, hrest⟩
        intro j hj
        simp only [applyReq] at hj
        exact hi.jr j (List.mem_filter.mp hj).1
      | zrem ks => exact ⟨hi.root, hi.jr, hi.fr, hi.co, hrest⟩
      | delFrontier =>
        refine ⟨hi.root, hi.jr, ?_, hi.co, hrest⟩
        intro f hf; simp [applyReq] at hf
      | commit r => exact absurd hqok (by simp [QOk])
      | commitLatest r => exact absurd hqok (by simp [QOk])
  | crash =>
    unfold step
    exact ⟨hi.root, hi.jr, hi.fr, by intro r hr; simp at hr, by simp⟩

theorem applyReq_root (ns : NS) (q : Req) : (applyReq ns q).root = ns.root := by
  cases q <;> rfl

theorem step_root (W : World) (s : Sys) (st : Step) : (step W s st).ns.root = s.ns.root := by
  cases st with
  | start =>
    simp only [step]
    split
    · rfl
    · unfold startRun; split <;> rfl
  | commit i mt =>
    simp only [step]
    split
    · rfl
    · split <;> rfl
  | report i mt now =>
    simp only [step]
    split
    · rfl
    · split <;> rfl
  | tick now => simp only [step]; split <;> rfl
  | apply =>
    simp only [step]
    split
    · rfl
    · exact applyReq_root _ _
  | crash => rfl

theorem runSteps_inv {W : World} (steps : List Step) :
    ∀ {s : Sys}, SysInv W s → SysInv W (runSteps W s steps) :=
  foldl_inv (f := step W) (I := SysInv W) (fun _ st hi => step_inv hi st) steps

end GunYu.Frontier
