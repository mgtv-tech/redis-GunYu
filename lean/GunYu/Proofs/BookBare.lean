/-
  C17 — states WITHOUT a position: `ResetStartPoint` (the sanctioned deletion of the position: FULLRESYNC),
  what the writers do until `setCheckpoint` stores the position of the new history, and the re-seed.

  `Bare t c`: the hash maps the label, and under the key the reported ids hold nothing but (for the master id,
  in database 0) the placeholder entry with offset −1 that `UpdateCheckpoint` writes when it finds no run id —
  the `dbid < 0` branch of `updateReqs` (D27's branch) is what runs on these states.
  The first start on the EMPTY target leaves such a state (`bare_boot`), so the first position (`good_seed`) is a
  re-seed. Core only.
-/
import GunYu.Proofs.BookWrites
import GunYu.Proofs.BookGoodB

namespace GunYu.BookSys
open GunYu GunYu.Checkpoint

set_option linter.unusedSimpArgs false
set_option linter.unusedVariables false

theorem mem_delInsert {x y : DelRec} : ∀ {l : List DelRec}, y ∈ delInsert x l ↔ y = x ∨ y ∈ l := by
  intro l
  induction l with
  | nil => simp [delInsert]
  | cons z zs ih =>
    unfold delInsert
    split
    · simp
    · simp only [List.mem_cons, ih, or_left_comm]

theorem mem_delSort {y : DelRec} {l : List DelRec} : y ∈ delSort l ↔ y ∈ l := by
  have : ∀ (l acc : List DelRec), y ∈ l.foldl (fun acc x => delInsert x acc) acc ↔ y ∈ l ∨ y ∈ acc := by
    intro l
    induction l with
    | nil => intro acc; simp
    | cons x xs ih => intro acc; simp only [List.foldl_cons, ih, mem_delInsert, List.mem_cons, or_assoc, or_left_comm]
  unfold delSort; rw [this]; simp

theorem optAll_mem {α : Type} : ∀ {l : List (Option α)} {rs : List α}, optAll l = some rs →
    ∀ r, r ∈ rs ↔ some r ∈ l := by
  intro l
  induction l with
  | nil => intro rs h r; simp only [optAll, Option.some.injEq] at h; subst h; simp
  | cons x xs ih =>
    intro rs h r
    cases x with
    | none => simp [optAll] at h
    | some a =>
      simp only [optAll] at h
      cases hx : optAll xs with
      | none => simp [hx] at h
      | some rs' =>
        simp only [hx, Option.map_some, Option.some.injEq] at h
        subst h
        rw [List.mem_cons, List.mem_cons, ih hx r]
        constructor
        · rintro (h | h); exact Or.inl (by rw [h]); exact Or.inr h
        · rintro (h | h); exact Or.inl (Option.some.inj h); exact Or.inr h

theorem optAll_some {α : Type} : ∀ {l : List (Option α)}, (∀ x ∈ l, x ≠ none) → ∃ rs, optAll l = some rs := by
  intro l
  induction l with
  | nil => intro _; exact ⟨[], rfl⟩
  | cons x xs ih =>
    intro h
    cases x with
    | none => exact absurd rfl (h none (List.mem_cons_self ..))
    | some a =>
      obtain ⟨rs, hrs⟩ := ih (fun y hy => h y (List.mem_cons_of_mem _ hy))
      exact ⟨a :: rs, by simp [optAll, hrs]⟩

/-- the requests of a `DelCheckpoints` whose reads all succeed: one HDEL of the four fields per
    (database, label), and nothing else -/
theorem mem_delCheckpointsReqs {t : Checkpoint.Target} {name : Bytes} {ids : List Bytes} {order : List Nat}
    (hok : ∀ db ∈ order, ∀ rid ∈ ids, fetch [rid] (t.cps db name) ≠ none) (q : Req) :
    q ∈ delCheckpointsReqs t name ids order ↔
      ∃ db ∈ order, ∃ rid ∈ ids, q = Req.hdelCp db name (fourKeys rid) := by
  unfold delCheckpointsReqs delRecords
  obtain ⟨rs, hrs⟩ := optAll_some (l := (order.flatMap (fun db => ids.map (fun rid => (db, rid)))).map (fun p =>
      (fetch [p.2] (t.cps p.1 name)).map (fun c => ({ db := p.1, rid := p.2, offset := c.offset, mtime := c.mtime } : DelRec)))) (by
    intro x hx
    obtain ⟨p, hp, rfl⟩ := List.mem_map.mp hx
    obtain ⟨db, hdb, hp'⟩ := List.mem_flatMap.mp hp
    obtain ⟨rid, hrid, rfl⟩ := List.mem_map.mp hp'
    have := hok db hdb rid hrid
    cases hf : fetch [rid] (t.cps db name) with
    | none => exact absurd hf this
    | some c => simp [hf])
  rw [hrs]
  simp only [List.mem_map, mem_delSort]
  constructor
  · rintro ⟨r, hr, rfl⟩
    have := (optAll_mem hrs r).mp hr
    obtain ⟨p, hp, hpr⟩ := List.mem_map.mp this
    obtain ⟨db, hdb, hp'⟩ := List.mem_flatMap.mp hp
    obtain ⟨rid, hrid, rfl⟩ := List.mem_map.mp hp'
    cases hf : fetch [rid] (t.cps db name) with
    | none => simp [hf] at hpr
    | some c =>
      simp only [hf, Option.map_some, Option.some.injEq] at hpr
      subst hpr
      exact ⟨db, hdb, rid, hrid, rfl⟩
  · rintro ⟨db, hdb, rid, hrid, rfl⟩
    cases hf : fetch [rid] (t.cps db name) with
    | none => exact absurd hf (hok db hdb rid hrid)
    | some c =>
      refine ⟨{ db := db, rid := rid, offset := c.offset, mtime := c.mtime }, ?_, rfl⟩
      apply (optAll_mem hrs _).mpr
      apply List.mem_map.mpr
      exact ⟨(db, rid), List.mem_flatMap.mpr ⟨db, hdb, List.mem_map.mpr ⟨rid, hrid, rfl⟩⟩, by simp [hf]⟩

theorem mem_applyAll_hdels (rs : List Req) : ∀ (t : Checkpoint.Target),
    (∀ q ∈ rs, ∃ db nm ks, q = Req.hdelCp db nm ks) → ∀ db nm e,
    (e ∈ (applyAll t rs).cps db nm ↔ e ∈ t.cps db nm ∧ ∀ q ∈ rs, ∀ ks, q = Req.hdelCp db nm ks → e.key ∉ ks) := by
  induction rs with
  | nil => intro t _ db nm e; exact ⟨fun h => ⟨h, fun _ hq => nomatch hq⟩, fun h => h.1⟩
  | cons q rs ih =>
    intro t hq db nm e
    obtain ⟨db0, nm0, ks0, rfl⟩ := hq q (List.mem_cons_self ..)
    have hstep : e ∈ (applyReq t (Req.hdelCp db0 nm0 ks0)).cps db nm ↔
        e ∈ t.cps db nm ∧ ∀ ks, Req.hdelCp db0 nm0 ks0 = Req.hdelCp db nm ks → e.key ∉ ks := by
      rw [applyReq_hdelCp_cps]
      split
      · rename_i hc
        obtain ⟨rfl, rfl⟩ := hc
        rw [mem_hdelMany]
        exact and_congr_right fun _ =>
          ⟨fun h ks heq => by injection heq with _ _ heq; exact heq ▸ h, fun h => h ks0 rfl⟩
      · rename_i hc
        exact ⟨fun h => ⟨h, fun ks heq => by injection heq with h1 h2; exact absurd ⟨h1.symm, h2.symm⟩ hc⟩, fun h => h.1⟩
    show e ∈ (applyAll (applyReq t _) rs).cps db nm ↔ _
    rw [ih _ (fun q' hq' => hq q' (List.mem_cons_of_mem _ hq')), hstep, List.forall_mem_cons, and_assoc]

theorem applyAll_hdels_hash (rs : List Req) (t : Checkpoint.Target)
    (hq : ∀ q ∈ rs, ∃ db nm ks, q = Req.hdelCp db nm ks) : (applyAll t rs).hash = t.hash :=
  applyAll_inv (I := fun t' => t'.hash = t.hash) (fun _ q h hq => by
    obtain ⟨db, nm, ks, rfl⟩ := hq; exact h) rs rfl hq

structure Bare (t : Checkpoint.Target) (c : Ctl) : Prop where
  ctl : CtlOK c
  pend : c.pend = none
  hashL : hlookup t.hash c.lab = some c.key
  hashM : c.lab ≠ c.mas → Unmapped t.hash c.mas
  str : StrA t c.names c.ids
  /-- no checkpoint field of the second id under the key -/
  nosec : ∀ db, ∀ e ∈ t.cps db c.key, e.rid = c.sec → e.kind = Kind.other
  /-- of the master id: at most the placeholder entry (offset −1, with its run id) in database 0 -/
  mas0 : ∀ db, ∀ e ∈ t.cps db c.key, e.rid = c.mas → e.kind ≠ Kind.other →
    db = 0 ∧ (e.kind = Kind.offset → Resp.parseInt64 e.val = some (-1))
  masrid : hasKey (c.mas, Kind.offset) (t.cps 0 c.key) → hasKey (c.mas, Kind.runid) (t.cps 0 c.key)

theorem mem_resetIds {runId : Bytes} {ids : List Bytes} {x : Bytes} :
    x ∈ resetIds runId ids ↔ x ∈ runId :: ids ∧ x ≠ [] ∧ x ≠ qmark := by
  unfold resetIds
  have : ∀ (l acc : List Bytes), x ∈ l.foldl (fun acc id => if id = [] ∨ id = qmark ∨ acc.contains id then acc else acc ++ [id]) acc ↔
      x ∈ acc ∨ (x ∈ l ∧ x ≠ [] ∧ x ≠ qmark) := by
    intro l
    induction l with
    | nil => intro acc; simp only [List.foldl_nil, List.not_mem_nil, false_and, or_false]
    | cons y ys ih =>
      intro acc
      simp only [List.foldl_cons, ih, List.mem_cons]
      by_cases hxy : x = y
      · subst hxy
        split
        · rename_i hy
          rcases hy with h | h | h
          · simp [h]
          · simp [h]
          · simp [List.contains_iff_mem.mp h]
        · rename_i hy
          have hy' : x ≠ [] ∧ x ≠ qmark := ⟨fun h => hy (Or.inl h), fun h => hy (Or.inr (Or.inl h))⟩
          simp [hy']
      · split <;> simp [hxy]
  rw [this]; simp

/-- **`ResetStartPoint`, complete, on a reachable state with a position**: no position, the state the
    writers then work on (`order` = `INFO keyspace`: every database holding the key) -/
theorem good_reset {t : Checkpoint.Target} {c : Ctl} {X : Int} {d : Nat} (G : Good t c X d) (hp : c.pend = none)
    (order : List Nat) (hord : ∀ db, t.cps db c.key ≠ [] → db ∈ order) :
    Bare (applyAll t (resetReqs t c.key c.lab [c.mas, c.sec] order)) c := by
  obtain ⟨C, F, hH, hC⟩ := G
  have hfetch : ∀ db ∈ order, ∀ rid ∈ resetIds c.lab [c.mas, c.sec], fetch [rid] (t.cps db c.key) ≠ none := by
    intro db _ rid _ hn
    obtain ⟨cc, hcc, _⟩ := fetch_spec [rid] (t.cps db c.key) (parses_of_ok F.str _ db _)
    rw [hn] at hcc; cases hcc
  have hmem := mem_delCheckpointsReqs (name := c.key) hfetch
  have hdel : ∀ q ∈ resetReqs t c.key c.lab [c.mas, c.sec] order, ∃ db nm ks, q = Req.hdelCp db nm ks := by
    intro q hq
    obtain ⟨db, _, rid, _, rfl⟩ := (hmem q).mp hq
    exact ⟨_, _, _, rfl⟩
  -- the fields of the three labels are gone
  have hgone : ∀ db e, e ∈ (applyAll t (resetReqs t c.key c.lab [c.mas, c.sec] order)).cps db c.key →
      (e.rid = c.mas ∨ e.rid = c.sec) → e.kind = Kind.other := by
    intro db e he hr
    obtain ⟨he0, hnot⟩ := (mem_applyAll_hdels _ t hdel db c.key e).mp he
    have hdb : db ∈ order := hord db (fun h => by rw [h] at he0; cases he0)
    have hrid : e.rid ∈ resetIds c.lab [c.mas, c.sec] := by
      rw [mem_resetIds]
      rcases hr with h | h
      · rw [h]; exact ⟨by simp, C.m0, C.mq⟩
      · rw [h]
        exact ⟨by simp, C.s0, C.sq⟩
    have := hnot _ ((hmem _).mpr ⟨db, hdb, e.rid, hrid, rfl⟩) (fourKeys e.rid) rfl
    cases hk : e.kind with
    | other => rfl
    | runid | offset | version | mtime => exact absurd (by simp [fourKeys, Entry.key, hk]) this
  have hhash : (applyAll t (resetReqs t c.key c.lab [c.mas, c.sec] order)).hash = t.hash :=
    applyAll_hdels_hash _ t hdel
  refine ⟨C, hp, by rw [hhash]; exact F.hashL, fun h => by rw [hhash]; exact F.hashM h, ?_, ?_, ?_, ?_⟩
  · apply strA_applyAll _ F.str
    intro q hq
    obtain ⟨db, nm, ks, rfl⟩ := hdel q hq
    trivial
  · intro db e he hr; exact hgone db e he (Or.inr hr)
  · intro db e he hr hk; exact absurd (hgone db e he (Or.inl hr)) hk
  · rintro ⟨e, he, hk⟩
    have h1 : e.rid = c.mas := congrArg Prod.fst hk
    have h2 : e.kind = Kind.offset := congrArg Prod.snd hk
    have := hgone 0 e he (Or.inl h1)
    rw [h2] at this; cases this

theorem bare_del {t : Checkpoint.Target} {c : Ctl} (B : Bare t c) (q : Req)
    (hq : (∃ db nm ks, q = Req.hdelCp db nm ks ∧ KsOK ks) ∨ (∃ rid, q = Req.hdelHash rid ∧ rid ≠ c.lab)) :
    Bare (applyReq t q) c := by
  rcases hq with ⟨db, nm, ks, rfl, hks⟩ | ⟨rid, rfl, hr⟩
  · have hsub : ∀ {db' n e}, e ∈ (applyReq t (Req.hdelCp db nm ks)).cps db' n → e ∈ t.cps db' n :=
      fun he => (mem_applyReq_cps he).resolve_right (fun ⟨_, h, _⟩ => nomatch h)
    exact ⟨B.ctl, B.pend, B.hashL, B.hashM, strA_applyReq B.str _ trivial, fun db' e he => B.nosec db' e (hsub he),
      fun db' e he => B.mas0 db' e (hsub he),
      hdelCp_keeps (P := fun fs => hasKey (c.mas, Kind.offset) fs → hasKey (c.mas, Kind.runid) fs) B.masrid
        (hasrid_hdel hks)⟩
  · refine ⟨B.ctl, B.pend, ?_, fun h => (B.hashM h).hashDel, strA_applyReq B.str _ trivial, B.nosec, B.mas0, B.masrid⟩
    show hlookup (hashDel t.hash rid) c.lab = _
    rw [hlookup_hashDel_ne _ _ _ (fun h => hr h.symm)]; exact B.hashL

theorem bare_dels {c : Ctl} (rs : List Req) {t : Checkpoint.Target} (B : Bare t c)
    (hq : ∀ q ∈ rs, (∃ db nm ks, q = Req.hdelCp db nm ks ∧ KsOK ks) ∨ (∃ rid, q = Req.hdelHash rid ∧ rid ≠ c.lab)) :
    Bare (applyAll t rs) c :=
  applyAll_inv (I := fun t => Bare t c) (fun _ q B hq => bare_del B q hq) rs B hq

theorem bare_gc {t : Checkpoint.Target} {c : Ctl} (B : Bare t c) (live : List Bytes) (h1 : c.mas ∈ live)
    (h2 : c.sec ∈ live) (before : Int) (orders : List (List Nat)) (k : Nat) :
    Bare (applyAll t ((gcReqs t live before orders).take k)) c := by
  have hlive : c.lab ∈ live := by rcases B.ctl.lab with h | h <;> rw [h] <;> assumption
  apply bare_dels _ B
  intro q hq
  rcases gcLoop_shape live before t.hash orders t B.str q (mem_take hq) with ⟨db, name, ρ, b, rfl, _⟩ | ⟨rid, rfl, hr⟩
  · exact Or.inl ⟨_, _, _, rfl, ksOK_staleKeys ρ b⟩
  · exact Or.inr ⟨rid, rfl, fun hc => hr (hc ▸ hlive)⟩

theorem Bare.withUp {t : Checkpoint.Target} {c : Ctl} (B : Bare t c) (u : Bool) : Bare t { c with up := u } := by
  obtain ⟨C, hp, h1, h2, h3, h4, h5, h6⟩ := B
  exact ⟨⟨C.hne, C.m0, C.mq, C.sq, C.lab, C.l0, C.key0, C.keyIn, C.masIn, C.secIn, fun _ => hp, C.s0⟩,
    hp, h1, h2, h3, h4, h5, h6⟩

theorem getCheckpoint_bare (ver : Bytes) {t : Checkpoint.Target} {c : Ctl} (B : Bare t c) (order : List Nat) :
    ∃ cpKv dbid, getCheckpoint ver t c.key [c.mas, c.sec] order = some (cpKv, dbid) ∧ cpKv.offset = -1 ∧
      ((dbid < 0 ∧ cpKv.runId = qmark) ∨ (dbid = 0 ∧ cpKv.runId = c.mas)) := by
  have hfetch : ∀ db, ∃ tc, fetch [c.mas, c.sec] (t.cps db c.key) = some tc ∧ tc.offset = -1 ∧
      (tc.runId = qmark ∨ (tc.runId = c.mas ∧ db = 0)) := by
    intro db
    obtain ⟨tc, htc, hoff, hrid⟩ := fetch_spec [c.mas, c.sec] (t.cps db c.key) (parses_of_ok B.str _ db _)
    refine ⟨tc, htc, ?_, ?_⟩
    · rw [hoff]
      apply foldl_offStep_all_eq _ (-1) _ (-1) _ (Or.inr rfl)
      intro x hx hsx
      rw [offSel_iff, matchId_pair] at hsx
      rcases hsx.1 with h | h
      · exact (B.mas0 db x hx h (by rw [hsx.2]; decide)).2 hsx.2
      · have := B.nosec db x hx h; rw [hsx.2] at this; cases this
    · rw [hrid]
      have hcg : ridOf [c.mas, c.sec] (t.cps db c.key) = ridOf [c.mas] (t.cps db c.key) := by
        apply ridOf_congr
        intro e he
        rw [Bool.eq_iff_iff, ridSel_iff, ridSel_iff, matchId_pair, matchId_one]
        constructor
        · rintro ⟨h | h, hk⟩
          · exact ⟨h, hk⟩
          · have := B.nosec db e he h; rw [hk] at this; cases this
        · rintro ⟨h, hk⟩; exact ⟨Or.inl h, hk⟩
      rw [hcg]
      by_cases hdb : db = 0
      · have := foldl_ridStep_mem [c.mas] (t.cps db c.key) (fun e he hk => (B.str.ok db c.key e he).2 hk) qmark (Or.inl rfl)
        rcases this with h | h
        · exact Or.inl h
        · exact Or.inr ⟨(matchId_one _ _).mp h, hdb⟩
      · left
        apply ridOf_none
        intro e he
        rw [← Bool.not_eq_true, ridSel_iff, matchId_one]
        rintro ⟨h, hk⟩
        exact hdb (B.mas0 db e he h (by rw [hk]; decide)).1
  have hfold : ∀ (o : List Nat) (acc : Option (CpInfo × Int)),
      (∃ cpi rec, acc = some (cpi, rec) ∧ cpi.offset = -1 ∧ (cpi.runId = qmark ∨ (cpi.runId = c.mas ∧ rec = 0))) →
      ∃ cpi rec, o.foldl (bestStep [c.mas, c.sec] t c.key) acc = some (cpi, rec) ∧ cpi.offset = -1 ∧
        (cpi.runId = qmark ∨ (cpi.runId = c.mas ∧ rec = 0)) := by
    intro o
    induction o with
    | nil => intro acc h; exact h
    | cons db rest ih =>
      intro acc h
      simp only [List.foldl_cons]
      apply ih
      obtain ⟨cpi, rec, rfl, ho, hr⟩ := h
      obtain ⟨tc, htc, hto, htr⟩ := hfetch db
      unfold bestStep
      simp only [htc]
      split
      · refine ⟨tc, _, rfl, hto, ?_⟩
        rcases htr with h | ⟨h, hdb⟩
        · exact Or.inl h
        · exact Or.inr ⟨h, by rw [hdb]; rfl⟩
      · exact ⟨cpi, rec, rfl, ho, hr⟩
  obtain ⟨cpi, rec, hacc, ho, hr⟩ := hfold order (some ({ version := ver }, 0)) ⟨_, _, rfl, rfl, Or.inl rfl⟩
  unfold getCheckpoint
  rw [hacc]
  by_cases hq : cpi.runId = qmark
  · simp only [hq, if_true]
    exact ⟨cpi, -1, rfl, ho, Or.inl ⟨by decide, hq⟩⟩
  · simp only [hq, if_false]
    rcases hr with h | ⟨h, hrec⟩
    · exact absurd h hq
    · exact ⟨cpi, rec, rfl, ho, Or.inr ⟨hrec, h⟩⟩

/-- `SetRunId(master id)` on a state without a position: the placeholder entry of the master id in database
    0 and the hash entry — the `dbid < 0` branch (or the entry it wrote before, read back) -/
theorem bare_updateReqs (ver : Bytes) {t : Checkpoint.Target} {c : Ctl} (B : Bare t c) (hl : c.lab ≠ c.mas)
    (o1 o2 : List Nat) (now : Int) :
    ∃ cpKv : CpInfo, updateReqs ver t c.key [c.mas, c.sec] o1 o2 now =
      [Req.hsetCp 0 c.key (cpEntries { cpKv with runId := c.mas, offset := -1 } now), Req.hsetHash c.mas c.key] := by
  have hls : c.lab = c.sec := by rcases B.ctl.lab with h | h; exact absurd h hl; exact h
  have hh : getHash t.hash [c.mas, c.sec] = some (c.key, c.sec) :=
    getHash_of_second (B.hashM hl) (hls ▸ B.hashL)
  obtain ⟨cpKv, dbid, hgc, hoff, hcase⟩ := getCheckpoint_bare ver B o1
  refine ⟨cpKv, ?_⟩
  unfold updateReqs
  simp only [hh, B.ctl.key0, ne_eq, not_false_eq_true, if_true, hgc, B.ctl.hne, or_true]
  rcases hcase with ⟨hneg, hq⟩ | ⟨hz, hm⟩
  · simp [hneg, hq]
  · subst hz
    simp [hm, hoff]

theorem cpEntries_offset_val {c : CpInfo} {now : Int} {e : Entry} (he : e ∈ cpEntries c now)
    (hk : e.kind = Kind.offset) : e.val = intToDec c.offset := by
  rcases mem_cpEntries he with rfl | rfl | rfl | rfl
  · exact nomatch hk
  · exact nomatch hk
  · exact nomatch hk
  · rfl

/-- the placeholder entry `UpdateCheckpoint` writes when it finds no run id keeps a state without a position -/
theorem bare_placeholder {t : Checkpoint.Target} {c : Ctl} (B : Bare t c) (cc : CpInfo) (now : Int)
    (hnow : -(2^63 : Int) ≤ now ∧ now < 2^63) :
    Bare (applyReq t (Req.hsetCp 0 c.key (cpEntries { cc with runId := c.mas, offset := -1 } now))) c := by
  have hes := cpEntries_ok (c := { cc with runId := c.mas, offset := -1 }) (now := now)
    (show -(2^63 : Int) ≤ (-1 : Int) ∧ (-1 : Int) < 2^63 by decide) hnow
  obtain ⟨C, hp, hL, hM, hstr, hns, hm0, hmr⟩ := B
  refine ⟨C, hp, hL, hM, ?_, ?_, ?_, ?_⟩
  · apply strA_applyReq hstr
    exact ⟨C.keyIn, fun e he => ⟨(hes e he).1, by rw [(hes e he).2]; exact C.masIn⟩⟩
  · intro db e he hr
    rcases mem_applyReq_cps he with he' | ⟨es, heq, he'⟩
    · exact hns db e he' hr
    · injection heq with _ _ heq
      exact absurd ((hes e (heq ▸ he')).2.symm.trans hr) C.hne
  · intro db e he hr hk
    rcases mem_applyReq_cps he with he' | ⟨es, heq, he'⟩
    · exact hm0 db e he' hr hk
    · injection heq with hdb _ heq
      refine ⟨hdb.symm, fun hko => ?_⟩
      rw [cpEntries_offset_val (heq ▸ he') hko]
      exact Resp.parseInt64_intToDec (-1) (by decide) (by decide)
  · intro _
    rw [applyReq_hsetCp_cps, if_pos ⟨rfl, rfl⟩, hasKey_hsetMany]
    exact Or.inl (cpEntries_has_runid (c := { cc with runId := c.mas, offset := -1 }) C.m0)

/-- **`SetRunId` on a state without a position, stopped after any number of its requests** -/
theorem bare_relabel (ver : Bytes) {t : Checkpoint.Target} {c : Ctl} (B : Bare t c) (hl : c.lab ≠ c.mas)
    (o1 o2 : List Nat) (now : Int) (hnow : -(2^63 : Int) ≤ now ∧ now < 2^63) (k : Nat) :
    Bare (applyAll t ((updateReqs ver t c.key [c.mas, c.sec] o1 o2 now).take k)) (relabelCtl c k) := by
  obtain ⟨cpKv, hreqs⟩ := bare_updateReqs ver B hl o1 o2 now
  rw [hreqs]
  have B1 := bare_placeholder B cpKv now hnow
  match k with
  | 0 => exact B
  | 1 => exact B1
  | k + 2 =>
    obtain ⟨C, hp, _, _, hstr1, hns1, hm01, hmr1⟩ := B1
    rw [List.take_succ_cons, List.take_succ_cons, List.take_nil]
    show Bare (applyReq (applyReq t _) (Req.hsetHash c.mas c.key)) { c with lab := c.mas }
    exact ⟨⟨C.hne, C.m0, C.mq, C.sq, Or.inl rfl, C.m0, C.key0, C.keyIn, C.masIn, C.secIn, C.upk, C.s0⟩, hp,
      hlookup_hashSet_self _ _ _, fun h => absurd rfl h, strA_applyReq hstr1 (Req.hsetHash c.mas c.key) ⟨C.masIn, C.keyIn⟩,
      hns1, hm01, hmr1⟩

theorem bare_start_noop (ver : Bytes) {t : Checkpoint.Target} {c : Ctl} (B : Bare t c) (o1 o2 : List Nat) (now : Int) :
    updateReqs ver t c.key (startIds t.hash [c.mas, c.sec]) o1 o2 now = [] := by
  have hh := getHash_lab B.ctl B.hashL B.hashM
  rw [startIds_eq hh]
  by_cases hl : c.lab = c.sec
  · rw [if_pos ⟨hl, fun h' => B.ctl.hne h'.symm⟩]
    exact updateReqs_noop ver o1 o2 now (getHash_of_first (hl ▸ B.hashL) B.ctl.key0)
  · rw [if_neg (fun h' => hl h'.1)]
    have hlm : c.lab = c.mas := by rcases B.ctl.lab with h | h; exact h; exact absurd h hl
    exact updateReqs_noop ver o1 o2 now (hlm ▸ hh)

theorem boot_reqs (ver loc A z : Bytes) (hloc : loc ≠ []) (o1 o2 : List Nat) (now : Int) :
    updateReqs ver emptyT loc [A, z] o1 o2 now =
      [Req.hsetCp 0 loc (cpEntries { runId := A, offset := -1, version := ver } now), Req.hsetHash A loc] := by
  have hl : ([] : Bytes) ≠ loc := fun h => hloc h.symm
  simp [updateReqs, getHash, hlookup, emptyT, hl, qmark]

theorem boot_cps (ver loc A : Bytes) (now : Int) (db : Nat) (n : Bytes) :
    (applyAll emptyT [Req.hsetCp 0 loc (cpEntries { runId := A, offset := -1, version := ver } now), Req.hsetHash A loc]).cps db n
      = if db = 0 ∧ n = loc then hsetMany [] (cpEntries { runId := A, offset := -1, version := ver } now) else [] :=
  applyReq_hsetCp_cps emptyT 0 loc _ db n

theorem bare_boot (ver loc A z : Bytes) (hA0 : A ≠ []) (hAq : A ≠ qmark) (hz : A ≠ z) (hzq : z ≠ qmark) (hz0 : z ≠ [])
    (hloc : loc ≠ []) (o1 o2 : List Nat) (now : Int) (hnow : -(2^63 : Int) ≤ now ∧ now < 2^63) :
    Bare (applyAll emptyT (updateReqs ver emptyT loc [A, z] o1 o2 now)) (seedCtl loc A z) := by
  rw [boot_reqs ver loc A z hloc]
  have hstr0 : StrA emptyT [loc] [A, z] :=
    ⟨fun _ _ _ he => (nomatch he), fun _ _ => List.nodup_nil, ⟨[], fun _ _ _ => rfl⟩,
      fun _ _ => ⟨fun _ => rfl, fun _ hp => (nomatch hp)⟩, fun _ _ => ⟨fun _ _ _ he => (nomatch he), rfl⟩⟩
  -- the two requests commute: with the hash entry alone the target is a state without a position
  have B0 : Bare (applyReq emptyT (Req.hsetHash A loc)) (seedCtl loc A z) :=
    ⟨⟨hz, hA0, hAq, hzq, Or.inl rfl, hA0, hloc, List.mem_singleton.mpr rfl, List.mem_cons_self ..,
        List.mem_cons_of_mem _ (List.mem_singleton.mpr rfl), fun _ => rfl, hz0⟩, rfl, hlookup_hashSet_self [] A loc,
      fun h => absurd rfl h, strA_applyReq hstr0 _ ⟨List.mem_cons_self .., List.mem_singleton.mpr rfl⟩,
      fun _ _ he => (nomatch he), fun _ _ he => (nomatch he), fun ⟨_, he, _⟩ => (nomatch he)⟩
  exact bare_placeholder B0 { runId := A, offset := -1, version := ver } now hnow

/-- **`setCheckpoint(master id, X0)` after the snapshot replay on a state without a position** (the relabel to
    the master id is complete): `Good` again, position `X0` in database 0 -/
theorem good_reseed (ver : Bytes) {t : Checkpoint.Target} {c : Ctl} (B : Bare t c) (hl : c.lab = c.mas)
    (X0 now : Int) (hX0 : 0 ≤ X0 ∧ X0 < 2^63) (hnow : -(2^63 : Int) ≤ now ∧ now < 2^63) :
    Good (applyReq t (seedReq c.key c.mas ver X0 now)) c X0 0 := by
  obtain ⟨C, hp, hL, hM, hstr, hns, hm0, hmr⟩ := B
  unfold seedReq
  have hes := cpEntries_ok (c := { runId := c.mas, offset := X0, version := ver }) (now := now)
    (show -(2^63 : Int) ≤ X0 ∧ X0 < 2^63 from ⟨by omega, hX0.2⟩) hnow
  have hstr' : StrA (applyReq t (Req.hsetCp 0 c.key (cpEntries { runId := c.mas, offset := X0, version := ver } now)))
      c.names c.ids := by
    apply strA_applyReq hstr
    exact ⟨C.keyIn, fun e he => ⟨(hes e he).1, by rw [(hes e he).2]; exact C.masIn⟩⟩
  generalize hs : applyReq t (Req.hsetCp 0 c.key (cpEntries { runId := c.mas, offset := X0, version := ver } now)) = s at hstr'
  have hcps : ∀ db n, s.cps db n = if db = 0 ∧ n = c.key then
      hsetMany (t.cps 0 c.key) (cpEntries { runId := c.mas, offset := X0, version := ver } now) else t.cps db n := by
    intro db n; rw [← hs]; exact applyReq_hsetCp_cps t 0 c.key _ db n
  have hnosec : ∀ db, ∀ e ∈ s.cps db c.key, e.rid = c.sec → e.kind = Kind.other := by
    intro db e he hr
    rw [hcps] at he
    split at he
    · rcases mem_hsetMany he with he' | he'
      · exact absurd ((hes e he').2.symm.trans hr) C.hne
      · exact hns 0 e he' hr
    · exact hns db e he hr
  have hoffmem : (⟨c.mas, Kind.offset, intToDec X0⟩ : Entry) ∈ s.cps 0 c.key := by
    rw [hcps]; simp only [and_self, if_true]
    obtain ⟨pre, hpre⟩ := cpEntries_last { runId := c.mas, offset := X0, version := ver } now
    rw [hpre]; exact mem_hsetMany_last _ _ _
  have hridkey : hasKey (c.mas, Kind.runid) (s.cps 0 c.key) := by
    rw [hcps]; simp only [and_self, if_true]
    rw [hasKey_hsetMany]; left
    exact cpEntries_has_runid (c := { runId := c.mas, offset := X0, version := ver }) C.m0
  have hselq : ∀ db, ∀ x ∈ s.cps db c.key, ridSel [c.mas] x = true → x.val ≠ qmark := by
    intro db x hx hsx
    rw [ridSel_iff, matchId_one] at hsx
    rw [(hstr'.ok db c.key x hx).2 hsx.2, hsx.1]; exact C.mq
  have hcarr : Carrier c.mas s c.key 0 X0 :=
    ⟨offOf_one_of_mem (hstr'.nodup 0 c.key) hoffmem rfl (Resp.parseInt64_intToDec X0 (by omega) hX0.2),
     ridOf_ne_of_hasKey ((matchId_one _ _).mpr rfl) hridkey (hselq 0)⟩
  refine ⟨C, ?_, ?_, hl ▸ hcarr⟩
  · refine ⟨by rw [← hs]; exact hL, fun h => absurd hl h, hstr', ?_, ?_, ?_, fun p hp' => by rw [hp] at hp'; cases hp'⟩
    · refine fun db => noAfter_of_no (Or.inr fun ⟨e, he, hk⟩ => ?_)
      have := hnosec db e he (congrArg Prod.fst hk)
      rw [show e.kind = Kind.offset from congrArg Prod.snd hk] at this; cases this
    · intro db x hx hsx
      rw [offSel_iff, matchId_one] at hsx
      have := hnosec db x hx hsx.1; rw [hsx.2] at this; cases this
    · intro db hk
      by_cases hdb : db = 0
      · subst hdb; exact hridkey
      · obtain ⟨e, he, hke⟩ := hk
        rw [hcps] at he
        simp only [hdb, false_and, if_false] at he
        have hk : e.kind = Kind.offset := congrArg Prod.snd hke
        exact absurd (hm0 db e he (congrArg Prod.fst hke) (by rw [hk]; decide)).1 hdb
  · refine (holds_fresh hstr' hX0.1 hcarr (fun db hdb x hx hsx => ?_) hnosec).swap
    rw [offSel_iff, matchId_one] at hsx
    rw [hcps] at hx
    simp only [hdb, false_and, if_false] at hx
    exact absurd (hm0 db x hx hsx.1 (by rw [hsx.2]; decide)).1 hdb

theorem good_seed (ver loc A z : Bytes) (hA0 : A ≠ []) (hAq : A ≠ qmark) (hz : A ≠ z) (hzq : z ≠ qmark) (hz0 : z ≠ [])
    (hloc : loc ≠ []) (o1 o2 : List Nat) (now now' X0 : Int)
    (hnow : -(2^63 : Int) ≤ now ∧ now < 2^63) (hnow' : -(2^63 : Int) ≤ now' ∧ now' < 2^63)
    (hX0 : 0 ≤ X0 ∧ X0 < 2^63) :
    Good (seedTarget ver loc A z o1 o2 now now' X0) (seedCtl loc A z) X0 0 :=
  good_reseed ver (bare_boot ver loc A z hA0 hAq hz hzq hz0 hloc o1 o2 now hnow) rfl X0 now' hX0 hnow'

theorem seedTarget_cps (ver loc A z : Bytes) (hloc : loc ≠ []) (o1 o2 : List Nat) (now now' X0 : Int)
    (db : Nat) (n : Bytes) :
    (seedTarget ver loc A z o1 o2 now now' X0).cps db n = if db = 0 ∧ n = loc then
      hsetMany (hsetMany [] (cpEntries { runId := A, offset := -1, version := ver } now))
        (cpEntries { runId := A, offset := X0, version := ver } now') else [] := by
  unfold seedTarget seedReq
  rw [boot_reqs ver loc A z hloc, applyReq_hsetCp_cps, boot_cps, boot_cps]
  by_cases hc : db = 0 ∧ n = loc
  · simp [hc]
  · simp [hc]

def bareChecks (dbs : List Nat) (keys : List Bytes) (t : Checkpoint.Target) (c : Ctl) : List (String × Bool) :=
  [ ("ctl", decide (c.mas ≠ c.sec ∧ c.mas ≠ [] ∧ c.mas ≠ qmark ∧ c.sec ≠ qmark ∧ c.sec ≠ [] ∧ (c.lab = c.mas ∨ c.lab = c.sec) ∧
      c.lab ≠ [] ∧ c.key ≠ [] ∧ c.pend = none)),
    ("hashL", decide (hlookup t.hash c.lab = some c.key)),
    ("hashM", decide (c.lab = c.mas) || unmappedb t.hash c.mas),
    ("wf", dbs.all (fun db => keys.all (fun n => (t.cps db n).all entryOKb && decide ((t.cps db n).map Entry.key).Nodup))),
    ("nosec", dbs.all (fun db => (t.cps db c.key).all (fun e => !(decide (e.rid = c.sec)) || decide (e.kind = Kind.other)))),
    ("mas0", dbs.all (fun db => (t.cps db c.key).all (fun e => !(decide (e.rid = c.mas)) || decide (e.kind = Kind.other) ||
      (decide (db = 0) && (!(decide (e.kind = Kind.offset)) || decide (Resp.parseInt64 e.val = some (-1))))))),
    ("masrid", !(hasKeyb (c.mas, Kind.offset) (t.cps 0 c.key)) || hasKeyb (c.mas, Kind.runid) (t.cps 0 c.key)) ]

/-- the driver's answer "bare" means `Bare` (the dump being the whole state, with the ghost clauses) -/
theorem bare_of_checks {dbs : List Nat} {keys : List Bytes} {t : Checkpoint.Target} {c : Ctl}
    (h : ∀ p ∈ bareChecks dbs keys t c, p.2 = true)
    (hdbs : ∀ db, db ∉ dbs → ∀ n, t.cps db n = []) (hkeys : ∀ n, n ∉ keys → ∀ db, t.cps db n = [])
    (hkeyIn : c.key ∈ c.names) (hmasIn : c.mas ∈ c.ids) (hsecIn : c.sec ∈ c.ids)
    (hnames : ∀ n, n ∉ c.names → (∀ db, t.cps db n = []) ∧ ∀ p ∈ t.hash, p.2 ≠ n)
    (hids : ∀ ρ, ρ ∉ c.ids → (∀ db n, ∀ e ∈ t.cps db n, e.rid ≠ ρ) ∧ hlookup t.hash ρ = none) : Bare t c := by
  unfold bareChecks at h
  simp only [List.mem_cons, List.not_mem_nil, or_false, forall_eq_or_imp, forall_eq] at h
  obtain ⟨h1, h2, h3, h4, h5, h6, h7⟩ := h
  simp only [decide_eq_true_eq] at h1 h2
  obtain ⟨hne, hm0, hmq, hsq, hs0, hlab, hl0, hk0, hpend⟩ := h1
  have hwf := wf_of_check h4 hdbs hkeys
  refine ⟨⟨hne, hm0, hmq, hsq, hlab, hl0, hk0, hkeyIn, hmasIn, hsecIn, fun _ => hpend, hs0⟩, hpend, h2,
    unmapped_of_check h3, ⟨fun db n => (hwf db n).1, fun db n => (hwf db n).2, ⟨dbs, hdbs⟩, hnames, hids⟩, ?_, ?_,
    hasrid_of_check h7⟩
  · intro db e he hr
    by_cases hdb : db ∈ dbs
    · have := List.all_eq_true.mp (List.all_eq_true.mp h5 db hdb) e he
      simp only [Bool.or_eq_true, Bool.not_eq_true', decide_eq_false_iff_not, decide_eq_true_eq] at this
      exact this.resolve_left (fun h => h hr)
    · rw [hdbs db hdb] at he; cases he
  · intro db e he hr hk
    by_cases hdb : db ∈ dbs
    · have := List.all_eq_true.mp (List.all_eq_true.mp h6 db hdb) e he
      simp only [Bool.or_eq_true, Bool.not_eq_true', decide_eq_false_iff_not, decide_eq_true_eq, Bool.and_eq_true] at this
      rcases this with (h | h) | h
      · exact absurd hr h
      · exact absurd h hk
      · exact ⟨h.1, fun hko => h.2.resolve_left (fun h' => h' hko)⟩
    · rw [hdbs db hdb] at he; cases he

end GunYu.BookSys
