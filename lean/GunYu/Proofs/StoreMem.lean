/-
  C05, memory backend: what single operations of `GunYu.Store.Mem` do, without any
  invariant. The collector, `finishRdb`, `open`, the copy loop (`CopyMove`) and the
  other reader operations (`Touched`) as equations or case lists, and the induction
  principles over the collector's removals, operation lists and the driver's settling.
-/
import GunYu.Model.Store

namespace GunYu.Store
open GunYu

theorem gcAof_eq {s s' : Mem} (h : s.gcAof = some s') :
    ∃ first rest, s.segs = first :: rest ∧ first.closed = true ∧ mRefs s.readers first.sid = 0 ∧
      s.aofW ≠ some first.sid ∧
      s' = { s with segs := rest, total := s.total - first.data.length, heap := first :: s.heap } := by
  unfold Mem.gcAof at h
  split at h
  · rename_i first rest hs
    split at h
    · rename_i hc
      simp only [Bool.and_eq_true, beq_iff_eq, bne_iff_ne, ne_eq] at hc
      cases h
      exact ⟨first, rest, hs, hc.1.1, hc.1.2, hc.2, rfl⟩
    · cases h
  · cases h

theorem gcRdb_eq {s s' : Mem} (h : s.gcRdb = some s') :
    ∃ r first rest, s.rdb = some r ∧ r.segs = first :: rest ∧ first.closed = true ∧ mRefs s.readers first.sid = 0 ∧
      s' = { s with rdb := (if rest.isEmpty then none else some { r with segs := rest, replayable := false }),
                    total := s.total - first.data.length, heap := first :: s.heap } := by
  unfold Mem.gcRdb at h
  split at h
  · rename_i r hr
    split at h
    · rename_i first rest hrs
      split at h
      · rename_i hc
        simp only [Bool.and_eq_true, beq_iff_eq] at hc
        cases h
        exact ⟨r, first, rest, hr, hrs, hc.1, hc.2, rfl⟩
      · cases h
    · cases h
  · cases h

/-- one removal takes the first stream segment (`gcAof_eq`) or the snapshot's first segment (`gcRdb_eq`) -/
theorem gcOnce_cases {s s' : Mem} (h : s.gcOnce = some s') : s.gcAof = some s' ∨ s.gcRdb = some s' := by
  unfold Mem.gcOnce at h
  split at h
  · rename_i s1 h1
    cases h
    exact Or.inl h1
  · exact Or.inr h

theorem gcRdb_spec {s s' : Mem} (h : s.gcRdb = some s') :
    s'.segs = s.segs ∧ s'.readers = s.readers ∧ s'.aofW = s.aofW ∧ s'.maxSize = s.maxSize ∧
      ∃ r first rest, s.rdb = some r ∧ r.segs = first :: rest ∧ first.closed = true ∧
        mRefs s.readers first.sid = 0 ∧
        (s'.rdb = none ∨ ∃ r', s'.rdb = some r' ∧ r'.segs = rest ∧ r'.replayable = false) := by
  obtain ⟨r, first, rest, hr, hrs, hc, href, rfl⟩ := gcRdb_eq h
  refine ⟨rfl, rfl, rfl, rfl, r, first, rest, hr, hrs, hc, href, ?_⟩
  cases rest with
  | nil => exact Or.inl rfl
  | cons x xs => exact Or.inr ⟨_, rfl, rfl, rfl⟩

/-- The collector (`gcLocked`, and `ensureCapacityLocked` which calls it) is a sequence of
    single removals: a reflexive, transitive relation that holds of each removal holds of it. -/
theorem gc_rel {R : Mem → Mem → Prop} (refl : ∀ s, R s s) (trans : ∀ {a b c}, R a b → R b c → R a c)
    (once : ∀ {s s'}, s.gcOnce = some s' → R s s') (s : Mem) (need : Nat) : R s (s.gc need) := by
  have loop : ∀ fuel s, R s (Mem.gcLoop need fuel s) := by
    intro fuel
    induction fuel with
    | zero => exact refl
    | succ fuel ih =>
      intro s
      simp only [Mem.gcLoop]
      split
      · cases hg : s.gcOnce with
        | none => exact refl s
        | some s' => exact trans (once hg) (ih s')
      · exact refl s
  unfold Mem.gc
  split
  · exact refl s
  · exact loop _ s

theorem ensure_rel {R : Mem → Mem → Prop} (refl : ∀ s, R s s) (trans : ∀ {a b c}, R a b → R b c → R a c)
    (once : ∀ {s s'}, s.gcOnce = some s' → R s s') (s : Mem) (need : Nat) : R s (s.ensure need).1 := by
  unfold Mem.ensure
  split
  · exact refl s
  · exact gc_rel refl trans once s need

theorem gc_keeps {P : Mem → Prop} (once : ∀ {s s'}, s.gcOnce = some s' → P s → P s') (s : Mem) (need : Nat) (h : P s) :
    P (s.gc need) :=
  gc_rel (R := fun a b => P a → P b) (fun _ h => h) (fun f g h => g (f h)) once s need h

theorem ensure_keeps {P : Mem → Prop} (once : ∀ {s s'}, s.gcOnce = some s' → P s → P s') (s : Mem) (need : Nat) (h : P s) :
    P (s.ensure need).1 :=
  ensure_rel (R := fun a b => P a → P b) (fun _ h => h) (fun f g h => g (f h)) once s need h

/-- `gcLocked` removes a prefix of the stream segments; every removed segment is
    closed, unreferenced and not the writer's current one -/
theorem gcLoop_prefix (need : Nat) (fuel : Nat) (s : Mem) :
    ∃ pre, s.segs = pre ++ (Mem.gcLoop need fuel s).segs ∧
      (Mem.gcLoop need fuel s).readers = s.readers ∧ (Mem.gcLoop need fuel s).aofW = s.aofW ∧
      ∀ g ∈ pre, g.closed = true ∧ mRefs s.readers g.sid = 0 ∧ s.aofW ≠ some g.sid := by
  induction fuel generalizing s with
  | zero => exact ⟨[], by simp [Mem.gcLoop], rfl, rfl, by simp⟩
  | succ fuel ih =>
    simp only [Mem.gcLoop]
    split
    · cases hg : s.gcOnce with
      | none => exact ⟨[], by simp, rfl, rfl, by simp⟩
      | some s' =>
        simp only []
        obtain ⟨pre, hp, hr, ha, hz⟩ := ih s'
        rcases (gcOnce_cases hg).imp gcAof_eq gcRdb_eq with ⟨first, rest, hs, hc, href, hcur, rfl⟩ | ⟨_, _, _, _, _, _, _, rfl⟩
        · refine ⟨first :: pre, by rw [hs]; exact congrArg _ hp, hr, ha, ?_⟩
          intro g hg'
          rcases List.mem_cons.mp hg' with rfl | h
          · exact ⟨hc, href, hcur⟩
          · exact hz g h
        · exact ⟨pre, hp, hr, ha, hz⟩
    · exact ⟨[], by simp, rfl, rfl, by simp⟩

theorem gc_prefix (s : Mem) (need : Nat) :
    ∃ pre, s.segs = pre ++ (s.gc need).segs ∧
      ∀ g ∈ pre, g.closed = true ∧ mRefs s.readers g.sid = 0 ∧ s.aofW ≠ some g.sid := by
  unfold Mem.gc
  split
  · exact ⟨[], by simp, by simp⟩
  · obtain ⟨pre, hp, _, _, hz⟩ := gcLoop_prefix need _ s
    exact ⟨pre, hp, hz⟩

theorem finishRdb_cases (s : Mem) (failed : Bool) :
    s.finishRdb failed = s ∨ ∃ r, s.rdb = some r ∧ r.writing = true ∧
      (s.finishRdb failed =
          { s with rdb := none, total := s.total - mBuffered (mUpdate r.segs r.cur (fun g => { g with closed := true })),
                   heap := mUpdate r.segs r.cur (fun g => { g with closed := true }) ++ s.heap, pendR := none } ∨
       failed = false ∧ r.size ≤ r.written ∧ s.finishRdb failed =
          { s with rdb := some { r with segs := mUpdate r.segs r.cur (fun g => { g with closed := true }), writing := false },
                   pendR := none }) := by
  unfold Mem.finishRdb
  cases hr : s.rdb with
  | none => exact Or.inl rfl
  | some r =>
    dsimp only
    cases hw : r.writing with
    | false => exact Or.inl rfl
    | true =>
      refine Or.inr ⟨r, rfl, hw, ?_⟩
      simp only [Bool.not_true, Bool.false_eq_true, if_false]
      split
      · exact Or.inl rfl
      · rename_i hc
        simp only [Bool.or_eq_true, decide_eq_true_eq, not_or, Nat.not_lt] at hc
        exact Or.inr ⟨by simpa using hc.1, hc.2, rfl⟩

/-- `finishRdb` keeps a snapshot only if its writer delivered every announced
    byte and did not fail -/
theorem finishRdb_keeps_only_complete (s : Mem) (failed : Bool) (r : MRdb) (hr : s.rdb = some r)
    (hw : r.writing = true) :
    (s.finishRdb failed).rdb = none ∨
    (failed = false ∧ r.size ≤ r.written ∧
      ∃ r', (s.finishRdb failed).rdb = some r' ∧ r'.writing = false ∧ r'.written = r.written ∧ r'.size = r.size) := by
  unfold Mem.finishRdb
  simp only [hr, hw, Bool.not_true, Bool.false_eq_true, if_false]
  split
  · left; rfl
  · rename_i hc
    right
    simp only [Bool.or_eq_true, decide_eq_true_eq, not_or, Nat.not_lt] at hc
    refine ⟨by simpa using hc.1, hc.2, _, rfl, rfl, rfl, rfl⟩

/-- a snapshot that lost a segment to the collector is not offered any more -/
theorem rdbOffered_replayable (s : Mem) (r : MRdb) (h : s.rdbOffered = some r) :
    s.rdb = some r ∧ r.replayable = true := by
  unfold Mem.rdbOffered at h
  cases hr : s.rdb with
  | none => simp [hr] at h
  | some r0 =>
    simp only [hr] at h
    split at h
    · simp at h; subst h; exact ⟨rfl, by assumption⟩
    · simp at h

theorem getRdb_iff_offered (s : Mem) :
    s.getRdb ≠ (-1, -1) ↔ ∃ r, s.rdb = some r ∧ r.replayable = true := by
  unfold Mem.getRdb
  cases ho : s.rdbOffered with
  | none =>
    simp only [ne_eq, not_true_eq_false, false_iff, not_exists, not_and]
    intro r hr hrep
    unfold Mem.rdbOffered at ho
    simp [hr, hrep] at ho
  | some r =>
    obtain ⟨h1, h2⟩ := rdbOffered_replayable s r ho
    simp only []
    constructor
    · intro _; exact ⟨r, h1, h2⟩
    · intro _ hc
      have := congrArg Prod.fst hc
      simp at this

theorem newAofWriter_refuses (s : Mem) (off r : Nat) (h : mLastRight s.segs = some r) (hne : r ≠ off) :
    s.step (.newAofWriter off) = (s, Out.refused) := by
  simp [Mem.step, h, hne]

theorem newAofWriter_accepted (s : Mem) (off r : Nat) (h : mLastRight s.segs = some r)
    (hok : (s.step (.newAofWriter off)).2 = Out.ok) : off = r := by
  by_cases hne : r = off
  · exact hne.symm
  · rw [newAofWriter_refuses s off r h hne] at hok; cases hok

/-- one iteration of a stream reader's copy loop that delivers bytes delivers
    exactly the rest of the segment it holds, from its position on -/
theorem copyStep_aof_faithful (s : Mem) (rid : Nat) (r : MReader) (g : MSeg)
    (hf : mFindReader s.readers rid = some r) (hrun : r.released = false) (hst : r.started = true)
    (hu : r.closedByUser = false) (ha : r.isAof = true) (hl : s.lookup r.seg = some g)
    (hpos : g.left ≤ r.pos) (hne : (g.data.drop (r.pos - g.left)) ≠ []) :
    (s.copyStep rid).1.readers = mSetReader s.readers
      { r with pos := r.pos + (g.data.drop (r.pos - g.left)).length,
               buf := r.buf ++ g.data.drop (r.pos - g.left),
               out := r.out ++ g.data.drop (r.pos - g.left) } := by
  unfold Mem.copyStep
  simp only [hf, hrun, hst, hu, ha, hl, Bool.false_eq_true, Bool.not_true, Bool.or_self, if_false, if_true]
  have h1 : ¬ r.pos < g.left := by omega
  have h2 : (g.data.drop (r.pos - g.left)).isEmpty = false := by
    simpa [List.isEmpty_iff] using hne
  simp [h1, h2]

/-- What an iteration of a copy loop that makes progress does to its reader `r`: the loop
    returns (`finish`); or it writes the rest of the segment it holds to the pipe (`deliver`);
    or, the held segment being drained, it moves to the successor — for a stream reader the
    next indexed segment (`nextAof`), for a snapshot reader the segment's `next` (`nextRdb`). -/
inductive CopyMove (s : Mem) (r : MReader) : MReader → Prop
  | finish (st : RSt) : CopyMove s r { r with st := st, released := true }
  | deliver (g : MSeg) (hl : s.lookup r.seg = some g) (hpos : g.left ≤ r.pos)
      (hne : g.data.drop (r.pos - g.left) ≠ []) :
      CopyMove s r { r with pos := r.pos + (g.data.drop (r.pos - g.left)).length,
                            buf := r.buf ++ g.data.drop (r.pos - g.left),
                            out := r.out ++ g.data.drop (r.pos - g.left) }
  | nextAof (g nx : MSeg) (ha : r.isAof = true) (hl : s.lookup r.seg = some g) (hpos : g.left ≤ r.pos)
      (hd : g.data.drop (r.pos - g.left) = []) (hn : mNextOf s.segs g.sid = some nx) :
      CopyMove s r { r with seg := nx.sid }
  | nextRdb (g : MSeg) (nx : Nat) (ha : r.isAof = false) (hl : s.lookup r.seg = some g) (hpos : g.left ≤ r.pos)
      (hd : g.data.drop (r.pos - g.left) = []) (hn : g.next = some nx) :
      CopyMove s r { r with seg := nx }

/-- an iteration of a copy loop is blocked, or is a `CopyMove` of the reader it belongs to;
    the `if`s are taken one at a time, `split` on the whole body being slow to check -/
theorem copyStep_cases (s : Mem) (rid : Nat) :
    s.copyStep rid = (s, false) ∨
    ∃ r r', mFindReader s.readers rid = some r ∧ r.released = false ∧ CopyMove s r r' ∧
      s.copyStep rid = ({ s with readers := mSetReader s.readers r' }, true) := by
  unfold Mem.copyStep
  cases hf : mFindReader s.readers rid with
  | none => exact Or.inl rfl
  | some r =>
    dsimp only
    by_cases hrs : (r.released || !r.started) = true
    · rw [if_pos hrs]; exact Or.inl rfl
    rw [if_neg hrs]
    have hrel : r.released = false := by
      cases h : r.released with
      | false => rfl
      | true => rw [h] at hrs; exact absurd rfl hrs
    have move : ∀ {x : Mem × Bool} r', CopyMove s r r' → x = ({ s with readers := mSetReader s.readers r' }, true) →
        x = (s, false) ∨ ∃ r0 r', some r = some r0 ∧ r0.released = false ∧ CopyMove s r0 r' ∧
          x = ({ s with readers := mSetReader s.readers r' }, true) :=
      fun r' hm hx => Or.inr ⟨r, r', rfl, hrel, hm, hx⟩
    by_cases hcu : r.closedByUser = true
    · rw [if_pos hcu]; exact move _ (.finish _) rfl
    rw [if_neg hcu]
    cases hl : s.lookup r.seg with
    | none => exact move _ (.finish _) rfl
    | some g =>
      dsimp only
      by_cases ha : r.isAof = true
      · rw [if_pos ha]
        by_cases hpos : r.pos < g.left
        · rw [if_pos hpos]; exact move _ (.finish _) rfl
        rw [if_neg hpos]
        by_cases hne : (!(g.data.drop (r.pos - g.left)).isEmpty) = true
        · rw [if_pos hne]
          exact move _ (.deliver g hl (Nat.le_of_not_lt hpos) (by simpa using hne)) rfl
        rw [if_neg hne]
        by_cases hc : g.closed = true
        · rw [if_pos hc]
          cases hn : mNextOf s.segs g.sid with
          | none => exact move _ (.finish _) rfl
          | some nx => exact move _ (.nextAof g nx ha hl (Nat.le_of_not_lt hpos) (by simpa using hne) hn) rfl
        · rw [if_neg hc]; exact Or.inl rfl
      · rw [if_neg ha]
        by_cases hsz : r.pos ≥ r.size
        · rw [if_pos hsz]; exact move _ (.finish _) rfl
        rw [if_neg hsz]
        by_cases hpos : r.pos < g.left
        · rw [if_pos hpos]; exact move _ (.finish _) rfl
        rw [if_neg hpos]
        by_cases hne : (!(g.data.drop (r.pos - g.left)).isEmpty) = true
        · rw [if_pos hne]
          exact move _ (.deliver g hl (Nat.le_of_not_lt hpos) (by simpa using hne)) rfl
        rw [if_neg hne]
        by_cases hc : g.closed = true
        · rw [if_pos hc]
          cases hn : g.next with
          | none => exact move _ (.finish _) rfl
          | some nx => exact move _ (.nextRdb g nx (by simpa using ha) hl (Nat.le_of_not_lt hpos) (by simpa using hne) hn) rfl
        · rw [if_neg hc]; exact Or.inl rfl

/-- the reader operations change nothing but the reader list -/
theorem copyStep_eq (s : Mem) (rid : Nat) : (s.copyStep rid).1 = { s with readers := (s.copyStep rid).1.readers } := by
  rcases copyStep_cases s rid with h | ⟨_, _, _, _, _, h⟩ <;> rw [h]

/-- `NewReader` refuses, or adds a fresh reader: at the segment of the contiguous run that
    covers `off`, or at the first segment of the offered snapshot -/
theorem open_shape (s : Mem) (rid off : Nat) :
    (s.open rid off).1 = s ∨ ∃ r, (s.open rid off).1 = { s with readers := s.readers ++ [r] } ∧ r.out = [] ∧ r.start = r.pos ∧
      ((∃ g, s.indexAof off = some g ∧ r.isAof = true ∧ r.seg = g.sid ∧ r.pos = off) ∨
       (∃ rd first rest, s.rdbOffered = some rd ∧ rd.segs = first :: rest ∧ r.isAof = false ∧ r.seg = first.sid ∧ r.pos = 0)) := by
  unfold Mem.open
  split
  · exact Or.inl rfl
  · split
    · exact Or.inl rfl
    · split
      · rename_i g hg
        exact Or.inr ⟨_, rfl, rfl, rfl, Or.inl ⟨g, hg, rfl, rfl, rfl⟩⟩
      · split
        · rename_i rd hrd
          split
          · split
            · rename_i first rest hsg
              exact Or.inr ⟨_, rfl, rfl, rfl, Or.inr ⟨rd, first, rest, hrd, hsg, rfl, rfl, rfl⟩⟩
            · exact Or.inl rfl
          · exact Or.inl rfl
        · exact Or.inl rfl

theorem open_eq (s : Mem) (rid off : Nat) : (s.open rid off).1 = { s with readers := (s.open rid off).1.readers } := by
  rcases open_shape s rid off with h | ⟨r, h, _⟩ <;> rw [h]

theorem mFindReader_mem {rs : List MReader} {rid : Nat} {r : MReader} (h : mFindReader rs rid = some r) : r ∈ rs :=
  List.mem_of_find?_eq_some h

/-- `consume`, `closeReader` and `startReader` replace at most one reader, by one that differs
    from it in flags and pipe buffers only and is released only if it was -/
def Touched (s s' : Mem) : Prop :=
  s' = s ∨ ∃ r r', s' = { s with readers := mSetReader s.readers r' } ∧ r ∈ s.readers ∧ r'.isAof = r.isAof ∧
    r'.seg = r.seg ∧ r'.pos = r.pos ∧ r'.start = r.start ∧ r'.out = r.out ∧ (r'.released = false → r.released = false)

theorem consume_touched (s : Mem) (rid n : Nat) : Touched s (s.consume rid n).1 := by
  unfold Mem.consume
  cases hf : mFindReader s.readers rid with
  | none => exact Or.inl rfl
  | some r =>
    dsimp only
    split
    · exact Or.inr ⟨r, _, rfl, mFindReader_mem hf, rfl, rfl, rfl, rfl, rfl, id⟩
    · split
      · exact Or.inr ⟨r, _, rfl, mFindReader_mem hf, rfl, rfl, rfl, rfl, rfl, id⟩
      · split
        · split <;> exact Or.inl rfl
        · exact Or.inl rfl

theorem closeReader_touched (s : Mem) (rid : Nat) : Touched s (s.closeReader rid).1 := by
  unfold Mem.closeReader
  cases hf : mFindReader s.readers rid with
  | none => exact Or.inl rfl
  | some r =>
    dsimp only
    split
    · exact Or.inr ⟨r, _, rfl, mFindReader_mem hf, rfl, rfl, rfl, rfl, rfl, id⟩
    · exact Or.inr ⟨r, _, rfl, mFindReader_mem hf, rfl, rfl, rfl, rfl, rfl, fun h => by cases h⟩

theorem startReader_touched (s : Mem) (rid : Nat) : Touched s (s.step (.startReader rid)).1 := by
  simp only [Mem.step]
  cases hf : mFindReader s.readers rid with
  | none => exact Or.inl rfl
  | some r =>
    dsimp only
    split
    · exact Or.inl rfl
    · exact Or.inr ⟨r, _, rfl, mFindReader_mem hf, rfl, rfl, rfl, rfl, rfl, id⟩

theorem Touched.eq {s s' : Mem} (h : Touched s s') : s' = { s with readers := s'.readers } := by
  rcases h with rfl | ⟨_, _, rfl, _⟩ <;> rfl

theorem consume_eq (s : Mem) (rid n : Nat) : (s.consume rid n).1 = { s with readers := (s.consume rid n).1.readers } :=
  (consume_touched s rid n).eq

theorem closeReader_eq (s : Mem) (rid : Nat) : (s.closeReader rid).1 = { s with readers := (s.closeReader rid).1.readers } :=
  (closeReader_touched s rid).eq

/-- the operations of a reader and of its consumer -/
def MOp.readerOp : MOp → Bool
  | .openReader _ _ | .startReader _ | .copyStep _ | .consume _ _ | .closeReader _ => true
  | _ => false

theorem step_readerOp (s : Mem) {op : MOp} (h : op.readerOp = true) :
    (s.step op).1 = { s with readers := (s.step op).1.readers } := by
  cases op with
  | openReader rid off => exact open_eq s rid off
  | startReader rid => exact (startReader_touched s rid).eq
  | copyStep rid => exact copyStep_eq s rid
  | consume rid n => exact consume_eq s rid n
  | closeReader rid => exact closeReader_eq s rid
  | _ => cases h

/-- a reset closes every indexed segment and moves it out of the index: nothing
    of the old history stays reachable through the index -/
theorem reset_index_empty (s : Mem) : s.reset.segs = [] ∧ s.reset.rdb = none ∧ s.reset.aofW = none ∧
    ∀ g ∈ s.segs, ∃ g' ∈ s.reset.heap, g'.sid = g.sid ∧ g'.closed = true ∧ g'.data = g.data := by
  refine ⟨rfl, rfl, rfl, ?_⟩
  intro g hg
  refine ⟨{ g with closed := true }, ?_, rfl, rfl, rfl⟩
  simp only [Mem.reset, mCloseAll, List.mem_append, List.mem_map]
  left
  exact ⟨g, by simp [hg], rfl⟩

/-- the successor lookup goes by identity: a segment that is not in the index
    has no successor (a reader of a reset history ends instead of following the
    new history, D25) -/
theorem mNextOf_none_of_not_mem (segs : List MSeg) (sid : Nat) (h : ∀ g ∈ segs, g.sid ≠ sid) :
    mNextOf segs sid = none := by
  induction segs with
  | nil => rfl
  | cons a t ih =>
    cases t with
    | nil => rfl
    | cons b u =>
      simp only [mNextOf]
      have : (a.sid == sid) = false := by simpa using h a (by simp)
      simp only [this, Bool.false_eq_true, if_false]
      exact ih (fun g hg => h g (List.mem_cons_of_mem _ hg))

theorem run_keeps {P : Mem → Prop} (step : ∀ s op, P s → P (s.step op).1) (ops : List MOp) : ∀ s, P s → P (s.run ops) := by
  induction ops with
  | nil => exact fun _ h => h
  | cons op rest ih => exact fun s h => ih _ (step s op h)

theorem settleReaders_keeps {P : Mem → Prop} (copy : ∀ s rid, P s → P (s.copyStep rid).1) (s : Mem) (h : P s) :
    P s.settleReaders := by
  have reader : ∀ fuel s rid, P s → P (Mem.settleReader fuel s rid) := by
    intro fuel
    induction fuel with
    | zero => exact fun _ _ h => h
    | succ fuel ih =>
      intro s rid h
      simp only [Mem.settleReader]
      split
      · exact ih _ rid (copy s rid h)
      · exact copy s rid h
  unfold Mem.settleReaders
  generalize s.readers = rs
  induction rs generalizing s with
  | nil => exact h
  | cons r t ih => exact ih _ (reader _ s r.id h)

theorem settle_keeps {P : Mem → Prop} (copy : ∀ s rid, P s → P (s.copyStep rid).1) (retry : ∀ s, P s → P s.retry.1)
    (s : Mem) (h : P s) : P s.settle := by
  have loop : ∀ fuel s, P s → P (Mem.settleLoop fuel s) := by
    intro fuel
    induction fuel with
    | zero => exact fun _ h => h
    | succ fuel ih =>
      intro s h
      simp only [Mem.settleLoop]
      split
      · exact ih _ (retry _ (settleReaders_keeps copy s h))
      · exact retry _ (settleReaders_keeps copy s h)
  exact loop _ s h

end GunYu.Store
