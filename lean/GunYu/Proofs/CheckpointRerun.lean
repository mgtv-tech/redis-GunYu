/-
  Lemmas for C17: the next start on a state a cut of UpdateCheckpoint left (`crash_class`) — UpdateCheckpoint
  again, with the ids in either order, to completion, then the read under the LOCAL key; any number of
  attempts that do not complete (`Rerunnable`). Core only.
-/
import GunYu.Proofs.CheckpointUpdate

namespace GunYu.Checkpoint
open GunYu

theorem matchId_swap (a b : Bytes) : matchId [a, b] = matchId [b, a] := by
  funext x
  rw [Bool.eq_iff_iff, matchId_pair, matchId_pair]
  exact Or.comm

theorem offSel_swap (a b : Bytes) : offSel [a, b] = offSel [b, a] := by
  funext e; unfold offSel; rw [matchId_swap]

theorem ridSel_swap (a b : Bytes) : ridSel [a, b] = ridSel [b, a] := by
  funext e; unfold ridSel; rw [matchId_swap]

theorem offOf_swap (a b : Bytes) (fs : Cp) : offOf [a, b] fs = offOf [b, a] fs := by
  unfold offOf offStep; rw [offSel_swap]

theorem ridOf_swap (a b : Bytes) (fs : Cp) : ridOf [a, b] fs = ridOf [b, a] fs := by
  unfold ridOf ridStep; rw [ridSel_swap]

theorem Parses.swap {a b : Bytes} {fs : Cp} (h : Parses [a, b] fs) : Parses [b, a] fs :=
  h.sub (fun _ hx => matchId_swap a b ▸ hx)

theorem OffBelow.swap {a b : Bytes} {fs : Cp} {X : Int} (h : OffBelow [a, b] fs X) :
    OffBelow [b, a] fs X :=
  h.sub (fun _ hx => matchId_swap a b ▸ hx)

theorem Holds.swap {a b : Bytes} {t : Target} {n : Bytes} {d : Nat} {X : Int}
    (h : Holds [a, b] t n d X) : Holds [b, a] t n d X :=
  ⟨h.nonneg, fun db => (h.parses db).swap, offOf_swap a b _ ▸ h.off, ridOf_swap a b _ ▸ h.rid,
   fun db hdb => (h.dom db hdb).swap⟩

theorem LocOk.swap {a b : Bytes} {t : Target} {loc : Bytes} {d : Nat} {X : Int}
    (h : LocOk [a, b] t loc d X) : LocOk [b, a] t loc d X :=
  ⟨fun db => (h.parses db).swap, fun db hdb => (h.below db hdb).swap,
   offOf_swap a b _ ▸ matchId_swap a b ▸ h.atd, ridSel_swap a b ▸ h.ridok⟩

theorem updateReqs_noop (ver : Bytes) {t : Target} {loc p q : Bytes} (o1 o2 : List Nat) (now : Int)
    (h : getHash t.hash [p, q] = some (loc, p)) : updateReqs ver t loc [p, q] o1 o2 now = [] := by
  simp [updateReqs, h]

theorem startIds_eq {h : List (Bytes × Bytes)} {a b n r : Bytes} (hg : getHash h [a, b] = some (n, r)) :
    startIds h [a, b] = if r = b ∧ b ≠ a then [b, a] else [a, b] := by
  simp only [startIds, hg]

theorem update_complete_holds (ver : Bytes) {id1 id2 loc : Bytes} {t₀ : Target} {n r : Bytes} {d : Nat}
    {X : Int} {now : Int} (P : UpdPre id1 id2 loc t₀ n r d X now) (o1 o2 : List Nat) (ho1 : d ∈ o1) :
    Holds [id1, id2] (applyAll t₀ (updateReqs ver t₀ loc [id1, id2] o1 o2 now)) loc d X := by
  have h := crash_class ver P o1 o2 ho1 ((updateReqs ver t₀ loc [id1, id2] o1 o2 now).length + 2)
  rw [List.take_of_length_le (Nat.le_add_right _ 2)] at h
  rcases h with ⟨hk, F⟩ | ⟨_, hI, _⟩
  · -- nothing had to be done: the key is the LOCAL one already
    have hnl : n = loc :=
      Decidable.not_not.mp fun h => hk.resolve_left (Nat.not_lt.mpr (Nat.le_add_left 2 _)) (Or.inl h)
    exact hnl ▸ F.holds
  · exact hI.holds

theorem startIds_swapped {h : List (Bytes × Bytes)} {a b : Bytes} (hne : a ≠ b)
    (hs : startIds h [b, a] = [a, b]) : Unmapped h b := by
  have hba : ([b, a] : List Bytes) ≠ [a, b] := fun h => hne (List.cons.inj h).1.symm
  cases hg : getHash h [b, a] with
  | none => simp only [startIds, hg] at hs; exact absurd hs hba
  | some p =>
    obtain ⟨m, r0⟩ := p
    rw [startIds_eq hg] at hs
    have hr0 : r0 = a := Classical.byContradiction fun hc => hba (by rw [← hs, if_neg fun h => hc h.1])
    subst hr0
    rcases getHash_pair hg with ⟨h, _⟩ | ⟨hu, _⟩
    · exact absurd h hne
    · exact hu

theorem read_local (ver : Bytes) {a b : Bytes} {t : Target} {loc : Bytes} {d : Nat} {X : Int}
    (h : Holds [a, b] t loc d X) (oS : List Nat) (hoS : d ∈ oS) :
    (∃ c, getCheckpoint ver t loc [a, b] oS = some (c, (d : Int)) ∧ c.offset = X) ∧
    (∃ c, getCheckpoint ver t loc [b, a] oS = some (c, (d : Int)) ∧ c.offset = X) :=
  ⟨(getCheckpoint_of_holds ver h oS hoS).imp fun _ hc => ⟨hc.1, hc.2.1⟩,
   (getCheckpoint_of_holds ver h.swap oS hoS).imp fun _ hc => ⟨hc.1, hc.2.1⟩⟩

theorem FirstFacts.updPre {id1 id2 loc : Bytes} {t₀ t₁ : Target} {n r : Bytes} {d : Nat} {X : Int}
    {now now' : Int} (F : FirstFacts id1 id2 loc t₀ t₁ n d X) (P : UpdPre id1 id2 loc t₀ n r d X now)
    (hnow' : InInt64 now') : UpdPre id1 id2 loc t₁ n r d X now' :=
  ⟨P.hne, P.h1, P.h1q, P.h2q, P.hloc, F.hash ▸ P.hn, P.hn0, F.holds, F.own, F.locok, hnow'⟩

theorem rerun_swapped {id1 id2 loc : Bytes} {t₀ t₁ : Target} {n : Bytes} {d : Nat} {X : Int}
    {now now' : Int} (ver : Bytes) (P : UpdPre id1 id2 loc t₀ n id2 d X now) (h2 : id2 ≠ [])
    (F : FirstFacts id1 id2 loc t₀ t₁ n d X) (hnow' : InInt64 now')
    (o1 o2 : List Nat) (ho1 : d ∈ o1) :
    Holds [id1, id2] (applyAll t₁ (updateReqs ver t₁ loc [id2, id1] o1 o2 now')) loc d X := by
  have hl2 : hlookup t₀.hash id2 = some n := by
    rcases getHash_pair P.hn with ⟨h, _⟩ | ⟨_, ⟨_, h⟩ | ⟨h, _⟩⟩
    · exact absurd h.symm P.hne
    · exact h
    · exact absurd h P.hn0
  have hg : getHash t₁.hash [id2, id1] = some (n, id2) := F.hash ▸ getHash_of_first hl2 P.hn0
  exact (update_complete_holds ver
    (⟨fun h => P.hne h.symm, h2, P.h2q, P.h1q, P.hloc, hg, P.hn0, F.holds.swap, F.own,
      fun h => (F.locok h).swap, hnow'⟩ :
      UpdPre id2 id1 loc t₁ n id2 d X now') o1 o2 ho1).swap

theorem UpdPre.retime {id1 id2 loc : Bytes} {t : Target} {n r : Bytes} {d : Nat} {X now now' : Int}
    (P : UpdPre id1 id2 loc t n r d X now) (h : InInt64 now') : UpdPre id1 id2 loc t n r d X now' :=
  { P with hnow := h }

/-- the clock value 0 is arbitrary: every attempt brings its own (`UpdPre.retime`) -/
def Rerunnable (id1 id2 loc : Bytes) (t : Target) (d : Nat) (X : Int) : Prop :=
  (∃ n r, UpdPre id1 id2 loc t n r d X 0) ∨
  (getHash t.hash [id1, id2] = some (loc, id1) ∧ Holds [id1, id2] t loc d X)

theorem UpdPre.rerunnable {id1 id2 loc : Bytes} {t : Target} {n r : Bytes} {d : Nat} {X now : Int}
    (P : UpdPre id1 id2 loc t n r d X now) : Rerunnable id1 id2 loc t d X :=
  Or.inl ⟨n, r, P.retime ⟨by decide, by decide⟩⟩

theorem rerunnable_attempt (ver : Bytes) {id1 id2 loc : Bytes} {t : Target} {d : Nat} {X : Int}
    (h : Rerunnable id1 id2 loc t d X) (a : Attempt) (ho : d ∈ a.o1)
    (hnow : InInt64 a.now) :
    Rerunnable id1 id2 loc (applyAll t ((updateReqs ver t loc [id1, id2] a.o1 a.o2 a.now).take a.k)) d X := by
  rcases h with ⟨n, r, P⟩ | ⟨hh, hH⟩
  · have P' := P.retime hnow
    rcases crash_class ver P' a.o1 a.o2 ho a.k with ⟨_, F⟩ | ⟨_, hI, _⟩
    · exact (F.updPre P' hnow).rerunnable
    · exact Or.inr ⟨hI.hash, hI.holds⟩
  · rw [updateReqs_noop ver a.o1 a.o2 a.now hh, List.take_nil]
    exact Or.inr ⟨hh, hH⟩

theorem rerunnable_attempts (ver : Bytes) {id1 id2 loc : Bytes} {d : Nat} {X : Int} (as : List Attempt) :
    ∀ {t : Target}, Rerunnable id1 id2 loc t d X →
      (∀ a ∈ as, d ∈ a.o1 ∧ InInt64 a.now) →
      Rerunnable id1 id2 loc (afterAttempts ver loc [id1, id2] t as) d X := by
  induction as with
  | nil => intro t h _; exact h
  | cons a rest ih =>
    intro t h hall
    have ha := hall a (List.mem_cons_self ..)
    exact ih (rerunnable_attempt ver h a ha.1 ha.2) (fun a' ha' => hall a' (List.mem_cons_of_mem _ ha'))

theorem rerunnable_complete (ver : Bytes) {id1 id2 loc : Bytes} {t : Target} {d : Nat} {X : Int}
    (h : Rerunnable id1 id2 loc t d X) (o1 o2 : List Nat) (ho : d ∈ o1) (now : Int)
    (hnow : InInt64 now) :
    Holds [id1, id2] (applyAll t (updateReqs ver t loc [id1, id2] o1 o2 now)) loc d X := by
  rcases h with ⟨n, r, P⟩ | ⟨hh, hH⟩
  · exact update_complete_holds ver (P.retime hnow) o1 o2 ho
  · rw [updateReqs_noop ver o1 o2 now hh]; exact hH

end GunYu.Checkpoint
