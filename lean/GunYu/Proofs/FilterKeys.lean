/-
  Helper lemmas for C10: case folding on bytes, key positions are in range.
-/
import GunYu.Model.Filter

namespace GunYu.Filter
open GunYu

theorem all_fin256 (P : UInt8 → Prop) (h : ∀ i : Fin 256, P (UInt8.ofNat i.val)) (b : UInt8) : P b := by
  have := h ⟨b.toNat, b.toNat_lt⟩
  simpa using this

theorem lowerByte_upperByte (b : UInt8) : lowerByte (upperByte b) = lowerByte b := by
  apply all_fin256 (fun b => lowerByte (upperByte b) = lowerByte b)
  decide +kernel

theorem lowerByte_lowerByte (b : UInt8) : lowerByte (lowerByte b) = lowerByte b := by
  apply all_fin256 (fun b => lowerByte (lowerByte b) = lowerByte b)
  decide +kernel

theorem lower_upper (bs : Bytes) : lower (upper bs) = lower bs := by
  simp [lower, upper, List.map_map, Function.comp_def, lowerByte_upperByte]

theorem lower_lower (bs : Bytes) : lower (lower bs) = lower bs := by
  simp [lower, List.map_map, Function.comp_def, lowerByte_lowerByte]

theorem toNat_lt_of_not_any {l : List Int} {n : Nat}
    (h : ¬ (l.any fun i => decide (i < 0 ∨ i ≥ (n : Int))) = true) : ∀ i ∈ l.map Int.toNat, i < n := by
  intro i hi
  obtain ⟨x, hx, rfl⟩ := List.mem_map.mp hi
  have : ¬ (x < 0 ∨ x ≥ (n : Int)) := fun hc => h (List.any_eq_true.mpr ⟨x, hx, by simpa using hc⟩)
  omega

theorem numkeysStepIdx_lt {a b c : Int} {fixed : List Int} {args : List Bytes} {idx : List Nat}
    (h : numkeysStepIdx a b c fixed args = some idx) : ∀ i ∈ idx, i < args.length := by
  revert h
  fun_cases numkeysStepIdx a b c fixed args
  case case6 n h1 h2 nk h3 last h4 h5 =>
    intro h i hi
    rw [← Option.some.inj h] at hi
    rcases List.mem_append.mp hi with hi | hi
    · exact toNat_lt_of_not_any h5 i hi
    · -- the `j`-th key sits at `b + j * c ≤ b + (nk - 1) * c`, the checked last key
      obtain ⟨j, hj, rfl⟩ := List.mem_map.mp hi
      have hj' := List.mem_range.mp hj
      have hmul : (j : Int) * c ≤ (nk - 1) * c := Int.mul_le_mul_of_nonneg_right (by omega) (by omega)
      have hjc : (0 : Int) ≤ (j : Int) * c := Int.mul_nonneg (by omega) (by omega)
      omega
  all_goals intro h; cases h

theorem fixedKeysIdx_lt {indexes : List Int} {args : List Bytes} {idx : List Nat}
    (h : fixedKeysIdx indexes args = some idx) : ∀ i ∈ idx, i < args.length := by
  revert h
  fun_cases fixedKeysIdx indexes args
  · intro h; cases h
  · rename_i h5
    intro h
    rw [← Option.some.inj h]
    exact toNat_lt_of_not_any h5

theorem xgroupIdx_lt {args : List Bytes} {idx : List Nat}
    (h : xgroupIdx args = some idx) : ∀ i ∈ idx, i < args.length := by
  revert h
  fun_cases xgroupIdx args
  · intro h i hi
    rw [← Option.some.inj h, List.mem_singleton] at hi
    simp [hi]
  all_goals intro h; cases h

theorem findFold_lt {w : Bytes} {l : List Bytes} {m : Nat} (h : findFold w l = some m) : m < l.length := by
  induction l generalizing m with
  | nil => cases h
  | cons a rest ih =>
    rw [findFold] at h
    split at h
    · cases h; exact Nat.succ_pos _
    · cases hf : findFold w rest with
      | none => rw [hf] at h; cases h
      | some k => rw [hf] at h; cases h; exact Nat.succ_lt_succ (ih hf)

theorem streamsIdx_lt {args : List Bytes} {idx : List Nat}
    (h : streamsIdx args = some idx) : ∀ i ∈ idx, i < args.length := by
  revert h
  fun_cases streamsIdx args
  case case4 marker hm _ _ _ _ =>
    intro h i hi
    rw [← Option.some.inj h] at hi
    obtain ⟨j, hj, rfl⟩ := List.mem_map.mp hi
    have hj' := List.mem_range.mp hj
    have := findFold_lt hm
    omega
  all_goals intro h; cases h

theorem sortLoop_lt (N : Nat) (skip i : Nat) (rem : List Bytes) (dst : Option Nat) (d : Nat)
    (h : sortLoop skip i rem dst = some (some d))
    (hk : ∀ k, dst = some k → k < N) (hN : i + rem.length = N) : d < N := by
  fun_induction sortLoop skip i rem dst
  case case1 => exact hk d (Option.some.inj h)
  case case6 ih =>
    refine ih h (fun k hk' => ?_) (by simp at hN ⊢; omega)
    cases hk'; simp at hN; omega
  -- a rejecting branch contradicts `h`; every other branch goes on with the same destination
  all_goals first
    | cases h
    | (rename_i ih; exact ih h hk (by simp at hN ⊢; omega))

theorem sortIdx_lt {args : List Bytes} {idx : List Nat}
    (h : sortIdx args = some idx) : ∀ i ∈ idx, i < args.length := by
  revert h
  fun_cases sortIdx args
  case case2 a rest d hl =>
    intro h i hi
    have := sortLoop_lt (rest.length + 1) 0 1 rest none d hl (fun k hk => nomatch hk) (by omega)
    rw [← Option.some.inj h] at hi
    simp at hi
    rcases hi with rfl | rfl <;> simp <;> omega
  all_goals intro h; cases h

theorem geoLoop_lt (N : Nat) (skip i : Nat) (l : List Bytes) (dst : Option Nat) (k : Nat)
    (h : geoLoop skip i l dst = some k)
    (hk : ∀ j, dst = some j → j < N) (hN : i + l.length = N) : k < N := by
  fun_induction geoLoop skip i l dst
  case case1 => exact hk k h
  case case3 rest _ hc ih =>
    refine ih h (fun j hj => ?_) (by simp at hN ⊢; omega)
    cases hj
    cases rest with
    | nil => simp at hc
    | cons x r => simp at hN; omega
  all_goals rename_i ih; exact ih h hk (by simp at hN ⊢; omega)

theorem geoIdx_lt {args : List Bytes} {idx : List Nat}
    (h : geoIdx args = some idx) : ∀ i ∈ idx, i < args.length := by
  unfold geoIdx at h
  split at h
  · cases h
  · rename_i a rest
    split at h
    · rename_i k hk
      by_cases hlen : 4 ≤ (a :: rest).length
      · have := geoLoop_lt (a :: rest).length 0 4 ((a :: rest).drop 4) none k hk (fun j hj => nomatch hj)
          (by simp only [List.length_drop]; omega)
        intro i hi
        rw [← Option.some.inj h] at hi
        simp at hi
        rcases hi with rfl | rfl
        · simp
        · exact this
      · rw [List.drop_eq_nil_of_le (by omega)] at hk
        cases hk
    · cases h

theorem runExtractor_lt {ex : Gen.KeyExtractor} {args : List Bytes} {idx : List Nat}
    (h : runExtractor ex args = some idx) : ∀ i ∈ idx, i < args.length := by
  cases ex with
  | numkeysStep a b c fixed => exact numkeysStepIdx_lt h
  | fixedKeys ix => exact fixedKeysIdx_lt h
  | geoRadiusStore => exact geoIdx_lt h
  | xgroup => exact xgroupIdx_lt h
  | streams => exact streamsIdx_lt h
  | sort => exact sortIdx_lt h

theorem tableIndexes_lt {first last step : Int} {n : Nat} {idx : List Nat}
    (h : tableIndexes first last step n = some idx) : idx ≠ [] ∧ ∀ i ∈ idx, i < n := by
  revert h
  fun_cases tableIndexes first last step n
  case case3 lastkey h1 f0 h2 cnt =>
    intro h
    rw [← Option.some.inj h]
    refine ⟨by simp, fun i hi => ?_⟩
    -- the `j`-th key sits at `f0 + j * step ≤ f0 + (lastkey - f0) / step * step ≤ lastkey < n`
    obtain ⟨j, hj, rfl⟩ := List.mem_map.mp hi
    have hj' := List.mem_range.mp hj
    have hstep : (0 : Int) < step := by omega
    have hq : (0 : Int) ≤ (lastkey - f0) / step := Int.ediv_nonneg (by omega) (by omega)
    have hjle : (j : Int) ≤ (lastkey - f0) / step := by omega
    have hmul : (j : Int) * step ≤ (lastkey - f0) / step * step :=
      Int.mul_le_mul_of_nonneg_right hjle (by omega)
    have hdm : (lastkey - f0) / step * step ≤ lastkey - f0 := Int.ediv_mul_le _ (by omega)
    have hjc : (0 : Int) ≤ (j : Int) * step := Int.mul_nonneg (by omega) (by omega)
    omega
  all_goals intro h; cases h

theorem keyIndexes_inRange {cmd : Bytes} {args : List Bytes} {idx : List Nat}
    (h : keyIndexes cmd args = some idx) : idx ≠ [] ∧ ∀ i ∈ idx, i < args.length := by
  revert h
  fun_cases keyIndexes cmd args
  case case3 _ ex _ idx' hex hne =>
    intro h
    rw [← Option.some.inj h]
    exact ⟨by simpa using hne, runExtractor_lt hex⟩
  case case6 => exact tableIndexes_lt
  all_goals intro h; cases h

end GunYu.Filter
