/-
  Helper lemmas for C12 (Props/C12.lean): the decoder model of Model/Resp.lean
  reads back the RESP framing, and counts exactly the bytes it consumes.
  Core only.
-/
import GunYu.Model.Resp
import GunYu.Proofs.Decimal

namespace GunYu.Resp
open GunYu GunYu.Decimal

theorem span_loop_eq {α} (p : α → Bool) (l acc : List α) :
    List.span.loop p l acc = (acc.reverse ++ l.takeWhile p, l.dropWhile p) := by
  induction l generalizing acc with
  | nil => simp [List.span.loop]
  | cons a as ih =>
    simp only [List.span.loop, List.takeWhile_cons, List.dropWhile_cons]
    split
    · rename_i h; rw [ih]; simp [h]
    · rename_i h; simp [h]

theorem span_eq {α} (p : α → Bool) (l : List α) : l.span p = (l.takeWhile p, l.dropWhile p) := by
  simp [List.span, span_loop_eq]

theorem readLine_cons (b : UInt8) (inp : Bytes) :
    readLine (b :: inp) =
      if b = 10 then some ([10], inp) else (readLine inp).map fun lr => (b :: lr.1, lr.2) := by
  simp only [readLine, span_eq, List.takeWhile_cons, List.dropWhile_cons]
  by_cases hb : b = 10
  · simp [hb]
  · simp only [hb, ne_eq, not_false_eq_true, decide_true, if_true, if_false]
    cases inp.dropWhile (fun x => decide (x ≠ 10)) <;> rfl

theorem readLine_noNl_append (p x : Bytes) (h : ∀ b ∈ p, b ≠ 10) :
    readLine (p ++ x) = (readLine x).map (fun lr => (p ++ lr.1, lr.2)) := by
  induction p with
  | nil => rw [List.nil_append]; cases readLine x <;> rfl
  | cons b p ih =>
    rw [List.cons_append, readLine_cons, if_neg (h b List.mem_cons_self),
      ih fun c hc => h c (List.mem_cons_of_mem _ hc)]
    cases readLine x <;> rfl

theorem readLine_line (l r : Bytes) (h : ∀ b ∈ l, b ≠ 10) :
    readLine (l ++ 10 :: r) = some (l ++ [10], r) := by
  rw [readLine_noNl_append l _ h]; rfl

theorem readLine_none_of_noNl (p : Bytes) (h : ∀ b ∈ p, b ≠ 10) : readLine p = none := by
  have := readLine_noNl_append p [] h
  rwa [List.append_nil] at this

theorem readLine_split (inp l r : Bytes) (h : readLine inp = some (l, r)) : inp = l ++ r := by
  induction inp generalizing l with
  | nil => cases h
  | cons b inp ih =>
    rw [readLine_cons] at h
    split at h
    · rename_i hb; cases h; rw [hb]; rfl
    · cases hr : readLine inp with
      | none => rw [hr] at h; cases h
      | some lr => rw [hr] at h; cases h; exact congrArg (b :: ·) (ih _ hr)

theorem digit_ne {b : UInt8} (h : isDigit b = true) : b ≠ 10 ∧ b ≠ 43 ∧ b ≠ 45 := by
  rw [isDigit_iff] at h
  refine ⟨?_, ?_, ?_⟩ <;> (intro e; subst e; simp at h)

theorem noNl_cr {l : Bytes} (h : ∀ b ∈ l, b ≠ 10) : ∀ b ∈ l ++ [13], b ≠ 10 := fun b hb =>
  (List.mem_append.mp hb).elim (h b) fun hb => by rw [List.mem_singleton.mp hb]; decide

theorem decodeText_line (l r : Bytes) (h : ∀ b ∈ l, b ≠ 10) (off : Nat) :
    decodeText (l ++ crlf ++ r) off = .ok (l, off + (l.length + 2), r) := by
  have e : l ++ crlf ++ r = (l ++ [13]) ++ 10 :: r := by simp [crlf]
  have hn : (l ++ [13] ++ [10]).length = l.length + 2 := by simp
  rw [decodeText, e, readLine_line _ _ (noNl_cr h)]
  simp only [hn, Nat.add_sub_cancel]
  rw [if_neg, List.append_assoc, List.take_left' rfl]
  simp [List.getD_eq_getElem?_getD]

theorem natToDec_noNl (n : Nat) : ∀ b ∈ natToDec n, b ≠ 10 :=
  fun b hb => (digit_ne (natToDec_all_digit n b hb)).1

theorem parseInt64_natToDec (n : Nat) (h : n < 2^63) : parseInt64 (natToDec n) = some (n : Int) := by
  have hne := natToDec_ne_nil n
  match hd : natToDec n with
  | [] => exact absurd hd hne
  | b :: ds =>
    have hb : isDigit b = true := natToDec_all_digit n b (by rw [hd]; simp)
    obtain ⟨_, h43, h45⟩ := digit_ne hb
    simp only [parseInt64, h43, h45, if_false]
    rw [← hd]
    simp only [unsignedDec, decToNat?_natToDec]
    have : n ≤ 2^63 - 1 := by omega
    simp [this]

theorem decodeInt_dec (n : Nat) (h : n < 2^63) (r : Bytes) (off : Nat) :
    decodeInt (natToDec n ++ crlf ++ r) off = .ok ((n : Int), off + ((natToDec n).length + 2), r) := by
  rw [decodeInt, decodeText_line _ _ (natToDec_noNl n)]
  simp only [parseInt64_natToDec n h]

theorem encodeBulk_length (a : Bytes) :
    (encodeBulk a).length = 1 + ((natToDec a.length).length + 2) + (a.length + 2) := by
  simp [encodeBulk, crlf]; omega

theorem decodeBulk_enc (a r : Bytes) (h : a.length < 2^63) (off : Nat) :
    decodeBulk (natToDec a.length ++ crlf ++ (a ++ crlf ++ r)) off =
      .ok (some a, off + ((natToDec a.length).length + 2) + (a.length + 2), r) := by
  have hlen : (a ++ crlf).length = a.length + 2 := by simp [crlf]
  have ht : (a ++ crlf ++ r).take (a.length + 2) = a ++ crlf := List.take_left' hlen
  have hd : (a ++ crlf ++ r).drop (a.length + 2) = r := List.drop_left' hlen
  rw [decodeBulk, decodeInt_dec _ h]
  simp only [Int.toNat_natCast, ht, hd, hlen, List.take_left' rfl]
  rw [if_neg (by omega), if_neg (by omega), if_neg (Nat.lt_irrefl _), if_neg]
  simp [List.getD_eq_getElem?_getD, crlf]

theorem decodeResp_dollar (f d : Nat) (rest : Bytes) (off : Nat) :
    decodeResp (f + 1) d (36 :: rest) off =
      match decodeBulk rest (off + 1) with
      | .error e => .error e
      | .ok (v, o, r) => .ok (.bulk v, o, r) := by
  rw [decodeResp, decodeType]; rfl

theorem decodeResp_star (f d : Nat) (rest : Bytes) (off : Nat) :
    decodeResp (f + 1) d (42 :: rest) off =
      match decodeInt rest (off + 1) with
      | .error e => .error e
      | .ok (n, o, r) =>
        if n < -1 then .error .bad
        else if n = -1 then .ok (.arr none, o, r)
        else
          match decodeElems (decodeResp f (d + 1)) n.toNat r o with
          | .error e => .error e
          | .ok (vs, o', r') => .ok (.arr (some vs), o', r') := by
  rw [decodeResp, decodeType]; rfl

theorem decodeResp_bulk (f d : Nat) (a r : Bytes) (h : a.length < 2^63) (off : Nat) :
    decodeResp (f + 1) d (encodeBulk a ++ r) off =
      .ok (.bulk (some a), off + (encodeBulk a).length, r) := by
  have e : encodeBulk a ++ r = 36 :: (natToDec a.length ++ crlf ++ (a ++ crlf ++ r)) := by
    simp [encodeBulk]
  rw [e, decodeResp_dollar, decodeBulk_enc a r h, encodeBulk_length]
  simp only [Nat.add_assoc]

def bulks (as : List Bytes) : List Resp := as.map (fun a => Resp.bulk (some a))

theorem decodeElems_bulks (f d : Nat) (as : List Bytes) (r : Bytes)
    (h : ∀ a ∈ as, a.length < 2^63) (off : Nat) :
    decodeElems (decodeResp (f + 1) d) as.length (as.flatMap encodeBulk ++ r) off =
      .ok (bulks as, off + (as.flatMap encodeBulk).length, r) := by
  induction as generalizing off with
  | nil => simp [decodeElems, bulks]
  | cons a as ih =>
    simp only [List.length_cons, List.flatMap_cons, List.append_assoc, decodeElems]
    rw [decodeResp_bulk f d a _ (h a List.mem_cons_self)]
    simp only
    rw [ih fun x hx => h x (List.mem_cons_of_mem _ hx)]
    simp only [bulks, List.map_cons, List.length_append, Nat.add_assoc]

theorem encodeCmd_length (as : List Bytes) :
    (encodeCmd as).length = 1 + ((natToDec as.length).length + 2) + (as.flatMap encodeBulk).length := by
  simp [encodeCmd, crlf]; omega

theorem decodeResp_cmd (f : Nat) (as : List Bytes) (r : Bytes)
    (hn : as.length < 2^63) (h : ∀ a ∈ as, a.length < 2^63) (off : Nat) :
    decodeResp (f + 2) 0 (encodeCmd as ++ r) off =
      .ok (.arr (some (bulks as)), off + (encodeCmd as).length, r) := by
  have e : encodeCmd as ++ r = 42 :: (natToDec as.length ++ crlf ++ (as.flatMap encodeBulk ++ r)) := by
    simp [encodeCmd]
  rw [e, decodeResp_star, decodeInt_dec _ hn]
  simp only [Int.toNat_natCast]
  rw [if_neg (by omega), if_neg (by omega), decodeElems_bulks f 1 as r h, encodeCmd_length]
  simp only [Nat.add_assoc]

theorem asBulks_bulks (as : List Bytes) : asBulks (bulks as) = some as := by
  induction as with
  | nil => rfl
  | cons a as ih => simp [bulks, asBulks] at ih ⊢; simp [ih]

theorem decodeCmd_enc (f : Nat) (c : List Bytes) (r : Bytes) (h : WF c) (off : Nat) :
    decodeCmd (f + 2) (encodeCmd c ++ r) off = .ok (cmdOf c, off + (encodeCmd c).length, r) := by
  obtain ⟨hname, hn, hall, _⟩ := h
  match c, hname with
  | name :: args, hname =>
    have hne : name ≠ [] := by simpa using hname
    rw [decodeCmd, decodeResp_cmd f _ r hn hall]
    simp [parseArgs, asBulks_bulks, hne, cmdOf]

theorem parseInt64_intToDec (i : Int) (lo : -(2^63 : Int) ≤ i) (hi : i < 2^63) :
    parseInt64 (intToDec i) = some i := by
  unfold intToDec
  split
  · rename_i hneg
    simp only [parseInt64, show ((45 : UInt8) = 43) = False by decide, if_false, if_true,
      unsignedDec, decToNat?_natToDec]
    have : i.natAbs ≤ 2^63 := by omega
    simp only [this, if_true, Option.map_some, Int.ofNat_eq_natCast]
    congr 1
    omega
  · rename_i hneg
    rw [parseInt64_natToDec _ (by omega)]
    congr 1
    omega

theorem decodeType_replicate (k : Nat) (inp : Bytes) (off : Nat) :
    decodeType (List.replicate k 10 ++ inp) off = decodeType inp (off + k) := by
  induction k generalizing off with
  | zero => simp
  | succ k ih =>
    simp only [List.replicate_succ, List.cons_append, decodeType, if_true]
    rw [ih]; congr 1; omega

theorem decodeCmd_replicate (f k : Nat) (inp : Bytes) (off : Nat) :
    decodeCmd (f + 1) (List.replicate k 10 ++ inp) off = decodeCmd (f + 1) inp (off + k) := by
  rw [decodeCmd, decodeCmd, decodeResp, decodeResp, decodeType_replicate]

theorem decodeOne_nl_enc (k : Nat) (c : List Bytes) (r : Bytes) (h : WF c) :
    decodeOne (List.replicate k 10 ++ (encodeCmd c ++ r)) = .ok (cmdOf c, k + (encodeCmd c).length, r) := by
  have hF : (List.replicate k 10 ++ (encodeCmd c ++ r)).length + 1
      = ((List.replicate k 10 ++ (encodeCmd c ++ r)).length - 1) + 2 := by
    simp [encodeCmd]; omega
  rw [decodeOne, hF, decodeCmd_replicate, decodeCmd_enc _ c r h, Nat.zero_add]

def IsEof (e : DecErr) : Prop := e = .eof ∨ e = .ueof

theorem decodeResp_nil (f d off : Nat) : decodeResp (f + 1) d [] off = .error .eof := rfl

theorem cut_append {α} {x y p s : List α} (h : x ++ y = p ++ s) :
    (∃ a, p = x ++ a ∧ y = a ++ s) ∨ (∃ c, c ≠ [] ∧ x = p ++ c) := by
  rcases List.append_eq_append_iff.mp h with ⟨a, hp, hq⟩ | ⟨c, hp, hq⟩
  · exact Or.inl ⟨a, hp, hq⟩
  · cases c with
    | nil => exact Or.inl ⟨[], by simpa using hp.symm, by simpa using hq.symm⟩
    | cons b c => exact Or.inr ⟨b :: c, List.cons_ne_nil _ _, hp⟩

/-- a length line cut before its last byte has no `\n` yet: `ReadBytes` hits the end of input -/
theorem decodeInt_trunc (l p s : Bytes) (hl : ∀ b ∈ l, b ≠ 10) (h : l ++ crlf = p ++ s) (hs : s ≠ [])
    (off : Nat) : decodeInt p off = .error .eof := by
  have hp : ∀ b ∈ p, b ≠ 10 := by
    have e : (l ++ [13]) ++ [10] = p ++ s := by rw [← h]; simp [crlf]
    have hl' := noNl_cr hl
    rcases cut_append e with ⟨a, hp, hq⟩ | ⟨c, _, hp⟩
    · cases a with
      | nil => rw [hp, List.append_nil]; exact hl'
      | cons x a => cases s with
        | nil => exact absurd rfl hs
        | cons y s => simp at hq
    · intro b hb; exact hl' b (by rw [hp]; exact List.mem_append_left _ hb)
  rw [decodeInt, decodeText, readLine_none_of_noNl p hp]

theorem decodeBulk_trunc (a p s : Bytes) (hl : a.length < 2^63)
    (h : natToDec a.length ++ crlf ++ (a ++ crlf) = p ++ s) (hs : s ≠ []) (off : Nat) :
    ∃ e, decodeBulk p off = .error e ∧ IsEof e := by
  rcases cut_append h with ⟨a', rfl, hq⟩ | ⟨c, hc, hp⟩
  · -- the length line is complete; `io.ReadFull` comes short
    have hlen : a'.length < a.length + 2 := by
      have := congrArg List.length hq
      cases s with
      | nil => exact absurd rfl hs
      | cons y ys => simp [crlf] at this; omega
    have ht : (a'.take (a.length + 2)).length < a.length + 2 := by
      rw [List.length_take]; omega
    rw [decodeBulk, decodeInt_dec _ hl]
    simp only [Int.toNat_natCast]
    rw [if_neg (by omega), if_neg (by omega), if_pos ht]
    split
    · exact ⟨_, rfl, Or.inl rfl⟩
    · exact ⟨_, rfl, Or.inr rfl⟩
  · rw [decodeBulk, decodeInt_trunc _ p c (natToDec_noNl _) hp hc]
    exact ⟨_, rfl, Or.inl rfl⟩

theorem decodeResp_bulk_trunc (f d : Nat) (a p s : Bytes) (hl : a.length < 2^63)
    (h : encodeBulk a = p ++ s) (hs : s ≠ []) (off : Nat) :
    ∃ e, decodeResp (f + 1) d p off = .error e ∧ IsEof e := by
  cases p with
  | nil => exact ⟨.eof, rfl, Or.inl rfl⟩
  | cons x p =>
    simp only [encodeBulk, List.cons_append, List.cons.injEq] at h
    obtain ⟨rfl, h⟩ := h
    obtain ⟨e, he, hE⟩ := decodeBulk_trunc a p s hl h hs (off + 1)
    exact ⟨e, by rw [decodeResp_dollar, he], hE⟩

theorem decodeElems_trunc (f d : Nat) (as : List Bytes) (hall : ∀ a ∈ as, a.length < 2^63)
    (p s : Bytes) (h : as.flatMap encodeBulk = p ++ s) (hs : s ≠ []) (off : Nat) :
    ∃ e, decodeElems (decodeResp (f + 1) d) as.length p off = .error e ∧ IsEof e := by
  induction as generalizing p off with
  | nil => exact absurd (List.append_eq_nil_iff.mp h.symm).2 hs
  | cons a as ih =>
    rw [List.flatMap_cons] at h
    rw [List.length_cons, decodeElems]
    rcases cut_append h with ⟨a', rfl, hq⟩ | ⟨c, hc, hp⟩
    · obtain ⟨e, he, hE⟩ := ih (fun x hx => hall x (List.mem_cons_of_mem _ hx)) a' hq
        (off + (encodeBulk a).length)
      rw [decodeResp_bulk f d a a' (hall a List.mem_cons_self)]
      exact ⟨e, by simp only [he], hE⟩
    · obtain ⟨e, he, hE⟩ := decodeResp_bulk_trunc f d a p c (hall a List.mem_cons_self) hp hc off
      exact ⟨e, by rw [he], hE⟩

theorem decodeCmd_trunc (F : Nat) (c : List Bytes) (hwf : WF c) (p s : Bytes)
    (h : encodeCmd c = p ++ s) (hs : s ≠ []) (hF : p.length < F) (off : Nat) :
    ∃ e, decodeCmd F p off = .error e ∧ IsEof e := by
  obtain ⟨_, hn, hall, _⟩ := hwf
  suffices ∃ e, decodeResp F 0 p off = .error e ∧ IsEof e by
    obtain ⟨e, he, hE⟩ := this
    exact ⟨e, by rw [decodeCmd, he], hE⟩
  cases p with
  | nil =>
    obtain ⟨f, rfl⟩ : ∃ f, F = f + 1 := ⟨F - 1, by omega⟩
    exact ⟨.eof, rfl, Or.inl rfl⟩
  | cons x p =>
    obtain ⟨f, rfl⟩ : ∃ f, F = f + 2 := ⟨F - 2, by simp at hF; omega⟩
    simp only [encodeCmd, List.cons_append, List.cons.injEq] at h
    obtain ⟨rfl, h⟩ := h
    rw [decodeResp_star]
    rcases cut_append h with ⟨a', rfl, hq⟩ | ⟨c', hc, hp⟩
    · obtain ⟨e, he, hE⟩ := decodeElems_trunc f 1 c hall a' s hq hs (off + 1 + ((natToDec c.length).length + 2))
      rw [decodeInt_dec _ hn]
      simp only [Int.toNat_natCast]
      rw [if_neg (by omega), if_neg (by omega), he]
      exact ⟨e, rfl, hE⟩
    · rw [decodeInt_trunc _ p c' (natToDec_noNl _) hp hc]
      exact ⟨.eof, rfl, Or.inl rfl⟩

def expected (start : Nat) (s : List (List Bytes)) : List (Cmd × Nat) :=
  (s.map cmdOf).zip (boundaries start s)

theorem decodeAllAux_stream (F start : Nat) (s : List (List Bytes)) (r : Bytes) (m off : Nat)
    (hF : s = [] ∨ 2 ≤ F) (hwf : ∀ c ∈ s, WF c) :
    decodeAllAux F start (s.length + m) (s.flatMap encodeCmd ++ r) off =
      Prod.map (expected (start + off) s ++ ·) id
        (decodeAllAux F start m r (off + (s.flatMap encodeCmd).length)) := by
  induction s generalizing off with
  | nil => simp [expected, boundaries, Prod.map]
  | cons c cs ih =>
    obtain ⟨f, rfl⟩ : ∃ f, F = f + 2 := ⟨F - 2, by simp at hF; omega⟩
    rw [List.length_cons, Nat.add_right_comm, List.flatMap_cons, List.append_assoc, decodeAllAux,
      decodeCmd_enc f c _ (hwf c List.mem_cons_self)]
    simp only
    rw [ih _ (Or.inr (by omega)) fun x hx => hwf x (List.mem_cons_of_mem _ hx)]
    simp only [expected, List.map_cons, boundaries, List.zip_cons_cons, List.length_append,
      Prod.map, List.cons_append, id, Nat.add_assoc]

theorem flatMap_encodeCmd_length_ge (s : List (List Bytes)) :
    s.length ≤ (s.flatMap encodeCmd).length := by
  induction s with
  | nil => simp
  | cons c cs ih =>
    simp only [List.flatMap_cons, List.length_append, List.length_cons, encodeCmd_length]
    omega

theorem decodeAllFrom_append (start pre : Nat) (s : List (List Bytes)) (tail : Bytes)
    (hwf : ∀ c ∈ s, WF c) :
    ∃ F m, tail.length < F ∧
      decodeAllFrom start pre (s.flatMap encodeCmd ++ tail) =
        Prod.map (expected (start + pre) s ++ ·) id
          (decodeAllAux F start (m + 1) tail (pre + (s.flatMap encodeCmd).length)) := by
  have hlen := flatMap_encodeCmd_length_ge s
  refine ⟨(s.flatMap encodeCmd ++ tail).length + 1,
    (s.flatMap encodeCmd ++ tail).length - s.length, by rw [List.length_append]; omega, ?_⟩
  rw [decodeAllFrom, ← decodeAllAux_stream _ _ _ _ _ _ _ hwf]
  · congr 1; rw [List.length_append]; omega
  · cases s with
    | nil => exact Or.inl rfl
    | cons c cs => right; rw [List.length_append]; simp only [List.length_cons] at hlen; omega

theorem decodeAllFrom_stream (start pre : Nat) (s : List (List Bytes)) (hwf : ∀ c ∈ s, WF c) :
    decodeAllFrom start pre (s.flatMap encodeCmd) = (expected (start + pre) s, .eof) := by
  obtain ⟨F, m, hF, h⟩ := decodeAllFrom_append start pre s [] hwf
  obtain ⟨f, rfl⟩ : ∃ f, F = f + 1 := ⟨F - 1, by simp at hF; omega⟩
  rw [List.append_nil] at h
  rw [h, decodeAllAux, decodeCmd, decodeResp_nil]
  simp [Prod.map]

theorem decodeAllFrom_trunc (start pre : Nat) (s : List (List Bytes)) (c : List Bytes) (k : Nat)
    (hs : ∀ c ∈ s, WF c) (hc : WF c) (hk : k < (encodeCmd c).length) :
    decodeAllFrom start pre (s.flatMap encodeCmd ++ (encodeCmd c).take k) = (expected (start + pre) s, .eof) ∨
    decodeAllFrom start pre (s.flatMap encodeCmd ++ (encodeCmd c).take k) = (expected (start + pre) s, .ueof) := by
  obtain ⟨F, m, hF, h⟩ := decodeAllFrom_append start pre s ((encodeCmd c).take k) hs
  obtain ⟨e, he, hE⟩ := decodeCmd_trunc F c hc _ _ (List.take_append_drop k _).symm
    (fun h => by have := List.drop_eq_nil_iff.mp h; omega) hF (pre + (s.flatMap encodeCmd).length)
  rw [h, decodeAllAux, he]
  rcases hE with rfl | rfl
  · left; simp [Prod.map]
  · right; simp [Prod.map]

theorem boundaries_length (start : Nat) (s : List (List Bytes)) : (boundaries start s).length = s.length := by
  induction s generalizing start with
  | nil => rfl
  | cons c cs ih => simp [boundaries, ih]

theorem expected_length (start : Nat) (s : List (List Bytes)) : (expected start s).length = s.length := by
  simp [expected, boundaries_length]

theorem boundaries_bounds (start : Nat) (s : List (List Bytes)) :
    ∀ b ∈ boundaries start s, start ≤ b ∧ b ≤ start + (s.flatMap encodeCmd).length := by
  induction s generalizing start with
  | nil => simp [boundaries]
  | cons c cs ih =>
    intro b hb
    simp only [boundaries, List.mem_cons] at hb
    simp only [List.flatMap_cons, List.length_append]
    rcases hb with rfl | hb
    · omega
    · have := ih _ b hb; omega

/-- the decoder advanced from `inp` to `rest` and counted exactly the bytes in between -/
def Adv (inp : Bytes) (off : Nat) (rest : Bytes) (off' : Nat) : Prop :=
  ∃ pre, inp = pre ++ rest ∧ off' = off + pre.length

theorem Adv.trans {a b c : Bytes} {o1 o2 o3 : Nat} (h1 : Adv a o1 b o2) (h2 : Adv b o2 c o3) :
    Adv a o1 c o3 := by
  obtain ⟨p1, rfl, rfl⟩ := h1
  obtain ⟨p2, rfl, rfl⟩ := h2
  exact ⟨p1 ++ p2, by simp, by simp; omega⟩

def Exact {α : Type} (inp : Bytes) (off : Nat) (x : Dec α) : Prop :=
  ∀ v off' rest, x = .ok (v, off', rest) → Adv inp off rest off'

theorem Exact.error {α : Type} {inp : Bytes} {off : Nat} {e : DecErr} :
    Exact (α := α) inp off (.error e) := fun _ _ _ h => nomatch h

theorem Exact.ok {α : Type} {inp rest : Bytes} {off off' : Nat} {v : α} (h : Adv inp off rest off') :
    Exact inp off (.ok (v, off', rest)) := by
  intro _ _ _ e
  simp only [Except.ok.injEq, Prod.mk.injEq] at e
  obtain ⟨_, rfl, rfl⟩ := e
  exact h

def isType (t : UInt8) : Prop := t = 43 ∨ t = 45 ∨ t = 58 ∨ t = 36 ∨ t = 42

theorem decodeType_adv {inp : Bytes} {off : Nat} {t : UInt8} {off' : Nat} {rest : Bytes}
    (h : decodeType inp off = .ok (t, off', rest)) :
    Adv inp off rest off' ∧ (typed inp → isType t) := by
  induction inp generalizing off with
  | nil => cases h
  | cons b bs ih =>
    rw [decodeType] at h
    split at h
    · rename_i hb
      obtain ⟨⟨pre, e1, e2⟩, ht⟩ := ih h
      refine ⟨⟨b :: pre, by rw [e1]; rfl, by rw [e2, List.length_cons]; omega⟩, ?_⟩
      intro hty; apply ht; simpa [typed, hb] using hty
    · rename_i hb
      simp only [Except.ok.injEq, Prod.mk.injEq] at h
      obtain ⟨rfl, rfl, rfl⟩ := h
      exact ⟨⟨[b], rfl, rfl⟩, fun hty => by simpa [typed, hb, isType] using hty⟩

theorem decodeText_exact (inp : Bytes) (off : Nat) : Exact inp off (decodeText inp off) := by
  rw [decodeText]
  cases hr : readLine inp with
  | none => exact .error
  | some lr =>
    obtain ⟨l, r⟩ := lr
    dsimp only
    split
    · exact .error
    · exact .ok ⟨l, readLine_split _ _ _ hr, rfl⟩

theorem decodeInt_exact (inp : Bytes) (off : Nat) : Exact inp off (decodeInt inp off) := by
  rw [decodeInt]
  cases ht : decodeText inp off with
  | error e => exact .error
  | ok x =>
    obtain ⟨t, o, r⟩ := x
    dsimp only
    cases parseInt64 t with
    | none => exact .error
    | some n => exact .ok (decodeText_exact inp off _ _ _ ht)

theorem decodeBulk_exact (inp : Bytes) (off : Nat) : Exact inp off (decodeBulk inp off) := by
  rw [decodeBulk]
  cases hi : decodeInt inp off with
  | error e => exact .error
  | ok x =>
    obtain ⟨n, o, r⟩ := x
    have h1 := decodeInt_exact inp off _ _ _ hi
    dsimp only
    by_cases hn1 : n < -1
    · rw [if_pos hn1]; exact .error
    rw [if_neg hn1]
    by_cases hn2 : n = -1
    · rw [if_pos hn2]; exact .ok h1
    rw [if_neg hn2]
    by_cases hlen : (r.take (n.toNat + 2)).length < n.toNat + 2
    · rw [if_pos hlen]; split <;> exact .error
    rw [if_neg hlen]
    split
    · exact .error
    · refine .ok (h1.trans ⟨r.take (n.toNat + 2), (List.take_append_drop _ _).symm, ?_⟩)
      have := List.length_take_le (n.toNat + 2) r
      omega

theorem decodeElems_exact (elem : Bytes → Nat → Dec Resp) (he : ∀ inp off, Exact inp off (elem inp off))
    (n : Nat) (inp : Bytes) (off : Nat) : Exact inp off (decodeElems elem n inp off) := by
  induction n generalizing inp off with
  | zero => exact .ok ⟨[], rfl, rfl⟩
  | succ n ih =>
    rw [decodeElems]
    cases h1 : elem inp off with
    | error e => exact .error
    | ok x =>
      obtain ⟨v1, o1, r1⟩ := x
      dsimp only
      cases h2 : decodeElems elem n r1 o1 with
      | error e => exact .error
      | ok y =>
        obtain ⟨v2, o2, r2⟩ := y
        exact .ok ((he _ _ _ _ _ h1).trans (ih _ _ _ _ _ h2))

theorem decodeResp_exact (f : Nat) : ∀ (d : Nat) (inp : Bytes) (off : Nat),
    (typed inp ∨ d ≠ 0) → Exact inp off (decodeResp f d inp off) := by
  induction f with
  | zero => intro d inp off _; exact .error
  | succ f ih =>
    intro d inp off hty
    rw [decodeResp]
    cases hdt : decodeType inp off with
    | error e => exact .error
    | ok x =>
      obtain ⟨t, o1, r1⟩ := x
      obtain ⟨ha1, htyp⟩ := decodeType_adv hdt
      dsimp only
      by_cases h43 : t = 43
      · rw [if_pos h43]
        cases hx : decodeText r1 o1 with
        | error e => exact .error
        | ok y => obtain ⟨a, b, c⟩ := y; exact .ok (ha1.trans (decodeText_exact _ _ _ _ _ hx))
      rw [if_neg h43]
      by_cases h45 : t = 45
      · rw [if_pos h45]
        cases hx : decodeText r1 o1 with
        | error e => exact .error
        | ok y => obtain ⟨a, b, c⟩ := y; exact .ok (ha1.trans (decodeText_exact _ _ _ _ _ hx))
      rw [if_neg h45]
      by_cases h58 : t = 58
      · rw [if_pos h58]
        cases hx : decodeInt r1 o1 with
        | error e => exact .error
        | ok y => obtain ⟨a, b, c⟩ := y; exact .ok (ha1.trans (decodeInt_exact _ _ _ _ _ hx))
      rw [if_neg h58]
      by_cases h36 : t = 36
      · rw [if_pos h36]
        cases hx : decodeBulk r1 o1 with
        | error e => exact .error
        | ok y => obtain ⟨a, b, c⟩ := y; exact .ok (ha1.trans (decodeBulk_exact _ _ _ _ _ hx))
      rw [if_neg h36]
      by_cases h42 : t = 42
      · rw [if_pos h42]
        cases hx : decodeInt r1 o1 with
        | error e => exact .error
        | ok y =>
          obtain ⟨n, o2, r2⟩ := y
          have ha2 := ha1.trans (decodeInt_exact _ _ _ _ _ hx)
          dsimp only
          by_cases hn1 : n < -1
          · rw [if_pos hn1]; exact .error
          rw [if_neg hn1]
          by_cases hn2 : n = -1
          · rw [if_pos hn2]; exact .ok ha2
          rw [if_neg hn2]
          cases he : decodeElems (decodeResp f (d + 1)) n.toNat r2 o2 with
          | error e => exact .error
          | ok z =>
            obtain ⟨vs, o3, r3⟩ := z
            exact .ok (ha2.trans (decodeElems_exact _
              (fun i o => ih (d + 1) i o (Or.inr (Nat.succ_ne_zero d))) _ _ _ _ _ _ he))
      rw [if_neg h42]
      -- not a type byte: only at depth 0 and on input that is not `typed`
      by_cases hd : d ≠ 0
      · rw [if_pos hd]; exact .error
      · rcases hty with hty | hty
        · have := htyp hty
          simp [isType, h43, h45, h58, h36, h42] at this
        · exact absurd hty hd

theorem int64_add_exact (x y : Int64) (hx : 0 ≤ x.toInt) (hy : 0 ≤ y.toInt)
    (h : x.toInt + y.toInt < 2^63) : (x + y).toInt = x.toInt + y.toInt := by
  rw [Int64.toInt_add]
  apply Int.bmod_eq_of_le <;> omega

theorem int64_ofNat_add (a b : Nat) : Int64.ofNat (a + b) = Int64.ofNat a + Int64.ofNat b := by
  apply Int64.toBitVec_inj.mp
  simp [Int64.toBitVec_add]

/-- `d.offset` as Go computes it: a wrapping int64 advanced by each read's length -/
def count64 (pre : Int64) (ks : List Nat) : Int64 := ks.foldl (fun c k => c + Int64.ofNat k) pre

theorem count64_ofNat (pre : Nat) (ks : List Nat) :
    count64 (Int64.ofNat pre) ks = Int64.ofNat (pre + ks.sum) := by
  unfold count64
  induction ks generalizing pre with
  | nil => simp
  | cons k ks ih =>
    simp only [List.foldl_cons, List.sum_cons]
    rw [← int64_ofNat_add, ih (pre + k), Nat.add_assoc]

end GunYu.Resp
