/-
  C01 end to end: parser ∘ sender ∘ target refine a one-pass specification of
  "the source stream with only the documented removals, each command in the
  database designated by the latest database switch after mapping".
-/
import GunYu.Proofs.Parser
import GunYu.Proofs.SenderRun

namespace GunYu.Sender
open GunYu GunYu.Target

/-- **Specification** (reads like the property): walk the decoded source stream
    once; `tgt` = target DB designated by the latest SELECT to an unfiltered DB
    (after `mapDb`), `bypass` = the latest SELECT went to a filtered DB.
    Keep-alives, SELECTs and MULTI/EXEC are never executed as commands; a command
    is withheld when bypassed, blacklisted, the sentinel hello, or rejected by the
    key filter; otherwise it is executed in `tgt` with the filtered arguments. -/
def specStream (c : PCfg) : Bool → Int → List Raw → List Applied
  | _, _, [] => []
  | bypass, tgt, r :: rest =>
    if r.cmd = bPing then specStream c bypass tgt rest
    else if r.cmd = bSelect then
      match r.args with
      | [a] =>
        match atoi? a with
        | none => []                                    -- the parser stops (malformed SELECT)
        | some n =>
          if c.filterDb n then specStream c true tgt rest
          else if (c.filterCmdKey bSelect [a]).isNone then specStream c false tgt rest
          else specStream c false (mapDb c n) rest
      | _ => []
    else if r.cmd = bMulti ∨ r.cmd = bExec then specStream c bypass tgt rest
    else if c.filterCmd r.cmd then specStream c bypass tgt rest
    else if r.cmd = bPublish ∧ (r.args.head?.map lower) = some bSentinelHello then
      specStream c bypass tgt rest
    else if bypass then specStream c bypass tgt rest
    else match c.filterCmdKey r.cmd r.args with
      | none => specStream c bypass tgt rest
      | some a => { db := tgt, name := r.cmd, args := a } :: specStream c bypass tgt rest

/-- the forwarded, non-bracket, non-ping commands of an item list -/
def itemCmds (items : List Item) : List Cmd :=
  items.filterMap (fun i => if isBracketOrPingB i.cmd then none else some (i.cmd, i.args))
where isBracketOrPingB (n : Bytes) : Bool := n == bPing || n == bMulti || n == bExec

/-- well-formedness the theorem needs of the stream and configuration: SELECT
    arguments are non-negative, mapped databases are not −1 (Redis has no such
    DB), MULTI/EXEC are not blacklisted and carry no keys the filter rejects -/
structure StreamOK (c : PCfg) (raws : List Raw) : Prop where
  sel_nonneg : ∀ r ∈ raws, r.cmd = bSelect → ∀ a n, r.args = [a] → atoi? a = some n → 0 ≤ n
  map_ne : ∀ n : Int, 0 ≤ n → mapDb c n ≠ -1
  brackets_pass : ∀ r ∈ raws, (r.cmd = bMulti ∨ r.cmd = bExec) →
    c.filterCmd r.cmd = false ∧ (c.filterCmdKey r.cmd r.args).isSome

theorem itemCmds_cons_bracket (i : Item) (rest : List Item)
    (h : itemCmds.isBracketOrPingB i.cmd = true) : itemCmds (i :: rest) = itemCmds rest := by
  simp [itemCmds, h]

theorem itemCmds_cons_data (i : Item) (rest : List Item)
    (h : itemCmds.isBracketOrPingB i.cmd = false) :
    itemCmds (i :: rest) = (i.cmd, i.args) :: itemCmds rest := by
  simp [itemCmds, h]

theorem itemCmds_append (x y : List Item) : itemCmds (x ++ y) = itemCmds x ++ itemCmds y := by
  simp [itemCmds, List.filterMap_append]

@[simp] theorem sent_bypass (s : PState) (cmd : Bytes) (off : Int) : (sent s cmd off).bypass = s.bypass := rfl
@[simp] theorem sent_currentDB (s : PState) (cmd : Bytes) (off : Int) :
    (sent s cmd off).currentDB = s.currentDB := rfl

/-- the connection's database after the target executed what one step handed over -/
def connAfter (cur : Int) : POut → Int
  | .emit i => (seqApplied cur (itemCmds [i])).1
  | _ => cur

/-- **One parser step keeps the parser's idea of the connection's database
    right**: it either knows the database the connection is in, or knows that it
    does not know (−1, the state of a fresh or resumed parser). -/
theorem parseStep_inv (c : PCfg) (s : PState) (r : Raw) (cur : Int)
    (hinv : s.currentDB = cur ∨ s.currentDB = -1)
    (hsel : r.cmd = bSelect → ∀ a n, r.args = [a] → atoi? a = some n → 0 ≤ n) :
    (parseStep c s r).1.currentDB = connAfter cur (parseStep c s r).2 ∨
    (parseStep c s r).1.currentDB = -1 := by
  rcases parseStep_cases c s r with ⟨b, h⟩ | h | ⟨x, n, -, -, -, -, -, h⟩ | ⟨a, b, off, hneg, -, h⟩ <;> rw [h]
  · exact hinv
  · exact hinv
  · exact .inl (selArg_selectItem cur _ r.off).symm
  · -- the command itself is no SELECT, so executing it leaves the connection where it is
    have hns : r.cmd ≠ bSelect := fun hs => by
      obtain ⟨x, n, hx, hn, hlt⟩ := hneg hs
      have := hsel hs x n hx hn
      omega
    have : connAfter cur (.emit { cmd := r.cmd, args := a, offset := off, db := s.currentDB }) = cur := by
      cases hb : itemCmds.isBracketOrPingB r.cmd <;> simp [connAfter, itemCmds, hb, seqApplied, hns]
    rw [this]
    exact hinv

/-- one step of the specification is what the parser's step hands over -/
theorem specStream_cons (c : PCfg) (s : PState) (r : Raw) (rest : List Raw) (cur : Int)
    (hinv : s.currentDB = cur ∨ s.currentDB = -1)
    (hsel : r.cmd = bSelect → ∀ a n, r.args = [a] → atoi? a = some n → 0 ≤ n)
    (hmap : ∀ n : Int, 0 ≤ n → mapDb c n ≠ -1) :
    specStream c s.bypass cur (r :: rest) =
      match parseStep c s r with
      | (s', .skip) => specStream c s'.bypass cur rest
      | (s', .emit i) => (seqApplied cur (itemCmds [i])).2 ++
          specStream c s'.bypass (seqApplied cur (itemCmds [i])).1 rest
      | (_, .fail) => [] := by
  rw [specStream]
  by_cases hp : r.cmd = bPing
  · unfold parseStep
    simp only [hp, ↓reduceIte]
    cases c.filterCmdKey bPing r.args with
    | none => rfl
    | some a => cases hb : s.bypass <;> simp [hb, itemCmds, itemCmds.isBracketOrPingB, seqApplied]
  · by_cases hs : r.cmd = bSelect
    · have hne : bSelect ≠ bPing := by decide
      unfold parseStep
      simp only [hs, hne, ↓reduceIte]
      cases ha : r.args with
      | nil => rfl
      | cons a tl =>
        cases tl with
        | cons _ _ => rfl
        | nil =>
          simp only
          cases hn : atoi? a with
          | none => rfl
          | some n =>
            have h0 : 0 ≤ n := hsel hs a n ha hn
            have hn1 : n ≠ -1 := by omega
            simp only
            cases hdb : c.filterDb n with
            | true => rfl
            | false =>
              simp only [Bool.false_eq_true, ↓reduceIte]
              cases c.filterCmdKey bSelect [a] with
              | none => rfl
              | some x =>
                simp only [Option.isNone_some, Bool.false_eq_true, ↓reduceIte, h0, selectDB, hn1]
                by_cases hch : mapDb c n = s.currentDB
                · -- not forwarded: the connection is already there
                  have hcur : mapDb c n = cur := by
                    rcases hinv with h | h
                    · rw [hch, h]
                    · rw [h] at hch; exact absurd hch (hmap n h0)
                  simp [hch, ← hcur]
                · have hi : itemCmds [selectItem (mapDb c n) r.off] = [(bSelect, [intToDec (mapDb c n)])] :=
                    itemCmds_cons_data _ [] (by show itemCmds.isBracketOrPingB bSelect = false; decide)
                  simp [hch, hi, seqApplied, selArg, atoi?_intToDec]
    · -- an ordinary command (including MULTI / EXEC)
      rw [parseStep_data c s r hp hs]
      simp only [hp, hs, ↓reduceIte]
      by_cases hfc : c.filterCmd r.cmd = true
      · simp [hfc]
      · by_cases hsen : r.cmd = bPublish ∧ (r.args.head?.map lower) = some bSentinelHello
        · simp [hsen]
        · simp only [hfc, hsen, Bool.false_eq_true, ↓reduceIte]
          by_cases hbr : r.cmd = bMulti ∨ r.cmd = bExec
          · -- a bracket: handed over or not, the sender absorbs it
            have hb : itemCmds.isBracketOrPingB r.cmd = true := by
              rcases hbr with h | h <;> rw [h] <;> decide
            simp only [hbr, ↓reduceIte]
            by_cases h3 : s.bypass = true ∧ passBracket s r.cmd = false
            · simp [h3]
            · simp only [h3, ↓reduceIte]
              cases c.filterCmdKey r.cmd r.args with
              | none => rfl
              | some a => simp [itemCmds, hb, seqApplied]
          · have hb : itemCmds.isBracketOrPingB r.cmd = false := by
              simpa [itemCmds.isBracketOrPingB, hp] using hbr
            have hct : passBracket s r.cmd = false := by
              simp only [not_or] at hbr
              simp [passBracket, hbr.1, hbr.2]
            simp only [hbr, ↓reduceIte, hct, and_true, Bool.false_eq_true]
            cases hbp : s.bypass with
            | true => simp [hbp]
            | false =>
              simp only [Bool.false_eq_true, ↓reduceIte]
              cases c.filterCmdKey r.cmd r.args with
              | none => simp [hbp]
              | some a => simp [itemCmds, hb, seqApplied, hs, hbp]

/-- **The parser refines the specification**: executing what the parser emits
    (minus keep-alives and brackets, which the sender absorbs) sequentially on a
    connection in DB `cur` yields exactly `specStream`. The parser either knows the
    connection's DB (`currentDB = cur`) or has not selected anything yet. -/
theorem parser_refines_spec (c : PCfg) (raws : List Raw) (s : PState) (cur : Int)
    (hinv : s.currentDB = cur ∨ s.currentDB = -1)
    (hsel : ∀ r ∈ raws, r.cmd = bSelect → ∀ a n, r.args = [a] → atoi? a = some n → 0 ≤ n)
    (hmap : ∀ n : Int, 0 ≤ n → mapDb c n ≠ -1) :
    (seqApplied cur (itemCmds (parseAll c s raws))).2 = specStream c s.bypass cur raws := by
  induction raws generalizing s cur with
  | nil => rfl
  | cons r rest ih =>
    have hsel' : ∀ r' ∈ rest, r'.cmd = bSelect → ∀ a n, r'.args = [a] → atoi? a = some n → 0 ≤ n :=
      fun r' hr' => hsel r' (List.mem_cons_of_mem _ hr')
    have hr := hsel r (List.mem_cons_self ..)
    have hstep := parseStep_inv c s r cur hinv hr
    rw [specStream_cons c s r rest cur hinv hr hmap, parseAll]
    generalize parseStep c s r = p at hstep ⊢
    rcases p with ⟨s', _ | i | _⟩
    · exact ih s' cur hstep hsel'
    · show (seqApplied cur (itemCmds ([i] ++ parseAll c s' rest))).2 =
        _ ++ specStream c s'.bypass (seqApplied cur (itemCmds [i])).1 rest
      rw [itemCmds_append, seqApplied_append, ih s' (seqApplied cur (itemCmds [i])).1 hstep hsel']
    · rfl

end GunYu.Sender
