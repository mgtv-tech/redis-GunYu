/-
  Helper lemmas for C13: what the tool's default output filter
  (`Filter.buildOutput {}`: NoRouteCmds + the two reserved prefixes, nothing
  configured by the user) does to the commands the bisync parser meets.
-/
import GunYu.Model.Bisync
import GunYu.Proofs.FilterCmdKey

namespace GunYu.Bisync
open GunYu GunYu.BisyncUnit GunYu.Filter

/-- a key the output filter always withholds (`config.CheckpointKey…`,
    `config.NamespacePrefixKey…`) -/
def FilterReserved (k : Bytes) : Prop := Gen.checkpointKey <+: k ∨ Gen.namespacePrefixKey <+: k

/-- the facts about the filter the parser proofs use -/
structure FOK (f : KeyFilter) : Prop where
  db : ∀ n, f.filterDb n = false
  setCmd : f.filterCmd wSet = false
  delCmd : f.filterCmd wDel = false
  unlinkCmd : f.filterCmd wUnlink = false
  pexpireatCmd : f.filterCmd [112,101,120,112,105,114,101,97,116] = false
  keyPass : ∀ name args,
    (∀ idx, keyIndexes name args = some idx → ∀ i ∈ idx, ¬ FilterReserved (args.getD i [])) →
    f.filterCmdKey name args = some args
  allReserved : ∀ name args idx, keyIndexes name args = some idx →
    (∀ i ∈ idx, FilterReserved (args.getD i [])) → f.filterCmdKey name args = none

theorem out_hasKeyRules (c : FilterCfg) : (buildOutput c).hasKeyRules = true := by
  have : (buildOutput c).prefBlack.isSome = true := by
    rw [out_prefBlack, isSome_insertPrefixes, isSome_insertPrefixes]
    right; left; simp [reservedPrefixes]
  simp [KeyFilter.hasKeyRules, this]

theorem getD_mem_args {args : List Bytes} {i : Nat} (h : i < args.length) : args.getD i [] ∈ args := by
  rw [List.getD_eq_getElem?_getD, List.getElem?_eq_getElem h]
  exact List.getElem_mem h

theorem passthrough (f : KeyFilter) (cmd : Bytes) (args : List Bytes)
    (h : f.hasKeyRules = false ∨ keyIndexes cmd args = none) : f.filterCmdKey cmd args = some args := by
  unfold KeyFilter.filterCmdKey
  rcases h with h | h
  · simp [h]
  · simp [h]

theorem default_filterKey_iff (k : Bytes) :
    (buildOutput {}).filterKey k = true ↔ prefixHit reservedPrefixes k := by
  rw [filterKey_eq, out_prefBlack, out_prefWhite]
  have hw : (insertPrefixes none ([] : List Bytes)) = none := rfl
  have : (({} : FilterCfg).prefWhite) = [] := rfl
  rw [this, hw]
  simp only [Option.isSome_none, Bool.false_and, Bool.or_false]
  rw [optMatch_prefixes2, List.append_nil]

theorem default_filterSlot (k : Bytes) : (buildOutput {}).filterSlot k = false := by
  rw [filterSlot_eq, out_slotWhite, out_slotBlack]
  rfl

theorem default_keyRejected_iff (k : Bytes) :
    (buildOutput {}).keyRejected k = true ↔ FilterReserved k := by
  unfold KeyFilter.keyRejected
  rw [default_filterSlot, Bool.or_false, default_filterKey_iff]
  constructor
  · rintro ⟨p, hp, _, hpre⟩
    simp only [reservedPrefixes, List.mem_cons, List.not_mem_nil, or_false] at hp
    rcases hp with e | e
    · left; rw [← e]; exact hpre
    · right; rw [← e]; exact hpre
  · intro h
    rcases h with h | h
    · exact ⟨Gen.checkpointKey, by simp [reservedPrefixes], by decide, h⟩
    · exact ⟨Gen.namespacePrefixKey, by simp [reservedPrefixes], by decide, h⟩

theorem defaultFilter_ok : FOK (buildOutput {}) where
  db := by
    intro n
    unfold KeyFilter.filterDb
    rw [out_dbBlack]
    by_cases h : n = -1 <;> simp [h]
  setCmd := by decide +kernel
  delCmd := by decide +kernel
  unlinkCmd := by decide +kernel
  pexpireatCmd := by decide +kernel
  keyPass := by
    intro name args h
    cases hk : keyIndexes name args with
    | none => exact passthrough _ _ _ (Or.inr hk)
    | some idx =>
      rw [filterCmdKey_resolved _ _ _ idx (out_hasKeyRules {}) hk]
      have hkept : keptIdx (buildOutput {}) args idx = idx := by
        unfold keptIdx
        rw [List.filter_eq_self]
        intro i hi
        have := h idx hk i hi
        cases hr : (buildOutput {}).keyRejected (args.getD i []) with
        | false => rfl
        | true => exact absurd ((default_keyRejected_iff _).mp hr) this
      rw [hkept]
      simp
  allReserved := by
    intro name args idx hk h
    rw [filterCmdKey_resolved _ _ _ idx (out_hasKeyRules {}) hk]
    have hne := (keyIndexes_inRange hk).1
    have hkept : keptIdx (buildOutput {}) args idx = [] := by
      unfold keptIdx
      rw [List.filter_eq_nil_iff]
      intro i hi
      have := (default_keyRejected_iff _).mpr (h i hi)
      rw [this]
      simp
    rw [hkept]
    have : ((([] : List Nat).length == idx.length) = false) := by
      cases idx with
      | nil => exact absurd rfl hne
      | cons _ _ => rfl
    rw [this]
    rfl

/-- whatever the configuration: what `FilterCmdKey` forwards consists of
    arguments of the command, and is non-empty when the command had arguments -/
theorem filterCmdKey_sub (f : KeyFilter) (cmd : Bytes) (args a' : List Bytes)
    (h : f.filterCmdKey cmd args = some a') : (∀ x ∈ a', x ∈ args) ∧ (args ≠ [] → a' ≠ []) := by
  by_cases hp : f.hasKeyRules = false ∨ keyIndexes cmd args = none
  · rw [passthrough f cmd args hp] at h
    cases h
    exact ⟨fun _ hx => hx, id⟩
  obtain ⟨idx, hk⟩ := Option.ne_none_iff_exists'.mp (not_or.mp hp).2
  rw [filterCmdKey_resolved f cmd args idx (by simpa using (not_or.mp hp).1) hk] at h
  have hin := (keyIndexes_inRange hk).2
  generalize hkept : keptIdx f args idx = kept at h
  have hmem : ∀ i ∈ kept, args.getD i [] ∈ args :=
    fun i hi => getD_mem_args (hin i (List.mem_filter.mp (hkept ▸ hi)).1)
  by_cases h1 : (kept.length == idx.length) = true
  · rw [if_pos h1] at h
    cases h
    exact ⟨fun _ hx => hx, id⟩
  by_cases h2 : kept.isEmpty = true
  · rw [if_neg h1, if_pos h2] at h
    cases h
  have hne : kept ≠ [] := fun e => h2 (e ▸ rfl)
  rw [if_neg h1, if_neg h2, Option.ite_none_left_eq_some] at h
  replace h := h.2
  by_cases h4 : (lower cmd == Filter.wDel || lower cmd == Filter.wUnlink) = true
  · rw [if_pos h4] at h
    cases h
    refine ⟨fun x hx => ?_, fun _ e => hne (List.map_eq_nil_iff.mp e)⟩
    obtain ⟨i, hi, rfl⟩ := List.mem_map.mp hx
    exact hmem i hi
  by_cases h5 : (lower cmd == wMset) = true
  · rw [if_neg h4, if_pos h5, Option.ite_none_left_eq_some] at h
    obtain ⟨hany, h⟩ := h
    cases h
    refine ⟨fun x hx => ?_, fun _ e => ?_⟩
    · obtain ⟨i, hi, hx⟩ := List.mem_flatMap.mp hx
      rcases List.mem_cons.mp hx with rfl | hx
      · exact hmem i hi
      · rw [List.mem_singleton.mp hx]
        exact getD_mem_args
          (Nat.lt_of_not_le fun hge => hany (List.any_eq_true.mpr ⟨i, hi, decide_eq_true hge⟩))
    · obtain ⟨i, rest, rfl⟩ := List.exists_cons_of_ne_nil hne
      cases e
  · rw [if_neg h4, if_neg h5] at h
    cases h

/-! ### reserved prefixes versus the bisync namespace -/

/-- a key under `redis-gunyu-bisync:` is not withheld by the output filter -/
theorem ns_not_filterReserved (k : Bytes) (h : hasPrefix nsPrefix k = true) : ¬ FilterReserved k := by
  have hp : nsPrefix <+: k := List.isPrefixOf_iff_prefix.mp h
  rintro (h1 | h1)
  · exact absurd (List.prefix_or_prefix_of_prefix hp h1) (by decide)
  · exact absurd (List.prefix_or_prefix_of_prefix hp h1) (by decide)

end GunYu.Bisync
