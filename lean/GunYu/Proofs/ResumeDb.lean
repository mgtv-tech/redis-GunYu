/-
  C02: which database the next start resumes in. After executing any prefix `E`
  of the (ordered) batch bodies on a target without earlier checkpoints, the
  largest stored offset sits in exactly one database — the one the connection was
  in when it was written — and every other database holds a strictly smaller one.
  (`GetCheckpoint` picks the largest offset, so the resume DB is that DB.)
-/
import GunYu.Proofs.Crash

namespace GunYu.Target
open GunYu GunYu.Sender

/-- every stored offset has key ≤ b -/
def AllBelow (t : TState) (b : Int) : Prop :=
  ∀ d o, (getCp t.cps d).offset = some o → 2 * o + 1 ≤ b

/-- every offset stored in a database other than the current one has key ≤ s -/
def OthersBelow (t : TState) (s : Int) : Prop :=
  ∀ d, d ≠ t.cur → ∀ o, (getCp t.cps d).offset = some o → 2 * o + 1 ≤ s

theorem execReq_cps_of_noncp (t : TState) (r : Req) (h : cpOfReq r = none) (hm : r ≠ .cpMeta) :
    (execReq t r).cps = t.cps := by
  cases r with
  | cmd n a off =>
    simp only [execReq]; split
    · split
      · split <;> rfl
      · rfl
    · split <;> rfl
  | cpOffset o => cases h
  | cpMeta => exact absurd rfl hm
  | _ => rfl

theorem getCp_offset_cpMeta (t : TState) (d : Int) :
    (getCp (execReq t .cpMeta).cps d).offset = (getCp t.cps d).offset := by
  simp only [execReq]
  by_cases hd : d = t.cur
  · subst hd; rw [getCp_setCp_eq]
  · rw [getCp_setCp_ne _ _ _ _ hd]

theorem execReq_cur_of_nonselect (t : TState) (r : Req) (h : ∀ a off, r ≠ .cmd bSelect a off) :
    (execReq t r).cur = t.cur := by
  cases r with
  | cmd n a off =>
    simp only [execReq]
    by_cases hs : n = bSelect
    · subst hs; exact absurd rfl (h a off)
    · simp only [hs, ↓reduceIte]; split <;> rfl
  | _ => rfl

/-- one request keeps the invariant: with `k` the key of the request (if any),
    `b ≤ k`: afterwards everything stored is ≤ `max b k` and the other DBs are
    below `s'`, where `s'` is `k` when the request is a SELECT and `s` otherwise -/
theorem step_inv (t : TState) (r : Req) (b s : Int) (hA : AllBelow t b) (hO : OthersBelow t s)
    (hsb : s ≤ b) (hk : ∀ k, keyOfReq r = some k → b ≤ k) :
    ∃ b' s', AllBelow (execReq t r) b' ∧ OthersBelow (execReq t r) s' ∧ s' ≤ b' ∧ b ≤ b' ∧
      (∀ k, keyOfReq r = some k → b' = k) ∧ (keyOfReq r = none → b' = b) ∧
      (s' = s ∨ (∃ a off, r = .cmd bSelect a off ∧ s' = 2 * off)) := by
  -- a request other than an offset write leaves the stored offsets alone
  have hoff : cpOfReq r = none → ∀ d, (getCp (execReq t r).cps d).offset = (getCp t.cps d).offset := by
    intro h d
    by_cases hm : r = .cpMeta
    · subst hm; exact getCp_offset_cpMeta t d
    · rw [execReq_cps_of_noncp t r h hm]
  cases r with
  | cpOffset o =>
    have hb : b ≤ 2 * o + 1 := hk _ rfl
    refine ⟨2 * o + 1, s, ?_, ?_, by omega, hb, ?_, ?_, Or.inl rfl⟩
    · intro d o' h
      simp only [execReq] at h
      by_cases hd : d = t.cur
      · subst hd; rw [getCp_setCp_eq] at h; simp at h; omega
      · rw [getCp_setCp_ne _ _ _ _ hd] at h; have := hA d o' h; omega
    · intro d hd o' h
      simp only [execReq] at h hd
      rw [getCp_setCp_ne _ _ _ _ hd] at h; exact hO d hd o' h
    · intro k hk'; simp [keyOfReq] at hk'; omega
    · intro h; simp [keyOfReq] at h
  | cmd n a off =>
    by_cases hp : n = bPing
    · -- a keep-alive: no key, nothing changes
      have hcur : (execReq t (.cmd n a off)).cur = t.cur :=
        execReq_cur_of_nonselect t _ (by intro a' off' h; injection h with h1; subst hp; cases h1)
      refine ⟨b, s, fun d o h => hA d o (by rwa [hoff rfl] at h),
        fun d hd o h => hO d (by rwa [hcur] at hd) o (by rwa [hoff rfl] at h), hsb, Int.le_refl _, ?_,
        fun _ => rfl, Or.inl rfl⟩
      intro k hk'; simp [keyOfReq, hp] at hk'
    · -- a data command: its key is the new bound; a SELECT also leaves every database behind
      have hb : b ≤ 2 * off := hk _ (by simp [keyOfReq, hp])
      have hkey : ∀ k, keyOfReq (.cmd n a off) = some k → 2 * off = k := by
        intro k hk'; simp [keyOfReq, hp] at hk'; omega
      have hA' : AllBelow (execReq t (.cmd n a off)) (2 * off) :=
        fun d o h => by have := hA d o (by rwa [hoff rfl] at h); omega
      by_cases hs : n = bSelect
      · subst hs
        exact ⟨2 * off, 2 * off, hA', fun d _ o h => hA' d o h, Int.le_refl _, hb, hkey,
          fun h => by simp [keyOfReq, hp] at h, Or.inr ⟨a, off, rfl, rfl⟩⟩
      · have hcur : (execReq t (.cmd n a off)).cur = t.cur :=
          execReq_cur_of_nonselect t _ (by intro a' off' h; injection h with h1; exact hs h1)
        exact ⟨2 * off, s, hA', fun d hd o h => hO d (by rwa [hcur] at hd) o (by rwa [hoff rfl] at h),
          by omega, hb, hkey, fun h => by simp [keyOfReq, hp] at h, Or.inl rfl⟩
  | _ =>
    -- run-id fields, MULTI, EXEC: no key, same offsets, same database
    exact ⟨b, s, fun d o h => hA d o (by rwa [hoff rfl] at h),
      fun d hd o h => hO d hd o (by rwa [hoff rfl] at h), hsb, Int.le_refl _, nofun, fun _ => rfl, Or.inl rfl⟩

def Inv (t : TState) (b s : Int) : Prop :=
  AllBelow t b ∧ OthersBelow t s ∧ s ≤ b ∧ ∃ n : Int, s = 2 * n

theorem keysB_cons (r : Req) (E : List Req) :
    keysB (r :: E) = (match keyOfReq r with | some k => [k] | none => []) ++ keysB E := by
  simp only [keysB, List.filterMap_cons]
  cases keyOfReq r <;> rfl

theorem fold_inv (E : List Req) (t : TState) (b s : Int) (hI : Inv t b s)
    (hlow : ∀ k ∈ keysB E, b ≤ k) (hs : (keysB E).Pairwise (· ≤ ·)) :
    ∃ b' s', Inv (E.foldl execReq t) b' s' ∧ b ≤ b' ∧
      (∀ u, b ≤ u → (∀ k ∈ keysB E, k ≤ u) → b' ≤ u) := by
  induction E generalizing t b s with
  | nil => exact ⟨b, s, hI, Int.le_refl _, fun u hu _ => hu⟩
  | cons r E ih =>
    obtain ⟨hA, hO, hsb, n, hn⟩ := hI
    rw [keysB_cons] at hlow hs
    have hk : ∀ k, keyOfReq r = some k → b ≤ k := by
      intro k hk'; apply hlow; rw [hk']; simp
    obtain ⟨b1, s1, hA1, hO1, hs1b1, hbb1, hkey, hnokey, hs1⟩ := step_inv t r b s hA hO hsb hk
    have hev : ∃ n1 : Int, s1 = 2 * n1 := by
      rcases hs1 with h | ⟨a, off, _, h⟩
      · exact ⟨n, by rw [h, hn]⟩
      · exact ⟨off, h⟩
    have hlow1 : ∀ k ∈ keysB E, b1 ≤ k := by
      intro k hkE
      cases hr : keyOfReq r with
      | none =>
        rw [hnokey hr]; apply hlow; rw [hr]; simpa using hkE
      | some k0 =>
        rw [hkey k0 hr]
        rw [hr] at hs
        simp only [List.singleton_append, List.pairwise_cons] at hs
        exact hs.1 k hkE
    have hsE : (keysB E).Pairwise (· ≤ ·) := by
      cases hr : keyOfReq r with
      | none => rw [hr] at hs; simpa using hs
      | some k0 => rw [hr] at hs; simp only [List.singleton_append, List.pairwise_cons] at hs; exact hs.2
    obtain ⟨b2, s2, hI2, hb12, hub2⟩ := ih (execReq t r) b1 s1 ⟨hA1, hO1, hs1b1, hev⟩ hlow1 hsE
    refine ⟨b2, s2, hI2, by omega, ?_⟩
    intro u hu hku
    apply hub2 u
    · cases hr : keyOfReq r with
      | none => rw [hnokey hr]; exact hu
      | some k0 =>
        rw [hkey k0 hr]; apply hku; rw [keysB_cons, hr]; simp
    · intro k hkE; apply hku; rw [keysB_cons]; exact List.mem_append_right _ hkE

theorem fold_no_cp_offsets (E : List Req) (hE : cpOffsetsB E = []) (t : TState) (d : Int) :
    (getCp (E.foldl execReq t).cps d).offset = (getCp t.cps d).offset := by
  induction E generalizing t with
  | nil => rfl
  | cons r E ih =>
    have hr : cpOfReq r = none := by
      simp only [cpOffsetsB, List.filterMap_cons] at hE
      cases h : cpOfReq r with
      | none => rfl
      | some o => rw [h] at hE; simp at hE
    have hE' : cpOffsetsB E = [] := by
      simp only [cpOffsetsB, List.filterMap_cons, hr] at hE; exact hE
    rw [List.foldl_cons, ih hE']
    by_cases hm : r = .cpMeta
    · subst hm; exact getCp_offset_cpMeta t d
    · rw [execReq_cps_of_noncp t r hr hm]

/-- **The database of the largest stored offset is the database it was written
    in**, general form: execute, on a target whose stored offsets all have key
    `≤ b` and, outside the connection's database, key `≤ s` (`Inv t b s`), any
    request list with ordered keys all `≥ b` whose last checkpoint write is
    `<rid>_offset o`. Then `o` sits in the database `d` the connection was in at
    that write, and every other database holds a strictly smaller offset. -/
theorem resume_db_unique_from (E1 E2 : List Req) (o : Int) (t : TState) (b s : Int)
    (hI0 : Inv t b s)
    (hsorted : (keysB (E1 ++ Req.cpOffset o :: E2)).Pairwise (· ≤ ·))
    (hnn : ∀ k ∈ keysB (E1 ++ Req.cpOffset o :: E2), b ≤ k)
    (hlast : cpOffsetsB E2 = []) :
    let d := (E1.foldl execReq t).cur
    let t' := (E1 ++ Req.cpOffset o :: E2).foldl execReq t
    (getCp t'.cps d).offset = some o ∧
    ∀ d', d' ≠ d → ∀ o', (getCp t'.cps d').offset = some o' → o' < o := by
  simp only
  rw [List.foldl_append, List.foldl_cons]
  rw [keysB_append] at hsorted hnn
  have hs1 : (keysB E1).Pairwise (· ≤ ·) := (List.pairwise_append.mp hsorted).1
  obtain ⟨b1, s1, ⟨hA1, hO1, hs1b1, n1, hn1⟩, _, hub1⟩ :=
    fold_inv E1 t b s hI0 (fun k hk => hnn k (List.mem_append_left _ hk)) hs1
  -- the checkpoint key dominates everything before it
  have hkey : 2 * o + 1 ∈ keysB (Req.cpOffset o :: E2) := by rw [keysB_cons]; simp [keyOfReq]
  have hb1 : b1 ≤ 2 * o + 1 :=
    hub1 (2 * o + 1) (hnn _ (List.mem_append_right _ hkey))
      (fun k hk => (List.pairwise_append.mp hsorted).2.2 k hk _ hkey)
  refine ⟨?_, ?_⟩
  · rw [fold_no_cp_offsets E2 hlast]
    simp only [execReq]; rw [getCp_setCp_eq]
  · intro d' hd' o' h
    rw [fold_no_cp_offsets E2 hlast] at h
    simp only [execReq] at h
    rw [getCp_setCp_ne _ _ _ _ hd'] at h
    have := hO1 d' hd' o' h
    omega

/-- the same on a target without earlier checkpoints -/
theorem resume_db_unique (E1 E2 : List Req) (o : Int) (t : TState) (hfresh : t.cps = [])
    (hsorted : (keysB (E1 ++ Req.cpOffset o :: E2)).Pairwise (· ≤ ·))
    (lo : Int) (hnn : ∀ k ∈ keysB (E1 ++ Req.cpOffset o :: E2), 2 * lo ≤ k)
    (hlast : cpOffsetsB E2 = []) :
    let d := (E1.foldl execReq t).cur
    let t' := (E1 ++ Req.cpOffset o :: E2).foldl execReq t
    (getCp t'.cps d).offset = some o ∧
    ∀ d', d' ≠ d → ∀ o', (getCp t'.cps d').offset = some o' → o' < o :=
  resume_db_unique_from E1 E2 o t (2 * lo) (2 * lo)
    ⟨by intro d o' h; simp [hfresh, getCp] at h, by intro d _ o' h; simp [hfresh, getCp] at h,
      Int.le_refl _, lo, rfl⟩ hsorted hnn hlast

end GunYu.Target
