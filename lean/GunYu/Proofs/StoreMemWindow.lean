/-
  C05, memory backend — readers deliver the SOURCE's bytes whatever happens in the
  window of `NewAofWritter` (Model/StoreMemWindow.lean).

  The invariant is about TRUTH, not about the shape of the index (which the stray
  append of a replaced writer breaks: its segment then overlaps its successor): given
  a source `src : offset → byte` such that every chunk handed to a stream writer is the
  source's bytes at the writer's end (`SrcOkW`),
    * every indexed segment holds the source's bytes at its offsets,
    * every copy loop that holds an indexed segment has written to its pipe exactly
      `src[start, pos)`,
    * what a blocked writer (the current one, or a replaced one not yet finished) is
      waiting to append is the source's bytes at the end of ITS segment.
-/
import GunYu.Proofs.StoreMemInv

namespace GunYu.Store
open GunYu

def BytesTrue (src : Nat → UInt8) (off : Nat) (bs : Bytes) : Prop :=
  ∀ i b, bs[i]? = some b → b = src (off + i)

theorem BytesTrue.nil (src : Nat → UInt8) (off : Nat) : BytesTrue src off [] := by
  intro i b h; simp at h

theorem BytesTrue.append {src : Nat → UInt8} {off : Nat} {a b : Bytes} (h1 : BytesTrue src off a)
    (h2 : BytesTrue src (off + a.length) b) : BytesTrue src off (a ++ b) := by
  intro i x hx
  by_cases hi : i < a.length
  · rw [List.getElem?_append_left hi] at hx; exact h1 i x hx
  · rw [List.getElem?_append_right (by omega)] at hx
    have := h2 (i - a.length) x hx
    rw [this]; congr 1; omega

theorem BytesTrue.take {src : Nat → UInt8} {off : Nat} {bs : Bytes} (h : BytesTrue src off bs) (k : Nat) :
    BytesTrue src off (bs.take k) := by
  intro i x hx
  rw [List.getElem?_take] at hx
  split at hx
  · exact h i x hx
  · cases hx

theorem BytesTrue.drop {src : Nat → UInt8} {off : Nat} {bs : Bytes} (h : BytesTrue src off bs) (k : Nat) :
    BytesTrue src (off + k) (bs.drop k) := by
  intro i x hx
  rw [List.getElem?_drop] at hx
  have := h (k + i) x hx
  rw [this]; congr 1; omega

theorem BytesTrue.left {src : Nat → UInt8} {off : Nat} {a b : Bytes} (h : BytesTrue src off (a ++ b)) : BytesTrue src off a := by
  have := h.take a.length; rwa [List.take_left'] at this; rfl

theorem BytesTrue.right {src : Nat → UInt8} {off : Nat} {a b : Bytes} (h : BytesTrue src off (a ++ b)) :
    BytesTrue src (off + a.length) b := by
  have := h.drop a.length; rwa [List.drop_left'] at this; rfl

theorem BytesTrue.congr {src : Nat → UInt8} {off off' : Nat} {bs : Bytes} (h : BytesTrue src off bs) (e : off' = off) :
    BytesTrue src off' bs := e ▸ h

def SegTrue (src : Nat → UInt8) (g : MSeg) : Prop := BytesTrue src g.left g.data

def OutTrue (src : Nat → UInt8) (r : MReader) : Prop :=
  r.pos = r.start + r.out.length ∧ BytesTrue src r.start r.out

/-- a reservation: the bytes `bs` are the source's bytes at the end of the segment(s)
    with identity `sid` -/
def Res (src : Nat → UInt8) (segs : List MSeg) (sid : Nat) (bs : Bytes) : Prop :=
  ∀ g ∈ segs, g.sid = sid → BytesTrue src g.right bs

structure CInv (src : Nat → UInt8) (s : Mem) : Prop where
  segs : ∀ g ∈ s.segs, SegTrue src g
  bound : ∀ g ∈ s.segs, g.sid < s.nextSid
  rbound : ∀ r ∈ s.readers, r.isAof = true → r.seg < s.nextSid
  readers : ∀ r ∈ s.readers, r.isAof = true → r.released = false → (∃ g ∈ s.segs, g.sid = r.seg) → OutTrue src r
  wsid : ∀ cur, s.aofW = some cur → cur < s.nextSid

theorem CInv.init (src : Nat → UInt8) (l m : Nat) : CInv src (Mem.init l m) := by
  refine ⟨?_, ?_, ?_, ?_, ?_⟩
  · intro g hg; cases hg
  · intro g hg; cases hg
  · intro r hr; cases hr
  · intro r hr; cases hr
  · intro c h; cases h

/-- no stream byte is added or changed; the readers are the same -/
structure Quiet (s s' : Mem) : Prop where
  segs : ∀ g' ∈ s'.segs, ∃ g ∈ s.segs, g'.sid = g.sid ∧ g'.left = g.left ∧ g'.data = g.data
  readers : s'.readers = s.readers
  nextSid : s.nextSid ≤ s'.nextSid
  aofW : s'.aofW = s.aofW ∨ s'.aofW = none

theorem Quiet.refl (s : Mem) : Quiet s s :=
  ⟨fun g hg => ⟨g, hg, rfl, rfl, rfl⟩, rfl, Nat.le_refl _, Or.inl rfl⟩

theorem Quiet.trans {a b c : Mem} (h1 : Quiet a b) (h2 : Quiet b c) : Quiet a c := by
  refine ⟨?_, h2.readers.trans h1.readers, Nat.le_trans h1.nextSid h2.nextSid, ?_⟩
  · intro g hg
    obtain ⟨g1, hg1, e1, e2, e3⟩ := h2.segs g hg
    obtain ⟨g0, hg0, f1, f2, f3⟩ := h1.segs g1 hg1
    exact ⟨g0, hg0, e1.trans f1, e2.trans f2, e3.trans f3⟩
  · rcases h2.aofW with e | e
    · rcases h1.aofW with f | f
      · exact Or.inl (e.trans f)
      · exact Or.inr (e.trans f)
    · exact Or.inr e

theorem Quiet.of_same {s s' : Mem} (hs : s'.segs = s.segs) (hr : s'.readers = s.readers) (hn : s.nextSid ≤ s'.nextSid)
    (hw : s'.aofW = s.aofW ∨ s'.aofW = none) : Quiet s s' :=
  ⟨fun g hg => ⟨g, hs ▸ hg, rfl, rfl, rfl⟩, hr, hn, hw⟩

theorem CInv.quiet {src : Nat → UInt8} {s s' : Mem} (h : CInv src s) (q : Quiet s s') : CInv src s' := by
  refine ⟨?_, ?_, ?_, ?_, ?_⟩
  · intro g hg
    obtain ⟨g0, hg0, _, e2, e3⟩ := q.segs g hg
    unfold SegTrue; rw [e2, e3]; exact h.segs g0 hg0
  · intro g hg
    obtain ⟨g0, hg0, e1, _, _⟩ := q.segs g hg
    rw [e1]; exact Nat.lt_of_lt_of_le (h.bound g0 hg0) q.nextSid
  · intro r hr ha; rw [q.readers] at hr; exact Nat.lt_of_lt_of_le (h.rbound r hr ha) q.nextSid
  · intro r hr ha hrel hex
    rw [q.readers] at hr
    obtain ⟨g, hg, hs⟩ := hex
    obtain ⟨g0, hg0, e1, _, _⟩ := q.segs g hg
    exact h.readers r hr ha hrel ⟨g0, hg0, by rw [← e1]; exact hs⟩
  · intro cur hc
    rcases q.aofW with e | e
    · rw [e] at hc; exact Nat.lt_of_lt_of_le (h.wsid cur hc) q.nextSid
    · rw [e] at hc; cases hc

theorem CInv.congr {src : Nat → UInt8} {s s' : Mem} (h : CInv src s) (hs : s'.segs = s.segs) (hr : s'.readers = s.readers)
    (hn : s'.nextSid = s.nextSid) (hw : s'.aofW = s.aofW) : CInv src s' :=
  h.quiet (Quiet.of_same hs hr (Nat.le_of_eq hn.symm) (Or.inl hw))

theorem CInv.mapSegs {src : Nat → UInt8} {s : Mem} (h : CInv src s) (f : MSeg → MSeg) (hs : ∀ g, (f g).sid = g.sid)
    (hl : ∀ g, (f g).left = g.left) (hd : ∀ g, (f g).data = g.data) : CInv src { s with segs := s.segs.map f } :=
  h.quiet ⟨fun g' hg' => by obtain ⟨g, hg, rfl⟩ := List.mem_map.mp hg'; exact ⟨g, hg, hs g, hl g, hd g⟩, rfl, Nat.le_refl _,
    Or.inl rfl⟩

theorem Res.shrink {src : Nat → UInt8} {segs segs' : List MSeg} {sid : Nat} {bs : Bytes} (h : Res src segs sid bs)
    (hsub : ∀ g ∈ segs', g ∈ segs) : Res src segs' sid bs :=
  fun g hg hs => h g (hsub g hg) hs

theorem Res.mapSegs {src : Nat → UInt8} {segs : List MSeg} {sid : Nat} {bs : Bytes} (h : Res src segs sid bs)
    (f : MSeg → MSeg) (hs : ∀ g, (f g).sid = g.sid) (hl : ∀ g, (f g).left = g.left) (hd : ∀ g, (f g).data = g.data) :
    Res src (segs.map f) sid bs := by
  intro g hg hsid
  obtain ⟨g0, hg0, rfl⟩ := List.mem_map.mp hg
  have := h g0 hg0 (by rw [← hsid, hs])
  unfold MSeg.right at *
  rw [hl, hd]; exact this

/-- a new, empty segment with a fresh identity becomes the writer's -/
theorem CInv.push {src : Nat → UInt8} {s : Mem} (h : CInv src s) (left : Nat) :
    CInv src { s with segs := s.segs ++ [{ sid := s.nextSid, left := left, data := [], closed := false, next := none }],
                      aofW := some s.nextSid, nextSid := s.nextSid + 1 } := by
  refine ⟨?_, ?_, ?_, ?_, ?_⟩
  · intro g hg
    rcases List.mem_append.mp hg with hg | hg
    · exact h.segs g hg
    · rw [List.mem_singleton] at hg; subst hg; exact BytesTrue.nil _ _
  · intro g hg
    rcases List.mem_append.mp hg with hg | hg
    · have := h.bound g hg; show g.sid < s.nextSid + 1; omega
    · rw [List.mem_singleton] at hg; subst hg; show s.nextSid < s.nextSid + 1; omega
  · intro r hr ha; have := h.rbound r hr ha; show r.seg < s.nextSid + 1; omega
  · intro r hr ha hrel hex
    obtain ⟨g, hg, hsid⟩ := hex
    rcases List.mem_append.mp hg with hg | hg
    · exact h.readers r hr ha hrel ⟨g, hg, hsid⟩
    · rw [List.mem_singleton] at hg; subst hg
      have := h.rbound r hr ha
      simp only at hsid; omega
  · intro cur hc; cases hc; show s.nextSid < s.nextSid + 1; omega

theorem Res.push_other {src : Nat → UInt8} {s : Mem} {sid : Nat} {bs : Bytes} (hr : Res src s.segs sid bs)
    (hlt : sid < s.nextSid) (nxt : MSeg) (hn : nxt.sid = s.nextSid) : Res src (s.segs ++ [nxt]) sid bs := by
  intro g hg hs
  rcases List.mem_append.mp hg with hg | hg
  · exact hr g hg hs
  · rw [List.mem_singleton] at hg; subst hg; omega

theorem Res.push_new {src : Nat → UInt8} {s : Mem} (h : CInv src s) {bs : Bytes} (left : Nat) (hb : BytesTrue src left bs) :
    Res src (s.segs ++ [{ sid := s.nextSid, left := left, data := [], closed := false, next := none }]) s.nextSid bs := by
  intro g hg hs
  rcases List.mem_append.mp hg with hg | hg
  · have := h.bound g hg; omega
  · rw [List.mem_singleton] at hg; subst hg
    exact hb.congr (by simp [MSeg.right])

/-- a true piece is appended to the segment(s) `cur`, for which it was reserved -/
theorem CInv.put {src : Nat → UInt8} {s : Mem} (h : CInv src s) (cur : Nat) (piece : Bytes) (n : Nat)
    (hp : Res src s.segs cur piece) :
    CInv src { s with segs := mUpdate s.segs cur (fun g => { g with data := g.data ++ piece }), total := n } := by
  refine ⟨?_, ?_, h.rbound, ?_, h.wsid⟩
  · intro g hg
    obtain ⟨g0, hg0, rfl⟩ := mem_mUpdate.mp hg
    split
    · rename_i hc
      exact (h.segs g0 hg0).append (hp g0 hg0 (beq_iff_eq.mp hc))
    · exact h.segs g0 hg0
  · intro g hg
    obtain ⟨g0, hg0, rfl⟩ := mem_mUpdate.mp hg
    have := h.bound g0 hg0
    split <;> exact this
  · intro r hr ha hrel hex
    obtain ⟨g, hg, hsid⟩ := hex
    obtain ⟨g0, hg0, rfl⟩ := mem_mUpdate.mp hg
    refine h.readers r hr ha hrel ⟨g0, hg0, ?_⟩
    rw [← hsid]; split <;> rfl

theorem Res.put_other {src : Nat → UInt8} {segs : List MSeg} {sid cur : Nat} {bs piece : Bytes} (h : Res src segs sid bs)
    (hne : sid ≠ cur) : Res src (mUpdate segs cur (fun g => { g with data := g.data ++ piece })) sid bs := by
  intro g hg hs
  obtain ⟨g0, hg0, rfl⟩ := mem_mUpdate.mp hg
  by_cases hc : (g0.sid == cur) = true
  · exfalso
    simp only [hc, if_true] at hs
    exact hne (by rw [← hs]; exact beq_iff_eq.mp hc)
  · simp only [hc] at hs ⊢
    exact h g0 hg0 hs

theorem Res.put_same {src : Nat → UInt8} {segs : List MSeg} {cur : Nat} {piece rest : Bytes}
    (h : Res src segs cur (piece ++ rest)) :
    Res src (mUpdate segs cur (fun g => { g with data := g.data ++ piece })) cur rest := by
  intro g hg hs
  obtain ⟨g0, hg0, rfl⟩ := mem_mUpdate.mp hg
  by_cases hc : (g0.sid == cur) = true
  · simp only [hc, if_true]
    exact (h g0 hg0 (beq_iff_eq.mp hc)).right.congr (by simp only [MSeg.right, List.length_append]; omega)
  · exfalso
    have hc' : (g0.sid == cur) = false := by simpa using hc
    simp only [hc', Bool.false_eq_true, if_false] at hs
    rw [hs] at hc'
    simp at hc'

theorem Res.take {src : Nat → UInt8} {segs : List MSeg} {sid : Nat} {bs : Bytes} (h : Res src segs sid bs) (k : Nat) :
    Res src segs sid (bs.take k) := fun g hg hs => (h g hg hs).take k

/-- what a collector-like step leaves alone -/
structure GcLike (s s' : Mem) : Prop where
  segs : ∃ pre, s.segs = pre ++ s'.segs
  readers : s'.readers = s.readers
  aofW : s'.aofW = s.aofW
  nextSid : s'.nextSid = s.nextSid
  pendA : s'.pendA = s.pendA
  logSize : s'.logSize = s.logSize

theorem GcLike.refl (s : Mem) : GcLike s s := ⟨⟨[], by simp⟩, rfl, rfl, rfl, rfl, rfl⟩

theorem GcLike.trans {a b c : Mem} (h1 : GcLike a b) (h2 : GcLike b c) : GcLike a c := by
  obtain ⟨p1, e1⟩ := h1.segs
  obtain ⟨p2, e2⟩ := h2.segs
  exact ⟨⟨p1 ++ p2, by rw [e1, e2, List.append_assoc]⟩, h2.readers.trans h1.readers, h2.aofW.trans h1.aofW,
    h2.nextSid.trans h1.nextSid, h2.pendA.trans h1.pendA, h2.logSize.trans h1.logSize⟩

theorem GcLike.sub {s s' : Mem} (h : GcLike s s') : ∀ g ∈ s'.segs, g ∈ s.segs := by
  obtain ⟨pre, e⟩ := h.segs
  intro g hg; rw [e]; exact List.mem_append_right _ hg

theorem Quiet.of_gcLike {s s' : Mem} (h : GcLike s s') : Quiet s s' :=
  ⟨fun g hg => ⟨g, h.sub g hg, rfl, rfl, rfl⟩, h.readers, Nat.le_of_eq h.nextSid.symm, Or.inl h.aofW⟩

theorem GcFrame.like {s s' : Mem} (h : GcFrame s s') : GcLike s s' :=
  ⟨h.segs, h.readers, h.aofW, h.nextSid, h.pendA, h.logSize⟩

theorem gc_like (s : Mem) (need : Nat) : GcLike s (s.gc need) := (gc_frame s need).like

theorem ensure_like (s : Mem) (need : Nat) : GcLike s (s.ensure need).1 := (ensure_frame s need).like

/-- what an operation does to the reservations of segments OTHER than the writer's -/
def KeepsRes (src : Nat → UInt8) (s s' : Mem) : Prop :=
  ∀ sid bs, sid < s.nextSid → s.aofW ≠ some sid → Res src s.segs sid bs → Res src s'.segs sid bs ∧ s'.aofW ≠ some sid

theorem KeepsRes.of_gcLike {src : Nat → UInt8} {s s' : Mem} (hg : GcLike s s') : KeepsRes src s s' :=
  fun sid bs _ hw hr => ⟨hr.shrink hg.sub, by rw [hg.aofW]; exact hw⟩

theorem KeepsRes.refl (src : Nat → UInt8) (s : Mem) : KeepsRes src s s := fun _ _ _ hne hr => ⟨hr, hne⟩

theorem KeepsRes.trans {src : Nat → UInt8} {a b c : Mem} (h1 : KeepsRes src a b) (hn : a.nextSid ≤ b.nextSid)
    (h2 : KeepsRes src b c) : KeepsRes src a c := by
  intro sid bs hlt hne hr
  obtain ⟨r1, w1⟩ := h1 sid bs hlt hne hr
  exact h2 sid bs (Nat.lt_of_lt_of_le hlt hn) w1 r1

/-- `b` is reached from `a` by steps of the stream writer's append that put `bs` into the
    writer's segment: if `bs` and then `rest` were reserved for the writer in `a`, the bytes in
    `b` are true and `rest` is reserved for its writer; nobody else's reservation is lost -/
structure AppendsTrue (src : Nat → UInt8) (a : Mem) (bs : Bytes) (b : Mem) : Prop where
  readers : b.readers = a.readers
  nextSid : a.nextSid ≤ b.nextSid
  pendA : b.pendA = a.pendA
  keeps : KeepsRes src a b
  core : ∀ rest, CInv src a → (∀ cur, a.aofW = some cur → Res src a.segs cur (bs ++ rest)) →
    CInv src b ∧ ∀ cur, b.aofW = some cur → Res src b.segs cur rest

theorem AppendsTrue.refl (src : Nat → UInt8) (s : Mem) : AppendsTrue src s [] s :=
  ⟨rfl, Nat.le_refl _, rfl, KeepsRes.refl src s, fun _ h hb => ⟨h, hb⟩⟩

theorem AppendsTrue.trans {src : Nat → UInt8} {a b c : Mem} {x y : Bytes} (h1 : AppendsTrue src a x b)
    (h2 : AppendsTrue src b y c) : AppendsTrue src a (x ++ y) c :=
  ⟨h2.readers.trans h1.readers, Nat.le_trans h1.nextSid h2.nextSid, h2.pendA.trans h1.pendA,
   h1.keeps.trans h1.nextSid h2.keeps, fun rest h hb => by
    obtain ⟨c1, r1⟩ := h1.core (y ++ rest) h (by simpa [List.append_assoc] using hb)
    exact h2.core rest c1 r1⟩

/-- the rotation: the writer's reservation moves to the new, empty segment -/
theorem AppendsTrue.rotate (src : Nat → UInt8) (s : Mem) (cur : Nat) (seg : MSeg) (rotate : Bool) (hw : s.aofW = some cur)
    (hf : mFind s.segs cur = some seg) : AppendsTrue src s [] (aofRotate s cur seg rotate).1 := by
  unfold aofRotate
  cases rotate with
  | false => exact AppendsTrue.refl src s
  | true =>
    simp only [if_true]
    obtain ⟨hsm, hss⟩ := mFind_some hf
    refine ⟨rfl, Nat.le_succ _, rfl, ?_, fun rest h hb => ?_⟩
    · intro sid bs hlt hne hr
      refine ⟨?_, by intro e; cases e; omega⟩
      intro g hg hs
      rcases List.mem_append.mp hg with hg | hg
      · rw [mUpdate_eq_map] at hg
        exact hr.mapSegs _ (by intro g; split <;> rfl) (by intro g; split <;> rfl) (by intro g; split <;> rfl) g hg hs
      · rw [List.mem_singleton] at hg; subst hg; have : s.nextSid = sid := hs; omega
    · have hm := h.mapSegs (fun g => if g.sid == cur then ({ g with closed := true } : MSeg) else g)
        (by intro g; split <;> rfl) (by intro g; split <;> rfl) (by intro g; split <;> rfl)
      rw [mUpdate_eq_map]
      refine ⟨hm.push seg.right, fun c hc => ?_⟩
      cases hc
      exact Res.push_new hm seg.right (hb cur hw seg hsm hss)

theorem AppendsTrue.ensure (src : Nat → UInt8) (s : Mem) (n : Nat) : AppendsTrue src s [] (s.ensure n).1 := by
  have g := ensure_like s n
  refine ⟨g.readers, Nat.le_of_eq g.nextSid.symm, g.pendA, KeepsRes.of_gcLike g, fun rest h hb => ⟨h.quiet (Quiet.of_gcLike g), fun c hc => ?_⟩⟩
  rw [g.aofW] at hc
  exact (hb c hc).shrink g.sub

theorem AppendsTrue.put (src : Nat → UInt8) (s : Mem) (cur : Nat) (piece : Bytes) (hw : s.aofW = some cur) :
    AppendsTrue src s piece (aofPut s cur piece) := by
  refine ⟨rfl, Nat.le_refl _, rfl, ?_, fun rest h hb => ?_⟩
  · intro sid bs _ hne hr
    exact ⟨hr.put_other (by intro e; apply hne; rw [hw, e]), hne⟩
  · have hr := hb cur hw
    refine ⟨(h.put cur piece 0 (fun g hg hs => (hr g hg hs).left)).congr rfl rfl rfl rfl, fun c hc => ?_⟩
    have : c = cur := by rw [show (aofPut s cur piece).aofW = s.aofW from rfl, hw] at hc; cases hc; rfl
    subst this
    exact hr.put_same

theorem appendAofLoop_true (src : Nat → UInt8) (fuel : Nat) (s : Mem) (buf : Bytes) (done : Nat) :
    done ≤ (Mem.appendAofLoop fuel s buf done).2.1 ∧
      AppendsTrue src s (buf.take ((Mem.appendAofLoop fuel s buf done).2.1 - done)) (Mem.appendAofLoop fuel s buf done).1 :=
  appendAofLoop_run (AppendsTrue.refl src) AppendsTrue.trans (fun s cur seg _ hw hf => AppendsTrue.rotate src s cur seg _ hw hf)
    (AppendsTrue.ensure src) (AppendsTrue.put src) fuel s buf done

theorem Res.quiet {src : Nat → UInt8} {s s' : Mem} {sid : Nat} {bs : Bytes} (h : Res src s.segs sid bs) (q : Quiet s s') :
    Res src s'.segs sid bs := by
  intro g hg hs
  obtain ⟨g0, hg0, e1, e2, e3⟩ := q.segs g hg
  have := h g0 hg0 (by rw [← e1]; exact hs)
  unfold MSeg.right at *
  rw [e2, e3]; exact this

theorem Quiet.keepsRes {src : Nat → UInt8} {s s' : Mem} (q : Quiet s s') : KeepsRes src s s' := by
  intro sid bs _ hne hr
  refine ⟨hr.quiet q, ?_⟩
  rcases q.aofW with e | e
  · rw [e]; exact hne
  · rw [e]; simp

theorem finishAof_quiet (s : Mem) (cur : Nat) (isCurrent : Bool) : Quiet s (s.finishAof cur isCurrent) := by
  have hmap : ∀ g' ∈ mUpdate s.segs cur (fun g => ({ g with closed := true } : MSeg)),
      ∃ g ∈ s.segs, g'.sid = g.sid ∧ g'.left = g.left ∧ g'.data = g.data := by
    intro g' hg'
    obtain ⟨g0, hg0, rfl⟩ := mem_mUpdate.mp hg'
    exact ⟨g0, hg0, by split <;> rfl, by split <;> rfl, by split <;> rfl⟩
  have haw : (if isCurrent then none else s.aofW) = s.aofW ∨ (if isCurrent then none else s.aofW) = none := by
    cases isCurrent
    · exact Or.inl rfl
    · exact Or.inr rfl
  obtain ⟨X, e, h⟩ := finishAof_cases s cur isCurrent
  rw [e]
  refine Quiet.trans ?_ (Quiet.of_gcLike (gc_like X 0))
  rcases h with ⟨rfl, _⟩ | ⟨g, _, _, rfl⟩
  · exact ⟨hmap, rfl, Nat.le_refl _, haw⟩
  · exact ⟨fun g' hg' => hmap g' (List.mem_filter.mp hg').1, rfl, Nat.le_refl _, haw⟩

theorem finishRdb_quiet (s : Mem) (failed : Bool) :
    Quiet s (s.finishRdb failed) ∧ (s.finishRdb failed).aofW = s.aofW ∧ (s.finishRdb failed).pendA = s.pendA := by
  rcases finishRdb_cases s failed with e | ⟨r, _, _, e | ⟨_, _, e⟩⟩ <;> rw [e] <;>
    exact ⟨Quiet.of_same rfl rfl (Nat.le_refl _) (Or.inl rfl), rfl, rfl⟩

theorem reset_quiet (s : Mem) : Quiet s s.reset := by
  refine ⟨?_, rfl, Nat.le_refl _, Or.inr rfl⟩
  intro g hg; cases hg

theorem appendRdbLoop_quiet (fuel : Nat) (s : Mem) (buf : Bytes) (done : Nat) :
    Quiet s (Mem.appendRdbLoop fuel s buf done).1 ∧ (Mem.appendRdbLoop fuel s buf done).1.pendA = s.pendA ∧
      (Mem.appendRdbLoop fuel s buf done).1.aofW = s.aofW :=
  (appendRdbLoop_run (R := fun a _ b => Quiet a b ∧ b.pendA = a.pendA ∧ b.aofW = a.aofW)
    (fun s => ⟨Quiet.refl s, rfl, rfl⟩) (fun h1 h2 => ⟨h1.1.trans h2.1, h2.2.1.trans h1.2.1, h2.2.2.trans h1.2.2⟩)
    (fun s r seg n _ _ _ => by
      unfold rdbRotate
      split
      · exact ⟨Quiet.of_same rfl rfl (Nat.le_succ _) (Or.inl rfl), rfl, rfl⟩
      · exact ⟨Quiet.refl s, rfl, rfl⟩)
    (fun s n => ⟨Quiet.of_gcLike (ensure_like s n), (ensure_like s n).pendA, (ensure_like s n).aofW⟩)
    (fun s r piece _ _ => ⟨Quiet.of_same rfl rfl (Nat.le_refl _) (Or.inl rfl), rfl, rfl⟩) fuel s buf done).2

theorem CInv.setReader {src : Nat → UInt8} {s : Mem} (h : CInv src s) (r' : MReader)
    (hb : r'.isAof = true → r'.seg < s.nextSid)
    (ho : r'.isAof = true → r'.released = false → (∃ g ∈ s.segs, g.sid = r'.seg) → OutTrue src r') :
    CInv src { s with readers := mSetReader s.readers r' } := by
  refine ⟨h.segs, h.bound, ?_, ?_, h.wsid⟩
  · intro x hx ha
    rcases mem_mSetReader hx with hx | rfl
    · exact h.rbound x hx ha
    · exact hb ha
  · intro x hx ha hrel hex
    rcases mem_mSetReader hx with hx | rfl
    · exact h.readers x hx ha hrel hex
    · exact ho ha hrel hex

theorem CInv.finishR {src : Nat → UInt8} {s : Mem} (h : CInv src s) {r : MReader} (hr : r ∈ s.readers) (st : RSt) :
    CInv src { s with readers := mSetReader s.readers { r with st := st, released := true } } :=
  h.setReader _ (fun ha => h.rbound r hr ha) (fun _ hrel => by cases hrel)

theorem CInv.addReader {src : Nat → UInt8} {s : Mem} (h : CInv src s) (r : MReader)
    (hb : r.isAof = true → r.seg < s.nextSid) (ho : r.isAof = true → OutTrue src r) :
    CInv src { s with readers := s.readers ++ [r] } := by
  refine ⟨h.segs, h.bound, ?_, ?_, h.wsid⟩
  · intro x hx ha
    rcases List.mem_append.mp hx with hx | hx
    · exact h.rbound x hx ha
    · rw [List.mem_singleton] at hx; subst hx; exact hb ha
  · intro x hx ha hrel hex
    rcases List.mem_append.mp hx with hx | hx
    · exact h.readers x hx ha hrel hex
    · rw [List.mem_singleton] at hx; subst hx; exact ho ha

theorem mContigRun_sub : ∀ (l : List MSeg) (g : MSeg), g ∈ mContigRun l → g ∈ l := by
  intro l
  induction l with
  | nil => intro g hg; simp [mContigRun] at hg
  | cons a t ih =>
    intro g hg
    cases t with
    | nil => simpa [mContigRun] using hg
    | cons b u =>
      simp only [mContigRun] at hg
      split at hg
      · rcases List.mem_cons.mp hg with rfl | hg
        · simp
        · exact List.mem_cons_of_mem _ (ih g hg)
      · exact List.mem_cons_of_mem _ (ih g hg)

theorem indexAof_mem {s : Mem} {off : Nat} {g : MSeg} (h : s.indexAof off = some g) : g ∈ s.segs := by
  unfold Mem.indexAof Mem.runRev at h
  have := List.mem_of_find?_eq_some h
  exact mContigRun_sub _ g (List.mem_reverse.mp this)

/-- the segment a reader's identity resolves to is the indexed one whenever an indexed one exists -/
theorem lookup_indexed {s : Mem} {sid : Nat} {g : MSeg} (hl : s.lookup sid = some g) (hex : ∃ g0 ∈ s.segs, g0.sid = sid) :
    g ∈ s.segs := by
  obtain ⟨g0, hg0, hs⟩ := hex
  unfold Mem.lookup at hl
  cases hf : mFind s.segs sid with
  | some g1 => rw [hf] at hl; cases hl; exact (mFind_some hf).1
  | none =>
    exfalso
    unfold mFind at hf
    have := List.find?_eq_none.mp hf g0 hg0
    simp [hs] at this

theorem open_true {src : Nat → UInt8} (s : Mem) (rid off : Nat) (h : CInv src s) : CInv src (s.open rid off).1 := by
  rcases open_shape s rid off with e | ⟨r, e, ho, hs, hk⟩ <;> rw [e]
  · exact h
  rcases hk with ⟨g, hidx, _, hseg, _⟩ | ⟨_, _, _, _, _, ha', _⟩
  · exact h.addReader r (fun _ => hseg ▸ h.bound g (indexAof_mem hidx))
      (fun _ => ⟨by rw [ho, hs]; rfl, ho ▸ BytesTrue.nil _ _⟩)
  · exact h.addReader r (fun ha => by rw [ha'] at ha; cases ha) (fun ha => by rw [ha'] at ha; cases ha)

theorem copyStep_true {src : Nat → UInt8} (s : Mem) (rid : Nat) (h : CInv src s) : CInv src (s.copyStep rid).1 := by
  rcases copyStep_cases s rid with e | ⟨r, r', hf, hrel, hm, e⟩
  · rw [e]; exact h
  rw [e]
  have hr := mFindReader_mem hf
  cases hm with
  | finish st => exact h.finishR hr st
  | deliver g hl hpos hne =>
    -- delivers the rest of the segment
    refine h.setReader _ (h.rbound r hr) (fun ha _ hex => ?_)
    obtain ⟨hp, ht⟩ := h.readers r hr ha hrel hex
    have hbs : BytesTrue src r.pos (g.data.drop (r.pos - g.left)) :=
      ((h.segs g (lookup_indexed hl hex)).drop (r.pos - g.left)).congr (by omega)
    refine ⟨?_, ht.append (hbs.congr hp.symm)⟩
    show r.pos + (g.data.drop (r.pos - g.left)).length = r.start + (r.out ++ g.data.drop (r.pos - g.left)).length
    rw [List.length_append]; omega
  | nextAof g nx ha hl hpos hd hn =>
    obtain ⟨pre, g0, post, hsplit, hs0⟩ := mNextOf_some hn
    refine h.setReader _ (fun _ => h.bound nx (by rw [hsplit]; simp)) (fun _ _ _ => ?_)
    exact h.readers r hr ha hrel ⟨g0, by rw [hsplit]; simp, by rw [hs0]; exact (lookup_cases hl).1⟩
  | nextRdb g nx ha =>
    exact h.setReader _ (fun ha' => by rw [show r.isAof = true from ha'] at ha; cases ha)
      (fun ha' => by rw [show r.isAof = true from ha'] at ha; cases ha)

theorem CInv.touchReader {src : Nat → UInt8} {s : Mem} (h : CInv src s) {r : MReader} (hr : r ∈ s.readers) (r' : MReader)
    (e1 : r'.isAof = r.isAof) (e2 : r'.seg = r.seg) (e3 : r'.pos = r.pos) (e4 : r'.start = r.start) (e5 : r'.out = r.out)
    (e6 : r'.released = false → r.released = false) : CInv src { s with readers := mSetReader s.readers r' } := by
  refine h.setReader r' (fun ha => by rw [e2]; exact h.rbound r hr (e1 ▸ ha)) ?_
  intro ha hrel hex
  have := h.readers r hr (e1 ▸ ha) (e6 hrel) (by rw [← e2]; exact hex)
  unfold OutTrue at *
  rw [e3, e4, e5]; exact this

theorem CInv.touched {src : Nat → UInt8} {s s' : Mem} (h : CInv src s) (ht : Touched s s') : CInv src s' := by
  rcases ht with rfl | ⟨r, r', rfl, hr, e1, e2, e3, e4, e5, e6⟩
  · exact h
  · exact h.touchReader hr r' e1 e2 e3 e4 e5 e6

theorem readerOp_true {src : Nat → UInt8} (s : Mem) (op : MOp) (hop : op.readerOp = true) (h : CInv src s) :
    CInv src (s.step op).1 := by
  cases op with
  | openReader rid off => exact open_true s rid off h
  | startReader rid => exact h.touched (startReader_touched s rid)
  | copyStep rid => exact copyStep_true s rid h
  | consume rid n => exact h.touched (consume_touched s rid n)
  | closeReader rid => exact h.touched (closeReader_touched s rid)
  | _ => cases hop

/-- what the current stream writer is waiting to append, if it is blocked, is the
    source's bytes at the end of its segment -/
structure PInv (src : Nat → UInt8) (s : Mem) : Prop where
  writer : s.pendA ≠ none → s.aofW ≠ none
  res : ∀ buf cur, s.pendA = some buf → s.aofW = some cur → Res src s.segs cur buf

theorem PInv.of_none {src : Nat → UInt8} {s : Mem} (h : s.pendA = none) : PInv src s :=
  ⟨fun hne => absurd h hne, fun buf cur hb => by rw [h] at hb; cases hb⟩

theorem PInv.pendA_none {src : Nat → UInt8} {s : Mem} (h : PInv src s) (haw : s.aofW = none) : s.pendA = none := by
  cases hpa : s.pendA with
  | none => rfl
  | some b => exact absurd haw (h.writer (by rw [hpa]; simp))

theorem PInv.quiet {src : Nat → UInt8} {s s' : Mem} (h : PInv src s) (q : Quiet s s')
    (hp : s'.pendA = s.pendA ∧ s'.aofW = s.aofW ∨ s'.pendA = none) : PInv src s' := by
  rcases hp with ⟨e1, e2⟩ | e
  · refine ⟨by rw [e1, e2]; exact h.writer, ?_⟩
    intro buf cur hb hc
    rw [e1] at hb; rw [e2] at hc
    exact (h.res buf cur hb hc).quiet q
  · exact PInv.of_none e

theorem appendAofLoop_writer (fuel : Nat) (s : Mem) (buf : Bytes) (done : Nat) (h : s.aofW ≠ none) :
    (Mem.appendAofLoop fuel s buf done).1.aofW ≠ none :=
  appendAofLoop_keeps (P := fun s => s.aofW ≠ none)
    (fun s cur seg n _ _ h => by unfold aofRotate; split <;> first | exact h | exact Option.some_ne_none _)
    (fun s n h => by rw [(ensure_like s n).aofW]; exact h) (fun s cur piece _ h => h) fuel s buf done h

/-- the chunk handed to a stream writer is the source's bytes at the end of its segment -/
def ChunkTrue (src : Nat → UInt8) (s : Mem) : MOp → Prop
  | .aofAppend chunk => ∀ cur, s.aofW = some cur → Res src s.segs cur chunk
  | _ => True

theorem KeepsRes.of_same {src : Nat → UInt8} {s s' : Mem} (hs : s'.segs = s.segs) (hw : s'.aofW = s.aofW) : KeepsRes src s s' :=
  fun _ _ _ hne hr => ⟨hs ▸ hr, hw ▸ hne⟩

/-- the stream writer's append: the loop, then the rest of the chunk waits if it blocked -/
theorem append_true {src : Nat → UInt8} (s : Mem) (buf : Bytes) (h : CInv src s) (hw : s.aofW ≠ none)
    (hb : ∀ cur, s.aofW = some cur → Res src s.segs cur buf) :
    let r := Mem.appendAofLoop (buf.length + 1) s buf 0
    ∀ s' : Mem, (s' = { r.1 with pendA := some (buf.drop r.2.1) } ∨ s' = { r.1 with pendA := none }) →
      CInv src s' ∧ PInv src s' ∧ s.nextSid ≤ s'.nextSid ∧ KeepsRes src s s' := by
  intro r s' hs'
  obtain ⟨_, a⟩ := appendAofLoop_true src (buf.length + 1) s buf 0
  obtain ⟨c1, r1⟩ := a.core (buf.drop (Mem.appendAofLoop (buf.length + 1) s buf 0).2.1) h
    (by rw [Nat.sub_zero, List.take_append_drop]; exact hb)
  rcases hs' with rfl | rfl
  · exact ⟨c1.congr rfl rfl rfl rfl,
      ⟨fun _ => appendAofLoop_writer _ s buf 0 hw, fun b cur hb' hc => by cases hb'; exact r1 cur hc⟩,
      a.nextSid, a.keeps⟩
  · exact ⟨c1.congr rfl rfl rfl rfl, PInv.of_none rfl, a.nextSid, a.keeps⟩

theorem push_keepsRes {src : Nat → UInt8} {s : Mem} (left : Nat) (s1 : Mem)
    (hs : s1.segs = s.segs ++ [{ sid := s.nextSid, left := left, data := [], closed := false, next := none }])
    (hw : s1.aofW = some s.nextSid) : KeepsRes src s s1 := by
  intro sid bs hlt _ hr
  refine ⟨?_, ?_⟩
  · rw [hs]; exact Res.push_other hr hlt _ rfl
  · rw [hw]; intro e; cases e; omega

theorem KeepsRes.trans_quiet {src : Nat → UInt8} {a b c : Mem} (h1 : KeepsRes src a b) (q : Quiet b c) : KeepsRes src a c := by
  intro sid bs hlt hne hr
  obtain ⟨r1, w1⟩ := h1 sid bs hlt hne hr
  refine ⟨r1.quiet q, ?_⟩
  rcases q.aofW with e | e
  · rw [e]; exact w1
  · rw [e]; simp

/-- the first lock section of `NewAofWritter`: the new, empty segment becomes the writer's -/
theorem installWriter_true {src : Nat → UInt8} {s s1 : Mem} {off : Nat} (hin : s.installWriter off = some s1) (h : CInv src s) :
    CInv src s1 ∧ KeepsRes src s s1 ∧
      s1.segs = s.segs ++ [{ sid := s.nextSid, left := off, data := [], closed := false, next := none }] ∧
      s1.aofW = some s.nextSid ∧ s1.nextSid = s.nextSid + 1 ∧ s1.pendA = s.pendA := by
  obtain ⟨e, _⟩ := installWriter_spec hin
  have e1 : s1.segs = _ := congrArg Mem.segs e
  have e2 : s1.aofW = _ := congrArg Mem.aofW e
  have e3 : s1.nextSid = _ := congrArg Mem.nextSid e
  have e5 : s1.pendA = _ := congrArg Mem.pendA e
  exact ⟨e ▸ (h.push off).congr rfl rfl rfl rfl, push_keepsRes off s1 e1 e2, e1, e2, e3, e5⟩

/-- `Mem.step (.newAofWriter off)`: then the old writer, if any, is finished -/
theorem newAofWriter_true {src : Nat → UInt8} {s s1 : Mem} {off : Nat} (hin : s.installWriter off = some s1)
    (h : CInv src s) (hp : PInv src s) :
    let s2 := match s.aofW with
      | some old => s1.finishAof old false
      | none => s1
    CInv src s2 ∧ PInv src s2 ∧ s.nextSid ≤ s2.nextSid ∧ KeepsRes src s s2 := by
  obtain ⟨c1, k1, _, _, n1, p1⟩ := installWriter_true hin h
  have n1' : s.nextSid ≤ s1.nextSid := by omega
  cases haw : s.aofW with
  | none =>
    exact ⟨c1, PInv.of_none (p1.trans (hp.pendA_none haw)), n1', k1⟩
  | some old =>
    have q := finishAof_quiet s1 old false
    exact ⟨c1.quiet q, PInv.of_none (finishAof_frame s1 old false).2.2, Nat.le_trans n1' q.nextSid, k1.trans_quiet q⟩

theorem mem_step_true {src : Nat → UInt8} (s : Mem) (op : MOp) (h : CInv src s) (hp : PInv src s)
    (hc : ChunkTrue src s op) :
    CInv src (s.step op).1 ∧ PInv src (s.step op).1 ∧ s.nextSid ≤ (s.step op).1.nextSid ∧ KeepsRes src s (s.step op).1 := by
  have viaQuiet : ∀ s' : Mem, Quiet s s' → (s'.pendA = s.pendA ∧ s'.aofW = s.aofW ∨ s'.pendA = none) →
      CInv src s' ∧ PInv src s' ∧ s.nextSid ≤ s'.nextSid ∧ KeepsRes src s s' :=
    fun s' q hpa => ⟨h.quiet q, hp.quiet q hpa, q.nextSid, q.keepsRes⟩
  have same : CInv src s ∧ PInv src s ∧ s.nextSid ≤ s.nextSid ∧ KeepsRes src s s :=
    ⟨h, hp, Nat.le_refl _, KeepsRes.refl src s⟩
  -- the snapshot writer's side appends nothing to the stream
  have rdbSide := rdbAppends_keep (P := fun x => Quiet s x ∧ x.pendA = s.pendA ∧ x.aofW = s.aofW)
    (fun x r hx => ⟨hx.1.trans (Quiet.of_same rfl rfl (Nat.le_refl _) (Or.inl rfl)), hx.2⟩)
    (fun fuel x buf hx => by
      obtain ⟨q, p, w⟩ := appendRdbLoop_quiet fuel x buf 0
      exact ⟨hx.1.trans q, p.trans hx.2.1, w.trans hx.2.2⟩)
    (fun x hx => by
      obtain ⟨q, w, p⟩ := finishRdb_quiet x false
      exact ⟨hx.1.trans q, p.trans hx.2.1, w.trans hx.2.2⟩) s ⟨Quiet.refl s, rfl, rfl⟩
  by_cases hro : op.readerOp = true
  · -- only the reader list changes
    have c := readerOp_true s op hro h
    rw [step_readerOp s hro] at c ⊢
    exact ⟨c, ⟨hp.writer, hp.res⟩, Nat.le_refl _, KeepsRes.of_same rfl rfl⟩
  cases op with
  | setRunId id => exact viaQuiet _ (Quiet.of_same rfl rfl (Nat.le_refl _) (Or.inl rfl)) (Or.inl ⟨rfl, rfl⟩)
  | delRunId id =>
    simp only [Mem.step]
    split
    · exact same
    · exact viaQuiet _ ((reset_quiet s).trans (Quiet.of_same rfl rfl (Nat.le_refl _) (Or.inl rfl))) (Or.inr rfl)
  | newRdbWriter off size =>
    exact viaQuiet _ ((reset_quiet s).trans (Quiet.of_same rfl rfl (Nat.le_succ _) (Or.inl rfl))) (Or.inr rfl)
  | rdbAppend chunk => exact viaQuiet _ (rdbSide.2 chunk).1 (Or.inl (rdbSide.2 chunk).2)
  | rdbClose =>
    obtain ⟨q, w, p⟩ := finishRdb_quiet s false
    exact viaQuiet _ q (Or.inl ⟨p, w⟩)
  | rdbFail =>
    obtain ⟨q, w, p⟩ := finishRdb_quiet s true
    exact viaQuiet _ q (Or.inl ⟨p, w⟩)
  | newAofWriter off =>
    rw [step_newAofWriter_eq]
    cases hin : s.installWriter off with
    | none => exact same
    | some s1 => exact newAofWriter_true hin h hp
  | aofAppend chunk =>
    simp only [Mem.step]
    cases haw : s.aofW with
    | none => exact same
    | some cur =>
      dsimp only
      split
      · exact same
      · split
        · exact append_true s chunk h (by rw [haw]; simp) hc _ (Or.inl rfl)
        · rename_i hbl
          have hpn : s.pendA = none := by
            cases hpa : s.pendA with
            | none => rfl
            | some b => rename_i hps; rw [hpa] at hps; simp at hps
          obtain ⟨_, a⟩ := appendAofLoop_true src (chunk.length + 1) s chunk 0
          exact ⟨(a.core (chunk.drop _) h (by rw [Nat.sub_zero, List.take_append_drop]; exact hc)).1,
            PInv.of_none (a.pendA.trans hpn), a.nextSid, a.keeps⟩
  | aofClose =>
    simp only [Mem.step]
    cases haw : s.aofW with
    | none => exact same
    | some cur =>
      dsimp only
      exact viaQuiet _ (finishAof_quiet s cur true) (Or.inr (finishAof_frame s cur true).2.2)
  | openReader _ _ | startReader _ | copyStep _ | consume _ _ | closeReader _ => exact absurd rfl hro
  | retryAppend =>
    cases hpa : s.pendA with
    | some buf =>
      simp only [Mem.step, Mem.retry, hpa]
      cases haw : s.aofW with
      | none => exact absurd haw (hp.writer (by rw [hpa]; simp))
      | some cur =>
        dsimp only
        have := append_true s buf h (by rw [haw]; simp) (fun c hc' => hp.res buf c hpa hc')
        split
        · exact this _ (Or.inl rfl)
        · exact this _ (Or.inr rfl)
    | none => exact viaQuiet _ (rdbSide.1 hpa).1 (Or.inl (rdbSide.1 hpa).2)

/-- the invariant of a window state -/
structure WInv (src : Nat → UInt8) (w : MemW) : Prop where
  core : CInv src w.s
  pend : PInv src w.s
  old : ∀ o p, w.old = some ⟨o, p⟩ →
    o < w.s.nextSid ∧ w.s.aofW ≠ some o ∧ ∀ piece, p = some piece → Res src w.s.segs o piece

theorem WInv.init (src : Nat → UInt8) (l m : Nat) : WInv src (MemW.init l m) :=
  ⟨CInv.init src l m, PInv.of_none rfl, by intro o p h; cases h⟩

def ChunkTrueW (src : Nat → UInt8) (w : MemW) : WOp → Prop
  | .base o => ChunkTrue src w.s o
  | _ => True

/-- every chunk handed to a stream writer is the source's bytes at the end of its segment -/
def SrcOkW (src : Nat → UInt8) (w : MemW) : List WOp → Prop
  | [] => True
  | op :: rest => ChunkTrueW src w op ∧ SrcOkW src (w.step op).1 rest

/-- the window invariant while the displaced writer `o` is remembered -/
theorem WInv.withOld {src : Nat → UInt8} {s : Mem} {o : Nat} {p : Option Bytes} (c : CInv src s) (pd : PInv src s)
    (n : o < s.nextSid) (hw : s.aofW ≠ some o) (r : ∀ piece, p = some piece → Res src s.segs o piece) :
    WInv src { s := s, old := some ⟨o, p⟩ } :=
  ⟨c, pd, by intro o' p' ho; cases ho; exact ⟨n, hw, r⟩⟩

theorem WInv.noOld {src : Nat → UInt8} {s : Mem} (c : CInv src s) (pd : PInv src s) : WInv src { s := s, old := none } :=
  ⟨c, pd, by intro o p ho; cases ho⟩

theorem WInv.step {src : Nat → UInt8} {w : MemW} (h : WInv src w) (op : WOp) (hc : ChunkTrueW src w op) :
    WInv src (w.step op).1 := by
  cases op with
  | base o =>
    obtain ⟨c, p, n, k⟩ := mem_step_true w.s o h.core h.pend hc
    refine ⟨c, p, ?_⟩
    intro o' p' ho
    have ho' : w.old = some ⟨o', p'⟩ := ho
    obtain ⟨a1, a2, a3⟩ := h.old o' p' ho'
    have kk := k o' [] a1 a2 (fun g _ _ => BytesTrue.nil _ _)
    refine ⟨Nat.lt_of_lt_of_le a1 n, kk.2, ?_⟩
    intro piece hp
    exact (k o' piece a1 a2 (a3 piece hp)).1
  | install off =>
    simp only [MemW.step]
    split
    · exact h
    · cases hi : w.s.installWriter off with
      | none => exact h
      | some s1 =>
        dsimp only
        obtain ⟨c1, _, e1, e2, e3, e5⟩ := installWriter_true hi h.core
        cases haw : w.s.aofW with
        | none => exact WInv.noOld c1 (PInv.of_none (e5.trans (h.pend.pendA_none haw)))
        | some cur =>
          have hcur := h.core.wsid cur haw
          refine WInv.withOld (c1.congr rfl rfl rfl rfl) (PInv.of_none rfl) (by show cur < s1.nextSid; rw [e3]; omega) ?_ ?_
          · show s1.aofW ≠ some cur
            rw [e2]; intro e; cases e; omega
          · intro piece hp
            show Res src s1.segs cur piece
            unfold Mem.blockedPiece at hp
            cases hpa : w.s.pendA with
            | none => rw [hpa] at hp; cases hp
            | some buf =>
              rw [hpa, haw] at hp
              dsimp only at hp
              cases hf : mFind w.s.segs cur with
              | none => rw [hf] at hp; cases hp
              | some seg =>
                rw [hf] at hp
                cases hp
                rw [e1]
                exact Res.push_other ((h.pend.res buf cur hpa haw).take _) hcur _ rfl
  | oldWake =>
    simp only [MemW.step]
    cases ho : w.old with
    | none => exact h
    | some ow =>
      obtain ⟨o, p⟩ := ow
      cases p with
      | none => exact h
      | some piece =>
        dsimp only
        obtain ⟨a1, a2, a3⟩ := h.old o (some piece) ho
        have g2 := ensure_like w.s piece.length
        have c2 := h.core.quiet (Quiet.of_gcLike g2)
        have p2 : PInv src (w.s.ensure piece.length).1 :=
          h.pend.quiet (Quiet.of_gcLike g2) (Or.inl ⟨g2.pendA, g2.aofW⟩)
        have r2 : Res src (w.s.ensure piece.length).1.segs o piece := (a3 piece rfl).shrink g2.sub
        have w2 : (w.s.ensure piece.length).1.aofW ≠ some o := by rw [g2.aofW]; exact a2
        have n2 : o < (w.s.ensure piece.length).1.nextSid := by rw [g2.nextSid]; exact a1
        split
        · -- still no room
          exact WInv.withOld c2 p2 n2 w2 (fun pc hpc => by cases hpc; exact r2)
        · cases hf : mFind (w.s.ensure piece.length).1.segs o with
          | none => exact WInv.withOld c2 p2 n2 w2 (fun pc hpc => by cases hpc)
          | some _ =>
            refine WInv.withOld ((c2.put o piece _ r2).congr rfl rfl rfl rfl) ⟨p2.writer, ?_⟩ n2 w2 (fun pc hpc => by cases hpc)
            intro buf cur hb hcw
            have hne : cur ≠ o := by intro e; apply w2; rw [← e]; exact hcw
            exact (p2.res buf cur hb hcw).put_other hne
  | finishOld =>
    simp only [MemW.step]
    cases ho : w.old with
    | none => exact h
    | some ow =>
      have q0 := finishAof_quiet w.s ow.sid false
      -- `Quiet` does not speak of `pendA`, which `finishOld` puts back
      have q : Quiet w.s { w.s.finishAof ow.sid false with pendA := w.s.pendA } := ⟨q0.segs, q0.readers, q0.nextSid, q0.aofW⟩
      exact WInv.noOld (h.core.quiet q) (h.pend.quiet q (Or.inl ⟨rfl, (finishAof_frame w.s ow.sid false).2.1⟩))

theorem WInv.run {src : Nat → UInt8} {w : MemW} (h : WInv src w) (ops : List WOp) (hs : SrcOkW src w ops) :
    WInv src (w.run ops) := by
  induction ops generalizing w with
  | nil => exact h
  | cons op rest ih => exact ih (h.step op hs.1) hs.2

theorem pendA_eta (X : Mem) (h : X.pendA = none) : ({ X with pendA := none } : Mem) = X := by
  cases X
  simp only at h
  subst h
  rfl

end GunYu.Store
