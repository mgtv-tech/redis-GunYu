/-
  Lemmas for C17 (Props/C17.lean) about Model/Checkpoint.lean. Core only.

  What `fetchCheckpoint` reads is a fold in which the last matching field wins (`offOf`, `ridOf`);
  how HSET / HDEL of fields change it; `GetCheckpoint` when one database strictly dominates (`Holds`).
-/
import GunYu.Model.Checkpoint
import GunYu.Proofs.Resp

namespace GunYu.Checkpoint
open GunYu

def offSel (ids : List Bytes) (e : Entry) : Bool := matchId ids e.rid && decide (e.kind = .offset)
def ridSel (ids : List Bytes) (e : Entry) : Bool := matchId ids e.rid && decide (e.kind = .runid)

def offStep (ids : List Bytes) (o : Int) (e : Entry) : Int :=
  if offSel ids e then (Resp.parseInt64 e.val).getD o else o

def ridStep (ids : List Bytes) (r : Bytes) (e : Entry) : Bytes :=
  if ridSel ids e then e.val else r

/-- the offset `fetchCheckpoint` reports (when it does not fail) -/
def offOf (ids : List Bytes) (fs : Cp) : Int := fs.foldl (offStep ids) (-1)

/-- the run id `fetchCheckpoint` reports -/
def ridOf (ids : List Bytes) (fs : Cp) : Bytes := fs.foldl (ridStep ids) qmark

/-- every numeric field of the ids is a decimal int64 -/
def Parses (ids : List Bytes) (fs : Cp) : Prop :=
  ∀ e ∈ fs, matchId ids e.rid = true → (e.kind = .offset ∨ e.kind = .mtime) →
    (Resp.parseInt64 e.val).isSome = true

theorem Parses.tail {ids : List Bytes} {e : Entry} {fs : Cp} (h : Parses ids (e :: fs)) :
    Parses ids fs := fun x hx => h x (List.mem_cons_of_mem _ hx)

theorem Parses.filter {ids : List Bytes} {fs : Cp} (h : Parses ids fs) (p : Entry → Bool) :
    Parses ids (fs.filter p) := fun e he => h e (List.mem_filter.mp he).1

theorem matchId_pair (a b x : Bytes) : matchId [a, b] x = true ↔ x = a ∨ x = b := by
  simp [matchId]

theorem matchId_one (a x : Bytes) : matchId [a] x = true ↔ x = a := by
  simp [matchId]

theorem offSel_iff (ids : List Bytes) (e : Entry) :
    offSel ids e = true ↔ matchId ids e.rid = true ∧ e.kind = .offset := by
  simp [offSel]

theorem ridSel_iff (ids : List Bytes) (e : Entry) :
    ridSel ids e = true ↔ matchId ids e.rid = true ∧ e.kind = .runid := by
  simp [ridSel]

theorem fetchStep_some {ids : List Bytes} {c c' : CpInfo} {e : Entry}
    (h : fetchStep ids (some c) e = some c') :
    c'.offset = offStep ids c.offset e ∧ c'.runId = ridStep ids c.runId e := by
  simp only [fetchStep] at h
  unfold offStep ridStep offSel ridSel
  by_cases hm : matchId ids e.rid = true
  · rw [if_pos hm] at h
    cases hk : e.kind <;> rw [hk] at h <;> simp only [hm, Bool.true_and, decide_eq_true_eq, reduceCtorEq,
      if_true, if_false] at h ⊢
    case offset | mtime =>
      obtain ⟨v, hv, rfl⟩ := Option.map_eq_some_iff.mp h
      simp [hv]
    all_goals cases h; exact ⟨rfl, rfl⟩
  · rw [if_neg hm] at h
    cases h
    simp [hm]

theorem fetchStep_isSome (ids : List Bytes) (c : CpInfo) (e : Entry)
    (hp : matchId ids e.rid = true → (e.kind = .offset ∨ e.kind = .mtime) →
      (Resp.parseInt64 e.val).isSome = true) : (fetchStep ids (some c) e).isSome = true := by
  simp only [fetchStep]
  split
  · rename_i hm
    cases hk : e.kind <;> simp only [Option.isSome_some, Option.isSome_map]
    · exact hp hm (Or.inl hk)
    · exact hp hm (Or.inr hk)
  · rfl

theorem foldl_fetchStep_none (ids : List Bytes) (fs : Cp) : fs.foldl (fetchStep ids) none = none := by
  induction fs with
  | nil => rfl
  | cons _ _ ih => exact ih

theorem fetch_foldl_some (ids : List Bytes) (fs : Cp) :
    ∀ c c', fs.foldl (fetchStep ids) (some c) = some c' →
      c'.offset = fs.foldl (offStep ids) c.offset ∧ c'.runId = fs.foldl (ridStep ids) c.runId := by
  induction fs with
  | nil => intro c c' h; cases h; exact ⟨rfl, rfl⟩
  | cons e fs ih =>
    intro c c' h
    rw [List.foldl_cons] at h
    cases hs : fetchStep ids (some c) e with
    | none => rw [hs, foldl_fetchStep_none] at h; cases h
    | some c1 =>
      rw [hs] at h
      obtain ⟨ho, hr⟩ := fetchStep_some hs
      rw [List.foldl_cons, List.foldl_cons, ← ho, ← hr]
      exact ih c1 c' h

theorem fetch_spec (ids : List Bytes) (fs : Cp) (hp : Parses ids fs) :
    ∃ c, fetch ids fs = some c ∧ c.offset = offOf ids fs ∧ c.runId = ridOf ids fs := by
  have hsome : ∀ (fs : Cp) (c : CpInfo), Parses ids fs →
      (fs.foldl (fetchStep ids) (some c)).isSome = true := by
    intro fs
    induction fs with
    | nil => intro _ _; rfl
    | cons e fs ih =>
      intro c hp
      obtain ⟨c1, hc1⟩ := Option.isSome_iff_exists.mp
        (fetchStep_isSome ids c e (hp e (List.mem_cons_self ..)))
      rw [List.foldl_cons, hc1]
      exact ih c1 hp.tail
  obtain ⟨c, hc⟩ := Option.isSome_iff_exists.mp (hsome fs {} hp)
  exact ⟨c, hc, fetch_foldl_some ids fs {} c hc⟩

/-! ### folds that only look at selected entries

  `offStep ids` and `ridStep ids` are of the form `fun a e => if sel e then g a e else a`. -/

theorem foldl_sel_inv {α : Type} (g : α → Entry → α) (sel : Entry → Bool) (P : α → Prop) (fs : Cp) :
    ∀ a, P a → (∀ x ∈ fs, sel x = true → ∀ a, P a → P (g a x)) →
      P (fs.foldl (fun a e => if sel e then g a e else a) a) := by
  induction fs with
  | nil => intro a h _; exact h
  | cons y fs ih =>
    intro a h hall
    rw [List.foldl_cons]
    apply ih _ _ (fun x hx => hall x (List.mem_cons_of_mem _ hx))
    split
    · rename_i hy; exact hall y (List.mem_cons_self ..) hy a h
    · exact h

theorem foldl_sel_last {α : Type} (g : α → Entry → α) (sel : Entry → Bool) (P : α → Prop) (fs : Cp)
    (a : α) (hall : ∀ x ∈ fs, sel x = true → ∀ a, P (g a x))
    (h : (∃ x ∈ fs, sel x = true) ∨ P a) :
    P (fs.foldl (fun a e => if sel e then g a e else a) a) := by
  rcases h with ⟨x, hx, hs⟩ | h
  · obtain ⟨l1, l2, rfl⟩ := List.append_of_mem hx
    rw [List.foldl_append, List.foldl_cons, if_pos hs]
    exact foldl_sel_inv g sel P l2 _ (hall x hx hs _)
      (fun y hy hsy a _ => hall y (List.mem_append_right _ (List.mem_cons_of_mem _ hy)) hsy a)
  · exact foldl_sel_inv g sel P fs a h (fun y hy hsy a _ => hall y hy hsy a)

theorem foldl_sel_filter {α : Type} (g : α → Entry → α) (sel sel' p : Entry → Bool) (fs : Cp) :
    ∀ (a : α), (∀ e ∈ fs, (p e = true → sel e = sel' e) ∧ (p e = false → sel' e = false)) →
    (fs.filter p).foldl (fun a e => if sel e then g a e else a) a
      = fs.foldl (fun a e => if sel' e then g a e else a) a := by
  induction fs with
  | nil => intros; rfl
  | cons x fs ih =>
    intro a h
    have hx := h x (List.mem_cons_self ..)
    have ht := fun e he => h e (List.mem_cons_of_mem x he)
    cases hp : p x
    · rw [List.filter_cons_of_neg (by simp [hp]), List.foldl_cons, hx.2 hp]
      exact ih a ht
    · rw [List.filter_cons_of_pos hp, List.foldl_cons, List.foldl_cons, hx.1 hp]
      exact ih _ ht

theorem offOf_filter (ids ids' : List Bytes) (p : Entry → Bool) (fs : Cp)
    (h : ∀ e ∈ fs, (p e = true → offSel ids e = offSel ids' e) ∧ (p e = false → offSel ids' e = false)) :
    offOf ids (fs.filter p) = offOf ids' fs :=
  foldl_sel_filter (fun o e => (Resp.parseInt64 e.val).getD o) (offSel ids) (offSel ids') p fs (-1) h

theorem ridOf_filter (ids ids' : List Bytes) (p : Entry → Bool) (fs : Cp)
    (h : ∀ e ∈ fs, (p e = true → ridSel ids e = ridSel ids' e) ∧ (p e = false → ridSel ids' e = false)) :
    ridOf ids (fs.filter p) = ridOf ids' fs :=
  foldl_sel_filter (fun _ e => e.val) (ridSel ids) (ridSel ids') p fs qmark h

theorem foldl_offStep_all_eq (ids : List Bytes) (X : Int) (fs : Cp) :
    ∀ (o : Int), (∀ x ∈ fs, offSel ids x = true → Resp.parseInt64 x.val = some X) →
    ((∃ x ∈ fs, offSel ids x = true) ∨ o = X) → fs.foldl (offStep ids) o = X :=
  fun o hall h => foldl_sel_last (fun o e => (Resp.parseInt64 e.val).getD o) (offSel ids) (· = X) fs o
    (fun x hx hs _ => by rw [hall x hx hs]; rfl) h

theorem foldl_ridStep_ne (ids : List Bytes) (fs : Cp) :
    ∀ (r : Bytes), (∀ x ∈ fs, ridSel ids x = true → x.val ≠ qmark) →
    ((∃ x ∈ fs, ridSel ids x = true) ∨ r ≠ qmark) → fs.foldl (ridStep ids) r ≠ qmark :=
  fun r hall h => foldl_sel_last (fun _ e => e.val) (ridSel ids) (· ≠ qmark) fs r
    (fun x hx hs _ => hall x hx hs) h

def rep (e : Entry) (x : Entry) : Entry := if x.key = e.key then e else x

theorem hsetOne_cases (fs : Cp) (e : Entry) :
    (hsetOne fs e = fs.map (rep e) ∧ ∃ x ∈ fs, x.key = e.key) ∨
    (hsetOne fs e = fs ++ [e] ∧ ∀ x ∈ fs, x.key ≠ e.key) := by
  unfold hsetOne
  split
  · rename_i h
    obtain ⟨x, hx, hk⟩ := List.any_eq_true.mp h
    exact Or.inl ⟨rfl, x, hx, of_decide_eq_true hk⟩
  · rename_i h
    exact Or.inr ⟨rfl, fun x hx hk => h (List.any_eq_true.mpr ⟨x, hx, decide_eq_true hk⟩)⟩

theorem mem_hsetOne {fs : Cp} {e x : Entry} (h : x ∈ hsetOne fs e) : x = e ∨ x ∈ fs := by
  rcases hsetOne_cases fs e with ⟨heq, _⟩ | ⟨heq, _⟩ <;> rw [heq] at h
  · obtain ⟨y, hy, rfl⟩ := List.mem_map.mp h
    unfold rep; split
    · exact Or.inl rfl
    · exact Or.inr hy
  · rcases List.mem_append.mp h with h | h
    · exact Or.inr h
    · exact Or.inl (List.mem_singleton.mp h)

theorem mem_hsetOne_self (fs : Cp) (e : Entry) : e ∈ hsetOne fs e := by
  rcases hsetOne_cases fs e with ⟨heq, x, hx, hk⟩ | ⟨heq, _⟩ <;> rw [heq]
  · exact List.mem_map.mpr ⟨x, hx, if_pos hk⟩
  · exact List.mem_append_right _ (List.mem_singleton.mpr rfl)

theorem mem_hsetOne_of_ne {fs : Cp} {e x : Entry} (hx : x ∈ fs) (hk : x.key ≠ e.key) :
    x ∈ hsetOne fs e := by
  rcases hsetOne_cases fs e with ⟨heq, _⟩ | ⟨heq, _⟩ <;> rw [heq]
  · exact List.mem_map.mpr ⟨x, hx, if_neg hk⟩
  · exact List.mem_append_left _ hx

theorem hsetOne_key {fs : Cp} {e x : Entry} (h : x ∈ hsetOne fs e) (hk : x.key = e.key) : x = e := by
  rcases hsetOne_cases fs e with ⟨heq, _⟩ | ⟨heq, hno⟩ <;> rw [heq] at h
  · obtain ⟨y, hy, rfl⟩ := List.mem_map.mp h
    unfold rep at hk ⊢
    split
    · rfl
    · rename_i hne; rw [if_neg hne] at hk; exact absurd hk hne
  · rcases List.mem_append.mp h with h | h
    · exact absurd hk (hno x h)
    · exact List.mem_singleton.mp h

theorem mem_hsetMany {es : List Entry} : ∀ {fs : Cp} {x : Entry}, x ∈ hsetMany fs es → x ∈ es ∨ x ∈ fs := by
  induction es with
  | nil => intro fs x h; exact Or.inr h
  | cons e es ih =>
    intro fs x h
    rcases ih (fs := hsetOne fs e) h with h | h
    · exact Or.inl (List.mem_cons_of_mem _ h)
    · rcases mem_hsetOne h with rfl | h
      · exact Or.inl (List.mem_cons_self ..)
      · exact Or.inr h

theorem hsetMany_append (fs : Cp) (a b : List Entry) :
    hsetMany fs (a ++ b) = hsetMany (hsetMany fs a) b := List.foldl_append ..

theorem mem_hsetMany_keep {es : List Entry} :
    ∀ {fs : Cp} {x : Entry}, x ∈ fs → (∀ e ∈ es, x.key ≠ e.key) → x ∈ hsetMany fs es := by
  induction es with
  | nil => intro fs x hx _; exact hx
  | cons e es ih =>
    intro fs x hx hk
    exact ih (fs := hsetOne fs e) (mem_hsetOne_of_ne hx (hk e (List.mem_cons_self ..)))
      (fun e' he' => hk e' (List.mem_cons_of_mem _ he'))

theorem offSel_key {ids : List Bytes} {x e : Entry} (h : x.key = e.key) : offSel ids x = offSel ids e := by
  have h1 : x.rid = e.rid := congrArg Prod.fst h
  have h2 : x.kind = e.kind := congrArg Prod.snd h
  unfold offSel; rw [h1, h2]

theorem ridSel_key {ids : List Bytes} {x e : Entry} (h : x.key = e.key) : ridSel ids x = ridSel ids e := by
  have h1 : x.rid = e.rid := congrArg Prod.fst h
  have h2 : x.kind = e.kind := congrArg Prod.snd h
  unfold ridSel; rw [h1, h2]

theorem foldl_sel_hsetOne_irrelevant {α : Type} (g : α → Entry → α) (sel : Entry → Bool)
    (hkey : ∀ x e : Entry, x.key = e.key → sel x = sel e) (fs : Cp) (e : Entry)
    (he : sel e = false) (a : α) :
    (hsetOne fs e).foldl (fun a x => if sel x then g a x else a) a
      = fs.foldl (fun a x => if sel x then g a x else a) a := by
  rcases hsetOne_cases fs e with ⟨heq, _⟩ | ⟨heq, _⟩ <;> rw [heq]
  · rw [List.foldl_map]
    congr 1
    funext a x
    unfold rep
    split
    · rename_i hk; rw [he, hkey x e hk, he]; rfl
    · rfl
  · rw [List.foldl_append, List.foldl_cons, List.foldl_nil, he]; rfl

theorem foldl_sel_hsetMany_irrelevant {α : Type} (g : α → Entry → α) (sel : Entry → Bool)
    (hkey : ∀ x e : Entry, x.key = e.key → sel x = sel e) (es : List Entry) :
    ∀ (fs : Cp) (a : α), (∀ e ∈ es, sel e = false) →
    (hsetMany fs es).foldl (fun a x => if sel x then g a x else a) a
      = fs.foldl (fun a x => if sel x then g a x else a) a := by
  induction es with
  | nil => intro fs a _; rfl
  | cons e es ih =>
    intro fs a h
    exact (ih (hsetOne fs e) a (fun e' he' => h e' (List.mem_cons_of_mem _ he'))).trans
      (foldl_sel_hsetOne_irrelevant g sel hkey fs e (h e (List.mem_cons_self ..)) a)

theorem foldl_offStep_hsetOne_irrelevant (ids : List Bytes) (fs : Cp) (e : Entry)
    (he : offSel ids e = false) (o : Int) :
    (hsetOne fs e).foldl (offStep ids) o = fs.foldl (offStep ids) o :=
  foldl_sel_hsetOne_irrelevant (fun o e => (Resp.parseInt64 e.val).getD o) (offSel ids)
    (fun _ _ hk => offSel_key hk) fs e he o

theorem offOf_hsetMany_irrelevant (ids : List Bytes) (fs : Cp) (es : List Entry)
    (h : ∀ e ∈ es, offSel ids e = false) : offOf ids (hsetMany fs es) = offOf ids fs :=
  foldl_sel_hsetMany_irrelevant (fun o e => (Resp.parseInt64 e.val).getD o) (offSel ids)
    (fun _ _ hk => offSel_key hk) es fs (-1) h

theorem ridOf_hsetMany_irrelevant (ids : List Bytes) (fs : Cp) (es : List Entry)
    (h : ∀ e ∈ es, ridSel ids e = false) : ridOf ids (hsetMany fs es) = ridOf ids fs :=
  foldl_sel_hsetMany_irrelevant (fun _ e => e.val) (ridSel ids)
    (fun _ _ hk => ridSel_key hk) es fs qmark h

/-- whichever selected field comes last, the replaced one or an unchanged one, it carries `X` -/
theorem foldl_offStep_map_rep (ids : List Bytes) (e : Entry) (X : Int)
    (he : offSel ids e = true) (hv : Resp.parseInt64 e.val = some X) (fs : Cp) :
    ∀ (o o' : Int), Parses ids fs → (o = X → o' = X) → fs.foldl (offStep ids) o = X →
      (fs.map (rep e)).foldl (offStep ids) o' = X := by
  induction fs with
  | nil => intro o o' _ h h0; exact h h0
  | cons y fs ih =>
    intro o o' hp h h0
    rw [List.map_cons, List.foldl_cons]
    refine ih _ _ hp.tail ?_ h0
    unfold rep
    split
    · intro _; simp [offStep, he, hv]
    · by_cases hy : offSel ids y = true
      · have hy' := (offSel_iff ids y).mp hy
        obtain ⟨v, hv'⟩ := Option.isSome_iff_exists.mp (hp y (List.mem_cons_self ..) hy'.1 (Or.inl hy'.2))
        simp [offStep, hy, hv']
      · simpa [offStep, hy] using h

theorem offOf_hsetOne_set (ids : List Bytes) (fs : Cp) (e : Entry) (X : Int)
    (he : offSel ids e = true) (hv : Resp.parseInt64 e.val = some X) (hp : Parses ids fs)
    (h : offOf ids fs = X) : offOf ids (hsetOne fs e) = X := by
  rcases hsetOne_cases fs e with ⟨heq, _⟩ | ⟨heq, _⟩ <;> rw [heq]
  · exact foldl_offStep_map_rep ids e X he hv fs (-1) (-1) hp id h
  · unfold offOf; rw [List.foldl_append]; simp [offStep, he, hv]

/-- every `_offset` field of the ids is smaller than X -/
def OffBelow (ids : List Bytes) (fs : Cp) (X : Int) : Prop :=
  ∀ x ∈ fs, offSel ids x = true → ∀ v, Resp.parseInt64 x.val = some v → v < X

/-- the position `(X, d)` is held under key `n`: database `d` reads offset `X ≥ 0` with a run
    id, every `_offset` field of the ids in any other database is smaller, all numeric fields
    of the ids parse. -/
structure Holds (ids : List Bytes) (t : Target) (n : Bytes) (d : Nat) (X : Int) : Prop where
  nonneg : 0 ≤ X
  parses : ∀ db, Parses ids (t.cps db n)
  off : offOf ids (t.cps d n) = X
  rid : ridOf ids (t.cps d n) ≠ qmark
  dom : ∀ db, db ≠ d → OffBelow ids (t.cps db n) X

theorem offOf_lt_of_below {ids : List Bytes} {fs : Cp} {X : Int} (h : OffBelow ids fs X) (hX : 0 ≤ X) :
    offOf ids fs < X :=
  foldl_sel_inv (fun o e => (Resp.parseInt64 e.val).getD o) (offSel ids) (· < X) fs (-1) (by omega)
    (fun x hx hs a ha => by
      cases hv : Resp.parseInt64 x.val with
      | none => exact ha
      | some v => exact h x hx hs v hv)

private def Found (ids : List Bytes) (t : Target) (n : Bytes) (d : Nat) (X : Int)
    (acc : Option (CpInfo × Int)) : Prop :=
  ∃ c, acc = some (c, (d : Int)) ∧ c.offset = X ∧ c.runId ≠ qmark ∧ fetch ids (t.cps d n) = some c

/-- One iteration under `Holds`. Database `d` reads `X` and every other one less, so an accumulator below
    `X` stays below until `d` is visited and is replaced there; once `d` is chosen nothing beats it
    (a second visit of `d` reads the same entry: neither offset nor mtime is larger). -/
private theorem bestStep_holds {ids : List Bytes} {t : Target} {n : Bytes} {d : Nat} {X : Int}
    (h : Holds ids t n d X) (acc : Option (CpInfo × Int)) (db : Nat) :
    (Found ids t n d X acc → Found ids t n d X (bestStep ids t n acc db)) ∧
    ((∃ c r, acc = some (c, r) ∧ c.offset < X) →
      if db = d then Found ids t n d X (bestStep ids t n acc db)
      else ∃ c r, bestStep ids t n acc db = some (c, r) ∧ c.offset < X) := by
  obtain ⟨tc, htc, hoff, hrid⟩ := fetch_spec ids (t.cps db n) (h.parses db)
  have hstep : ∀ c r, bestStep ids t n (some (c, r)) db =
      if tc.offset > c.offset ∨ (tc.offset = c.offset ∧ tc.mtime > c.mtime) then some (tc, (db : Int))
      else some (c, r) := by
    intro c r; simp only [bestStep, htc]
  by_cases hdb : db = d
  · subst hdb
    have hfound : Found ids t n db X (some (tc, (db : Int))) :=
      ⟨tc, rfl, hoff.trans h.off, hrid ▸ h.rid, htc⟩
    constructor
    · rintro ⟨c, rfl, hc⟩
      rw [hstep]; split
      · exact hfound
      · exact ⟨c, rfl, hc⟩
    · rintro ⟨c, r, rfl, hc⟩
      rw [if_pos rfl, hstep, if_pos (Or.inl (by rw [hoff, h.off]; exact hc))]
      exact hfound
  · have hlt : tc.offset < X := hoff ▸ offOf_lt_of_below (h.dom db hdb) h.nonneg
    constructor
    · rintro ⟨c, rfl, hc⟩
      rw [hstep, if_neg (by rw [hc.1]; omega)]
      exact ⟨c, rfl, hc⟩
    · rintro ⟨c, r, rfl, hc⟩
      rw [if_neg hdb, hstep]; split
      · exact ⟨tc, _, rfl, hlt⟩
      · exact ⟨c, r, rfl, hc⟩

private theorem bestFold_holds {ids : List Bytes} {t : Target} {n : Bytes} {d : Nat} {X : Int}
    (h : Holds ids t n d X) (order : List Nat) :
    ∀ acc, Found ids t n d X acc ∨ (d ∈ order ∧ ∃ c r, acc = some (c, r) ∧ c.offset < X) →
      Found ids t n d X (order.foldl (bestStep ids t n) acc) := by
  induction order with
  | nil =>
    rintro acc (hf | ⟨hd, _⟩)
    · exact hf
    · cases hd
  | cons db rest ih =>
    intro acc hacc
    rw [List.foldl_cons]
    apply ih
    obtain ⟨hfound, hlow⟩ := bestStep_holds h acc db
    rcases hacc with hf | ⟨hd, hl⟩
    · exact Or.inl (hfound hf)
    · have := hlow hl
      by_cases hdb : db = d
      · rw [if_pos hdb] at this; exact Or.inl this
      · rw [if_neg hdb] at this
        exact Or.inr ⟨(List.mem_cons.mp hd).resolve_left (Ne.symm hdb), this⟩

theorem getCheckpoint_of_holds (ver : Bytes) {ids : List Bytes} {t : Target} {n : Bytes} {d : Nat}
    {X : Int} (h : Holds ids t n d X) (order : List Nat) (hd : d ∈ order) :
    ∃ c, getCheckpoint ver t n ids order = some (c, (d : Int)) ∧ c.offset = X ∧ c.runId ≠ qmark ∧
      fetch ids (t.cps d n) = some c := by
  obtain ⟨c, hacc, hc⟩ := bestFold_holds h order (some ({ version := ver }, 0))
    (Or.inr ⟨hd, _, _, rfl, show (-1 : Int) < X by have := h.nonneg; omega⟩)
  refine ⟨c, ?_, hc⟩
  unfold getCheckpoint
  rw [hacc]
  exact if_neg hc.2.1

theorem startPoint_of_holds (ver : Bytes) {ids : List Bytes} {t : Target} {n r : Bytes} {d : Nat}
    {X : Int} (hn : getHash t.hash ids = some (n, r)) (hn0 : n ≠ [])
    (h : Holds ids t n d X) (order : List Nat) (hd : d ∈ order) :
    startPoint ver ids order t = some (some (X, d)) := by
  obtain ⟨c, hc, hX, _, _⟩ := getCheckpoint_of_holds ver h order hd
  unfold startPoint
  simp only [hn, hn0, if_false, hc]
  rw [if_neg (by omega), hX, Int.toNat_natCast]

end GunYu.Checkpoint
