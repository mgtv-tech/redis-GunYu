/-
  Invariants of the two ClusterRoute transition systems (Model/ClusterRoute.lean) behind the
  theorems of Props/C19.lean. Each step function has an inversion lemma (`step…_ok`: the guards
  that passed and the new state), and every invariant is proved through those.
-/
import GunYu.Model.ClusterRoute
import GunYu.Model.ClusterSender

namespace GunYu.ClusterRoute

theorem splitFirst_spec {α : Type} {p : α → Bool} {l b : List α} {y : α} {a : List α}
    (h : splitFirst p l = some (b, y, a)) : l = b ++ y :: a ∧ p y = true ∧ ∀ z ∈ b, p z = false := by
  induction l generalizing b with
  | nil => exact nomatch h
  | cons x xs ih =>
    unfold splitFirst at h
    by_cases hx : p x = true
    · rw [if_pos hx] at h
      cases h
      exact ⟨rfl, hx, nofun⟩
    · rw [if_neg hx] at h
      cases hr : splitFirst p xs with
      | none => rw [hr] at h; exact nomatch h
      | some t =>
        rw [hr] at h
        cases h
        obtain ⟨h1, h2, h3⟩ := ih hr
        exact ⟨congrArg (x :: ·) h1, h2, List.forall_mem_cons.mpr ⟨Bool.eq_false_iff.mpr hx, h3⟩⟩

theorem guard_ok {α : Type} {p : Prop} [Decidable p] {m : String} {x : Except String α} {r : α} :
    (if p then .error m else x) = .ok r ↔ ¬ p ∧ x = .ok r := by
  by_cases hp : p <;> simp [hp]

theorem mem_insert {α : Type} {z x : α} {b a : List α} : z ∈ b ++ x :: a ↔ z = x ∨ z ∈ b ++ a := by
  simp only [List.mem_append, List.mem_cons, or_left_comm]

theorem mem_taken {α : Type} {l b a : List α} {x : α} (hl : l = b ++ x :: a) : x ∈ l :=
  hl ▸ mem_insert.mpr (.inl rfl)

theorem mem_rest {α : Type} {l b a : List α} {x z : α} (hl : l = b ++ x :: a) (hz : z ∈ b ++ a) : z ∈ l :=
  hl ▸ mem_insert.mpr (.inr hz)

theorem taken_or {α : Type} {l b a : List α} {x : α} (hl : l = b ++ x :: a) {P : α → Prop} (hx : P x) :
    ∀ z ∈ l, z ∈ b ++ a ∨ P z :=
  fun z hz => (mem_insert.mp (hl ▸ hz)).elim (fun (h : z = x) => .inr (h ▸ hx)) .inl

theorem sorted_subset_sublist : ∀ (B A : List Nat), A.Pairwise (· < ·) → B.Pairwise (· < ·) →
    (∀ a ∈ A, a ∈ B) → A.Sublist B := by
  intro B
  induction B with
  | nil =>
    intro A _ _ h
    cases A with
    | nil => exact .slnil
    | cons a as => exact nomatch h a (List.mem_cons_self ..)
  | cons b bs ih =>
    intro A hA hB h
    cases A with
    | nil => exact List.nil_sublist _
    | cons a as =>
      rw [List.pairwise_cons] at hA hB
      rcases List.mem_cons.mp (h a (List.mem_cons_self ..)) with rfl | hab
      · refine .cons_cons _ (ih as hA.2 hB.2 fun x hx => ?_)
        rcases List.mem_cons.mp (h x (List.mem_cons_of_mem _ hx)) with e | e
        · exact absurd (e ▸ hA.1 x hx) (Nat.lt_irrefl _)
        · exact e
      · have hba := hB.1 a hab
        refine .cons _ (ih (a :: as) (List.pairwise_cons.mpr hA) hB.2 fun x hx => ?_)
        rcases List.mem_cons.mp (h x hx) with e | e
        · rcases List.mem_cons.mp hx with e2 | e2
          · exact absurd (e2 ▸ e ▸ hba) (Nat.lt_irrefl _)
          · exact absurd (e ▸ hA.1 x e2) (Nat.lt_asymm hba)
        · exact e

section
variable {slotOf : Key → Slot}

theorem stepPut_ok {s s' : St} {bid : Nat} {c : Cmd} {n : Node}
    (h : stepPut slotOf s bid c n = .ok s') :
    s.nextId ≤ c.id ∧ (∀ p ∈ routes s, slotOf p.1.key = slotOf c.key → p.2 = n) ∧
    s' = { s with cur := s.cur ++ [⟨c, bid, n⟩], nextId := c.id + 1 } := by
  simp only [stepPut, guard_ok, Decidable.not_not, Except.ok.injEq] at h
  exact ⟨h.2.2.1, h.2.2.2.1, h.2.2.2.2.2.symm⟩

theorem stepDispatch_ok {s s' : St} {bid : Nat} (h : stepDispatch s bid = .ok s') :
    (∀ x ∈ s.cur, x.bid = bid) ∧ bid ∉ s.batches.map (·.1) ∧
    s' = { s with todo := s.todo ++ s.cur, batches := s.batches ++ [(bid, s.cur.map (·.cmd))], cur := [] } := by
  simp only [stepDispatch, guard_ok, Decidable.not_not, Except.ok.injEq] at h
  exact ⟨h.2.1, h.2.2.1, h.2.2.2.symm⟩

theorem stepFirst_ok {s s' : St} {n : Node} {c : Cmd} {o : Out} {b a : List Sent} {x : Sent}
    (h : stepFirst slotOf s n c o b x a = .ok s') :
    (answer slotOf s.sv n c.key false = .exec ∧
      s' = { s with todo := b ++ a, log := s.log ++ [mkExec slotOf s.sv c n false] }) ∨
    (∃ d ask, answer slotOf s.sv n c.key false ≠ .exec ∧
      s' = { s with todo := b ++ a, redir := s.redir ++ [⟨c, x.bid, n, d, ask⟩] }) ∨
    s' = { s with todo := b ++ a, bad := x.bid :: s.bad } := by
  simp only [stepFirst, guard_ok, Decidable.not_not] at h
  obtain ⟨ho, h⟩ := h
  cases o with
  | exec => exact .inl ⟨(ho.resolve_left nofun).symm, (Except.ok.inj h).symm⟩
  | moved d | ask d =>
    exact .inr (.inl ⟨d, _, by rw [← ho.resolve_left nofun]; nofun, (Except.ok.inj h).symm⟩)
  | err => exact .inr (.inr (Except.ok.inj h).symm)

theorem stepChase_ok {s s' : St} {n : Node} {c : Cmd} {asking : Bool} {o : Out}
    (h : stepChase slotOf s n c asking o = .ok s') :
    ∃ b r a, s.redir = b ++ r :: a ∧ r.cmd = c ∧ (∀ y ∈ b, y.origin ≠ r.origin) ∧
      ((answer slotOf s.sv n c.key asking = .exec ∧
          s' = { s with redir := b ++ a, log := s.log ++ [mkExec slotOf s.sv c n asking] }) ∨
       (∃ d ask, s' = { s with redir := b ++ { r with target := d, asking := ask } :: a }) ∨
       s' = { s with redir := b ++ a, bad := r.bid :: s.bad }) := by
  unfold stepChase at h
  cases hsp : splitFirst (fun r => r.cmd == c) s.redir with
  | none => rw [hsp] at h; exact nomatch h
  | some t =>
    obtain ⟨b, r, a⟩ := t
    obtain ⟨ht, hrc, _⟩ := splitFirst_spec hsp
    simp only [hsp, guard_ok, Decidable.not_not] at h
    obtain ⟨hord, _, ho, h⟩ := h
    refine ⟨b, r, a, ht, by simpa using hrc, hord, ?_⟩
    cases o with
    | exec => exact .inl ⟨(ho.resolve_left nofun).symm, (Except.ok.inj h).symm⟩
    | moved d | ask d => exact .inr (.inl ⟨d, _, (Except.ok.inj h).symm⟩)
    | err => exact .inr (.inr (Except.ok.inj h).symm)

theorem stepSrv_ok {s s' : St} {n : Node} {c : Cmd} {asking : Bool} {o : Out}
    (h : stepSrv slotOf s n c asking o = .ok s') :
    (∃ b x a, s.todo = b ++ x :: a ∧ x.node = n ∧ (∀ z ∈ b, z.node ≠ n) ∧ x.cmd = c ∧
      stepFirst slotOf s n c o b x a = .ok s') ∨
    stepChase slotOf s n c asking o = .ok s' := by
  unfold stepSrv at h
  cases hsp : splitFirst (fun x => x.node == n) s.todo with
  | none => rw [hsp] at h; exact .inr h
  | some t =>
    obtain ⟨b, x, a⟩ := t
    obtain ⟨ht, hx, hb⟩ := splitFirst_spec hsp
    simp only [hsp] at h
    by_cases hc : x.cmd = c ∧ asking = false
    · rw [if_pos hc] at h
      exact .inl ⟨b, x, a, ht, by simpa using hx, fun z hz => by simpa using hb z hz, hc.1, h⟩
    · rw [if_neg hc] at h; exact .inr h

theorem stepRecv_ok {s s' : St} {bid : Nat} {ok : Bool} (h : stepRecv s bid ok = .ok s') :
    (ok = true ∧ bid ∈ s.batches.map (·.1) ∧ (∀ x ∈ s.todo, x.bid ≠ bid) ∧ (∀ r ∈ s.redir, r.bid ≠ bid) ∧
      bid ∉ s.bad ∧ s' = { s with acked := bid :: s.acked }) ∨
    (ok = false ∧ s' = { s with failed := true }) := by
  unfold stepRecv at h
  cases ok with
  | true =>
    simp only [if_true, guard_ok, Decidable.not_not, Except.ok.injEq] at h
    exact .inl ⟨rfl, h.1, h.2.1, h.2.2.1, h.2.2.2.1, h.2.2.2.2.symm⟩
  | false => exact .inr ⟨rfl, (Except.ok.inj h).symm⟩

theorem stepUnsent_ok {s s' : St} {c : Cmd} (h : stepUnsent s c = .ok s') :
    ∃ b x a, s.todo = b ++ x :: a ∧ s' = { s with todo := b ++ a, bad := x.bid :: s.bad } := by
  unfold stepUnsent at h
  rw [guard_ok] at h
  cases hsp : splitFirst (fun x => x.cmd == c) s.todo with
  | none => rw [hsp] at h; exact nomatch h.2
  | some t =>
    obtain ⟨b, x, a⟩ := t
    rw [hsp] at h
    exact ⟨b, x, a, (splitFirst_spec hsp).1, (Except.ok.inj h.2).symm⟩

theorem stepRestart_ok {s s' : St} (h : stepRestart s = .ok s') :
    s' = { sv := s.sv, slots := s.slots, snap := s.snap, hist := s.hist ++ [s.log], down := s.down } := by
  simp only [stepRestart, guard_ok, Except.ok.injEq] at h
  exact h.2.2.symm

theorem stepMig_ok {s s' : St} {m : Mig} (h : step slotOf s (.mig m) = .ok s') :
    ∃ sv', applyMig slotOf s.sv m = some sv' ∧ s' = { s with sv := sv' } := by
  simp only [step] at h
  cases hm : applyMig slotOf s.sv m with
  | none => rw [hm] at h; exact nomatch h
  | some sv' => rw [hm] at h; exact ⟨sv', rfl, (Except.ok.inj h).symm⟩

theorem stepInstall_ok {s s' : St} (h : step slotOf s .install = .ok s') :
    ∃ f, s' = { s with slots := f, snap := none } := by
  simp only [step] at h
  cases hm : s.snap with
  | none => rw [hm] at h; exact nomatch h
  | some f => rw [hm] at h; exact ⟨f, (Except.ok.inj h).symm⟩

def idsOf {α : Type} (f : α → Cmd) (l : List α) (k : Key) : List Nat :=
  (l.filter (fun x => (f x).key == k)).map (fun x => (f x).id)

def idOf (c : Cmd) (k : Key) : List Nat := if c.key = k then [c.id] else []

theorem idsOf_nil {α : Type} (f : α → Cmd) (k : Key) : idsOf f [] k = [] := rfl

theorem idsOf_append {α : Type} (f : α → Cmd) (a b : List α) (k : Key) :
    idsOf f (a ++ b) k = idsOf f a k ++ idsOf f b k := by
  simp [idsOf]

theorem idsOf_cons {α : Type} (f : α → Cmd) (x : α) (a : List α) (k : Key) :
    idsOf f (x :: a) k = idOf (f x) k ++ idsOf f a k := by
  by_cases h : (f x).key = k <;> simp [idsOf, idOf, h]

theorem idsOf_nil_of {α : Type} {f : α → Cmd} {l : List α} {k : Key} (h : ∀ x ∈ l, (f x).key ≠ k) :
    idsOf f l k = [] := by
  simp only [idsOf, List.map_eq_nil_iff, List.filter_eq_nil_iff]
  intro x hx; simpa using h x hx

/-- a command may overtake a stretch of queue that holds nothing of its key: the ids of every key stay in order -/
theorem idOf_jump {c : Cmd} {k : Key} {m : List Nat} (h : c.key = k → m = []) (t : List Nat) :
    idOf c k ++ (m ++ t) = m ++ (idOf c k ++ t) := by
  by_cases hk : c.key = k
  · simp [h hk]
  · simp [idOf, hk]

/-- ids of the not-yet-finished commands of key `k`, in queue order -/
def outIds (s : St) (k : Key) : List Nat :=
  ((routes s).filter (fun p => p.1.key == k)).map (fun p => p.1.id)

/-- executed ids of `k` in the current segment followed by the outstanding ones -/
def seqOf (s : St) (k : Key) : List Nat := keyLog s.log k ++ outIds s k

theorem seqOf_eq (s : St) (k : Key) :
    seqOf s k = idsOf Exec.cmd s.log k ++
      (idsOf Redir.cmd s.redir k ++ (idsOf Sent.cmd s.todo k ++ idsOf Sent.cmd s.cur k)) := by
  simp [seqOf, keyLog, outIds, routes, idsOf, List.filter_map, Function.comp_def]

theorem mem_routes {s : St} {p : Cmd × Node} : p ∈ routes s ↔
    (∃ r ∈ s.redir, (r.cmd, r.origin) = p) ∨ (∃ x ∈ s.todo, (x.cmd, x.node) = p) ∨
      ∃ x ∈ s.cur, (x.cmd, x.node) = p := by
  simp only [routes, List.mem_append, List.mem_map, or_assoc]

theorem redir_route {s : St} {r : Redir} (hr : r ∈ s.redir) : (r.cmd, r.origin) ∈ routes s :=
  mem_routes.mpr (.inl ⟨r, hr, rfl⟩)

theorem todo_route {s : St} {x : Sent} (hx : x ∈ s.todo) : (x.cmd, x.node) ∈ routes s :=
  mem_routes.mpr (.inr (.inl ⟨x, hx, rfl⟩))

theorem routes_sub {s s' : St} (hr : ∀ r ∈ s'.redir, (r.cmd, r.origin) ∈ routes s)
    (ht : ∀ x ∈ s'.todo, x ∈ s.todo) (hc : s'.cur = s.cur) : ∀ p ∈ routes s', p ∈ routes s := by
  intro p hp
  rcases mem_routes.mp hp with ⟨r, h, rfl⟩ | ⟨x, h, rfl⟩ | h
  · exact hr r h
  · exact mem_routes.mpr (.inr (.inl ⟨x, ht x h, rfl⟩))
  · exact mem_routes.mpr (.inr (.inr (hc ▸ h)))

variable (slotOf) in
structure Inv (s : St) : Prop where
  sorted : ∀ k, (seqOf s k).Pairwise (· < ·)
  below : ∀ k, ∀ i ∈ seqOf s k, i < s.nextId
  stable : ∀ p ∈ routes s, ∀ q ∈ routes s, slotOf p.1.key = slotOf q.1.key → p.2 = q.2
  unserved : ∀ r ∈ s.redir, answer slotOf s.sv r.origin r.cmd.key false ≠ .exec
  histOk : ∀ seg ∈ s.hist, ∀ k, (keyLog seg k).Pairwise (· < ·)

theorem Inv_of_idle {s : St} (hs : ∀ k, seqOf s k = []) (hr : routes s = []) (hd : s.redir = [])
    (hh : ∀ seg ∈ s.hist, ∀ k, (keyLog seg k).Pairwise (· < ·)) : Inv slotOf s := by
  refine ⟨fun k => ?_, fun k i hm => ?_, fun p hp => ?_, fun r h => ?_, hh⟩
  · rw [hs]; exact .nil
  · rw [hs] at hm; exact nomatch hm
  · rw [hr] at hp; exact nomatch hp
  · rw [hd] at h; exact nomatch h

theorem Inv_init (sv : Srv) (slots : Slot → Node) : Inv slotOf (init sv slots) :=
  Inv_of_idle (fun _ => rfl) rfl rfl fun _ h => (nomatch h)

theorem Inv_of_sublist {s s' : St} (hi : Inv slotOf s)
    (hseq : ∀ k, (seqOf s' k).Sublist (seqOf s k))
    (hn : s'.nextId = s.nextId)
    (hr : ∀ p ∈ routes s', p ∈ routes s)
    (hu : ∀ r ∈ s'.redir, answer slotOf s'.sv r.origin r.cmd.key false ≠ .exec)
    (hh : s'.hist = s.hist) : Inv slotOf s' := by
  refine ⟨?_, ?_, ?_, hu, ?_⟩
  · intro k; exact (hi.sorted k).sublist (hseq k)
  · intro k i h1; rw [hn]; exact hi.below k i ((hseq k).subset h1)
  · intro p hp q hq; exact hi.stable p (hr p hp) q (hr q hq)
  · rw [hh]; exact hi.histOk

theorem Inv_put {s s' : St} {bid : Nat} {c : Cmd} {n : Node} (hi : Inv slotOf s)
    (h : stepPut slotOf s bid c n = .ok s') : Inv slotOf s' := by
  obtain ⟨hid, hst, rfl⟩ := stepPut_ok h
  have hs : ∀ k, seqOf { s with cur := s.cur ++ [⟨c, bid, n⟩], nextId := c.id + 1 } k
      = seqOf s k ++ idOf c k := by
    intro k
    simp only [seqOf_eq, idsOf_append, idsOf_cons, idsOf_nil, List.append_nil, List.append_assoc]
  have hm : ∀ k, ∀ i ∈ idOf c k, i = c.id := by
    intro k i hi'
    unfold idOf at hi'
    split at hi'
    · exact List.mem_singleton.mp hi'
    · exact nomatch hi'
  refine { hi with sorted := ?_, below := ?_, stable := ?_ }
  · intro k
    rw [hs k, List.pairwise_append]
    refine ⟨hi.sorted k, ?_, ?_⟩
    · unfold idOf; split <;> simp
    · intro a ha b hb
      rw [hm k b hb]; exact Nat.lt_of_lt_of_le (hi.below k a ha) hid
  · intro k i hi'
    rw [hs k, List.mem_append] at hi'
    show i < c.id + 1
    cases hi' with
    | inl h1 => exact Nat.lt_succ_of_lt (Nat.lt_of_lt_of_le (hi.below k i h1) hid)
    | inr h1 => rw [hm k i h1]; exact Nat.lt_succ_self _
  · intro p hp q hq hpq
    have hr : routes { s with cur := s.cur ++ [⟨c, bid, n⟩], nextId := c.id + 1 } = routes s ++ [(c, n)] := by
      simp only [routes, List.map_append, List.append_assoc, List.map_cons, List.map_nil]
    rw [hr, List.mem_append, List.mem_singleton] at hp hq
    rcases hp with hp | rfl <;> rcases hq with hq | rfl
    · exact hi.stable p hp q hq hpq
    · exact hst p hp hpq
    · exact (hst q hq hpq.symm).symm
    · rfl

/-- commands of one slot sit in one node queue -/
theorem before_free {s : St} (hi : Inv slotOf s) {b a : List Sent} {x : Sent}
    (ht : s.todo = b ++ x :: a) (hb : ∀ z ∈ b, z.node ≠ x.node) : ∀ z ∈ b, z.cmd.key ≠ x.cmd.key := by
  intro z hz hk
  exact hb z hz (hi.stable _ (todo_route (mem_rest ht (List.mem_append_left _ hz))) _ (todo_route (mem_taken ht))
    (by rw [hk]))

theorem redir_free {s : St} (hi : Inv slotOf s) {b a : List Sent} {x : Sent} (ht : s.todo = b ++ x :: a)
    (hex : answer slotOf s.sv x.node x.cmd.key false = .exec) : ∀ r ∈ s.redir, r.cmd.key ≠ x.cmd.key := by
  intro r hr hk
  have h1 : r.origin = x.node := hi.stable _ (redir_route hr) _ (todo_route (mem_taken ht)) (by rw [hk])
  have h2 := hi.unserved r hr
  rw [h1, hk] at h2
  exact h2 hex

theorem Inv_drop {s : St} {b a : List Sent} {x : Sent} (hi : Inv slotOf s) (ht : s.todo = b ++ x :: a) :
    Inv slotOf { s with todo := b ++ a, bad := x.bid :: s.bad } := by
  refine Inv_of_sublist hi (fun k => ?_) rfl (routes_sub (fun _ => redir_route (s := s)) (fun _ => mem_rest ht) rfl)
    hi.unserved rfl
  simp only [seqOf_eq, ht, idsOf_append, idsOf_cons, List.append_assoc, List.append_sublist_append_left,
    List.sublist_append_right]

theorem Inv_first {s s' : St} {o : Out} {b a : List Sent} {x : Sent}
    (hi : Inv slotOf s) (ht : s.todo = b ++ x :: a) (hb : ∀ z ∈ b, z.node ≠ x.node)
    (h : stepFirst slotOf s x.node x.cmd o b x a = .ok s') : Inv slotOf s' := by
  have hB : ∀ k, x.cmd.key = k → idsOf Sent.cmd b k = [] := fun k hk =>
    idsOf_nil_of (hk ▸ before_free hi ht hb)
  have hold : ∀ r ∈ s.redir, (r.cmd, r.origin) ∈ routes s := fun _ => redir_route
  rcases stepFirst_ok h with ⟨hex, rfl⟩ | ⟨d, ask, hne, rfl⟩ | rfl
  · -- executed: nothing of its key waits in front of it, redirected or queued
    have hR : ∀ k, x.cmd.key = k → idsOf Redir.cmd s.redir k = [] := fun k hk =>
      idsOf_nil_of (hk ▸ redir_free hi ht hex)
    refine Inv_of_sublist hi (fun k => ?_) rfl (routes_sub hold (fun _ => mem_rest ht) rfl) hi.unserved rfl
    simp only [seqOf_eq, ht, idsOf_append, idsOf_cons, idsOf_nil, mkExec, List.append_nil, List.append_assoc]
    rw [idOf_jump (hR k), idOf_jump (hB k)]
    exact .refl _
  · -- redirected: it waits behind the older redirects, still counted for its node's queue
    refine Inv_of_sublist hi (fun k => ?_) rfl
      (routes_sub (List.forall_mem_append.mpr ⟨hold, List.forall_mem_singleton.mpr ?_⟩) (fun _ => mem_rest ht) rfl)
      (List.forall_mem_append.mpr ⟨hi.unserved, List.forall_mem_singleton.mpr hne⟩) rfl
    · simp only [seqOf_eq, ht, idsOf_append, idsOf_cons, idsOf_nil, List.append_nil, List.append_assoc]
      rw [idOf_jump (hB k)]
      exact .refl _
    · exact todo_route (mem_taken ht)
  · exact Inv_drop hi ht

theorem Inv_chase {s s' : St} {n : Node} {c : Cmd} {asking : Bool} {o : Out}
    (hi : Inv slotOf s) (h : stepChase slotOf s n c asking o = .ok s') : Inv slotOf s' := by
  obtain ⟨b, r, a, ht, rfl, hord, h⟩ := stepChase_ok h
  rcases h with ⟨_, rfl⟩ | ⟨d, ask, rfl⟩ | rfl
  · -- executed: the redirects in front of it come from other queues, hence are of other slots
    have hB : ∀ k, r.cmd.key = k → idsOf Redir.cmd b k = [] := fun k hk =>
      idsOf_nil_of fun y hy hyk => hord y hy <|
        hi.stable _ (redir_route (mem_rest ht (List.mem_append_left _ hy))) _ (redir_route (mem_taken ht))
          (by rw [hyk, hk])
    refine Inv_of_sublist hi (fun k => ?_) rfl
      (routes_sub (fun _ hz => redir_route (mem_rest ht hz)) (fun _ h => h) rfl)
      (fun z hz => hi.unserved z (mem_rest ht hz)) rfl
    simp only [seqOf_eq, ht, idsOf_append, idsOf_cons, idsOf_nil, mkExec, List.append_nil, List.append_assoc]
    rw [idOf_jump (hB k)]
    exact .refl _
  · -- redirected again: same command, same queue, same place
    have hmem : ∀ z ∈ b ++ { r with target := d, asking := ask } :: a,
        ∃ z0 ∈ s.redir, z.cmd = z0.cmd ∧ z.origin = z0.origin := fun z hz => by
      rcases mem_insert.mp hz with rfl | hz
      · exact ⟨r, mem_taken ht, rfl, rfl⟩
      · exact ⟨z, mem_rest ht hz, rfl, rfl⟩
    refine Inv_of_sublist hi (fun k => ?_) rfl (routes_sub (fun z hz => ?_) (fun _ h => h) rfl)
      (fun z hz => ?_) rfl
    · simp only [seqOf_eq, ht, idsOf_append, idsOf_cons]
      exact .refl _
    · obtain ⟨z0, h0, hc, ho⟩ := hmem z hz
      rw [hc, ho]; exact redir_route h0
    · obtain ⟨z0, h0, hc, ho⟩ := hmem z hz
      rw [hc, ho]; exact hi.unserved z0 h0
  · refine Inv_of_sublist hi (fun k => ?_) rfl
      (routes_sub (fun _ hz => redir_route (mem_rest ht hz)) (fun _ h => h) rfl)
      (fun z hz => hi.unserved z (mem_rest ht hz)) rfl
    simp only [seqOf_eq, ht, idsOf_append, idsOf_cons, List.append_assoc, List.append_sublist_append_left,
      List.sublist_append_right]

theorem keyLog_sorted_of_seq {s : St} (hi : Inv slotOf s) (k : Key) :
    (keyLog s.log k).Pairwise (· < ·) :=
  (List.pairwise_append.mp (hi.sorted k)).1

theorem Inv_step {s s' : St} {e : Ev} (hi : Inv slotOf s)
    (hq : match e with | .mig m => QuietStep slotOf s m | _ => True)
    (h : step slotOf s e = .ok s') : Inv slotOf s' := by
  cases e with
  | put bid c n => exact Inv_put hi h
  | dispatch bid =>
    obtain ⟨_, _, rfl⟩ := stepDispatch_ok h
    have hr : routes { s with todo := s.todo ++ s.cur, batches := s.batches ++ [(bid, s.cur.map (·.cmd))], cur := [] }
        = routes s := by simp [routes]
    exact Inv_of_sublist hi (fun k => by simp only [seqOf, outIds, hr]; exact .refl _) rfl
      (fun p hp => hr ▸ hp) hi.unserved rfl
  | srv n c asking o =>
    rcases stepSrv_ok h with ⟨b, x, a, ht, rfl, hb, rfl, h⟩ | h
    · exact Inv_first hi ht hb h
    · exact Inv_chase hi h
  | recv bid ok =>
    -- no clause of `Inv` reads a field that the event writes
    rcases stepRecv_ok h with ⟨_, _, _, _, _, rfl⟩ | ⟨_, rfl⟩ <;>
      exact { hi with }
  | unsent c =>
    obtain ⟨b, x, a, ht, rfl⟩ := stepUnsent_ok h
    exact Inv_drop hi ht
  | mig m =>
    obtain ⟨sv', hsv, rfl⟩ := stepMig_ok h
    exact { hi with unserved := hq sv' hsv }
  | install =>
    obtain ⟨f, rfl⟩ := stepInstall_ok h
    exact { hi with }
  | nodeDown _ | snapshot | refreshNow =>
    cases h
    exact { hi with }
  | restart =>
    cases stepRestart_ok h
    refine Inv_of_idle (fun _ => rfl) rfl rfl fun seg hseg k => ?_
    rcases List.mem_append.mp hseg with h | h
    · exact hi.histOk seg h k
    · cases List.mem_singleton.mp h; exact keyLog_sorted_of_seq hi k

theorem run_cons {s s' : St} {e : Ev} {es : List Ev} (h : run slotOf s (e :: es) = .ok s') :
    ∃ s1, step slotOf s e = .ok s1 ∧ run slotOf s1 es = .ok s' := by
  unfold run at h
  cases hs : step slotOf s e with
  | error m => rw [hs] at h; exact nomatch h
  | ok s1 => rw [hs] at h; exact ⟨s1, rfl, h⟩

theorem Inv_run : ∀ (evs : List Ev) (s s' : St), Inv slotOf s → QuietRun slotOf s evs →
    run slotOf s evs = .ok s' → Inv slotOf s' := by
  intro evs
  induction evs with
  | nil => intro s s' hi _ h; cases h; exact hi
  | cons e es ih =>
    intro s s' hi hq h
    obtain ⟨s1, hs, h⟩ := run_cons h
    exact ih s1 s' (Inv_step hi hq.1 hs) (hq.2 s1 hs) h

/-- ids of the commands of key `k` in a batch, in put order -/
def idsC (cs : List Cmd) (k : Key) : List Nat := (cs.filter (fun c => c.key == k)).map (·.id)

def BatchesSorted (s : St) : Prop := ∀ b cs, (b, cs) ∈ s.batches → ∀ k, (idsC cs k).Pairwise (· < ·)

theorem BatchesSorted_step {s s' : St} {e : Ev} (hi : Inv slotOf s) (hb : BatchesSorted s)
    (h : step slotOf s e = .ok s') : BatchesSorted s' := by
  have same : ∀ {t : St}, t.batches = s.batches → BatchesSorted t := fun he b cs hm => hb b cs (he ▸ hm)
  cases e with
  | put bid c n => obtain ⟨_, _, rfl⟩ := stepPut_ok h; exact same rfl
  | dispatch bid =>
    -- the batch under construction is part of the per-key sequence that `Inv` keeps sorted
    obtain ⟨_, _, rfl⟩ := stepDispatch_ok h
    intro b cs hm k
    rcases List.mem_append.mp hm with hm | hm
    · exact hb b cs hm k
    · cases List.mem_singleton.mp hm
      have := hi.sorted k
      rw [seqOf_eq] at this
      have h2 := (List.pairwise_append.mp (List.pairwise_append.mp (List.pairwise_append.mp this).2.1).2.1).2.1
      simpa [idsC, idsOf, List.filter_map, Function.comp_def] using h2
  | srv n c asking o =>
    rcases stepSrv_ok h with ⟨b, x, a, _, _, _, _, h⟩ | h
    · rcases stepFirst_ok h with ⟨_, rfl⟩ | ⟨_, _, _, rfl⟩ | rfl <;> exact same rfl
    · obtain ⟨b, r, a, _, _, _, h⟩ := stepChase_ok h
      rcases h with ⟨_, rfl⟩ | ⟨_, _, rfl⟩ | rfl <;> exact same rfl
  | recv bid ok => rcases stepRecv_ok h with ⟨_, _, _, _, _, rfl⟩ | ⟨_, rfl⟩ <;> exact same rfl
  | unsent c => obtain ⟨_, _, _, _, rfl⟩ := stepUnsent_ok h; exact same rfl
  | mig m => obtain ⟨_, _, rfl⟩ := stepMig_ok h; exact same rfl
  | install => obtain ⟨_, rfl⟩ := stepInstall_ok h; exact same rfl
  | nodeDown _ | snapshot | refreshNow => cases h; exact same rfl
  | restart => cases stepRestart_ok h; exact fun _ _ h => (nomatch h)

theorem BatchesSorted_run : ∀ (evs : List Ev) (s s' : St), Inv slotOf s → BatchesSorted s →
    QuietRun slotOf s evs → run slotOf s evs = .ok s' → BatchesSorted s' := by
  intro evs
  induction evs with
  | nil => intro s s' _ hb _ h; cases h; exact hb
  | cons e es ih =>
    intro s s' hi hb hq h
    obtain ⟨s1, hs, h⟩ := run_cons h
    exact ih s1 s' (Inv_step hi hq.1 hs) (BatchesSorted_step hi hb hs) (hq.2 s1 hs) h

theorem answer_exec {sv : Srv} {n : Node} {k : Key} {a : Bool}
    (h : answer slotOf sv n k a = .exec) :
    n = sv.owner (slotOf k) ∨ (sv.mig (slotOf k) = some n ∧ a = true) := by
  unfold answer at h
  by_cases ho : sv.owner (slotOf k) = n
  · exact .inl ho.symm
  · rw [if_neg ho] at h
    by_cases hm : sv.mig (slotOf k) = some n ∧ a = true
    · exact .inr hm
    · rw [if_neg hm] at h; exact nomatch h

def OwnedExec (e : Exec) : Prop :=
  e.node = e.ownerThen ∨ (e.importThen = some e.node ∧ e.asking = true)

def Accounted (s : St) (b : Nat) (c : Cmd) : Prop :=
  (∃ e ∈ s.log, e.cmd = c) ∨ (∃ x ∈ s.todo, x.cmd = c ∧ x.bid = b) ∨
    (∃ r ∈ s.redir, r.cmd = c ∧ r.bid = b) ∨ b ∈ s.bad

/-- bookkeeping invariant: nothing dispatched disappears silently -/
structure Inv2 (s : St) : Prop where
  comp : ∀ b cs, (b, cs) ∈ s.batches → ∀ c ∈ cs, Accounted s b c
  acked : ∀ b ∈ s.acked, ∀ cs, (b, cs) ∈ s.batches → ∀ c ∈ cs, ∃ e ∈ s.log, e.cmd = c
  ackedKnown : ∀ b ∈ s.acked, b ∈ s.batches.map (·.1)
  owned : ∀ e ∈ s.log, OwnedExec e
  ownedH : ∀ seg ∈ s.hist, ∀ e ∈ seg, OwnedExec e

theorem Inv2_init (sv : Srv) (slots : Slot → Node) : Inv2 (init sv slots) :=
  ⟨fun _ _ h => (nomatch h), fun _ h => (nomatch h), fun _ h => (nomatch h), fun _ h => (nomatch h),
    fun _ h => (nomatch h)⟩

theorem Inv2_of {s s' : St} (hi : Inv2 s) (hb : s'.batches = s.batches) (ha : s'.acked = s.acked)
    (hh : s'.hist = s.hist)
    (hlog : ∀ e ∈ s.log, e ∈ s'.log) (hown : ∀ e ∈ s'.log, OwnedExec e)
    (hbad : ∀ b ∈ s.bad, b ∈ s'.bad)
    (htodo : ∀ x ∈ s.todo, x ∈ s'.todo ∨ Accounted s' x.bid x.cmd)
    (hredir : ∀ r ∈ s.redir, r ∈ s'.redir ∨ Accounted s' r.bid r.cmd) :
    Inv2 s' := by
  refine ⟨?_, ?_, ?_, hown, ?_⟩
  · intro b cs hm c hc
    rw [hb] at hm
    rcases hi.comp b cs hm c hc with ⟨e, he, h⟩ | ⟨x, hx, rfl, rfl⟩ | ⟨r, hr, rfl, rfl⟩ | h
    · exact .inl ⟨e, hlog e he, h⟩
    · exact (htodo x hx).elim (fun h => .inr (.inl ⟨x, h, rfl, rfl⟩)) id
    · exact (hredir r hr).elim (fun h => .inr (.inr (.inl ⟨r, h, rfl, rfl⟩))) id
    · exact .inr (.inr (.inr (hbad b h)))
  · intro b hbm cs hm c hc
    rw [ha] at hbm; rw [hb] at hm
    obtain ⟨e, he, hec⟩ := hi.acked b hbm cs hm c hc
    exact ⟨e, hlog e he, hec⟩
  · intro b hbm; rw [ha] at hbm; rw [hb]; exact hi.ackedKnown b hbm
  · rw [hh]; exact hi.ownedH

theorem owned_snoc {l : List Exec} (hl : ∀ e ∈ l, OwnedExec e) {sv : Srv} {c : Cmd} {n : Node} {a : Bool}
    (h : answer slotOf sv n c.key a = .exec) : ∀ e ∈ l ++ [mkExec slotOf sv c n a], OwnedExec e :=
  List.forall_mem_append.mpr ⟨hl, List.forall_mem_singleton.mpr (answer_exec h)⟩

theorem Inv2_drop {s : St} {b a : List Sent} {x : Sent} (hi : Inv2 s) (ht : s.todo = b ++ x :: a) :
    Inv2 { s with todo := b ++ a, bad := x.bid :: s.bad } :=
  Inv2_of hi rfl rfl rfl (fun _ h => h) hi.owned (fun _ h => List.mem_cons_of_mem _ h)
    (taken_or ht (.inr (.inr (.inr (List.mem_cons_self ..))))) (fun _ h => .inl h)

theorem Inv2_first {s s' : St} {n : Node} {o : Out} {b a : List Sent} {x : Sent}
    (hi : Inv2 s) (ht : s.todo = b ++ x :: a)
    (h : stepFirst slotOf s n x.cmd o b x a = .ok s') : Inv2 s' := by
  rcases stepFirst_ok h with ⟨hex, rfl⟩ | ⟨d, ask, _, rfl⟩ | rfl
  · exact Inv2_of hi rfl rfl rfl (fun _ h => List.mem_append_left _ h) (owned_snoc hi.owned hex)
      (fun _ h => h) (taken_or ht (.inl ⟨_, List.mem_append_right _ (List.mem_singleton_self _), rfl⟩))
      (fun _ h => .inl h)
  · exact Inv2_of hi rfl rfl rfl (fun _ h => h) hi.owned (fun _ h => h)
      (taken_or ht (.inr (.inr (.inl ⟨_, List.mem_append_right _ (List.mem_singleton_self _), rfl, rfl⟩))))
      (fun _ h => .inl (List.mem_append_left _ h))
  · exact Inv2_drop hi ht

theorem Inv2_chase {s s' : St} {n : Node} {c : Cmd} {asking : Bool} {o : Out}
    (hi : Inv2 s) (h : stepChase slotOf s n c asking o = .ok s') : Inv2 s' := by
  obtain ⟨b, r, a, ht, rfl, _, h⟩ := stepChase_ok h
  rcases h with ⟨hex, rfl⟩ | ⟨d, ask, rfl⟩ | rfl
  · exact Inv2_of hi rfl rfl rfl (fun _ h => List.mem_append_left _ h) (owned_snoc hi.owned hex)
      (fun _ h => h) (fun _ h => .inl h)
      (taken_or ht (.inl ⟨_, List.mem_append_right _ (List.mem_singleton_self _), rfl⟩))
  · exact Inv2_of hi rfl rfl rfl (fun _ h => h) hi.owned (fun _ h => h) (fun _ h => .inl h)
      (fun z hz => Or.imp_left (fun h => mem_insert.mpr (.inr h))
        (taken_or ht (P := fun z => Accounted _ z.bid z.cmd)
          (.inr (.inr (.inl ⟨{ r with target := d, asking := ask }, mem_insert.mpr (.inl rfl), rfl, rfl⟩))) z hz))
  · exact Inv2_of hi rfl rfl rfl (fun _ h => h) hi.owned (fun _ h => List.mem_cons_of_mem _ h)
      (fun _ h => .inl h) (taken_or ht (.inr (.inr (.inr (List.mem_cons_self ..)))))

theorem Inv2_step {s s' : St} {e : Ev} (hi : Inv2 s) (h : step slotOf s e = .ok s') : Inv2 s' := by
  cases e with
  | put bid c n => obtain ⟨_, _, rfl⟩ := stepPut_ok h; exact { hi with }
  | dispatch bid =>
    obtain ⟨hb, hfresh, rfl⟩ := stepDispatch_ok h
    refine { hi with comp := ?_, acked := ?_, ackedKnown := ?_ }
    · intro b cs hm c hc
      rcases List.mem_append.mp hm with hm | hm
      · rcases hi.comp b cs hm c hc with h | ⟨x, hx, h⟩ | h
        · exact .inl h
        · exact .inr (.inl ⟨x, List.mem_append_left _ hx, h⟩)
        · exact .inr (.inr h)
      · cases List.mem_singleton.mp hm
        obtain ⟨x, hx, rfl⟩ := List.mem_map.mp hc
        exact .inr (.inl ⟨x, List.mem_append_right _ hx, rfl, hb x hx⟩)
    · intro b hbm cs hm c hc
      rcases List.mem_append.mp hm with hm | hm
      · exact hi.acked b hbm cs hm c hc
      · cases List.mem_singleton.mp hm
        exact absurd (hi.ackedKnown _ hbm) hfresh
    · intro b hbm
      rw [List.map_append]
      exact List.mem_append_left _ (hi.ackedKnown b hbm)
  | srv n c asking o =>
    rcases stepSrv_ok h with ⟨b, x, a, ht, _, _, rfl, h⟩ | h
    · exact Inv2_first hi ht h
    · exact Inv2_chase hi h
  | recv bid ok =>
    rcases stepRecv_ok h with ⟨_, h1, h2, h3, h4, rfl⟩ | ⟨_, rfl⟩
    · -- the acknowledged batch has nothing queued, nothing redirected and no error: all of it executed
      refine { hi with acked := ?_, ackedKnown := ?_ }
      · intro b hb cs hm c hc
        rcases List.mem_cons.mp hb with h | hb
        · rw [h] at hm
          rcases hi.comp bid cs hm c hc with h0 | ⟨x, hx, _, hxb⟩ | ⟨r, hr, _, hrb⟩ | hbad
          · exact h0
          · exact absurd hxb (h2 x hx)
          · exact absurd hrb (h3 r hr)
          · exact absurd hbad h4
        · exact hi.acked b hb cs hm c hc
      · intro b hb
        rcases List.mem_cons.mp hb with h | hb
        · rw [h]; exact h1
        · exact hi.ackedKnown b hb
    · exact { hi with }
  | unsent c =>
    obtain ⟨b, x, a, ht, rfl⟩ := stepUnsent_ok h
    exact Inv2_drop hi ht
  | mig m => obtain ⟨_, _, rfl⟩ := stepMig_ok h; exact { hi with }
  | install => obtain ⟨_, rfl⟩ := stepInstall_ok h; exact { hi with }
  | nodeDown _ | snapshot | refreshNow => cases h; exact { hi with }
  | restart =>
    cases stepRestart_ok h
    refine ⟨fun _ _ h => (nomatch h), fun _ h => (nomatch h), fun _ h => (nomatch h), fun _ h => (nomatch h),
      fun seg hseg e he => ?_⟩
    rcases List.mem_append.mp hseg with h | h
    · exact hi.ownedH seg h e he
    · cases List.mem_singleton.mp h; exact hi.owned e he

theorem Inv2_run : ∀ (evs : List Ev) (s s' : St), Inv2 s → run slotOf s evs = .ok s' → Inv2 s' := by
  intro evs
  induction evs with
  | nil => intro s s' hi h; cases h; exact hi
  | cons e es ih =>
    intro s s' hi h
    obtain ⟨s1, hs, h⟩ := run_cons h
    exact ih s1 s' (Inv2_step hi hs) h

def Live (t : Txn) : Prop := t.phase = .pending ∨ t.phase = .abandoned

theorem Live.not_committed {t : Txn} (h : Live t) : t.phase ≠ .committed :=
  fun hc => h.elim (fun h => nomatch hc.symm.trans h) (fun h => nomatch hc.symm.trans h)

theorem tstepBegin_ok {s s' : TSt} {tid : Nat} {cmds : List Cmd} {n : Node}
    (h : tstepBegin slotOf s tid cmds n = .ok s') :
    s.nextTid ≤ tid ∧ s' = { s with txns := s.txns ++ [⟨tid, cmds, n, n, false, .pending⟩], nextTid := tid + 1 } := by
  unfold tstepBegin at h
  cases cmds with
  | nil => exact nomatch h
  | cons c cs =>
    simp only [guard_ok, Decidable.not_not, Except.ok.injEq] at h
    exact ⟨h.1, h.2.2.2.2.symm⟩

theorem tstepSrv_ok {s s' : TSt} {n : Node} {tid : Nat} {asking : Bool} {o : Out}
    (h : tstepSrv slotOf s n tid asking o = .ok s') :
    ∃ b t a, s.txns = b ++ t :: a ∧ t.tid = tid ∧ Live t ∧
      ((tanswer slotOf s.sv n (t.cmds.map (·.key)) asking = .exec ∧
          s' = { s with txns := b ++ { t with phase := .committed } :: a,
                        log := s.log ++ [⟨tid, t.cmds, n, asking,
                          (t.cmds.head?).map (fun c => s.sv.owner (slotOf c.key)),
                          (t.cmds.head?).bind (fun c => s.sv.mig (slotOf c.key))⟩] }) ∨
       ∃ t', s' = { s with txns := b ++ t' :: a } ∧ t'.tid = t.tid ∧ t'.phase ≠ .committed) := by
  unfold tstepSrv at h
  cases hsp : splitFirst (fun t => t.tid == tid) s.txns with
  | none => rw [hsp] at h; exact nomatch h
  | some r =>
    obtain ⟨b, t, a⟩ := r
    obtain ⟨hl, htid, _⟩ := splitFirst_spec hsp
    simp only [hsp, guard_ok, Decidable.not_not] at h
    obtain ⟨hlive, _, ho, h⟩ := h
    have hnc := Live.not_committed hlive
    refine ⟨b, t, a, hl, by simpa using htid, hlive, ?_⟩
    cases o with
    | exec =>
      refine .inl ⟨?_, (Except.ok.inj h).symm⟩
      rcases ho with h | ⟨_, h⟩ | ⟨h, _⟩
      · exact nomatch h
      · exact h
      · exact absurd rfl h
    | moved d | ask d =>
      by_cases hp : t.phase = .pending
      · simp only [if_pos hp] at h
        exact .inr ⟨_, (Except.ok.inj h).symm, rfl, hnc⟩
      · simp only [if_neg hp] at h
        exact .inr ⟨_, (Except.ok.inj h).symm, rfl, nofun⟩
    | err => exact .inr ⟨_, (Except.ok.inj h).symm, rfl, nofun⟩

theorem tstepRecv_ok {s s' : TSt} {tid : Nat} {ok : Bool} (h : tstepRecv s tid ok = .ok s') :
    ∃ b t a, s.txns = b ++ t :: a ∧ t.tid = tid ∧
      ((t.phase = .committed ∧ s' = { s with acked := tid :: s.acked }) ∨
       (t.phase = .pending ∧ s' = { s with txns := b ++ { t with phase := .abandoned } :: a }) ∨ s' = s) := by
  unfold tstepRecv at h
  cases hsp : splitFirst (fun t => t.tid == tid) s.txns with
  | none => rw [hsp] at h; exact nomatch h
  | some r =>
    obtain ⟨b, t, a⟩ := r
    obtain ⟨hl, htid, _⟩ := splitFirst_spec hsp
    simp only [hsp] at h
    refine ⟨b, t, a, hl, by simpa using htid, ?_⟩
    cases ok with
    | true =>
      by_cases hc : t.phase = .committed
      · simp only [if_true, if_pos hc] at h; exact .inl ⟨hc, (Except.ok.inj h).symm⟩
      · simp only [if_true, if_neg hc] at h; exact nomatch h
    | false =>
      by_cases hp : t.phase = .pending
      · simp [if_pos hp] at h; exact .inr (.inl ⟨hp, h.symm⟩)
      · simp [if_neg hp] at h; exact .inr (.inr h.symm)

theorem tstepMig_ok {s s' : TSt} {m : Mig} (h : tstep slotOf s (.mig m) = .ok s') :
    ∃ sv', s' = { s with sv := sv' } := by
  simp only [tstep] at h
  cases hm : applyMig slotOf s.sv m with
  | none => rw [hm] at h; exact nomatch h
  | some sv' => rw [hm] at h; exact ⟨sv', (Except.ok.inj h).symm⟩

theorem tstepInstall_ok {s s' : TSt} (h : tstep slotOf s .install = .ok s') :
    ∃ f, s' = { s with slots := f, snap := none } := by
  simp only [tstep] at h
  cases hm : s.snap with
  | none => rw [hm] at h; exact nomatch h
  | some f => rw [hm] at h; exact ⟨f, (Except.ok.inj h).symm⟩

theorem trun_cons {s s' : TSt} {e : TEv} {es : List TEv} (h : trun slotOf s (e :: es) = .ok s') :
    ∃ s1, tstep slotOf s e = .ok s1 ∧ trun slotOf s1 es = .ok s' := by
  unfold trun at h
  cases hs : tstep slotOf s e with
  | error m => rw [hs] at h; exact nomatch h
  | ok s1 => rw [hs] at h; exact ⟨s1, rfl, h⟩

theorem tanswer_exec {sv : Srv} {n : Node} {keys : List Key} {a : Bool}
    (h : tanswer slotOf sv n keys a = .exec) :
    ∃ k rest, keys = k :: rest ∧
      (sv.owner (slotOf k) = n ∨ (sv.mig (slotOf k) = some n ∧ a = true)) := by
  unfold tanswer at h
  cases keys with
  | nil => exact nomatch h
  | cons k rest =>
    refine ⟨k, rest, rfl, ?_⟩
    by_cases ho : sv.owner (slotOf k) = n
    · exact .inl ho
    · by_cases hm : sv.mig (slotOf k) = some n ∧ a = true
      · exact .inr hm
      · simp only [if_neg ho, if_neg hm] at h; exact nomatch h

def OwnedTExec (e : TExec) : Prop :=
  e.ownerThen = some e.node ∨ (e.importThen = some e.node ∧ e.asking = true)

structure TInv (s : TSt) : Prop where
  below : ∀ t ∈ s.txns, t.tid < s.nextTid
  incr : (s.txns.map (·.tid)).Pairwise (· < ·)
  logged : ∀ e ∈ s.log, ∃ t ∈ s.txns, t.tid = e.tid ∧ t.phase = .committed ∧ t.cmds = e.cmds
  clogged : ∀ t ∈ s.txns, t.phase = .committed → ∃ e ∈ s.log, e.tid = t.tid
  nodup : (s.log.map (·.tid)).Nodup
  acked : ∀ b ∈ s.acked, ∃ e ∈ s.log, e.tid = b
  owned : ∀ e ∈ s.log, OwnedTExec e

theorem TInv_init (sv : Srv) (slots : Slot → Node) : TInv (tinit sv slots) :=
  ⟨fun _ h => (nomatch h), .nil, fun _ h => (nomatch h), fun _ h => (nomatch h), .nil,
    fun _ h => (nomatch h), fun _ h => (nomatch h)⟩

theorem split_tid_ne {b a : List Txn} {t : Txn} (hp : ((b ++ t :: a).map (·.tid)).Pairwise (· < ·)) :
    ∀ x ∈ b ++ a, x.tid ≠ t.tid := by
  simp only [List.map_append, List.map_cons, List.pairwise_append, List.pairwise_cons,
    List.mem_map, List.mem_cons] at hp
  obtain ⟨_, ⟨ha, _⟩, hba⟩ := hp
  intro x hx
  rcases List.mem_append.mp hx with h | h
  · exact Nat.ne_of_lt (hba x.tid ⟨x, h, rfl⟩ t.tid (.inl rfl))
  · exact Nat.ne_of_gt (ha x.tid ⟨x, h, rfl⟩)

theorem split_unique {l b a : List Txn} {t t0 : Txn} (hl : l = b ++ t :: a)
    (hp : (l.map (·.tid)).Pairwise (· < ·)) (h0 : t0 ∈ l) (ht : t0.tid = t.tid) :
    t0 = t := by
  subst hl
  rcases mem_insert.mp h0 with h | h
  · exact h
  · exact absurd ht (split_tid_ne hp t0 h)

theorem TInv_replace {s s' : TSt} {b a : List Txn} {t t' : Txn} (hi : TInv s)
    (hl : s.txns = b ++ t :: a) (hl' : s'.txns = b ++ t' :: a) (htid : t'.tid = t.tid)
    (hnc : t.phase ≠ .committed) (hnc' : t'.phase ≠ .committed)
    (hlog : s'.log = s.log) (hack : s'.acked = s.acked) (hn : s'.nextTid = s.nextTid) : TInv s' := by
  refine { below := ?_, incr := ?_, logged := ?_, clogged := ?_,
           nodup := hlog ▸ hi.nodup, acked := hack ▸ hlog ▸ hi.acked, owned := hlog ▸ hi.owned }
  · intro x hx
    rw [hn]
    rcases mem_insert.mp (hl' ▸ hx) with rfl | hx
    · rw [htid]; exact hi.below t (mem_taken hl)
    · exact hi.below x (mem_rest hl hx)
  · have : s'.txns.map (·.tid) = s.txns.map (·.tid) := by simp [hl, hl', htid]
    rw [this]; exact hi.incr
  · intro e he
    obtain ⟨t0, ht0, h1, h2, h3⟩ := hi.logged e (hlog ▸ he)
    refine ⟨t0, ?_, h1, h2, h3⟩
    rcases mem_insert.mp (hl ▸ ht0) with rfl | h
    · exact absurd h2 hnc
    · rw [hl']; exact mem_insert.mpr (.inr h)
  · intro x hx hc
    rw [hlog]
    rcases mem_insert.mp (hl' ▸ hx) with rfl | hx
    · exact absurd hc hnc'
    · exact hi.clogged x (mem_rest hl hx) hc

theorem TInv_commit {s : TSt} {b a : List Txn} {t : Txn} {e : TExec} (hi : TInv s)
    (hl : s.txns = b ++ t :: a) (hnc : t.phase ≠ .committed) (hid : e.tid = t.tid) (hcmds : e.cmds = t.cmds)
    (hown : OwnedTExec e) :
    TInv { s with txns := b ++ { t with phase := .committed } :: a, log := s.log ++ [e] } := by
  refine { below := ?_, incr := ?_, logged := ?_, clogged := ?_, nodup := ?_, acked := ?_, owned := ?_ }
  · intro x hx
    rcases mem_insert.mp hx with rfl | hx
    · exact hi.below t (mem_taken hl)
    · exact hi.below x (mem_rest hl hx)
  · have := hi.incr; rw [hl] at this; simpa using this
  · intro e0 he
    rcases List.mem_append.mp he with he | he
    · obtain ⟨t0, ht0, h1, h2, h3⟩ := hi.logged e0 he
      refine ⟨t0, ?_, h1, h2, h3⟩
      rcases mem_insert.mp (hl ▸ ht0) with rfl | h
      · exact absurd h2 hnc
      · exact mem_insert.mpr (.inr h)
    · cases List.mem_singleton.mp he
      exact ⟨{ t with phase := .committed }, mem_insert.mpr (.inl rfl), hid.symm, rfl, hcmds.symm⟩
  · intro x hx hc
    rcases mem_insert.mp hx with rfl | hx
    · exact ⟨e, List.mem_append_right _ (List.mem_singleton_self _), hid⟩
    · obtain ⟨e0, he, h1⟩ := hi.clogged x (mem_rest hl hx) hc
      exact ⟨e0, List.mem_append_left _ he, h1⟩
  · -- a logged transaction is committed, and `t` is the only record of its tid
    rw [List.map_append, List.nodup_append]
    refine ⟨hi.nodup, .cons nofun .nil, ?_⟩
    intro x hx y hy heq
    cases List.mem_singleton.mp hy
    obtain ⟨e0, he, rfl⟩ := List.mem_map.mp hx
    obtain ⟨t0, ht0, h1, h2, _⟩ := hi.logged e0 he
    cases split_unique hl hi.incr ht0 (h1.trans (heq.trans hid))
    exact hnc h2
  · intro x hx
    obtain ⟨e0, he, h1⟩ := hi.acked x hx
    exact ⟨e0, List.mem_append_left _ he, h1⟩
  · exact List.forall_mem_append.mpr ⟨hi.owned, List.forall_mem_singleton.mpr hown⟩

theorem TInv_step {s s' : TSt} {e : TEv} (hi : TInv s) (h : tstep slotOf s e = .ok s') : TInv s' := by
  cases e with
  | «begin» tid cmds n =>
    obtain ⟨hle, rfl⟩ := tstepBegin_ok h
    refine { hi with below := ?_, incr := ?_, logged := ?_, clogged := ?_ }
    · exact List.forall_mem_append.mpr ⟨fun t ht => Nat.lt_succ_of_lt (Nat.lt_of_lt_of_le (hi.below t ht) hle),
        List.forall_mem_singleton.mpr (Nat.lt_succ_self _)⟩
    · rw [List.map_append, List.pairwise_append]
      refine ⟨hi.incr, List.pairwise_singleton _ _, ?_⟩
      intro x hx y hy
      obtain ⟨t, ht, rfl⟩ := List.mem_map.mp hx
      cases List.mem_singleton.mp hy
      exact Nat.lt_of_lt_of_le (hi.below t ht) hle
    · intro e he
      obtain ⟨t0, ht0, h⟩ := hi.logged e he
      exact ⟨t0, List.mem_append_left _ ht0, h⟩
    · exact List.forall_mem_append.mpr ⟨hi.clogged, List.forall_mem_singleton.mpr nofun⟩
  | srv n tid asking o =>
    obtain ⟨b, t, a, hl, htid, hlive, h⟩ := tstepSrv_ok h
    have hnc := Live.not_committed hlive
    rcases h with ⟨hex, rfl⟩ | ⟨t', rfl, ht', hnc'⟩
    · refine TInv_commit hi hl hnc htid.symm rfl ?_
      obtain ⟨k, rest, hk, hown⟩ := tanswer_exec hex
      cases hc : t.cmds with
      | nil => rw [hc] at hk; exact nomatch hk
      | cons c cs =>
        rw [hc] at hk
        cases hk
        exact hown.imp (congrArg some) id
    · exact TInv_replace hi hl rfl ht' hnc hnc' rfl rfl rfl
  | recv tid ok =>
    obtain ⟨b, t, a, hl, htid, h⟩ := tstepRecv_ok h
    rcases h with ⟨hc, rfl⟩ | ⟨hp, rfl⟩ | rfl
    · refine { hi with acked := fun x hx => ?_ }
      rcases List.mem_cons.mp hx with rfl | hx
      · obtain ⟨e, he, h1⟩ := hi.clogged t (mem_taken hl) hc
        exact ⟨e, he, h1.trans htid⟩
      · exact hi.acked x hx
    · exact TInv_replace hi hl rfl rfl (fun h => nomatch hp.symm.trans h) nofun rfl rfl rfl
    · exact hi
  | mig m =>
    obtain ⟨_, rfl⟩ := tstepMig_ok h
    exact { hi with }
  | install =>
    obtain ⟨_, rfl⟩ := tstepInstall_ok h
    exact { hi with }
  | snapshot | refreshNow =>
    cases h
    exact { hi with }

theorem TInv_run : ∀ (evs : List TEv) (s s' : TSt), TInv s → trun slotOf s evs = .ok s' → TInv s' := by
  intro evs
  induction evs with
  | nil => intro s s' hi h; cases h; exact hi
  | cons e es ih =>
    intro s s' hi h
    obtain ⟨s1, hs, h⟩ := trun_cons h
    exact ih s1 s' (TInv_step hi hs) h

variable (slotOf) in
/-- sequential use of the transaction batcher (Exec = Dispatch + Receive, one
    transaction at a time): a transaction begins only when no earlier one can
    still execute -/
def TSeqRun : TSt → List TEv → Prop
  | _, [] => True
  | s, e :: es =>
    (match e with
     | .begin _ _ _ => ∀ t ∈ s.txns, ¬ Live t
     | _ => True) ∧ ∀ s', tstep slotOf s e = .ok s' → TSeqRun s' es

structure TSeq (s : TSt) : Prop where
  sorted : (s.log.map (·.tid)).Pairwise (· < ·)
  ahead : ∀ t ∈ s.txns, Live t → ∀ e ∈ s.log, e.tid < t.tid
  one : ∀ t1 ∈ s.txns, ∀ t2 ∈ s.txns, Live t1 → Live t2 → t1.tid = t2.tid

theorem TSeq_init (sv : Srv) (slots : Slot → Node) : TSeq (tinit sv slots) :=
  ⟨.nil, fun _ h => (nomatch h), fun _ h => (nomatch h)⟩

theorem TSeq_replace {s s' : TSt} {b a : List Txn} {t t' : Txn} (hi : TSeq s)
    (hl : s.txns = b ++ t :: a) (hl' : s'.txns = b ++ t' :: a) (htid : t'.tid = t.tid)
    (hlive : Live t' → Live t) (hlog : s'.log = s.log) : TSeq s' := by
  have hin : ∀ x ∈ s'.txns, Live x → ∃ y ∈ s.txns, Live y ∧ y.tid = x.tid := by
    intro x hx hlx
    rcases mem_insert.mp (hl' ▸ hx) with rfl | hx
    · exact ⟨t, mem_taken hl, hlive hlx, htid.symm⟩
    · exact ⟨x, mem_rest hl hx, hlx, rfl⟩
  refine ⟨hlog ▸ hi.sorted, ?_, ?_⟩
  · intro x hx hlx e he
    obtain ⟨y, hy, hly, hyt⟩ := hin x hx hlx
    rw [← hyt]; exact hi.ahead y hy hly e (hlog ▸ he)
  · intro x1 h1 x2 h2 l1 l2
    obtain ⟨y1, hy1, hly1, e1⟩ := hin x1 h1 l1
    obtain ⟨y2, hy2, hly2, e2⟩ := hin x2 h2 l2
    rw [← e1, ← e2]; exact hi.one y1 hy1 y2 hy2 hly1 hly2

theorem TSeq_step {s s' : TSt} {e : TEv} (hv : TInv s) (hi : TSeq s)
    (hq : match e with | .begin _ _ _ => ∀ t ∈ s.txns, ¬ Live t | _ => True)
    (h : tstep slotOf s e = .ok s') : TSeq s' := by
  cases e with
  | «begin» tid cmds n =>
    -- no earlier transaction is live: the new one is the only live one, ahead of the whole log
    obtain ⟨hle, rfl⟩ := tstepBegin_ok h
    have hnew : ∀ t ∈ s.txns ++ [⟨tid, cmds, n, n, false, .pending⟩], Live t → t = ⟨tid, cmds, n, n, false, .pending⟩ :=
      fun t ht hlt => (List.mem_append.mp ht).elim (fun ht => absurd hlt (hq t ht)) List.mem_singleton.mp
    refine { hi with ahead := ?_, one := ?_ }
    · intro t ht hlt e he
      cases hnew t ht hlt
      obtain ⟨t0, ht0, h5, _, _⟩ := hv.logged e he
      exact h5 ▸ Nat.lt_of_lt_of_le (hv.below t0 ht0) hle
    · intro t1 ht1 t2 ht2 l1 l2
      rw [hnew t1 ht1 l1, hnew t2 ht2 l2]
  | srv n tid asking o =>
    obtain ⟨b, t, a, hl, htid, hlive, h⟩ := tstepSrv_ok h
    rcases h with ⟨_, rfl⟩ | ⟨t', rfl, ht', _⟩
    · -- the one live transaction commits: no live one is left, and it was ahead of the log
      have htm : t ∈ s.txns := mem_taken hl
      have hdead : ∀ x ∈ b ++ { t with phase := .committed } :: a, ¬ Live x := by
        intro x hx hlx
        rcases mem_insert.mp hx with rfl | hx
        · exact hlx.elim nofun nofun
        · exact split_tid_ne (hl ▸ hv.incr) x hx
            (hi.one x (mem_rest hl hx) t htm hlx hlive)
      refine ⟨?_, fun x hx hlx => absurd hlx (hdead x hx), fun x hx _ _ hlx => absurd hlx (hdead x hx)⟩
      rw [List.map_append, List.pairwise_append]
      refine ⟨hi.sorted, List.pairwise_singleton _ _, ?_⟩
      intro x hx y hy
      obtain ⟨e, he, rfl⟩ := List.mem_map.mp hx
      cases List.mem_singleton.mp hy
      exact htid ▸ hi.ahead t htm hlive e he
    · exact TSeq_replace hi hl rfl ht' (fun _ => hlive) rfl
  | recv tid ok =>
    obtain ⟨b, t, a, hl, _, h⟩ := tstepRecv_ok h
    rcases h with ⟨_, rfl⟩ | ⟨hp, rfl⟩ | rfl
    · exact { hi with }
    · exact TSeq_replace hi hl rfl rfl (fun _ => .inl hp) rfl
    · exact hi
  | mig m => obtain ⟨_, rfl⟩ := tstepMig_ok h; exact { hi with }
  | install => obtain ⟨_, rfl⟩ := tstepInstall_ok h; exact { hi with }
  | snapshot | refreshNow => cases h; exact { hi with }

theorem TSeq_run : ∀ (evs : List TEv) (s s' : TSt), TInv s → TSeq s → TSeqRun slotOf s evs →
    trun slotOf s evs = .ok s' → TSeq s' := by
  intro evs
  induction evs with
  | nil => intro s s' _ hi _ h; cases h; exact hi
  | cons e es ih =>
    intro s s' hv hi hq h
    obtain ⟨s1, hs, h⟩ := trun_cons h
    exact ih s1 s' (TInv_step hv hs) (TSeq_step hv hi hq.1 hs) (hq.2 s1 hs) h

variable (slotOf) in
theorem quietRun_of_B : ∀ (evs : List Ev) (s : St), quietRunB slotOf s evs = true → QuietRun slotOf s evs := by
  intro evs
  induction evs with
  | nil => intro s _; trivial
  | cons e es ih =>
    intro s h
    simp only [quietRunB, Bool.and_eq_true] at h
    refine ⟨?_, fun s' hs' => ih s' (by simpa only [hs'] using h.2)⟩
    cases e with
    | mig m =>
      intro sv' hsv r hr
      have h1 := h.1
      simp only [quietStepB, hsv, List.all_eq_true, decide_eq_true_eq] at h1
      exact h1 r hr
    | _ => trivial

variable (slotOf) in
/-- decidable form of `TSeqRun` -/
def tseqB : TSt → List TEv → Bool
  | _, [] => true
  | s, e :: es =>
    (match e with
     | .begin _ _ _ => s.txns.all (fun t => t.phase != .pending && t.phase != .abandoned)
     | _ => true) &&
    (match tstep slotOf s e with
     | .ok s' => tseqB s' es
     | .error _ => true)

variable (slotOf) in
theorem tseqRun_of_B : ∀ (evs : List TEv) (s : TSt), tseqB slotOf s evs = true → TSeqRun slotOf s evs := by
  intro evs
  induction evs with
  | nil => intro s _; trivial
  | cons e es ih =>
    intro s h
    simp only [tseqB, Bool.and_eq_true] at h
    refine ⟨?_, fun s' hs' => ih s' (by simpa only [hs'] using h.2)⟩
    cases e with
    | «begin» tid cmds n =>
      intro t ht hl
      have h1 := h.1
      simp only [List.all_eq_true, Bool.and_eq_true, bne_iff_ne, ne_eq] at h1
      exact hl.elim (h1 t ht).1 (h1 t ht).2
    | _ => trivial

end

end GunYu.ClusterRoute

namespace GunYu.ClusterSender

theorem sendFunc_cons_some (m : SMode) (e : SErr) (outs : List (Option SErr)) (r : Nat) :
    (sendFunc m (some e :: outs) r).1 = 1 ∨
    (r + 1 < 3 ∧ (sendFunc m (some e :: outs) r).1 = (sendFunc m outs (r + 1)).1 + 1) := by
  by_cases hr : r + 1 < 3
  · cases e <;> simp only [sendFunc, hr, and_true, if_true] <;> split <;> simp
  · cases e <;> simp only [sendFunc, hr, and_false, if_false] <;> simp

theorem sendFunc_bound (m : SMode) : ∀ (outs : List (Option SErr)) (r : Nat),
    (sendFunc m outs r).1 ≤ 1 ∨ (sendFunc m outs r).1 + r ≤ 3 := by
  intro outs
  induction outs with
  | nil => intro r; exact .inl (Nat.zero_le _)
  | cons o rest ih =>
    intro r
    cases o with
    | none => exact .inl (Nat.le_refl _)
    | some e =>
      rcases sendFunc_cons_some m e rest r with h | ⟨hr, h⟩
      · exact .inl (Nat.le_of_eq h)
      · rw [h]; have := ih (r + 1); omega

end GunYu.ClusterSender
