/-
  Lemmas for C14: RebuildBisyncFrontier does not stop early — the rebuilt sequence number is the
  LARGEST one reachable without passing a missing number. Core only.
-/
import GunYu.Proofs.Frontier

namespace GunYu.Frontier
open GunYu

/-- records numbered above the frontier -/
def above (recs : List Rec) (c : Int) : Nat := (recs.filter (fun r => decide (c < r.seq))).length

theorem above_le_length (recs : List Rec) (c : Int) : above recs c ≤ recs.length :=
  List.length_filter_le _ _

theorem above_succ_lt {recs : List Rec} {k : Int} {r : Rec} (hr : r ∈ recs) (hs : r.seq = k + 1) :
    above recs (k + 1) < above recs k := by
  have e : recs.filter (fun r => decide (k + 1 < r.seq)) =
      (recs.filter (fun r => decide (k < r.seq))).filter (fun r => decide (k + 1 < r.seq)) := by
    rw [List.filter_filter]
    apply List.filter_congr
    intro x _
    by_cases h : k + 1 < x.seq
    · have h' : k < x.seq := by omega
      simp only [h, h', decide_true, Bool.and_self]
    · simp only [h, decide_false, Bool.false_and]
  unfold above
  rw [e]
  apply List.length_filter_lt_length_iff_exists.mpr
  exact ⟨r, List.mem_filter.mpr ⟨hr, by simp only [decide_eq_true_eq]; omega⟩,
    by simp only [decide_eq_true_eq]; omega⟩

/-- `advance` with at least as much fuel as there are records above the frontier ends where the next
    number has no record (each step consumes a record numbered above: pigeonhole) -/
theorem advance_fix (recs : List Rec) :
    ∀ (F : Nat) (cur : Snap), above recs cur.seq ≤ F → pick recs ((advance F recs cur).seq + 1) = none := by
  -- a record found for the next number counts as above the frontier before the step and not after it
  have step : ∀ (cur : Snap) (r : Rec), pick recs (cur.seq + 1) = some r →
      above recs (stepSnap cur r).seq < above recs cur.seq := by
    intro cur r hp
    obtain ⟨hs, _, hm⟩ := pick_some hp
    exact (show (stepSnap cur r).seq = cur.seq + 1 from hs) ▸ above_succ_lt hm hs
  intro F
  induction F with
  | zero =>
    intro cur h
    cases hp : pick recs (cur.seq + 1) with
    | none => exact hp
    | some r => have := step cur r hp; omega
  | succ F ih =>
    intro cur h
    unfold advance
    cases hp : pick recs (cur.seq + 1) with
    | none => exact hp
    | some r => have := step cur r hp; exact ih _ (by omega)

def minStep (ms : Int) (r : Rec) : Int := if r.seq ≤ 0 then ms else if ms = 0 ∨ r.seq < ms then r.seq else ms

theorem minSeq_eq_fold (recs : List Rec) : minSeq recs = recs.foldl minStep 0 := rfl

/-- `m` is the smallest positive sequence number among `seen` (0: there is none) -/
def IsMin (seen : List Rec) (m : Int) : Prop :=
  0 ≤ m ∧ (m ≠ 0 → ∃ r ∈ seen, r.seq = m) ∧ ∀ r ∈ seen, 0 < r.seq → 0 < m ∧ m ≤ r.seq

theorem isMin_step (seen : List Rec) (m : Int) (x : Rec) (h : IsMin seen m) :
    IsMin (seen ++ [x]) (minStep m x) := by
  obtain ⟨h0, hw, hb⟩ := h
  have hmem : ∀ r, r ∈ seen ++ [x] ↔ r ∈ seen ∨ r = x := by
    intro r; rw [List.mem_append, List.mem_singleton]
  have keep : (0 < x.seq → 0 < m ∧ m ≤ x.seq) → IsMin (seen ++ [x]) m := by
    intro hx
    refine ⟨h0, fun hm => ?_, fun r hr hp => ?_⟩
    · obtain ⟨r, hr, hs⟩ := hw hm
      exact ⟨r, (hmem r).mpr (Or.inl hr), hs⟩
    · rcases (hmem r).mp hr with hr | rfl
      · exact hb r hr hp
      · exact hx hp
  unfold minStep
  by_cases hx : x.seq ≤ 0
  · rw [if_pos hx]; exact keep (fun hp => by omega)
  · rw [if_neg hx]
    by_cases hc : m = 0 ∨ x.seq < m
    · rw [if_pos hc]
      refine ⟨by omega, fun _ => ⟨x, (hmem x).mpr (Or.inr rfl), rfl⟩, fun r hr hp => ?_⟩
      rcases (hmem r).mp hr with hr | rfl
      · have := hb r hr hp; omega
      · omega
    · rw [if_neg hc]; exact keep (fun _ => by omega)

theorem minSeq_spec (recs : List Rec) :
    (minSeq recs = 0 → ∀ r ∈ recs, r.seq ≤ 0) ∧
    (minSeq recs ≠ 0 → 0 < minSeq recs ∧ (∃ r ∈ recs, r.seq = minSeq recs) ∧
      ∀ r ∈ recs, 0 < r.seq → minSeq recs ≤ r.seq) := by
  obtain ⟨h0, hw, hb⟩ : IsMin recs (minSeq recs) :=
    foldl_seen isMin_step recs [] 0 ⟨Int.le_refl _, fun h => absurd rfl h, fun r hr => nomatch hr⟩
  refine ⟨fun hm r hr => ?_, fun hm => ⟨by omega, hw hm, fun r hr hp => (hb r hr hp).2⟩⟩
  by_cases hp : 0 < r.seq
  · have := hb r hr hp; omega
  · omega

theorem minSeq_eq_one_of_mem {recs : List Rec} {r : Rec} (hr : r ∈ recs) (hs : r.seq = 1) :
    minSeq recs = 1 := by
  obtain ⟨h0, h1⟩ := minSeq_spec recs
  by_cases hm : minSeq recs = 0
  · have := h0 hm r hr; omega
  · obtain ⟨a, ⟨r', hr', hs'⟩, c⟩ := h1 hm
    have := c r hr (by omega); omega

/-- the rebuilt frontier cannot be advanced: no record carries the next number -/
theorem rebuild_maximal (ver : Bytes) (snap : Option Snap) (recs : List Rec) (res : Snap)
    (h : rebuild ver snap recs = .ok (some res)) : ∀ r ∈ recs, r.seq = res.seq + 1 → res.seq + 1 ≤ 0 := by
  intro r hr hs
  rcases rebuild_ok h with ⟨rfl, _⟩ | ⟨_, _, rfl⟩
  · cases hr
  · by_cases hpos : (advance recs.length recs (baseOf ver snap)).seq + 1 ≤ 0
    · exact hpos
    · have hc := advance_fix recs recs.length (baseOf ver snap) (above_le_length _ _)
      have := pick_isSome_of_mem hr hs (by omega)
      rw [hc] at this; cases this

/-- when the rebuild yields no frontier above sequence 0 (a gap, nothing, or a frontier that stays at 0), no
    record carries number 1 and the snapshot (if any) is at sequence 0 -/
theorem rebuild_zero (ver : Bytes) (snap : Option Snap) (recs : List Rec) (hb : 0 ≤ baseSeq snap)
    (h : ∀ f, rebuild ver snap recs = .ok (some f) → f.seq ≤ 0) :
    baseSeq snap = 0 ∧ ∀ r ∈ recs, r.seq ≠ 1 := by
  by_cases he : recs.isEmpty = true
  · rw [List.isEmpty_iff.mp he]
    refine ⟨?_, fun r hr => nomatch hr⟩
    cases snap with
    | none => rfl
    | some s => exact Int.le_antisymm (h s (by rw [rebuild_eq, if_pos he])) hb
  · by_cases hg : (baseOf ver snap).seq = 0 ∧ minSeq recs ≠ 1
    · exact ⟨by rw [← baseOf_seq ver]; exact hg.1, fun r hr hs => hg.2 (minSeq_eq_one_of_mem hr hs)⟩
    · have hrb : rebuild ver snap recs = .ok (some (advance recs.length recs (baseOf ver snap))) := by
        rw [rebuild_eq, if_neg he, if_neg hg]
      have hf := h _ hrb
      have h1 := (rebuild_spec ver snap recs _ hrb).1
      refine ⟨by omega, fun r hr hs => ?_⟩
      have := rebuild_maximal ver snap recs _ hrb r hr (by omega)
      omega

end GunYu.Frontier
