/-
  Helper lemmas for C11: the table-driven CRC16 equals the bitwise XMODEM CRC.
  Kernel-only bit-vector reasoning (no bv_decide).
-/
import GunYu.Model.Slot

namespace GunYu.Slot

theorem xor_cancel_right (a b c : BitVec 16) : a ^^^ c ^^^ (b ^^^ c) = a ^^^ b := by
  have : a ^^^ c ^^^ (b ^^^ c) = a ^^^ b ^^^ (c ^^^ c) := by ac_rfl
  rw [this, BitVec.xor_self, BitVec.xor_zero]

/-- GF(2)-linearity of one shift-register step -/
theorem bitStep_xor (x y : BitVec 16) : bitStep (x ^^^ y) = bitStep x ^^^ bitStep y := by
  unfold bitStep
  rw [BitVec.msb_xor]
  cases hx : x.msb <;> cases hy : y.msb <;> simp [BitVec.shiftLeft_xor_distrib]
  · ac_rfl
  · ac_rfl
  · exact (xor_cancel_right _ _ _).symm

theorem bitStep8_xor (x y : BitVec 16) : bitStep8 (x ^^^ y) = bitStep8 x ^^^ bitStep8 y := by
  simp [bitStep8, bitStep_xor]

/-- the REGENERATED table, entry by entry, is eight shift-register steps of `i << 8`
    (kernel evaluation of one list equation, each entry visited once) -/
theorem table_eq :
    Gen.crc16Table.toList = (List.range 256).map fun i => bitStep8 (BitVec.ofNat 16 i <<< 8) := by
  decide +kernel

theorem table_getD (i : Nat) (h : i < 256) :
    Gen.crc16Table.getD i 0#16 = bitStep8 (BitVec.ofNat 16 i <<< 8) := by
  rw [Array.getD_eq_getD_getElem?, ← Array.getElem?_toList, table_eq, List.getElem?_map,
    List.getElem?_range h]
  rfl

theorem bitStep_small (c : BitVec 16) (k : Nat) (hk : k < 16) (h : c.toNat < 2 ^ k) :
    bitStep c = c <<< 1 ∧ (c <<< 1).toNat < 2 ^ (k + 1) := by
  have hp : 2 ^ (k + 1) ≤ 2 ^ 16 := Nat.pow_le_pow_right (by decide) hk
  rw [Nat.pow_succ] at hp ⊢
  have hm : c.msb = false := by rw [BitVec.msb_eq_false_iff_two_mul_lt]; omega
  rw [bitStep, hm, BitVec.toNat_shiftLeft, Nat.shiftLeft_eq, Nat.mod_eq_of_lt (by omega)]
  exact ⟨rfl, by omega⟩

theorem low8 (x : BitVec 16) (h : x.toNat < 256) : bitStep8 x = x <<< 8 := by
  obtain ⟨e1, h1⟩ := bitStep_small x 8 (by decide) h
  obtain ⟨e2, h2⟩ := bitStep_small _ 9 (by decide) h1
  obtain ⟨e3, h3⟩ := bitStep_small _ 10 (by decide) h2
  obtain ⟨e4, h4⟩ := bitStep_small _ 11 (by decide) h3
  obtain ⟨e5, h5⟩ := bitStep_small _ 12 (by decide) h4
  obtain ⟨e6, h6⟩ := bitStep_small _ 13 (by decide) h5
  obtain ⟨e7, h7⟩ := bitStep_small _ 14 (by decide) h6
  obtain ⟨e8, _⟩ := bitStep_small _ 15 (by decide) h7
  rw [bitStep8, e1, e2, e3, e4, e5, e6, e7, e8]
  simp only [← BitVec.shiftLeft_add]

theorem mask_bit_fin : ∀ j : Fin 16, (0x00FF#16)[j.val] = decide (j.val < 8) := by decide

theorem mask_bit (i : Nat) (hi : i < 16) : (0x00FF#16)[i] = decide (i < 8) :=
  mask_bit_fin ⟨i, hi⟩

theorem and_mask_toNat_lt (x : BitVec 16) : (x &&& 0x00FF#16).toNat < 256 := by
  rw [BitVec.toNat_and]
  exact Nat.lt_of_le_of_lt Nat.and_le_right (by decide)

theorem split_step (c B : BitVec 16) :
    c ^^^ (B <<< 8) = ((((c >>> 8) ^^^ B) &&& 0x00FF#16) <<< 8) ^^^ (c &&& 0x00FF#16) := by
  ext i hi
  simp only [BitVec.getElem_xor, BitVec.getElem_shiftLeft, BitVec.getElem_and, mask_bit i hi]
  by_cases h : i < 8
  · simp [h]
  · have h8 : i - 8 < 16 := by omega
    have h88 : i - 8 < 8 := by omega
    have e : 8 + (i - 8) = i := by omega
    simp [h, mask_bit (i-8) h8, h88, e, BitVec.getLsbD_eq_getElem hi]

theorem low_shift (c : BitVec 16) : (c &&& 0x00FF#16) <<< 8 = c <<< 8 := by
  ext i hi
  simp only [BitVec.getElem_shiftLeft]
  by_cases h : i < 8
  · simp [h]
  · have h8 : i - 8 < 16 := by omega
    have h88 : i - 8 < 8 := by omega
    simp [h, mask_bit (i-8) h8, h88]

theorem tabStep_eq_specStep (c : BitVec 16) (b : UInt8) : tabStep c b = specStep c b := by
  unfold tabStep specStep
  generalize b.toBitVec.setWidth 16 = B
  rw [split_step c B, bitStep8_xor]
  generalize hidx : ((c >>> 8) ^^^ B) &&& 0x00FF#16 = idx
  have hlt : idx.toNat < 256 := by rw [← hidx]; exact and_mask_toNat_lt _
  have ht := table_getD idx.toNat hlt
  rw [BitVec.ofNat_toNat, BitVec.setWidth_eq] at ht
  rw [ht, low8 _ (and_mask_toNat_lt c), low_shift, BitVec.xor_comm]

theorem crc16Tab_eq_spec_from (bs : Bytes) (c : BitVec 16) :
    bs.foldl tabStep c = bs.foldl specStep c := by
  induction bs generalizing c with
  | nil => rfl
  | cons b bs ih => simp only [List.foldl_cons, tabStep_eq_specStep, ih]

theorem mask14 (x : BitVec 16) : (x &&& 0x3fff#16).toNat = x.toNat % 16384 := by
  rw [BitVec.toNat_and]
  exact Nat.and_two_pow_sub_one_eq_mod x.toNat 14

end GunYu.Slot
