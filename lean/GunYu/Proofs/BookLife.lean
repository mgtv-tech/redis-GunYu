/-
  C17 — one sender life, on the sender model's abstract records, as a single statement collected
  from the sender's theorems (IMPORTED, not re-proved):
    Props.C02  crash_resume_db_resumed / resumed_wire   (the unique largest offset survives every
               crash point of a resumed run; the positions written are at or above the start),
    Props.C02Lives  crash_cut_resumed, Proofs.TwoRuns  (the database of the new position is a real one),
    Props.C07  cp_offset_has_runid                     (a stored offset is never without its run id).
-/
import GunYu.Props.C02Start

namespace GunYu.BookSys
open GunYu GunYu.Sender GunYu.Target GunYu.Props

/-- the hypotheses on the stream a life replays (those of `Props.C02.Lives`): the source stream
    after the start offset `X`, parsed by the real parser resumed in database `d` -/
structure LifeHyp (pc : PCfg) (sc : SCfg) (raws : List Raw) (X d : Int) (evs : List Ev) : Prop where
  items : itemsOf evs = parserItems { pc with startDbId := d } X raws
  sorted : (raws.map (·.off)).Pairwise (· < ·)
  above : ∀ r ∈ raws, X < r.off
  nodone : C01.NoDone evs
  nonest : ItemsNoNested false (parseAll pc { lastSent := X } raws)
  nofail : parseFails pc { lastSent := X } raws = false
  sel : ∀ x ∈ raws, x.cmd = bSelect → ∀ a n, x.args = [a] → atoi? a = some n → 0 ≤ n
  mapnn : ∀ n : Int, 0 ≤ n → 0 ≤ mapDb pc n

theorem life_abs (pc : PCfg) (sc : SCfg) (raws : List Raw) (X d : Int) (evs : List Ev)
    (H : LifeHyp pc sc raws X d evs) (hX : 0 ≤ X) (hd : 0 ≤ d)
    (T : TState) (hq : T.queued = none) (hcur : T.cur = 0) (hu : UniqueMax T.cps d X)
    (hr : RunIdInv T) (k : Nat) :
    ∃ d' Y, 0 ≤ d' ∧ X ≤ Y ∧
      UniqueMax (applyLog T ((run sc initS evs).2.flatten.take k)).cps d' Y ∧
      RunIdInv (applyLog T ((run sc initS evs).2.flatten.take k)) ∧
      (∀ o ∈ cpReqs ((run sc initS evs).2.flatten.take k), X ≤ o) := by
  have hrun : RunIdInv (applyLog T ((run sc initS evs).2.flatten.take k)) := by
    have hev := C07.parser_items_selOK _ X raws evs H.items H.sel
    exact C07.cp_offset_has_runid sc evs hev T hq hcur hr k
  have hlow : ∀ o ∈ cpReqs ((run sc initS evs).2.flatten.take k), X ≤ o := by
    intro o ho
    have hcp := (C02.resumed_wire sc _ raws X evs H.items H.sorted H.above hX).2.1
    rw [cpOffsetsB_bodies _ (run_wf sc initS evs)] at hcp
    have h1 := cpReqs_take_sub _ k o ho
    rw [cpReqs_flatten] at h1
    exact hcp o h1
  obtain ⟨E, hE, hsame, hcase⟩ := C02.crash_resume_db_resumed sc { pc with startDbId := d } raws X evs
    H.items H.sorted H.above hX hd T hq hcur hu k
  rcases hcase with ⟨_, hoff⟩ | ⟨E1, o, E2, hsplit, hlast, hXo, hum⟩
  · refine ⟨d, X, hd, Int.le_refl _, ?_, hrun, hlow⟩
    exact ⟨by rw [hoff]; exact hu.1, fun d' hd' o' h' => hu.2 d' hd' o' (by rw [← hoff]; exact h')⟩
  · refine ⟨_, o, ?_, hXo, hum, hrun, hlow⟩
    -- the database of the new position is a real one
    have hnn0 : ItemsNoNested false (parseAll { pc with startDbId := d } { lastSent := X } raws) := by
      rw [parseAll_setDb]; exact H.nonest
    have hnf0 : parseFails { pc with startDbId := d } { lastSent := X } raws = false := by
      rw [parseFails_setDb]; exact H.nofail
    obtain ⟨_, _, _, _, hd1, _⟩ := C02.crash_cut_resumed { pc with startDbId := d } sc raws X evs
      H.items H.sorted H.above hX H.nodone hnn0 hnf0 E E1 E2 o hE hsplit
    have hwf := run_wf sc initS evs
    have hplain1 : ∀ r ∈ E1, Plain r = true := fun r hr =>
      bodies_plain _ hwf r (hE.subset (by rw [hsplit]; exact List.mem_append_left _ hr))
    rw [(foldl_execReq_seq E1 hplain1 T).1, hcur, dataB_eq, hd1, itemCmdsO_proj,
      seq_parserItems pc d X hd]
    apply seqApplied_db_nonneg _ _ hd
    apply parseAll_select_db_nonneg pc _ _ _ H.mapnn
    intro x hx
    exact H.sel x (List.mem_filter.mp hx).1

theorem cpReqs_sorted_of_keys : ∀ (l : List Sender.Req), (keysB l).Pairwise (· ≤ ·) → (cpReqs l).Pairwise (· ≤ ·) := by
  intro l
  induction l with
  | nil => intro _; exact List.Pairwise.nil
  | cons r rest ih =>
    intro h
    have hrest := ih (h.sublist ((List.sublist_cons_self r rest).filterMap keyOfReq))
    cases r with
    | cpOffset o =>
      -- the key of a position write is 2·offset + 1
      refine List.Pairwise.cons (fun o' ho' => ?_) hrest
      obtain ⟨x, hx, hxo⟩ := List.mem_filterMap.mp ho'
      cases x with
      | cpOffset o'' =>
        cases hxo
        have := (List.pairwise_cons.mp h).1 (2 * o' + 1) (List.mem_filterMap.mpr ⟨_, hx, rfl⟩)
        omega
      | _ => cases hxo
    | _ => exact hrest

theorem keys_flatten (out : List Batch) : keys out = keysB out.flatten := by
  induction out with
  | nil => rfl
  | cons b rest ih =>
    simp only [keys, List.flatMap_cons, List.flatten_cons] at ih ⊢
    rw [keysB_append, ← ih]

/-- the positions a session writes never decrease along the wire (imported: Props.C02 `wire_ordered`) -/
theorem life_sorted (pc : PCfg) (sc : SCfg) (raws : List Raw) (X d : Int) (evs : List Ev)
    (H : LifeHyp pc sc raws X d evs) (hX : 0 ≤ X) :
    (cpReqs (run sc initS evs).2.flatten).Pairwise (· ≤ ·) := by
  apply cpReqs_sorted_of_keys
  rw [← keys_flatten]
  exact C02.wire_ordered sc evs (C02.resumed_parser_feeds_smono _ raws X evs H.items H.sorted H.above hX)

end GunYu.BookSys
