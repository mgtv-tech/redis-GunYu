/-
  The two-site world. Invariant: every block a link or the expiry of a
  bookkeeping key left in a stream is quiet for the opposite link; every foreign
  block consists of forwardable commands; each link has committed exactly the
  foreign non-empty blocks it has consumed, in order. What a step does to the
  world, by kind of event (`site_step_shape`, `link_step_shape`,
  `restart_shape`), and that link steps of a settled link change nothing.
-/
import GunYu.Proofs.BisyncBlocks

namespace GunYu.Bisync
open GunYu GunYu.BisyncUnit

/-! ### client commands and their effects -/

/-- an argument under one of the reserved prefixes (`redis-gunyu-bisync:`,
    `redis-gunyu-checkpoint`, `/redis-gunyu`) -/
def Res (a : Bytes) : Prop := isNamespaceKey a = true ∨ FilterReserved a

/-- a client command the world theorem ranges over: forwardable name, no
    argument under a reserved prefix -/
structure ClientOK (pc : PCfg) (c : Cmd) : Prop where
  safe : TxnSafe c
  notPing : lower c.name ≠ wPing
  notPublish : Filter.eqFold (lower c.name) wPublish = false
  notBlack : pc.filter.filterCmd (lower c.name) = false
  args : ∀ a ∈ c.args, ¬ Res a

theorem fgn_of_clientOK (pc : PCfg) (c : Cmd) (h : ClientOK pc c) : Fgn pc c where
  safe := h.safe
  notPing := h.notPing
  notPublish := h.notPublish
  notBlack := h.notBlack
  keys := by
    intro idx hidx i hi hr
    have hlt := (Filter.keyIndexes_inRange hidx).2 i hi
    apply h.args (c.args.getD i []) _ (Or.inr hr)
    rw [List.getD_eq_getElem?_getD, List.getElem?_eq_getElem hlt]
    exact List.getElem_mem hlt
  outside := by
    have hns : ∀ a ∈ c.args, isNamespaceKey a = false := fun a ha =>
      Bool.eq_false_iff.mpr fun hx => h.args a ha (Or.inl hx)
    unfold touchesNamespace norm
    cases hargs : c.args with
    | nil => rfl
    | cons k rest =>
      rw [hargs] at hns
      simp only [List.isEmpty_cons, Bool.false_eq_true, ↓reduceIte, List.headD_cons]
      split
      · exact List.any_eq_false.mpr fun a ha => by simp [hns a ha]
      · exact hns k (List.mem_cons_self ..)

theorem res_head (a : Bytes) (h : Res a) : a.head? = some 114 ∨ a.head? = some 47 := by
  have pre : ∀ p : Bytes, ∀ b, p.head? = some b → p <+: a → a.head? = some b := by
    intro p b hp hpa
    obtain ⟨t, rfl⟩ := hpa
    cases p with
    | nil => cases hp
    | cons x xs => simpa using hp
  rcases h with h | h
  · unfold isNamespaceKey at h
    rw [Bool.or_eq_true] at h
    rcases h with h | h
    · left; exact pre nsPrefix 114 (by decide) (List.isPrefixOf_iff_prefix.mp h)
    · left; exact pre Gen.checkpointKey 114 (by decide) (List.isPrefixOf_iff_prefix.mp h)
  · rcases h with h | h
    · left; exact pre Gen.checkpointKey 114 (by decide) h
    · right; exact pre Gen.namespacePrefixKey 47 (by decide) h

theorem word_not_res (w : Bytes) (h : w.head? ≠ some 114 ∧ w.head? ≠ some 47) : ¬ Res w :=
  fun hr => (res_head w hr).elim h.1 h.2

theorem clientOK_of_heads (pc : PCfg) (c : Cmd)
    (hn : TxnSafe c ∧ lower c.name ≠ wPing ∧ Filter.eqFold (lower c.name) wPublish = false)
    (hb : pc.filter.filterCmd (lower c.name) = false)
    (hargs : ∀ a ∈ c.args, a.head? ≠ some 114 ∧ a.head? ≠ some 47) : ClientOK pc c :=
  ⟨hn.1, hn.2.1, hn.2.2, hb, fun a ha => word_not_res a (hargs a ha)⟩

theorem natToDec_not_res (n : Nat) : ¬ Res (natToDec n) := by
  cases hd : natToDec n with
  | nil => exact absurd hd (Decimal.natToDec_ne_nil n)
  | cons x xs =>
    have hx : isDigit x = true := Decimal.natToDec_all_digit n x (by rw [hd]; exact List.mem_cons_self ..)
    apply word_not_res
    simp only [List.head?_cons, ne_eq, Option.some.injEq]
    constructor <;> (rintro rfl; revert hx; decide)

/-- a command the master itself writes for an effect (`SET`, `DEL`, `UNLINK`,
    `PEXPIREAT`) on arguments outside the reserved prefixes -/
theorem clientOK_effect (pc : PCfg) (hf : FOK pc.filter) (n : Bytes) (args : List Bytes)
    (hn : n = wSet ∨ n = wDel ∨ n = wUnlink ∨ n = wPexpireat) (hargs : ∀ a ∈ args, ¬ Res a) :
    ClientOK pc ⟨n, args⟩ := by
  have mk : ∀ n : Bytes, (lower n ≠ wMulti ∧ lower n ≠ wExec ∧ Filter.eqFold (lower n) wSelect = false) ∧
      lower n ≠ wPing ∧ Filter.eqFold (lower n) wPublish = false → pc.filter.filterCmd (lower n) = false →
      ClientOK pc ⟨n, args⟩ := fun n h hb => ⟨h.1, h.2.1, h.2.2, hb, hargs⟩
  rcases hn with rfl | rfl | rfl | rfl
  · exact mk _ (by decide) hf.setCmd
  · exact mk _ (by decide) hf.delCmd
  · exact mk _ (by decide) hf.unlinkCmd
  · exact mk _ (by decide) hf.pexpireatCmd

theorem clientOK_del (pc : PCfg) (hf : FOK pc.filter) (rcfg : RedisCfg) (k : Bytes) (hk : ¬ Res k) :
    ClientOK pc (delCmd rcfg k) := by
  have hargs : ∀ a ∈ [k], ¬ Res a := fun a ha => List.mem_singleton.mp ha ▸ hk
  unfold delCmd
  cases rcfg.lazyUnlink
  · exact clientOK_effect pc hf _ _ (.inr (.inl rfl)) hargs
  · exact clientOK_effect pc hf _ _ (.inr (.inr (.inl rfl))) hargs

theorem eff_clientOK (pc : PCfg) (hf : FOK pc.filter) (rcfg : RedisCfg) (c e : Cmd) (hc : ClientOK pc c)
    (h : EffShape rcfg c e) : ClientOK pc e := by
  cases h with
  | same => exact hc
  | del k hk => exact clientOK_del pc hf rcfg k (hc.args k hk)
  | setPxat k v opts t hargs =>
    refine clientOK_effect pc hf _ _ (.inl rfl) fun a ha => ?_
    simp only [List.mem_cons, List.not_mem_nil, or_false] at ha
    rcases ha with rfl | rfl | rfl | rfl
    · exact hc.args _ (by rw [hargs]; simp)
    · exact hc.args _ (by rw [hargs]; simp)
    · exact word_not_res _ (by decide)
    · exact natToDec_not_res t
  | setPlain k v opts hargs =>
    refine ⟨hc.safe, hc.notPing, hc.notPublish, hc.notBlack, fun a ha => hc.args a ?_⟩
    rw [hargs]
    simp only [List.mem_cons] at ha ⊢
    exact ha.imp_right (Or.imp_right fun h => (List.mem_filter.mp h).1)
  | pexpireat k t hk =>
    refine clientOK_effect pc hf _ _ (.inr (.inr (.inr rfl))) fun a ha => ?_
    simp only [List.mem_cons, List.not_mem_nil, or_false] at ha
    rcases ha with rfl | rfl
    · exact hc.args _ hk
    · exact natToDec_not_res t
  | restoreAbs k tt payload opts t hargs =>
    refine ⟨hc.safe, hc.notPing, hc.notPublish, hc.notBlack, fun a ha => ?_⟩
    simp only [List.mem_cons, List.mem_append, List.not_mem_nil, or_false] at ha
    rcases ha with (rfl | rfl | rfl | ha) | rfl
    · exact hc.args _ (by rw [hargs]; simp)
    · exact natToDec_not_res t
    · exact hc.args _ (by rw [hargs]; simp)
    · exact hc.args _ (by rw [hargs]; simp [ha])
    · exact word_not_res _ (by decide)

theorem execCmds_clientOK (pc : PCfg) (hf : FOK pc.filter) (rcfg : RedisCfg) (now : Nat) (st : Store)
    (cs : List Cmd) (h : ∀ c ∈ cs, ClientOK pc c) : ∀ e ∈ (execCmds rcfg now st cs).2, ClientOK pc e := by
  intro e he
  obtain ⟨c, hc, hs⟩ := execCmds_shape rcfg now cs st e he
  exact eff_clientOK pc hf rcfg c e (h c hc) hs

theorem toBlocks_body (rcfg : RedisCfg) (isTxn : Bool) (n : Nat) (eff : List Cmd) :
    ∀ b ∈ toBlocks rcfg isTxn n eff, ∀ c ∈ b.body, c ∈ eff := by
  intro b hb c hc
  rcases mem_toBlocks hb with ⟨rfl, _⟩ | ⟨c', hc', rfl, _⟩
  · exact hc
  · exact List.mem_singleton.mp hc ▸ hc'

/-! ### world bookkeeping -/

theorem site_setSite_same (w : World) (s : SiteId) (x : SiteSt) : (w.setSite s x).site s = x := by
  cases s <;> rfl
theorem site_setSite_other (w : World) (s : SiteId) (x : SiteSt) : (w.setSite s x).site s.other = w.site s.other := by
  cases s <;> rfl
theorem link_setSite (w : World) (s t : SiteId) (x : SiteSt) : (w.setSite s x).link t = w.link t := by
  cases s <;> cases t <;> rfl
theorem commits_setSite (w : World) (s : SiteId) (x : SiteSt) : (w.setSite s x).commits = w.commits := by
  cases s <;> rfl
theorem site_setLink (w : World) (s t : SiteId) (l : LinkSt) : (w.setLink s l).site t = w.site t := by
  cases s <;> cases t <;> rfl
theorem link_setLink_same (w : World) (s : SiteId) (l : LinkSt) : (w.setLink s l).link s = l := by
  cases s <;> rfl
theorem link_setLink_other (w : World) (s : SiteId) (l : LinkSt) : (w.setLink s l).link s.other = w.link s.other := by
  cases s <;> rfl
theorem commits_setLink (w : World) (s : SiteId) (l : LinkSt) : (w.setLink s l).commits = w.commits := by
  cases s <;> rfl
theorem setLink_self (w : World) (s : SiteId) : w.setLink s (w.link s) = w := by
  cases s <;> rfl
theorem site_nextId (w : World) (n : Nat) (t : SiteId) : ({ w with nextId := n } : World).site t = w.site t := by
  cases t <;> rfl
theorem link_nextId (w : World) (n : Nat) (t : SiteId) : ({ w with nextId := n } : World).link t = w.link t := by
  cases t <;> rfl
theorem site_commits (w : World) (c : List (Tag × SiteId)) (t : SiteId) :
    ({ w with commits := c } : World).site t = w.site t := by
  cases t <;> rfl
theorem link_commits (w : World) (c : List (Tag × SiteId)) (t : SiteId) :
    ({ w with commits := c } : World).link t = w.link t := by
  cases t <;> rfl
theorem other_other (s : SiteId) : s.other.other = s := by cases s <;> rfl
theorem other_ne (s : SiteId) : s.other ≠ s := by cases s <;> decide
theorem eq_or_other (s t : SiteId) : s = t ∨ s.other = t := by cases s <;> cases t <;> simp [SiteId.other]

/-- a property of every link record (which may mention the site) holds after `setLink` if it holds
    of the new record and held of the old ones -/
theorem forall_setLink (w : World) (src : SiteId) (l' : LinkSt) (P : SiteId → LinkSt → Prop) (h : P src l')
    (h' : ∀ t, P t (w.link t)) : ∀ t, P t ((w.setLink src l').link t) := by
  intro t
  rcases eq_or_other src t with rfl | rfl
  · rw [link_setLink_same]; exact h
  · rw [link_setLink_other]; exact h' _

/-! ### running commands at a site -/

theorem execAt_setLink (cfg : WCfg) (w : World) (src s : SiteId) (l : LinkSt) (isTxn : Bool) (cmds : List Cmd)
    (tag : Tag) : execAt cfg (w.setLink src l) s isTxn cmds tag = (execAt cfg w s isTxn cmds tag).setLink src l := by
  cases src <;> cases s <;> rfl

theorem commits_execAt (cfg : WCfg) (w : World) (s : SiteId) (isTxn : Bool) (cmds : List Cmd) (tag : Tag) :
    (execAt cfg w s isTxn cmds tag).commits = w.commits := commits_setSite ..

theorem link_execAt (cfg : WCfg) (w : World) (s t : SiteId) (isTxn : Bool) (cmds : List Cmd) (tag : Tag) :
    (execAt cfg w s isTxn cmds tag).link t = w.link t := link_setSite ..

theorem site_execAt_other (cfg : WCfg) (w : World) (s : SiteId) (isTxn : Bool) (cmds : List Cmd) (tag : Tag) :
    (execAt cfg w s.other isTxn cmds tag).site s = w.site s := by
  have := site_setSite_other w s.other
  rw [other_other] at this
  exact this _

theorem stream_execAt (cfg : WCfg) (w : World) (s t : SiteId) (isTxn : Bool) (cmds : List Cmd) (tag : Tag) :
    ∃ ext, ((execAt cfg w s isTxn cmds tag).site t).stream = (w.site t).stream ++ ext ∧
      ∀ tb ∈ ext, tb.tag = tag := by
  unfold execAt
  rcases eq_or_other s t with rfl | rfl
  · rw [site_setSite_same]
    refine ⟨_, rfl, fun tb htb => ?_⟩
    obtain ⟨b, _, rfl⟩ := List.mem_map.mp htb
    rfl
  · rw [site_setSite_other]
    exact ⟨[], (List.append_nil _).symm, fun _ h => nomatch h⟩

/-! ### the invariant -/

def isForeign : Tag → Bool
  | .foreign _ => true
  | _ => false

/-- a block of forwardable foreign commands -/
def FgnB (pc : PCfg) (b : Block) : Prop := ∀ c ∈ b.body, Fgn pc c

def BlockOK (pc : PCfg) (tb : TBlock) : Prop :=
  if isForeign tb.tag then FgnB pc tb.block else QuietB pc tb.block

/-- does the opposite link owe this block a commit? -/
def due (tb : TBlock) : Bool := isForeign tb.tag && !tb.block.body.isEmpty

/-- the tags of the first `n` blocks that must have been committed -/
def dueTags (s : List TBlock) (n : Nat) : List Tag := ((s.take n).filter due).map (·.tag)

/-- the tags committed at site `dst`, in order -/
def commitsAt (w : World) (dst : SiteId) : List Tag := (w.commits.filter (fun p => p.2 == dst)).map (·.1)

structure WInv (cfg : WCfg) (w : World) : Prop where
  blocks : ∀ s, ∀ tb ∈ (w.site s).stream, BlockOK cfg.parser tb
  idle : ∀ s, Idle (w.link s).pst
  pos : ∀ s, (w.link s).pos ≤ (w.site s).stream.length
  once : ∀ s, commitsAt w s.other = dueTags (w.site s).stream (w.link s).pos
  halt : ∀ s e, (w.link s).halted = some e → ∃ be, e = .build be

theorem mem_of_getElem? {α : Type} (l : List α) (n : Nat) (x : α) (h : l[n]? = some x) : x ∈ l ∧ n < l.length := by
  obtain ⟨hlt, rfl⟩ := List.getElem?_eq_some_iff.mp h
  exact ⟨List.getElem_mem hlt, hlt⟩

theorem dueTags_append (s t : List TBlock) (n : Nat) (h : n ≤ s.length) : dueTags (s ++ t) n = dueTags s n := by
  unfold dueTags
  rw [List.take_append_of_le_length h]

theorem dueTags_succ (s : List TBlock) (n : Nat) (tb : TBlock) (h : s[n]? = some tb) :
    dueTags s (n + 1) = dueTags s n ++ (if due tb then [tb.tag] else []) := by
  obtain ⟨hlt, rfl⟩ := List.getElem?_eq_some_iff.mp h
  unfold dueTags
  rw [List.take_succ_eq_append_getElem hlt, List.filter_append, List.map_append]
  cases hd : due s[n] <;> simp [hd]

theorem commitsAt_setSite (w : World) (s t : SiteId) (x : SiteSt) : commitsAt (w.setSite s x) t = commitsAt w t := by
  unfold commitsAt; rw [commits_setSite]
theorem commitsAt_setLink (w : World) (s t : SiteId) (l : LinkSt) : commitsAt (w.setLink s l) t = commitsAt w t := by
  unfold commitsAt; rw [commits_setLink]

theorem dueTags_foreign (s : List TBlock) (n : Nat) : ∀ t ∈ dueTags s n, isForeign t = true := by
  intro t ht
  obtain ⟨tb, htb, rfl⟩ := List.mem_map.mp ht
  exact (Bool.and_eq_true_iff.mp (List.mem_filter.mp htb).2).1

/-- with `once`, every commit ever made was built from a client block -/
theorem WInv.commits_foreign {cfg : WCfg} {w : World} (h : WInv cfg w) : ∀ t ∈ w.commits, isForeign t.1 = true := by
  intro t ht
  have hmem : t.1 ∈ commitsAt w t.2.other.other :=
    (other_other t.2).symm ▸ List.mem_map.mpr ⟨t, List.mem_filter.mpr ⟨ht, beq_self_eq_true _⟩, rfl⟩
  rw [h.once t.2.other] at hmem
  exact dueTags_foreign _ _ _ hmem

theorem quiet_multi_nil (pc : PCfg) : QuietB pc (.multi []) :=
  fun pst hi => (parseBlock_multi_safe pc [] pst hi (fun _ h => nomatch h)).1 (Or.inr rfl)

/-- a block that is not owed a commit is passed over: the tool's blocks by the invariant, an empty
    MULTI/EXEC of a client because there is nothing in it -/
theorem quiet_of_not_due (pc : PCfg) (tb : TBlock) (h : BlockOK pc tb) (hd : due tb = false) : QuietB pc tb.block := by
  unfold BlockOK at h
  unfold due at hd
  cases hfor : isForeign tb.tag with
  | false => rwa [hfor, if_neg (by simp)] at h
  | true =>
    rw [hfor, Bool.true_and, Bool.not_eq_false', List.isEmpty_iff] at hd
    cases hb : tb.block with
    | single c => rw [hb] at hd; cases hd
    | multi cs => rw [hb] at hd; exact (show cs = [] from hd) ▸ quiet_multi_nil pc

theorem fgn_of_due (pc : PCfg) (tb : TBlock) (h : BlockOK pc tb) (hd : due tb = true) :
    FgnB pc tb.block ∧ tb.block.body ≠ [] := by
  unfold BlockOK at h
  unfold due at hd
  rw [Bool.and_eq_true, Bool.not_eq_true', List.isEmpty_eq_false_iff] at hd
  rw [if_pos hd.1] at h
  exact ⟨h, hd.2⟩

theorem winv_append (cfg : WCfg) (w : World) (hinv : WInv cfg w) (s : SiteId) (x : SiteSt) (tbs : List TBlock)
    (hx : x.stream = (w.site s).stream ++ tbs) (hok : ∀ tb ∈ tbs, BlockOK cfg.parser tb) :
    WInv cfg (w.setSite s x) where
  blocks := by
    intro t tb htb
    rcases eq_or_other s t with rfl | rfl
    · rw [site_setSite_same, hx] at htb
      exact (List.mem_append.mp htb).elim (hinv.blocks _ tb) (hok tb)
    · rw [site_setSite_other] at htb
      exact hinv.blocks _ tb htb
  idle := by intro t; rw [link_setSite]; exact hinv.idle t
  pos := by
    intro t
    rw [link_setSite]
    rcases eq_or_other s t with rfl | rfl
    · rw [site_setSite_same, hx, List.length_append]
      exact Nat.le_add_right_of_le (hinv.pos s)
    · rw [site_setSite_other]; exact hinv.pos _
  once := by
    intro t
    rw [link_setSite, commitsAt_setSite]
    rcases eq_or_other s t with rfl | rfl
    · rw [site_setSite_same, hx, dueTags_append _ _ _ (hinv.pos s)]
      exact hinv.once s
    · rw [site_setSite_other]; exact hinv.once _
  halt := by intro t e h; rw [link_setSite] at h; exact hinv.halt t e h

theorem winv_nextId (cfg : WCfg) (w : World) (n : Nat) (h : WInv cfg w) : WInv cfg { w with nextId := n } where
  blocks := fun s => by rw [site_nextId]; exact h.blocks s
  idle := fun s => by rw [link_nextId]; exact h.idle s
  pos := fun s => by rw [link_nextId, site_nextId]; exact h.pos s
  once := fun s => by rw [link_nextId, site_nextId]; exact h.once s
  halt := fun s => by rw [link_nextId]; exact h.halt s

theorem winv_setLink (cfg : WCfg) (w : World) (hinv : WInv cfg w) (src : SiteId) (l' : LinkSt)
    (hidle : Idle l'.pst) (hpos : l'.pos ≤ (w.site src).stream.length)
    (honce : dueTags (w.site src).stream l'.pos = dueTags (w.site src).stream (w.link src).pos)
    (hhalt : ∀ e, l'.halted = some e → ∃ be, e = .build be) : WInv cfg (w.setLink src l') where
  blocks := by intro t tb htb; rw [site_setLink] at htb; exact hinv.blocks t tb htb
  idle := forall_setLink w src l' (fun _ l => Idle l.pst) hidle hinv.idle
  pos := fun t => site_setLink w src t l' ▸
    forall_setLink w src l' (fun t l => l.pos ≤ (w.site t).stream.length) hpos hinv.pos t
  once := by
    intro t
    rw [site_setLink, commitsAt_setLink]
    exact forall_setLink w src l' (fun t l => commitsAt w t.other = dueTags (w.site t).stream l.pos)
      (honce ▸ hinv.once src) hinv.once t
  halt := forall_setLink w src l' (fun _ l => ∀ e, l.halted = some e → ∃ be, e = .build be) hhalt hinv.halt

theorem commitsAt_append (w : World) (tag : Tag) (dst t : SiteId) :
    commitsAt { w with commits := w.commits ++ [(tag, dst)] } t =
      commitsAt w t ++ (if dst == t then [tag] else []) := by
  unfold commitsAt
  cases h : dst == t <;> simp [List.filter_append, h]

theorem winv_commit (cfg : WCfg) (w : World) (hinv : WInv cfg w) (src : SiteId) (l' : LinkSt) (tb : TBlock)
    (hget : (w.site src).stream[(w.link src).pos]? = some tb) (hdue : due tb = true) (hidle : Idle l'.pst)
    (hpos : l'.pos = (w.link src).pos + 1) (hhalt : l'.halted = (w.link src).halted) :
    WInv cfg { w.setLink src l' with commits := (w.setLink src l').commits ++ [(tb.tag, src.other)] } where
  blocks := by intro t tb' htb'; rw [site_commits, site_setLink] at htb'; exact hinv.blocks t tb' htb'
  idle := fun t => link_commits _ _ t ▸ forall_setLink w src l' (fun _ l => Idle l.pst) hidle hinv.idle t
  pos := by
    intro t
    rw [link_commits, site_commits, site_setLink]
    exact forall_setLink w src l' (fun t l => l.pos ≤ (w.site t).stream.length)
      (hpos ▸ (mem_of_getElem? _ _ _ hget).2) hinv.pos t
  once := by
    intro t
    rw [commitsAt_append, commitsAt_setLink, link_commits, site_commits, site_setLink]
    rcases eq_or_other src t with rfl | rfl
    · rw [link_setLink_same, hpos, dueTags_succ _ _ tb hget, hdue, hinv.once src]
      simp
    · have := hinv.once src.other
      rw [other_other] at this
      rw [link_setLink_other, other_other, this]
      simp [other_ne]
  halt := fun t => link_commits _ _ t ▸
    forall_setLink w src l' (fun _ l => ∀ e, l.halted = some e → ∃ be, e = .build be) (hhalt ▸ hinv.halt src) hinv.halt t

/-! ### events the theorems range over -/

/-- the bookkeeping request propagates not at all, or as ONE stand-alone command
    of the bookkeeping vocabulary — itself (the keys it names carry no expiry:
    the tool sets none, clients stay out of the namespace), or, for the DEL of
    a marker alone, the deletion of that marker by its expiry -/
def BookClean (cfg : WCfg) (w : World) (src : SiteId) (bk : Bookkeeping) : Prop :=
  let st := w.site src.other
  (execCmds (cfg.redis src.other) st.now st.store [bk.toCmd]).2 = [] ∨
  ∃ bk' : Bookkeeping, bk'.Valid ∧ (execCmds (cfg.redis src.other) st.now st.store [bk.toCmd]).2 = [bk'.toCmd]

def EvOK (cfg : WCfg) (w : World) : Ev → Prop
  | .client _ _ cmds => ∀ c ∈ cmds, ClientOK cfg.parser c
  | .tick _ _ => True
  | .expire _ k => ¬ FilterReserved k
  | .link _ _ => True
  | .snapshot _ cmds _ => ∀ c ∈ cmds, TxnSafe c
  | .book src bk => bk.Valid ∧ BookClean cfg w src bk
  | .toolRaw _ _ _ => False
  | .restart _ _ _ => False      -- restarts are covered by the global theorem (`GInv`, Proofs/BisyncGlobal.lean)

def GoodRun (cfg : WCfg) : World → List Ev → Prop
  | _, [] => True
  | w, e :: es => EvOK cfg w e ∧ GoodRun cfg (stepWorld cfg w e) es

theorem tagIds_ok (pc : PCfg) (n : Nat) (bs : List Block) (h : ∀ b ∈ bs, FgnB pc b) :
    ∀ tb ∈ tagIds n bs, BlockOK pc tb := by
  induction bs generalizing n with
  | nil => exact fun _ htb => nomatch htb
  | cons b bs ih =>
    intro tb htb
    rcases List.mem_cons.mp htb with rfl | htb
    · exact h b (List.mem_cons_self ..)
    · exact ih (n + 1) (fun b' hb' => h b' (List.mem_cons_of_mem _ hb')) tb htb

theorem tagged_quiet_ok (pc : PCfg) (tag : Tag) (htag : isForeign tag = false) (bs : List Block)
    (h : ∀ b ∈ bs, QuietB pc b) : ∀ tb ∈ bs.map (fun b => (⟨tag, b⟩ : TBlock)), BlockOK pc tb := by
  intro tb htb
  obtain ⟨b, hb, rfl⟩ := List.mem_map.mp htb
  unfold BlockOK
  rw [if_neg (by simp [htag])]
  exact h b hb

theorem norm_txnSafe (c : Cmd) (h : TxnSafe c) : TxnSafe (norm c) := by
  unfold TxnSafe norm at *
  rw [Filter.lower_lower]
  exact h

theorem commit_toolTxn (cp : Bytes) (k : CommitKind) (u : RUnit) (p : Payload) (hu : ∀ c ∈ u.cmds, TxnSafe c) :
    ToolTxn (Gen.markerKey cp u.slotTag) (commitCmds cp k u p) := by
  obtain ⟨tail, heq, htail⟩ := commitCmds_eq cp k u p
  refine ⟨p.markerValue, u.cmds ++ tail, heq, fun c hc => ?_⟩
  rcases List.mem_append.mp hc with h | h
  · exact hu c h
  · obtain ⟨key, _, rest, rfl | rfl⟩ := htail c h
    · exact txnSafe_of_name _ wHset (by show lower wHset = wHset; decide) safe_hset
    · exact txnSafe_of_name _ wZadd (by show lower wZadd = wZadd; decide) (by decide)

theorem winv_execAt (cfg : WCfg) (w : World) (hinv : WInv cfg w) (s : SiteId) (isTxn : Bool)
    (cmds : List Cmd) (tag : Tag) (htag : isForeign tag = false)
    (hq : ∀ b ∈ toBlocks (cfg.redis s) isTxn cmds.length
      (execCmds (cfg.redis s) (w.site s).now (w.site s).store cmds).2, QuietB cfg.parser b) :
    WInv cfg (execAt cfg w s isTxn cmds tag) :=
  winv_append cfg w hinv s _ _ rfl (tagged_quiet_ok cfg.parser tag htag _ hq)

theorem winv_execCommit (cfg : WCfg) (hf : FOK cfg.parser.filter) (w : World) (hinv : WInv cfg w) (s : SiteId)
    (cp : Bytes) (k : CommitKind) (u : RUnit) (p : Payload) (hu : ∀ c ∈ u.cmds, TxnSafe c) (tag : Tag)
    (htag : isForeign tag = false) : WInv cfg (execAt cfg w s true (commitCmds cp k u p) tag) :=
  winv_execAt cfg w hinv s true _ tag htag
    (tool_blocks_quiet cfg.parser hf (cfg.redis s) _ _ _ (markerKey_isMarker cp u.slotTag) _ (commit_toolTxn cp k u p hu))

/-! ### every event keeps the invariant -/

theorem step_client (cfg : WCfg) (hf : FOK cfg.parser.filter) (w : World) (hinv : WInv cfg w)
    (s : SiteId) (isTxn : Bool) (cmds : List Cmd) (hok : ∀ c ∈ cmds, ClientOK cfg.parser c) :
    WInv cfg (stepWorld cfg w (.client s isTxn cmds)) := by
  refine winv_nextId cfg _ _ (winv_append cfg w hinv s _ _ rfl (tagIds_ok _ _ _ fun b hb c hc => ?_))
  exact fgn_of_clientOK _ _ (execCmds_clientOK cfg.parser hf _ _ _ cmds hok c (toBlocks_body _ _ _ _ b hb c hc))

theorem step_expire (cfg : WCfg) (hf : FOK cfg.parser.filter) (w : World) (hinv : WInv cfg w)
    (s : SiteId) (k : Bytes) (hok : ¬ FilterReserved k) :
    WInv cfg (stepWorld cfg w (.expire s k)) := by
  have hblocks : ∀ b ∈ (activeExpire (cfg.redis s) (w.site s).now (w.site s).store k).2,
      b = .single (delCmd (cfg.redis s) k) := by
    intro b hb
    unfold activeExpire at hb
    simp only at hb
    obtain ⟨c, hc, rfl⟩ := List.mem_map.mp hb
    rcases lazyExpire_eff (cfg.redis s) (w.site s).now (w.site s).store k with h | h
    · rw [h] at hc; cases hc
    · rw [h] at hc; rw [List.mem_singleton.mp hc]
  unfold stepWorld
  simp only
  split
  · rename_i hns
    refine winv_append cfg w hinv s _ _ rfl (tagged_quiet_ok cfg.parser .book rfl _ fun b hb => ?_)
    rw [hblocks b hb]
    refine del_quiet cfg.parser _ ?_ (List.cons_ne_nil _ _) fun k' hk' => List.mem_singleton.mp hk' ▸ ns_cases k hns
    unfold delCmd
    cases (cfg.redis s).lazyUnlink
    · exact .inl lower_wDel
    · exact .inr lower_wUnlink
  · rename_i hns
    refine winv_nextId cfg _ _ (winv_append cfg w hinv s _ _ rfl (tagIds_ok _ _ _ fun b hb c hc => ?_))
    rw [hblocks b hb, Block.body, List.mem_singleton] at hc
    rw [hc]
    exact fgn_of_clientOK _ _ (clientOK_del cfg.parser hf _ k fun hr => hr.elim hns hok)

theorem step_snapshot (cfg : WCfg) (hf : FOK cfg.parser.filter) (w : World) (hinv : WInv cfg w)
    (src : SiteId) (cmds : List Cmd) (arg : CommitArg) (hok : ∀ c ∈ cmds, TxnSafe c) :
    WInv cfg (stepWorld cfg w (.snapshot src cmds arg)) := by
  unfold stepWorld
  simp only
  cases hb : buildUnit standaloneMode cfg.parser.resolver cmds with
  | error e => exact hinv
  | ok u =>
    exact winv_execCommit cfg hf w hinv _ _ .rdb u _ (by rw [buildUnit_cmds _ _ _ u hb]; exact hok) .snapshot rfl

theorem step_book (cfg : WCfg) (hf : FOK cfg.parser.filter) (w : World) (hinv : WInv cfg w)
    (src : SiteId) (bk : Bookkeeping) (hc : BookClean cfg w src bk) :
    WInv cfg (stepWorld cfg w (.book src bk)) := by
  refine winv_execAt cfg w hinv src.other false [bk.toCmd] .book rfl fun b hb => ?_
  -- at most one effect, so no MULTI/EXEC
  rcases mem_toBlocks hb with ⟨_, h | h⟩ | ⟨c, hmem, rfl, _⟩
  · rcases hc with h' | ⟨_, _, h'⟩ <;> simp [h'] at h
  · cases h
  · rcases hc with h | ⟨bk', hv', h⟩
    · rw [h] at hmem; cases hmem
    · rw [h] at hmem
      exact List.mem_singleton.mp hmem ▸ bookkeeping_cmd_quiet cfg.parser hf bk' hv'

/-! ### what one step does -/

def Ev.isLink : Ev → Prop
  | .link _ _ => True
  | _ => False

theorem Ev.isLink.exists {e : Ev} (h : e.isLink) : ∃ src arg, e = .link src arg := by
  cases e with
  | link src arg => exact ⟨src, arg, rfl⟩
  | _ => exact h.elim

def Ev.isRestart : Ev → Prop
  | .restart _ _ _ => True
  | _ => False

theorem Ev.isRestart.exists {e : Ev} (h : e.isRestart) : ∃ src p seq, e = .restart src p seq := by
  cases e with
  | restart src p seq => exact ⟨src, p, seq, rfl⟩
  | _ => exact h.elim

/-- what an event other than a link step or a restart does: it replaces one site record, extending
    its stream, and uses up block ids; links and commit log stay -/
theorem site_step_shape (cfg : WCfg) (w : World) (e : Ev) (hl : ¬ e.isLink) (hr : ¬ e.isRestart) :
    ∃ s x n ext, stepWorld cfg w e = { w.setSite s x with nextId := n } ∧ x.stream = (w.site s).stream ++ ext := by
  have exec : ∀ s isTxn cmds tag, ∃ s' x n ext, execAt cfg w s isTxn cmds tag = { w.setSite s' x with nextId := n } ∧
      x.stream = (w.site s').stream ++ ext :=
    fun s _ _ _ => ⟨s, _, _, _, rfl, rfl⟩
  cases e with
  | link _ _ => exact absurd trivial hl
  | restart _ _ _ => exact absurd trivial hr
  | client s isTxn cmds => exact ⟨s, _, _, _, rfl, rfl⟩
  | tick s dt => exact ⟨s, _, _, [], rfl, (List.append_nil _).symm⟩
  | expire s k =>
    unfold stepWorld
    simp only
    split
    · exact ⟨s, _, _, _, rfl, rfl⟩
    · exact ⟨s, _, _, _, rfl, rfl⟩
  | snapshot src cmds arg =>
    unfold stepWorld
    simp only
    split
    · exact ⟨src, w.site src, w.nextId, [], by cases src <;> rfl, (List.append_nil _).symm⟩
    · exact exec ..
  | book src bk => exact exec src.other false [bk.toCmd] .book
  | toolRaw src isTxn cmds => exact exec src.other isTxn cmds .book

/-- the link record after an emission -/
def linkAfter (l : LinkSt) (pst' : PState) (tag : Tag) (e : Emit) : LinkSt :=
  { l with pos := l.pos + 1, pst := pst', emitted := l.emitted ++ [(tag, e)], cpos := l.pos + 1 }

/-- the world after the link from `src` has emitted `e` for its next block, tagged `tag`:
    the unit is committed at the other site and the commit is recorded -/
def commitWorld (cfg : WCfg) (w : World) (src : SiteId) (arg : CommitArg) (tag : Tag) (pst' : PState) (e : Emit) :
    World :=
  { execAt cfg (w.setLink src (linkAfter (w.link src) pst' tag e)) src.other true
      (commitCmds (w.link src).cp arg.kind e.unit ⟨arg.markerValue, arg.recordFields, e.seq⟩) (.tool (tagId tag)) with
    commits := (execAt cfg (w.setLink src (linkAfter (w.link src) pst' tag e)) src.other true
      (commitCmds (w.link src).cp arg.kind e.unit ⟨arg.markerValue, arg.recordFields, e.seq⟩) (.tool (tagId tag))).commits ++
        [(tag, src.other)] }

section
variable (cfg : WCfg) (w : World) (src : SiteId) (arg : CommitArg) (tag : Tag) (pst' : PState) (e : Emit)

theorem link_commitWorld_same : (commitWorld cfg w src arg tag pst' e).link src = linkAfter (w.link src) pst' tag e := by
  unfold commitWorld; rw [link_commits, link_execAt, link_setLink_same]
theorem link_commitWorld_other : (commitWorld cfg w src arg tag pst' e).link src.other = w.link src.other := by
  unfold commitWorld; rw [link_commits, link_execAt, link_setLink_other]
theorem site_commitWorld_same : (commitWorld cfg w src arg tag pst' e).site src = w.site src := by
  unfold commitWorld; rw [site_commits, site_execAt_other, site_setLink]
theorem site_commitWorld_other : (commitWorld cfg w src arg tag pst' e).site src.other =
    (execAt cfg w src.other true (commitCmds (w.link src).cp arg.kind e.unit ⟨arg.markerValue, arg.recordFields, e.seq⟩)
      (.tool (tagId tag))).site src.other := by
  unfold commitWorld; rw [site_commits, execAt_setLink, site_setLink]
theorem commits_commitWorld : (commitWorld cfg w src arg tag pst' e).commits = w.commits ++ [(tag, src.other)] := by
  unfold commitWorld; rw [commits_execAt, commits_setLink]

theorem stream_commitWorld_other : ∃ ext, ((commitWorld cfg w src arg tag pst' e).site src.other).stream =
    (w.site src.other).stream ++ ext ∧ ∀ tb ∈ ext, due tb = false := by
  obtain ⟨ext, h1, h2⟩ := stream_execAt cfg w src.other src.other true
    (commitCmds (w.link src).cp arg.kind e.unit ⟨arg.markerValue, arg.recordFields, e.seq⟩) (.tool (tagId tag))
  refine ⟨ext, by rw [site_commitWorld_other, h1], fun tb htb => ?_⟩
  unfold due
  rw [h2 tb htb]
  rfl
end

/-- the four things a link step can do -/
inductive LinkShape (cfg : WCfg) (w : World) (src : SiteId) (arg : CommitArg) : World → Prop where
  | stay (h : (w.link src).halted.isSome = true ∨ (w.site src).stream[(w.link src).pos]? = none) :
      LinkShape cfg w src arg w
  | skip (tb : TBlock) (pst' : PState) (hget : (w.site src).stream[(w.link src).pos]? = some tb)
      (hd : due tb = false) (hi : Idle pst') :
      LinkShape cfg w src arg (w.setLink src { (w.link src) with pos := (w.link src).pos + 1, pst := pst' })
  | halt (tb : TBlock) (e : BuildErr) (hget : (w.site src).stream[(w.link src).pos]? = some tb)
      (hd : due tb = true) (hlive : (w.link src).halted = none) :
      LinkShape cfg w src arg (w.setLink src { (w.link src) with halted := some (.build e) })
  | emit (tb : TBlock) (pst' : PState) (e : Emit) (hget : (w.site src).stream[(w.link src).pos]? = some tb)
      (hd : due tb = true) (hi : Idle pst') (hcmds : e.unit.cmds = tb.block.body.map norm)
      (hlive : (w.link src).halted = none) :
      LinkShape cfg w src arg (commitWorld cfg w src arg tb.tag pst' e)

theorem link_step_shape (cfg : WCfg) (hf : FOK cfg.parser.filter) (w : World) (hinv : WInv cfg w)
    (src : SiteId) (arg : CommitArg) : LinkShape cfg w src arg (stepWorld cfg w (.link src arg)) := by
  unfold stepWorld
  simp only
  by_cases hh : (w.link src).halted.isSome = true
  · rw [if_pos hh]; exact .stay (.inl hh)
  rw [if_neg hh]
  have hlive : (w.link src).halted = none := by simpa using hh
  cases hget : (w.site src).stream[(w.link src).pos]? with
  | none => exact .stay (.inr hget)
  | some tb =>
    simp only
    have hbok := hinv.blocks src tb (mem_of_getElem? _ _ _ hget).1
    cases hd : due tb with
    | false =>
      obtain ⟨pst', hp, hi', _⟩ := quiet_of_not_due _ tb hbok hd _ (hinv.idle src)
      rw [hp]
      exact .skip tb pst' hget hd hi'
    | true =>
      obtain ⟨hfgn, hne⟩ := fgn_of_due _ tb hbok hd
      rcases foreign_block cfg.parser hf tb.block hfgn hne _ (hinv.idle src) with
        ⟨pst', e, hp, hi', _, _, hcmds, _⟩ | ⟨pst', e, hp, _⟩
      · rw [hp]
        exact .emit tb pst' e hget hd hi' hcmds hlive
      · rw [hp]
        exact .halt tb e hget hd hlive

/-- what a restart does: nothing, or it puts the link back to block `p` with a fresh parser and no stop -/
theorem restart_shape (cfg : WCfg) (w : World) (src : SiteId) (p sq : Nat) :
    stepWorld cfg w (.restart src p sq) = w ∨
    p ≤ (w.link src).pos ∧ ∃ l', stepWorld cfg w (.restart src p sq) = w.setLink src l' ∧ l'.pos = p ∧
      l'.cpos = min (w.link src).cpos p ∧ l'.cp = (w.link src).cp ∧ l'.emitted = (w.link src).emitted ∧
      l'.halted = none ∧ Idle l'.pst := by
  unfold stepWorld
  simp only
  split
  · rename_i h
    exact .inr ⟨h, _, rfl, rfl, rfl, rfl, rfl, rfl, rfl, rfl⟩
  · exact .inl rfl

theorem step_link (cfg : WCfg) (hf : FOK cfg.parser.filter) (w : World) (hinv : WInv cfg w)
    (src : SiteId) (arg : CommitArg) : WInv cfg (stepWorld cfg w (.link src arg)) := by
  have hs := link_step_shape cfg hf w hinv src arg
  generalize stepWorld cfg w (.link src arg) = w' at hs
  cases hs with
  | stay _ => exact hinv
  | skip tb pst' hget hd hi =>
    refine winv_setLink cfg w hinv src _ hi (mem_of_getElem? _ _ _ hget).2 ?_ (hinv.halt src)
    show dueTags _ ((w.link src).pos + 1) = _
    rw [dueTags_succ _ _ tb hget, hd]
    exact List.append_nil _
  | halt tb e hget hd hlive =>
    exact winv_setLink cfg w hinv src _ (hinv.idle src) (hinv.pos src) rfl fun e' he' => ⟨e, (Option.some.inj he').symm⟩
  | emit tb pst' e hget hd hi hcmds hlive =>
    have hsafe : ∀ c ∈ e.unit.cmds, TxnSafe c := by
      rw [hcmds]
      intro c hc
      obtain ⟨c0, hc0, rfl⟩ := List.mem_map.mp hc
      exact norm_txnSafe c0 ((fgn_of_due _ tb (hinv.blocks src tb (mem_of_getElem? _ _ _ hget).1) hd).1 c0 hc0).safe
    have hx := winv_execCommit cfg hf w hinv src.other (w.link src).cp arg.kind e.unit
      ⟨arg.markerValue, arg.recordFields, e.seq⟩ hsafe (.tool (tagId tb.tag)) rfl
    unfold commitWorld
    rw [execAt_setLink]
    refine winv_commit cfg _ hx src _ tb ?_ hd hi ?_ ?_
    · rw [site_execAt_other, link_execAt]; exact hget
    · rw [link_execAt]; rfl
    · rw [link_execAt]; rfl

theorem step_preserves (cfg : WCfg) (hf : FOK cfg.parser.filter) (w : World) (hinv : WInv cfg w) (e : Ev)
    (hok : EvOK cfg w e) : WInv cfg (stepWorld cfg w e) := by
  cases e with
  | client s isTxn cmds => exact step_client cfg hf w hinv s isTxn cmds hok
  | tick s dt => exact winv_append cfg w hinv s _ [] (List.append_nil _).symm (fun _ h => nomatch h)
  | expire s k => exact step_expire cfg hf w hinv s k hok
  | link src arg => exact step_link cfg hf w hinv src arg
  | snapshot src cmds arg => exact step_snapshot cfg hf w hinv src cmds arg hok
  | book src bk => exact step_book cfg hf w hinv src bk hok.2
  | toolRaw _ _ _ => exact hok.elim
  | restart _ _ _ => exact hok.elim

theorem run_preserves (cfg : WCfg) (hf : FOK cfg.parser.filter) (evs : List Ev) (w : World) (hinv : WInv cfg w)
    (hgood : GoodRun cfg w evs) : WInv cfg (runWorld cfg w evs) := by
  induction evs generalizing w with
  | nil => exact hinv
  | cons e es ih =>
    exact ih _ (step_preserves cfg hf w hinv e hgood.1) hgood.2

/-- the initial world: empty stores and streams, links at position 0 -/
def World.init (cpAB cpBA : Bytes) : World := { ab := { cp := cpAB }, ba := { cp := cpBA } }

/-- both sites hold data (and their clocks any value) when the links start -/
def World.initWith (cpAB cpBA : Bytes) (sa sb : Store) (na nb : Nat) : World :=
  { a := { store := sa, now := na }, b := { store := sb, now := nb }, ab := { cp := cpAB }, ba := { cp := cpBA } }

theorem winv_initWith (cfg : WCfg) (cpAB cpBA : Bytes) (sa sb : Store) (na nb : Nat) :
    WInv cfg (World.initWith cpAB cpBA sa sb na nb) where
  blocks := by intro s tb h; cases s <;> cases h
  idle := by intro s; cases s <;> exact ⟨rfl, rfl⟩
  pos := by intro s; cases s <;> exact Nat.le_refl _
  once := by intro s; cases s <;> rfl
  halt := by intro s e h; cases s <;> cases h

theorem winv_init (cfg : WCfg) (cpAB cpBA : Bytes) : WInv cfg (World.init cpAB cpBA) :=
  winv_initWith cfg cpAB cpBA [] [] 0 0

/-! ### quiescence -/

/-- nothing a link still has to read is owed a commit -/
def NoPending (w : World) : Prop :=
  ∀ s, ∀ tb ∈ (w.site s).stream.drop (w.link s).pos, due tb = false

/-- nothing pending for a link: it has stopped, or no unread block is owed a commit -/
def Settled (w : World) (s : SiteId) : Prop :=
  (w.link s).halted.isSome = true ∨ ∀ tb ∈ (w.site s).stream.drop (w.link s).pos, due tb = false

theorem drop_of_get {α : Type} (l : List α) (n : Nat) (x : α) (h : l[n]? = some x) :
    l.drop n = x :: l.drop (n + 1) := by
  obtain ⟨hlt, rfl⟩ := List.getElem?_eq_some_iff.mp h
  exact List.drop_eq_getElem_cons hlt

theorem mem_drop_of_le {α : Type} {l : List α} {n m : Nat} {x : α} (h : n ≤ m) (hx : x ∈ l.drop m) : x ∈ l.drop n := by
  rw [← Nat.add_sub_cancel' h, ← List.drop_drop] at hx
  exact List.mem_of_mem_drop hx

theorem link_step_settled (cfg : WCfg) (hf : FOK cfg.parser.filter) (w : World) (hinv : WInv cfg w)
    (src : SiteId) (arg : CommitArg) (hs : Settled w src) :
    ∃ l', stepWorld cfg w (.link src arg) = w.setLink src l' ∧ l'.emitted = (w.link src).emitted ∧
      l'.halted = (w.link src).halted ∧ (w.link src).pos ≤ l'.pos := by
  have hsh := link_step_shape cfg hf w hinv src arg
  generalize stepWorld cfg w (.link src arg) = w' at hsh
  have hcontra : ∀ tb, (w.site src).stream[(w.link src).pos]? = some tb → due tb = true →
      (w.link src).halted = none → False := by
    intro tb hget hd hlive
    rcases hs with h | h
    · rw [hlive] at h; cases h
    · have := h tb (drop_of_get _ _ tb hget ▸ List.mem_cons_self ..)
      rw [hd] at this; cases this
  cases hsh with
  | stay _ => exact ⟨w.link src, (setLink_self w src).symm, rfl, rfl, Nat.le_refl _⟩
  | skip tb pst' _ _ _ => exact ⟨_, rfl, rfl, rfl, Nat.le_succ _⟩
  | halt tb e hget hd hlive => exact (hcontra tb hget hd hlive).elim
  | emit tb pst' e hget hd _ _ hlive => exact (hcontra tb hget hd hlive).elim

/-- a run in which every event only replaces one link record, keeping its emitted units, leaves both
    streams, the commit log and the emitted units as they were (`Q`: what the run maintains) -/
theorem run_moves_links_only (cfg : WCfg) (Q : World → List Ev → Prop)
    (hQ : ∀ w e es, Q w (e :: es) → ∃ src l', stepWorld cfg w e = w.setLink src l' ∧
      l'.emitted = (w.link src).emitted ∧ Q (w.setLink src l') es) :
    ∀ evs w, Q w evs →
      (runWorld cfg w evs).a.stream = w.a.stream ∧ (runWorld cfg w evs).b.stream = w.b.stream ∧
      (runWorld cfg w evs).commits = w.commits ∧
      (∀ s, ((runWorld cfg w evs).link s).emitted = (w.link s).emitted) := by
  intro evs
  induction evs with
  | nil => exact fun _ _ => ⟨rfl, rfl, rfl, fun _ => rfl⟩
  | cons e es ih =>
    intro w hq
    obtain ⟨src, l', hstep, hem, hq'⟩ := hQ w e es hq
    obtain ⟨h1, h2, h3, h4⟩ := ih _ hq'
    have hrun : runWorld cfg w (e :: es) = runWorld cfg (w.setLink src l') es := by rw [← hstep]; rfl
    rw [hrun]
    refine ⟨h1.trans (congrArg SiteSt.stream (site_setLink w src .A l')),
      h2.trans (congrArg SiteSt.stream (site_setLink w src .B l')), h3.trans (commits_setLink ..), fun s => ?_⟩
    rw [h4]
    rcases eq_or_other src s with rfl | rfl
    · rw [link_setLink_same]; exact hem
    · rw [link_setLink_other]

/-- **Once settled, nothing moves.** If every link has stopped or has no pending
    client block left, any further sequence of link steps leaves both streams,
    the commit log and the emitted units unchanged. -/
theorem quiesce_settled (cfg : WCfg) (hf : FOK cfg.parser.filter) (more : List Ev) (w : World) (hinv : WInv cfg w)
    (hs : ∀ s, Settled w s) (hl : ∀ e ∈ more, e.isLink) :
    (runWorld cfg w more).a.stream = w.a.stream ∧ (runWorld cfg w more).b.stream = w.b.stream ∧
    (runWorld cfg w more).commits = w.commits ∧
    (∀ s, ((runWorld cfg w more).link s).emitted = (w.link s).emitted) := by
  refine run_moves_links_only cfg (fun w evs => WInv cfg w ∧ (∀ s, Settled w s) ∧ ∀ e ∈ evs, e.isLink) ?_
    more w ⟨hinv, hs, hl⟩
  intro w e es ⟨hinv, hs, hl⟩
  obtain ⟨src, arg, rfl⟩ := (hl e (List.mem_cons_self ..)).exists
  obtain ⟨l', hstep, hem, hhalt, hpos⟩ := link_step_settled cfg hf w hinv src arg (hs src)
  refine ⟨src, l', hstep, hem, hstep ▸ step_link cfg hf w hinv src arg, fun s => ?_,
    fun e' he' => hl e' (List.mem_cons_of_mem _ he')⟩
  unfold Settled
  rw [site_setLink]
  rcases eq_or_other src s with rfl | rfl
  · rw [link_setLink_same, hhalt]
    exact (hs src).imp_right fun h tb htb => h tb (mem_drop_of_le hpos htb)
  · rw [link_setLink_other]; exact hs _

theorem quiesce (cfg : WCfg) (hf : FOK cfg.parser.filter) (evs : List Ev) (w : World) (hinv : WInv cfg w)
    (hnp : NoPending w) (hl : ∀ e ∈ evs, e.isLink) :
    (runWorld cfg w evs).a.stream = w.a.stream ∧ (runWorld cfg w evs).b.stream = w.b.stream ∧
    (runWorld cfg w evs).commits = w.commits ∧
    (∀ s, ((runWorld cfg w evs).link s).emitted = (w.link s).emitted) :=
  quiesce_settled cfg hf evs w hinv (fun s => .inr (hnp s)) hl

end GunYu.Bisync
