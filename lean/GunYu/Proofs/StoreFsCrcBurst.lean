/-
  C08 — the burst fact for CRC-64/Jones as the repo computes it (table regenerated from
  pkg/digest/crc64.go): two byte strings of equal length whose differences are confined
  to a window of 8 consecutive bytes (64 bits, byte aligned — hence every burst of at most
  57 bits wherever it starts) have different checksums. GF(2)-linearity of the shift
  register (C03: Proofs/Rdb/Crc64.lean) + injectivity of a step (C04: Proofs/Crc64Burst.lean)
  + the classical folding identity: running the register from state `c ^ S w` over `|w| ≤ 8`
  zero bytes equals running it from `c` over the bytes `w` (`S w` = `w` as a little-endian number).
-/
import GunYu.Model.StoreFs
import GunYu.Proofs.Crc64Burst

namespace GunYu.StoreFs
open GunYu GunYu.Rdb

theorem bv_ofNat_toNat (x : BitVec 64) : (x.toNat.toUInt64).toBitVec = x := by
  simp [Nat.toUInt64, UInt64.ofNat]

theorem u64_shr8 (c : UInt64) : (c >>> 8).toBitVec = c.toBitVec >>> 8 := by
  simp [UInt64.toBitVec_shiftRight]

theorem u64_idx (c : UInt64) (b : UInt8) :
    ((c ^^^ b.toUInt64) &&& 0xFF).toNat = ((c.toBitVec ^^^ b.toBitVec.setWidth 64) &&& 0xFF#64).toNat := by
  simp [← UInt64.toNat_toBitVec]

theorem crc64Step_toBitVec (c : UInt64) (b : UInt8) : (crc64Step c b).toBitVec = crc64TabStep c.toBitVec b := by
  unfold crc64Step crc64TabStep
  generalize Gen.crc64Table = T
  rw [UInt64.toBitVec_xor, bv_ofNat_toNat, u64_shr8, u64_idx]

theorem crc64_foldl_toBitVec (bs : Bytes) : ∀ c : UInt64,
    (bs.foldl crc64Step c).toBitVec = crc64TabFrom c.toBitVec bs := by
  induction bs with
  | nil => intro c; rfl
  | cons b t ih =>
    intro c
    simp only [List.foldl_cons, crc64TabFrom]
    rw [ih, crc64Step_toBitVec]
    rfl

/-- `crc64` of Model/StoreFs.lean (UInt64 arithmetic) is `crc64Tab` of Model/Rdb/Crc64.lean -/
theorem crc64_eq_tab (bs : Bytes) : crc64 bs = (crc64Tab bs).toNat := by
  unfold crc64 crc64Tab
  have := crc64_foldl_toBitVec bs 0
  rw [← UInt64.toNat_toBitVec, this]
  rfl

def xorBytes (a b : Bytes) : Bytes := List.zipWith (· ^^^ ·) a b

theorem byte_xor_bv (x y : UInt8) :
    (x ^^^ y).toBitVec.setWidth 64 = x.toBitVec.setWidth 64 ^^^ y.toBitVec.setWidth 64 := by
  rw [UInt8.toBitVec_xor, BitVec.setWidth_xor]

theorem specStep_xor (s s' : BitVec 64) (x y : UInt8) :
    crc64SpecStep (s ^^^ s') (x ^^^ y) = crc64SpecStep s x ^^^ crc64SpecStep s' y := by
  unfold crc64SpecStep
  rw [byte_xor_bv, ← crc64BitStep8_xor]
  congr 1
  ac_rfl

theorem tabStep_xor (s s' : BitVec 64) (x y : UInt8) :
    crc64TabStep (s ^^^ s') (x ^^^ y) = crc64TabStep s x ^^^ crc64TabStep s' y := by
  rw [crc64TabStep_eq_specStep, crc64TabStep_eq_specStep, crc64TabStep_eq_specStep]
  exact specStep_xor s s' x y

theorem tabFrom_xor : ∀ (a b : Bytes) (s s' : BitVec 64), a.length = b.length →
    crc64TabFrom (s ^^^ s') (xorBytes a b) = crc64TabFrom s a ^^^ crc64TabFrom s' b := by
  intro a
  induction a with
  | nil => intro b s s' h; cases b <;> simp_all [xorBytes, crc64TabFrom]
  | cons x t ih =>
    intro b s s' h
    cases b with
    | nil => simp at h
    | cons y u =>
      simp only [xorBytes, List.zipWith_cons_cons, crc64TabFrom, List.foldl_cons]
      rw [tabStep_xor]
      exact ih u _ _ (by simpa using h)

theorem xorBytes_zero : ∀ (a b : Bytes), a.length = b.length → (∀ x ∈ xorBytes a b, x = 0) → a = b := by
  intro a
  induction a with
  | nil => intro b h _; cases b <;> simp_all
  | cons x t ih =>
    intro b h hz
    cases b with
    | nil => simp at h
    | cons y u =>
      simp only [xorBytes, List.zipWith_cons_cons, List.mem_cons, forall_eq_or_imp] at hz
      have hxy : x = y := by
        have := hz.1
        have h2 : (x ^^^ y) ^^^ y = 0 ^^^ y := by rw [this]
        simpa [UInt8.xor_assoc] using h2
      rw [hxy, ih u (by simpa using h) hz.2]

theorem bitStep_zero : crc64BitStep 0#64 = 0#64 := by decide

theorem tabStep_zero_byte (c : BitVec 64) : crc64TabStep c 0 = crc64BitStep8 c := by
  rw [crc64TabStep_eq_specStep]
  unfold crc64SpecStep
  congr 1
  simp

theorem tabFrom_zeros (n : Nat) : crc64TabFrom 0#64 (List.replicate n 0) = 0#64 := by
  induction n with
  | zero => rfl
  | succ k ih =>
    simp only [List.replicate_succ, crc64TabFrom, List.foldl_cons]
    rw [tabStep_zero_byte]
    have : crc64BitStep8 0#64 = 0#64 := by simp [crc64BitStep8, bitStep_zero]
    rw [this]; exact ih

/-- a byte string as a little-endian number in the register -/
def leVal : Bytes → BitVec 64
  | [] => 0#64
  | b :: t => b.toBitVec.setWidth 64 ^^^ (leVal t <<< 8)

theorem leVal_hi : ∀ (w : Bytes) (i : Nat), 8 * w.length ≤ i → (leVal w).getLsbD i = false := by
  intro w
  induction w with
  | nil => intro i _; simp [leVal]
  | cons b t ih =>
    intro i hi
    simp only [List.length_cons] at hi
    simp only [leVal, BitVec.getLsbD_xor, BitVec.getLsbD_setWidth, BitVec.getLsbD_shiftLeft]
    have h1 : b.toBitVec.getLsbD i = false := BitVec.getLsbD_of_ge _ _ (by omega)
    have h2 : (leVal t).getLsbD (i - 8) = false := ih _ (by omega)
    simp [h1, h2]

theorem shl8_shr8_of_hi (x : BitVec 64) (h : ∀ i, 56 ≤ i → x.getLsbD i = false) : (x <<< 8) >>> 8 = x := by
  apply BitVec.eq_of_getLsbD_eq
  intro i hi
  simp only [BitVec.getLsbD_ushiftRight, BitVec.getLsbD_shiftLeft]
  by_cases h56 : i < 56
  · have : 8 + i < 64 := by omega
    simp [this]
  · have := h i (by omega)
    rw [this]
    have : ¬ 8 + i < 64 := by omega
    simp [this]

/-- **folding**: from state `c ^ leVal w`, `|w| ≤ 8` zero bytes bring the register where
    the bytes `w` bring it from state `c` -/
theorem fold_zeros : ∀ (w : Bytes) (c : BitVec 64), w.length ≤ 8 →
    crc64TabFrom (c ^^^ leVal w) (List.replicate w.length 0) = crc64TabFrom c w := by
  intro w
  induction w with
  | nil => intro c _; simp [leVal, crc64TabFrom]
  | cons b t ih =>
    intro c h
    have ht : t.length ≤ 7 := by simp at h; omega
    simp only [List.length_cons, List.replicate_succ, crc64TabFrom, List.foldl_cons]
    rw [tabStep_zero_byte]
    have e : c ^^^ leVal (b :: t) = (c ^^^ b.toBitVec.setWidth 64) ^^^ (leVal t <<< 8) := by
      simp only [leVal]; ac_rfl
    rw [e, crc64BitStep8_xor, crc64BitStep8_shl8,
      shl8_shr8_of_hi _ (fun i hi => leVal_hi t i (by omega))]
    have e2 : crc64BitStep8 (c ^^^ b.toBitVec.setWidth 64) = crc64TabStep c b := by
      rw [crc64TabStep_eq_specStep]; rfl
    rw [e2]
    exact ih _ (by omega)

theorem byte_of_bits (b : UInt8) (h : ∀ i, i < 8 → b.toBitVec.getLsbD i = false) : b = 0 := by
  have : b.toBitVec = 0#8 := by
    apply BitVec.eq_of_getLsbD_eq
    intro i hi
    rw [h i hi]; simp
  exact UInt8.toBitVec_inj.mp this

theorem leVal_cons_shr (b : UInt8) (t : Bytes) (ht : t.length ≤ 7) : leVal (b :: t) >>> 8 = leVal t := by
  apply BitVec.eq_of_getLsbD_eq
  intro i hi
  simp only [leVal, BitVec.getLsbD_ushiftRight, BitVec.getLsbD_xor, BitVec.getLsbD_setWidth, BitVec.getLsbD_shiftLeft]
  by_cases h56 : i < 56
  · have : 8 + i < 64 := by omega
    simp [this]
  · have := leVal_hi t i (by omega)
    simp [this]

theorem leVal_zero : ∀ (w : Bytes), w.length ≤ 8 → leVal w = 0#64 → ∀ x ∈ w, x = 0 := by
  intro w
  induction w with
  | nil => intro _ _ x hx; cases hx
  | cons b t ih =>
    intro h hz x hx
    have ht : t.length ≤ 7 := by simp at h; omega
    have ht0 : leVal t = 0#64 := by rw [← leVal_cons_shr b t ht, hz]; rfl
    have e0 : b.toBitVec.setWidth 64 = 0#64 := by
      have e : leVal (b :: t) = b.toBitVec.setWidth 64 ^^^ (leVal t <<< 8) := rfl
      rw [hz, ht0] at e
      simpa using e.symm
    have hb : b = 0 := by
      apply byte_of_bits
      intro i hi
      have := congrArg (·.getLsbD i) e0
      simpa [BitVec.getLsbD_setWidth, show i < 64 by omega] using this
    rcases List.mem_cons.mp hx with h1 | h1
    · rw [h1]; exact hb
    · exact ih (by omega) ht0 x h1

theorem tabFrom_short_zero (w : Bytes) (h : w.length ≤ 8) (hz : crc64TabFrom 0#64 w = 0#64) : ∀ x ∈ w, x = 0 := by
  have hf := fold_zeros w 0#64 h
  rw [hz, BitVec.zero_xor] at hf
  have : leVal w = 0#64 := crc64TabFrom_inj_state _ _ _ (by rw [hf, tabFrom_zeros])
  exact leVal_zero w h this

/-- **differences confined to 8 consecutive bytes are detected** -/
theorem crc64Tab_window8 (a e e' z : Bytes) (hlen : e.length = e'.length) (h8 : e.length ≤ 8) (hne : e ≠ e') :
    crc64Tab (a ++ e ++ z) ≠ crc64Tab (a ++ e' ++ z) := by
  intro h
  unfold crc64Tab at h
  rw [crc64TabFrom_append, crc64TabFrom_append, crc64TabFrom_append, crc64TabFrom_append] at h
  have h1 := crc64TabFrom_inj_state z _ _ h
  have hx := tabFrom_xor e e' (crc64TabFrom 0#64 a) (crc64TabFrom 0#64 a) hlen
  rw [BitVec.xor_self, h1, BitVec.xor_self] at hx
  have hz := tabFrom_short_zero (xorBytes e e') (by simp [xorBytes, List.length_zipWith]; omega) hx
  exact hne (xorBytes_zero e e' hlen hz)

theorem crc64_window8 (a e e' z : Bytes) (hlen : e.length = e'.length) (h8 : e.length ≤ 8) (hne : e ≠ e') :
    crc64 (a ++ e ++ z) ≠ crc64 (a ++ e' ++ z) := by
  rw [crc64_eq_tab, crc64_eq_tab]
  intro h
  exact crc64Tab_window8 a e e' z hlen h8 hne (BitVec.eq_of_toNat_eq h)

end GunYu.StoreFs
