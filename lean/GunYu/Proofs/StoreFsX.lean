/-
  C08, extended operation set (Model/StoreFsX.lean): generic part.

  * `Pos P fs ops`  : every operation of the list satisfies `P` at the directory it is applied to
  * `OpTrueX`       : `OpTrue` with header rewrites of ANY length ≤ 16 (torn rewrites)
  * crash images with the last write torn — append or header rewrite — keep
    `FsTrue` and `RdbOkP`
-/
import GunYu.Model.StoreFsX
import GunYu.Proofs.StoreFs
import GunYu.Proofs.StoreFsTrue
import GunYu.Proofs.StoreFsSnap

namespace GunYu.StoreFsX
open GunYu GunYu.Store GunYu.StoreFs

def Pos (P : FS → FsOp → Prop) (fs : FS) (ops : List FsOp) : Prop :=
  ∀ pre op post, ops = pre ++ op :: post → P (fs.applyAll pre) op

theorem Pos.nil {P : FS → FsOp → Prop} {fs : FS} : Pos P fs [] := by
  intro pre op post he; simp at he

theorem Pos.single {P : FS → FsOp → Prop} {fs : FS} {o : FsOp} (h : P fs o) : Pos P fs [o] :=
  single_op_positions h

theorem Pos.append {P : FS → FsOp → Prop} {fs : FS} {A B : List FsOp}
    (hA : Pos P fs A) (hB : Pos P (fs.applyAll A) B) : Pos P fs (A ++ B) :=
  positions_append hA hB

theorem Pos.left {P : FS → FsOp → Prop} {fs : FS} {A B : List FsOp} (h : Pos P fs (A ++ B)) : Pos P fs A := by
  intro pre op post he
  exact h pre op (post ++ B) (by rw [he]; simp)

theorem Pos.right {P : FS → FsOp → Prop} {fs : FS} {A B : List FsOp} (h : Pos P fs (A ++ B)) :
    Pos P (fs.applyAll A) B := by
  intro pre op post he
  have := h (A ++ pre) op post (by rw [he]; simp)
  rw [applyAll_append] at this
  exact this

theorem Pos.take {P : FS → FsOp → Prop} {fs : FS} {ops : List FsOp} (h : Pos P fs ops) (n : Nat) :
    Pos P fs (ops.take n) := by
  have : Pos P fs (ops.take n ++ ops.drop n) := by rw [List.take_append_drop]; exact h
  exact this.left

theorem Pos.mono {P Q : FS → FsOp → Prop} {fs : FS} {ops : List FsOp} (hpq : ∀ fs o, P fs o → Q fs o)
    (h : Pos P fs ops) : Pos Q fs ops :=
  fun pre op post he => hpq _ _ (h pre op post he)

theorem Pos.ofAll {P : FS → FsOp → Prop} {fs : FS} {ops : List FsOp} (h : ∀ o ∈ ops, ∀ fs', P fs' o) :
    Pos P fs ops :=
  fun pre op post he => h op (by rw [he]; simp) _

theorem Pos.and {P Q : FS → FsOp → Prop} {fs : FS} {ops : List FsOp} (hp : Pos P fs ops) (hq : Pos Q fs ops) :
    Pos (fun f o => P f o ∧ Q f o) fs ops :=
  fun pre op post he => ⟨hp pre op post he, hq pre op post he⟩

/-- like `OpTrue`, but a header rewrite may be cut short: it overwrites at most
    the first `headerSize` bytes of a file that already has its header -/
def OpTrueX (src : Nat → UInt8) (fs : FS) : FsOp → Prop
  | .create _ => True
  | .remove _ => True
  | .pwriteHdr n hdr => hdr.length ≤ headerSize ∧ ∀ c, fs.get n = some c → headerSize ≤ c.length
  | .append n bs => ∀ c, fs.get n = some c → ContentTrue src n (c ++ bs)
  | .rename a b => ∀ c, fs.get a = some c → ContentTrue src b c

theorem OpTrueX_of_OpTrue {src : Nat → UInt8} (fs : FS) (o : FsOp) (h : OpTrue src fs o) : OpTrueX src fs o := by
  cases o with
  | create n => trivial
  | remove n => trivial
  | append n bs => exact h
  | rename a b => exact h
  | pwriteHdr n hdr => exact ⟨by rw [h.1]; exact Nat.le_refl _, h.2⟩

theorem FsTrue_applyX {src : Nat → UInt8} {fs : FS} (h : FsTrue src fs) (op : FsOp) (hop : OpTrueX src fs op) :
    FsTrue src (fs.apply op) := by
  cases op with
  | create n => exact FsTrue_apply h (.create n) trivial
  | remove n => exact FsTrue_apply h (.remove n) trivial
  | append n bs => exact FsTrue_apply h (.append n bs) hop
  | rename a b => exact FsTrue_apply h (.rename a b) hop
  | pwriteHdr n hdr => exact FsTrue_pwriteHdr h n hdr hop.1 hop.2

theorem OpTrueX_torn_append {src : Nat → UInt8} {fs : FS} {n : FName} {bs : Bytes} (k : Nat)
    (h : OpTrueX src fs (.append n bs)) : OpTrueX src fs (.append n (bs.take k)) :=
  OpTrue_torn (src := src) k h

theorem OpTrueX_torn_hdr {src : Nat → UInt8} {fs : FS} {n : FName} {hdr : Bytes} (k : Nat)
    (h : OpTrueX src fs (.pwriteHdr n hdr)) : OpTrueX src fs (.pwriteHdr n (hdr.take k)) := by
  refine ⟨?_, h.2⟩
  have := h.1
  simp only [List.length_take]
  omega

theorem crashImageX_inv {I : FS → Prop} {P : FS → FsOp → Prop} (hstep : ∀ fs op, I fs → P fs op → I (fs.apply op))
    (htornA : ∀ fs n bs k, P fs (.append n bs) → P fs (.append n (bs.take k)))
    (htornH : ∀ fs n hd k, P fs (.pwriteHdr n hd) → P fs (.pwriteHdr n (hd.take k)))
    {fs : FS} (h : I fs) {ops : List FsOp} (hops : Pos P fs ops) (n k : Nat) : I (crashImageX fs ops n k) := by
  have hx := positions_take hops n
  unfold crashImageX tornLastX
  cases hl : (ops.take n).getLast? with
  | none => exact applyAll_inv hstep _ fs h hx
  | some last =>
    cases last with
    | append nm bs => exact applyAll_inv_last hstep hl h hx (fun _ => htornA _ nm bs k)
    | pwriteHdr nm hd => exact applyAll_inv_last hstep hl h hx (fun _ => htornH _ nm hd k)
    | _ => exact applyAll_inv hstep _ fs h hx

/-- **every crash image of a truthful run is truthful, whatever write is torn** -/
theorem crashImageX_true {src : Nat → UInt8} {fs : FS} (h : FsTrue src fs) (ops : List FsOp)
    (hx : Pos (OpTrueX src) fs ops) (n k : Nat) : FsTrue src (crashImageX fs ops n k) :=
  crashImageX_inv (I := FsTrue src) (P := OpTrueX src) (fun _ op h => FsTrue_applyX h op)
    (fun _ _ _ k => OpTrueX_torn_append k)
    (fun _ _ _ k => OpTrueX_torn_hdr k) h hx n k

theorem crashImageX_rdbOkP {P : Nat → Nat → Bytes → Prop} {fs : FS} (h : RdbOkP P fs) (ops : List FsOp)
    (hx : Pos (RdbSafeP P) fs ops) (n k : Nat) : RdbOkP P (crashImageX fs ops n k) :=
  crashImageX_inv (I := RdbOkP P) (P := RdbSafeP P) (fun _ op h => RdbOkP_apply h op) (fun _ _ _ _ h => h)
    (fun _ _ _ _ h => h) h hx n k

theorem okOps_allOk (ops : List FsOp) : okOps (allOk ops) = ops := by
  unfold okOps allOk
  induction ops with
  | nil => rfl
  | cons a t ih => simp [ih]

theorem okOps_allFail (ops : List FsOp) : okOps (allFail ops) = [] := by
  unfold okOps allFail
  induction ops with
  | nil => rfl
  | cons a t ih => simp [ih]

theorem okOps_append (a b : List Att) : okOps (a ++ b) = okOps a ++ okOps b := by
  unfold okOps; simp

theorem mem_okOps_map {ops : List FsOp} {f : FsOp → Bool} {o : FsOp}
    (h : o ∈ okOps (ops.map (fun x => (⟨x, f x⟩ : Att)))) : o ∈ ops := by
  unfold okOps at h
  obtain ⟨a, ha, rfl⟩ := List.mem_map.mp h
  obtain ⟨x, hx, rfl⟩ := List.mem_map.mp (List.mem_filter.mp ha).1
  exact hx

theorem okOps_fail1 (o : FsOp) : okOps [⟨o, false⟩] = [] := rfl

theorem okOps_allOk_fails (ops : List FsOp) {fails : List Att} (hfails : okOps fails = []) :
    okOps (allOk ops ++ fails) = ops := by
  rw [okOps_append, okOps_allOk, hfails, List.append_nil]

theorem Pos.seq {Q : FS → FsOp → Prop} {fs fs1 fs2 : FS} {ops1 : List FsOp} {fails atts : List Att}
    (hfs : fs1 = fs.applyAll ops1) (h1 : Pos Q fs ops1) (hfails : okOps fails = [])
    (hfs2 : fs2 = fs1.applyAll (okOps atts)) (h2 : Pos Q fs1 (okOps atts)) :
    fs2 = fs.applyAll (okOps (allOk ops1 ++ fails ++ atts)) ∧ Pos Q fs (okOps (allOk ops1 ++ fails ++ atts)) := by
  rw [okOps_append, okOps_allOk_fails ops1 hfails, applyAll_append, ← hfs]
  exact ⟨hfs2, Pos.append h1 (by rw [← hfs]; exact h2)⟩

end GunYu.StoreFsX
