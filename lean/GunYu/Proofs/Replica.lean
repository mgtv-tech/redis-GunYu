/-
  Helper definitions and lemmas for C16 (Props/C16.lean): histories, faithfulness of
  cache contents, well-formedness of a follower store, and the step lemmas for the
  run-id operations, the leader's replies and the follower's receive loops.
-/
import GunYu.Model.Replica

namespace GunYu.Replica

/-- an invariant kept by every step that is allowed (`Ok`) in the state it is taken in holds after
    any list of steps, each allowed where the run has got to -/
theorem foldl_invariant {σ α : Type} (f : σ → α → σ) (Ok : σ → α → Prop) (Inv : σ → Prop)
    (hstep : ∀ s a, Ok s a → Inv s → Inv (f s a)) :
    ∀ (steps : List α) (s : σ),
      (∀ pre a post, steps = pre ++ a :: post → Ok (pre.foldl f s) a) → Inv s → Inv (steps.foldl f s)
  | [], _, _, hs => hs
  | a :: rest, s, hok, hs =>
    foldl_invariant f Ok Inv hstep rest (f s a)
      (fun pre a' post he => hok (a :: pre) a' post (by rw [he]; rfl))
      (hstep s a (hok [] a rest rfl) hs)

/-! ### histories -/

/-- what the source has emitted: the stream byte of run id `id` at offset `o`, and the
    snapshot of `id` taken at offset `o`. No relation between two ids is assumed. -/
structure Hist (β : Type) where
  byte : Id → Nat → β
  snap : Id → Nat → List β

/-- the stream bytes `[b, b+n)` of history `id` -/
def hseg (h : Hist β) (id : Id) (b n : Nat) : List β :=
  (List.range n).map (fun i => h.byte id (b + i))

@[simp] theorem hseg_length (h : Hist β) (id : Id) (b n : Nat) : (hseg h id b n).length = n := by
  simp [hseg]

theorem hseg_zero (h : Hist β) (id : Id) (b : Nat) : hseg h id b 0 = [] := by simp [hseg]

theorem hseg_append (h : Hist β) (id : Id) (b n m : Nat) :
    hseg h id b (n + m) = hseg h id b n ++ hseg h id (b + n) m := by
  simp only [hseg, List.range_add, List.map_append, List.map_map]
  congr 1
  apply List.map_congr_left
  intro i _
  simp [Nat.add_assoc]

theorem hseg_take (h : Hist β) (id : Id) (b n k : Nat) (hk : k ≤ n) :
    (hseg h id b n).take k = hseg h id b k := by
  obtain ⟨m, rfl⟩ : ∃ m, n = k + m := ⟨n - k, by omega⟩
  rw [hseg_append, List.take_left' (by simp)]

theorem hseg_drop (h : Hist β) (id : Id) (b n k : Nat) :
    (hseg h id b n).drop k = hseg h id (b + k) (n - k) := by
  by_cases hk : k ≤ n
  · obtain ⟨m, rfl⟩ : ∃ m, n = k + m := ⟨n - k, by omega⟩
    rw [hseg_append, List.drop_left' (by simp)]
    congr 1
    omega
  · rw [List.drop_of_length_le (by simp; omega), show n - k = 0 by omega]
    rfl

theorem hseg_self_drop {h : Hist β} {id : Id} {b : Nat} {l : List β} (hl : l = hseg h id b l.length)
    (k : Nat) : l.drop k = hseg h id (b + k) (l.drop k).length := by
  conv => lhs; rw [hl]
  rw [hseg_drop, List.length_drop]

theorem hseg_prefix (h : Hist β) (id : Id) (b n : Nat) (p : List β) (hp : p <+: hseg h id b n) :
    p = hseg h id b p.length := by
  have hl : p.length ≤ n := by simpa using hp.length_le
  have := List.prefix_iff_eq_take.mp hp
  rw [this, hseg_take _ _ _ _ _ hl]
  simp


/-! ### faithfulness -/

/-- the contents `d` kept under run id `id` are a copy of history `id`: every stream
    byte at its offset, the snapshot at its offset -/
def Data.Faithful (h : Hist β) (id : Id) (d : Data β) : Prop :=
  d.bytes = hseg h id d.base d.bytes.length ∧ ∀ s, d.snap = some s → s = h.snap id d.base

/-- everything stored under `id` (in any directory named `id`) is faithful to `id` -/
def FaithfulAt (h : Hist β) (ds : Dirs β) (id : Id) : Prop :=
  ∀ d, (id, some d) ∈ ds → d.Faithful h id

/-- the leader's cache, and what its input appends during the session, are copies of the
    history of the leader's run id -/
def Leader.Faithful (h : Hist β) (L : Leader β) : Prop :=
  ∀ d, L.data = some d → d.Faithful h L.cur ∧ L.tail = hseg h L.cur d.right L.tail.length

/-- reachable shapes of a follower store. Disk: the storer's current id, when set, names an
    existing directory. Memory: at most the current id has data, none without an id. -/
def WF : Backend → Store β → Prop
  | .disk, F => (F.cur = "" ∨ F.has F.cur = true) ∧ F.cur ≠ "?"
  | .mem, F => (∀ p ∈ F.dirs, p.1 = F.cur) ∧ (F.cur = "" → F.dirs = []) ∧ F.cur ≠ "?"

/-! ### directory lists -/

theorem getD_mem {ds : Dirs β} {id : Id} {v : Option (Data β)} (hg : getD ds id = some v) :
    (id, v) ∈ ds := by
  induction ds with
  | nil => simp [getD] at hg
  | cons p r ih =>
    obtain ⟨k, w⟩ := p
    simp only [getD] at hg
    split at hg
    · next hk => cases hg; subst hk; simp
    · exact List.mem_cons_of_mem _ (ih hg)

theorem getD_none {ds : Dirs β} {id : Id} : getD ds id = none ↔ ∀ p ∈ ds, p.1 ≠ id := by
  induction ds with
  | nil => simp [getD]
  | cons p r ih =>
    obtain ⟨k, w⟩ := p
    simp only [getD]
    split
    · next hk => subst hk; simp
    · next hk => simp [ih, hk]

theorem getD_isSome {ds : Dirs β} {id : Id} : (getD ds id).isSome = true ↔ ∃ p ∈ ds, p.1 = id := by
  cases hg : getD ds id with
  | none =>
    have := getD_none.mp hg
    simp only [Option.isSome_none, Bool.false_eq_true, false_iff]
    rintro ⟨p, hp, hpk⟩
    exact this p hp hpk
  | some v => simpa using ⟨v, getD_mem hg⟩

theorem mem_dropKey {ds : Dirs β} {id : Id} {p : Id × Option (Data β)} :
    p ∈ dropKey ds id ↔ p ∈ ds ∧ p.1 ≠ id := by
  simp [dropKey]

theorem getD_dropKey_self (ds : Dirs β) (id : Id) : getD (dropKey ds id) id = none := by
  rw [getD_none]; intro p hp; exact (mem_dropKey.mp hp).2

theorem getD_dropKey_ne (ds : Dirs β) {id z : Id} (hz : z ≠ id) :
    getD (dropKey ds id) z = getD ds z := by
  induction ds with
  | nil => rfl
  | cons p r ih =>
    obtain ⟨k, w⟩ := p
    by_cases hk : k = id
    · subst hk
      have : dropKey ((k, w) :: r) k = dropKey r k := by simp [dropKey]
      rw [this, ih]
      simp [getD, Ne.symm hz]
    · have : dropKey ((k, w) :: r) id = (k, w) :: dropKey r id := by simp [dropKey, hk]
      rw [this]
      simp only [getD, ih]

theorem getD_append_none (l : Dirs β) (x : Id) (h : getD l x = none) :
    getD (l ++ [(x, none)]) x = some none := by
  induction l with
  | nil => simp [getD]
  | cons p r ih =>
    obtain ⟨k, w⟩ := p
    simp only [getD, List.cons_append] at h ⊢
    split at h
    · cases h
    · next hk => rw [if_neg hk]; exact ih h

theorem curData_none_of_get {F : Store β} (h : F.get F.cur = none ∨ F.get F.cur = some none) :
    F.curData = none := by
  unfold Store.curData
  rcases h with h | h <;> rw [h]

theorem curData_get {F : Store β} {d : Data β} (hd : F.curData = some d) : F.get F.cur = some (some d) := by
  unfold Store.curData at hd
  split at hd
  · next hg => cases hd; exact hg
  · cases hd

theorem curData_mem {F : Store β} {d : Data β} (hd : F.curData = some d) :
    (F.cur, some d) ∈ F.dirs := getD_mem (curData_get hd)

/-! ### `Sub`: nothing non-empty appears that was not there -/

/-- every non-empty directory of `a` is a directory of `b` (same id, same contents) -/
def Sub (a b : Dirs β) : Prop := ∀ id d, (id, some d) ∈ a → (id, some d) ∈ b

theorem Sub.refl (a : Dirs β) : Sub a a := fun _ _ h => h
theorem Sub.trans {a b c : Dirs β} (h1 : Sub a b) (h2 : Sub b c) : Sub a c :=
  fun id d h => h2 id d (h1 id d h)
theorem Sub.nil (b : Dirs β) : Sub [] b := fun _ _ h => by cases h

theorem FaithfulAt.of_sub {h : Hist β} {a b : Dirs β} {id : Id} (hs : Sub a b)
    (hf : FaithfulAt h b id) : FaithfulAt h a id := fun d hd => hf d (hs id d hd)

theorem sub_dropKey (ds : Dirs β) (id : Id) : Sub (dropKey ds id) ds :=
  fun _ _ h => (mem_dropKey.mp h).1

theorem sub_append_none (ds : Dirs β) (id : Id) : Sub (ds ++ [(id, none)]) ds := by
  intro k d h
  simp only [List.mem_append, List.mem_singleton, Prod.mk.injEq] at h
  rcases h with h | ⟨_, h⟩
  · exact h
  · cases h

/-- every directory of `a` is `x`'s or was a directory of `b` (same contents) -/
def KSub (x : Id) (a b : Dirs β) : Prop := ∀ p ∈ a, p.1 = x ∨ p ∈ b

theorem KSub.refl (x : Id) (a : Dirs β) : KSub x a a := fun _ hp => Or.inr hp
theorem KSub.trans {x : Id} {a b c : Dirs β} (h1 : KSub x a b) (h2 : KSub x b c) : KSub x a c := by
  intro p hp
  rcases h1 p hp with h | h
  · exact Or.inl h
  · exact h2 p h

theorem ksub_dropKey (x y : Id) (ds : Dirs β) : KSub x (dropKey ds y) ds :=
  fun _ hp => Or.inr (mem_dropKey.mp hp).1

theorem ksub_setCur (F : Store β) (v : Option (Data β)) : KSub F.cur (F.setCur v).dirs F.dirs := by
  intro p hp
  simp only [Store.setCur, List.mem_cons] at hp
  rcases hp with rfl | hp
  · exact Or.inl rfl
  · exact Or.inr (mem_dropKey.mp hp).1

/-! ### evaluation of the run-id operations -/

theorem special_false {x : Id} (h1 : x ≠ "") (h2 : x ≠ "?") : special x = false := by
  simp [special, h1, h2]

theorem store_eta (F : Store β) : ({ F with cur := F.cur } : Store β) = F := by cases F; rfl

theorem has_iff_get {F : Store β} {id : Id} : F.has id = true ↔ (getD F.dirs id).isSome = true := by
  simp [Store.has, Store.get]

theorem has_false_iff {F : Store β} {id : Id} : F.has id = false ↔ getD F.dirs id = none := by
  simp [Store.has, Store.get]

/-- disk `newRunId` of an existing directory just switches to it -/
theorem newRunIdDisk_has {F : Store β} {x : Id} (hx : special x = false) (hh : F.has x = true) :
    newRunIdDisk F x = { F with cur := x } := by
  simp [newRunIdDisk, hx, hh]

theorem newRunIdDisk_new {F : Store β} {x : Id} (hx : special x = false) (hh : F.has x = false) :
    newRunIdDisk F x = { cur := x, dirs := F.dirs ++ [(x, none)] } := by
  simp [newRunIdDisk, hx, hh]

/-- disk `SetRunId(x)` when the directory of `x` exists: no rename, the storer switches -/
theorem setRunId_disk_has {F : Store β} {x : Id} (hx : special x = false) (hh : F.has x = true) :
    setRunId .disk F x = { F with cur := x } := by
  simp only [setRunId, hx, Bool.false_eq_true, if_false]
  split
  · exact newRunIdDisk_has hx hh
  · simp [hh, newRunIdDisk_has hx hh]

/-- disk `SetRunId(x)` when the storer has no current id -/
theorem setRunId_disk_nocur {F : Store β} {x : Id} (hc : F.cur = "") :
    setRunId .disk F x = newRunIdDisk F x := by
  by_cases hs : special x = true
  · simp [setRunId, newRunIdDisk, hs]
  · simp [setRunId, hc, hs]

theorem delRunId_disk_has {F : Store β} {x : Id} (hx : special x = false) (hh : F.has x = true) :
    delRunId .disk F x = { cur := "", dirs := dropKey F.dirs x } := by
  simp [delRunId, hx, hh]

theorem delRunId_mem_cur (F : Store β) : delRunId .mem F F.cur = { cur := "", dirs := [] } := by
  simp [delRunId]

theorem has_append_self (ds : Dirs β) (c x : Id) (v : Option (Data β)) :
    (Store.has ⟨c, ds ++ [(x, v)]⟩ x) = true := by
  rw [has_iff_get, getD_isSome]
  exact ⟨(x, v), by simp, rfl⟩

/-! ### the follower's position after `preSync` -/

/-- the follower has adopted run id `x`: it is the current id, (disk) its directory
    exists, (memory) nothing is held under another id -/
def At (bk : Backend) (F : Store β) (x : Id) : Prop :=
  F.cur = x ∧ (bk = .disk → F.has x = true) ∧ (bk = .mem → ∀ p ∈ F.dirs, p.1 = x)

theorem At.mk_disk {F : Store β} {x : Id} (hc : F.cur = x) (hh : F.has x = true) : At .disk F x :=
  ⟨hc, fun _ => hh, fun h => Backend.noConfusion h⟩

theorem At.mk_mem {F : Store β} {x : Id} (hc : F.cur = x) (hk : ∀ p ∈ F.dirs, p.1 = x) :
    At .mem F x :=
  ⟨hc, fun h => Backend.noConfusion h, fun _ => hk⟩

theorem At.wf {bk : Backend} {F : Store β} {x : Id} (hx1 : x ≠ "") (hx2 : x ≠ "?")
    (h : At bk F x) : WF bk F := by
  obtain ⟨hc, hd, hm⟩ := h
  cases bk with
  | disk => exact ⟨Or.inr (by rw [hc]; exact hd rfl), by rw [hc]; exact hx2⟩
  | mem =>
    refine ⟨fun p hp => by rw [hc]; exact hm rfl p hp, fun h0 => absurd (hc ▸ h0) hx1, by rw [hc]; exact hx2⟩

/-- `StartPoint([x])` of a follower that has adopted `x` changes nothing -/
theorem startPoint_at (bk : Backend) (F : Store β) (x : Id) (hx1 : x ≠ "") (hx2 : x ≠ "?")
    (h : At bk F x) : (startPoint bk F x).1 = F := by
  obtain ⟨hc, hd, _⟩ := h
  have hsp := special_false hx1 hx2
  cases bk with
  | disk =>
    have hh := hd rfl
    simp only [startPoint, hsp, Bool.false_eq_true, if_false]
    cases hg : F.get x with
    | none => simp [Store.has, hg] at hh
    | some v =>
      simp only
      have : setRunId .disk F x = F := by rw [setRunId_disk_has hsp hh, ← hc]
      split <;> exact this
  | mem =>
    simp only [startPoint]
    split <;> rfl

theorem setCur_at (bk : Backend) (F : Store β) (x : Id) (v : Option (Data β)) (h : At bk F x) :
    At bk (F.setCur v) x := by
  obtain ⟨hc, _, hm⟩ := h
  refine ⟨hc, fun _ => ?_, fun hb p hp => ?_⟩
  · rw [has_iff_get, getD_isSome]
    exact ⟨(F.cur, v), by simp [Store.setCur], hc⟩
  · simp only [Store.setCur, List.mem_cons] at hp
    rcases hp with rfl | hp
    · exact hc
    · exact hm hb p (mem_dropKey.mp hp).1

theorem setCur_faithful {h : Hist β} (F : Store β) (v : Option (Data β)) (id : Id)
    (hv : id = F.cur → ∀ d, v = some d → d.Faithful h id) (hf : FaithfulAt h F.dirs id) :
    FaithfulAt h (F.setCur v).dirs id := by
  intro d hd
  simp only [Store.setCur, List.mem_cons, Prod.mk.injEq] at hd
  rcases hd with ⟨hk, hv'⟩ | hd
  · exact hv hk d hv'.symm
  · exact hf d (mem_dropKey.mp hd).1

theorem setCur_curData (F : Store β) (v : Option (Data β)) : (F.setCur v).curData = v := by
  simp only [Store.curData, Store.get, Store.setCur, getD, if_true]
  cases v <;> rfl


/-! ### chunks, `CONTINUE` messages, receive loops -/

theorem chop_flatten (ch : List Nat) (xs : List β) : (chop ch xs).1.flatten = xs := by
  induction ch generalizing xs with
  | nil => cases xs <;> simp [chop]
  | cons c cs ih =>
    cases xs with
    | nil => simp [chop]
    | cons a as =>
      simp only [chop]
      split
      · exact ih _
      · simp only [List.flatten_cons, ih, List.take_append_drop]

/-- all received payload bytes of a message list -/
def pay (ms : List (Msg β)) : List β := (ms.map payload).flatten

theorem pay_cons (m : Msg β) (ms : List (Msg β)) : pay (m :: ms) = payload m ++ pay ms := by
  simp [pay]

theorem pay_conts (o : Int) (cs : List (List β)) : pay (conts o cs) = cs.flatten := by
  induction cs generalizing o with
  | nil => simp [conts, pay]
  | cons c cs ih =>
    simp only [conts, pay_cons, ih, List.flatten_cons]
    simp [payload]

theorem pay_append (a b : List (Msg β)) : pay (a ++ b) = pay a ++ pay b := by
  simp [pay]

/-- what may follow the chunks of a transfer: nothing, the `FAULT` of a stopped leader, or the
    `ERROR` of a leader whose channel was relabelled under the open reader -/
def Tail (tl : List (Msg β)) : Prop := tl = [] ∨ tl = [ctl .fault] ∨ tl = [ctl .error]

theorem pay_tail {tl : List (Msg β)} (h : Tail tl) : pay tl = [] := by
  rcases h with rfl | rfl | rfl <;> simp [pay, payload, ctl]

theorem pay_conts_tail (o : Int) (cs : List (List β)) {tl : List (Msg β)} (h : Tail tl) :
    pay (conts o cs ++ tl) = cs.flatten := by
  rw [pay_append, pay_conts, pay_tail h, List.append_nil]

/-- what a writer gets onto its file is a prefix (`take`) of what it was handed -/
theorem Loss.written_take (l : Loss) (p : List β) (a : Nat) :
    ∃ n, (l.written (p.take a)).1 = p.take n := by
  unfold Loss.written
  cases l.wfault with
  | none => exact ⟨a, rfl⟩
  | some K => exact ⟨min K a, by simp [List.take_take]⟩

theorem Loss.written_none {l : Loss} (h : l.wfault = none) (p : List β) : l.written p = (p, false) := by
  simp [Loss.written, h]

@[simp] theorem Loss.written_zero (p : List β) : (0 : Loss).written p = (p, false) := rfl

theorem aofLoop_prefix (fin : Fin) (n : Nat) (ms : List (Msg β)) :
    (aofLoop fin n ms).2.1 <+: pay ms := by
  induction ms generalizing n with
  | nil => cases n <;> simp [aofLoop]
  | cons m ms ih =>
    cases n with
    | zero => simp [aofLoop]
    | succ n =>
      simp only [aofLoop]
      split
      · simp
      · simp only [pay_cons]
        exact (List.prefix_append_right_inj _).mpr (ih n)

theorem rdbLoop_prefix (fin : Fin) (n r : Nat) (ms : List (Msg β)) :
    (rdbLoop fin n r ms).2.1 <+: pay ms := by
  induction ms generalizing n r with
  | nil => cases n <;> cases r <;> simp [rdbLoop]
  | cons m ms ih =>
    cases r with
    | zero => simp [rdbLoop]
    | succ r =>
      cases n with
      | zero => simp [rdbLoop]
      | succ n =>
        simp only [rdbLoop]
        split
        · simp
        · simp only [pay_cons]
          exact (List.prefix_append_right_inj _).mpr (ih n _)

theorem rdbLoop_complete (fin : Fin) (n r : Nat) (ms : List (Msg β))
    (hc : (rdbLoop fin n r ms).2.2 = none) : r ≤ (rdbLoop fin n r ms).2.1.length := by
  induction ms generalizing n r with
  | nil => cases n <;> cases r <;> simp_all [rdbLoop]
  | cons m ms ih =>
    cases r with
    | zero => simp
    | succ r =>
      cases n with
      | zero => simp [rdbLoop] at hc
      | succ n =>
        simp only [rdbLoop] at hc ⊢
        split at hc
        · simp at hc
        · next hr =>
          simp only [List.length_append]
          have := ih n (r + 1 - (payload m).length) hc
          omega

/-- a complete snapshot transfer yields exactly the snapshot when what the leader sends is
    (a prefix of) the snapshot -/
theorem rdbLoop_complete_eq (fin : Fin) (n : Nat) (ms : List (Msg β)) (sn : List β)
    (hp : pay ms <+: sn) (hc : (rdbLoop fin n sn.length ms).2.2 = none) :
    (rdbLoop fin n sn.length ms).2.1 = sn := by
  have h1 := (rdbLoop_prefix fin n sn.length ms).trans hp
  have hl := rdbLoop_complete fin n _ _ hc
  exact h1.eq_of_length_le hl

/-! ### the leader's replies -/

/-- what `ServiceReplica`/`Handle` can answer to the request `(rid, _)` when the cache
    its reader is opened on is a faithful copy of history; `c` is the id it announces -/
inductive Shape (h : Hist β) (c : Id) (rid : Id) : List (Msg β) → Prop
  | silent : Shape h c rid []
  | ctl (k : Code) (hc : k = .failure ∨ k = .clear ∨ k = .error) : Shape h c rid [ctl k]
  | clearThen (ms : List (Msg β)) : Shape h c rid (ctl .clear :: ms)
  | hello (o : Int) (hr : rid = "" ∨ rid = "?") : Shape h c rid [⟨.info, c, false, o, 0, []⟩]
  | handover (o : Int) : Shape h c rid [⟨.handover, c, false, o, 0, []⟩]
  | aof (off : Int) (cs : List (List β)) (tl : List (Msg β)) (k : Nat) (h0 : 0 ≤ off)
      (hb : cs.flatten = hseg h rid off.toNat k) (htl : Tail tl) :
      Shape h c rid (⟨.info, "", true, off, -1, []⟩ :: (conts off cs ++ tl))
  | rdb (off : Int) (base : Nat) (s : List β) (cs : List (List β)) (tl : List (Msg β))
      (hs : s = h.snap rid base) (hb : cs.flatten <+: s) (htl : Tail tl) :
      Shape h c rid (⟨.info, "", false, base, s.length, []⟩ :: (conts off cs ++ tl))

theorem tail_if (e : HaltEnd) : Tail (e.msgs : List (Msg β)) := by
  cases e
  · exact Or.inl rfl
  · exact Or.inr (Or.inl rfl)
  · exact Or.inr (Or.inr rfl)

theorem flatten_take_prefix (cs : List (List β)) (k : Nat) : (cs.take k).flatten <+: cs.flatten := by
  conv => rhs; rw [← List.take_append_drop k cs]
  rw [List.flatten_append]
  exact List.prefix_append _ _

/-- the replies of `sendData`: a refusal (`CLEAR`: nothing can be read at `off`; `ERROR`: the
    reader belongs to another id than `rid`), or the announcement of the stream or of the
    snapshot followed by chunks of it: all of them, or `k` of them and the end `tl` of a
    halting handler -/
inductive Sent (L : Leader β) (rid : Id) (off : Int) (ch : List Nat) : Reply β → Prop
  | refused (c : Code) (hc : c = .clear ∨ c = .error) : Sent L rid off ch ⟨[ctl c], .err .plain, ch⟩
  | aof (d : Data β) (hd : L.data = some d) (hid : L.cur = rid) (hin : L.inAof d off = true)
      (k : Nat) (tl : List (Msg β)) (htl : Tail tl) (fin : Fin) :
      Sent L rid off ch ⟨⟨.info, "", true, off, -1, []⟩ ::
        (conts off ((chop ch (d.bytes.drop (off - (d.base : Int)).toNat ++ L.tail)).1.take k) ++ tl), fin,
        (chop ch (d.bytes.drop (off - (d.base : Int)).toNat ++ L.tail)).2⟩
  | rdb (d : Data β) (s : List β) (hd : L.data = some d) (hid : L.cur = rid) (hs : d.snap = some s)
      (k : Nat) (tl : List (Msg β)) (htl : Tail tl) (fin : Fin) :
      Sent L rid off ch ⟨⟨.info, "", false, d.base, s.length, []⟩ :: (conts off ((chop ch s).1.take k) ++ tl),
        fin, (chop ch s).2⟩

theorem sendData_sent (L : Leader β) (rid : Id) (off : Int) (ch : List Nat) :
    Sent L rid off ch (L.sendData rid off ch) := by
  have all : ∀ cs : List (List β), conts off cs = conts off (cs.take cs.length) ++ [] := by
    intro cs; rw [List.take_length, List.append_nil]
  unfold Leader.sendData
  cases hd : L.data with
  | none => exact .refused _ (.inl rfl)
  | some d =>
    dsimp only
    by_cases hin : L.inAof d off = true
    · rw [if_pos hin]
      by_cases hc : L.cur ≠ rid
      · rw [if_pos hc]; exact .refused _ (.inr rfl)
      rw [if_neg hc]
      cases L.halt with
      | none => dsimp only; rw [all]; exact .aof d hd (Decidable.not_not.mp hc) hin _ _ (.inl rfl) _
      | some ke => exact .aof d hd (Decidable.not_not.mp hc) hin _ _ (tail_if ke.2) _
    rw [if_neg hin]
    cases hs : d.snap with
    | none => exact .refused _ (.inl rfl)
    | some s =>
      dsimp only
      by_cases hle : off ≤ (d.base : Int)
      · rw [if_pos hle]
        by_cases hc : L.cur ≠ rid
        · rw [if_pos hc]; exact .refused _ (.inr rfl)
        rw [if_neg hc]
        cases L.halt with
        | none => dsimp only; rw [all]; exact .rdb d s hd (Decidable.not_not.mp hc) hs _ _ (.inl rfl) _
        | some ke => exact .rdb d s hd (Decidable.not_not.mp hc) hs _ _ (tail_if ke.2) _
      · rw [if_neg hle]; exact .refused _ (.inl rfl)

theorem sendData_shape (h : Hist β) (c : Id) (L : Leader β) (hL : L.Faithful h) (rid : Id)
    (off : Int) (ch : List Nat) : Shape h c rid (L.sendData rid off ch).msgs := by
  have hs := sendData_sent L rid off ch
  generalize L.sendData rid off ch = rp at hs
  cases hs with
  | refused k hk => exact .ctl _ (.inr hk)
  | aof d hd hid hin k tl htl fin =>
    obtain ⟨hf, htail⟩ := hL d hd
    simp only [Leader.inAof, Bool.and_eq_true, decide_eq_true_eq] at hin
    obtain ⟨⟨_, hlo⟩, hhi⟩ := hin
    simp only [Data.right] at hhi htail
    -- everything that can be sent is history from `off` on
    have hall : (chop ch (d.bytes.drop (off - (d.base : Int)).toNat ++ L.tail)).1.flatten =
        hseg h rid off.toNat (d.bytes.length - (off - (d.base : Int)).toNat + L.tail.length) := by
      rw [chop_flatten, hseg_append, ← hid]
      congr 1
      · rw [hf.1, hseg_drop]
        simp only [hseg_length]
        congr 1
        omega
      · rw [htail]
        simp only [hseg_length]
        congr 1
        omega
    have hpre := flatten_take_prefix (chop ch (d.bytes.drop (off - (d.base : Int)).toNat ++ L.tail)).1 k
    rw [hall] at hpre
    exact .aof off _ _ _ (by omega) (hseg_prefix h rid _ _ _ hpre) htl
  | rdb d s hd hid hs k tl htl fin =>
    have hpre := flatten_take_prefix (chop ch s).1 k
    rw [chop_flatten] at hpre
    exact .rdb off d.base s _ _ (hid ▸ (hL d hd).1.2 s hs) hpre htl

/-- what `Handle` answers once the gate and the self inspection are passed: the handshake
    answer, `ERROR` for an id that is not the input's, `HANDOVER` to a follower that is ahead,
    or the data transfer -/
inductive Answered (v : View β) (rid : Id) (roff : Int) (ch : List Nat) : Reply β → Prop
  | hello (hr : rid = "" ∨ rid = "?") :
      Answered v rid roff ch ⟨[⟨.info, v.l2b.cur, false, latest v.l2b.data, 0, []⟩], .eof, ch⟩
  | wrongId : Answered v rid roff ch ⟨[ctl .error], .err .plain, ch⟩
  | handover : Answered v rid roff ch ⟨[⟨.handover, v.l2b.cur, false, latest v.l2b.data, 0, []⟩], .err .role, ch⟩
  | data (hr : ¬ (rid = "" ∨ rid = "?")) (hle : ¬ roff - latest v.l2b.data > 0) :
      Answered v rid roff ch (v.l4.sendData rid (if v.l3.valid rid roff then roff else latest v.l2b.data) ch)

/-- the replies of `ServiceReplica`/`Handle`: `FAILURE` (closed gate, or no input id: then
    the process is restarted), nothing (not started), or the answer, after selfInspection's
    `CLEAR` when the channel's id is not the input's newest -/
inductive Handled (v : View β) (rid : Id) (roff : Int) (ch : List Nat) : Reply β → Prop
  | failure (k : SrvErr) : Handled v rid roff ch ⟨[ctl .failure], .err k, ch⟩
  | silent : Handled v rid roff ch ⟨[], .err .plain, ch⟩
  | answer (pre : List (Msg β)) (hpre : pre = [] ∨ pre = [ctl .clear]) (rp : Reply β)
      (hrp : Answered v rid roff ch rp) : Handled v rid roff ch ⟨pre ++ rp.msgs, rp.fin, rp.rest⟩

theorem handle_handled (v : View β) (rid : Id) (roff : Int) (ch : List Nat) :
    Handled v rid roff ch (v.handle rid roff ch) := by
  unfold View.handle
  by_cases h1 : (!v.l1.serving) = true
  · rw [if_pos h1]; exact .failure _
  rw [if_neg h1]
  by_cases h2 : (!v.l1.started) = true
  · rw [if_pos h2]; exact .silent
  rw [if_neg h2]
  cases v.l1.inputIds with
  | nil => exact .failure _
  | cons i0 _ =>
    refine .answer _ ?_ _ ?_
    · by_cases h : i0 ≠ v.l1b.cur
      · rw [if_pos h]; exact .inr rfl
      · rw [if_neg h]; exact .inl rfl
    · by_cases h3 : (rid = "" || rid = "?") = true
      · rw [if_pos h3]; exact .hello (by simpa using h3)
      rw [if_neg h3]
      by_cases h4 : v.l2.inputIds.head? ≠ some rid
      · rw [if_pos h4]; exact .wrongId
      rw [if_neg h4]
      by_cases h5 : roff - latest v.l2b.data > 0
      · rw [if_pos h5]; exact .handover
      · rw [if_neg h5]; exact .data (by simpa using h3) h5

theorem handle_shape (h : Hist β) (v : View β) (hL : v.l4.Faithful h) (rid : Id) (roff : Int)
    (ch : List Nat) : Shape h v.l2b.cur rid (v.handle rid roff ch).msgs := by
  have hh := handle_handled v rid roff ch
  generalize v.handle rid roff ch = rp at hh
  cases hh with
  | failure k => exact .ctl _ (.inl rfl)
  | silent => exact .silent
  | answer pre hpre rp hrp =>
    rcases hpre with rfl | rfl
    · cases hrp with
      | hello hr => exact .hello _ hr
      | wrongId => exact .ctl _ (.inr (.inr rfl))
      | handover => exact .handover _
      | data _ _ => exact sendData_shape h _ v.l4 hL rid _ _
    · exact .clearThen _

/-! ### the follower's steps -/

theorem newRunIdDisk_spec (F : Store β) (x : Id) (hx1 : x ≠ "") (hx2 : x ≠ "?") :
    At .disk (newRunIdDisk F x) x ∧ Sub (newRunIdDisk F x).dirs F.dirs ∧
      KSub x (newRunIdDisk F x).dirs F.dirs ∧
      (getD F.dirs x = none ∨ getD F.dirs x = some none → (newRunIdDisk F x).curData = none) := by
  have hsp := special_false hx1 hx2
  cases hh : F.has x with
  | true =>
    rw [newRunIdDisk_has hsp hh]
    refine ⟨At.mk_disk rfl hh, Sub.refl _, KSub.refl _ _, fun hg => ?_⟩
    rcases hg with hg | hg
    · rw [has_false_iff.mpr hg] at hh; cases hh
    · exact curData_none_of_get (.inr hg)
  | false =>
    rw [newRunIdDisk_new hsp hh]
    refine ⟨At.mk_disk rfl (has_append_self _ _ _ _), sub_append_none _ _, fun p hp => ?_,
      fun _ => curData_none_of_get (.inr (getD_append_none _ _ (has_false_iff.mp hh)))⟩
    rcases List.mem_append.mp hp with hp | hp
    · exact .inr hp
    · exact .inl (by rw [List.mem_singleton.mp hp])

/-- "delete then adopt" of the current id `x` leaves an empty cache for `x` and touches
    nothing else -/
theorem reset_at (bk : Backend) (F : Store β) (x : Id) (hx1 : x ≠ "") (hx2 : x ≠ "?")
    (h : At bk F x) :
    At bk (setRunId bk (delRunId bk F x) x) x ∧
      Sub (setRunId bk (delRunId bk F x) x).dirs F.dirs ∧
      (setRunId bk (delRunId bk F x) x).curData = none ∧
      KSub x (setRunId bk (delRunId bk F x) x).dirs F.dirs := by
  obtain ⟨hc, hd, _⟩ := h
  cases bk with
  | disk =>
    rw [delRunId_disk_has (special_false hx1 hx2) (hd rfl), setRunId_disk_nocur rfl]
    have := newRunIdDisk_spec (⟨"", dropKey F.dirs x⟩ : Store β) x hx1 hx2
    exact ⟨this.1, this.2.1.trans (sub_dropKey _ _), this.2.2.2 (.inl (getD_dropKey_self _ _)),
      this.2.2.1.trans (ksub_dropKey _ _ _)⟩
  | mem =>
    subst hc
    rw [delRunId_mem_cur]
    simp only [setRunId, List.map_nil]
    exact ⟨At.mk_mem rfl (fun p hp => by cases hp), Sub.nil _, by simp [Store.curData, Store.get, getD],
      (fun p hp => by cases hp)⟩

/-- `SetRunId(x)` of a follower that has already adopted `x` changes nothing -/
theorem setRunId_at (bk : Backend) (F : Store β) (x : Id) (hx1 : x ≠ "") (hx2 : x ≠ "?")
    (h : At bk F x) : setRunId bk F x = F := by
  obtain ⟨hc, hd, hm⟩ := h
  cases bk with
  | disk => rw [setRunId_disk_has (special_false hx1 hx2) (hd rfl), ← hc]
  | mem =>
    simp only [setRunId]
    have : F.dirs.map (fun p => (x, p.2)) = F.dirs := by
      conv => rhs; rw [← List.map_id F.dirs]
      apply List.map_congr_left
      intro p hp
      have := hm rfl p hp
      simp [← this]
    rw [this, ← hc]

theorem adopt_spec (bk : Backend) (F : Store β) (x : Id) (hx1 : x ≠ "") (hx2 : x ≠ "?")
    (hwf : WF bk F) :
    At bk (adopt bk F x) x ∧ Sub (adopt bk F x).dirs F.dirs ∧ KSub x (adopt bk F x).dirs F.dirs ∧
      ((F.cur = x → F.curData = none) →
        (bk = .disk → getD F.dirs x = none ∨ getD F.dirs x = some none) →
        (adopt bk F x).curData = none) := by
  unfold adopt
  by_cases hcx : F.cur = x
  · -- already there
    have hat : At bk F x := by
      cases bk with
      | disk => exact At.mk_disk hcx (hcx ▸ hwf.1.resolve_left (hcx ▸ hx1))
      | mem => exact At.mk_mem hcx (fun p hp => hcx ▸ hwf.1 p hp)
    have : (F.cur ≠ "" && F.cur ≠ x) = false := by simp [hcx]
    rw [this, if_neg Bool.false_ne_true, setRunId_at bk F x hx1 hx2 hat]
    exact ⟨hat, Sub.refl _, KSub.refl _ _, fun h _ => h hcx⟩
  · cases bk with
    | disk =>
      obtain ⟨hcur, hq⟩ := hwf
      by_cases hc : F.cur = ""
      · have : (F.cur ≠ "" && F.cur ≠ x) = false := by simp [hc]
        rw [this, if_neg Bool.false_ne_true, setRunId_disk_nocur hc]
        have := newRunIdDisk_spec F x hx1 hx2
        exact ⟨this.1, this.2.1, this.2.2.1, fun _ hg => this.2.2.2 (hg rfl)⟩
      · -- the current directory is deleted first
        have : (F.cur ≠ "" && F.cur ≠ x) = true := by simp [hc, hcx]
        rw [this, if_pos rfl, delRunId_disk_has (special_false hc hq) (hcur.resolve_left hc),
          setRunId_disk_nocur rfl]
        have := newRunIdDisk_spec (⟨"", dropKey F.dirs F.cur⟩ : Store β) x hx1 hx2
        refine ⟨this.1, this.2.1.trans (sub_dropKey _ _), this.2.2.1.trans (ksub_dropKey _ _ _),
          fun _ hg => this.2.2.2 ?_⟩
        simp only
        rw [getD_dropKey_ne _ (Ne.symm hcx)]
        exact hg rfl
    | mem =>
      obtain ⟨hkeys, hnil, hq⟩ := hwf
      have hempty : (if (F.cur ≠ "" && F.cur ≠ x) = true then delRunId .mem F F.cur else F).dirs = [] := by
        by_cases hc : F.cur = ""
        · have : (F.cur ≠ "" && F.cur ≠ x) = false := by simp [hc]
          rw [this]
          simpa using hnil hc
        · have : (F.cur ≠ "" && F.cur ≠ x) = true := by simp [hc, hcx]
          rw [this, if_pos rfl, delRunId_mem_cur]
      simp only [setRunId, hempty, List.map_nil]
      exact ⟨At.mk_mem rfl (fun p hp => by cases hp), Sub.nil _, (fun p hp => by cases hp),
        fun _ _ => by simp [Store.curData, Store.get, getD]⟩

/-- the follower asks for the end of what it holds -/
def Pos (F : Store β) (fsp : Id × Int) : Prop := ∀ d, F.curData = some d → fsp.2 = (d.right : Int)

/-- `StartPoint([x])` keeps every directory; when it answers with `x` itself the follower
    has adopted `x` and the offset is the end of what it holds; otherwise nothing is held for `x` -/
theorem startPoint_spec (bk : Backend) (F : Store β) (x : Id) (hx1 : x ≠ "") (hx2 : x ≠ "?")
    (hwf : WF bk F) :
    WF bk (startPoint bk F x).1 ∧ (startPoint bk F x).1.dirs = F.dirs ∧
      ((startPoint bk F x).2.1 = x → At bk (startPoint bk F x).1 x ∧
        (startPoint bk F x).2.2 = latest (startPoint bk F x).1.curData) ∧
      ((startPoint bk F x).2.1 ≠ x →
        ((startPoint bk F x).1.cur = x → (startPoint bk F x).1.curData = none) ∧
        (bk = .disk → getD F.dirs x = none ∨ getD F.dirs x = some none)) := by
  have hsp := special_false hx1 hx2
  cases bk with
  | disk =>
    simp only [startPoint, hsp, Bool.false_eq_true, if_false]
    cases hg : F.get x with
    | none =>
      have hnx : F.has x = false := by simp [Store.has, hg]
      have hcx : F.cur ≠ x := by
        intro e
        rcases hwf.1 with h0 | hh
        · exact hx1 (e ▸ h0)
        · rw [e, hnx] at hh; cases hh
      refine ⟨hwf, rfl, fun he => ?_, fun _ => ⟨fun e => absurd e hcx, fun _ => .inl hg⟩⟩
      by_cases hc : F.cur = ""
      · simp [hc] at he; exact absurd he.symm hx2
      · simp only [hc, if_false] at he; exact absurd he hcx
    | some v =>
      have hhx : F.has x = true := by simp [Store.has, hg]
      have hat : At .disk ({ F with cur := x } : Store β) x := At.mk_disk rfl hhx
      simp only [setRunId_disk_has hsp hhx]
      cases v with
      | none =>
        refine ⟨hat.wf hx1 hx2, rfl, fun he => ?_,
          fun _ => ⟨fun _ => curData_none_of_get (.inr hg), fun _ => .inr hg⟩⟩
        simp [latest] at he
        exact absurd he.symm hx2
      | some d =>
        have : ¬ latest (some d) < 0 := by simp only [latest]; omega
        rw [if_neg this]
        refine ⟨hat.wf hx1 hx2, rfl, fun _ => ⟨hat, ?_⟩, fun hne => absurd rfl hne⟩
        have : ({ F with cur := x } : Store β).curData = some d := by
          simp only [Store.curData, Store.get]
          rw [show getD F.dirs x = some (some d) from hg]
        rw [this]
  | mem =>
    simp only [startPoint]
    split
    · next hc =>
      have hxc : x = F.cur := by simpa [hsp] using hc
      exact ⟨hwf, rfl, fun _ => ⟨At.mk_mem hxc.symm (fun p hp => hxc ▸ hwf.1 p hp), rfl⟩,
        fun hne => absurd hxc.symm hne⟩
    · next hc =>
      have hxc : ¬ x = F.cur := by simpa [hsp] using hc
      exact ⟨hwf, rfl, fun he => absurd he.symm hx2,
        fun _ => ⟨fun e => absurd e.symm hxc, fun h => by cases h⟩⟩

theorem preSync_spec (bk : Backend) (F : Store β) (x : Id) (loff : Int) (hx1 : x ≠ "")
    (hx2 : x ≠ "?") (hwf : WF bk F) :
    At bk (preSync bk F x loff).1 x ∧ (preSync bk F x loff).2.1 = x ∧
      Sub (preSync bk F x loff).1.dirs F.dirs ∧ KSub x (preSync bk F x loff).1.dirs F.dirs ∧
      Pos (preSync bk F x loff).1 (preSync bk F x loff).2 := by
  unfold preSync
  have hs := startPoint_spec bk F x hx1 hx2 hwf
  generalize startPoint bk F x = r at hs ⊢
  obtain ⟨F1, sp⟩ := r
  obtain ⟨hwf1, hd1, hyes, hno⟩ := hs
  simp only at hwf1 hd1 hyes hno ⊢
  split
  · next hcond =>
    have hne : sp.1 ≠ x := by
      intro e
      simp only [Bool.or_eq_true, decide_eq_true_eq, e] at hcond
      rcases hcond with (h | h) | h
      · exact hx2 h
      · exact hx1 h
      · exact h rfl
    have := adopt_spec bk F1 x hx1 hx2 hwf1
    refine ⟨this.1, rfl, hd1 ▸ this.2.1, hd1 ▸ this.2.2.1, fun d hd => ?_⟩
    rw [this.2.2.2 (hno hne).1 (hd1 ▸ (hno hne).2)] at hd
    cases hd
  · next hcond =>
    have hspx : sp.1 = x := by
      simp only [Bool.or_eq_true, decide_eq_true_eq, not_or, ne_eq, Decidable.not_not] at hcond
      exact hcond.2
    obtain ⟨hat, hoff⟩ := hyes hspx
    have hpos : Pos F1 sp := fun d hd => by rw [hoff, hd]; rfl
    have keep : At bk F1 x ∧ sp.1 = x ∧ Sub F1.dirs F.dirs ∧ KSub x F1.dirs F.dirs ∧ Pos F1 sp :=
      ⟨hat, hspx, hd1 ▸ Sub.refl _, hd1 ▸ KSub.refl _ _, hpos⟩
    split
    · split
      · -- more than `tenMB` behind: the copy is deleted
        have := reset_at bk F1 x hx1 hx2 hat
        rw [hspx]
        refine ⟨this.1, rfl, hd1 ▸ this.2.1, hd1 ▸ this.2.2.2, fun d hd => ?_⟩
        rw [this.2.2.1] at hd
        cases hd
      · rw [setRunId_at bk F1 x hx1 hx2 hat]
        exact keep
    · exact keep

theorem preSync_pos (bk : Backend) (F : Store β) (x : Id) (loff : Int) (hx1 : x ≠ "")
    (hx2 : x ≠ "?") (hwf : WF bk F) : Pos (preSync bk F x loff).1 (preSync bk F x loff).2 :=
  (preSync_spec bk F x loff hx1 hx2 hwf).2.2.2.2

theorem preSync_off (bk : Backend) (F : Store β) (x : Id) (loff : Int) (hx1 : x ≠ "")
    (hx2 : x ≠ "?") (hwf : WF bk F) :
    (preSync bk F x loff).2.2 = loff ∨ (preSync bk F x loff).2.2 = -1 ∨
      ∃ e, F.get x = some (some e) ∧ (preSync bk F x loff).2.2 = (e.right : Int) := by
  unfold preSync
  have hs := startPoint_spec bk F x hx1 hx2 hwf
  generalize startPoint bk F x = r at hs ⊢
  obtain ⟨F1, sp⟩ := r
  obtain ⟨_, hd1, hyes, _⟩ := hs
  simp only at hd1 hyes ⊢
  -- what `StartPoint` answered under `x`
  have kept : sp.1 = x → sp.2 = -1 ∨ ∃ e, F.get x = some (some e) ∧ sp.2 = (e.right : Int) := by
    intro hspx
    obtain ⟨hat, hoff⟩ := hyes hspx
    cases hcd : F1.curData with
    | none => rw [hoff, hcd]; exact .inl rfl
    | some e =>
      have := curData_get hcd
      rw [hat.1] at this
      exact .inr ⟨e, by unfold Store.get at this ⊢; rw [← hd1]; exact this, by rw [hoff, hcd]; rfl⟩
  by_cases hcond : (sp.1 = "?" || sp.1 = "" || sp.1 ≠ x) = true
  · rw [if_pos hcond]; exact .inl rfl
  rw [if_neg hcond]
  have hspx : sp.1 = x := by
    simp only [Bool.or_eq_true, decide_eq_true_eq, not_or, ne_eq, Decidable.not_not] at hcond
    exact hcond.2
  by_cases h0 : loff - sp.2 > 0
  · rw [if_pos h0]
    by_cases hg : loff - sp.2 > tenMB
    · rw [if_pos hg]; exact .inl rfl
    · rw [if_neg hg]; exact .inr (kept hspx)
  · rw [if_neg h0]; exact .inr (kept hspx)

@[simp] theorem Out.pre_store (ms : List (Msg β)) (o : Out β) : (Out.pre ms o).store = o.store := rfl

/-! ### contiguity: the follower never opens a writer away from the end of its data -/

theorem respErr_ne_discont {c : Code} {k : Cls} (h : respErr c = some k) : k ≠ .discont := by
  cases c <;> simp [respErr] at h <;> subst h <;> decide

theorem finCls_ne_discont (f : Fin) : finCls f ≠ .discont := by cases f <;> simp [finCls]

theorem aofLoop_cls (fin : Fin) (n : Nat) (ms : List (Msg β)) : (aofLoop fin n ms).2.2 ≠ .discont := by
  induction ms generalizing n with
  | nil => cases n <;> simp [aofLoop, finCls_ne_discont]
  | cons m ms ih =>
    cases n with
    | zero => simp [aofLoop]
    | succ n =>
      simp only [aofLoop]
      split
      · next c hc => exact respErr_ne_discont hc
      · exact ih n

theorem rdbLoop_cls (fin : Fin) (n r : Nat) (ms : List (Msg β)) (c : Cls)
    (hc : (rdbLoop fin n r ms).2.2 = some c) : c ≠ .discont := by
  induction ms generalizing n r with
  | nil =>
    cases r <;> cases n <;> simp [rdbLoop] at hc <;> subst hc
    · decide
    · exact finCls_ne_discont _
  | cons m ms ih =>
    cases r with
    | zero => simp [rdbLoop] at hc
    | succ r =>
      cases n with
      | zero => simp [rdbLoop] at hc; subst hc; decide
      | succ n =>
        simp only [rdbLoop] at hc
        split at hc
        · next k hk => simp at hc; subst hc; exact respErr_ne_discont hk
        · exact ih n _ hc

theorem sendData_aof_off (L : Leader β) (rid : Id) (off : Int) (ch : List Nat) (m : Msg β)
    (ms : List (Msg β)) (hm : (L.sendData rid off ch).msgs = m :: ms) (ha : m.aof = true) :
    m.offset = off := by
  have hs := sendData_sent L rid off ch
  generalize L.sendData rid off ch = rp at hs hm
  cases hs <;> cases hm
  · cases ha
  · rfl
  · cases ha

/-- a stream announcement never starts before the requested offset -/
theorem handle_aof_ge (v : View β) (rid : Id) (roff : Int) (ch : List Nat) (m : Msg β)
    (ms : List (Msg β)) (hm : (v.handle rid roff ch).msgs = m :: ms) (ha : m.aof = true) :
    roff ≤ m.offset := by
  have hh := handle_handled v rid roff ch
  generalize v.handle rid roff ch = rp at hh hm
  cases hh with
  | failure k => cases hm; cases ha
  | silent => cases hm
  | answer pre hpre rp hrp =>
    rcases hpre with rfl | rfl
    · cases hrp with
      | data _ hle => rw [sendData_aof_off v.l4 rid _ ch m ms hm ha]; split <;> omega
      | _ => cases hm; cases ha
    · cases hm; cases ha

/-- `StartPoint([x])` of a follower that has adopted `x` reports the end of its data -/
theorem startPoint_at_off (bk : Backend) (F : Store β) (x : Id) (hx1 : x ≠ "") (hx2 : x ≠ "?")
    (h : At bk F x) (d : Data β) (hd : F.curData = some d) :
    (startPoint bk F x).2 = (x, (d.right : Int)) := by
  have hs := startPoint_spec bk F x hx1 hx2 (h.wf hx1 hx2)
  rw [startPoint_at bk F x hx1 hx2 h] at hs
  by_cases he : (startPoint bk F x).2.1 = x
  · exact Prod.ext he (by rw [(hs.2.2.1 he).2, hd]; rfl)
  · rw [(hs.2.2.2 he).1 h.1] at hd
    cases hd

/-- the handshake answer carries the leader's channel id (or none) -/
theorem handle_hello_id (v : View β) (roff : Int) (ch : List Nat) (m : Msg β) (ms : List (Msg β))
    (hms : (v.handle "" roff ch).msgs = m :: ms) : m.runId = v.l2b.cur ∨ m.runId = "" := by
  have hh := handle_handled v "" roff ch
  generalize v.handle "" roff ch = rp at hh hms
  cases hh with
  | failure k => cases hms; exact .inr rfl
  | silent => cases hms
  | answer pre hpre rp hrp =>
    rcases hpre with rfl | rfl
    · cases hrp with
      | hello _ => cases hms; exact .inl rfl
      | wrongId => cases hms; exact .inr rfl
      | handover => cases hms; exact .inl rfl
      | data hr _ => exact absurd (.inl rfl) hr
    · cases hms; exact .inr rfl

/-! ### what a session keeps -/

theorem aofWrite_none {F : Store β} {left : Nat} {p : List β} (hw : aofWrite F left p = none) :
    ∃ d, F.curData = some d ∧ d.right ≠ left := by
  unfold aofWrite at hw
  split at hw
  · cases hw
  · next d hd =>
    split at hw
    · cases hw
    · next hr => exact ⟨d, hd, hr⟩

theorem aofWrite_spec (bk : Backend) (F : Store β) (x : Id) (left : Nat) (p : List β)
    (hat : At bk F x) (F2 : Store β) (hw : aofWrite F left p = some F2) :
    At bk F2 x ∧ KSub x F2.dirs F.dirs ∧
      ∀ (h : Hist β) (id : Id), p = hseg h x left p.length → FaithfulAt h F.dirs id → FaithfulAt h F2.dirs id := by
  have hc : F.cur = x := hat.1
  unfold aofWrite at hw
  split at hw
  · -- nothing stored yet
    cases p with
    | nil => cases hw; exact ⟨hat, KSub.refl _ _, fun _ _ _ hf => hf⟩
    | cons a as =>
      cases hw
      refine ⟨setCur_at _ _ _ _ hat, hc ▸ ksub_setCur _ _, fun h id hp hf => setCur_faithful _ _ _ ?_ hf⟩
      intro hid d hd
      cases hd
      rw [hid, hc]
      exact ⟨hp, fun s hs => by cases hs⟩
  · next d hd =>
    split at hw
    · next hr =>
      cases hw
      refine ⟨setCur_at _ _ _ _ hat, hc ▸ ksub_setCur _ _, fun h id hp hf => setCur_faithful _ _ _ ?_ hf⟩
      intro hid d' hd'
      cases hd'
      have hdf := hf d (by rw [hid]; exact curData_mem hd)
      rw [hid, hc] at hdf ⊢
      refine ⟨?_, hdf.2⟩
      simp only [List.length_append]
      rw [hseg_append, ← hdf.1]
      congr 1
      simp only [Data.right] at hr
      rw [hr]
      exact hp
    · cases hw

/-- what every part of a session keeps, relative to the store `F` it starts from: the store
    stays well formed; no directory of another id than `x` appears or changes; the stream
    writer is not opened away from the end of the data (`discont`); and, against leaders whose
    caches are copies of a history, what was a copy of that history under `id` still is -/
structure Kept (bk : Backend) (V : Nat → View β) (x : Id) (F : Store β) (o : Out β) : Prop where
  wf : WF bk o.store
  ksub : KSub x o.store.dirs F.dirs
  cls : o.cls ≠ .discont
  faithful : ∀ (h : Hist β) (id : Id), (∀ n, (V n).l4.Faithful h) → FaithfulAt h F.dirs id →
    FaithfulAt h o.store.dirs id

theorem Kept.same {bk : Backend} {V : Nat → View β} {x : Id} {F : Store β} {o : Out β}
    (hwf : WF bk F) (hs : o.store = F) (hc : o.cls ≠ .discont) : Kept bk V x F o :=
  ⟨hs ▸ hwf, hs ▸ KSub.refl _ _, hc, fun _ _ _ hf => hs ▸ hf⟩

theorem Kept.pre {bk : Backend} {V : Nat → View β} {x : Id} {F : Store β} {o : Out β}
    (k : Kept bk V x F o) (ms : List (Msg β)) : Kept bk V x F (Out.pre ms o) :=
  ⟨k.wf, k.ksub, k.cls, k.faithful⟩

theorem Kept.after {bk : Backend} {V : Nat → View β} {x : Id} {F G : Store β} {o : Out β}
    (k : Kept bk V x G o) (hk : KSub x G.dirs F.dirs)
    (hf : ∀ (h : Hist β) (id : Id), (∀ n, (V n).l4.Faithful h) → FaithfulAt h F.dirs id → FaithfulAt h G.dirs id) :
    Kept bk V x F o :=
  ⟨k.wf, k.ksub.trans hk, k.cls, fun h id hL hF => k.faithful h id hL (hf h id hL hF)⟩

theorem aofRecv_kept (bk : Backend) (V : Nat → View β) (F1 : Store β) (x : Id) (left : Nat)
    (ms : List (Msg β)) (fin : Fin) (budget : Nat) (lost : Loss) (hx1 : x ≠ "") (hx2 : x ≠ "?")
    (hat : At bk F1 x) (hend : ∀ d, F1.curData = some d → d.right = left)
    (hpay : ∀ h : Hist β, (∀ n, (V n).l4.Faithful h) → ∃ k, pay ms = hseg h x left k) :
    Kept bk V x F1 (aofRecv F1 left ms fin budget lost) := by
  unfold aofRecv
  simp only
  split
  · next hw =>
    obtain ⟨d, hd, hne⟩ := aofWrite_none hw
    exact absurd (hend d hd) hne
  · next F2 hw =>
    obtain ⟨hat2, hk, hf⟩ := aofWrite_spec bk F1 x left _ hat F2 hw
    refine ⟨hat2.wf hx1 hx2, hk, ?_, fun h id hL => hf h id ?_⟩
    · split
      · exact nofun
      · exact aofLoop_cls _ _ _
    · -- what is written is a prefix of what was sent, which is history from `left` on
      obtain ⟨k, hk⟩ := hpay h hL
      obtain ⟨n, hn⟩ := lost.written_take (aofLoop fin budget ms).2.1 ((aofLoop fin budget ms).2.1.length - lost.pipe)
      rw [hn]
      exact hseg_prefix h x left k _ ((List.take_prefix _ _).trans (hk ▸ aofLoop_prefix fin budget ms))

theorem aofSync_eq (bk : Backend) (F : Store β) (x : Id) (m : Msg β) (ms : List (Msg β)) (fin : Fin)
    (budget : Nat) (lost : Loss) (hx1 : x ≠ "") (hx2 : x ≠ "?") (hat : At bk F x)
    (hpos : ∀ d, F.curData = some d → (d.right : Int) ≤ m.offset) :
    (aofSync bk F x m ms fin budget lost = aofRecv F m.offset.toNat ms fin budget lost ∧
      ∀ d, F.curData = some d → (d.right : Int) = m.offset) ∨
    (aofSync bk F x m ms fin budget lost =
      aofRecv (setRunId bk (delRunId bk F x) x) m.offset.toNat ms fin budget lost ∧
      ∀ d, F.curData = some d → (d.right : Int) < m.offset) := by
  simp only [aofSync]
  rw [startPoint_at bk F x hx1 hx2 hat]
  cases hcd : F.curData with
  | none =>
    split
    · exact .inr ⟨rfl, fun d hd => by cases hd⟩
    · exact .inl ⟨rfl, fun d hd => by cases hd⟩
  | some d =>
    rw [startPoint_at_off bk F x hx1 hx2 hat d hcd]
    by_cases hgt : m.offset > (d.right : Int)
    · have : (decide (m.offset > (d.right : Int)) && decide (x ≠ "?")) = true := by simp [hgt, hx2]
      rw [this, if_pos rfl]
      exact .inr ⟨rfl, fun d' hd' => by cases hd'; exact hgt⟩
    · have : (decide (m.offset > (d.right : Int)) && decide (x ≠ "?")) = false := by simp [hgt]
      rw [this, if_neg Bool.false_ne_true]
      exact .inl ⟨rfl, fun d' hd' => by cases hd'; have := hpos d hcd; omega⟩

theorem aofSync_kept (bk : Backend) (V : Nat → View β) (F : Store β) (x : Id) (m : Msg β)
    (ms : List (Msg β)) (fin : Fin) (budget : Nat) (lost : Loss) (hx1 : x ≠ "") (hx2 : x ≠ "?")
    (hat : At bk F x) (hpos : ∀ d, F.curData = some d → (d.right : Int) ≤ m.offset)
    (hpay : ∀ h : Hist β, (∀ n, (V n).l4.Faithful h) → ∃ k, pay ms = hseg h x m.offset.toNat k) :
    Kept bk V x F (aofSync bk F x m ms fin budget lost) := by
  rcases aofSync_eq bk F x m ms fin budget lost hx1 hx2 hat hpos with ⟨e, hend⟩ | ⟨e, _⟩ <;> rw [e]
  · exact aofRecv_kept bk V F x _ ms fin budget lost hx1 hx2 hat
      (fun d hd => by have := hend d hd; omega) hpay
  · have hr := reset_at bk F x hx1 hx2 hat
    exact (aofRecv_kept bk V _ x _ ms fin budget lost hx1 hx2 hr.1
      (fun d hd => by rw [hr.2.2.1] at hd; cases hd) hpay).after hr.2.2.2
      (fun _ _ _ hf => hf.of_sub hr.2.1)


theorem Shape.aof_pay {h : Hist β} {c rid : Id} {m : Msg β} {ms : List (Msg β)}
    (hs : Shape h c rid (m :: ms)) (ha : m.aof = true) : ∃ k, pay ms = hseg h rid m.offset.toNat k := by
  cases hs with
  | aof off cs tl k h0 hb htl => exact ⟨k, by rw [pay_conts_tail _ _ htl, hb]⟩
  | _ => cases ha

theorem Shape.rdb_pay {h : Hist β} {c rid : Id} {m : Msg β} {ms : List (Msg β)}
    (hs : Shape h c rid (m :: ms)) (hr1 : rid ≠ "") (hr2 : rid ≠ "?") (herr : respErr m.code = none)
    (hcl : m.code ≠ .clear) (ha : m.aof = false) :
    m.size.toNat = (h.snap rid m.offset.toNat).length ∧ pay ms <+: h.snap rid m.offset.toNat := by
  cases hs with
  | ctl k hk =>
    rcases hk with rfl | rfl | rfl
    · cases herr
    · exact absurd rfl hcl
    · cases herr
  | clearThen => exact absurd rfl hcl
  | hello o hr => rcases hr with hr | hr <;> contradiction
  | handover => cases herr
  | aof => cases ha
  | rdb off base s cs tl hs hb htl =>
    simp only [Int.toNat_natCast]
    rw [pay_conts_tail _ _ htl, ← hs]
    exact ⟨rfl, hb⟩

theorem delRunId_kept (bk : Backend) (V : Nat → View β) (F : Store β) (x : Id) (hx1 : x ≠ "") (hx2 : x ≠ "?")
    (hat : At bk F x) (tr : List (Msg β)) (st : Stage) (c : Cls) (hc : c ≠ .discont) :
    Kept bk V x F ⟨delRunId bk F x, tr, st, c⟩ := by
  cases bk with
  | disk =>
    rw [delRunId_disk_has (special_false hx1 hx2) (hat.2.1 rfl)]
    exact ⟨⟨Or.inl rfl, by simp⟩, ksub_dropKey _ _ _, hc, fun _ _ _ hf => hf.of_sub (sub_dropKey _ _)⟩
  | mem =>
    rw [← hat.1, delRunId_mem_cur]
    exact ⟨⟨(fun p hp => by cases hp), fun _ => rfl, by simp⟩, (fun p hp => by cases hp), hc,
      fun _ _ _ hf => hf.of_sub (Sub.nil _)⟩

theorem delRunId_gone (bk : Backend) (F : Store β) (x : Id) (hx1 : x ≠ "") (hx2 : x ≠ "?") (hat : At bk F x) :
    (delRunId bk F x).cur = "" ∧ ∀ e', (x, some e') ∉ (delRunId bk F x).dirs := by
  cases bk with
  | disk =>
    rw [delRunId_disk_has (special_false hx1 hx2) (hat.2.1 rfl)]
    exact ⟨rfl, fun e' h => (mem_dropKey.mp h).2 rfl⟩
  | mem =>
    rw [← hat.1, delRunId_mem_cur]
    exact ⟨rfl, fun e' h => by cases h⟩

theorem syncLoop_clear (bk : Backend) (V : Nat → View β) (lost : Loss) (x : Id) (fuel n b : Nat)
    (ch : List Nat) (F : Store β) (fsp : Id × Int) (ms : List (Msg β)) (fin : Fin) (rest : List Nat)
    (h : (V n).handle fsp.1 fsp.2 ch = ⟨ctl .clear :: ms, fin, rest⟩) :
    syncLoopV bk V lost x (fuel + 1) n (b + 1) ch F fsp =
      Out.pre [ctl .clear] ⟨delRunId bk F fsp.1, [], .msync, .clear⟩ := by
  unfold syncLoopV
  rw [h]
  rfl

theorem syncLoop_kept (bk : Backend) (V : Nat → View β) (lost : Loss) (x : Id) (hx1 : x ≠ "") (hx2 : x ≠ "?") :
    ∀ (fuel n budget : Nat) (ch : List Nat) (F : Store β) (fsp : Id × Int), At bk F x → fsp.1 = x →
      Pos F fsp → Kept bk V x F (syncLoopV bk V lost x fuel n budget ch F fsp) := by
  intro fuel
  induction fuel with
  | zero => intro n budget ch F fsp hat _ _; exact .same (hat.wf hx1 hx2) rfl nofun
  | succ fuel ih =>
    intro n budget ch F fsp hat hfx hpos
    have hwf := hat.wf hx1 hx2
    unfold syncLoopV
    have hge := handle_aof_ge (V n) fsp.1 fsp.2 ch
    have hsh := fun (h : Hist β) (hL : ∀ n, (V n).l4.Faithful h) => handle_shape h (V n) (hL n) fsp.1 fsp.2 ch
    generalize (V n).handle fsp.1 fsp.2 ch = rp at hge hsh ⊢
    obtain ⟨msgs, fin, rest⟩ := rp
    simp only at hge hsh ⊢
    rw [hfx] at hsh ⊢
    cases budget with
    | zero => exact .same hwf rfl nofun
    | succ b =>
      cases msgs with
      | nil => exact .same hwf rfl (finCls_ne_discont _)
      | cons m ms =>
        refine Kept.pre ?_ _
        split
        · next c hc => exact .same hwf rfl (respErr_ne_discont hc)
        next herr =>
        split
        · exact delRunId_kept bk V F x hx1 hx2 hat _ _ _ nofun
        next hcl =>
        split
        · next ha =>
          exact aofSync_kept bk V F x m ms fin b lost hx1 hx2 hat
            (fun d hd => hpos d hd ▸ hge m ms rfl ha) (fun h hL => (hsh h hL).aof_pay ha)
        next ha =>
        -- `rdbSync`: the copy is deleted, the snapshot is received on an empty cache
        have ha : m.aof = false := by simpa using ha
        have hr := reset_at bk F x hx1 hx2 hat
        generalize setRunId bk (delRunId bk F x) x = F1 at hr ⊢
        obtain ⟨hat1, hsub1, _, hk⟩ := hr
        have stored : ∀ (v : Option (Data β)) (o : Out β), Kept bk V x (F1.setCur v) o →
            (∀ (h : Hist β), (∀ n, (V n).l4.Faithful h) → ∀ d, v = some d → d.Faithful h x) →
            Kept bk V x F o := by
          intro v o k hv
          refine k.after ((hat1.1 ▸ ksub_setCur F1 v).trans hk) fun h id hL hf => ?_
          exact setCur_faithful _ _ _ (fun hid d hd => by rw [hid, hat1.1]; exact hv h hL d hd) (hf.of_sub hsub1)
        have hnone : ∀ (tr : List (Msg β)) (c : Cls), c ≠ .discont → Kept bk V x F ⟨F1.setCur none, tr, .rdb, c⟩ :=
          fun tr c hc => stored none _ (.same ((setCur_at bk F1 x none hat1).wf hx1 hx2) rfl hc)
            (fun _ _ d hd => by cases hd)
        split
        · next c hc =>
          refine hnone _ _ ?_
          split
          · exact nofun
          · exact rdbLoop_cls _ _ _ _ c hc
        next hcomp =>
        split
        · exact hnone _ _ nofun
        -- received completely: the follower asks again, at the snapshot's offset
        generalize hsn : (rdbLoop fin b m.size.toNat ms).2.1.take m.size.toNat = sn
        refine stored (some ⟨m.offset.toNat, [], some sn⟩) _ (Kept.pre ?_ _) ?_
        · have hat2 := setCur_at bk F1 x (some ⟨m.offset.toNat, [], some sn⟩) hat1
          have hcd := setCur_curData F1 (some ⟨m.offset.toNat, [], some sn⟩)
          generalize F1.setCur (some ⟨m.offset.toNat, [], some sn⟩) = F2 at hat2 hcd ⊢
          have hoff := startPoint_at_off bk F2 x hx1 hx2 hat2 _ hcd
          rw [startPoint_at bk F2 x hx1 hx2 hat2]
          exact ih _ _ _ F2 _ hat2 (by rw [hoff]) (fun d hd => by rw [hcd] at hd; cases hd; rw [hoff])
        · intro h hL d hd
          cases hd
          obtain ⟨hsz, hp⟩ := (hsh h hL).rdb_pay hx1 hx2 herr hcl ha
          rw [hsz] at hcomp hsn
          rw [rdbLoop_complete_eq fin b ms _ hp hcomp, List.take_length] at hsn
          exact ⟨by simp [hseg], fun s hs => by cases hs; exact hsn.symm⟩

/-- one session, any leader, any cut: `x` is the id the leader announces -/
theorem session_kept (bk : Backend) (V : Nat → View β) (F : Store β) (ch : List Nat) (cut : Nat)
    (lost : Loss) (fuel : Nat) (hq : (V 0).l2b.cur ≠ "?") (hwf : WF bk F) :
    Kept bk V (V 0).l2b.cur F (sessionV bk V F ch cut lost fuel) := by
  unfold sessionV
  have hh := handle_hello_id (V 0) 0 ch
  generalize (V 0).handle "" 0 ch = rp at hh ⊢
  obtain ⟨msgs, fin, rest⟩ := rp
  simp only at hh ⊢
  cases cut with
  | zero => exact .same hwf rfl nofun
  | succ b =>
    cases msgs with
    | nil => exact .same hwf rfl (finCls_ne_discont _)
    | cons m ms =>
      refine Kept.pre ?_ _
      split
      · next c hc => exact .same hwf rfl (respErr_ne_discont hc)
      · split
        · exact .same hwf rfl nofun
        · next hne =>
          have hx : m.runId = (V 0).l2b.cur := (hh m ms rfl).resolve_right hne
          have hx2 : m.runId ≠ "?" := hx ▸ hq
          have hp := preSync_spec bk F m.runId m.offset hne hx2 hwf
          rw [← hx]
          exact (syncLoop_kept bk V lost m.runId hne hx2 fuel 1 b rest _ _ hp.1 hp.2.1 hp.2.2.2.2).after
            hp.2.2.2.1 (fun _ _ _ hf => hf.of_sub hp.2.2.1)

/-! ### a follower that holds data under the leader's id -/

theorem startPoint_sameid (bk : Backend) (F : Store β) (x : Id) (e : Data β) (hx1 : x ≠ "")
    (hx2 : x ≠ "?") (hF : F.get x = some (some e)) (hm : bk = .mem → F.cur = x) :
    startPoint bk F x = (⟨x, F.dirs⟩, (x, (e.right : Int))) := by
  have hsp := special_false hx1 hx2
  have hhx : F.has x = true := by simp [Store.has, hF]
  cases bk with
  | disk =>
    simp only [startPoint, hsp, Bool.false_eq_true, if_false, hF]
    have : ¬ latest (some e) < 0 := by simp only [latest]; omega
    rw [if_neg this, setRunId_disk_has hsp hhx]
    rfl
  | mem =>
    have hcx := hm rfl
    have hcd : F.curData = some e := by simp [Store.curData, hcx, hF]
    simp only [startPoint, hsp, hcx, Bool.not_false, Bool.true_and, decide_true, if_true, hcd, latest]
    rw [← hcx]

theorem at_sameid (bk : Backend) (F : Store β) (x : Id) (e : Data β) (hwf : WF bk F)
    (hF : F.get x = some (some e)) (hm : bk = .mem → F.cur = x) : At bk (⟨x, F.dirs⟩ : Store β) x := by
  have hhx : F.has x = true := by simp [Store.has, hF]
  cases bk with
  | disk => exact At.mk_disk rfl hhx
  | mem =>
    refine At.mk_mem rfl ?_
    intro p hp
    have := hwf.1 p hp
    rw [hm rfl] at this
    exact this

theorem curData_sameid (F : Store β) (x : Id) (e : Data β) (hF : F.get x = some (some e)) :
    (⟨x, F.dirs⟩ : Store β).curData = some e := by
  simp only [Store.curData, Store.get]
  have : getD F.dirs x = some (some e) := hF
  rw [this]

/-- `preSync` of a follower that holds `e` under the leader's id: it keeps its own end,
    unless the leader is more than `tenMB` ahead — then it deletes its copy -/
theorem preSync_sameid (bk : Backend) (F : Store β) (x : Id) (e : Data β) (loff : Int)
    (hx1 : x ≠ "") (hx2 : x ≠ "?") (hwf : WF bk F) (hF : F.get x = some (some e))
    (hm : bk = .mem → F.cur = x) :
    preSync bk F x loff =
      if loff - (e.right : Int) > tenMB then
        (setRunId bk (delRunId bk ⟨x, F.dirs⟩ x) x, (x, loff))
      else (⟨x, F.dirs⟩, (x, (e.right : Int))) := by
  have hat := at_sameid bk F x e hwf hF hm
  unfold preSync
  simp only [startPoint_sameid bk F x e hx1 hx2 hF hm, hx1, hx2, decide_false, Bool.false_or,
    ne_eq, not_true_eq_false, Bool.false_eq_true, if_false]
  by_cases hg : loff - (e.right : Int) > tenMB
  · have h0 : loff - (e.right : Int) > 0 := by
      have : (0 : Int) ≤ tenMB := by simp [tenMB, Gen.replicaGapClear]
      omega
    rw [if_pos h0, if_pos hg, if_pos hg]
  · by_cases h0 : loff - (e.right : Int) > 0
    · simp only [if_pos h0, if_neg hg, setRunId_at bk _ x hx1 hx2 hat]
    · simp only [if_neg h0, if_neg hg]


/-! ### a leader that serves run id `x` and does not change -/

structure Serves (L : Leader β) (x : Id) : Prop where
  gate : L.serving = true
  started : L.started = true
  ids : ∃ tl, L.inputIds = x :: tl
  cur : L.cur = x

theorem hello_static {L : Leader β} {x : Id} (hs : Serves L x) (ch : List Nat) :
    (View.const L).handle "" 0 ch = ⟨[⟨.info, x, false, latest L.data, 0, []⟩], .eof, ch⟩ := by
  obtain ⟨tl, hi⟩ := hs.ids
  simp [View.handle, View.const, hs.gate, hs.started, hi, hs.cur]

theorem meta_static {L : Leader β} {x : Id} (hs : Serves L x) (hx1 : x ≠ "") (hx2 : x ≠ "?")
    (roff : Int) (ch : List Nat) (hle : ¬ roff - latest L.data > 0) :
    (View.const L).handle x roff ch =
      L.sendData x (if L.valid x roff then roff else latest L.data) ch := by
  obtain ⟨tl, hi⟩ := hs.ids
  have : ((x = "") || (x = "?")) = false := by simp [hx1, hx2]
  have hle' : ¬ latest L.data < roff := by omega
  simp [View.handle, View.const, hs.gate, hs.started, hi, hs.cur, this, hle']
  rfl

theorem handover_static {L : Leader β} {x : Id} (hs : Serves L x) (hx1 : x ≠ "") (hx2 : x ≠ "?")
    (roff : Int) (ch : List Nat) (hgt : roff - latest L.data > 0) :
    (View.const L).handle x roff ch = ⟨[⟨.handover, x, false, latest L.data, 0, []⟩], .err .role, ch⟩ := by
  obtain ⟨tl, hi⟩ := hs.ids
  have : ((x = "") || (x = "?")) = false := by simp [hx1, hx2]
  have hgt' : latest L.data < roff := by omega
  simp [View.handle, View.const, hs.gate, hs.started, hi, hs.cur, this, hgt']

theorem session_static {L : Leader β} {x : Id} (hs : Serves L x) (hx1 : x ≠ "") (bk : Backend)
    (F : Store β) (ch : List Nat) (c : Nat) (lost : Loss) (fuel : Nat) :
    session bk L F ch (c + 1) lost fuel =
      Out.pre [⟨.info, x, false, latest L.data, 0, []⟩]
        (syncLoopV bk (fun _ => View.const L) lost x fuel 1 c ch
          (preSync bk F x (latest L.data)).1 (preSync bk F x (latest L.data)).2) := by
  simp only [session, sessionV, hello_static hs, respErr, hx1, if_false]

theorem inAof_of_le {L : Leader β} {d : Data β} {off : Int} (hw : L.hasSegs d = true)
    (h1 : (d.base : Int) ≤ off) (h2 : off ≤ (d.right : Int)) : L.inAof d off = true := by
  simp only [Leader.inAof, hw, Bool.true_and, Bool.and_eq_true, decide_eq_true_eq]
  exact ⟨h1, h2⟩

theorem valid_of_inAof {L : Leader β} {x : Id} {d : Data β} {off : Int} (hc : L.cur = x)
    (hd : L.data = some d) (hin : L.inAof d off = true) : L.valid x off = true := by
  simp only [Leader.valid, hc, decide_true, Bool.true_and, hd, hin, Bool.true_or]

/-- the stream reader opened at the leader's newest offset: the announcement -/
theorem sendData_newest {L : Leader β} {x : Id} (hc : L.cur = x) (d : Data β) (hd : L.data = some d)
    (hseg : L.hasSegs d = true) (ch : List Nat) :
    ∃ ms fin rest, L.sendData x (d.right : Int) ch = ⟨⟨.info, "", true, d.right, -1, []⟩ :: ms, fin, rest⟩ := by
  have hin : L.inAof d (d.right : Int) = true :=
    inAof_of_le hseg (by simp only [Data.right]; omega) (Int.le_refl _)
  simp only [Leader.sendData, hd, hin, if_true, hc, ne_eq, not_true_eq_false, if_false]
  split
  · exact ⟨_, _, _, rfl⟩
  · exact ⟨_, _, _, rfl⟩

/-- whatever the receive half stores on an empty cache starts at the announced offset -/
theorem aofRecv_fresh (F1 : Store β) (left : Nat) (ms : List (Msg β)) (fin : Fin) (budget : Nat) (lost : Loss)
    (he : F1.curData = none) (e' : Data β)
    (h : (aofRecv F1 left ms fin budget lost).store.curData = some e') :
    e'.base = left ∧ e'.snap = none := by
  unfold aofRecv at h
  simp only at h
  generalize (lost.written ((aofLoop fin budget ms).2.1.take ((aofLoop fin budget ms).2.1.length - lost.pipe))).1 = p at h
  unfold aofWrite at h
  rw [he] at h
  simp only at h
  cases p with
  | nil => simp only at h; rw [he] at h; cases h
  | cons a as =>
    simp only at h
    rw [setCur_curData] at h
    cases h
    exact ⟨rfl, rfl⟩

/-- `aofSync` when the leader's stream starts beyond everything the follower holds (or the
    follower holds nothing): what it stores starts at the announced offset -/
theorem aofSync_fresh (bk : Backend) (F : Store β) (x : Id) (m : Msg β) (ms : List (Msg β))
    (fin : Fin) (budget : Nat) (lost : Loss) (hx1 : x ≠ "") (hx2 : x ≠ "?") (hat : At bk F x)
    (hbeyond : ∀ e, F.curData = some e → (e.right : Int) < m.offset) (e' : Data β)
    (h : (aofSync bk F x m ms fin budget lost).store.curData = some e') :
    e'.base = m.offset.toNat ∧ e'.snap = none := by
  rcases aofSync_eq bk F x m ms fin budget lost hx1 hx2 hat (fun e he => Int.le_of_lt (hbeyond e he))
    with ⟨e, hend⟩ | ⟨e, _⟩ <;> rw [e] at h
  · refine aofRecv_fresh _ _ _ _ _ _ ?_ e' h
    cases hcd : F.curData with
    | none => rfl
    | some d => have := hbeyond d hcd; have := hend d hcd; omega
  · exact aofRecv_fresh _ _ _ _ _ _ (reset_at bk F x hx1 hx2 hat).2.2.1 e' h

/-! ### progress: an uninterrupted session brings the follower to the leader's end -/

theorem chop_nonempty (ch : List Nat) (xs : List β) : ∀ c ∈ (chop ch xs).1, c ≠ [] := by
  induction ch generalizing xs with
  | nil => cases xs <;> simp [chop]
  | cons k ks ih =>
    cases xs with
    | nil => simp [chop]
    | cons a as =>
      simp only [chop]
      split
      · exact ih _
      · next hk =>
        intro c hc
        simp only [List.mem_cons] at hc
        rcases hc with rfl | hc
        · cases k with
          | zero => exact absurd rfl hk
          | succ k => simp
        · exact ih _ c hc

theorem chop_length_le (ch : List Nat) (xs : List β) : (chop ch xs).1.length ≤ xs.length := by
  have h1 := chop_nonempty ch xs
  have h2 := chop_flatten ch xs
  generalize (chop ch xs).1 = cs at h1 h2
  rw [← h2]
  clear h2
  induction cs with
  | nil => simp
  | cons c cs ih =>
    have hc : c ≠ [] := h1 c (List.mem_cons_self ..)
    have := ih (fun c' hc' => h1 c' (List.mem_cons_of_mem _ hc'))
    have hl : 0 < c.length := List.length_pos_iff.mpr hc
    simp only [List.length_cons, List.flatten_cons, List.length_append]
    omega

theorem payload_cont (o : Int) (c : List β) :
    payload (⟨.cont, "", false, o, c.length, c⟩ : Msg β) = c := by simp [payload]

theorem aofLoop_conts_all (n : Nat) (o : Int) (cs : List (List β)) (hn : cs.length ≤ n) :
    (aofLoop .blocks n (conts o cs)).2.1 = cs.flatten ∧ (aofLoop .blocks n (conts o cs)).2.2 = .cut := by
  induction cs generalizing n o with
  | nil => cases n <;> simp [conts, aofLoop, finCls]
  | cons c cs ih =>
    cases n with
    | zero => simp at hn
    | succ n =>
      have := ih n (o + c.length) (by simpa using hn)
      simp only [conts, aofLoop, respErr, payload_cont, List.flatten_cons, this]
      exact ⟨trivial, trivial⟩

theorem rdbLoop_conts_all (fin : Fin) (n : Nat) (o : Int) (cs : List (List β)) (hn : cs.length ≤ n)
    (hne : ∀ c ∈ cs, c ≠ []) :
    rdbLoop fin n cs.flatten.length (conts o cs) = (conts o cs, cs.flatten, none) := by
  induction cs generalizing n o with
  | nil => simp [conts, rdbLoop]
  | cons c cs ih =>
    cases n with
    | zero => simp at hn
    | succ n =>
      have hc : 0 < c.length := List.length_pos_iff.mpr (hne c (List.mem_cons_self ..))
      obtain ⟨r, hr⟩ : ∃ r, (c :: cs).flatten.length = r + 1 := by
        simp only [List.flatten_cons, List.length_append]
        exact ⟨c.length + cs.flatten.length - 1, by omega⟩
      have hrem : r + 1 - c.length = cs.flatten.length := by
        simp only [List.flatten_cons, List.length_append] at hr; omega
      rw [hr]
      simp only [conts, rdbLoop, respErr, payload_cont, hrem]
      rw [ih n (o + c.length) (by simpa using hn) (fun c' hc' => hne c' (List.mem_cons_of_mem _ hc'))]
      simp

theorem conts_length (o : Int) (cs : List (List β)) : (conts o cs).length = cs.length := by
  induction cs generalizing o with
  | nil => rfl
  | cons c cs ih => simp [conts, ih]

/-- the receive half with everything delivered and nothing lost -/
theorem aofRecv_all (F1 : Store β) (off : Nat) (o : Int) (cs : List (List β)) (b : Nat)
    (hb : cs.length ≤ b) (h1 : ∀ e, F1.curData = some e → e.right = off) :
    (aofRecv F1 off (conts o cs) .blocks b 0).stage = .aof ∧
    (aofRecv F1 off (conts o cs) .blocks b 0).cls = .cut ∧
    (aofRecv F1 off (conts o cs) .blocks b 0).store.curData =
      match F1.curData with
      | some e => some { e with bytes := e.bytes ++ cs.flatten }
      | none => if cs.flatten = [] then none else some ⟨off, cs.flatten, none⟩ := by
  have ha := aofLoop_conts_all b o cs hb
  unfold aofRecv
  simp only [ha.1, ha.2, Loss.zero_pipe, Loss.written_zero, Nat.sub_zero, List.take_length,
    Bool.false_eq_true, if_false]
  unfold aofWrite
  cases hcd : F1.curData with
  | none =>
    simp only
    cases hp : cs.flatten with
    | nil => exact ⟨trivial, trivial, hcd⟩
    | cons a as => exact ⟨trivial, trivial, setCur_curData _ _⟩
  | some e =>
    simp only [h1 e hcd, if_true]
    exact ⟨trivial, trivial, setCur_curData _ _⟩

/-- `aofSync` with everything delivered: the follower ends at `off + |bytes sent|` -/
theorem aofSync_all (bk : Backend) (G : Store β) (x : Id) (off : Int) (cs : List (List β)) (b : Nat)
    (hx1 : x ≠ "") (hx2 : x ≠ "?") (hat : At bk G x) (h0 : 0 ≤ off) (hb : cs.length ≤ b)
    (hle : ∀ e, G.curData = some e → (e.right : Int) ≤ off) :
    let o := aofSync bk G x ⟨.info, "", true, off, -1, []⟩ (conts off cs) .blocks b 0
    o.stage = .aof ∧ o.cls = .cut ∧
      (∀ e', o.store.curData = some e' → (e'.right : Int) = off + cs.flatten.length) ∧
      (o.store.curData = none → cs.flatten = []) := by
  have hfin : ∀ F1 : Store β, (∀ e, F1.curData = some e → e.right = off.toNat) →
      (aofRecv F1 off.toNat (conts off cs) .blocks b 0).stage = .aof ∧
      (aofRecv F1 off.toNat (conts off cs) .blocks b 0).cls = .cut ∧
      (∀ e', (aofRecv F1 off.toNat (conts off cs) .blocks b 0).store.curData = some e' →
        (e'.right : Int) = off + cs.flatten.length) ∧
      ((aofRecv F1 off.toNat (conts off cs) .blocks b 0).store.curData = none → cs.flatten = []) := by
    intro F1 h1
    obtain ⟨hst, hcl, hcd⟩ := aofRecv_all F1 off.toNat off cs b hb h1
    refine ⟨hst, hcl, ?_⟩
    rw [hcd]
    cases hF : F1.curData with
    | some e =>
      have := h1 e hF
      refine ⟨fun e' he' => ?_, fun hn => by cases hn⟩
      cases he'
      simp only [Data.right, List.length_append] at this ⊢
      omega
    | none =>
      by_cases hp : cs.flatten = []
      · simp only [if_pos hp]
        exact ⟨(fun e' he' => by cases he'), fun _ => hp⟩
      · simp only [if_neg hp]
        refine ⟨fun e' he' => ?_, fun hn => by cases hn⟩
        cases he'
        simp only [Data.right]
        omega
  rcases aofSync_eq bk G x ⟨.info, "", true, off, -1, []⟩ (conts off cs) .blocks b 0 hx1 hx2 hat hle
    with ⟨e, hend⟩ | ⟨e, _⟩ <;> simp only [e]
  · exact hfin G (fun d hd => by have := hend d hd; simp only at this; omega)
  · exact hfin _ (fun d hd => by rw [(reset_at bk G x hx1 hx2 hat).2.2.1] at hd; cases hd)

@[simp] theorem Out.pre_stage (ms : List (Msg β)) (o : Out β) : (Out.pre ms o).stage = o.stage := rfl
@[simp] theorem Out.pre_cls (ms : List (Msg β)) (o : Out β) : (Out.pre ms o).cls = o.cls := rfl

/-- the session ended in the stream transfer with nothing left to fetch: the follower is
    at the leader's end (including what arrived meanwhile) -/
def Reached (L : Leader β) (d : Data β) (o : Out β) : Prop :=
  o.stage = .aof ∧ o.cls = .cut ∧
    (∀ e', o.store.curData = some e' → (e'.right : Int) = (d.right : Int) + L.tail.length) ∧
    (o.store.curData = none → L.tail = [])

/-- a `metaSync` round whose answer starts with the stream announcement `m` -/
theorem syncLoopV_aof (bk : Backend) (V : Nat → View β) (lost : Loss) (x : Id) (fuel n b : Nat)
    (ch : List Nat) (F : Store β) (fsp : Id × Int) (m : Msg β) (ms : List (Msg β)) (fin : Fin) (rest : List Nat)
    (h : (V n).handle fsp.1 fsp.2 ch = ⟨m :: ms, fin, rest⟩) (he : respErr m.code = none)
    (hc : m.code ≠ .clear) (ha : m.aof = true) :
    syncLoopV bk V lost x (fuel + 1) n (b + 1) ch F fsp = Out.pre [m] (aofSync bk F fsp.1 m ms fin b lost) := by
  unfold syncLoopV
  rw [h]
  simp only [he, if_neg hc, if_pos ha]

theorem sendData_aof_eval {L : Leader β} {x : Id} (hc : L.cur = x) (hh : L.halt = none) (d : Data β)
    (hd : L.data = some d) (off : Int) (hin : L.inAof d off = true) (ch : List Nat) :
    L.sendData x off ch =
      ⟨⟨.info, "", true, off, -1, []⟩ ::
          conts off (chop ch (d.bytes.drop (off - (d.base : Int)).toNat ++ L.tail)).1, .blocks,
        (chop ch (d.bytes.drop (off - (d.base : Int)).toNat ++ L.tail)).2⟩ := by
  simp only [Leader.sendData, hd, hin, if_true, hc, ne_eq, not_true_eq_false, if_false, hh]

theorem sendData_rdb_eval {L : Leader β} {x : Id} (hc : L.cur = x) (hh : L.halt = none) (d : Data β)
    (hd : L.data = some d) (off : Int) (hin : L.inAof d off = false) (sn : List β) (hsn : d.snap = some sn)
    (hle : off ≤ (d.base : Int)) (ch : List Nat) :
    L.sendData x off ch =
      ⟨⟨.info, "", false, d.base, sn.length, []⟩ :: conts off (chop ch sn).1, .eof, (chop ch sn).2⟩ := by
  simp only [Leader.sendData, hd, hin, Bool.false_eq_true, if_false, hsn, hle, if_true, hc, ne_eq,
    not_true_eq_false, hh]

/-- one `metaSync` round answered with the stream -/
theorem syncLoop_reach_aof (bk : Backend) (L : Leader β) (x : Id) (d : Data β) (hs : Serves L x)
    (hh : L.halt = none) (hx1 : x ≠ "") (hx2 : x ≠ "?") (hd : L.data = some d)
    (fuel n b : Nat) (ch : List Nat) (G : Store β) (roff : Int) (hat : At bk G x)
    (hle : roff ≤ (d.right : Int))
    (hpos : ∀ e, G.curData = some e → (e.right : Int) = roff)
    (hin : L.inAof d (if L.valid x roff then roff else latest L.data) = true)
    (hb : d.bytes.length + L.tail.length ≤ b) :
    Reached L d (syncLoopV bk (fun _ => View.const L) 0 x (fuel + 1) n (b + 1) ch G (x, roff)) := by
  have hlat : latest L.data = (d.right : Int) := by rw [hd]; rfl
  have hnh : ¬ roff - latest L.data > 0 := by rw [hlat]; omega
  generalize hoff : (if L.valid x roff then roff else latest L.data) = off at hin
  have hge : roff ≤ off := by rw [← hoff]; split <;> omega
  have hbounds : (d.base : Int) ≤ off ∧ off ≤ (d.base : Int) + (d.bytes.length : Int) := by
    have hin2 := hin
    simp [Leader.inAof, Data.right] at hin2
    obtain ⟨⟨_, h1⟩, h2⟩ := hin2
    have h2 := of_decide_eq_true h2
    constructor <;> omega
  obtain ⟨hlo, hhi⟩ := hbounds
  rw [syncLoopV_aof bk _ 0 x fuel n b ch G (x, roff) _ _ _ _
    (by rw [meta_static hs hx1 hx2 roff ch hnh, hoff, sendData_aof_eval hs.cur hh d hd off hin ch])
    rfl (fun e => by cases e) rfl]
  simp only [Out.pre_stage, Out.pre_cls, Out.pre_store, Reached]
  have hk : (off - (d.base : Int)).toNat ≤ d.bytes.length := by omega
  have hlen := chop_length_le ch (d.bytes.drop (off - (d.base : Int)).toNat ++ L.tail)
  have hfl := chop_flatten ch (d.bytes.drop (off - (d.base : Int)).toNat ++ L.tail)
  generalize (chop ch (d.bytes.drop (off - (d.base : Int)).toNat ++ L.tail)).1 = cs at hlen hfl
  simp only [List.length_append, List.length_drop] at hlen
  have hall := aofSync_all bk G x off cs b hx1 hx2 hat (by omega) (by omega)
    (by intro e he; rw [hpos e he]; exact hge)
  simp only at hall
  refine ⟨hall.1, hall.2.1, ?_, ?_⟩
  · intro e' he'
    rw [hall.2.2.1 e' he', hfl]
    simp only [List.length_append, List.length_drop, Data.right]
    omega
  · intro hn
    have := hall.2.2.2 hn
    rw [hfl] at this
    exact (List.append_eq_nil_iff.mp this).2

/-- a `metaSync` round answered with the snapshot, then one answered with the stream -/
theorem syncLoop_reach (bk : Backend) (L : Leader β) (x : Id) (d : Data β) (hs : Serves L x)
    (hh : L.halt = none) (hx1 : x ≠ "") (hx2 : x ≠ "?") (hd : L.data = some d) (hw : L.hasSegs d = true)
    (fuel n b : Nat) (ch : List Nat) (G : Store β) (roff : Int) (hat : At bk G x)
    (hle : roff ≤ (d.right : Int))
    (hpos : ∀ e, G.curData = some e → (e.right : Int) = roff)
    (hb : (d.snap.getD []).length + 1 + d.bytes.length + L.tail.length ≤ b) :
    Reached L d (syncLoopV bk (fun _ => View.const L) 0 x (fuel + 2) n (b + 1) ch G (x, roff)) := by
  have hlat : latest L.data = (d.right : Int) := by rw [hd]; rfl
  have hnh : ¬ roff - latest L.data > 0 := by rw [hlat]; omega
  by_cases hin : L.inAof d (if L.valid x roff then roff else latest L.data) = true
  · exact syncLoop_reach_aof bk L x d hs hh hx1 hx2 hd (fuel + 1) n b ch G roff hat hle hpos hin (by omega)
  · -- not covered by a segment: the offset is valid through the snapshot
    have hnewest : L.inAof d (d.right : Int) = true :=
      inAof_of_le hw (by simp only [Data.right]; omega) (Int.le_refl _)
    have hv : L.valid x roff = true := by
      cases hv : L.valid x roff with
      | true => rfl
      | false => rw [hv, hlat] at hin; exact absurd hnewest (by simpa using hin)
    rw [hv] at hin
    simp only [if_true] at hin
    have hrdb : inRdb d roff = true := by
      simp only [Leader.valid, hs.cur, decide_true, Bool.true_and, hd] at hv
      cases h1 : L.inAof d roff with
      | true => exact absurd h1 hin
      | false => rw [h1] at hv; simpa using hv
    simp only [inRdb, Bool.and_eq_true, decide_eq_true_eq] at hrdb
    obtain ⟨hsn, hrb⟩ := hrdb
    obtain ⟨sn, hsnap⟩ := Option.isSome_iff_exists.mp hsn
    have hin0 : L.inAof d roff = false := by simpa using hin
    unfold syncLoopV
    simp only
    rw [meta_static hs hx1 hx2 roff ch hnh, hv]
    simp only [if_true]
    rw [sendData_rdb_eval hs.cur hh d hd roff hin0 sn hsnap hrb ch]
    simp only [respErr, reduceCtorEq, if_false, Bool.false_eq_true, Int.toNat_natCast]
    have hlen := chop_length_le ch sn
    have hfl := chop_flatten ch sn
    have hne := chop_nonempty ch sn
    generalize hrest : (chop ch sn).2 = rest
    generalize (chop ch sn).1 = cs at hlen hfl hne
    have hsl : sn.length = cs.flatten.length := by rw [hfl]
    have hb1 : cs.length ≤ b := by
      rw [hsnap] at hb; simp only [Option.getD_some] at hb; omega
    rw [hsl, rdbLoop_conts_all .eof b roff cs hb1 hne]
    simp only [List.take_length, conts_length, Loss.written_zero, Bool.false_eq_true, if_false]
    have hr := reset_at bk G x hx1 hx2 hat
    generalize setRunId bk (delRunId bk G x) x = F1 at hr
    have hat2 := setCur_at bk F1 x (some ⟨d.base, [], some cs.flatten⟩) hr.1
    have hcd := setCur_curData F1 (some ⟨d.base, [], some cs.flatten⟩)
    generalize F1.setCur (some ⟨d.base, [], some cs.flatten⟩) = F2 at hat2 hcd
    rw [startPoint_at bk F2 x hx1 hx2 hat2, startPoint_at_off bk F2 x hx1 hx2 hat2 _ hcd]
    simp only [Data.right, List.length_nil, Nat.add_zero]
    have hinb0 : L.inAof d (d.base : Int) = true :=
      inAof_of_le hw (Int.le_refl _) (by simp only [Data.right]; omega)
    have hvb := valid_of_inAof hs.cur hd hinb0
    have hinb : L.inAof d (if L.valid x (d.base : Int) then (d.base : Int) else latest L.data) = true := by
      rw [hvb]
      simp only [if_true]
      exact hinb0
    obtain ⟨b', hb'⟩ : ∃ b', b - cs.length = b' + 1 := by
      rw [hsnap] at hb; simp only [Option.getD_some] at hb
      exact ⟨b - cs.length - 1, by omega⟩
    rw [hb']
    have := syncLoop_reach_aof bk L x d hs hh hx1 hx2 hd fuel (n + 1) b' rest F2 (d.base : Int) hat2
      (by simp only [Data.right]; omega) (by intro e he; rw [hcd] at he; cases he; simp [Data.right]) hinb
      (by rw [hsnap] at hb; simp only [Option.getD_some] at hb; omega)
    simpa [Reached] using this


/-! ### hand-over on the leader's side -/

theorem conts_code (o : Int) (cs : List (List β)) : ∀ m ∈ conts o cs, m.code = .cont := by
  induction cs generalizing o with
  | nil => intro m hm; cases hm
  | cons c cs ih =>
    intro m hm
    simp only [conts, List.mem_cons] at hm
    rcases hm with rfl | hm
    · rfl
    · exact ih _ m hm

theorem sendData_no_handover (L : Leader β) (rid : Id) (off : Int) (ch : List Nat) :
    ∀ m ∈ (L.sendData rid off ch).msgs, m.code ≠ .handover := by
  have chunks : ∀ (cs : List (List β)) (tl : List (Msg β)) (m : Msg β), Tail tl →
      m ∈ conts off cs ++ tl → m.code ≠ .handover := by
    intro cs tl m htl hm
    rcases List.mem_append.mp hm with hm | hm
    · rw [conts_code off cs m hm]; decide
    · rcases htl with rfl | rfl | rfl
      · cases hm
      · rw [List.mem_singleton.mp hm]; exact nofun
      · rw [List.mem_singleton.mp hm]; exact nofun
  intro m hm
  have hs := sendData_sent L rid off ch
  generalize L.sendData rid off ch = rp at hs hm
  cases hs with
  | refused c hc =>
    rw [List.mem_singleton.mp hm]
    rcases hc with rfl | rfl <;> exact nofun
  | aof d hd hid hin k tl htl fin =>
    rcases List.mem_cons.mp hm with rfl | hm
    · exact nofun
    · exact chunks _ _ m htl hm
  | rdb d s hd hid hs k tl htl fin =>
    rcases List.mem_cons.mp hm with rfl | hm
    · exact nofun
    · exact chunks _ _ m htl hm

/-- whenever the leader answers `HANDOVER`, `ServiceReplica` returns a role error, on which
    `SyncerCmd.Sync` stops this input's syncer (so that the lease is resigned) -/
theorem handover_stops_leader (v : View β) (rid : Id) (roff : Int) (ch : List Nat)
    (h : ∃ m ∈ (v.handle rid roff ch).msgs, m.code = .handover) :
    syncReact (v.handle rid roff ch).fin = .stopSyncer := by
  obtain ⟨m, hm, hcode⟩ := h
  have hh := handle_handled v rid roff ch
  generalize v.handle rid roff ch = rp at hh hm
  cases hh with
  | failure k => rw [List.mem_singleton.mp hm] at hcode; cases hcode
  | silent => cases hm
  | answer pre hpre rp hrp =>
    -- selfInspection's `CLEAR` is not a `HANDOVER`
    have hm : m ∈ rp.msgs := by
      rcases hpre with rfl | rfl
      · exact hm
      · rcases List.mem_cons.mp hm with rfl | hm
        · cases hcode
        · exact hm
    cases hrp with
    | handover => rfl
    | data _ _ => exact absurd hcode (sendData_no_handover _ _ _ _ m hm)
    | _ => rw [List.mem_singleton.mp hm] at hcode; cases hcode

end GunYu.Replica
