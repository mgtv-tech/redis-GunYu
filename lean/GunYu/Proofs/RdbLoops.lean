/-
  C04 — loops driven by a COUNT FIELD of the input (`for i := 0; i < n; i++ { read … }`):
  however large the count, the body completes at most |input| / k times when each
  round reads at least k bytes — the work and everything allocated per round is
  linear in the bytes present.
-/
import GunYu.Proofs.RdbFrameX

namespace GunYu.RdbFrameX
open GunYu GunYu.RdbFrame

/-- `r` reads at least `k` bytes whenever it succeeds -/
def ConsumesK {α} (k : Nat) (r : Rd α) : Prop := ∀ xs a rest, r xs = .ok a rest → rest.length + k ≤ xs.length

/-- how many rounds of `for i := 0; i < n; i++ { r }` complete on `xs` (the loop ends at the first failing round) -/
def iterations : Nat → Rd Unit → Bytes → Nat
  | 0, _, _ => 0
  | n+1, r, xs => match r xs with
    | .ok _ rest => 1 + iterations n r rest
    | _ => 0

theorem iterations_le_count (r : Rd Unit) : ∀ n xs, iterations n r xs ≤ n
  | 0, _ => Nat.le_refl _
  | n+1, xs => by
    unfold iterations
    split
    · have := iterations_le_count r n ‹_›; omega
    · omega

/-- **a count field cannot buy more rounds than there are bytes** -/
theorem iterations_le_bytes (k : Nat) (r : Rd Unit) (h : ConsumesK k r) : ∀ n xs, k * iterations n r xs ≤ xs.length
  | 0, xs => by simp [iterations]
  | n+1, xs => by
    unfold iterations
    split
    · next a rest hr =>
      have h1 := h xs a rest hr
      have h2 := iterations_le_bytes k r h n rest
      rw [Nat.mul_add]; omega
    · omega

/-- a walk that succeeds has completed every round: the count WAS backed by bytes -/
theorem repeatN_ok_iterations (r : Rd Unit) : ∀ n xs rest, repeatN n r xs = .ok () rest → iterations n r xs = n
  | 0, _, _, _ => rfl
  | n+1, xs, rest, h => by
    unfold repeatN at h
    obtain ⟨a, mid, hr, h2⟩ := andThen_ok h
    unfold iterations
    rw [hr]
    simp only
    rw [repeatN_ok_iterations r n mid rest h2]; omega

theorem consumesK_takeN (n : Nat) : ConsumesK n (takeN n) := by
  intro xs a rest h
  unfold takeN at h
  split at h
  · simp only [R.ok.injEq] at h; obtain ⟨_, rfl⟩ := h; rw [List.length_drop]; omega
  · cases h

theorem consumesK_andThen {α β} {r : Rd α} {k : α → Rd β} {a b : Nat} (hr : ConsumesK a r) (hk : ∀ x, ConsumesK b (k x)) :
    ConsumesK (a + b) (andThen r k) := by
  intro xs y rest h
  obtain ⟨x, mid, h1, h2⟩ := andThen_ok h
  have := hr xs x mid h1
  have := hk x mid y rest h2
  omega

theorem consumesK_ret {α} (a : α) : ConsumesK 0 (ret a) := by
  intro xs b rest h; simp only [ret, R.ok.injEq] at h; obtain ⟨_, rfl⟩ := h; omega

theorem consumesK_of_consumes {α} {r : Rd α} (h : Consumes r) : ConsumesK 1 r := by
  intro xs a rest hr; have := h xs a rest hr; omega

theorem consumesK_skipBytes (n : Nat) : ConsumesK n (skipBytes n) := by
  have := consumesK_andThen (consumesK_takeN n) (fun (_ : Bytes) => consumesK_ret ())
  simpa [skipBytes] using this

/-- one entry of the global PEL of a consumer group as BOTH `StreamParser.ReadBuffer` and `ExecCmd` read it:
    16 bytes id, 8 bytes delivery time, a length -/
def pelEntry : Rd Unit := andThen (skipBytes 16) (fun _ => andThen (skipBytes 8) (fun _ => lens 1))

theorem lens1_consumes : ConsumesK 1 (lens 1) := by
  unfold lens repeatN
  have h := consumesK_andThen (consumesK_andThen (consumesK_of_consumes (len_good (P := True)).2) (fun (_ : Nat) => consumesK_ret ()))
    (fun (_ : Unit) => consumesK_ret (α := Unit) ())
  simpa [repeatN] using h

theorem pelEntry_consumes : ConsumesK 25 pelEntry := by
  unfold pelEntry
  have := consumesK_andThen (consumesK_skipBytes 16) (fun (_ : Unit) =>
    consumesK_andThen (consumesK_skipBytes 8) (fun (_ : Unit) => lens1_consumes))
  simpa using this

end GunYu.RdbFrameX
