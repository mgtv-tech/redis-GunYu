/-
  C20 — whole runs of a replay worker.

  A run (`runPlain`, `runBisync`) is a fold of one step per entry, so it splits at EVERY point, also in the middle of a key's
  chunks. A runner whose behaviour on one key group is an `Eff` of what the target holds under the key IS the sequence of
  these effects (`seqD`); `runWorker`, the loop the correspondence harness compares with the code, is `runWG` over such a fold.

  Core Lean only.
-/
import GunYu.Proofs.Restore

namespace GunYu.Restore

/-- continue a finished run `r` with `next` (from `r`'s remembered state and target) unless `r` failed -/
def Run.resume (r : Run) (next : RState → Target → Run) : Run :=
  if r.out = .ok then
    { reqs := r.reqs ++ (next r.st r.tgt).reqs, out := (next r.st r.tgt).out, st := (next r.st r.tgt).st,
      tgt := (next r.st r.tgt).tgt }
  else r

theorem Run.resume_assoc (r : Run) (f g : RState → Target → Run) :
    (r.resume f).resume g = r.resume (fun st t => (f st t).resume g) := by
  unfold Run.resume
  by_cases h1 : r.out = .ok
  · by_cases h2 : (f r.st r.tgt).out = .ok <;> simp [h1, h2]
  · simp [h1]

def runOf (step : RState → Target → Entry → Run) : RState → Target → List Entry → Run
  | st, t, [] => { st := st, tgt := t }
  | st, t, e :: rest => (step st t e).resume (fun st' t' => runOf step st' t' rest)

def plainStep (pol : Policy) (cfg : Cfg) (st : RState) (t : Target) (e : Entry) : Run :=
  let r := replay pol cfg st (viewOf t e) e
  { reqs := r.1, out := r.2.1, st := r.2.2, tgt := applyReqs t r.1 }

def bisyncStep (pol : Policy) (cfg : Cfg) (st : RState) (t : Target) (e : Entry) : Run :=
  let b := buildUnit pol cfg st (viewOf t e) e
  { reqs := unitReqs b, out := bOut b.2.2.1, st := b.2.2.2, tgt := applyReqs t (unitReqs b) }

theorem runPlain_eq (pol : Policy) (cfg : Cfg) : ∀ (es : List Entry) (st : RState) (t : Target),
    runPlain pol cfg st t es = runOf (plainStep pol cfg) st t es
  | [], _, _ => rfl
  | e :: es, st, t => by
    cases hr : replay pol cfg st (viewOf t e) e with
    | mk rs p =>
      obtain ⟨out, st'⟩ := p
      cases out <;> simp [runPlain, runOf, plainStep, Run.resume, hr, ← runPlain_eq pol cfg es]

theorem runBisync_eq (pol : Policy) (cfg : Cfg) : ∀ (es : List Entry) (st : RState) (t : Target),
    runBisync pol cfg st t es = runOf (bisyncStep pol cfg) st t es
  | [], _, _ => rfl
  | e :: es, st, t => by
    cases hr : buildUnit pol cfg st (viewOf t e) e with
    | mk direct p =>
      obtain ⟨cmds, out, st'⟩ := p
      cases out <;> simp [runBisync, runOf, bisyncStep, unitReqs, Run.resume, hr, bOut, ← runBisync_eq pol cfg es]

theorem runOf_split (step : RState → Target → Entry → Run) :
    ∀ (a b : List Entry) (st : RState) (t : Target),
      runOf step st t (a ++ b) = (runOf step st t a).resume (fun st' t' => runOf step st' t' b)
  | [], b, st, t => by simp [runOf, Run.resume]
  | e :: a, b, st, t => by
    simp only [List.cons_append, runOf, runOf_split step a b, Run.resume_assoc]

theorem runPlain_split (pol : Policy) (cfg : Cfg) (a b : List Entry) (st : RState) (t : Target) :
    runPlain pol cfg st t (a ++ b) = (runPlain pol cfg st t a).resume (fun st' t' => runPlain pol cfg st' t' b) := by
  simp only [runPlain_eq]; exact runOf_split _ a b st t

theorem runBisync_split (pol : Policy) (cfg : Cfg) (a b : List Entry) (st : RState) (t : Target) :
    runBisync pol cfg st t (a ++ b) = (runBisync pol cfg st t a).resume (fun st' t' => runBisync pol cfg st' t' b) := by
  simp only [runBisync_eq]; exact runOf_split _ a b st t

theorem runPlain_nil (pol cfg st t) : runPlain pol cfg st t [] = { st := st, tgt := t } := rfl

theorem runPlain_cons_ok (pol : Policy) (cfg : Cfg) (st : RState) (t : Target) (e : Entry) (rest : List Entry)
    (rs : List Req) (st' : RState) (h : replay pol cfg st (viewOf t e) e = (rs, .ok, st')) :
    (runPlain pol cfg st t (e :: rest)).reqs = rs ++ (runPlain pol cfg st' (applyReqs t rs) rest).reqs ∧
    (runPlain pol cfg st t (e :: rest)).out = (runPlain pol cfg st' (applyReqs t rs) rest).out ∧
    (runPlain pol cfg st t (e :: rest)).st = (runPlain pol cfg st' (applyReqs t rs) rest).st ∧
    (runPlain pol cfg st t (e :: rest)).tgt = (runPlain pol cfg st' (applyReqs t rs) rest).tgt := by
  simp [runPlain, h]

theorem runPlain_cons_err (pol : Policy) (cfg : Cfg) (st : RState) (t : Target) (e : Entry) (rest : List Entry)
    (rs : List Req) (o : Outcome) (st' : RState) (ho : o ≠ .ok) (h : replay pol cfg st (viewOf t e) e = (rs, o, st')) :
    (runPlain pol cfg st t (e :: rest)).reqs = rs ∧
    (runPlain pol cfg st t (e :: rest)).out = o ∧
    (runPlain pol cfg st t (e :: rest)).tgt = applyReqs t rs := by
  cases o <;> simp [runPlain, h] at *

theorem runBisync_nil (pol cfg st t) : runBisync pol cfg st t [] = { st := st, tgt := t } := rfl

theorem runBisync_cons_ok (pol : Policy) (cfg : Cfg) (st : RState) (t : Target) (e : Entry) (rest : List Entry)
    (direct cmds : List Req) (out : BOutcome) (st' : RState) (ho : bOut out = .ok)
    (h : buildUnit pol cfg st (viewOf t e) e = (direct, cmds, out, st')) :
    let rs := direct ++ (if out = .unit then execUnit cmds else [])
    (runBisync pol cfg st t (e :: rest)).reqs = rs ++ (runBisync pol cfg st' (applyReqs t rs) rest).reqs ∧
    (runBisync pol cfg st t (e :: rest)).out = (runBisync pol cfg st' (applyReqs t rs) rest).out ∧
    (runBisync pol cfg st t (e :: rest)).tgt = (runBisync pol cfg st' (applyReqs t rs) rest).tgt := by
  simp [runBisync, h, ho]

theorem runBisync_cons_err (pol : Policy) (cfg : Cfg) (st : RState) (t : Target) (e : Entry) (rest : List Entry)
    (direct cmds : List Req) (out : BOutcome) (st' : RState) (ho : bOut out ≠ .ok)
    (h : buildUnit pol cfg st (viewOf t e) e = (direct, cmds, out, st')) :
    let rs := direct ++ (if out = .unit then execUnit cmds else [])
    (runBisync pol cfg st t (e :: rest)).reqs = rs ∧
    (runBisync pol cfg st t (e :: rest)).out = bOut out ∧
    (runBisync pol cfg st t (e :: rest)).tgt = applyReqs t rs := by
  cases out <;> simp [runBisync, h, bOut] at *

theorem runOf_const {step : RState → Target → Entry → Run} {f : Entry → List Req} (st : RState) :
    ∀ (es : List Entry) (t : Target),
      (∀ e ∈ es, ∀ t, step st t e = { reqs := f e, out := .ok, st := st, tgt := applyReqs t (f e) }) →
      runOf step st t es = { reqs := es.flatMap f, out := .ok, st := st, tgt := applyReqs t (es.flatMap f) }
  | [], _, _ => rfl
  | e :: es, t, h => by
    simp [runOf, Run.resume, h e (List.mem_cons_self ..), applyReqs_append,
      runOf_const st es _ fun x hx => h x (List.mem_cons_of_mem _ hx)]

theorem runOf_skip {step : RState → Target → Entry → Run} (st : RState) (es : List Entry) (t : Target)
    (h : ∀ e ∈ es, ∀ t, step st t e = { reqs := [], out := .ok, st := st, tgt := t }) :
    runOf step st t es = { reqs := [], out := .ok, st := st, tgt := t } := by
  have := runOf_const (f := fun _ => []) st es t h
  rwa [List.flatMap_eq_nil_iff.2 fun _ _ => rfl] at this

theorem runPlain_later (pol : Policy) (cfg : Cfg) (k : Bytes) (st : RState) (rest : List Entry) (t : Target)
    (h : ∀ e ∈ rest, Later k e) :
    runPlain pol cfg st t rest =
      if st = some k then { reqs := [], out := .ok, st := st, tgt := t }
      else { reqs := rest.flatMap (expand cfg), out := .ok, st := st, tgt := applyReqs t (rest.flatMap (expand cfg)) } := by
  rw [runPlain_eq]
  split
  · next hs =>
    exact runOf_skip st rest t fun e he t => by simp only [plainStep, replay_later pol cfg st _ (h e he), if_pos hs]; rfl
  · next hs =>
    exact runOf_const st rest t fun e he t => by simp [plainStep, replay_later pol cfg st _ (h e he), hs]

theorem runBisync_later (pol : Policy) (cfg : Cfg) (k : Bytes) (st : RState) (rest : List Entry) (t : Target)
    (h : ∀ e ∈ rest, Later k e) :
    runBisync pol cfg st t rest =
      if st = some k then { reqs := [], out := .ok, st := st, tgt := t }
      else { reqs := rest.flatMap (fun e => wrapUnit (expand cfg e)), out := .ok, st := st,
             tgt := applyReqs t (rest.flatMap fun e => wrapUnit (expand cfg e)) } := by
  rw [runBisync_eq]
  split
  · next hs =>
    exact runOf_skip st rest t fun e he t => by simp only [bisyncStep, buildUnit_later pol cfg st _ (h e he), if_pos hs]; rfl
  · next hs =>
    refine runOf_const st rest t fun e he t => ?_
    simp only [bisyncStep, buildUnit_later pol cfg st _ (h e he), hs, if_false, wrapUnit]
    split <;> simp [unitReqs, bOut]

theorem applyReq_bad (t : Target) (r : Req) : (applyReq t r).bad = t.bad := by
  cases r <;> simp [applyReq, Target.put, reqKey]

theorem applyReqs_bad (t : Target) (rs : List Req) : (applyReqs t rs).bad = t.bad := by
  induction rs generalizing t with
  | nil => rfl
  | cons r rs ih => rw [applyReqs_cons, ih, applyReq_bad]

structure StepOK (step : RState → Target → Entry → Run) : Prop where
  tgt : ∀ st t e, (step st t e).tgt = applyReqs t (step st t e).reqs
  reqs : ∀ st t e, ∀ r ∈ (step st t e).reqs, ReqFor e r

theorem plainStep_ok (pol : Policy) (cfg : Cfg) : StepOK (plainStep pol cfg) :=
  ⟨fun _ _ _ => rfl, fun st t e => replay_reqs pol cfg st (viewOf t e) e⟩

theorem bisyncStep_ok (pol : Policy) (cfg : Cfg) : StepOK (bisyncStep pol cfg) :=
  ⟨fun _ _ _ => rfl, fun st t e => buildUnit_reqs pol cfg st (viewOf t e) e⟩

theorem runOf_tgt {step : RState → Target → Entry → Run} (h : StepOK step) :
    ∀ (es : List Entry) (st : RState) (t : Target), (runOf step st t es).tgt = applyReqs t (runOf step st t es).reqs
  | [], _, _ => rfl
  | e :: es, st, t => by
    simp only [runOf, Run.resume]
    split
    · simp only [runOf_tgt h es, h.tgt st t e, applyReqs_append]
    · exact h.tgt st t e

theorem runOf_reqs {step : RState → Target → Entry → Run} (h : StepOK step) :
    ∀ (es : List Entry) (st : RState) (t : Target), ∀ r ∈ (runOf step st t es).reqs, ∃ e ∈ es, ReqFor e r
  | [], _, _, _, hr => nomatch hr
  | e :: es, st, t, r, hr => by
    have here : ∀ r ∈ (step st t e).reqs, ∃ x ∈ e :: es, ReqFor x r := fun r hr => ⟨e, List.mem_cons_self .., h.reqs st t e r hr⟩
    simp only [runOf, Run.resume] at hr
    split at hr
    · rcases List.mem_append.mp hr with hr | hr
      · exact here r hr
      · obtain ⟨x, hx, hxr⟩ := runOf_reqs h es _ _ r hr
        exact ⟨x, List.mem_cons_of_mem _ hx, hxr⟩
    · exact here r hr

theorem runOf_inv {step : RState → Target → Entry → Run} (h : StepOK step) (es : List Entry) (st : RState) (t : Target) :
    (runOf step st t es).tgt.cur = t.cur ∧ (runOf step st t es).tgt.now = t.now ∧ (runOf step st t es).tgt.bad = t.bad := by
  rw [runOf_tgt h]
  refine ⟨applyReqs_cur _ _ fun r hr => ?_, applyReqs_now _ _, applyReqs_bad _ _⟩
  obtain ⟨_, _, hx⟩ := runOf_reqs h es st t r hr
  exact hx.noSel

theorem runOf_oneKey {step : RState → Target → Entry → Run} (h : StepOK step) (k : Bytes) (es : List Entry) (st : RState)
    (t : Target) (hk : ∀ e ∈ es, e.key = k ∧ ∀ c ∈ e.cmds, cmdKey c = k) :
    (runOf step st t es).tgt.get k = objSteps k t.now (t.get k) (runOf step st t es).reqs ∧
    ∀ d k', ¬ (d = t.cur ∧ k' = k) → (runOf step st t es).tgt.ks d k' = t.ks d k' := by
  have hon : ∀ r ∈ (runOf step st t es).reqs, onKey k r := by
    intro r hr
    obtain ⟨e, he, hx⟩ := runOf_reqs h es st t r hr
    obtain ⟨h1, h2⟩ := hk e he
    subst h1
    exact hx.onKey h2
  rw [runOf_tgt h]
  exact ⟨applyReqs_get t _ (fun r hr => onKey_noSel (hon r hr)) k, applyReqs_frame t _ k hon⟩

theorem runPlain_inv (pol : Policy) (cfg : Cfg) (es : List Entry) (st : RState) (t : Target) :
    (runPlain pol cfg st t es).tgt.cur = t.cur ∧ (runPlain pol cfg st t es).tgt.now = t.now ∧
    (runPlain pol cfg st t es).tgt.bad = t.bad := by
  rw [runPlain_eq]; exact runOf_inv (plainStep_ok pol cfg) es st t

theorem runBisync_inv (pol : Policy) (cfg : Cfg) (es : List Entry) (st : RState) (t : Target) :
    (runBisync pol cfg st t es).tgt.cur = t.cur ∧ (runBisync pol cfg st t es).tgt.now = t.now ∧
    (runBisync pol cfg st t es).tgt.bad = t.bad := by
  rw [runBisync_eq]; exact runOf_inv (bisyncStep_ok pol cfg) es st t

/-- a key group: first chunk and later chunks of one snapshot key -/
abbrev KGroup := Entry × List Entry
def KGroup.entries (g : KGroup) : List Entry := g.1 :: g.2
def KGroup.key (g : KGroup) : Bytes := g.1.key
/-- the entry stream of a snapshot: its key groups one after the other -/
def flat (gs : List KGroup) : List Entry := gs.flatMap KGroup.entries

theorem flat_cons (g : KGroup) (gs : List KGroup) : flat (g :: gs) = g.entries ++ flat gs := by
  simp [flat]

/-- what a worker does with one key group, seen from the key -/
inductive Eff
  | keep                  -- nothing is written, the run goes on
  | set (o : Obj)         -- the key ends as `o`, nothing else is written, the run goes on
  | stop (out : Outcome)  -- the run stops with `out`, nothing is written

def Eff.isStop : Eff → Bool
  | .stop _ => true
  | _ => false

/-- the key's object after the group, given what it was -/
def Eff.result (was : Option Obj) : Eff → Option Obj
  | .set o => some o
  | _ => was

/-- a worker loop `run` that splits at any point, keeps the connection's DB, and
    whose behaviour on ONE key group (of kind `good`) is the effect `eff t g`,
    a function of the target's clock, of the payloads it cannot load and of what
    it holds under the group's key -/
structure Runner (run : RState → Target → List Entry → Run) (eff : Target → KGroup → Eff) (good : KGroup → Prop) : Prop where
  nil : ∀ st t, run st t [] = { st := st, tgt := t }
  split : ∀ a b st t, run st t (a ++ b) = (run st t a).resume (fun st' t' => run st' t' b)
  inv : ∀ es st t, (run st t es).tgt.cur = t.cur ∧ (run st t es).tgt.now = t.now ∧ (run st t es).tgt.bad = t.bad
  loc : ∀ t t' g, t'.now = t.now → t'.bad = t.bad → t'.get g.key = t.get g.key → eff t' g = eff t g
  keep : ∀ st t g, good g → eff t g = .keep →
    (run st t g.entries).out = .ok ∧ ∀ d k, (run st t g.entries).tgt.ks d k = t.ks d k
  set : ∀ st t g o, good g → eff t g = .set o →
    (run st t g.entries).out = .ok ∧ (run st t g.entries).tgt.get g.key = some o ∧
    ∀ d k, ¬ (d = t.cur ∧ k = g.key) → (run st t g.entries).tgt.ks d k = t.ks d k
  stop : ∀ st t g out, good g → eff t g = .stop out →
    out ≠ .ok ∧ (run st t g.entries).out = out ∧ ∀ d k, (run st t g.entries).tgt.ks d k = t.ks d k

/-- the target as a connection that is in DB `d` sees it -/
def Target.inDb (t : Target) (d : Nat) : Target := { t with cur := d }

theorem KS.set_same (ks : KS) (d : Nat) (k : Bytes) (o : Option Obj) : (ks.set d k o) d k = o := by simp [KS.set]

theorem KS.set_other (ks : KS) (d d' : Nat) (k k' : Bytes) (o : Option Obj) (h : ¬ (d' = d ∧ k' = k)) :
    (ks.set d k o) d' k' = ks d' k' := by simp [KS.set, h]

/-- the effects of the key groups in order, each on the keyspace as it is when the group is reached; group `g` acts on
    the cell `(db g, g.key)` -/
def seqD (db : KGroup → Nat) (eff : Target → KGroup → Eff) : Target → List KGroup → Outcome × KS
  | t, [] => (.ok, t.ks)
  | t, g :: gs =>
    match eff (t.inDb (db g)) g with
    | .keep => seqD db eff t gs
    | .set o => seqD db eff { t with ks := t.ks.set (db g) g.key (some o) } gs
    | .stop out => (out, t.ks)

theorem seqD_frame {db : KGroup → Nat} {eff : Target → KGroup → Eff} :
    ∀ (gs : List KGroup) (t : Target) (d : Nat) (k : Bytes), (∀ g ∈ gs, ¬ (d = db g ∧ k = g.key)) →
      (seqD db eff t gs).2 d k = t.ks d k
  | [], _, _, _, _ => rfl
  | g :: gs, t, d, k, h => by
    have h2 : ∀ x ∈ gs, ¬ (d = db x ∧ k = x.key) := fun x hx => h x (List.mem_cons_of_mem _ hx)
    simp only [seqD]
    cases eff (t.inDb (db g)) g with
    | keep => exact seqD_frame gs t d k h2
    | set o => rw [seqD_frame gs _ d k h2]; exact KS.set_other _ _ _ _ _ _ (h g (List.mem_cons_self ..))
    | stop out => rfl

def Eff.Local (eff : Target → KGroup → Eff) : Prop :=
  ∀ t t' g, t'.now = t.now → t'.bad = t.bad → t'.get g.key = t.get g.key → eff t' g = eff t g

theorem Eff.Local.set_other {db : KGroup → Nat} {eff : Target → KGroup → Eff} (hloc : Eff.Local eff) (t : Target) (d : Nat)
    (k : Bytes) (o : Option Obj) (x : KGroup) (h : ¬ (db x = d ∧ x.key = k)) :
    eff (({ t with ks := t.ks.set d k o } : Target).inDb (db x)) x = eff (t.inDb (db x)) x :=
  hloc _ _ x rfl rfl (KS.set_other _ _ _ _ _ _ h)

def Distinct (db : KGroup → Nat) (gs : List KGroup) : Prop :=
  gs.Pairwise fun g x => ¬ (db x = db g ∧ x.key = g.key)

/-- groups on pairwise distinct cells none of which stops: every group meets its cell as the target held it at the
    start, whatever the groups before it wrote -/
theorem seqD_nostop {db : KGroup → Nat} {eff : Target → KGroup → Eff} (hloc : Eff.Local eff) :
    ∀ (gs : List KGroup) (t : Target), Distinct db gs → (∀ g ∈ gs, (eff (t.inDb (db g)) g).isStop = false) →
      (seqD db eff t gs).1 = .ok ∧
      ∀ g ∈ gs, (seqD db eff t gs).2 (db g) g.key = (eff (t.inDb (db g)) g).result (t.ks (db g) g.key)
  | [], _, _, _ => ⟨rfl, List.forall_mem_nil _⟩
  | g :: gs, t, hnd, hns => by
    obtain ⟨hne, hnd'⟩ := List.pairwise_cons.mp hnd
    have hown : ∀ t', (seqD db eff t' gs).2 (db g) g.key = t'.ks (db g) g.key := fun t' =>
      seqD_frame gs t' _ _ fun x hx h => hne x hx ⟨h.1.symm, h.2.symm⟩
    have hg := hns g (List.mem_cons_self ..)
    simp only [seqD]
    cases he : eff (t.inDb (db g)) g with
    | stop out => rw [he] at hg; cases hg
    | keep =>
      obtain ⟨i1, i2⟩ := seqD_nostop hloc gs t hnd' fun x hx => hns x (List.mem_cons_of_mem _ hx)
      refine ⟨i1, fun x hx => ?_⟩
      rcases List.mem_cons.mp hx with rfl | hx
      · rw [hown, he]; rfl
      · exact i2 x hx
    | set o =>
      obtain ⟨i1, i2⟩ := seqD_nostop hloc gs { t with ks := t.ks.set (db g) g.key (some o) } hnd' fun x hx => by
        rw [hloc.set_other t _ _ _ x (hne x hx)]; exact hns x (List.mem_cons_of_mem _ hx)
      refine ⟨i1, fun x hx => ?_⟩
      rcases List.mem_cons.mp hx with rfl | hx
      · rw [hown, he]; exact KS.set_same ..
      · rw [i2 x hx, hloc.set_other t _ _ _ x (hne x hx)]
        show Eff.result ((t.ks.set (db g) g.key (some o)) (db x) x.key) _ = _
        rw [KS.set_other _ _ _ _ _ _ (hne x hx)]

theorem seqD_stop {db : KGroup → Nat} {eff : Target → KGroup → Eff} (hloc : Eff.Local eff) (g : KGroup) (post : List KGroup)
    (out : Outcome) :
    ∀ (pre : List KGroup) (t : Target), Distinct db (pre ++ g :: post) →
      (∀ p ∈ pre, (eff (t.inDb (db p)) p).isStop = false) → eff (t.inDb (db g)) g = .stop out →
      seqD db eff t (pre ++ g :: post) = (out, (seqD db eff t pre).2)
  | [], t, _, _, hg => by simp [seqD, hg]
  | p :: pre, t, hnd, hns, hg => by
    obtain ⟨hne, hnd'⟩ := List.pairwise_cons.mp hnd
    have hp := hns p (List.mem_cons_self ..)
    simp only [List.cons_append, seqD]
    cases he : eff (t.inDb (db p)) p with
    | stop o => rw [he] at hp; cases hp
    | keep => exact seqD_stop hloc g post out pre t hnd' (fun x hx => hns x (List.mem_cons_of_mem _ hx)) hg
    | set o =>
      refine seqD_stop hloc g post out pre _ hnd' (fun x hx => ?_) ?_
      · rw [hloc.set_other t _ _ _ x (hne x (List.mem_append_left _ hx))]; exact hns x (List.mem_cons_of_mem _ hx)
      · rw [hloc.set_other t _ _ _ g (hne g (List.mem_append_right _ (List.mem_cons_self ..)))]; exact hg

theorem seqD_whole {db : KGroup → Nat} {eff : Target → KGroup → Eff} (hloc : Eff.Local eff) (gs : List KGroup) (t : Target)
    (hnd : Distinct db gs) :
    (∀ d k, (∀ g ∈ gs, ¬ (d = db g ∧ k = g.key)) → (seqD db eff t gs).2 d k = t.ks d k) ∧
    ((∀ g ∈ gs, (eff (t.inDb (db g)) g).isStop = false) →
      (seqD db eff t gs).1 = .ok ∧
      ∀ g ∈ gs, (seqD db eff t gs).2 (db g) g.key = (eff (t.inDb (db g)) g).result (t.ks (db g) g.key)) ∧
    (∀ pre g post out, gs = pre ++ g :: post → (∀ p ∈ pre, (eff (t.inDb (db p)) p).isStop = false) →
      eff (t.inDb (db g)) g = .stop out →
      (seqD db eff t gs).1 = out ∧
      (∀ p ∈ pre, (seqD db eff t gs).2 (db p) p.key = (eff (t.inDb (db p)) p).result (t.ks (db p) p.key)) ∧
      (∀ d k, (∀ p ∈ pre, ¬ (d = db p ∧ k = p.key)) → (seqD db eff t gs).2 d k = t.ks d k)) := by
  refine ⟨seqD_frame gs t, seqD_nostop hloc gs t hnd, ?_⟩
  rintro pre g post out rfl hpre hg
  rw [seqD_stop hloc g post out pre t hnd hpre hg]
  exact ⟨rfl, (seqD_nostop hloc pre t (List.pairwise_append.mp hnd).1 hpre).2, seqD_frame pre t⟩

theorem Runner.group_spec {run : RState → Target → List Entry → Run} {eff : Target → KGroup → Eff} {good : KGroup → Prop}
    (R : Runner run eff good) (st : RState) (t ts : Target) (g : KGroup) (hg : good g) {d : Nat} (hd : t.cur = d)
    (hks : t.ks = ts.ks) (hnow : t.now = ts.now) (hbad : t.bad = ts.bad) :
    (run st t g.entries).tgt.cur = d ∧ (run st t g.entries).tgt.now = ts.now ∧ (run st t g.entries).tgt.bad = ts.bad ∧
    match eff (ts.inDb d) g with
    | .stop out => (run st t g.entries).out = out ∧ out ≠ .ok ∧ (run st t g.entries).tgt.ks = ts.ks
    | .keep => (run st t g.entries).out = .ok ∧ (run st t g.entries).tgt.ks = ts.ks
    | .set o => (run st t g.entries).out = .ok ∧ (run st t g.entries).tgt.ks = ts.ks.set d g.key (some o) := by
  subst hd
  obtain ⟨icur, inow, ibad⟩ := R.inv g.entries st t
  have heff : eff (ts.inDb t.cur) g = eff t g :=
    (R.loc (ts.inDb t.cur) t g hnow hbad (by simp only [Target.get, Target.inDb, hks])).symm
  refine ⟨icur, inow.trans hnow, ibad.trans hbad, ?_⟩
  rw [heff]
  cases he : eff t g with
  | stop out =>
    obtain ⟨hne, hout, hks'⟩ := R.stop st t g out hg he
    exact ⟨hout, hne, funext fun d => funext fun k => by rw [hks' d k, hks]⟩
  | keep =>
    obtain ⟨ho, hks'⟩ := R.keep st t g hg he
    exact ⟨ho, funext fun d => funext fun k => by rw [hks' d k, hks]⟩
  | set o =>
    obtain ⟨ho, hkk, hks'⟩ := R.set st t g o hg he
    refine ⟨ho, funext fun d => funext fun k => ?_⟩
    by_cases hdk : d = t.cur ∧ k = g.key
    · obtain ⟨rfl, rfl⟩ := hdk
      rw [KS.set_same, ← hkk, Target.get, icur]
    · rw [KS.set_other _ _ _ _ _ _ hdk, hks' d k hdk, hks]

theorem Runner.seq_spec {run : RState → Target → List Entry → Run} {eff : Target → KGroup → Eff} {good : KGroup → Prop}
    (R : Runner run eff good) :
    ∀ (gs : List KGroup) (st : RState) (t ts : Target), t.cur = ts.cur → t.ks = ts.ks → t.now = ts.now → t.bad = ts.bad →
      (∀ g ∈ gs, good g) →
      (run st t (flat gs)).out = (seqD (fun _ => ts.cur) eff ts gs).1 ∧
      (run st t (flat gs)).tgt.ks = (seqD (fun _ => ts.cur) eff ts gs).2
  | [], st, t, ts, _, hks, _, _, _ => by simp [flat, R.nil, seqD, hks]
  | g :: gs, st, t, ts, hc, hks, hnow, hbad, hgood => by
    have ih := fun st' t' ts' => Runner.seq_spec R gs st' t' ts'
    obtain ⟨icur, inow, ibad, hgr⟩ := R.group_spec st t ts g (hgood g (List.mem_cons_self ..)) hc hks hnow hbad
    have hgs : ∀ x ∈ gs, good x := fun x hx => hgood x (List.mem_cons_of_mem _ hx)
    rw [flat_cons, R.split]
    simp only [seqD]
    cases he : eff (ts.inDb ts.cur) g with
    | stop out => rw [he] at hgr; simp only [Run.resume, hgr.1, hgr.2.1, if_false]; exact ⟨trivial, hgr.2.2⟩
    | keep => rw [he] at hgr; simp only [Run.resume, hgr.1, if_true]; exact ih _ _ ts icur hgr.2 inow ibad hgs
    | set o =>
      rw [he] at hgr; simp only [Run.resume, hgr.1, if_true]
      exact ih _ _ { ts with ks := ts.ks.set ts.cur g.key (some o) } icur hgr.2 inow ibad hgs

theorem Runner.whole {run : RState → Target → List Entry → Run} {eff : Target → KGroup → Eff} {good : KGroup → Prop}
    (R : Runner run eff good) (gs : List KGroup) (st : RState) (t : Target) (hgood : ∀ g ∈ gs, good g)
    (hnd : (gs.map KGroup.key).Nodup) :
      (∀ d k, ¬ (d = t.cur ∧ k ∈ gs.map KGroup.key) → (run st t (flat gs)).tgt.ks d k = t.ks d k) ∧
      ((∀ g ∈ gs, (eff t g).isStop = false) →
        (run st t (flat gs)).out = .ok ∧
        ∀ g ∈ gs, (run st t (flat gs)).tgt.get g.key = (eff t g).result (t.get g.key)) ∧
      (∀ pre g post out, gs = pre ++ g :: post → (∀ p ∈ pre, (eff t p).isStop = false) → eff t g = .stop out →
        (run st t (flat gs)).out = out ∧
        (∀ p ∈ pre, (run st t (flat gs)).tgt.get p.key = (eff t p).result (t.get p.key)) ∧
        (∀ d k, ¬ (d = t.cur ∧ k ∈ pre.map KGroup.key) → (run st t (flat gs)).tgt.ks d k = t.ks d k)) := by
  obtain ⟨e1, e2⟩ := R.seq_spec gs st t t rfl rfl rfl rfl hgood
  have hcur := (R.inv (flat gs) st t).1
  have hd : Distinct (fun _ => t.cur) gs :=
    (List.pairwise_map.mp hnd).imp fun h hh => h hh.2.symm
  have hmem : ∀ {l : List KGroup} {d k}, ¬ (d = t.cur ∧ k ∈ l.map KGroup.key) → ∀ g ∈ l, ¬ (d = t.cur ∧ k = g.key) :=
    fun h g hg hh => h ⟨hh.1, hh.2 ▸ List.mem_map_of_mem hg⟩
  obtain ⟨w1, w2, w3⟩ := seqD_whole R.loc gs t hd
  simp only [Target.get, hcur, e1, e2]
  exact ⟨fun d k h => w1 d k (hmem h), w2, fun pre g post out hs hp hg =>
    have ⟨a, b, c⟩ := w3 pre g post out hs hp hg
    ⟨a, b, fun d k h => c d k (hmem h)⟩⟩

/-! ### the worker loop with DB selection, over any runner

  `runWG run` is `rdbReplay` / `rdbReplayBisync` (= `runWorker`, see
  `runWorker_is_runWG_*`): SELECT when the entry's DB differs from the
  connection's, then one step of `run`; it returns the run and the DB the
  connection is left in. -/

def runWG (run : RState → Target → List Entry → Run) : Nat → RState → Target → List Entry → Run × Nat
  | cur, st, t, [] => ({ st := st, tgt := t }, cur)
  | cur, st, t, e :: rest =>
    let sel : List Req := if e.db ≥ 0 ∧ e.db.toNat ≠ cur then [Req.select e.db.toNat] else []
    let cur' := if e.db ≥ 0 then e.db.toNat else cur
    let r1 := run st (applyReqs t sel) [e]
    if r1.out = .ok then
      let w := runWG run cur' r1.st r1.tgt rest
      ({ reqs := sel ++ r1.reqs ++ w.1.reqs, out := w.1.out, st := w.1.st, tgt := w.1.tgt }, w.2)
    else ({ reqs := sel ++ r1.reqs, out := r1.out, st := r1.st, tgt := r1.tgt }, cur')

def wResume (w : Run × Nat) (next : Nat → RState → Target → Run × Nat) : Run × Nat :=
  if w.1.out = .ok then
    ({ reqs := w.1.reqs ++ (next w.2 w.1.st w.1.tgt).1.reqs, out := (next w.2 w.1.st w.1.tgt).1.out,
       st := (next w.2 w.1.st w.1.tgt).1.st, tgt := (next w.2 w.1.st w.1.tgt).1.tgt }, (next w.2 w.1.st w.1.tgt).2)
  else w

theorem runWG_split (run : RState → Target → List Entry → Run) :
    ∀ (a b : List Entry) (cur : Nat) (st : RState) (t : Target),
      runWG run cur st t (a ++ b) = wResume (runWG run cur st t a) (fun c st' t' => runWG run c st' t' b)
  | [], b, cur, st, t => by simp [runWG, wResume]
  | e :: a, b, cur, st, t => by
    have ih := runWG_split run a b
    simp only [List.cons_append, runWG]
    generalize (if e.db ≥ 0 ∧ e.db.toNat ≠ cur then [Req.select e.db.toNat] else []) = sel
    generalize (if e.db ≥ 0 then e.db.toNat else cur) = cur'
    generalize run st (applyReqs t sel) [e] = r1
    by_cases h1 : r1.out = .ok
    · simp only [h1, if_true, ih]
      generalize runWG run cur' r1.st r1.tgt a = w
      unfold wResume
      by_cases h2 : w.1.out = .ok
      · simp [h2]
      · simp [h2]
    · simp [h1, wResume]

theorem Run.eta (r : Run) : ({ reqs := r.reqs, out := r.out, st := r.st, tgt := r.tgt } : Run) = r := rfl

/-- entries of the DB the connection is in: no SELECT, the worker loop is the runner -/
theorem runWG_sameDb {run : RState → Target → List Entry → Run} (hnil : ∀ st t, run st t [] = { st := st, tgt := t })
    (hsplit : ∀ a b st t, run st t (a ++ b) = (run st t a).resume (fun st' t' => run st' t' b)) (d : Nat) :
    ∀ (es : List Entry) (st : RState) (t : Target), (∀ e ∈ es, e.db = Int.ofNat d) →
      runWG run d st t es = (run st t es, d)
  | [], st, t, _ => by simp [runWG, hnil]
  | e :: es, st, t, h => by
    have he : e.db = Int.ofNat d := h e (List.mem_cons_self ..)
    have hsel : (if e.db ≥ 0 ∧ e.db.toNat ≠ d then [Req.select e.db.toNat] else []) = [] := by rw [he]; simp
    have hcur : (if e.db ≥ 0 then e.db.toNat else d) = d := by rw [he]; simp
    have ih := fun st' t' => runWG_sameDb hnil hsplit d es st' t' (fun x hx => h x (List.mem_cons_of_mem _ hx))
    have hs := hsplit [e] es st t
    simp only [List.singleton_append] at hs
    simp only [runWG, hsel, hcur, applyReqs, List.foldl_nil, List.nil_append, ih, hs, Run.resume]
    split <;> rfl

theorem applyReqs_select (t : Target) (p : Prop) [Decidable p] (d : Nat) :
    applyReqs t (if p ∧ d ≠ t.cur then [Req.select d] else []) = { t with cur := if p then d else t.cur } := by
  by_cases hp : p
  · by_cases hd : d = t.cur
    · simp only [hp, hd, ne_eq, not_true_eq_false, and_false, if_false, if_true]; rfl
    · simp only [hp, hd, ne_eq, not_false_eq_true, and_self, if_true]; rfl
  · simp only [hp, false_and, if_false]; rfl

/-- the chunks of one key, all of DB `d`, met by a connection that is in DB `c`:
    SELECT if `d ≠ c`, then the runner on the group -/
theorem Runner.runWG_group {run : RState → Target → List Entry → Run} {eff : Target → KGroup → Eff} {good : KGroup → Prop}
    (R : Runner run eff good) (c d : Nat) (st : RState) (t : Target) (e0 : Entry) (rest : List Entry) (hc : t.cur = c)
    (h : ∀ e ∈ e0 :: rest, e.db = Int.ofNat d) :
    runWG run c st t (e0 :: rest) =
      ({ run st (t.inDb d) (e0 :: rest) with
          reqs := (if d ≠ c then [Req.select d] else []) ++ (run st (t.inDb d) (e0 :: rest)).reqs }, d) := by
  have he : e0.db = Int.ofNat d := h e0 (List.mem_cons_self ..)
  have hsel : (if e0.db ≥ 0 ∧ e0.db.toNat ≠ c then [Req.select e0.db.toNat] else [])
      = (if d ≠ c then [Req.select d] else []) := by rw [he]; simp
  have hcur : (if e0.db ≥ 0 then e0.db.toNat else c) = d := by rw [he]; simp
  have ht : applyReqs t (if d ≠ c then [Req.select d] else []) = t.inDb d := by
    rw [← hsel]; subst hc; rw [applyReqs_select, hcur]; rfl
  have hrest := fun st' t' => runWG_sameDb R.nil R.split d rest st' t' (fun x hx => h x (List.mem_cons_of_mem _ hx))
  have hs := R.split [e0] rest st (t.inDb d)
  simp only [List.singleton_append] at hs
  simp only [runWG, hsel, ht, hcur, hrest, hs, Run.resume]
  generalize (if d ≠ c then [Req.select d] else []) = sel
  generalize run st (t.inDb d) [e0] = r1
  by_cases h1 : r1.out = .ok <;> simp [h1, List.append_assoc]

/-! the whole snapshot over several DBs: a key is a cell (db, key) -/

def KGroup.dbn (g : KGroup) : Nat := g.1.db.toNat
def KGroup.cell (g : KGroup) : Nat × Bytes := (g.dbn, g.key)
/-- all chunks of the key carry the key's (non-negative) DB -/
def KGroup.oneDb (g : KGroup) : Prop := ∀ e ∈ g.entries, e.db = Int.ofNat g.dbn

theorem Runner.seqD_spec {run : RState → Target → List Entry → Run} {eff : Target → KGroup → Eff} {good : KGroup → Prop}
    (R : Runner run eff good) :
    ∀ (gs : List KGroup) (c : Nat) (st : RState) (t ts : Target), t.cur = c → t.ks = ts.ks → t.now = ts.now →
      t.bad = ts.bad → (∀ g ∈ gs, good g ∧ g.oneDb) →
      (runWG run c st t (flat gs)).1.out = (seqD KGroup.dbn eff ts gs).1 ∧
      (runWG run c st t (flat gs)).1.tgt.ks = (seqD KGroup.dbn eff ts gs).2
  | [], c, st, t, ts, _, hks, _, _, _ => by simp [flat, runWG, seqD, hks]
  | g :: gs, c, st, t, ts, hc, hks, hnow, hbad, hgood => by
    have ih := fun c' st' t' ts' => Runner.seqD_spec R gs c' st' t' ts'
    have hgs : ∀ x ∈ gs, good x ∧ x.oneDb := fun x hx => hgood x (List.mem_cons_of_mem _ hx)
    have hent : g.entries = g.1 :: g.2 := rfl
    rw [flat_cons, runWG_split, hent, R.runWG_group c g.dbn st t g.1 g.2 hc (hgood g (List.mem_cons_self ..)).2]
    obtain ⟨icur, inow, ibad, hgr⟩ := R.group_spec st (t.inDb g.dbn) ts g (hgood g (List.mem_cons_self ..)).1
      (d := g.dbn) rfl hks hnow hbad
    rw [hent] at icur inow ibad hgr
    generalize run st (t.inDb g.dbn) (g.1 :: g.2) = r1 at icur inow ibad hgr ⊢
    simp only [seqD]
    cases he : eff (ts.inDb g.dbn) g with
    | stop out => rw [he] at hgr; simp only [wResume, hgr.1, hgr.2.1, if_false]; exact ⟨trivial, hgr.2.2⟩
    | keep => rw [he] at hgr; simp only [wResume, hgr.1, if_true]; exact ih _ _ _ ts icur hgr.2 inow ibad hgs
    | set o =>
      rw [he] at hgr; simp only [wResume, hgr.1, if_true]
      exact ih _ _ _ { ts with ks := ts.ks.set g.dbn g.key (some o) } icur hgr.2 inow ibad hgs

theorem Runner.wholeW {run : RState → Target → List Entry → Run} {eff : Target → KGroup → Eff} {good : KGroup → Prop}
    (R : Runner run eff good) (gs : List KGroup) (c : Nat) (st : RState) (t : Target) (hc : t.cur = c)
    (hgood : ∀ g ∈ gs, good g ∧ g.oneDb) (hnd : (gs.map KGroup.cell).Nodup) :
      (∀ d k, (d, k) ∉ gs.map KGroup.cell → (runWG run c st t (flat gs)).1.tgt.ks d k = t.ks d k) ∧
      ((∀ g ∈ gs, (eff (t.inDb g.dbn) g).isStop = false) →
        (runWG run c st t (flat gs)).1.out = .ok ∧
        ∀ g ∈ gs, (runWG run c st t (flat gs)).1.tgt.ks g.dbn g.key
          = (eff (t.inDb g.dbn) g).result (t.ks g.dbn g.key)) ∧
      (∀ pre g post out, gs = pre ++ g :: post → (∀ p ∈ pre, (eff (t.inDb p.dbn) p).isStop = false) →
        eff (t.inDb g.dbn) g = .stop out →
        (runWG run c st t (flat gs)).1.out = out ∧
        (∀ p ∈ pre, (runWG run c st t (flat gs)).1.tgt.ks p.dbn p.key
          = (eff (t.inDb p.dbn) p).result (t.ks p.dbn p.key)) ∧
        (∀ d k, (d, k) ∉ pre.map KGroup.cell → (runWG run c st t (flat gs)).1.tgt.ks d k = t.ks d k)) := by
  obtain ⟨e1, e2⟩ := R.seqD_spec gs c st t t hc rfl rfl rfl hgood
  have hd : Distinct KGroup.dbn gs :=
    (List.pairwise_map.mp hnd).imp fun h hh => h (Prod.ext hh.1.symm hh.2.symm)
  have hmem : ∀ {l : List KGroup} {d k}, (d, k) ∉ l.map KGroup.cell → ∀ g ∈ l, ¬ (d = g.dbn ∧ k = g.key) :=
    fun h g hg hh => h (List.mem_map.mpr ⟨g, hg, Prod.ext hh.1.symm hh.2.symm⟩)
  obtain ⟨w1, w2, w3⟩ := seqD_whole R.loc gs t hd
  simp only [e1, e2]
  exact ⟨fun d k h => w1 d k (hmem h), w2, fun pre g post out hs hp hg =>
    have ⟨a, b, c⟩ := w3 pre g post out hs hp hg
    ⟨a, b, fun d k h => c d k (hmem h)⟩⟩

/-! `runWorker` (the function the correspondence harness compares the real worker loops with) is `runWG` -/

def lastOut : List (List Req × Outcome) → Outcome
  | [] => .ok
  | [l] => l.2
  | _ :: rest => lastOut rest

theorem workerTarget_cons (t : Target) (l : List Req × Outcome) (ls : List (List Req × Outcome)) :
    workerTarget t (l :: ls) = workerTarget (applyReqs t l.1) ls := rfl

def stepOf (b : Bool) (pol : Policy) (cfg : Cfg) : RState → Target → Entry → Run :=
  if b then bisyncStep pol cfg else plainStep pol cfg

theorem stepOf_ok : ∀ (b : Bool) (pol : Policy) (cfg : Cfg), StepOK (stepOf b pol cfg)
  | true => bisyncStep_ok
  | false => plainStep_ok

theorem stepOf_out : ∀ (b : Bool) (pol : Policy) (cfg : Cfg) (st : RState) (t : Target) (e : Entry),
    (stepOf b pol cfg st t e).out = .ok ∨ pol = .error ∨ e.otype = .module ∨
      (b = true ∧ keyless e = false ∧ useRestore cfg e = true ∧ (viewOf t e).badData = true)
  | false, pol, cfg, st, t, e => (replay_out pol cfg st (viewOf t e) e).imp_right (Or.imp_right Or.inl)
  | true, pol, cfg, st, t, e =>
    (buildUnit_out pol cfg st (viewOf t e) e).imp_right (Or.imp_right (Or.imp_right fun h => ⟨rfl, h⟩))

theorem runWorker_cons (b : Bool) (pol : Policy) (cfg : Cfg) (cur : Nat) (st : RState) (t : Target) (e : Entry)
    (rest : List Entry) :
    runWorker b pol cfg cur st t (e :: rest) =
      let sel : List Req := if e.db ≥ 0 ∧ e.db.toNat ≠ cur then [Req.select e.db.toNat] else []
      let r := stepOf b pol cfg st (applyReqs t sel) e
      match r.out with
      | .ok => (sel ++ r.reqs, .ok) :: runWorker b pol cfg (if e.db ≥ 0 then e.db.toNat else cur) r.st r.tgt rest
      | o => [(sel ++ r.reqs, o)] := by
  cases b <;> rfl

theorem runOf_single (step : RState → Target → Entry → Run) (st : RState) (t : Target) (e : Entry) :
    runOf step st t [e] = step st t e := by
  simp only [runOf, Run.resume]
  generalize step st t e = r
  cases r with
  | mk reqs out st' tgt => by_cases h : out = .ok <;> simp [h]

theorem runWorker_is_runWG (b : Bool) (pol : Policy) (cfg : Cfg) :
    ∀ (es : List Entry) (cur : Nat) (st : RState) (t : Target),
      (runWorker b pol cfg cur st t es).flatMap (·.1) = (runWG (runOf (stepOf b pol cfg)) cur st t es).1.reqs ∧
      workerTarget t (runWorker b pol cfg cur st t es) = (runWG (runOf (stepOf b pol cfg)) cur st t es).1.tgt ∧
      lastOut (runWorker b pol cfg cur st t es) = (runWG (runOf (stepOf b pol cfg)) cur st t es).1.out
  | [], cur, st, t => ⟨rfl, rfl, rfl⟩
  | e :: rest, cur, st, t => by
    simp only [runWorker_cons, runWG, runOf_single]
    generalize (if e.db ≥ 0 ∧ e.db.toNat ≠ cur then [Req.select e.db.toNat] else []) = sel
    have htgt := (stepOf_ok b pol cfg).tgt st (applyReqs t sel) e
    generalize stepOf b pol cfg st (applyReqs t sel) e = r at htgt
    have ih := runWorker_is_runWG b pol cfg rest (if e.db ≥ 0 then e.db.toNat else cur) r.st r.tgt
    cases hr : r.out with
    | ok =>
      simp only [if_true, List.flatMap_cons, workerTarget_cons, ih, List.append_assoc, true_and]
      rw [applyReqs_append, ← htgt]
      refine ⟨ih.2.1, ?_⟩
      cases hrw : runWorker b pol cfg (if e.db ≥ 0 then e.db.toNat else cur) r.st r.tgt rest with
      | nil => rw [hrw] at ih; simp [lastOut, ← ih.2.2]
      | cons l ls => rw [hrw] at ih; simp [lastOut, ← ih.2.2]
    | errExists => simp [workerTarget, applyReqs_append, lastOut, htgt]
    | errModule => simp [workerTarget, applyReqs_append, lastOut, htgt]
    | errBad => simp [workerTarget, applyReqs_append, lastOut, htgt]

theorem runWorker_is_runWG_plain (pol : Policy) (cfg : Cfg) :
    ∀ (es : List Entry) (cur : Nat) (st : RState) (t : Target),
      (runWorker false pol cfg cur st t es).flatMap (·.1) = (runWG (runPlain pol cfg) cur st t es).1.reqs ∧
      workerTarget t (runWorker false pol cfg cur st t es) = (runWG (runPlain pol cfg) cur st t es).1.tgt ∧
      lastOut (runWorker false pol cfg cur st t es) = (runWG (runPlain pol cfg) cur st t es).1.out := by
  rw [show runPlain pol cfg = runOf (plainStep pol cfg) from funext fun st => funext fun t => funext fun es => runPlain_eq pol cfg es st t]
  exact runWorker_is_runWG false pol cfg

theorem runWorker_is_runWG_bisync (pol : Policy) (cfg : Cfg) :
    ∀ (es : List Entry) (cur : Nat) (st : RState) (t : Target),
      (runWorker true pol cfg cur st t es).flatMap (·.1) = (runWG (runBisync pol cfg) cur st t es).1.reqs ∧
      workerTarget t (runWorker true pol cfg cur st t es) = (runWG (runBisync pol cfg) cur st t es).1.tgt ∧
      lastOut (runWorker true pol cfg cur st t es) = (runWG (runBisync pol cfg) cur st t es).1.out := by
  rw [show runBisync pol cfg = runOf (bisyncStep pol cfg) from funext fun st => funext fun t => funext fun es => runBisync_eq pol cfg es st t]
  exact runWorker_is_runWG true pol cfg

/-! ### keyless entries (functions, AUX fields) are transparent

  A real worker stream has AUX entries (`redis-ver`, …) and function libraries
  between the key groups. Both replayers send their commands as they are and
  touch neither the keyspace nor the remembered state, so outcome, state and
  target of a run are those of the run over the KEYED entries alone. -/

theorem applyReqs_id (t : Target) (rs : List Req) (h : ∀ r ∈ rs, reqKey r = none ∧ noSel r) : applyReqs t rs = t := by
  induction rs generalizing t with
  | nil => rfl
  | cons r rs ih =>
    have hr := h r (List.mem_cons_self ..)
    rw [applyReqs_cons, applyReq_eq t r hr.2, hr.1]
    exact ih t (fun x hx => h x (List.mem_cons_of_mem _ hx))

def Transparent (step : RState → Target → Entry → Run) : Prop :=
  ∀ st t e, keyless e = true → (step st t e).out = .ok ∧ (step st t e).st = st ∧ (step st t e).tgt = t

theorem stepOf_keyless (b : Bool) (pol : Policy) (cfg : Cfg) (st : RState) (t : Target) (e : Entry) (h : keyless e = true) :
    (stepOf b pol cfg st t e).out = .ok ∧ (stepOf b pol cfg st t e).st = st ∧
    ∀ r ∈ (stepOf b pol cfg st t e).reqs, reqKey r = none := by
  cases b
  · show (replay pol cfg st (viewOf t e) e).2.1 = .ok ∧ (replay pol cfg st (viewOf t e) e).2.2 = st ∧
      ∀ r ∈ (replay pol cfg st (viewOf t e) e).1, reqKey r = none
    rw [replay_keyless pol cfg st _ e h]
    exact ⟨rfl, rfl, List.forall_mem_map.2 fun _ _ => rfl⟩
  · show bOut (buildUnit pol cfg st (viewOf t e) e).2.2.1 = .ok ∧ (buildUnit pol cfg st (viewOf t e) e).2.2.2 = st ∧
      ∀ r ∈ unitReqs (buildUnit pol cfg st (viewOf t e) e), reqKey r = none
    rw [buildUnit_keyless pol cfg st _ e h]
    refine ⟨by dsimp only; split <;> rfl, rfl, List.forall_mem_append.2 ⟨List.forall_mem_nil _, ?_⟩⟩
    refine ite_elim (P := (∀ r ∈ ·, reqKey r = none)) (fun _ => ?_) fun _ => List.forall_mem_nil _
    exact forall_mem_execUnit.2 ⟨rfl, rfl, List.forall_mem_map.2 fun _ _ => rfl, rfl⟩

theorem stepOf_transparent (b : Bool) (pol : Policy) (cfg : Cfg) : Transparent (stepOf b pol cfg) := fun st t e h =>
  have ⟨h1, h2, h3⟩ := stepOf_keyless b pol cfg st t e h
  ⟨h1, h2, by
    rw [(stepOf_ok b pol cfg).tgt]
    exact applyReqs_id t _ fun r hr => ⟨h3 r hr, ((stepOf_ok b pol cfg).reqs st t e r hr).noSel⟩⟩

theorem stepOf_view (b : Bool) (pol : Policy) (cfg : Cfg) (st : RState) (t1 t2 : Target) (e : Entry)
    (h : keyless e = false → viewOf t1 e = viewOf t2 e) :
    (stepOf b pol cfg st t1 e).reqs = (stepOf b pol cfg st t2 e).reqs ∧
    (stepOf b pol cfg st t1 e).out = (stepOf b pol cfg st t2 e).out ∧
    (stepOf b pol cfg st t1 e).st = (stepOf b pol cfg st t2 e).st := by
  cases hk : keyless e with
  | false => cases b <;> simp only [stepOf, plainStep, bisyncStep, h hk, Bool.false_eq_true, if_false, if_true, and_self]
  | true =>
    cases b
    · simp only [stepOf, plainStep, replay_keyless pol cfg st _ e hk, Bool.false_eq_true, if_false, and_self]
    · simp only [stepOf, bisyncStep, buildUnit_keyless pol cfg st _ e hk, if_true, and_self]

theorem runOf_keyless {step : RState → Target → Entry → Run} (h : Transparent step) (st : RState) (t : Target) (e : Entry)
    (rest : List Entry) (hk : keyless e = true) :
    (runOf step st t (e :: rest)).out = (runOf step st t rest).out ∧
    (runOf step st t (e :: rest)).st = (runOf step st t rest).st ∧
    (runOf step st t (e :: rest)).tgt = (runOf step st t rest).tgt := by
  obtain ⟨h1, h2, h3⟩ := h st t e hk
  simp only [runOf, Run.resume, h1, h2, h3, if_true, and_self]

theorem runOf_strip {step : RState → Target → Entry → Run} (h : Transparent step) :
    ∀ (es : List Entry) (st : RState) (t : Target),
      (runOf step st t es).out = (runOf step st t (es.filter (fun e => !keyless e))).out ∧
      (runOf step st t es).st = (runOf step st t (es.filter (fun e => !keyless e))).st ∧
      (runOf step st t es).tgt = (runOf step st t (es.filter (fun e => !keyless e))).tgt
  | [], _, _ => ⟨rfl, rfl, rfl⟩
  | e :: es, st, t => by
    cases hk : keyless e with
    | true =>
      obtain ⟨h1, h2, h3⟩ := runOf_keyless h st t e es hk
      simp only [List.filter_cons, hk, Bool.not_true, Bool.false_eq_true, if_false, h1, h2, h3]
      exact runOf_strip h es st t
    | false =>
      simp only [List.filter_cons, hk, Bool.not_false, if_true, runOf, Run.resume]
      split
      · exact runOf_strip h es _ _
      · exact ⟨rfl, rfl, rfl⟩

theorem runPlain_keyless (pol : Policy) (cfg : Cfg) (st : RState) (t : Target) (e : Entry) (rest : List Entry)
    (h : keyless e = true) :
    (runPlain pol cfg st t (e :: rest)).out = (runPlain pol cfg st t rest).out ∧
    (runPlain pol cfg st t (e :: rest)).st = (runPlain pol cfg st t rest).st ∧
    (runPlain pol cfg st t (e :: rest)).tgt = (runPlain pol cfg st t rest).tgt := by
  simp only [runPlain_eq]; exact runOf_keyless (stepOf_transparent false pol cfg) st t e rest h

theorem runBisync_keyless (pol : Policy) (cfg : Cfg) (st : RState) (t : Target) (e : Entry) (rest : List Entry)
    (h : keyless e = true) :
    (runBisync pol cfg st t (e :: rest)).out = (runBisync pol cfg st t rest).out ∧
    (runBisync pol cfg st t (e :: rest)).st = (runBisync pol cfg st t rest).st ∧
    (runBisync pol cfg st t (e :: rest)).tgt = (runBisync pol cfg st t rest).tgt := by
  simp only [runBisync_eq]; exact runOf_keyless (stepOf_transparent true pol cfg) st t e rest h

theorem runPlain_strip (pol : Policy) (cfg : Cfg) (es : List Entry) (st : RState) (t : Target) :
    (runPlain pol cfg st t es).out = (runPlain pol cfg st t (es.filter (fun e => !keyless e))).out ∧
    (runPlain pol cfg st t es).st = (runPlain pol cfg st t (es.filter (fun e => !keyless e))).st ∧
    (runPlain pol cfg st t es).tgt = (runPlain pol cfg st t (es.filter (fun e => !keyless e))).tgt := by
  simp only [runPlain_eq]; exact runOf_strip (stepOf_transparent false pol cfg) es st t

theorem runBisync_strip (pol : Policy) (cfg : Cfg) (es : List Entry) (st : RState) (t : Target) :
    (runBisync pol cfg st t es).out = (runBisync pol cfg st t (es.filter (fun e => !keyless e))).out ∧
    (runBisync pol cfg st t es).st = (runBisync pol cfg st t (es.filter (fun e => !keyless e))).st ∧
    (runBisync pol cfg st t es).tgt = (runBisync pol cfg st t (es.filter (fun e => !keyless e))).tgt := by
  simp only [runBisync_eq]; exact runOf_strip (stepOf_transparent true pol cfg) es st t

theorem target_ext (a b : Target) (h1 : a.cur = b.cur) (h2 : a.now = b.now) (h3 : a.ks = b.ks) (h4 : a.bad = b.bad) : a = b := by
  cases a; cases b; simp_all

/-- the same for the worker loop with DB selection: the keyless entries may move the
    connection to another DB (AUX entries carry the DB of their place in the file),
    the next keyed entry selects its own DB anyway: outcome, state and KEYSPACE are
    those of the worker over the keyed entries alone -/
theorem runWG_strip (run : RState → Target → List Entry → Run)
    (hkl : ∀ st t e, keyless e = true → (run st t [e]).out = .ok ∧ (run st t [e]).st = st ∧ (run st t [e]).tgt = t)
    (hinv : ∀ st t e, (run st t [e]).tgt.cur = t.cur) :
    ∀ (es : List Entry) (c1 c2 : Nat) (st : RState) (t1 t2 : Target),
      t1.cur = c1 → t2.cur = c2 → t1.ks = t2.ks → t1.now = t2.now → t1.bad = t2.bad →
      (∀ e ∈ es, keyless e = false → ∃ d : Nat, e.db = Int.ofNat d) →
      (runWG run c1 st t1 es).1.out = (runWG run c2 st t2 (es.filter (fun e => !keyless e))).1.out ∧
      (runWG run c1 st t1 es).1.st = (runWG run c2 st t2 (es.filter (fun e => !keyless e))).1.st ∧
      (runWG run c1 st t1 es).1.tgt.ks = (runWG run c2 st t2 (es.filter (fun e => !keyless e))).1.tgt.ks
  | [], c1, c2, st, t1, t2, _, _, h3, _, _, _ => by simp [runWG, h3]
  | e :: es, c1, c2, st, t1, t2, h1, h2, h3, h4, h5, hdb => by
    have hdb' : ∀ x ∈ es, keyless x = false → ∃ d : Nat, x.db = Int.ofNat d := fun x hx => hdb x (List.mem_cons_of_mem _ hx)
    cases hk : keyless e with
    | true =>
      simp only [List.filter_cons, hk, Bool.not_true, Bool.false_eq_true, if_false]
      simp only [runWG]
      subst h1
      rw [applyReqs_select]
      obtain ⟨k1, k2, k3⟩ := hkl st { t1 with cur := if e.db ≥ 0 then e.db.toNat else t1.cur } e hk
      simp only [k1, if_true, k2, k3]
      exact runWG_strip run hkl hinv es _ c2 st _ t2 rfl h2 h3 h4 h5 hdb'
    | false =>
      obtain ⟨d, hd⟩ := hdb e (List.mem_cons_self ..) hk
      have hge : e.db ≥ 0 := by rw [hd]; exact Int.natCast_nonneg d
      subst h1 h2
      simp only [List.filter_cons, hk, Bool.not_false, if_true, runWG, applyReqs_select, hge]
      have heq : ({ t1 with cur := e.db.toNat } : Target) = { t2 with cur := e.db.toNat } := target_ext _ _ rfl h4 h3 h5
      rw [heq]
      generalize hr : run st { t2 with cur := e.db.toNat } [e] = r1
      have hcur : r1.tgt.cur = e.db.toNat := by rw [← hr, hinv]
      by_cases ho : r1.out = .ok
      · simp only [ho, if_true]
        exact runWG_strip run hkl hinv es _ _ r1.st r1.tgt r1.tgt hcur hcur rfl rfl rfl hdb'
      · simp [ho]

end GunYu.Restore
