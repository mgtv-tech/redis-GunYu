/-
  Helper lemmas for C10, the byte-indexed trie (pkg/filter/trie.go model).
-/
import GunYu.Model.Filter

namespace GunYu.Filter
open GunYu

namespace Trie

theorem search_empty (w : Bytes) : empty.search w = false := by
  cases w <;> simp [empty, search]

theorem search_nil (t : Trie) : t.search [] = t.isEnd := by
  cases t; simp [search, isEnd]

theorem search_insert (t : Trie) (w w' : Bytes) :
    (t.insert w).search w' = true ↔ w' = w ∨ t.search w' = true := by
  fun_induction insert t w generalizing w'
  case case1 e ch => cases w' <;> simp [search]
  case case2 e ch b w ih =>
    cases w' with
    | nil => simp [search]
    | cons c w2 =>
      simp only [search]
      by_cases hcb : c = b
      · subst hcb
        simp only [if_true, List.cons.injEq, true_and]
        rw [ih]
        cases hch : ch c <;> simp [search_empty]
      · simp only [hcb, if_false, List.cons.injEq, false_and, false_or]

theorem search_foldl_insert (ws : List Bytes) (t : Trie) (w : Bytes) :
    (ws.foldl (fun t k => t.insert k) t).search w = true ↔ w ∈ ws ∨ t.search w = true := by
  induction ws generalizing t with
  | nil => simp
  | cons x rest ih =>
    simp only [List.foldl_cons, ih, search_insert, List.mem_cons, or_assoc, or_left_comm]

theorem isPrefixMatch_iff (t : Trie) (k : Bytes) :
    t.isPrefixMatch k = true ↔ ∃ p, p ≠ [] ∧ t.search p = true ∧ p <+: k := by
  fun_induction isPrefixMatch t k
  case case1 =>
    exact ⟨nofun, fun ⟨p, h1, _, h3⟩ => absurd (List.prefix_nil.mp h3) h1⟩
  case case2 e ch b w hch =>
    refine ⟨nofun, fun ⟨p, h1, h2, h3⟩ => ?_⟩
    cases p with
    | nil => exact absurd rfl h1
    | cons c p1 =>
      obtain ⟨rfl, _⟩ := List.cons_prefix_cons.mp h3
      simp [search, hch] at h2
  case case3 e ch b w n hch hend =>
    exact ⟨fun _ => ⟨[b], by simp, by simp [search, hch, search_nil, hend],
      List.cons_prefix_cons.mpr ⟨rfl, List.nil_prefix⟩⟩, fun _ => rfl⟩
  case case4 e ch b w n hch hend ih =>
    rw [ih]
    constructor
    · rintro ⟨p1, h1, h2, h3⟩
      exact ⟨b :: p1, by simp, by simp [search, hch, h2], List.cons_prefix_cons.mpr ⟨rfl, h3⟩⟩
    · rintro ⟨p, h1, h2, h3⟩
      cases p with
      | nil => exact absurd rfl h1
      | cons c p1 =>
        obtain ⟨rfl, hp⟩ := List.cons_prefix_cons.mp h3
        simp only [search, hch] at h2
        refine ⟨p1, fun hnil => ?_, h2, hp⟩
        subst hnil
        rw [search_nil] at h2
        exact hend h2

end Trie

/-! ### optional tries (nil = not configured) -/

def optSearch (o : Option Trie) (w : Bytes) : Bool :=
  match o with
  | some t => t.search w
  | none => false

def optMatch (o : Option Trie) (k : Bytes) : Bool :=
  match o with
  | some t => t.isPrefixMatch k
  | none => false

theorem optMatch_iff (o : Option Trie) (k : Bytes) :
    optMatch o k = true ↔ ∃ p, p ≠ [] ∧ optSearch o p = true ∧ p <+: k := by
  cases o with
  | none => simp [optMatch, optSearch]
  | some t => simp only [optMatch, optSearch]; exact Trie.isPrefixMatch_iff t k

theorem optSearch_insertPrefixes (o : Option Trie) (ks : List Bytes) (w : Bytes) :
    optSearch (insertPrefixes o ks) w = true ↔ w ∈ ks ∨ optSearch o w = true := by
  cases ks with
  | nil => simp [insertPrefixes]
  | cons k ks =>
    simp only [insertPrefixes, List.isEmpty_cons, Bool.false_eq_true, if_false, optSearch, Trie.search_foldl_insert]
    cases o <;> simp [Trie.search_empty]

theorem isSome_insertPrefixes (o : Option Trie) (ks : List Bytes) :
    (insertPrefixes o ks).isSome = true ↔ ks ≠ [] ∨ o.isSome = true := by
  cases ks <;> simp [insertPrefixes]

theorem search_foldl_cmds (cmds : List Bytes) (t : Trie) (w : Bytes) :
    (cmds.foldl (fun t c => (t.insert (lower c)).insert (upper c)) t).search w = true ↔
      (∃ c ∈ cmds, w = lower c ∨ w = upper c) ∨ t.search w = true := by
  induction cmds generalizing t with
  | nil => simp
  | cons x rest ih =>
    simp only [List.foldl_cons, ih, Trie.search_insert, List.mem_cons, exists_eq_or_imp, or_assoc, or_left_comm,
      or_comm]

theorem optSearch_insertCmds (o : Option Trie) (cmds : List Bytes) (w : Bytes) :
    optSearch (insertCmds o cmds true) w = true ↔
      (∃ c ∈ cmds, w = lower c ∨ w = upper c) ∨ optSearch o w = true := by
  cases cmds with
  | nil => simp [insertCmds]
  | cons c cmds =>
    simp only [insertCmds, List.isEmpty_cons, Bool.false_eq_true, if_false, optSearch, if_true, search_foldl_cmds]
    cases o <;> simp [Trie.search_empty]

theorem isSome_insertCmds (o : Option Trie) (cmds : List Bytes) (ci : Bool) :
    (insertCmds o cmds ci).isSome = true ↔ cmds ≠ [] ∨ o.isSome = true := by
  cases cmds <;> simp [insertCmds]

end GunYu.Filter
