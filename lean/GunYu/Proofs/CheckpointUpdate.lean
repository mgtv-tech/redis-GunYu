/-
  Lemmas for C17: UpdateCheckpoint — what its HSET (SetCheckpoint) does to the hash of the database holding the
  position (`setCheckpoint_facts`), the request list phase by phase, and the two kinds of state a cut can
  leave (`crash_class`). Core only.
-/
import GunYu.Proofs.CheckpointOps

namespace GunYu.Checkpoint
open GunYu

theorem unsignedDec_le {ds : Bytes} {l n : Nat} (h : Resp.unsignedDec ds l = some n) : n ≤ l := by
  unfold Resp.unsignedDec at h
  split at h
  · split at h
    · cases h; omega
    · cases h
  · cases h

/-- the values `strconv.ParseInt(_, 10, 64)` accepts and `FormatInt` prints back (spelt out, `2^63` is slow
    to elaborate in every statement) -/
def InInt64 (x : Int) : Prop := -(2^63 : Int) ≤ x ∧ x < 2^63

theorem parseInt64_range {b : Bytes} {v : Int} (h : Resp.parseInt64 b = some v) :
    InInt64 v := by
  unfold InInt64
  unfold Resp.parseInt64 at h
  split at h
  · cases h
  · split at h
    · obtain ⟨n, hn, rfl⟩ := Option.map_eq_some_iff.mp h
      have := unsignedDec_le hn; simp only [Int.ofNat_eq_natCast]; omega
    · split at h
      · obtain ⟨n, hn, rfl⟩ := Option.map_eq_some_iff.mp h
        have := unsignedDec_le hn; simp only [Int.ofNat_eq_natCast]; omega
      · obtain ⟨n, hn, rfl⟩ := Option.map_eq_some_iff.mp h
        have := unsignedDec_le hn; simp only [Int.ofNat_eq_natCast]; omega

theorem offOf_range (ids : List Bytes) (fs : Cp) :
    -(2^63 : Int) ≤ offOf ids fs ∧ offOf ids fs < 2^63 :=
  foldl_sel_inv (fun o e => (Resp.parseInt64 e.val).getD o) (offSel ids)
    InInt64 fs (-1) ⟨by decide, by decide⟩
    (fun y _ _ o ho => by
      cases hv : Resp.parseInt64 y.val with
      | none => exact ho
      | some v => exact parseInt64_range hv)

/-- the fields written before the `_offset` field -/
def cpPre (c : CpInfo) (id1 : Bytes) (now : Int) : List Entry :=
  [⟨id1, .mtime, intToDec now⟩, ⟨id1, .runid, id1⟩] ++
    (if c.version ≠ [] then [⟨id1, .version, c.version⟩] else [])

def cpOff (c : CpInfo) (id1 : Bytes) : Entry := ⟨id1, .offset, intToDec c.offset⟩
def cpRid (id1 : Bytes) : Entry := ⟨id1, .runid, id1⟩

/-- the hash after `SetCheckpoint` wrote `c` re-keyed to `id1` into it -/
def written (fs : Cp) (c : CpInfo) (id1 : Bytes) (now : Int) : Cp :=
  hsetOne (hsetMany fs (cpPre c id1 now)) (cpOff c id1)

theorem hsetMany_cpEntries (fs : Cp) (c : CpInfo) (id1 : Bytes) (now : Int) (h1 : id1 ≠ []) :
    hsetMany fs (cpEntries { c with runId := id1 } now) = written fs c id1 now := by
  have : cpEntries { c with runId := id1 } now = cpPre c id1 now ++ [cpOff c id1] := by
    simp [cpEntries, cpPre, cpOff, h1]
  rw [this, hsetMany_append]; rfl

theorem setCheckpoint_cps (t : Target) (d : Nat) (loc : Bytes) (c : CpInfo) {id1 : Bytes} (now : Int)
    (h1 : id1 ≠ []) (db : Nat) (nm : Bytes) :
    (applyReq t (.hsetCp d loc (cpEntries { c with runId := id1 } now))).cps db nm =
      if db = d ∧ nm = loc then written (t.cps d loc) c id1 now else t.cps db nm := by
  rw [applyReq_hsetCp_cps, hsetMany_cpEntries _ _ _ _ h1]

theorem mem_cpPre {c : CpInfo} {id1 : Bytes} {now : Int} {e : Entry} (h : e ∈ cpPre c id1 now) :
    e.rid = id1 ∧ e.kind ≠ .offset ∧ (e.kind = .runid → e = cpRid id1) ∧
      (e.kind = .mtime → e.val = intToDec now) := by
  unfold cpPre at h
  rcases List.mem_append.mp h with h | h
  · rcases List.mem_cons.mp h with rfl | h
    · simp
    · rw [List.mem_singleton.mp h]; simp [cpRid]
  · split at h
    · rw [List.mem_singleton.mp h]; simp
    · cases h

theorem cpRid_mem_cpPre (c : CpInfo) (id1 : Bytes) (now : Int) : cpRid id1 ∈ cpPre c id1 now := by
  simp [cpPre, cpRid]

theorem mem_written {fs : Cp} {c : CpInfo} {id1 : Bytes} {now : Int} {x : Entry}
    (h : x ∈ written fs c id1 now) : x = cpOff c id1 ∨ x ∈ cpPre c id1 now ∨ x ∈ fs :=
  (mem_hsetOne h).imp_right mem_hsetMany

theorem cpRid_mem_written (fs : Cp) (c : CpInfo) (id1 : Bytes) (now : Int) :
    cpRid id1 ∈ written fs c id1 now := by
  refine mem_hsetOne_of_ne ?_ (by simp [cpRid, cpOff, Entry.key])
  unfold cpPre
  rw [hsetMany_append]
  refine mem_hsetMany_keep (mem_hsetOne_self _ _) fun e he => ?_
  split at he
  · rw [List.mem_singleton.mp he]; simp [cpRid, Entry.key]
  · cases he

structure WArgs (c : CpInfo) (id1 : Bytes) (now : Int) (X : Int) : Prop where
  h1 : id1 ≠ []
  h1q : id1 ≠ qmark
  hX : c.offset = X
  hXr : InInt64 X
  hnow : InInt64 now

theorem cpOff_parse {c : CpInfo} {id1 : Bytes} {now X : Int} (w : WArgs c id1 now X) :
    Resp.parseInt64 (cpOff c id1).val = some X := by
  simp only [cpOff, w.hX]; exact Resp.parseInt64_intToDec X w.hXr.1 w.hXr.2

theorem pre_parses {ids : List Bytes} {fs : Cp} {c : CpInfo} {id1 : Bytes} {now X : Int}
    (w : WArgs c id1 now X) (hp : Parses ids fs) : Parses ids (hsetMany fs (cpPre c id1 now)) := by
  intro e he hm hk
  rcases mem_hsetMany he with he | he
  · obtain ⟨_, hno, _, hmt⟩ := mem_cpPre he
    rw [hmt (hk.resolve_left hno), Resp.parseInt64_intToDec now w.hnow.1 w.hnow.2]; rfl
  · exact hp e he hm hk

theorem written_parses {ids : List Bytes} {fs : Cp} {c : CpInfo} {id1 : Bytes} {now X : Int}
    (w : WArgs c id1 now X) (hp : Parses ids fs) : Parses ids (written fs c id1 now) := by
  intro e he hm hk
  rcases mem_hsetOne he with rfl | he
  · rw [cpOff_parse w]; rfl
  · exact pre_parses w hp e he hm hk

theorem offSel_cpPre_false (ids : List Bytes) {c : CpInfo} {id1 : Bytes} {now : Int} :
    ∀ e ∈ cpPre c id1 now, offSel ids e = false := by
  intro e he
  rw [← Bool.not_eq_true, offSel_iff]
  intro h; exact (mem_cpPre he).2.1 h.2

theorem written_off_same {ids : List Bytes} {fs : Cp} {c : CpInfo} {id1 : Bytes} {now X : Int}
    (w : WArgs c id1 now X) (hm : matchId ids id1 = true) (hp : Parses ids fs)
    (h : offOf ids fs = X) : offOf ids (written fs c id1 now) = X :=
  offOf_hsetOne_set ids _ _ X ((offSel_iff ..).mpr ⟨hm, rfl⟩) (cpOff_parse w) (pre_parses w hp)
    ((offOf_hsetMany_irrelevant ids fs _ (offSel_cpPre_false ids)).trans h)

theorem written_off_fresh {ids : List Bytes} {fs : Cp} {c : CpInfo} {id1 : Bytes} {now X : Int}
    (w : WArgs c id1 now X) (hm : matchId ids id1 = true)
    (hfresh : ∀ e ∈ fs, offSel ids e = true → e.key = (cpOff c id1).key) :
    offOf ids (written fs c id1 now) = X := by
  refine foldl_offStep_all_eq ids X _ _ (fun x hx hs => ?_)
    (Or.inl ⟨cpOff c id1, mem_hsetOne_self _ _, (offSel_iff ..).mpr ⟨hm, rfl⟩⟩)
  have hk : x.key = (cpOff c id1).key := by
    rcases mem_written hx with rfl | hx' | hx'
    · rfl
    · rw [offSel_cpPre_false ids x hx'] at hs; cases hs
    · exact hfresh x hx' hs
  rw [hsetOne_key hx hk]; exact cpOff_parse w

theorem written_ridok {ids : List Bytes} {fs : Cp} {c : CpInfo} {id1 : Bytes} {now : Int} (h1q : id1 ≠ qmark)
    (hold : ∀ e ∈ fs, ridSel ids e = true → e.val ≠ qmark) :
    ∀ e ∈ written fs c id1 now, ridSel ids e = true → e.val ≠ qmark := by
  intro x hx hs
  rw [ridSel_iff] at hs
  rcases mem_written hx with rfl | hx' | hx'
  · cases hs.2
  · rw [(mem_cpPre hx').2.2.1 hs.2]; exact h1q
  · exact hold x hx' ((ridSel_iff ..).mpr hs)

theorem written_rid {ids : List Bytes} {fs : Cp} {c : CpInfo} {id1 : Bytes} {now : Int} (h1q : id1 ≠ qmark)
    (hm : matchId ids id1 = true) (hold : ∀ e ∈ fs, ridSel ids e = true → e.val ≠ qmark) :
    ridOf ids (written fs c id1 now) ≠ qmark :=
  foldl_ridStep_ne ids _ qmark (written_ridok h1q hold)
    (Or.inl ⟨cpRid id1, cpRid_mem_written fs c id1 now, (ridSel_iff ..).mpr ⟨hm, rfl⟩⟩)

theorem written_own {fs : Cp} {c : CpInfo} {id1 : Bytes} {now : Int}
    (hown : ∀ e ∈ fs, e.kind = .runid → e.val = e.rid) :
    ∀ e ∈ written fs c id1 now, e.kind = .runid → e.val = e.rid := by
  intro e he hk
  rcases mem_written he with rfl | he' | he'
  · cases hk
  · rw [(mem_cpPre he').2.2.1 hk]; rfl
  · exact hown e he' hk

/-- the other id's fields are untouched -/
theorem written_other {fs : Cp} {c : CpInfo} {id1 id2 : Bytes} {now : Int} (hne : id1 ≠ id2) :
    offOf [id2] (written fs c id1 now) = offOf [id2] fs ∧
    ridOf [id2] (written fs c id1 now) = ridOf [id2] fs := by
  have hall : written fs c id1 now = hsetMany fs (cpPre c id1 now ++ [cpOff c id1]) := by
    rw [hsetMany_append]; rfl
  have hrid : ∀ e ∈ cpPre c id1 now ++ [cpOff c id1], matchId [id2] e.rid = false := by
    intro e he
    rw [← Bool.not_eq_true, matchId_one]
    rcases List.mem_append.mp he with he | he
    · rw [(mem_cpPre he).1]; exact hne
    · rw [List.mem_singleton.mp he]; exact hne
  rw [hall]
  exact ⟨offOf_hsetMany_irrelevant _ _ _ fun e he => by unfold offSel; rw [hrid e he]; rfl,
    ridOf_hsetMany_irrelevant _ _ _ fun e he => by unfold ridSel; rw [hrid e he]; rfl⟩

theorem fetch_runId_pair {id1 id2 : Bytes} {fs : Cp} {c : CpInfo}
    (hown : ∀ e ∈ fs, e.kind = .runid → e.val = e.rid) (hf : fetch [id1, id2] fs = some c)
    (hq : c.runId ≠ qmark) : c.runId = id1 ∨ c.runId = id2 := by
  have := foldl_ridStep_mem [id1, id2] fs hown qmark (Or.inl rfl)
  rw [← (fetch_foldl_some _ fs {} c hf).2] at this
  exact (matchId_pair id1 id2 _).mp (this.resolve_left hq)

theorem ridok_of_own {id1 id2 : Bytes} {t : Target} {n : Bytes} (own : RunidOwn t n)
    (h1q : id1 ≠ qmark) (h2q : id2 ≠ qmark) :
    ∀ db, ∀ e ∈ t.cps db n, ridSel [id1, id2] e = true → e.val ≠ qmark := by
  intro db e he hs
  rw [ridSel_iff, matchId_pair] at hs
  rw [own db e he hs.2]
  rcases hs.1 with h | h <;> rw [h] <;> assumption

/-- what the NEW key may already hold: nothing of the ids, or what a rename cut after its first
    HSET left — fields of the ids that read `X` in `d` and are smaller than `X` in every other
    database (so `update_prefix_safe` also covers the re-run after such a cut) -/
structure LocOk (ids : List Bytes) (t : Target) (loc : Bytes) (d : Nat) (X : Int) : Prop where
  parses : ∀ db, Parses ids (t.cps db loc)
  below : ∀ db, db ≠ d → OffBelow ids (t.cps db loc) X
  atd : offOf ids (t.cps d loc) = X ∨ ∀ e ∈ t.cps d loc, matchId ids e.rid = false
  ridok : ∀ db, ∀ e ∈ t.cps db loc, ridSel ids e = true → e.val ≠ qmark

theorem LocOk.of_fresh {ids : List Bytes} {t : Target} {loc : Bytes} {d : Nat} {X : Int}
    (h : ∀ db, ∀ e ∈ t.cps db loc, matchId ids e.rid = false) : LocOk ids t loc d X :=
  ⟨fun db e he hm => (nomatch (h db e he).symm.trans hm),
   fun db _ e he hs => (nomatch (h db e he).symm.trans ((offSel_iff ids e).mp hs).1),
   Or.inr (h d),
   fun db e he hs => (nomatch (h db e he).symm.trans ((ridSel_iff ids e).mp hs).1)⟩

theorem setCheckpoint_facts {ids : List Bytes} {t : Target} {loc : Bytes} {d : Nat} {X : Int} {c : CpInfo}
    {id1 : Bytes} {now : Int} (w : WArgs c id1 now X) (hm : matchId ids id1 = true) (h0 : 0 ≤ X)
    (hl : LocOk ids t loc d X) :
    Holds ids (applyReq t (.hsetCp d loc (cpEntries { c with runId := id1 } now))) loc d X ∧
    LocOk ids (applyReq t (.hsetCp d loc (cpEntries { c with runId := id1 } now))) loc d X ∧
    Carrier id1 (applyReq t (.hsetCp d loc (cpEntries { c with runId := id1 } now))) loc d X := by
  have hcps := setCheckpoint_cps t d loc c now w.h1
  generalize applyReq t (.hsetCp d loc (cpEntries { c with runId := id1 } now)) = t' at hcps ⊢
  have hd : t'.cps d loc = written (t.cps d loc) c id1 now := by rw [hcps, if_pos ⟨rfl, rfl⟩]
  have hnd : ∀ db, db ≠ d → t'.cps db loc = t.cps db loc := fun db hdb => by
    rw [hcps, if_neg fun h => hdb h.1]
  have hparses : ∀ db, Parses ids (t'.cps db loc) := fun db => by
    by_cases hdb : db = d
    · rw [hdb, hd]; exact written_parses w (hl.parses d)
    · rw [hnd db hdb]; exact hl.parses db
  have hbelow : ∀ db, db ≠ d → OffBelow ids (t'.cps db loc) X := fun db hdb => by
    rw [hnd db hdb]; exact hl.below db hdb
  have hridok : ∀ db, ∀ e ∈ t'.cps db loc, ridSel ids e = true → e.val ≠ qmark := fun db => by
    by_cases hdb : db = d
    · rw [hdb, hd]; exact written_ridok w.h1q (hl.ridok d)
    · rw [hnd db hdb]; exact hl.ridok db
  have hoff : offOf ids (t'.cps d loc) = X := by
    rw [hd]
    rcases hl.atd with hx | hno
    · exact written_off_same w hm (hl.parses d) hx
    · exact written_off_fresh w hm fun e he hs => by rw [offSel_iff, hno e he] at hs; cases hs.1
  have hsub : ∀ x, matchId [id1] x = true → matchId ids x = true := fun x hx =>
    (matchId_one id1 x).mp hx ▸ hm
  refine ⟨⟨h0, hparses, hoff, ?_, hbelow⟩, ⟨hparses, hbelow, Or.inl hoff, hridok⟩, ?_, ?_⟩
  · rw [hd]; exact written_rid w.h1q hm (hl.ridok d)
  · rw [hd]
    exact written_off_fresh w ((matchId_one id1 id1).mpr rfl) fun e _ hs => by
      rw [offSel_iff, matchId_one] at hs
      rw [Entry.key, hs.1, hs.2]; rfl
  · rw [hd]
    exact written_rid w.h1q ((matchId_one id1 id1).mpr rfl) fun e he hs =>
      hl.ridok d e he (by rw [ridSel_iff] at hs ⊢; exact ⟨hsub _ hs.1, hs.2⟩)

/-- hypotheses of `update_prefix_safe` on the state before the operation -/
structure UpdPre (id1 id2 loc : Bytes) (t₀ : Target) (n r : Bytes) (d : Nat) (X : Int) (now : Int) : Prop where
  hne : id1 ≠ id2
  h1 : id1 ≠ []
  h1q : id1 ≠ qmark
  h2q : id2 ≠ qmark
  hloc : loc ≠ []
  hn : getHash t₀.hash [id1, id2] = some (n, r)
  hn0 : n ≠ []
  holds : Holds [id1, id2] t₀ n d X
  own : RunidOwn t₀ n
  fresh : n ≠ loc → LocOk [id1, id2] t₀ loc d X
  hnow : -(2^63 : Int) ≤ now ∧ now < 2^63

theorem UpdPre.locOk {id1 id2 loc : Bytes} {t₀ : Target} {n r : Bytes} {d : Nat} {X now : Int}
    (P : UpdPre id1 id2 loc t₀ n r d X now) : LocOk [id1, id2] t₀ loc d X := by
  by_cases hnl : n = loc
  · exact hnl ▸ ⟨P.holds.parses, P.holds.dom, Or.inl P.holds.off, ridok_of_own P.own P.h1q P.h2q⟩
  · exact P.fresh hnl

theorem UpdPre.wargs {id1 id2 loc : Bytes} {t₀ : Target} {n r : Bytes} {d : Nat} {X now : Int}
    (P : UpdPre id1 id2 loc t₀ n r d X now) {c : CpInfo}
    (hfetch : fetch [id1, id2] (t₀.cps d n) = some c) (hcX : c.offset = X) : WArgs c id1 now X :=
  ⟨P.h1, P.h1q, hcX, by rw [← hcX, (fetch_foldl_some _ _ {} c hfetch).1]; exact offOf_range _ _, P.hnow⟩

/-- the requests after the HSET of the new key and the repointing of the hash -/
def updRest (n oldId id1 loc : Bytes) (o2 : List Nat) : List Req :=
  if oldId ≠ [] ∧ oldId ≠ qmark ∧ ¬ (oldId = id1 ∧ n = loc) then
    o2.map (fun db => Req.hdelCp db n (fourKeys oldId))
      ++ (if oldId ≠ id1 then [Req.hdelHash oldId] else [])
  else []

theorem updateReqs_shape (ver : Bytes) {t₀ : Target} {loc id1 id2 n r : Bytes} {d : Nat} {c : CpInfo}
    (o1 o2 : List Nat) (now : Int)
    (hn : getHash t₀.hash [id1, id2] = some (n, r)) (hn0 : n ≠ [])
    (hgc : getCheckpoint ver t₀ n [id1, id2] o1 = some (c, (d : Int))) :
    updateReqs ver t₀ loc [id1, id2] o1 o2 now =
      if n ≠ loc ∨ id1 ≠ r then
        Req.hsetCp d loc (cpEntries { c with runId := id1 } now) :: Req.hsetHash id1 loc ::
          updRest n c.runId id1 loc o2
      else [] := by
  have hd : ¬ ((d : Int) < 0) := by omega
  simp only [updateReqs, hn, hn0, ne_eq, not_false_eq_true, if_true, hgc, hd, if_false,
    Int.toNat_natCast, updRest, List.cons_append, List.nil_append]

theorem safe_updRest {id1 id2 loc n oldId : Bytes} {d : Nat} (o2 : List Nat) :
    ∀ q ∈ updRest n oldId id1 loc o2, SafeReq id1 id2 id1 loc id1 d q := by
  intro q hq
  unfold updRest at hq
  split at hq
  · rename_i hcond
    rcases List.mem_append.mp hq with hq | hq
    · obtain ⟨db, _, rfl⟩ := List.mem_map.mp hq
      by_cases h : n = loc
      · exact Or.inr ⟨oldId, staleKeys_fst (ex := false), offset_mem_staleKeys oldId false,
          Or.inr fun h1 => hcond.2.2 ⟨h1, h⟩⟩
      · exact Or.inl h
    · split at hq
      · rename_i h
        rw [List.mem_singleton.mp hq]
        exact ⟨h, Or.inr rfl⟩
      · cases hq
  · cases hq

/-! ### the state after the first request (HSET of the re-keyed position under the LOCAL key) -/

structure FirstFacts (id1 id2 loc : Bytes) (t₀ s₁ : Target) (n : Bytes) (d : Nat) (X : Int) : Prop where
  hash : s₁.hash = t₀.hash
  holds : Holds [id1, id2] s₁ n d X
  own : RunidOwn s₁ n
  locok : n ≠ loc → LocOk [id1, id2] s₁ loc d X

theorem first_facts {id1 id2 loc : Bytes} {t₀ : Target} {n r : Bytes} {d : Nat} {X : Int} {now : Int}
    (P : UpdPre id1 id2 loc t₀ n r d X now) {c : CpInfo}
    (hfetch : fetch [id1, id2] (t₀.cps d n) = some c) (hcX : c.offset = X) :
    FirstFacts id1 id2 loc t₀ (applyReq t₀ (.hsetCp d loc (cpEntries { c with runId := id1 } now))) n d X := by
  obtain ⟨hH, hL, _⟩ := setCheckpoint_facts (P.wargs hfetch hcX)
    ((matchId_pair id1 id2 id1).mpr (Or.inl rfl)) P.holds.nonneg P.locOk
  have hcps := setCheckpoint_cps t₀ d loc c now P.h1
  refine ⟨rfl, ?_, fun db e he hk => ?_, fun _ => hL⟩
  · by_cases hnl : n = loc
    · exact hnl ▸ hH
    · exact P.holds.congr fun db => by rw [hcps, if_neg fun h => hnl h.2]
  · rw [hcps] at he
    split at he
    · rename_i hc
      exact written_own (hc.2 ▸ P.own d) e he hk
    · exact P.own db e he hk

theorem FirstFacts.refl {id1 id2 loc : Bytes} {t₀ : Target} {n r : Bytes} {d : Nat} {X : Int} {now : Int}
    (P : UpdPre id1 id2 loc t₀ n r d X now) : FirstFacts id1 id2 loc t₀ t₀ n d X :=
  ⟨rfl, P.holds, P.own, P.fresh⟩

/-- A crash state of `UpdateCheckpoint(loc, [id1, id2])` (any prefix `k` of its requests) is of
    one of two kinds: (A) the checkpoint hash is untouched and the state is the initial one or the
    one after the first HSET under the LOCAL key (`FirstFacts`); (B) the hash maps `id1` to the
    LOCAL key and the new id alone carries the position under it (`Inv`; an unmapped `id2` stays unmapped). -/
theorem crash_class (ver : Bytes) {id1 id2 loc : Bytes} {t₀ : Target} {n r : Bytes} {d : Nat}
    {X : Int} {now : Int} (P : UpdPre id1 id2 loc t₀ n r d X now) (o1 o2 : List Nat)
    (ho1 : d ∈ o1) (k : Nat) :
    ((k < 2 ∨ ¬ (n ≠ loc ∨ id1 ≠ r)) ∧
      FirstFacts id1 id2 loc t₀ (applyAll t₀ ((updateReqs ver t₀ loc [id1, id2] o1 o2 now).take k)) n d X) ∨
    ((2 ≤ k ∧ (n ≠ loc ∨ id1 ≠ r)) ∧
      Inv id1 id2 id1 (applyAll t₀ ((updateReqs ver t₀ loc [id1, id2] o1 o2 now).take k)) loc id1 d X ∧
      (Unmapped t₀.hash id2 →
        Unmapped (applyAll t₀ ((updateReqs ver t₀ loc [id1, id2] o1 o2 now).take k)).hash id2)) := by
  obtain ⟨c, hgc, hcX, hcq, hfetch⟩ := getCheckpoint_of_holds ver P.holds o1 ho1
  rw [updateReqs_shape ver o1 o2 now P.hn P.hn0 hgc]
  by_cases hbr : n ≠ loc ∨ id1 ≠ r
  case neg =>
    rw [if_neg hbr, List.take_nil]
    exact Or.inl ⟨Or.inr hbr, FirstFacts.refl P⟩
  rw [if_pos hbr]
  rcases k with _ | _ | k
  · exact Or.inl ⟨Or.inl (by decide), FirstFacts.refl P⟩
  · exact Or.inl ⟨Or.inl (by decide), first_facts P hfetch hcX⟩
  · -- after the HSET under the LOCAL key and the repointing of the hash; the deletions that follow are safe
    obtain ⟨hH, hL, hC⟩ := setCheckpoint_facts (P.wargs hfetch hcX)
      ((matchId_pair id1 id2 id1).mpr (Or.inl rfl)) P.holds.nonneg P.locOk
    have hinv : Inv id1 id2 id1 (applyAll t₀
        [Req.hsetCp d loc (cpEntries { c with runId := id1 } now), Req.hsetHash id1 loc]) loc id1 d X :=
      ⟨getHash_of_first (hlookup_hashSet_self _ _ _) P.hloc, hH.congr fun _ => rfl, hC, hL.ridok⟩
    exact Or.inr ⟨⟨Nat.le_add_left 2 k, hbr⟩, applyAll_inv
      (I := fun t => Inv id1 id2 id1 t loc id1 d X ∧ (Unmapped t₀.hash id2 → Unmapped t.hash id2))
      (S := SafeReq id1 id2 id1 loc id1 d)
      (fun t q hi hs => ⟨inv_applyReq P.hne P.h1 (Or.inl rfl) hi.1 q hs, fun hu => by
        cases q
        case hdelCp => exact hi.2 hu
        case hdelHash => exact (hi.2 hu).hashDel
        all_goals exact False.elim hs⟩)
      ((updRest n c.runId id1 loc o2).take k) ⟨hinv, fun hu => hu.hashSet fun h => P.hne h.symm⟩
      (fun q hq => safe_updRest o2 q (mem_take hq))⟩

/-- `crash_class` in the terms of the hash -/
theorem update_prefix_inv'' (ver : Bytes) {id1 id2 loc : Bytes} {t₀ : Target} {n r : Bytes} {d : Nat}
    {X : Int} {now : Int} (P : UpdPre id1 id2 loc t₀ n r d X now) (o1 o2 : List Nat)
    (ho1 : d ∈ o1) (k : Nat) :
    ∃ n' r', n' ≠ [] ∧ getHash (applyAll t₀ ((updateReqs ver t₀ loc [id1, id2] o1 o2 now).take k)).hash
        [id1, id2] = some (n', r') ∧
      Holds [id1, id2] (applyAll t₀ ((updateReqs ver t₀ loc [id1, id2] o1 o2 now).take k)) n' d X ∧
      ((n ≠ loc ∨ id1 ≠ r) → 2 ≤ k → n' = loc ∧ r' = id1) ∧
      (¬ (n ≠ loc ∨ id1 ≠ r) → n' = n ∧ r' = r) ∧
      -- once the hash is repointed the NEW id alone carries the position under the LOCAL key
      ((n ≠ loc ∨ id1 ≠ r) → 2 ≤ k →
        Inv id1 id2 id1 (applyAll t₀ ((updateReqs ver t₀ loc [id1, id2] o1 o2 now).take k)) loc id1 d X) := by
  rcases crash_class ver P o1 o2 ho1 k with ⟨hk, F⟩ | ⟨hk, hI, _⟩
  · have hno : (n ≠ loc ∨ id1 ≠ r) → ¬ 2 ≤ k := fun hb h2 => hk.elim (fun h => by omega) (fun h => h hb)
    exact ⟨n, r, P.hn0, F.hash ▸ P.hn, F.holds, fun hb h2 => absurd h2 (hno hb), fun _ => ⟨rfl, rfl⟩,
      fun hb h2 => absurd h2 (hno hb)⟩
  · exact ⟨loc, id1, P.hloc, hI.hash, hI.holds, fun _ _ => ⟨rfl, rfl⟩, fun h => absurd hk.2 h, fun _ _ => hI⟩

end GunYu.Checkpoint
