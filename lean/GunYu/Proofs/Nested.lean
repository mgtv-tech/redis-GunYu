/-
  The parser never nests transactions: for a source stream whose MULTI/EXEC
  brackets are not nested (Redis never propagates a nested MULTI) and pass the
  user's filters, the brackets the parser hands to the sender are not nested
  either -- whatever databases are filtered in between.
-/
import GunYu.Proofs.Restart

namespace GunYu.Sender
open GunYu

/-- no MULTI while a transaction is open; `inT` = currently between MULTI and EXEC -/
def RawNoNested : Bool → List Raw → Prop
  | _, [] => True
  | inT, r :: rest =>
    if r.cmd = bMulti then inT = false ∧ RawNoNested true rest
    else if r.cmd = bExec then RawNoNested false rest
    else RawNoNested inT rest

def ItemsNoNested : Bool → List Item → Prop
  | _, [] => True
  | inT, i :: rest =>
    if i.cmd = bMulti then inT = false ∧ ItemsNoNested true rest
    else if i.cmd = bExec then ItemsNoNested false rest
    else ItemsNoNested inT rest

/-- whatever a step hands over carries the name of the command it read -/
theorem parseStep_emit_cmd (c : PCfg) (s : PState) (r : Raw) (i : Item)
    (h : (parseStep c s r).2 = POut.emit i) : i.cmd = r.cmd := by
  rcases parseStep_cases c s r with ⟨b, h'⟩ | h' | ⟨x, n, hs, -, -, -, -, h'⟩ | ⟨a, b, off, -, -, h'⟩ <;>
    rw [h'] at h <;> cases h
  · exact hs.symm
  · rfl

/-- **The parser's brackets are not nested** when the source's are not and they
    pass the user's filters: the parser's `txnOpen` follows the source. -/
theorem parseAll_noNested (c : PCfg) (raws : List Raw) (s : PState) (b : Bool)
    (hb : s.txnOpen = b) (hraw : RawNoNested b raws)
    (hpass : ∀ r ∈ raws, (r.cmd = bMulti ∨ r.cmd = bExec) →
      c.filterCmd r.cmd = false ∧ (c.filterCmdKey r.cmd r.args).isSome) :
    ItemsNoNested b (parseAll c s raws) := by
  induction raws generalizing s b with
  | nil => simp [parseAll, ItemsNoNested]
  | cons r rest ih =>
    have hpass' : ∀ r' ∈ rest, (r'.cmd = bMulti ∨ r'.cmd = bExec) →
        c.filterCmd r'.cmd = false ∧ (c.filterCmdKey r'.cmd r'.args).isSome :=
      fun r' hr' => hpass r' (List.mem_cons_of_mem _ hr')
    have hmp : bMulti ≠ bPing := by decide
    have hms : bMulti ≠ bSelect := by decide
    have hep : bExec ≠ bPing := by decide
    have hes : bExec ≠ bSelect := by decide
    have hme : bMulti ≠ bExec := by decide
    have hmpub : bMulti ≠ bPublish := by decide
    have hepub : bExec ≠ bPublish := by decide
    simp only [parseAll]
    by_cases hm : r.cmd = bMulti
    · -- MULTI: always handed over (the source is outside a transaction)
      simp only [RawNoNested, hm, ↓reduceIte] at hraw
      obtain ⟨hbf, hrest⟩ := hraw
      obtain ⟨hfc, hfk⟩ := hpass r (List.mem_cons_self ..) (Or.inl hm)
      have hto : s.txnOpen = false := by rw [hb, hbf]
      have hstep := parseStep_data c s r (by rw [hm]; exact hmp) (by rw [hm]; exact hms)
      obtain ⟨a, ha⟩ := Option.isSome_iff_exists.mp hfk
      have hpb : ¬ (s.bypass = true ∧ passBracket s r.cmd = false) := by
        intro ⟨h1, h2⟩
        simp [passBracket, h1, hm, hto] at h2
      have hpubf : ¬ (r.cmd = bPublish ∧ (r.args.head?.map lower) = some bSentinelHello) := by
        intro h; exact hmpub (hm ▸ h.1)
      rw [hstep]
      simp only [hfc, Bool.false_eq_true, ↓reduceIte, hpubf, hpb, ha]
      simp only [ItemsNoNested, hm, ↓reduceIte]
      refine ⟨hbf, ih _ true ?_ hrest hpass'⟩
      simp [sent]
    · by_cases he : r.cmd = bExec
      · simp only [RawNoNested, he, hme.symm, ↓reduceIte] at hraw
        obtain ⟨hfc, hfk⟩ := hpass r (List.mem_cons_self ..) (Or.inr he)
        have hstep := parseStep_data c s r (by rw [he]; exact hep) (by rw [he]; exact hes)
        obtain ⟨a, ha⟩ := Option.isSome_iff_exists.mp hfk
        have hpubf : ¬ (r.cmd = bPublish ∧ (r.args.head?.map lower) = some bSentinelHello) := by
          intro h; exact hepub (he ▸ h.1)
        rw [hstep]
        simp only [hfc, Bool.false_eq_true, ↓reduceIte, hpubf]
        by_cases h3 : s.bypass = true ∧ passBracket s r.cmd = false
        · -- withheld: no forwarded transaction was open
          simp only [h3, and_self, ↓reduceIte]
          have hto : s.txnOpen = false := by
            have := h3.2
            simp only [passBracket, h3.1, he, hme.symm, decide_false, Bool.false_and, decide_true,
              Bool.true_and, Bool.false_or] at this
            exact this
          have : b = false := by rw [← hb, hto]
          subst this
          exact ih s false hto hraw hpass'
        · simp only [h3, ↓reduceIte, ha]
          simp only [ItemsNoNested, he, hme.symm, ↓reduceIte]
          exact ih _ false (by simp [sent, hme.symm]) hraw hpass'
      · -- any other command: whatever is handed over is not a bracket, `txnOpen` unchanged
        simp only [RawNoNested, hm, he, ↓reduceIte] at hraw
        cases hps : parseStep c s r with
        | mk s' o =>
          cases o with
          | fail => simp [ItemsNoNested]
          | skip =>
            simp only
            have hto : s'.txnOpen = s.txnOpen := parseStep_skip_txnOpen c s r s' hps
            exact ih s' b (by rw [hto, hb]) hraw hpass'
          | emit i =>
            simp only
            have hcmd : i.cmd = r.cmd := parseStep_emit_cmd c s r i (by rw [hps])
            obtain ⟨_, _, hto⟩ := parseStep_emit_off c s r i (by rw [hps])
            rw [hps] at hto
            simp only [hcmd, hm, he, ↓reduceIte] at hto
            simp only [ItemsNoNested, hcmd, hm, he, ↓reduceIte]
            exact ih s' b (by rw [hto, hb]) hraw hpass'

end GunYu.Sender
