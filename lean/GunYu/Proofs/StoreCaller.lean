/-
  C05, disk backend — the callers' protocol for stream writers, DERIVED instead of
  assumed.

  `Disk.okOp (.newAofWriter off)` demands `off` = the end of the held stream (or the
  snapshot's offset, or anything on an empty cache) IN THE STATE OF THE CALL. The
  callers do not compute it there: `RedisInput.syncMeta` asks `StartPoint`
  (→ `Storer.LatestOffset()`) at the beginning of a run and `syncData` passes that
  answer to `NewAofWritter` later — after `SetRunId`, with readers and the collector
  (a 30 s timer) running in between; or they clear the cache first (`DelRunId`); or
  they pass the offset of the snapshot they have just announced.

  `COp` = the cache operations plus the ghost event `ask` (the `LatestOffset` query);
  `callerOk` = the runs the callers produce (the writer offset is what was ANSWERED,
  not what holds now); `caller_wf`: every such run satisfies `Disk.wf`, for any
  interleaving of reader / collector / run-id operations between the answer and the
  writer's creation. Key lemmas: `Continues q` (a writer at `q` continues the held
  stream) holds when `q` was the answer, and is kept by EVERY operation other than
  the two writer constructors — in particular by a collector pass, which either
  leaves the end of the stream alone or removes stream and snapshot together.
-/
import GunYu.Proofs.StoreFrame

namespace GunYu.Store
open GunYu

/-- a stream writer opened at `q` continues what is held (no writer is open) -/
def Continues (q : Nat) (s : Disk) : Prop :=
  s.live = none ∧ (∀ r, lastRight s.segs = some r → q = r) ∧
  (lastRight s.segs = none → ∀ rd, s.rdb = some rd → q = rd.left)

theorem closeLive_of_no_live {s : Disk} (h : s.live = none) : s.closeLive = s := by
  unfold Disk.closeLive; rw [h]

theorem continues_okOp {q : Nat} {s : Disk} (h : Continues q s) : s.okOp (.newAofWriter q) := by
  simp only [Disk.okOp, closeLive_of_no_live h.1]
  cases hl : lastRight s.segs with
  | some r => exact h.2.1 r hl
  | none =>
    cases hr : s.rdb with
    | some rd => exact h.2.2 hl rd hr
    | none => trivial

/-- `Storer.LatestOffset()` as a natural number (`none` = -1) -/
def Disk.latestNat (s : Disk) : Option Nat :=
  match lastRight s.all, s.rdb with
  | some r, _ => some r
  | none, some rd => some rd.left
  | none, none => none

theorem latestNat_eq (s : Disk) : s.latest = match s.latestNat with | some q => (q : Int) | none => -1 := by
  unfold Disk.latest Disk.latestNat
  cases lastRight s.all <;> cases s.rdb <;> rfl

theorem Continues.of_fields {q : Nat} {s s' : Disk} (h : Continues q s) (hl : s'.live = s.live)
    (hs : s'.segs = s.segs) (hr : ∀ r', s'.rdb = some r' → ∃ r, s.rdb = some r ∧ r'.left = r.left) :
    Continues q s' := by
  refine ⟨hl ▸ h.1, hs ▸ h.2.1, fun hn rd hrd => ?_⟩
  obtain ⟨r, e1, e2⟩ := hr rd hrd
  rw [e2]
  exact h.2.2 (hs ▸ hn) r e1

theorem Continues.empty (q : Nat) {s : Disk} (h1 : s.live = none) (h2 : s.segs = []) (h3 : s.rdb = none) : Continues q s :=
  ⟨h1, (fun r hr => nomatch (h2 ▸ hr : lastRight [] = some r)), (fun _ _ hrd => nomatch h3 ▸ hrd)⟩

/-- a collector pass keeps the end of the stream, or removes stream and snapshot together -/
theorem gc_continues {q : Nat} {s : Disk} (h : Continues q s) : Continues q s.gc := by
  obtain ⟨pre, hp, _, hrdb, hcase, _⟩ := gc_cases s
  refine ⟨(gc_ghost s).2.2.2.2.1.trans h.1, fun r hr => h.2.1 r ?_, fun hn rd hrd => ?_⟩
  · have hne : s.gc.segs ≠ [] := fun e => by rw [e] at hr; cases hr
    rw [hp, lastRight_suffix _ _ hne]
    exact hr
  · rcases hcase with e | e
    · rw [e] at hrd; cases hrd
    · -- no segment went, so the snapshot stayed
      rw [e, List.nil_append] at hp
      rcases hrdb with e1 | ⟨e1, _⟩
      · exact h.2.2 (hp ▸ hn) rd (e1 ▸ hrd)
      · rw [e1] at hrd; cases hrd

/-! ### every operation other than the two writer constructors -/

def DOp.opensWriter : DOp → Bool
  | .newRdbWriter _ _ => true
  | .newAofWriter _ => true
  | _ => false

theorem Continues.closeAllForSwitch {q : Nat} {s : Disk} (h : Continues q s) : Continues q s.closeAllForSwitch := by
  unfold Disk.closeAllForSwitch
  rcases dropWritingRdb_cases { s with readers := closeAllReaders s.readers } with e | e <;>
    rw [e, closeLive_of_no_live (by exact h.1)]
  · exact h
  · exact h.of_fields rfl rfl (fun _ e => nomatch e)

/-- `Continues q` survives every operation that does not create a writer: reads,
    rotation steps, opening and closing readers, collector passes, snapshot
    appends / close, `SetRunId` (same id, switch) and `DelRunId`. -/
theorem step_continues {q : Nat} {s : Disk} (hi : DInv s) (h : Continues q s) (op : DOp)
    (hop : op.opensWriter = false) : Continues q (s.step op).1 := by
  by_cases hr : op.isReaderOp = true
  · obtain ⟨_, e⟩ := readerOp_eq s hr
    rw [e]
    exact h
  cases op with
  | setRunId id =>
    rcases setRunId_step hi id with e | e | e <;> rw [e]
    · exact Continues.empty q rfl rfl rfl
    · exact h
    · exact h.closeAllForSwitch
  | delRunId =>
    simp only [Disk.step]
    by_cases he : s.runId = ""
    · rw [if_pos he]; exact h
    · rw [if_neg he]; exact Continues.empty q rfl rfl rfl
  | newRdbWriter off size => cases hop
  | newAofWriter off => cases hop
  | rdbAppend chunk =>
    obtain ⟨rdb', e, hr⟩ := rdbAppend_eq s chunk
    rw [e]
    exact h.of_fields rfl rfl hr
  | rdbClose =>
    rcases rdbClose_cases s with e | e <;> rw [e]
    · exact h
    · exact h.of_fields rfl rfl (fun _ e => nomatch e)
  | aofAppend chunk =>
    simp only [Disk.step, Disk.appendLive, h.1]
    exact h
  | aofClose =>
    simp only [Disk.step, closeLive_of_no_live h.1]
    exact h
  | gc => exact gc_continues h
  | _ => exact absurd rfl hr

/-! ### the callers' runs -/

/-- the cache operations plus the ghost event `ask`: the input reads
    `LatestOffset()` (`StartPoint` in `syncMeta`, `preSync` / `aofSync` in replica.go) -/
inductive COp where
  | ask
  | op (o : DOp)
deriving Repr, DecidableEq

/-- what the run knows about the cache: nothing; the answer of its last `LatestOffset()`
    query (`asked q` — also entered by announcing a snapshot at `q`: `NewRdbWriter(q, size)`
    resets the cache to that snapshot); or that it has cleared the cache (`DelRunId`, or the
    query found nothing) -/
inductive CSt where
  | none
  | asked (q : Nat)
  | cleared
deriving Repr, DecidableEq

/-- which operations the callers issue knowing `c`. A stream writer is created (a) at
    the offset ANSWERED earlier in this run (`syncData(…, locSp.Offset)` with `locSp` from
    `StartPoint`; `NewAofWritter(offset)` after `NewRdbWriter(offset, size)`), or (b) at any
    offset after the run has CLEARED the cache (`clearLocal` / full sync / the follower's
    `left > sp.Offset`: `DelRunId` came first; or the query found an empty cache). No
    clause looks at the cache in the state of the call. Every other operation as
    `Disk.okOp` (those clauses are facts about the writers themselves). -/
def callerAllows (c : CSt) (s : Disk) : DOp → Prop
  | .newAofWriter off => c = .asked off ∨ c = .cleared
  | op => s.okOp op

instance (c : CSt) (s : Disk) (op : DOp) : Decidable (callerAllows c s op) := by
  cases op <;> simp only [callerAllows] <;> try infer_instance
  all_goals (repeat' split) <;> infer_instance

/-- what the run knows after the operation. `DelRunId(channel.RunId())` with no current
    id is a no-op in the code (and nothing is learnt from it). -/
def callerNext (c : CSt) (s : Disk) : DOp → CSt
  | .newAofWriter _ => .none
  | .newRdbWriter off _ => .asked off
  | .delRunId => if s.runId = "" then c else .cleared
  | _ => c

def askAnswer (s : Disk) : CSt :=
  match s.latestNat with
  | some q => .asked q
  | none => .cleared

/-- the runs the callers produce: `ask` is only issued between two writers (the
    previous run's writer was closed: `syncIncr` / `syncRdb` → `writer.Close()`, the early
    return of `syncData` closes what it created, `runScope.WgWait()`) -/
def callerOk : CSt → Disk → List COp → Prop
  | _, _, [] => True
  | _, s, .ask :: rest => s.live = none ∧ callerOk (askAnswer s) s rest
  | c, s, .op o :: rest => callerAllows c s o ∧ callerOk (callerNext c s o) (s.step o).1 rest

instance callerOk.dec : (c : CSt) → (s : Disk) → (cops : List COp) → Decidable (callerOk c s cops)
  | _, _, [] => isTrue trivial
  | _, s, .ask :: rest =>
    have := callerOk.dec (askAnswer s) s rest
    inferInstanceAs (Decidable (s.live = none ∧ callerOk _ s rest))
  | c, s, .op o :: rest =>
    have := callerOk.dec (callerNext c s o) (s.step o).1 rest
    inferInstanceAs (Decidable (callerAllows c s o ∧ callerOk _ (s.step o).1 rest))

def COp.erase : List COp → List DOp
  | [] => []
  | .ask :: rest => COp.erase rest
  | .op o :: rest => o :: COp.erase rest

/-- what the run's knowledge MEANS about the cache — the invariant of `caller_wf` -/
def Knows : CSt → Disk → Prop
  | .none, _ => True
  | .asked q, s => Continues q s
  | .cleared, s => ∀ q, Continues q s

theorem callerAllows_okOp {c : CSt} {s : Disk} (hc : Knows c s) (op : DOp)
    (h : callerAllows c s op) : s.okOp op := by
  cases op with
  | newAofWriter off =>
    rcases h with h | h <;> subst h
    · exact continues_okOp hc
    · exact continues_okOp (hc off)
  | _ => exact h

theorem knows_ask {s : Disk} (hl : s.live = none) : Knows (askAnswer s) s := by
  have hall : s.all = s.segs := by simp [Disk.all, hl]
  unfold askAnswer Disk.latestNat
  rw [hall]
  cases hlr : lastRight s.segs with
  | some r => exact ⟨hl, (fun r' h => by rw [hlr] at h; cases h; rfl), (fun h => by rw [hlr] at h; cases h)⟩
  | none =>
    cases hrd : s.rdb with
    | some rd => exact ⟨hl, (fun r h => by rw [hlr] at h; cases h), (fun _ rd' h => by rw [hrd] at h; cases h; rfl)⟩
    | none => exact fun q => Continues.empty q hl (lastRight_eq_none.mp hlr) hrd

/-- the answer of `LatestOffset()` on a cache without an open stream writer is an
    offset a stream writer continues at -/
theorem latest_continues {s : Disk} (hl : s.live = none) {q : Nat} (hq : s.latestNat = some q) : Continues q s := by
  have := knows_ask hl
  unfold askAnswer at this
  rw [hq] at this
  exact this

theorem knows_step {c : CSt} {s : Disk} (hi : DInv s) (hc : Knows c s) (o : DOp) :
    Knows (callerNext c s o) (s.step o).1 := by
  have keep : o.opensWriter = false → Knows c (s.step o).1 := by
    intro hnw
    cases c with
    | none => trivial
    | asked q => exact step_continues hi hc o hnw
    | cleared => intro q; exact step_continues hi (hc q) o hnw
  cases o with
  | newAofWriter off => trivial
  | newRdbWriter off size =>
    -- the cache is reset to the announced snapshot
    exact ⟨rfl, (fun r hr => nomatch (hr : none = some r)), (fun _ rd hrd => by cases hrd; rfl)⟩
  | delRunId =>
    simp only [callerNext, Disk.step]
    by_cases he : s.runId = ""
    · rw [if_pos he, if_pos he]; exact hc
    · rw [if_neg he, if_neg he]; exact fun q => Continues.empty q rfl rfl rfl
  | _ => exact keep rfl

/-- **the callers' runs respect the protocol.** -/
theorem caller_wf : ∀ (cops : List COp) (c : CSt) (s : Disk), DInv s → Knows c s →
    callerOk c s cops → s.wf (COp.erase cops) := by
  intro cops
  induction cops with
  | nil => intro c s _ _ _; trivial
  | cons x rest ih =>
    intro c s hi hc hok
    cases x with
    | ask =>
      obtain ⟨hl, hrest⟩ := hok
      exact ih _ s hi (knows_ask hl) hrest
    | op o =>
      obtain ⟨ha, hrest⟩ := hok
      have hk := callerAllows_okOp hc o ha
      exact ⟨hk, ih _ _ (hi.step o hk) (knows_step hi hc o) hrest⟩

end GunYu.Store
