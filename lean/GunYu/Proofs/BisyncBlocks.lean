/-
  The three kinds of blocks in a site's stream — what the tool committed, the
  tool's bookkeeping, and foreign writes — and what the opposite link's parser
  does with each.
-/
import GunYu.Proofs.BisyncParse
import GunYu.Proofs.BisyncProp
import GunYu.Proofs.BisyncCommit

namespace GunYu.Bisync
open GunYu GunYu.BisyncUnit

/-- a block the opposite link passes over, whatever idle state it is in -/
def QuietB (pc : PCfg) (b : Block) : Prop :=
  ∀ pst, Idle pst → ∃ pst', parseBlock pc pst b = ([], pst', none) ∧ Idle pst' ∧ pst'.seq = pst.seq

/-! ### byte-string facts -/

theorem containsSub_append (needle a b : Bytes) : containsSub needle (a ++ needle ++ b) = true := by
  induction a with
  | nil =>
    simp only [List.nil_append]
    cases hn : needle ++ b with
    | nil =>
      have : needle = [] := (List.append_eq_nil_iff.mp hn).1
      simp [containsSub, this]
    | cons x xs =>
      rw [containsSub, ← hn]
      have : needle.isPrefixOf (needle ++ b) = true := List.isPrefixOf_iff_prefix.mpr (List.prefix_append _ _)
      rw [this]
      rfl
  | cons x xs ih =>
    simp only [List.cons_append]
    rw [containsSub, ih]
    simp

theorem hasPrefix_ns (cp i r : Bytes) : hasPrefix nsPrefix (nsPrefix ++ cp ++ i ++ r) = true := by
  rw [List.append_assoc, List.append_assoc]
  exact List.isPrefixOf_iff_prefix.mpr (List.prefix_append _ _)

/-! The generated control keys are `redis-gunyu-bisync:` + checkpoint name + infix + rest. -/

theorem markerKey_form (cp tag : Bytes) :
    Gen.markerKey cp tag = nsPrefix ++ cp ++ Gen.markerInfix ++ (tag ++ [125]) := List.append_assoc _ _ _
theorem latestKey_form (cp tag : Bytes) :
    Gen.latestKey cp tag = nsPrefix ++ cp ++ Gen.latestInfix ++ (tag ++ [125]) := List.append_assoc _ _ _
theorem commitIndexKey_form (cp tag : Bytes) :
    Gen.commitIndexKey cp tag = nsPrefix ++ cp ++ Gen.indexInfix ++ (tag ++ [125]) := List.append_assoc _ _ _
theorem commitRecordKey_form (cp tag : Bytes) (seq : Nat) :
    Gen.commitRecordKey cp tag seq = nsPrefix ++ cp ++ Gen.commitInfix ++ (tag ++ ([125,58] ++ Gen.pad20 seq)) := by
  rw [Gen.commitRecordKey, List.append_assoc, List.append_assoc]; rfl

theorem markerKey_isMarker (cp tag : Bytes) : isMarkerKey (Gen.markerKey cp tag) = true := by
  rw [isMarkerKey, markerKey_form, hasPrefix_ns, containsSub_append]
  rfl

theorem plainNsKey_ns (cp k : Bytes) (h : PlainNsKey cp k) : hasPrefix nsPrefix k = true := by
  obtain ⟨tag, rfl | rfl | ⟨seq, rfl⟩⟩ := h
  · rw [latestKey_form]; exact hasPrefix_ns _ _ _
  · rw [commitIndexKey_form]; exact hasPrefix_ns _ _ _
  · rw [commitRecordKey_form]; exact hasPrefix_ns _ _ _

theorem markerKey_ns (k : Bytes) (h : isMarkerKey k = true) : hasPrefix nsPrefix k = true := by
  unfold isMarkerKey at h
  simp only [Bool.and_eq_true] at h
  exact h.1

theorem ns_of_prefix (k : Bytes) (h : hasPrefix nsPrefix k = true) : isNamespaceKey k = true := by
  unfold isNamespaceKey
  rw [h]
  rfl

theorem ns_of_cpRooted (k : Bytes) (h : Gen.checkpointKey <+: k) : isNamespaceKey k = true := by
  unfold isNamespaceKey hasPrefix
  rw [Bool.or_eq_true]
  exact .inr (List.isPrefixOf_iff_prefix.mpr h)

theorem ns_cases (k : Bytes) (h : isNamespaceKey k = true) : hasPrefix nsPrefix k = true ∨ Gen.checkpointKey <+: k :=
  (Bool.or_eq_true_iff.mp h).imp_right List.isPrefixOf_iff_prefix.mp

theorem cpRooted_hash : Gen.checkpointKey <+: checkpointHashKey := List.prefix_append _ _

theorem cpRooted_frontier {cp : Bytes} (h : Gen.checkpointKey <+: cp) : Gen.checkpointKey <+: Gen.frontierKey cp :=
  h.trans (List.prefix_append _ _)

/-! ### safe names -/

theorem txnSafe_of_name (c : Cmd) (n : Bytes) (hn : lower c.name = n)
    (h : n ≠ wMulti ∧ n ≠ wExec ∧ Filter.eqFold n wSelect = false) : TxnSafe c := by
  unfold TxnSafe
  rw [hn]
  exact h

theorem safe_set : wSet ≠ wMulti ∧ wSet ≠ wExec ∧ Filter.eqFold wSet wSelect = false := by decide
theorem safe_del : wDel ≠ wMulti ∧ wDel ≠ wExec ∧ Filter.eqFold wDel wSelect = false := by decide
theorem safe_unlink : wUnlink ≠ wMulti ∧ wUnlink ≠ wExec ∧ Filter.eqFold wUnlink wSelect = false := by decide
theorem safe_hset : wHset ≠ wMulti ∧ wHset ≠ wExec ∧ Filter.eqFold wHset wSelect = false := by decide

theorem lower_wDel : lower wDel = wDel := by decide
theorem lower_wUnlink : lower wUnlink = wUnlink := by decide

theorem delCmd_safe (cfg : RedisCfg) (k : Bytes) : TxnSafe (delCmd cfg k) := by
  unfold delCmd
  cases cfg.lazyUnlink
  · exact txnSafe_of_name _ wDel lower_wDel safe_del
  · exact txnSafe_of_name _ wUnlink lower_wUnlink safe_unlink

theorem eff_txnSafe (cfg : RedisCfg) (c e : Cmd) (hc : TxnSafe c) (h : EffShape cfg c e) : TxnSafe e := by
  cases h with
  | same => exact hc
  | del k _ => exact delCmd_safe cfg k
  | setPxat k v opts t _ => exact txnSafe_of_name _ wSet (by show lower wSet = wSet; decide) safe_set
  | setPlain k v opts _ => exact hc
  | pexpireat k t _ => exact txnSafe_of_name _ wPexpireat (by show lower wPexpireat = wPexpireat; decide) (by decide)
  | restoreAbs k tt payload opts t _ => exact hc

theorem execCmds_txnSafe (cfg : RedisCfg) (now : Nat) (st : Store) (cs : List Cmd) (h : ∀ c ∈ cs, TxnSafe c) :
    ∀ e ∈ (execCmds cfg now st cs).2, TxnSafe e := by
  intro e he
  obtain ⟨c, hc, hs⟩ := execCmds_shape cfg now cs st e he
  exact eff_txnSafe cfg c e (h c hc) hs

/-! ### the marker command and its effects -/

/-- the marker SET as it reaches the stream: still a SET of the marker key with a value -/
structure MarkerLike (mk : Bytes) (m : Cmd) : Prop where
  name : m.name = wSet
  args : ∃ v rest, m.args = mk :: v :: rest

theorem set_opts_px (now : Nat) :
    parseSetOpts now [wPx, natToDec Gen.bisyncMarkerTTLms] {} =
      { exp := some (now + Gen.bisyncMarkerTTLms) } := by
  have h1 : Filter.upper wPx = uPX := by decide
  have h2 : decToNat? (natToDec Gen.bisyncMarkerTTLms) = some Gen.bisyncMarkerTTLms := Decimal.decToNat?_natToDec _
  rw [parseSetOpts]
  simp only [h1]
  have e1 : (uPX == uNX) = false := by decide
  have e2 : (uPX == uXX) = false := by decide
  have e3 : (uPX == uGET) = false := by decide
  have e4 : (uPX == uKEEPTTL) = false := by decide
  have e5 : (uPX == uEX || uPX == uPX || uPX == uEXAT || uPX == uPXAT) = true := by decide
  simp only [e1, e2, e3, e4, e5, Bool.false_eq_true, ↓reduceIte, h2]
  have e6 : (Gen.bisyncMarkerTTLms == 0) = false := by decide
  have e7 : (uPX == uEX) = false := by decide
  simp only [e6, Option.isSome_none, Bool.or_self, Bool.false_eq_true, ↓reduceIte, e7, BEq.rfl, parseSetOpts]

/-- executing the marker SET: an optional lazy-expiry deletion of the marker
    key, then a SET of the marker key — never nothing, never anything else -/
theorem propagate_marker (cfg : RedisCfg) (now : Nat) (st : Store) (mk mv : Bytes) :
    ∃ st' pre m, propagate cfg now st ⟨wSet, [mk, mv, wPx, natToDec Gen.bisyncMarkerTTLms]⟩ = (st', pre ++ [m]) ∧
      (pre = [] ∨ pre = [delCmd cfg mk]) ∧ MarkerLike mk m := by
  rw [propagate_eq]
  have hn : (lower (⟨wSet, [mk, mv, wPx, natToDec Gen.bisyncMarkerTTLms]⟩ : Cmd).name == wSet) = true := by
    show (lower wSet == wSet) = true; decide
  rw [if_pos hn]
  unfold propSet
  simp only [set_opts_px]
  have hpre := lazyExpire_eff cfg now st mk
  refine ⟨_, (lazyExpire cfg now st mk).2, _, rfl, hpre, ?_⟩
  split
  · exact ⟨rfl, _, _, rfl⟩
  · exact ⟨rfl, _, _, rfl⟩

theorem keyPass_head (f : Filter.KeyFilter) (hf : FOK f) (name k : Bytes) (rest : List Bytes)
    (hk : hasPrefix nsPrefix k = true)
    (h0 : ∀ idx, Filter.keyIndexes name (k :: rest) = some idx → ∀ i ∈ idx, i = 0) :
    f.filterCmdKey name (k :: rest) = some (k :: rest) :=
  hf.keyPass _ _ fun idx hidx i hi => by rw [h0 idx hidx i hi]; exact ns_not_filterReserved k hk

theorem extOf_marker (cfg : PCfg) (hf : FOK cfg.filter) (mk : Bytes) (m : Cmd) (hk : isMarkerKey mk = true)
    (h : MarkerLike mk m) : extOf cfg m = [⟨wSet, m.args⟩] := by
  obtain ⟨hn, v, rest, ha⟩ := h
  unfold extOf
  rw [hn]
  have e0 : lower wSet = wSet := by decide
  have e1 : (wSet == wPing) = false := by decide
  have e2 : Filter.eqFold wSet wPublish = false := by decide
  rw [e0, e1, hf.setCmd, e2]
  simp only [Bool.false_eq_true, ↓reduceIte, Bool.false_and]
  rw [ha, keyPass_head _ hf wSet mk (v :: rest) (markerKey_ns mk hk) fun idx hidx i hi => by
    rw [keyIndexes_generic wSet mk (v :: rest) (by decide +kernel) (by decide +kernel)] at hidx
    cases hidx
    exact List.mem_singleton.mp hi]

theorem extOf_markerDel (cfg : PCfg) (hf : FOK cfg.filter) (rcfg : RedisCfg) (mk : Bytes)
    (hk : isMarkerKey mk = true) :
    extOf cfg (delCmd rcfg mk) = [] ∨
      ∃ d, extOf cfg (delCmd rcfg mk) = [d] ∧ isMarkerExpiry d = true := by
  rcases extOf_cases cfg (delCmd rcfg mk) with h | ⟨a', hk', h⟩
  · left; exact h
  · right
    have hpass := keyPass_head _ hf (lower (delCmd rcfg mk).name) mk [] (markerKey_ns mk hk) fun idx hidx i hi =>
      Nat.lt_one_iff.mp ((Filter.keyIndexes_inRange hidx).2 i hi)
    have hk' : some [mk] = some a' := hpass.symm.trans hk'
    injection hk' with hk'
    refine ⟨_, h, ?_⟩
    rw [← hk']
    unfold isMarkerExpiry delCmd
    cases rcfg.lazyUnlink
    · have e : lower (lower wDel) = wDel := by decide
      simp [e, hk]
    · have e : lower (lower wUnlink) = wUnlink := by decide
      have e2 : (wUnlink == wDel) = false := by decide
      simp [e, e2, hk]

/-- a block of one execution holds all its effects as a MULTI/EXEC, or one of them stand-alone
    (the only one, if the execution was a transaction) -/
theorem mem_toBlocks {rcfg : RedisCfg} {isTxn : Bool} {n : Nat} {eff : List Cmd} {b : Block}
    (h : b ∈ toBlocks rcfg isTxn n eff) :
    (b = .multi eff ∧ (2 ≤ eff.length ∨ isTxn = true)) ∨ ∃ c ∈ eff, b = .single c ∧ (isTxn = true → eff = [c]) := by
  unfold toBlocks at h
  split at h
  · split at h
    · cases h
    · exact .inr ⟨_, List.mem_singleton.mpr rfl, List.mem_singleton.mp h, fun _ => rfl⟩
    · cases eff with
      | nil => simp at *
      | cons c1 r =>
        cases r with
        | nil => simp at *
        | cons c2 r => exact .inl ⟨List.mem_singleton.mp h, .inl (by simp)⟩
  · split at h
    · rename_i ht
      split at h
      · cases h
      · exact .inl ⟨List.mem_singleton.mp h, .inr ht⟩
    · rename_i ht
      obtain ⟨c, hc, rfl⟩ := List.mem_map.mp h
      exact .inr ⟨c, hc, rfl, fun h => absurd h ht⟩

/-! ### what the tool commits comes back quiet -/

/-- the commit transaction of any unit: marker SET first, every command safe -/
structure ToolTxn (mk : Bytes) (txn : List Cmd) : Prop where
  shape : ∃ mv rest, txn = ⟨wSet, [mk, mv, wPx, natToDec Gen.bisyncMarkerTTLms]⟩ :: rest ∧ ∀ c ∈ rest, TxnSafe c

theorem isMirrored_flatMap (cfg : PCfg) (hf : FOK cfg.filter) (rcfg : RedisCfg) (mk : Bytes)
    (hk : isMarkerKey mk = true) (pre : List Cmd) (m : Cmd) (tail : List Cmd)
    (hpre : pre = [] ∨ pre = [delCmd rcfg mk]) (hm : MarkerLike mk m) :
    isMirroredTxn ((pre ++ m :: tail).flatMap (extOf cfg)) = true := by
  have hmc : isMarkerCommand ⟨wSet, m.args⟩ = true := by
    obtain ⟨_, v, rest, ha⟩ := hm
    rw [isMarkerCommand, ha]
    simp [show (lower wSet == wSet) = true from by decide, hk]
  rw [List.flatMap_append, List.flatMap_cons, extOf_marker cfg hf mk m hk hm]
  have hfront : ∀ c ∈ pre.flatMap (extOf cfg), isMarkerExpiry c = true := by
    rcases hpre with rfl | rfl
    · exact fun _ h => nomatch h
    · rw [List.flatMap_singleton]
      rcases extOf_markerDel cfg hf rcfg mk hk with h2 | ⟨d, h2, h3⟩ <;> rw [h2]
      · exact fun _ h => nomatch h
      · exact List.forall_mem_singleton.mpr h3
  exact isMirroredTxn_append _ _ _ hfront hmc (markerCommand_not_expiry _ hmc)

/-- **Every block a commit leaves in the destination's stream is quiet for the
    opposite link**, whatever the store held, whatever Redis version/config
    propagated it. -/
theorem tool_blocks_quiet (cfg : PCfg) (hf : FOK cfg.filter) (rcfg : RedisCfg) (now : Nat) (st : Store)
    (mk : Bytes) (hk : isMarkerKey mk = true) (txn : List Cmd) (ht : ToolTxn mk txn) :
    ∀ b ∈ toBlocks rcfg true txn.length (execCmds rcfg now st txn).2, QuietB cfg b := by
  obtain ⟨mv, rest, htxn, hrest⟩ := ht.shape
  obtain ⟨st1, pre, m, hprop, hpre, hm⟩ := propagate_marker rcfg now st mk mv
  have heff : (execCmds rcfg now st txn).2 = pre ++ m :: (execCmds rcfg now st1 rest).2 := by
    rw [htxn, execCmds, hprop]
    simp [List.append_assoc]
  have htail : ∀ e ∈ (execCmds rcfg now st1 rest).2, TxnSafe e := execCmds_txnSafe rcfg now st1 rest hrest
  have hmsafe : TxnSafe m := txnSafe_of_name m wSet (by rw [hm.name]; decide) safe_set
  have hpresafe : ∀ e ∈ pre, TxnSafe e := by
    rcases hpre with rfl | rfl
    · exact fun _ h => nomatch h
    · exact List.forall_mem_singleton.mpr (delCmd_safe rcfg mk)
  have hallsafe : ∀ e ∈ pre ++ m :: (execCmds rcfg now st1 rest).2, TxnSafe e :=
    List.forall_mem_append.mpr ⟨hpresafe, List.forall_mem_cons.mpr ⟨hmsafe, htail⟩⟩
  have hmulti : QuietB cfg (.multi (pre ++ m :: (execCmds rcfg now st1 rest).2)) := fun pst hi =>
    (parseBlock_multi_safe cfg _ pst hi hallsafe).1
      (Or.inl (isMirrored_flatMap cfg hf rcfg mk hk pre m _ hpre hm))
  have hsingle : QuietB cfg (.single m) := by
    intro pst hi
    refine (parseBlock_single_safe cfg m pst hi hmsafe).1 (Or.inr ⟨_, _, extOf_marker cfg hf mk m hk hm, ?_⟩)
    obtain ⟨_, v, r, ha⟩ := hm
    unfold touchesNamespace
    rw [ha]
    have e1 : (lower wSet == wDel || lower wSet == wUnlink) = false := by decide
    simp only [List.isEmpty_cons, Bool.false_eq_true, ↓reduceIte, e1, List.headD_cons]
    exact ns_of_prefix mk (markerKey_ns mk hk)
  intro b hb
  rcases mem_toBlocks hb with ⟨rfl, _⟩ | ⟨c, _, rfl, hone⟩
  · exact heff ▸ hmulti
  · -- one effect only: the bare marker SET
    have h1 := heff ▸ hone rfl
    rcases hpre with rfl | rfl
    · exact (List.cons.inj h1).1 ▸ hsingle
    · cases (List.cons.inj h1).2

/-! ### foreign writes come out -/

/-- the command as the parser hands it on: lower-cased name, same arguments -/
def norm (c : Cmd) : Cmd := ⟨lower c.name, c.args⟩

/-- a command of a client (or expiry) block outside the reserved namespace, of
    a kind the parser forwards: not framing/PING/SELECT/PUBLISH, not on the
    command blacklist, no key the output filter withholds, and neither its
    first argument (any command) nor any argument (DEL/UNLINK) in the bisync /
    checkpoint namespace -/
structure Fgn (cfg : PCfg) (c : Cmd) : Prop where
  safe : TxnSafe c
  notPing : lower c.name ≠ wPing
  notPublish : Filter.eqFold (lower c.name) wPublish = false
  notBlack : cfg.filter.filterCmd (lower c.name) = false
  keys : ∀ idx, Filter.keyIndexes (lower c.name) c.args = some idx →
    ∀ i ∈ idx, ¬ FilterReserved (c.args.getD i [])
  outside : touchesNamespace (norm c) = false

theorem extOf_fgn (cfg : PCfg) (hf : FOK cfg.filter) (c : Cmd) (h : Fgn cfg c) : extOf cfg c = [norm c] := by
  unfold extOf
  rw [beq_of_ne h.notPing, h.notBlack, h.notPublish, hf.keyPass _ _ h.keys]
  rfl

theorem flatMap_extOf_fgn (cfg : PCfg) (hf : FOK cfg.filter) (cs : List Cmd) (h : ∀ c ∈ cs, Fgn cfg c) :
    cs.flatMap (extOf cfg) = cs.map norm := by
  induction cs with
  | nil => rfl
  | cons c cs ih =>
    rw [List.flatMap_cons, extOf_fgn cfg hf c (h c (by simp)), ih (fun c' hc' => h c' (List.mem_cons_of_mem _ hc'))]
    rfl

theorem head_outside (c : Cmd) (h : touchesNamespace c = false) (k : Bytes) (rest : List Bytes)
    (hargs : c.args = k :: rest) : isNamespaceKey k = false := by
  unfold touchesNamespace at h
  rw [hargs] at h
  simp only [List.isEmpty_cons, Bool.false_eq_true, ↓reduceIte, List.headD_cons, List.any_cons] at h
  split at h
  · exact (Bool.or_eq_false_iff.mp h).1
  · exact h

theorem not_marker_of_outside (c : Cmd) (h : touchesNamespace c = false) :
    isMarkerExpiry c = false ∧ isMarkerCommand c = false := by
  cases hargs : c.args with
  | nil => simp [isMarkerExpiry, isMarkerCommand, hargs]
  | cons k rest =>
    have hk : isMarkerKey k = false := by
      cases hx : isMarkerKey k with
      | false => rfl
      | true => exact absurd (ns_of_prefix k (markerKey_ns k hx)) (by simp [head_outside c h k rest hargs])
    simp [isMarkerExpiry, isMarkerCommand, hargs, hk]

theorem isMirroredTxn_fgn (cs : List Cmd) (h : ∀ c ∈ cs, touchesNamespace c = false) :
    isMirroredTxn cs = false := by
  cases cs with
  | nil => rfl
  | cons c rest =>
    have := not_marker_of_outside c (h c (by simp))
    simp [isMirroredTxn, this.1, this.2]

theorem buildUnit_cmds (m : SlotMode) (r : Resolver) (cmds : List Cmd) (u : RUnit)
    (h : buildUnit m r cmds = .ok u) : u.cmds = cmds := by
  unfold buildUnit at h
  split at h
  · cases h
  · split at h
    · cases h
    · split at h
      · cases h
      · injection h with h
        rw [← h]

/-- **A foreign block is never swallowed**: started idle, the parser either
    emits exactly one unit holding exactly the block's commands, or stops with
    the builder's error. -/
theorem foreign_block (cfg : PCfg) (hf : FOK cfg.filter) (b : Block) (hb : ∀ c ∈ b.body, Fgn cfg c)
    (hne : b.body ≠ []) (pst : PState) (hi : Idle pst) :
    (∃ pst' e, parseBlock cfg pst b = ([e], pst', none) ∧ Idle pst' ∧ pst'.seq = pst.seq + 1 ∧
      e.seq = pst.seq ∧ e.unit.cmds = b.body.map norm ∧
      buildUnit cfg.mode cfg.resolver (b.body.map norm) = .ok e.unit) ∨
    (∃ pst' e, parseBlock cfg pst b = ([], pst', some (.build e)) ∧
      buildUnit cfg.mode cfg.resolver (b.body.map norm) = .error e) := by
  -- either kind of block hands `b.body.map norm` to the unit builder
  have key : (∀ u, buildUnit cfg.mode cfg.resolver (b.body.map norm) = .ok u →
        ∃ pst' off txn, parseBlock cfg pst b = ([⟨pst.seq, pst.prevOff, off, txn, u⟩], pst', none) ∧ Idle pst' ∧
          pst'.seq = pst.seq + 1) ∧
      (∀ e, buildUnit cfg.mode cfg.resolver (b.body.map norm) = .error e →
        ∃ pst', parseBlock cfg pst b = ([], pst', some (.build e))) := by
    cases b with
    | single c =>
      have hc : Fgn cfg c := hb c (List.mem_singleton.mpr rfl)
      obtain ⟨hok, herr⟩ := (parseBlock_single_safe cfg c pst hi hc.safe).2 (norm c) [] (extOf_fgn cfg hf c hc) hc.outside
      exact ⟨fun u hu => let ⟨p, off, h⟩ := hok u hu; ⟨p, off, false, h⟩, herr⟩
    | multi cs =>
      have hflat := flatMap_extOf_fgn cfg hf cs hb
      have hmir : isMirroredTxn (cs.flatMap (extOf cfg)) = false := by
        rw [hflat]
        apply isMirroredTxn_fgn
        intro c hc
        obtain ⟨c0, hc0, rfl⟩ := List.mem_map.mp hc
        exact (hb c0 hc0).outside
      have hne' : cs.flatMap (extOf cfg) ≠ [] := hflat ▸ fun h => hne (List.map_eq_nil_iff.mp h)
      obtain ⟨hok, herr⟩ := (parseBlock_multi_safe cfg cs pst hi (fun c hc => (hb c hc).safe)).2 hmir hne'
      rw [hflat] at hok herr
      exact ⟨fun u hu => let ⟨p, off, h⟩ := hok u hu; ⟨p, off, true, h⟩, herr⟩
  cases hbu : buildUnit cfg.mode cfg.resolver (b.body.map norm) with
  | ok u =>
    obtain ⟨pst', off, txn, h1, h2, h3⟩ := key.1 u hbu
    exact .inl ⟨pst', _, h1, h2, h3, rfl, buildUnit_cmds _ _ _ u hbu, rfl⟩
  | error e =>
    obtain ⟨pst', h1⟩ := key.2 e hbu
    exact .inr ⟨pst', e, h1, rfl⟩

/-! ### bookkeeping traffic is skipped -/

/-- a stand-alone command whose first argument is its only table-resolved key -/
structure FirstKeyCmd (c : Cmd) : Prop where
  safe : TxnSafe c
  notDel : (lower (lower c.name) == wDel || lower (lower c.name) == wUnlink) = false
  idx : ∀ k rest, c.args = k :: rest → Filter.keyIndexes (lower c.name) c.args = some [0]

/-- such a command on a key of the tool's namespaces is quiet: the output
    filter withholds `redis-gunyu-checkpoint…` keys, and a
    `redis-gunyu-bisync:…` key makes it a control command -/
theorem firstKey_quiet (cfg : PCfg) (hf : FOK cfg.filter) (c : Cmd) (k : Bytes) (rest : List Bytes)
    (hc : FirstKeyCmd c) (hargs : c.args = k :: rest)
    (hk : hasPrefix nsPrefix k = true ∨ Gen.checkpointKey <+: k) : QuietB cfg (.single c) := by
  intro pst hi
  apply (parseBlock_single_safe cfg c pst hi hc.safe).1
  rcases extOf_cases cfg c with h | ⟨a', hka, h⟩
  · left; exact h
  · right
    have hidx := hc.idx k rest hargs
    rcases hk with hns | hcp
    · -- bisync namespace: passes the filter unchanged, then recognised as control
      have hpass : cfg.filter.filterCmdKey (lower c.name) c.args = some c.args := by
        rw [hargs] at hidx ⊢
        refine keyPass_head _ hf _ k rest hns fun idx hi2 i hi3 => ?_
        rw [hidx] at hi2
        cases hi2
        exact List.mem_singleton.mp hi3
      rw [hpass] at hka
      injection hka with hka
      refine ⟨_, [], h, ?_⟩
      rw [← hka]
      unfold touchesNamespace
      simp only [hargs, List.isEmpty_cons, Bool.false_eq_true, ↓reduceIte, hc.notDel, List.headD_cons]
      exact ns_of_prefix k hns
    · -- checkpoint namespace: the filter withholds the command
      have : cfg.filter.filterCmdKey (lower c.name) c.args = none := by
        apply hf.allReserved _ _ [0] hidx
        intro i hi3
        have : i = 0 := by simpa using hi3
        rw [this, hargs]
        exact Or.inl hcp
      rw [this] at hka
      cases hka

theorem firstKey_of_generic (c : Cmd) (n : Bytes) (hn : lower c.name = n)
    (hsafe : n ≠ wMulti ∧ n ≠ wExec ∧ Filter.eqFold n wSelect = false)
    (hnd : (lower n == wDel || lower n == wUnlink) = false)
    (h1 : Gen.commandKeyExtractors.lookup (lower n) = none)
    (h2 : Gen.commandKeyPositions.lookup (lower n) = some (1, 1, 1)) : FirstKeyCmd c where
  safe := txnSafe_of_name c n hn hsafe
  notDel := by rw [hn]; exact hnd
  idx := by
    intro k rest hargs
    rw [hn, hargs]
    exact keyIndexes_generic n k rest h1 h2

theorem fk_hset (args : List Bytes) : FirstKeyCmd ⟨wHset, args⟩ :=
  firstKey_of_generic _ wHset (by show lower wHset = wHset; decide) safe_hset (by decide) (by decide +kernel) (by decide +kernel)
theorem fk_hsetnx (args : List Bytes) : FirstKeyCmd ⟨wHsetnx, args⟩ :=
  firstKey_of_generic _ wHsetnx (by show lower wHsetnx = wHsetnx; decide) (by decide) (by decide) (by decide +kernel) (by decide +kernel)
theorem fk_hdel (args : List Bytes) : FirstKeyCmd ⟨wHdel, args⟩ :=
  firstKey_of_generic _ wHdel (by show lower wHdel = wHdel; decide) (by decide) (by decide) (by decide +kernel) (by decide +kernel)
theorem fk_zrem (args : List Bytes) : FirstKeyCmd ⟨wZrem, args⟩ :=
  firstKey_of_generic _ wZrem (by show lower wZrem = wZrem; decide) (by decide) (by decide) (by decide +kernel) (by decide +kernel)

/-- `DEL` / `UNLINK` of keys that all belong to the tool's namespaces is quiet -/
theorem del_quiet (cfg : PCfg) (c : Cmd)
    (hname : lower c.name = wDel ∨ lower c.name = wUnlink) (hne : c.args ≠ [])
    (hk : ∀ k ∈ c.args, hasPrefix nsPrefix k = true ∨ Gen.checkpointKey <+: k) : QuietB cfg (.single c) := by
  intro pst hi
  have hsafe : TxnSafe c := by
    rcases hname with h | h
    · exact txnSafe_of_name c wDel h safe_del
    · exact txnSafe_of_name c wUnlink h safe_unlink
  apply (parseBlock_single_safe cfg c pst hi hsafe).1
  rcases extOf_cases cfg c with h | ⟨a', hka, h⟩
  · left; exact h
  · right
    refine ⟨_, [], h, ?_⟩
    -- whatever projection the filter returns, it is a non-empty list of namespace keys or the filter
    -- returned the arguments unchanged
    have hd : (lower (lower c.name) == wDel || lower (lower c.name) == wUnlink) = true := by
      rcases hname with h | h <;> rw [h] <;> decide
    have hnsall : ∀ k ∈ c.args, isNamespaceKey k = true := fun k hkm =>
      (hk k hkm).elim (ns_of_prefix k) (ns_of_cpRooted k)
    obtain ⟨hsub, hne'⟩ := filterCmdKey_sub cfg.filter (lower c.name) c.args a' hka
    unfold touchesNamespace
    cases ha : a' with
    | nil => exact absurd ha (hne' hne)
    | cons x xs =>
      simp only [List.isEmpty_cons, Bool.false_eq_true, ↓reduceIte, hd, List.any_cons]
      rw [hnsall x (hsub x (by rw [ha]; simp))]
      rfl

/-- the checkpoint name of a bookkeeping request is one the tool generates -/
def Bookkeeping.Valid : Bookkeeping → Prop
  | .frontierSave cp _ => Gen.checkpointKey <+: cp
  | .rootSet cp _ => Gen.checkpointKey <+: cp
  | .rootHdel cp _ => Gen.checkpointKey <+: cp
  | .rootDel cp => Gen.checkpointKey <+: cp
  | .frontierDel cp => Gen.checkpointKey <+: cp
  | .nsDel cp keys => keys ≠ [] ∧ ∀ k ∈ keys, PlainNsKey cp k
  | _ => True

/-- **Stand-alone bookkeeping traffic is skipped** by the opposite link: every
    request of the tool's bookkeeping vocabulary, met in a stream by an idle
    parser, produces no unit and no error. -/
theorem bookkeeping_cmd_quiet (cfg : PCfg) (hf : FOK cfg.filter) (bk : Bookkeeping) (hv : bk.Valid) :
    QuietB cfg (.single bk.toCmd) := by
  have marker : ∀ cp tag, hasPrefix nsPrefix (Gen.markerKey cp tag) = true :=
    fun cp tag => markerKey_ns _ (markerKey_isMarker cp tag)
  have del1 : ∀ k, hasPrefix nsPrefix k = true ∨ Gen.checkpointKey <+: k → QuietB cfg (.single ⟨wDel, [k]⟩) :=
    fun k hk => del_quiet cfg _ (.inl lower_wDel) (List.cons_ne_nil _ _)
      (fun k' hk' => List.mem_singleton.mp hk' ▸ hk)
  cases bk with
  | frontierSave cp fields => exact firstKey_quiet cfg hf _ _ fields (fk_hset _) rfl (.inr (cpRooted_frontier hv))
  | journalDel cp tag seq => exact del1 _ (.inl (plainNsKey_ns cp _ ⟨tag, .inr (.inr ⟨seq, rfl⟩)⟩))
  | indexRem cp tag members =>
    exact firstKey_quiet cfg hf _ _ members (fk_zrem _) rfl (.inl (plainNsKey_ns cp _ ⟨tag, .inr (.inl rfl)⟩))
  | markerExpiry cp tag unlink =>
    cases unlink
    · exact del1 _ (.inl (marker cp tag))
    · exact del_quiet cfg _ (.inr lower_wUnlink) (List.cons_ne_nil _ _)
        (fun k' hk' => List.mem_singleton.mp hk' ▸ .inl (marker cp tag))
  | cpHashSet runId cpName nx =>
    cases nx
    · exact firstKey_quiet cfg hf _ _ [runId, cpName] (fk_hset _) rfl (.inr cpRooted_hash)
    · exact firstKey_quiet cfg hf _ _ [runId, cpName] (fk_hsetnx _) rfl (.inr cpRooted_hash)
  | cpHashDel runId => exact firstKey_quiet cfg hf _ _ [runId] (fk_hdel _) rfl (.inr cpRooted_hash)
  | rootSet cp fields => exact firstKey_quiet cfg hf _ cp fields (fk_hset _) rfl (.inr hv)
  | rootHdel cp fields => exact firstKey_quiet cfg hf _ cp fields (fk_hdel _) rfl (.inr hv)
  | latestSeed cp tag fields =>
    exact firstKey_quiet cfg hf _ _ fields (fk_hset _) rfl (.inl (plainNsKey_ns cp _ ⟨tag, .inl rfl⟩))
  | latestDel cp tag => exact del1 _ (.inl (plainNsKey_ns cp _ ⟨tag, .inl rfl⟩))
  | rootDel cp =>
    refine del_quiet cfg _ (.inl lower_wDel) (List.cons_ne_nil _ _) fun k hk => ?_
    rcases List.mem_cons.mp hk with rfl | hk
    · exact .inr hv
    · exact List.mem_singleton.mp hk ▸ .inr (cpRooted_frontier hv)
  | frontierDel cp => exact del1 _ (.inr (cpRooted_frontier hv))
  | markerDel cp tag => exact del1 _ (.inl (marker cp tag))
  | nsDel cp keys =>
    exact del_quiet cfg _ (.inl lower_wDel) hv.1 fun k hk => .inl (plainNsKey_ns cp k (hv.2 k hk))

end GunYu.Bisync
