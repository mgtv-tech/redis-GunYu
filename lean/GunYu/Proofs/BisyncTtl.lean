/-
  Helper lemmas for C13: which keys can carry an expiry.

  `TtlFrame P st st'`: every entry of `st'` that carries an expiry either
  carried the same expiry in `st` or sits at a key satisfying `P`. For
  `propagate` only the FIRST argument of SET / (P)EXPIRE(AT) / RESTORE can gain
  an expiry (`frame_propagate`); every other command leaves the expiries as
  they are or removes them. Proofs/BisyncGlobal.lean concludes from this that
  the only keys of the reserved namespace with an expiry are the markers.
-/
import GunYu.Proofs.BisyncWorld

namespace GunYu.Bisync
open GunYu GunYu.BisyncUnit

/-! ### Store.get after del / put -/

theorem get_del (st : Store) (k k' : Bytes) :
    (Store.del st k).get k' = if k' = k then none else st.get k' := by
  unfold Store.del Store.get
  induction st with
  | nil => simp [List.lookup]
  | cons p rest ih =>
    obtain ⟨k0, e0⟩ := p
    by_cases h0 : k0 = k
    · subst h0
      rw [List.filter_cons_of_neg (by simp)]
      rw [ih]
      by_cases hk : k' = k0
      · simp [hk]
      · have hb : (k' == k0) = false := by simpa using hk
        rw [if_neg hk, if_neg hk]
        simp only [List.lookup, hb]
    · rw [List.filter_cons_of_pos (by simpa using h0)]
      by_cases hk : k' = k0
      · subst hk
        simp [List.lookup, h0]
      · have hb : (k' == k0) = false := by simpa using hk
        simp only [List.lookup, hb]
        rw [ih]

theorem get_del_same (st : Store) (k : Bytes) : (Store.del st k).get k = none := by
  rw [get_del]; simp

theorem get_del_other (st : Store) (k k' : Bytes) (h : k' ≠ k) : (Store.del st k).get k' = st.get k' := by
  rw [get_del]; simp [h]

theorem get_put_same (st : Store) (k : Bytes) (e : Entry) : (Store.put st k e).get k = some e := by
  unfold Store.put Store.get
  simp [List.lookup]

theorem get_put_other (st : Store) (k k' : Bytes) (e : Entry) (h : k' ≠ k) :
    (Store.put st k e).get k' = st.get k' := by
  unfold Store.put
  have hb : (k' == k) = false := by simpa using h
  show List.lookup k' ((k, e) :: Store.del st k) = _
  simp only [List.lookup, hb]
  exact get_del_other st k k' h

/-! ### frames -/

def TtlFrame (P : Bytes → Prop) (st st' : Store) : Prop :=
  ∀ k e', st'.get k = some e' → e'.expireAt.isSome = true →
    (∃ e, st.get k = some e ∧ e.expireAt = e'.expireAt) ∨ P k

theorem TtlFrame.refl (P : Bytes → Prop) (st : Store) : TtlFrame P st st :=
  fun _ e' h _ => Or.inl ⟨e', h, rfl⟩

theorem TtlFrame.mono {P Q : Bytes → Prop} {st st' : Store} (h : TtlFrame P st st') (hpq : ∀ k, P k → Q k) :
    TtlFrame Q st st' := by
  intro k e' hg hs
  rcases h k e' hg hs with h1 | h1
  · exact Or.inl h1
  · exact Or.inr (hpq k h1)

theorem TtlFrame.trans {P : Bytes → Prop} {a b c : Store} (h1 : TtlFrame P a b) (h2 : TtlFrame P b c) :
    TtlFrame P a c := by
  intro k e' hg hs
  rcases h2 k e' hg hs with ⟨e, he, hx⟩ | hp
  · have hs' : e.expireAt.isSome = true := by rw [hx]; exact hs
    rcases h1 k e he hs' with ⟨e0, he0, hx0⟩ | hp
    · exact Or.inl ⟨e0, he0, hx0.trans hx⟩
    · exact Or.inr hp
  · exact Or.inr hp

theorem frame_del (P : Bytes → Prop) (st : Store) (k : Bytes) : TtlFrame P st (Store.del st k) := by
  intro k' e' hg _
  by_cases hk : k' = k
  · rw [hk, get_del_same] at hg; cases hg
  · rw [get_del_other _ _ _ hk] at hg
    exact Or.inl ⟨e', hg, rfl⟩

theorem frame_put (P : Bytes → Prop) (st : Store) (k : Bytes) (e : Entry)
    (h : e.expireAt.isSome = true → (∃ e0, st.get k = some e0 ∧ e0.expireAt = e.expireAt) ∨ P k) :
    TtlFrame P st (Store.put st k e) := by
  intro k' e' hg hs
  by_cases hk : k' = k
  · rw [hk, get_put_same] at hg
    injection hg with hg
    rw [hk, ← hg]
    rw [← hg] at hs
    exact h hs
  · rw [get_put_other _ _ _ _ hk] at hg
    exact Or.inl ⟨e', hg, rfl⟩

theorem lazyExpire_store (cfg : RedisCfg) (now : Nat) (st : Store) (k : Bytes) :
    (lazyExpire cfg now st k).1 = st ∨ (lazyExpire cfg now st k).1 = Store.del st k :=
  (lazyExpire_eq cfg now st k).imp (congrArg Prod.fst) (congrArg Prod.fst)

theorem frame_lazyExpire (P : Bytes → Prop) (cfg : RedisCfg) (now : Nat) (st : Store) (k : Bytes) :
    TtlFrame P st (lazyExpire cfg now st k).1 := by
  rcases lazyExpire_store cfg now st k with h | h <;> rw [h]
  · exact .refl _ _
  · exact frame_del _ _ _

/-- after the lazy-expiry lookup the entry at `k` is the old one or gone -/
theorem lazyExpire_get (cfg : RedisCfg) (now : Nat) (st : Store) (k : Bytes) (e : Entry)
    (h : (lazyExpire cfg now st k).1.get k = some e) : st.get k = some e := by
  rcases lazyExpire_store cfg now st k with h1 | h1 <;> rw [h1] at h
  · exact h
  · rw [get_del_same] at h; cases h

theorem frame_lazyExpireAll (P : Bytes → Prop) (cfg : RedisCfg) (now : Nat) (ks : List Bytes) (st : Store) :
    TtlFrame P st (lazyExpireAll cfg now st ks).1 := by
  induction ks generalizing st with
  | nil => exact .refl _ _
  | cons k ks ih =>
    simp only [lazyExpireAll]
    exact (frame_lazyExpire P cfg now st k).trans (ih _)

theorem frame_foldl_del (P : Bytes → Prop) (ks : List Bytes) (st : Store) :
    TtlFrame P st (ks.foldl Store.del st) := by
  induction ks generalizing st with
  | nil => exact .refl _ _
  | cons k ks ih =>
    simp only [List.foldl]
    exact (frame_del P st k).trans (ih _)

theorem frame_ite {P : Bytes → Prop} {st : Store} {p : Prop} [Decidable p] {a b : Store × List Cmd}
    (h1 : p → TtlFrame P st a.1) (h2 : ¬p → TtlFrame P st b.1) : TtlFrame P st (if p then a else b).1 := by
  split
  · exact h1 ‹_›
  · exact h2 ‹_›

/-! ### the command families -/

/-- "the first argument is `k`" -/
def HeadIs (c : Cmd) (k : Bytes) : Prop := c.args.head? = some k

theorem frame_propSet (cfg : RedisCfg) (now : Nat) (st : Store) (c : Cmd) :
    TtlFrame (HeadIs c) st (propSet cfg now st c).1 := by
  unfold propSet
  split
  · rename_i k v opts hargs
    have hhead : HeadIs c k := congrArg List.head? hargs
    simp only
    split
    · exact .refl _ _
    · have hpre := frame_lazyExpire (HeadIs c) cfg now st k
      split
      · exact hpre
      · split
        · exact hpre.trans (frame_put _ _ _ _ (fun _ => Or.inr hhead))
        · -- no expiry given: the new entry has one only under KEEPTTL, and then the old entry's
          refine hpre.trans (frame_put _ _ _ _ ?_)
          intro hs
          simp only at hs
          split at hs
          · cases hg : (lazyExpire cfg now st k).1.get k with
            | none => rw [hg] at hs; simp at hs
            | some e0 =>
              left
              rename_i hk
              refine ⟨e0, rfl, ?_⟩
              simp only [hk, ↓reduceIte]
              rfl
          · simp at hs
  · exact .refl _ _

theorem frame_propDel (cfg : RedisCfg) (now : Nat) (st : Store) (c : Cmd) :
    TtlFrame (fun _ => False) st (propDel cfg now st c).1 := by
  unfold propDel
  simp only
  have hpre := frame_lazyExpireAll (fun _ => False) cfg now c.args st
  split
  · exact hpre
  · exact hpre.trans (frame_foldl_del _ _ _)

theorem frame_propExpire (cfg : RedisCfg) (now : Nat) (st : Store) (n : Bytes) (c : Cmd) :
    TtlFrame (HeadIs c) st (propExpire cfg now st n c).1 := by
  unfold propExpire
  split
  · rename_i k t hargs
    have hhead : HeadIs c k := congrArg List.head? hargs
    have hpre := frame_lazyExpire (HeadIs c) cfg now st k
    split
    · exact .refl _ _
    · simp only
      split
      · exact hpre
      · exact frame_ite (fun _ => hpre.trans (frame_del _ _ _))
          fun _ => hpre.trans (frame_put _ _ _ _ (fun _ => Or.inr hhead))
  · exact .refl _ _

theorem frame_propPersist (cfg : RedisCfg) (now : Nat) (st : Store) (c : Cmd) :
    TtlFrame (fun _ => False) st (propPersist cfg now st c).1 := by
  unfold propPersist
  split
  · rename_i k hargs
    have hpre := frame_lazyExpire (fun _ => False) cfg now st k
    simp only
    split
    · split
      · exact hpre.trans (frame_put _ _ _ _ (fun hs => by simp at hs))
      · exact hpre
    · exact hpre
  · exact .refl _ _

theorem frame_touchKind (P : Bytes → Prop) (st st2 : Store) (kind : Kind) (k : Bytes) (ms : List Bytes)
    (h : touchKind st kind k ms = some st2) : TtlFrame P st st2 := by
  unfold touchKind at h
  cases hg : st.get k with
  | none =>
    rw [hg] at h
    injection h with h
    rw [← h]
    exact frame_put _ _ _ _ (fun hs => by simp at hs)
  | some e =>
    rw [hg] at h
    simp only at h
    split at h
    · cases h
    · injection h with h
      rw [← h]
      exact frame_put _ _ _ _ (fun _ => Or.inl ⟨e, hg, rfl⟩)

theorem frame_propAdd (cfg : RedisCfg) (now : Nat) (st : Store) (kind : Kind)
    (members : List Bytes → List Bytes) (c : Cmd) :
    TtlFrame (fun _ => False) st (propAdd cfg now st kind members c).1 := by
  unfold propAdd
  split
  · rename_i k rest hargs
    have hpre := frame_lazyExpire (fun _ => False) cfg now st k
    simp only
    split
    · exact hpre
    · rename_i st2 ht
      exact hpre.trans (frame_touchKind _ _ _ _ _ _ ht)
  · exact .refl _ _

theorem frame_remMembers (P : Bytes → Prop) (st : Store) (kind : Kind) (c : Cmd) (k : Bytes) (ms : List Bytes)
    (pre : List Cmd) : TtlFrame P st (remMembers st kind c k ms pre).1 := by
  unfold remMembers
  cases hg : st.get k with
  | none => exact .refl _ _
  | some e =>
    simp only
    split
    · exact .refl _ _
    · split
      · exact .refl _ _
      · split
        · exact frame_del _ _ _
        · exact frame_put _ _ _ _ (fun _ => Or.inl ⟨e, hg, rfl⟩)

theorem frame_propRem (cfg : RedisCfg) (now : Nat) (st : Store) (kind : Kind) (c : Cmd) :
    TtlFrame (fun _ => False) st (propRem cfg now st kind c).1 := by
  unfold propRem
  split
  · rename_i k ms hargs
    exact (frame_lazyExpire (fun _ => False) cfg now st k).trans (frame_remMembers _ _ _ _ _ _ _)
  · exact .refl _ _

theorem frame_propSadd (cfg : RedisCfg) (now : Nat) (st : Store) (c : Cmd) :
    TtlFrame (fun _ => False) st (propSadd cfg now st c).1 := by
  unfold propSadd
  split
  · rename_i k ms hargs
    have hpre := frame_lazyExpire (fun _ => False) cfg now st k
    simp only
    split
    · exact hpre
    · rename_i st2 ht
      exact frame_ite (fun _ => hpre.trans (frame_touchKind _ _ _ _ _ _ ht)) fun _ => hpre
  · exact .refl _ _

theorem frame_propRestore (cfg : RedisCfg) (now : Nat) (st : Store) (c : Cmd) :
    TtlFrame (HeadIs c) st (propRestore cfg now st c).1 := by
  unfold propRestore
  split
  · rename_i k t payload opts hargs
    have hhead : HeadIs c k := congrArg List.head? hargs
    have hpre := frame_lazyExpire (HeadIs c) cfg now st k
    split
    · exact .refl _ _
    · simp only
      split
      · exact hpre
      · exact hpre.trans (frame_put _ _ _ _ (fun _ => Or.inr hhead))
  · exact .refl _ _

theorem frame_propOther (cfg : RedisCfg) (now : Nat) (st : Store) (c : Cmd) :
    TtlFrame (fun _ => False) st (propOther cfg now st c).1 := by
  unfold propOther
  simp only
  have hpre := frame_lazyExpireAll (fun _ => False) cfg now ((commandKeys c.name c.args).getD []) st
  split
  · split
    · exact hpre
    · exact hpre.trans (frame_put _ _ _ _ (fun hs => by simp at hs))
  · exact hpre

/-- the command names that can give a key an expiry -/
def ttlName (n : Bytes) : Bool :=
  n == wSet || n == wExpire || n == wPexpire || n == wExpireat || n == wPexpireat || n == wRestore

/-- only the first argument of SET / (P)EXPIRE(AT) / RESTORE can gain an expiry -/
def TtlAt (c : Cmd) (k : Bytes) : Prop := ttlName (lower c.name) = true ∧ HeadIs c k

theorem frame_propagate (cfg : RedisCfg) (now : Nat) (st : Store) (c : Cmd) :
    TtlFrame (TtlAt c) st (propagate cfg now st c).1 := by
  rw [propagate_eq]
  have none_ok : ∀ st', TtlFrame (fun _ => False) st st' → TtlFrame (TtlAt c) st st' :=
    fun _ h => h.mono (fun _ hf => hf.elim)
  refine frame_ite (fun h => (frame_propSet cfg now st c).mono fun k hk => ⟨by simp [ttlName, h], hk⟩) fun _ => ?_
  refine frame_ite (fun _ => none_ok _ (frame_propDel cfg now st c)) fun _ => ?_
  refine frame_ite (fun h => (frame_propExpire cfg now st _ c).mono fun k hk => ⟨?_, hk⟩) fun _ => ?_
  · unfold ttlName
    simp only [Bool.or_eq_true] at h ⊢
    rcases h with ((h | h) | h) | h <;> simp [h]
  refine frame_ite (fun _ => none_ok _ (frame_propPersist cfg now st c)) fun _ => ?_
  refine frame_ite (fun _ => none_ok _ (frame_propAdd cfg now st _ _ c)) fun _ => ?_
  refine frame_ite (fun _ => none_ok _ (frame_propRem cfg now st _ c)) fun _ => ?_
  refine frame_ite (fun _ => none_ok _ (frame_propSadd cfg now st c)) fun _ => ?_
  refine frame_ite (fun _ => none_ok _ (frame_propRem cfg now st _ c)) fun _ => ?_
  refine frame_ite (fun _ => none_ok _ (frame_propAdd cfg now st _ _ c)) fun _ => ?_
  refine frame_ite (fun _ => none_ok _ (frame_propRem cfg now st _ c)) fun _ => ?_
  exact frame_ite (fun h => (frame_propRestore cfg now st c).mono fun k hk => ⟨by simp [ttlName, h], hk⟩)
    fun _ => none_ok _ (frame_propOther cfg now st c)

theorem frame_execCmds (cfg : RedisCfg) (now : Nat) (cs : List Cmd) (st : Store) :
    TtlFrame (fun k => ∃ c ∈ cs, TtlAt c k) st (execCmds cfg now st cs).1 := by
  induction cs generalizing st with
  | nil => exact .refl _ _
  | cons c cs ih =>
    simp only [execCmds]
    exact ((frame_propagate cfg now st c).mono (fun k hk => ⟨c, by simp, hk⟩)).trans
      ((ih _).mono (fun k ⟨c', hc', hk⟩ => ⟨c', List.mem_cons_of_mem _ hc', hk⟩))

end GunYu.Bisync
