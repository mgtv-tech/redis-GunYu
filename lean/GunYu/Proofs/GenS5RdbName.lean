/-
  The REGENERATED `store.ParseRdbFile` (pkg/store/rdb_writer.go; lean/GunYu/Gen/FnRdbName.lean,
  generator `gofn_rdbname`): the names the disk cache itself writes parse back to their offset and
  size, everything that has neither suffix is invalid. Lemmas about the prelude's `split`,
  `hasSuffix`, `parseInt` that the statements need.
-/
import GunYu.Basic.GoSemS5
import GunYu.Proofs.Decimal
import GunYu.Proofs.Rdb.Decimal
import GunYu.Gen.FnRdbName

namespace GunYu.Proofs.GenS5
open GunYu GunYu.Gen

/-- the prelude's `strconv.ParseInt(s, 10, 64)` is, word for word, the hand model used by C03 -/
theorem parseInt_eq_model (s : Bytes) : GoSem.parseInt s = Rdb.parseInt64 s := rfl

theorem parseInt_natToDec (n : Nat) (h : n < 2 ^ 63) : GoSem.parseInt (natToDec n) = some (n : Int) := by
  rw [parseInt_eq_model]
  have h1 : intToDec (n : Int) = natToDec n := by
    unfold intToDec
    have : ¬ ((n : Int) < 0) := by omega
    simp [this]
  rw [← h1]
  apply Rdb.parseInt64_intToDec
  unfold Rdb.inSigned
  constructor <;> simp <;> omega

theorem sep_prefix_cons (c : UInt8) (rest : Bytes) : ([95] : Bytes).isPrefixOf (c :: rest) = decide (c = 95) := by
  simp only [List.isPrefixOf, Bool.and_true]
  by_cases h : c = 95
  · simp [h]
  · have : ¬ (95 : UInt8) = c := fun e => h e.symm
    simp [h, this]

theorem splitAux_piece (a : Bytes) (ha : ∀ x ∈ a, x ≠ 95) (b : Bytes) :
    ∀ (fuel : Nat) (cur : Bytes), a.length < fuel →
      GoSem.splitAux [95] fuel cur (a ++ 95 :: b) = (cur.reverse ++ a) :: GoSem.splitAux [95] (fuel - a.length - 1) [] b := by
  induction a with
  | nil =>
    intro fuel cur hf
    cases fuel with
    | zero => omega
    | succ fuel =>
      simp only [List.nil_append, GoSem.splitAux, sep_prefix_cons, decide_true, ↓reduceIte, List.length_cons,
        List.length_nil, List.drop_succ_cons, List.drop_zero, List.append_nil]
      simp
  | cons c a ih =>
    intro fuel cur hf
    cases fuel with
    | zero => simp at hf
    | succ fuel =>
      have hc : c ≠ 95 := ha c (by simp)
      simp only [List.cons_append, GoSem.splitAux, sep_prefix_cons, hc, decide_false, Bool.false_eq_true, ↓reduceIte]
      rw [ih (fun x hx => ha x (by simp [hx])) fuel (c :: cur) (by simp at hf; omega)]
      simp only [List.reverse_cons, List.append_assoc, List.singleton_append, List.length_cons]
      congr 2
      omega

theorem splitAux_last (a : Bytes) (ha : ∀ x ∈ a, x ≠ 95) :
    ∀ (fuel : Nat) (cur : Bytes), a.length < fuel → GoSem.splitAux [95] fuel cur a = [cur.reverse ++ a] := by
  induction a with
  | nil =>
    intro fuel cur hf
    cases fuel with
    | zero => omega
    | succ fuel => simp [GoSem.splitAux]
  | cons c a ih =>
    intro fuel cur hf
    cases fuel with
    | zero => simp at hf
    | succ fuel =>
      have hc : c ≠ 95 := ha c (by simp)
      simp only [GoSem.splitAux, sep_prefix_cons, hc, decide_false, Bool.false_eq_true, ↓reduceIte]
      rw [ih (fun x hx => ha x (by simp [hx])) fuel (c :: cur) (by simp at hf; omega)]
      simp

theorem split_two (a b : Bytes) (ha : ∀ x ∈ a, x ≠ 95) (hb : ∀ x ∈ b, x ≠ 95) :
    GoSem.split (a ++ [95] ++ b) [95] = [a, b] := by
  unfold GoSem.split
  rw [List.append_assoc, List.singleton_append, splitAux_piece a ha b _ [] (by simp; omega)]
  rw [splitAux_last b hb _ [] (by simp; omega)]
  simp

theorem digit_ne_sep (n : Nat) : ∀ x ∈ natToDec n, x ≠ 95 := by
  intro x hx h
  have := Decimal.natToDec_all_digit n x hx
  rw [h] at this
  revert this; decide

theorem hasSuffix_false_of_last (s p : Bytes) (c d : UInt8) (hs : s.getLast? = some c) (hp : p.getLast? = some d)
    (hne : c ≠ d) : GoSem.hasSuffix s p = false := by
  cases h : GoSem.hasSuffix s p with
  | false => rfl
  | true =>
    obtain ⟨a, rfl⟩ := (GoSem.hasSuffix_iff s p).1 h
    have hpn : p ≠ [] := by intro e; rw [e] at hp; simp at hp
    rw [List.getLast?_append, hp] at hs
    have hs' : some d = some c := by simpa using hs
    exact absurd (Option.some.inj hs').symm hne

end GunYu.Proofs.GenS5
