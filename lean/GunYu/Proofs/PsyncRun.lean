/-
  One connection (`run`) ends in exactly one of three outcomes (`run_spec`: `FullSpec`, `KeepSpec`,
  `ClearSpec`), read off the rows of the decision table. What a log delivery implies (`stream_facts`),
  what the cache holds afterwards (the writer appends: `appended`, `after_holds`), and that a
  collector pass (`Collected`) keeps the cache hypotheses.
-/
import GunYu.Proofs.Psync

namespace GunYu.Psync

theorem wf_empty (be : Backend) (id : Id) : CacheWF ⟨be, id, none, none⟩ :=
  ⟨trivial, trivial, trivial, fun _ => ⟨rfl, rfl⟩⟩

theorem holds_empty (w : World) (h : Id) {c : Cache} (d : CData) (hr : c.rdb = none) (ha : c.aof = none) :
    Holds w h c d := by
  refine ⟨?_, ?_⟩
  · rw [ha]; trivial
  · rw [hr]; trivial

theorem ok_empty (w : World) (s : Source) {c : Cache} (d : CData) (hr : c.rdb = none) (ha : c.aof = none) :
    CacheOK w s c d :=
  ⟨fun _ => holds_empty w _ d hr ha, fun _ => Or.inl (holds_empty w _ d hr ha)⟩

theorem Holds.transfer {w w' : World} {a b : Id} {c : Cache} {d : CData} (hh : Holds w a c d)
    (hlog : ∀ l r, c.aof = some (l, r) → ∀ n, l ≤ n → n < r → w.hist a n = w'.hist b n)
    (htok : ∀ left size, c.rdb = some (left, size) → ∀ n, 0 ≤ n → n < left →
      w.hist d.rdbTok.1 n = w.hist a n → w'.hist d.rdbTok.1 n = w'.hist b n) : Holds w' b c d := by
  constructor
  · cases ha : c.aof with
    | none => trivial
    | some p =>
      have := hh.aof_hist; rw [ha] at this
      exact fun n h1 h2 => (this n h1 h2).trans (hlog _ _ ha n h1 h2)
  · cases hr : c.rdb with
    | none => trivial
    | some p =>
      have := hh.rdb_tok; rw [hr] at this
      exact ⟨this.1, fun n h0 hn => htok _ _ hr n h0 hn (this.2 n h0 hn)⟩

theorem relabel_wf {c : Cache} (hc : CacheWF c) {id : Id} (h1 : id ≠ []) (h2 : id ≠ qId) :
    CacheWF { c with runId := id } :=
  ⟨hc.aof_ok, hc.rdb_ok, hc.contig, fun h => by rcases h with h | h; exact absurd h h1; exact absurd h h2⟩

theorem relabel_holds {w : World} {h : Id} {c : Cache} {d : CData} (hh : Holds w h c d) (id : Id) :
    Holds w h { c with runId := id } d := ⟨hh.aof_hist, hh.rdb_tok⟩

theorem openReader_fresh_rdb (be : Backend) (id : Id) {O size : Int} (hO : 0 ≤ O) (hsz : 0 < size) :
    openReader ⟨be, id, some (O, size), none⟩ (O - size) = .rdb O size := by
  cases be <;> simp [openReader, Cache.inRange, Cache.range] <;>
    rw [if_neg (by omega), if_pos (by omega)]

/-! ### full resynchronisation -/

/-- the source's snapshot, nothing from the old cache -/
structure FullSpec (w : World) (s : Source) (c : Cache) (r : Result) : Prop where
  full : r.mt.ps.full = true
  runId : r.mt.runId = s.id1
  deleted : r.mt.deleted = true
  writer : r.writer = .rdb s.masterOff s.snapLen
  reader : r.reader = .rdb s.masterOff s.snapLen
  delivery : r.delivery = .snapshot (s.id1, s.masterOff) s.masterOff s.snapLen
  data : r.data = ⟨fun n => w.hist s.id1 n, (s.id1, s.masterOff)⟩
  locSp : r.mt.locSp = ⟨s.id1, s.masterOff⟩
  outSp : r.mt.outSp = ⟨s.id1, s.masterOff - s.snapLen⟩
  after : ∀ k, cacheAfter r.mt k =
    ⟨c.backend, s.id1, some (s.masterOff, s.snapLen), if k > 0 then some (s.masterOff, s.masterOff + k) else none⟩
  cache : r.mt.cache = ⟨c.backend, s.id1, none, none⟩

theorem run_full {w : World} {s : Source} {sp : SP} {c : Cache} {d : CData}
    (hs : SourceWF s) (hc : CacheWF c) (hf : (decision s sp c).ps.full = true) :
    FullSpec w s c (run w s sp c d) := by
  have hrow : Row s sp _ _ _ _ (decision s sp c) := decisionL_row s sp c (c.startPoint [s.id1, s.id2])
  obtain ⟨h1, h2, h3⟩ := hrow.full hf
  have hm : syncMeta s sp c =
      { loc0 := c.startPoint [s.id1, s.id2], branch := (decision s sp c).branch, ps := (decision s sp c).ps,
        clearLocal := (decision s sp c).clearLocal, runId := s.id1, deleted := true,
        locSp := ⟨s.id1, s.masterOff⟩, outSp := ⟨s.id1, s.masterOff - s.snapLen⟩, rdbSize := s.snapLen,
        cache := ⟨c.backend, s.id1, none, none⟩ } := by
    simp only [syncMeta, hf, h1, h2, h3, Bool.true_or, if_true, del_set_cleared hc hs.id1_ne hs.id1_nq]
  have hw : openWriter (syncMeta s sp c) =
      (.rdb s.masterOff s.snapLen, ⟨c.backend, s.id1, some (s.masterOff, s.snapLen), none⟩) := by
    rw [hm]; simp [openWriter, hf]
  have hr := openReader_fresh_rdb c.backend s.id1 hs.master_nonneg hs.snap_pos
  have ho : (syncMeta s sp c).outSp.offset = s.masterOff - s.snapLen := by rw [hm]
  simp only [run, hw, ho, hr]
  rw [hm]
  rw [hm] at hw
  exact ⟨hf, rfl, rfl, rfl, rfl, rfl, rfl, rfl, rfl, fun k => by simp only [cacheAfter, hw], rfl⟩

/-! ### continuation after the cache was cleared (stored position asked from the source) -/

structure ClearSpec (w : World) (s : Source) (sp : SP) (c : Cache) (r : Result) : Prop where
  full : r.mt.ps.full = false
  clear : r.mt.clearLocal = true
  deleted : r.mt.deleted = true
  runId : r.mt.runId = s.id1
  reqId : r.mt.ps.reqId = sp.runId
  wire : r.mt.ps.wireOff = sp.offset + 1
  off_nonneg : 0 ≤ sp.offset
  off_le : sp.offset ≤ s.masterOff
  sid : sp.runId = s.id1 ∨ (sp.runId = s.id2 ∧ sp.offset ≤ s.switchOff)
  locSp : r.mt.locSp = ⟨s.id1, sp.offset⟩
  outSp : r.mt.outSp = ⟨s.id1, sp.offset⟩
  writer : r.writer = .aof sp.offset
  reader : r.reader = .aof sp.offset
  delivery : r.delivery = .stream sp.offset r.data.aofByte
  data : r.data = ⟨fun n => if sp.offset ≤ n then w.hist s.id1 (sp.offset + 1 - 1 + (n - sp.offset)) else 0, ([], 0)⟩
  after : ∀ k, cacheAfter r.mt k =
    ⟨c.backend, s.id1, none, if k > 0 then some (sp.offset, sp.offset + k) else none⟩
  cache : r.mt.cache = ⟨c.backend, s.id1, none, none⟩
  backlog : s.backlog = true

theorem openReader_fresh_aof (be : Backend) (id : Id) {X : Int} (hX : 0 ≤ X) :
    openReader ⟨be, id, none, some (X, X)⟩ X = .aof X := by
  have hin : Cache.inRange ⟨be, id, none, some (X, X)⟩ X = true := by
    cases be
    · simp only [Cache.inRange, Cache.range, maxInt64]
      rw [if_neg (by omega), if_pos (by omega)]
    · simp [Cache.inRange]
  simp [openReader, hin]

theorem run_clear {w : World} {s : Source} {sp : SP} {c : Cache} {d : CData}
    (hs : SourceWF s) (hc : CacheWF c) {br : Nat} {loc0 : SP}
    (hd : decision s sp c = ⟨br, sendPSync s sp.runId sp.offset, true,
        if (sendPSync s sp.runId sp.offset).full then loc0 else ⟨(sendPSync s sp.runId sp.offset).runId, sp.offset⟩, sp.offset⟩)
    (hf : (sendPSync s sp.runId sp.offset).full = false) :
    ClearSpec w s sp c (run w s sp c d) := by
  obtain ⟨h0, hwire, hoff, hsid, hle, _, hbl⟩ := sendPSync_cont hs hf
  have hm : syncMeta s sp c =
      { loc0 := c.startPoint [s.id1, s.id2], branch := br, ps := sendPSync s sp.runId sp.offset,
        clearLocal := true, runId := s.id1, deleted := true,
        locSp := ⟨s.id1, sp.offset⟩, outSp := ⟨s.id1, sp.offset⟩, rdbSize := (sendPSync s sp.runId sp.offset).rdbSize,
        cache := ⟨c.backend, s.id1, none, none⟩ } := by
    simp only [syncMeta, hd, hf, Bool.false_or, if_true, Bool.false_eq_true, if_false,
      del_set_cleared hc hs.id1_ne hs.id1_nq]
  have hw : openWriter (syncMeta s sp c) = (.aof sp.offset, ⟨c.backend, s.id1, none, some (sp.offset, sp.offset)⟩) := by
    rw [hm]; simp [openWriter, hf]
  have hr := openReader_fresh_aof c.backend s.id1 h0
  have ho : (syncMeta s sp c).outSp.offset = sp.offset := by rw [hm]
  have hdel : (syncMeta s sp c).deleted = true := by rw [hm]
  have hwo : (syncMeta s sp c).ps.wireOff = sp.offset + 1 := by rw [hm]; exact hwire
  simp only [run, hw, ho, hr, hdel, if_true, hwo]
  rw [hm]
  rw [hm] at hw
  exact ⟨hf, rfl, rfl, rfl, sendPSync_reqId .., hwire, h0, hle, hsid, rfl, rfl, rfl, rfl, rfl, rfl,
    fun k => by simp only [cacheAfter, hw], rfl, hbl⟩

/-! ### continuation with the cache kept -/

/-- the log range after `NewAofWritter(latest)` on a kept cache -/
def keptAof (c : Cache) : Option (Int × Int) :=
  match c.aof with
  | some (l, r) => some (l, r)
  | none => some (c.latest, c.latest)

structure KeepSpec (w : World) (s : Source) (sp : SP) (c : Cache) (d : CData) (r : Result) : Prop where
  full : r.mt.ps.full = false
  clear : r.mt.clearLocal = false
  deleted : r.mt.deleted = false
  runId : r.mt.runId = s.id1
  reqId : r.mt.ps.reqId = c.runId
  wire : r.mt.ps.wireOff = c.latest + 1
  lat_nonneg : 0 ≤ c.latest
  lat_le : c.latest ≤ s.masterOff
  cid : c.runId = s.id1 ∨ (c.runId = s.id2 ∧ c.latest ≤ s.switchOff)
  locSp : r.mt.locSp = ⟨s.id1, c.latest⟩
  writer : r.writer = .aof c.latest
  data : r.data = ⟨fun n => if c.latest ≤ n then w.hist s.id1 (c.latest + 1 - 1 + (n - c.latest)) else d.aofByte n, d.rdbTok⟩
  read :
    (r.reader = .aof sp.offset ∧ r.delivery = .stream sp.offset r.data.aofByte ∧
        (sp.runId = s.id1 ∨ sp.runId = s.id2) ∧ sp.offset ≤ c.latest ∧
        (match c.aof with | some (l, _) => l ≤ sp.offset | none => c.latest ≤ sp.offset)) ∨
    (∃ left size, c.rdb = some (left, size) ∧
        (sp.isInitial = true ∨ ((sp.runId = s.id1 ∨ sp.runId = s.id2) ∧ sp.offset < left)) ∧
        r.reader = .rdb left size ∧ r.delivery = .snapshot d.rdbTok left size)
  after : ∀ k, cacheAfter r.mt k =
    { c with runId := s.id1,
             aof := match c.aof with
               | some (l, r) => some (l, r + k)
               | none => if k > 0 then some (c.latest, c.latest + k) else none }
  cache : r.mt.cache = { c with runId := s.id1 }
  backlog : s.backlog = true

theorem openReader_log {c : Cache} (hc : CacheWF c) {l r off : Int} (ha : c.aof = some (l, r)) (h1 : l ≤ off)
    (h2 : off ≤ r) : openReader c off = .aof off := by
  have hin : c.inRange off = true := (inRange_iff hc off).mpr (.inr (by simp only [aofCovers, ha]; exact ⟨h1, h2⟩))
  simp only [openReader, hin, ha, Bool.not_true, Bool.false_eq_true, if_false]
  exact if_pos ⟨h1, h2⟩

theorem openReader_snap {c : Cache} (hc : CacheWF c) {left size off : Int} (hr : c.rdb = some (left, size))
    (h : off < left ∨ (off = left ∧ c.aof = none)) : openReader c off = .rdb left size := by
  have hin : c.inRange off = true := (inRange_iff hc off).mpr (.inl (by simp only [rdbCovers, hr]; exact h))
  simp only [openReader, hin, hr, Bool.not_true, Bool.false_eq_true, if_false]
  cases ha : c.aof with
  | none => exact if_pos (by omega)
  | some p =>
    have := hc.left_le_log hr ha
    have : off < left := by rcases h with h | ⟨_, e⟩; exact h; rw [ha] at e; cases e
    simp only
    rw [if_neg (by omega), if_pos (by omega)]

theorem inRange_cases {c : Cache} (hc : CacheWF c) {off : Int} (hv : c.inRange off = true) :
    (∃ left size, c.rdb = some (left, size) ∧ (off < left ∨ (off = left ∧ c.aof = none))) ∨
      ∃ l r, c.aof = some (l, r) ∧ l ≤ off ∧ off ≤ r := by
  rcases (inRange_iff hc off).mp hv with h | h
  · left
    unfold rdbCovers at h
    cases hr : c.rdb with
    | none => rw [hr] at h; exact h.elim
    | some q => rw [hr] at h; exact ⟨_, _, rfl, h⟩
  · right
    unfold aofCovers at h
    cases ha : c.aof with
    | none => rw [ha] at h; exact h.elim
    | some p => rw [ha] at h; exact ⟨_, _, rfl, h⟩

theorem kept_wf {c : Cache} (hc : CacheWF c) (hl : 0 ≤ c.latest) {id : Id} (h1 : id ≠ []) (h2 : id ≠ qId) :
    CacheWF { c with runId := id, aof := keptAof c } := by
  obtain ⟨be, rid, rdb, aof⟩ := c
  have hlab : ∀ {p : Prop}, (id = [] ∨ id = qId) → p := fun x => absurd x (not_or.mpr ⟨h1, h2⟩)
  rcases aof with _ | ⟨l, r⟩
  · -- no log yet: it is opened at the snapshot's offset
    rcases rdb with _ | ⟨left, size⟩
    · exact absurd hl (by show ¬(0 : Int) ≤ -1; decide)
    · have hb := hc.rdb_bounds rfl
      refine ⟨⟨hb.1, Int.le_refl _, hb.2.2⟩, hc.rdb_ok, ?_, hlab⟩
      show if be = .disk then left = left else left ≤ left
      split
      · rfl
      · exact Int.le_refl _
  · exact ⟨hc.aof_ok, hc.rdb_ok, hc.contig, hlab⟩

/-- reader on a kept cache at an offset the cache reported valid -/
theorem openReader_keep_valid {c : Cache} (hc : CacheWF c) {off : Int} (hv : c.inRange off = true)
    {id : Id} (h1 : id ≠ []) (h2 : id ≠ qId) (hl : 0 ≤ c.latest) :
    (openReader { c with runId := id, aof := keptAof c } off = .aof off ∧ off ≤ c.latest ∧
        (match c.aof with | some (l, _) => l ≤ off | none => c.latest ≤ off)) ∨
    (∃ left size, c.rdb = some (left, size) ∧ off < left ∧
        openReader { c with runId := id, aof := keptAof c } off = .rdb left size) := by
  have hk := kept_wf hc hl h1 h2
  rcases inRange_cases hc hv with ⟨left, size, hr, h | ⟨h, ha⟩⟩ | ⟨l, r, ha, h⟩
  · exact .inr ⟨left, size, hr, h, openReader_snap hk hr (.inl h)⟩
  · -- the snapshot's own offset with no log yet: the log just opened there serves it
    have hlat := latest_rdb ha hr
    have hka : keptAof c = some (c.latest, c.latest) := by simp only [keptAof, ha]
    refine .inl ⟨openReader_log hk hka (by omega) (by omega), by omega, ?_⟩
    rw [ha]; exact Int.le_of_eq (hlat.trans h.symm)
  · have hka : keptAof c = some (l, r) := by simp only [keptAof, ha]
    refine .inl ⟨openReader_log hk hka h.1 h.2, by rw [latest_aof ha]; exact h.2, ?_⟩
    rw [ha]; exact h.1

theorem openReader_keep_rdb {c : Cache} (hc : CacheWF c) {left size : Int} (hr : c.rdb = some (left, size))
    {id : Id} (h1 : id ≠ []) (h2 : id ≠ qId) (hl : 0 ≤ c.latest) :
    openReader { c with runId := id, aof := keptAof c } (left - size) = .rdb left size :=
  openReader_snap (kept_wf hc hl h1 h2) hr (.inl (by have := hc.rdb_bounds hr; omega))

theorem run_keep {w : World} {s : Source} {sp : SP} {c : Cache} {d : CData}
    (hs : SourceWF s) {br : Nat} {ps : PsyncRes} {outOff : Int}
    (hd : decision s sp c = ⟨br, ps, false, ⟨c.runId, c.latest⟩, outOff⟩)
    (hps : ps = sendPSync s c.runId c.latest ∨ ∃ x, ps = { sendPSync s c.runId c.latest with rdbSize := x })
    (hcont : (sendPSync s c.runId c.latest).full = false)
    (hcid : c.runId = s.id1 ∨ c.runId = s.id2)
    (hrd : 0 ≤ c.latest →
      (openReader { c with runId := s.id1, aof := keptAof c } outOff = .aof sp.offset ∧
        (sp.runId = s.id1 ∨ sp.runId = s.id2) ∧ sp.offset ≤ c.latest ∧
        (match c.aof with | some (l, _) => l ≤ sp.offset | none => c.latest ≤ sp.offset)) ∨
      (∃ left size, c.rdb = some (left, size) ∧
        (sp.isInitial = true ∨ ((sp.runId = s.id1 ∨ sp.runId = s.id2) ∧ sp.offset < left)) ∧
        openReader { c with runId := s.id1, aof := keptAof c } outOff = .rdb left size)) :
    KeepSpec w s sp c d (run w s sp c d) := by
  obtain ⟨h0, hwire, _, hsid, hle, _, hbl⟩ := sendPSync_cont hs hcont
  have hpf : ps.full = false := by rcases hps with e | ⟨x, e⟩ <;> rw [e] <;> exact hcont
  have hpw : ps.wireOff = c.latest + 1 := by rcases hps with e | ⟨x, e⟩ <;> rw [e] <;> exact hwire
  have hpr : ps.reqId = c.runId := by rcases hps with e | ⟨x, e⟩ <;> rw [e] <;> exact sendPSync_reqId ..
  have hm : syncMeta s sp c =
      { loc0 := c.startPoint [s.id1, s.id2], branch := br, ps := ps,
        clearLocal := false, runId := s.id1, deleted := false,
        locSp := ⟨s.id1, c.latest⟩, outSp := ⟨s.id1, outOff⟩, rdbSize := ps.rdbSize,
        cache := { c with runId := s.id1 } } := by
    simp only [syncMeta, hd, hpf, Bool.false_or, Bool.false_eq_true, if_false,
      set_keep (served_real hs hcid).1 hs.id1_ne hs.id1_nq]
  have hw : openWriter (syncMeta s sp c) = (.aof c.latest, { c with runId := s.id1, aof := keptAof c }) := by
    rw [hm]
    simp only [openWriter, hpf, Bool.false_eq_true, if_false]
    cases ha : c.aof with
    | none => simp [keptAof, ha]
    | some p => obtain ⟨l, r⟩ := p; simp [keptAof, ha, latest_aof ha]
  have ho : (syncMeta s sp c).outSp.offset = outOff := by rw [hm]
  have hdel : (syncMeta s sp c).deleted = false := by rw [hm]
  have hwo : (syncMeta s sp c).ps.wireOff = c.latest + 1 := by rw [hm]; exact hpw
  simp only [run, hw, ho, hdel, Bool.false_eq_true, if_false, hwo]
  rw [hm]
  rw [hm] at hw
  refine ⟨hpf, rfl, rfl, rfl, hpr, hpw, h0, hle, hsid, rfl, rfl, rfl, ?_, fun k => ?_, rfl, hbl⟩
  · rcases hrd h0 with ⟨e, a⟩ | ⟨left, size, hr, b, e⟩ <;> rw [e]
    · exact .inl ⟨rfl, rfl, a⟩
    · exact .inr ⟨left, size, hr, b, rfl, rfl⟩
  · simp only [cacheAfter, hw]
    cases ha : c.aof with
    | none => simp
    | some p => obtain ⟨l, r⟩ := p; simp

theorem run_spec (w : World) {s : Source} (sp : SP) {c : Cache} (d : CData)
    (hs : SourceWF s) (hc : CacheWF c) :
    FullSpec w s c (run w s sp c d) ∨ KeepSpec w s sp c d (run w s sp c d) ∨
      ClearSpec w s sp c (run w s sp c d) := by
  by_cases hf : (decision s sp c).ps.full = true
  · exact Or.inl (run_full hs hc hf)
  · have hrow : Row s sp _ _ _ _ (decision s sp c) := decisionL_row s sp c (c.startPoint [s.id1, s.id2])
    generalize hdc : decision s sp c = dc at hrow hf
    -- a start point under a served id is the cache's own `(runId, latest)`
    cases hrow with
    | keep hout hL hv =>
      obtain ⟨hsp, hcid⟩ := startPoint_in hs c (contains_ids.mpr hL)
      rw [hsp] at hv hdc hf
      rw [isValid_own (served_real hs hcid).2] at hv
      refine .inr (.inl (run_keep hs hdc (.inl rfl) (by simpa using hf) hcid fun h0 => ?_))
      rcases openReader_keep_valid hc hv hs.id1_ne hs.id1_nq h0 with ⟨h1, h2, h3⟩ | ⟨left, size, e, hlt, h⟩
      · exact .inl ⟨h1, hout, h2, h3⟩
      · exact .inr ⟨left, size, e, .inr ⟨hout, hlt⟩, h⟩
    | clear br hout _ =>
      exact .inr (.inr (run_clear hs hc hdc (by simpa using hf)))
    | snapFull _ _ _ hfull => exact absurd hfull hf
    | snap hL hini hr hcont =>
      obtain ⟨hsp, hcid⟩ := startPoint_in hs c (contains_ids.mpr hL)
      rw [hsp] at hr hcont hdc
      have hrdb := getRdb_some hr.1
      rw [range_own hc hr.1] at hdc
      exact .inr (.inl (run_keep hs hdc (.inr ⟨_, rfl⟩) hcont hcid fun h0 =>
        .inr ⟨_, _, hrdb, .inl hini, openReader_keep_rdb hc hrdb hs.id1_ne hs.id1_nq h0⟩))
    | fresh br _ =>
      exact absurd (qId_not_admitted hs (-1)) hf

theorem run_mt (w : World) (s : Source) (sp : SP) (c : Cache) (d : CData) :
    (run w s sp c d).mt = syncMeta s sp c := by
  simp only [run]
  split <;> rfl

theorem run_runId (w : World) (s : Source) (sp : SP) (c : Cache) (d : CData) : (run w s sp c d).mt.runId = s.id1 := by
  rw [run_mt]
  exact (decisionL_row s sp c (c.startPoint [s.id1, s.id2])).runId

theorem ok_of_cur {w : World} {s : Source} {c : Cache} {d : CData} (h : Holds w s.id1 c d) : CacheOK w s c d :=
  ⟨fun _ => h, fun _ => Or.inr h⟩

/-- a cache whose label the source accepted for a continuation (`cid`: the current id,
    or the previous id up to the switch offset) holds the current history -/
theorem keep_holds {w : World} {s : Source} {sp : SP} {c : Cache} {d : CData} {r : Result}
    (hc : CacheWF c) (hok : CacheOK w s c d) (hag : Agree w s) (hK : KeepSpec w s sp c d r) : Holds w s.id1 c d := by
  rcases hK.cid with e | ⟨e, hle⟩
  · exact hok.cur e
  · -- under the previous id, short of the switch offset: the two histories agree on all it holds
    refine (hok.prev e).elim (fun h2 => ?_) id
    refine h2.transfer (fun l r ha n h1 h2 => hag n ?_ ?_) (fun left size hr n h0 hn e => e.trans (hag n h0 ?_))
    · have := hc.aof_bounds ha; omega
    · rw [latest_aof ha] at hle; omega
    · have := hc.left_le_latest hr; omega

/-- a kept cache that holds nothing under the current id yet was asked for under the previous id:
    the source has checked its end against the switch offset -/
theorem KeepSpec.switch {w : World} {s : Source} {sp : SP} {c : Cache} {d : CData} {r : Result}
    (hK : KeepSpec w s sp c d r) (hn : NotYetCurrent s c) : c.latest ≤ s.switchOff := by
  rcases hK.cid with e | ⟨_, h⟩
  · rcases hn with hn | ⟨hr, ha⟩
    · exact absurd e hn
    · have := hK.lat_nonneg; rw [latest_none ha hr] at this; omega
  · exact h

/-- what a log delivery implies, whatever label the stored position carries; the last clause: if
    neither the stored position nor the cache is labelled with the current id, the source has checked
    the offset against its switch offset -/
theorem stream_facts {w : World} {s : Source} {sp : SP} {c : Cache} {d : CData}
    (hs : SourceWF s) (hc : CacheWF c) (hh : KeepSpec w s sp c d (run w s sp c d) → Holds w s.id1 c d)
    {start : Int} {byte : Int → UInt8} (h : (run w s sp c d).delivery = .stream start byte) :
    start = sp.offset ∧ 0 ≤ sp.offset ∧ (run w s sp c d).mt.ps.full = false ∧
    (sp.runId = s.id1 ∨ sp.runId = s.id2) ∧
    (∀ n, sp.offset ≤ n → byte n = w.hist s.id1 n) ∧
    (sp.runId ≠ s.id1 → NotYetCurrent s c → sp.offset ≤ s.switchOff) := by
  rcases run_spec w sp d hs hc with hF | hK | hC
  · rw [hF.delivery] at h; cases h
  · rcases hK.read with ⟨_, hdel, hout, hle, hlow⟩ | ⟨_, _, _, _, _, hdel⟩ <;> rw [hdel] at h <;> cases h
    -- below `latest` the log read is the cache's, from there on the source's
    have key : 0 ≤ sp.offset ∧ ∀ n, sp.offset ≤ n → n < c.latest → d.aofByte n = w.hist s.id1 n := by
      cases ha : c.aof with
      | none => rw [ha] at hlow; exact ⟨by have := hK.lat_nonneg; omega, fun n h1 h2 => by omega⟩
      | some p =>
        rw [ha] at hlow
        have hb := hc.aof_bounds ha
        have h1 := (hh hK).aof_hist; rw [ha] at h1
        exact ⟨by omega, fun n hn1 hn2 => h1 n (by omega) (by rw [latest_aof ha] at hn2; exact hn2)⟩
    refine ⟨rfl, key.1, hK.full, hout, fun n hn => ?_, fun _ hc1 => ?_⟩
    · rw [hK.data]
      show (if c.latest ≤ n then _ else _) = _
      split
      · congr 1; omega
      · exact key.2 n hn (by omega)
    · have := hK.switch hc1; omega
  · rw [hC.delivery] at h
    cases h
    refine ⟨rfl, hC.off_nonneg, hC.full, hC.sid.imp id And.left, fun n hn => ?_, fun h1 _ => (hC.sid.resolve_left h1).2⟩
    rw [hC.data]
    simp only
    rw [if_pos hn]; congr 1; omega

/-- what a log delivery implies by the decision alone: nothing is assumed of the cached bytes -/
theorem stream_start {w : World} {s : Source} {sp : SP} {c : Cache} {d : CData} (hs : SourceWF s) (hc : CacheWF c)
    {start : Int} {byte : Int → UInt8} (h : (run w s sp c d).delivery = .stream start byte) :
    start = sp.offset ∧ start ≤ s.masterOff ∧ s.backlog = true := by
  rcases run_spec w sp d hs hc with hF | hK | hC
  · rw [hF.delivery] at h; cases h
  · rcases hK.read with ⟨_, hdel, _, hle, _⟩ | ⟨_, _, _, _, _, hdel⟩ <;> rw [hdel] at h <;> cases h
    exact ⟨rfl, by have := hK.lat_le; omega, hK.backlog⟩
  · rw [hC.delivery] at h; cases h
    exact ⟨rfl, hC.off_le, hC.backlog⟩

/-! ### what the cache holds after the connection -/

/-- the writer appends `k` bytes of `h` at `e`: the end of the log held, or where a log is opened
    (the snapshot's offset, if one is held) -/
theorem appended {w : World} {h : Id} {c : Cache} {d : CData} (hc : CacheWF c) (hh : Holds w h c d)
    (hid : c.runId ≠ [] ∧ c.runId ≠ qId)
    {e k : Int} (he : e = c.latest ∨ (c.rdb = none ∧ c.aof = none)) (h0 : 0 ≤ e) (hk : 0 ≤ k) (hm : e + k ≤ maxInt64)
    {byte : Int → UInt8} (hlo : ∀ n, n < e → byte n = d.aofByte n) (hhi : ∀ n, e ≤ n → byte n = w.hist h n) :
    let c' : Cache := { c with aof := match c.aof with
      | some (l, r) => some (l, r + k)
      | none => if k > 0 then some (e, e + k) else none }
    CacheWF c' ∧ Holds w h c' ⟨byte, d.rdbTok⟩ := by
  have hlab : ∀ {p : Prop}, (c.runId = [] ∨ c.runId = qId) → p := fun x => absurd x (not_or.mpr hid)
  cases ha : c.aof with
  | some p =>
    obtain ⟨l, r⟩ := p
    have hb := hc.aof_bounds ha
    have hr : e = r := by rcases he with x | x; rw [x, latest_aof ha]; rw [ha] at x; cases x.2
    refine ⟨⟨⟨hb.1, by omega, by omega⟩, hc.rdb_ok, ?_, hlab⟩, ?_, hh.rdb_tok⟩
    · cases hr : c.rdb with
      | none => trivial
      | some q => have := hc.contig; rw [ha, hr] at this; exact this
    · intro n h1 h2
      by_cases hn : n < e
      · exact (hlo n hn).trans (by have := hh.aof_hist; rw [ha] at this; exact this n h1 (by omega))
      · exact hhi n (by omega)
  | none =>
    by_cases hk0 : k > 0
    · simp only [hk0, if_true]
      refine ⟨⟨⟨h0, by omega, hm⟩, hc.rdb_ok, ?_, hlab⟩, fun n h1 _ => hhi n h1, hh.rdb_tok⟩
      cases hr : c.rdb with
      | none => trivial
      | some q =>
        obtain ⟨left, size⟩ := q
        have : e = left := by rcases he with x | x; rw [x, latest_rdb ha hr]; rw [hr] at x; cases x.1
        subst this
        show if c.backend = .disk then e = e else e ≤ e
        split
        · rfl
        · exact Int.le_refl _
    · simp only [hk0, if_false]
      refine ⟨⟨trivial, hc.rdb_ok, ?_, hlab⟩, trivial, hh.rdb_tok⟩
      have := hc.contig; rw [ha] at this; exact this

/-- `syncMeta`'s cache (after `DelRunId` / `SetRunId`) and the bytes it describes -/
theorem meta_holds {w : World} {s : Source} {sp : SP} {c : Cache} {d : CData}
    (hs : SourceWF s) (hc : CacheWF c) (hh : KeepSpec w s sp c d (run w s sp c d) → Holds w s.id1 c d) :
    CacheWF (run w s sp c d).mt.cache ∧
      Holds w s.id1 (run w s sp c d).mt.cache (if (run w s sp c d).mt.deleted then CData.empty else d) ∧
      (run w s sp c d).mt.cache.runId = s.id1 := by
  rcases run_spec w sp d hs hc with hF | hK | hC
  · rw [hF.cache]; exact ⟨wf_empty _ _, holds_empty w _ _ rfl rfl, rfl⟩
  · rw [hK.cache, hK.deleted]
    exact ⟨relabel_wf hc hs.id1_ne hs.id1_nq, relabel_holds (hh hK) _, rfl⟩
  · rw [hC.cache]; exact ⟨wf_empty _ _, holds_empty w _ _ rfl rfl, rfl⟩

theorem cacheAfter_rdb {m : Meta} (hnf : m.ps.full = false) (k : Int) : (cacheAfter m k).rdb = m.cache.rdb := by
  simp only [cacheAfter, openWriter, hnf, Bool.false_eq_true, if_false]
  cases m.cache.aof with
  | none => rfl
  | some p => by_cases e : m.locSp.offset = p.2 <;> simp only [e, ↓reduceIte]

theorem fresh_holds (w : World) {s : Source} (hs : SourceWF s) (be : Backend) {k : Int} (hk : 0 ≤ k)
    (hb : s.masterOff + k ≤ maxInt64) :
    let c' : Cache := ⟨be, s.id1, some (s.masterOff, s.snapLen), if k > 0 then some (s.masterOff, s.masterOff + k) else none⟩
    CacheWF c' ∧ Holds w s.id1 c' ⟨fun n => w.hist s.id1 n, (s.id1, s.masterOff)⟩ := by
  have hid : s.id1 ≠ [] ∧ s.id1 ≠ qId := ⟨hs.id1_ne, hs.id1_nq⟩
  have hm := hs.master_nonneg
  exact appended (w := w) (h := s.id1) (c := ⟨be, s.id1, some (s.masterOff, s.snapLen), none⟩)
    (d := ⟨fun n => w.hist s.id1 n, (s.id1, s.masterOff)⟩)
    ⟨trivial, ⟨hm, hs.snap_pos, by omega⟩, trivial, fun x => absurd x (not_or.mpr hid)⟩
    ⟨trivial, rfl, fun _ _ _ => rfl⟩ hid (.inl rfl) hm hk hb (fun _ _ => rfl) (fun _ _ => rfl)

theorem after_holds {w : World} {s : Source} {sp : SP} {c : Cache} {d : CData}
    (hs : SourceWF s) (hc : CacheWF c) (hh : KeepSpec w s sp c d (run w s sp c d) → Holds w s.id1 c d)
    {k : Int} (hk : 0 ≤ k) (hb : s.masterOff + k ≤ maxInt64) :
    CacheWF (cacheAfter (run w s sp c d).mt k) ∧
      Holds w s.id1 (cacheAfter (run w s sp c d).mt k) (run w s sp c d).data ∧
      (cacheAfter (run w s sp c d).mt k).runId = s.id1 := by
  have hid : s.id1 ≠ [] ∧ s.id1 ≠ qId := ⟨hs.id1_ne, hs.id1_nq⟩
  rcases run_spec w sp d hs hc with hF | hK | hC
  · rw [hF.after k, hF.data]
    exact ⟨(fresh_holds w hs c.backend hk hb).1, (fresh_holds w hs c.backend hk hb).2, rfl⟩
  · have hl := hK.lat_le
    rw [hK.after k, hK.data]
    have := appended (relabel_wf hc hid.1 hid.2) (relabel_holds (hh hK) s.id1) hid (e := c.latest) (.inl rfl)
      hK.lat_nonneg hk (by omega)
      (byte := fun n => if c.latest ≤ n then w.hist s.id1 (c.latest + 1 - 1 + (n - c.latest)) else d.aofByte n)
      (fun n hn => if_neg (by omega)) (fun n hn => (if_pos hn).trans (by congr 1; omega))
    exact ⟨this.1, this.2, rfl⟩
  · have hl := hC.off_le
    rw [hC.after k, hC.data]
    have := appended (w := w) (wf_empty c.backend s.id1) (holds_empty w s.id1 CData.empty rfl rfl) hid
      (e := sp.offset) (.inr ⟨rfl, rfl⟩) hC.off_nonneg hk (by omega)
      (byte := fun n => if sp.offset ≤ n then w.hist s.id1 (sp.offset + 1 - 1 + (n - sp.offset)) else 0)
      (fun n hn => if_neg (by omega)) (fun n hn => (if_pos hn).trans (by congr 1; omega))
    exact ⟨this.1, this.2, rfl⟩

/-! ### the collector keeps the cache hypotheses -/

theorem Collected.rdb_of {c c' : Cache} (h : Collected c c') {p : Int × Int} (hp : c'.rdb = some p) :
    c.rdb = some p := by
  rcases h.rdb with e | e
  · rw [← e]; exact hp
  · rw [e] at hp; cases hp

theorem Collected.aof_of {c c' : Cache} (h : Collected c c') {l' r' : Int} (hp : c'.aof = some (l', r')) :
    ∃ l, c.aof = some (l, r') ∧ l ≤ l' ∧ l' ≤ r' := by
  have ha := h.aof
  cases hc : c.aof with
  | none => rw [hc] at ha; rw [ha] at hp; cases hp
  | some q =>
    rw [hc] at ha
    rcases ha with e | ⟨l2, e, h1, h2⟩ <;> rw [e] at hp <;> cases hp
    exact ⟨q.1, rfl, h1, h2⟩

theorem Collected.empty {c c' : Cache} (h : Collected c c') (hr : c.rdb = none) (ha : c.aof = none) :
    c'.rdb = none ∧ c'.aof = none := by
  have h1 := h.rdb
  have h2 := h.aof
  rw [hr] at h1
  rw [ha] at h2
  exact ⟨h1.elim id id, h2⟩

theorem collected_wf {c c' : Cache} (hc : CacheWF c) (h : Collected c c') : CacheWF c' := by
  refine ⟨?_, ?_, ?_, fun hl => ?_⟩
  · cases ha : c'.aof with
    | none => trivial
    | some p =>
      obtain ⟨l, e, h1, h2⟩ := h.aof_of ha
      have := hc.aof_bounds e
      exact ⟨by omega, h2, this.2.2⟩
  · cases hr : c'.rdb with
    | none => trivial
    | some p => exact hc.rdb_bounds (h.rdb_of hr)
  · cases hr : c'.rdb with
    | none => trivial
    | some p =>
      cases ha : c'.aof with
      | none => trivial
      | some q =>
        obtain ⟨left, size⟩ := p
        obtain ⟨l', r'⟩ := q
        obtain ⟨l, e, h1, _⟩ := h.aof_of ha
        have hle := hc.left_le_log (h.rdb_of hr) e
        show if c'.backend = .disk then l' = left else left ≤ l'
        split
        · -- disk: a changed log range means the snapshot is gone
          rename_i hd
          rw [h.backend] at hd
          have hsame : c'.aof = c.aof := Decidable.byContradiction fun hne => by
            have := h.diskOrder hd hne; rw [hr] at this; cases this
          rw [ha, e] at hsame; cases hsame
          have := hc.contig; rw [h.rdb_of hr, e] at this
          simpa only [hd, if_true] using this
        · omega
  · rw [h.runId] at hl
    exact h.empty (hc.label hl).1 (hc.label hl).2

theorem collected_holds {w : World} {hid : Id} {c c' : Cache} {d : CData} (hok : Holds w hid c d)
    (h : Collected c c') : Holds w hid c' d := by
  constructor
  · cases ha : c'.aof with
    | none => trivial
    | some p =>
      obtain ⟨l, e, h1, _⟩ := h.aof_of ha
      have := hok.aof_hist; rw [e] at this
      exact fun n hn1 hn2 => this n (by omega) hn2
  · cases hr : c'.rdb with
    | none => trivial
    | some p => have := hok.rdb_tok; rw [h.rdb_of hr] at this; exact this

theorem collected_ok {w : World} {s : Source} {c c' : Cache} {d : CData} (hok : CacheOK w s c d)
    (h : Collected c c') : CacheOK w s c' d :=
  ⟨fun e => collected_holds (hok.cur (by rw [← h.runId]; exact e)) h,
   fun e => (hok.prev (by rw [← h.runId]; exact e)).imp (fun x => collected_holds x h) (fun x => collected_holds x h)⟩

theorem collected_notYetCurrent {s : Source} {c c' : Cache} (h : Collected c c')
    (hn : NotYetCurrent s c) : NotYetCurrent s c' :=
  hn.imp (fun hn => by rw [h.runId]; exact hn) fun ⟨hr, ha⟩ => h.empty hr ha

end GunYu.Psync
