/-
  C02 restart composition at the parser / specification level: cutting the
  source stream at the end offset of any command the parser handed over with its
  own offset, and resuming there with a FRESH parser that first re-selects the
  database the connection was in at the cut, executes exactly the rest of the
  one-pass specification `specStream`.
-/
import GunYu.Proofs.EndToEnd

namespace GunYu.Sender
open GunYu GunYu.Target

/-- parser state after a list of decoded commands (stops at a failure) -/
def parseState (c : PCfg) : PState → List Raw → PState
  | s, [] => s
  | s, r :: rest =>
    match parseStep c s r with
    | (s', .fail) => s'
    | (s', .skip) => parseState c s' rest
    | (s', .emit _) => parseState c s' rest

/-- the parser stops with an error somewhere in the list (malformed SELECT) -/
def parseFails (c : PCfg) : PState → List Raw → Bool
  | _, [] => false
  | s, r :: rest =>
    match parseStep c s r with
    | (_, .fail) => true
    | (s', .skip) => parseFails c s' rest
    | (s', .emit _) => parseFails c s' rest

theorem parse_append (c : PCfg) (s : PState) (x y : List Raw) :
    parseFails c s (x ++ y) = (parseFails c s x || parseFails c (parseState c s x) y) ∧
    (parseFails c s x = false →
      parseAll c s (x ++ y) = parseAll c s x ++ parseAll c (parseState c s x) y ∧
      parseState c s (x ++ y) = parseState c (parseState c s x) y) := by
  induction x generalizing s with
  | nil => exact ⟨rfl, fun _ => ⟨rfl, rfl⟩⟩
  | cons r rest ih =>
    simp only [List.cons_append, parseAll, parseState, parseFails]
    rcases parseStep c s r with ⟨s', _ | i | _⟩
    · exact ih s'
    · exact ⟨(ih s').1, fun h => ⟨congrArg (i :: ·) ((ih s').2 h).1, ((ih s').2 h).2⟩⟩
    · exact ⟨rfl, nofun⟩

theorem parseAll_append (c : PCfg) (s : PState) (x y : List Raw) (h : parseFails c s x = false) :
    parseAll c s (x ++ y) = parseAll c s x ++ parseAll c (parseState c s x) y :=
  ((parse_append c s x y).2 h).1

theorem parseState_append (c : PCfg) (s : PState) (x y : List Raw) (h : parseFails c s x = false) :
    parseState c s (x ++ y) = parseState c (parseState c s x) y :=
  ((parse_append c s x y).2 h).2

theorem parseFails_append_left (c : PCfg) (s : PState) (x y : List Raw)
    (h : parseFails c s (x ++ y) = false) : parseFails c s x = false := by
  rw [(parse_append c s x y).1, Bool.or_eq_false_iff] at h
  exact h.1

/-- `parseStep_inv` for a whole list: after any number of commands the parser's database
    is the one the connection is in after executing everything handed over -/
theorem parseAll_inv (c : PCfg) (raws : List Raw) (s : PState) (cur : Int)
    (hinv : s.currentDB = cur ∨ s.currentDB = -1)
    (hsel : ∀ r ∈ raws, r.cmd = bSelect → ∀ a n, r.args = [a] → atoi? a = some n → 0 ≤ n) :
    (parseState c s raws).currentDB = (seqApplied cur (itemCmds (parseAll c s raws))).1 ∨
    (parseState c s raws).currentDB = -1 := by
  induction raws generalizing s cur with
  | nil => simpa [parseState, parseAll, itemCmds, seqApplied] using hinv
  | cons r rest ih =>
    have hsel' : ∀ r' ∈ rest, r'.cmd = bSelect → ∀ a n, r'.args = [a] → atoi? a = some n → 0 ≤ n :=
      fun r' hr' => hsel r' (List.mem_cons_of_mem _ hr')
    have hstep := parseStep_inv c s r cur hinv (hsel r (List.mem_cons_self ..))
    simp only [parseState, parseAll]
    cases hps : parseStep c s r with
    | mk s' o =>
      rw [hps] at hstep
      cases o with
      | fail => simpa [itemCmds, seqApplied, connAfter] using hstep
      | skip => simp only [connAfter] at hstep ⊢; exact ih s' cur hstep hsel'
      | emit i =>
        simp only [connAfter] at hstep ⊢
        have := ih s' _ hstep hsel'
        have happ : itemCmds (i :: parseAll c s' rest) = itemCmds [i] ++ itemCmds (parseAll c s' rest) :=
          itemCmds_append [i] _
        rw [happ, seqApplied_append]
        exact this

/-- the `db` tag of an item a step hands over is the parser's database before the
    step, except for a forwarded `select`, whose tag is the database it selects -/
theorem parseStep_emit_db (c : PCfg) (s : PState) (r : Raw) (i : Item)
    (h : (parseStep c s r).2 = POut.emit i) :
    i.db = s.currentDB ∨ (i.cmd = bSelect ∧ i.db = (parseStep c s r).1.currentDB) := by
  rcases parseStep_cases c s r with ⟨b, h'⟩ | h' | ⟨x, n, -, -, -, -, -, h'⟩ | ⟨a, b, off, -, -, h'⟩ <;>
    rw [h'] at h ⊢ <;> cases h
  · exact .inr ⟨rfl, rfl⟩
  · exact .inl rfl

/-- **The parser's database tag is the connection's database**: every item the
    parser hands over (other than a forwarded `select`) is tagged with the
    database the target connection is in when the item executes -- or with −1
    (a fresh / resumed parser that has not seen a SELECT yet). -/
theorem parser_db_is_conn_db (c : PCfg) (raws : List Raw) (s : PState) (cur : Int)
    (hinv : s.currentDB = cur ∨ s.currentDB = -1)
    (hsel : ∀ r ∈ raws, r.cmd = bSelect → ∀ a n, r.args = [a] → atoi? a = some n → 0 ≤ n)
    (pre post : List Item) (i : Item)
    (h : parseAll c s raws = pre ++ i :: post) (hs : i.cmd ≠ bSelect) :
    i.db = -1 ∨ i.db = (seqApplied cur (itemCmds pre)).1 := by
  induction raws generalizing s cur pre with
  | nil => simp [parseAll] at h
  | cons r rest ih =>
    have hsel' : ∀ r' ∈ rest, r'.cmd = bSelect → ∀ a n, r'.args = [a] → atoi? a = some n → 0 ≤ n :=
      fun r' hr' => hsel r' (List.mem_cons_of_mem _ hr')
    have hstep := parseStep_inv c s r cur hinv (hsel r (List.mem_cons_self ..))
    simp only [parseAll] at h
    cases hps : parseStep c s r with
    | mk s' o =>
      rw [hps] at h hstep
      cases o with
      | fail => simp at h
      | skip => simp only [connAfter] at h hstep; exact ih s' cur hstep hsel' pre h
      | emit j =>
        simp only [connAfter] at h hstep
        cases pre with
        | nil =>
          simp only [List.nil_append, List.cons.injEq] at h
          obtain ⟨hj, _⟩ := h
          subst hj
          rcases parseStep_emit_db c s r j (by rw [hps]) with hdb | ⟨hsel', _⟩
          · rcases hinv with h1 | h1
            · right; simpa [itemCmds, seqApplied, hdb] using h1
            · left; rw [hdb]; exact h1
          · exact absurd hsel' hs
        | cons p pre' =>
          simp only [List.cons_append, List.cons.injEq] at h
          obtain ⟨hj, hrest⟩ := h
          subst hj
          have := ih s' _ hstep hsel' pre' hrest
          have happ : itemCmds (j :: pre') = itemCmds [j] ++ itemCmds pre' := itemCmds_append [j] pre'
          rw [happ, seqApplied_append]
          exact this

/-- a command handed over with ITS OWN offset leaves the parser outside a
    filtered database (only brackets are handed over inside one, and they carry
    an earlier offset) -/
theorem emit_own_offset_unbypassed (c : PCfg) (s : PState) (r : Raw) (i : Item)
    (h : (parseStep c s r).2 = POut.emit i) (hown : passBracket s r.cmd = false) :
    (parseStep c s r).1.bypass = false := by
  rcases parseStep_cases c s r with ⟨b, h'⟩ | h' | ⟨x, n, -, -, -, -, -, h'⟩ | ⟨a, b, off, -, hoff, h'⟩ <;>
    rw [h'] at h ⊢ <;> cases h
  rcases hoff with ⟨-, -, hb⟩ | ⟨hpb, -, -⟩
  · exact hb
  · rw [hown] at hpb; cases hpb

/-- at the very start of a run (nothing handed over yet): resuming at the start offset in
    the database the connection was in is the whole specification -/
theorem restart_at_start_is_spec (c : PCfg) (r2 : List Raw) (o : Int)
    (hsel : ∀ x ∈ r2, x.cmd = bSelect → ∀ a n, x.args = [a] → atoi? a = some n → 0 ≤ n)
    (hmap : ∀ n : Int, 0 ≤ n → mapDb c n ≠ -1) (hd0 : 0 ≤ c.startDbId) :
    (seqApplied 0 (itemCmds (parserItems c o r2))).2 = specStream c false c.startDbId r2 := by
  unfold parserItems
  by_cases hpos : c.startDbId > 0
  · simp only [hpos, ↓reduceIte]
    have hnb : itemCmds.isBracketOrPingB bSelect = false := by decide
    rw [List.singleton_append, itemCmds_cons_data _ _ (by simpa [selectItem] using hnb)]
    simp only [selectItem, seqApplied, ↓reduceIte]
    have hsa : selArg 0 [intToDec c.startDbId] = c.startDbId := by simp [selArg, atoi?_intToDec]
    rw [hsa]
    exact parser_refines_spec c r2 { lastSent := o } c.startDbId (Or.inr rfl) hsel hmap
  · have hz : c.startDbId = 0 := by omega
    simp only [hpos, ↓reduceIte, List.nil_append]
    rw [hz]
    exact parser_refines_spec c r2 { lastSent := o } 0 (Or.inr rfl) hsel hmap

/-- **Restart completes the specification.** More generally, cut the source stream after any
    command `r` that the parser handed over with its own offset (`r1 = pre ++ [r]`;
    every offset the sender ever stores is the start offset or such an offset).
    Let `d` be the database the connection is in after executing everything handed
    over up to the cut. A FRESH parser that starts at the cut and first re-selects
    `d` (`parserItems` with `startDbId = d`, on a new connection, which starts in
    database 0) executes exactly the rest of the specification: what the first
    run's items up to the cut execute, followed by what the resumed run executes,
    is the one-pass specification of the whole stream -- nothing skipped, nothing
    repeated, every resumed command in the database the source intended. -/
theorem restart_completes_spec (c : PCfg) (s0 : PState) (cur0 : Int) (pre : List Raw) (r : Raw)
    (r2 : List Raw) (i : Item) (o : Int)
    (hnf : parseFails c s0 (pre ++ [r]) = false)
    (hemit : (parseStep c (parseState c s0 pre) r).2 = POut.emit i)
    (hown : passBracket (parseState c s0 pre) r.cmd = false)
    (hinv0 : s0.currentDB = cur0 ∨ s0.currentDB = -1)
    (hsel : ∀ x ∈ (pre ++ [r]) ++ r2, x.cmd = bSelect → ∀ a n, x.args = [a] → atoi? a = some n → 0 ≤ n)
    (hmap : ∀ n : Int, 0 ≤ n → mapDb c n ≠ -1)
    (hd : c.startDbId = (seqApplied cur0 (itemCmds (parseAll c s0 (pre ++ [r])))).1)
    (hd0 : 0 ≤ c.startDbId) :
    specStream c s0.bypass cur0 ((pre ++ [r]) ++ r2) =
      (seqApplied cur0 (itemCmds (parseAll c s0 (pre ++ [r])))).2 ++
      (seqApplied 0 (itemCmds (parserItems c o r2))).2 := by
  have hsel1 : ∀ x ∈ pre ++ [r], x.cmd = bSelect → ∀ a n, x.args = [a] → atoi? a = some n → 0 ≤ n :=
    fun x hx => hsel x (List.mem_append_left _ hx)
  have hsel2 : ∀ x ∈ r2, x.cmd = bSelect → ∀ a n, x.args = [a] → atoi? a = some n → 0 ≤ n :=
    fun x hx => hsel x (List.mem_append_right _ hx)
  -- the whole stream through the one parser
  rw [← parser_refines_spec c _ s0 cur0 hinv0 hsel hmap, parseAll_append c s0 _ r2 hnf,
    itemCmds_append, seqApplied_append]
  simp only
  congr 1
  -- the parser state at the cut
  have hs1 : parseState c s0 (pre ++ [r]) = (parseStep c (parseState c s0 pre) r).1 := by
    rw [parseState_append c s0 pre [r] (parseFails_append_left c s0 pre [r] hnf)]
    simp only [parseState]
    cases hps : parseStep c (parseState c s0 pre) r with
    | mk s' out => cases out <;> rfl
  have hb1 : (parseState c s0 (pre ++ [r])).bypass = false := by
    rw [hs1]; exact emit_own_offset_unbypassed c _ r i hemit hown
  have hinv1 := parseAll_inv c (pre ++ [r]) s0 cur0 hinv0 hsel1
  rw [← hd] at hinv1 ⊢
  -- continuing run: the rest of the specification in database d
  rw [parser_refines_spec c r2 _ c.startDbId hinv1 hsel2 hmap, hb1]
  -- resumed run: the same
  exact (restart_at_start_is_spec c r2 o hsel2 hmap hd0).symm

end GunYu.Sender
