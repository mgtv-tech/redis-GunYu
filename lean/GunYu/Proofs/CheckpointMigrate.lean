/-
  Lemmas for C17: the recovery-format switch (Model/Migrate.lean) keeps the position a start reads.
  Core only.
-/
import GunYu.Model.Migrate
import GunYu.Proofs.CheckpointUpdate

namespace GunYu.Migrate
open GunYu GunYu.Checkpoint

theorem holds_hset_nonmatching {ids : List Bytes} {t : Target} {n : Bytes} {d : Nat} {X : Int}
    (h : Holds ids t n d X) (db : Nat) (nm : Bytes) (es : List Entry)
    (hes : ∀ e ∈ es, matchId ids e.rid = false) :
    Holds ids (applyReq t (.hsetCp db nm es)) n d X := by
  by_cases hnm : nm = n
  case neg =>
    exact h.congr fun db' => by rw [applyReq_hsetCp_cps, if_neg fun hc => hnm hc.2.symm]
  subst hnm
  have hoff : ∀ e ∈ es, offSel ids e = false := fun e he => by unfold offSel; rw [hes e he]; rfl
  have hrid : ∀ e ∈ es, ridSel ids e = false := fun e he => by unfold ridSel; rw [hes e he]; rfl
  have hnew : (applyReq t (.hsetCp db nm es)).cps db nm = hsetMany (t.cps db nm) es := by
    rw [applyReq_hsetCp_cps, if_pos ⟨rfl, rfl⟩]
  refine h.update _ db (fun db' hdb' => by rw [applyReq_hsetCp_cps, if_neg fun hc => hdb' hc.1]) ?_ ?_ ?_
  all_goals rw [hnew]
  · intro e he hm hk
    rcases mem_hsetMany he with he | he
    · rw [hes e he] at hm; cases hm
    · exact h.parses db e he hm hk
  · rintro rfl
    rw [offOf_hsetMany_irrelevant ids _ es hoff, ridOf_hsetMany_irrelevant ids _ es hrid]
    exact ⟨h.off, h.rid⟩
  · intro hdb x hx hs v hv
    rcases mem_hsetMany hx with hx | hx
    · rw [hoff x hx] at hs; cases hs
    · exact h.dom db hdb x hx hs v hv

/-- no field of the ids under `name` in any database -/
def Fresh (ids : List Bytes) (t : Target) (name : Bytes) : Prop :=
  ∀ db, ∀ e ∈ t.cps db name, matchId ids e.rid = false

theorem fresh_hset_nonmatching {ids : List Bytes} {t : Target} {name : Bytes} (h : Fresh ids t name)
    (db : Nat) (nm : Bytes) (es : List Entry) (hes : ∀ e ∈ es, matchId ids e.rid = false) :
    Fresh ids (applyReq t (.hsetCp db nm es)) name := by
  intro db' e he
  rw [applyReq_hsetCp_cps] at he
  split at he
  · rename_i hc
    rcases mem_hsetMany he with he | he
    · exact hes e he
    · rw [← hc.1, ← hc.2] at he; exact h db' e he
  · exact h db' e he

/-- the position invariant across the switch: the hash still resolves to the old root key
    `n` holding `X` (and the new key is untouched or already seeded), or it resolves to the
    new key holding some `X' ≥ X` — always in database 0 -/
inductive MInv (id1 id2 n r newName : Bytes) (X : Int) (t : Target) : Prop
  | old (hh : getHash t.hash [id1, id2] = some (n, r)) (ho : Holds [id1, id2] t n 0 X)
        (hn : Fresh [id1, id2] t newName ∨ ∃ X', X ≤ X' ∧ Holds [id1, id2] t newName 0 X')
  | new (X' : Int) (hx : X ≤ X') (hh : getHash t.hash [id1, id2] = some (newName, id1))
        (hn : Holds [id1, id2] t newName 0 X')

theorem MInv.startPoint {id1 id2 n r newName : Bytes} {X : Int} {t : Target}
    (h : MInv id1 id2 n r newName X t) (hn0 : n ≠ []) (hnew0 : newName ≠ []) (ver : Bytes)
    (oS : List Nat) (h0 : 0 ∈ oS) :
    ∃ X', X ≤ X' ∧ Checkpoint.startPoint ver [id1, id2] oS t = some (some (X', 0)) := by
  cases h with
  | old hh ho _ => exact ⟨X, Int.le_refl _, startPoint_of_holds ver hh hn0 ho oS h0⟩
  | new X' hx hh hn => exact ⟨X', hx, startPoint_of_holds ver hh hnew0 hn oS h0⟩

def ModeReq (q : Req) : Prop := ∃ db nm es, q = Req.hsetCp db nm es ∧ ∀ e ∈ es, e.rid = modeField

theorem minv_modeReq {id1 id2 n r newName : Bytes} {X : Int} {t : Target}
    (hm : matchId [id1, id2] modeField = false)
    (h : MInv id1 id2 n r newName X t) (q : Req) (hq : ModeReq q) :
    MInv id1 id2 n r newName X (applyReq t q) := by
  obtain ⟨db, nm, es, rfl, hes⟩ := hq
  have hes' : ∀ e ∈ es, matchId [id1, id2] e.rid = false := fun e he => hes e he ▸ hm
  cases h with
  | old hh ho hn =>
    exact .old hh (holds_hset_nonmatching ho db nm es hes') (hn.imp
      (fun hf => fresh_hset_nonmatching hf db nm es hes')
      (fun ⟨X', hx, hh'⟩ => ⟨X', hx, holds_hset_nonmatching hh' db nm es hes'⟩))
  | new X' hx hh hn => exact .new X' hx hh (holds_hset_nonmatching hn db nm es hes')

theorem minv_modeReqs {id1 id2 n r newName : Bytes} {X : Int}
    (hm : matchId [id1, id2] modeField = false) (rs : List Req) :
    ∀ {t : Target}, MInv id1 id2 n r newName X t → (∀ q ∈ rs, ModeReq q) →
      MInv id1 id2 n r newName X (applyAll t rs) :=
  applyAll_inv (I := MInv id1 id2 n r newName X) (fun _ q h hq => minv_modeReq hm h q hq) rs

theorem modeEntries_rid (m : BMode) (now : Int) : ∀ e ∈ modeEntries m now, e.rid = modeField := by
  intro e he
  simp only [modeEntries, List.mem_cons, List.not_mem_nil, or_false] at he
  rcases he with rfl | rfl <;> rfl

theorem preferredRunId_first (id1 id2 x : Bytes) (h1 : id1 ≠ []) : preferredRunId [id1, id2] x = id1 := by
  simp [preferredRunId, List.find?, h1]

/-- requests after the hash was repointed -/
def PostReq (id1 newName : Bytes) (q : Req) : Prop :=
  (∃ rid, q = Req.hdelHash rid ∧ rid ≠ id1) ∨ (∃ db ks, q = Req.delKeys db ks ∧ ¬ ks.contains newName = true)

theorem postReq_keeps {id1 id2 newName : Bytes} {t : Target} (hne : id1 ≠ id2) (h1 : id1 ≠ [])
    (hh : getHash t.hash [id1, id2] = some (newName, id1)) (q : Req) (hq : PostReq id1 newName q) :
    getHash (applyReq t q).hash [id1, id2] = some (newName, id1) ∧
    ∀ db, (applyReq t q).cps db newName = t.cps db newName := by
  rcases hq with ⟨rid, rfl, hrid⟩ | ⟨db, ks, rfl, hks⟩
  · obtain ⟨hl, hnn⟩ := getHash_first hne h1 hh
    exact ⟨getHash_of_first ((hlookup_hashDel_ne _ _ _ (Ne.symm hrid)).trans hl) hnn, fun _ => rfl⟩
  · exact ⟨hh, fun db' => if_neg fun hc => hks hc.2⟩

theorem minv_postReqs {id1 id2 n r newName : Bytes} {X : Int} (hne : id1 ≠ id2) (h1 : id1 ≠ [])
    (X' : Int) (hx : X ≤ X') (rs : List Req) {t : Target}
    (hh : getHash t.hash [id1, id2] = some (newName, id1)) (hn : Holds [id1, id2] t newName 0 X')
    (hrs : ∀ q ∈ rs, PostReq id1 newName q) : MInv id1 id2 n r newName X (applyAll t rs) := by
  have := applyAll_inv (I := fun t => getHash t.hash [id1, id2] = some (newName, id1) ∧
      Holds [id1, id2] t newName 0 X') (S := PostReq id1 newName)
    (fun t q ⟨hh, hn⟩ hq => ⟨(postReq_keeps hne h1 hh q hq).1, hn.congr (postReq_keeps hne h1 hh q hq).2⟩)
    rs ⟨hh, hn⟩ hrs
  exact .new X' hx this.1 this.2

/-- hypotheses on the ids and the new name -/
structure MArgs (id1 id2 n newName : Bytes) : Prop where
  hne : id1 ≠ id2
  h1 : id1 ≠ []
  h1q : id1 ≠ qmark
  hm : matchId [id1, id2] modeField = false
  hnew0 : newName ≠ []
  hnewn : newName ≠ n
  hnewf : newName ≠ frontierKey n

theorem MArgs.modeEntries {id1 id2 n newName : Bytes} (A : MArgs id1 id2 n newName) (m : BMode) (now : Int) :
    ∀ e ∈ modeEntries m now, matchId [id1, id2] e.rid = false :=
  fun e he => modeEntries_rid m now e he ▸ A.hm

theorem holds_after_root {id1 id2 n newName ver : Bytes} (A : MArgs id1 id2 n newName) {t : Target}
    (hf : Fresh [id1, id2] t newName) (S now1 : Int) (hS0 : 0 ≤ S) (hSr : InInt64 S)
    (hnow : InInt64 now1) :
    Holds [id1, id2] (applyReq t (Req.hsetCp 0 newName (cpEntries { runId := id1, offset := S, version := ver } now1)))
      newName 0 S ∧
    ∀ db nm, nm ≠ newName →
      (applyReq t (Req.hsetCp 0 newName (cpEntries { runId := id1, offset := S, version := ver } now1))).cps db nm
        = t.cps db nm :=
  ⟨(setCheckpoint_facts (c := { offset := S, version := ver }) ⟨A.h1, A.h1q, rfl, hSr, hnow⟩
      ((matchId_pair id1 id2 id1).mpr (Or.inl rfl)) hS0 (LocOk.of_fresh hf)).1,
    fun db nm hnm => by rw [applyReq_hsetCp_cps, if_neg fun h => hnm h.2]⟩

theorem minv_take {id1 id2 n r newName : Bytes} {X : Int} (hne : id1 ≠ id2) (h1 : id1 ≠ []) {t : Target}
    {a b c : Req} {post : List Req} (Y : Int) (hY : X ≤ Y) (h0 : MInv id1 id2 n r newName X t)
    (ha : MInv id1 id2 n r newName X (applyReq t a))
    (hb : MInv id1 id2 n r newName X (applyReq (applyReq t a) b))
    (hh : getHash (applyReq (applyReq (applyReq t a) b) c).hash [id1, id2] = some (newName, id1))
    (hn : Holds [id1, id2] (applyReq (applyReq (applyReq t a) b) c) newName 0 Y)
    (hpost : ∀ q ∈ post, PostReq id1 newName q) (k : Nat) :
    MInv id1 id2 n r newName X (applyAll t ((a :: b :: c :: post).take k)) := by
  rcases k with _ | _ | _ | k
  · exact h0
  · exact ha
  · exact hb
  · exact minv_postReqs hne h1 Y hY (post.take k) hh hn (fun q hq => hpost q (List.mem_of_mem_take hq))

structure OldFresh (id1 id2 n r newName : Bytes) (X : Int) (t : Target) : Prop where
  hh : getHash t.hash [id1, id2] = some (n, r)
  ho : Holds [id1, id2] t n 0 X
  hf : Fresh [id1, id2] t newName

theorem oldFresh_modeReqs {id1 id2 n r newName : Bytes} {X : Int}
    (hm : matchId [id1, id2] modeField = false) (rs : List Req) :
    ∀ {t : Target}, OldFresh id1 id2 n r newName X t → (∀ q ∈ rs, ModeReq q) →
      OldFresh id1 id2 n r newName X (applyAll t rs) :=
  applyAll_inv (I := OldFresh id1 id2 n r newName X) (fun _ _ h ⟨db, nm, es, hq, hes⟩ => by
    subst hq
    have hes' : ∀ e ∈ es, matchId [id1, id2] e.rid = false := fun e he => hes e he ▸ hm
    exact ⟨h.hh, holds_hset_nonmatching h.ho db nm es hes', fresh_hset_nonmatching h.hf db nm es hes'⟩) rs

/-- the switch after its mode-marker writes: nothing, or the migration (seed of the new root key, its mode
    marker, repointing of the hash, then `PostReq`s) -/
def CoreForm (id1 newName ver : Bytes) (X : Int) (core : List Req) : Prop :=
  core = [] ∨
  ∃ desired Y now1 now2 post, X ≤ Y ∧ InInt64 Y ∧ InInt64 now1 ∧
    (∀ q ∈ post, PostReq id1 newName q) ∧
    core = Req.hsetCp 0 newName (cpEntries { runId := id1, offset := Y, version := ver } now1) ::
      Req.hsetCp 0 newName (modeEntries desired now2) :: Req.hsetHash id1 newName :: post

theorem minv_pre_core {id1 id2 n r newName ver : Bytes} {X : Int} {t : Target} (A : MArgs id1 id2 n newName)
    (h : OldFresh id1 id2 n r newName X t) (pre core : List Req) (hpre : ∀ q ∈ pre, ModeReq q)
    (hcore : CoreForm id1 newName ver X core) (k : Nat) :
    MInv id1 id2 n r newName X (applyAll t ((pre ++ core).take k)) := by
  rw [List.take_append, applyAll_append]
  by_cases hk : k ≤ pre.length
  · rw [Nat.sub_eq_zero_of_le hk, List.take_zero]
    have := oldFresh_modeReqs A.hm (pre.take k) h (fun q hq => hpre q (List.mem_of_mem_take hq))
    exact .old this.hh this.ho (Or.inl this.hf)
  · rw [List.take_of_length_le (by omega)]
    have h' := oldFresh_modeReqs A.hm pre h hpre
    rcases hcore with rfl | ⟨desired, Y, now1, now2, post, hY, hYr, hnow, hpost, rfl⟩
    · rw [List.take_nil]; exact .old h'.hh h'.ho (Or.inl h'.hf)
    · -- the old root key is untouched throughout; the new one holds `Y` once seeded
      obtain ⟨hn1, hoth⟩ := holds_after_root (ver := ver) A h'.hf Y now1 (Int.le_trans h'.ho.nonneg hY) hYr hnow
      have ho1 := h'.ho.congr fun db => hoth db n (Ne.symm A.hnewn)
      have hn2 := holds_hset_nonmatching hn1 0 newName _ (A.modeEntries desired now2)
      refine minv_take A.hne A.h1 Y hY (.old h'.hh h'.ho (Or.inl h'.hf)) ?_ ?_ ?_ ?_ hpost _
      · exact .old h'.hh ho1 (Or.inr ⟨Y, hY, hn1⟩)
      · exact .old h'.hh (holds_hset_nonmatching ho1 0 newName _ (A.modeEntries desired now2))
          (Or.inr ⟨Y, hY, hn2⟩)
      · exact getHash_of_first (hlookup_hashSet_self _ _ _) A.hnew0
      · exact hn2.congr fun _ => rfl

/-- hypotheses of `migrate_prefix_safe` on the state before -/
structure MigPre (ver id1 id2 n r newName : Bytes) (t₀ : Target) (ns : Frontier.NS) (X : Int)
    (nows : List Int) : Prop where
  args : MArgs id1 id2 n newName
  h2 : id2 ≠ []
  hn : getHash t₀.hash [id1, id2] = some (n, r)
  hn0 : n ≠ []
  holds : Holds [id1, id2] t₀ n 0 X
  own : RunidOwn t₀ n
  fresh : Fresh [id1, id2] t₀ newName
  seedRange : ∀ cur sd, loadSeed ver ns [id1, id2] cur = some sd → -(2^63 : Int) ≤ sd.offset ∧ sd.offset < 2^63
  nowsRange : ∀ x ∈ nows, -(2^63 : Int) ≤ x ∧ x < 2^63

theorem headD_range {l : List Int} (h : ∀ x ∈ l, InInt64 x) :
    InInt64 (l.headD 0) := by
  cases l with
  | nil => exact ⟨by decide, by decide⟩
  | cons a l => exact h a (List.mem_cons_self ..)

theorem tail_range {l : List Int} (h : ∀ x ∈ l, InInt64 x) :
    ∀ x ∈ l.tail, InInt64 x := fun x hx => h x (List.mem_of_mem_tail hx)

/-- the root checkpoint's run id is one of the ids, so a newer root is taken over -/
theorem seedOffset_ge {ver id1 id2 n r newName : Bytes} {t₀ : Target} {ns : Frontier.NS} {X : Int}
    {nows : List Int} (P : MigPre ver id1 id2 n r newName t₀ ns X nows) {c : CpInfo}
    (hfetch : fetch [id1, id2] (t₀.cps 0 n) = some c) (hcX : c.offset = X) (hcq : c.runId ≠ qmark)
    {cur : BMode} {sd : Seed} (hsd : loadSeed ver ns [id1, id2] cur = some sd) :
    X ≤ seedOffset sd c [id1, id2] ∧
      InInt64 (seedOffset sd c [id1, id2]) := by
  have hmatch : Frontier.matchRun c.runId [id1, id2] = true := by
    unfold Frontier.matchRun
    rcases fetch_runId_pair (P.own 0) hfetch hcq with h | h <;> rw [h] <;> simp [P.args.h1, P.h2]
  unfold seedOffset
  split
  · exact ⟨hcX ▸ Int.le_refl _, by rw [(fetch_foldl_some _ _ {} c hfetch).1]; exact offOf_range _ _⟩
  · rename_i hc
    exact ⟨hcX ▸ Int.not_lt.mp fun hgt => hc ⟨hcq, hgt, hmatch⟩, P.seedRange cur sd hsd⟩

theorem migrateCore_form {ver id1 id2 n r newName : Bytes} {t₀ : Target} {ns : Frontier.NS} {X : Int}
    {nows : List Int} (P : MigPre ver id1 id2 n r newName t₀ ns X nows) (order : List Nat) (h0 : 0 ∈ order)
    (desired cur : BMode) (nows' : List Int) (hn' : ∀ x ∈ nows', InInt64 x) :
    CoreForm id1 newName ver X
      (migrateCore ver [id1, id2] n r desired (loadSeed ver ns [id1, id2] cur)
        (getCheckpoint ver t₀ n [id1, id2] order) newName nows') := by
  obtain ⟨c, hgc, hcX, hcq, hfetch⟩ := getCheckpoint_of_holds ver P.holds order h0
  rw [hgc]
  cases hsd : loadSeed ver ns [id1, id2] cur with
  | none => exact Or.inl rfl
  | some sd =>
    obtain ⟨hY, hYr⟩ := seedOffset_ge P hfetch hcX hcq hsd
    refine Or.inr ⟨desired, seedOffset sd c [id1, id2], nows'.headD 0, nows'.tail.headD 0,
      (if r ≠ [] ∧ r ≠ id1 then [Req.hdelHash r] else []) ++ [Req.delKeys 0 [n, frontierKey n]],
      hY, hYr, headD_range hn', fun q hq => ?_, ?_⟩
    · rcases List.mem_append.mp hq with hq | hq
      · split at hq
        · rename_i hc
          exact Or.inl ⟨r, List.mem_singleton.mp hq, hc.2⟩
        · cases hq
      · refine Or.inr ⟨0, _, List.mem_singleton.mp hq, fun hmem => ?_⟩
        simp only [List.contains_iff_mem, List.mem_cons, List.not_mem_nil, or_false] at hmem
        exact hmem.elim P.args.hnewn P.args.hnewf
    · simp only [migrateCore, preferredRunId_first id1 id2 _ P.args.h1, List.cons_append, List.nil_append]

theorem migrateReqs_form {ver id1 id2 n r newName : Bytes} {t₀ : Target} {ns : Frontier.NS} {X : Int}
    {nows : List Int} (P : MigPre ver id1 id2 n r newName t₀ ns X nows) (order : List Nat) (h0 : 0 ∈ order)
    (desired : BMode) :
    ∃ pre core, migrateReqs ver t₀ ns [id1, id2] desired newName nows order = pre ++ core ∧
      (∀ q ∈ pre, ModeReq q) ∧ CoreForm id1 newName ver X core := by
  have hone : ∀ (m : BMode) (now : Int), ∀ q ∈ [Req.hsetCp 0 n (modeEntries m now)], ModeReq q :=
    fun m now q hq => ⟨0, n, _, List.mem_singleton.mp hq, modeEntries_rid m now⟩
  -- `cur` known (stored or inferred, `pre` = the marker write of the inferred one): nothing, an in-place
  -- switch, or the migration
  have hcur : ∀ (cur : BMode) (nws : List Int), (∀ x ∈ nws, InInt64 x) →
      ∀ pre, (∀ q ∈ pre, ModeReq q) →
      ∃ pre' core, pre ++ (if cur = desired then []
          else if sameFamily cur desired then [Req.hsetCp 0 n (modeEntries desired (nws.headD 0))]
          else migrateCore ver [id1, id2] n r desired (loadSeed ver ns [id1, id2] cur)
            (getCheckpoint ver t₀ n [id1, id2] order) newName nws) = pre' ++ core ∧
        (∀ q ∈ pre', ModeReq q) ∧ CoreForm id1 newName ver X core := by
    intro cur nws hnws pre hpre
    by_cases h1 : cur = desired
    · rw [if_pos h1]; exact ⟨pre, [], rfl, hpre, Or.inl rfl⟩
    rw [if_neg h1]
    by_cases h2 : sameFamily cur desired = true
    · rw [if_pos h2]
      exact ⟨_, [], (List.append_nil _).symm,
        fun q hq => (List.mem_append.mp hq).elim (hpre q) (hone _ _ q), Or.inl rfl⟩
    · rw [if_neg h2]; exact ⟨pre, _, rfl, hpre, migrateCore_form P order h0 desired cur nws hnws⟩
  unfold migrateReqs
  simp only [P.hn, P.hn0, if_false]
  cases loadMode t₀ n with
  | some m =>
    cases m with
    | none => exact ⟨[], [], rfl, fun _ h => (nomatch h), Or.inl rfl⟩
    | some cur => exact hcur cur nows P.nowsRange [] (fun _ h => (nomatch h))
  | none =>
    cases inferMode ns [id1, id2] with
    | none => exact ⟨_, [], (List.append_nil _).symm, hone _ _, Or.inl rfl⟩
    | some cur =>
      exact hcur cur nows.tail (tail_range P.nowsRange)
        [Req.hsetCp 0 n (modeEntries cur (nows.headD 0))] (hone _ _)

end GunYu.Migrate
