/-
  C05, memory backend — the catch-up step: a started copy loop that holds an indexed
  segment and stands below the writer's end delivers at least one byte within two
  iterations (`Mem.pump2`), in every state satisfying `MemInv` and `TailInv`.
-/
import GunYu.Proofs.StoreMemTail

namespace GunYu.Store
open GunYu

theorem mFindReader_mSetReader {rs : List MReader} {rid : Nat} {r r' : MReader}
    (hf : mFindReader rs rid = some r) (hid : r'.id = r.id) : mFindReader (mSetReader rs r') rid = some r' := by
  have hr : r.id = rid := by simpa using List.find?_some hf
  rw [hr] at hid
  unfold mFindReader mSetReader at *
  induction rs with
  | nil => simp at hf
  | cons a t ih =>
    simp only [List.map_cons, List.find?_cons] at hf ⊢
    by_cases ha : (a.id == rid) = true
    · have : (a.id == r'.id) = true := by rw [hid]; exact ha
      simp only [this, if_true]
      have : (r'.id == rid) = true := by simp [hid]
      simp [this]
    · have ha' : (a.id == rid) = false := by simpa using ha
      have : (a.id == r'.id) = false := by rw [hid]; exact ha'
      simp only [this, Bool.false_eq_true, if_false, ha']
      rw [ha'] at hf
      exact ih hf

/-- an iteration of a copy loop never takes back what it wrote to the pipe -/
theorem copyStep_out_grows (s : Mem) (rid : Nat) (r : MReader) (hf : mFindReader s.readers rid = some r) :
    ∃ r', mFindReader (s.copyStep rid).1.readers rid = some r' ∧ r.out.length ≤ r'.out.length := by
  rcases copyStep_cases s rid with h | ⟨r0, r', hf0, _, hm, h⟩
  · rw [h]; exact ⟨r, hf, Nat.le_refl _⟩
  rw [hf] at hf0; cases hf0
  rw [h]
  cases hm with
  | deliver g => exact ⟨_, mFindReader_mSetReader hf rfl, by simp⟩
  | _ => exact ⟨_, mFindReader_mSetReader hf rfl, Nat.le_refl _⟩

theorem mem_not_last_split : ∀ (l : List MSeg) (g : MSeg), g ∈ l → l.getLast? ≠ some g →
    ∃ pre nx post, l = pre ++ g :: nx :: post := by
  intro l
  induction l with
  | nil => intro g hg; cases hg
  | cons a t ih =>
    intro g hg hnl
    cases t with
    | nil =>
      simp at hg; subst hg
      simp at hnl
    | cons b u =>
      rcases List.mem_cons.mp hg with h | h
      · subst h; exact ⟨[], b, u, rfl⟩
      · have hnl' : (b :: u).getLast? ≠ some g := by
          intro e; apply hnl
          rw [List.getLast?_cons_cons]; exact e
        obtain ⟨pre, nx, post, e⟩ := ih g h hnl'
        exact ⟨a :: pre, nx, post, by rw [e]; rfl⟩

theorem mNextOf_mid : ∀ (pre : List MSeg) (g nx : MSeg) (post : List MSeg),
    ((pre ++ g :: nx :: post).map (·.sid)).Nodup → mNextOf (pre ++ g :: nx :: post) g.sid = some nx := by
  intro pre
  induction pre with
  | nil => intro g nx post _; simp [mNextOf]
  | cons a t ih =>
    intro g nx post hn
    have hne : a.sid ≠ g.sid := by
      intro e
      simp only [List.cons_append, List.map_cons, List.nodup_cons] at hn
      apply hn.1
      rw [e]
      simp
    have hn' : ((t ++ g :: nx :: post).map (·.sid)).Nodup := by
      simp only [List.cons_append, List.map_cons, List.nodup_cons] at hn; exact hn.2
    cases ht : t ++ g :: nx :: post with
    | nil => simp at ht
    | cons b u =>
      simp only [List.cons_append, ht, mNextOf]
      have : (a.sid == g.sid) = false := by simpa using hne
      simp only [this, Bool.false_eq_true, if_false]
      rw [← ht]
      exact ih g nx post hn'

/-- the catch-up step: the first iteration delivers, or moves to the next segment and the second delivers -/
theorem pump2_delivers {s : Mem} (hi : MemInv s) (ht : TailInv s) {rid : Nat} {r : MReader}
    (hf : mFindReader s.readers rid = some r) (ha : r.isAof = true) (hst : r.started = true)
    (hrel : r.released = false) (hcu : r.closedByUser = false) {g : MSeg} (hg : g ∈ s.segs) (hs : g.sid = r.seg)
    (hlt : r.pos < s.hbase + s.hist.length) :
    ∃ r', mFindReader (s.pump2 rid).readers rid = some r' ∧ r.out.length < r'.out.length := by
  have hst' := hi.stream
  have hr : r ∈ s.readers := mFindReader_mem hf
  have hok : MAofOk s.hbase s.hist r g := (hst'.readers r hr ha).2 hrel g hg hs
  have hlook : s.lookup r.seg = some g := by rw [← hs]; exact lookup_of_indexed hst'.nodup hg
  have hnl : ¬ r.pos < g.left := by have := hok.inl; omega
  unfold Mem.pump2
  by_cases hne : (g.data.drop (r.pos - g.left)) = []
  · -- at the end of its segment, which is not the last one
    have hpe : r.pos = g.right := hok.drained hne
    have hglast : s.segs.getLast? ≠ some g := by
      intro e
      have := hst'.lastEnd g e
      omega
    have hgw : s.aofW ≠ some g.sid := fun e => hglast (hst'.writerLast hg e)
    obtain ⟨hgc, _⟩ := ht g hg hgw
    obtain ⟨pre, nx, post, hsplit⟩ := mem_not_last_split s.segs g hg hglast
    have hnext : mNextOf s.segs g.sid = some nx := by
      rw [hsplit]; apply mNextOf_mid; rw [← hsplit]; exact hst'.nodup
    have hnxm : nx ∈ s.segs := by rw [hsplit]; simp
    have hadj : g.right = nx.left := by
      have := hst'.contig; rw [hsplit] at this; exact mcontig_adjacent this
    -- the successor holds at least one byte
    have hnxne : nx.data ≠ [] := by
      intro he
      by_cases hw : s.aofW = some nx.sid
      · have hend := hst'.lastEnd nx (hst'.writerLast hnxm hw)
        simp only [MSeg.right, he, List.length_nil] at hend
        omega
      · exact (ht nx hnxm hw).2 he
    have h1 : s.copyStep rid = ({ s with readers := mSetReader s.readers { r with seg := nx.sid } }, true) := by
      have hbe : (g.data.drop (r.pos - g.left)).isEmpty = true := by simp [hne]
      simp [Mem.copyStep, hf, hrel, hst, hcu, hlook, ha, hnl, hbe, hgc, hnext]
    rw [h1]
    dsimp only
    have hf1 : mFindReader (mSetReader s.readers { r with seg := nx.sid }) rid = some { r with seg := nx.sid } :=
      mFindReader_mSetReader hf rfl
    have hlook1 : ({ s with readers := mSetReader s.readers { r with seg := nx.sid } } : Mem).lookup nx.sid = some nx :=
      lookup_of_indexed (s := { s with readers := mSetReader s.readers { r with seg := nx.sid } }) hst'.nodup hnxm
    have hnl1 : ¬ r.pos < nx.left := by omega
    have hz : r.pos - nx.left = 0 := by omega
    have hbe1 : (nx.data.drop (r.pos - nx.left)).isEmpty = false := by
      rw [hz]; simp [hnxne]
    let ra : MReader := { r with seg := nx.sid }
    have hfa : mFindReader ({ s with readers := mSetReader s.readers ra } : Mem).readers rid = some ra := hf1
    have h2 := copyStep_aof_faithful ({ s with readers := mSetReader s.readers ra } : Mem) rid ra nx hfa hrel hst hcu ha
      hlook1 (by show nx.left ≤ r.pos; omega) (by
        show nx.data.drop (r.pos - nx.left) ≠ []
        rw [hz]; simpa using hnxne)
    let rb : MReader := { ra with pos := ra.pos + (nx.data.drop (ra.pos - nx.left)).length,
                                  buf := ra.buf ++ nx.data.drop (ra.pos - nx.left),
                                  out := ra.out ++ nx.data.drop (ra.pos - nx.left) }
    refine ⟨rb, ?_, ?_⟩
    · show mFindReader (({ s with readers := mSetReader s.readers ra } : Mem).copyStep rid).1.readers rid = some rb
      rw [h2]
      exact mFindReader_mSetReader hfa rfl
    · show r.out.length < (r.out ++ nx.data.drop (r.pos - nx.left)).length
      rw [hz]
      have : 0 < nx.data.length := List.length_pos_iff.mpr hnxne
      simp; omega
  · -- inside its segment: the first iteration delivers; the second never takes anything back
    let r1 : MReader := { r with pos := r.pos + (g.data.drop (r.pos - g.left)).length,
                                 buf := r.buf ++ g.data.drop (r.pos - g.left),
                                 out := r.out ++ g.data.drop (r.pos - g.left) }
    have hf1 : mFindReader (s.copyStep rid).1.readers rid = some r1 := by
      rw [copyStep_aof_faithful s rid r g hf hrel hst hcu ha hlook (Nat.le_of_not_lt hnl) hne]
      exact mFindReader_mSetReader hf rfl
    obtain ⟨r2, hf2, hle⟩ := copyStep_out_grows _ rid _ hf1
    refine ⟨r2, hf2, ?_⟩
    have : 0 < (g.data.drop (r.pos - g.left)).length := List.length_pos_iff.mpr hne
    have hle' : (r.out ++ g.data.drop (r.pos - g.left)).length ≤ r2.out.length := hle
    rw [List.length_append] at hle'
    omega

end GunYu.Store
