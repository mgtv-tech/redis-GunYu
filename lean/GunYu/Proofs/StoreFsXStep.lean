/-
  C08, extended operation set: one step of the writers WITH FAULTS keeps the
  invariants, and every operation that took effect is truthful / safe where it is
  applied (`StepOk`).
-/
import GunYu.Proofs.StoreFsX

namespace GunYu.StoreFsX
open GunYu GunYu.Store GunYu.StoreFs

/-- index, history ghost, files of the index, temporary snapshot: what every step keeps -/
structure XInv (src : Nat → UInt8) (s : XDisk) : Prop where
  dinv : DInv s.d
  hist : HistTrue src s.d
  files : FilesOk s.d s.fs
  tmp : TmpRel s.d s.fs

def ChunkOkX (src : Nat → UInt8) (s : XDisk) : XOp → Prop
  | .op o => ChunkOk src s.d o
  | .aofAppendHdrFail c _ => ChunkOk src s.d (.aofAppend c)
  | .aofAppendOpenFail c => ChunkOk src s.d (.aofAppend c)
  | .aofAppendShort c _ => ChunkOk src s.d (.aofAppend c)
  | _ => True

def SrcOkX (src : Nat → UInt8) (s : XDisk) : List XOp → Prop
  | [] => True
  | x :: rest => ChunkOkX src s x ∧ SrcOkX src (xstep s x).1 rest

structure StepOk (src : Nat → UInt8) (P : Nat → Nat → Bytes → Prop) (s : XDisk) (r : XDisk × List Att) : Prop where
  fsEq : r.1.fs = s.fs.applyAll (okOps r.2)
  true : Pos (OpTrueX src) s.fs (okOps r.2)
  safe : Pos (RdbSafeP P) s.fs (okOps r.2)
  inv : XInv src r.1

theorem StepOk.mk' {src : Nat → UInt8} {P : Nat → Nat → Bytes → Prop} {s : XDisk} {d' : Disk} {fs' : FS}
    {z' : List Nat} {atts : List Att} (hfs : fs' = s.fs.applyAll (okOps atts))
    (ht : Pos (OpTrueX src) s.fs (okOps atts)) (hs : Pos (RdbSafeP P) s.fs (okOps atts))
    (hi : XInv src ⟨d', fs', z'⟩) : StepOk src P s (⟨d', fs', z'⟩, atts) := ⟨hfs, ht, hs, hi⟩

theorem dropUnrefZ_suffix (z : List Nat) (rs : List DReader) (k : Nat) (segs : List DSeg) :
    ∃ pre, segs = pre ++ dropUnrefZ z rs k segs ∧ ∀ g ∈ pre, readerRefs rs g.left = 0 := by
  induction segs generalizing k with
  | nil => exact ⟨[], by cases k <;> simp [dropUnrefZ], by simp⟩
  | cons a t ih =>
    cases k with
    | zero => exact ⟨[], by simp [dropUnrefZ], by simp⟩
    | succ k =>
      simp only [dropUnrefZ]
      by_cases href : (decide (readerRefs rs a.left > 0) || z.contains a.left) = true
      · simp only [href, if_true]; exact ⟨[], by simp, by simp⟩
      · simp only [href]
        obtain ⟨pre, hp, hz⟩ := ih k
        refine ⟨a :: pre, by simp; exact hp, ?_⟩
        intro g hg
        rcases List.mem_cons.mp hg with h | h
        · subst h
          simp only [Bool.or_eq_true, decide_eq_true_eq, not_or] at href
          omega
        · exact hz g h

theorem gcZ_cases (s : Disk) (z : List Nat) :
    ∃ pre segs' rdb', gcZ s z = { s with segs := segs', rdb := rdb' } ∧ s.segs = pre ++ segs' ∧
      (∀ g ∈ pre, readerRefs s.readers g.left = 0) ∧
      (rdb' = s.rdb ∨ (rdb' = none ∧ ∀ r, s.rdb = some r → rdbRef s.readers r = 0)) ∧
      (rdb' = none ∨ pre = []) := by
  obtain ⟨pre, hp, hz, hrdb, hal, he⟩ := gcWith_cases s (dropUnrefZ z s.readers) (by cases s.segs <;> rfl)
    (fun k => dropUnrefZ_suffix z s.readers k s.segs) (gcZ s z) rfl
  exact ⟨pre, _, _, he, hp, hz, hrdb, hal⟩

theorem dinv_gcZ {s : Disk} (h : DInv s) (z : List Nat) : DInv (gcZ s z) := by
  obtain ⟨pre, segs', rdb', he, hp, hz, hrdb, hal⟩ := gcZ_cases s z
  rw [he]
  refine h.dropPrefix pre segs' rdb' hp hz ?_ hal
  rcases hrdb with h1 | ⟨h1, h2⟩
  · exact Or.inl h1
  · refine Or.inr ⟨h1, fun r hr => ?_⟩
    have := h2 r hr
    unfold rdbRef at this
    omega

theorem closeLive_all_subset (s : Disk) : ∀ x ∈ s.closeLive.all, x ∈ s.all := by
  intro x hx
  unfold Disk.closeLive at hx
  cases hl : s.live with
  | none => rw [hl] at hx; simpa [hl] using hx
  | some g =>
    rw [hl] at hx
    simp only [] at hx
    split at hx
    · simp only [Disk.all, Option.toList_none, List.append_nil] at hx
      simp [Disk.all, hl, hx]
    · simpa [Disk.all, hl] using hx

theorem FilesOk.sub {s s' : Disk} {fs : FS} (hf : FilesOk s fs) (h : ∀ x ∈ s'.all, x ∈ s.all) : FilesOk s' fs :=
  fun g hg => hf g (h g hg)

/-- a header rewrite of any length ≤ 16 on the file of an indexed segment leaves every
    indexed segment's file a 16-byte header followed by its data -/
theorem filesOk_hdr {s : Disk} {fs : FS} (hd : DInv s) (hf : FilesOk s fs) {g : DSeg} (hg : g ∈ s.all)
    (h : Bytes) (hl : h.length ≤ headerSize) :
    FilesOk s (fs.apply (.pwriteHdr (aofName g.left) h)) := by
  obtain ⟨hdr0, hh0, hget0⟩ := hf g hg
  intro g' hg'
  by_cases e : g'.left = g.left
  · have := all_lefts_unique hd hg' hg e
    subst this
    refine ⟨h ++ hdr0.drop h.length, by simp [List.length_drop]; omega, ?_⟩
    rw [get_apply_pwrite_eq _ hget0]
    congr 1
    rw [List.drop_append_of_le_length (by omega), List.append_assoc]
  · obtain ⟨hdr, hh, hget⟩ := hf g' hg'
    refine ⟨hdr, hh, ?_⟩
    rw [get_apply_other _ _ _ (by simp only [FsOp.names, List.mem_singleton]; exact fun e' => e (aofName_inj e'))]
    exact hget

theorem tmpRel_frame {s s' : Disk} {fs : FS} {ops : List FsOp} (hr : TmpRel s fs)
    (hrdb : ∀ r, s'.rdb = some r → r.writing = true → s.rdb = some r)
    (hno : ∀ o ∈ ops, ∀ l sz, rdbTmpName l sz ∉ o.names) : TmpRel s' (fs.applyAll ops) := by
  intro r hr' hw
  rw [get_applyAll_other ops fs _ (fun op hop => hno op hop r.left r.size)]
  exact hr r (hrdb r hr' hw) hw

theorem hdrTornOps_mem {n : FName} {hdr : Bytes} {k : Nat} {o : FsOp} (h : o ∈ hdrTornOps n hdr k) :
    o = .pwriteHdr n (hdr.take k) := by
  unfold hdrTornOps at h
  split at h
  · cases h
  · simpa using h

theorem aof_op_safe {P : Nat → Nat → Bytes → Prop} (l : Nat) (o : FsOp)
    (h : (∃ bs, o = .append (aofName l) bs) ∨ (∃ hd, o = .pwriteHdr (aofName l) hd) ∨ o = .create (aofName l) ∨
      o = .remove (aofName l)) :
    (∀ fs, RdbSafeP P fs o) ∧ (∀ l' sz, rdbTmpName l' sz ∉ o.names) := by
  rcases h with ⟨bs, rfl⟩ | ⟨hd, rfl⟩ | rfl | rfl <;>
    exact ⟨by intro fs; simp [RdbSafeP, aofName, parseRdbName], by intro l' sz; simp [FsOp.names, aofName, rdbTmpName]⟩

theorem base_generic (s : XDisk) (o : DOp) (h1 : ∀ off size, o ≠ .newRdbWriter off size) (h2 : o ≠ .gc) :
    baseOps s o = fsOps s.d o ∧ baseDisk s o = (s.d.step o).1 := by
  cases o <;> first | exact ⟨rfl, rfl⟩ | exact absurd rfl (h1 _ _) | exact absurd rfl h2

theorem xbase_generic {src : Nat → UInt8} {P : Nat → Nat → Bytes → Prop} (s : XDisk) (o : DOp)
    (h1 : ∀ off size, o ≠ .newRdbWriter off size) (h2 : o ≠ .gc)
    (hinv : XInv src s) (hok : s.d.okOp o) (hsrc : ChunkOk src s.d o)
    (hP : ∀ r chunk, o = .rdbAppend chunk → s.d.rdb = some r → r.writing = true →
      r.data.length + chunk.length = r.size → P r.left r.size (r.data ++ chunk)) :
    StepOk src P s (xbase s o) := by
  obtain ⟨e1, e2⟩ := base_generic s o h1 h2
  obtain ⟨ht, hfiles⟩ := fsOps_true_step (src := src) s.d s.fs o hinv.dinv hok hinv.hist hsrc hinv.files
  obtain ⟨hsafe, htmp⟩ := fsOps_step P s.d s.fs o hok hinv.tmp hP
  unfold xbase
  simp only [e1, e2]
  refine StepOk.mk' (by rw [okOps_allOk]) ?_ ?_ ⟨hinv.dinv.step o hok, HistTrue_step hinv.hist o hsrc, hfiles, htmp⟩
  · rw [okOps_allOk]; exact Pos.mono (fun fs o h => OpTrueX_of_OpTrue fs o h) ht
  · rw [okOps_allOk]; exact hsafe

theorem rdbCloseOps_mem {s : Disk} {o : FsOp} (h : o ∈ rdbCloseOps s) : ∃ l sz, o = .remove (rdbTmpName l sz) := by
  unfold rdbCloseOps at h
  split at h
  · split at h
    · simp at h; exact ⟨_, _, h⟩
    · cases h
  · cases h

theorem newRdbWriter_safe {P : Nat → Nat → Bytes → Prop} (s : XDisk) (off size : Nat) :
    Pos (RdbSafeP P) s.fs (xResetOps s.d s.fs ++ [.create (rdbTmpName off size)]) ∧
    TmpRel (s.d.step (.newRdbWriter off size)).1
      (s.fs.applyAll (xResetOps s.d s.fs ++ [.create (rdbTmpName off size)])) := by
  constructor
  · apply Pos.ofAll
    intro o ho fs'
    unfold xResetOps at ho
    simp only [List.mem_append, List.mem_singleton] at ho
    rcases ho with ((ho | ho) | ho) | ho
    · obtain ⟨l, sz, rfl⟩ := rdbCloseOps_mem ho; trivial
    · exact (closeLiveOps_aof s.d o ho).2 P fs'
    · obtain ⟨n, _, rfl⟩ := List.mem_map.mp ho; trivial
    · subst ho; simp [RdbSafeP, rdbTmpName, parseRdbName]
  · intro r hr' hw
    simp only [Disk.step] at hr'
    simp at hr'; subst hr'
    rw [applyAll_append]
    show ((s.fs.applyAll (xResetOps s.d s.fs)).apply (.create (rdbTmpName off size))).get (rdbTmpName off size) = some []
    exact get_set_eq _ _ _

theorem xbase_newRdbWriter {src : Nat → UInt8} {P : Nat → Nat → Bytes → Prop} (s : XDisk) (off size : Nat)
    (hinv : XInv src s) (hok : s.d.okOp (.newRdbWriter off size)) :
    StepOk src P s (xbase s (.newRdbWriter off size)) := by
  unfold xbase
  simp only [baseOps, baseDisk]
  have hA : ∀ o ∈ rdbCloseOps s.d, ∃ l sz, o = .remove (rdbTmpName l sz) := fun o ho => rdbCloseOps_mem ho
  have hfA : FilesOk s.d (s.fs.applyAll (rdbCloseOps s.d)) := by
    apply filesOk_of_untouched hinv.files (fun g hg => hg)
    intro o ho g _
    obtain ⟨l, sz, rfl⟩ := hA o ho
    simp [FsOp.names, aofName, rdbTmpName]
  have hB := (closeLive_files (src := src) hinv.dinv hfA).1
  refine StepOk.mk' (by rw [okOps_allOk]) ?_ ?_ ?_
  ·
    rw [okOps_allOk]
    unfold xResetOps
    simp only []
    apply Pos.append
    · apply Pos.append
      · apply Pos.append
        · exact Pos.ofAll (fun o ho fs' => by obtain ⟨l, sz, rfl⟩ := hA o ho; trivial)
        · exact Pos.mono (fun fs o h => OpTrueX_of_OpTrue fs o h) hB
      · exact Pos.ofAll (fun o ho fs' => by obtain ⟨n, _, rfl⟩ := List.mem_map.mp ho; trivial)
    · exact Pos.single trivial
  · rw [okOps_allOk]; exact (newRdbWriter_safe s off size).1
  · refine ⟨hinv.dinv.step _ hok, HistTrue_step hinv.hist _ trivial, ?_, (newRdbWriter_safe (P := P) s off size).2⟩
    intro g hg
    simp [Disk.step, Disk.reset, Disk.all] at hg

theorem gcOpsZ_mem {s : Disk} {z : List Nat} {o : FsOp} (h : o ∈ gcOpsZ s z) :
    (∃ l sz, o = .remove (rdbName l sz)) ∨
    (∃ g ∈ s.segs.take (s.segs.length - (gcZ s z).segs.length), o = .remove (aofName g.left)) := by
  unfold gcOpsZ at h
  rcases List.mem_append.mp h with h1 | h1
  · left
    split at h1
    · simp at h1; exact ⟨_, _, h1⟩
    · cases h1
  · right
    obtain ⟨g, hg, rfl⟩ := List.mem_map.mp h1
    exact ⟨g, hg, rfl⟩

theorem gcZ_rdb_keep (s : Disk) (z : List Nat) : ∀ r, (gcZ s z).rdb = some r → s.rdb = some r := by
  intro r hr
  obtain ⟨pre, segs', rdb', he, _, _, hrdb, _⟩ := gcZ_cases s z
  rw [he] at hr
  simp only [] at hr
  rcases hrdb with h1 | ⟨h1, _⟩
  · rw [← h1]; exact hr
  · rw [h1] at hr; cases hr

theorem gcZ_inv {src : Nat → UInt8} (s : XDisk) (hinv : XInv src s) (fs' : FS)
    (hkeep : ∀ g ∈ (gcZ s.d s.zombies).all, fs'.get (aofName g.left) = s.fs.get (aofName g.left))
    (htmp : ∀ l sz, fs'.get (rdbTmpName l sz) = s.fs.get (rdbTmpName l sz)) (z' : List Nat) :
    XInv src ⟨gcZ s.d s.zombies, fs', z'⟩ := by
  obtain ⟨pre, segs', rdb', he, hp, hz, hrdb, hal⟩ := gcZ_cases s.d s.zombies
  have hsub : ∀ g ∈ (gcZ s.d s.zombies).all, g ∈ s.d.all := by
    intro g hg
    rw [he] at hg
    simp only [Disk.all] at hg ⊢
    rw [hp]
    rcases List.mem_append.mp hg with h | h
    · simp [h]
    · simp [h]
  refine ⟨dinv_gcZ hinv.dinv _, ?_, ?_, ?_⟩
  · intro i b hb
    rw [he] at hb ⊢
    exact hinv.hist i b hb
  · intro g hg
    obtain ⟨hdr, hh, hget⟩ := hinv.files g (hsub g hg)
    exact ⟨hdr, hh, by rw [hkeep g hg]; exact hget⟩
  · intro r hr hw
    show fs'.get _ = _
    rw [htmp]
    exact hinv.tmp r (gcZ_rdb_keep _ _ r hr) hw

theorem gc_removed_ne {s : Disk} (hd : DInv s) (z : List Nat) {x g : DSeg}
    (hx : x ∈ s.segs.take (s.segs.length - (gcZ s z).segs.length)) (hg : g ∈ (gcZ s z).all) :
    aofName g.left ≠ aofName x.left := by
  obtain ⟨pre, segs', rdb', he, hp, _, _, _⟩ := gcZ_cases s z
  have hlen : s.segs.length - (gcZ s z).segs.length = pre.length := by
    rw [he]; simp only []
    have := congrArg List.length hp; simp at this; omega
  rw [hlen, hp, List.take_left' rfl] at hx
  rw [he] at hg
  have hall : s.all = pre ++ (segs' ++ s.live.toList) := by simp [Disk.all, hp]
  have hg' : g ∈ segs' ++ s.live.toList := by simpa [Disk.all] using hg
  have := lefts_lt_of_split (hall ▸ hd.contig) (hall ▸ all_initNonempty hd.nonempty) hx hg'
  intro e
  have := aofName_inj e
  omega

theorem gc_kept {s : Disk} (hd : DInv s) (z : List Nat) {ops : List FsOp} (hsub : ∀ o ∈ ops, o ∈ gcOpsZ s z) (fs : FS) :
    ∀ g ∈ (gcZ s z).all, (fs.applyAll ops).get (aofName g.left) = fs.get (aofName g.left) := by
  intro g hg
  apply get_applyAll_other
  intro o ho
  rcases gcOpsZ_mem (hsub o ho) with ⟨l, sz, rfl⟩ | ⟨x, hx, rfl⟩
  · simp [FsOp.names, aofName, rdbName]
  · simp only [FsOp.names, List.mem_singleton]
    exact gc_removed_ne hd _ hx hg

theorem gc_atts_ok {src : Nat → UInt8} {P : Nat → Nat → Bytes → Prop} (s : XDisk) (hinv : XInv src s) {atts : List Att}
    (hsub : ∀ o ∈ okOps atts, o ∈ gcOpsZ s.d s.zombies) {z' : List Nat} :
    StepOk src P s (⟨gcZ s.d s.zombies, s.fs.applyAll (okOps atts), z'⟩, atts) := by
  refine StepOk.mk' rfl ?_ ?_ ?_
  · exact Pos.ofAll (fun o ho fs' => by
      rcases gcOpsZ_mem (hsub o ho) with ⟨l, sz, rfl⟩ | ⟨g, _, rfl⟩ <;> trivial)
  · exact Pos.ofAll (fun o ho fs' => by
      rcases gcOpsZ_mem (hsub o ho) with ⟨l, sz, rfl⟩ | ⟨g, _, rfl⟩ <;> trivial)
  · apply gcZ_inv s hinv _ (gc_kept hinv.dinv _ hsub _)
    · intro l sz
      apply get_applyAll_other
      intro o ho
      rcases gcOpsZ_mem (hsub o ho) with ⟨l', sz', rfl⟩ | ⟨x, _, rfl⟩
      · simp [FsOp.names, rdbTmpName, rdbName]
      · simp [FsOp.names, rdbTmpName, aofName]

theorem xbase_ok {src : Nat → UInt8} {P : Nat → Nat → Bytes → Prop} (s : XDisk) (o : DOp)
    (hinv : XInv src s) (hok : s.d.okOp o) (hsrc : ChunkOk src s.d o)
    (hP : ∀ r chunk, o = .rdbAppend chunk → s.d.rdb = some r → r.writing = true →
      r.data.length + chunk.length = r.size → P r.left r.size (r.data ++ chunk)) :
    StepOk src P s (xbase s o) := by
  by_cases h2 : o = .gc
  · subst h2
    have := gc_atts_ok (P := P) s hinv (atts := allOk (gcOpsZ s.d s.zombies)) (z' := zKeep s.zombies (gcZ s.d s.zombies))
      (by rw [okOps_allOk]; exact fun _ h => h)
    rwa [okOps_allOk] at this
  · by_cases h1 : ∃ off size, o = .newRdbWriter off size
    · obtain ⟨off, size, rfl⟩ := h1
      exact xbase_newRdbWriter s off size hinv hok
    · exact xbase_generic s o (fun off size e => h1 ⟨off, size, e⟩) h2 hinv hok hsrc hP

end GunYu.StoreFsX
