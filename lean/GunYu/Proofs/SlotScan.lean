/-
  Helper lemmas for C11: both Go scanners (`ktsOuter` of slot.go, `scanFor` of cluster.go), read through
  `splitFirst`, select the HASH_SLOT hash-tag bytes.
-/
import GunYu.Model.Slot

namespace GunYu.Slot

theorem ktsInner_spec (c : Bytes) (acc : Bytes) :
    ktsInner c acc = (splitFirst rbrace c).map (fun p => acc.reverse ++ p.1) := by
  fun_induction ktsInner c acc
  case case1 => rfl
  case case2 b rest acc hb => simp [splitFirst, hb]
  case case3 b rest acc hb ih =>
    rw [ih, splitFirst]
    simp only [hb, Bool.false_eq_true, ↓reduceIte]
    cases splitFirst rbrace rest with
    | none => rfl
    | some p => simp

/-- the bytes between the first `{` of `rest` and the first `}` after it; `h` when either is missing -/
def ktsTagFrom (h rest : Bytes) : Bytes :=
  match splitFirst lbrace rest with
  | none => h
  | some p =>
    match splitFirst rbrace p.2 with
    | none => h
    | some q => q.1

theorem ktsOuter_spec (k : Bytes) : ktsOuter k = ktsTagFrom [] k := by
  induction k with
  | nil => simp [ktsOuter, ktsTagFrom, splitFirst]
  | cons b rest ih =>
    rw [ktsOuter, ktsTagFrom, splitFirst]
    by_cases hb : b == lbrace
    · simp only [hb, ↓reduceIte]
      rw [ktsInner_spec]
      cases splitFirst rbrace rest with
      | none => rfl
      | some p => simp
    · simp only [hb, Bool.false_eq_true, ↓reduceIte]
      rw [ih, ktsTagFrom]
      cases splitFirst lbrace rest <;> rfl

/-- the bytes KeyToSlot hashes -/
def ktsHashed (k : Bytes) : Bytes :=
  if (ktsOuter k).length > 0 then ktsOuter k else k

theorem ktsHashed_eq_spec (k : Bytes) : ktsHashed k = hashTagSpec k := by
  unfold ktsHashed hashTagSpec
  rw [ktsOuter_spec, ktsTagFrom]
  cases splitFirst lbrace k with
  | none => simp
  | some p =>
    obtain ⟨x, afterL⟩ := p
    simp only
    cases splitFirst rbrace afterL with
    | none => simp
    | some q =>
      obtain ⟨inner, y⟩ := q
      cases inner with
      | nil => simp
      | cons a as => simp

theorem scanFor_spec (c : UInt8) (k : Bytes) :
    match splitFirst c k with
    | none => scanFor c k = k.length
    | some (x, y) => scanFor c k = x.length ∧ k = x ++ c :: y := by
  fun_induction splitFirst c k
  case case1 => rfl
  case case2 b rest hb => simp [scanFor, beq_iff_eq.mp hb]
  case case3 b rest hb hs ih =>
    rw [hs] at ih
    simp [scanFor, hb, ih]
  case case4 b rest hb x y hs ih =>
    rw [hs] at ih
    simp [scanFor, hb, ih.1]
    exact ih.2

/-- the bytes cluster `hash` hashes -/
def clusterHashed (k : Bytes) : Bytes :=
  let s := scanFor lbrace k
  if s = k.length then k
  else
    let tail := k.drop (s + 1)
    let e := s + 1 + scanFor rbrace tail
    if e = k.length ∨ e = s + 1 then k
    else (k.drop (s + 1)).take (e - (s + 1))

theorem clusterHashed_eq_spec (k : Bytes) : clusterHashed k = hashTagSpec k := by
  unfold clusterHashed hashTagSpec
  have h1 := scanFor_spec lbrace k
  cases hs : splitFirst lbrace k with
  | none => simp [hs] at h1; simp [h1]
  | some p =>
    obtain ⟨x, afterL⟩ := p
    simp [hs] at h1
    obtain ⟨hx, hk⟩ := h1
    have hlen : k.length = x.length + 1 + afterL.length := by
      rw [hk]; simp; omega
    have hdrop : k.drop (x.length + 1) = afterL := by
      rw [hk]; simp
    have hne : ¬ x.length = k.length := by omega
    simp only [hx, hne, ↓reduceIte, hdrop]
    have h2 := scanFor_spec rbrace afterL
    cases hs2 : splitFirst rbrace afterL with
    | none =>
      simp [hs2] at h2
      have : x.length + 1 + afterL.length = k.length := by omega
      simp [h2, this]
    | some q =>
      obtain ⟨inner, y⟩ := q
      simp [hs2] at h2
      obtain ⟨hi, ha⟩ := h2
      have hal : afterL.length = inner.length + 1 + y.length := by
        rw [ha]; simp; omega
      have hA : ¬ (x.length + 1 + inner.length = k.length) := by omega
      cases inner with
      | nil => simp [hi]
      | cons a as =>
        have hB : ¬ (x.length + 1 + (a :: as).length = x.length + 1) := by simp
        simp only [hi, hA, hB, or_self, ↓reduceIte, List.isEmpty_cons, Bool.false_eq_true]
        rw [ha]
        simp

theorem splitFirst_none (c : UInt8) (k : Bytes) (h : c ∉ k) : splitFirst c k = none := by
  induction k with
  | nil => rfl
  | cons b rest ih =>
    have hb : b ≠ c := fun e => h (by simp [e])
    have hr : c ∉ rest := fun e => h (List.mem_cons_of_mem _ e)
    simp [splitFirst, hb, ih hr]

theorem splitFirst_at (c : UInt8) (pre post : Bytes) (h : c ∉ pre) :
    splitFirst c (pre ++ c :: post) = some (pre, post) := by
  induction pre with
  | nil => simp [splitFirst]
  | cons b rest ih =>
    have hb : b ≠ c := fun e => h (by simp [e])
    have hr : c ∉ rest := fun e => h (List.mem_cons_of_mem _ e)
    simp [splitFirst, hb, ih hr]

theorem splitFirst_length (c : UInt8) (l : Bytes) (p : Bytes × Bytes) (h : splitFirst c l = some p) :
    p.1.length + p.2.length + 1 = l.length := by
  fun_induction splitFirst c l generalizing p
  case case1 => cases h
  case case2 => cases h; simp
  case case3 => cases h
  case case4 b rest _ x y hs ih =>
    cases h
    have := ih _ hs
    simp only [List.length_cons] at this ⊢
    omega

theorem splitFirst_cons_eq (c b : UInt8) (rest : Bytes) (h : b = c) :
    splitFirst c (b :: rest) = some ([], rest) := by
  simp [splitFirst, h]

theorem splitFirst_cons_ne (c b : UInt8) (rest : Bytes) (h : b ≠ c) :
    splitFirst c (b :: rest) = (splitFirst c rest).map (fun p => (b :: p.1, p.2)) := by
  have : (b == c) = false := by simp [h]
  rw [splitFirst]
  simp only [this, Bool.false_eq_true, ↓reduceIte]
  cases splitFirst c rest with
  | none => rfl
  | some p => rfl

theorem ktsOuter_length_le (k : Bytes) : (ktsOuter k).length ≤ k.length := by
  rw [ktsOuter_spec, ktsTagFrom]
  cases h1 : splitFirst lbrace k with
  | none => exact Nat.zero_le _
  | some p =>
    obtain ⟨x, a⟩ := p
    have := splitFirst_length _ _ _ h1
    dsimp only at this ⊢
    cases h2 : splitFirst rbrace a with
    | none => exact Nat.zero_le _
    | some q =>
      obtain ⟨y, z⟩ := q
      have := splitFirst_length _ _ _ h2
      dsimp only at this ⊢
      omega

theorem scanFor_le (c : UInt8) (l : Bytes) : scanFor c l ≤ l.length := by
  induction l with
  | nil => simp [scanFor]
  | cons b rest ih => rw [scanFor]; split <;> simp <;> omega

theorem scanFor_cons_eq (c b : UInt8) (rest : Bytes) (h : b = c) : scanFor c (b :: rest) = 0 := by
  simp [scanFor, h]

theorem scanFor_cons_ne (c b : UInt8) (rest : Bytes) (h : b ≠ c) :
    scanFor c (b :: rest) = scanFor c rest + 1 := by
  have : (b == c) = false := by simp [h]
  rw [scanFor]; simp [this]

end GunYu.Slot
