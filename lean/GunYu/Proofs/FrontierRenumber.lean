/-
  A numbering restart (Model/FrontierRenumber.lean). While anything of
  the OLD numbering is still readable, every start returns the new root with sequence 0 and purges;
  no unit of the new numbering commits before the purge is complete; after it the namespace is one
  the single-numbering invariant `TInv` holds for. Core only.
-/
import GunYu.Model.FrontierRenumber
import GunYu.Proofs.FrontierScrub

namespace GunYu.Frontier
open GunYu

/-- a start on a namespace whose recovery bookkeeping is all older than the (matching) root checkpoint
    returns that root with sequence 0 — whatever is stored: a snapshot, a journal with or without
    gaps, leftovers of a purge that stopped half-way, records nothing can read -/
theorem stale_start (ver : Bytes) (ns : NS) (ids : List Bytes) (root : Bytes × Int × Nat)
    (hroot : ns.root = some root) (hr1 : root.1 ≠ []) (hr2 : matchRun root.1 ids = true)
    (hst : StaleBelow root.2.1 ns) : startFrontier ver ns ids = restartFromRoot ns ids root := by
  unfold startFrontier
  rw [hroot]
  dsimp only
  cases hrb : rebuild ver (loadSnapshot ns ids) ((startRecords ns ids).map (·.r)) with
  | error m => rfl
  | ok res =>
    cases res with
    | none => rfl
    | some f =>
      dsimp only
      by_cases hpos : f.seq > 0
      · rw [if_pos hpos]
        have hoff : f.offset < root.2.1 := by
          rcases rebuild_origin hrb hpos with h1 | ⟨r, hr, _, hro, _⟩
          · exact hst.1 f (loadSnapshot_some h1)
          · obtain ⟨j, hj, rfl⟩ := List.mem_map.mp hr
            rw [← hro]
            exact hst.2 j (mem_loadRecords hj)
        rw [if_pos (rootNewer_iff.mpr ⟨hr1, hoff, hr2⟩)]
      · rw [if_neg hpos]

theorem scrubF_some {ids : List Bytes} {o : Option Snap} {f : Snap} (h : scrubF ids o = some f) :
    o = some f ∧ matchRun f.runId ids = true := by
  cases o with
  | none => exact absurd h (by simp [scrubF])
  | some g =>
    by_cases hm : matchRun g.runId ids = true
    · simp only [scrubF, hm, if_true, Option.some.injEq] at h
      subst h; exact ⟨rfl, hm⟩
    · simp only [scrubF, hm] at h
      cases h

theorem applyAll_uniqueKeys (rs : List Req) : ∀ {ns : NS}, UniqueKeys ns → UniqueKeys (applyAll ns rs) :=
  foldl_inv (f := applyReq) (I := UniqueKeys) (fun _ q h => uniqueKeys_applyReq h q) rs

structure StalePh (W : World) (t : TSys) : Prop where
  root : ∃ root, t.ns.root = some root ∧ root.2.1 = W.e 0 ∧ root.1 ≠ [] ∧ matchRun root.1 W.ids = true
  com : t.committed = []
  stale : StaleBelow (W.e 0) t.ns
  ix : ∀ p ∈ t.ns.index, p.1 = p.2
  jr : ∀ j ∈ t.ns.journal, j.r.seq = j.kseq ∧ 0 < j.r.seq ∧ matchRun j.r.runId W.ids = true ∧
        ∃ p ∈ t.ns.index, p.2 = j.kseq
  uniq : UniqueKeys t.ns
  fr : ∀ f, t.ns.frontier = some f → matchRun f.runId W.ids = true
  ph : (t.run = none ∧ t.rq = [] ∧ t.cq = []) ∨
       (∃ (r : Run) (ks : List Int) (tail : List Req), t.run = some r ∧ r.startSeq = 0 ∧ r.coord.frontier.seq = 0 ∧
          r.coord.frontier.offset = W.e 0 ∧ r.coord.advanced = [] ∧ r.coord.pending = [] ∧ t.cq = [] ∧
          t.rq = ks.map Req.delRec ++ tail ∧
          (tail = [Req.delFrontier] ∨ ∃ K, tail = [Req.zrem K, Req.delFrontier]) ∧
          ∀ j ∈ t.ns.journal, j.kseq ∈ ks)

theorem stalePh_start {W : World} {t : TSys} (h : StalePh W t) :
    ∃ root, t.ns.root = some root ∧ root.2.1 = W.e 0 ∧
      startFrontier W.ver t.ns W.ids = restartFromRoot t.ns W.ids root := by
  obtain ⟨root, hroot, h0, h1, h2⟩ := h.root
  exact ⟨root, hroot, h0, stale_start W.ver t.ns W.ids root hroot h1 h2 (by rw [h0]; exact h.stale)⟩

theorem stalePh_seq {W : World} {t : TSys} (h : StalePh W t) :
    startSeqOf W.ver t.ns W.ids = 0 ∧ startOffOf W.ver t.ns W.ids = W.e 0 := by
  obtain ⟨root, _, h0, hst⟩ := stalePh_start h
  unfold startSeqOf startOffOf
  rw [hst]
  exact ⟨rfl, h0⟩

theorem tinv_of_clean {W : World} {t : TSys} (root : Bytes × Int × Nat) (hroot : t.ns.root = some root)
    (h0 : root.2.1 = W.e 0) (hj : t.ns.journal = []) (hf : t.ns.frontier = none)
    (hix : ∀ p ∈ t.ns.index, p.1 = p.2) (r : Run) (hrun : t.run = some r) (hs : r.startSeq = 0)
    (hfs : r.coord.frontier.seq = 0) (hfo : r.coord.frontier.offset = W.e 0) (ha : r.coord.advanced = [])
    (hp : r.coord.pending = []) (hrq : t.rq = []) (hcq : t.cq = []) : TInv W t := by
  refine ⟨⟨?_, ?_, ?_, ?_, ?_⟩, hix, ⟨root, hroot⟩, (fun hn => nomatch hrun.symm.trans hn), ?_⟩
  · intro x hx
    cases hroot.symm.trans hx
    exact h0
  · intro j (hjm : j ∈ t.ns.journal)
    rw [hj] at hjm; cases hjm
  · intro f hf'
    exact nomatch hf.symm.trans hf'
  · intro r' hr'
    cases hrun.symm.trans hr'
    refine ⟨⟨by omega, by rw [hfo, hfs], fun j h1 h2 => by omega⟩, by omega, ?_⟩
    rw [hp]; exact fun p hpm => nomatch hpm
  · intro q (hq : q ∈ t.rq ++ t.cq)
    rw [hrq, hcq] at hq; cases hq
  · intro r' hr'
    cases hrun.symm.trans hr'
    have hs0 : snapSeq t.ns W.ids = 0 := by unfold snapSeq loadSnapshot; rw [hf]; rfl
    exact phase_fresh hcq (by rw [hrq]; trivial) (by rw [hrq, hs0, hfs]; exact Int.le_refl _) ha hp

theorem StalePh.rq_ne_nil {W : World} {t : TSys} (h : StalePh W t) {r : Run} (hr : t.run = some r) : t.rq ≠ [] := by
  rcases h.ph with ⟨hn, _, _⟩ | ⟨_, ks, tail, _, _, _, _, _, _, _, hrq, htail, _⟩
  · exact nomatch hr.symm.trans hn
  · rw [hrq]
    rcases htail with rfl | ⟨K, rfl⟩ <;> exact List.append_ne_nil_of_right_ne_nil _ (List.cons_ne_nil _ _)

/-- every step from that phase stays in it or ends it with a clean namespace -/
theorem stale_step {W : World} {t : TSys} (h : StalePh W t) (st : Step) :
    StalePh W (tstep W t st) ∨ TInv W (tstep W t st) := by
  obtain ⟨root, hroot, h0, hr1, hr2⟩ := h.root
  refine tstep_cases (t := t) rfl rfl rfl rfl (P := fun _ t' _ => StalePh W t' ∨ TInv W t') st (Or.inl h) ?_
    (fun r _ _ hr hq _ => absurd hq (h.rq_ne_nil hr)) (fun r _ _ _ hr hq _ _ => absurd hq (h.rq_ne_nil hr))
    (fun r _ hr hq => absurd hq (h.rq_ne_nil hr)) ?_ ?_
    (Or.inl ⟨h.root, h.com, h.stale, h.ix, h.jr, h.uniq, h.fr, Or.inl ⟨rfl, rfl, rfl⟩⟩)
  · -- a process starts: the root, and the purge of everything readable (or nothing to purge)
    intro hn
    obtain ⟨root', hroot', _, hst⟩ := stalePh_start h
    cases hroot.symm.trans hroot'
    have e : tstartRun W t = { t with run := some (mkRun W.ver root.1 root.2.1 0),
                                      rq := (restartFromRoot t.ns W.ids root).2, cq := [] } := by
      simp only [tstartRun, hst, restartFromRoot, rootPoint, mkRun]
    rw [e]
    -- every journal record is loaded by a start from sequence 1 and by the purge
    have hload : ∀ m : Int, m ≤ 1 → ∀ j ∈ t.ns.journal, j ∈ loadRecords t.ns W.ids m := by
      intro m hm1 j hj
      obtain ⟨hs, hpos, hmr, p, hp, hpk⟩ := h.jr j hj
      rw [mem_loadRecords_iff]
      refine ⟨p, hp, ?_, ?_, hmr⟩
      · have := h.ix p hp
        show m ≤ p.1
        omega
      · rw [hpk]; exact h.uniq j hj
    by_cases hc2 : (loadSnapshot t.ns W.ids).isSome = true ∨ ¬ (startRecords t.ns W.ids).isEmpty = true
    · left
      have erq : (restartFromRoot t.ns W.ids root).2 = purgeReqs t.ns W.ids := by
        unfold restartFromRoot; simp only; rw [if_pos hc2]
      rw [erq]
      refine ⟨h.root, h.com, h.stale, h.ix, h.jr, h.uniq, h.fr, Or.inr ?_⟩
      refine ⟨_, ((loadRecords t.ns W.ids (-(2^63 : Int))).map (·.kseq)).eraseDups,
        (if ((loadRecords t.ns W.ids (-(2^63 : Int))).map (·.kseq)).eraseDups.isEmpty then []
          else [Req.zrem ((loadRecords t.ns W.ids (-(2^63 : Int))).map (·.kseq)).eraseDups]) ++ [Req.delFrontier],
        rfl, rfl, rfl, h0, rfl, rfl, rfl, ?_, ?_, ?_⟩
      · unfold purgeReqs; simp only [List.append_assoc]
      · split
        · left; rfl
        · right; exact ⟨_, rfl⟩
      · intro j hj
        rw [List.mem_eraseDups]
        exact List.mem_map.mpr ⟨j, hload _ (by decide) j hj, rfl⟩
    · -- nothing readable: nothing stored
      right
      have erq : (restartFromRoot t.ns W.ids root).2 = [] := by
        unfold restartFromRoot; simp only; rw [if_neg hc2]
      rw [erq]
      have hsnone : loadSnapshot t.ns W.ids = none := by
        cases hs : loadSnapshot t.ns W.ids with
        | none => rfl
        | some f => exact absurd (Or.inl (by rw [hs]; rfl)) hc2
      have hfnone : t.ns.frontier = none := by
        cases hf : t.ns.frontier with
        | none => rfl
        | some f =>
          have := (loadSnapshot_eq_some (ids := W.ids)).mpr ⟨hf, h.fr f hf⟩
          rw [hsnone] at this; cases this
      have hjnil : t.ns.journal = [] := by
        cases hj : t.ns.journal with
        | nil => rfl
        | cons j rest =>
          exfalso
          apply hc2
          right
          have hmin : minSeqFor (loadSnapshot t.ns W.ids) = 1 := by rw [hsnone]; rfl
          have : j ∈ startRecords t.ns W.ids := by
            unfold startRecords; rw [hmin]
            exact hload 1 (Int.le_refl _) j (by rw [hj]; exact List.mem_cons_self ..)
          intro hemp
          rw [List.isEmpty_iff.mp hemp] at this; cases this
      exact tinv_of_clean root hroot h0 hjnil hfnone h.ix _ rfl rfl rfl h0 rfl rfl rfl rfl
  · -- a request of the purge is applied
    intro q rest hq
    rcases h.ph with ⟨_, hq', _⟩ | ⟨r, ks, tail, hrun, hs, hfs, hfo, ha, hp, hcq, hrq, htail, hcov⟩
    · rw [hq'] at hq; cases hq
    · rw [hrq] at hq
      cases ks with
      | cons k ks' =>
        -- one journal record of the old numbering is deleted
        left
        obtain ⟨rfl, rfl⟩ := List.cons.inj hq
        have hsub : ∀ j ∈ (applyReq t.ns (.delRec k)).journal, j ∈ t.ns.journal ∧ j.kseq ≠ k := by
          intro j hj
          obtain ⟨a, b⟩ := List.mem_filter.mp hj
          exact ⟨a, by simpa using b⟩
        refine ⟨⟨root, by rw [applyReq_root]; exact hroot, h0, hr1, hr2⟩, h.com,
          ⟨h.stale.1, fun j hj => h.stale.2 j (hsub j hj).1⟩, h.ix, fun j hj => h.jr j (hsub j hj).1,
          uniqueKeys_applyReq h.uniq _, h.fr, Or.inr ?_⟩
        refine ⟨r, ks', tail, hrun, hs, hfs, hfo, ha, hp, hcq, rfl, htail, ?_⟩
        intro j hj
        obtain ⟨hjm, hne⟩ := hsub j hj
        rcases List.mem_cons.mp (hcov j hjm) with hk | hk
        · exact absurd hk hne
        · exact hk
      | nil =>
        have hjnil : t.ns.journal = [] := by
          cases hj : t.ns.journal with
          | nil => rfl
          | cons j rest => exact nomatch hcov j (by rw [hj]; exact List.mem_cons_self ..)
        rcases htail with rfl | ⟨K, rfl⟩
        · -- the snapshot goes: nothing of the old numbering is left
          right
          obtain ⟨rfl, rfl⟩ := List.cons.inj hq
          exact tinv_of_clean root (by rw [applyReq_root]; exact hroot) h0 hjnil rfl h.ix r hrun hs hfs hfo ha hp rfl hcq
        · -- the index members go
          left
          obtain ⟨rfl, rfl⟩ := List.cons.inj hq
          have hjn : (applyReq t.ns (.zrem K)).journal = [] := hjnil
          refine ⟨⟨root, by rw [applyReq_root]; exact hroot, h0, hr1, hr2⟩, h.com,
            ⟨h.stale.1, fun j hj => by rw [hjn] at hj; cases hj⟩,
            fun p hp' => h.ix p (List.mem_filter.mp hp').1,
            (fun j hj => by rw [hjn] at hj; cases hj),
            uniqueKeys_applyReq h.uniq _, h.fr, Or.inr ?_⟩
          exact ⟨r, [], [Req.delFrontier], hrun, hs, hfs, hfo, ha, hp, hcq, rfl, Or.inl rfl,
            fun j hj => by rw [hjn] at hj; cases hj⟩
  · intro q rest hq hc
    rcases h.ph with ⟨_, _, hc'⟩ | ⟨r, _, _, hrun, _⟩
    · rw [hc'] at hc; cases hc
    · exact absurd hq (h.rq_ne_nil hrun)

/-- either leftovers of the old numbering are still readable (and every start returns the new root),
    or the namespace is one of the new numbering alone -/
def RInv0 (W : World) (t : TSys) : Prop := TInv W t ∨ StalePh W t

theorem rinv0_off {W : World} (hm : ∀ i j, i ≤ j → W.e i ≤ W.e j) {t : TSys} (h : RInv0 W t) :
    startOffOf W.ver t.ns W.ids = W.e (startSeqOf W.ver t.ns W.ids) ∧
    (∀ j, 0 < j → j ≤ startSeqOf W.ver t.ns W.ids → j ∈ t.committed) := by
  rcases h with h | h
  · exact h.start_prefix hm
  · obtain ⟨a, b⟩ := stalePh_seq h
    rw [a, b]
    exact ⟨rfl, fun j h1 h2 => by omega⟩

theorem rinv0_step {W : World} (hm : ∀ i j, i ≤ j → W.e i ≤ W.e j) (hvis : matchRun W.rid W.ids = true)
    {t : TSys} (h : RInv0 W t) (st : Step) :
    RInv0 W (tstep W t st) ∧
      startSeqOf W.ver t.ns W.ids ≤ startSeqOf W.ver (tstep W t st).ns W.ids := by
  rcases h with h | h
  · obtain ⟨a, b⟩ := tstep_tinv hm hvis h st
    exact ⟨Or.inl a, b⟩
  · have hz := (stalePh_seq h).1
    rcases stale_step h st with h' | h'
    · exact ⟨Or.inr h', by rw [hz]; exact startSeqOf_nonneg _ _ _⟩
    · exact ⟨Or.inl h', by rw [hz]; exact startSeqOf_nonneg _ _ _⟩

/-- the invariant of executions after a numbering restart, tolerant of what no start can read:
    the state agrees, after scrubbing, with one the two-phase invariant holds for -/
def RInv (W : World) (s : TSys) : Prop :=
  ∃ t, Sim W.ids s t ∧ UniqueKeys s.ns ∧ UniqueKeys t.ns ∧ RInv0 W t

theorem rinv_step {W : World} (hm : ∀ i j, i ≤ j → W.e i ≤ W.e j) (hvis : matchRun W.rid W.ids = true)
    {s : TSys} (h : RInv W s) (st : Step) :
    RInv W (tstep W s st) ∧
      startSeqOf W.ver s.ns W.ids ≤ startSeqOf W.ver (tstep W s st).ns W.ids := by
  obtain ⟨t, hsim, hus, hut, hr⟩ := h
  obtain ⟨hr', hle⟩ := rinv0_step hm hvis hr st
  have hsim' := tstep_sim2 W hus hut hsim st
  have hus' := tstep_uniqueKeys W hus st
  have hut' := tstep_uniqueKeys W hut st
  refine ⟨⟨_, hsim', hus', hut', hr'⟩, ?_⟩
  rw [(sim_startSeqOf W hus hut hsim).1, (sim_startSeqOf W hus' hut' hsim').1]
  exact hle

theorem rinv_steps {W : World} (hm : ∀ i j, i ≤ j → W.e i ≤ W.e j) (hvis : matchRun W.rid W.ids = true)
    (steps : List Step) : ∀ {s : TSys}, RInv W s →
    RInv W (trunSteps W s steps) ∧
      startSeqOf W.ver s.ns W.ids ≤ startSeqOf W.ver (trunSteps W s steps).ns W.ids :=
  foldl_inv_mono (f := tstep W) (I := RInv W) (fun s => startSeqOf W.ver s.ns W.ids)
    (fun _ st h => rinv_step hm hvis h st) steps

theorem rinv_facts {W : World} (hm : ∀ i j, i ≤ j → W.e i ≤ W.e j) {s : TSys} (h : RInv W s) :
    startOffOf W.ver s.ns W.ids = W.e (startSeqOf W.ver s.ns W.ids) ∧
    0 ≤ startSeqOf W.ver s.ns W.ids ∧
    (∀ j, 0 < j → j ≤ startSeqOf W.ver s.ns W.ids → j ∈ s.committed) := by
  obtain ⟨t, hsim, hus, hut, hr⟩ := h
  obtain ⟨e1, e2, e3⟩ := sim_startSeqOf W hus hut hsim
  obtain ⟨a, b⟩ := rinv0_off hm hr
  rw [e1, e2, e3]
  exact ⟨a, startSeqOf_nonneg _ _ _, b⟩

/-- after any execution under numbering W₁ and any deletes, with the root of numbering W₂ (which lies
    beyond every unit of W₁) in place, the invariant of the restart holds -/
theorem rinv_resync {W₁ W₂ : World} (hvis₂ : matchRun W₂.rid W₂.ids = true)
    {s : TSys} (hnew : ∀ i, (i = 0 ∨ i ∈ s.committed) → W₁.e i < W₂.e 0) (h : TInv W₁ s) (hu : UniqueKeys s.ns) (db : Nat)
    (dels : List Req) (hd : ∀ q ∈ dels, isDelete q = true) : RInv W₂ (resync W₂ db dels s) := by
  obtain ⟨_, hdf', hdj, hdi⟩ := applyAll_deletes s.ns dels hd
  have hdf : ∀ f, (applyAll s.ns dels).frontier = some f → s.ns.frontier = some f := by
    intro f hf
    rcases hdf' with e | e
    · rw [← e]; exact hf
    · rw [e] at hf; cases hf
  have hu2 : UniqueKeys (resync W₂ db dels s).ns := applyAll_uniqueKeys dels hu
  refine ⟨scrubS W₂.ids (resync W₂ db dels s), (scrubS_idem W₂.ids _).symm, hu2, uniqueKeys_scrub W₂.ids hu2, Or.inr ?_⟩
  have hjm : ∀ j ∈ (scrubS W₂.ids (resync W₂ db dels s)).ns.journal,
      j ∈ s.ns.journal ∧ readable W₂.ids (applyAll s.ns dels).index j = true := by
    intro j hj
    obtain ⟨a, b⟩ := List.mem_filter.mp hj
    exact ⟨hdj j a, b⟩
  refine ⟨⟨(W₂.rid, W₂.e 0, db), rfl, rfl, matchRun_ne_nil hvis₂, hvis₂⟩, rfl, ⟨?_, ?_⟩, ?_, ?_,
    uniqueKeys_scrub W₂.ids hu2, ?_, Or.inl ⟨rfl, rfl, rfl⟩⟩
  · intro f hf
    have hf2 : (applyAll s.ns dels).frontier = some f := (scrubF_some (ids := W₂.ids) hf).1
    obtain ⟨hs0, hso, hsp⟩ := h.hi.fr f (hdf f hf2)
    rw [hso]
    apply hnew
    by_cases hz : f.seq = 0
    · exact Or.inl hz
    · exact Or.inr (hsp f.seq (by omega) (Int.le_refl _))
  · intro j hj
    obtain ⟨hje, hjc, _⟩ := (h.hi.jr j (hjm j hj).1).2
    rw [hje]; exact hnew _ (Or.inr hjc)
  · intro p hp
    exact h.ix p (hdi p hp)
  · intro j hj
    obtain ⟨hj1, hrd⟩ := hjm j hj
    obtain ⟨a, b⟩ := h.hi.jr j hj1
    unfold readable at hrd
    simp only [Bool.and_eq_true, List.any_eq_true, beq_iff_eq] at hrd
    exact ⟨a, b.2.2, hrd.1, hrd.2⟩
  · intro f hf
    exact (scrubF_some (ids := W₂.ids) hf).2

theorem trunSteps_uniqueKeys (W : World) (steps : List Step) :
    ∀ {s : TSys}, UniqueKeys s.ns → UniqueKeys (trunSteps W s steps).ns :=
  foldl_inv (f := tstep W) (I := fun s => UniqueKeys s.ns) (fun _ st h => tstep_uniqueKeys W h st) steps

end GunYu.Frontier
