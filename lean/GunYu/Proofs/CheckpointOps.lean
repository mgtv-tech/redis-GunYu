/-
  Lemmas for C17: the checkpoint hash; single write requests preserve the position predicate `Holds`
  (invariants `Inv`, `LiveInv`); the request lists of DelStaleCheckpoint / gcStaleCp consist of such
  requests. Core only.
-/
import GunYu.Proofs.Checkpoint

namespace GunYu.Checkpoint
open GunYu

theorem lookup_map_set_ne (h : List (Bytes × Bytes)) (k v a : Bytes) (hne : a ≠ k) :
    (h.map (fun p => if p.1 = k then (k, v) else p)).lookup a = h.lookup a := by
  induction h with
  | nil => rfl
  | cons p h ih =>
    obtain ⟨pk, pv⟩ := p
    rw [List.map_cons]
    by_cases hp : pk = k
    · rw [if_pos hp, List.lookup_cons, List.lookup_cons, hp, beq_false_of_ne hne]; exact ih
    · rw [if_neg hp, List.lookup_cons, List.lookup_cons, ih]

theorem lookup_map_set_self (h : List (Bytes × Bytes)) (k v : Bytes)
    (hex : h.any (fun p => decide (p.1 = k)) = true) :
    (h.map (fun p => if p.1 = k then (k, v) else p)).lookup k = some v := by
  induction h with
  | nil => cases hex
  | cons p h ih =>
    obtain ⟨pk, pv⟩ := p
    rw [List.map_cons]
    by_cases hp : pk = k
    · rw [if_pos hp, List.lookup_cons, beq_self_eq_true]
    · rw [List.any_cons, decide_eq_false hp, Bool.false_or] at hex
      rw [if_neg hp, List.lookup_cons, beq_false_of_ne (Ne.symm hp)]; exact ih hex

theorem lookup_append_single (h : List (Bytes × Bytes)) (k v a : Bytes) :
    (h ++ [(k, v)]).lookup a = match h.lookup a with
      | some x => some x
      | none => if a = k then some v else none := by
  rw [List.lookup_append]
  cases h.lookup a with
  | some x => rfl
  | none =>
    show (match a == k with | true => some v | false => none) = _
    by_cases ha : a = k
    · rw [if_pos ha, ha, beq_self_eq_true]
    · rw [if_neg ha, beq_false_of_ne ha]

theorem hlookup_hashSet_self (h : List (Bytes × Bytes)) (k v : Bytes) :
    hlookup (hashSet h k v) k = some v := by
  unfold hlookup hashSet
  split
  · rename_i hex; exact lookup_map_set_self h k v hex
  · rename_i hex
    have : h.lookup k = none := List.lookup_eq_none_iff.mpr fun p hp =>
      bne_iff_ne.mpr fun hk => hex (List.any_eq_true.mpr ⟨p, hp, decide_eq_true hk.symm⟩)
    rw [lookup_append_single, this, if_pos rfl]

theorem hlookup_hashSet_ne (h : List (Bytes × Bytes)) (k v a : Bytes) (hne : a ≠ k) :
    hlookup (hashSet h k v) a = hlookup h a := by
  unfold hlookup hashSet
  split
  · exact lookup_map_set_ne h k v a hne
  · rw [lookup_append_single, if_neg hne]; cases h.lookup a <;> rfl

theorem hlookup_hashDel_ne (h : List (Bytes × Bytes)) (k a : Bytes) (hne : a ≠ k) :
    hlookup (hashDel h k) a = hlookup h a := by
  unfold hlookup hashDel
  induction h with
  | nil => rfl
  | cons p h ih =>
    obtain ⟨pk, pv⟩ := p
    by_cases hp : pk = k
    · rw [List.filter_cons_of_neg (by simpa using hp), List.lookup_cons, hp, beq_false_of_ne hne]; exact ih
    · rw [List.filter_cons_of_pos (by simpa using hp), List.lookup_cons, List.lookup_cons, ih]

theorem hlookup_hashDel_self (h : List (Bytes × Bytes)) (k : Bytes) : hlookup (hashDel h k) k = none :=
  List.lookup_eq_none_iff.mpr fun p hp =>
    bne_iff_ne.mpr fun hk => by simpa [hk] using (List.mem_filter.mp hp).2

theorem getHash_congr (h h' : List (Bytes × Bytes)) (a b : Bytes)
    (ha : hlookup h' a = hlookup h a) (hb : hlookup h' b = hlookup h b) :
    getHash h' [a, b] = getHash h [a, b] := by
  simp only [getHash, ha, hb]

theorem getHash_of_first {h : List (Bytes × Bytes)} {id1 id2 n : Bytes}
    (hl : hlookup h id1 = some n) (hn : n ≠ []) : getHash h [id1, id2] = some (n, id1) := by
  simp only [getHash, hl]; rw [if_pos hn]

/-- `x` has no usable entry in the checkpoint hash -/
def Unmapped (h : List (Bytes × Bytes)) (x : Bytes) : Prop := hlookup h x = none ∨ hlookup h x = some []

theorem getHash_of_second {h : List (Bytes × Bytes)} {a b n : Bytes} (ha : Unmapped h a)
    (hb : hlookup h b = some n) : getHash h [a, b] = some (n, b) := by
  rcases ha with ha | ha <;> simp [getHash, ha, hb]

theorem getHash_pair {h : List (Bytes × Bytes)} {a b n r : Bytes} (hg : getHash h [a, b] = some (n, r)) :
    (r = a ∧ hlookup h a = some n ∧ n ≠ []) ∨
    (Unmapped h a ∧ ((r = b ∧ hlookup h b = some n) ∨ (n = [] ∧ r = []))) := by
  simp only [getHash] at hg
  have second : Unmapped h a →
      (match hlookup h b with | none => some (([] : Bytes), ([] : Bytes)) | some m => some (m, b)) = some (n, r) →
      Unmapped h a ∧ ((r = b ∧ hlookup h b = some n) ∨ (n = [] ∧ r = [])) := by
    intro hu hs
    cases hl2 : hlookup h b <;> rw [hl2] at hs <;> cases hs
    · exact ⟨hu, Or.inr ⟨rfl, rfl⟩⟩
    · exact ⟨hu, Or.inl ⟨rfl, rfl⟩⟩
  cases hl : hlookup h a with
  | none => simp only [hl] at hg; exact Or.inr (second (Or.inl hl) hg)
  | some m =>
    simp only [hl] at hg
    by_cases hm : m ≠ []
    · rw [if_pos hm] at hg; cases hg; exact Or.inl ⟨rfl, rfl, hm⟩
    · rw [if_neg hm] at hg
      exact Or.inr (second (Or.inr (by rw [hl, Decidable.not_not.mp hm])) hg)

theorem getHash_first {h : List (Bytes × Bytes)} {id1 id2 n : Bytes} (hne : id1 ≠ id2) (h1 : id1 ≠ [])
    (hg : getHash h [id1, id2] = some (n, id1)) : hlookup h id1 = some n ∧ n ≠ [] := by
  rcases getHash_pair hg with ⟨_, h⟩ | ⟨_, ⟨h, _⟩ | ⟨_, h⟩⟩
  · exact h
  · exact absurd h hne
  · exact absurd h h1

theorem Unmapped.hashSet {h : List (Bytes × Bytes)} {x k v : Bytes} (hu : Unmapped h x) (hne : x ≠ k) :
    Unmapped (hashSet h k v) x := by
  unfold Unmapped; rw [hlookup_hashSet_ne h k v x hne]; exact hu

theorem Unmapped.hashDel {h : List (Bytes × Bytes)} {x k : Bytes} (hu : Unmapped h x) :
    Unmapped (hashDel h k) x := by
  unfold Unmapped
  by_cases hx : x = k
  · subst hx; exact Or.inl (hlookup_hashDel_self h x)
  · rw [hlookup_hashDel_ne h k x hx]; exact hu

theorem applyReq_hdelCp_cps (t : Target) (db : Nat) (name : Bytes) (ks : List FKey) (db' : Nat)
    (n' : Bytes) : (applyReq t (.hdelCp db name ks)).cps db' n'
      = if db' = db ∧ n' = name then hdelMany (t.cps db name) ks else t.cps db' n' := rfl

theorem applyReq_hsetCp_cps (t : Target) (db : Nat) (name : Bytes) (es : List Entry) (db' : Nat)
    (n' : Bytes) : (applyReq t (.hsetCp db name es)).cps db' n'
      = if db' = db ∧ n' = name then hsetMany (t.cps db name) es else t.cps db' n' := rfl

theorem applyAll_append (t : Target) (a b : List Req) :
    applyAll t (a ++ b) = applyAll (applyAll t a) b := List.foldl_append ..

theorem mem_take {α : Type} {l : List α} {k : Nat} {a : α} (h : a ∈ l.take k) : a ∈ l :=
  List.mem_of_mem_take h

theorem applyAll_inv {I : Target → Prop} {S : Req → Prop} (hstep : ∀ t q, I t → S q → I (applyReq t q))
    (rs : List Req) : ∀ {t : Target}, I t → (∀ q ∈ rs, S q) → I (applyAll t rs) := by
  induction rs with
  | nil => intro t hi _; exact hi
  | cons q rs ih =>
    intro t hi hs
    exact ih (hstep t q hi (hs q (List.mem_cons_self ..))) (fun q' hq' => hs q' (List.mem_cons_of_mem _ hq'))

theorem staleKeys_fst {rid : Bytes} {ex : Bool} : ∀ k ∈ staleKeys rid ex, k.1 = rid := by
  intro k hk
  unfold staleKeys at hk
  split at hk <;> simp only [fourKeys, List.mem_cons, List.not_mem_nil, or_false] at hk
  · rcases hk with rfl | rfl <;> rfl
  · rcases hk with rfl | rfl | rfl | rfl <;> rfl

theorem offset_mem_staleKeys (rid : Bytes) (ex : Bool) : (rid, Kind.offset) ∈ staleKeys rid ex := by
  cases ex <;> simp [staleKeys, fourKeys]

theorem offOf_hdel_irrel (ids : List Bytes) (fs : Cp) (ks : List FKey)
    (h : ∀ e ∈ fs, ks.contains e.key = true → offSel ids e = false) :
    offOf ids (hdelMany fs ks) = offOf ids fs :=
  offOf_filter ids ids _ fs fun e he =>
    ⟨fun _ => rfl, fun hf => h e he (Decidable.not_not.mp (of_decide_eq_false hf))⟩

theorem key_rid_of_contains {ks : List FKey} {ρ : Bytes} (hk : ∀ k ∈ ks, k.1 = ρ) {e : Entry}
    (h : ks.contains e.key = true) : e.rid = ρ :=
  hk e.key (List.contains_iff_mem.mp h)

theorem hdel_other {ids : List Bytes} {ρ : Bytes} {ks : List FKey} (hk : ∀ k ∈ ks, k.1 = ρ)
    (hρ : matchId ids ρ = false) (fs : Cp) :
    offOf ids (hdelMany fs ks) = offOf ids fs ∧ ridOf ids (hdelMany fs ks) = ridOf ids fs := by
  have hrid : ∀ e : Entry, (decide ¬ ks.contains e.key = true) = false → matchId ids e.rid = false :=
    fun e hf => by rw [key_rid_of_contains hk (Decidable.not_not.mp (of_decide_eq_false hf)), hρ]
  exact ⟨offOf_filter ids ids _ fs fun e _ => ⟨fun _ => rfl, fun hf => by unfold offSel; rw [hrid e hf]; rfl⟩,
    ridOf_filter ids ids _ fs fun e _ => ⟨fun _ => rfl, fun hf => by unfold ridSel; rw [hrid e hf]; rfl⟩⟩

/-- deleting fields of `B` (among them `B_offset`) from a hash read with the ids `{A, B}`
    leaves what `A` alone reads -/
theorem offOf_pair_hdel (ids : List Bytes) (A B : Bytes) (hAB : A ≠ B)
    (hm : ∀ x, matchId ids x = true ↔ x = A ∨ x = B) (fs : Cp) (ks : List FKey)
    (hk : ∀ k ∈ ks, k.1 = B) (hoff : (B, Kind.offset) ∈ ks) :
    offOf ids (hdelMany fs ks) = offOf [A] fs := by
  refine offOf_filter ids [A] _ fs fun e _ => ⟨fun hkeep => ?_, fun hf => ?_⟩
  · -- a kept `_offset` field is not one of `B`
    have hB : e.kind = .offset → e.rid ≠ B := fun hko hb =>
      of_decide_eq_true hkeep (List.contains_iff_mem.mpr (by rw [Entry.key, hb, hko]; exact hoff))
    rw [Bool.eq_iff_iff, offSel_iff, offSel_iff, hm, matchId_one]
    exact ⟨fun h => ⟨h.1.resolve_right (hB h.2), h.2⟩, fun h => ⟨Or.inl h.1, h.2⟩⟩
  · rw [← Bool.not_eq_true, offSel_iff, matchId_one]
    exact fun h => hAB (h.1 ▸ key_rid_of_contains hk (Decidable.not_not.mp (of_decide_eq_false hf)))

theorem exists_of_ridOf_ne (ids : List Bytes) (fs : Cp) (r : Bytes)
    (h : fs.foldl (ridStep ids) r ≠ r) : ∃ x ∈ fs, ridSel ids x = true := by
  apply Classical.byContradiction
  intro hno
  exact h (foldl_sel_inv (fun _ e => e.val) (ridSel ids) (· = r) fs r rfl
    (fun x hx hs => absurd ⟨x, hx, hs⟩ hno))

theorem ridOf_ne_of_sub {ids ids' : List Bytes} {fs : Cp}
    (hsub : ∀ x, matchId ids' x = true → matchId ids x = true) (h : ridOf ids' fs ≠ qmark)
    (hok : ∀ e ∈ fs, ridSel ids e = true → e.val ≠ qmark) : ridOf ids fs ≠ qmark := by
  obtain ⟨x, hx, hs⟩ := exists_of_ridOf_ne ids' fs qmark h
  rw [ridSel_iff] at hs
  exact foldl_ridStep_ne ids fs qmark hok (Or.inl ⟨x, hx, (ridSel_iff ids x).mpr ⟨hsub _ hs.1, hs.2⟩⟩)

theorem OffBelow.filter {ids : List Bytes} {fs : Cp} {X : Int} (h : OffBelow ids fs X)
    (p : Entry → Bool) : OffBelow ids (fs.filter p) X :=
  fun x hx => h x (List.mem_filter.mp hx).1

theorem Parses.sub {ids ids' : List Bytes} {fs : Cp} (h : Parses ids fs)
    (hsub : ∀ x, matchId ids' x = true → matchId ids x = true) : Parses ids' fs :=
  fun e he hm hk => h e he (hsub _ hm) hk

theorem OffBelow.sub {ids ids' : List Bytes} {fs : Cp} {X : Int} (h : OffBelow ids fs X)
    (hsub : ∀ x, matchId ids' x = true → matchId ids x = true) : OffBelow ids' fs X := by
  intro x hx hs v hv
  rw [offSel_iff] at hs
  exact h x hx ((offSel_iff ids x).mpr ⟨hsub _ hs.1, hs.2⟩) v hv

theorem matchId_one_sub (id1 id2 A : Bytes) (hA : A = id1 ∨ A = id2) :
    ∀ x, matchId [A] x = true → matchId [id1, id2] x = true := by
  intro x hx
  rw [matchId_one] at hx; rw [matchId_pair, hx]
  exact hA

/-- `_runid` fields store their own id -/
def RunidOwn (t : Target) (n : Bytes) : Prop :=
  ∀ db, ∀ e ∈ t.cps db n, e.kind = .runid → e.val = e.rid

/-- id `A` alone carries the position in database `d` -/
def Carrier (A : Bytes) (t : Target) (n : Bytes) (d : Nat) (X : Int) : Prop :=
  offOf [A] (t.cps d n) = X ∧ ridOf [A] (t.cps d n) ≠ qmark

structure Inv (id1 id2 A : Bytes) (t : Target) (n r : Bytes) (d : Nat) (X : Int) : Prop where
  hash : getHash t.hash [id1, id2] = some (n, r)
  holds : Holds [id1, id2] t n d X
  carrier : Carrier A t n d X
  /-- every `_runid` field of the ids stores something other than "?" -/
  ridok : ∀ db, ∀ e ∈ t.cps db n, ridSel [id1, id2] e = true → e.val ≠ qmark

/-- one id alone: database `d` reads its largest offset `X ≥ 0`, every `_offset` field of the id
    in another database is smaller, its numeric fields parse -/
structure Solo (rid : Bytes) (t : Target) (name : Bytes) (d : Nat) (X : Int) : Prop where
  nonneg : 0 ≤ X
  parses : ∀ db, Parses [rid] (t.cps db name)
  off : offOf [rid] (t.cps d name) = X
  below : ∀ db, db ≠ d → OffBelow [rid] (t.cps db name) X

theorem Holds.update {ids : List Bytes} {t : Target} {n : Bytes} {d : Nat} {X : Int}
    (h : Holds ids t n d X) (t' : Target) (db0 : Nat)
    (hother : ∀ db, db ≠ db0 → t'.cps db n = t.cps db n)
    (hp : Parses ids (t'.cps db0 n))
    (hd : db0 = d → offOf ids (t'.cps db0 n) = X ∧ ridOf ids (t'.cps db0 n) ≠ qmark)
    (hnd : db0 ≠ d → OffBelow ids (t'.cps db0 n) X) : Holds ids t' n d X := by
  refine ⟨h.nonneg, fun db => ?_, ?_, ?_, fun db hne => ?_⟩
  · by_cases hdb : db = db0
    · exact hdb ▸ hp
    · rw [hother db hdb]; exact h.parses db
  · by_cases hdb : d = db0
    · subst hdb; exact (hd rfl).1
    · rw [hother d hdb]; exact h.off
  · by_cases hdb : d = db0
    · subst hdb; exact (hd rfl).2
    · rw [hother d hdb]; exact h.rid
  · by_cases hdb : db = db0
    · subst hdb; exact hnd hne
    · rw [hother db hdb]; exact h.dom db hne

theorem Holds.congr {ids : List Bytes} {t t' : Target} {n : Bytes} {d : Nat} {X : Int}
    (h : Holds ids t n d X) (hc : ∀ db, t'.cps db n = t.cps db n) : Holds ids t' n d X :=
  h.update t' d (fun db _ => hc db) (hc d ▸ h.parses d) (fun _ => hc d ▸ ⟨h.off, h.rid⟩)
    (fun hne => absurd rfl hne)

theorem Inv.congr {id1 id2 A n r : Bytes} {d : Nat} {X : Int} {t t' : Target}
    (hi : Inv id1 id2 A t n r d X) (hh : getHash t'.hash [id1, id2] = getHash t.hash [id1, id2])
    (hc : ∀ db, t'.cps db n = t.cps db n) : Inv id1 id2 A t' n r d X :=
  ⟨hh ▸ hi.hash, hi.holds.congr hc, by unfold Carrier; rw [hc]; exact hi.carrier,
    fun db e he => hi.ridok db e (hc db ▸ he)⟩

theorem Inv.startPoint {id1 id2 A n r : Bytes} {d : Nat} {X : Int} {t : Target}
    (hi : Inv id1 id2 A t n r d X) (hn0 : n ≠ []) (ver : Bytes) (order : List Nat) (hd : d ∈ order) :
    startPoint ver [id1, id2] order t = some (some (X, d)) :=
  startPoint_of_holds ver hi.hash hn0 hi.holds order hd

theorem Inv.solo {id1 id2 A n r : Bytes} {d : Nat} {X : Int} {t : Target}
    (hA : A = id1 ∨ A = id2) (hi : Inv id1 id2 A t n r d X) : Solo A t n d X :=
  ⟨hi.holds.nonneg, fun db => (hi.holds.parses db).sub (matchId_one_sub id1 id2 A hA), hi.carrier.1,
   fun db hdb => (hi.holds.dom db hdb).sub (matchId_one_sub id1 id2 A hA)⟩

theorem RunidOwn.hdelCp {t : Target} {n : Bytes} (ho : RunidOwn t n) (db : Nat) (nm : Bytes)
    (ks : List FKey) : RunidOwn (applyReq t (.hdelCp db nm ks)) n := by
  intro db' e he
  rw [applyReq_hdelCp_cps] at he
  split at he
  · rename_i hc
    rw [← hc.2, ← hc.1] at he
    exact ho db' e (List.mem_filter.mp he).1
  · exact ho db' e he

/-- requests that cannot hurt the position held under key `n` in database `d` carried by id `A` -/
def SafeReq (id1 id2 A n r : Bytes) (d : Nat) : Req → Prop
  | .hdelCp db name ks =>
    name ≠ n ∨ ∃ ρ, (∀ k ∈ ks, k.1 = ρ) ∧ (ρ, Kind.offset) ∈ ks ∧ (db ≠ d ∨ ρ ≠ A)
  | .hdelHash rid => rid ≠ id1 ∧ (rid ≠ id2 ∨ r = id1)
  | _ => False

theorem inv_applyReq {id1 id2 A n r : Bytes} {d : Nat} {X : Int} (hne : id1 ≠ id2) (h1 : id1 ≠ [])
    (hA : A = id1 ∨ A = id2) {t : Target} (hi : Inv id1 id2 A t n r d X) (req : Req)
    (hs : SafeReq id1 id2 A n r d req) : Inv id1 id2 A (applyReq t req) n r d X := by
  cases req
  case hdelHash rid =>
    obtain ⟨hr1, hr2⟩ := hs
    refine hi.congr ?_ (fun _ => rfl)
    show getHash (hashDel t.hash rid) [id1, id2] = _
    rcases hr2 with h2 | rfl
    · exact getHash_congr _ _ _ _ (hlookup_hashDel_ne _ _ _ (Ne.symm hr1)) (hlookup_hashDel_ne _ _ _ (Ne.symm h2))
    · obtain ⟨hl, hn⟩ := getHash_first hne h1 hi.hash
      rw [hi.hash]; exact getHash_of_first ((hlookup_hashDel_ne _ _ _ (Ne.symm hr1)).trans hl) hn
  case hdelCp db name ks =>
    by_cases hname : name = n
    case neg =>
      exact hi.congr rfl fun db' => by rw [applyReq_hdelCp_cps, if_neg fun h => hname h.2.symm]
    subst hname
    obtain ⟨ρ, hkeys, hoffk, hsafe⟩ := hs.resolve_left (fun h => h rfl)
    have hother : ∀ db', db' ≠ db → (applyReq t (.hdelCp db name ks)).cps db' name = t.cps db' name :=
      fun db' hd' => by rw [applyReq_hdelCp_cps, if_neg fun h => hd' h.1]
    have hnew : (applyReq t (.hdelCp db name ks)).cps db name = hdelMany (t.cps db name) ks := by
      rw [applyReq_hdelCp_cps, if_pos ⟨rfl, rfl⟩]
    have hridok : ∀ db', ∀ e ∈ (applyReq t (.hdelCp db name ks)).cps db' name,
        ridSel [id1, id2] e = true → e.val ≠ qmark := by
      intro db' e he
      by_cases hdb : db' = db
      · subst hdb; rw [hnew] at he; exact hi.ridok db' e (List.mem_filter.mp he).1
      · rw [hother db' hdb] at he; exact hi.ridok db' e he
    -- in `d` the fields deleted are not those of `A`: what `A` alone reads stays
    have hcar : Carrier A (applyReq t (.hdelCp db name ks)) name d X := by
      unfold Carrier
      by_cases hdb : d = db
      · subst hdb
        have hρ : matchId [A] ρ = false :=
          Bool.eq_false_iff.mpr fun h => hsafe.resolve_left (fun h => h rfl) ((matchId_one A ρ).mp h)
        rw [hnew, (hdel_other hkeys hρ _).1, (hdel_other hkeys hρ _).2]; exact hi.carrier
      · rw [hother d hdb]; exact hi.carrier
    refine ⟨hi.hash, hi.holds.update _ db hother ?_ ?_ ?_, hcar, hridok⟩
    · rw [hnew]; exact (hi.holds.parses db).filter _
    · rintro rfl
      refine ⟨?_, ridOf_ne_of_sub (matchId_one_sub id1 id2 A hA) hcar.2 (hridok db)⟩
      rw [hnew]
      have hρ : ρ ≠ A := hsafe.resolve_left (fun h => h rfl)
      by_cases hm : matchId [id1, id2] ρ = true
      · -- the other id of the pair is deleted: the pair reads what `A` alone read
        have hpair : ∀ x, matchId [id1, id2] x = true ↔ x = A ∨ x = ρ := by
          intro x
          rcases (matchId_pair id1 id2 ρ).mp hm with e1 | e1 <;> rcases hA with e2 | e2 <;> subst e1 e2
          · exact absurd rfl hρ
          · exact (matchId_pair ρ A x).trans Or.comm
          · exact matchId_pair A ρ x
          · exact absurd rfl hρ
        rw [offOf_pair_hdel _ A ρ (Ne.symm hρ) hpair _ ks hkeys hoffk]
        exact hi.carrier.1
      · rw [(hdel_other hkeys (Bool.eq_false_iff.mpr hm) _).1]; exact hi.holds.off
    · intro hdb
      rw [hnew]; exact (hi.holds.dom db hdb).filter _
  all_goals exact False.elim hs

/-- what one iteration of the first loop does to the scan record -/
def scanNext (s : StaleScan) (db : Nat) (cpi : CpInfo) : StaleScan :=
  { newest := if cpi.offset > s.newest then cpi.offset else s.newest
    newestDb := if cpi.offset > s.newest then db else s.newestDb
    found := if cpi.offset > 0 then s.found ++ [(db, cpi)] else s.found }

theorem staleScanStep_some (t : Target) (name rid : Bytes) (s : StaleScan) (db : Nat) (cpi : CpInfo)
    (hf : fetch [rid] (t.cps db name) = some cpi) :
    staleScanStep t name rid (some s) db = some (scanNext s db cpi) := by
  simp only [staleScanStep, hf, scanNext]
  by_cases h1 : cpi.offset > s.newest <;> by_cases h2 : cpi.offset > 0 <;> simp only [h1, h2, if_true, if_false]

theorem mem_scanNext_found {s : StaleScan} {db : Nat} {cpi : CpInfo} {p : Nat × CpInfo}
    (hp : p ∈ (scanNext s db cpi).found) : p ∈ s.found ∨ p = (db, cpi) := by
  replace hp : p ∈ if cpi.offset > 0 then s.found ++ [(db, cpi)] else s.found := hp
  split at hp
  · exact (List.mem_append.mp hp).imp_right List.mem_singleton.mp
  · exact Or.inl hp

theorem staleScan_induct {t : Target} {name rid : Bytes} (I : List Nat → StaleScan → Prop)
    (hstep : ∀ v s db c, fetch [rid] (t.cps db name) = some c → I v s → I (v ++ [db]) (scanNext s db c))
    (order : List Nat) : ∀ (v : List Nat) (s0 s : StaleScan), I v s0 →
      order.foldl (staleScanStep t name rid) (some s0) = some s → I (v ++ order) s := by
  induction order with
  | nil => intro v s0 s h0 h; cases h; rw [List.append_nil]; exact h0
  | cons db rest ih =>
    intro v s0 s h0 h
    rw [List.foldl_cons] at h
    cases hf : fetch [rid] (t.cps db name) with
    | none =>
      have hnone : ∀ l : List Nat, l.foldl (staleScanStep t name rid) none = none := by
        intro l; induction l with
        | nil => rfl
        | cons _ _ ihl => exact ihl
      simp only [staleScanStep, hf] at h
      rw [hnone] at h; cases h
    | some c =>
      rw [staleScanStep_some t name rid s0 db c hf] at h
      have := ih (v ++ [db]) _ s (hstep v s0 db c hf h0) h
      rwa [List.append_assoc] at this

theorem staleScan_found (t : Target) (name rid : Bytes) (order : List Nat) :
    ∀ (s0 s : StaleScan), (∀ p ∈ s0.found, fetch [rid] (t.cps p.1 name) = some p.2) →
      order.foldl (staleScanStep t name rid) (some s0) = some s →
      ∀ p ∈ s.found, fetch [rid] (t.cps p.1 name) = some p.2 :=
  fun s0 s => staleScan_induct (fun _ s => ∀ p ∈ s.found, fetch [rid] (t.cps p.1 name) = some p.2)
    (fun _ s db c hf hs p hp => by
      rcases mem_scanNext_found hp with hp | rfl
      · exact hs p hp
      · exact hf) order [] s0 s

/-- what the scan's `newest`/`newestDb` are: the largest offset read and a database reading it -/
structure ScanMax (t : Target) (name rid : Bytes) (visited : List Nat) (s : StaleScan) : Prop where
  floor : -2 ≤ s.newest
  ge : ∀ db ∈ visited, ∀ c, fetch [rid] (t.cps db name) = some c → c.offset ≤ s.newest
  attained : -2 < s.newest → s.newestDb ∈ visited ∧
    ∃ c, fetch [rid] (t.cps s.newestDb name) = some c ∧ c.offset = s.newest

theorem staleScan_spec (t : Target) (name rid : Bytes) (order : List Nat) (s : StaleScan)
    (h : staleScan t name rid order = some s) :
    ScanMax t name rid order s ∧ ∀ p ∈ s.found, p.1 ∈ order ∧ fetch [rid] (t.cps p.1 name) = some p.2 := by
  have := staleScan_induct
    (fun v s => ScanMax t name rid v s ∧ ∀ p ∈ s.found, p.1 ∈ v ∧ fetch [rid] (t.cps p.1 name) = some p.2)
    (fun v s0 db cpi hf ⟨h0, hfound⟩ => by
      have e1 : (scanNext s0 db cpi).newest = if cpi.offset > s0.newest then cpi.offset else s0.newest := rfl
      have e2 : (scanNext s0 db cpi).newestDb = if cpi.offset > s0.newest then db else s0.newestDb := rfl
      have hmax : s0.newest ≤ (scanNext s0 db cpi).newest ∧ cpi.offset ≤ (scanNext s0 db cpi).newest := by
        rw [e1]; split <;> omega
      refine ⟨⟨Int.le_trans h0.floor hmax.1, ?_, ?_⟩, fun p hp => ?_⟩
      · intro db' hdb' c hc
        rcases List.mem_append.mp hdb' with hdb' | hdb'
        · exact Int.le_trans (h0.ge db' hdb' c hc) hmax.1
        · rw [List.mem_singleton.mp hdb', hf] at hc
          cases hc
          exact hmax.2
      · intro hgt
        rw [e1] at hgt; rw [e1, e2]
        split
        · exact ⟨List.mem_append_right _ (List.mem_singleton.mpr rfl), cpi, hf, rfl⟩
        · rename_i hng
          rw [if_neg hng] at hgt
          obtain ⟨hm, hc⟩ := h0.attained hgt
          exact ⟨List.mem_append_left _ hm, hc⟩
      · rcases mem_scanNext_found hp with hp | rfl
        · exact ⟨List.mem_append_left _ (hfound p hp).1, (hfound p hp).2⟩
        · exact ⟨List.mem_append_right _ (List.mem_singleton.mpr rfl), hf⟩)
    order [] {} s ⟨⟨by decide, (fun _ h => nomatch h), fun h => absurd h (by decide)⟩, fun _ h => nomatch h⟩ h
  rwa [List.nil_append] at this

theorem staleScan_newest_solo {rid name : Bytes} {d : Nat} {X : Int} {t : Target}
    (hi : Solo rid t name d X) (order : List Nat)
    (s : StaleScan) (h : staleScan t name rid order = some s) :
    ∀ p ∈ s.found, p.1 = d → s.newestDb = d := by
  intro p hp hpd
  obtain ⟨hmax, hfound⟩ := staleScan_spec t name rid order s h
  have hread : ∀ db, ∃ c, fetch [rid] (t.cps db name) = some c ∧ c.offset = offOf [rid] (t.cps db name) :=
    fun db => (fetch_spec [rid] _ (hi.parses db)).imp fun c hc => ⟨hc.1, hc.2.1⟩
  -- `d` was visited and reads `X`, so `newest ≥ X`; any other database reads less
  obtain ⟨cd, hcd, hod⟩ := hread d
  have hX : X ≤ s.newest := by
    have := hmax.ge d (hpd ▸ (hfound p hp).1) cd hcd
    rw [hod, hi.off] at this; exact this
  obtain ⟨_, c, hc, hco⟩ := hmax.attained (by have := hi.nonneg; omega)
  apply Classical.byContradiction
  intro hne
  obtain ⟨c', hc', ho'⟩ := hread s.newestDb
  have := offOf_lt_of_below (hi.below _ hne) hi.nonneg
  rw [hc] at hc'; cases hc'
  omega

theorem foldl_ridStep_mem (ids : List Bytes) (fs : Cp)
    (hown : ∀ e ∈ fs, e.kind = .runid → e.val = e.rid) :
    ∀ r, (r = qmark ∨ matchId ids r = true) →
      (fs.foldl (ridStep ids) r = qmark ∨ matchId ids (fs.foldl (ridStep ids) r) = true) :=
  fun r h => foldl_sel_inv (fun _ e => e.val) (ridSel ids) (fun r => r = qmark ∨ matchId ids r = true) fs r h
    (fun y hy hs _ _ => by
      rw [ridSel_iff] at hs
      exact Or.inr (hown y hy hs.2 ▸ hs.1))

theorem foldl_ridStep_one (A : Bytes) (fs : Cp)
    (hown : ∀ e ∈ fs, e.kind = .runid → e.val = e.rid) :
    ∀ r, (r = A ∨ r = qmark) → (fs.foldl (ridStep [A]) r = A ∨ fs.foldl (ridStep [A]) r = qmark) :=
  fun r h => ((foldl_ridStep_mem [A] fs hown r (h.symm.imp_right (matchId_one A r).mpr)).imp_right
    (matchId_one A _).mp).symm

theorem fetch_one_runId (rid : Bytes) : ∀ (fs : Cp) (c : CpInfo), (∀ e ∈ fs, e.kind = .runid → e.val = e.rid) →
    ∀ c0 : CpInfo, (c0.runId = rid ∨ c0.runId = qmark) →
    fs.foldl (fetchStep [rid]) (some c0) = some c → (c.runId = rid ∨ c.runId = qmark) := by
  intro fs c hown c0 h0 h
  rw [(fetch_foldl_some [rid] fs c0 c h).2]
  exact foldl_ridStep_one rid fs hown _ h0

theorem mem_delStale {t : Target} {cpn rid : Bytes} {before : Int} {ex : Bool} {order : List Nat} {q : Req}
    (hq : q ∈ (delStale t cpn rid before ex order).2.2) :
    ∃ s p, staleScan t cpn rid order = some s ∧ p ∈ s.found ∧ ¬ (p.1 = s.newestDb ∧ ex = true) ∧
      p.2.mtime ≤ before ∧ q = Req.hdelCp p.1 cpn (staleKeys p.2.runId ex) := by
  unfold delStale at hq
  cases hs : staleScan t cpn rid order with
  | none => rw [hs] at hq; cases hq
  | some s =>
    rw [hs] at hq
    obtain ⟨p, hp, rfl⟩ := List.mem_map.mp hq
    obtain ⟨hpf, hpv⟩ := List.mem_filter.mp hp
    have hpv := of_decide_eq_true hpv
    exact ⟨s, p, rfl, hpf, fun h => hpv (Or.inl h), Int.not_lt.mp fun h => hpv (Or.inr h), rfl⟩

/-- the requests one pair of the checkpoint hash contributes to a gc pass -/
def gcRound (live : List Bytes) (before : Int) (t : Target) (rid cpn : Bytes) (order : List Nat) : List Req :=
  (delStale t cpn rid before (live.contains rid) order).2.2 ++
    (if ¬ live.contains rid ∧ (delStale t cpn rid before (live.contains rid) order).1 =
        (delStale t cpn rid before (live.contains rid) order).2.1 then [Req.hdelHash rid] else [])

theorem gcLoop_cons (live : List Bytes) (before : Int) (t : Target) (rid cpn : Bytes)
    (rest : List (Bytes × Bytes)) (orders : List (List Nat)) :
    gcLoop live before t ((rid, cpn) :: rest) orders =
      gcRound live before t rid cpn (orders.headD []) ++
        gcLoop live before (applyAll t (gcRound live before t rid cpn (orders.headD []))) rest orders.tail := rfl

theorem mem_gcRound {live : List Bytes} {before : Int} {t : Target} {rid cpn : Bytes} {order : List Nat}
    {q : Req} (hq : q ∈ gcRound live before t rid cpn order) :
    q ∈ (delStale t cpn rid before (live.contains rid) order).2.2 ∨ (q = Req.hdelHash rid ∧ rid ∉ live) := by
  unfold gcRound at hq
  rcases List.mem_append.mp hq with hq | hq
  · exact Or.inl hq
  · split at hq
    · rename_i hc
      exact Or.inr ⟨List.mem_singleton.mp hq, fun h => hc.1 (List.contains_iff_mem.mpr h)⟩
    · cases hq

/-- for `A` itself (scanned with `exceptNewest`) `d` is the spared newest database; any other id reads entries
    labelled with itself or "?" -/
theorem gcRound_spares {A n : Bytes} {d : Nat} {X : Int} {t : Target} (hs : Solo A t n d X) (hown : RunidOwn t n)
    (hq : A ≠ qmark) {live : List Bytes} (hl : A ∈ live) (before : Int) (rid cpn : Bytes) (order : List Nat) :
    ∀ q ∈ gcRound live before t rid cpn order,
      (∃ db ρ, q = Req.hdelCp db cpn (staleKeys ρ (live.contains rid)) ∧ (cpn = n → db ≠ d ∨ ρ ≠ A)) ∨
      (q = Req.hdelHash rid ∧ rid ∉ live) := by
  intro q hq'
  refine (mem_gcRound hq').imp (fun hq' => ?_) id
  obtain ⟨s, p, hscan, hpf, hnew, _, rfl⟩ := mem_delStale hq'
  refine ⟨_, _, rfl, ?_⟩
  rintro rfl
  by_cases hrid : rid = A
  · subst hrid
    exact Or.inl fun hpd => hnew ⟨hpd.trans (staleScan_newest_solo hs order s hscan p hpf hpd).symm,
      List.contains_iff_mem.mpr hl⟩
  · have hfetch := (staleScan_spec t cpn rid order s hscan).2 p hpf
    rcases fetch_one_runId rid _ p.2 (hown p.1) {} (Or.inr rfl) hfetch.2 with h | h <;> rw [h]
    · exact Or.inr hrid
    · exact Or.inr hq.symm

theorem gcLoop_inv (live : List Bytes) (before : Int) {I : Target → Prop} {S : Req → Prop}
    (hstep : ∀ t q, I t → S q → I (applyReq t q))
    (hround : ∀ t rid cpn order, I t → ∀ q ∈ gcRound live before t rid cpn order, S q) :
    ∀ (pairs : List (Bytes × Bytes)) (orders : List (List Nat)) (t : Target), I t →
      (∀ q ∈ gcLoop live before t pairs orders, S q) ∧
      ∀ k, I (applyAll t ((gcLoop live before t pairs orders).take k)) := by
  intro pairs
  induction pairs with
  | nil => intro orders t hi; exact ⟨(fun q hq => nomatch hq), fun k => by cases k <;> exact hi⟩
  | cons pr rest ih =>
    intro orders t hi
    obtain ⟨rid, cpn⟩ := pr
    rw [gcLoop_cons]
    have hsafe := hround t rid cpn (orders.headD []) hi
    generalize gcRound live before t rid cpn (orders.headD []) = rs at hsafe ⊢
    obtain ⟨ih1, ih2⟩ := ih orders.tail _ (applyAll_inv hstep rs hi hsafe)
    refine ⟨fun q hq => (List.mem_append.mp hq).elim (hsafe q) (ih1 q), fun k => ?_⟩
    rw [List.take_append, applyAll_append]
    by_cases hk : k ≤ rs.length
    · rw [Nat.sub_eq_zero_of_le hk, List.take_zero]
      exact applyAll_inv hstep (rs.take k) hi (fun q hq => hsafe q (mem_take hq))
    · rw [List.take_of_length_le (by omega)]
      exact ih2 _

theorem gcLoop_prefix {id1 id2 A n r : Bytes} {d : Nat} {X : Int} (hne : id1 ≠ id2) (h10 : id1 ≠ [])
    (hA : A = id1 ∨ A = id2) (hq : A ≠ qmark) (live : List Bytes) (h1 : id1 ∈ live) (h2 : id2 ∈ live)
    (before : Int) :
    ∀ (pairs : List (Bytes × Bytes)) (orders : List (List Nat)) (t : Target),
      Inv id1 id2 A t n r d X → RunidOwn t n → ∀ k,
      Inv id1 id2 A (applyAll t ((gcLoop live before t pairs orders).take k)) n r d X := by
  intro pairs orders t hi hown k
  have hAlive : A ∈ live := by rcases hA with h | h <;> rw [h] <;> assumption
  refine ((gcLoop_inv live before (I := fun t => Inv id1 id2 A t n r d X ∧ RunidOwn t n)
    (S := SafeReq id1 id2 A n r d) ?_ ?_ pairs orders t ⟨hi, hown⟩).2 k).1
  · intro t q ⟨hi, hown⟩ hs
    refine ⟨inv_applyReq hne h10 hA hi q hs, ?_⟩
    cases q
    case hdelCp db nm ks => exact hown.hdelCp db nm ks
    case hdelHash => exact hown
    all_goals exact False.elim hs
  · intro t rid cpn order ⟨hi, hown⟩ q hq'
    rcases gcRound_spares (hi.solo hA) hown hq hAlive before rid cpn order q hq' with
      ⟨db, ρ, rfl, hsp⟩ | ⟨rfl, hnl⟩
    · exact (Decidable.em (cpn = n)).elim
        (fun h => Or.inr ⟨ρ, staleKeys_fst, offset_mem_staleKeys ρ _, hsp h⟩) Or.inl
    · exact ⟨fun h => hnl (h ▸ h1), Or.inl fun h => hnl (h ▸ h2)⟩

/-- requests that leave the newest entry (database `d` under key `name`) of id `rid` alone -/
def GSafe (rid name : Bytes) (d : Nat) : Req → Prop
  | .hdelCp db nm ks => ∃ ρ, (∀ k ∈ ks, k.1 = ρ) ∧ (nm = name → ρ ≠ rid ∨ db ≠ d)
  | .hdelHash r' => r' ≠ rid
  | _ => False

structure LiveInv (rid name : Bytes) (d : Nat) (X : Int) (t : Target) : Prop where
  solo : Solo rid t name d X
  own : RunidOwn t name

theorem liveInv_applyReq {rid name : Bytes} {d : Nat} {X : Int} (t : Target) (q : Req)
    (hi : LiveInv rid name d X t) (hq : GSafe rid name d q) :
    LiveInv rid name d X (applyReq t q) := by
  cases q
  case hdelHash r' => exact ⟨⟨hi.solo.nonneg, hi.solo.parses, hi.solo.off, hi.solo.below⟩, hi.own⟩
  case hdelCp db nm ks =>
    obtain ⟨ρ, hkeys, hsafe⟩ := hq
    refine ⟨⟨hi.solo.nonneg, fun db' => ?_, ?_, fun db' hdb' => ?_⟩, hi.own.hdelCp db nm ks⟩
    all_goals rw [applyReq_hdelCp_cps]; split
    · rename_i hc; rw [← hc.2]; exact (hi.solo.parses db).filter _
    · exact hi.solo.parses db'
    · rename_i hc
      have hρ : matchId [rid] ρ = false := Bool.eq_false_iff.mpr fun h =>
        (hsafe hc.2.symm).elim (fun h' => h' ((matchId_one rid ρ).mp h)) (fun h' => h' hc.1.symm)
      rw [← hc.2, ← hc.1, (hdel_other hkeys hρ _).1]; exact hi.solo.off
    · exact hi.solo.off
    · rename_i hc; rw [← hc.2, ← hc.1]; exact (hi.solo.below db' hdb').filter _
    · exact hi.solo.below db' hdb'
  all_goals exact False.elim hq

theorem gcLoop_gsafe {rid name : Bytes} {d : Nat} {X : Int} (hq : rid ≠ qmark) (live : List Bytes)
    (hl : rid ∈ live) (before : Int) (pairs : List (Bytes × Bytes)) (orders : List (List Nat)) (t : Target)
    (hi : LiveInv rid name d X t) : ∀ q ∈ gcLoop live before t pairs orders, GSafe rid name d q := by
  refine (gcLoop_inv live before liveInv_applyReq ?_ pairs orders t hi).1
  intro t rid' cpn order hi q hq'
  rcases gcRound_spares hi.solo hi.own hq hl before rid' cpn order q hq' with ⟨db, ρ, rfl, hsp⟩ | ⟨rfl, hnl⟩
  · exact ⟨ρ, staleKeys_fst, fun h => (hsp h).symm⟩
  · exact fun h => hnl (h ▸ hl)

end GunYu.Checkpoint
