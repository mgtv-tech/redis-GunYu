/-
  RebuildBisyncFrontier as modelled in Model/Frontier.lean: `seqMap[n]` is a record numbered `n`, the
  advancing loop passes only numbers that a record carries, and what a successful rebuild returns is the
  snapshot it started from or carries the data of a record. Core only.
-/
import GunYu.Model.Frontier

namespace GunYu.Frontier
open GunYu

theorem find?_filter_of_imp {α : Type} (p q : α → Bool) (l : List α) (h : ∀ x, p x = true → q x = true) :
    (l.filter q).find? p = l.find? p := by
  rw [List.find?_filter]
  congr 1
  funext x
  by_cases hp : p x = true
  · rw [hp, h x hp]; rfl
  · rw [Bool.not_eq_true] at hp
    rw [hp]
    simp only [Bool.false_eq_true, and_false, decide_false]

theorem foldl_inv {σ α : Type} {f : σ → α → σ} {I : σ → Prop} (h : ∀ s a, I s → I (f s a)) :
    ∀ (l : List α) {s : σ}, I s → I (l.foldl f s)
  | [], _, hi => hi
  | a :: l, _, hi => foldl_inv h l (h _ a hi)

theorem foldl_inv_mono {σ α : Type} {f : σ → α → σ} {I : σ → Prop} (m : σ → Int)
    (h : ∀ s a, I s → I (f s a) ∧ m s ≤ m (f s a)) :
    ∀ (l : List α) {s : σ}, I s → I (l.foldl f s) ∧ m s ≤ m (l.foldl f s)
  | [], _, hi => ⟨hi, Int.le_refl _⟩
  | a :: l, _, hi => ⟨(foldl_inv_mono m h l (h _ a hi).1).1,
      Int.le_trans (h _ a hi).2 (foldl_inv_mono m h l (h _ a hi).1).2⟩

/-- a fold keeps an invariant that also speaks of the elements consumed so far -/
theorem foldl_seen {σ α : Type} {f : σ → α → σ} {I : List α → σ → Prop}
    (h : ∀ seen s a, I seen s → I (seen ++ [a]) (f s a)) :
    ∀ (l seen : List α) (s : σ), I seen s → I (seen ++ l) (l.foldl f s)
  | [], seen, _, hi => (List.append_nil seen).symm ▸ hi
  | a :: l, seen, _, hi => List.append_assoc seen [a] l ▸ foldl_seen h l (seen ++ [a]) _ (h _ _ a hi)

theorem pickStep_skip {n : Int} {x : Rec} (h : x.seq ≤ 0 ∨ x.seq ≠ n) (acc : Option Rec) :
    pickStep n acc x = acc := by
  unfold pickStep
  split
  · rfl
  · rw [if_pos (h.resolve_left ‹_›)]

theorem pickStep_hit {x : Rec} (h : 0 < x.seq) (acc : Option Rec) :
    pickStep x.seq acc x = match acc with
      | none => some x
      | some e => if e.mtime < x.mtime then some x else some e := by
  unfold pickStep
  rw [if_neg (Int.not_le.mpr h), if_neg (fun hne => hne rfl)]
  cases acc <;> rfl

theorem pickStep_some {n : Int} {acc : Option Rec} {x r : Rec} (h : pickStep n acc x = some r) :
    acc = some r ∨ (r = x ∧ x.seq = n ∧ 0 < x.seq) := by
  by_cases hs : x.seq ≤ 0 ∨ x.seq ≠ n
  · rw [pickStep_skip hs] at h; exact Or.inl h
  · have hn : x.seq = n := by omega
    have hp : 0 < x.seq := by omega
    subst hn
    rw [pickStep_hit hp] at h
    cases acc with
    | none => exact Or.inr ⟨(Option.some.inj h).symm, rfl, hp⟩
    | some e =>
      dsimp only at h
      split at h
      · exact Or.inr ⟨(Option.some.inj h).symm, rfl, hp⟩
      · exact Or.inl h

/-- `seqMap[n]` is a record of the list carrying sequence number `n > 0` -/
theorem pick_some {recs : List Rec} {n : Int} {r : Rec} (h : pick recs n = some r) :
    r.seq = n ∧ 0 < r.seq ∧ r ∈ recs := by
  refine foldl_seen (f := pickStep n) (I := fun seen acc => ∀ r, acc = some r → r.seq = n ∧ 0 < r.seq ∧ r ∈ seen)
    (fun seen acc x ih r hr => ?_) recs [] none (fun _ h => nomatch h) r h
  rcases pickStep_some hr with h1 | ⟨rfl, hs, hp⟩
  · obtain ⟨a, b, c⟩ := ih r h1
    exact ⟨a, b, List.mem_append_left _ c⟩
  · exact ⟨hs, hp, List.mem_append_right _ List.mem_cons_self⟩

theorem pickStep_hit_isSome {x : Rec} (h : 0 < x.seq) (acc : Option Rec) :
    (pickStep x.seq acc x).isSome = true := by
  rw [pickStep_hit h]
  cases acc with
  | none => rfl
  | some e => dsimp only; split <;> rfl

theorem pickStep_isSome {n : Int} {acc : Option Rec} (x : Rec) (h : acc.isSome = true) :
    (pickStep n acc x).isSome = true := by
  by_cases hs : x.seq ≤ 0 ∨ x.seq ≠ n
  · rw [pickStep_skip hs]; exact h
  · have hn : x.seq = n := by omega
    subst hn
    exact pickStep_hit_isSome (by omega) acc

theorem pick_isSome_of_mem {recs : List Rec} {n : Int} {r : Rec} (hr : r ∈ recs) (hs : r.seq = n)
    (hp : 0 < n) : (pick recs n).isSome = true := by
  refine foldl_seen (f := pickStep n) (I := fun seen acc => (∃ r ∈ seen, r.seq = n) → acc.isSome = true)
    (fun seen acc x ih ⟨r, hr, hs⟩ => ?_) recs [] none (fun ⟨_, h, _⟩ => nomatch h) ⟨r, hr, hs⟩
  rcases List.mem_append.mp hr with hr | hr
  · exact pickStep_isSome x (ih ⟨r, hr, hs⟩)
  · obtain rfl := List.mem_singleton.mp hr
    subst hs
    exact pickStep_hit_isSome hp acc

theorem advance_contiguous (recs : List Rec) :
    ∀ (fuel : Nat) (cur : Snap),
      cur.seq ≤ (advance fuel recs cur).seq ∧
      ∀ m, cur.seq < m → m ≤ (advance fuel recs cur).seq → ∃ r ∈ recs, r.seq = m ∧ 0 < r.seq := by
  intro fuel
  induction fuel with
  | zero => intro cur; exact ⟨Int.le_refl _, fun m h1 h2 => by simp only [advance] at h2; omega⟩
  | succ fuel ih =>
    intro cur
    unfold advance
    cases hp : pick recs (cur.seq + 1) with
    | none => exact ⟨Int.le_refl _, fun m h1 h2 => by dsimp only at h2; omega⟩
    | some r =>
      obtain ⟨hs, hpos, hmem⟩ := pick_some hp
      obtain ⟨h1, h2⟩ := ih (stepSnap cur r)
      have hss : (stepSnap cur r).seq = r.seq := rfl
      rw [hss] at h1 h2
      refine ⟨by dsimp only; omega, fun m hlo hhi => ?_⟩
      by_cases hm : m = cur.seq + 1
      · exact ⟨r, hmem, by rw [hm, hs], hpos⟩
      · exact h2 m (by omega) hhi

theorem advance_origin (recs : List Rec) :
    ∀ (fuel : Nat) (cur : Snap),
      advance fuel recs cur = cur ∨
      (cur.seq < (advance fuel recs cur).seq ∧
        ∃ r ∈ recs, r.seq = (advance fuel recs cur).seq ∧ r.endOff = (advance fuel recs cur).offset ∧
          r.runId = (advance fuel recs cur).runId) := by
  intro fuel
  induction fuel with
  | zero => intro cur; exact Or.inl rfl
  | succ fuel ih =>
    intro cur
    unfold advance
    cases hp : pick recs (cur.seq + 1) with
    | none => exact Or.inl rfl
    | some r =>
      obtain ⟨hs, _, hmem⟩ := pick_some hp
      have hss : (stepSnap cur r).seq = r.seq := rfl
      right
      rcases ih (stepSnap cur r) with h | ⟨hlt, h⟩
      · dsimp only; rw [h]
        exact ⟨by omega, r, hmem, rfl, rfl, rfl⟩
      · exact ⟨by dsimp only; omega, h⟩

/-- the sequence number a rebuild starts from -/
def baseSeq (snap : Option Snap) : Int := match snap with | some s => s.seq | none => 0

/-- the frontier a rebuild starts from -/
def baseOf (ver : Bytes) (snap : Option Snap) : Snap :=
  match snap with
  | some s => s
  | none => { runId := [], seq := 0, offset := 0, mtime := 0, version := ver }

theorem baseOf_seq (ver : Bytes) (snap : Option Snap) : (baseOf ver snap).seq = baseSeq snap := by
  cases snap <;> rfl

theorem rebuild_eq (ver : Bytes) (snap : Option Snap) (recs : List Rec) :
    rebuild ver snap recs =
      if recs.isEmpty then .ok snap
      else if (baseOf ver snap).seq = 0 ∧ minSeq recs ≠ 1 then .error (minSeq recs)
      else .ok (some (advance recs.length recs (baseOf ver snap))) := by
  unfold rebuild; cases snap <;> rfl

theorem rebuild_ok {ver : Bytes} {snap : Option Snap} {recs : List Rec} {res : Snap}
    (h : rebuild ver snap recs = .ok (some res)) :
    (recs = [] ∧ snap = some res) ∨
    (recs ≠ [] ∧ ¬ ((baseOf ver snap).seq = 0 ∧ minSeq recs ≠ 1) ∧
      res = advance recs.length recs (baseOf ver snap)) := by
  rw [rebuild_eq] at h
  split at h
  · exact Or.inl ⟨List.isEmpty_iff.mp ‹_›, Except.ok.inj h⟩
  · split at h
    · cases h
    · exact Or.inr ⟨fun e => ‹¬ recs.isEmpty = true› (List.isEmpty_iff.mpr e), ‹_›,
        (Option.some.inj (Except.ok.inj h)).symm⟩

theorem rebuild_spec (ver : Bytes) (snap : Option Snap) (recs : List Rec) (res : Snap)
    (h : rebuild ver snap recs = .ok (some res)) :
    baseSeq snap ≤ res.seq ∧
    (∀ m, baseSeq snap < m → m ≤ res.seq → ∃ r ∈ recs, r.seq = m ∧ 0 < r.seq) ∧
    (baseSeq snap < res.seq → ∃ r ∈ recs, r.seq = res.seq ∧ r.endOff = res.offset ∧ r.runId = res.runId) ∧
    (res.seq = baseSeq snap → snap = some res ∨ (snap = none ∧ res.seq = 0)) := by
  rcases rebuild_ok h with ⟨_, rfl⟩ | ⟨_, _, rfl⟩
  · exact ⟨Int.le_refl _, fun m h1 h2 => by simp only [baseSeq] at h1; omega,
      fun hlt => absurd hlt (Int.lt_irrefl _), fun _ => Or.inl rfl⟩
  · obtain ⟨h1, h2⟩ := advance_contiguous recs recs.length (baseOf ver snap)
    rw [baseOf_seq] at h1 h2
    refine ⟨h1, h2, fun hlt => ?_, fun heq => ?_⟩
    · rcases advance_origin recs recs.length (baseOf ver snap) with ho | ⟨_, ho⟩
      · rw [ho, baseOf_seq] at hlt; exact absurd hlt (Int.lt_irrefl _)
      · exact ho
    · rcases advance_origin recs recs.length (baseOf ver snap) with ho | ⟨hlt, _⟩
      · rw [ho]
        cases snap with
        | none => exact Or.inr ⟨rfl, rfl⟩
        | some s => exact Or.inl rfl
      · rw [baseOf_seq] at hlt; omega

theorem rebuild_origin {ver : Bytes} {snap : Option Snap} {recs : List Rec} {res : Snap}
    (h : rebuild ver snap recs = .ok (some res)) (hpos : 0 < res.seq) :
    snap = some res ∨ ∃ r ∈ recs, r.seq = res.seq ∧ r.endOff = res.offset ∧ r.runId = res.runId := by
  obtain ⟨_, _, h3, h4⟩ := rebuild_spec ver snap recs res h
  by_cases hadv : baseSeq snap < res.seq
  · exact Or.inr (h3 hadv)
  · rcases h4 (by omega) with h | ⟨_, h0⟩
    · exact Or.inl h
    · omega

end GunYu.Frontier
