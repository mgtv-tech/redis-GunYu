/-
  Helper lemmas for C05 (disk backend): the invariant `DInv` of the step-level
  model `GunYu.Store.Disk` and its preservation by every operation that
  respects the callers' protocol (`Disk.okOp`).
-/
import GunYu.Model.Store

namespace GunYu.Store
open GunYu

/-- consecutive segments: each one starts where the previous one ends -/
def Contig : List DSeg → Prop
  | [] => True
  | [_] => True
  | g :: h :: rest => g.right = h.left ∧ Contig (h :: rest)

theorem Contig.tail {g : DSeg} {l : List DSeg} (h : Contig (g :: l)) : Contig l := by
  cases l with
  | nil => trivial
  | cons a t => exact h.2

theorem contig_suffix (pre l : List DSeg) (h : Contig (pre ++ l)) : Contig l := by
  induction pre with
  | nil => simpa using h
  | cons a t ih => exact ih (Contig.tail h)

theorem lastRight_cons_cons (a b : DSeg) (t : List DSeg) : lastRight (a :: b :: t) = lastRight (b :: t) := rfl

theorem lastRight_eq (l : List DSeg) : lastRight l = l.getLast?.map DSeg.right := by
  induction l with
  | nil => rfl
  | cons a t ih =>
    cases t with
    | nil => rfl
    | cons b u => rw [lastRight_cons_cons, ih, List.getLast?_cons_cons]

theorem lastRight_append_single (l : List DSeg) (x : DSeg) : lastRight (l ++ [x]) = some x.right := by
  simp [lastRight_eq]

theorem lastRight_suffix (pre l : List DSeg) (hl : l ≠ []) : lastRight (pre ++ l) = lastRight l := by
  rw [lastRight_eq, lastRight_eq, List.getLast?_append]
  cases h : l.getLast? with
  | none => exact absurd (List.getLast?_eq_none_iff.mp h) hl
  | some a => rfl

theorem lastRight_eq_none {l : List DSeg} : lastRight l = none ↔ l = [] := by
  simp [lastRight_eq]

theorem contig_append_single (l : List DSeg) (x : DSeg) :
    Contig (l ++ [x]) ↔ Contig l ∧ (∀ r, lastRight l = some r → r = x.left) := by
  induction l with
  | nil => simp [Contig, lastRight]
  | cons a t ih =>
    cases t with
    | nil => simp [Contig, lastRight]
    | cons b u =>
      show (a.right = b.left ∧ Contig (b :: u ++ [x])) ↔ _
      rw [ih]
      simp only [Contig, lastRight_cons_cons]
      constructor
      · rintro ⟨h1, h2, h3⟩; exact ⟨⟨h1, h2⟩, h3⟩
      · rintro ⟨⟨h1, h2⟩, h3⟩; exact ⟨h1, h2, h3⟩

theorem contig_right_le_last {l : List DSeg} (hc : Contig l) {g : DSeg} (hg : g ∈ l) {r : Nat}
    (hr : lastRight l = some r) : g.right ≤ r := by
  induction l generalizing g with
  | nil => cases hg
  | cons a t ih =>
    cases t with
    | nil =>
      simp at hg; subst hg
      simp [lastRight] at hr; omega
    | cons b u =>
      rw [lastRight_cons_cons] at hr
      rcases List.mem_cons.mp hg with h | h
      · subst h
        have hb : b.right ≤ r := ih hc.2 (List.mem_cons_self) hr
        have := hc.1
        simp only [DSeg.right] at *
        omega
      · exact ih hc.2 h hr

theorem contig_first_le {l : List DSeg} (hc : Contig l) {g : DSeg} (hg : g ∈ l) {f : Nat}
    (hf : firstLeft l = some f) : f ≤ g.left := by
  induction l generalizing f g with
  | nil => cases hg
  | cons a t ih =>
    simp [firstLeft] at hf; subst hf
    rcases List.mem_cons.mp hg with h | h
    · subst h; exact Nat.le_refl _
    · cases t with
      | nil => cases h
      | cons b u =>
        have := ih hc.2 h (f := b.left) rfl
        have := hc.1
        simp only [DSeg.right] at *
        omega

theorem contig_cover {l : List DSeg} (hc : Contig l) {f r off : Nat}
    (hf : firstLeft l = some f) (hr : lastRight l = some r) (h1 : f ≤ off) (h2 : off ≤ r) :
    ∃ g ∈ l, g.left ≤ off ∧ off ≤ g.right := by
  induction l generalizing f with
  | nil => simp [firstLeft] at hf
  | cons a t ih =>
    simp [firstLeft] at hf; subst hf
    cases t with
    | nil =>
      simp [lastRight] at hr; subst hr
      exact ⟨a, List.mem_cons_self, h1, h2⟩
    | cons b u =>
      rw [lastRight_cons_cons] at hr
      by_cases hoff : off ≤ a.right
      · exact ⟨a, List.mem_cons_self, h1, hoff⟩
      · have hb : b.left ≤ off := by have := hc.1; omega
        obtain ⟨g, hg, hg1, hg2⟩ := ih hc.2 (f := b.left) rfl hr hb
        exact ⟨g, List.mem_cons_of_mem _ hg, hg1, hg2⟩

def InitNonempty (l : List DSeg) : Prop := ∀ g ∈ l.dropLast, g.data ≠ []

theorem InitNonempty.tail {a : DSeg} {l : List DSeg} (h : InitNonempty (a :: l)) : InitNonempty l := by
  intro g hg
  cases l with
  | nil => simp at hg
  | cons b t =>
    apply h
    simp only [List.dropLast_cons_cons]
    exact List.mem_cons_of_mem _ hg

theorem contig_head_lt {a : DSeg} {l : List DSeg} (hc : Contig (a :: l)) (hn : InitNonempty (a :: l))
    {g : DSeg} (hg : g ∈ l) : a.left < g.left := by
  induction l generalizing a g with
  | nil => cases hg
  | cons b t ih =>
    have ha : a.data ≠ [] := hn a (by simp)
    have hlen : 0 < a.data.length := List.length_pos_iff.mpr ha
    have hab : a.left < b.left := by have := hc.1; simp only [DSeg.right] at this; omega
    rcases List.mem_cons.mp hg with h | h
    · subst h; exact hab
    · have := ih hc.2 hn.tail h
      omega

theorem lefts_unique {l : List DSeg} (hc : Contig l) (hn : InitNonempty l) {g h : DSeg}
    (hg : g ∈ l) (hh : h ∈ l) (e : g.left = h.left) : g = h := by
  induction l with
  | nil => cases hg
  | cons a t ih =>
    rcases List.mem_cons.mp hg with h1 | h1 <;> rcases List.mem_cons.mp hh with h2 | h2
    · rw [h1, h2]
    · subst h1; have := contig_head_lt hc hn h2; omega
    · subst h2; have := contig_head_lt hc hn h1; omega
    · exact ih hc.tail hn.tail h1 h2

theorem findSeg_of_mem {l : List DSeg} (hc : Contig l) (hn : InitNonempty l) {g : DSeg} (hg : g ∈ l) :
    findSeg l g.left = some g := by
  unfold findSeg
  cases hf : l.find? (fun x => x.left == g.left) with
  | none =>
    have := List.find?_eq_none.mp hf g hg
    simp at this
  | some x =>
    have hx := List.find?_some hf
    have hxm := List.mem_of_find?_eq_some hf
    simp at hx
    rw [lefts_unique hc hn hxm hg hx]

theorem findSeg_some {l : List DSeg} {c : Nat} {g : DSeg} (h : findSeg l c = some g) : g ∈ l ∧ g.left = c := by
  unfold findSeg at h
  have h1 := List.mem_of_find?_eq_some h
  have h2 := List.find?_some h
  simp at h2
  exact ⟨h1, h2⟩

theorem take_drop_append_of_le {α} (l m : List α) (i j : Nat) (h : i + j ≤ l.length) :
    ((l ++ m).drop i).take j = (l.drop i).take j := by
  rw [List.drop_append_of_le_length (by omega)]
  rw [List.take_append_of_le_length (by simp; omega)]

theorem take_eq_take_length {α} (m : Nat) (X : List α) : X.take m = X.take (X.take m).length := by
  rw [List.length_take]
  exact List.take_eq_take_min

theorem take_drop_glue {α} (l : List α) (i j k : Nat) :
    (l.drop i).take j ++ (l.drop (i + j)).take k = (l.drop i).take (j + k) := by
  rw [List.take_add, List.drop_drop]

theorem slice_extend {α} {l out bs : List α} {a p k : Nat} (hout : out = (l.drop a).take p)
    (hbs : bs = (l.drop (a + p)).take k) : out ++ bs = (l.drop a).take (p + bs.length) := by
  subst hout hbs
  generalize hm : ((l.drop (a + p)).take k).length = m
  rw [show (l.drop (a + p)).take k = (l.drop (a + p)).take m from hm ▸ take_eq_take_length k _, take_drop_glue]

theorem embed_drop {α} {l d : List α} {i c n : Nat} (hd : d = (l.drop i).take d.length) :
    (d.drop c).take n = (l.drop (i + c)).take (min n (d.length - c)) := by
  conv => lhs; rw [hd]
  rw [List.drop_take, List.drop_drop, List.take_take]

theorem read_slice {hist out data : Bytes} {hbase gl start pos : Nat} (n : Nat) (e1 : hbase ≤ gl)
    (e3 : data = (hist.drop (gl - hbase)).take data.length) (hl : gl ≤ pos) (hr : pos ≤ gl + data.length)
    (hs : hbase ≤ start) (hp : start ≤ pos) (hout : out = (hist.drop (start - hbase)).take (pos - start)) :
    gl ≤ pos + ((data.drop (pos - gl)).take n).length ∧
    pos + ((data.drop (pos - gl)).take n).length ≤ gl + data.length ∧
    start ≤ pos + ((data.drop (pos - gl)).take n).length ∧
    out ++ (data.drop (pos - gl)).take n =
      (hist.drop (start - hbase)).take (pos + ((data.drop (pos - gl)).take n).length - start) := by
  generalize hbs : (data.drop (pos - gl)).take n = bs
  have hlen : bs.length ≤ data.length - (pos - gl) := by
    rw [← hbs]; simp; omega
  refine ⟨by omega, by omega, by omega, ?_⟩
  rw [embed_drop e3] at hbs
  have hidx : gl - hbase + (pos - gl) = start - hbase + (pos - start) := by omega
  rw [slice_extend hout (hidx ▸ hbs.symm)]
  congr 1; omega

theorem embed_grow {hist d chunk : Bytes} {i : Nat} (hd : d = (hist.drop i).take d.length)
    (hend : i + d.length = hist.length) :
    d ++ chunk = ((hist ++ chunk).drop i).take (d ++ chunk).length := by
  have h2 : d = hist.drop i := hd.trans (List.take_of_length_le (by simp; omega))
  rw [List.drop_append_of_le_length (by omega), ← h2, List.take_length]

def AofOk (s : Disk) (r : DReader) : Prop :=
  (∃ g ∈ s.all, g.left = r.cur ∧ g.left ≤ r.pos ∧ r.pos ≤ g.right) ∧
  (∀ p, r.prev = some p → ∃ g ∈ s.all, g.left = p) ∧
  s.hbase ≤ r.start ∧ r.start ≤ r.pos ∧
  r.out = (s.hist.drop (r.start - s.hbase)).take (r.pos - r.start)

def RdbOk (s : Disk) (r : DReader) : Prop :=
  ∃ rd, s.rdb = some rd ∧ r.pos ≤ rd.data.length ∧ r.out = rd.data.take r.pos

def ROk (s : Disk) (r : DReader) : Prop :=
  r.isOpen = true → (r.isAof = true → AofOk s r) ∧ (r.isAof = false → RdbOk s r)

structure DInv (s : Disk) : Prop where
  contig : Contig s.all
  nonempty : ∀ g ∈ s.segs, g.data ≠ []
  embed : ∀ g ∈ s.all, s.hbase ≤ g.left ∧ g.right ≤ s.hbase + s.hist.length ∧
            g.data = (s.hist.drop (g.left - s.hbase)).take g.data.length
  lastEnd : ∀ r, lastRight s.all = some r → r = s.hbase + s.hist.length
  rdbAlign : ∀ r l, s.rdb = some r → firstLeft s.all = some l → r.left = l
  rdbShape : ∀ r, s.rdb = some r → 0 < r.size ∧
      (r.writing = true → r.final = false ∧ r.data.length < r.size) ∧
      (r.writing = false → r.final = true ∧ r.data.length = r.size)
  ids : (s.readers.map (·.id)).Nodup
  readersOk : ∀ r ∈ s.readers, ROk s r

theorem all_initNonempty {s : Disk} (h : ∀ g ∈ s.segs, g.data ≠ []) : InitNonempty s.all := by
  intro g hg
  apply h
  unfold Disk.all at hg
  cases hl : s.live with
  | none => rw [hl] at hg; simp at hg; exact List.dropLast_subset _ hg
  | some x =>
    rw [hl] at hg
    simp only [Option.toList_some] at hg
    rw [List.dropLast_concat] at hg
    exact hg

theorem DInv.init (l m : Nat) : DInv (Disk.init l m) := by
  constructor <;> simp [Disk.init, Disk.all, Contig, lastRight, firstLeft]


theorem DInv.setReaders {s : Disk} (h : DInv s) {rs : List DReader} (hids : (rs.map (·.id)).Nodup)
    (hok : ∀ r ∈ rs, ROk s r) : DInv { s with readers := rs } :=
  ⟨h.contig, h.nonempty, h.embed, h.lastEnd, h.rdbAlign, h.rdbShape, hids, hok⟩

theorem DInv.with_runId {s : Disk} (h : DInv s) (id : String) : DInv { s with runId := id } :=
  ⟨h.contig, h.nonempty, h.embed, h.lastEnd, h.rdbAlign, h.rdbShape, h.ids, h.readersOk⟩

theorem ROk_of_closed {s : Disk} {r : DReader} (h : r.isOpen = false) : ROk s r := by
  intro ho; rw [h] at ho; cases ho

theorem close_id (r : DReader) : r.close.id = r.id := rfl

theorem map_ids_of_id_pres (rs : List DReader) (f : DReader → DReader) (hf : ∀ r, (f r).id = r.id) :
    (rs.map f).map (·.id) = rs.map (·.id) := by
  induction rs with
  | nil => rfl
  | cons a t ih => simp [hf, ih]

theorem setReader_ids (rs : List DReader) (r : DReader) :
    (setReader rs r).map (·.id) = rs.map (·.id) := by
  apply map_ids_of_id_pres
  intro x
  by_cases h : x.id == r.id
  · simp [h]; exact (beq_iff_eq.mp h).symm
  · simp [h]

theorem mem_setReader {rs : List DReader} {r x : DReader} (h : x ∈ setReader rs r) :
    x = r ∨ (x ∈ rs ∧ x.id ≠ r.id) := by
  unfold setReader at h
  obtain ⟨y, hy, rfl⟩ := List.mem_map.mp h
  by_cases hid : y.id == r.id
  · left; simp [hid]
  · right; simp [hid]; exact ⟨hy, by simpa using hid⟩

theorem findReader_some {rs : List DReader} {rid : Nat} {r : DReader} (h : findReader rs rid = some r) :
    r ∈ rs ∧ r.id = rid := by
  unfold findReader at h
  have h1 := List.mem_of_find?_eq_some h
  have h2 := List.find?_some h
  simp at h2
  exact ⟨h1, h2⟩

theorem findReader_none {rs : List DReader} {rid : Nat} (h : findReader rs rid = none) :
    rid ∉ rs.map (·.id) := by
  unfold findReader at h
  intro hm
  obtain ⟨y, hy, rfl⟩ := List.mem_map.mp hm
  have := List.find?_eq_none.mp h y hy
  simp at this

theorem mem_setReader_other {rs : List DReader} {r x : DReader} (hx : x ∈ rs) (hne : x.id ≠ r.id) :
    x ∈ setReader rs r := by
  unfold setReader
  refine List.mem_map.mpr ⟨x, hx, ?_⟩
  have : (x.id == r.id) = false := by simpa using hne
  simp [this]

theorem mem_setReader_same {rs : List DReader} {r0 r1 : DReader} (h0 : r0 ∈ rs) (hid : r1.id = r0.id) :
    r1 ∈ setReader rs r1 := by
  unfold setReader
  exact List.mem_map.mpr ⟨r0, h0, by simp [hid]⟩

theorem eq_of_mem_of_id {rs : List DReader} (hn : (rs.map (·.id)).Nodup) {a b : DReader}
    (ha : a ∈ rs) (hb : b ∈ rs) (e : a.id = b.id) : a = b := by
  induction rs with
  | nil => cases ha
  | cons x t ih =>
    simp only [List.map_cons, List.nodup_cons] at hn
    rcases List.mem_cons.mp ha with h1 | h1 <;> rcases List.mem_cons.mp hb with h2 | h2
    · rw [h1, h2]
    · subst h1; exact absurd (List.mem_map.mpr ⟨b, h2, e.symm⟩) hn.1
    · subst h2; exact absurd (List.mem_map.mpr ⟨a, h1, e⟩) hn.1
    · exact ih hn.2 h1 h2

theorem ite_close (c : Bool) (x : DReader) :
    (if c then x.close else x) = x ∨ (if c then x.close else x) = x.close := by
  cases c <;> simp

theorem readers_close {s s' : Disk} (h : DInv s) {f : DReader → DReader} (hrs : s'.readers = s.readers.map f)
    (hf : ∀ x ∈ s.readers, f x = x.close ∨ (f x = x ∧ (ROk s x → ROk s' x))) :
    (s'.readers.map (·.id)).Nodup ∧ ∀ r ∈ s'.readers, ROk s' r := by
  rw [hrs]
  constructor
  · have : (s.readers.map f).map (·.id) = s.readers.map (·.id) := by
      rw [List.map_map]
      apply List.map_congr_left
      intro x hx
      rcases hf x hx with e | ⟨e, _⟩ <;> simp [e, DReader.close]
    rw [this]; exact h.ids
  · intro r hr
    obtain ⟨y, hy, rfl⟩ := List.mem_map.mp hr
    rcases hf y hy with e | ⟨e, hk⟩
    · rw [e]; exact ROk_of_closed rfl
    · rw [e]; exact hk (h.readersOk y hy)

theorem DInv.reset {s : Disk} (h : DInv s) : DInv s.reset := by
  obtain ⟨hids, hro⟩ := readers_close (s' := s.reset) h (f := DReader.close) rfl (fun _ _ => Or.inl rfl)
  refine ⟨?_, ?_, ?_, ?_, ?_, ?_, hids, hro⟩ <;> simp [Disk.reset, Disk.all, Contig, lastRight]

theorem DInv.newRdbWriter {s : Disk} (h : DInv s) (off size : Nat) (hs : 0 < size) :
    DInv (s.step (.newRdbWriter off size)).1 := by
  have hr := h.reset
  refine ⟨hr.contig, hr.nonempty, hr.embed, hr.lastEnd, ?_, ?_, hr.ids, ?_⟩
  · intro r l _ hl; simp [Disk.step, Disk.reset, Disk.all, firstLeft] at hl
  · intro r hr'; simp [Disk.step] at hr'; subst hr'; simpa using hs
  · intro r hm
    obtain ⟨y, _, rfl⟩ := List.mem_map.mp hm
    exact ROk_of_closed rfl

theorem DInv.rdbAppend {s : Disk} (h : DInv s) (chunk : Bytes)
    (hok : s.okOp (.rdbAppend chunk)) : DInv (s.step (.rdbAppend chunk)).1 := by
  obtain ⟨hne, hsz⟩ := hok
  simp only [Disk.step]
  cases hr : s.rdb with
  | none => exact h
  | some r =>
    rw [hr] at hsz
    cases hw : r.writing with
    | false => simpa [hw] using h
    | true =>
      obtain ⟨hpos, hwr, _⟩ := h.rdbShape r hr
      have hclen : 0 < chunk.length := List.length_pos_iff.mpr hne
      -- the two outcomes differ in the flags only: a snapshot with the same left end and more data
      have key : ∀ (r2 : DRdb), r2.left = r.left → r2.data = r.data ++ chunk →
          (0 < r2.size ∧ (r2.writing = true → r2.final = false ∧ r2.data.length < r2.size) ∧
            (r2.writing = false → r2.final = true ∧ r2.data.length = r2.size)) →
          DInv { s with rdb := some r2 } := by
        intro r2 hl hd hsh
        refine ⟨h.contig, h.nonempty, h.embed, h.lastEnd, ?_, ?_, h.ids, ?_⟩
        · intro r' l hr' hl'
          cases hr'
          rw [hl]; exact h.rdbAlign r l hr hl'
        · intro r' hr'; cases hr'; exact hsh
        · intro x hx ho
          obtain ⟨h1, h2⟩ := h.readersOk x hx ho
          refine ⟨h1, fun ha => ?_⟩
          obtain ⟨rd, hrd, hp, hout⟩ := h2 ha
          rw [hr] at hrd; cases hrd
          refine ⟨r2, rfl, ?_, ?_⟩
          · rw [hd]; simp; omega
          · rw [hd, List.take_append_of_le_length hp]; exact hout
      simp only [hw, if_true]
      split
      · rename_i heq
        exact key _ rfl rfl ⟨hpos, by simp, by simpa using heq⟩
      · rename_i hneq
        have := hsz hw
        exact key _ rfl rfl ⟨hpos, fun _ => ⟨(hwr hw).1, by simp at hneq ⊢; omega⟩, by simp⟩

theorem DInv.rdbClose {s : Disk} (h : DInv s) : DInv (s.step .rdbClose).1 := by
  simp only [Disk.step]
  cases hr : s.rdb with
  | none => exact h
  | some r =>
    cases hw : r.writing with
    | false => simpa [hw] using h
    | true =>
      simp only [hw, if_true]
      -- the snapshot goes, with the readers on it; the stream readers keep their obligations
      obtain ⟨hids, hro⟩ := readers_close h (s' := { s with rdb := none, readers := closeRdbReaders s.readers })
        (f := fun r => if r.isAof then r else r.close) rfl (fun x _ => by
          cases ha : x.isAof
          · exact Or.inl (by simp)
          · exact Or.inr ⟨by simp, fun hx ho => ⟨fun _ => (hx ho).1 ha, fun hf => by rw [ha] at hf; cases hf⟩⟩)
      exact ⟨h.contig, h.nonempty, h.embed, h.lastEnd, (fun _ _ e => nomatch e), (fun _ e => nomatch e), hids, hro⟩

theorem firstLeft_append_of_ne {l : List DSeg} (m : List DSeg) (h : l ≠ []) :
    firstLeft (l ++ m) = firstLeft l := by
  cases l with
  | nil => exact absurd rfl h
  | cons a t => rfl

theorem holds_of_cur {r : DReader} (ho : r.isOpen = true) (ha : r.isAof = true) :
    r.holds r.cur = true := by simp [DReader.holds, ho, ha]

theorem holds_of_prev {r : DReader} {p : Nat} (ho : r.isOpen = true) (ha : r.isAof = true)
    (hp : r.prev = some p) : r.holds p = true := by simp [DReader.holds, ho, ha, hp]

theorem all_of_live {s : Disk} {g : DSeg} (hl : s.live = some g) : s.all = s.segs ++ [g] := by
  simp [Disk.all, hl]

theorem ROk_mono {s s' : Disk} {r : DReader} (hall : ∀ g ∈ s.all, g ∈ s'.all) (hrdb : s'.rdb = s.rdb)
    (hb : s'.hbase = s.hbase) (hh : s'.hist = s.hist) (h : ROk s r) : ROk s' r := by
  intro ho
  obtain ⟨h1, h2⟩ := h ho
  refine ⟨fun ha => ?_, fun ha => ?_⟩
  · obtain ⟨⟨g, hg, hc⟩, hprev, hrest⟩ := h1 ha
    refine ⟨⟨g, hall g hg, hc⟩, fun p hp => ?_, ?_⟩
    · obtain ⟨g1, hg1, hl1⟩ := hprev p hp
      exact ⟨g1, hall g1 hg1, hl1⟩
    · rw [hb, hh]; exact hrest
  · have := h2 ha
    unfold RdbOk at *
    rw [hrdb]; exact this

theorem DInv.closeLive {s : Disk} (h : DInv s) : DInv s.closeLive := by
  unfold Disk.closeLive
  cases hl : s.live with
  | none => exact h
  | some g =>
    simp only []
    have hall := all_of_live hl
    cases he : g.data.isEmpty with
    | true =>
      simp only [if_true]
      have hge : g.data = [] := List.isEmpty_iff.mp he
      obtain ⟨hcs, hlast⟩ := (contig_append_single _ _).mp (hall ▸ h.contig)
      have hgend : g.right = s.hbase + s.hist.length := by
        apply h.lastEnd; rw [hall, lastRight_append_single]
      have hall' : ({ s with live := none, readers := closeReadersOn g.left s.readers } : Disk).all = s.segs := by
        simp [Disk.all]
      -- a reader that is left open does not hold the trimmed segment: its segments stay
      obtain ⟨hids, hro⟩ := readers_close h (s' := { s with live := none, readers := closeReadersOn g.left s.readers })
        (f := fun r => if r.holds g.left then r.close else r) rfl (fun y _ => by
          cases hh : y.holds g.left
          · refine Or.inr ⟨by simp, fun hy ho => ?_⟩
            obtain ⟨h1, h2⟩ := hy ho
            refine ⟨fun ha => ?_, h2⟩
            have keep : ∀ g0 ∈ s.all, y.holds g0.left = true → g0 ∈ s.segs := by
              intro g0 hg0 hh0
              rw [hall] at hg0
              rcases List.mem_append.mp hg0 with hm | hm
              · exact hm
              · simp at hm; subst hm; rw [hh] at hh0; cases hh0
            obtain ⟨⟨g0, hg0, hc0, hb0⟩, hprev, hrest⟩ := h1 ha
            refine ⟨⟨g0, by rw [hall']; exact keep g0 hg0 (hc0 ▸ holds_of_cur ho ha), hc0, hb0⟩, fun p hp => ?_, hrest⟩
            obtain ⟨g1, hg1, hl1⟩ := hprev p hp
            exact ⟨g1, by rw [hall']; exact keep g1 hg1 (hl1 ▸ holds_of_prev ho ha hp), hl1⟩
          · exact Or.inl (by simp))
      refine ⟨by rw [hall']; exact hcs, h.nonempty, ?_, ?_, ?_, h.rdbShape, hids, hro⟩
      · rw [hall']
        intro x hx
        exact h.embed x (by rw [hall]; simp [hx])
      · rw [hall']
        intro r hr
        have := hlast r hr
        simp only [DSeg.right, hge, List.length_nil] at hgend
        dsimp only
        omega
      · rw [hall']
        intro r l hr hfl
        apply h.rdbAlign r l hr
        rw [hall, firstLeft_append_of_ne]; exact hfl
        intro hnil; rw [hnil] at hfl; cases hfl
    | false =>
      simp only [Bool.false_eq_true, if_false]
      have hgne : g.data ≠ [] := by
        intro hh; rw [hh] at he; cases he
      have hall' : ({ s with segs := s.segs ++ [g], live := none } : Disk).all = s.all := by
        simp [Disk.all, hl]
      refine ⟨hall' ▸ h.contig, ?_, hall' ▸ h.embed, hall' ▸ h.lastEnd, hall' ▸ h.rdbAlign, h.rdbShape, h.ids, ?_⟩
      · intro x hx
        rcases List.mem_append.mp hx with hx | hx
        · exact h.nonempty x hx
        · simp at hx; subst hx; exact hgne
      · intro x hx; exact ROk_mono (fun g hg => hall' ▸ hg) rfl rfl rfl (h.readersOk x hx)

theorem closeLive_all_eq {s : Disk} {g : DSeg} (hl : s.live = some g) :
    s.closeLive.all = if g.data.isEmpty then s.segs else s.segs ++ [g] := by
  simp only [Disk.closeLive, hl]
  split <;> simp [Disk.all]

theorem closeLive_live (s : Disk) : s.closeLive.live = none := by
  unfold Disk.closeLive
  cases hl : s.live with
  | none => simp [hl]
  | some g => simp only []; split <;> rfl

theorem closeLive_hist (s : Disk) : s.closeLive.hbase = s.hbase ∧ s.closeLive.hist = s.hist ∧
    s.closeLive.rdb = s.rdb := by
  unfold Disk.closeLive
  cases hl : s.live with
  | none => simp
  | some g => simp only []; split <;> simp

theorem DInv.pushEmpty {s s' : Disk} (h : DInv s) {r : Nat} (hlr : lastRight s.all = some r)
    (hall : s'.all = s.all ++ [{ left := r, data := [] }]) (hb : s'.hbase = s.hbase) (hh : s'.hist = s.hist)
    (hrdb : s'.rdb = s.rdb) (hne : ∀ g ∈ s'.segs, g.data ≠ []) (hids : (s'.readers.map (·.id)).Nodup)
    (hro : ∀ x ∈ s'.readers, ROk s' x) : DInv s' := by
  have hend := h.lastEnd r hlr
  have hne0 : s.all ≠ [] := by intro e; rw [e] at hlr; cases hlr
  refine ⟨?_, hne, ?_, ?_, ?_, by rw [hrdb]; exact h.rdbShape, hids, hro⟩
  · rw [hall, contig_append_single]
    exact ⟨h.contig, fun r' hr' => by rw [hlr] at hr'; cases hr'; rfl⟩
  · rw [hall, hb, hh]
    intro x hx
    rcases List.mem_append.mp hx with hx | hx
    · exact h.embed x hx
    · simp at hx; subst hx
      simp [DSeg.right]; omega
  · rw [hall, hb, hh, lastRight_append_single]
    intro r' hr'; cases hr'
    simpa [DSeg.right] using hend
  · rw [hall, hrdb, firstLeft_append_of_ne _ hne0]; exact h.rdbAlign

theorem DInv.newAofWriter {s : Disk} (h : DInv s) (off : Nat) (hok : s.okOp (.newAofWriter off)) :
    DInv (s.step (.newAofWriter off)).1 := by
  have h1 := h.closeLive
  have hlive := closeLive_live s
  obtain ⟨hhb, hhh, hhr⟩ := closeLive_hist s
  simp only [Disk.okOp] at hok
  simp only [Disk.step]
  generalize s.closeLive = s1 at *
  have hall1 : s1.all = s1.segs := by simp [Disk.all, hlive]
  -- stream readers are closed; snapshot readers look at the snapshot only
  have hreaders := fun (lv : Option DSeg) (hb : Nat) (hi : Bytes) =>
    readers_close h1 (s' := { s1 with live := lv, readers := closeAofReaders s1.readers, hbase := hb, hist := hi })
      rfl (fun x _ => by
        cases ha : x.isAof
        · exact Or.inr ⟨by simp, fun hx ho => ⟨(fun hf => by rw [ha] at hf; cases hf), (hx ho).2⟩⟩
        · exact Or.inl (by simp))
  cases hlr : lastRight s1.segs with
  | some r =>
    rw [hlr] at hok
    subst hok
    simp only [beq_self_eq_true, if_true]
    exact h1.pushEmpty (hall1 ▸ hlr) (by simp [Disk.all, hlive]) hhb.symm hhh.symm rfl h1.nonempty
      (hreaders _ _ _).1 (hreaders _ _ _).2
  | none =>
    rw [hlr] at hok
    have hnil : s1.segs = [] := lastRight_eq_none.mp hlr
    simp only [Bool.false_eq_true, if_false]
    have hall' : ∀ rs, ({ s1 with live := some { left := off, data := [] }, readers := rs, hbase := off, hist := [] } : Disk).all =
        [{ left := off, data := [] }] := by simp [Disk.all, hnil]
    refine ⟨?_, h1.nonempty, ?_, ?_, ?_, h1.rdbShape, (hreaders _ _ _).1, (hreaders _ _ _).2⟩
    · rw [hall']; trivial
    · rw [hall']; intro g hg; simp at hg; subst hg; simp [DSeg.right]
    · rw [hall']; intro r' hr'; cases hr'; rfl
    · rw [hall']
      intro rd l hrd hfl
      cases hfl
      have hrd' : s.rdb = some rd := by rw [← hhr]; exact hrd
      rw [hrd'] at hok
      exact hok.symm
theorem newAofWriter_fresh {s : Disk} (h : DInv s) {off : Nat} (hok : s.okOp (.newAofWriter off)) :
    ∀ g ∈ s.closeLive.segs, g.left ≠ off := by
  -- `off` is the right end of the last segment, and no segment is empty
  intro g hg e
  have h1 := h.closeLive
  have hall1 : s.closeLive.all = s.closeLive.segs := by simp [Disk.all, closeLive_live s]
  simp only [Disk.okOp] at hok
  cases hlr : lastRight s.closeLive.segs with
  | none => rw [lastRight_eq_none.mp hlr] at hg; cases hg
  | some r =>
    rw [hlr] at hok
    have hle := contig_right_le_last (hall1 ▸ h1.contig) hg hlr
    have : 0 < g.data.length := List.length_pos_iff.mpr (h1.nonempty g hg)
    simp only [DSeg.right] at hle
    simp at hok
    omega

theorem AofOk_append {s s' : Disk} {r : DReader} (chunk : Bytes)
    (hb : s'.hbase = s.hbase) (hh : s'.hist = s.hist ++ chunk)
    (hsegs : ∀ g ∈ s.all, ∃ g' ∈ s'.all, g'.left = g.left ∧ g.right ≤ g'.right)
    (hbound : ∀ g ∈ s.all, g.right ≤ s.hbase + s.hist.length)
    (h : AofOk s r) : AofOk s' r := by
  obtain ⟨⟨g, hg, hc, hl, hr⟩, hprev, hs, hp, hout⟩ := h
  refine ⟨?_, ?_, by rw [hb]; exact hs, hp, ?_⟩
  · obtain ⟨g', hg', hl', hr'⟩ := hsegs g hg
    exact ⟨g', hg', by rw [hl']; exact hc, by rw [hl']; exact hl, by omega⟩
  · intro p hp'
    obtain ⟨g1, hg1, hl1⟩ := hprev p hp'
    obtain ⟨g', hg', hl', _⟩ := hsegs g1 hg1
    exact ⟨g', hg', by rw [hl']; exact hl1⟩
  · rw [hb, hh, take_drop_append_of_le]
    · exact hout
    · have := hbound g hg; omega

theorem DInv.rotate {s : Disk} (h : DInv s) {g : DSeg} (hl : s.live = some g) (hgne : g.data ≠ []) :
    DInv { s with segs := s.segs ++ [g], live := some { left := g.right, data := [] } } := by
  have hall' : ({ s with segs := s.segs ++ [g], live := some { left := g.right, data := [] } } : Disk).all =
      s.all ++ [{ left := g.right, data := [] }] := by simp [Disk.all, hl]
  refine h.pushEmpty (by rw [all_of_live hl, lastRight_append_single]) hall' rfl rfl rfl ?_ h.ids ?_
  · intro x hx
    rcases List.mem_append.mp hx with hx | hx
    · exact h.nonempty x hx
    · simp at hx; subst hx; exact hgne
  · intro x hx
    exact ROk_mono (s := s) (fun g hg => by rw [hall']; exact List.mem_append_left _ hg) rfl rfl rfl
      (h.readersOk x hx)

theorem DInv.appendLive {s : Disk} (h : DInv s) (chunk : Bytes) (hcne : chunk ≠ []) :
    DInv (s.appendLive chunk).1 := by
  unfold Disk.appendLive
  split
  · exact h
  · rename_i g hl
    have hall := all_of_live hl
    have hgend : g.right = s.hbase + s.hist.length := by
      apply h.lastEnd; rw [hall, lastRight_append_single]
    simp only [DSeg.right] at hgend
    obtain ⟨hg1, _, hg3⟩ := h.embed g (by rw [hall]; simp)
    have hcs := (contig_append_single _ _).mp (hall ▸ h.contig)
    -- the live segment and the history grow by the same bytes
    have hgrow : DInv { s with live := some { g with data := g.data ++ chunk }, hist := s.hist ++ chunk } := by
      have hall' : ({ s with live := some { g with data := g.data ++ chunk }, hist := s.hist ++ chunk } : Disk).all =
          s.segs ++ [{ g with data := g.data ++ chunk }] := by simp [Disk.all]
      refine ⟨?_, h.nonempty, ?_, ?_, ?_, h.rdbShape, h.ids, ?_⟩
      · rw [hall', contig_append_single]; exact hcs
      · rw [hall']
        intro x hx
        show s.hbase ≤ x.left ∧ x.right ≤ s.hbase + (s.hist ++ chunk).length ∧
          x.data = ((s.hist ++ chunk).drop (x.left - s.hbase)).take x.data.length
        rcases List.mem_append.mp hx with hm | hm
        · obtain ⟨e1, e2, e3⟩ := h.embed x (by rw [hall]; simp [hm])
          simp only [DSeg.right] at e2
          refine ⟨e1, by simp [DSeg.right]; omega, ?_⟩
          rw [take_drop_append_of_le _ _ _ _ (by omega)]
          exact e3
        · simp at hm; subst hm
          exact ⟨hg1, by simp [DSeg.right]; omega, embed_grow (i := g.left - s.hbase) hg3 (by omega)⟩
      · rw [hall', lastRight_append_single]
        intro r hr; cases hr
        show g.left + (g.data ++ chunk).length = s.hbase + (s.hist ++ chunk).length
        simp; omega
      · rw [hall']
        intro rd l hrd hfl
        apply h.rdbAlign rd l hrd
        rw [hall]
        cases hsg : s.segs with
        | nil => rw [hsg] at hfl; exact hfl
        | cons a t => rw [hsg] at hfl; exact hfl
      · intro x hx ho
        obtain ⟨h1, h2⟩ := h.readersOk x hx ho
        refine ⟨fun ha => ?_, h2⟩
        refine AofOk_append (s := s) chunk rfl rfl ?_ (fun x hx => (h.embed x hx).2.1) (h1 ha)
        intro y hy
        rw [hall'] 
        rw [hall] at hy
        rcases List.mem_append.mp hy with hm | hm
        · exact ⟨y, List.mem_append_left _ hm, rfl, Nat.le_refl _⟩
        · simp at hm; subst hm
          exact ⟨_, List.mem_append_right _ (List.mem_singleton_self _), rfl, by simp [DSeg.right]⟩
    simp only []
    split
    · exact hgrow.rotate rfl (by simp [hcne])
    · exact hgrow

theorem DInv.aofAppend {s : Disk} (h : DInv s) (chunk : Bytes) (hok : s.okOp (.aofAppend chunk)) :
    DInv (s.step (.aofAppend chunk)).1 := by
  have hcne : chunk ≠ [] := hok
  have := h.appendLive chunk hcne
  simp only [Disk.step]
  cases hp : s.appendLive chunk with
  | mk s' ok =>
    rw [hp] at this
    cases ok with
    | true => simpa using this
    | false => simpa using h

theorem dropUnref_suffix (rs : List DReader) (k : Nat) (segs : List DSeg) :
    ∃ pre, segs = pre ++ dropUnref rs k segs ∧ ∀ g ∈ pre, readerRefs rs g.left = 0 := by
  induction segs generalizing k with
  | nil => exact ⟨[], by cases k <;> simp [dropUnref], by simp⟩
  | cons a t ih =>
    cases k with
    | zero => exact ⟨[], by simp [dropUnref], by simp⟩
    | succ k =>
      simp only [dropUnref]
      by_cases href : readerRefs rs a.left > 0
      · simp only [href, if_true]; exact ⟨[], by simp, by simp⟩
      · simp only [href]
        obtain ⟨pre, hp, hz⟩ := ih k
        refine ⟨a :: pre, by simp; exact hp, ?_⟩
        intro g hg
        rcases List.mem_cons.mp hg with h | h
        · subst h; omega
        · exact hz g h

theorem gcScanRev_pos (max : Nat) (l : List DSeg) (size : Nat) :
    (gcScanRev max l size).1 > 0 → (gcScanRev max l size).2 > max := by
  induction l generalizing size with
  | nil => simp [gcScanRev]
  | cons a t ih =>
    simp only [gcScanRev]
    split
    · intro _; assumption
    · exact ih _

theorem readerRefs_pos_of_cur {rs : List DReader} {r : DReader} (hr : r ∈ rs) (ho : r.isOpen = true)
    (ha : r.isAof = true) : readerRefs rs r.cur > 0 := by
  unfold readerRefs
  have : 0 < (rs.filter (fun x => x.isOpen && x.isAof && x.cur == r.cur)).length :=
    List.length_filter_pos_iff.mpr ⟨r, hr, by simp [ho, ha]⟩
  omega

theorem readerRefs_pos_of_prev {rs : List DReader} {r : DReader} {p : Nat} (hr : r ∈ rs)
    (ho : r.isOpen = true) (ha : r.isAof = true) (hp : r.prev = some p) : readerRefs rs p > 0 := by
  unfold readerRefs
  have : 0 < (rs.filter (fun x => x.isOpen && x.isAof && x.prev == some p)).length :=
    List.length_filter_pos_iff.mpr ⟨r, hr, by simp [ho, ha, hp]⟩
  omega

theorem DInv.dropPrefix {s : Disk} (h : DInv s) (pre segs' : List DSeg) (rdb' : Option DRdb)
    (hsegs : s.segs = pre ++ segs') (hz : ∀ g ∈ pre, readerRefs s.readers g.left = 0)
    (hrdb : rdb' = s.rdb ∨ (rdb' = none ∧ ∀ r, s.rdb = some r → rdbReaderRefs s.readers = 0))
    (halign : rdb' = none ∨ pre = []) :
    DInv { s with segs := segs', rdb := rdb' } := by
  have hall : s.all = pre ++ ({ s with segs := segs', rdb := rdb' } : Disk).all := by
    simp [Disk.all, hsegs]
  refine ⟨contig_suffix pre _ (hall ▸ h.contig), ?_, ?_, ?_, ?_, ?_, h.ids, ?_⟩
  · intro g hg; exact h.nonempty g (by rw [hsegs]; exact List.mem_append_right _ hg)
  · intro g hg; exact h.embed g (by rw [hall]; exact List.mem_append_right _ hg)
  · intro r hr
    apply h.lastEnd
    rw [hall, lastRight_suffix]
    · exact hr
    · intro hnil; rw [hnil] at hr; cases hr
  · intro r l hr hfl
    rcases halign with hn | hp
    · rw [hn] at hr; cases hr
    · subst hp
      rcases hrdb with hr1 | hr1
      · exact h.rdbAlign r l (by rw [← hr1]; exact hr) (by rw [hall]; exact hfl)
      · rw [hr1.1] at hr; cases hr
  · intro r hr
    rcases hrdb with hr1 | hr1
    · exact h.rdbShape r (by rw [← hr1]; exact hr)
    · rw [hr1.1] at hr; cases hr
  · intro x hx ho
    obtain ⟨h1, h2⟩ := h.readersOk x hx ho
    refine ⟨fun ha => ?_, fun ha => ?_⟩
    · obtain ⟨⟨g0, hg0, hc0, hb0⟩, hprev, hrest⟩ := h1 ha
      -- a segment with a reader on it is not in the dropped prefix
      have keep : ∀ g1 ∈ s.all, readerRefs s.readers g1.left > 0 →
          g1 ∈ ({ s with segs := segs', rdb := rdb' } : Disk).all := by
        intro g1 hg1 hpos
        rw [hall] at hg1
        rcases List.mem_append.mp hg1 with hm | hm
        · have := hz g1 hm; omega
        · exact hm
      refine ⟨⟨g0, keep g0 hg0 ?_, hc0, hb0⟩, ?_, hrest⟩
      · rw [hc0]; exact readerRefs_pos_of_cur hx ho ha
      · intro p hp
        obtain ⟨g1, hg1, hl1⟩ := hprev p hp
        exact ⟨g1, keep g1 hg1 (by rw [hl1]; exact readerRefs_pos_of_prev hx ho ha hp), hl1⟩
    · obtain ⟨rd, hrd, hrest⟩ := h2 ha
      rcases hrdb with hr1 | hr1
      · exact ⟨rd, by rw [hr1]; exact hrd, hrest⟩
      · have hzero := hr1.2 rd hrd
        unfold rdbReaderRefs at hzero
        have : 0 < (s.readers.filter (fun r => r.isOpen && !r.isAof)).length :=
          List.length_filter_pos_iff.mpr ⟨x, hx, by simp [ho, ha]⟩
        omega

/-- `drop` is `dropUnref`, or `dropUnrefZ`, which also stops at segments that kept their writer reference. -/
theorem gcWith_cases (s : Disk) (drop : Nat → List DSeg → List DSeg) (h0 : drop 0 s.segs = s.segs)
    (hsuf : ∀ k, ∃ pre, s.segs = pre ++ drop k s.segs ∧ ∀ g ∈ pre, readerRefs s.readers g.left = 0)
    (s' : Disk) (hs' : s' = if s.maxSize = 0 then s else
      let (k, size) := gcScanRev s.maxSize s.all.reverse 0
      match s.rdb with
      | none => { s with segs := drop k s.segs }
      | some r =>
        if size + r.size > s.maxSize then
          if rdbRef s.readers r = 0 then { s with rdb := none, segs := drop k s.segs }
          else s
        else { s with segs := drop k s.segs }) :
    ∃ pre, s.segs = pre ++ s'.segs ∧ (∀ g ∈ pre, readerRefs s.readers g.left = 0) ∧
      (s'.rdb = s.rdb ∨ (s'.rdb = none ∧ ∀ r, s.rdb = some r → rdbRef s.readers r = 0)) ∧
      (s'.rdb = none ∨ pre = []) ∧ s' = { s with segs := s'.segs, rdb := s'.rdb } := by
  subst hs'
  split
  · exact ⟨[], rfl, nofun, Or.inl rfl, Or.inr rfl, rfl⟩
  · generalize hk : gcScanRev s.maxSize s.all.reverse 0 = ks
    obtain ⟨k, size⟩ := ks
    obtain ⟨pre, hp, hz⟩ := hsuf k
    simp only []
    split
    · rename_i hr
      exact ⟨pre, hp, hz, Or.inl rfl, Or.inl hr, rfl⟩
    · rename_i r hr
      split
      · split
        · rename_i href
          exact ⟨pre, hp, hz, Or.inr ⟨rfl, fun r' hr' => by rw [hr] at hr'; cases hr'; exact href⟩, Or.inl rfl, rfl⟩
        · exact ⟨[], rfl, nofun, Or.inl rfl, Or.inr rfl, rfl⟩
      · -- nothing was over the limit: the scan selected no segment
        have hk0 : k = 0 := by
          have := gcScanRev_pos s.maxSize s.all.reverse 0
          rw [hk] at this
          by_cases hkz : k = 0
          · exact hkz
          · have := this (Nat.pos_of_ne_zero hkz); simp only [] at this; omega
        subst hk0
        rw [h0]
        exact ⟨[], rfl, nofun, Or.inl rfl, Or.inr rfl, rfl⟩

theorem gc_cases (s : Disk) : ∃ pre, s.segs = pre ++ s.gc.segs ∧ (∀ g ∈ pre, readerRefs s.readers g.left = 0) ∧
    (s.gc.rdb = s.rdb ∨ (s.gc.rdb = none ∧ ∀ r, s.rdb = some r → rdbRef s.readers r = 0)) ∧
    (s.gc.rdb = none ∨ pre = []) ∧ s.gc = { s with segs := s.gc.segs, rdb := s.gc.rdb } :=
  gcWith_cases s (dropUnref s.readers) (by cases s.segs <;> rfl) (fun k => dropUnref_suffix s.readers k s.segs) s.gc rfl

theorem DInv.gc {s : Disk} (h : DInv s) : DInv s.gc := by
  obtain ⟨pre, hp, hz, hrdb, halign, he⟩ := gc_cases s
  rw [he]
  refine h.dropPrefix pre _ _ hp hz (hrdb.imp_right (fun ⟨hn, h0⟩ => ⟨hn, fun r hr => ?_⟩)) halign
  have := h0 r hr
  unfold rdbRef at this
  omega

theorem indexAof_some {segs : List DSeg} {off : Nat} {g : DSeg} (h : indexAof segs off = some g) :
    g ∈ segs ∧ g.left ≤ off ∧ off ≤ g.right := by
  unfold indexAof at h
  have h1 := List.mem_of_find?_eq_some h
  have h2 := List.find?_some h
  simp at h1 h2
  exact ⟨h1, h2.1, h2.2⟩

theorem DInv.pushReader {s : Disk} (h : DInv s) (r : DReader) (hid : r.id ∉ s.readers.map (·.id))
    (hr : ROk s r) : DInv { s with readers := s.readers ++ [r] } := by
  refine h.setReaders ?_ ?_
  · rw [List.map_append, List.nodup_append]
    refine ⟨h.ids, by simp, ?_⟩
    intro a ha b hb
    simp at hb; subst hb
    intro e; subst e; exact hid ha
  · intro x hx
    rcases List.mem_append.mp hx with hm | hm
    · exact h.readersOk x hm
    · simp at hm; subst hm; exact hr

theorem open_reader_cases (s : Disk) (rid off : Nat) (crcOk : Bool) :
    (s.open rid off crcOk).1 = s ∨ ∃ r, r.id = rid ∧ r.id ∉ s.readers.map (·.id) ∧ (DInv s → ROk s r) ∧
      (s.open rid off crcOk).1 = { s with readers := s.readers ++ [r] } := by
  unfold Disk.open
  cases hf : findReader s.readers rid with
  | some r0 => exact Or.inl rfl
  | none =>
    have hid := findReader_none hf
    simp only [Option.isSome_none, Bool.false_eq_true, if_false]
    split
    · exact Or.inl rfl
    · cases hi : indexAof s.all off with
      | some g =>
        obtain ⟨hg, hl, hr⟩ := indexAof_some hi
        refine Or.inr ⟨⟨rid, true, g.left, none, off, true, off, []⟩, rfl, hid,
          fun h _ => ⟨fun _ => ?_, fun hf => nomatch hf⟩, rfl⟩
        exact ⟨⟨g, hg, rfl, hl, hr⟩, (fun _ hp => nomatch hp), Nat.le_trans (h.embed g hg).1 hl, Nat.le_refl _, by simp⟩
      | none =>
        cases hrd : s.rdb with
        | none => exact Or.inl rfl
        | some rd =>
          simp only []
          split
          · split
            · exact Or.inl rfl
            · refine Or.inr ⟨⟨rid, false, 0, none, 0, true, 0, []⟩, rfl, hid,
                fun _ _ => ⟨(fun hf => nomatch hf), fun _ => ⟨rd, hrd, Nat.zero_le _, rfl⟩⟩, ?_⟩
              rw [← hrd]
          · exact Or.inl rfl

theorem DInv.openReader {s : Disk} (h : DInv s) (rid off : Nat) (crcOk : Bool) :
    DInv (s.open rid off crcOk).1 := by
  rcases open_reader_cases s rid off crcOk with e | ⟨r, _, hid, hr, e⟩ <;> rw [e]
  · exact h
  · exact h.pushReader r hid (hr h)

theorem DInv.replaceReader {s : Disk} (h : DInv s) (r : DReader) (hr : ROk s r) :
    DInv { s with readers := setReader s.readers r } := by
  refine h.setReaders (by rw [setReader_ids]; exact h.ids) (fun x hx => ?_)
  rcases mem_setReader hx with he | ⟨hx', _⟩
  · exact he ▸ hr
  · exact h.readersOk x hx'

theorem DInv.closeReader {s : Disk} (h : DInv s) (rid : Nat) : DInv (s.closeReader rid).1 := by
  unfold Disk.closeReader
  cases findReader s.readers rid with
  | none => exact h
  | some r => exact h.replaceReader r.close (ROk_of_closed rfl)

theorem DInv.advRelease {s : Disk} (h : DInv s) (rid : Nat) : DInv (s.advRelease rid).1 := by
  unfold Disk.advRelease
  cases hf : findReader s.readers rid with
  | none => exact h
  | some r =>
    simp only []
    split
    · refine h.replaceReader _ (fun ho => ?_)
      obtain ⟨h1, h2⟩ := h.readersOk r (findReader_some hf).1 ho
      refine ⟨fun ha => ?_, h2⟩
      obtain ⟨hc, _, hrest⟩ := h1 ha
      exact ⟨hc, (fun _ hp => nomatch hp), hrest⟩
    · exact h

theorem DInv.advAcquire {s : Disk} (h : DInv s) (rid : Nat) : DInv (s.advAcquire rid).1 := by
  unfold Disk.advAcquire
  cases hf : findReader s.readers rid with
  | none => exact h
  | some r =>
    simp only []
    split
    · rename_i hca
      unfold Disk.canAdvance at hca
      simp only [Bool.and_eq_true] at hca
      obtain ⟨⟨⟨⟨ho, ha⟩, _⟩, hcur⟩, hnext⟩ := hca
      refine h.replaceReader _ (fun _ => ⟨fun _ => ?_, fun hf' => by rw [ha] at hf'; cases hf'⟩)
      obtain ⟨⟨g0, hg0, hc0, hb0⟩, _, hs, hp, hout⟩ := (h.readersOk r (findReader_some hf).1 ho).1 ha
      -- the reader moves to the segment that starts at its position and keeps the old one in `prev`
      cases hn : findSeg s.all r.pos with
      | none => rw [hn] at hnext; cases hnext
      | some g2 =>
        obtain ⟨hg2, hl2⟩ := findSeg_some hn
        refine ⟨⟨g2, hg2, hl2, Nat.le_of_eq hl2, ?_⟩, ?_, hs, hp, hout⟩
        · show r.pos ≤ g2.left + g2.data.length; omega
        · intro p hp'
          cases hp'
          exact ⟨g0, hg0, hc0⟩
    · exact h

theorem DInv.read {s : Disk} (h : DInv s) (rid n : Nat) : DInv (s.read rid n).1 := by
  unfold Disk.read
  cases hf : findReader s.readers rid with
  | none => exact h
  | some r =>
    simp only []
    cases ho : r.isOpen with
    | false => exact h
    | true =>
      obtain ⟨h1, h2⟩ := h.readersOk r (findReader_some hf).1 ho
      simp only [Bool.not_true, Bool.false_eq_true, if_false]
      cases ha : r.isAof with
      | true =>
        simp only [if_true]
        obtain ⟨⟨g0, hg0, hc0, hl0, hr0⟩, hprev, hs, hp, hout⟩ := h1 ha
        have hfs : findSeg s.all r.cur = some g0 := by
          rw [← hc0]; exact findSeg_of_mem h.contig (all_initNonempty h.nonempty) hg0
        simp only [hfs]
        split
        · exact h
        · refine h.replaceReader _ (fun _ => ⟨fun _ => ?_, fun hf' => nomatch hf'⟩)
          obtain ⟨e1, _, e3⟩ := h.embed g0 hg0
          obtain ⟨b1, b2, b3, b4⟩ := read_slice n e1 e3 hl0 hr0 hs hp hout
          exact ⟨⟨g0, hg0, hc0, b1, b2⟩, hprev, hs, b3, b4⟩
      | false =>
        simp only [Bool.false_eq_true, if_false]
        obtain ⟨rd, hrd, hp, hout⟩ := h2 ha
        simp only [hrd]
        split
        · exact h
        · rw [← hrd]
          refine h.replaceReader _ (fun _ => ⟨(fun hf' => nomatch hf'), fun _ => ⟨rd, hrd, ?_, ?_⟩⟩)
          · show r.pos + ((rd.data.drop r.pos).take n).length ≤ rd.data.length
            simp; omega
          · show r.out ++ (rd.data.drop r.pos).take n =
              rd.data.take (r.pos + ((rd.data.drop r.pos).take n).length)
            exact slice_extend (a := 0) hout (by rw [Nat.zero_add])

theorem contigRun_of_contig {l : List DSeg} (hc : Contig l) : contigRun l = l := by
  induction l with
  | nil => rfl
  | cons a t ih =>
    cases t with
    | nil => rfl
    | cons b u =>
      have := ih hc.2
      simp only [contigRun, this]
      simp [hc.1]

theorem contigRun_suffix (l : List DSeg) : ∃ pre, l = pre ++ contigRun l := by
  induction l with
  | nil => exact ⟨[], rfl⟩
  | cons a t ih =>
    cases t with
    | nil => exact ⟨[], rfl⟩
    | cons b u =>
      obtain ⟨pre, hp⟩ := ih
      simp only [contigRun]
      split
      · rename_i hcond
        have hlen := hcond.1
        have : pre = [] := by
          have h2 := congrArg List.length hp
          rw [List.length_append] at h2
          exact List.eq_nil_of_length_eq_zero (by omega)
        subst this
        simp at hp
        exact ⟨[], by simp; exact hp⟩
      · exact ⟨a :: pre, by simp; exact hp⟩

theorem contigRun_contig (l : List DSeg) : Contig (contigRun l) := by
  induction l with
  | nil => trivial
  | cons a t ih =>
    cases t with
    | nil => trivial
    | cons b u =>
      simp only [contigRun]
      split
      · rename_i hcond
        obtain ⟨pre, hp⟩ := contigRun_suffix (b :: u)
        have : pre = [] := by
          have h2 := congrArg List.length hp
          rw [List.length_append] at h2
          have h3 := hcond.1
          exact List.eq_nil_of_length_eq_zero (by omega)
        subst this
        simp at hp
        rw [← hp]
        exact ⟨hcond.2, hp ▸ ih⟩
      · exact ih

theorem insertSeg_le_head (g : DSeg) (l : List DSeg) (h : ∀ x ∈ l, g.left ≤ x.left) :
    insertSeg g l = g :: l := by
  cases l with
  | nil => rfl
  | cons a t => simp [insertSeg, h a (by simp)]

theorem sortSegs_of_sorted {l : List DSeg} (hc : Contig l) (hn : InitNonempty l) : sortSegs l = l := by
  induction l with
  | nil => rfl
  | cons a t ih =>
    show insertSeg a (sortSegs t) = a :: t
    rw [ih hc.tail hn.tail]
    apply insertSeg_le_head
    intro x hx
    exact Nat.le_of_lt (contig_head_lt hc hn hx)

theorem rescan_eq_self {s : Disk} (h : DInv s) (hlive : s.live = none)
    (hrdb : ∀ r, s.rdb = some r → r.writing = false) : s.rescan = s := by
  have hall : s.all = s.segs := by simp [Disk.all, hlive]
  have hcs : Contig s.segs := hall ▸ h.contig
  have hin : InitNonempty s.segs := hall ▸ all_initNonempty h.nonempty
  have hfil : s.all.filter (fun g => !g.data.isEmpty) = s.segs := by
    rw [hall]
    apply List.filter_eq_self.mpr
    intro g hg
    have := h.nonempty g hg
    simp; exact this
  unfold Disk.rescan truncateGap
  simp only [hfil, sortSegs_of_sorted hcs hin, contigRun_of_contig hcs, Nat.lt_irrefl, if_false]
  cases hr : s.rdb with
  | none =>
    simp only []
    cases s; simp_all
  | some r =>
    have hw := hrdb r hr
    have hf := ((h.rdbShape r hr).2.2 hw).1
    simp only [hf, if_true]
    have hr' : ({ left := r.left, size := r.size, data := r.data, writing := false, final := true } : DRdb) = r := by
      cases r; simp_all
    rw [hr']
    cases hsg : s.segs with
    | nil =>
      simp only []
      cases s; simp_all
    | cons f t =>
      have : r.left = f.left := h.rdbAlign r f.left hr (by rw [hall, hsg]; rfl)
      simp only [this, if_true]
      cases s; simp_all

theorem DInv.closeReadersAll {s : Disk} (h : DInv s) : DInv { s with readers := closeAllReaders s.readers } := by
  obtain ⟨hids, hro⟩ := readers_close h (s' := { s with readers := closeAllReaders s.readers })
    (f := DReader.close) rfl (fun _ _ => Or.inl rfl)
  exact h.setReaders hids hro

theorem dropWritingRdb_fields (s : Disk) :
    s.dropWritingRdb.hbase = s.hbase ∧ s.dropWritingRdb.hist = s.hist ∧
    s.dropWritingRdb.readers = s.readers ∧ s.dropWritingRdb.segs = s.segs ∧ s.dropWritingRdb.live = s.live ∧
    (∀ r, s.dropWritingRdb.rdb = some r → r.writing = false) := by
  unfold Disk.dropWritingRdb
  cases hr : s.rdb with
  | none => simp [hr]
  | some r =>
    cases hw : r.writing with
    | true => simp [hw]
    | false => simp [hw, hr]

theorem rescan_hist (s : Disk) : s.rescan.hbase = s.hbase ∧ s.rescan.hist = s.hist ∧ s.rescan.readers = s.readers :=
  ⟨rfl, rfl, rfl⟩

theorem DInv.dropWritingRdb {s : Disk} (h : DInv s) (hro : ∀ r ∈ s.readers, r.isOpen = false) :
    DInv s.dropWritingRdb := by
  unfold Disk.dropWritingRdb
  cases hr : s.rdb with
  | none => exact h
  | some r =>
    cases hw : r.writing with
    | true =>
      simp only [hw, if_true]
      exact ⟨h.contig, h.nonempty, h.embed, h.lastEnd, (fun _ _ e => nomatch e), (fun _ e => nomatch e), h.ids,
        fun x hx => ROk_of_closed (hro x hx)⟩
    | false => simpa [hw, hr] using h

theorem closeLive_readers (s : Disk) :
    ∃ f : DReader → DReader, (∀ x, f x = x ∨ f x = x.close) ∧ s.closeLive.readers = s.readers.map f := by
  unfold Disk.closeLive
  split
  · exact ⟨id, fun _ => Or.inl rfl, (List.map_id _).symm⟩
  · split
    · exact ⟨_, fun x => ite_close _ x, rfl⟩
    · exact ⟨id, fun _ => Or.inl rfl, (List.map_id _).symm⟩

theorem closeLive_readers_closed (s : Disk) (h : ∀ r ∈ s.readers, r.isOpen = false) :
    ∀ r ∈ s.closeLive.readers, r.isOpen = false := by
  obtain ⟨f, hf, e⟩ := closeLive_readers s
  rw [e]
  intro r hr
  obtain ⟨y, hy, rfl⟩ := List.mem_map.mp hr
  rcases hf y with e | e <;> rw [e]
  · exact h y hy
  · rfl

theorem closeAllForSwitch_spec {s : Disk} (h : DInv s) :
    DInv s.closeAllForSwitch ∧ s.closeAllForSwitch.live = none ∧
      (∀ r, s.closeAllForSwitch.rdb = some r → r.writing = false) ∧
      s.closeAllForSwitch.hbase = s.hbase ∧ s.closeAllForSwitch.hist = s.hist ∧
      (∀ r ∈ s.closeAllForSwitch.readers, r.isOpen = false) := by
  unfold Disk.closeAllForSwitch
  generalize hs0 : ({ s with readers := closeAllReaders s.readers } : Disk) = s0
  have h0 : DInv s0 := hs0 ▸ h.closeReadersAll
  have hro : ∀ r ∈ s0.readers, r.isOpen = false := by
    rw [← hs0]
    intro r hr
    obtain ⟨y, _, rfl⟩ := List.mem_map.mp hr
    rfl
  have hb : s0.hbase = s.hbase ∧ s0.hist = s.hist := by rw [← hs0]; exact ⟨rfl, rfl⟩
  obtain ⟨d1, d2, d3, _, _, d6⟩ := dropWritingRdb_fields s0
  obtain ⟨c1, c2, c3⟩ := closeLive_hist s0.dropWritingRdb
  refine ⟨(h0.dropWritingRdb hro).closeLive, closeLive_live _, ?_, by rw [c1, d1, hb.1], by rw [c2, d2, hb.2], ?_⟩
  · intro r hr; exact d6 r (c3 ▸ hr)
  · exact closeLive_readers_closed _ (by rw [d3]; exact hro)

theorem DInv.step {s : Disk} (h : DInv s) (op : DOp) (hok : s.okOp op) : DInv (s.step op).1 := by
  cases op with
  | setRunId id =>
    simp only [Disk.step]
    split
    · exact h.reset.with_runId id
    · split
      · exact h
      · obtain ⟨hd, hl, hr, _, _, _⟩ := closeAllForSwitch_spec h
        rw [rescan_eq_self hd hl hr]
        exact hd.with_runId id
  | delRunId =>
    simp only [Disk.step]
    split
    · exact h
    · exact h.reset.with_runId ""
  | newRdbWriter off size => exact h.newRdbWriter off size hok
  | rdbAppend chunk => exact h.rdbAppend chunk hok
  | rdbClose => exact h.rdbClose
  | newAofWriter off => exact h.newAofWriter off hok
  | aofAppend chunk => exact h.aofAppend chunk hok
  | aofClose => exact h.closeLive
  | gc => exact h.gc
  | openReader rid off crcOk => exact h.openReader rid off crcOk
  | read rid n => exact h.read rid n
  | advAcquire rid => exact h.advAcquire rid
  | advRelease rid => exact h.advRelease rid
  | closeReader rid => exact h.closeReader rid

theorem DInv.run {s : Disk} (h : DInv s) (ops : List DOp) (hwf : s.wf ops) : DInv (s.run ops) := by
  induction ops generalizing s with
  | nil => exact h
  | cons op rest ih => exact ih (h.step op hwf.1) hwf.2

theorem appendLive_spec (s : Disk) (chunk : Bytes) :
    (s.appendLive chunk = (s, false)) ∨
    ((s.appendLive chunk).2 = true ∧ (s.appendLive chunk).1.hbase = s.hbase ∧
      (s.appendLive chunk).1.hist = s.hist ++ chunk) := by
  unfold Disk.appendLive
  split
  · left; rfl
  · right; simp only []; split <;> simp

theorem appendLive_readers (s : Disk) (chunk : Bytes) : (s.appendLive chunk).1.readers = s.readers := by
  unfold Disk.appendLive
  split
  · rfl
  · simp only []; split <;> rfl

theorem gc_ghost (s : Disk) : s.gc.hbase = s.hbase ∧ s.gc.hist = s.hist ∧ s.gc.readers = s.readers ∧
    s.gc.runId = s.runId ∧ s.gc.live = s.live ∧ (s.gc.rdb = s.rdb ∨ s.gc.rdb = none) := by
  obtain ⟨_, _, _, hrdb, _, he⟩ := gc_cases s
  refine ⟨?_, ?_, ?_, ?_, ?_, hrdb.imp id And.left⟩ <;> (rw [he])

theorem rdbAppend_eq (s : Disk) (chunk : Bytes) :
    ∃ rdb', (s.step (.rdbAppend chunk)).1 = { s with rdb := rdb' } ∧
      ∀ r', rdb' = some r' → ∃ r, s.rdb = some r ∧ r'.left = r.left := by
  simp only [Disk.step]
  cases hr : s.rdb with
  | none =>
    have same : s = { s with rdb := none } := by rw [← hr]
    exact ⟨_, same, fun _ e => nomatch e⟩
  | some r =>
    have same : s = { s with rdb := some r } := by rw [← hr]
    dsimp only
    by_cases hw : r.writing = true
    · rw [if_pos hw]
      by_cases hd : (r.data ++ chunk).length = r.size
      · rw [if_pos hd]; exact ⟨_, rfl, fun r' e => ⟨r, rfl, by cases e; rfl⟩⟩
      · rw [if_neg hd]; exact ⟨_, rfl, fun r' e => ⟨r, rfl, by cases e; rfl⟩⟩
    · rw [if_neg hw]; exact ⟨_, same, fun r' e => ⟨r', e, rfl⟩⟩

theorem rdbClose_cases (s : Disk) :
    (s.step .rdbClose).1 = s ∨ (s.step .rdbClose).1 = { s with rdb := none, readers := closeRdbReaders s.readers } := by
  simp only [Disk.step]
  cases s.rdb with
  | none => exact Or.inl rfl
  | some r =>
    dsimp only
    by_cases hw : r.writing = true
    · rw [if_pos hw]; exact Or.inr rfl
    · rw [if_neg hw]; exact Or.inl rfl

theorem rdbClose_eq (s : Disk) : ∃ rdb' rs, (s.step .rdbClose).1 = { s with rdb := rdb', readers := rs } :=
  (rdbClose_cases s).elim (fun e => ⟨s.rdb, s.readers, e⟩) (fun e => ⟨_, _, e⟩)

def SelfOp (closing : Bool) (rid : Nat) (s s' : Disk) : Prop :=
  s' = s ∨ ∃ r0 r1, findReader s.readers rid = some r0 ∧ r1.id = r0.id ∧ s' = { s with readers := setReader s.readers r1 } ∧
    (r0.isOpen = true ∧ r1.isOpen = true ∨ closing = true ∧ r1 = r0.close)

theorem read_selfOp (s : Disk) (rid n : Nat) : SelfOp false rid s (s.read rid n).1 := by
  unfold Disk.read
  cases hf : findReader s.readers rid with
  | none => exact Or.inl rfl
  | some r =>
    simp only []
    cases ho : r.isOpen with
    | false => exact Or.inl rfl
    | true =>
      have upd : ∀ r1 : DReader, r1.id = r.id → r1.isOpen = true →
          SelfOp false rid s { s with readers := setReader s.readers r1 } :=
        fun r1 hid ho1 => Or.inr ⟨r, r1, hf, hid, rfl, Or.inl ⟨ho, ho1⟩⟩
      simp only [Bool.not_true, Bool.false_eq_true, if_false]
      split
      · split
        · exact Or.inl rfl
        · split
          · exact Or.inl rfl
          · exact upd _ rfl rfl
      · split
        · exact Or.inl rfl
        · split
          · exact Or.inl rfl
          · exact upd _ rfl rfl

theorem advAcquire_selfOp (s : Disk) (rid : Nat) : SelfOp false rid s (s.advAcquire rid).1 := by
  unfold Disk.advAcquire
  cases hf : findReader s.readers rid with
  | none => exact Or.inl rfl
  | some r =>
    simp only []
    split
    · rename_i hca
      have ho : r.isOpen = true := by
        unfold Disk.canAdvance at hca; simp only [Bool.and_eq_true] at hca; exact hca.1.1.1.1
      exact Or.inr ⟨r, { r with prev := some r.cur, cur := r.pos }, hf, rfl, rfl, Or.inl ⟨ho, ho⟩⟩
    · exact Or.inl rfl

theorem advRelease_selfOp (s : Disk) (rid : Nat) : SelfOp false rid s (s.advRelease rid).1 := by
  unfold Disk.advRelease
  cases hf : findReader s.readers rid with
  | none => exact Or.inl rfl
  | some r =>
    simp only []
    split
    · rename_i hca
      have ho : r.isOpen = true := by simp only [Bool.and_eq_true] at hca; exact hca.1
      exact Or.inr ⟨r, { r with prev := none }, hf, rfl, rfl, Or.inl ⟨ho, ho⟩⟩
    · exact Or.inl rfl

theorem closeReader_selfOp (s : Disk) (rid : Nat) : SelfOp true rid s (s.closeReader rid).1 := by
  unfold Disk.closeReader
  cases hf : findReader s.readers rid with
  | none => exact Or.inl rfl
  | some r => exact Or.inr ⟨r, r.close, hf, rfl, rfl, Or.inr ⟨rfl, rfl⟩⟩

theorem open_readers (s : Disk) (rid off : Nat) (crcOk : Bool) :
    (s.open rid off crcOk).1 = s ∨ ∃ r, r.id = rid ∧ (s.open rid off crcOk).1 = { s with readers := s.readers ++ [r] } :=
  (open_reader_cases s rid off crcOk).imp_right fun ⟨r, hid, _, _, e⟩ => ⟨r, hid, e⟩

def DOp.isReaderOp : DOp → Bool
  | .openReader _ _ _ | .read _ _ | .advAcquire _ | .advRelease _ | .closeReader _ => true
  | _ => false

theorem SelfOp.eq {c : Bool} {rid : Nat} {s s' : Disk} (h : SelfOp c rid s s') : ∃ rs, s' = { s with readers := rs } := by
  rcases h with rfl | ⟨_, _, _, _, rfl, _⟩
  · exact ⟨_, rfl⟩
  · exact ⟨_, rfl⟩

theorem readerOp_eq (s : Disk) {op : DOp} (hop : op.isReaderOp = true) :
    ∃ rs, (s.step op).1 = { s with readers := rs } := by
  cases op with
  | openReader rid off crcOk =>
    rcases open_readers s rid off crcOk with e | ⟨_, _, e⟩
    · exact ⟨s.readers, e⟩
    · exact ⟨_, e⟩
  | read rid n => exact (read_selfOp s rid n).eq
  | advAcquire rid => exact (advAcquire_selfOp s rid).eq
  | advRelease rid => exact (advRelease_selfOp s rid).eq
  | closeReader rid => exact (closeReader_selfOp s rid).eq
  | _ => cases hop

theorem hist_step (s : Disk) (op : DOp) :
    ((s.step op).1.hbase = s.hbase ∧ (s.step op).1.hist = s.hist) ∨
    (∃ chunk, op = .aofAppend chunk ∧ (s.step op).2 = .ok ∧
        (s.step op).1.hbase = s.hbase ∧ (s.step op).1.hist = s.hist ++ chunk) ∨
    (s.step op).1.hist = [] := by
  have readerOp : ∀ {op : DOp}, op.isReaderOp = true →
      (s.step op).1.hbase = s.hbase ∧ (s.step op).1.hist = s.hist := fun hop => by
    obtain ⟨_, e⟩ := readerOp_eq s hop
    rw [e]; exact ⟨rfl, rfl⟩
  cases op with
  | aofAppend chunk =>
    simp only [Disk.step]
    rcases appendLive_spec s chunk with h | ⟨h1, h2, h3⟩
    · left; rw [h]; exact ⟨rfl, rfl⟩
    · right; left
      refine ⟨chunk, rfl, ?_⟩
      cases hp : s.appendLive chunk with
      | mk s' ok =>
        rw [hp] at h1 h2 h3
        cases h1
        exact ⟨rfl, h2, h3⟩
  | setRunId id =>
    simp only [Disk.step]
    split
    · right; right; rfl
    · split
      · left; exact ⟨rfl, rfl⟩
      · left
        unfold Disk.closeAllForSwitch
        obtain ⟨c1, c2, _⟩ := closeLive_hist ({ s with readers := closeAllReaders s.readers } : Disk).dropWritingRdb
        obtain ⟨d1, d2, _⟩ := dropWritingRdb_fields ({ s with readers := closeAllReaders s.readers } : Disk)
        exact ⟨c1.trans d1, c2.trans d2⟩
  | delRunId =>
    simp only [Disk.step]
    split
    · left; exact ⟨rfl, rfl⟩
    · right; right; rfl
  | newRdbWriter off size => right; right; rfl
  | rdbAppend chunk => left; obtain ⟨_, e, _⟩ := rdbAppend_eq s chunk; rw [e]; exact ⟨rfl, rfl⟩
  | rdbClose => left; obtain ⟨_, _, e⟩ := rdbClose_eq s; rw [e]; exact ⟨rfl, rfl⟩
  | newAofWriter off =>
    simp only [Disk.step]
    split
    · rename_i r hr
      by_cases he : r = off
      · left; simp [he]
      · right; right; simp [he]
    · right; right; simp
  | aofClose => obtain ⟨h1, h2, _⟩ := closeLive_hist s; left; exact ⟨h1, h2⟩
  | gc => left; exact ⟨(gc_ghost s).1, (gc_ghost s).2.1⟩
  | _ => exact Or.inl (readerOp rfl)

theorem inRange_cases {s : Disk} (h : DInv s) {off : Nat} (hin : s.inRange off = true) :
    (∃ ll rr, firstLeft s.all = some ll ∧ lastRight s.all = some rr ∧ ll ≤ off ∧ off ≤ rr) ∨
      ∃ rd, s.rdb = some rd ∧ off ≤ rd.left := by
  unfold Disk.inRange Disk.range at hin
  cases hr : s.rdb with
  | none =>
    cases hfl : firstLeft s.all with
    | none => simp [hr, hfl] at hin
    | some ll =>
      cases hlr : lastRight s.all with
      | none => simp [hr, hfl, hlr] at hin
      | some rr =>
        simp [hr, hfl, hlr] at hin
        exact Or.inl ⟨ll, rr, rfl, rfl, by omega, by omega⟩
  | some rd =>
    by_cases hle : off ≤ rd.left
    · exact Or.inr ⟨rd, rfl, hle⟩
    · cases hfl : firstLeft s.all with
      | none => simp [hr, hfl] at hin; omega
      | some ll =>
        cases hlr : lastRight s.all with
        | none => simp [hr, hfl, hlr] at hin; omega
        | some rr =>
          have hal := h.rdbAlign rd ll hr hfl
          simp [hr, hfl, hlr] at hin
          exact Or.inl ⟨ll, rr, rfl, rfl, by omega, by omega⟩

theorem inRange_iff_open {s : Disk} (h : DInv s) (rid off : Nat) (hfresh : findReader s.readers rid = none) :
    s.inRange off = true ↔ (s.open rid off true).2 ≠ Out.notExist := by
  unfold Disk.open
  simp only [hfresh, Option.isSome_none, Bool.false_eq_true, if_false]
  by_cases hin : s.inRange off = true
  · simp only [hin, Bool.not_true, Bool.false_eq_true, if_false, true_iff]
    cases hi : indexAof s.all off with
    | some g => simp
    | none =>
      rcases inRange_cases h hin with ⟨ll, rr, hfl, hlr, h1, h2⟩ | ⟨rd, hr, hle⟩
      · obtain ⟨g, hg, hg1, hg2⟩ := contig_cover h.contig hfl hlr h1 h2
        unfold indexAof at hi
        have := List.find?_eq_none.mp hi g (by simpa using hg)
        simp [hg1, hg2] at this
      · simp [hr, hle]
  · simp [hin]
theorem getRdb_iff {s : Disk} (h : DInv s) :
    s.getRdb ≠ (-1, -1) ↔
      ∃ r, s.rdb = some r ∧ ((r.final = true ∧ r.data.length = r.size) ∨ r.writing = true) := by
  unfold Disk.getRdb
  cases hr : s.rdb with
  | none => simp
  | some r =>
    simp only []
    constructor
    · intro _
      refine ⟨r, rfl, ?_⟩
      have := h.rdbShape r hr
      cases hw : r.writing with
      | true => right; rfl
      | false => left; exact this.2.2 hw
    · intro _ hc
      have : (r.left : Int) = -1 := by
        have := congrArg Prod.fst hc
        simp at this
      omega

theorem findReader_of_mem {rs : List DReader} (hn : (rs.map (·.id)).Nodup) {r : DReader} (hr : r ∈ rs) :
    findReader rs r.id = some r := by
  unfold findReader
  cases hf : rs.find? (fun x => x.id == r.id) with
  | none =>
    have := List.find?_eq_none.mp hf r hr
    simp at this
  | some x =>
    have hx := List.find?_some hf
    have hxm := List.mem_of_find?_eq_some hf
    simp at hx
    rw [eq_of_mem_of_id hn hxm hr hx]

theorem contig_next {l : List DSeg} (hc : Contig l) {g : DSeg} (hg : g ∈ l) {r : Nat}
    (hr : lastRight l = some r) (hlt : g.right < r) : ∃ nx ∈ l, nx.left = g.right := by
  induction l generalizing g with
  | nil => cases hg
  | cons a t ih =>
    cases t with
    | nil =>
      simp at hg; subst hg
      simp [lastRight] at hr; omega
    | cons b u =>
      rw [lastRight_cons_cons] at hr
      rcases List.mem_cons.mp hg with h | h
      · subst h
        exact ⟨b, by simp, hc.1.symm⟩
      · obtain ⟨nx, hnx, hl⟩ := ih hc.2 h hr hlt
        exact ⟨nx, List.mem_cons_of_mem _ hnx, hl⟩

theorem reader_progress {s : Disk} (h : DInv s) {r : DReader} (hr : r ∈ s.readers)
    (ho : r.isOpen = true) (ha : r.isAof = true) (hprev : r.prev = none)
    (hlt : r.pos < s.hbase + s.hist.length) (n : Nat) (hn : 0 < n) :
    (∃ bs, (s.read r.id n).2 = Out.data bs ∧ bs ≠ []) ∨ s.canAdvance r = true := by
  obtain ⟨⟨g0, hg0, hc0, hl0, hr0⟩, _, _, _, _⟩ := (h.readersOk r hr ho).1 ha
  have hfs : findSeg s.all r.cur = some g0 := by
    rw [← hc0]; exact findSeg_of_mem h.contig (all_initNonempty h.nonempty) hg0
  by_cases hin : r.pos < g0.right
  · left
    unfold Disk.read
    rw [findReader_of_mem h.ids hr]
    simp only [ho, Bool.not_true, Bool.false_eq_true, if_false, ha, if_true, hfs]
    have hne : ((g0.data.drop (r.pos - g0.left)).take n) ≠ [] := by
      intro he
      have := congrArg List.length he
      simp only [DSeg.right] at hin
      simp at this
      omega
    have : ((g0.data.drop (r.pos - g0.left)).take n).isEmpty = false := by
      simpa [List.isEmpty_iff] using hne
    simp only [this, Bool.false_eq_true, if_false]
    exact ⟨_, rfl, hne⟩
  · right
    have hpe : r.pos = g0.right := by omega
    cases hlr : lastRight s.all with
    | none =>
      have := lastRight_eq_none.mp hlr
      rw [this] at hg0; cases hg0
    | some rr =>
      have hend := h.lastEnd rr hlr
      obtain ⟨nx, hnx, hnl⟩ := contig_next h.contig hg0 hlr (by omega)
      have hfn : findSeg s.all r.pos = some nx := by
        rw [hpe, ← hnl]; exact findSeg_of_mem h.contig (all_initNonempty h.nonempty) hnx
      unfold Disk.canAdvance
      rw [hpe] at hfn
      simp [ho, ha, hprev, hfs, hfn, hpe]

theorem flatMap_eq_hist_drop (hbase : Nat) (hist : Bytes) :
    ∀ (l : List DSeg), l ≠ [] → Contig l →
      (∀ g ∈ l, hbase ≤ g.left ∧ g.right ≤ hbase + hist.length ∧
          g.data = (hist.drop (g.left - hbase)).take g.data.length) →
      lastRight l = some (hbase + hist.length) →
      ∀ f, firstLeft l = some f → l.flatMap (·.data) = hist.drop (f - hbase) := by
  intro l
  induction l with
  | nil => intro h; exact absurd rfl h
  | cons g t ih =>
    intro _ hc he hl f hf
    simp [firstLeft] at hf; subst hf
    obtain ⟨e1, e2, e3⟩ := he g (by simp)
    cases t with
    | nil =>
      simp [lastRight] at hl
      simp only [List.flatMap_cons, List.flatMap_nil, List.append_nil]
      rw [e3, List.take_of_length_le]
      simp only [DSeg.right] at hl
      simp; omega
    | cons h rest =>
      rw [lastRight_cons_cons] at hl
      have ih' := ih (by simp) hc.2 (fun x hx => he x (List.mem_cons_of_mem _ hx)) hl h.left rfl
      simp only [List.flatMap_cons] at ih' ⊢
      rw [ih', e3]
      have hgh : g.left - hbase + g.data.length = h.left - hbase := by
        have := hc.1
        simp only [DSeg.right] at this
        omega
      rw [← hgh, ← List.drop_drop]
      exact List.take_append_drop _ _

theorem abs_bytes_eq {s : Disk} (h : DInv s) (hne : s.all ≠ []) :
    s.hbase ≤ s.abs.base ∧ s.abs.bytes = s.hist.drop (s.abs.base - s.hbase) := by
  cases hall : s.all with
  | nil => exact absurd hall hne
  | cons a t =>
    have hfl : firstLeft s.all = some a.left := by rw [hall]; rfl
    have hlr : lastRight s.all = some (s.hbase + s.hist.length) := by
      cases hl : lastRight s.all with
      | none => exact absurd (lastRight_eq_none.mp hl) hne
      | some r => rw [h.lastEnd r hl]
    have hb : s.abs.base = a.left := by simp [Disk.abs, hfl]
    rw [hb]
    exact ⟨(h.embed a (by rw [hall]; exact List.mem_cons_self)).1,
      flatMap_eq_hist_drop s.hbase s.hist s.all hne h.contig h.embed hlr a.left hfl⟩

/-- the operations that close readers: the property's invalidation events
    (reset by a new snapshot or an id delete, replication-id switch, writer
    replacement), the end of a writer (a snapshot writer ending early takes its
    readers with it; a stream writer closing on an EMPTY live segment takes the
    readers tailing that segment), and the reader's own close -/
def closesReaders : DOp → Bool
  | .setRunId _ | .delRunId | .newRdbWriter _ _ | .rdbClose | .newAofWriter _ | .aofClose
  | .closeReader _ => true
  | _ => false

theorem step_follows {s : Disk} (h : DInv s) (op : DOp) {r : DReader} (hr : r ∈ s.readers) :
    ∃ r' ∈ (s.step op).1.readers, r'.id = r.id ∧
      (r' = r ∨ (r.isOpen = true ∧ r'.isOpen = true) ∨ (closesReaders op = true ∧ r' = r.close)) := by
  let Goal := fun (rs' : List DReader) => ∃ r' ∈ rs', r'.id = r.id ∧
    (r' = r ∨ (r.isOpen = true ∧ r'.isOpen = true) ∨ (closesReaders op = true ∧ r' = r.close))
  show Goal (s.step op).1.readers
  have same : ∀ s' : Disk, s'.readers = s.readers → Goal s'.readers :=
    fun s' e => ⟨r, e ▸ hr, rfl, Or.inl rfl⟩
  have closing : closesReaders op = true → ∀ (s' : Disk) (f : DReader → DReader),
      (∀ x, f x = x ∨ f x = x.close) → s'.readers = s.readers.map f → Goal s'.readers := by
    intro hop s' f hf e
    refine ⟨f r, e ▸ List.mem_map_of_mem hr, ?_⟩
    rcases hf r with e | e <;> rw [e]
    · exact ⟨rfl, Or.inl rfl⟩
    · exact ⟨rfl, Or.inr (Or.inr ⟨hop, rfl⟩)⟩
  have selfOp : ∀ {rid : Nat} {s' : Disk}, SelfOp (closesReaders op) rid s s' → Goal s'.readers := by
    rintro rid s' (rfl | ⟨r0, r1, h0, hid, rfl, hcase⟩)
    · exact same _ rfl
    · by_cases e : r.id = r0.id
      · -- the reader addressed is `r` itself
        cases eq_of_mem_of_id h.ids hr (findReader_some h0).1 e
        exact ⟨r1, mem_setReader_same hr hid, hid, Or.inr hcase⟩
      · exact ⟨r, mem_setReader_other hr (by rw [hid]; exact e), rfl, Or.inl rfl⟩
  cases op with
  | setRunId id =>
    simp only [Disk.step]
    split
    · exact closing rfl _ _ (fun _ => Or.inr rfl) rfl
    · split
      · exact same _ rfl
      · -- every reader is closed; closing the live segment afterwards changes no closed reader
        obtain ⟨f, hf, e⟩ := closeLive_readers ({ s with readers := closeAllReaders s.readers } : Disk).dropWritingRdb
        refine closing rfl _ (fun x => f x.close) (fun x => Or.inr ?_) ?_
        · rcases hf x.close with e | e <;> rw [e]; rfl
        · show s.closeAllForSwitch.readers = _
          unfold Disk.closeAllForSwitch
          rw [e, (dropWritingRdb_fields _).2.2.1]
          exact List.map_map
  | delRunId =>
    simp only [Disk.step]
    split
    · exact same _ rfl
    · exact closing rfl _ _ (fun _ => Or.inr rfl) rfl
  | newRdbWriter off size => exact closing rfl _ _ (fun _ => Or.inr rfl) rfl
  | rdbAppend chunk => obtain ⟨_, e, _⟩ := rdbAppend_eq s chunk; exact same _ (by rw [e])
  | rdbClose =>
    rcases rdbClose_cases s with e | e
    · exact same _ (by rw [e])
    · exact closing rfl _ (fun x => if x.isAof then x else x.close) (fun x => by cases x.isAof <;> simp) (by rw [e]; rfl)
  | newAofWriter off =>
    obtain ⟨f, hf, e⟩ := closeLive_readers s
    refine closing rfl _ (fun x => if (f x).isAof then (f x).close else f x) (fun x => ?_) ?_
    · rcases ite_close (f x).isAof (f x) with e1 | e1 <;> rw [e1] <;> rcases hf x with e2 | e2 <;> rw [e2]
      · exact Or.inl rfl
      · exact Or.inr rfl
      · exact Or.inr rfl
      · exact Or.inr rfl
    · show closeAofReaders s.closeLive.readers = _
      rw [e]
      exact List.map_map
  | aofAppend chunk =>
    apply same
    simp only [Disk.step]
    have := appendLive_readers s chunk
    cases hp : s.appendLive chunk with
    | mk s' ok =>
      rw [hp] at this
      cases ok
      · rfl
      · exact this
  | aofClose =>
    obtain ⟨f, hf, e⟩ := closeLive_readers s
    exact closing rfl _ f hf e
  | gc => exact same _ (gc_ghost s).2.2.1
  | openReader rid off crcOk =>
    rcases open_readers s rid off crcOk with e | ⟨r1, _, e⟩
    · exact same _ (by show (s.open rid off crcOk).1.readers = _; rw [e])
    · refine ⟨r, ?_, rfl, Or.inl rfl⟩
      show r ∈ (s.open rid off crcOk).1.readers
      rw [e]; exact List.mem_append_left _ hr
  | read rid n => exact selfOp (read_selfOp s rid n)
  | advAcquire rid => exact selfOp (advAcquire_selfOp s rid)
  | advRelease rid => exact selfOp (advRelease_selfOp s rid)
  | closeReader rid => exact selfOp (closeReader_selfOp s rid)

theorem closed_reader_frozen {s : Disk} (h : DInv s) (op : DOp) {r : DReader} (hr : r ∈ s.readers)
    (hc : r.isOpen = false) :
    ∃ r' ∈ (s.step op).1.readers, r'.id = r.id ∧ r'.isOpen = false ∧ r'.out = r.out := by
  obtain ⟨r', hr', hid, hcase⟩ := step_follows h op hr
  refine ⟨r', hr', hid, ?_⟩
  rcases hcase with rfl | ⟨ho, _⟩ | ⟨_, rfl⟩
  · exact ⟨hc, rfl⟩
  · rw [hc] at ho; cases ho
  · exact ⟨rfl, rfl⟩

theorem reader_stays_open {s : Disk} (h : DInv s) (op : DOp) {r : DReader} (hr : r ∈ s.readers)
    (ho : r.isOpen = true) (hop : closesReaders op = false) :
    ∃ r' ∈ (s.step op).1.readers, r'.id = r.id ∧ r'.isOpen = true := by
  obtain ⟨r', hr', hid, hcase⟩ := step_follows h op hr
  refine ⟨r', hr', hid, ?_⟩
  rcases hcase with rfl | ⟨_, ho'⟩ | ⟨hcl, _⟩
  · exact ho
  · exact ho'
  · rw [hop] at hcl; cases hcl

theorem snapshot_hands_over {s : Disk} (h : DInv s) (r : DRdb) (hr : s.rdb = some r) (hne : s.all ≠ []) :
    (indexAof s.all r.left).isSome = true := by
  cases hall : s.all with
  | nil => exact absurd hall hne
  | cons a t =>
    -- the first segment starts where the snapshot does and covers its own left end
    have hal : r.left = a.left := h.rdbAlign r a.left hr (by rw [hall]; rfl)
    unfold indexAof
    rw [Option.isSome_iff_exists]
    cases hfd : (a :: t).reverse.find? (fun g => decide (g.left ≤ r.left) && decide (r.left ≤ g.right)) with
    | some x => exact ⟨x, rfl⟩
    | none =>
      have := List.find?_eq_none.mp hfd a (by simp)
      simp [DSeg.right, hal] at this

theorem gc_snapshot_branch (s : Disk) (r : DRdb) (hr : s.rdb = some r) (hg : s.gc.rdb = none) :
    rdbRef s.readers r = 0 := by
  obtain ⟨_, _, _, hrdb, _⟩ := gc_cases s
  rcases hrdb with e | ⟨_, h0⟩
  · rw [hg, hr] at e; cases e
  · exact h0 r hr

end GunYu.Store
