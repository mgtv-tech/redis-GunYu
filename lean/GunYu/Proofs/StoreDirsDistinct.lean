/-
  C05, several run-id directories — two PARKED directories never carry the same id.

  `parkCur` puts the current id in front of the list and `dirLookup` takes the first
  entry: a duplicate would SHADOW an older directory of the same id. The invariant
  `DistinctIds` (the keys of `dirs` are pairwise different) holds in every state reachable
  from the empty store — for ALL operation lists, no protocol hypothesis: the current id
  is never a key (`KeysInv`), so parking it keeps the keys distinct; `dirErase` only
  removes entries; a rename relabels the CURRENT index only after `dirLookup` found no
  directory of the new id.
-/
import GunYu.Proofs.StoreDirsCaller

namespace GunYu.Store
open GunYu

def DistinctIds (x : DiskD) : Prop := (x.dirs.map (·.1)).Nodup

theorem DistinctIds.init (l m : Nat) : DistinctIds (DiskD.init l m) := by
  simp [DistinctIds, DiskD.init]

theorem dirErase_nodup {dirs : List (String × Disk)} (h : (dirs.map (·.1)).Nodup) (id : String) :
    ((dirErase dirs id).map (·.1)).Nodup := by
  unfold dirErase
  exact List.Pairwise.sublist ((List.filter_sublist (l := dirs)).map _) h

theorem parkCur_nodup {x : DiskD} (hk : KeysInv x) (h : DistinctIds x) : (x.parkCur.map (·.1)).Nodup := by
  unfold DiskD.parkCur
  split
  · exact h
  · simp only [List.map_cons, List.nodup_cons]
    refine ⟨?_, h⟩
    intro hm
    obtain ⟨e, he, heq⟩ := List.mem_map.mp hm
    exact (hk.keys e he).2.2 heq

theorem DistinctIds.setRunId {x : DiskD} (hk : KeysInv x) (h : DistinctIds x) (new : String) :
    DistinctIds (x.setRunId new) := by
  rcases setRunId_cases x new with ⟨_, e⟩ | ⟨_, _, _, ⟨img, _, e⟩ | ⟨_, ⟨_, e⟩ | ⟨_, e⟩⟩⟩ <;> rw [e]
  · exact h
  · exact dirErase_nodup (parkCur_nodup hk h) new
  all_goals exact h

theorem DistinctIds.delRunId {x : DiskD} (hk : KeysInv x) (h : DistinctIds x) (id : String) :
    DistinctIds (x.delRunId id) := by
  rcases delRunId_cases x id with ⟨_, e⟩ | ⟨_, _, ⟨_, e⟩ | ⟨_, _, e⟩⟩ <;> rw [e]
  · exact h
  · exact h
  · exact dirErase_nodup (parkCur_nodup hk h) id

theorem DistinctIds.verifyRunId (ids : List String) {x : DiskD} (hk : KeysInv x) (h : DistinctIds x) :
    DistinctIds (x.verifyRunId ids).1 :=
  (verifyRunId_ind (P := fun x => KeysInv x ∧ DistinctIds x)
    (fun _ id h => ⟨h.1.setRunId id, h.2.setRunId h.1 id⟩) ids ⟨hk, h⟩).2

theorem DistinctIds.restart {x : DiskD} (hk : KeysInv x) (h : DistinctIds x) : DistinctIds x.restart :=
  parkCur_nodup hk h

theorem DistinctIds.step {x : DiskD} (hk : KeysInv x) (h : DistinctIds x) (op : XOp) :
    DistinctIds (x.step op).1 := by
  refine XOp.byKind (P := fun op => DistinctIds (x.step op).1) (h.setRunId hk) (h.setRunId hk) (h.delRunId hk)
    (h.delRunId hk _) (fun ids => h.verifyRunId ids hk) (h.restart hk) (fun o h1 h2 => ?_) op
  rw [step_base x h1 h2]
  exact h

theorem DistinctIds.run : ∀ (ops : List XOp) {x : DiskD}, KeysInv x → DistinctIds x →
    KeysInv (x.run ops) ∧ DistinctIds (x.run ops)
  | [], _, hk, h => ⟨hk, h⟩
  | op :: rest, _, hk, h => DistinctIds.run rest (hk.step op) (h.step hk op)

/-- with distinct keys `dirLookup` finds THE directory filed under an id: no entry is
    shadowed by another one -/
theorem dirLookup_of_mem {dirs : List (String × Disk)} (h : (dirs.map (·.1)).Nodup) {e : String × Disk}
    (he : e ∈ dirs) : dirLookup dirs e.1 = some e.2 := by
  induction dirs with
  | nil => cases he
  | cons d t ih =>
    simp only [List.map_cons, List.nodup_cons] at h
    unfold dirLookup
    simp only [List.find?_cons]
    rcases List.mem_cons.mp he with rfl | he'
    · simp
    · have hne : (d.1 == e.1) = false := by
        have : d.1 ≠ e.1 := fun heq => h.1 (List.mem_map.mpr ⟨e, he', heq.symm⟩)
        simpa using this
      simp only [hne]
      exact ih h.2 he'

end GunYu.Store
