/-
  Lemmas for the frame-level snapshot parser (Model/RdbFrame.lean): every reader
  is *sequential* — on success it has consumed a prefix `c` of its input, behaves
  the same on any input starting with `c`, and fails on every proper prefix of
  `c`. The opcode loop itself is treated once, for a stateful item reader, in
  Proofs/RdbFrameX.lean; here are the readers, the header and the footer.
-/
import GunYu.Model.RdbFrame
import GunYu.Proofs.RdbIte

namespace GunYu.RdbFrame
open GunYu

/-- `r` is sequential -/
def Seq {α} (r : Rd α) : Prop :=
  ∀ xs a rest, r xs = .ok a rest →
    ∃ c, xs = c ++ rest ∧ (∀ ys, r (c ++ ys) = .ok a ys) ∧ (∀ k, k < c.length → r (c.take k) = .err)

/-- `r` consumes at least one byte when it succeeds -/
def Consumes {α} (r : Rd α) : Prop :=
  ∀ xs a rest, r xs = .ok a rest → rest.length < xs.length

def Never {α} (p : α → Prop) (r : Rd α) : Prop := ∀ xs a rest, r xs = .ok a rest → ¬ p a

def NoUnsup {α} (r : Rd α) : Prop := ∀ xs, r xs ≠ .unsup

theorem Seq.len_le {α} {r : Rd α} (h : Seq r) {xs a rest} (hr : r xs = .ok a rest) : rest.length ≤ xs.length := by
  obtain ⟨c, hc, _, _⟩ := h xs a rest hr
  rw [hc]; simp

theorem Seq.take {α} {r : Rd α} (h : Seq r) {xs a rest} (hr : r xs = .ok a rest) {k : Nat} (hk : k < xs.length) :
    r (xs.take k) = .err ∨ ∃ j, j < rest.length ∧ r (xs.take k) = .ok a (rest.take j) := by
  obtain ⟨c, rfl, hall, htr⟩ := h xs a rest hr
  by_cases hlt : k < c.length
  · left; rw [List.take_append_of_le_length (by omega)]; exact htr k hlt
  · right
    refine ⟨k - c.length, by rw [List.length_append] at hk; omega, ?_⟩
    rw [List.take_append, List.take_of_length_le (by omega)]; exact hall _

theorem ret_seq {α} (a : α) : Seq (ret a) := by
  intro xs b rest h
  simp only [ret, R.ok.injEq] at h
  obtain ⟨rfl, rfl⟩ := h
  exact ⟨[], rfl, fun ys => rfl, fun k hk => by simp at hk⟩

theorem fail_seq {α} : Seq (fail : Rd α) := by intro xs a rest h; simp [fail] at h
theorem outside_seq {α} : Seq (outside : Rd α) := by intro xs a rest h; simp [outside] at h

theorem u8_seq : Seq u8 := by
  intro xs a rest h
  cases xs with
  | nil => simp [u8] at h
  | cons b t =>
    simp only [u8, R.ok.injEq] at h
    obtain ⟨rfl, rfl⟩ := h
    refine ⟨[b], rfl, fun ys => rfl, fun k hk => ?_⟩
    have : k = 0 := by simp at hk; omega
    subst this; rfl

theorem u8_consumes : Consumes u8 := by
  intro xs a rest h
  cases xs with
  | nil => simp [u8] at h
  | cons b t => simp only [u8, R.ok.injEq] at h; obtain ⟨_, rfl⟩ := h; simp

theorem takeN_seq (n : Nat) : Seq (takeN n) := by
  intro xs a rest h
  unfold takeN at h
  split at h
  · simp only [R.ok.injEq] at h
    obtain ⟨rfl, rfl⟩ := h
    have hl : (xs.take n).length = n := by rw [List.length_take]; omega
    refine ⟨xs.take n, (List.take_append_drop n xs).symm, fun ys => ?_, fun k hk => ?_⟩
    · simp only [takeN, List.length_append, hl, Nat.le_add_right, if_true]
      rw [List.take_left' hl, List.drop_left' hl]
    · simp only [takeN]
      rw [if_neg (by rw [List.length_take]; omega)]
  · cases h

theorem takeN_consumes (n : Nat) (hn : 0 < n) : Consumes (takeN n) := by
  intro xs a rest h
  unfold takeN at h
  split at h
  · simp only [R.ok.injEq] at h; obtain ⟨_, rfl⟩ := h; rw [List.length_drop]; omega
  · cases h

theorem andThen_ok {α β} {r : Rd α} {k : α → Rd β} {xs b rest} (h : andThen r k xs = .ok b rest) :
    ∃ a mid, r xs = .ok a mid ∧ k a mid = .ok b rest := by
  unfold andThen at h
  cases h1 : r xs with
  | ok a mid => rw [h1] at h; exact ⟨a, mid, rfl, h⟩
  | err => rw [h1] at h; cases h
  | unsup => rw [h1] at h; cases h

theorem u8_andThen_ok {β} {k : UInt8 → Rd β} {xs b rest} (h : andThen u8 k xs = .ok b rest) :
    ∃ op t, xs = op :: t ∧ k op t = .ok b rest := by
  cases xs with
  | nil => simp [andThen, u8] at h
  | cons op t => exact ⟨op, t, rfl, h⟩

theorem andThen_seq {α β} {r : Rd α} {k : α → Rd β} (hr : Seq r) (hk : ∀ a, Seq (k a)) : Seq (andThen r k) := by
  intro xs b rest h
  obtain ⟨a, mid, h1, h2⟩ := andThen_ok h
  obtain ⟨c1, hx1, hall1, htr1⟩ := hr xs a mid h1
  obtain ⟨c2, hx2, hall2, htr2⟩ := hk a mid b rest h2
  refine ⟨c1 ++ c2, by rw [hx1, hx2, List.append_assoc], fun ys => ?_, fun n hn => ?_⟩
  · simp only [andThen, List.append_assoc, hall1 (c2 ++ ys), hall2 ys]
  · by_cases hlt : n < c1.length
    · simp only [andThen, List.take_append_of_le_length (Nat.le_of_lt hlt), htr1 n hlt]
    · rw [List.length_append] at hn
      simp only [andThen, List.take_append, List.take_of_length_le (Nat.le_of_not_lt hlt), hall1]
      exact htr2 _ (by omega)

theorem andThen_consumes {α β} {r : Rd α} {k : α → Rd β} (hr : Consumes r) (hk : ∀ a, Seq (k a)) :
    Consumes (andThen r k) := by
  intro xs b rest h
  obtain ⟨a, mid, h1, h2⟩ := andThen_ok h
  have := hr xs a mid h1
  have := (hk a).len_le h2
  omega

theorem repeatN_seq {r : Rd Unit} (hr : Seq r) : ∀ n, Seq (repeatN n r)
  | 0 => ret_seq ()
  | n+1 => andThen_seq hr (fun _ => repeatN_seq hr n)

theorem never_ret {α} {p : α → Prop} {a : α} (h : ¬ p a) : Never p (ret a) := by
  intro xs b rest hr
  simp only [ret, R.ok.injEq] at hr
  exact hr.1 ▸ h

theorem never_fail {α} {p : α → Prop} : Never p fail := by intro xs a rest h; simp [fail] at h
theorem never_outside {α} {p : α → Prop} : Never p outside := by intro xs a rest h; simp [outside] at h

theorem never_andThen {α β} {p : β → Prop} {r : Rd α} {k : α → Rd β} (hk : ∀ a, Never p (k a)) :
    Never p (andThen r k) := by
  intro xs b rest h
  obtain ⟨a, mid, _, h2⟩ := andThen_ok h
  exact hk a mid b rest h2

theorem nu_ret {α} (a : α) : NoUnsup (ret a) := by intro xs; simp [ret]
theorem nu_fail {α} : NoUnsup (fail : Rd α) := by intro xs; simp [fail]
theorem nu_u8 : NoUnsup u8 := by intro xs; cases xs <;> simp [u8]
theorem nu_takeN (n : Nat) : NoUnsup (takeN n) := by intro xs; unfold takeN; split <;> simp

theorem nu_andThen {α β} {r : Rd α} {k : α → Rd β} (hr : NoUnsup r) (hk : ∀ a, NoUnsup (k a)) :
    NoUnsup (andThen r k) := by
  intro xs
  unfold andThen
  cases h : r xs with
  | ok a rest => exact hk a rest
  | err => simp
  | unsup => exact absurd h (hr xs)

theorem encLen_good : Seq encLen ∧ Consumes encLen := by
  unfold encLen
  refine ⟨andThen_seq u8_seq ?k, andThen_consumes u8_consumes ?k⟩
  intro u
  refine ite_elim (ret_seq _) ?_
  refine ite_elim (andThen_seq u8_seq (fun _ => ret_seq _)) ?_
  refine ite_elim (ret_seq _) ?_
  refine ite_elim (andThen_seq (takeN_seq 4) (fun _ => ret_seq _)) ?_
  exact ite_elim (andThen_seq (takeN_seq 8) (fun _ => ret_seq _)) fail_seq

theorem encLen_seq : Seq encLen := encLen_good.1

theorem len_seq : Seq len := andThen_seq encLen_seq (fun _ => ite_elim fail_seq (ret_seq _))

theorem len32_seq : Seq len32 := andThen_seq len_seq (fun _ => ret_seq _)

theorem skipBytes_seq (n : Nat) : Seq (skipBytes n) := andThen_seq (takeN_seq n) (fun _ => ret_seq _)

theorem str_seq : Seq str := by
  unfold str
  refine andThen_seq encLen_seq (fun p => ?_)
  refine ite_elim (skipBytes_seq _) ?_
  refine ite_elim (skipBytes_seq _) ?_
  refine ite_elim (skipBytes_seq _) ?_
  refine ite_elim (skipBytes_seq _) ?_
  exact ite_elim outside_seq fail_seq

theorem valueBody_seq (t : Nat) : Seq (valueBody t) := by
  unfold valueBody
  refine ite_elim str_seq ?_
  refine ite_elim (andThen_seq len32_seq (fun n => repeatN_seq str_seq n)) ?_
  refine ite_elim (andThen_seq len32_seq (fun n => repeatN_seq (andThen_seq len_seq (fun _ => str_seq)) n)) ?_
  refine ite_elim (andThen_seq len32_seq (fun n => repeatN_seq (andThen_seq str_seq (fun _ => str_seq)) n)) ?_
  refine ite_elim (andThen_seq len32_seq (fun n => repeatN_seq (andThen_seq str_seq (fun _ => skipBytes_seq 8)) n)) ?_
  exact ite_elim fail_seq outside_seq

theorem itemOf_seq (t : Nat) : Seq (itemOf t) := by
  unfold itemOf
  refine ite_elim (ret_seq _) ?_
  refine ite_elim (andThen_seq len_seq (fun _ => ret_seq _)) ?_
  refine ite_elim (andThen_seq len_seq (fun _ => andThen_seq len_seq (fun _ => ret_seq _))) ?_
  refine ite_elim (andThen_seq (takeN_seq 8) (fun _ => ret_seq _)) ?_
  refine ite_elim (andThen_seq (takeN_seq 4) (fun _ => ret_seq _)) ?_
  refine ite_elim (andThen_seq (takeN_seq 1) (fun _ => ret_seq _)) ?_
  refine ite_elim (andThen_seq len_seq (fun _ => andThen_seq len_seq (fun _ => andThen_seq len_seq (fun _ => ret_seq _)))) ?_
  refine ite_elim (andThen_seq str_seq (fun _ => andThen_seq str_seq (fun _ => ret_seq _))) ?_
  refine ite_elim (andThen_seq str_seq (fun _ => ret_seq _)) ?_
  refine ite_elim outside_seq ?_
  exact ite_elim (andThen_seq str_seq (fun _ => andThen_seq (valueBody_seq _) (fun _ => ret_seq _))) fail_seq

theorem itemOf_neverEof (t : Nat) (ht : t ≠ 0xFF) : Never (· = Item.eofOp) (itemOf t) := by
  have other : Never (· = Item.eofOp) (ret Item.other) := never_ret nofun
  have entry : Never (· = Item.eofOp) (ret Item.entry) := never_ret nofun
  unfold itemOf
  rw [if_neg ht]
  refine ite_elim (never_andThen (fun _ => other)) ?_
  refine ite_elim (never_andThen (fun _ => never_andThen (fun _ => other))) ?_
  refine ite_elim (never_andThen (fun _ => other)) ?_
  refine ite_elim (never_andThen (fun _ => other)) ?_
  refine ite_elim (never_andThen (fun _ => other)) ?_
  refine ite_elim (never_andThen (fun _ => never_andThen (fun _ => never_andThen (fun _ => other)))) ?_
  refine ite_elim (never_andThen (fun _ => never_andThen (fun _ => entry))) ?_
  refine ite_elim (never_andThen (fun _ => entry)) ?_
  refine ite_elim never_outside ?_
  exact ite_elim (never_andThen (fun _ => never_andThen (fun _ => entry))) never_fail

theorem item_eofOp {xs rest} (h : item xs = .ok Item.eofOp rest) : xs = 0xFF :: rest := by
  obtain ⟨op, t, rfl, hk⟩ := u8_andThen_ok h
  by_cases hb : op.toNat = 0xFF
  · simp only [itemOf, hb, if_true, ret, R.ok.injEq, true_and] at hk
    rw [show op = 0xFF from UInt8.toNat_inj.mp hb, hk]
  · exact absurd rfl (itemOf_neverEof op.toNat hb t _ rest hk)

/-- what the opcode loop needs of an item reader -/
structure GoodItem (it : Rd Item) : Prop where
  seq : Seq it
  consumes : Consumes it
  eof : ∀ xs rest, it xs = .ok Item.eofOp rest → xs = 0xFF :: rest

theorem item_good : GoodItem item :=
  ⟨andThen_seq u8_seq (fun op => itemOf_seq op.toNat), andThen_consumes u8_consumes (fun op => itemOf_seq op.toNat),
   fun _ _ h => item_eofOp h⟩

/-- an item reader that never answers "outside the model" -/
def Total (it : Rd Item) : Prop := ∀ xs, it xs ≠ .unsup

theorem header_seq (maxVer : Nat) : Seq (header maxVer) := by
  unfold header
  refine andThen_seq (takeN_seq 9) (fun h => ite_elim fail_seq ?_)
  cases versionOf (h.drop 5) with
  | none => exact fail_seq
  | some v => exact ite_elim fail_seq (ret_seq _)

theorem header_nu (maxVer : Nat) : NoUnsup (header maxVer) := by
  unfold header
  refine nu_andThen (nu_takeN 9) (fun h => ite_elim nu_fail ?_)
  cases versionOf (h.drop 5) with
  | none => exact nu_fail
  | some v => exact ite_elim nu_fail (nu_ret _)

theorem footer_done_or_err (all rest : Bytes) (cnt : Nat) : footer all rest cnt = .done cnt ∨ footer all rest cnt = .err cnt := by
  unfold footer
  split
  · split
    · exact Or.inr rfl
    · split
      · exact Or.inr rfl
      · exact Or.inl rfl
  · exact Or.inr rfl

theorem footer_short (all rest : Bytes) (cnt : Nat) (h : rest.length < 8) : footer all rest cnt = .err cnt := by
  unfold footer takeN
  rw [if_neg (by omega)]

theorem footer_done {all rest : Bytes} {cnt n : Nat} (h : footer all rest cnt = .done n) :
    rest.length = 8 ∧
      (Rdb.ofLE rest = 0 ∨ (Rdb.crc64Tab (all.take (all.length - rest.length))).toNat = Rdb.ofLE rest) := by
  by_cases h8 : 8 ≤ rest.length
  · simp only [footer, takeN, h8, if_true] at h
    split at h
    · cases h
    · next hcrc =>
      split at h
      · cases h
      · next hr =>
        have hlen : rest.length = 8 := by
          have : (rest.drop 8).length = 0 := by rw [Decidable.not_not.mp hr]; rfl
          rw [List.length_drop] at this; omega
        rw [List.take_of_length_le (Nat.le_of_eq hlen)] at hcrc
        refine ⟨hlen, ?_⟩
        by_cases h0 : Rdb.ofLE rest = 0
        · exact Or.inl h0
        · exact Or.inr (Decidable.not_not.mp fun h1 => hcrc ⟨h0, h1⟩)
  · rw [footer_short all rest cnt (by omega)] at h; cases h

/-- where the parser stops with `done`: the input ends with the EOF opcode and
    an 8-byte footer that is zero or the CRC64 of everything before it -/
def EndsWithFooter (all : Bytes) : Prop :=
  ∃ p crc8, all = p ++ 0xFF :: crc8 ∧ crc8.length = 8 ∧
    (Rdb.ofLE crc8 = 0 ∨ (Rdb.crc64Tab (p ++ [0xFF])).toNat = Rdb.ofLE crc8)

theorem footer_done_ends {pre rest : Bytes} {cnt n : Nat}
    (h : footer (pre ++ 0xFF :: rest) rest cnt = .done n) : EndsWithFooter (pre ++ 0xFF :: rest) := by
  obtain ⟨hlen, hcrc⟩ := footer_done h
  refine ⟨pre, rest, rfl, hlen, ?_⟩
  have htake : (pre ++ 0xFF :: rest).take ((pre ++ 0xFF :: rest).length - rest.length) = pre ++ [0xFF] := by
    rw [show pre ++ 0xFF :: rest = (pre ++ [0xFF]) ++ rest by simp]
    exact List.take_left' (by simp; omega)
  rwa [htake] at hcrc

end GunYu.RdbFrame
