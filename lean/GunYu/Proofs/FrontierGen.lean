/-
  C14 — the Lean definitions REGENERATED from pkg/redis/checkpoint/bisync.go (Gen/FnC14Frontier.lean, translator
  harness/extract/gofn_c14.go) are equal to the hand-written model of Model/Frontier.lean. Helper lemmas; the
  property-level statements are in Props/C14Gen.lean. Core only.
-/
import GunYu.Gen.FnC14Frontier
import GunYu.Proofs.FrontierMax
import GunYu.Proofs.FrontierSyncN

namespace GunYu.Frontier
open GunYu GunYu.Gen.C14

/-- the int64 range -/
def I64 (x : Int) : Prop := -9223372036854775808 ≤ x ∧ x < 9223372036854775808

theorem addI_one {c : Int} (h1 : -9223372036854775808 ≤ c) (h2 : c < 9223372036854775807) :
    GoSem.addI c 1 = c + 1 := by
  unfold GoSem.addI; exact GoSem.wrap64_eq (by omega) (by omega)

/-! ### what the translator makes of a lazy `&&` (two ways) and of a conditional assignment -/

theorem lazyAnd (a b : Bool) : (if a = false then some false else some b) = some (a && b) := by
  cases a <;> rfl

theorem lazyAnd' (a b : Bool) : (if a = true then some b else some false) = some (a && b) := by
  cases a <;> rfl

theorem condSome {α : Type} (c : Bool) (x y : α) :
    (if c = true then some x else some y) = some (if c then x else y) := by
  cases c <;> rfl

theorem latestStep_eq (ids : List Bytes) (best : Option Rec) (cnt : Int) (r : Rec)
    (h1 : 0 ≤ cnt) (h2 : cnt < 9223372036854775807) :
    latestStep ids best cnt (some r) =
      some (pickBest ids best r, if matchRun r.runId ids then cnt + 1 else cnt) := by
  simp only [latestStep, pickBest, addI_one (c := cnt) (by omega) h2, Option.pure_def, Option.bind_eq_bind,
    Option.bind_some]
  cases matchRun r.runId ids with
  | false => rfl
  | true =>
    cases best with
    | none => rfl
    | some b =>
      simp only [Option.isNone_some, Bool.not_true, Bool.false_eq_true, if_false, Option.bind_some, lazyAnd,
        condSome]
      simp only [Bool.if_true_left, Bool.or_eq_true, Bool.and_eq_true, decide_eq_true_eq, gt_iff_lt, if_true]
      split <;> rfl

/-- the loop of LoadBisyncLatestStartRecord over the parsed records, with the REGENERATED selection step -/
def genBestLatest (ids : List Bytes) : List Rec → Option Rec × Int → Option (Option Rec × Int)
  | [], acc => some acc
  | r :: rest, acc => (latestStep ids acc.1 acc.2 (some r)).bind (genBestLatest ids rest)

theorem genBestLatest_eq (ids : List Bytes) (l : List Rec) :
    ∀ (acc : Option Rec × Int), 0 ≤ acc.2 → acc.2 + l.length < 9223372036854775807 →
      genBestLatest ids l acc =
        some (l.foldl (pickBest ids) acc.1, acc.2 + ((l.filter (fun r => matchRun r.runId ids)).length : Int)) := by
  induction l with
  | nil => intro acc _ _; simp only [genBestLatest, List.foldl_nil, List.filter_nil, List.length_nil, Int.natCast_zero,
      Int.add_zero]
  | cons r rest ih =>
    intro acc h0 hlen
    rw [List.length_cons] at hlen
    rw [genBestLatest, latestStep_eq ids acc.1 acc.2 r h0 (by omega), Option.bind_some, List.foldl_cons,
      List.filter_cons]
    cases matchRun r.runId ids with
    | true =>
      rw [ih _ (by dsimp only; omega) (by dsimp only; omega)]
      simp only [if_true, List.length_cons, Int.natCast_add, Int.natCast_one, Int.add_assoc, Int.add_comm 1]
    | false => exact ih _ h0 (by dsimp only; omega)

/-- the Go map `m` holds `g`: `v, ok := m[n]` gives `g n` (nil when absent) and whether it is there -/
def Holds (m : List (Int × Option Rec)) (g : Int → Option Rec) : Prop :=
  ∀ n, mapGet m n = (g n, (g n).isSome)

theorem Holds.of_eq {m : List (Int × Option Rec)} {g g' : Int → Option Rec} (h : Holds m g)
    (e : ∀ n, g' n = g n) : Holds m g' := fun n => by rw [e n]; exact h n

theorem holds_mapSet {m : List (Int × Option Rec)} {g g' : Int → Option Rec} (h : Holds m g) (r : Rec)
    (e : ∀ n, g' n = if n = r.seq then some r else g n) : Holds (mapSet m r.seq (some r)) g' := by
  intro n
  rw [e n]
  unfold mapGet mapSet
  by_cases hn : n = r.seq
  · rw [List.find?_cons_of_pos (by simp only [hn, decide_true]), if_pos hn]; rfl
  · rw [List.find?_cons_of_neg (by simpa using Ne.symm hn), if_neg hn, find?_filter_of_imp]
    · exact h n
    · intro x hx
      simp only [decide_eq_true_eq] at hx ⊢
      rw [hx]; exact hn

theorem loop1_body_eq (ver : Bytes) (fuel : Nat) {m : List (Int × Option Rec)} {g : Int → Option Rec}
    (h : Holds m g) (ms : Int) (r : Rec) :
    ∃ M, rebuildFrontier_loop1_body ver fuel (some r) (m, ms) = some (GoRet.next (M, minStep ms r)) ∧
      Holds M (fun n => pickStep n (g n) r) := by
  have hms : (if (if decide (ms = 0) = true then true else decide (r.seq < ms)) = true then r.seq else ms) =
      if ms = 0 ∨ r.seq < ms then r.seq else ms := by
    by_cases h1 : ms = 0
    · simp only [h1, decide_true, if_true, true_or]
    · simp only [h1, decide_false, Bool.false_eq_true, if_false, decide_eq_true_eq, false_or]
  simp only [rebuildFrontier_loop1_body, h r.seq, Option.pure_def, Option.bind_eq_bind, Option.bind_some,
    Option.isNone_some, condSome, Bool.false_eq_true, if_false, hms, minStep]
  by_cases h0 : r.seq ≤ 0
  · simp only [h0, decide_true, if_true]
    exact ⟨m, rfl, h.of_eq (fun n => pickStep_skip (Or.inl h0) _)⟩
  · simp only [h0, decide_false, Bool.false_eq_true, if_false]
    have hp : 0 < r.seq := by omega
    -- `seqMap[n]` after an iteration that files the record
    have filed : ∀ n, (g r.seq = none ∨ ∃ e, g r.seq = some e ∧ e.mtime < r.mtime) →
        pickStep n (g n) r = if n = r.seq then some r else g n := by
      intro n hc
      by_cases hn : n = r.seq
      · subst hn
        rw [pickStep_hit hp, if_pos rfl]
        rcases hc with hc | ⟨e, hc, hlt⟩
        · rw [hc]
        · rw [hc]; exact if_pos hlt
      · rw [pickStep_skip (Or.inr (Ne.symm hn)), if_neg hn]
    cases hl : g r.seq with
    | none => exact ⟨_, rfl, holds_mapSet h r (fun n => filed n (Or.inl hl))⟩
    | some e =>
      by_cases hlt : e.mtime < r.mtime
      · refine ⟨mapSet m r.seq (some r), ?_, holds_mapSet h r (fun n => filed n (Or.inr ⟨e, hl, hlt⟩))⟩
        simp only [Option.isSome_some, Bool.not_true, Bool.false_eq_true, if_false, Option.bind_some, hlt,
          decide_true, if_true]
      · refine ⟨m, ?_, h.of_eq (fun n => ?_)⟩
        · simp only [Option.isSome_some, Bool.not_true, Bool.false_eq_true, if_false, Option.bind_some, hlt,
            decide_false]
        · by_cases hn : n = r.seq
          · subst hn
            rw [pickStep_hit hp, hl]; exact if_neg hlt
          · exact pickStep_skip (Or.inr (Ne.symm hn)) _

theorem loop1_eq (ver : Bytes) (fuel : Nat) (records : List (Option Rec)) :
    ∀ (m : List (Int × Option Rec)) (g : Int → Option Rec) (ms : Int), Holds m g →
      ∃ M, rebuildFrontier_loop1 ver fuel records (m, ms)
          = some (GoRet.next (M, (records.filterMap id).foldl minStep ms)) ∧
        Holds M (fun n => (records.filterMap id).foldl (pickStep n) (g n)) := by
  induction records with
  | nil => intro m g ms h; exact ⟨m, rfl, h⟩
  | cons x rest ih =>
    intro m g ms h
    cases x with
    | none => exact ih m g ms h
    | some r =>
      obtain ⟨M₁, hb, h₁⟩ := loop1_body_eq ver fuel h ms r
      obtain ⟨M, hM, hH⟩ := ih M₁ _ (minStep ms r) h₁
      refine ⟨M, ?_, hH⟩
      rw [rebuildFrontier_loop1, hb]
      exact hM

theorem pick_none_of_no_rec {recs : List Rec} {n : Int} (h : ∀ r ∈ recs, r.seq ≠ n) : pick recs n = none := by
  cases hp : pick recs n with
  | none => rfl
  | some r => obtain ⟨h1, _, h3⟩ := pick_some hp; exact absurd h1 (h r h3)

theorem pick_none_of_nonpos {recs : List Rec} {n : Int} (h : n ≤ 0) : pick recs n = none := by
  cases hp : pick recs n with
  | none => rfl
  | some r => obtain ⟨h1, h2, _⟩ := pick_some hp; omega

/-- the wrapped `nextSeq` finds what the unbounded `cur.seq + 1` of the model finds -/
theorem pick_addI {recs : List Rec} (hr : ∀ r ∈ recs, I64 r.seq) {c : Int} (hc : I64 c) :
    pick recs (GoSem.addI c 1) = pick recs (c + 1) := by
  by_cases h : c < 9223372036854775807
  · rw [addI_one hc.1 h]
  · have hc' : c = 9223372036854775807 := by have := hc.2; omega
    subst hc'
    have e : GoSem.addI 9223372036854775807 1 = -9223372036854775808 := by decide
    rw [e, pick_none_of_nonpos (by omega), pick_none_of_no_rec]
    intro r hm
    have := (hr r hm).2
    omega

/-- one iteration of the advancing loop on a non-nil frontier: stop when the next number has no record,
    otherwise the model's `stepSnap` and the next number -/
theorem loop2_body_eq (ver : Bytes) (fuel : Nat) {M : List (Int × Option Rec)} {g : Int → Option Rec}
    (h : Holds M g) (cur : Snap) (nx : Int) :
    rebuildFrontier_loop2_body ver fuel M (some cur, nx) =
      some (match g nx with
        | none => GoRet.brk (some cur, nx)
        | some r => GoRet.next (some (stepSnap cur r), GoSem.addI nx 1)) := by
  simp only [rebuildFrontier_loop2_body, h nx, Option.pure_def, Option.bind_eq_bind, Option.bind_some]
  cases g nx with
  | none => rfl
  | some r =>
    simp only [Option.isSome_some, Bool.not_true, Bool.false_eq_true, if_false, Option.bind_some, stepSnap]
    by_cases hm : r.mtime > cur.mtime
    · simp only [hm, decide_true, if_true, Option.bind_some]
    · simp only [hm, decide_false, Bool.false_eq_true, if_false, Option.bind_some]

/-- the `for {}` with one iteration more than the model's `advance` needs to reach its fixed point -/
theorem loop2_eq (ver : Bytes) (fuel : Nat) {recs : List Rec} (hr : ∀ r ∈ recs, I64 r.seq)
    {M : List (Int × Option Rec)} (hM : Holds M (pick recs)) :
    ∀ (F : Nat) (cur : Snap), I64 cur.seq →
      pick recs ((advance F recs cur).seq + 1) = none →
      rebuildFrontier_loop2 ver fuel M (F + 1) (some cur, GoSem.addI cur.seq 1)
        = some (GoRet.next (some (advance F recs cur), GoSem.addI (advance F recs cur).seq 1)) := by
  have step : ∀ (F : Nat) (cur : Snap), I64 cur.seq →
      rebuildFrontier_loop2 ver fuel M (F + 1) (some cur, GoSem.addI cur.seq 1) =
        match pick recs (cur.seq + 1) with
        | none => some (GoRet.next (some cur, GoSem.addI cur.seq 1))
        | some r => rebuildFrontier_loop2 ver fuel M F (some (stepSnap cur r), GoSem.addI r.seq 1) := by
    intro F cur hc
    rw [rebuildFrontier_loop2, loop2_body_eq ver fuel hM, pick_addI hr hc]
    cases hp : pick recs (cur.seq + 1) with
    | none => rfl
    | some r =>
      have : r.seq = GoSem.addI cur.seq 1 := (pick_some (pick_addI hr hc ▸ hp)).1
      rw [← this]
      rfl
  intro F
  induction F with
  | zero =>
    intro cur hc hfix
    rw [step 0 cur hc]
    simp only [advance] at hfix ⊢
    rw [hfix]
  | succ F ih =>
    intro cur hc hfix
    rw [step (F + 1) cur hc]
    unfold advance at hfix ⊢
    cases hp : pick recs (cur.seq + 1) with
    | none => rfl
    | some r =>
      rw [hp] at hfix
      exact ih (stepSnap cur r) (hr r (pick_some hp).2.2) hfix

end GunYu.Frontier
