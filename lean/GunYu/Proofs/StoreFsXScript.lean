/-
  C08, extended operation set: whole scripts with faults, from ANY state that
  satisfies the invariants (an empty store, or a store re-opened on whatever a
  crash left — Proofs/StoreFsXResume.lean).
-/
import GunYu.Proofs.StoreFsXFault

namespace GunYu.StoreFsX
open GunYu GunYu.Store GunYu.StoreFs

theorem recvFrom_init (ops : List DOp) : recvFrom ⟨"", none⟩ ops = recvRun ops := rfl

theorem gcZ_runId (s : Disk) (z : List Nat) : (gcZ s z).runId = s.runId := by
  obtain ⟨pre, segs', rdb', he, _⟩ := gcZ_cases s z
  rw [he]

theorem ginv_gcZ {s : Disk} {g : RecvG} (h : GInv s g) (z : List Nat) : GInv (gcZ s z) g := by
  obtain ⟨pre, segs', rdb', he, _, _, hrdb, _⟩ := gcZ_cases s z
  rw [he]
  rcases hrdb with h1 | ⟨h1, h2⟩
  · exact ⟨h.rid, (by rw [h1]; exact h.held), (by rw [h1]; exact h.gone)⟩
  · subst h1
    refine ⟨h.rid, (by intro r hr; cases hr), ?_⟩
    intro _ x hx
    cases hr : s.rdb with
    | none => exact h.gone hr x hx
    | some r =>
      have hz := h2 r hr
      obtain ⟨hc, _⟩ := h.held r hr
      rw [hc] at hx; cases hx
      show r.writing = false
      unfold rdbRef at hz
      by_cases hw : r.writing = true
      · simp [hw] at hz
      · simpa using hw

theorem step_aofAppend_frame (s : Disk) (chunk : Bytes) :
    (s.step (.aofAppend chunk)).1.rdb = s.rdb ∧ (s.step (.aofAppend chunk)).1.runId = s.runId := by
  cases hlv : s.live with
  | none => simp [Disk.step, Disk.appendLive, hlv]
  | some g =>
    simp only [Disk.step, Disk.appendLive, hlv]
    split <;> simp

theorem ginv_closeLive {s : Disk} {g : RecvG} (h : GInv s g) : GInv s.closeLive g :=
  h.frame (closeLive_rdb s) (closeLive_runId s)

theorem ginv_xbase (s : XDisk) (g : RecvG) (o : DOp) (h : GInv s.d g) (hok : s.d.okOp o) :
    GInv (xbase s o).1.d (recvStep g o) := by
  show GInv (baseDisk s o) (recvStep g o)
  by_cases h2 : o = .gc
  · subst h2
    simp only [baseDisk, recvStep]
    exact ginv_gcZ h _
  · have : baseDisk s o = (s.d.step o).1 := by
      cases o <;> first | rfl | exact absurd rfl h2
    rw [this]
    exact ginv_step s.d g o h hok

theorem ginv_xstep (s : XDisk) (g : RecvG) (x : XOp) (h : GInv s.d g) (hok : okX s x) :
    GInv (xstep s x).1.d (recvStep g (recvOp x)) := by
  have hrot : ∀ chunk, GInv (s.d.step (.aofAppend chunk)).1.closeLive g := fun chunk =>
    ginv_closeLive (h.frame (step_aofAppend_frame s.d chunk).1 (step_aofAppend_frame s.d chunk).2)
  refine xstep_elim (C := fun x r => GInv r.1.d (recvStep g (recvOp x)))
    s ?base ?closeHdr ?appendHdr ?appendOpen ?short ?closeRm ?rdbCloseRm ?commitFail ?gcRm x hok
  case base =>
    intro x o ha
    rw [ha.recv]
    exact ginv_xbase s g o h ha.ok
  case closeHdr => intro k g' _ _; exact ginv_closeLive h
  case appendHdr => intro chunk k g' _ _ _; exact hrot chunk
  case appendOpen => intro chunk g' _ _ _; exact hrot chunk
  case short => intro chunk k g' _ _ s1 e; exact ginv_xbase s1 g .aofClose (by rw [e]; exact h.frame rfl rfl) trivial
  case closeRm => intro g' _ _; exact ginv_closeLive h
  case rdbCloseRm => intro r _ _; exact ginv_step s.d g .rdbClose h trivial
  case commitFail =>
    intro chunk ren rmOk r hr hw hlen
    have hcur := (h.held r hr).1
    refine ⟨?_, ?_, ?_⟩
    · rw [(show (s.d.step .rdbClose).1.runId = s.d.runId by simp only [Disk.step, hr, hw, if_true])]
      simp only [recvOp, recvStep, hcur, hw, if_true]
      exact h.rid
    · intro r' hr'
      simp only [Disk.step, hr, hw, if_true] at hr'
      cases hr'
    · intro _ x hx
      simp only [recvOp, recvStep, hcur, hw, if_true] at hx
      cases hx
      simp [hlen]
  case gcRm => intro stuck all; exact ginv_gcZ h _

theorem xScriptOps_cons (s : XDisk) (x : XOp) (rest : List XOp) :
    xScriptOps s (x :: rest) = okOps (xstep s x).2 ++ xScriptOps (xstep s x).1 rest := by
  unfold xScriptOps
  simp only [xrun, okOps_append]

/-- **every operation of a script with faults that takes effect is truthful and safe
    where it is applied** -/
theorem xrun_ok {src : Nat → UInt8} {P : Nat → Nat → Bytes → Prop} (g0 : RecvG) (xs0 : List XOp)
    (hP0 : ∀ L S c, RecvFrom g0 (xs0.map recvOp) L S c → P L S c) :
    ∀ (rest pre : List XOp) (s : XDisk), xs0 = pre ++ rest → wfX s rest → SrcOkX src s rest → XInv src s →
      GInv s.d (recvFrom g0 (pre.map recvOp)) →
      Pos (OpTrueX src) s.fs (xScriptOps s rest) ∧ Pos (RdbSafeP P) s.fs (xScriptOps s rest) := by
  intro rest
  induction rest with
  | nil => intro pre s _ _ _ _ _; exact ⟨Pos.nil, Pos.nil⟩
  | cons x rest ih =>
    intro pre s hxs hwf hsrc hinv hg
    have hstep := xstep_ok (src := src) (P := P) s x hinv hwf.1 hsrc.1 (by
      intro r chunk hx hrdb hw hc
      subst hx
      exact hP0 _ _ _ (recvFrom_commit (rest := rest.map recvOp) (by rw [hxs]; simp [recvOp]) hg hrdb hw hc))
    have hnext := ih (pre ++ [x]) (xstep s x).1 (by rw [hxs]; simp) hwf.2 hsrc.2 hstep.inv (by
      rw [List.map_append, List.map_singleton, recvFrom_snoc]
      exact ginv_xstep s _ x hg hwf.1)
    rw [xScriptOps_cons]
    rw [hstep.fsEq] at hnext
    exact ⟨Pos.append hstep.true hnext.1, Pos.append hstep.safe hnext.2⟩

theorem xinv_init (src : Nat → UInt8) (l m : Nat) : XInv src (XDisk.init l m) :=
  ⟨DInv.init l m, histTrue_init src l m, filesOk_init l m [], tmpRel_init l m⟩

theorem xcrash_true (src : Nat → UInt8) (l m : Nat) (xs : List XOp) (hwf : wfX (XDisk.init l m) xs)
    (hsrc : SrcOkX src (XDisk.init l m) xs) (n k : Nat) :
    FsTrue src (crashImageX [] (xScriptOps (XDisk.init l m) xs) n k) := by
  have := (xrun_ok (src := src) (P := fun _ _ _ => True) ⟨"", none⟩ xs (fun _ _ _ _ => trivial) xs [] _ rfl hwf hsrc
    (xinv_init src l m) (GInv.init l m)).1
  exact crashImageX_true (fsTrue_nil src) _ this n k

theorem chunkOkFrom_sound (src : Nat → UInt8) : ∀ (c : Bytes) (o : Nat), chunkOkFrom src o c = true →
    ∀ i b, c[i]? = some b → b = src (o + i) := by
  intro c
  induction c with
  | nil => intro o _ i b hb; simp at hb
  | cons x t ih =>
    intro o h i b hb
    simp only [chunkOkFrom, Bool.and_eq_true, beq_iff_eq] at h
    cases i with
    | zero => simp at hb; rw [← hb, h.1]; rfl
    | succ j =>
      simp at hb
      have := ih (o + 1) h.2 j b hb
      rw [this]; congr 1; omega

theorem srcOkXB_sound (src : Nat → UInt8) : ∀ (xs : List XOp) (s : XDisk), srcOkXB src s xs = true → SrcOkX src s xs := by
  intro xs
  induction xs with
  | nil => intro s _; trivial
  | cons x rest ih =>
    intro s h
    simp only [srcOkXB, Bool.and_eq_true] at h
    refine ⟨?_, ih _ h.2⟩
    have h1 := h.1
    cases x with
    | op o =>
      cases o <;> try trivial
      rename_i c
      exact chunkOkFrom_sound src c _ h1
    | aofAppendHdrFail c k => exact chunkOkFrom_sound src c _ h1
    | aofAppendOpenFail c => exact chunkOkFrom_sound src c _ h1
    | aofAppendShort c k => exact chunkOkFrom_sound src c _ h1
    | aofCloseHdrFail k => trivial
    | aofCloseRmFail => trivial
    | rdbCloseRmFail => trivial
    | gcRmFail st al => trivial
    | rdbCommitFail c ren rm => trivial

theorem wfXB_sound (s : XDisk) (xs : List XOp) (h : wfXB s xs = true) : wfX s xs := by
  simpa [wfXB] using h

end GunYu.StoreFsX
