/-
  Helper lemmas for C13: the shape of what `propagate` emits.
-/
import GunYu.Model.BisyncSite
import GunYu.Proofs.BisyncFilter
import GunYu.Proofs.BisyncUnit
import GunYu.Proofs.Decimal

namespace GunYu.Bisync
open GunYu GunYu.BisyncUnit

/-- every way one effect of executing `c` can look -/
inductive EffShape (cfg : RedisCfg) (c : Cmd) : Cmd → Prop where
  | same : EffShape cfg c c
  | del (k : Bytes) (hk : k ∈ c.args) : EffShape cfg c (delCmd cfg k)
  | setPxat (k v : Bytes) (opts : List Bytes) (t : Nat) (h : c.args = k :: v :: opts) :
      EffShape cfg c ⟨wSet, [k, v, wPxat, natToDec t]⟩
  | setPlain (k v : Bytes) (opts : List Bytes) (h : c.args = k :: v :: opts) :
      EffShape cfg c ⟨c.name, k :: v :: dropGet opts⟩
  | pexpireat (k : Bytes) (t : Nat) (hk : k ∈ c.args) : EffShape cfg c ⟨wPexpireat, [k, natToDec t]⟩
  | restoreAbs (k tt payload : Bytes) (opts : List Bytes) (t : Nat) (h : c.args = k :: tt :: payload :: opts) :
      EffShape cfg c ⟨c.name, k :: natToDec t :: payload :: opts ++ [wAbsttl]⟩

theorem forall_snoc {P : Cmd → Prop} {pre : List Cmd} {x : Cmd} (hpre : ∀ e ∈ pre, P e) (hx : P x) :
    ∀ e ∈ pre ++ [x], P e :=
  List.forall_mem_append.mpr ⟨hpre, List.forall_mem_singleton.mpr hx⟩

theorem lazyExpire_eq (cfg : RedisCfg) (now : Nat) (st : Store) (k : Bytes) :
    lazyExpire cfg now st k = (st, []) ∨ lazyExpire cfg now st k = (Store.del st k, [delCmd cfg k]) := by
  unfold lazyExpire
  cases st.get k with
  | none => exact Or.inl rfl
  | some e =>
    simp only
    cases e.expireAt with
    | none => exact Or.inl rfl
    | some t =>
      simp only
      by_cases h : t ≤ now
      · exact Or.inr (if_pos h)
      · exact Or.inl (if_neg h)

theorem lazyExpire_eff (cfg : RedisCfg) (now : Nat) (st : Store) (k : Bytes) :
    (lazyExpire cfg now st k).2 = [] ∨ (lazyExpire cfg now st k).2 = [delCmd cfg k] :=
  (lazyExpire_eq cfg now st k).imp (congrArg Prod.snd) (congrArg Prod.snd)

theorem lazyExpire_shape (cfg : RedisCfg) (now : Nat) (st : Store) (c : Cmd) (k : Bytes) (hk : k ∈ c.args) :
    ∀ e ∈ (lazyExpire cfg now st k).2, EffShape cfg c e := by
  intro e he
  rcases lazyExpire_eff cfg now st k with h | h
  · rw [h] at he; cases he
  · rw [h] at he
    rw [List.mem_singleton.mp he]
    exact .del k hk

theorem lazyExpireAll_shape (cfg : RedisCfg) (now : Nat) (c : Cmd) (ks : List Bytes) (st : Store)
    (hks : ∀ k ∈ ks, k ∈ c.args) : ∀ e ∈ (lazyExpireAll cfg now st ks).2, EffShape cfg c e := by
  induction ks generalizing st with
  | nil => intro e he; cases he
  | cons k ks ih =>
    intro e he
    simp only [lazyExpireAll] at he
    rcases List.mem_append.mp he with h | h
    · exact lazyExpire_shape cfg now st c k (hks k (by simp)) e h
    · exact ih _ (fun k' hk' => hks k' (List.mem_cons_of_mem _ hk')) e h

theorem remMembers_shape (cfg : RedisCfg) (st : Store) (kind : Kind) (c : Cmd) (k : Bytes) (ms : List Bytes)
    (pre : List Cmd) (hpre : ∀ e ∈ pre, EffShape cfg c e) :
    ∀ e ∈ (remMembers st kind c k ms pre).2, EffShape cfg c e := by
  unfold remMembers
  intro e he
  cases hg : st.get k with
  | none => rw [hg] at he; exact hpre e he
  | some en =>
    rw [hg] at he
    simp only at he
    split at he
    · exact hpre e he
    · split at he
      · exact hpre e he
      · split at he <;>
        · rcases List.mem_append.mp he with h | h
          · exact hpre e h
          · rw [List.mem_singleton.mp h]; exact .same

theorem commandKeys_mem (name : Bytes) (args : List Bytes) (ks : List Bytes)
    (h : commandKeys name args = some ks) : ∀ k ∈ ks, k ∈ args := by
  rw [commandKeys_eq] at h
  obtain ⟨idx, hk, rfl⟩ := Option.map_eq_some_iff.mp h
  intro k hkm
  obtain ⟨i, hi, rfl⟩ := List.mem_map.mp hkm
  exact getD_mem_args ((Filter.keyIndexes_inRange hk).2 i hi)

theorem propagate_eq (cfg : RedisCfg) (now : Nat) (st : Store) (c : Cmd) :
    propagate cfg now st c =
      if lower c.name == wSet then propSet cfg now st c
      else if lower c.name == wDel || lower c.name == wUnlink then propDel cfg now st c
      else if lower c.name == wExpire || lower c.name == wPexpire || lower c.name == wExpireat ||
          lower c.name == wPexpireat then propExpire cfg now st (lower c.name) c
      else if lower c.name == wPersist then propPersist cfg now st c
      else if lower c.name == wHset || lower c.name == wHmset then propAdd cfg now st .hash fieldNames c
      else if lower c.name == wHdel then propRem cfg now st .hash c
      else if lower c.name == wSadd then propSadd cfg now st c
      else if lower c.name == wSrem then propRem cfg now st .set c
      else if lower c.name == wZadd then propAdd cfg now st .zset oddPos c
      else if lower c.name == wZrem then propRem cfg now st .zset c
      else if lower c.name == wRestore then propRestore cfg now st c
      else propOther cfg now st c := rfl

theorem ite_snd_forall {p : Prop} [Decidable p] (a b : Store × List Cmd) (P : Cmd → Prop)
    (ha : ∀ e ∈ a.2, P e) (hb : ∀ e ∈ b.2, P e) : ∀ e ∈ (if p then a else b).2, P e := by
  split <;> assumption

theorem propSet_shape (cfg : RedisCfg) (now : Nat) (st : Store) (c : Cmd) :
    ∀ e ∈ (propSet cfg now st c).2, EffShape cfg c e := by
  unfold propSet
  split
  · rename_i k v opts hargs
    simp only
    split
    · intro e he; cases he
    · have hk : k ∈ c.args := hargs ▸ List.mem_cons_self
      have hpre := lazyExpire_shape cfg now st c k hk
      split
      · exact hpre
      · split
        · refine forall_snoc hpre ?_
          split
          · exact .setPxat k v opts _ hargs
          · exact .setPlain k v opts hargs
        · exact forall_snoc hpre (.setPlain k v opts hargs)
  · intro e he; cases he

theorem propDel_shape (cfg : RedisCfg) (now : Nat) (st : Store) (c : Cmd) :
    ∀ e ∈ (propDel cfg now st c).2, EffShape cfg c e := by
  unfold propDel
  simp only
  have hpre := lazyExpireAll_shape cfg now c c.args st (fun k hk => hk)
  split
  · exact hpre
  · exact forall_snoc hpre .same

theorem propExpire_shape (cfg : RedisCfg) (now : Nat) (st : Store) (n : Bytes) (c : Cmd) :
    ∀ e ∈ (propExpire cfg now st n c).2, EffShape cfg c e := by
  unfold propExpire
  split
  · rename_i k t hargs
    have hk : k ∈ c.args := hargs ▸ List.mem_cons_self
    have hpre := lazyExpire_shape cfg now st c k hk
    split
    · intro e he; cases he
    · simp only
      split
      · exact hpre
      · apply ite_snd_forall
        · exact forall_snoc hpre (.del k hk)
        · exact forall_snoc hpre (.pexpireat k _ hk)
  · intro e he
    rw [List.mem_singleton.mp he]; exact .same

theorem propPersist_shape (cfg : RedisCfg) (now : Nat) (st : Store) (c : Cmd) :
    ∀ e ∈ (propPersist cfg now st c).2, EffShape cfg c e := by
  unfold propPersist
  split
  · rename_i k hargs
    have hk : k ∈ c.args := hargs ▸ List.mem_cons_self
    have hpre := lazyExpire_shape cfg now st c k hk
    simp only
    split
    · split
      · exact forall_snoc hpre .same
      · exact hpre
    · exact hpre
  · intro e he; cases he

theorem propAdd_shape (cfg : RedisCfg) (now : Nat) (st : Store) (kind : Kind)
    (members : List Bytes → List Bytes) (c : Cmd) :
    ∀ e ∈ (propAdd cfg now st kind members c).2, EffShape cfg c e := by
  unfold propAdd
  split
  · rename_i k rest hargs
    have hk : k ∈ c.args := hargs ▸ List.mem_cons_self
    have hpre := lazyExpire_shape cfg now st c k hk
    simp only
    split
    · exact hpre
    · exact forall_snoc hpre .same
  · intro e he; cases he

theorem propRem_shape (cfg : RedisCfg) (now : Nat) (st : Store) (kind : Kind) (c : Cmd) :
    ∀ e ∈ (propRem cfg now st kind c).2, EffShape cfg c e := by
  unfold propRem
  split
  · rename_i k ms hargs
    have hk : k ∈ c.args := hargs ▸ List.mem_cons_self
    exact remMembers_shape cfg _ kind c k ms _ (lazyExpire_shape cfg now st c k hk)
  · intro e he; cases he

theorem propSadd_shape (cfg : RedisCfg) (now : Nat) (st : Store) (c : Cmd) :
    ∀ e ∈ (propSadd cfg now st c).2, EffShape cfg c e := by
  unfold propSadd
  split
  · rename_i k ms hargs
    have hk : k ∈ c.args := hargs ▸ List.mem_cons_self
    have hpre := lazyExpire_shape cfg now st c k hk
    simp only
    split
    · exact hpre
    · apply ite_snd_forall
      · exact forall_snoc hpre .same
      · exact hpre
  · intro e he; cases he

theorem propRestore_shape (cfg : RedisCfg) (now : Nat) (st : Store) (c : Cmd) :
    ∀ e ∈ (propRestore cfg now st c).2, EffShape cfg c e := by
  unfold propRestore
  split
  · rename_i k t payload opts hargs
    have hk : k ∈ c.args := hargs ▸ List.mem_cons_self
    have hpre := lazyExpire_shape cfg now st c k hk
    split
    · intro e he; cases he
    · simp only
      split
      · exact hpre
      · refine forall_snoc hpre ?_
        split
        · exact .same
        · exact .restoreAbs k t payload opts _ hargs
  · intro e he; cases he

theorem propOther_shape (cfg : RedisCfg) (now : Nat) (st : Store) (c : Cmd) :
    ∀ e ∈ (propOther cfg now st c).2, EffShape cfg c e := by
  unfold propOther
  simp only
  refine forall_snoc (lazyExpireAll_shape cfg now c _ st ?_) .same
  cases hck : commandKeys c.name c.args with
  | none => exact fun k hk => nomatch hk
  | some ks => exact commandKeys_mem c.name c.args ks hck

/-- every command `propagate` emits has one of the shapes of `EffShape` -/
theorem propagate_shape (cfg : RedisCfg) (now : Nat) (st : Store) (c : Cmd) :
    ∀ e ∈ (propagate cfg now st c).2, EffShape cfg c e := by
  rw [propagate_eq]
  refine ite_snd_forall _ _ _ (propSet_shape cfg now st c) ?_
  refine ite_snd_forall _ _ _ (propDel_shape cfg now st c) ?_
  refine ite_snd_forall _ _ _ (propExpire_shape cfg now st _ c) ?_
  refine ite_snd_forall _ _ _ (propPersist_shape cfg now st c) ?_
  refine ite_snd_forall _ _ _ (propAdd_shape cfg now st _ _ c) ?_
  refine ite_snd_forall _ _ _ (propRem_shape cfg now st _ c) ?_
  refine ite_snd_forall _ _ _ (propSadd_shape cfg now st c) ?_
  refine ite_snd_forall _ _ _ (propRem_shape cfg now st _ c) ?_
  refine ite_snd_forall _ _ _ (propAdd_shape cfg now st _ _ c) ?_
  refine ite_snd_forall _ _ _ (propRem_shape cfg now st _ c) ?_
  exact ite_snd_forall _ _ _ (propRestore_shape cfg now st c) (propOther_shape cfg now st c)

theorem execCmds_shape (cfg : RedisCfg) (now : Nat) (cs : List Cmd) (st : Store) :
    ∀ e ∈ (execCmds cfg now st cs).2, ∃ c ∈ cs, EffShape cfg c e := by
  induction cs generalizing st with
  | nil => intro e he; cases he
  | cons c cs ih =>
    intro e he
    simp only [execCmds] at he
    rcases List.mem_append.mp he with h | h
    · exact ⟨c, by simp, propagate_shape cfg now st c e h⟩
    · obtain ⟨c', hc', hs⟩ := ih _ e h
      exact ⟨c', List.mem_cons_of_mem _ hc', hs⟩

end GunYu.Bisync
