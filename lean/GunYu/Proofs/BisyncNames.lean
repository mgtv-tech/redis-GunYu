/-
  C13 / C18 — checkpoint names are brace-free and under the reserved prefix
  BECAUSE of how the tool makes them (Model/BisyncNames.lean), not by
  assumption: `newCpName`, the two plain-path forms, and every name read back
  from the checkpoint hash, whose writers store only such names.
-/
import GunYu.Model.BisyncNames
import GunYu.Proofs.BisyncGlobal

namespace GunYu.Bisync
open GunYu GunYu.BisyncUnit

/-- the names the tool generates: `redis-gunyu-checkpoint-bisync:<hex>`,
    `redis-gunyu-checkpoint`, `redis-gunyu-checkpoint-<letters a–z>` -/
def GenCp (cp : Bytes) : Prop :=
  (∃ buf, cp = newCpName buf) ∨ cp = plainCpName ∨
  ∃ suf : Bytes, (∀ b ∈ suf, (97 : UInt8) ≤ b ∧ b ≤ 122) ∧ cp = slotCpName suf

theorem hexDigit_ne_lbrace : ∀ n, n < 16 → hexDigit n ≠ Slot.lbrace := by decide

theorem hexOfBytes_nobrace (buf : Bytes) : Slot.lbrace ∉ hexOfBytes buf := by
  intro h
  unfold hexOfBytes at h
  obtain ⟨b, _, hb⟩ := List.mem_flatMap.mp h
  have hlt : b.toNat < 256 := b.toNat_lt
  simp only [List.mem_cons, List.not_mem_nil, or_false] at hb
  rcases hb with hb | hb
  · exact hexDigit_ne_lbrace (b.toNat / 16) (by omega) hb.symm
  · exact hexDigit_ne_lbrace (b.toNat % 16) (by omega) hb.symm

theorem cpKey_prefix_bisync : Gen.checkpointKey <+: Gen.bisyncCheckpointKeyPrefix :=
  ⟨[45,98,105,115,121,110,99], by decide⟩

/-- **`NewBisyncCheckpointName` makes valid names**, whatever the random bytes:
    under the reserved prefix and brace-free -/
theorem newCpName_valid (buf : Bytes) : ValidCp (newCpName buf) := by
  refine ⟨?_, ?_⟩
  · unfold newCpName
    rw [List.append_assoc]
    exact cpKey_prefix_bisync.trans (List.prefix_append _ _)
  · intro h
    unfold newCpName at h
    simp only [List.mem_append] at h
    rcases h with (h | h) | h
    · revert h; decide
    · revert h; decide
    · exact hexOfBytes_nobrace buf h

theorem genCp_valid (cp : Bytes) (h : GenCp cp) : ValidCp cp := by
  rcases h with ⟨buf, rfl⟩ | rfl | ⟨suf, hs, rfl⟩
  · exact newCpName_valid buf
  · exact ⟨List.prefix_refl _, by unfold plainCpName; decide⟩
  · refine ⟨?_, ?_⟩
    · unfold slotCpName
      rw [List.append_assoc]
      exact List.prefix_append _ _
    · intro h
      unfold slotCpName at h
      simp only [List.mem_append] at h
      rcases h with (h | h) | h
      · revert h; decide
      · revert h; decide
      · have := (hs _ h).2
        revert this; decide

theorem genCp_nobrace (cp : Bytes) (h : GenCp cp) : Slot.lbrace ∉ cp := (genCp_valid cp h).2
theorem genCp_prefix (cp : Bytes) (h : GenCp cp) : Gen.checkpointKey <+: cp := (genCp_valid cp h).1

/-! ### the checkpoint hash holds generated names only -/

/-- every non-empty value of the checkpoint hash is a generated name -/
def HashGen (h : CpHash) : Prop := ∀ p ∈ h, p.2 ≠ [] → GenCp p.2

theorem lookup_mem (h : CpHash) (id v : Bytes) (hl : h.lookup id = some v) : (id, v) ∈ h := by
  induction h with
  | nil => cases hl
  | cons p ps ih =>
    obtain ⟨k, x⟩ := p
    simp only [List.lookup] at hl
    split at hl
    · rename_i heq
      have hk : id = k := by simpa using heq
      injection hl with hx
      rw [hk, hx]; simp
    · exact List.mem_cons_of_mem _ (ih hl)

theorem get_gen (h : CpHash) (hg : HashGen h) (id : Bytes) (hne : (h.get id).isEmpty = false) : GenCp (h.get id) := by
  unfold CpHash.get at hne ⊢
  cases hl : h.lookup id with
  | none => rw [hl] at hne; simp at hne
  | some v =>
    rw [hl] at hne
    simp only [Option.getD_some] at hne ⊢
    exact hg (id, v) (lookup_mem h id v hl) (by intro e; simp only at e; rw [e] at hne; simp at hne)

theorem set_gen (h : CpHash) (hg : HashGen h) (id name : Bytes) (hn : GenCp name) : HashGen (h.set id name) := by
  intro p hp hne
  unfold CpHash.set at hp
  simp only [List.mem_cons, List.mem_filter] at hp
  rcases hp with rfl | ⟨hp, _⟩
  · exact hn
  · exact hg p hp hne

theorem del_gen (h : CpHash) (hg : HashGen h) (id : Bytes) : HashGen (h.del id) := by
  intro p hp hne
  unfold CpHash.del at hp
  exact hg p (List.mem_filter.mp hp).1 hne

theorem getCpHash_gen (h : CpHash) (hg : HashGen h) (id1 id2 : Bytes)
    (hne : (getCpHash h id1 id2).1.isEmpty = false) : GenCp (getCpHash h id1 id2).1 := by
  unfold getCpHash at hne ⊢
  split
  · rename_i he
    rw [if_pos he] at hne
    exact get_gen h hg id2 hne
  · rename_i he
    exact get_gen h hg id1 (by simpa using he)

theorem resolveOrCreate_gen (h : CpHash) (hg : HashGen h) (id1 id2 buf : Bytes) :
    HashGen (resolveOrCreate h id1 id2 buf).1 ∧ ∀ n, (resolveOrCreate h id1 id2 buf).2 = some n → GenCp n := by
  unfold resolveOrCreate
  split
  · rename_i he
    refine ⟨hg, ?_⟩
    rintro _ ⟨⟩
    exact getCpHash_gen h hg id1 id2 (by simpa using he)
  · cases hl : h.lookup id1 with
    | none =>
      refine ⟨set_gen h hg _ _ (Or.inl ⟨buf, rfl⟩), ?_⟩
      rintro _ ⟨⟩
      exact Or.inl ⟨buf, rfl⟩
    | some v =>
      refine ⟨hg, ?_⟩
      intro n hn
      simp only at hn
      split at hn
      · cases hn
      · rename_i hv
        injection hn with hn
        rw [← hn]
        exact hg (id1, v) (lookup_mem h id1 v hl) (by intro e; simp only at e; rw [e] at hv; simp at hv)

theorem resolveBisyncName_gen (h : CpHash) (hg : HashGen h) (id1 id2 buf : Bytes) (sw : Bool) :
    HashGen (resolveBisyncName h id1 id2 buf sw).1 ∧
      ∀ n, (resolveBisyncName h id1 id2 buf sw).2 = some n → GenCp n := by
  unfold resolveBisyncName
  split
  · exact resolveOrCreate_gen h hg id1 id2 buf
  · rename_i he
    split
    · refine ⟨hg, ?_⟩
      rintro _ ⟨⟩
      exact getCpHash_gen h hg id1 id2 (by simpa using he)
    · refine ⟨?_, ?_⟩
      · simp only
        split
        · exact del_gen _ (set_gen h hg _ _ (Or.inl ⟨buf, rfl⟩)) _
        · exact set_gen h hg _ _ (Or.inl ⟨buf, rfl⟩)
      · rintro _ ⟨⟩
        exact Or.inl ⟨buf, rfl⟩

/-- the suffix `choseKeyInSlots` appends consists of letters a–z (pickSuffixDfs) -/
def Start.Ok (s : Start) : Prop :=
  match s.kind with
  | .plainSlot suf => ∀ b ∈ suf, (97 : UInt8) ≤ b ∧ b ≤ 122
  | _ => True

theorem pick_gen (h : CpHash) (hg : HashGen h) (s : Start) (hs : s.Ok) :
    HashGen (s.pick h).1 ∧ ∀ n, (s.pick h).2 = some n → GenCp n := by
  unfold Start.pick
  unfold Start.Ok at hs
  cases hk : s.kind with
  | bisync buf sw => exact resolveBisyncName_gen h hg s.id1 s.id2 buf sw
  | plain =>
    refine ⟨hg, ?_⟩
    rintro _ ⟨⟩
    exact Or.inr (Or.inl rfl)
  | plainSlot suf =>
    rw [hk] at hs
    refine ⟨hg, ?_⟩
    rintro _ ⟨⟩
    exact Or.inr (Or.inr ⟨suf, hs, rfl⟩)

theorem finish_gen (h : CpHash) (hg : HashGen h) (s : Start) (name : Bytes) (hn : GenCp name) :
    HashGen (s.finish h name) := by
  unfold Start.finish
  have h1 : HashGen (if s.relabel then h.set s.id1 name else h) := by
    split
    · exact set_gen _ hg _ _ hn
    · exact hg
  cases s.dropOld with
  | none => exact h1
  | some o => exact del_gen _ h1 o

theorem start_gen (h : CpHash) (hg : HashGen h) (s : Start) (hs : s.Ok) :
    HashGen (s.run h).1 ∧ ∀ n, (s.run h).2 = some n → GenCp n := by
  obtain ⟨hp1, hp2⟩ := pick_gen h hg s hs
  unfold Start.run
  cases hn : (s.pick h).2 with
  | none => exact ⟨hp1, nofun⟩
  | some name =>
    refine ⟨finish_gen _ hp1 s name (hp2 name hn), ?_⟩
    intro n h'
    injection h' with h'
    rw [← h']; exact hp2 name hn

/-- **Every name a start resolves is a generated one.** From a checkpoint hash
    holding generated names only (the empty hash in particular), any sequence
    of starts of any syncers — bidirectional (fresh namespace, stored one,
    recovery-format switch) and plain — keeps it so, and every name a start
    comes up with — fresh or READ BACK from the hash — is generated. -/
theorem runStarts_gen (h : CpHash) (hg : HashGen h) (ss : List Start) (hs : ∀ s ∈ ss, s.Ok) :
    HashGen (runStarts h ss).1 ∧ ∀ n ∈ (runStarts h ss).2, GenCp n := by
  induction ss generalizing h with
  | nil => exact ⟨hg, nofun⟩
  | cons s ss ih =>
    obtain ⟨h1, h2⟩ := start_gen h hg s (hs s (by simp))
    obtain ⟨i1, i2⟩ := ih (s.run h).1 h1 (fun s' hs' => hs s' (List.mem_cons_of_mem _ hs'))
    unfold runStarts
    refine ⟨i1, List.forall_mem_append.mpr ⟨?_, i2⟩⟩
    cases hr : (s.run h).2 with
    | none => exact nofun
    | some m => exact List.forall_mem_singleton.mpr (h2 m hr)

theorem hashGen_nil : HashGen [] := by intro p hp; cases hp

/-! ### the fully determined starts (`runFull`): same result -/

theorem updateCheckpointFull_gen (st : NameSt) (hg : HashGen st.hash) (id1 id2 name : Bytes) (hn : GenCp name) :
    HashGen (updateCheckpointFull st id1 id2 name).hash := by
  unfold updateCheckpointFull
  simp only
  split
  · have hs : HashGen (st.hash.set id1 name) := set_gen _ hg _ _ hn
    split
    · exact hs
    · split
      · exact hs
      · simp only
        split
        · exact del_gen _ hs _
        · exact hs
  · exact hg

/-- what `resolveFull` does to the checkpoint hash and the name it returns is what
    `resolveBisyncName` does, for the switch its modes decide -/
theorem resolveFull_refines (st : NameSt) (id1 id2 buf : Bytes) (fr : Bool) :
    ∃ sw, ((resolveFull st id1 id2 buf fr).1.hash, (resolveFull st id1 id2 buf fr).2) =
      resolveBisyncName st.hash id1 id2 buf sw := by
  unfold resolveFull resolveBisyncName
  by_cases he : (getCpHash st.hash id1 id2).1.isEmpty = true
  · refine ⟨false, ?_⟩
    simp only [he, if_true]
    rcases resolveOrCreate st.hash id1 id2 buf with ⟨h, _ | n⟩ <;> rfl
  · simp only [he]
    cases st.modes.lookup (getCpHash st.hash id1 id2).1 with
    | none => exact ⟨false, rfl⟩
    | some cur =>
      by_cases hc : (cur == fr) = true
      · exact ⟨false, by simp [hc]⟩
      · exact ⟨true, by simp [hc]⟩

theorem resolveFull_gen (st : NameSt) (hg : HashGen st.hash) (id1 id2 buf : Bytes) (fr : Bool) :
    HashGen (resolveFull st id1 id2 buf fr).1.hash ∧ ∀ n, (resolveFull st id1 id2 buf fr).2 = some n → GenCp n := by
  obtain ⟨sw, h⟩ := resolveFull_refines st id1 id2 buf fr
  have := resolveBisyncName_gen st.hash hg id1 id2 buf sw
  rw [← h] at this
  exact this

def FullStart.Ok (s : FullStart) : Prop :=
  match s.kind with
  | .plainSlot suf => ∀ b ∈ suf, (97 : UInt8) ≤ b ∧ b ≤ 122
  | _ => True

theorem fullPick_gen (st : NameSt) (hg : HashGen st.hash) (s : FullStart) (hs : s.Ok) :
    HashGen (s.pick st).1.hash ∧ ∀ n, (s.pick st).2 = some n → GenCp n := by
  unfold FullStart.pick
  unfold FullStart.Ok at hs
  cases hk : s.kind with
  | bisync buf fr => exact resolveFull_gen st hg s.id1 s.id2 buf fr
  | plain => exact ⟨hg, by rintro _ ⟨⟩; exact Or.inr (Or.inl rfl)⟩
  | plainSlot suf =>
    rw [hk] at hs
    exact ⟨hg, by rintro _ ⟨⟩; exact Or.inr (Or.inr ⟨suf, hs, rfl⟩)⟩

theorem fullStart_gen (st : NameSt) (hg : HashGen st.hash) (s : FullStart) (hs : s.Ok) :
    HashGen (s.run st).1.hash ∧ ∀ n, (s.run st).2 = some n → GenCp n := by
  obtain ⟨h1, h2⟩ := fullPick_gen st hg s hs
  unfold FullStart.run
  cases hn : (s.pick st).2 with
  | none => exact ⟨h1, nofun⟩
  | some name =>
    exact ⟨updateCheckpointFull_gen _ h1 s.id1 s.id2 name (h2 name hn),
      by intro n h'; injection h' with h'; rw [← h']; exact h2 name hn⟩

/-- every name the fully determined starts come up with is generated, and the hash stays generated -/
theorem runFull_gen (st : NameSt) (hg : HashGen st.hash) (ss : List FullStart) (hs : ∀ s ∈ ss, s.Ok) :
    HashGen (runFull st ss).1.hash ∧ ∀ n ∈ (runFull st ss).2, GenCp n := by
  induction ss generalizing st with
  | nil => exact ⟨hg, nofun⟩
  | cons s ss ih =>
    obtain ⟨h1, h2⟩ := fullStart_gen st hg s (hs s (by simp))
    obtain ⟨i1, i2⟩ := ih (s.run st).1 h1 (fun s' hs' => hs s' (List.mem_cons_of_mem _ hs'))
    unfold runFull
    refine ⟨i1, List.forall_mem_append.mpr ⟨?_, i2⟩⟩
    cases hr : (s.run st).2 with
    | none => exact nofun
    | some m => exact List.forall_mem_singleton.mpr (h2 m hr)

/-! ### bookkeeping requests and events over generated names -/

/-- a bookkeeping request as THE TOOL issues it: the namespace name it carries
    is a generated one (and it is not a marker's expiry, which is Redis's doing);
    a multi-key DEL names latest / index / journal keys only -/
def Bookkeeping.FromTool : Bookkeeping → Prop
  | .frontierSave cp _ => GenCp cp
  | .journalDel cp _ _ => GenCp cp
  | .indexRem cp _ _ => GenCp cp
  | .markerExpiry _ _ _ => False
  | .cpHashSet _ _ _ => True
  | .cpHashDel _ => True
  | .rootSet cp _ => GenCp cp
  | .rootHdel cp _ => GenCp cp
  | .latestSeed cp _ _ => GenCp cp
  | .latestDel cp _ => GenCp cp
  | .rootDel cp => GenCp cp
  | .frontierDel cp => GenCp cp
  | .markerDel cp _ => GenCp cp
  | .nsDel cp keys => GenCp cp ∧ keys ≠ [] ∧ ∀ k ∈ keys, PlainNsKey cp k

theorem fromTool_ok (bk : Bookkeeping) (h : bk.FromTool) : bk.Valid ∧ bk.Issued := by
  cases bk with
  | frontierSave cp _ => exact ⟨genCp_prefix cp h, trivial⟩
  | journalDel cp _ _ => exact ⟨trivial, genCp_nobrace cp h⟩
  | indexRem cp _ _ => exact ⟨trivial, genCp_nobrace cp h⟩
  | markerExpiry _ _ _ => exact h.elim
  | cpHashSet _ _ _ => exact ⟨trivial, trivial⟩
  | cpHashDel _ => exact ⟨trivial, trivial⟩
  | rootSet cp _ => exact ⟨genCp_prefix cp h, trivial⟩
  | rootHdel cp _ => exact ⟨genCp_prefix cp h, trivial⟩
  | latestSeed cp _ _ => exact ⟨trivial, genCp_nobrace cp h⟩
  | latestDel cp _ => exact ⟨trivial, genCp_nobrace cp h⟩
  | rootDel cp => exact ⟨genCp_prefix cp h, trivial⟩
  | frontierDel cp => exact ⟨genCp_prefix cp h, trivial⟩
  | markerDel cp _ => exact ⟨trivial, genCp_nobrace cp h⟩
  | nsDel cp keys => exact ⟨⟨h.2.1, h.2.2⟩, genCp_nobrace cp h.1⟩

/-- the events of the theorems over generated names: as `EvOK'`, with the
    condition on bookkeeping requests replaced by "as the tool issues it" -/
def EvGen (cfg : WCfg) : Ev → Prop
  | .book _ bk => bk.FromTool
  | e => EvOK' cfg e

theorem evGen_ok (cfg : WCfg) (e : Ev) (h : EvGen cfg e) : EvOK' cfg e := by
  cases e with
  | book src bk => exact fromTool_ok bk h
  | client _ _ _ => exact h
  | tick _ _ => exact h
  | expire _ _ => exact h
  | link _ _ => exact h
  | snapshot _ _ _ => exact h
  | toolRaw _ _ _ => exact h
  | restart _ _ _ => exact h

end GunYu.Bisync
