/-
  C12 fragmentation: the decoder over the bufio model (Model/RespFrag.lean) computes,
  for EVERY buffer size and EVERY way the underlying reader cuts the stream into
  pieces, exactly what the decoder over the plain byte sequence (Model/Resp.lean)
  computes; the ghost `gas` never runs out. Core only.
-/
import GunYu.Model.RespFrag
import GunYu.Proofs.Resp

namespace GunYu.Resp
open GunYu

/-- termination measure of the reader loops -/
def Rd.M (r : Rd) : Nat := 2 * r.src.flatten.length + r.buf.length

/-- a pending io.EOF (`b.err`) means the underlying reader has handed out its last byte -/
def Rd.ErrOK (r : Rd) : Prop := r.err = true → r.src.flatten = []

/-- buffer size at least one byte (bufio: at least 16), enough gas left, and `ErrOK` -/
def Rd.Inv (r : Rd) : Prop := 1 ≤ r.cap ∧ r.M < r.gas ∧ r.ErrOK

theorem Rd.new_inv (size : Nat) (chunks : List Bytes) (eofLast : Bool) : (Rd.new size chunks eofLast).Inv := by
  unfold Rd.Inv Rd.M Rd.new Rd.ErrOK
  simp only [List.length_nil]
  refine ⟨by omega, by omega, ?_⟩
  intro h; cases h

theorem Rd.new_flat (size : Nat) (chunks : List Bytes) (eofLast : Bool) :
    (Rd.new size chunks eofLast).flat = chunks.flatten := by
  simp [Rd.flat, Rd.new]

theorem all_isEmpty_flatten (s : List Bytes) (h : s.all List.isEmpty = true) : s.flatten = [] := by
  induction s with
  | nil => rfl
  | cons c cs ih =>
    simp only [List.all_cons, Bool.and_eq_true] at h
    have hc : c = [] := by simpa using h.1
    simp [hc, ih h.2]

theorem eofNow_flatten (r : Rd) (s : List Bytes) (h : r.eofNow s = true) : s.flatten = [] := by
  unfold Rd.eofNow at h
  simp only [Bool.and_eq_true] at h
  exact all_isEmpty_flatten s h.2

theorem srcRead_some (k : Nat) (hk : 1 ≤ k) (src : List Bytes) (d : Bytes) (s : List Bytes)
    (h : srcRead k src = some (d, s)) : 0 < d.length ∧ d ++ s.flatten = src.flatten ∧ d.length ≤ k := by
  fun_induction srcRead k src
  case case1 => cases h
  case case2 c cs hc ih =>
    obtain ⟨h1, h2, h3⟩ := ih h
    exact ⟨h1, by simp [List.isEmpty_iff.mp hc, h2], h3⟩
  case case3 c cs hc hl =>
    cases h
    exact ⟨List.length_pos_iff.mpr (by simpa using hc), by simp, hl⟩
  case case4 c cs hc hl =>
    cases h
    exact ⟨by rw [List.length_take]; omega, by simp [← List.append_assoc], by rw [List.length_take]; omega⟩

theorem srcRead_none (k : Nat) (src : List Bytes) (h : srcRead k src = none) : src.flatten = [] := by
  fun_induction srcRead k src
  case case1 => rfl
  case case2 c cs hc ih => simp [List.isEmpty_iff.mp hc, ih h]
  all_goals cases h

theorem fill_some (r r' : Rd) (hfree : r.buf.length < r.cap) (h : r.fill = some r') :
    r'.flat = r.flat ∧ r'.cap = r.cap ∧ r'.M + 1 ≤ r.M ∧ r.buf.length < r'.buf.length ∧ r'.ErrOK := by
  unfold Rd.fill at h
  split at h
  · cases h
  · rename_i d s hs
    cases h
    obtain ⟨hd, h2, _⟩ := srcRead_some _ (by omega) _ _ _ hs
    have hlen : r.src.flatten.length = d.length + s.flatten.length := by rw [← h2]; simp
    refine ⟨?_, rfl, ?_, ?_, eofNow_flatten r s⟩
    · simp [Rd.flat, List.append_assoc, h2]
    · simp only [Rd.M, List.length_append]; omega
    · simp only [List.length_append]; omega

theorem fill_none (r : Rd) (h : r.fill = none) : r.src.flatten = [] := by
  unfold Rd.fill at h
  split at h
  · rename_i hs; exact srcRead_none _ _ hs
  · cases h

theorem flat_of_buf_nil {r : Rd} (h : r.buf = []) : r.flat = r.src.flatten := by
  rw [Rd.flat, h, List.nil_append]

theorem readByte_spec (r : Rd) (hc : 1 ≤ r.cap) (heo : r.ErrOK) :
    match r.readByte with
    | none => r.flat = []
    | some (b, r') => r.flat = b :: r'.flat ∧ r'.cap = r.cap ∧ r'.M + 1 ≤ r.M ∧ r'.ErrOK := by
  fun_cases Rd.readByte r
  case case1 b bs hb =>
    exact ⟨by simp [Rd.flat, hb], rfl, by simp only [Rd.M, hb, List.length_cons]; omega, heo⟩
  case case2 hb he => rw [flat_of_buf_nil hb]; exact heo he
  case case3 hb _ hf => rw [flat_of_buf_nil hb]; exact fill_none r hf
  case case4 hb _ r' hf b bs hb' =>
    obtain ⟨h1, h2, h4, _, heo'⟩ := fill_some r r' (by rw [hb]; exact hc) hf
    refine ⟨by rw [← h1]; simp [Rd.flat, hb'], h2, ?_, heo'⟩
    simp only [Rd.M, hb', List.length_cons] at h4 ⊢
    omega
  case case5 hb _ r' hf hb' =>
    have := (fill_some r r' (by rw [hb]; exact hc) hf).2.2.2.1
    rw [hb, hb'] at this
    cases this

theorem findNl_none (l : Bytes) (h : findNl l = none) : ∀ b ∈ l, b ≠ 10 := by
  fun_induction findNl l
  case case1 => intro b hb; cases hb
  case case2 => cases h
  case case3 x xs hx ih =>
    have h' : findNl xs = none := by
      cases hf : findNl xs with
      | none => rfl
      | some _ => rw [hf] at h; cases h
    intro b hb
    rcases List.mem_cons.mp hb with rfl | hb
    · exact hx
    · exact ih h' b hb

theorem findNl_some (l : Bytes) (i : Nat) (h : findNl l = some i) :
    ∃ p q, l = p ++ 10 :: q ∧ p.length = i ∧ ∀ b ∈ p, b ≠ 10 := by
  fun_induction findNl l generalizing i
  case case1 => cases h
  case case2 xs => cases h; exact ⟨[], xs, rfl, rfl, fun b hb => nomatch hb⟩
  case case3 x xs hx ih =>
    cases hf : findNl xs with
    | none => rw [hf] at h; cases h
    | some j =>
      rw [hf] at h
      cases h
      obtain ⟨p, q, h1, h2, h3⟩ := ih j hf
      refine ⟨x :: p, q, by rw [h1]; rfl, by rw [List.length_cons, h2], fun b hb => ?_⟩
      rcases List.mem_cons.mp hb with rfl | hb
      · exact hx
      · exact h3 b hb

theorem readBytesLoop_spec : ∀ (g : Nat) (acc : Bytes) (r : Rd), 1 ≤ r.cap → r.M < g → r.ErrOK →
    match readLine r.flat with
    | none => readBytesLoop g acc r = none
    | some (l, rest) => ∃ r', readBytesLoop g acc r = some (acc ++ l, r') ∧ r'.flat = rest ∧ r'.Inv := by
  intro g
  induction g with
  | zero => intro acc r _ h; omega
  | succ g ih =>
    intro acc r hc hg heo
    unfold readBytesLoop
    cases hf : findNl r.buf with
    | some i =>
      obtain ⟨p, q, h1, h2, h3⟩ := findNl_some _ _ hf
      have hflat : r.flat = p ++ 10 :: (q ++ r.src.flatten) := by simp [Rd.flat, h1]
      rw [hflat, readLine_line _ _ h3]
      simp only
      have e : r.buf = (p ++ [10]) ++ q := by rw [h1, List.append_assoc]; rfl
      have hl : (p ++ [10]).length = i + 1 := by rw [List.length_append, h2]; rfl
      have ht : r.buf.take (i + 1) = p ++ [10] := by rw [e]; exact List.take_left' hl
      have hd : r.buf.drop (i + 1) = q := by rw [e]; exact List.drop_left' hl
      refine ⟨{ r with buf := r.buf.drop (i + 1), gas := g }, by rw [ht], ?_, ?_⟩
      · simp [Rd.flat, hd]
      · refine ⟨hc, ?_, heo⟩
        have hl : r.buf.length = p.length + 1 + q.length := by rw [h1]; simp; omega
        simp only [Rd.M, hd] at hg ⊢
        omega
    | none =>
      have hno := findNl_none _ hf
      simp only
      by_cases hpe : r.err = true
      · rw [if_pos hpe]
        have hflat : r.flat = r.buf := by simp [Rd.flat, heo hpe]
        rw [hflat, readLine_none_of_noNl _ hno]
      rw [if_neg hpe]
      by_cases hfull : r.cap ≤ r.buf.length
      · rw [if_pos hfull]
        have hflat : r.flat = r.buf ++ r.src.flatten := rfl
        rw [hflat, readLine_noNl_append _ _ hno]
        have := ih (acc ++ r.buf) { r with buf := [] } hc (by simp only [Rd.M, List.length_nil] at hg ⊢; omega) heo
        have hfl : ({ r with buf := [] } : Rd).flat = r.src.flatten := by simp [Rd.flat]
        rw [hfl] at this
        cases hr : readLine r.src.flatten with
        | none => rw [hr] at this; simpa using this
        | some lr =>
          obtain ⟨l, rest⟩ := lr
          rw [hr] at this
          obtain ⟨r', h1, h2, h3⟩ := this
          simp only [Option.map_some]
          exact ⟨r', by rw [h1, List.append_assoc], h2, h3⟩
      · rw [if_neg hfull]
        cases hfi : r.fill with
        | none =>
          have hs := fill_none r hfi
          have hflat : r.flat = r.buf := by simp [Rd.flat, hs]
          rw [hflat, readLine_none_of_noNl _ hno]
        | some r' =>
          obtain ⟨h1, h2, h4, _, h6⟩ := fill_some r r' (by omega) hfi
          have := ih acc r' (by rw [h2]; exact hc) (by omega) h6
          rw [h1] at this
          exact this

theorem readBytes_spec (r : Rd) (hi : r.Inv) :
    match readLine r.flat with
    | none => r.readBytes = none
    | some (l, rest) => ∃ r', r.readBytes = some (l, r') ∧ r'.flat = rest ∧ r'.Inv := by
  have := readBytesLoop_spec r.gas [] r hi.1 hi.2.1 hi.2.2
  simpa [Rd.readBytes] using this

theorem read_spec (r : Rd) (hc : 1 ≤ r.cap) (heo : r.ErrOK) (k : Nat) (hk : 1 ≤ k) :
    match r.read k with
    | none => r.flat = []
    | some (d, r') => d ++ r'.flat = r.flat ∧ d.length ≤ k ∧ r'.cap = r.cap ∧ r'.M + 1 ≤ r.M ∧ r'.ErrOK := by
  fun_cases Rd.read r k
  case case1 hb he => rw [flat_of_buf_nil (List.isEmpty_iff.mp hb)]; exact heo he
  case case2 hb _ _ hs => rw [flat_of_buf_nil (List.isEmpty_iff.mp hb)]; exact srcRead_none _ _ hs
  case case3 hb _ _ d s hs =>
    have hb := List.isEmpty_iff.mp hb
    obtain ⟨h1, h2, h3⟩ := srcRead_some k hk _ _ _ hs
    have hlen : r.src.flatten.length = d.length + s.flatten.length := by rw [← h2]; simp
    refine ⟨by simp [Rd.flat, hb, h2], h3, rfl, ?_, eofNow_flatten r s⟩
    simp only [Rd.M, hb, List.length_nil]; omega
  case case4 hb _ _ hs => rw [flat_of_buf_nil (List.isEmpty_iff.mp hb)]; exact srcRead_none _ _ hs
  case case5 hb _ _ d s hs =>
    have hb := List.isEmpty_iff.mp hb
    obtain ⟨h1, h2, h3⟩ := srcRead_some r.cap hc _ _ _ hs
    have hlen : r.src.flatten.length = d.length + s.flatten.length := by rw [← h2]; simp
    refine ⟨?_, by rw [List.length_take]; omega, rfl, ?_, eofNow_flatten r s⟩
    · simp only [Rd.flat, hb, List.nil_append]
      rw [← List.append_assoc, List.take_append_drop, h2]
    · simp only [Rd.M, hb, List.length_nil, List.length_drop]; omega
  case case6 hb =>
    have hl : 0 < r.buf.length := List.length_pos_iff.mpr (by simpa using hb)
    refine ⟨?_, by rw [List.length_take]; omega, rfl, ?_, heo⟩
    · simp only [Rd.flat]
      rw [← List.append_assoc, List.take_append_drop]
    · simp only [Rd.M, List.length_drop]; omega

theorem readFullLoop_spec : ∀ (g n : Nat) (acc : Bytes) (r : Rd), 1 ≤ r.cap → r.M < g → r.ErrOK →
    (n ≤ acc.length + r.flat.length →
      ∃ r', readFullLoop g n acc r = .ok (acc ++ r.flat.take (n - acc.length)) r' ∧
        r'.flat = r.flat.drop (n - acc.length) ∧ r'.Inv) ∧
    (acc.length + r.flat.length < n →
      readFullLoop g n acc r = if (acc ++ r.flat).isEmpty then .eof else .ueof) := by
  intro g
  induction g with
  | zero => intro n acc r _ h; omega
  | succ g ih =>
    intro n acc r hc hg heo
    unfold readFullLoop
    by_cases hdone : n ≤ acc.length
    · rw [if_pos hdone]
      have h0 : n - acc.length = 0 := by omega
      constructor
      · intro _
        refine ⟨{ r with gas := g + 1 }, ?_, ?_, ?_⟩
        · rw [h0]; simp
        · rw [h0]; simp [Rd.flat]
        · exact ⟨hc, by simp only [Rd.M] at hg ⊢; omega, heo⟩
      · intro h; omega
    · rw [if_neg hdone]
      simp only
      have hk : 1 ≤ n - acc.length := by omega
      have hrd := read_spec r hc heo (n - acc.length) hk
      cases hr : r.read (n - acc.length) with
      | none =>
        rw [hr] at hrd
        simp only at hrd
        constructor
        · intro h; rw [hrd] at h; simp at h; omega
        · intro _
          simp only [hrd, List.append_nil]
      | some dr =>
        obtain ⟨d, r'⟩ := dr
        rw [hr] at hrd
        obtain ⟨h2, h3, h4, h5, heo'⟩ := hrd
        simp only
        obtain ⟨ihA, ihB⟩ := ih n (acc ++ d) r' (by rw [h4]; exact hc) (by omega) heo'
        have hlen : r.flat.length = d.length + r'.flat.length := by rw [← h2]; simp
        have hla : (acc ++ d).length = acc.length + d.length := List.length_append
        rw [hla] at ihA ihB
        have hsub : n - acc.length - d.length = n - (acc.length + d.length) := by omega
        constructor
        · intro h
          obtain ⟨r'', e1, e2, e3⟩ := ihA (by omega)
          refine ⟨r'', ?_, ?_, e3⟩
          · rw [e1, ← h2, List.append_assoc, List.take_append, List.take_of_length_le h3, hsub]
          · rw [e2, ← h2, List.drop_append, List.drop_of_length_le h3, hsub]
            simp
        · intro h
          rw [ihB (by omega), ← h2, List.append_assoc]

theorem readFull_spec (r : Rd) (hi : r.Inv) (n : Nat) :
    (n ≤ r.flat.length → ∃ r', r.readFull n = .ok (r.flat.take n) r' ∧ r'.flat = r.flat.drop n ∧ r'.Inv) ∧
    (r.flat.length < n → r.readFull n = if r.flat.isEmpty then .eof else .ueof) := by
  have := readFullLoop_spec r.gas n [] r hi.1 hi.2.1 hi.2.2
  simpa [Rd.readFull] using this

/-- the result over the reader, read as a result over the remaining byte sequence -/
inductive SimD {α : Type} : DecC α → Dec α → Prop
  | err (e : DecErr) : SimD (.error e) (.error e)
  | ok (v : α) (o : Nat) (r : Rd) (h : r.Inv) : SimD (.ok (v, o, r)) (.ok (v, o, r.flat))

theorem SimD.inv {α : Type} {x : DecC α} {y : Dec α} (h : SimD x y) :
    (∃ e, x = .error e ∧ y = .error e) ∨
    (∃ v o r, x = .ok (v, o, r) ∧ y = .ok (v, o, r.flat) ∧ r.Inv) := by
  cases h with
  | err e => exact Or.inl ⟨e, rfl, rfl⟩
  | ok v o r h => exact Or.inr ⟨v, o, r, rfl, rfl, h⟩

theorem decodeTypeLoop_sim : ∀ (g : Nat) (r : Rd) (off : Nat), 1 ≤ r.cap → r.M < g → r.ErrOK →
    SimD (decodeTypeLoop g r off) (decodeType r.flat off) := by
  intro g
  induction g with
  | zero => intro r off _ h; omega
  | succ g ih =>
    intro r off hc hg heo
    have hrb := readByte_spec r hc heo
    unfold decodeTypeLoop
    cases hr : r.readByte with
    | none =>
      rw [hr] at hrb
      rw [hrb, decodeType]
      exact SimD.err _
    | some br =>
      obtain ⟨b, r'⟩ := br
      rw [hr] at hrb
      obtain ⟨h2, h3, h5, heo'⟩ := hrb
      rw [h2, decodeType]
      dsimp only
      by_cases hb : b = 10
      · rw [if_pos hb, if_pos hb]
        exact ih r' (off + 1) (by rw [h3]; exact hc) (by omega) heo'
      · rw [if_neg hb, if_neg hb]
        exact SimD.ok _ _ { r' with gas := g } ⟨by rw [← h3] at hc; exact hc, show r'.M < g by omega, heo'⟩

theorem decodeTypeC_sim (r : Rd) (off : Nat) (hi : r.Inv) : SimD (decodeTypeC r off) (decodeType r.flat off) :=
  decodeTypeLoop_sim r.gas r off hi.1 hi.2.1 hi.2.2

/-- `ReadBytes('\n')` followed by the CRLF check and any reading `F` of the line: `decodeText` and the
    inline path both have this shape -/
theorem line_sim {α : Type} (F : Bytes → α) (r : Rd) (off : Nat) (hi : r.Inv) :
    SimD
      (match r.readBytes with
       | none => .error .eof
       | some (l, r') =>
         if l.length < 2 ∨ l.getD (l.length - 2) 0 ≠ 13 then .error .bad else .ok (F l, off + l.length, r'))
      (match readLine r.flat with
       | none => .error .eof
       | some (l, rest) =>
         if l.length < 2 ∨ l.getD (l.length - 2) 0 ≠ 13 then .error .bad else .ok (F l, off + l.length, rest)) := by
  have h := readBytes_spec r hi
  cases hr : readLine r.flat with
  | none =>
    rw [hr] at h
    rw [show r.readBytes = none from h]
    exact SimD.err _
  | some lr =>
    obtain ⟨l, rest⟩ := lr
    rw [hr] at h
    obtain ⟨r', h1, h2, h3⟩ := h
    rw [h1]
    dsimp only
    split
    · exact SimD.err _
    · rw [← h2]; exact SimD.ok _ _ _ h3

theorem decodeTextC_sim (r : Rd) (off : Nat) (hi : r.Inv) : SimD (decodeTextC r off) (decodeText r.flat off) :=
  line_sim _ r off hi

theorem decodeIntC_sim (r : Rd) (off : Nat) (hi : r.Inv) : SimD (decodeIntC r off) (decodeInt r.flat off) := by
  unfold decodeIntC decodeInt
  rcases (decodeTextC_sim r off hi).inv with ⟨e, hx, hy⟩ | ⟨v, o, r', hx, hy, hi'⟩
  · rw [hx, hy]; exact SimD.err _
  · rw [hx, hy]
    simp only
    cases parseInt64 v with
    | none => exact SimD.err _
    | some n => exact SimD.ok _ _ _ hi'

theorem decodeBulkC_sim (r : Rd) (off : Nat) (hi : r.Inv) : SimD (decodeBulkC r off) (decodeBulk r.flat off) := by
  unfold decodeBulkC decodeBulk
  rcases (decodeIntC_sim r off hi).inv with ⟨e, hx, hy⟩ | ⟨n, o, r', hx, hy, hi'⟩
  · rw [hx, hy]; exact SimD.err _
  · rw [hx, hy]
    simp only
    by_cases h1 : n < -1
    · rw [if_pos h1, if_pos h1]; exact SimD.err _
    · rw [if_neg h1, if_neg h1]
      by_cases h2 : n = -1
      · rw [if_pos h2, if_pos h2]; exact SimD.ok _ _ _ hi'
      · rw [if_neg h2, if_neg h2]
        obtain ⟨hA, hB⟩ := readFull_spec r' hi' (n.toNat + 2)
        by_cases hlen : n.toNat + 2 ≤ r'.flat.length
        · obtain ⟨r'', e1, e2, e3⟩ := hA hlen
          rw [e1]
          have hl : ¬ ((r'.flat.take (n.toNat + 2)).length < n.toNat + 2) := by
            rw [List.length_take]; omega
          simp only
          rw [if_neg hl]
          by_cases hcr : (r'.flat.take (n.toNat + 2)).getD n.toNat 0 ≠ 13 ∨
              (r'.flat.take (n.toNat + 2)).getD (n.toNat + 1) 0 ≠ 10
          · rw [if_pos hcr, if_pos hcr]; exact SimD.err _
          · rw [if_neg hcr, if_neg hcr, ← e2]; exact SimD.ok _ _ _ e3
        · have hlt : r'.flat.length < n.toNat + 2 := by omega
          rw [hB hlt]
          have ht : r'.flat.take (n.toNat + 2) = r'.flat := List.take_of_length_le (by omega)
          rw [ht, if_pos hlt]
          by_cases hem : r'.flat.isEmpty = true
          · rw [if_pos hem, if_pos hem]; exact SimD.err _
          · rw [if_neg hem, if_neg hem]; exact SimD.err _

theorem decodeElemsC_sim (elemC : Rd → Nat → DecC Resp) (elem : Bytes → Nat → Dec Resp)
    (he : ∀ r off, r.Inv → SimD (elemC r off) (elem r.flat off)) :
    ∀ (n : Nat) (r : Rd) (off : Nat), r.Inv → SimD (decodeElemsC elemC n r off) (decodeElems elem n r.flat off) := by
  intro n
  induction n with
  | zero => intro r off hi; simp only [decodeElemsC, decodeElems]; exact SimD.ok _ _ _ hi
  | succ n ih =>
    intro r off hi
    simp only [decodeElemsC, decodeElems]
    rcases (he r off hi).inv with ⟨e, hx, hy⟩ | ⟨v, o, r', hx, hy, hi'⟩
    · rw [hx, hy]; exact SimD.err _
    · rw [hx, hy]
      simp only
      rcases (ih r' o hi').inv with ⟨e, hx2, hy2⟩ | ⟨vs, o2, r'', hx2, hy2, hi''⟩
      · rw [hx2, hy2]; exact SimD.err _
      · rw [hx2, hy2]; exact SimD.ok _ _ _ hi''

theorem decodeInlineC_sim (r : Rd) (off : Nat) (hi : r.Inv) : SimD (decodeInlineC r off) (decodeInline r.flat off) :=
  line_sim _ r off hi

theorem unreadByte_flat (r : Rd) (b : UInt8) : (r.unreadByte b).flat = b :: r.flat := rfl

theorem unreadByte_inv (r : Rd) (b : UInt8) (hi : r.Inv) : (r.unreadByte b).Inv := by
  obtain ⟨h1, h2, h3⟩ := hi
  refine ⟨h1, ?_, h3⟩
  simp only [Rd.unreadByte, Rd.M, List.length_cons] at h2 ⊢
  omega

theorem decodeRespC_sim : ∀ (fuel depth : Nat) (r : Rd) (off : Nat), r.Inv →
    SimD (decodeRespC fuel depth r off) (decodeResp fuel depth r.flat off) := by
  intro fuel
  induction fuel with
  | zero => intro depth r off _; simp only [decodeRespC, decodeResp]; exact SimD.err _
  | succ fuel ih =>
    intro depth r off hi
    simp only [decodeRespC, decodeResp]
    rcases (decodeTypeC_sim r off hi).inv with ⟨e, hx, hy⟩ | ⟨t, o1, r1, hx, hy, hi1⟩
    · rw [hx, hy]; exact SimD.err _
    · rw [hx, hy]
      simp only
      by_cases h43 : t = 43
      · rw [if_pos h43, if_pos h43]
        rcases (decodeTextC_sim r1 o1 hi1).inv with ⟨e, hx2, hy2⟩ | ⟨v, o, r2, hx2, hy2, hi2⟩
        · rw [hx2, hy2]; exact SimD.err _
        · rw [hx2, hy2]; exact SimD.ok _ _ _ hi2
      · rw [if_neg h43, if_neg h43]
        by_cases h45 : t = 45
        · rw [if_pos h45, if_pos h45]
          rcases (decodeTextC_sim r1 o1 hi1).inv with ⟨e, hx2, hy2⟩ | ⟨v, o, r2, hx2, hy2, hi2⟩
          · rw [hx2, hy2]; exact SimD.err _
          · rw [hx2, hy2]; exact SimD.ok _ _ _ hi2
        · rw [if_neg h45, if_neg h45]
          by_cases h58 : t = 58
          · rw [if_pos h58, if_pos h58]
            rcases (decodeIntC_sim r1 o1 hi1).inv with ⟨e, hx2, hy2⟩ | ⟨v, o, r2, hx2, hy2, hi2⟩
            · rw [hx2, hy2]; exact SimD.err _
            · rw [hx2, hy2]; exact SimD.ok _ _ _ hi2
          · rw [if_neg h58, if_neg h58]
            by_cases h36 : t = 36
            · rw [if_pos h36, if_pos h36]
              rcases (decodeBulkC_sim r1 o1 hi1).inv with ⟨e, hx2, hy2⟩ | ⟨v, o, r2, hx2, hy2, hi2⟩
              · rw [hx2, hy2]; exact SimD.err _
              · rw [hx2, hy2]; exact SimD.ok _ _ _ hi2
            · rw [if_neg h36, if_neg h36]
              by_cases h42 : t = 42
              · rw [if_pos h42, if_pos h42]
                rcases (decodeIntC_sim r1 o1 hi1).inv with ⟨e, hx2, hy2⟩ | ⟨n, o, r2, hx2, hy2, hi2⟩
                · rw [hx2, hy2]; exact SimD.err _
                · rw [hx2, hy2]
                  simp only
                  by_cases hn1 : n < -1
                  · rw [if_pos hn1, if_pos hn1]; exact SimD.err _
                  · rw [if_neg hn1, if_neg hn1]
                    by_cases hn2 : n = -1
                    · rw [if_pos hn2, if_pos hn2]; exact SimD.ok _ _ _ hi2
                    · rw [if_neg hn2, if_neg hn2]
                      rcases (decodeElemsC_sim _ _ (ih (depth + 1)) n.toNat r2 o hi2).inv with
                        ⟨e, hx3, hy3⟩ | ⟨vs, o3, r3, hx3, hy3, hi3⟩
                      · rw [hx3, hy3]; exact SimD.err _
                      · rw [hx3, hy3]; exact SimD.ok _ _ _ hi3
              · rw [if_neg h42, if_neg h42]
                by_cases hd : depth ≠ 0
                · rw [if_pos hd, if_pos hd]; exact SimD.err _
                · rw [if_neg hd, if_neg hd, ← unreadByte_flat]
                  exact decodeInlineC_sim _ _ (unreadByte_inv _ _ hi1)

theorem decodeCmdC_sim (fuel : Nat) (r : Rd) (off : Nat) (hi : r.Inv) :
    SimD (decodeCmdC fuel r off) (decodeCmd fuel r.flat off) := by
  unfold decodeCmdC decodeCmd
  rcases (decodeRespC_sim fuel 0 r off hi).inv with ⟨e, hx, hy⟩ | ⟨v, o, r', hx, hy, hi'⟩
  · rw [hx, hy]; exact SimD.err _
  · rw [hx, hy]
    simp only
    cases parseArgs v with
    | none => exact SimD.err _
    | some na => obtain ⟨name, args⟩ := na; exact SimD.ok _ _ _ hi'

theorem decodeAllAuxC_eq (fuel start : Nat) : ∀ (k : Nat) (r : Rd) (off : Nat), r.Inv →
    ((decodeAllAuxC fuel start k r off).1, (decodeAllAuxC fuel start k r off).2.1) =
      decodeAllAux fuel start k r.flat off := by
  intro k
  induction k with
  | zero => intro r off _; rfl
  | succ k ih =>
    intro r off hi
    simp only [decodeAllAuxC, decodeAllAux]
    rcases (decodeCmdC_sim fuel r off hi).inv with ⟨e, hx, hy⟩ | ⟨c, o, r', hx, hy, hi'⟩
    · rw [hx, hy]
    · rw [hx, hy]
      simp only
      rw [← ih r' o hi']

/-- **any buffer size, any fragmentation, any kind of reader** (pieces may be empty = `0, nil` reads;
    `eofLast`: io.EOF comes together with the last bytes): the parser loop over the bufio model gives
    what the parser loop over the plain byte sequence gives -/
theorem decodeAllC_eq (start pre size : Nat) (chunks : List Bytes) (eofLast : Bool) :
    decodeAllC start pre size chunks eofLast = decodeAllFrom start pre chunks.flatten := by
  unfold decodeAllC decodeAllFrom
  have := decodeAllAuxC_eq (chunks.flatten.length + 1) start (chunks.flatten.length + 1)
    (Rd.new size chunks eofLast) pre (Rd.new_inv size chunks eofLast)
  rw [Rd.new_flat] at this
  rw [← this]

end GunYu.Resp
