/-
  C08 — what the size/CRC check of a segment file accepts, as an algebraic fact about
  the 16 header bytes: a file `hdr ++ data` passes iff header bytes 1..12 (CRC64, 8 bytes
  LE; data size, 4 bytes LE) are exactly those `closeAof` writes for `data`. Byte 0
  (version) and bytes 13..15 (reserved) are looked at by nobody.
-/
import GunYu.Proofs.StoreFs

namespace GunYu.StoreFs
open GunYu GunYu.Store

theorem ofLE_lt : ∀ (bs : Bytes), ofLE bs < 256 ^ bs.length := by
  intro bs
  induction bs with
  | nil => simp [ofLE]
  | cons b t ih =>
    simp only [ofLE, List.length_cons, Nat.pow_succ]
    have := b.toNat_lt
    omega

theorem leBytes_ofLE : ∀ (bs : Bytes), leBytes bs.length (ofLE bs) = bs := by
  intro bs
  induction bs with
  | nil => rfl
  | cons b t ih =>
    simp only [List.length_cons, leBytes, ofLE]
    have hb := b.toNat_lt
    have h1 : (b.toNat + 256 * ofLE t) % 256 = b.toNat := by omega
    have h2 : (b.toNat + 256 * ofLE t) / 256 = ofLE t := by omega
    rw [h1, h2, ih]
    simp

theorem leBytes_inj {k a b : Nat} (ha : a < 256 ^ k) (hb : b < 256 ^ k) (h : leBytes k a = leBytes k b) : a = b := by
  have := congrArg ofLE h
  rw [ofLE_leBytes, ofLE_leBytes, Nat.mod_eq_of_lt ha, Nat.mod_eq_of_lt hb] at this
  exact this

/-- header bytes 1..12: the recorded CRC64 and data size -/
def hdrFields (hdr : Bytes) : Bytes := (hdr.drop 1).take 12

theorem hdrFields_closed (data : Bytes) :
    hdrFields (closedHeader data) = leBytes 8 (crc64 data) ++ leBytes 4 (data.length % 4294967296) := by
  unfold hdrFields closedHeader
  simp only [List.drop_succ_cons, List.drop_zero]
  rw [List.take_append_of_le_length (by simp [leBytes_length])]
  rw [List.take_of_length_le (by simp [leBytes_length])]

theorem hdrFields_split (hdr : Bytes) :
    hdrFields hdr = (hdr.drop 1).take 8 ++ (hdr.drop 9).take 4 := by
  unfold hdrFields
  have : (12 : Nat) = 8 + 4 := rfl
  rw [this, List.take_add, List.drop_drop]

/-- **a file passes the check iff its header fields are those `closeAof` writes for its data** -/
theorem accepted_iff_consistent (hdr data : Bytes) (hl : hdr.length = headerSize) (h32 : data.length < 4294967296) :
    segVerifyOk (hdr ++ data) = true ↔ hdrFields hdr = hdrFields (closedHeader data) := by
  rw [segVerifyOk_hdr_data hdr data hl, hdrFields_closed, hdrFields_split hdr, Nat.mod_eq_of_lt h32]
  have hl16 : hdr.length = 16 := hl
  have hA : ((hdr.drop 1).take 8).length = 8 := by simp [List.length_take]; omega
  have hB : ((hdr.drop 9).take 4).length = 4 := by simp [List.length_take, List.length_drop]; omega
  simp only [Bool.and_eq_true, beq_iff_eq]
  constructor
  · rintro ⟨h1, h2⟩
    have eA := leBytes_ofLE ((hdr.drop 1).take 8)
    have eB := leBytes_ofLE ((hdr.drop 9).take 4)
    rw [hA, h2] at eA
    rw [hB, h1] at eB
    rw [eA, eB]
  · intro h
    obtain ⟨e1, e2⟩ := List.append_inj h (by rw [hA, leBytes_length])
    constructor
    · rw [e2, ofLE_leBytes]; exact Nat.mod_eq_of_lt (by omega)
    · rw [e1, ofLE_leBytes]; exact Nat.mod_eq_of_lt (crc64_lt data)

/-- the version byte and the reserved bytes are read by nobody: two headers with the same
    bytes 1..12 give the same verdict -/
theorem version_reserved_ignored (hdr hdr' data : Bytes) (hl : hdr.length = headerSize) (hl' : hdr'.length = headerSize)
    (h : hdrFields hdr = hdrFields hdr') : segVerifyOk (hdr ++ data) = segVerifyOk (hdr' ++ data) := by
  rw [segVerifyOk_hdr_data hdr data hl, segVerifyOk_hdr_data hdr' data hl']
  rw [hdrFields_split hdr, hdrFields_split hdr'] at h
  have hl16 : hdr.length = 16 := hl
  have hl16' : hdr'.length = 16 := hl'
  obtain ⟨e1, e2⟩ := List.append_inj h (by simp [List.length_take]; omega)
  rw [e1, e2]

/-- **every accepted file that differs from the one `closeAof` wrote**: if its data is the
    same, only the version / reserved bytes differ; if its data differs, then either size
    and CRC64 of the new data coincide with the old ones (a collision) or header bytes 1..12
    were rewritten as well — to exactly the fields of the new data (a consistent
    replacement: inherent, the file carries no secret) -/
theorem accepted_alteration_cases (data hdr' data' : Bytes) (hl' : hdr'.length = headerSize)
    (h32 : data.length < 4294967296) (h32' : data'.length < 4294967296)
    (hacc : segVerifyOk (hdr' ++ data') = true) :
    hdrFields hdr' = hdrFields (closedHeader data') ∧
    (data' = data → hdrFields hdr' = hdrFields (closedHeader data)) ∧
    (data' ≠ data → (data'.length = data.length ∧ crc64 data' = crc64 data) ∨
      hdrFields hdr' ≠ hdrFields (closedHeader data)) := by
  have hc := (accepted_iff_consistent hdr' data' hl' h32').mp hacc
  refine ⟨hc, fun e => by rw [hc, e], fun _ => ?_⟩
  by_cases hm : hdrFields hdr' = hdrFields (closedHeader data)
  · left
    rw [hc, hdrFields_closed, hdrFields_closed, Nat.mod_eq_of_lt h32, Nat.mod_eq_of_lt h32'] at hm
    obtain ⟨e1, e2⟩ := List.append_inj hm (by rw [leBytes_length, leBytes_length])
    exact ⟨leBytes_inj (by omega) (by omega) e2, leBytes_inj (crc64_lt _) (crc64_lt _) e1⟩
  · right; exact hm

end GunYu.StoreFs
