/-
  EVERY fair schedule drains.

  `drain_reaches` (Proofs/BisyncDrain.lean) is an existence statement. Here the
  drain is characterised exactly: `needOf w s` is the number of steps link `s`
  still has to take before it is past its last pending client block, a step of
  link `s` lowers ITS count by one (or to 0 when the builder stops it) and
  leaves the other link's count alone (`link_step_needOf`). Hence

  * over ANY sequence of link steps the count of each link is at most what it
    was minus the number of steps that link took (`needOf_run_le`);
  * any finite schedule in which each link takes at least `needOf w s` steps
    ends with both links settled (`enough_steps_settle`);
  * for an INFINITE schedule `Nat → SiteId × CommitArg` that lets each link step
    again and again (`Fair`), from some index on every prefix leaves both links
    settled, and extending the prefix changes neither stream, nor the commit
    log, nor the emitted units (`fair_schedule_drains`).
-/
import GunYu.Proofs.BisyncDrain

namespace GunYu.Bisync
open GunYu GunYu.BisyncUnit

/-- how many steps link `s` takes in a list of events -/
def stepsOf (s : SiteId) : List Ev → Nat
  | [] => 0
  | .link src _ :: es => (if src = s then 1 else 0) + stepsOf s es
  | _ :: es => stepsOf s es

theorem stepsOf_append (s : SiteId) (l t : List Ev) : stepsOf s (l ++ t) = stepsOf s l + stepsOf s t := by
  induction l with
  | nil => simp [stepsOf]
  | cons e es ih =>
    cases e <;> simp only [List.cons_append, stepsOf, ih] <;> omega

theorem runWorld_append (cfg : WCfg) (w : World) (l t : List Ev) :
    runWorld cfg w (l ++ t) = runWorld cfg (runWorld cfg w l) t := by
  induction l generalizing w with
  | nil => rfl
  | cons e es ih => exact ih _

theorem run_links_inv (cfg : WCfg) (hf : FOK cfg.parser.filter) (more : List Ev) (w : World) (hinv : WInv cfg w)
    (hl : ∀ e ∈ more, e.isLink) : WInv cfg (runWorld cfg w more) := by
  induction more generalizing w with
  | nil => exact hinv
  | cons e es ih =>
    obtain ⟨src, arg, rfl⟩ := (hl e (List.mem_cons_self ..)).exists
    exact ih _ (step_link cfg hf w hinv src arg) (fun e' he' => hl e' (List.mem_cons_of_mem _ he'))

/-- **Over ANY sequence of link steps** each link's remaining work is at most
    what it was minus the number of steps that link took. -/
theorem needOf_run_le (cfg : WCfg) (hf : FOK cfg.parser.filter) (more : List Ev) (w : World) (hinv : WInv cfg w)
    (hl : ∀ e ∈ more, e.isLink) (s : SiteId) :
    needOf (runWorld cfg w more) s ≤ needOf w s - stepsOf s more := by
  induction more generalizing w with
  | nil => exact Nat.le_refl _
  | cons e es ih =>
    obtain ⟨src, arg, rfl⟩ := (hl e (List.mem_cons_self ..)).exists
    have h := ih _ (step_link cfg hf w hinv src arg) (fun e' he' => hl e' (List.mem_cons_of_mem _ he'))
    obtain ⟨h1, h2⟩ := link_step_needOf cfg hf w hinv src arg
    show needOf (runWorld cfg (stepWorld cfg w (.link src arg)) es) s ≤
      needOf w s - ((if src = s then 1 else 0) + stepsOf s es)
    rcases eq_or_other src s with rfl | rfl
    · rw [if_pos rfl, ← Nat.sub_sub]
      exact Nat.le_trans h (Nat.sub_le_sub_right h1 _)
    · rw [if_neg (other_ne src).symm, Nat.zero_add, ← h2]
      exact h

/-- any finite schedule of link steps in which each link takes at least its
    remaining work ends with both links settled -/
theorem enough_steps_settle (cfg : WCfg) (hf : FOK cfg.parser.filter) (more : List Ev) (w : World) (hinv : WInv cfg w)
    (hl : ∀ e ∈ more, e.isLink) (hen : ∀ s, needOf w s ≤ stepsOf s more) :
    ∀ s, Settled (runWorld cfg w more) s := by
  intro s
  apply settled_of_needOf
  have := needOf_run_le cfg hf more w hinv hl s
  have := hen s
  omega

/-! ### infinite schedules -/

/-- the first `n` steps of an infinite schedule of link steps -/
def schedPrefix (sched : Nat → SiteId × CommitArg) : Nat → List Ev
  | 0 => []
  | n + 1 => schedPrefix sched n ++ [.link (sched n).1 (sched n).2]

/-- the schedule lets each link step again and again -/
def Fair (sched : Nat → SiteId × CommitArg) : Prop := ∀ s n, ∃ m, n ≤ m ∧ (sched m).1 = s

theorem schedPrefix_add (sched : Nat → SiteId × CommitArg) (n d : Nat) :
    ∃ rest, (∀ e ∈ rest, e.isLink) ∧ schedPrefix sched (n + d) = schedPrefix sched n ++ rest := by
  induction d with
  | zero => exact ⟨[], (fun _ h => nomatch h), (List.append_nil _).symm⟩
  | succ d ih =>
    obtain ⟨rest, hr, he⟩ := ih
    refine ⟨rest ++ [.link (sched (n + d)).1 (sched (n + d)).2], fun e hmem => ?_, ?_⟩
    · rcases List.mem_append.mp hmem with h | h
      · exact hr e h
      · rw [List.mem_singleton.mp h]; trivial
    · show schedPrefix sched (n + d) ++ _ = _
      rw [he, List.append_assoc]
      rfl

theorem schedPrefix_links (sched : Nat → SiteId × CommitArg) (n : Nat) : ∀ e ∈ schedPrefix sched n, e.isLink := by
  obtain ⟨rest, hr, he⟩ := schedPrefix_add sched 0 n
  rw [Nat.zero_add] at he
  exact he ▸ hr

theorem stepsOf_prefix_mono (sched : Nat → SiteId × CommitArg) (s : SiteId) (n m : Nat) (h : n ≤ m) :
    stepsOf s (schedPrefix sched n) ≤ stepsOf s (schedPrefix sched m) := by
  obtain ⟨rest, _, he⟩ := schedPrefix_add sched n (m - n)
  rw [Nat.add_sub_cancel' h] at he
  rw [he, stepsOf_append]
  exact Nat.le_add_right _ _

theorem fair_steps (sched : Nat → SiteId × CommitArg) (hfair : Fair sched) (s : SiteId) (k : Nat) :
    ∃ N, k ≤ stepsOf s (schedPrefix sched N) := by
  induction k with
  | zero => exact ⟨0, Nat.zero_le _⟩
  | succ k ih =>
    obtain ⟨N, hN⟩ := ih
    obtain ⟨m, hm, hs⟩ := hfair s N
    refine ⟨m + 1, ?_⟩
    have hmono := stepsOf_prefix_mono sched s N m hm
    show _ ≤ stepsOf s (schedPrefix sched m ++ [.link (sched m).1 (sched m).2])
    rw [stepsOf_append]
    show _ ≤ _ + ((if (sched m).1 = s then 1 else 0) + 0)
    rw [if_pos hs]; omega

/-- **Every fair schedule drains.** From a world satisfying the invariant, along
    ANY infinite schedule of link steps that lets each link step again and again
    (any commit arguments at each step), there is an index from which on every
    prefix of the schedule leaves both links settled; and from that index on
    extending the prefix changes neither stream, nor the commit log, nor the
    units emitted. -/
theorem fair_schedule_drains (cfg : WCfg) (hf : FOK cfg.parser.filter) (w : World) (hinv : WInv cfg w)
    (sched : Nat → SiteId × CommitArg) (hfair : Fair sched) :
    ∃ N, ∀ n, N ≤ n →
      (∀ s, Settled (runWorld cfg w (schedPrefix sched n)) s) ∧
      (runWorld cfg w (schedPrefix sched n)).a.stream = (runWorld cfg w (schedPrefix sched N)).a.stream ∧
      (runWorld cfg w (schedPrefix sched n)).b.stream = (runWorld cfg w (schedPrefix sched N)).b.stream ∧
      (runWorld cfg w (schedPrefix sched n)).commits = (runWorld cfg w (schedPrefix sched N)).commits ∧
      ∀ s, ((runWorld cfg w (schedPrefix sched n)).link s).emitted = ((runWorld cfg w (schedPrefix sched N)).link s).emitted := by
  obtain ⟨Na, hNa⟩ := fair_steps sched hfair .A (needOf w .A)
  obtain ⟨Nb, hNb⟩ := fair_steps sched hfair .B (needOf w .B)
  have hsettle : ∀ n, max Na Nb ≤ n → ∀ s, Settled (runWorld cfg w (schedPrefix sched n)) s := by
    intro n hn
    apply enough_steps_settle cfg hf _ w hinv (schedPrefix_links sched n)
    intro s
    cases s
    · exact Nat.le_trans hNa (stepsOf_prefix_mono sched .A Na n (by omega))
    · exact Nat.le_trans hNb (stepsOf_prefix_mono sched .B Nb n (by omega))
  refine ⟨max Na Nb, ?_⟩
  intro n hn
  refine ⟨hsettle n hn, ?_⟩
  obtain ⟨rest, hr, he⟩ := schedPrefix_add sched (max Na Nb) (n - max Na Nb)
  rw [Nat.add_sub_cancel' hn] at he
  rw [he, runWorld_append]
  exact quiesce_settled cfg hf rest _ (run_links_inv cfg hf _ w hinv (schedPrefix_links sched _))
    (hsettle _ (Nat.le_refl _)) hr

end GunYu.Bisync
