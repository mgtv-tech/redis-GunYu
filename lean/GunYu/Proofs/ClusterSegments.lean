/-
  The segment automaton of Model/ClusterSegments.lean: the position arithmetic and the effective
  stream (`SInv`), downward closure of what was executed, the per-group log that never skips
  (`KInv`), all by induction over `run` through the inversion lemmas of `step`.
-/
import GunYu.Model.ClusterSegments
namespace GunYu.ClusterSegments

theorem mem_keepLast (i : Nat) : ∀ l : List Nat, i ∈ keepLast l ↔ i ∈ l := by
  intro l
  induction l with
  | nil => exact Iff.rfl
  | cons x xs ih =>
    unfold keepLast
    by_cases hx : x ∈ xs
    · rw [if_pos hx, ih, List.mem_cons]
      exact ⟨.inr, fun h => h.elim (fun h => h ▸ hx) id⟩
    · rw [if_neg hx, List.mem_cons, List.mem_cons, ih]

theorem keepLast_of_nodup : ∀ l : List Nat, l.Nodup → keepLast l = l := by
  intro l
  induction l with
  | nil => intro _; rfl
  | cons x xs ih =>
    intro h
    rw [List.nodup_cons] at h
    rw [keepLast, if_neg h.1, ih h.2]

theorem keepLast_append (app : List Nat) (happ : app.Nodup) : ∀ l : List Nat,
    keepLast (l ++ app) = (keepLast l).filter (fun i => decide (i ∉ app)) ++ app := by
  intro l
  induction l with
  | nil => exact (keepLast_of_nodup app happ).trans (List.nil_append _).symm
  | cons x xs ih =>
    have hm : x ∈ xs ++ app ↔ x ∈ xs ∨ x ∈ app := List.mem_append
    by_cases hxs : x ∈ xs
    · rw [List.cons_append, keepLast, if_pos (hm.mpr (.inl hxs)), ih, keepLast, if_pos hxs]
    · by_cases hxa : x ∈ app
      · rw [List.cons_append, keepLast, if_pos (hm.mpr (.inr hxa)), ih, keepLast, if_neg hxs,
          List.filter_cons_of_neg (by simpa using hxa)]
      · rw [List.cons_append, keepLast, if_neg (fun h => (hm.mp h).elim hxs hxa), ih, keepLast, if_neg hxs,
          List.filter_cons_of_pos (by simpa using hxa), List.cons_append]

theorem rng_mem {p q i : Nat} : i ∈ rng p q ↔ p ≤ i ∧ i < q := by
  unfold rng
  rw [List.mem_range'_1]
  omega

theorem range_split (p q : Nat) (h : p ≤ q) : List.range q = List.range p ++ rng p q := by
  unfold rng
  rw [List.range_eq_range', List.range_eq_range']
  have : q = p + (q - p) := by omega
  conv => lhs; rw [this]
  rw [← List.range'_append_1]
  simp

variable (n : Nat) (grp : Nat → Nat)

theorem rng_filter_sorted (p q g : Nat) :
    ((rng p q).filter (fun j => grp j == g)).Pairwise (· < ·) :=
  List.Pairwise.filter _ List.pairwise_lt_range'

theorem step_ok_some {s s' : Tgt} {q : Nat} {app : List Nat} {st : Bool}
    (h : step n grp s (.batch q (.ok app st)) = some s') :
    s.cur ≤ q ∧ q ≤ n ∧ AppOK s.cur q app ∧ Complete grp s.cur q app ∧
    s' = { log := s.log ++ app, cur := q, acked := max s.acked q, stored := if st then q else s.stored } := by
  simp only [step, Option.ite_none_right_eq_some, Option.some.injEq] at h
  exact ⟨h.1.1, h.1.2.1, h.1.2.2.1, h.1.2.2.2, h.2.symm⟩

theorem step_cut_some {s s' : Tgt} {q : Nat} {app : List Nat} {st : Bool}
    (h : step n grp s (.batch q (.cut app st)) = some s') :
    s.cur ≤ q ∧ q ≤ n ∧ AppOK s.cur q app ∧
    s' = { s with log := s.log ++ app, stored := if st then q else s.stored } := by
  simp only [step, Option.ite_none_right_eq_some, Option.some.injEq] at h
  exact ⟨h.1.1, h.1.2.1, h.1.2.2, h.2.symm⟩

theorem run_cons {s s' : Tgt} {e : Ev} {es : List Ev} (h : run n grp s (e :: es) = some s') :
    ∃ s1, step n grp s e = some s1 ∧ run n grp s1 es = some s' := by
  unfold run at h
  cases hs : step n grp s e with
  | none => rw [hs] at h; exact nomatch h
  | some s1 => rw [hs] at h; exact ⟨s1, rfl, h⟩

theorem run_append : ∀ (a b : List Ev) (s : Tgt),
    run n grp s (a ++ b) = (run n grp s a).bind (fun s1 => run n grp s1 b) := by
  intro a
  induction a with
  | nil => intro b s; rfl
  | cons e es ih =>
    intro b s
    simp only [List.cons_append, run]
    cases step n grp s e with
    | none => rfl
    | some s1 => exact ih b s1

theorem complete_mem {p q : Nat} {app : List Nat} (hc : Complete grp p q app) {i : Nat}
    (hi : i ∈ rng p q) : i ∈ app := by
  have : i ∈ (rng p q).filter (fun j => grp j == grp i) := List.mem_filter.mpr ⟨hi, beq_self_eq_true _⟩
  rw [← hc i hi] at this
  exact (List.mem_filter.mp this).1

theorem filter_nil_of_no_group {p q : Nat} {app : List Nat} (ha : AppOK p q app) {g : Nat}
    (h : ¬ ∃ i ∈ rng p q, grp i = g) : app.filter (fun j => grp j == g) = [] :=
  List.filter_eq_nil_iff.mpr fun j hj hg => h ⟨j, rng_mem.mpr (ha.2 j hj), by simpa using hg⟩

theorem complete_all_groups {p q : Nat} {app : List Nat} (ha : AppOK p q app)
    (hc : Complete grp p q app) (g : Nat) :
    app.filter (fun j => grp j == g) = (rng p q).filter (fun j => grp j == g) := by
  by_cases h : ∃ i ∈ rng p q, grp i = g
  · obtain ⟨i, hi, rfl⟩ := h
    exact hc i hi
  · rw [filter_nil_of_no_group grp ha h]
    exact (List.filter_eq_nil_iff.mpr fun j hj hg => h ⟨j, hj, by simpa using hg⟩).symm

theorem group_prefix_all {p q : Nat} {app : List Nat} (ha : AppOK p q app)
    (hp : PrefixCut grp p q app) (g : Nat) :
    app.filter (fun j => grp j == g) <+: (rng p q).filter (fun j => grp j == g) := by
  by_cases h : ∃ i ∈ rng p q, grp i = g
  · obtain ⟨i, hi, rfl⟩ := h
    exact hp i hi
  · rw [filter_nil_of_no_group grp ha h]
    exact List.nil_prefix

/-- the effective stream of group `g` below position `c` -/
def effBelow (l : List Nat) (c g : Nat) : List Nat :=
  (keepLast l).filter (fun i => decide (i < c) && (grp i == g))

/-- the specification stream of group `g` below position `c` -/
def specBelow (c g : Nat) : List Nat := (List.range c).filter (fun i => grp i == g)

structure SInv (s : Tgt) : Prop where
  le1 : s.stored ≤ s.cur
  le2 : s.cur ≤ s.acked
  le3 : s.acked ≤ n
  inlog : ∀ i, i < s.acked → i ∈ s.log
  bound : ∀ i ∈ s.log, i < n
  eff : ∀ g, effBelow grp s.log s.cur g = specBelow grp s.cur g

theorem SInv_init : SInv n grp {} :=
  ⟨Nat.le_refl _, Nat.le_refl _, Nat.zero_le _, fun _ h => absurd h (Nat.not_lt_zero _),
    fun _ h => (nomatch h), fun _ => rfl⟩

theorem specBelow_split (p q g : Nat) (h : p ≤ q) :
    specBelow grp q g = specBelow grp p g ++ (rng p q).filter (fun i => grp i == g) := by
  unfold specBelow
  rw [range_split p q h, List.filter_append]

theorem effBelow_mono (l : List Nat) (c c' g : Nat) (h : c' ≤ c)
    (he : effBelow grp l c g = specBelow grp c g) : effBelow grp l c' g = specBelow grp c' g := by
  have h1 : effBelow grp l c' g = (effBelow grp l c g).filter (fun i => decide (i < c')) := by
    unfold effBelow
    rw [List.filter_filter]
    apply List.filter_congr
    intro i _
    by_cases h1 : i < c'
    · have h2 : i < c := Nat.lt_of_lt_of_le h1 h
      simp [h1, h2]
    · simp [h1]
  have h2 : specBelow grp c' g = (specBelow grp c g).filter (fun i => decide (i < c')) := by
    rw [specBelow_split grp c' c g h, List.filter_append]
    have e1 : (specBelow grp c' g).filter (fun i => decide (i < c')) = specBelow grp c' g :=
      List.filter_eq_self.mpr fun i hi => by simpa using List.mem_range.mp (List.mem_filter.mp hi).1
    have e2 : ((rng c' c).filter (fun i => grp i == g)).filter (fun i => decide (i < c')) = [] :=
      List.filter_eq_nil_iff.mpr fun i hi => by
        have := (rng_mem.mp (List.mem_filter.mp hi).1).1
        simp; omega
    rw [e1, e2, List.append_nil]
  rw [h1, h2, he]

theorem effBelow_append_above (l app : List Nat) (happ : app.Nodup) (c g : Nat)
    (hlo : ∀ i ∈ app, c ≤ i) : effBelow grp (l ++ app) c g = effBelow grp l c g := by
  unfold effBelow
  rw [keepLast_append app happ, List.filter_append, List.filter_filter]
  have e2 : app.filter (fun i => decide (i < c) && (grp i == g)) = [] :=
    List.filter_eq_nil_iff.mpr fun i hi => by have := hlo i hi; simp; omega
  rw [e2, List.append_nil]
  apply List.filter_congr
  intro i _
  by_cases h1 : i < c
  · have : i ∉ app := fun h => Nat.not_lt.mpr (hlo i h) h1
    simp [h1, this]
  · simp [h1]

theorem effBelow_append_complete {p q : Nat} {app : List Nat} (hpq : p ≤ q) (ha : AppOK p q app)
    (hc : Complete grp p q app) (l : List Nat) (g : Nat) :
    effBelow grp (l ++ app) q g = effBelow grp l p g ++ (rng p q).filter (fun i => grp i == g) := by
  unfold effBelow
  rw [keepLast_append app ha.1, List.filter_append, List.filter_filter,
    ← complete_all_groups grp ha hc g]
  congr 1
  · apply List.filter_congr
    intro i _
    by_cases h1 : i < p
    · have : i ∉ app := fun h => Nat.not_lt.mpr (ha.2 i h).1 h1
      have h2 : i < q := Nat.lt_of_lt_of_le h1 hpq
      simp [h1, h2, this]
    · by_cases h2 : i < q
      · have : i ∈ app := complete_mem grp hc (rng_mem.mpr ⟨Nat.le_of_not_lt h1, h2⟩)
        simp [h1, this]
      · simp [h1, h2]
  · apply List.filter_congr
    intro i hia
    have := (ha.2 i hia).2
    simp [this]

theorem SInv_step {s s' : Tgt} {e : Ev} (hi : SInv n grp s)
    (hd : cutStoresNothing e)
    (h : step n grp s e = some s') :
    SInv n grp s' := by
  have hbound : ∀ {q app}, q ≤ n → AppOK s.cur q app → ∀ i ∈ s.log ++ app, i < n := fun hqn ha i hia =>
    (List.mem_append.mp hia).elim (hi.bound i) fun h => Nat.lt_of_lt_of_le (ha.2 i h).2 hqn
  cases e with
  | start =>
    cases h
    exact { hi with le1 := Nat.le_refl _, le2 := Nat.le_trans hi.le1 hi.le2,
                    eff := fun g => effBelow_mono grp s.log s.cur s.stored g hi.le1 (hi.eff g) }
  | batch q o =>
    cases o with
    | ok app store =>
      obtain ⟨hlt, hqn, happ, hcomp, rfl⟩ := step_ok_some n grp h
      refine ⟨?_, Nat.le_max_right _ _, Nat.max_le.mpr ⟨hi.le3, hqn⟩, ?_, hbound hqn happ, ?_⟩
      · show (if store = true then q else s.stored) ≤ q
        split
        · exact Nat.le_refl _
        · exact Nat.le_trans hi.le1 hlt
      · intro i hia
        by_cases h1 : i < s.acked
        · exact List.mem_append_left _ (hi.inlog i h1)
        · have h2 : i < q := by have : i < max s.acked q := hia; omega
          by_cases h3 : i < s.cur
          · exact List.mem_append_left _ (hi.inlog i (Nat.lt_of_lt_of_le h3 hi.le2))
          · exact List.mem_append_right _ (complete_mem grp hcomp (rng_mem.mpr ⟨Nat.le_of_not_lt h3, h2⟩))
      · intro g
        show effBelow grp (s.log ++ app) q g = specBelow grp q g
        rw [effBelow_append_complete grp hlt happ hcomp, hi.eff g, ← specBelow_split grp s.cur q g hlt]
    | cut app st =>
      obtain ⟨hlt, hqn, happ, rfl⟩ := step_cut_some n grp h
      cases (hd : st = false)
      refine { hi with inlog := fun i hia => List.mem_append_left _ (hi.inlog i hia), bound := hbound hqn happ,
                       eff := fun g => ?_ }
      show effBelow grp (s.log ++ app) s.cur g = specBelow grp s.cur g
      rw [effBelow_append_above grp s.log app happ.1 s.cur g (fun i hia => (happ.2 i hia).1)]
      exact hi.eff g

theorem Disciplined_head {e : Ev} {es : List Ev} (hd : Disciplined (e :: es)) :
    cutStoresNothing e ∧ Disciplined es :=
  ⟨hd e (List.mem_cons_self ..), fun x hx => hd x (List.mem_cons_of_mem _ hx)⟩

theorem step_batch {s s' : Tgt} {q : Nat} {o : Outcome} (h : step n grp s (.batch q o) = some s') :
    ∃ app st, s.cur ≤ q ∧ AppOK s.cur q app ∧ s'.log = s.log ++ app ∧
      s'.stored = (if st = true then q else s.stored) ∧
      ((o = .ok app st ∧ Complete grp s.cur q app ∧ s'.cur = q) ∨ (o = .cut app st ∧ s'.cur = s.cur)) := by
  cases o with
  | ok app st =>
    obtain ⟨h1, _, h3, h4, rfl⟩ := step_ok_some n grp h
    exact ⟨app, st, h1, h3, rfl, rfl, .inl ⟨rfl, h4, rfl⟩⟩
  | cut app st =>
    obtain ⟨h1, _, h3, rfl⟩ := step_cut_some n grp h
    exact ⟨app, st, h1, h3, rfl, rfl, .inr ⟨rfl, rfl⟩⟩

theorem stored_mono_step {s s' : Tgt} {e : Ev} (hi : SInv n grp s) (h : step n grp s e = some s') :
    s.stored ≤ s'.stored := by
  cases e with
  | start => cases h; exact Nat.le_refl _
  | batch q o =>
    obtain ⟨app, st, hq, _, _, hst, _⟩ := step_batch n grp h
    rw [hst]
    split
    · exact Nat.le_trans hi.le1 hq
    · exact Nat.le_refl _

theorem SInv_run : ∀ (evs : List Ev) (s s' : Tgt), SInv n grp s → Disciplined evs →
    run n grp s evs = some s' → SInv n grp s' ∧ s.stored ≤ s'.stored := by
  intro evs
  induction evs with
  | nil => intro s s' hi _ h; cases h; exact ⟨hi, Nat.le_refl _⟩
  | cons e es ih =>
    intro s s' hi hd h
    obtain ⟨s1, hs1, h⟩ := run_cons n grp h
    obtain ⟨h1, h2⟩ := ih s1 s' (SInv_step n grp hi (Disciplined_head hd).1 hs1) (Disciplined_head hd).2 h
    exact ⟨h1, Nat.le_trans (stored_mono_step n grp hi hs1) h2⟩

/-- a batch only ever executes commands at or above the stored position: what has been
    acknowledged AND stored is never executed again -/
theorem batch_above_stored {s s' : Tgt} {q : Nat} {o : Outcome} (hi : SInv n grp s)
    (h : step n grp s (.batch q o) = some s') :
    ∃ app, s'.log = s.log ++ app ∧ ∀ i ∈ app, s.stored ≤ i := by
  obtain ⟨app, _, _, ha, hlog, _⟩ := step_batch n grp h
  exact ⟨app, hlog, fun i hia => Nat.le_trans hi.le1 (ha.2 i hia).1⟩

/-- every cut batch of the run executed, per group, a prefix of its part (fault model:
    redirect of a slot, loss of a connection, close) -/
def PrefixRun : Tgt → List Ev → Prop
  | _, [] => True
  | s, e :: es =>
    (match e with
     | .batch q (.cut app _) => PrefixCut grp s.cur q app
     | _ => True) ∧ ∀ s', step n grp s e = some s' → PrefixRun s' es

/-- per group, what has been executed is downward closed -/
def DownClosed (l : List Nat) : Prop := ∀ i ∈ l, ∀ j, j < i → grp j = grp i → j ∈ l

theorem DownClosed_nil : DownClosed grp [] := fun _ h => (nomatch h)

theorem step_batch_prefix {s s' : Tgt} {q : Nat} {o : Outcome}
    (hp : match Ev.batch q o with | .batch q (.cut app _) => PrefixCut grp s.cur q app | _ => True)
    (h : step n grp s (.batch q o) = some s') :
    ∃ app, s'.log = s.log ++ app ∧ AppOK s.cur q app ∧
      (∀ g, app.filter (fun j => grp j == g) <+: (rng s.cur q).filter (fun j => grp j == g)) ∧
      ∀ z, s.cur ≤ z → z < s'.cur → z ∈ app := by
  obtain ⟨app, st, _, ha, hlog, _, h⟩ := step_batch n grp h
  refine ⟨app, hlog, ha, ?_⟩
  rcases h with ⟨rfl, hc, hcur⟩ | ⟨rfl, hcur⟩
  · exact ⟨group_prefix_all grp ha (fun i hi => hc i hi ▸ List.prefix_refl _),
      fun z h1 h2 => complete_mem grp hc (rng_mem.mpr ⟨h1, hcur ▸ h2⟩)⟩
  · exact ⟨group_prefix_all grp ha hp, fun z h1 h2 => absurd (hcur ▸ h2) (Nat.not_lt.mpr h1)⟩

theorem prefix_sorted_down {l pre : List Nat} (hs : l.Pairwise (· < ·)) (hp : pre <+: l)
    {i j : Nat} (hi : i ∈ pre) (hj : j ∈ l) (hlt : j < i) : j ∈ pre := by
  obtain ⟨rest, rfl⟩ := hp
  rcases List.mem_append.mp hj with h | h
  · exact h
  · exact absurd hlt (Nat.lt_asymm ((List.pairwise_append.mp hs).2.2 i hi j h))

theorem DownClosed_step {s s' : Tgt} {e : Ev} (hi : SInv n grp s) (hd : DownClosed grp s.log)
    (hp : match e with | .batch q (.cut app _) => PrefixCut grp s.cur q app | _ => True)
    (h : step n grp s e = some s') : DownClosed grp s'.log := by
  cases e with
  | start => cases h; exact hd
  | batch q o =>
    obtain ⟨app, hlog, happ, hpre, _⟩ := step_batch_prefix n grp hp h
    rw [hlog]
    intro i hia j hji hg
    rcases List.mem_append.mp hia with h | h
    · exact List.mem_append_left _ (hd i h j hji hg)
    · -- `i` was executed by this batch: a smaller `j` of its group is acknowledged, or in the same prefix
      by_cases hjc : j < s.cur
      · exact List.mem_append_left _ (hi.inlog j (Nat.lt_of_lt_of_le hjc hi.le2))
      · have hib := happ.2 i h
        have h1 : i ∈ app.filter (fun x => grp x == grp i) := List.mem_filter.mpr ⟨h, beq_self_eq_true _⟩
        have h2 : j ∈ (rng s.cur q).filter (fun x => grp x == grp i) :=
          List.mem_filter.mpr ⟨rng_mem.mpr ⟨Nat.le_of_not_lt hjc, Nat.lt_trans hji hib.2⟩, by simp [hg]⟩
        exact List.mem_append_right _ (List.mem_filter.mp
          (prefix_sorted_down (rng_filter_sorted grp s.cur q (grp i)) (hpre (grp i)) h1 h2 hji)).1

/-- no replay (no new segment, no cut batch) ⇒ nothing is executed twice -/
def OnlyAcked (evs : List Ev) : Prop := ∀ e ∈ evs, ∃ q app st, e = .batch q (.ok app st)

theorem no_replay_nodup : ∀ (evs : List Ev) (s s' : Tgt), s.log.Nodup → (∀ i ∈ s.log, i < s.cur) →
    OnlyAcked evs → run n grp s evs = some s' → s'.log.Nodup ∧ ∀ i ∈ s'.log, i < s'.cur := by
  intro evs
  induction evs with
  | nil => intro s s' h1 h2 _ h; cases h; exact ⟨h1, h2⟩
  | cons e es ih =>
    intro s s' h1 h2 ho h
    obtain ⟨s1, hs1, h⟩ := run_cons n grp h
    obtain ⟨q, app, st, rfl⟩ := ho e (List.mem_cons_self ..)
    obtain ⟨hlt, _, happ, _, rfl⟩ := step_ok_some n grp hs1
    refine ih _ s' ?_ ?_ (fun e he => ho e (List.mem_cons_of_mem _ he)) h
    · -- the old log lies below `cur`, the batch at or above it
      refine List.nodup_append.mpr ⟨h1, happ.1, fun a ha b hb hab => ?_⟩
      have := h2 a ha
      have := (happ.2 b hb).1
      omega
    · intro i hia
      show i < q
      rcases List.mem_append.mp hia with h | h
      · exact Nat.lt_of_lt_of_le (h2 i h) hlt
      · exact (happ.2 i h).2

instance (p q : Nat) (app : List Nat) : Decidable (PrefixCut grp p q app) := by
  unfold PrefixCut; infer_instance

/-- decidable form of `PrefixRun` -/
def prefixRunB : Tgt → List Ev → Bool
  | _, [] => true
  | s, e :: es =>
    (match e with
     | .batch q (.cut app _) => decide (PrefixCut grp s.cur q app)
     | _ => true) &&
    (match step n grp s e with
     | some s' => prefixRunB s' es
     | none => true)

theorem prefixRun_of_B : ∀ (evs : List Ev) (s : Tgt), prefixRunB n grp s evs = true →
    PrefixRun n grp s evs := by
  intro evs
  induction evs with
  | nil => intro s _; trivial
  | cons e es ih =>
    intro s h
    simp only [prefixRunB, Bool.and_eq_true] at h
    refine ⟨?_, fun s' hs' => ih s' (by simpa only [hs'] using h.2)⟩
    cases e with
    | start => trivial
    | batch q o =>
      cases o with
      | ok app st => trivial
      | cut app st => exact of_decide_eq_true h.1

/-- every two adjacent elements are related -/
def Adj (R : Nat → Nat → Prop) : List Nat → Prop
  | [] => True
  | [_] => True
  | x :: y :: t => R x y ∧ Adj R (y :: t)

theorem adj_append {R : Nat → Nat → Prop} : ∀ (l1 l2 : List Nat), Adj R l1 → Adj R l2 →
    (∀ x y, l1.getLast? = some x → l2.head? = some y → R x y) → Adj R (l1 ++ l2) := by
  intro l1
  induction l1 with
  | nil => intro l2 _ h2 _; exact h2
  | cons a t ih =>
    intro l2 h1 h2 hj
    cases t with
    | nil =>
      cases l2 with
      | nil => trivial
      | cons y t2 => exact ⟨hj a y rfl rfl, h2⟩
    | cons b t' =>
      exact ⟨h1.1, ih l2 h1.2 h2 fun x y hx hy => hj x y (by rw [List.getLast?_cons_cons]; exact hx) hy⟩

theorem adj_prefix {R : Nat → Nat → Prop} : ∀ (l pre : List Nat), Adj R l → pre <+: l → Adj R pre := by
  intro l
  induction l with
  | nil => intro pre _ hp; cases List.prefix_nil.mp hp; trivial
  | cons a t ih =>
    intro pre hl hp
    cases pre with
    | nil => trivial
    | cons a' pt =>
      obtain ⟨rfl, hpt⟩ := List.cons_prefix_cons.mp hp
      cases pt with
      | nil => trivial
      | cons b pt' =>
        cases t with
        | nil => exact absurd hpt (by simp)
        | cons b' t' =>
          obtain ⟨rfl, _⟩ := List.cons_prefix_cons.mp hpt
          exact ⟨hl.1, ih (b :: pt') hl.2 hpt⟩

/-- in group `g`'s log, `y` directly after `x` never skips a command of the group: no command of
    `g` lies strictly between them (`y ≤ x` = a replay jumps back, `y` = the next one otherwise) -/
def NoSkipRel (grp : Nat → Nat) (g : Nat) (x y : Nat) : Prop := ∀ z, grp z = g → x < z → z < y → False

theorem adj_of_sorted {g : Nat} : ∀ (L : List Nat), L.Pairwise (· < ·) →
    (∀ x ∈ L, ∀ y ∈ L, ∀ z, grp z = g → x < z → z < y → z ∈ L) → Adj (NoSkipRel grp g) L := by
  intro L
  induction L with
  | nil => intro _ _; trivial
  | cons x t ih =>
    intro hs hc
    cases t with
    | nil => trivial
    | cons y t =>
      have hx := List.pairwise_cons.mp hs
      have hy := List.pairwise_cons.mp hx.2
      refine ⟨fun z hz hxz hzy => ?_, ih hx.2 fun a ha b hb z hz haz hzb => ?_⟩
      · rcases List.mem_cons.mp (hc x (List.mem_cons_self ..) y (by simp) z hz hxz hzy) with h | h
        · exact absurd (h ▸ hxz) (Nat.lt_irrefl _)
        · rcases List.mem_cons.mp h with h | h
          · exact absurd (h ▸ hzy) (Nat.lt_irrefl _)
          · exact absurd hzy (Nat.lt_asymm (hy.1 z h))
      · rcases List.mem_cons.mp (hc a (List.mem_cons_of_mem _ ha) b (List.mem_cons_of_mem _ hb) z hz haz hzb) with h | h
        · exact absurd (h ▸ haz) (Nat.lt_asymm (hx.1 a ha))
        · exact h

theorem adj_range_filter (g p q : Nat) :
    Adj (NoSkipRel grp g) ((rng p q).filter (fun i => grp i == g)) := by
  refine adj_of_sorted grp _ (rng_filter_sorted grp p q g) fun x hx y hy z hz hxz hzy => ?_
  have hx := rng_mem.mp (List.mem_filter.mp hx).1
  have hy := rng_mem.mp (List.mem_filter.mp hy).1
  exact List.mem_filter.mpr
    ⟨rng_mem.mpr ⟨Nat.le_trans hx.1 (Nat.le_of_lt hxz), Nat.lt_trans hzy hy.2⟩, by simp [hz]⟩

/-- group `g`'s part of the target's log, in execution order -/
def projG (g : Nat) (l : List Nat) : List Nat := l.filter (fun i => grp i == g)

structure KInv (s : Tgt) : Prop where
  adj : ∀ g, Adj (NoSkipRel grp g) (projG grp g s.log)
  top : ∀ g x, (projG grp g s.log).getLast? = some x → ∀ z, grp z = g → z < s.cur → z ≤ x

theorem KInv_init : KInv grp {} := ⟨fun _ => trivial, fun _ _ h => (nomatch h)⟩

theorem sorted_head_le {l : List Nat} (hs : l.Pairwise (· < ·)) {y z : Nat} (hy : l.head? = some y)
    (hz : z ∈ l) : y ≤ z := by
  cases l with
  | nil => exact nomatch hy
  | cons a t =>
    cases hy
    rcases List.mem_cons.mp hz with e | e
    · exact Nat.le_of_eq e.symm
    · exact Nat.le_of_lt ((List.pairwise_cons.mp hs).1 z e)

theorem sorted_le_last {l : List Nat} (hs : l.Pairwise (· < ·)) {m z : Nat} (hm : l.getLast? = some m)
    (hz : z ∈ l) : z ≤ m := by
  obtain ⟨init, rfl⟩ := List.getLast?_eq_some_iff.mp hm
  rcases List.mem_append.mp hz with e | e
  · exact Nat.le_of_lt ((List.pairwise_append.mp hs).2.2 z e m (List.mem_singleton_self _))
  · cases List.mem_singleton.mp e; exact Nat.le_refl _

theorem KInv_step {s s' : Tgt} {e : Ev} (hi : SInv n grp s) (hk : KInv grp s)
    (hp : match e with | .batch q (.cut app _) => PrefixCut grp s.cur q app | _ => True)
    (h : step n grp s e = some s') : KInv grp s' := by
  cases e with
  | start =>
    cases h
    exact { hk with top := fun g x hx z hz hzc => hk.top g x hx z hz (Nat.lt_of_lt_of_le hzc hi.le1) }
  | batch q o =>
    obtain ⟨app, hlog, happ, hpre, hcov⟩ := step_batch_prefix n grp hp h
    have hsplit : ∀ g, projG grp g s'.log = projG grp g s.log ++ projG grp g app := fun g => by
      rw [hlog]; exact List.filter_append ..
    refine ⟨fun g => ?_, fun g x hx z hz hzc => ?_⟩
    · -- inside the batch's part the group's commands are consecutive; at the junction the old log
      -- ends at or above everything below `cur`, the part starts with the group's first command from `cur` on
      rw [hsplit g]
      refine adj_append _ _ (hk.adj g) (adj_prefix _ _ (adj_range_filter grp g s.cur q) (hpre g)) ?_
      intro x y hx hy z hz hxz hzy
      have hyR : ((rng s.cur q).filter (fun j => grp j == g)).head? = some y := by
        obtain ⟨rest, hr⟩ := hpre g
        rw [← hr, List.head?_append]
        exact (congrArg (·.or rest.head?) hy).trans rfl
      by_cases hzp : z < s.cur
      · exact absurd hxz (Nat.not_lt.mpr (hk.top g x hx z hz hzp))
      · have hyq := (rng_mem.mp (List.mem_filter.mp (List.mem_of_mem_head? hyR)).1).2
        exact absurd hzy (Nat.not_lt.mpr (sorted_head_le (rng_filter_sorted grp s.cur q g) hyR
          (List.mem_filter.mpr ⟨rng_mem.mpr ⟨Nat.le_of_not_lt hzp, Nat.lt_trans hzy hyq⟩, by simp [hz]⟩)))
    · -- below `cur` the old log or the batch's part (which starts at `cur`) ends high enough; from
      -- `cur` on the batch executed `z`, and the group's part is sorted
      have hin : s.cur ≤ z → z ∈ projG grp g app := fun hcz =>
        List.mem_filter.mpr ⟨hcov z hcz hzc, by simp [hz]⟩
      rw [hsplit g, List.getLast?_append] at hx
      cases hla : (projG grp g app).getLast? with
      | none =>
        rw [hla] at hx
        refine hk.top g x hx z hz (Nat.lt_of_not_le fun hcz => ?_)
        have := hin hcz
        rw [List.getLast?_eq_none_iff.mp hla] at this
        exact nomatch this
      | some m =>
        simp only [hla, Option.some_or, Option.some.injEq] at hx
        subst hx
        by_cases hzp : z < s.cur
        · exact Nat.le_of_lt (Nat.lt_of_lt_of_le hzp (happ.2 m (List.mem_filter.mp (List.mem_of_getLast? hla)).1).1)
        · exact sorted_le_last ((rng_filter_sorted grp s.cur q g).sublist (hpre g).sublist) hla
            (hin (Nat.le_of_not_lt hzp))

theorem KInv_run : ∀ (evs : List Ev) (s s' : Tgt), SInv n grp s → DownClosed grp s.log → KInv grp s →
    Disciplined evs → PrefixRun n grp s evs → run n grp s evs = some s' →
    DownClosed grp s'.log ∧ KInv grp s' := by
  intro evs
  induction evs with
  | nil => intro s s' _ hd hk _ _ h; cases h; exact ⟨hd, hk⟩
  | cons e es ih =>
    intro s s' hi hd hk hdi hp h
    obtain ⟨s1, hs1, h⟩ := run_cons n grp h
    exact ih s1 s' (SInv_step n grp hi (Disciplined_head hdi).1 hs1) (DownClosed_step n grp hi hd hp.1 hs1)
      (KInv_step n grp hi hk hp.1 hs1) (Disciplined_head hdi).2 (hp.2 s1 hs1) h

theorem run_ok_batches_cur : ∀ (bs : List (Nat × Outcome)) (s s' : Tgt),
    (∀ b ∈ bs, isOk b.2 = true) → run n grp s (bs.map (fun b => Ev.batch b.1 b.2)) = some s' →
    s'.cur = (bs.getLast?.map (·.1)).getD s.cur := by
  intro bs
  induction bs with
  | nil => intro s s' _ h; cases h; rfl
  | cons b t ih =>
    intro s s' hok h
    obtain ⟨s1, hs1, h⟩ := run_cons n grp h
    have hb := hok b (List.mem_cons_self ..)
    obtain ⟨q, o⟩ := b
    cases o with
    | cut app st => exact nomatch hb
    | ok app st =>
      obtain ⟨_, _, _, _, rfl⟩ := step_ok_some n grp hs1
      rw [ih _ s' (fun x hx => hok x (List.mem_cons_of_mem _ hx)) h]
      cases t with
      | nil => rfl
      | cons b2 t2 =>
        cases hl : (b2 :: t2).getLast? with
        | none => exact absurd (List.getLast?_eq_none_iff.mp hl) (List.cons_ne_nil _ _)
        | some v => rw [List.getLast?_cons_cons, hl]; rfl

end GunYu.ClusterSegments
