/-
  Sender-side facts for Props.C02.crash_resume_db_resumed: where the commands and
  the position writes on the wire of a run come from.
   * `run_cut`: the loop stops at `done`, so a schedule is its part up to there;
   * `run_cp_origin`: every position the loop writes is the offset of an item it
     consumed (or the one it started with, if that was not the `-1` placeholder);
   * `fwdO_cut_items`, `fwdItemsO_above`: the forwarded stream (offsets included)
     is a function of the items, and lies above the start for the parser's items;
   * `dataBO_bodies`, `cpOffsetsB_bodies`: stripping MULTI/EXEC keeps both.
-/
import GunYu.Proofs.SenderDataO
import GunYu.Proofs.SenderRun
import GunYu.Proofs.Crash
import GunYu.Proofs.Parser

namespace GunYu.Sender
open GunYu GunYu.Target

/-- the schedule up to (and including) the first `done` -/
def cut : List Ev → List Ev
  | [] => []
  | ev :: rest => if ev = .done then [ev] else ev :: cut rest

theorem run_cut (c : SCfg) (s : SState) (evs : List Ev) : run c s evs = run c s (cut evs) := by
  induction evs generalizing s with
  | nil => rfl
  | cons ev rest ih =>
    by_cases hd : ev = .done
    · simp [cut, hd, run]
    · simp only [cut, hd, ↓reduceIte, run]
      rw [ih]

theorem itemsOf_cut_prefix (evs : List Ev) : itemsOf (cut evs) <+: itemsOf evs := by
  induction evs with
  | nil => exact List.prefix_refl _
  | cons ev rest ih =>
    cases ev with
    | item it => exact List.cons_prefix_cons.mpr ⟨rfl, ih⟩
    | done => exact List.nil_prefix
    | _ => exact ih

theorem itemsMono_prefix {t : Txn} {last : Int} {l l' : List Item} (h : ItemsMono t last l)
    (hp : l' <+: l) : ItemsMono t last l' := by
  induction l' generalizing t last l with
  | nil => trivial
  | cons i l' ih =>
    cases l with
    | nil => exact absurd hp (by simp)
    | cons j l =>
      obtain ⟨rfl, hp'⟩ := List.cons_prefix_cons.mp hp
      exact ⟨h.1, h.2.1, ih h.2.2 hp'⟩

theorem itemsMono_ge {t : Txn} {last : Int} {l : List Item} (h : ItemsMono t last l) :
    ∀ i ∈ l, last ≤ i.offset := by
  induction l generalizing t last with
  | nil => intro i hi; cases hi
  | cons j l ih =>
    intro i hi
    rcases List.mem_cons.mp hi with rfl | hi'
    · exact h.1
    · have := ih h.2.2 i hi'
      have := h.1
      omega

/-- the forwarded stream of a list of items, offsets included -/
def fwdItemsO (t : Txn) : List Item → List CmdO
  | [] => []
  | it :: rest => (fwd1O t (.item it)).1 ++ fwdItemsO (fwd1O t (.item it)).2 rest

theorem fwdO_cut_items (t : Txn) (evs : List Ev) : fwdO t (cut evs) = fwdItemsO t (itemsOf (cut evs)) := by
  induction evs generalizing t with
  | nil => rfl
  | cons ev rest ih =>
    by_cases hd : ev = .done
    · subst hd; simp [cut, fwdO, itemsOf, fwdItemsO, fwd1O]
    · have hc : cut (ev :: rest) = ev :: cut rest := if_neg hd
      rw [hc, fwdO, if_neg hd, ih]
      cases ev <;> first | rfl | exact absurd rfl hd

theorem fwd1O_txn (t : Txn) (it : Item) : (fwd1O t (.item it)).2 = txnAfter t it := by
  simp only [fwd1O, txnAfter]; split <;> rfl

/-- every forwarded command of items that are `ItemsMono` above `last` ends above `last` -/
theorem fwdItemsO_above (t : Txn) (last : Int) (items : List Item) (h : ItemsMono t last items) :
    ∀ x ∈ fwdItemsO t items, last < x.2.2 := by
  induction items generalizing t last with
  | nil => intro x hx; cases hx
  | cons it rest ih =>
    intro x hx
    simp only [fwdItemsO] at hx
    rcases List.mem_append.mp hx with h1 | h2
    · simp only [fwd1O] at h1
      split at h1
      · cases h1
      · rename_i hp
        split at h1
        · rename_i hf
          simp only [List.mem_singleton] at h1
          subst h1
          exact h.2.1 hp hf
        · cases h1
    · rw [fwd1O_txn] at h2
      have := ih _ _ h.2.2 x h2
      have := h.1
      omega

/-- where a stored position comes from -/
theorem run_cp_origin (c : SCfg) (s : SState) (evs : List Ev) :
    ∀ o ∈ cpOffsets (run c s evs).2,
      (o = s.lastOffset ∧ 0 ≤ o) ∨ ∃ i ∈ itemsOf evs, o = i.offset := by
  induction evs generalizing s with
  | nil => intro o ho; simp [run] at ho
  | cons ev rest ih =>
    intro o ho
    obtain ⟨hl, l1, l2, hsplit, h1, h2⟩ := step_cp c s ev
    have hnew : ∀ o', o' = newLast s ev → 0 ≤ o' →
        (o' = s.lastOffset ∧ 0 ≤ o') ∨ ∃ i ∈ itemsOf (ev :: rest), o' = i.offset := by
      intro o' ho' hpos
      cases ev with
      | item it => exact Or.inr ⟨it, List.mem_cons_self .., ho'⟩
      | _ => exact Or.inl ⟨ho', hpos⟩
    have hstep : ∀ o' ∈ cpOffsets (step c s ev).2,
        (o' = s.lastOffset ∧ 0 ≤ o') ∨ ∃ i ∈ itemsOf (ev :: rest), o' = i.offset := by
      intro o' ho'
      rw [hsplit] at ho'
      rcases List.mem_append.mp ho' with hm | hm
      · rcases h1 with h | ⟨h, hp⟩ | ⟨h, hp⟩
        · rw [h] at hm; cases hm
        · rw [h] at hm; simp only [List.mem_singleton] at hm; exact Or.inl ⟨hm, hm ▸ hp⟩
        · rw [h] at hm; simp only [List.mem_singleton] at hm; exact hnew o' hm (hm ▸ hp)
      · rcases h2 with h | ⟨h, hp⟩
        · rw [h] at hm; cases hm
        · rw [h] at hm; simp only [List.mem_singleton] at hm; exact hnew o' hm (hm ▸ hp)
    simp only [run] at ho
    split at ho
    · exact hstep o ho
    · rw [cpOffsets_append] at ho
      rcases List.mem_append.mp ho with hm | hm
      · exact hstep o hm
      · rcases ih (step c s ev).1 o hm with ⟨he, hp⟩ | ⟨i, hi, he⟩
        · rw [hl] at he; exact hnew o he hp
        · refine Or.inr ⟨i, ?_, he⟩
          cases ev <;> first | exact hi | exact List.mem_cons_of_mem _ hi

theorem dataBO_bodies (out : List Batch) (hwf : AllWF out) : dataBO (bodies out) = dataOutO out :=
  filterMap_bodies cmdOfReqO rfl rfl out hwf

theorem cpOffsetsB_bodies (out : List Batch) (hwf : AllWF out) :
    cpOffsetsB (bodies out) = cpOffsets out :=
  filterMap_bodies cpOfReq rfl rfl out hwf

/-- a queued command with a given offset is a queued item with that offset -/
theorem qdO_mem_offset {s : SState} {x : CmdO} (h : x ∈ qdO s) : ∃ i ∈ s.queue, i.offset = x.2.2 := by
  unfold qdO at h
  obtain ⟨i, hi, hx⟩ := List.mem_filterMap.mp h
  refine ⟨i, hi, ?_⟩
  simp only [itemCmdO] at hx
  split at hx
  · cases hx
  · injection hx with hx; rw [← hx]

end GunYu.Sender
