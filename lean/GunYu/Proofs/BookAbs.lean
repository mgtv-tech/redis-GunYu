/-
  C17 / Model/BookSys.lean — the sender model's abstract target (one record per database:
  offset, run id present) is what the checkpoint key holds for the run id of the session.

  `RelP N n t cps`: for every database the fields of id `N` under key `n` say what the abstract record
  says — except that an `_offset` may be missing (gc took it), never the `_runid` the sender remembers to
  have written (D24: gc keeps the run id and version fields of a live id; with all four fields deleted this
  relation breaks). Bookkeeping writes and the requests of a gc pass keep it, so the theorems of the sender
  (Props.C02 / C02Lives / C07, stated on the abstract records) speak about `Checkpoint.Target`.
-/
import GunYu.Proofs.BookTrace
import GunYu.Proofs.BookStr
import GunYu.Proofs.TargetExec
import GunYu.Proofs.MaxOffset
import GunYu.Proofs.Crash

namespace GunYu.BookSys
open GunYu GunYu.Checkpoint

set_option linter.unusedSimpArgs false
set_option linter.unusedVariables false

instance (k : FKey) (fs : Cp) : Decidable (hasKey k fs) := by unfold hasKey; exact inferInstance

/-- the abstract record of one database: what the fields of id `N` in the hash `fs` say -/
def absRec (N : Bytes) (fs : Cp) : Target.CpRec :=
  { offset := if hasKey (N, Kind.offset) fs then some (offOf [N] fs) else none,
    hasRunId := decide (hasKey (N, Kind.runid) fs) }

theorem absRec_nil (N : Bytes) : absRec N [] = {} := by
  simp [absRec, hasKey]

theorem absRec_offset_some {N : Bytes} {fs : Cp} {v : Int} (h : (absRec N fs).offset = some v) :
    hasKey (N, Kind.offset) fs ∧ offOf [N] fs = v := by
  unfold absRec at h
  simp only at h
  split at h
  · rename_i hk; injection h with h; exact ⟨hk, h⟩
  · cases h

theorem absRec_offset_of {N : Bytes} {fs : Cp} (hk : hasKey (N, Kind.offset) fs) :
    (absRec N fs).offset = some (offOf [N] fs) := by
  unfold absRec; simp only [hk, if_true]

/-- a value is decimal int64 -/
def InRange (o : Int) : Prop := -(2^63 : Int) ≤ o ∧ o < 2^63

theorem absRec_meta (N ver : Bytes) (fs : Cp) :
    absRec N (hsetMany fs (senderEntries N ver .rmeta)) = { absRec N fs with hasRunId := true } := by
  have hk1 : hasKey (N, Kind.offset) (hsetMany fs (senderEntries N ver .rmeta)) ↔ hasKey (N, Kind.offset) fs := by
    rw [hasKey_hsetMany]
    constructor
    · rintro (⟨e, he, hk⟩ | h)
      · simp only [senderEntries, List.mem_cons, List.not_mem_nil, or_false] at he
        rcases he with rfl | rfl <;> simp [Entry.key] at hk
      · exact h
    · exact Or.inr
  have hk2 : hasKey (N, Kind.runid) (hsetMany fs (senderEntries N ver .rmeta)) := by
    rw [hasKey_hsetMany]
    exact Or.inl ⟨⟨N, .runid, N⟩, by simp [senderEntries], rfl⟩
  have ho : offOf [N] (hsetMany fs (senderEntries N ver .rmeta)) = offOf [N] fs := by
    apply offOf_hsetMany_irrelevant
    intro e he
    simp only [senderEntries, List.mem_cons, List.not_mem_nil, or_false] at he
    rcases he with rfl | rfl <;> simp [offSel]
  unfold absRec
  simp only [hk1, hk2, ho, decide_true]

theorem absRec_off (N ver : Bytes) (fs : Cp) (o : Int) (hr : InRange o) :
    absRec N (hsetMany fs (senderEntries N ver (.off o))) = { absRec N fs with offset := some o } := by
  let e : Entry := ⟨N, .offset, intToDec o⟩
  have hm : hsetMany fs (senderEntries N ver (.off o)) = hsetOne fs e := rfl
  have hk1 : hasKey (N, Kind.offset) (hsetOne fs e) := hasKey_hsetOne.mpr (Or.inl rfl)
  have hk2 : hasKey (N, Kind.runid) (hsetOne fs e) ↔ hasKey (N, Kind.runid) fs := by
    rw [hasKey_hsetOne]
    constructor
    · rintro (h | h)
      · simp [Entry.key, e] at h
      · exact h
    · exact Or.inr
  have hv : Resp.parseInt64 e.val = some o := Resp.parseInt64_intToDec o hr.1 hr.2
  have ho : offOf [N] (hsetOne fs e) = o := by
    apply foldl_offStep_all_eq [N] o _ (-1)
    · intro x hx hs
      rw [offSel_iff, matchId_one] at hs
      have : x.key = e.key := by show (x.rid, x.kind) = (N, Kind.offset); rw [hs.1, hs.2]
      rw [hsetOne_key hx this]; exact hv
    · left
      exact ⟨e, mem_hsetOne_self fs e, by rw [offSel_iff, matchId_one]; exact ⟨rfl, rfl⟩⟩
  rw [hm]
  unfold absRec
  simp only [hk1, if_true, ho]
  congr 1
  exact decide_eq_decide.mpr hk2

theorem absRec_hdel_other {N : Bytes} {fs : Cp} {ks : List FKey} (h : ∀ k ∈ ks, k.1 ≠ N) :
    absRec N (hdelMany fs ks) = absRec N fs := by
  have hk : ∀ kd, hasKey (N, kd) (hdelMany fs ks) ↔ hasKey (N, kd) fs := by
    intro kd; rw [hasKey_hdelMany]
    exact ⟨fun h' => h'.1, fun h' => ⟨h', fun hin => h _ hin rfl⟩⟩
  have ho : offOf [N] (hdelMany fs ks) = offOf [N] fs := by
    apply offOf_hdel_irrel
    intro e he hc
    rw [← Bool.not_eq_true, offSel_iff, matchId_one]
    intro hs
    exact h _ (List.contains_iff_mem.mp hc) hs.1
  unfold absRec
  simp only [hk, ho]

theorem absRec_hdel_stale {N : Bytes} {fs : Cp} :
    absRec N (hdelMany fs (staleKeys N true)) = { absRec N fs with offset := none } := by
  have h1 : ¬ hasKey (N, Kind.offset) (hdelMany fs (staleKeys N true)) := by
    rw [hasKey_hdelMany]; intro h; exact h.2 (by simp [staleKeys])
  have h2 : hasKey (N, Kind.runid) (hdelMany fs (staleKeys N true)) ↔ hasKey (N, Kind.runid) fs := by
    rw [hasKey_hdelMany]
    exact ⟨fun h => h.1, fun h => ⟨h, by simp [staleKeys]⟩⟩
  unfold absRec
  simp only [h1, if_false, h2]

def RelP (N n : Bytes) (t : Checkpoint.Target) (cps : List (Int × Target.CpRec)) : Prop :=
  ∀ db : Nat, (absRec N (t.cps db n)).hasRunId = (Target.getCp cps (db : Int)).hasRunId ∧
    ((absRec N (t.cps db n)).offset = (Target.getCp cps (db : Int)).offset ∨ (absRec N (t.cps db n)).offset = none)

theorem RelP.offset_of_hasKey {N n : Bytes} {t : Checkpoint.Target} {cps : List (Int × Target.CpRec)} (h : RelP N n t cps)
    {db : Nat} (hk : hasKey (N, Kind.offset) (t.cps db n)) :
    (Target.getCp cps (db : Int)).offset = some (offOf [N] (t.cps db n)) := by
  rcases (h db).2 with h' | h'
  · rw [← h']; exact absRec_offset_of hk
  · rw [absRec_offset_of hk] at h'; cases h'

theorem getCp_absW_ne (cps : List (Int × Target.CpRec)) {w : Int × BkW} {z : Int} (h : z ≠ w.1) :
    Target.getCp (absW cps w) z = Target.getCp cps z := by
  obtain ⟨wdb, ww⟩ := w
  cases ww <;> exact GunYu.Target.getCp_setCp_ne cps _ _ _ h

theorem relP_write {N n ver : Bytes} {cps : List (Int × Target.CpRec)} {t : Checkpoint.Target}
    (h : RelP N n t cps) (w : Int × BkW) (hr : ∀ o, w.2 = .off o → InRange o) :
    RelP N n (Checkpoint.applyAll t (writeReq n N ver w)) (absW cps w) := by
  intro db
  unfold writeReq
  by_cases hneg : 0 ≤ w.1
  · simp only [hneg, if_true, Checkpoint.applyAll, List.foldl_cons, List.foldl_nil]
    rw [applyReq_hsetCp_cps]
    have hwd : ((w.1.toNat : Nat) : Int) = w.1 := Int.toNat_of_nonneg hneg
    by_cases hdb : db = w.1.toNat
    · subst hdb
      simp only [and_self, if_true]
      obtain ⟨h1, h2⟩ := h w.1.toNat
      rw [hwd] at h1 h2 ⊢
      obtain ⟨wdb, ww⟩ := w
      cases ww with
      | rmeta =>
        rw [absRec_meta]
        show _ = (Target.getCp (Target.setCp cps wdb _) _).hasRunId ∧ (_ = (Target.getCp (Target.setCp cps wdb _) _).offset ∨ _)
        rw [GunYu.Target.getCp_setCp_eq]
        exact ⟨rfl, h2⟩
      | off o =>
        rw [absRec_off N ver _ o (hr o rfl)]
        show _ = (Target.getCp (Target.setCp cps wdb _) _).hasRunId ∧ (_ = (Target.getCp (Target.setCp cps wdb _) _).offset ∨ _)
        rw [GunYu.Target.getCp_setCp_eq]
        exact ⟨h1, Or.inl rfl⟩
    · simp only [hdb, false_and, if_false]
      rw [getCp_absW_ne cps (fun hc => hdb (by rw [← hc]; simp))]; exact h db
  · simp only [hneg, if_false, Checkpoint.applyAll, List.foldl_nil]
    rw [getCp_absW_ne cps (show ((db : Nat) : Int) ≠ w.1 by omega)]; exact h db

theorem relP_fold {N n ver : Bytes} (tr : List (Int × BkW)) :
    ∀ {cps : List (Int × Target.CpRec)} {t : Checkpoint.Target}, RelP N n t cps →
      (∀ w ∈ tr, ∀ o, w.2 = .off o → InRange o) →
      RelP N n (Checkpoint.applyAll t (tr.flatMap (writeReq n N ver))) (tr.foldl absW cps) := by
  induction tr with
  | nil => intro cps t h _; exact h
  | cons w tr ih =>
    intro cps t h hr
    simp only [List.foldl_cons, List.flatMap_cons]
    rw [applyAll_append]
    exact ih (relP_write h w (hr w (List.mem_cons_self ..)))
      (fun w' hw' => hr w' (List.mem_cons_of_mem _ hw'))

/-- a request of a gc pass keeps `RelP`: of a live id it deletes `_offset` and `_mtime` only -/
theorem relP_gcReq {N n : Bytes} {cps : List (Int × Target.CpRec)} {t : Checkpoint.Target} (h : RelP N n t cps)
    (q : Req) (hq : (∃ db name ρ b, q = Req.hdelCp db name (staleKeys ρ b) ∧ (ρ = N → b = true)) ∨
      (∃ rid, q = Req.hdelHash rid)) : RelP N n (applyReq t q) cps := by
  rcases hq with ⟨db, name, ρ, b, rfl, hb⟩ | ⟨rid, rfl⟩
  · intro db'
    rw [applyReq_hdelCp_cps]
    split
    · rename_i hc
      obtain ⟨rfl, rfl⟩ := hc
      by_cases hρ : ρ = N
      · subst hρ
        rw [hb rfl, absRec_hdel_stale]
        exact ⟨(h db').1, Or.inr rfl⟩
      · rw [absRec_hdel_other (fun k hk => staleKeys_fst k hk ▸ hρ)]
        exact h db'
    · exact h db'
  · exact h

theorem absFold_offset_cases (z : Int) : ∀ (tr : List (Int × BkW)) (cps : List (Int × Target.CpRec)),
    (Target.getCp (tr.foldl absW cps) z).offset = (Target.getCp cps z).offset ∨
    ∃ o, (z, BkW.off o) ∈ tr ∧ (Target.getCp (tr.foldl absW cps) z).offset = some o := by
  intro tr
  induction tr with
  | nil => intro cps; exact Or.inl rfl
  | cons w tr ih =>
    intro cps
    simp only [List.foldl_cons]
    rcases ih (absW cps w) with h | ⟨o, ho, h⟩
    · by_cases hz : z = w.1
      · obtain ⟨wdb, ww⟩ := w
        subst hz
        cases ww with
        | rmeta =>
          left; rw [h]
          show (Target.getCp (Target.setCp cps z _) z).offset = _
          rw [GunYu.Target.getCp_setCp_eq]
        | off o =>
          right
          refine ⟨o, List.mem_cons_self .., ?_⟩
          rw [h]
          show (Target.getCp (Target.setCp cps z _) z).offset = _
          rw [GunYu.Target.getCp_setCp_eq]
      · left; rw [h, getCp_absW_ne cps hz]
    · exact Or.inr ⟨o, List.mem_cons_of_mem _ ho, h⟩

theorem absFold_ge (X z : Int) (tr : List (Int × BkW)) (cps : List (Int × Target.CpRec))
    (h : ∃ v, (Target.getCp cps z).offset = some v ∧ X ≤ v)
    (hw : ∀ w ∈ tr, ∀ o, w.2 = BkW.off o → X ≤ o) :
    ∃ v, (Target.getCp (tr.foldl absW cps) z).offset = some v ∧ X ≤ v := by
  rcases absFold_offset_cases z tr cps with hc | ⟨o, ho, hc⟩
  · rw [hc]; exact h
  · exact ⟨o, hc, hw _ ho o rfl⟩

/-- the abstract target the sender's theorems are applied to: one record per database of a finite
    support, read off the fields of id `N` under key `n` -/
def absOf (N n : Bytes) (dbs : List Nat) (t : Checkpoint.Target) : Target.TState :=
  { cps := dbs.map (fun (db : Nat) => ((db : Int), absRec N (t.cps db n))) }

theorem lookup_absOf (N n : Bytes) (t : Checkpoint.Target) (db : Nat) : ∀ dbs : List Nat,
    (dbs.map (fun (x : Nat) => ((x : Int), absRec N (t.cps x n)))).lookup (db : Int) =
      if db ∈ dbs then some (absRec N (t.cps db n)) else none := by
  intro dbs
  induction dbs with
  | nil => rfl
  | cons x rest ih =>
    simp only [List.map_cons, List.lookup_cons]
    by_cases hx : db = x
    · subst hx; simp
    · have : ((db : Int) == (x : Int)) = false := by
        simp only [beq_eq_false_iff_ne, ne_eq]; omega
      rw [this, ih]
      simp [hx]

theorem getCp_absOf {N n : Bytes} {dbs : List Nat} {t : Checkpoint.Target}
    (hfin : ∀ db, db ∉ dbs → t.cps db n = []) (db : Nat) :
    Target.getCp (absOf N n dbs t).cps (db : Int) = absRec N (t.cps db n) := by
  unfold Target.getCp absOf
  simp only
  rw [lookup_absOf]
  by_cases h : db ∈ dbs
  · simp [h]
  · simp only [h, if_false, Option.getD_none]
    rw [hfin db h, absRec_nil]

theorem getCp_absOf_neg (N n : Bytes) (dbs : List Nat) (t : Checkpoint.Target) (z : Int) (hz : z < 0) :
    Target.getCp (absOf N n dbs t).cps z = {} := by
  unfold Target.getCp absOf
  simp only
  have : (dbs.map (fun (x : Nat) => ((x : Int), absRec N (t.cps x n)))).lookup z = none := by
    apply List.lookup_eq_none_iff.mpr
    intro p hp
    obtain ⟨x, _, rfl⟩ := List.mem_map.mp hp
    simp only [bne_iff_ne, ne_eq]
    omega
  rw [this]; rfl

theorem absOf_offset_some {N n : Bytes} {dbs : List Nat} {t : Checkpoint.Target}
    (hfin : ∀ db, db ∉ dbs → t.cps db n = []) {z o : Int}
    (h : (Target.getCp (absOf N n dbs t).cps z).offset = some o) :
    ∃ db : Nat, z = db ∧ hasKey (N, Kind.offset) (t.cps db n) ∧ offOf [N] (t.cps db n) = o := by
  by_cases hneg : z < 0
  · rw [getCp_absOf_neg _ _ _ _ _ hneg] at h; cases h
  · have hz : ((z.toNat : Nat) : Int) = z := Int.toNat_of_nonneg (by omega)
    rw [← hz, getCp_absOf hfin] at h
    exact ⟨z.toNat, hz.symm, absRec_offset_some h⟩

theorem cpReqs_append (a b : List Sender.Req) : Target.cpReqs (a ++ b) = Target.cpReqs a ++ Target.cpReqs b :=
  List.filterMap_append ..

theorem execW_off {t : Target.TState} {r : Sender.Req} {db o : Int} (h : (db, BkW.off o) ∈ execW t r) :
    r = Sender.Req.cpOffset o := by
  cases r <;> simp [execW] at h
  exact congrArg _ h.2.symm

theorem execTrace_off (q : List Sender.Req) : ∀ (t : Target.TState) {db o : Int},
    (db, BkW.off o) ∈ execTrace t q → o ∈ Target.cpReqs q := by
  induction q with
  | nil => intro t db o h; cases h
  | cons r rs ih =>
    intro t db o h
    simp only [execTrace, List.mem_append] at h
    rw [← List.singleton_append, cpReqs_append]
    rcases h with h | h
    · rw [execW_off h]; exact List.mem_append_left _ (List.mem_singleton.mpr rfl)
    · exact List.mem_append_right _ (ih _ h)

/-- an offset write of the trace of a wire log is a position write of the log, or of the MULTI that is
    open at its start -/
theorem logTrace_off (log : List Sender.Req) : ∀ (t : Target.TState) {db o : Int},
    (db, BkW.off o) ∈ logTrace t log → o ∈ Target.cpReqs (t.queued.getD [] ++ log) := by
  induction log with
  | nil => intro t db o h; cases h
  | cons r rs ih =>
    intro t db o h
    simp only [logTrace, List.mem_append] at h
    have hrest : (db, BkW.off o) ∈ logTrace (Target.applyReq t r) rs →
        o ∈ Target.cpReqs ((Target.applyReq t r).queued.getD [] ++ rs) := ih _
    rw [← List.singleton_append (l := rs), ← List.append_assoc, cpReqs_append, List.mem_append]
    cases hq : t.queued with
    | some q =>
      rw [(step_queued hq r).2] at h
      split at h
      · -- EXEC: the queue is executed, no MULTI is open afterwards
        rename_i hr
        rcases h with h | h
        · exact Or.inl (by rw [cpReqs_append]; exact List.mem_append_left _ (execTrace_off q _ h))
        · have := hrest h
          rw [(step_queued hq r).1, if_pos hr, Target.foldl_execReq_queued] at this
          exact Or.inr this
      · rename_i hr
        rcases h with h | h
        · cases h
        · have := hrest h
          rw [(step_queued hq r).1, if_neg hr] at this
          rw [← List.mem_append, ← cpReqs_append]; exact this
    | none =>
      rw [(step_idle hq r).2] at h
      split at h
      · rename_i hr
        rcases h with h | h
        · cases h
        · have := hrest h
          rw [(step_idle hq r).1, if_pos hr] at this
          exact Or.inr this
      · rename_i hr
        rcases h with h | h
        · rw [execW_off h]; exact Or.inl (List.mem_singleton.mpr rfl)
        · have := hrest h
          rw [(step_idle hq r).1, if_neg hr, Target.execReq_queued, hq] at this
          exact Or.inr this

theorem logTrace_off_idle {t : Target.TState} (hq : t.queued = none) {log : List Sender.Req} {w : Int × BkW}
    (hw : w ∈ logTrace t log) {o : Int} (ho : w.2 = BkW.off o) : o ∈ Target.cpReqs log := by
  obtain ⟨wdb, ww⟩ := w
  subst ho
  have := logTrace_off log t hw
  rwa [hq] at this

end GunYu.BookSys
