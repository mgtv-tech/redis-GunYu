/-
  C05, disk backend — an ABSTRACT SPECIFICATION of the stream part and the refinement
  `disk ⊑ spec` as ONE importable statement (snapshots are not part of it).

  Spec state: the byte history since the last reset (`base`, `hist`), the first offset
  still held (`lo`: the window held is `hist[lo - base ..]`) and the open stream readers
  with their start, position and output.

  `SpecWF` is the spec-level invariant (what a client may rely on), `SpecStepH` the
  history-level transition relation: a step keeps the history, appends exactly one chunk to
  it, or starts an empty one.

  What is NOT here (see checks/p/C05.py `partial`): a reader-level step relation for ALL
  operations (positions move forward, nobody else's reader changes) is proved for
  schedules only (Proofs/StoreReach.lean: `quiet_frame`, `follow_move`), and the snapshot.
-/
import GunYu.Proofs.StoreReach

namespace GunYu.Store
open GunYu

structure SReader where
  id : Nat
  start : Nat
  pos : Nat
  out : Bytes
deriving Repr, DecidableEq

structure Spec where
  base : Nat
  hist : Bytes
  lo : Nat
  readers : List SReader
deriving Repr, DecidableEq

def Spec.endOff (a : Spec) : Nat := a.base + a.hist.length

/-- the bytes the cache holds: the history from `lo` on -/
def Spec.window (a : Spec) : Bytes := a.hist.drop (a.lo - a.base)

def Disk.spec (s : Disk) : Spec :=
  { base := s.hbase, hist := s.hist,
    lo := match firstLeft s.all with
      | some l => l
      | none => s.hbase + s.hist.length,
    readers := (s.readers.filter (fun r => r.isOpen && r.isAof)).map
      (fun r => { id := r.id, start := r.start, pos := r.pos, out := r.out }) }

structure SpecWF (a : Spec) : Prop where
  lo_ge : a.base ≤ a.lo
  lo_le : a.lo ≤ a.endOff
  readers : ∀ r ∈ a.readers, a.base ≤ r.start ∧ r.start ≤ r.pos ∧ a.lo ≤ r.pos ∧ r.pos ≤ a.endOff ∧
      r.out = (a.hist.drop (r.start - a.base)).take (r.pos - r.start)

inductive SpecStepH (a a' : Spec) : Prop where
  | same (hb : a'.base = a.base) (hh : a'.hist = a.hist)
  | append (chunk : Bytes) (hb : a'.base = a.base) (hh : a'.hist = a.hist ++ chunk)
  | fresh (hh : a'.hist = [])

theorem spec_wf {s : Disk} (h : DInv s) : SpecWF s.spec := by
  -- a reader of the spec is an open stream reader of the index, inside one of its segments
  have hrd : ∀ r ∈ s.spec.readers, ∃ g ∈ s.all, g.left ≤ r.pos ∧ (s.hbase ≤ r.start ∧ r.start ≤ r.pos ∧
      r.pos ≤ s.hbase + s.hist.length ∧ r.out = (s.hist.drop (r.start - s.hbase)).take (r.pos - r.start)) := by
    intro r hr
    obtain ⟨x, hx, rfl⟩ := List.mem_map.mp hr
    obtain ⟨hxm, hxo⟩ := List.mem_filter.mp hx
    simp only [Bool.and_eq_true] at hxo
    obtain ⟨⟨g, hg, _, hgl, _⟩, _⟩ := (h.readersOk x hxm hxo.1).1 hxo.2
    exact ⟨g, hg, hgl, stream_delivered h hxm hxo.1 hxo.2⟩
  have hlo : ∀ o, firstLeft s.all = o →
      s.spec.lo = match o with | some l => l | none => s.hbase + s.hist.length := fun o e => e ▸ rfl
  cases hfl : firstLeft s.all with
  | none =>
    have hall : s.all = [] := by
      cases hall : s.all with
      | nil => rfl
      | cons g t => rw [hall] at hfl; cases hfl
    refine ⟨(hlo _ hfl).symm ▸ Nat.le_add_right _ _, Nat.le_of_eq (hlo _ hfl), fun r hr => ?_⟩
    obtain ⟨g, hg, _⟩ := hrd r hr
    rw [hall] at hg; cases hg
  | some f =>
    have hf : s.spec.lo = f := hlo _ hfl
    obtain ⟨g, hg, hgf⟩ : ∃ g ∈ s.all, g.left = f := by
      cases hall : s.all with
      | nil => rw [hall] at hfl; cases hfl
      | cons g t => rw [hall] at hfl; cases hfl; exact ⟨g, List.mem_cons_self, rfl⟩
    obtain ⟨e1, e2, _⟩ := h.embed g hg
    refine ⟨hf ▸ hgf ▸ e1, hf ▸ hgf ▸ Nat.le_trans (Nat.le_add_right _ _) e2, fun r hr => ?_⟩
    obtain ⟨g', hg', hl', h1, h2, h3, h4⟩ := hrd r hr
    exact ⟨h1, h2, hf ▸ Nat.le_trans (contig_first_le h.contig hg' hfl) hl', h3, h4⟩

/-- the bytes the concrete index holds ARE the spec's window -/
theorem spec_window {s : Disk} (h : DInv s) : s.abs.bytes = s.spec.window := by
  unfold Spec.window
  by_cases hne : s.all = []
  · have : firstLeft s.all = none := by rw [hne]; rfl
    simp [Disk.abs, Disk.spec, hne, firstLeft]
  · obtain ⟨_, hb⟩ := abs_bytes_eq h hne
    rw [hb]
    cases hfl : firstLeft s.all with
    | none =>
      cases hall : s.all with
      | nil => exact absurd hall hne
      | cons a t => rw [hall] at hfl; cases hfl
    | some f => simp [Disk.abs, Disk.spec, hfl]

/-- every concrete step is a history-level step of the spec -/
theorem spec_step_hist (s : Disk) (op : DOp) : SpecStepH s.spec (s.step op).1.spec := by
  rcases hist_step s op with ⟨hb, hh⟩ | ⟨chunk, _, _, hb, hh⟩ | hh
  · exact .same hb hh
  · exact .append chunk hb hh
  · exact .fresh hh

end GunYu.Store
