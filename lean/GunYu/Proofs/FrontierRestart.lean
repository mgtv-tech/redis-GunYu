/-
  Sync mode (one `latest` record): the units applied are exactly 1..n and a start answers the end of unit n.
  Stop/start cycles with no traffic: in a namespace whose stored offsets follow one monotone numbering the
  start point never moves backwards, wherever the recovery requests of a start are cut. Core only.
-/
import GunYu.Proofs.FrontierSys

namespace GunYu.Frontier
open GunYu

/-- `n` units have been applied, exactly 1..n in order; `latest` is the record of unit n -/
structure SyncInv (W : World) (s : SyncSys) (n : Nat) : Prop where
  root : ∃ db, s.ns.root = some (W.rid, W.e 0, db)
  cur : s.cur = (n : Int)
  applied : s.applied = upTo n
  none0 : s.ns.latest = none → n = 0
  latest : ∀ r, s.ns.latest = some r → r = { (unitRec W (n : Int) r.mtime) with slot := r.slot } ∧ 0 < n

theorem startLatest_of_inv {W : World} {s : SyncSys} {n : Nat} (hi : SyncInv W s n)
    (hmono : ∀ i, 0 ≤ i → W.e 0 ≤ W.e i) (hrid : matchRun W.rid W.ids = true) :
    ∃ db, startLatest s.ns W.ids = .point db W.rid (W.e n) n := by
  obtain ⟨db, hroot⟩ := hi.root
  cases hl : s.ns.latest with
  | none =>
    have : n = 0 := hi.none0 hl
    subst this
    exact ⟨db, by unfold startLatest; rw [hroot, hl]; rfl⟩
  | some r =>
    obtain ⟨hrec, hpos⟩ := hi.latest r hl
    have hrun : r.runId = W.rid := by rw [hrec]; rfl
    have hseq : r.seq = (n : Int) := by rw [hrec]; rfl
    have hend : r.endOff = W.e n := by rw [hrec]; rfl
    refine ⟨0, ?_⟩
    unfold startLatest
    rw [hroot, hl]
    simp only [hrun, hrid, if_true]
    rw [rootNewer_of_le W.ids (show (W.rid, W.e 0, db).2.1 ≤ r.endOff from hend ▸ hmono n (by omega))]
    simp [hseq, hend]

theorem syncStep_inv {W : World} {s : SyncSys} {n : Nat} (hi : SyncInv W s n)
    (hmono : ∀ i, 0 ≤ i → W.e 0 ≤ W.e i) (hrid : matchRun W.rid W.ids = true) (st : SyncStep) :
    ∃ n', SyncInv W (syncStep W s st) n' := by
  cases st with
  | restart =>
    obtain ⟨db, hst⟩ := startLatest_of_inv hi hmono hrid
    refine ⟨n, ?_⟩
    simp only [syncStep, hst]
    exact ⟨hi.root, rfl, hi.applied, hi.none0, hi.latest⟩
  | commitNext mt =>
    refine ⟨n + 1, hi.root, ?_, ?_, ?_, ?_⟩
    · simp only [syncStep, hi.cur]; omega
    · simp only [syncStep, hi.applied, hi.cur, upTo]; congr 2
    · intro h; simp [syncStep, applyReq] at h
    · intro r hr
      simp only [syncStep, applyReq, Option.some.injEq] at hr
      subst hr
      refine ⟨?_, by omega⟩
      simp only [unitRec, hi.cur]
      congr 1

theorem syncRun_inv {W : World} (hmono : ∀ i, 0 ≤ i → W.e 0 ≤ W.e i)
    (hrid : matchRun W.rid W.ids = true) (steps : List SyncStep) :
    ∀ {s : SyncSys} {n : Nat}, SyncInv W s n → ∃ n', SyncInv W (syncRun W s steps) n' :=
  fun hi => foldl_inv (f := syncStep W) (I := fun s => ∃ n, SyncInv W s n)
    (fun _ st ⟨_, hi⟩ => syncStep_inv hi hmono hrid st) steps ⟨_, hi⟩

/-- the stored offsets follow one monotone numbering -/
structure Consistent (W : World) (ns : NS) : Prop where
  mono : ∀ i j, i ≤ j → W.e i ≤ W.e j
  jr : ∀ j ∈ ns.journal, j.r.endOff = W.e j.r.seq
  fr : ∀ f, ns.frontier = some f → f.offset = W.e f.seq
  root : ∀ x, ns.root = some x → x.2.1 = W.e 0

def PointLe : Start → Start → Prop
  | .point _ _ o s, .point _ _ o' s' => o ≤ o' ∧ s ≤ s'
  | _, _ => False

def IsPoint : Start → Prop
  | .point _ _ _ _ => True
  | _ => False

/-- consecutive start points never decrease -/
def Ascending : List Start → Prop
  | a :: b :: rest => PointLe a b ∧ Ascending (b :: rest)
  | _ => True

theorem applyAll_recovery_frontier (ns : NS) (rs : List Req)
    (hrs : ∀ q ∈ rs, (∃ f, q = .saveFrontier f) ∨ (∃ k, q = .delRec k) ∨ (∃ ks, q = .zrem ks)) :
    (applyAll ns rs).root = ns.root ∧
    (∀ j ∈ (applyAll ns rs).journal, j ∈ ns.journal) ∧
    (∀ f, (applyAll ns rs).frontier = some f → ns.frontier = some f ∨ .saveFrontier f ∈ rs) := by
  induction rs generalizing ns with
  | nil => exact ⟨rfl, fun j hj => hj, fun f hf => Or.inl hf⟩
  | cons q rs ih =>
    simp only [applyAll, List.foldl_cons]
    have hq := hrs q (List.mem_cons_self ..)
    obtain ⟨h1, h2, h3⟩ := ih (applyReq ns q) (fun q' hq' => hrs q' (List.mem_cons_of_mem _ hq'))
    simp only [applyAll] at h1 h2 h3
    rcases hq with ⟨f, rfl⟩ | ⟨k, rfl⟩ | ⟨ks, rfl⟩
    · refine ⟨h1, h2, ?_⟩
      intro f' hf'
      rcases h3 f' hf' with h | h
      · simp only [applyReq, Option.some.injEq] at h
        right; rw [h]; exact List.mem_cons_self ..
      · right; exact List.mem_cons_of_mem _ h
    · refine ⟨h1, fun j hj => (List.mem_filter.mp (h2 j hj)).1, ?_⟩
      intro f' hf'
      rcases h3 f' hf' with h | h
      · left; exact h
      · right; exact List.mem_cons_of_mem _ h
    · refine ⟨h1, h2, ?_⟩
      intro f' hf'
      rcases h3 f' hf' with h | h
      · left; exact h
      · right; exact List.mem_cons_of_mem _ h

theorem matchRun_ne_nil {rid : Bytes} {ids : List Bytes} (h : matchRun rid ids = true) : rid ≠ [] := by
  unfold matchRun at h
  simp only [List.any_eq_true, decide_eq_true_eq] at h
  obtain ⟨i, _, hne, he⟩ := h
  rw [← he]; exact hne

theorem purgeReqs_of_restart {ns : NS} {ids : List Bytes} {reqs : List Req}
    (h : reqs = purgeReqs ns ids ∨ (reqs = [] ∧ loadSnapshot ns ids = none)) : ∀ q ∈ reqs, isDelete q = true := by
  rcases h with rfl | ⟨rfl, _⟩
  · exact purgeReqs_form ns ids
  · exact fun q hq => nomatch hq

theorem restartFromRoot_form (ns : NS) (ids : List Bytes) (root : Bytes × Int × Nat) :
    ∃ reqs, restartFromRoot ns ids root = (rootPoint root, reqs) ∧ ∀ q ∈ reqs, isDelete q = true := by
  obtain ⟨reqs, h1, h2⟩ := restartFromRoot_eq ns ids root
  exact ⟨reqs, h1, purgeReqs_of_restart h2⟩

theorem rebuild_some_pos (ver : Bytes) (f : Snap) (recs : List Rec) (hpos : f.seq > 0) :
    ∃ f', rebuild ver (some f) recs = .ok (some f') := by
  unfold rebuild
  by_cases he : recs.isEmpty = true
  · rw [if_pos he]; exact ⟨f, rfl⟩
  · rw [if_neg he]
    have : ¬ (f.seq = 0 ∧ minSeq recs ≠ 1) := fun h => by omega
    simp only
    rw [if_neg this]; exact ⟨_, rfl⟩

theorem startFrontier_selected (ver : Bytes) (ns : NS) (ids : List Bytes) (root : Bytes × Int × Nat)
    (f' : Snap) (hroot : ns.root = some root)
    (hrb : rebuild ver (loadSnapshot ns ids) ((startRecords ns ids).map (·.r)) = .ok (some f'))
    (hpos : f'.seq > 0) (hnew : rootNewer root f'.offset ids = false) :
    ∃ rid, (startFrontier ver ns ids).1 = .point 0 rid f'.offset f'.seq := by
  unfold startFrontier
  rw [hroot]
  dsimp only
  rw [hrb]
  dsimp only
  rw [if_pos hpos, hnew]
  exact ⟨_, rfl⟩

theorem rootNewer_mono (root : Bytes × Int × Nat) (a b : Int) (ids : List Bytes) (hab : a ≤ b)
    (h : rootNewer root a ids = false) : rootNewer root b ids = false := by
  rw [Bool.eq_false_iff, Ne, rootNewer_iff] at h ⊢
  exact fun hb => h ⟨hb.1, by omega, hb.2.2⟩

theorem selected_consistent {W : World} {ns : NS} (hc : Consistent W ns) (f : Snap)
    (hrb : rebuild W.ver (loadSnapshot ns W.ids) ((startRecords ns W.ids).map (·.r)) = .ok (some f))
    (hpos : f.seq > 0) : f.offset = W.e f.seq ∧ matchRun f.runId W.ids = true := by
  rcases rebuild_origin hrb hpos with h1 | ⟨r, hr, hrs, hro, hrr⟩
  · exact ⟨hc.fr f (loadSnapshot_some h1), (loadSnapshot_eq_some.mp h1).2⟩
  · obtain ⟨j, hj, rfl⟩ := List.mem_map.mp hr
    exact ⟨by rw [← hro, hc.jr j (mem_loadRecords hj), hrs], by rw [← hrr]; exact loadRecords_match hj⟩

theorem recoveryReqs_shape (records : List JRec) (f : Snap) :
    recoveryReqs records f = [] ∨
    ∃ rest, recoveryReqs records f = Req.saveFrontier f :: rest ∧
      ∀ q ∈ rest, (∃ k, q = .delRec k) ∨ (∃ ks, q = .zrem ks) := by
  unfold recoveryReqs
  split
  · left; rfl
  · right
    refine ⟨_, rfl, ?_⟩
    intro q hq
    rcases List.mem_append.mp hq with hq | hq
    · obtain ⟨k, _, rfl⟩ := List.mem_map.mp hq; exact Or.inl ⟨k, rfl⟩
    · right; exact ⟨_, by simpa using hq⟩

theorem applyAll_dels (ns : NS) (rs : List Req)
    (hrs : ∀ q ∈ rs, (∃ k, q = .delRec k) ∨ (∃ ks, q = .zrem ks)) :
    (applyAll ns rs).root = ns.root ∧ (applyAll ns rs).frontier = ns.frontier ∧
    (∀ j ∈ (applyAll ns rs).journal, j ∈ ns.journal) := by
  induction rs generalizing ns with
  | nil => exact ⟨rfl, rfl, fun j hj => hj⟩
  | cons q rs ih =>
    simp only [applyAll, List.foldl_cons]
    obtain ⟨h1, h2, h3⟩ := ih (applyReq ns q) (fun q' hq' => hrs q' (List.mem_cons_of_mem _ hq'))
    simp only [applyAll] at h1 h2 h3
    rcases hrs q (List.mem_cons_self ..) with ⟨k, rfl⟩ | ⟨ks, rfl⟩
    · exact ⟨h1, h2, fun j hj => (List.mem_filter.mp (h3 j hj)).1⟩
    · exact ⟨h1, h2, h3⟩

theorem applyAll_deletes (ns : NS) (rs : List Req) (hrs : ∀ q ∈ rs, isDelete q = true) :
    (applyAll ns rs).root = ns.root ∧
    ((applyAll ns rs).frontier = ns.frontier ∨ (applyAll ns rs).frontier = none) ∧
    (∀ j ∈ (applyAll ns rs).journal, j ∈ ns.journal) ∧ (∀ p ∈ (applyAll ns rs).index, p ∈ ns.index) := by
  induction rs generalizing ns with
  | nil => exact ⟨rfl, Or.inl rfl, fun j hj => hj, fun p hp => hp⟩
  | cons q rs ih =>
    obtain ⟨h1, h2, h3, h4⟩ := ih (applyReq ns q) (fun q' hq' => hrs q' (List.mem_cons_of_mem _ hq'))
    have hq := hrs q List.mem_cons_self
    show (applyAll (applyReq ns q) rs).root = ns.root ∧ _
    cases q with
    | delRec k => exact ⟨h1, h2, fun j hj => (List.mem_filter.mp (h3 j hj)).1, h4⟩
    | zrem ks => exact ⟨h1, h2, h3, fun p hp => (List.mem_filter.mp (h4 p hp)).1⟩
    | delFrontier => exact ⟨h1, Or.inr (h2.elim id id), h3, h4⟩
    | saveFrontier f => cases hq
    | commit r => cases hq
    | commitLatest r => cases hq

theorem start_point_of_consistent {W : World} {ns : NS} (hc : Consistent W ns)
    (root : Bytes × Int × Nat) (hroot : ns.root = some root) :
    ∃ db rid seq, (startFrontier W.ver ns W.ids).1 = .point db rid (W.e seq) seq ∧ 0 ≤ seq := by
  rcases startFrontier_cases W.ver ns W.ids with ⟨h, _⟩ | ⟨root', reqs, hr, hst, _⟩ | ⟨root', f, hr, hrb, hpos, _, hst⟩
  · rw [hroot] at h; exact absurd h (by simp)
  · rw [hst]
    refine ⟨root'.2.2, root'.1, 0, ?_, Int.le_refl _⟩
    simp only [rootPoint, hc.root root' hr]
  · rw [hst]
    obtain ⟨hfe, _⟩ := selected_consistent hc f hrb hpos
    exact ⟨0, _, f.seq, by rw [hfe], by omega⟩

theorem restart_step {W : World} {ns : NS} (hc : Consistent W ns) (db : Nat) (rid : Bytes) (off seq : Int)
    (h : (startFrontier W.ver ns W.ids).1 = .point db rid off seq) (k : Nat) :
    Consistent W (restartState W.ver W.ids ns k) ∧
    ∃ db' rid' off' seq',
      (startFrontier W.ver (restartState W.ver W.ids ns k) W.ids).1 = .point db' rid' off' seq' ∧
      off ≤ off' ∧ seq ≤ seq' := by
  have hsame : restartState W.ver W.ids ns k = ns →
      Consistent W (restartState W.ver W.ids ns k) ∧
      ∃ db' rid' off' seq',
        (startFrontier W.ver (restartState W.ver W.ids ns k) W.ids).1 = .point db' rid' off' seq' ∧
        off ≤ off' ∧ seq ≤ seq' := by
    intro he; rw [he]
    exact ⟨hc, db, rid, off, seq, h, Int.le_refl _, Int.le_refl _⟩
  rcases startFrontier_cases W.ver ns W.ids with ⟨_, hst⟩ | ⟨root, reqs, hroot, hst, hreqs, _⟩ |
      ⟨root, f, hroot, hrb, hpos, hnew, hst⟩
  · rw [hst] at h; exact absurd h (by simp)
  · -- fell back to the root checkpoint: a purge may have been cut anywhere
    rw [hst] at h
    simp only [rootPoint, Start.point.injEq] at h
    obtain ⟨_, _, hoff, hseq⟩ := h
    have hstate : restartState W.ver W.ids ns k = applyAll ns (reqs.take k) := by
      unfold restartState; rw [hst]
    obtain ⟨hr1, hr2, hr3, _⟩ := applyAll_deletes ns (reqs.take k)
      (fun q hq => purgeReqs_of_restart hreqs q (List.mem_of_mem_take hq))
    rw [hstate]
    generalize applyAll ns (reqs.take k) = ns' at hr1 hr2 hr3
    have hc' : Consistent W ns' := by
      refine ⟨hc.mono, fun j hj => hc.jr j (hr3 j hj), ?_, fun x hx => hc.root x (hr1 ▸ hx)⟩
      intro f' hf'
      rcases hr2 with h2 | h2
      · exact hc.fr f' (h2 ▸ hf')
      · rw [h2] at hf'; exact absurd hf' (by simp)
    refine ⟨hc', ?_⟩
    obtain ⟨db', rid', seq', hst', hs'⟩ := start_point_of_consistent hc' root (hr1.trans hroot)
    refine ⟨db', rid', W.e seq', seq', hst', ?_, by omega⟩
    rw [← hoff, hc.root root hroot]
    exact hc.mono 0 seq' hs'
  · rw [hst] at h
    simp only [Start.point.injEq] at h
    obtain ⟨_, _, hoff, hseq⟩ := h
    subst hoff hseq
    obtain ⟨hfe, hfm⟩ := selected_consistent hc f hrb hpos
    rcases recoveryReqs_shape (startRecords ns W.ids) f with hnil | ⟨rest, hshape, hrest⟩
    · apply hsame
      unfold restartState; rw [hst, hnil]; simp [applyAll]
    · cases k with
      | zero =>
        apply hsame
        unfold restartState; simp [applyAll]
      | succ k =>
        have hstate : restartState W.ver W.ids ns (k + 1)
            = applyAll (applyReq ns (.saveFrontier f)) (rest.take k) := by
          unfold restartState; rw [hst, hshape]; simp [applyAll]
        obtain ⟨hr1, hr2, hr3⟩ := applyAll_dels (applyReq ns (.saveFrontier f)) (rest.take k)
          (fun q hq => hrest q (List.mem_of_mem_take hq))
        rw [hstate]
        generalize hns' : applyAll (applyReq ns (.saveFrontier f)) (rest.take k) = ns' at hr1 hr2 hr3
        have hroot' : ns'.root = some root := by rw [hr1]; exact hroot
        have hfr' : ns'.frontier = some f := by rw [hr2]; rfl
        have hj' : ∀ j ∈ ns'.journal, j ∈ ns.journal := fun j hj => hr3 j hj
        have hc' : Consistent W ns' :=
          ⟨hc.mono, fun j hj => hc.jr j (hj' j hj), fun f' hf' => by
            rw [hfr'] at hf'; simp only [Option.some.injEq] at hf'; subst hf'; exact hfe,
           fun x hx => hc.root x (by rw [hroot'] at hx; rw [hroot]; exact hx)⟩
        refine ⟨hc', ?_⟩
        have hsnap' : loadSnapshot ns' W.ids = some f := loadSnapshot_eq_some.mpr ⟨hfr', hfm⟩
        obtain ⟨f', hrb'⟩ := rebuild_some_pos W.ver f ((startRecords ns' W.ids).map (·.r)) hpos
        have hb1 : f.seq ≤ f'.seq := (rebuild_spec W.ver _ _ f' hrb').1
        have hoff : f.offset ≤ f'.offset := by
          rcases rebuild_origin hrb' (Int.lt_of_lt_of_le hpos hb1) with h1 | ⟨r, hr, hrs, hro, _⟩
          · rw [Option.some.inj h1]; exact Int.le_refl _
          · obtain ⟨j, hj, rfl⟩ := List.mem_map.mp hr
            rw [← hro, hc'.jr j (mem_loadRecords hj), hrs, hfe]
            exact hc.mono _ _ hb1
        have hrb'' : rebuild W.ver (loadSnapshot ns' W.ids) ((startRecords ns' W.ids).map (·.r))
            = .ok (some f') := by rw [hsnap']; exact hrb'
        obtain ⟨rid', hsel⟩ := startFrontier_selected W.ver ns' W.ids root f' hroot' hrb''
          (by omega) (rootNewer_mono root _ _ W.ids hoff hnew)
        exact ⟨0, rid', f'.offset, f'.seq, hsel, hoff, hb1⟩

theorem restarts_head (ver : Bytes) (ids : List Bytes) (ns : NS) (ks : List Nat) :
    ∃ tl, restarts ver ids ns ks = (startFrontier ver ns ids).1 :: tl := by
  cases ks with
  | nil => exact ⟨[], rfl⟩
  | cons k ks => exact ⟨_, rfl⟩

theorem restarts_ascending {W : World} (ks : List Nat) :
    ∀ {ns : NS}, Consistent W ns → IsPoint (startFrontier W.ver ns W.ids).1 →
      Ascending (restarts W.ver W.ids ns ks) := by
  induction ks with
  | nil => intro ns _ _; simp [restarts, Ascending]
  | cons k ks ih =>
    intro ns hc hp
    cases hst : (startFrontier W.ver ns W.ids).1 with
    | empty => rw [hst] at hp; exact absurd hp (by simp [IsPoint])
    | point db rid off seq =>
      obtain ⟨hc', db', rid', off', seq', hst', ho, hs⟩ := restart_step hc db rid off seq hst k
      obtain ⟨tl, htl⟩ := restarts_head W.ver W.ids (restartState W.ver W.ids ns k) ks
      have hasc := ih hc' (by rw [hst']; trivial)
      simp only [restarts]
      rw [htl] at hasc ⊢
      rw [hst, hst'] at *
      exact ⟨⟨ho, hs⟩, hasc⟩

end GunYu.Frontier
