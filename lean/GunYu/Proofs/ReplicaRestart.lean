/-
  Helper lemmas for Props/C16Restart.lean (C16 × C08): a contiguous list of truthful
  stream segments (C08: `Contig`, `SegTrue`) flattens to one range `hseg h id base len`
  of a history (C16: `Hist`, `hseg`).
-/
import GunYu.Model.Replica
import GunYu.Proofs.Replica
import GunYu.Model.StoreFs
import GunYu.Model.ReplicaReopen
import GunYu.Proofs.StoreDisk
import GunYu.Proofs.StoreFs
import GunYu.Proofs.StoreFsTrue

namespace GunYu.StoreFs
open GunYu GunYu.Store GunYu.Replica

/-- no segment, no byte -/
@[simp] theorem segsBytes_nil : segsBytes [] = [] := rfl

/-- the first segment's data, then the rest -/
@[simp] theorem segsBytes_cons (g : DSeg) (rest : List DSeg) :
    segsBytes (g :: rest) = g.data ++ segsBytes rest := by
  simp [segsBytes]

/-- one truthful segment (C08 `SegTrue` against history `id`'s bytes) is the range
    `[left, left + |data|)` of history `id` -/
theorem segTrue_hseg (h : Hist UInt8) (id : Replica.Id) (g : DSeg)
    (hg : SegTrue (fun o => h.byte id o) g) : g.data = hseg h id g.left g.data.length := by
  apply List.ext_getElem (by simp)
  intro i h1 h2
  have := hg i g.data[i] (List.getElem?_eq_getElem h1)
  rw [this]
  simp [hseg]

/-- **the list lemma**: contiguous (each segment starts where the previous one ends) and
    truthful segments flatten to ONE range of history `id`, starting at the first
    segment's left end -/
theorem contig_true_hseg (h : Hist UInt8) (id : Replica.Id) :
    ∀ (rest : List DSeg) (g : DSeg), Contig (g :: rest) →
      (∀ x ∈ g :: rest, SegTrue (fun o => h.byte id o) x) →
      segsBytes (g :: rest) = hseg h id g.left (segsBytes (g :: rest)).length
  | [], g, _, ht => by
    simpa using segTrue_hseg h id g (ht g (by simp))
  | a :: t, g, hc, ht => by
    have ih := contig_true_hseg h id t a hc.2 (fun x hx => ht x (List.mem_cons_of_mem _ hx))
    have hg := segTrue_hseg h id g (ht g (by simp))
    have hr : g.left + g.data.length = a.left := hc.1
    rw [segsBytes_cons, List.length_append, hseg_append, hr, ← ih, ← hg]

/-- the right end of the flattened range is the last segment's right end (C08's
    `lastRight`, the `right` of the range `getRange` reports) -/
theorem contig_right (rest : List DSeg) (g : DSeg) (hc : Contig (g :: rest)) :
    lastRight (g :: rest) = some (g.left + (segsBytes (g :: rest)).length) := by
  induction rest generalizing g with
  | nil => simp [lastRight, DSeg.right]
  | cons a t ih =>
    have hr : g.left + g.data.length = a.left := hc.1
    rw [lastRight_cons_cons, ih a hc.2, segsBytes_cons g, List.length_append, ← hr, Nat.add_assoc]

/-- `dataOfReopened` by what the re-opened store indexes and offers -/
theorem dataOfReopened_eq (fs : FS) :
    dataOfReopened fs =
      match (reopen fs).segs, (reopen fs).rdb with
      | g :: rest, some (L, S) => some ⟨g.left, segsBytes (g :: rest), fs.get (rdbName L S)⟩
      | g :: rest, none => some ⟨g.left, segsBytes (g :: rest), none⟩
      | [], some (L, S) => some ⟨L, [], fs.get (rdbName L S)⟩
      | [], none => none := by
  unfold dataOfReopened
  simp only []
  rcases (reopen fs).segs with _ | ⟨g, rest⟩ <;> rcases (reopen fs).rdb with _ | ⟨L, S⟩ <;> rfl

/-! ### decidable forms of C08's `SrcOk` (for concrete scripts in non-vacuity examples) -/

/-- `ChunkOk` as a check: the appended chunk IS the source's range at the append offset -/
def chunkOkB (src : Nat → UInt8) (s : Disk) : DOp → Bool
  | .aofAppend chunk =>
    chunk == (List.range chunk.length).map (fun i => src (s.hbase + s.hist.length + i))
  | _ => true

/-- `SrcOk` as a check along the script -/
def srcOkB (src : Nat → UInt8) : Disk → List DOp → Bool
  | _, [] => true
  | s, op :: rest => chunkOkB src s op && srcOkB src (s.step op).1 rest

/-- the one-call check is sound for C08's `ChunkOk` -/
theorem chunkOk_of_check (src : Nat → UInt8) (s : Disk) (op : DOp) (hb : chunkOkB src s op = true) :
    ChunkOk src s op := by
  cases op with
  | aofAppend chunk =>
    intro i b hi
    simp only [chunkOkB, beq_iff_eq] at hb
    have hlt : i < chunk.length := (List.getElem?_eq_some_iff.mp hi).1
    rw [hb] at hi
    simp only [List.getElem?_map] at hi
    rw [List.getElem?_range hlt] at hi
    simpa using hi.symm
  | _ => trivial

/-- the check is sound: a script that passes it satisfies C08's `SrcOk` -/
theorem srcOk_of_check (src : Nat → UInt8) :
    ∀ (ops : List DOp) (s : Disk), srcOkB src s ops = true → SrcOk src s ops
  | [], _, _ => trivial
  | op :: rest, s, hb => by
    simp only [srcOkB, Bool.and_eq_true] at hb
    exact ⟨chunkOk_of_check src s op hb.1, srcOk_of_check src rest _ hb.2⟩

end GunYu.StoreFs
