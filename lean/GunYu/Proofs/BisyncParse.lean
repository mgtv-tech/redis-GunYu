/-
  Helper lemmas for C13: the parser (`step`, `parse`, `parseBlock`) on the
  block shapes that occur in a site's stream.
-/
import GunYu.Model.Bisync
import GunYu.Proofs.BisyncFilter

namespace GunYu.Bisync
open GunYu GunYu.BisyncUnit

/-- parser state at a block boundary (no open transaction, nothing bypassed) -/
def Idle (st : PState) : Prop := st.inTxn = false ∧ st.bypass = false

/-- a (lower-cased) command name with no role in the parser's framing and
    prologue: not MULTI / EXEC / PING / SELECT, not on the command blacklist -/
structure Ordinary (f : Filter.KeyFilter) (n : Bytes) : Prop where
  notMulti : n ≠ wMulti
  notExec : n ≠ wExec
  notPing : n ≠ wPing
  notSelect : Filter.eqFold n wSelect = false
  notPublish : Filter.eqFold n wPublish = false
  notBlack : f.filterCmd n = false

theorem bne_of_ne {a b : Bytes} (h : a ≠ b) : (a != b) = true := by simp [h]
theorem beq_of_ne {a b : Bytes} (h : a ≠ b) : (a == b) = false := by simp [h]

/-- an ordinary command goes straight to `stepData` -/
theorem step_ordinary (cfg : PCfg) (st : PState) (n : Bytes) (argv : List Bytes) (off : Nat)
    (ho : Ordinary cfg.filter n) (hb : st.bypass = false) :
    step cfg st n argv off = stepData cfg st n argv off := by
  unfold step
  rw [beq_of_ne ho.notMulti, beq_of_ne ho.notExec]
  simp only [Bool.false_eq_true, ↓reduceIte]
  unfold preFilter
  rw [bne_of_ne ho.notPing, ho.notSelect, ho.notBlack, ho.notPublish, hb]
  simp only [↓reduceIte, Bool.false_eq_true, Bool.false_and]
  rw [beq_of_ne ho.notPing]
  have : ¬ ((-1 : Int) ≥ 0) := by omega
  simp only [this, ↓reduceIte, Bool.false_eq_true]
  cases st
  simp only at hb
  subst hb
  rfl

theorem step_multi (cfg : PCfg) (st : PState) (argv : List Bytes) (off : Nat) (h : st.inTxn = false) :
    step cfg st wMulti argv off =
      ({ st with inTxn := true, txnStart := st.prevOff, txn := [], prevOff := off }, .none) := by
  unfold step
  simp [h]

theorem step_exec_mirrored (cfg : PCfg) (st : PState) (argv : List Bytes) (off : Nat) (h : st.inTxn = true)
    (hm : isMirroredTxn st.txn = true) :
    step cfg st wExec argv off = ({ st with inTxn := false, txn := [], prevOff := off }, .none) := by
  unfold step
  have : (wExec == wMulti) = false := by decide
  simp [this, h, hm]

theorem step_exec_empty (cfg : PCfg) (st : PState) (argv : List Bytes) (off : Nat) (h : st.inTxn = true)
    (he : st.txn = []) :
    step cfg st wExec argv off = ({ st with inTxn := false, prevOff := off }, .none) := by
  unfold step
  have : (wExec == wMulti) = false := by decide
  simp [this, h, he, isMirroredTxn]

theorem step_exec_build (cfg : PCfg) (st : PState) (argv : List Bytes) (off : Nat) (h : st.inTxn = true)
    (hm : isMirroredTxn st.txn = false) (hne : st.txn ≠ []) :
    step cfg st wExec argv off =
      match buildUnit cfg.mode cfg.resolver st.txn with
      | .error e => (st, .err (.build e))
      | .ok u =>
        ({ st with inTxn := false, txn := [], prevOff := off, seq := st.seq + 1 },
         .emit ⟨st.seq, st.txnStart, off, true, u⟩) := by
  unfold step
  have : (wExec == wMulti) = false := by decide
  have he : st.txn.isEmpty = false := by
    cases ht : st.txn with
    | nil => exact absurd ht hne
    | cons _ _ => rfl
  simp [this, h, hm, he]
  cases buildUnit cfg.mode cfg.resolver st.txn <;> rfl

/-! ### running the parser over a command list -/

/-- `parse` over the commands of a list, offsets continuing from the state -/
def parseCmds (cfg : PCfg) (st : PState) (cs : List Cmd) (acc : List Emit) : List Emit × PState × Option PErr :=
  parse cfg st (items st.prevOff cs) acc

theorem parseCmds_nil (cfg : PCfg) (st : PState) (acc : List Emit) :
    parseCmds cfg st [] acc = (acc.reverse, st, if st.inTxn then some .eofInTxn else none) := rfl

theorem parseCmds_cons (cfg : PCfg) (st : PState) (c : Cmd) (cs : List Cmd) (acc : List Emit) :
    parseCmds cfg st (c :: cs) acc =
      match step cfg st (lower c.name) c.args (st.prevOff + respLen c) with
      | (_, .err e) => (acc.reverse, st, some e)
      | (st', .none) => parse cfg st' (items (st.prevOff + respLen c) cs) acc
      | (st', .emit e) => parse cfg st' (items (st.prevOff + respLen c) cs) (e :: acc) := by
  unfold parseCmds
  rw [items, parse]
  rfl

theorem parseCmds_step_none (cfg : PCfg) (st st' : PState) (c : Cmd) (cs : List Cmd) (acc : List Emit)
    (h : step cfg st (lower c.name) c.args (st.prevOff + respLen c) = (st', .none))
    (ho : st'.prevOff = st.prevOff + respLen c) :
    parseCmds cfg st (c :: cs) acc = parseCmds cfg st' cs acc := by
  rw [parseCmds_cons, h]
  simp only
  unfold parseCmds
  rw [ho]

theorem parseBlock_single (cfg : PCfg) (st : PState) (c : Cmd) :
    parseBlock cfg st (.single c) = parseCmds cfg st [c] [] := rfl

theorem parseBlock_multi (cfg : PCfg) (st : PState) (cs : List Cmd) :
    parseBlock cfg st (.multi cs) = parseCmds cfg st (mMulti :: cs ++ [mExec]) [] := rfl

/-! ### inside a transaction -/

/-- a command the parser may meet between MULTI and EXEC without stopping:
    anything but MULTI/EXEC themselves and a SELECT it cannot parse -/
def TxnSafe (c : Cmd) : Prop :=
  lower c.name ≠ wMulti ∧ lower c.name ≠ wExec ∧ Filter.eqFold (lower c.name) wSelect = false

/-- what a safe command contributes to the parser's buffer: nothing when it is
    consumed (PING), on the command blacklist, a sentinel hello, or withheld by
    the key filter; otherwise itself with the (possibly projected) arguments -/
def extOf (cfg : PCfg) (c : Cmd) : List Cmd :=
  if lower c.name == wPing then []
  else if cfg.filter.filterCmd (lower c.name) then []
  else if Filter.eqFold (lower c.name) wPublish && !c.args.isEmpty &&
      Filter.eqFold (c.args.headD []) wSentinelHello then []
  else
    match cfg.filter.filterCmdKey (lower c.name) c.args with
    | none => []
    | some a' => [⟨lower c.name, a'⟩]

theorem extOf_cases (cfg : PCfg) (c : Cmd) :
    extOf cfg c = [] ∨ ∃ a', cfg.filter.filterCmdKey (lower c.name) c.args = some a' ∧
      extOf cfg c = [⟨lower c.name, a'⟩] := by
  unfold extOf
  split
  · left; rfl
  · split
    · left; rfl
    · split
      · left; rfl
      · cases h : cfg.filter.filterCmdKey (lower c.name) c.args with
        | none => left; rfl
        | some a' => right; exact ⟨a', rfl, rfl⟩

/-- with nothing bypassed, a safe command either is dropped or reaches
    `stepData` with its filtered arguments -/
theorem step_safe (cfg : PCfg) (st : PState) (c : Cmd) (off : Nat) (hb : st.bypass = false) (hs : TxnSafe c) :
    step cfg st (lower c.name) c.args off =
      match extOf cfg c with
      | [] => ({ st with prevOff := off }, .none)
      | c' :: _ =>
        if st.inTxn then ({ st with txn := st.txn ++ [c'], prevOff := off }, .none)
        else if touchesNamespace c' then ({ st with prevOff := off }, .none)
        else
          match buildUnit cfg.mode cfg.resolver [c'] with
          | .error e => (st, .err (.build e))
          | .ok u =>
            ({ st with prevOff := off, seq := st.seq + 1 }, .emit ⟨st.seq, st.prevOff, off, false, u⟩) := by
  obtain ⟨h1, h2, h3⟩ := hs
  obtain ⟨bypass, prevOff, seq, inTxn, txnStart, txn⟩ := st
  simp only at hb
  subst hb
  have hn : ¬ ((-1 : Int) ≥ 0) := by omega
  unfold step extOf
  rw [beq_of_ne h1, beq_of_ne h2]
  simp only [Bool.false_eq_true, ↓reduceIte]
  unfold preFilter
  by_cases hp : lower c.name = wPing
  · have e1 : (lower c.name != wPing) = false := by simp [hp]
    have e2 : (lower c.name == wPing) = true := by simp [hp]
    rw [e1, e2]
    simp only [Bool.false_eq_true, ↓reduceIte, hn]
  · rw [bne_of_ne hp, beq_of_ne hp, h3]
    simp only [↓reduceIte, Bool.false_eq_true]
    cases cfg.filter.filterCmd (lower c.name) with
    | true => simp only [↓reduceIte]
    | false =>
      simp only [Bool.false_eq_true, ↓reduceIte]
      cases Filter.eqFold (lower c.name) wPublish && !c.args.isEmpty &&
          Filter.eqFold (c.args.headD []) wSentinelHello with
      | true => simp only [↓reduceIte]
      | false =>
        simp only [Bool.false_eq_true, ↓reduceIte, hn]
        unfold stepData
        cases hk : cfg.filter.filterCmdKey (lower c.name) c.args with
        | none => rfl
        | some a' =>
          simp only [Bool.false_eq_true, ↓reduceIte]
          cases inTxn <;> rfl

theorem step_inTxn_safe (cfg : PCfg) (st : PState) (c : Cmd) (off : Nat)
    (hin : st.inTxn = true) (hb : st.bypass = false) (hs : TxnSafe c) :
    step cfg st (lower c.name) c.args off = ({ st with txn := st.txn ++ extOf cfg c, prevOff := off }, .none) := by
  rw [step_safe cfg st c off hb hs]
  rcases extOf_cases cfg c with h | ⟨a', _, h⟩
  · rw [h]; simp
  · rw [h]; simp [hin]

theorem parseCmds_inTxn_safe (cfg : PCfg) (cs rest : List Cmd) (st : PState)
    (acc : List Emit) (hin : st.inTxn = true) (hb : st.bypass = false) (hs : ∀ c ∈ cs, TxnSafe c) :
    ∃ off', parseCmds cfg st (cs ++ rest) acc =
      parseCmds cfg { st with txn := st.txn ++ cs.flatMap (extOf cfg), prevOff := off' } rest acc := by
  induction cs generalizing st with
  | nil =>
    refine ⟨st.prevOff, ?_⟩
    simp only [List.nil_append, List.flatMap_nil, List.append_nil]
  | cons c cs ih =>
    have hstep := step_inTxn_safe cfg st c (st.prevOff + respLen c) hin hb (hs c (by simp))
    rw [List.cons_append, parseCmds_step_none cfg st _ c (cs ++ rest) acc hstep rfl]
    obtain ⟨off2, h2⟩ := ih { st with txn := st.txn ++ extOf cfg c, prevOff := st.prevOff + respLen c } hin hb
      (fun c' hc' => hs c' (List.mem_cons_of_mem _ hc'))
    refine ⟨off2, ?_⟩
    rw [h2]
    simp only [List.flatMap_cons, List.append_assoc]

/-- what the parser does with a whole `MULTI … EXEC` block of safe commands,
    starting idle: the buffer it tests at EXEC is the filtered body -/
theorem parseBlock_multi_safe (cfg : PCfg) (cs : List Cmd) (st : PState) (hi : Idle st)
    (hs : ∀ c ∈ cs, TxnSafe c) :
    (isMirroredTxn (cs.flatMap (extOf cfg)) = true ∨ cs.flatMap (extOf cfg) = [] →
      ∃ st', parseBlock cfg st (.multi cs) = ([], st', none) ∧ Idle st' ∧ st'.seq = st.seq) ∧
    (isMirroredTxn (cs.flatMap (extOf cfg)) = false → cs.flatMap (extOf cfg) ≠ [] →
      (∀ u, buildUnit cfg.mode cfg.resolver (cs.flatMap (extOf cfg)) = .ok u →
        ∃ st' off, parseBlock cfg st (.multi cs) = ([⟨st.seq, st.prevOff, off, true, u⟩], st', none) ∧
          Idle st' ∧ st'.seq = st.seq + 1) ∧
      (∀ e, buildUnit cfg.mode cfg.resolver (cs.flatMap (extOf cfg)) = .error e →
        ∃ st', parseBlock cfg st (.multi cs) = ([], st', some (.build e)))) := by
  obtain ⟨hin, hb⟩ := hi
  obtain ⟨bypass, prevOff, seq, inTxn, txnStart, txn⟩ := st
  simp only at hin hb
  subst hin; subst hb
  rw [parseBlock_multi]
  have hm : step cfg ⟨false, prevOff, seq, false, txnStart, txn⟩ (lower mMulti.name) mMulti.args
      (prevOff + respLen mMulti) =
      (⟨false, prevOff + respLen mMulti, seq, true, prevOff, []⟩, .none) :=
    step_multi cfg _ _ _ rfl
  rw [List.cons_append, parseCmds_step_none cfg _ _ mMulti (cs ++ [mExec]) [] hm rfl]
  obtain ⟨off1, h1⟩ := parseCmds_inTxn_safe cfg cs [mExec]
    ⟨false, prevOff + respLen mMulti, seq, true, prevOff, []⟩ [] rfl rfl hs
  rw [h1]
  simp only [List.nil_append]
  rw [parseCmds_cons]
  have hexn : lower mExec.name = wExec := by decide
  rw [hexn]
  constructor
  · intro h
    by_cases hmir : isMirroredTxn (cs.flatMap (extOf cfg)) = true
    · rw [step_exec_mirrored cfg _ _ _ rfl hmir]
      exact ⟨_, rfl, ⟨rfl, rfl⟩, rfl⟩
    · rw [step_exec_empty cfg _ _ _ rfl (h.resolve_left hmir)]
      exact ⟨_, rfl, ⟨rfl, rfl⟩, rfl⟩
  · intro hmir hne
    rw [step_exec_build cfg _ _ _ rfl hmir hne]
    constructor
    · intro u hu
      rw [hu]
      exact ⟨_, _, rfl, ⟨rfl, rfl⟩, rfl⟩
    · intro e he
      rw [he]
      exact ⟨_, rfl⟩

/-- … and with a stand-alone safe command -/
theorem parseBlock_single_safe (cfg : PCfg) (c : Cmd) (st : PState) (hi : Idle st) (hs : TxnSafe c) :
    (extOf cfg c = [] ∨ (∃ c' t, extOf cfg c = c' :: t ∧ touchesNamespace c' = true) →
      ∃ st', parseBlock cfg st (.single c) = ([], st', none) ∧ Idle st' ∧ st'.seq = st.seq) ∧
    (∀ c' t, extOf cfg c = c' :: t → touchesNamespace c' = false →
      (∀ u, buildUnit cfg.mode cfg.resolver [c'] = .ok u →
        ∃ st' off, parseBlock cfg st (.single c) = ([⟨st.seq, st.prevOff, off, false, u⟩], st', none) ∧
          Idle st' ∧ st'.seq = st.seq + 1) ∧
      (∀ e, buildUnit cfg.mode cfg.resolver [c'] = .error e →
        ∃ st', parseBlock cfg st (.single c) = ([], st', some (.build e)))) := by
  obtain ⟨hin, hb⟩ := hi
  obtain ⟨bypass, prevOff, seq, inTxn, txnStart, txn⟩ := st
  simp only at hin hb
  subst hin; subst hb
  rw [parseBlock_single, parseCmds_cons, step_safe cfg _ c _ rfl hs]
  constructor
  · rintro (h | ⟨c', t, h, ht⟩)
    · rw [h]
      exact ⟨_, rfl, ⟨rfl, rfl⟩, rfl⟩
    · rw [h]
      simp only [Bool.false_eq_true, ↓reduceIte, ht]
      exact ⟨_, rfl, ⟨rfl, rfl⟩, rfl⟩
  · intro c' t h ht
    rw [h]
    simp only [Bool.false_eq_true, ↓reduceIte, ht]
    constructor
    · intro u hu
      rw [hu]
      exact ⟨_, _, rfl, ⟨rfl, rfl⟩, rfl⟩
    · intro e he
      rw [he]
      exact ⟨_, rfl⟩

/-! ### mirrored transactions -/

theorem isMirroredTxn_append (pre : List Cmd) (m : Cmd) (rest : List Cmd)
    (hpre : ∀ c ∈ pre, isMarkerExpiry c = true) (hm : isMarkerCommand m = true)
    (hme : isMarkerExpiry m = false) :
    isMirroredTxn (pre ++ m :: rest) = true := by
  induction pre with
  | nil => simp [isMirroredTxn, hme, hm]
  | cons c cs ih =>
    simp only [List.cons_append, isMirroredTxn, hpre c (by simp), ↓reduceIte]
    exact ih (fun c' hc' => hpre c' (List.mem_cons_of_mem _ hc'))

theorem markerCommand_not_expiry (c : Cmd) (h : isMarkerCommand c = true) : isMarkerExpiry c = false := by
  unfold isMarkerCommand at h
  unfold isMarkerExpiry
  simp only [Bool.and_eq_true, beq_iff_eq] at h
  rw [h.1.1]
  have h1 : (wSet == wDel) = false := by decide
  have h2 : (wSet == wUnlink) = false := by decide
  simp [h1, h2]

end GunYu.Bisync
