/-
  C08: the CONTENT of snapshot files. The ghost `received` (Model/StoreFs.lean)
  records every byte handed to the snapshot writer; here it is tied to the
  index (`GInv`) and to the files (`RdbOkP`), for every script, every crash
  instant and every torn length.
-/
import GunYu.Model.StoreFsX
import GunYu.Proofs.StoreFs
import GunYu.Proofs.StoreFsTrue

namespace GunYu.StoreFs
open GunYu GunYu.Store

structure GInv (s : Disk) (g : RecvG) : Prop where
  rid : g.runId = s.runId
  held : ∀ r, s.rdb = some r → g.cur = some ⟨r.left, r.size, r.data, r.writing⟩ ∧ 0 < r.size
  gone : s.rdb = none → ∀ x, g.cur = some x → x.receiving = false

theorem GInv.init (l m : Nat) : GInv (Disk.init l m) ⟨"", none⟩ :=
  ⟨rfl, (by intro r h; cases h), (by intro _ x h; cases h)⟩

theorem stopRecv_receiving {c : Option SnapRecv} {x : SnapRecv} (h : stopRecv c = some x) : x.receiving = false := by
  cases c with
  | none => cases h
  | some y => simp [stopRecv] at h; subst h; rfl

theorem stopRecv_stopped {y : SnapRecv} (h : y.receiving = false) : stopRecv (some y) = some y := by
  cases y; simp_all [stopRecv]

theorem GInv.frame {s s' : Disk} {g : RecvG} (h : GInv s g) (hr : s'.rdb = s.rdb) (hid : s'.runId = s.runId) : GInv s' g :=
  ⟨by rw [hid]; exact h.rid, by rw [hr]; exact h.held, by rw [hr]; exact h.gone⟩

theorem closeLive_runId (s : Disk) : s.closeLive.runId = s.runId := by
  unfold Disk.closeLive
  cases s.live with
  | none => rfl
  | some g => simp only []; split <;> rfl

theorem switch_rdb (s : Disk) (r' : DRdb) (h : s.closeAllForSwitch.rescan.rdb = some r') :
    s.rdb = some r' ∧ r'.writing = false := by
  have hw := rescan_rdb_not_writing _ r' h
  have hrdb : s.closeAllForSwitch.rescan.rdb = (truncateGap (match s.closeAllForSwitch.rdb with
      | some r => if r.final then some { r with writing := false } else none
      | none => none) (sortSegs (s.closeAllForSwitch.all.filter (fun g => !g.data.isEmpty)))).1 := rfl
  rw [hrdb] at h
  have hs1 : s.closeAllForSwitch.rdb = (match s.rdb with
      | some r => if r.writing then none else some r
      | none => none) := by
    unfold Disk.closeAllForSwitch
    rw [(closeLive_hist _).2.2]
    unfold Disk.dropWritingRdb
    dsimp only
    cases s.rdb with
    | none => rfl
    | some r => dsimp only; split <;> rfl
  rcases truncateGap_rdb (match s.closeAllForSwitch.rdb with
      | some r => if r.final then some { r with writing := false } else none
      | none => none) (sortSegs (s.closeAllForSwitch.all.filter (fun g => !g.data.isEmpty))) with h1 | h1
  · rw [h1] at h; cases h
  · rw [h1, hs1] at h
    cases hr : s.rdb with
    | none => rw [hr] at h; simp at h
    | some r =>
      rw [hr] at h
      dsimp only at h
      by_cases hwr : r.writing = true
      · simp [hwr] at h
      · have hwf : r.writing = false := by simpa using hwr
        simp only [hwf, Bool.false_eq_true, if_false] at h
        split at h
        · cases h
          refine ⟨?_, rfl⟩
          cases r; simp_all
        · cases h

theorem ginv_step (s : Disk) (g : RecvG) (op : DOp) (h : GInv s g) (hok : s.okOp op) :
    GInv (s.step op).1 (recvStep g op) := by
  by_cases hop : op.isReaderOp = true
  · have e : recvStep g op = g := by cases op <;> first | rfl | cases hop
    obtain ⟨_, e'⟩ := readerOp_eq s hop
    rw [e, e']
    exact h.frame rfl rfl
  cases op with
  | setRunId id =>
    simp only [Disk.step, recvStep, h.rid]
    by_cases h1 : s.runId = ""
    · simp only [h1, if_true]
      exact ⟨rfl, (by intro r hr; cases hr), fun _ x hx => stopRecv_receiving hx⟩
    · simp only [h1, if_false]
      by_cases h2 : id = s.runId
      · simp only [h2, if_true]; exact h
      · simp only [h2, if_false]
        refine ⟨rfl, ?_, fun _ x hx => stopRecv_receiving hx⟩
        intro r' hr'
        obtain ⟨hs, hw⟩ := switch_rdb s r' hr'
        obtain ⟨hc, hp⟩ := h.held r' hs
        refine ⟨?_, hp⟩
        show stopRecv g.cur = _
        rw [hc, hw]
        exact stopRecv_stopped rfl
  | delRunId =>
    simp only [Disk.step, recvStep, h.rid]
    by_cases h1 : s.runId = ""
    · simp only [h1, if_true]; exact h
    · simp only [h1, if_false]
      exact ⟨rfl, (by intro r hr; cases hr), fun _ x hx => stopRecv_receiving hx⟩
  | newRdbWriter off size =>
    simp only [Disk.step, recvStep]
    refine ⟨h.rid, ?_, (by intro hn; cases hn)⟩
    intro r hr
    simp at hr; subst hr
    exact ⟨rfl, hok⟩
  | rdbAppend chunk =>
    simp only [Disk.step, recvStep]
    cases hr : s.rdb with
    | none =>
      dsimp only
      cases hc : g.cur with
      | none => dsimp only; exact h
      | some x =>
        dsimp only
        have := h.gone hr x hc
        simp only [this, Bool.false_eq_true, if_false]
        exact h
    | some r =>
      obtain ⟨hc, hp⟩ := h.held r hr
      rw [hc]
      dsimp only
      by_cases hw : r.writing = true
      · simp only [hw, if_true]
        by_cases hl : (r.data ++ chunk).length = r.size
        · have hl' : r.data.length + chunk.length = r.size := by simpa using hl
          simp only [hl, if_true]
          refine ⟨h.rid, ?_, (by intro hn; cases hn)⟩
          intro r' hr'
          simp at hr'; subst hr'
          exact ⟨by simp, hp⟩
        · have hl' : ¬ r.data.length + chunk.length = r.size := by simpa using hl
          simp only [hl, if_false]
          refine ⟨h.rid, ?_, (by intro hn; cases hn)⟩
          intro r' hr'
          simp at hr'; subst hr'
          exact ⟨by simp; exact hl', hp⟩
      · have hwf : r.writing = false := by simpa using hw
        simp only [hwf, Bool.false_eq_true, if_false]
        exact ⟨h.rid, (by rw [hr]; intro r' hr'; cases hr'; exact ⟨by rw [hc, hwf], hp⟩), (by intro hn; rw [hr] at hn; cases hn)⟩
  | rdbClose =>
    simp only [Disk.step, recvStep]
    cases hr : s.rdb with
    | none =>
      dsimp only
      exact ⟨h.rid, (by rw [hr]; intro r' hr'; cases hr'), fun _ x hx => stopRecv_receiving hx⟩
    | some r =>
      obtain ⟨hc, hp⟩ := h.held r hr
      dsimp only
      by_cases hw : r.writing = true
      · simp only [hw, if_true]
        exact ⟨h.rid, (by intro r' hr'; cases hr'), fun _ x hx => stopRecv_receiving hx⟩
      · have hwf : r.writing = false := by simpa using hw
        simp only [hwf, Bool.false_eq_true, if_false]
        refine ⟨h.rid, ?_, (by intro hn; rw [hr] at hn; cases hn)⟩
        rw [hr]; intro r' hr'; cases hr'
        refine ⟨?_, hp⟩
        show stopRecv g.cur = _
        rw [hc, hwf]; exact stopRecv_stopped rfl
  | newAofWriter off =>
    apply h.frame
    · simp only [Disk.step]; exact (closeLive_hist s).2.2
    · simp only [Disk.step]; exact closeLive_runId s
  | aofAppend chunk =>
    have : (s.step (.aofAppend chunk)).1.rdb = s.rdb ∧ (s.step (.aofAppend chunk)).1.runId = s.runId := by
      cases hlv : s.live with
      | none => simp [Disk.step, Disk.appendLive, hlv]
      | some g =>
        simp only [Disk.step, Disk.appendLive, hlv]
        split <;> simp
    exact h.frame this.1 this.2
  | aofClose =>
    apply h.frame
    · exact (closeLive_hist s).2.2
    · exact closeLive_runId s
  | gc =>
    obtain ⟨_, _, _, hid, _, hrdb⟩ := gc_ghost s
    rcases hrdb with e | e
    · exact h.frame e hid
    · -- the snapshot is dropped only when nothing refers to it: no writer
      refine ⟨h.rid.trans hid.symm, (fun r hr => nomatch e.symm.trans hr), fun _ x hx => ?_⟩
      cases hr : s.rdb with
      | none => exact h.gone hr x hx
      | some r =>
        have hz := gc_snapshot_branch s r hr e
        have hx : g.cur = some x := hx
        rw [(h.held r hr).1] at hx; cases hx
        show r.writing = false
        unfold rdbRef at hz
        cases hw : r.writing with
        | false => rfl
        | true => rw [hw] at hz; simp at hz
  | _ => exact absurd rfl hop

end GunYu.StoreFs

namespace GunYu.StoreFsX
open GunYu GunYu.Store GunYu.StoreFs

/-- a snapshot `(L, S)` with content `c` was completely received at some point of
    the script, the ghost starting at `g0` -/
def RecvFrom (g0 : RecvG) (ops0 : List DOp) (L S : Nat) (c : Bytes) : Prop :=
  0 < S ∧ c.length = S ∧ ∃ j, j ≤ ops0.length ∧ (recvFrom g0 (ops0.take j)).cur = some ⟨L, S, c, false⟩

theorem recvFrom_snoc (g0 : RecvG) (pre : List DOp) (o : DOp) :
    recvFrom g0 (pre ++ [o]) = recvStep (recvFrom g0 pre) o := by
  unfold recvFrom; rw [List.foldl_append]; rfl

theorem recvFrom_commit {g0 : RecvG} {ops0 pre rest : List DOp} {d : Disk} {r : DRdb} {chunk : Bytes}
    (hops : ops0 = pre ++ DOp.rdbAppend chunk :: rest) (hg : GInv d (recvFrom g0 pre))
    (hrdb : d.rdb = some r) (hw : r.writing = true) (hc : r.data.length + chunk.length = r.size) :
    RecvFrom g0 ops0 r.left r.size (r.data ++ chunk) := by
  obtain ⟨hcur, hpos⟩ := hg.held r hrdb
  refine ⟨hpos, by simp [hc], pre.length + 1, by rw [hops]; simp, ?_⟩
  have htake : ops0.take (pre.length + 1) = pre ++ [DOp.rdbAppend chunk] := by
    have e : pre ++ DOp.rdbAppend chunk :: rest = (pre ++ [DOp.rdbAppend chunk]) ++ rest := by simp
    rw [hops, e, List.take_left' (by simp)]
  rw [htake, recvFrom_snoc]
  simp only [recvStep, hcur, hw, if_true]
  have : (r.data ++ chunk).length = r.size := by simp [hc]
  simp [this]

end GunYu.StoreFsX

namespace GunYu.StoreFs
open GunYu GunYu.Store GunYu.StoreFsX

theorem recvRun_snoc (pre : List DOp) (o : DOp) : recvRun (pre ++ [o]) = recvStep (recvRun pre) o :=
  recvFrom_snoc _ pre o

theorem scriptOps_safeP (g0 : RecvG) (ops0 : List DOp) : ∀ (rest pre : List DOp) (s : Disk) (fs : FS),
    ops0 = pre ++ rest → s.wf rest → TmpRel s fs → GInv s (recvFrom g0 pre) →
      ∀ p1 o p2, scriptOps s rest = p1 ++ o :: p2 → RdbSafeP (RecvFrom g0 ops0) (fs.applyAll p1) o := by
  intro rest
  induction rest with
  | nil => intro pre s fs _ _ _ _ p1 o p2 he; simp [scriptOps] at he
  | cons op rest ih =>
    intro pre s fs hops hwf hr hg p1 o p2 he
    obtain ⟨hstep, hrel⟩ := fsOps_step (RecvFrom g0 ops0) s fs op hwf.1 hr (by
      intro r chunk hop hrdb hw hc
      subst hop
      exact recvFrom_commit hops hg hrdb hw hc)
    simp only [scriptOps] at he
    rcases append_eq_split _ _ _ _ _ he with ⟨q2, h1, _⟩ | ⟨q1, h1, h2⟩
    · exact hstep p1 o q2 h1
    · rw [h1, applyAll_append]
      refine ih (pre ++ [op]) _ _ (by rw [hops]; simp) hwf.2 hrel ?_ q1 o p2 h2
      rw [recvFrom_snoc]
      exact ginv_step s _ op hg hwf.1

/-- at every crash instant of every script, every committed snapshot file holds
    exactly the bytes a snapshot writer of the script received for that name, complete -/
theorem crashImage_received (l m : Nat) (ops : List DOp) (hwf : (Disk.init l m).wf ops) (n k : Nat) :
    RdbOkP (RecvFrom ⟨"", none⟩ ops) (crashImage [] (scriptOps (Disk.init l m) ops) n k) := by
  exact crashImage_inv (I := RdbOkP (RecvFrom ⟨"", none⟩ ops)) (P := RdbSafeP (RecvFrom ⟨"", none⟩ ops))
    (fun _ op h => RdbOkP_apply h op) (fun _ _ _ _ h => h) (by intro e he; cases he)
    (scriptOps_safeP ⟨"", none⟩ ops ops [] _ _ rfl hwf (tmpRel_init l m) (GInv.init l m)) n k

end GunYu.StoreFs
