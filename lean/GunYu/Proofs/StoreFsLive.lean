/-
  C08 — verification with a live writer: closed segments are verified wherever the
  reader meets them, the segments `hasWriter` answers for are not; the reader delivers
  the bytes of the FILES; whatever it delivers from intact files is the source's.
-/
import GunYu.Model.StoreFsLive
import GunYu.Proofs.StoreFsXSafe

namespace GunYu.StoreFsX
open GunYu GunYu.Store GunYu.StoreFs

/-- the files of these segments are what the index believes: a 16-byte header, then the data -/
def Intact (fs : FS) (segs : List DSeg) : Prop :=
  ∀ g ∈ segs, ∃ hdr : Bytes, hdr.length = headerSize ∧ fs.get (aofName g.left) = some (hdr ++ g.data)

theorem Intact.tail {fs : FS} {g : DSeg} {l : List DSeg} (h : Intact fs (g :: l)) : Intact fs l :=
  fun x hx => h x (List.mem_cons_of_mem _ hx)

theorem right_ge_left (g : DSeg) : g.left ≤ g.right := by simp [DSeg.right]


theorem contig_right_le_left {a : DSeg} {l : List DSeg} (hc : Contig (a :: l)) {x : DSeg} (hx : x ∈ l) :
    a.right ≤ x.left := by
  induction l generalizing a with
  | nil => cases hx
  | cons b t ih =>
    have h1 : a.right = b.left := hc.1
    rcases List.mem_cons.mp hx with h | h
    · subst h; omega
    · have := ih hc.tail h
      have := right_ge_left b
      omega


theorem contig_before {A : List DSeg} {x : DSeg} {B : List DSeg} (hc : Contig (A ++ x :: B)) {g : DSeg} (hg : g ∈ A) :
    g.right ≤ x.left := by
  induction A with
  | nil => cases hg
  | cons a A' ih =>
    rcases List.mem_cons.mp hg with h | h
    · subst h
      exact contig_right_le_left (l := A' ++ x :: B) hc (by simp)
    · exact ih hc.tail h


theorem serveFromL_cons_intact (fs : FS) (v : Bool) (unv : List Nat) (g h : DSeg) (rest : List DSeg) (off : Nat)
    (hdr : Bytes) (hh : hdr.length = headerSize) (hf : fs.get (aofName g.left) = some (hdr ++ g.data))
    (hnext : g.right = h.left) (hok : (v && !unv.contains g.left && !segVerifyOk (hdr ++ g.data)) = false) :
    serveFromL fs v unv (g :: h :: rest) off =
      (g.data.drop (off - g.left) ++ (serveFromL fs v unv (h :: rest) h.left).1, (serveFromL fs v unv (h :: rest) h.left).2) := by
  simp only [serveFromL, hf, hok, drop_hdr hh]
  have : h.left = g.left + g.data.length := by simp only [DSeg.right] at hnext; omega
  simp [this]

/-- after a restart (nothing live) on an intact chain the reader of Model/StoreFs.lean (`serveFrom`,
    which delivers what the index holds) and the file reader agree -/
theorem serveFromL_nil (fs : FS) (v : Bool) : ∀ (segs : List DSeg) (off : Nat), Contig segs → Intact fs segs →
    serveFromL fs v [] segs off = serveFrom fs v segs off := by
  intro segs
  induction segs with
  | nil => intro off _ _; rfl
  | cons g rest ih =>
    intro off hc hi
    obtain ⟨hdr, hh, hf⟩ := hi g (by simp)
    cases rest with
    | nil =>
      simp only [serveFromL, serveFrom, hf, drop_hdr hh, List.contains_nil, Bool.not_false, Bool.and_true]
      split <;> simp
    | cons h t =>
      have hnext : g.right = h.left := hc.1
      have ih' := ih h.left hc.tail hi.tail
      simp only [serveFrom, hf]
      by_cases hbad : (v && !segVerifyOk (hdr ++ g.data)) = true
      · simp only [serveFromL, hf, hbad, List.contains_nil, Bool.not_false, Bool.and_true, if_true]
      · have hok : (v && !([] : List Nat).contains g.left && !segVerifyOk (hdr ++ g.data)) = false := by
          simpa using hbad
        rw [serveFromL_cons_intact fs v [] g h t off hdr hh hf hnext hok, ih', hnext]
        simp only [hbad]
        rfl

theorem serveFromL_live_accepted (fs : FS) (v : Bool) (unv : List Nat) (g : DSeg) (off : Nat)
    (file : Bytes) (hf : fs.get (aofName g.left) = some file) (hlive : unv.contains g.left = true) :
    serveFromL fs v unv [g] off = ((file.drop headerSize).drop (off - g.left), ServeEnd.eof) := by
  simp only [serveFromL, hf, hlive]
  simp

theorem serveFromL_true (src : Nat → UInt8) (fs : FS) (v : Bool) (unv : List Nat) :
    ∀ (segs : List DSeg) (off : Nat), Contig segs → Intact fs segs → (∀ g ∈ segs, SegTrue src g) →
      (∀ g, segs.head? = some g → g.left ≤ off ∧ off ≤ g.right) →
      ∀ k b, (serveFromL fs v unv segs off).1[k]? = some b → b = src (off + k) := by
  intro segs
  induction segs with
  | nil => intro off _ _ _ _ k b hb; simp [serveFromL] at hb
  | cons g rest ih =>
    intro off hc hi ht hh
    obtain ⟨hl, hr⟩ := hh g rfl
    obtain ⟨hdr, hhd, hf⟩ := hi g (by simp)
    have hfirst := segTrue_drop (ht g List.mem_cons_self) hl
    cases rest with
    | nil =>
      simp only [serveFromL, hf, drop_hdr hhd]
      split
      · intro k b hb; simp at hb
      · exact hfirst
    | cons h t =>
      by_cases hbad : (v && !unv.contains g.left && !segVerifyOk (hdr ++ g.data)) = true
      · simp only [serveFromL, hf, hbad, if_true]
        intro k b hb; simp at hb
      · rw [serveFromL_cons_intact fs v unv g h t off hdr hhd hf hc.1 (by simpa using hbad)]
        refine getElem?_append_cases hfirst (fun k b hb => ?_)
        rw [← Nat.add_assoc, drop_length_right hl hr, hc.1]
        exact ih h.left hc.tail hi.tail (fun x hx => ht x (List.mem_cons_of_mem _ hx))
          (fun x hx => by cases hx; exact ⟨Nat.le_refl _, right_ge_left _⟩) k b hb

/-- every byte a verifying reader delivers lies BEFORE a closed segment whose file fails the
    check (the files before it intact), and the reader does not end normally -/
theorem serveFromL_before_corrupt (src : Nat → UInt8) (fs : FS) (unv : List Nat) (pre : List DSeg) (g : DSeg)
    (post : List DSeg) (file : Bytes) (hf : fs.get (aofName g.left) = some file) (hbad : segVerifyOk file = false)
    (hclosed : unv.contains g.left = false) :
    ∀ (off : Nat), Contig (pre ++ g :: post) → Intact fs pre → (∀ a ∈ pre, SegTrue src a) →
      (∀ a, (pre ++ g :: post).head? = some a → a.left ≤ off ∧ off ≤ a.right) →
      (∀ k b, (serveFromL fs true unv (pre ++ g :: post) off).1[k]? = some b → off + k < g.left ∧ b = src (off + k)) ∧
      (serveFromL fs true unv (pre ++ g :: post) off).2 ≠ ServeEnd.eof := by
  induction pre with
  | nil =>
    intro off _ _ _ _
    have : serveFromL fs true unv ([] ++ g :: post) off = ([], ServeEnd.corrupt) := by
      simp only [List.nil_append, serveFromL, hf, hbad, hclosed]
      simp
    rw [this]
    exact ⟨by intro k b hb; simp at hb, by simp⟩
  | cons a t ih =>
    intro off hc hi ht hh
    obtain ⟨hl, hr⟩ := hh a rfl
    obtain ⟨hdr, hhd, hfa⟩ := hi a (by simp)
    have hag : a.right ≤ g.left := contig_right_le_left (l := t ++ g :: post) hc (by simp)
    obtain ⟨h, rest', hm⟩ : ∃ h rest', t ++ g :: post = h :: rest' := by
      cases t with
      | nil => exact ⟨g, post, rfl⟩
      | cons x xs => exact ⟨x, xs ++ g :: post, rfl⟩
    have hnext : a.right = h.left := by
      have : Contig (a :: h :: rest') := by rw [← hm]; exact hc
      exact this.1
    have hrec := ih h.left hc.tail hi.tail (fun x hx => ht x (List.mem_cons_of_mem _ hx)) (by
      intro x hx; rw [hm] at hx; cases hx; exact ⟨Nat.le_refl _, right_ge_left _⟩)
    show (∀ k b, (serveFromL fs true unv (a :: (t ++ g :: post)) off).1[k]? = some b →
        off + k < g.left ∧ b = src (off + k)) ∧
      (serveFromL fs true unv (a :: (t ++ g :: post)) off).2 ≠ ServeEnd.eof
    rw [hm] at hrec ⊢
    by_cases hbada : (true && !unv.contains a.left && !segVerifyOk (hdr ++ a.data)) = true
    · have : serveFromL fs true unv (a :: h :: rest') off = ([], ServeEnd.corrupt) := by
        simp only [serveFromL, hfa, hbada, if_true]
      rw [this]
      exact ⟨by intro k b hb; simp at hb, by simp⟩
    · rw [serveFromL_cons_intact fs true unv a h rest' off hdr hhd hfa hnext (by simpa using hbada)]
      have hend := drop_length_right hl hr
      refine ⟨getElem?_append_cases (fun k b hb => ⟨?_, segTrue_drop (ht a List.mem_cons_self) hl k b hb⟩)
        (fun k b hb => ?_), hrec.2⟩
      · have := (List.getElem?_eq_some_iff.mp hb).1
        omega
      · rw [← Nat.add_assoc, hend, hnext]
        exact hrec.1 k b hb

theorem intact_of_filesOk {s : Disk} {fs : FS} (h : FilesOk s fs) : Intact fs s.all := h

/-- a reader on the LIVE index of a store that satisfies the invariants delivers the
    source's bytes (read from the files) -/
theorem serveLive_true {src : Nat → UInt8} (s : XDisk) (hinv : XInv src s) (verify : Bool) (off : Nat)
    (bs : Bytes) (e : ServeEnd) (hs : serveLive s verify off = some (bs, e)) :
    ∀ k b, bs[k]? = some b → b = src (off + k) := by
  unfold serveLive at hs
  cases hi : indexAof s.d.all off with
  | none => simp [hi] at hs
  | some x =>
    simp only [hi, Option.some.injEq] at hs
    obtain ⟨A, B, hall, hdw, hl, hr⟩ := index_chain hinv.dinv.contig (all_initNonempty hinv.dinv.nonempty) hi
    rw [hdw] at hs
    have hsub : ∀ y ∈ x :: B, y ∈ s.d.all := by intro y hy; rw [hall]; simp at hy ⊢; right; exact hy
    have := serveFromL_true src s.fs verify (unverifiedOf s) (x :: B) off
      (contig_suffix A _ (hall ▸ hinv.dinv.contig))
      (fun y hy => hinv.files y (hsub y hy))
      (fun y hy => seg_true hinv.dinv hinv.hist (hsub y hy))
      (by intro y hy; simp at hy; subst hy; exact ⟨hl, hr⟩)
    intro k b hb
    apply this k b
    rw [hs]; exact hb

/-- **on the live index, ONE closed segment's file altered** (`fs'` is the directory with the
    file of `g` replaced by anything that fails the check, every other file as it was): a
    verifying reader opened before the end of `g` reads the intact files before it — the
    source's bytes — delivers nothing at or beyond `g`'s first offset, and does not end
    normally -/
theorem serveLive_altered_closed {src : Nat → UInt8} (s : XDisk) (hinv : XInv src s) (g : DSeg) (hg : g ∈ s.d.all)
    (hclosed : (unverifiedOf s).contains g.left = false) (fs' : FS)
    (hsame : ∀ l, l ≠ g.left → fs'.get (aofName l) = s.fs.get (aofName l)) (file : Bytes)
    (hf : fs'.get (aofName g.left) = some file) (hbad : segVerifyOk file = false) (off : Nat) (hoff : off < g.right)
    (bs : Bytes) (e : ServeEnd) (hs : serveLive ⟨s.d, fs', s.zombies⟩ true off = some (bs, e)) :
    (∀ k b, bs[k]? = some b → off + k < g.left ∧ b = src (off + k)) ∧ e ≠ ServeEnd.eof := by
  unfold serveLive at hs
  cases hi : indexAof s.d.all off with
  | none => simp [hi] at hs
  | some x =>
    simp only [hi, Option.some.injEq] at hs
    obtain ⟨A, B, hall, hdw, hl, hr⟩ := index_chain hinv.dinv.contig (all_initNonempty hinv.dinv.nonempty) hi
    rw [hdw] at hs
    have hcall : Contig (A ++ x :: B) := by rw [← hall]; exact hinv.dinv.contig
    have hgin : g ∈ x :: B := by
      rw [hall] at hg
      rcases List.mem_append.mp hg with h | h
      · have := contig_before hcall h
        omega
      · exact h
    obtain ⟨pre, post, hpp⟩ := List.append_of_mem hgin
    rw [hpp] at hs
    have hc : Contig (pre ++ g :: post) := by rw [← hpp]; exact contig_suffix _ _ hcall
    have hsubpre : ∀ y ∈ pre, y ∈ s.d.all := by
      intro y hy; rw [hall, hpp]; simp; right; left; exact hy
    have hpre_ne : ∀ y ∈ pre, y.left ≠ g.left := by
      intro y hy e'
      have hgall : g ∈ s.d.all := by rw [hall, hpp]; simp
      have := all_lefts_unique hinv.dinv (hsubpre y hy) hgall e'
      subst this
      -- g both in pre and after it: its right end would be ≤ its own left end
      have h1 := contig_before (A := pre) (x := y) (B := post) hc hy
      have h2 := hinv.dinv.nonempty
      have hne : y.data ≠ [] := by
        have hyd : y ∈ (pre ++ y :: post).dropLast ∨ True := Or.inr trivial
        by_cases hpost : post = []
        · -- y is then also the last element of pre ++ [y]: still y ∈ pre means it occurs earlier; earlier
          -- occurrences are never the last element of the index, so y is a closed (non-empty) segment
          have : y ∈ s.d.all.dropLast := by
            rw [hall, hpp, hpost]
            rw [← List.append_assoc, List.dropLast_concat]
            simp; right; exact hy
          exact all_initNonempty hinv.dinv.nonempty y this
        · have : y ∈ s.d.all.dropLast := by
            rw [hall, hpp]
            have : (A ++ (pre ++ y :: post)) = (A ++ pre ++ [y]) ++ post := by simp
            rw [this, List.dropLast_append_of_ne_nil hpost]
            simp
          exact all_initNonempty hinv.dinv.nonempty y this
      have : 0 < y.data.length := List.length_pos_iff.mpr hne
      simp only [DSeg.right] at h1
      omega
    have hint : Intact fs' pre := by
      intro y hy
      obtain ⟨hdr, hh, hget⟩ := hinv.files y (hsubpre y hy)
      exact ⟨hdr, hh, by rw [hsame _ (hpre_ne y hy)]; exact hget⟩
    have hhead : ∀ a, (pre ++ g :: post).head? = some a → a.left ≤ off ∧ off ≤ a.right := by
      intro a ha
      rw [← hpp] at ha
      simp at ha; subst ha
      exact ⟨hl, hr⟩
    have hun : unverifiedOf ⟨s.d, fs', s.zombies⟩ = unverifiedOf s := rfl
    rw [hun] at hs
    obtain ⟨h1, h2⟩ := serveFromL_before_corrupt src fs' (unverifiedOf s) pre g post file hf hbad hclosed off hc hint
      (fun y hy => seg_true hinv.dinv hinv.hist (hsubpre y hy)) hhead
    rw [hs] at h1 h2
    exact ⟨h1, h2⟩

theorem xfinal_inv {src : Nat → UInt8} : ∀ (xs : List XOp) (s : XDisk), wfX s xs → SrcOkX src s xs → XInv src s →
    XInv src (xfinal s xs) := by
  intro xs
  induction xs with
  | nil => intro s _ _ h; exact h
  | cons x rest ih =>
    intro s hwf hsrc hinv
    exact ih _ hwf.2 hsrc.2
      (xstep_ok (src := src) (P := fun _ _ _ => True) s x hinv hwf.1 hsrc.1 (fun _ _ _ _ _ _ => trivial)).inv


end GunYu.StoreFsX
