/-
  C06 ↔ C05 bridge: the concrete collectors of C05's cache models are instances
  of `Psync.Collected`, for every state satisfying C05's invariants (`DInv`,
  `MemInv`: all states reachable by C05's operation lists, `disk_refines` /
  `mem_invariant`). Imports C05's proofs; copies nothing.
-/
import GunYu.Model.PsyncStore
import GunYu.Proofs.StoreDisk
import GunYu.Proofs.StoreMemInv
import GunYu.Proofs.PsyncRun

namespace GunYu.Psync
open GunYu GunYu.Store

/-! ### disk -/

def aofOfD (l : List DSeg) : Option (Int × Int) :=
  match firstLeft l, lastRight l with
  | some a, some b => some ((a : Int), (b : Int))
  | _, _ => none

theorem ofDisk_aof (s : Disk) : (ofDisk s).aof = aofOfD s.all := rfl

/-- removing a prefix of a contiguous segment list: the range keeps its right end
    and its left end moves forward, or nothing is left -/
theorem aofOfD_suffix (pre l' : List DSeg) (hc : Contig (pre ++ l')) :
    match aofOfD (pre ++ l') with
    | none => aofOfD l' = none
    | some (l, r) => aofOfD l' = none ∨ ∃ l'', aofOfD l' = some (l'', r) ∧ l ≤ l'' ∧ l'' ≤ r := by
  cases l' with
  | nil =>
    cases h : aofOfD (pre ++ []) with
    | none => rfl
    | some p => exact Or.inl rfl
  | cons g t =>
    have hne : g :: t ≠ [] := by simp
    have hlr : lastRight (pre ++ g :: t) = lastRight (g :: t) := lastRight_suffix pre (g :: t) hne
    obtain ⟨r, hr⟩ : ∃ r, lastRight (g :: t) = some r := by
      cases h : lastRight (g :: t) with
      | none => exact absurd (lastRight_eq_none.mp h) hne
      | some r => exact ⟨r, rfl⟩
    obtain ⟨f, hf⟩ : ∃ f, firstLeft (pre ++ g :: t) = some f := by
      cases pre with
      | nil => exact ⟨g.left, rfl⟩
      | cons a p => exact ⟨a.left, rfl⟩
    have hmem : g ∈ pre ++ g :: t := by simp
    have h1 : f ≤ g.left := contig_first_le hc hmem hf
    have h2 : g.right ≤ r := contig_right_le_last (contig_suffix pre (g :: t) hc) (by simp) hr
    have h3 : g.left ≤ g.right := Nat.le_add_right _ _
    have e1 : aofOfD (pre ++ g :: t) = some ((f : Int), (r : Int)) := by
      simp only [aofOfD, hf, hlr, hr]
    have e2 : aofOfD (g :: t) = some ((g.left : Int), (r : Int)) := by
      simp only [aofOfD, firstLeft, hr]
    rw [e1]
    simp only
    exact Or.inr ⟨g.left, e2, by omega, by omega⟩

/-- **the disk collector is a `Collected` step** (the snapshot goes first: whenever a
    log segment is removed the snapshot is gone) -/
theorem disk_gc_collected {s : Disk} (h : DInv s) : Collected (ofDisk s) (ofDisk s.gc) := by
  -- what removing a prefix `pre` of the closed segments does to the description
  have hdrop : ∀ (pre segs' : List DSeg) (rdb' : Option DRdb), s.segs = pre ++ segs' → (rdb' = s.rdb ∨ rdb' = none) →
      (segs' ≠ s.segs → rdb' = none) → Collected (ofDisk s) (ofDisk { s with rdb := rdb', segs := segs' }) := by
    intro pre segs' rdb' hp hr hord
    have hall : s.all = pre ++ (segs' ++ s.live.toList) := by
      unfold Disk.all; rw [← List.append_assoc, ← hp]
    refine ⟨rfl, rfl, ?_, ?_, ?_⟩
    · rcases hr with e | e <;> subst e
      · exact Or.inl rfl
      · exact Or.inr rfl
    · have hw := aofOfD_suffix pre (segs' ++ s.live.toList) (by rw [← hall]; exact h.contig)
      rw [← hall] at hw
      exact hw
    · intro _ hne
      show (match rdb' with | some r => some ((r.left : Int), (r.size : Int)) | none => none) = none
      rw [hord ?_]
      intro heq
      apply hne
      show aofOfD (Disk.all { s with rdb := rdb', segs := segs' }) = aofOfD s.all
      unfold Disk.all
      simp only [heq]
  have hsame : Collected (ofDisk s) (ofDisk s) := hdrop [] s.segs s.rdb rfl (.inl rfl) (absurd rfl)
  unfold Disk.gc
  by_cases hm : s.maxSize = 0
  · simp only [hm, if_true]; exact hsame
  · simp only [hm, if_false]
    generalize hk : gcScanRev s.maxSize s.all.reverse 0 = ks
    obtain ⟨k, size⟩ := ks
    simp only []
    obtain ⟨pre, hp, _⟩ := dropUnref_suffix s.readers k s.segs
    replace hdrop := fun rdb' => hdrop pre _ rdb' hp
    cases hr : s.rdb with
    | none =>
      simp only []
      have := hdrop none (Or.inr rfl) (fun _ => rfl)
      simpa [hr] using this
    | some r =>
      simp only []
      by_cases hbig : size + r.size > s.maxSize
      · simp only [hbig, if_true]
        by_cases href : rdbRef s.readers r = 0
        · simp only [href, if_true]
          exact hdrop none (Or.inr rfl) (fun _ => rfl)
        · simp only [href, if_false]; exact hsame
      · simp only [hbig, if_false]
        have hk0 : k = 0 := by
          have := gcScanRev_pos s.maxSize s.all.reverse 0
          rw [hk] at this
          simp only [] at this
          by_cases hkz : k = 0
          · exact hkz
          · have := this (by omega); omega
        subst hk0
        have hd : dropUnref s.readers 0 s.segs = s.segs := by
          cases s.segs <;> rfl
        have := hdrop (some r) (Or.inl hr.symm) (fun hne => absurd hd hne)
        simpa [hr, hd] using this

/-- on every state of C05's disk model that satisfies its invariant the log starts
    at the snapshot's offset (`DInv.rdbAlign`): `CacheWF.contig` for the disk backend
    is a theorem about the cache, not an assumption -/
theorem disk_contig {s : Disk} (h : DInv s) :
    match (ofDisk s).rdb, (ofDisk s).aof with
    | some (left, _), some (l, _) => l = left
    | _, _ => True := by
  cases hr : s.rdb with
  | none => simp [ofDisk, hr]
  | some r =>
    cases hf : firstLeft s.all with
    | none => simp [ofDisk, hr, hf]
    | some l =>
      cases hl : lastRight s.all with
      | none => simp [ofDisk, hr, hf, hl]
      | some rr =>
        have := h.rdbAlign r l hr hf
        simp [ofDisk, hr, hf, hl, this]

/-! ### memory -/

def aofOfM (l : List MSeg) : Option (Int × Int) :=
  match l.head?, l.getLast? with
  | some a, some b => some ((a.left : Int), (b.right : Int))
  | _, _ => none

theorem mcontig_head_le {a : MSeg} {t : List MSeg} (hc : MContig (a :: t)) : ∀ g ∈ a :: t, a.left ≤ g.left := by
  induction t generalizing a with
  | nil => intro g hg; simp at hg; subst hg; exact Nat.le_refl _
  | cons b t ih =>
    intro g hg
    rcases List.mem_cons.mp hg with e | e
    · subst e; exact Nat.le_refl _
    · have h1 : a.right = b.left := hc.1
      have h2 := ih hc.2 g e
      have h3 : a.left ≤ a.right := Nat.le_add_right _ _
      omega

theorem mcontig_le_last {l : List MSeg} (hc : MContig l) {z : MSeg} (hz : l.getLast? = some z) :
    ∀ g ∈ l, g.right ≤ z.right := by
  induction l with
  | nil => intro g hg; cases hg
  | cons a t ih =>
    cases t with
    | nil =>
      intro g hg
      simp at hz hg
      subst hz; subst hg; exact Nat.le_refl _
    | cons b t =>
      intro g hg
      have hz' : (b :: t).getLast? = some z := by simpa [List.getLast?_cons_cons] using hz
      rcases List.mem_cons.mp hg with e | e
      · subst e
        have h1 : g.right = b.left := hc.1
        have h2 := ih hc.2 hz' b (by simp)
        have h3 : b.left ≤ b.right := Nat.le_add_right _ _
        omega
      · exact ih hc.2 hz' g e

theorem ofMem_aof {s : Mem} (hc : MContig s.segs) : (ofMem s).aof = aofOfM s.segs := by
  have hrun : s.runRev = s.segs.reverse := by
    unfold Mem.runRev; rw [mContigRun_of_contig _ hc]
  simp only [ofMem, aofOfM, hrun, List.getLast?_reverse, List.head?_reverse]
  rfl

theorem aofOfM_suffix (pre l' : List MSeg) (hc : MContig (pre ++ l')) :
    match aofOfM (pre ++ l') with
    | none => aofOfM l' = none
    | some (l, r) => aofOfM l' = none ∨ ∃ l'', aofOfM l' = some (l'', r) ∧ l ≤ l'' ∧ l'' ≤ r := by
  cases l' with
  | nil =>
    cases h : aofOfM (pre ++ []) with
    | none => rfl
    | some p => exact Or.inl rfl
  | cons g t =>
    obtain ⟨z, hz⟩ : ∃ z, (g :: t).getLast? = some z := by
      cases h : (g :: t).getLast? with
      | none => simp at h
      | some z => exact ⟨z, rfl⟩
    have hzz : (pre ++ g :: t).getLast? = some z := by
      rw [getLast?_append_cons']; exact hz
    obtain ⟨f, hf, hfm⟩ : ∃ f, (pre ++ g :: t).head? = some f ∧ ∀ x ∈ pre ++ g :: t, f.left ≤ x.left := by
      cases pre with
      | nil => exact ⟨g, rfl, mcontig_head_le (by simpa using hc)⟩
      | cons a p => exact ⟨a, rfl, mcontig_head_le (by simpa using hc)⟩
    have h1 : f.left ≤ g.left := hfm g (by simp)
    have h2 : g.right ≤ z.right := mcontig_le_last (mcontig_suffix pre (g :: t) hc) hz g (by simp)
    have h3 : g.left ≤ g.right := Nat.le_add_right _ _
    have e1 : aofOfM (pre ++ g :: t) = some ((f.left : Int), (z.right : Int)) := by
      simp only [aofOfM, hf, hzz]
    have e2 : aofOfM (g :: t) = some ((g.left : Int), (z.right : Int)) := by
      simp only [aofOfM, List.head?_cons, hz]
    rw [e1]
    simp only
    exact Or.inr ⟨g.left, e2, by omega, by omega⟩

/-- **the memory collector is a `Collected` step** (it removes a prefix of the
    indexed log segments; the snapshot stays, disappears or stops being offered) -/
theorem mem_gc_collected {s : Mem} (h : MemInv s) (need : Nat) :
    Collected (ofMem s) (ofMem (s.gc need)) := by
  obtain ⟨hi', fr⟩ := gc_inv s need h
  obtain ⟨pre, hp⟩ := fr.segs
  refine ⟨rfl, ?_, ?_, ?_, fun hd => by cases hd⟩
  · simp only [ofMem, fr.runId]
  · -- snapshot: unchanged, gone, or no longer replayable (= not offered)
    rcases fr.rdb with e | e | ⟨r, r', e1, e2, hrep, _⟩
    · left; simp only [ofMem, Mem.rdbOffered, e]
    · right; simp only [ofMem, Mem.rdbOffered, e]
    · right; simp only [ofMem, Mem.rdbOffered, e2, hrep]; rfl
  · rw [ofMem_aof h.stream.contig, ofMem_aof hi'.stream.contig, hp]
    exact aofOfM_suffix pre (s.gc need).segs (by rw [← hp]; exact h.stream.contig)

/-- the collectors keep the hypotheses of the C06 theorems, including the
    snapshot/log relation `contig` (disk: equality; memory: the log may start later) -/
theorem disk_gc_keeps {w : World} {src : Source} {s : Disk} {d : CData} (h : DInv s)
    (hc : CacheWF (ofDisk s)) (hok : CacheOK w src (ofDisk s) d) :
    CacheWF (ofDisk s.gc) ∧ CacheOK w src (ofDisk s.gc) d :=
  ⟨collected_wf hc (disk_gc_collected h), collected_ok hok (disk_gc_collected h)⟩

theorem mem_gc_keeps {w : World} {src : Source} {s : Mem} {d : CData} (h : MemInv s) (need : Nat)
    (hc : CacheWF (ofMem s)) (hok : CacheOK w src (ofMem s) d) :
    CacheWF (ofMem (s.gc need)) ∧ CacheOK w src (ofMem (s.gc need)) d :=
  ⟨collected_wf hc (mem_gc_collected h need), collected_ok hok (mem_gc_collected h need)⟩

end GunYu.Psync
