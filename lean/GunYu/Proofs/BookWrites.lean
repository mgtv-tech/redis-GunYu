/-
  C17 — `Good` is kept by the writers of fields: HSETs of fields of the master id under the current
  key (the sender, the first request of a relabel), `RedisOutput.SetRunId`'s UpdateCheckpoint and
  the start's UpdateCheckpoint (rename), each stopped after any number of requests. Core only.
-/
import GunYu.Proofs.BookSteps
import GunYu.Model.BookSys

namespace GunYu.BookSys
open GunYu GunYu.Checkpoint

set_option linter.unusedSimpArgs false
set_option linter.unusedVariables false

def MasWrite (c : Ctl) (q : Req) : Prop :=
  ∃ db es, q = Req.hsetCp db c.key es ∧ ∀ e ∈ es, EntryOK e ∧ e.rid = c.mas

theorem frameNR_masWrite {t : Checkpoint.Target} {c : Ctl} {X : Int} {d : Nat} (C : CtlOK c)
    (F : FrameNR t c X d) (q : Req) (hq : MasWrite c q) : FrameNR (applyReq t q) c X d := by
  obtain ⟨db, es, rfl, hes⟩ := hq
  refine ⟨F.hashL, F.hashM, ?_, ?_, ?_, ?_⟩
  · apply strA_applyReq F.str
    exact ⟨C.keyIn, fun e he => ⟨(hes e he).1, (hes e he).2 ▸ C.masIn⟩⟩
  · intro db'
    rw [applyReq_hsetCp_cps]
    split
    · apply NoAfter.hsetMany _ (F.ord db)
      intro e he hk
      exact C.hne ((hes e he).2.symm.trans (congrArg Prod.fst hk))
    · exact F.ord db'
  · intro db'
    rw [applyReq_hsetCp_cps]
    split
    · intro x hx hsx v hv
      rcases mem_hsetMany hx with hx' | hx'
      · rw [offSel_iff, matchId_one] at hsx
        exact absurd ((hes x hx').2.symm.trans hsx.1) C.hne
      · exact F.sle db x hx' hsx v hv
    · exact F.sle db'
  · intro p hp
    refine (F.pend p hp).congr (fun db' => ?_) (fun _ h => h)
    rw [applyReq_hsetCp_cps, if_neg (fun hc => (F.pend p hp).ne hc.2)]

theorem hasKey_mono_hsets (rs : List Req) (hq : ∀ q ∈ rs, ∃ db n es, q = Req.hsetCp db n es) {t : Checkpoint.Target}
    {k : FKey} {db : Nat} {n : Bytes} (h : hasKey k (t.cps db n)) : hasKey k ((applyAll t rs).cps db n) :=
  applyAll_inv (I := fun t' => hasKey k (t'.cps db n)) (fun t' q h hq => by
    obtain ⟨db0, n0, es, rfl⟩ := hq
    rw [applyReq_hsetCp_cps]
    split
    · rename_i hc
      rw [hasKey_hsetMany, ← hc.1, ← hc.2]; exact Or.inr h
    · exact h) rs h hq

theorem frameNR_masWrites {c : Ctl} {X : Int} {d : Nat} (C : CtlOK c) (rs : List Req) {t : Checkpoint.Target}
    (F : FrameNR t c X d) (hq : ∀ q ∈ rs, MasWrite c q) :
    FrameNR (applyAll t rs) c X d ∧
      ∀ db n e, e ∈ (applyAll t rs).cps db n → e.rid ≠ c.mas → e ∈ t.cps db n :=
  applyAll_inv (I := fun t' => FrameNR t' c X d ∧ ∀ db n e, e ∈ t'.cps db n → e.rid ≠ c.mas → e ∈ t.cps db n)
    (fun t' q ⟨F', hold⟩ hq => by
      refine ⟨frameNR_masWrite C F' q hq, fun db n e he hr => ?_⟩
      rcases mem_applyReq_cps he with h' | ⟨es, rfl, h'⟩
      · exact hold db n e h' hr
      · obtain ⟨_, _, heq, hes⟩ := hq
        injection heq with _ _ heq
        exact absurd (hes e (heq ▸ h')).2 hr) rs ⟨F, fun _ _ _ h _ => h⟩ hq

theorem cpEntries_last (c : CpInfo) (now : Int) :
    ∃ pre, cpEntries c now = pre ++ [⟨c.runId, Kind.offset, intToDec c.offset⟩] := ⟨_, rfl⟩

theorem cpEntries_has_runid {c : CpInfo} {now : Int} (h : c.runId ≠ []) :
    ∃ e ∈ cpEntries c now, e.key = (c.runId, Kind.runid) := by
  refine ⟨⟨c.runId, .runid, c.runId⟩, ?_, rfl⟩
  unfold cpEntries
  simp [h]

theorem mem_hsetMany_last (fs : Cp) (pre : List Entry) (e : Entry) : e ∈ hsetMany fs (pre ++ [e]) := by
  rw [hsetMany_append]
  exact mem_hsetOne_self _ e

theorem noAfter_of_uniform {N O ρ : Bytes} {fs : Cp} (hne : N ≠ O) (h : ∀ e ∈ fs, e.rid = ρ) :
    NoAfter N O fs := by
  unfold NoAfter
  apply List.pairwise_of_forall_mem_list
  intro a ha b hb hab
  have h1 : a.rid = N := congrArg Prod.fst hab.1
  have h2 : b.rid = O := congrArg Prod.fst hab.2
  exact hne (h1.symm.trans ((h a ha).trans ((h b hb).symm.trans h2)))

/-- `UpdateCheckpoint(loc, [a, b])` with something to do (another key name, or another label) on a state that holds
    the position: the HSET of the entry under `loc` (well-formed fields of `a`), the repointing of the hash, the
    clean-up of the old label -/
theorem update_run (ver : Bytes) {a b loc key r : Bytes} {t : Checkpoint.Target} {d : Nat} {X now : Int}
    (P : UpdPre a b loc t key r d X now) (o1 o2 : List Nat) (ho1 : d ∈ o1) (hbr : key ≠ loc ∨ a ≠ r) :
    ∃ cc : CpInfo, fetch [a, b] (t.cps d key) = some cc ∧ cc.offset = X ∧
      (∀ e ∈ cpEntries { cc with runId := a } now, EntryOK e ∧ e.rid = a) ∧
      updateReqs ver t loc [a, b] o1 o2 now =
        Req.hsetCp d loc (cpEntries { cc with runId := a } now) :: Req.hsetHash a loc ::
          updRest key cc.runId a loc o2 := by
  obtain ⟨cc, hgc, hcX, _, hfetch⟩ := getCheckpoint_of_holds ver P.holds o1 ho1
  refine ⟨cc, hfetch, hcX, ?_, ?_⟩
  · apply cpEntries_ok (c := { cc with runId := a }) _ P.hnow
    obtain ⟨c', hc', hoff', _⟩ := fetch_spec [a, b] (t.cps d key) (P.holds.parses d)
    rw [hfetch] at hc'; cases hc'
    show _ ≤ cc.offset ∧ cc.offset < _
    rw [hoff']; exact offOf_range _ _
  · rw [updateReqs_shape ver o1 o2 now P.hn P.hn0 hgc, if_pos hbr]

theorem offLe_of_locOk {ids : List Bytes} {t : Checkpoint.Target} {loc ρ : Bytes} {d : Nat} {X : Int}
    (hL : LocOk ids t loc d X) (hm : matchId ids ρ = true) (hU : ∀ db, ∀ e ∈ t.cps db loc, e.rid = ρ)
    (hnd : ∀ db, FieldsNodup (t.cps db loc)) (db : Nat) : OffLe [ρ] (t.cps db loc) X := by
  intro x hx hsx v hv
  rw [offSel_iff, matchId_one] at hsx
  by_cases hdb : db = d
  · subst hdb
    rcases hL.atd with hat | hat
    · have hcg : offOf ids (t.cps db loc) = offOf [ρ] (t.cps db loc) := by
        apply offOf_congr
        intro e he
        apply offSel_of_match
        rw [hU db e he, hm, (matchId_one ρ ρ).mpr rfl]
      have := offOf_one_of_mem (hnd db) hx
        (show x.key = (ρ, Kind.offset) by show (x.rid, x.kind) = _; rw [hsx.1, hsx.2]) hv
      rw [← hcg, hat] at this
      exact Int.le_of_eq this.symm
    · have := hat x hx
      rw [hsx.1, hm] at this; cases this
  · exact Int.le_of_lt (hL.below db hdb x hx (by rw [offSel_iff, hsx.1]; exact ⟨hm, hsx.2⟩) v hv)

/-- the tail of `UpdateCheckpoint` (the clean-up of the old label) only deletes, and never the hash entry of the
    label the position now carries -/
theorem updRest_delReq {c : Ctl} (hp : c.pend = none) (n old loc : Bytes) (o2 : List Nat) :
    ∀ q ∈ updRest n old c.lab loc o2, DelReq c q := by
  intro q hq
  unfold updRest at hq
  split at hq
  · rcases List.mem_append.mp hq with hq | hq
    · obtain ⟨db, _, rfl⟩ := List.mem_map.mp hq
      exact ⟨ksOK_fourKeys _, fun p hp' => by rw [hp] at hp'; cases hp'⟩
    · split at hq
      · rename_i hne
        rw [List.mem_singleton.mp hq]
        exact hne
      · cases hq
  · cases hq

/-- the label after `k` requests of the relabel -/
def relabelCtl (c : Ctl) (k : Nat) : Ctl := if 2 ≤ k then { c with lab := c.mas } else c

theorem relabelCtl_ids (c : Ctl) (k : Nat) : (relabelCtl c k).mas = c.mas ∧ (relabelCtl c k).sec = c.sec := by
  unfold relabelCtl; split <;> exact ⟨rfl, rfl⟩

theorem good_relabel (ver : Bytes) {t : Checkpoint.Target} {c : Ctl} {X : Int} {d : Nat} (G : Good t c X d)
    (hl : c.lab ≠ c.mas) (hp : c.pend = none) (o1 o2 : List Nat) (ho1 : d ∈ o1) (now : Int)
    (hnow : -(2^63 : Int) ≤ now ∧ now < 2^63) (k : Nat) :
    Good (applyAll t ((updateReqs ver t c.key [c.mas, c.sec] o1 o2 now).take k)) (relabelCtl c k) X d := by
  have P := G.updPre_relabel now hnow
  have hbr : c.key ≠ c.key ∨ c.mas ≠ c.lab := Or.inr (Ne.symm hl)
  obtain ⟨cc, hfetch, hcX, hes, hshape⟩ := update_run ver P o1 o2 ho1 hbr
  obtain ⟨C, F, hH, hC⟩ := G
  -- the first request writes fields of the master id under the key
  have F1 : Frame (applyReq t (Req.hsetCp d c.key (cpEntries { cc with runId := c.mas } now))) c X d := by
    refine (frameNR_masWrite C F.nr _ ⟨d, _, rfl, hes⟩).withRid (fun db => ?_)
    rw [applyReq_hsetCp_cps]
    split
    · intro _
      rw [hasKey_hsetMany]
      exact Or.inl (cpEntries_has_runid (c := { cc with runId := c.mas }) C.m0)
    · exact F.hasrid db
  match k with
  | 0 => exact ⟨C, F, hH, hC⟩
  | 1 =>
    rw [hshape]
    refine ⟨C, F1, (first_facts P hfetch hcX).holds, ?_⟩
    -- the label's own fields are untouched
    show Carrier c.lab (applyReq t (Req.hsetCp d c.key (cpEntries { cc with runId := c.mas } now))) c.key d X
    unfold Carrier
    rw [applyReq_hsetCp_cps, if_pos ⟨rfl, rfl⟩]
    have hns : ∀ e ∈ cpEntries { cc with runId := c.mas } now, matchId [c.lab] e.rid = false := by
      intro e he
      rw [(hes e he).2, ← Bool.not_eq_true, matchId_one]; exact Ne.symm hl
    rw [offOf_hsetMany_irrelevant _ _ _ (fun e he => by simp [offSel, hns e he]),
      ridOf_hsetMany_irrelevant _ _ _ (fun e he => by simp [ridSel, hns e he])]
    exact hC
  | k + 2 =>
    -- once the hash is repointed the master id alone carries the position; the rest only deletes
    obtain ⟨_, _, _, _, _, _, _, hinv⟩ := update_prefix_inv'' ver P o1 o2 ho1 (k + 2)
    have hI := hinv hbr (Nat.le_add_left 2 k)
    rw [hshape] at hI ⊢
    refine ⟨⟨C.hne, C.m0, C.mq, C.sq, Or.inl rfl, C.m0, C.key0, C.keyIn, C.masIn, C.secIn, C.upk, C.s0⟩, ?_,
      hI.holds, hI.carrier⟩
    show Frame (applyAll (applyReq (applyReq t _) (Req.hsetHash c.mas c.key)) ((updRest c.key cc.runId c.mas c.key o2).take k))
      { c with lab := c.mas } X d
    refine frame_dels _ ?_ (fun q hq => updRest_delReq (c := { c with lab := c.mas }) hp _ _ _ _ q (mem_take hq))
    exact ⟨hlookup_hashSet_self _ _ _, fun h => absurd rfl h, strA_applyReq F1.str _ ⟨C.masIn, C.keyIn⟩, F1.ord, F1.sle,
      F1.hasrid, fun p hp' => by rw [show ({ c with lab := c.mas } : Ctl).pend = c.pend from rfl, hp] at hp'; cases hp'⟩

/-- the control state after `k` requests of a start whose UpdateCheckpoint issues `len` requests -/
def startCtl (c : Ctl) (loc : Bytes) (k len : Nat) : Ctl :=
  if len = 0 then { c with up := true, pend := none }
  else if k = 0 then { c with up := false }
  else if k = 1 then { c with up := false, pend := some loc, names := loc :: c.names }
  else { c with key := loc, up := decide (len ≤ k), pend := none, names := loc :: c.names }

theorem startCtl_ids (c : Ctl) (loc : Bytes) (k len : Nat) :
    (startCtl c loc k len).mas = c.mas ∧ (startCtl c loc k len).sec = c.sec := by
  unfold startCtl
  split
  · exact ⟨rfl, rfl⟩
  · split
    · exact ⟨rfl, rfl⟩
    · split <;> exact ⟨rfl, rfl⟩

theorem holds_pair {c : Ctl} {a b : Bytes} (hab : (a = c.mas ∧ b = c.sec) ∨ (a = c.sec ∧ b = c.mas))
    {t : Checkpoint.Target} {n : Bytes} {d : Nat} {X : Int} (h : Holds [a, b] t n d X) :
    Holds [c.mas, c.sec] t n d X := by
  rcases hab with ⟨rfl, rfl⟩ | ⟨rfl, rfl⟩
  · exact h
  · exact h.swap

theorem locOk_pair {c : Ctl} {a b : Bytes} (hab : (a = c.mas ∧ b = c.sec) ∨ (a = c.sec ∧ b = c.mas))
    {t : Checkpoint.Target} {n : Bytes} {d : Nat} {X : Int} (h : LocOk [a, b] t n d X) :
    LocOk [c.mas, c.sec] t n d X := by
  rcases hab with ⟨rfl, rfl⟩ | ⟨rfl, rfl⟩
  · exact h
  · exact h.swap

theorem good_start_core (ver : Bytes) {t : Checkpoint.Target} {c : Ctl} {X : Int} {d : Nat} (G : Good t c X d)
    (a b : Bytes) (hab : (a = c.mas ∧ b = c.sec) ∨ (a = c.sec ∧ b = c.mas)) (hal : a = c.lab)
    (loc : Bytes) (hloc : loc = c.key ∨ c.pend = some loc ∨ loc ∉ c.names) (now : Int)
    (P : UpdPre a b loc t c.key a d X now) (o1 o2 : List Nat) (ho1 : d ∈ o1) (k : Nat) :
    Good (applyAll t ((updateReqs ver t loc [a, b] o1 o2 now).take k))
      (startCtl c loc k (updateReqs ver t loc [a, b] o1 o2 now).length) X d := by
  obtain ⟨C, F, hH, hC⟩ := G
  have haIn : a ∈ c.ids := by rcases hab with ⟨rfl, _⟩ | ⟨rfl, _⟩; exact C.masIn; exact C.secIn
  by_cases hk : c.key = loc
  · -- nothing to do: the hash maps the label to the configured key
    have hnoop := updateReqs_noop ver o1 o2 now (show getHash t.hash [a, b] = some (loc, a) from hk ▸ P.hn)
    rw [hnoop]
    simp only [List.take_nil, applyAll, List.foldl_nil, List.length_nil, startCtl, if_true]
    exact ⟨⟨C.hne, C.m0, C.mq, C.sq, C.lab, C.l0, C.key0, C.keyIn, C.masIn, C.secIn, fun _ => rfl, C.s0⟩,
      ⟨F.hashL, F.hashM, F.str, F.ord, F.sle, F.hasrid, fun p hp => by cases hp⟩, hH, hC⟩
  obtain ⟨cc, hfetch, hcX, hes, hshape⟩ := update_run ver P o1 o2 ho1 (Or.inl hk)
  rw [hshape]
  -- what the new key held before (a cut rename wrote to it, or nothing): fields of the label only, and the hash
  -- maps nothing to it
  obtain ⟨hold, hunm, holdrid⟩ : (∀ db, ∀ e ∈ t.cps db loc, e.rid = c.lab) ∧ (∀ q ∈ t.hash, q.2 ≠ loc) ∧
      ∀ db, hasKey (c.mas, Kind.offset) (t.cps db loc) → hasKey (c.mas, Kind.runid) (t.cps db loc) := by
    rcases hloc with h | h | h
    · exact absurd h.symm hk
    · exact ⟨(F.pend loc h).rid, (F.pend loc h).unm, (F.pend loc h).hasrid⟩
    · have h0 := (F.str.names loc h).1
      exact ⟨fun db e he => (by rw [h0 db] at he; cases he), (F.str.names loc h).2,
        fun db ⟨e, he, _⟩ => (by rw [h0 db] at he; cases he)⟩
  have hcps1 : ∀ db n, (applyReq t (Req.hsetCp d loc (cpEntries { cc with runId := a } now))).cps db n =
      if db = d ∧ n = loc then hsetMany (t.cps d loc) (cpEntries { cc with runId := a } now) else t.cps db n :=
    fun db n => applyReq_hsetCp_cps t d loc _ db n
  have hkey1 : ∀ db, (applyReq t (Req.hsetCp d loc (cpEntries { cc with runId := a } now))).cps db c.key
      = t.cps db c.key := by
    intro db
    rw [hcps1, if_neg (fun h => hk h.2)]
  have hU : ∀ db, ∀ e ∈ (applyReq t (Req.hsetCp d loc (cpEntries { cc with runId := a } now))).cps db loc,
      e.rid = c.lab := by
    intro db e he
    rw [hcps1] at he
    split at he
    · rcases mem_hsetMany he with he' | he'
      · rw [(hes e he').2]; exact hal
      · exact hold d e he'
    · exact hold db e he
  have hL1 : LocOk [a, b] (applyReq t (Req.hsetCp d loc (cpEntries { cc with runId := a } now))) loc d X :=
    (first_facts P hfetch hcX).locok hk
  have hrid1 : ∀ db, hasKey (c.mas, Kind.offset)
        ((applyReq t (Req.hsetCp d loc (cpEntries { cc with runId := a } now))).cps db loc) →
      hasKey (c.mas, Kind.runid)
        ((applyReq t (Req.hsetCp d loc (cpEntries { cc with runId := a } now))).cps db loc) := by
    intro db
    rw [hcps1]
    split
    · rintro ⟨e, he, hke⟩
      -- a field of the master id under the new key: the label is the master id, and its run id field was written
      have hm : c.mas = a :=
        ((congrArg Prod.fst hke : e.rid = c.mas).symm.trans (hU d e (by rw [hcps1, if_pos ⟨rfl, rfl⟩]; exact he))).trans hal.symm
      rw [hasKey_hsetMany, hm]
      exact Or.inl (cpEntries_has_runid (c := { cc with runId := a }) (now := now) P.h1)
    · exact holdrid db
  have hstr1 : StrA (applyReq t (Req.hsetCp d loc (cpEntries { cc with runId := a } now))) (loc :: c.names) c.ids :=
    strA_applyReq (F.str.weaken (fun _ h => List.mem_cons_of_mem _ h) (fun _ h => h)) _
      ⟨List.mem_cons_self .., fun e he => ⟨(hes e he).1, (hes e he).2 ▸ haIn⟩⟩
  match k with
  | 0 => exact good_crash ⟨C, F, hH, hC⟩
  | 1 =>
    -- the rename is pending: the position is still read under the old key
    show Good (applyReq t (Req.hsetCp d loc (cpEntries { cc with runId := a } now)))
      { c with up := false, pend := some loc, names := loc :: c.names } X d
    refine ⟨⟨C.hne, C.m0, C.mq, C.sq, C.lab, C.l0, C.key0, List.mem_cons_of_mem _ C.keyIn, C.masIn, C.secIn,
      (fun h => by cases h), C.s0⟩, ?_, hH.congr hkey1, ?_⟩
    · refine ⟨F.hashL, F.hashM, hstr1, fun db => by rw [hkey1]; exact F.ord db,
        fun db => by rw [hkey1]; exact F.sle db, fun db => by rw [hkey1]; exact F.hasrid db, ?_⟩
      intro p hp
      cases hp
      exact ⟨fun h => hk h.symm, P.hloc, List.mem_cons_self .., locOk_pair hab hL1, hU, hunm, hrid1⟩
    · unfold Carrier; rw [hkey1]; exact hC
  | k + 2 =>
    -- once the hash is repointed the label alone carries the position under the new key; the rest only deletes
    obtain ⟨_, _, _, _, _, _, _, hinv⟩ := update_prefix_inv'' ver P o1 o2 ho1 (k + 2)
    have hI := hinv (Or.inl hk) (Nat.le_add_left 2 k)
    rw [hshape] at hI
    show Good (applyAll (applyReq (applyReq t _) (Req.hsetHash a loc)) ((updRest c.key cc.runId a loc o2).take k))
      { c with key := loc, up := _, pend := none, names := loc :: c.names } X d
    refine ⟨⟨C.hne, C.m0, C.mq, C.sq, C.lab, C.l0, P.hloc, List.mem_cons_self .., C.masIn, C.secIn, fun _ => rfl, C.s0⟩,
      ?_, holds_pair hab hI.holds, hal ▸ hI.carrier⟩
    refine frame_dels _ ?_ (fun q hq => ?_)
    · refine ⟨?_, ?_, strA_applyReq hstr1 _ ⟨haIn, List.mem_cons_self ..⟩, fun db => noAfter_of_uniform C.hne (hU db),
        ?_, hrid1, fun p hp => by cases hp⟩
      · show hlookup (hashSet t.hash a loc) c.lab = some loc
        rw [← hal]; exact hlookup_hashSet_self _ _ _
      · intro h
        show Unmapped (hashSet t.hash a loc) c.mas
        exact (F.hashM h).hashSet (fun h' => h (hal ▸ h'.symm))
      · intro db x hx hsx
        -- a field of the second id under the new key: the label is the second id
        have hls : c.lab = c.sec := (hU db x hx).symm.trans ((matchId_one _ _).mp ((offSel_iff _ _).mp hsx).1)
        have := offLe_of_locOk hL1 ((matchId_pair _ _ _).mpr (Or.inl hal.symm)) hU (fun db => hstr1.nodup db loc) db
        rw [hls] at this
        exact this x hx hsx
    · have := mem_take hq
      rw [hal] at this
      exact updRest_delReq (c := { c with key := loc, up := _, pend := none, names := loc :: c.names }) rfl _ _ _ _ q this

/-- **the start** (`syncer.updateCheckpoint`): `UpdateCheckpoint(loc, ids ordered by the hash)`, stopped
    after any number `k` of its requests; `loc` is the current key, the key a cut rename wrote to, or a
    name not used before -/
theorem good_start (ver : Bytes) {t : Checkpoint.Target} {c : Ctl} {X : Int} {d : Nat} (G : Good t c X d)
    (loc : Bytes) (hloc0 : loc ≠ []) (hloc : loc = c.key ∨ c.pend = some loc ∨ loc ∉ c.names)
    (o1 o2 : List Nat) (ho1 : d ∈ o1) (now : Int) (hnow : -(2^63 : Int) ≤ now ∧ now < 2^63) (k : Nat) :
    Good (applyAll t ((updateReqs ver t loc (startIds t.hash [c.mas, c.sec]) o1 o2 now).take k))
      (startCtl c loc k (updateReqs ver t loc (startIds t.hash [c.mas, c.sec]) o1 o2 now).length) X d := by
  rw [G.startIdsEq]
  obtain ⟨P1, P2⟩ := G.updPre_start loc hloc0 hloc now hnow
  by_cases hl : c.lab = c.sec
  · rw [if_pos hl]
    have P := P2 hl
    rw [hl] at P
    exact good_start_core ver G c.sec c.mas (Or.inr ⟨rfl, rfl⟩) hl.symm loc hloc now P o1 o2 ho1 k
  · rw [if_neg hl]
    have hlm : c.lab = c.mas := by rcases G.ctl.lab with h | h; exact h; exact absurd h hl
    have P := P1 hl
    rw [hlm] at P
    exact good_start_core ver G c.mas c.sec (Or.inl ⟨rfl, rfl⟩) hlm.symm loc hloc now P o1 o2 ho1 k

def emptyT : Checkpoint.Target := { hash := [], cps := fun _ _ => [] }

/-- `UpdateCheckpoint(loc, [A, z])` on the empty target (nothing stored: a placeholder entry with offset −1 in
    database 0 and the hash entry), then `setCheckpoint(A, X0)` after the snapshot replay -/
def seedTarget (ver loc A z : Bytes) (o1 o2 : List Nat) (now now' X0 : Int) : Checkpoint.Target :=
  applyReq (applyAll emptyT (updateReqs ver emptyT loc [A, z] o1 o2 now)) (seedReq loc A ver X0 now')

def seedCtl (loc A z : Bytes) : Ctl :=
  { key := loc, lab := A, mas := A, sec := z, up := true, pend := none, names := [loc], ids := [A, z] }

theorem start_reqs_ne_nil (ver : Bytes) {t : Checkpoint.Target} {c : Ctl} {X : Int} {d : Nat} (G : Good t c X d)
    (loc : Bytes) (hloc0 : loc ≠ []) (hloc : loc = c.key ∨ c.pend = some loc ∨ loc ∉ c.names) (hk : c.key ≠ loc)
    (o1 o2 : List Nat) (ho1 : d ∈ o1) (now : Int) (hnow : -(2^63 : Int) ≤ now ∧ now < 2^63) :
    updateReqs ver t loc (startIds t.hash [c.mas, c.sec]) o1 o2 now ≠ [] := by
  rw [G.startIdsEq]
  obtain ⟨P1, P2⟩ := G.updPre_start loc hloc0 hloc now hnow
  by_cases hl : c.lab = c.sec
  · obtain ⟨_, _, _, _, h⟩ := update_run ver (P2 hl) o1 o2 ho1 (Or.inl hk)
    rw [if_pos hl, h]; exact List.cons_ne_nil _ _
  · obtain ⟨_, _, _, _, h⟩ := update_run ver (P1 hl) o1 o2 ho1 (Or.inl hk)
    rw [if_neg hl, h]; exact List.cons_ne_nil _ _

end GunYu.BookSys
