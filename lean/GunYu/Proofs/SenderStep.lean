/-
  One iteration of the sender loop in the forms the invariants are proved through: what a
  flush returns, the end of an iteration as one equation, and every event but an item as
  `tail` on the loop state.
-/
import GunYu.Model.Sender

namespace GunYu.Sender

theorem filterMap_sendReqs {α} (f : Req → Option α) (hm : f .multi = none) (he : f .exec = none)
    (c : SCfg) (s : SState) (tb u : Bool) (off : Int) :
    (sendReqs c s tb u off).filterMap f =
      s.queue.filterMap (fun i => f (.cmd i.cmd i.args i.offset)) ++ (cpPart c s u off).filterMap f := by
  unfold sendReqs
  cases tb <;> simp [List.filterMap_append, List.filterMap_map, hm, he, Function.comp_def]

theorem cpPart_shape (c : SCfg) (s : SState) (u : Bool) (off : Int) :
    cpPart c s u off = (if u && c.resume then [Req.cpOffset off] else []) ∨
    ((u && c.resume) = true ∧ cpPart c s u off = [Req.cpMeta, Req.cpOffset off]) := by
  unfold cpPart
  split
  · split
    · exact .inl rfl
    · exact .inr ⟨‹_›, rfl⟩
  · exact .inl rfl

theorem sendOnce_cases (c : SCfg) (s : SState) (tb up : Bool) (off : Int) :
    (s.queue = [] ∧ sendOnce c s tb up off = (s, none)) ∨
    sendOnce c s tb up off =
      ({ s with queue := [], qbytes := 0, cpInDbs := cpInAfter c s (up && decide (0 ≤ off)),
                connDb := dbAfter s.connDb s.queue },
       some (sendReqs c s tb (up && decide (0 ≤ off)) off)) := by
  unfold sendOnce
  simp only
  split
  · rename_i h
    simp only [Bool.and_eq_true, List.isEmpty_iff] at h
    exact .inl ⟨h.1.1, rfl⟩
  · split
    · rename_i h
      simp only [sendReqs, List.isEmpty_iff, List.append_eq_nil_iff, List.map_eq_nil_iff] at h
      exact .inl ⟨h.1.1.2, rfl⟩
    · exact .inr rfl

theorem sendOnce_needFlush (c : SCfg) (s : SState) (b tb up : Bool) (off : Int) :
    sendOnce c { s with needFlush := b } tb up off =
      ({ (sendOnce c s tb up off).1 with needFlush := b }, (sendOnce c s tb up off).2) := by
  have hr : ∀ u, sendReqs c { s with needFlush := b } tb u off = sendReqs c s tb u off := fun _ => rfl
  have hc : ∀ u, cpInAfter c { s with needFlush := b } u = cpInAfter c s u := fun _ => rfl
  unfold sendOnce
  simp only [hr, hc]
  split
  · rfl
  · split <;> rfl

theorem tail_eq (c : SCfg) (s : SState) (tb up : Bool) (out : List Batch) :
    tail c s tb up out =
      if s.needFlush || !s.inTxn &&
          (decide (c.batchCount ≤ s.queue.length) || decide (c.batchBytes ≤ s.qbytes))
      then ({ (sendOnce c s tb up s.lastOffset).1 with needFlush := false, inTxn := false },
            out ++ optToList (sendOnce c s tb up s.lastOffset).2)
      else (s, out) := by
  unfold tail
  cases hn : s.needFlush
  · cases hf : !s.inTxn &&
        (decide (c.batchCount ≤ s.queue.length) || decide (c.batchBytes ≤ s.qbytes))
    · simp [hn, hf]
    · simp only [hf, Bool.not_false, Bool.true_and, ↓reduceIte, sendOnce_needFlush, Bool.false_or]
  · simp [hn]

theorem step_tick (c : SCfg) (s : SState) (ev : Ev) (hev : ∀ it, ev ≠ .item it) :
    (∃ nf up, (up = (c.resume && c.txnMode) ∨ up = true) ∧
      step c s ev = tail c { s with needFlush := nf } c.txnMode up []) ∨
    (s.queue = [] ∧ step c s ev =
      tail c { s with queue := [pingItem s.lastOffset], needFlush := true } false
        (c.resume && c.txnMode) []) := by
  cases ev with
  | item it => exact absurd rfl (hev it)
  | batchTick =>
    by_cases h : (!s.needFlush && !s.inTxn && !s.queue.isEmpty) = true
    · exact .inl ⟨true, _, .inl rfl, congrArg (tail c · _ _ _) (if_pos h)⟩
    · exact .inl ⟨s.needFlush, _, .inl rfl, congrArg (tail c · _ _ _) (if_neg h)⟩
  | keepaliveTick =>
    by_cases h : (!s.inTxn && !s.needFlush) = true
    · by_cases he : s.queue.isEmpty = true
      · exact .inr ⟨List.isEmpty_iff.mp he, (if_pos h).trans (if_pos he)⟩
      · exact .inl ⟨true, _, .inl rfl, (if_pos h).trans (if_neg he)⟩
    · exact .inl ⟨s.needFlush, _, .inl rfl, if_neg h⟩
  | cpTick =>
    by_cases h : (!s.inTxn && !c.txnMode) = true
    · exact .inl ⟨true, _, .inr rfl, if_pos h⟩
    · exact .inl ⟨s.needFlush, _, .inl rfl, if_neg h⟩
  | done =>
    by_cases h : (!s.inTxn && !c.txnMode) = true
    · exact .inl ⟨true, _, .inr rfl, if_pos h⟩
    · exact .inl ⟨s.needFlush, _, .inl rfl, if_neg h⟩

end GunYu.Sender
