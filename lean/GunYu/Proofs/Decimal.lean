/-
  Decimal rendering / parsing round trip for `GunYu.natToDec` / `GunYu.decToNat?`
  (Basic/Bytes.lean). Core only.
-/
import GunYu.Basic.Bytes

namespace GunYu.Decimal
open GunYu

/-- the decimal digits of `n`, least significant first (at least one digit) -/
def digitsLE : Nat → Nat → Bytes
  | 0, _ => []
  | fuel+1, n => UInt8.ofNat (48 + n % 10) :: (if n / 10 = 0 then [] else digitsLE fuel (n / 10))

theorem natToDecAux_eq (fuel n : Nat) (acc : Bytes) :
    natToDecAux fuel n acc = (digitsLE fuel n).reverse ++ acc := by
  induction fuel generalizing n acc with
  | zero => simp [natToDecAux, digitsLE]
  | succ f ih =>
    simp only [natToDecAux, digitsLE]
    split
    · simp
    · rw [ih]; simp

def digitVal (b : UInt8) : Nat := b.toNat - 48

/-- value of a little-endian digit list -/
def valLE : Bytes → Nat
  | [] => 0
  | b :: bs => valLE bs * 10 + digitVal b

/-- the byte of a digit is `48 + d` without wrap-around -/
theorem toNat_digit (d : Nat) (h : d < 10) : (UInt8.ofNat (48 + d)).toNat = 48 + d := by
  rw [UInt8.toNat_ofNat']
  exact Nat.mod_eq_of_lt (by omega)

theorem digitVal_ofNat (d : Nat) (h : d < 10) : digitVal (UInt8.ofNat (48 + d)) = d := by
  rw [digitVal, toNat_digit d h, Nat.add_sub_cancel_left]

theorem isDigit_ofNat (d : Nat) (h : d < 10) : isDigit (UInt8.ofNat (48 + d)) = true := by
  simp only [isDigit, Bool.and_eq_true, decide_eq_true_eq, UInt8.le_iff_toNat_le, toNat_digit d h]
  exact ⟨Nat.le_add_right 48 d, Nat.add_le_add_left (Nat.le_of_lt_succ h) 48⟩

theorem valLE_digitsLE (fuel n : Nat) (h : n < fuel) : valLE (digitsLE fuel n) = n := by
  induction fuel generalizing n with
  | zero => omega
  | succ f ih =>
    have hn := Nat.div_add_mod' n 10
    simp only [digitsLE, valLE]
    rw [digitVal_ofNat _ (Nat.mod_lt _ (by decide))]
    split
    · rename_i h0
      rw [h0] at hn
      exact hn
    · rename_i h0
      have hpos : 0 < n := Nat.pos_of_ne_zero fun hz => h0 (by rw [hz])
      -- n / 10 < n ≤ f
      rw [ih (n / 10) (Nat.lt_of_lt_of_le (Nat.div_lt_self hpos (by decide)) (Nat.le_of_lt_succ h))]
      exact hn

theorem digitsLE_all (fuel n : Nat) : ∀ b ∈ digitsLE fuel n, isDigit b = true := by
  induction fuel generalizing n with
  | zero => simp [digitsLE]
  | succ f ih =>
    intro b hb
    simp only [digitsLE, List.mem_cons] at hb
    rcases hb with rfl | hb
    · exact isDigit_ofNat _ (Nat.mod_lt _ (by decide))
    · split at hb
      · simp at hb
      · exact ih _ b hb

theorem foldl_reverse_valLE (ds : Bytes) :
    ds.reverse.foldl (fun acc b => acc * 10 + (b.toNat - 48)) 0 = valLE ds := by
  induction ds with
  | nil => rfl
  | cons b bs ih => simp [List.foldl_append, ih, valLE, digitVal]

theorem natToDec_eq (n : Nat) : natToDec n = (digitsLE (n+1) n).reverse := by
  simp [natToDec, natToDecAux_eq]

theorem natToDec_ne_nil (n : Nat) : natToDec n ≠ [] := by
  simp [natToDec_eq, digitsLE]

/-- every byte of a rendered number is an ASCII digit -/
theorem natToDec_all_digit (n : Nat) : ∀ b ∈ natToDec n, isDigit b = true := by
  intro b hb
  rw [natToDec_eq, List.mem_reverse] at hb
  exact digitsLE_all _ _ b hb

/-- decimal round trip, every natural number -/
theorem decToNat?_natToDec (n : Nat) : decToNat? (natToDec n) = some n := by
  unfold decToNat?
  have hne := natToDec_ne_nil n
  have hall : (natToDec n).all isDigit = true := by
    rw [List.all_eq_true]; exact natToDec_all_digit n
  simp only [List.isEmpty_iff, hne, if_false, hall, if_true]
  rw [natToDec_eq, foldl_reverse_valLE, valLE_digitsLE _ _ (by omega)]

theorem isDigit_iff (b : UInt8) : isDigit b = true ↔ 48 ≤ b.toNat ∧ b.toNat ≤ 57 := by
  simp only [isDigit, Bool.and_eq_true, decide_eq_true_eq, UInt8.le_iff_toNat_le]
  exact Iff.rfl

end GunYu.Decimal
