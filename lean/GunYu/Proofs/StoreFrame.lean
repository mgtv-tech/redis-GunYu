/-
  C05, disk backend — what the per-operation equations of Proofs/StoreDisk.lean leave to say
  for the callers' protocol and the progress argument: looking a reader up after one entry of
  the list changed (a reader's own operation leaves the other entries alone); the pieces of an
  id switch (every reader closed, a snapshot in writing dropped) and `SetRunId` in a reachable
  state, where the re-scan finds exactly what was closed.
-/
import GunYu.Proofs.StoreDisk

namespace GunYu.Store
open GunYu

theorem findReader_setReader (rs : List DReader) (x : DReader) (rid : Nat) :
    findReader (setReader rs x) rid = (findReader rs rid).map (fun y => if y.id == x.id then x else y) := by
  unfold findReader setReader
  rw [List.find?_map]
  congr 2
  funext y
  by_cases h : y.id = x.id <;> simp [h]

theorem findReader_setReader_ne (rs : List DReader) (x : DReader) (rid : Nat) (h : x.id ≠ rid) :
    findReader (setReader rs x) rid = findReader rs rid := by
  rw [findReader_setReader]
  cases hf : findReader rs rid with
  | none => rfl
  | some y =>
    have : (y.id == x.id) = false := by rw [(findReader_some hf).2]; simpa using h.symm
    simp only [Option.map_some, this, Bool.false_eq_true, if_false]

theorem findReader_setReader_hit {rs : List DReader} {rid : Nat} {r x : DReader}
    (hf : findReader rs rid = some r) (hx : x.id = rid) : findReader (setReader rs x) rid = some x := by
  rw [findReader_setReader, hf]
  simp [(findReader_some hf).2, hx]

theorem findReader_append_ne (rs : List DReader) (x : DReader) (rid : Nat) (h : x.id ≠ rid) :
    findReader (rs ++ [x]) rid = findReader rs rid := by
  unfold findReader
  rw [List.find?_append]
  have : (x.id == rid) = false := by simpa using h
  cases rs.find? (fun y => y.id == rid) <;> simp [this]

/-- an operation of reader `rid` on itself leaves every other reader's entry as it is -/
theorem SelfOp.other {c : Bool} {rid : Nat} {s s' : Disk} (h : SelfOp c rid s s') {x : Nat} (hx : rid ≠ x) :
    findReader s'.readers x = findReader s.readers x := by
  rcases h with rfl | ⟨r0, r1, h0, hid, rfl, _⟩
  · rfl
  · exact findReader_setReader_ne _ _ _ (by rw [hid, (findReader_some h0).2]; exact hx)

theorem dropWritingRdb_cases (s : Disk) : s.dropWritingRdb = s ∨ s.dropWritingRdb = { s with rdb := none } := by
  unfold Disk.dropWritingRdb
  cases s.rdb with
  | none => exact Or.inl rfl
  | some r =>
    dsimp only
    by_cases h : r.writing = true
    · rw [if_pos h]; exact Or.inr rfl
    · rw [if_neg h]; exact Or.inl rfl

theorem aofAppend_step (s : Disk) (c : Bytes) : (s.step (.aofAppend c)).1 = (s.appendLive c).1 := by
  simp only [Disk.step]
  rcases appendLive_spec s c with e | ⟨e, _⟩
  · rw [e]; rfl
  · rw [if_pos e]

theorem closeAllReaders_closed (rs : List DReader) : ∀ r ∈ closeAllReaders rs, r.isOpen = false := by
  intro r hr
  obtain ⟨y, _, rfl⟩ := List.mem_map.mp hr
  rfl

theorem closeAllForSwitch_readers (s : Disk) : ∀ r ∈ s.closeAllForSwitch.readers, r.isOpen = false := by
  unfold Disk.closeAllForSwitch
  refine closeLive_readers_closed _ fun y hy => ?_
  rw [(dropWritingRdb_fields _).2.2.1] at hy
  exact closeAllReaders_closed _ y hy

/-- in a reachable state the re-scan of an id switch finds exactly what was closed -/
theorem rescan_closeAllForSwitch {s : Disk} (h : DInv s) : s.closeAllForSwitch.rescan = s.closeAllForSwitch := by
  obtain ⟨hd, hl, hr, _⟩ := closeAllForSwitch_spec h
  exact rescan_eq_self hd hl hr

theorem setRunId_step {s : Disk} (hi : DInv s) (id : String) :
    (s.step (.setRunId id)).1 = { s.reset with runId := id } ∨ (s.step (.setRunId id)).1 = s ∨
      (s.step (.setRunId id)).1 = { s.closeAllForSwitch with runId := id } := by
  simp only [Disk.step]
  by_cases h1 : s.runId = ""
  · rw [if_pos h1]; exact Or.inl rfl
  rw [if_neg h1]
  by_cases h2 : id = s.runId
  · rw [if_pos h2]; exact Or.inr (Or.inl rfl)
  rw [if_neg h2, rescan_closeAllForSwitch hi]
  exact Or.inr (Or.inr rfl)

end GunYu.Store
