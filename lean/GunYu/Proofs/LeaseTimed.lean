/-
  Invariant of the lease system with timed election calls
  (Model/LeaseTimed.lean) and its preservation by every event of every
  schedule that respects `TAllowed`. Property statements: Props/C15.lean.
-/
import GunYu.Model.LeaseTimed
import GunYu.Proofs.Lease


namespace GunYu.Lease
open GunYu

theorem setInst_same (f : Bytes → Bytes → Inst) (key id : Bytes) (v : Inst) :
    setInst f key id v key id = v := by simp [setInst]

theorem setInst_other (f : Bytes → Bytes → Inst) (key' id' : Bytes) (v : Inst) (key id : Bytes)
    (h : ¬ (key = key' ∧ id = id')) : setInst f key' id' v key id = f key id := by
  simp [setInst, h]

/-- per instance record `v` of (key, id): calls in flight were sent in the past; an answer "leader" on
    its way is backed by a lease that runs at least one ttl from the send; an
    instance that leads is within `hold` of the send of its last successful
    call, and the lease that call obtained runs at least one ttl from it -/
def IRec (cfg hold : Bytes → Nat) (b : Sys) (key id : Bytes) (v : Inst) : Prop :=
  (∀ p, v.pend = some p → p.sent ≤ b.now) ∧
  (∀ sent, v.pend = some ⟨sent, some .leader⟩ → ∃ d, b.told key id = some d ∧ sent + cfg id * 1000 ≤ d) ∧
  (v.acting = true →
      v.okSent ≤ b.now ∧
      ∃ d, b.told key id = some d ∧ v.okSent + cfg id * 1000 ≤ d ∧ b.now ≤ v.okSent + hold id)

theorem IRec.idle {cfg hold : Bytes → Nat} {b : Sys} {key id : Bytes} {v : Inst} (hp : v.pend = none)
    (ha : v.acting = true →
      v.okSent ≤ b.now ∧
      ∃ d, b.told key id = some d ∧ v.okSent + cfg id * 1000 ≤ d ∧ b.now ≤ v.okSent + hold id) :
    IRec cfg hold b key id v :=
  ⟨fun _ h => (by rw [hp] at h; cases h), fun _ h => (by rw [hp] at h; cases h), ha⟩

def IInv (cfg hold : Bytes → Nat) (s : TSys) (key id : Bytes) : Prop :=
  IRec cfg hold s.base key id (s.inst key id)

def TInv (cfg hold : Bytes → Nat) (s : TSys) : Prop :=
  Inv cfg s.base ∧ ∀ key id, IInv cfg hold s key id

theorem tinv_init (cfg hold : Bytes → Nat) (st : Store) (now : Nat) : TInv cfg hold (TSys.init st now) := by
  refine ⟨inv_init cfg st now, fun key id => ⟨?_, ?_, ?_⟩⟩ <;> simp [TSys.init, Inst.idle]

/-- an instance that leads is a holder in the sense of the untimed model -/
theorem acting_holder {cfg hold : Bytes → Nat} (hh : ∀ id, hold id ≤ cfg id * 1000) {s : TSys}
    (h : TInv cfg hold s) {key id : Bytes} (ha : (s.inst key id).acting = true) :
    holder s.base key id := by
  obtain ⟨_, d, ht, hd, hn⟩ := (h.2 key id).2.2 ha
  exact ⟨d, ht, by have := hh id; omega⟩

/-- while `id`'s lease (by script time) has not run out, its campaign script
    answers 1 -/
theorem campaign_leader_of_holder {cfg : Bytes → Nat} {b : Sys} (hinv : Inv cfg b) {key id : Bytes} {d : Nat}
    (ht : b.told key id = some d) (hd : b.now ≤ d) (h1 : 1 ≤ cfg id) :
    roleOf (step cfg b (.campaign key id)).2 = .leader := by
  obtain ⟨e, hs, hv, hde⟩ := (hinv key id d ht).2 hd
  have hl := lookup_of_live hs (Nat.le_trans hd hde)
  rcases campaign_cases b.store b.now key id (cfg id) h1 with ⟨_, hc⟩ | ⟨⟨e2, hl2, hv2⟩, _⟩
  · simp [step, hc, campaignResult, replyInt, roleOf]
  · rw [hl] at hl2; cases hl2; exact absurd hv hv2

theorem step_campaign_told (cfg : Bytes → Nat) (b : Sys) (key id : Bytes) :
    (step cfg b (.campaign key id)).1.told =
      toldAfter b.told key id (b.now + cfg id * 1000) (roleOf (step cfg b (.campaign key id)).2) ∧
    (step cfg b (.campaign key id)).1.now = b.now := by
  simp [step, roleOf]

theorem tinv_update {cfg hold : Bytes → Nat} {s : TSys} (h : TInv cfg hold s) {b : Sys} (hb : Inv cfg b)
    (hn : b.now = s.base.now) (k i : Bytes) (v : Inst) (hv : IRec cfg hold b k i v)
    (ht : ∀ key id, ¬ (key = k ∧ id = i) → b.told key id = s.base.told key id) :
    TInv cfg hold ⟨b, setInst s.inst k i v⟩ := by
  refine ⟨hb, fun key id => ?_⟩
  show IRec cfg hold b key id (setInst s.inst k i v key id)
  by_cases hk : key = k ∧ id = i
  · obtain ⟨rfl, rfl⟩ := hk; rw [setInst_same]; exact hv
  · rw [setInst_other _ _ _ _ _ _ hk]
    have := h.2 key id
    unfold IInv IRec at this
    unfold IRec
    rwa [hn, ht key id hk]

theorem tinv_step {cfg hold : Bytes → Nat} (hcfg : ∀ id, 1 ≤ cfg id) (hh : ∀ id, hold id ≤ cfg id * 1000)
    {s : TSys} (h : TInv cfg hold s) (ev : TEv) (hal : TAllowed hold s ev) :
    TInv cfg hold (tstep cfg hold s ev) := by
  obtain ⟨hb, hi⟩ := h
  have upd := fun k i v hv => tinv_update ⟨hb, hi⟩ hb rfl k i v hv (fun _ _ _ => rfl)
  cases ev with
  | tick d =>
    refine ⟨inv_step hb (.tick d) trivial, fun key id => ?_⟩
    obtain ⟨h1, h2, h3⟩ := hi key id
    refine ⟨fun p hp => Nat.le_trans (h1 p hp) (Nat.le_add_right _ _), h2, fun ha => ?_⟩
    obtain ⟨ho, d', ht, hd, hn⟩ := h3 ha
    exact ⟨Nat.le_trans ho (Nat.le_add_right _ _), d', ht, hd, hal key id ha⟩
  | send k i =>
    simp only [tstep]
    split
    · exact upd k i _ ⟨fun p hp => (by cases hp; exact Nat.le_refl _), fun _ hp => (by cases hp), (hi k i).2.2⟩
    · exact ⟨hb, hi⟩
  | exec k i =>
    simp only [tstep]
    split
    · next sent hp =>
      obtain ⟨h1, _, h3⟩ := hi k i
      obtain ⟨htold, hnow⟩ := step_campaign_told cfg s.base k i
      refine tinv_update ⟨hb, hi⟩ (inv_step hb (.campaign k i) (hcfg i)) hnow k i _ ⟨?_, ?_, ?_⟩
        (fun key id hk => by rw [htold, toldAfter_other _ _ _ _ _ _ _ hk])
      · intro p hp'; cases hp'; rw [hnow]; exact h1 ⟨sent, none⟩ hp
      · intro sent' hp'
        simp only [Option.some.injEq, Pend.mk.injEq] at hp'
        obtain ⟨rfl, hr⟩ := hp'
        have : sent ≤ s.base.now := h1 ⟨sent, none⟩ hp
        rw [htold, hr]
        exact ⟨s.base.now + cfg i * 1000, by simp [toldAfter, setTold_same], by omega⟩
      · intro ha
        obtain ⟨ho, d', ht, hd, hn⟩ := h3 ha
        rw [htold, hnow, campaign_leader_of_holder hb ht (by have := hh i; omega) (hcfg i)]
        dsimp only
        exact ⟨ho, s.base.now + cfg i * 1000, by simp [toldAfter, setTold_same], by omega, hn⟩
    · exact ⟨hb, hi⟩
  | answer k i =>
    simp only [tstep]
    obtain ⟨h1, h2, h3⟩ := hi k i
    split
    · next sent r hp =>
      split
      · subst r
        split
        · next hw =>
          obtain ⟨d', ht, hd⟩ := h2 sent hp
          exact upd k i _ (.idle rfl (fun _ => ⟨h1 _ hp, d', ht, hd, hw⟩))
        · exact upd k i _ (.idle rfl (fun ha => by cases ha))
      · exact upd k i _ (.idle rfl h3)
    · exact ⟨hb, hi⟩
  | giveUp k i =>
    exact upd k i _ (.idle rfl (hi k i).2.2)
  | stop k i =>
    exact upd k i _ (.idle rfl (fun ha => by cases ha))
  | stray k i =>
    refine ⟨inv_step hb (.lostCampaign k i true) (hcfg i), fun key id => ?_⟩
    exact hi key id
  | resign k i =>
    simp only [tstep]
    split
    · next hc =>
      refine ⟨inv_step hb (.resign k i) (hcfg i), fun key id => ?_⟩
      by_cases hk : key = k ∧ id = i
      · obtain ⟨rfl, rfl⟩ := hk
        exact .idle hc.2 (fun ha => by rw [hc.1] at ha; cases ha)
      · have := hi key id
        unfold IInv IRec at this ⊢
        have e : (step cfg s.base (.resign k i)).1.told key id = s.base.told key id := setTold_other _ _ _ _ _ _ hk
        rw [e]; exact this
    · exact ⟨hb, hi⟩

theorem tinv_run {cfg hold : Bytes → Nat} (hcfg : ∀ id, 1 ≤ cfg id) (hh : ∀ id, hold id ≤ cfg id * 1000)
    (evs : List TEv) {s : TSys} (h : TInv cfg hold s) (hok : trunOk cfg hold s evs) :
    TInv cfg hold (trun cfg hold s evs) := by
  induction evs generalizing s with
  | nil => exact h
  | cons ev rest ih =>
    simp only [trun]
    exact ih (tinv_step hcfg hh h ev hok.1) hok.2

/-! ### a decidable check of `trunOk` for schedules over a finite set of instances
    (used for the non-vacuity examples) -/

def TEv.target : TEv → Option (Bytes × Bytes)
  | .tick _ => none
  | .send k i => some (k, i)
  | .exec k i => some (k, i)
  | .answer k i => some (k, i)
  | .giveUp k i => some (k, i)
  | .stray k i => some (k, i)
  | .stop k i => some (k, i)
  | .resign k i => some (k, i)

theorem tstep_inst_other (cfg hold : Bytes → Nat) (s : TSys) (ev : TEv) (key id : Bytes)
    (h : ev.target ≠ some (key, id)) : (tstep cfg hold s ev).inst key id = s.inst key id := by
  have hne : ∀ k i, TEv.target ev = some (k, i) → ¬ (key = k ∧ id = i) := by
    intro k i ht ⟨a, b⟩; subst a; subst b; exact h ht
  cases ev with
  | tick d | stray k i => rfl
  | resign k i => simp only [tstep]; split <;> rfl
  | send k i | exec k i | answer k i | giveUp k i | stop k i =>
    have := hne k i rfl
    simp only [tstep]
    repeat' split
    all_goals first | rfl | exact setInst_other _ _ _ _ _ _ this

def allowedB (hold : Bytes → Nat) (ids : List (Bytes × Bytes)) (s : TSys) : TEv → Bool
  | .tick d => ids.all fun p =>
      !(s.inst p.1 p.2).acting || decide (s.base.now + d ≤ (s.inst p.1 p.2).okSent + hold p.2)
  | _ => true

def trunOkB (cfg hold : Bytes → Nat) (ids : List (Bytes × Bytes)) (s : TSys) : List TEv → Bool
  | [] => true
  | ev :: rest => allowedB hold ids s ev && trunOkB cfg hold ids (tstep cfg hold s ev) rest

theorem trunOk_of_B (cfg hold : Bytes → Nat) (ids : List (Bytes × Bytes)) (evs : List TEv) :
    ∀ (s : TSys), (∀ key id, (key, id) ∉ ids → (s.inst key id).acting = false) →
      (∀ ev ∈ evs, ∀ t, ev.target = some t → t ∈ ids) →
      trunOkB cfg hold ids s evs = true → trunOk cfg hold s evs := by
  induction evs with
  | nil => intro s _ _ _; trivial
  | cons ev rest ih =>
    intro s hidle htg hb
    simp only [trunOkB, Bool.and_eq_true] at hb
    refine ⟨?_, ih _ ?_ (fun e he => htg e (by simp [he])) hb.2⟩
    · cases ev with
      | tick d =>
        intro key id ha
        by_cases hm : (key, id) ∈ ids
        · have := hb.1
          simp only [allowedB, List.all_eq_true] at this
          have h2 := this (key, id) hm
          simp only [ha, Bool.not_true, Bool.false_or, decide_eq_true_eq] at h2
          exact h2
        · rw [hidle key id hm] at ha; cases ha
      | _ => trivial
    · intro key id hm
      have hne : ev.target ≠ some (key, id) := by
        intro ht; exact hm (htg ev (by simp) _ ht)
      rw [tstep_inst_other cfg hold s ev key id hne]
      exact hidle key id hm

end GunYu.Lease
