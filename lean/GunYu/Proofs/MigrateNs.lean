/-
  C17 — the recovery-format switch with the recovery state of the namespaces (Model/MigrateNs.lean), for
  Props/C17Migrate.lean. Core only.

  The checkpoint-level part (`cpPart`) of the request list is `Migrate.migrateReqs`; the offset a bidirectional start
  resumes at is the root's or the record's, whichever is newer (`startLatest_off`, `startFrontier_off`), and on the
  old namespace that is the offset the new one is seeded with (`old_start`).
-/
import GunYu.Model.MigrateNs
import GunYu.Proofs.CheckpointMigrate

namespace GunYu.MigrateNs
open GunYu GunYu.Checkpoint GunYu.Migrate

theorem applyAllB_t (rs : List BReq) : ∀ b : BT, (applyAllB b rs).t = applyAll b.t (rs.filterMap cpPart) := by
  induction rs with
  | nil => intro b; rfl
  | cons q rs ih =>
    intro b
    refine (ih (applyB b q)).trans ?_
    cases q <;> rfl

theorem filterMap_cpPart_ite (c : Prop) [Decidable c] (q : BReq) :
    (if c then [q] else []).filterMap cpPart = if c then (cpPart q).toList else [] := by
  split
  · cases h : cpPart q <;> simp [h]
  · rfl

theorem cpPart_core (ver : Bytes) (ids : List Bytes) (cpName cpRunId : Bytes) (cur desired : BMode)
    (seed : Option Seed) (root : Option (CpInfo × Int)) (newName : Bytes) (nows : List Int) (mt : Int) :
    (migrateCoreB ver ids cpName cpRunId cur desired seed root newName nows mt).filterMap cpPart =
      migrateCore ver ids cpName cpRunId desired seed root newName nows := by
  unfold migrateCoreB migrateCore
  cases seed with
  | none => rfl
  | some sd =>
    cases root with
    | none => rfl
    | some rc =>
      cases ids with
      | nil => rfl
      | cons id1 rest =>
        -- the seed of the recovery state and the clean-up of journal and slots have no checkpoint-level part
        cases desired.usesFrontier <;>
          simp only [List.filterMap_append, List.filterMap_cons, List.filterMap_nil, filterMap_cpPart_ite,
            cpPart, Option.toList, ite_self, List.append_nil, if_true, if_false, Bool.false_eq_true]

/-- **the checkpoint-level requests of the switch with namespace state are those of `Migrate.migrateReqs`**
    (the list the correspondence run compares with the real code, op c17m) -/
theorem cpPart_migrateReqsB (ver : Bytes) (b : BT) (ids : List Bytes) (desired : BMode) (newName : Bytes)
    (nows : List Int) (order : List Nat) (mt : Int) (cpName r : Bytes)
    (hh : getHash b.t.hash ids = some (cpName, r)) :
    (migrateReqsB ver b ids desired newName nows order mt).filterMap cpPart =
      migrateReqs ver b.t (b.ns cpName) ids desired newName nows order := by
  unfold migrateReqsB migrateReqs
  cases ids with
  | nil => rfl
  | cons id1 rest =>
    simp only [hh]
    by_cases hc : cpName = []
    · rw [if_pos hc, if_pos hc]
      split <;> rfl
    · rw [if_neg hc, if_neg hc]
      cases loadMode b.t cpName with
      | some m =>
        cases m with
        | none => rfl
        | some cur =>
          simp only
          by_cases h1 : cur = desired
          · rw [if_pos h1, if_pos h1]; rfl
          · rw [if_neg h1, if_neg h1]
            by_cases h2 : sameFamily cur desired = true
            · rw [if_pos h2, if_pos h2]; rfl
            · rw [if_neg h2, if_neg h2]
              exact cpPart_core ..
      | none =>
        simp only
        cases inferMode (b.ns cpName) (id1 :: rest) with
        | none => rfl
        | some cur =>
          simp only [List.filterMap_cons, cpPart]
          by_cases h1 : cur = desired
          · rw [if_pos h1, if_pos h1]; rfl
          · rw [if_neg h1, if_neg h1]
            by_cases h2 : sameFamily cur desired = true
            · rw [if_pos h2, if_pos h2]; rfl
            · rw [if_neg h2, if_neg h2, cpPart_core]

theorem matchRun_first (id1 id2 : Bytes) (h1 : id1 ≠ []) : Frontier.matchRun id1 [id1, id2] = true := by
  simp [Frontier.matchRun, h1]

/-- sync: a matching latest record is overridden by the root checkpoint exactly when that is newer -/
theorem startLatest_off (ns : Frontier.NS) (root : Bytes × Int × Nat) (r : Frontier.Rec) (ids : List Bytes)
    (hr : ns.root = some root) (hl : ns.latest = some r) (hm : Frontier.matchRun r.runId ids = true) :
    startOff (some (Frontier.startLatest ns ids)) =
      some (if Frontier.rootNewer root r.endOff ids = true then root.2.1 else r.endOff) := by
  unfold Frontier.startLatest
  simp only [hr, hl, hm, if_true]
  split <;> rfl

/-- pipeline / parallel: likewise for the rebuilt frontier, which counts only with a positive unit seq -/
theorem startFrontier_off (ver : Bytes) (ns : Frontier.NS) (root : Bytes × Int × Nat) (f : Frontier.Snap)
    (ids : List Bytes) (hr : ns.root = some root)
    (hreb : Frontier.rebuild ver (Frontier.loadSnapshot ns ids) ((Frontier.startRecords ns ids).map (·.r))
      = .ok (some f)) :
    startOff (some (Frontier.startFrontier ver ns ids).1) =
      some (if f.seq > 0 then (if Frontier.rootNewer root f.offset ids = true then root.2.1 else f.offset)
        else root.2.1) := by
  unfold Frontier.startFrontier
  simp only [hr, hreb]
  by_cases hseq : f.seq > 0
  · rw [if_pos hseq, if_pos hseq]
    by_cases hn : Frontier.rootNewer root f.offset ids = true
    · rw [if_pos hn, if_pos hn]; rfl
    · rw [if_neg hn, if_neg hn]; rfl
  · rw [if_neg hseq, if_neg hseq]; rfl

theorem matchRun_ne_nil {rid : Bytes} {ids : List Bytes} (h : Frontier.matchRun rid ids = true) : rid ≠ [] := by
  unfold Frontier.matchRun at h
  obtain ⟨i, _, hi⟩ := List.any_eq_true.mp h
  have hi := of_decide_eq_true hi
  exact fun hc => hi.1 (hi.2.trans hc)

/-- the root is "newer" for `bisyncStartPoint` exactly when the seed takes its offset over -/
theorem seedOffset_eq (sd : Seed) (rootCp : CpInfo) (db : Nat) (ids : List Bytes) (hq : rootCp.runId ≠ qmark) :
    seedOffset sd rootCp ids =
      if Frontier.rootNewer (rootCp.runId, rootCp.offset, db) sd.offset ids = true then rootCp.offset
      else sd.offset := by
  unfold seedOffset Frontier.rootNewer
  refine ite_congr (propext ?_) (fun _ => rfl) (fun _ => rfl)
  rw [decide_eq_true_eq]
  exact ⟨fun h => ⟨matchRun_ne_nil h.2.2, h.2⟩, fun h => ⟨hq, h.2⟩⟩

theorem loadSnapshot_root (ns : Frontier.NS) (x : Option (Bytes × Int × Nat)) (ids : List Bytes) :
    Frontier.loadSnapshot { ns with root := x } ids = Frontier.loadSnapshot ns ids := rfl

theorem startRecords_root (ns : Frontier.NS) (x : Option (Bytes × Int × Nat)) (ids : List Bytes) :
    Frontier.startRecords { ns with root := x } ids = Frontier.startRecords ns ids := rfl

theorem old_start_frontier (ver : Bytes) (ns : Frontier.NS) (ids : List Bytes) (sd : Seed)
    (hsd : (match Frontier.rebuild ver (Frontier.loadSnapshot ns ids) ((Frontier.startRecords ns ids).map (·.r)) with
      | .ok (some f) => if f.seq > 0 then some (⟨f.runId, f.seq, f.offset, f.mtime⟩ : Seed) else none
      | _ => none) = some sd) (root : Bytes × Int × Nat) :
    startOff (some (Frontier.startFrontier ver { ns with root := some root } ids).1) =
      some (if Frontier.rootNewer root sd.offset ids = true then root.2.1 else sd.offset) := by
  cases hreb : Frontier.rebuild ver (Frontier.loadSnapshot ns ids) ((Frontier.startRecords ns ids).map (·.r)) with
  | error e => rw [hreb] at hsd; cases hsd
  | ok o =>
    rw [hreb] at hsd
    cases o with
    | none => cases hsd
    | some f =>
      by_cases hseq : f.seq > 0
      · simp only [if_pos hseq] at hsd
        cases hsd
        exact (startFrontier_off ver { ns with root := some root } root f ids rfl hreb).trans
          (congrArg some (if_pos hseq))
      · simp only [if_neg hseq] at hsd; cases hsd

/-- **what the start in the CURRENT mode reads on the old namespace is the offset the new namespace is
    seeded with**, whenever the switch finds an authoritative seed -/
theorem old_start (ver : Bytes) (ns : Frontier.NS) (ids : List Bytes) (cur : BMode) (sd : Seed)
    (hsd : loadSeed ver ns ids cur = some sd) (rootCp : CpInfo) (db : Nat) (hq : rootCp.runId ≠ qmark) :
    startOff (some
      (if cur.usesFrontier then (Frontier.startFrontier ver { ns with root := some (rootCp.runId, rootCp.offset, db) } ids).1
       else Frontier.startLatest { ns with root := some (rootCp.runId, rootCp.offset, db) } ids))
      = some (seedOffset sd rootCp ids) := by
  rw [seedOffset_eq sd rootCp db ids hq]
  unfold loadSeed at hsd
  cases cur with
  | sync =>
    rw [if_neg (by decide)]
    simp only at hsd
    cases hl : ns.latest with
    | none => rw [hl] at hsd; cases hsd
    | some r =>
      rw [hl] at hsd
      simp only at hsd
      split at hsd
      · rename_i hm
        cases hsd
        exact startLatest_off _ _ r ids rfl rfl hm
      · cases hsd
  | pipeline => exact old_start_frontier ver ns ids sd hsd _
  | parallel => exact old_start_frontier ver ns ids sd hsd _

end GunYu.MigrateNs
