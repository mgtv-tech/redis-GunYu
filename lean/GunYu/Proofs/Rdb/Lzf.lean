/-
  Helper lemmas for C03: the LZF decompressor of pkg/rdb/reader.go inverts the
  LZF wire format on every well-formed op list (`lzfDecompress_emit`); with it, every
  string encoding (raw, integer, LZF) reads back as the string it denotes (`readString_enc`).
-/
import GunYu.Proofs.Rdb.Str

namespace GunYu.Rdb
open GunYu

/-- total output length after the ops, starting from `olen` bytes -/
def lzfLen (olen : Nat) : List LzfOp → Nat
  | [] => olen
  | .lit bs :: ops => lzfLen (olen + bs.length) ops
  | .ref _ len :: ops => lzfLen (olen + len) ops

theorem lzfLen_ge (olen : Nat) (ops : List LzfOp) : olen ≤ lzfLen olen ops := by
  induction ops generalizing olen with
  | nil => exact Nat.le_refl _
  | cons op ops ih =>
    cases op with
    | lit bs => exact Nat.le_trans (Nat.le_add_right _ _) (ih _)
    | ref d l => exact Nat.le_trans (Nat.le_add_right _ _) (ih _)

theorem lzfCopySpec_length (n dist : Nat) (out : Bytes) : (lzfCopySpec n dist out).length = out.length + n := by
  induction n generalizing out with
  | zero => rfl
  | succ n ih => simp [lzfCopySpec, ih]; omega

theorem lzfExpandFrom_length (out : Bytes) (ops : List LzfOp) :
    (lzfExpandFrom out ops).length = lzfLen out.length ops := by
  induction ops generalizing out with
  | nil => rfl
  | cons op ops ih =>
    cases op with
    | lit bs => simp [lzfExpandFrom, lzfLen, ih]
    | ref d l => simp [lzfExpandFrom, lzfLen, ih, lzfCopySpec_length]

/-- the reversed-accumulator copy of the model is the forward copy of the spec -/
theorem lzfCopy_spec (n dist : Nat) (out : Bytes) (room : Nat)
    (hd : 1 ≤ dist) (hdo : dist ≤ out.length) (hr : n ≤ room) :
    lzfCopy n dist out.reverse room = some ((lzfCopySpec n dist out).reverse, room - n) := by
  induction n generalizing out room with
  | zero => simp [lzfCopy, lzfCopySpec]
  | succ n ih =>
    have hr0 : room ≠ 0 := by omega
    have hidx : dist - 1 < out.reverse.length := by simp; omega
    have hget : out.reverse[dist - 1]? = some (out.getD (out.length - dist) 0) := by
      rw [List.getElem?_reverse (by simpa using hidx)]
      have e : out.length - 1 - (dist - 1) = out.length - dist := by omega
      rw [e]
      have hlt : out.length - dist < out.length := by omega
      simp [List.getD, List.getElem?_eq_getElem hlt]
    simp only [lzfCopy, hr0, if_false, hget, lzfCopySpec]
    have := ih (out ++ [out.getD (out.length - dist) 0]) (room - 1) (by rw [List.length_append]; simp; omega) (by omega)
    simp only [List.reverse_append, List.reverse_cons, List.reverse_nil, List.nil_append,
      List.singleton_append] at this
    rw [this]
    have e : room - 1 - n = room - (n + 1) := by omega
    rw [e]

theorem lzfEmitOp_length_pos (op : LzfOp) : 1 ≤ (lzfEmitOp op).length := by
  cases op with
  | lit bs => simp [lzfEmitOp]
  | ref d l => simp only [lzfEmitOp]; split <;> simp

/-- a control byte `len0:3 | dist_hi:5` of a back reference splits into its fields -/
theorem lzfCtrl (l0 hi : Nat) (hl : 1 ≤ l0 ∧ l0 ≤ 7) (hhi : hi < 32) :
    (UInt8.ofNat (l0 * 32 + hi)).toNat = l0 * 32 + hi ∧ ¬ (l0 * 32 + hi < 32) ∧
      (l0 * 32 + hi) / 32 = l0 ∧ (l0 * 32 + hi) % 32 = hi :=
  ⟨u8_toNat _ (by omega), by omega, by omega, by omega⟩

theorem lzfLoop_emit (ops : List LzfOp) (out : Bytes) (fuel : Nat)
    (hwf : lzfWfFrom out.length ops) (hf : (lzfEmit ops).length ≤ fuel) :
    lzfLoop fuel (lzfEmit ops) out.reverse (lzfLen out.length ops - out.length) =
      some (lzfExpandFrom out ops) := by
  induction ops generalizing out fuel with
  | nil =>
    cases fuel <;> simp [lzfEmit, lzfLoop, lzfLen, lzfExpandFrom]
  | cons op ops ih =>
    have hemit : lzfEmit (op :: ops) = lzfEmitOp op ++ lzfEmit ops := by simp [lzfEmit]
    have hpos := lzfEmitOp_length_pos op
    rw [hemit] at hf ⊢
    obtain ⟨f, rfl⟩ : ∃ f, fuel = f + 1 := ⟨fuel - 1, by simp at hf; omega⟩
    have hf' : (lzfEmit ops).length ≤ f := by simp at hf; omega
    cases op with
    | lit bs =>
      obtain ⟨h1, h32, hwf'⟩ := hwf
      have hge := lzfLen_ge (out.length + bs.length) ops
      simp only [lzfEmitOp, List.cons_append, lzfLoop, lzfLen, lzfExpandFrom]
      rw [u8_toNat (bs.length - 1) (by omega)]
      have hc : bs.length - 1 < 32 := by omega
      have e1 : bs.length - 1 + 1 = bs.length := by omega
      simp only [hc, if_true, e1]
      have hcond : bs.length ≤ (bs ++ lzfEmit ops).length ∧
          bs.length ≤ lzfLen (out.length + bs.length) ops - out.length := by
        constructor
        · simp
        · omega
      simp only [hcond, and_self, if_true]
      have hd : (bs ++ lzfEmit ops).drop bs.length = lzfEmit ops := by simp
      have ht : (bs ++ lzfEmit ops).take bs.length = bs := by simp
      rw [hd, ht]
      have hacc : bs.reverse ++ out.reverse = (out ++ bs).reverse := by simp
      rw [hacc]
      have hroom : lzfLen (out.length + bs.length) ops - out.length - bs.length =
          lzfLen (out ++ bs).length ops - (out ++ bs).length := by simp; omega
      rw [hroom]
      have := ih (out ++ bs) f (by simpa using hwf') hf'
      simpa using this
    | ref dist len =>
      obtain ⟨hd1, hd2, hd3, hl3, hl264, hwf'⟩ := hwf
      have hge := lzfLen_ge (out.length + len) ops
      have hcopy := lzfCopy_spec len dist out (lzfLen (out.length + len) ops - out.length) hd1 hd3 (by omega)
      have hlenS := lzfCopySpec_length len dist out
      have hroom : lzfLen (out.length + len) ops - out.length - len =
          lzfLen (lzfCopySpec len dist out).length ops - (lzfCopySpec len dist out).length := by
        rw [hlenS]; omega
      have hih := ih (lzfCopySpec len dist out) f (by rw [hlenS]; exact hwf') hf'
      have hhi : (dist - 1) / 256 < 32 := by omega
      have hdist : (dist - 1) / 256 * 256 + (dist - 1) % 256 + 1 = dist := by omega
      have hb2 := u8_toNat ((dist - 1) % 256) (Nat.mod_lt _ (by decide))
      clear hwf' hf hf' hpos hemit ih hge hlenS
      simp only [lzfLen, lzfExpandFrom]
      by_cases h8 : len ≤ 8
      · obtain ⟨hb1, hc, hl0, hm⟩ := lzfCtrl (len - 2) ((dist - 1) / 256) (by omega) hhi
        simp only [lzfEmitOp, h8, if_true, List.cons_append, List.nil_append, lzfLoop]
        simp only [hb1, hb2, hc, if_false, hl0, show ¬ (len - 2 = 7) by omega, hm, hdist,
          show len - 2 + 2 = len by omega, hcopy, hroom, hih]
      · obtain ⟨hb1, hc, hl0, hm⟩ := lzfCtrl 7 ((dist - 1) / 256) (by omega) hhi
        simp only [lzfEmitOp, h8, if_false, List.cons_append, List.nil_append, lzfLoop]
        simp only [hb1, hb2, u8_toNat (len - 9) (by omega), hc, if_false, hl0, if_true, hm, hdist,
          show 7 + (len - 9) + 2 = len by omega, hcopy, hroom, hih]

theorem lzfDecompress_emit (ops : List LzfOp) (hwf : lzfWfFrom 0 ops) :
    lzfDecompress (lzfEmit ops) (lzfExpand ops).length = some (lzfExpand ops) := by
  unfold lzfDecompress lzfExpand
  have := lzfLoop_emit ops [] (lzfEmit ops).length (by simpa using hwf) (Nat.le_refl _)
  rw [lzfExpandFrom_length]
  simpa using this

theorem readEncodedLength_encval (u : UInt8) (r : Bytes) (h : u.toNat / 64 = 3) :
    readEncodedLength (u :: r) = some ((u.toNat % 64, true), r) := by
  simp [readEncodedLength, h]

theorem readString_enc (s : SE) (rest : Bytes) (h : s.wf) :
    readString (s.enc ++ rest) = some (s.val, rest) := by
  cases s with
  | raw f b =>
    simp only [SE.enc, SE.val, readString, List.append_assoc]
    rw [readEncodedLength_encLen f b.length (b ++ rest) h]
    exact readN_append b rest
  | int8 v =>
    have h : inSigned (8 * 1) v := h
    simp +decide only [SE.enc, SE.val, readString, List.cons_append, readEncodedLength_encval, if_true, if_false,
      readN_append' 1 _ _ (leN_length 1 _), int_le_roundtrip 1 v (by decide) h]
  | int16 v =>
    have h : inSigned (8 * 2) v := h
    simp +decide only [SE.enc, SE.val, readString, List.cons_append, readEncodedLength_encval, if_true, if_false,
      readN_append' 2 _ _ (leN_length 2 _), int_le_roundtrip 2 v (by decide) h]
  | int32 v =>
    have h : inSigned (8 * 4) v := h
    simp +decide only [SE.enc, SE.val, readString, List.cons_append, readEncodedLength_encval, if_true, if_false,
      readN_append' 4 _ _ (leN_length 4 _), int_le_roundtrip 4 v (by decide) h]
  | lzf fc fu ops =>
    obtain ⟨hwf, hfc, hfu, hc32, hu32⟩ := h
    simp +decide only [SE.enc, SE.val, readString, List.cons_append, List.append_assoc, readEncodedLength_encval,
      if_false, if_true, readLength_encLen fc _ _ hfc hc32, readLength_encLen fu _ _ hfu hu32, readN_append,
      lzfDecompress_emit ops hwf]

end GunYu.Rdb
