/-
  Helper lemmas for C03: the table-driven CRC64 equals bitwise CRC-64/Jones — the table is eight
  shift-register steps of its index (checked by the kernel), and the step is GF(2)-linear, so a byte
  can be folded in through the table. Kernel-only bit-vector reasoning (no bv_decide).
-/
import GunYu.Model.Rdb.Crc64

namespace GunYu.Rdb

theorem jonesPolyRev_val : jonesPolyRev = 0x95ac9329ac4bc9b5#64 := by decide +kernel

theorem xor_cancel_right64 (a b c : BitVec 64) : a ^^^ c ^^^ (b ^^^ c) = a ^^^ b := by
  have : a ^^^ c ^^^ (b ^^^ c) = a ^^^ b ^^^ (c ^^^ c) := by ac_rfl
  rw [this, BitVec.xor_self, BitVec.xor_zero]

theorem crc64BitStep_xor (x y : BitVec 64) :
    crc64BitStep (x ^^^ y) = crc64BitStep x ^^^ crc64BitStep y := by
  unfold crc64BitStep
  generalize jonesPolyRev = P
  rw [BitVec.getElem_xor]
  cases hx : x[0] <;> cases hy : y[0] <;> simp [BitVec.ushiftRight_xor_distrib]
  · ac_rfl
  · ac_rfl
  · exact (xor_cancel_right64 _ _ _).symm

theorem crc64BitStep8_xor (x y : BitVec 64) :
    crc64BitStep8 (x ^^^ y) = crc64BitStep8 x ^^^ crc64BitStep8 y := by
  simp [crc64BitStep8, crc64BitStep_xor]

/-- the REGENERATED table is, entry by entry, eight shift-register steps of the index (kernel
    evaluation; as one equation of lists, so that the array is walked once and not once per index) -/
theorem crc64_table_list :
    Gen.crc64Table.toList = (List.range 256).map fun i => crc64BitStep8 (BitVec.ofNat 64 i) := by
  decide +kernel

theorem crc64_table_entries (i : Fin 256) :
    Gen.crc64Table.getD i.val 0#64 = crc64BitStep8 (BitVec.ofNat 64 i.val) := by
  rw [Array.getD_eq_getD_getElem?, ← Array.getElem?_toList, crc64_table_list, List.getElem?_map,
    List.getElem?_range i.isLt]
  rfl

theorem crc64BitStep_of_lsb_false (c : BitVec 64) (h : c[0] = false) :
    crc64BitStep c = c >>> 1 := by
  unfold crc64BitStep; simp [h]

theorem crc64BitStep8_shl8 (h : BitVec 64) : crc64BitStep8 (h <<< 8) = (h <<< 8) >>> 8 := by
  have step : ∀ k, k < 8 → crc64BitStep ((h <<< 8) >>> k) = (h <<< 8) >>> (k + 1) := by
    intro k hk
    rw [crc64BitStep_of_lsb_false, ← BitVec.shiftRight_add]
    rw [BitVec.getElem_ushiftRight]
    simp only [Nat.add_zero, BitVec.getLsbD_shiftLeft]
    simp [hk]
  have h0 := step 0 (by omega)
  simp only [BitVec.ushiftRight_zero] at h0
  unfold crc64BitStep8
  rw [h0, step 1 (by omega), step 2 (by omega), step 3 (by omega), step 4 (by omega),
    step 5 (by omega), step 6 (by omega), step 7 (by omega)]

theorem mask8_bit_fin : ∀ j : Fin 64, (0xFF#64)[j.val] = decide (j.val < 8) := by decide

theorem mask8_bit (i : Nat) (hi : i < 64) : (0xFF#64)[i] = decide (i < 8) :=
  mask8_bit_fin ⟨i, hi⟩

theorem and_mask8_toNat_lt (x : BitVec 64) : (x &&& 0xFF#64).toNat < 256 := by
  rw [BitVec.toNat_and]
  exact Nat.lt_of_le_of_lt Nat.and_le_right (by decide)

theorem split_lo_hi (x : BitVec 64) : x = (x &&& 0xFF#64) ^^^ ((x >>> 8) <<< 8) := by
  ext i hi
  simp only [BitVec.getElem_xor, BitVec.getElem_and, BitVec.getElem_shiftLeft, mask8_bit i hi]
  by_cases h : i < 8
  · simp [h]
  · have e : 8 + (i - 8) = i := by omega
    simp [h, e, BitVec.getLsbD_eq_getElem hi]

theorem shr8_shl8_shr8 (x : BitVec 64) : ((x >>> 8) <<< 8) >>> 8 = x >>> 8 := by
  ext i hi
  simp only [BitVec.getElem_ushiftRight, BitVec.getLsbD_shiftLeft, BitVec.getLsbD_ushiftRight]
  by_cases h : 8 + i < 64
  · have e : 8 + i - 8 = i := by omega
    simp [h, e]
  · have : 64 ≤ 8 + (8 + i) := by omega
    simp [h]
    apply BitVec.getLsbD_of_ge; omega

theorem byte_shr8 (b : UInt8) : (b.toBitVec.setWidth 64) >>> 8 = 0#64 := by
  ext i hi
  simp only [BitVec.getElem_ushiftRight, BitVec.getLsbD_setWidth, BitVec.getElem_zero]
  simp

theorem crc64TabStep_eq_specStep (c : BitVec 64) (b : UInt8) :
    crc64TabStep c b = crc64SpecStep c b := by
  unfold crc64TabStep crc64SpecStep
  have hB := byte_shr8 b
  generalize b.toBitVec.setWidth 64 = B at hB ⊢
  generalize hx : c ^^^ B = x
  have hsh : c >>> 8 = x >>> 8 := by
    rw [← hx, BitVec.ushiftRight_xor_distrib, hB, BitVec.xor_zero]
  conv => rhs; rw [split_lo_hi x, crc64BitStep8_xor, crc64BitStep8_shl8, shr8_shl8_shr8]
  have hlt : (x &&& 0xFF#64).toNat < 256 := and_mask8_toNat_lt x
  have ht := crc64_table_entries ⟨(x &&& 0xFF#64).toNat, hlt⟩
  simp only [BitVec.ofNat_toNat, BitVec.setWidth_eq] at ht
  rw [ht, hsh]

theorem crc64Tab_eq_spec_from (bs : Bytes) (c : BitVec 64) :
    bs.foldl crc64TabStep c = bs.foldl crc64SpecStep c := by
  induction bs generalizing c with
  | nil => rfl
  | cons b bs ih => simp only [List.foldl_cons, crc64TabStep_eq_specStep, ih]

theorem crc64TabFrom_append (c : BitVec 64) (a b : Bytes) :
    crc64TabFrom c (a ++ b) = crc64TabFrom (crc64TabFrom c a) b := by
  simp [crc64TabFrom, List.foldl_append]

end GunYu.Rdb
