/-
  Helper lemmas for C03: ziplist / intset / zipmap blobs decode to their
  logical contents.
-/
import GunYu.Model.Rdb.Ziplist
import GunYu.Proofs.Rdb.Lzf

namespace GunYu.Rdb
open GunYu

theorem i4_bytes : ∀ v : Fin 13,
    let e := UInt8.ofNat (0xF1 + v.val)
    e.toNat / 64 = 3 ∧ e ≠ 0xFE ∧ e ≠ 0xC0 ∧ e ≠ 0xF0 ∧ e ≠ 0xD0 ∧ e ≠ 0xE0 ∧
      e.toNat / 16 = 15 ∧ e.toNat % 16 = v.val + 1 := by decide

theorem zlBody_le (c : UInt8) (w : Nat) (v : Int) (rest : Bytes) (hw : 0 < w)
    (hc : (c, w) ∈ [((0xFE : UInt8), 1), (0xC0, 2), (0xF0, 3), (0xD0, 4), (0xE0, 8)]) (h : inSigned (8 * w) v) :
    zlBody (c :: leN w (ofSigned (8 * w) v) ++ rest) = some (intToDec v, rest) := by
  have hb : zlBody (c :: leN w (ofSigned (8 * w) v) ++ rest) =
      (readN w (leN w (ofSigned (8 * w) v) ++ rest)).map fun b => (intToDec (toSigned (8 * w) (ofLE b.1)), b.2) := by
    simp only [List.mem_cons, Prod.mk.injEq, List.mem_nil_iff, or_false] at hc
    rcases hc with ⟨rfl, rfl⟩ | ⟨rfl, rfl⟩ | ⟨rfl, rfl⟩ | ⟨rfl, rfl⟩ | ⟨rfl, rfl⟩ <;>
      cases hr : readN _ (leN _ _ ++ rest) <;> simp [zlBody, hr]
  rw [hb, readN_append' w _ _ (leN_length w _), Option.map_some, int_le_roundtrip w v hw h]

/-- encoding byte(s) + payload of every entry kind decode to its value -/
theorem zlBody_body (e : ZEntry) (rest : Bytes) (h : e.wf) :
    zlBody (e.body ++ rest) = some (e.val, rest) := by
  cases e with
  | s6 s =>
    have h : s.length < 64 := h
    simp only [ZEntry.body, ZEntry.val, List.cons_append, zlBody]
    rw [u8_toNat s.length (by omega)]
    have h0 : s.length / 64 = 0 := by omega
    have h1 : s.length % 64 = s.length := by omega
    simp only [h0, h1, if_true]
    exact readN_append s rest
  | s14 s =>
    have h : s.length < 16384 := h
    simp only [ZEntry.body, ZEntry.val, List.cons_append, zlBody]
    rw [u8_toNat (64 + s.length / 256) (by omega), u8_toNat (s.length % 256) (by omega)]
    have h0 : (64 + s.length / 256) / 64 = 1 := by omega
    have h1 : (64 + s.length / 256) % 64 * 256 + s.length % 256 = s.length := by omega
    simp only [h0, h1, show (1 : Nat) ≠ 0 by decide, if_false, if_true]
    exact readN_append s rest
  | s32 s =>
    have h : s.length < 256 ^ 4 := h
    simp +decide only [ZEntry.body, ZEntry.val, List.cons_append, zlBody, List.append_assoc, if_false, if_true,
      readN_append' 4 _ _ (beN_length 4 _), ofBE_beN 4 s.length h, readN_append]
  | i4 v =>
    have h : v ≤ 12 := h
    obtain ⟨a, b, c, d, e', f, g, i⟩ := i4_bytes ⟨v, by omega⟩
    simp only at a b c d e' f g i
    simp only [ZEntry.body, ZEntry.val, List.cons_append, List.nil_append, zlBody]
    simp only [a, show (3 : Nat) ≠ 0 by decide, show (3 : Nat) ≠ 1 by decide, show (3 : Nat) ≠ 2 by decide,
      b, c, d, e', f, g, i, if_false, if_true]
    have : 1 ≤ v + 1 ∧ v + 1 ≤ 13 := by omega
    simp [this]
  | i8 v => exact zlBody_le 0xFE 1 v rest (by decide) (by decide) h
  | i16 v => exact zlBody_le 0xC0 2 v rest (by decide) (by decide) h
  | i24 v => exact zlBody_le 0xF0 3 v rest (by decide) (by decide) h
  | i32 v => exact zlBody_le 0xD0 4 v rest (by decide) (by decide) h
  | i64 v => exact zlBody_le 0xE0 8 v rest (by decide) (by decide) h

/-- iterator invariant: `n` entries remain; either the length is unknown or
    `pos` counts exactly up to it -/
def ZlInv (L p n : Nat) : Prop := L = 65535 ∨ (L ≠ 65535 ∧ p + n = L)

theorem zlEntry_prevlen (big : Bool) (prev : Nat) (X : Bytes) :
    ∃ fb r, zlPrevlen big prev ++ X = fb :: r ∧ fb ≠ 0xFF ∧
      (if fb = 0xFE then r.drop 4 else r) = X := by
  unfold zlPrevlen
  by_cases hb : (big = true ∨ 254 ≤ prev)
  · simp only [hb, if_true]
    refine ⟨0xFE, leN 4 prev ++ X, by simp, by decide, ?_⟩
    simp only [if_true]
    have := leN_length 4 prev
    rw [List.drop_left' this]
  · simp only [hb, if_false]
    have hp : prev < 254 := by omega
    have c255 : (0xFF : UInt8).toNat = 255 := by decide
    have c254 : (0xFE : UInt8).toNat = 254 := by decide
    refine ⟨UInt8.ofNat prev, X, by simp, u8_ne prev 0xFF (by omega) (by omega), ?_⟩
    rw [if_neg (u8_ne prev 0xFE (by omega) (by omega))]

theorem zlNext_entry (L p prev : Nat) (big : Bool) (e : ZEntry) (es : List (Bool × ZEntry)) (hw : e.wf)
    (hinv : ZlInv L p (es.length + 1)) :
    zlNext { rem := zlEntriesFrom prev ((big, e) :: es) ++ [0xFF], length := L, pos := p, done := false } =
      some (some e.val,
        { rem := zlEntriesFrom (zlPrevlen big prev ++ e.body).length es ++ [0xFF], length := L,
          pos := if L = 65535 then p else p + 1, done := false }) := by
  obtain ⟨fb, r, hfr, hne, hdrop⟩ := zlEntry_prevlen big prev (e.body ++ (zlEntriesFrom (zlPrevlen big prev ++ e.body).length es ++ [0xFF]))
  have hrem : zlEntriesFrom prev ((big, e) :: es) ++ [0xFF] = fb :: r := by
    rw [← hfr]; simp [zlEntriesFrom]
  have hent : zlEntry fb r = some (e.val, zlEntriesFrom (zlPrevlen big prev ++ e.body).length es ++ [0xFF]) := by
    unfold zlEntry
    rw [hdrop]
    exact zlBody_body e _ hw
  unfold zlNext
  simp only [Bool.false_eq_true, if_false, hrem]
  rcases hinv with hL | ⟨hL, hp⟩
  · simp [hL, hne, hent]
  · have : p < L := by omega
    simp [hL, this, hent]

theorem zlNext_end (L p : Nat) (hinv : ZlInv L p 0) :
    zlNext { rem := [0xFF], length := L, pos := p, done := false } =
      some (none, { rem := [], length := L, pos := p, done := true }) := by
  unfold zlNext
  rcases hinv with hL | ⟨hL, hp⟩
  · simp [hL]
  · have : ¬ p < L := by omega
    simp [hL, this]

theorem ZlInv.step {L p n : Nat} (h : ZlInv L p (n + 1)) : ZlInv L (if L = 65535 then p else p + 1) n := by
  rcases h with hL | ⟨hL, hp⟩
  · exact Or.inl hL
  · right; simp [hL]; omega

theorem zlAllLoop_entries (es : List (Bool × ZEntry)) (L p prev fuel : Nat)
    (hw : ∀ e ∈ es, e.2.wf) (hinv : ZlInv L p es.length) (hf : es.length < fuel) :
    zlAllLoop fuel { rem := zlEntriesFrom prev es ++ [0xFF], length := L, pos := p, done := false } =
      some (es.map (·.2.val)) := by
  induction es generalizing p prev fuel with
  | nil =>
    obtain ⟨f, rfl⟩ : ∃ f, fuel = f + 1 := ⟨fuel - 1, by simp at hf; omega⟩
    simp only [zlEntriesFrom, List.nil_append, zlAllLoop]
    rw [zlNext_end L p hinv]
    rfl
  | cons be es ih =>
    obtain ⟨big, e⟩ := be
    obtain ⟨f, rfl⟩ : ∃ f, fuel = f + 1 := ⟨fuel - 1, by simp at hf; omega⟩
    have hwe : e.wf := hw (big, e) (List.mem_cons_self ..)
    simp only [zlAllLoop]
    rw [zlNext_entry L p prev big e es hwe hinv]
    simp only
    rw [ih _ _ f (fun x hx => hw x (List.mem_cons_of_mem _ hx)) hinv.step (by simp at hf; omega)]
    rfl

theorem zlPairsLoop_entries (ps : List ((Bool × ZEntry) × (Bool × ZEntry))) (L p prev fuel : Nat)
    (hw : ∀ q ∈ ps, q.1.2.wf ∧ q.2.2.wf) (hinv : ZlInv L p (2 * ps.length)) (hf : ps.length < fuel) :
    zlPairsLoop fuel { rem := zlEntriesFrom prev (ps.flatMap (fun q => [q.1, q.2])) ++ [0xFF],
                       length := L, pos := p, done := false } =
      some (ps.map (fun q => (q.1.2.val, q.2.2.val))) := by
  induction ps generalizing p prev fuel with
  | nil =>
    obtain ⟨f, rfl⟩ : ∃ f, fuel = f + 1 := ⟨fuel - 1, by simp at hf; omega⟩
    simp only [List.flatMap_nil, zlEntriesFrom, List.nil_append, zlPairsLoop]
    rw [zlNext_end L p hinv]
    simp [zlNext]
  | cons q ps ih =>
    obtain ⟨⟨b1, e1⟩, ⟨b2, e2⟩⟩ := q
    obtain ⟨f, rfl⟩ : ∃ f, fuel = f + 1 := ⟨fuel - 1, by simp at hf; omega⟩
    obtain ⟨hw1, hw2⟩ := hw _ (List.mem_cons_self ..)
    have hlen := pairs_length ps Prod.fst Prod.snd
    have hinv1 : ZlInv L p (((b2, e2) :: ps.flatMap (fun q => [q.1, q.2])).length + 1) := by
      simp only [List.length_cons, hlen]
      have : 2 * (ps.length + 1) = 2 * ps.length + 1 + 1 := by omega
      simpa [this] using hinv
    simp only [List.flatMap_cons, List.cons_append, List.nil_append, zlPairsLoop]
    rw [zlNext_entry L p prev b1 e1 _ hw1 hinv1]
    simp only
    have hinv2 := hinv1.step
    simp only [List.length_cons] at hinv2
    rw [zlNext_entry L _ _ b2 e2 _ hw2 hinv2]
    simp only
    have hinv3 := hinv2.step
    rw [hlen] at hinv3
    rw [ih _ _ f (fun x hx => hw x (List.mem_cons_of_mem _ hx)) hinv3 (by simp at hf; omega)]
    rfl

theorem zlPrevlen_length_pos (big : Bool) (prev : Nat) : 1 ≤ (zlPrevlen big prev).length := by
  unfold zlPrevlen; split <;> simp

theorem zlEntriesFrom_length_ge (prev : Nat) (es : List (Bool × ZEntry)) :
    es.length ≤ (zlEntriesFrom prev es).length := by
  induction es generalizing prev with
  | nil => simp [zlEntriesFrom]
  | cons be es ih =>
    obtain ⟨big, e⟩ := be
    simp only [zlEntriesFrom, List.length_append, List.length_cons]
    have := zlPrevlen_length_pos big prev
    have := ih (zlPrevlen big prev ++ e.body).length
    simp only [List.length_append] at this
    omega

theorem zlNew_blob (z : ZL) :
    zlNew z.blob = some { rem := zlEntriesFrom 0 z.entries ++ [0xFF],
                          length := (if z.unknown ∨ 65535 ≤ z.entries.length then 65535 else z.entries.length),
                          pos := 0, done := false } := by
  unfold zlNew ZL.blob
  simp only
  generalize zlEntriesFrom 0 z.entries = body
  generalize hn' : (if z.unknown = true ∨ 65535 ≤ z.entries.length then 65535 else z.entries.length) = n
  have hn : n < 65536 := by
    rw [← hn']; split
    · decide
    · omega
  generalize hA : leN 4 (10 + body.length + 1) = A
  generalize hB : leN 4 (if z.entries.isEmpty = true then 10 else 10 + body.length - zlLastLen 0 z.entries) = B
  have hAl : A.length = 4 := by rw [← hA]; exact leN_length 4 _
  have hBl : B.length = 4 := by rw [← hB]; exact leN_length 4 _
  have hCl : (leN 2 n).length = 2 := leN_length 2 _
  have hlen : ¬ (A ++ B ++ leN 2 n ++ body ++ [0xFF]).length < 10 := by
    simp only [List.length_append, hAl, hBl, hCl]; omega
  simp only [hlen, if_false]
  have e10 : (A ++ B ++ leN 2 n ++ body ++ [0xFF]) = (A ++ B ++ leN 2 n) ++ (body ++ [0xFF]) := by simp
  have e8 : (A ++ B ++ leN 2 n ++ body ++ [0xFF]) = (A ++ B) ++ (leN 2 n ++ (body ++ [0xFF])) := by simp
  have l10 : (A ++ B ++ leN 2 n).length = 10 := by simp [hAl, hBl, hCl]
  have l8 : (A ++ B).length = 8 := by simp [hAl, hBl]
  have d10 : (A ++ B ++ leN 2 n ++ body ++ [0xFF]).drop 10 = body ++ [0xFF] := by
    rw [e10, List.drop_left' l10]
  have d8 : ((A ++ B ++ leN 2 n ++ body ++ [0xFF]).drop 8).take 2 = leN 2 n := by
    rw [e8, List.drop_left' l8, List.take_left' hCl]
  rw [d10, d8, ofLE_leN' 2 n (by simpa using hn)]

theorem zlInv_blob (z : ZL) :
    ZlInv (if z.unknown ∨ 65535 ≤ z.entries.length then 65535 else z.entries.length) 0 z.entries.length := by
  unfold ZlInv
  split
  · exact Or.inl rfl
  · right; constructor <;> omega

theorem blob_length_gt (z : ZL) : z.entries.length < z.blob.length + 1 := by
  have := zlEntriesFrom_length_ge 0 z.entries
  unfold ZL.blob
  simp only [List.length_append]
  omega

theorem zlAll_blob (z : ZL) (h : z.wf) : zlAll z.blob = some z.vals := by
  unfold zlAll
  rw [zlNew_blob]
  exact zlAllLoop_entries z.entries _ 0 0 _ h (zlInv_blob z) (blob_length_gt z)

theorem even_pairs {α} : ∀ (l : List α), l.length % 2 = 0 → ∃ ps : List (α × α), l = ps.flatMap (fun q => [q.1, q.2])
  | [], _ => ⟨[], rfl⟩
  | [_], h => by simp at h
  | a :: b :: rest, h => by
    have h' : rest.length % 2 = 0 := by simp only [List.length_cons] at h; omega
    obtain ⟨ps, hps⟩ := even_pairs rest h'
    exact ⟨(a, b) :: ps, by simp [hps]⟩

theorem pairUp_flatMap (ps : List (Bytes × Bytes)) : pairUp (ps.flatMap (fun q => [q.1, q.2])) = ps := by
  induction ps with
  | nil => rfl
  | cons q ps ih => simp [pairUp, ih]

theorem map_flatMap_pairs {α} (f : α → Bytes) (ps : List (α × α)) :
    (ps.flatMap (fun q => [q.1, q.2])).map f =
      (ps.map (fun q => (f q.1, f q.2))).flatMap (fun q => [q.1, q.2]) := by
  induction ps with
  | nil => rfl
  | cons q ps ih => simp [List.flatMap_cons, ih]

/-- hash / zset view: (first, second) pairs in order -/
theorem zlPairs_blob (z : ZL) (h : z.wf) (he : z.entries.length % 2 = 0) :
    zlPairs z.blob = some (pairUp z.vals) := by
  obtain ⟨ps, hps⟩ := even_pairs z.entries he
  unfold zlPairs
  rw [zlNew_blob]
  have hl : z.entries.length = 2 * ps.length := by rw [hps]; exact pairs_length ps Prod.fst Prod.snd
  have hinv := zlInv_blob z
  have hf := blob_length_gt z
  have hvals : pairUp z.vals = ps.map (fun q => (q.1.2.val, q.2.2.val)) := by
    unfold ZL.vals
    rw [hps]
    rw [map_flatMap_pairs, pairUp_flatMap]
  rw [hvals]
  have hw : ∀ q ∈ ps, q.1.2.wf ∧ q.2.2.wf := by
    intro q hq
    constructor
    · apply h; rw [hps]; simp only [List.mem_flatMap]; exact ⟨q, hq, by simp⟩
    · apply h; rw [hps]; simp only [List.mem_flatMap]; exact ⟨q, hq, by simp⟩
  have := zlPairsLoop_entries ps (if z.unknown ∨ 65535 ≤ z.entries.length then 65535 else z.entries.length)
    0 0 (z.blob.length + 1) hw (by rw [← hl]; exact hinv) (by omega)
  rw [← hps] at this
  exact this

theorem intsetLoop_blob (width : Nat) (hw : 0 < width) (vs : List Int) (rest : Bytes)
    (h : ∀ v ∈ vs, inSigned (8 * width) v) :
    intsetLoop width vs.length (vs.flatMap (fun v => leN width (ofSigned (8 * width) v)) ++ rest) =
      some (vs.map intToDec) := by
  induction vs with
  | nil => simp [intsetLoop]
  | cons v vs ih =>
    simp only [List.length_cons, List.flatMap_cons, List.append_assoc, intsetLoop]
    rw [readN_append' width _ _ (leN_length width _)]
    simp only
    rw [ih (fun x hx => h x (List.mem_cons_of_mem _ hx))]
    simp only [List.map_cons]
    rw [int_le_roundtrip width v hw (h v (List.mem_cons_self ..))]

theorem intsetAll_blob (width : Nat) (vs : List Int) (hw : width = 2 ∨ width = 4 ∨ width = 8)
    (hl : vs.length < 2 ^ 32) (h : ∀ v ∈ vs, inSigned (8 * width) v) :
    intsetAll (intsetBlob width vs) = some (vs.map intToDec) := by
  unfold intsetAll intsetBlob
  simp only [List.append_assoc]
  rw [readN_append' 4 _ _ (leN_length 4 _)]
  have hw4 : width < 256 ^ 4 := by rcases hw with h | h | h <;> subst h <;> decide
  simp only [ofLE_leN' 4 width hw4]
  have hne : ¬ (width ≠ 2 ∧ width ≠ 4 ∧ width ≠ 8) := by omega
  simp only [hne, if_false]
  rw [readN_append' 4 _ _ (leN_length 4 _)]
  simp only [ofLE_leN' 4 vs.length (by simpa using hl)]
  have := intsetLoop_blob width (by omega) vs [] h
  simpa using this

/-- the length prefix of an item (1 byte, or 254 + 4 bytes LE) is read back -/
theorem zmItemLength_zmLen_field (l : Nat) (rest : Bytes) (h : l < 2 ^ 32) :
    zmItemLength false (zmLen l ++ rest) = some ((some l, 0), rest) := by
  unfold zmLen
  by_cases hs : l < 254
  · have hb : (UInt8.ofNat l).toNat = l := u8_toNat _ (by omega)
    have n2 : UInt8.ofNat l ≠ 254 := u8_ne _ _ (by omega) (by simp; omega)
    have n3 : UInt8.ofNat l ≠ 255 := u8_ne _ _ (by omega) (by simp; omega)
    simp [hs, zmItemLength, n2, n3, hb]
  · simp only [hs, if_false, List.cons_append, zmItemLength,
      show ((254 : UInt8) = 255) = False by decide, if_true]
    rw [readN_append' 4 _ _ (leN_length 4 _)]
    simp only [ofLE_leN' 4 l (by simpa using h)]
    simp

theorem zmItemLength_zmLen_value (l free : Nat) (rest : Bytes) (h : l < 2 ^ 32) (hf : free < 256) :
    zmItemLength true (zmLen l ++ UInt8.ofNat free :: rest) = some ((some l, free), rest) := by
  have hfb : (UInt8.ofNat free).toNat = free := u8_toNat _ hf
  unfold zmLen
  by_cases hs : l < 254
  · have hb : (UInt8.ofNat l).toNat = l := u8_toNat _ (by omega)
    have n2 : UInt8.ofNat l ≠ 254 := u8_ne _ _ (by omega) (by simp; omega)
    have n3 : UInt8.ofNat l ≠ 255 := u8_ne _ _ (by omega) (by simp; omega)
    simp [hs, zmItemLength, n2, n3, hb, hfb]
  · simp only [hs, if_false, List.cons_append, zmItemLength,
      show ((254 : UInt8) = 255) = False by decide, if_true]
    rw [readN_append' 4 _ _ (leN_length 4 _)]
    simp only [ofLE_leN' 4 l (by simpa using h)]
    simp [hfb]

theorem zmItem_field (f rest : Bytes) (h : f.length < 2 ^ 32) :
    zmItem false (zmLen f.length ++ (f ++ rest)) = some (f, rest) := by
  simp only [zmItem, zmItemLength_zmLen_field f.length _ h]
  rw [readN_append]
  simp

theorem zmItem_value (v rest : Bytes) (free : Nat) (h : v.length < 2 ^ 32) (hf : free < 256) :
    zmItem true (zmLen v.length ++ UInt8.ofNat free :: (v ++ (List.replicate free 0 ++ rest))) =
      some (v, rest) := by
  simp only [zmItem, zmItemLength_zmLen_value v.length free _ h hf]
  rw [readN_append]
  simp only
  rw [List.drop_left' (by simp)]

theorem zmPairs_blob (items : List (Bytes × Bytes × Nat)) (rest : Bytes)
    (h : ∀ i ∈ items, i.1.length < 2 ^ 32 ∧ i.2.1.length < 2 ^ 32 ∧ i.2.2 < 256) :
    zmPairs items.length (items.flatMap zipmapItem ++ rest) = some (items.map (fun i => (i.1, i.2.1))) := by
  induction items with
  | nil => simp [zmPairs]
  | cons i items ih =>
    obtain ⟨h1, h2, h3⟩ := h i (List.mem_cons_self ..)
    simp only [List.length_cons, List.flatMap_cons, zmPairs, zipmapItem, List.append_assoc, List.cons_append]
    rw [zmItem_field i.1 _ h1]
    simp only
    rw [zmItem_value i.2.1 _ i.2.2 h2 h3]
    simp only
    rw [ih (fun x hx => h x (List.mem_cons_of_mem _ hx))]
    rfl

/-- the counting walk over a well-formed map sees two items per pair -/
theorem zmCount_blob (items : List (Bytes × Bytes × Nat)) (rest : Bytes) (fuel n : Nat)
    (h : ∀ i ∈ items, i.1.length < 2 ^ 32 ∧ i.2.1.length < 2 ^ 32 ∧ i.2.2 < 256)
    (hn : n % 2 = 0) (hfuel : 2 * items.length < fuel) :
    zmCount fuel n (items.flatMap zipmapItem ++ 0xFF :: rest) = some (n + 2 * items.length) := by
  induction items generalizing fuel n with
  | nil =>
    obtain ⟨fuel, rfl⟩ : ∃ k, fuel = k + 1 := ⟨fuel - 1, by simp at hfuel; omega⟩
    simp [zmCount, zmItemLength]
  | cons i items ih =>
    obtain ⟨h1, h2, h3⟩ := h i (List.mem_cons_self ..)
    simp only [List.length_cons] at hfuel
    obtain ⟨fuel, rfl⟩ : ∃ k, fuel = k + 2 := ⟨fuel - 2, by omega⟩
    have hn1 : (n % 2 != 0) = false := by simp [hn]
    have hn2 : ((n + 1) % 2 != 0) = true := by
      have : (n + 1) % 2 = 1 := by omega
      simp [this]
    simp only [List.flatMap_cons, zipmapItem, List.append_assoc, List.cons_append]
    rw [zmCount, hn1, zmItemLength_zmLen_field _ _ h1]
    simp only [Nat.add_zero]
    rw [List.drop_left' rfl]
    rw [zmCount, hn2, zmItemLength_zmLen_value _ _ _ h2 h3]
    simp only
    have hd : ∀ (tl : Bytes), List.drop (i.2.1.length + i.2.2) (i.2.1 ++ (List.replicate i.2.2 0 ++ tl)) = tl := by
      intro tl
      rw [← List.append_assoc]
      exact List.drop_left' (by simp)
    rw [hd]
    rw [ih fuel (n + 1 + 1) (fun x hx => h x (List.mem_cons_of_mem _ hx)) (by omega) (by omega)]
    simp only [List.length_cons]
    congr 1
    omega

theorem zipmapItem_length_ge (i : Bytes × Bytes × Nat) : 3 ≤ (zipmapItem i).length := by
  unfold zipmapItem zmLen
  split <;> split <;> simp <;> omega

theorem flatMap_zipmapItem_length_ge (items : List (Bytes × Bytes × Nat)) :
    3 * items.length ≤ (items.flatMap zipmapItem).length := by
  induction items with
  | nil => simp
  | cons i items ih =>
    have := zipmapItem_length_ge i
    simp only [List.flatMap_cons, List.length_append, List.length_cons]
    omega

/-- a zipmap of ANY number of pairs, with items of any length below 2^32, decodes
    to its pairs (`<zmlen>` exact below 254 pairs, else the counting walk) -/
theorem zipmapAll_blob (items : List (Bytes × Bytes × Nat))
    (h : ∀ i ∈ items, i.1.length < 2 ^ 32 ∧ i.2.1.length < 2 ^ 32 ∧ i.2.2 < 256) :
    zipmapAll (zipmapBlob items) = some (items.map (fun i => (i.1, i.2.1))) := by
  unfold zipmapAll zipmapBlob
  simp only
  by_cases hl : items.length < 254
  · simp only [hl, if_true]
    rw [u8_toNat items.length (by omega)]
    have : ¬ items.length ≥ 254 := by omega
    simp only [this, if_false]
    exact zmPairs_blob items [0xFF] h
  · simp only [hl, if_false]
    have : (UInt8.ofNat 254).toNat ≥ 254 := by decide
    simp only [this, if_true]
    have hlen := flatMap_zipmapItem_length_ge items
    rw [zmCount_blob items [] _ 0 h rfl (by simp only [List.length_cons, List.length_append]; omega)]
    have h2 : (0 + 2 * items.length) % 2 = 0 := by omega
    have h3 : (0 + 2 * items.length) / 2 = items.length := by omega
    simp only [h2, h3, ne_eq, not_true_eq_false, if_false]
    exact zmPairs_blob items [0xFF] h

end GunYu.Rdb
