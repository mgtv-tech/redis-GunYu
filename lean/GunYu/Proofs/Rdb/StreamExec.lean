/-
  Helper lemmas for C03 (streams): `StreamParser.ExecCmd` (model `execStream`) on the
  serialization of a stream description yields exactly the expected commands
  `StreamE.cmds`: the XADDs of the listpack nodes (`streamNodes_spec`), the empty-stream
  trick, XSETID from length / last id / (v2+) first id, max-deleted id, entries-added,
  and per group XGROUP CREATE [ENTRIESREAD] and one XCLAIM per consumer PEL entry with
  the delivery time and count of the group's PEL.
-/
import GunYu.Proofs.Rdb.StreamId
import GunYu.Proofs.Rdb.StreamNode
import GunYu.Proofs.Rdb.Read

namespace GunYu.Rdb
open GunYu GunYu.RedisSem

theorem p256_8 : (256 : Nat) ^ 8 = 2 ^ 64 := by decide

theorem lt_2_64 {n : Nat} (h : n < 2 ^ 32) : n < 2 ^ 64 := Nat.lt_trans h (by decide)

theorem readLength64_saveLen (n : Nat) (rest : Bytes) (h : n < 2 ^ 64) :
    readLength64 (saveLen n ++ rest) = some (n, rest) :=
  readLength64_encLen (minForm n) n rest (minForm_fits n h)

theorem readN16_id (a b : Nat) (rest : Bytes) :
    readN 16 (beN 8 a ++ (beN 8 b ++ rest)) = some (beN 8 a ++ beN 8 b, rest) := by
  rw [← List.append_assoc]
  exact readN_append' 16 _ rest (idb_length a b)

theorem readN8_le (a : Nat) (rest : Bytes) : readN 8 (leN 8 a ++ rest) = some (leN 8 a, rest) :=
  readN_append' 8 _ rest (leN_length 8 a)

theorem ofBE8 (n : Nat) (h : n < 2 ^ 64) : ofBE (beN 8 n) = n := ofBE_beN 8 n (by rw [p256_8]; exact h)
theorem ofLE8 (n : Nat) (h : n < 2 ^ 64) : ofLE (leN 8 n) = n := ofLE_leN' 8 n (by rw [p256_8]; exact h)

def nackEnc (n : SNackE) : Bytes := beN 8 n.ms ++ (beN 8 n.seq ++ (leN 8 n.time ++ saveLen n.count))

def nackRec (n : SNackE) : Bytes × Nat × Nat := (fmtId n.ms n.seq, n.time, n.count)

theorem readNacks_enc (pel : List SNackE) (rest : Bytes)
    (h : ∀ n ∈ pel, n.ms < 2 ^ 64 ∧ n.seq < 2 ^ 64 ∧ n.time < 2 ^ 64 ∧ n.count < 2 ^ 32) :
    readNacks pel.length (pel.flatMap nackEnc ++ rest) = some (pel.map nackRec, rest) := by
  induction pel with
  | nil => simp [readNacks]
  | cons n pel ih =>
    obtain ⟨h1, h2, h3, h4⟩ := h n (List.mem_cons_self ..)
    simp only [List.length_cons, List.flatMap_cons, nackEnc, List.append_assoc, readNacks, readN16_id, readN8_le,
      readLength64_saveLen n.count _ (lt_2_64 h4)]
    have ih' := ih (fun x hx => h x (List.mem_cons_of_mem _ hx))
    simp only [ih', List.map_cons, nackRec, idb_take, idb_drop, ofBE8 _ h1, ofBE8 _ h2, ofLE8 _ h3]

theorem nackLookup_spec (g : SGroupE) (ms seq : Nat) :
    nackLookup (fmtId ms seq) (g.pel.map nackRec) = g.nack ms seq := by
  unfold nackLookup SGroupE.nack
  rw [← List.map_reverse, List.find?_map]
  have hp : ((fun x : Bytes × Nat × Nat => x.1 == fmtId ms seq) ∘ nackRec) =
      (fun n : SNackE => n.ms == ms && n.seq == seq) := by
    funext n
    simp only [Function.comp, nackRec]
    by_cases h : n.ms = ms ∧ n.seq = seq
    · obtain ⟨rfl, rfl⟩ := h; simp
    · have : fmtId n.ms n.seq ≠ fmtId ms seq := fun he => h (fmtId_inj he)
      rw [beq_eq_false_iff_ne.mpr this]
      by_cases h1 : n.ms = ms
      · have h2 : n.seq ≠ seq := fun h2 => h ⟨h1, h2⟩
        simp [h1, h2]
      · simp [h1]
  rw [hp]
  cases g.pel.reverse.find? (fun n => n.ms == ms && n.seq == seq) with
  | none => rfl
  | some n => rfl

def claimOf (key group consumer : Bytes) (g : SGroupE) (p : Nat × Nat) : Cmd :=
  cmdB b!"XCLAIM" [key, group, consumer, b!"0", fmtId p.1 p.2, b!"TIME", natToDec (g.nack p.1 p.2).1,
    b!"RETRYCOUNT", natToDec (g.nack p.1 p.2).2, b!"JUSTID", b!"FORCE"]

theorem consumerPel_enc (key group consumer : Bytes) (g : SGroupE) (pel : List (Nat × Nat)) (rest : Bytes)
    (h : ∀ p ∈ pel, p.1 < 2 ^ 64 ∧ p.2 < 2 ^ 64) :
    consumerPel key group consumer (g.pel.map nackRec) pel.length
        (pel.flatMap (fun p => beN 8 p.1 ++ beN 8 p.2) ++ rest) =
      some (pel.map (claimOf key group consumer g), rest) := by
  induction pel with
  | nil => simp [consumerPel]
  | cons p pel ih =>
    obtain ⟨h1, h2⟩ := h p (List.mem_cons_self ..)
    have ih' := ih (fun x hx => h x (List.mem_cons_of_mem _ hx))
    simp only [List.length_cons, List.flatMap_cons, List.append_assoc, consumerPel, readN16_id,
      idb_take, idb_drop, ofBE8 _ h1, ofBE8 _ h2, nackLookup_spec, ih', List.map_cons, claimOf]

theorem skip_seen (ver : Nat) (seen active : Nat) (X : Bytes) :
    skipN (if decide (ver ≥ 3) = true then 16 else 8)
        (leN 8 seen ++ ((if ver ≥ 3 then leN 8 active else []) ++ X)) = some X := by
  by_cases hv : ver ≥ 3
  · simp only [hv, decide_true, if_true, skipN]
    rw [← List.append_assoc, readN_append' 16 _ X (by simp [leN_length])]
    rfl
  · simp only [hv, decide_false, Bool.false_eq_true, if_false, List.nil_append, skipN]
    rw [readN_append' 8 _ X (leN_length 8 seen)]
    rfl

theorem streamConsumers_enc (cc : Bool) (ver : Nat) (key group : Bytes) (g : SGroupE) (cs : List SConsumerE) (rest : Bytes)
    (h : ∀ c ∈ cs, c.name.wf ∧ c.pel.length < 2 ^ 64 ∧ ∀ p ∈ c.pel, p.1 < 2 ^ 64 ∧ p.2 < 2 ^ 64) :
    streamConsumers cc (decide (ver ≥ 3)) key group (g.pel.map nackRec) cs.length
        (cs.flatMap (SConsumerE.enc ver) ++ rest) =
      some (cs.flatMap (fun c =>
        (if cc = true ∧ c.pel.length = 0 then [cmdB b!"XGROUP" [b!"CREATECONSUMER", key, group, c.name.val]] else []) ++
          c.pel.map (claimOf key group c.name.val g)), rest) := by
  induction cs with
  | nil => simp [streamConsumers]
  | cons c cs ih =>
    obtain ⟨h1, h2, h3⟩ := h c (List.mem_cons_self ..)
    have ih' := ih (fun x hx => h x (List.mem_cons_of_mem _ hx))
    simp only [List.length_cons, List.flatMap_cons, SConsumerE.enc, List.append_assoc, streamConsumers,
      readString_enc c.name _ h1, skip_seen, readLength64_saveLen _ _ h2,
      consumerPel_enc key group c.name.val g c.pel _ h3, ih']

theorem readLengths64_two (a b : Nat) (rest : Bytes) (ha : a < 2 ^ 64) (hb : b < 2 ^ 64) :
    readLengths64 2 (saveLen a ++ (saveLen b ++ rest)) = some ([a, b], rest) := by
  simp only [readLengths64, readLength64_saveLen _ _ ha, readLength64_saveLen _ _ hb]

/-- what `wf` and `sound` say of one group -/
def GroupOk (g : SGroupE) : Prop :=
  g.name.wf ∧ g.lastMs < 2 ^ 64 ∧ g.lastSeq < 2 ^ 64 ∧ g.entriesRead < 2 ^ 64 ∧ g.consumers.length < 2 ^ 64 ∧
  g.pel.length < 2 ^ 64 ∧
  (∀ n ∈ g.pel, n.ms < 2 ^ 64 ∧ n.seq < 2 ^ 64 ∧ n.time < 2 ^ 64 ∧ n.count < 2 ^ 32) ∧
  (∀ c ∈ g.consumers, c.name.wf ∧ c.pel.length < 2 ^ 64 ∧ ∀ p ∈ c.pel, p.1 < 2 ^ 64 ∧ p.2 < 2 ^ 64)

theorem group_pel_enc :
    (fun n : SNackE => beN 8 n.ms ++ (beN 8 n.seq ++ (leN 8 n.time ++ saveLen n.count))) = nackEnc := rfl

theorem claims_cmds (x : XCfg) (s : StreamE) (k : Bytes) (g : SGroupE) :
    SGroupE.cmds x s k g =
      cmdB b!"XGROUP" ([b!"CREATE", k, g.name.val, fmtId g.lastMs g.lastSeq] ++
        (if x.tgtMajor ≥ 7 then [b!"ENTRIESREAD", intToDec (g.read s)] else [])) ::
      g.consumers.flatMap (fun c =>
        (if x.hasCreateConsumer = true ∧ c.pel.length = 0 then
           [cmdB b!"XGROUP" [b!"CREATECONSUMER", k, g.name.val, c.name.val]] else []) ++
          c.pel.map (claimOf k g.name.val c.name.val g)) := rfl

theorem streamGroups_enc (x : XCfg) (s : StreamE) (k : Bytes) (rest : Bytes) :
    ∀ (gs : List SGroupE), (∀ g ∈ gs, GroupOk g) →
      streamGroups x (decide (s.ver ≥ 2)) (decide (s.ver ≥ 3)) k s.added s.length s.lastMs s.lastSeq gs.length
          (gs.flatMap (SGroupE.enc s.ver) ++ rest) =
        some (gs.flatMap (SGroupE.cmds x s k)) := by
  intro gs
  induction gs with
  | nil => intro _; simp [streamGroups]
  | cons g gs ih =>
    intro h
    obtain ⟨h1, h2, h3, h4, h5, h6, h7, h8⟩ := h g (List.mem_cons_self ..)
    have ih' := ih (fun y hy => h y (List.mem_cons_of_mem _ hy))
    by_cases hv : s.ver ≥ 2
    · simp only [hv, decide_true, if_true] at ih' ⊢
      simp only [List.length_cons, List.flatMap_cons, SGroupE.enc, hv, if_true, List.append_assoc, streamGroups,
        readString_enc g.name _ h1, readLengths64_two _ _ _ h2 h3, readLength64_saveLen _ _ h4, Option.map_some,
        readLength64_saveLen _ _ h6, group_pel_enc, readNacks_enc g.pel _ h7, readLength64_saveLen _ _ h5,
        streamConsumers_enc x.hasCreateConsumer s.ver k g.name.val g g.consumers _ h8, ih', claims_cmds, List.cons_append,
        SGroupE.read]
    · simp only [hv, decide_false, StreamE.added, if_false] at ih' ⊢
      simp only [List.length_cons, List.flatMap_cons, SGroupE.enc, hv, if_false, List.nil_append, List.append_assoc,
        streamGroups, Bool.false_eq_true,
        readString_enc g.name _ h1, readLengths64_two _ _ _ h2 h3,
        readLength64_saveLen _ _ h6, group_pel_enc, readNacks_enc g.pel _ h7, readLength64_saveLen _ _ h5,
        streamConsumers_enc x.hasCreateConsumer s.ver k g.name.val g g.consumers _ h8, ih', claims_cmds, List.cons_append,
        SGroupE.read, StreamE.added]

theorem rtype_flags (s : StreamE) (h1 : 1 ≤ s.ver) (h4 : s.ver ≤ 4) :
    decide (s.rtype.toNat ≥ 19) = decide (s.ver ≥ 2) ∧ decide (s.rtype.toNat ≥ 21) = decide (s.ver ≥ 3) ∧
    decide (s.rtype.toNat ≥ 26) = decide (s.ver ≥ 4) := by
  have : s.ver = 1 ∨ s.ver = 2 ∨ s.ver = 3 ∨ s.ver = 4 := by omega
  rcases this with h | h | h | h <;> simp [StreamE.rtype, h]

theorem groupOk_of (s : StreamE) (hwf : s.wf) (hs : s.sound) : ∀ g ∈ s.groups, GroupOk g := by
  intro g hg
  obtain ⟨_, _, _, _, _, _, _, _, _, _, _, _, hgw, _⟩ := hwf
  obtain ⟨_, _, hsz, _⟩ := hs
  obtain ⟨a1, a2, a3, a4, a5, a6, a7⟩ := hgw g hg
  obtain ⟨b1, b2⟩ := hsz g hg
  refine ⟨a1, a2, a3, a4, lt_2_64 a5, b1, a6, ?_⟩
  intro c hc
  obtain ⟨c1, _, _, c4⟩ := a7 c hc
  exact ⟨c1, b2 c hc, c4⟩

/-- `ExecCmd` of a stream: the teed serialization (followed by anything — the IDMP
    state of a version-4 stream is never read by the expansion) expands into exactly
    the expected commands -/
theorem execStream_ser (x : XCfg) (k : Bytes) (s : StreamE) (rest : Bytes) (hwf : s.wf) (hs : s.sound) :
    execStream x s.rtype k (s.ser ++ rest) = some (s.cmds x k) := by
  have hgok := groupOk_of s hwf hs
  obtain ⟨_, hv1, hv4, hnodes, hlen, hlm, hls, hfm, hfs, hdm, hds, hea, _, _⟩ := hwf
  obtain ⟨hnl, hgl, _, hid, _⟩ := hs
  obtain ⟨f2, f3, _⟩ := rtype_flags s hv1 hv4
  unfold execStream
  simp only [f2, f3, StreamE.ser, List.append_assoc]
  rw [readLength64_saveLen _ _ hnl]
  simp only
  rw [streamNodes_spec k s.nodes _ (fun n hn => ⟨hnodes n hn, hid n hn⟩)]
  simp only [readLengths64, readLength64_saveLen _ _ hlen, readLength64_saveLen _ _ hlm, readLength64_saveLen _ _ hls]
  by_cases hv : s.ver ≥ 2
  · simp only [hv, decide_true, if_true, List.append_assoc, readLength64_saveLen _ _ hfm, readLength64_saveLen _ _ hfs,
      readLength64_saveLen _ _ hdm, readLength64_saveLen _ _ hds, readLength64_saveLen _ _ hea,
      readLength64_saveLen _ _ hgl]
    have hadd : s.entriesAdded = s.added := by simp [StreamE.added, hv]
    have hg := streamGroups_enc x s k ((if s.ver ≥ 4 then s.idmp.enc else []) ++ rest) s.groups hgok
    simp only [hv, decide_true] at hg
    rw [hadd, hg]
    simp [StreamE.cmds, StreamE.maxDel, hv, SNodeE.xadds]
  · simp only [hv, decide_false, Bool.false_eq_true, if_false, List.nil_append, readLength64_saveLen _ _ hgl]
    have hadd : s.added = s.length := by simp [StreamE.added, hv]
    have hg := streamGroups_enc x s k ((if s.ver ≥ 4 then s.idmp.enc else []) ++ rest) s.groups hgok
    simp only [hv, decide_false, hadd] at hg
    rw [hg]
    simp [StreamE.cmds, StreamE.maxDel, hv, SNodeE.xadds, hadd]

end GunYu.Rdb
