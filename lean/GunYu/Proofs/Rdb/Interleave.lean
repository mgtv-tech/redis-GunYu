/-
  Helper lemmas for C03: every interleaving. The requests a worker issues are
  SELECT, SCRIPT/FUNCTION (no keyspace effect) and plain commands local to one key;
  requests of different connections on different keys commute on the target with one
  connection per worker, so all schedules with the same per-worker logs agree.
-/
import GunYu.Proofs.Rdb.Parallel
import GunYu.Proofs.Rdb.SyncS
import GunYu.Proofs.Rdb.Sched

namespace GunYu.Rdb
open GunYu GunYu.RedisSem GunYu.Sched

def MEq (a b : MState) : Prop := (∀ j, a.cur j = b.cur j) ∧ ∀ D, KEq (a.dbs D) (b.dbs D)

theorem meq_refl (a : MState) : MEq a a := ⟨fun _ => rfl, fun _ _ => rfl⟩
theorem meq_symm (a b : MState) (h : MEq a b) : MEq b a := ⟨fun j => (h.1 j).symm, fun D k => (h.2 D k).symm⟩
theorem meq_trans (a b c : MState) (h1 : MEq a b) (h2 : MEq b c) : MEq a c :=
  ⟨fun j => (h1.1 j).trans (h2.1 j), fun D k => (h1.2 D k).trans (h2.2 D k)⟩

theorem applySched_run (s : List (Nat × Cmd)) : ∀ m, applySched m s = run applyTagged m s := by
  induction s with
  | nil => intro m; rfl
  | cons p s ih =>
    intro m
    simp only [applySched, run]
    cases applyTagged m p with
    | none => rfl
    | some m' => exact ih m'

def keyOf (c : Cmd) : Option Bytes :=
  if lower c.name ∈ plainNames then (match c.args with | .b k :: _ => some k | _ => none) else none

/-- the requests a worker's log may contain -/
inductive GoodReq : Cmd → Prop
  | sel {c : Cmd} : lower c.name = b!"select" → GoodReq c
  | noop {c : Cmd} : lower c.name = b!"script" ∨ lower c.name = b!"function" → GoodReq c
  | key {c : Cmd} (k : Bytes) (rest : List Arg) : c.args = .b k :: rest → lower c.name ∈ plainNames → GoodReq c

/-- connection `j` moves to database `D'` and leaves `ks'` in the database it had selected -/
def mkM (M : MState) (j : Nat) (D' : Int) (ks' : Keyspace) : MState :=
  { cur := fun i => if i = j then D' else M.cur i, dbs := fun x => if x = M.cur j then ks' else M.dbs x }

theorem local_id (k : Bytes) : LocalAt k (fun ks => some ks) := local_upd k .keep

theorem keyOf_plain (c : Cmd) (k : Bytes) (rest : List Arg) (hargs : c.args = .b k :: rest)
    (hname : lower c.name ∈ plainNames) : keyOf c = some k := by
  simp [keyOf, hname, hargs]

theorem keyOf_none_of_name (c : Cmd) (h : lower c.name ∉ plainNames) : keyOf c = none := by
  simp [keyOf, h]

theorem noop_keyOf (c : Cmd) (hn : lower c.name = b!"script" ∨ lower c.name = b!"function") : keyOf c = none :=
  keyOf_none_of_name c fun h => by
    have := plain_not_special _ h
    rcases hn with hn | hn
    · exact this.2.1 hn
    · exact this.2.2 hn

/-- normal form of a good request: a partial function on the selected keyspace (local to the
    request's key, or to any key when it has none) and the database selected afterwards -/
theorem good_normal (c : Cmd) (hg : GoodReq c) :
    ∃ (f : Keyspace → Option Keyspace) (g : Int → Int),
      (∀ (M : MState) (j : Nat), applyTagged M (j, c) =
        (f (M.dbs (M.cur j))).map (fun ks' => mkM M j (g (M.cur j)) ks')) ∧
      ((∃ k, keyOf c = some k ∧ LocalAt k f) ∨ (keyOf c = none ∧ ∀ k, LocalAt k f)) := by
  have hself : ∀ (M : MState) (j : Nat), mkM M j (M.cur j) (M.dbs (M.cur j)) = M := by
    intro M j
    cases M with
    | mk cur dbs =>
      simp only [mkM, MState.mk.injEq]
      constructor
      · funext i; by_cases hi : i = j <;> simp [hi]
      · funext x; by_cases hx : x = cur j <;> simp [hx]
  have hsame : ∀ (M : MState) (j : Nat) (D' : Int),
      M.put j { cur := D', dbs := M.dbs } = mkM M j D' (M.dbs (M.cur j)) := by
    intro M j D'
    simp only [MState.put, mkM, MState.mk.injEq, true_and]
    funext x; by_cases hx : x = M.cur j <;> simp [hx]
  cases hg with
  | sel hs =>
    have hk : keyOf c = none := keyOf_none_of_name c fun h => (plain_not_special _ h).1 hs
    -- the database index the request selects, if it is well-formed
    obtain ⟨r, hr⟩ : ∃ r : Option Nat, ∀ t : TState,
        applyReq t c = r.map (fun d => { t with cur := Int.ofNat d }) := by
      simp only [applyReq, hs, if_true]
      rcases c.args with _ | ⟨a, _ | ⟨b, rest⟩⟩
      · exact ⟨none, fun _ => rfl⟩
      · cases a with
        | f x => exact ⟨none, fun _ => rfl⟩
        | b n => exact ⟨decToNat? n, fun t => by dsimp only; cases decToNat? n <;> rfl⟩
      · exact ⟨none, fun _ => by cases a <;> rfl⟩
    refine ⟨fun ks => r.map fun _ => ks, fun D => (r.map Int.ofNat).getD D, fun M j => ?_,
      Or.inr ⟨hk, fun k => ?_⟩⟩
    · simp only [applyTagged, hr]
      cases r <;> simp [MState.conn, hsame]
    · cases r
      · exact local_none k
      · exact local_id k
  | noop hn =>
    refine ⟨fun ks => some ks, id, ?_, Or.inr ⟨noop_keyOf c hn, fun k => local_id k⟩⟩
    intro M j
    have hns : lower c.name ≠ b!"select" := by
      rcases hn with hn | hn <;> (rw [hn]; decide)
    simp only [applyTagged, applyReq, hns, if_false, hn, if_true, Option.map_some, id, hself, put_conn_self]
  | key k rest hargs hname =>
    obtain ⟨h1, h2, h3⟩ := plain_not_special _ hname
    refine ⟨fun ks => applyXCmd ks c, id, ?_,
      Or.inl ⟨k, keyOf_plain c k rest hargs hname, local_applyXCmd c k rest hargs hname⟩⟩
    intro M j
    simp only [applyTagged, applyReq, h1, h2, h3, if_false, or_self, Option.map_map, id]
    rfl

def goodP (p : Nat × Cmd) : Prop := GoodReq p.2

def indepP (p q : Nat × Cmd) : Prop := ∀ k1 k2, keyOf p.2 = some k1 → keyOf q.2 = some k2 → k1 ≠ k2

theorem tagged_congr (p : Nat × Cmd) (hg : goodP p) (a b : MState) (h : MEq a b) :
    ORel MEq (applyTagged a p) (applyTagged b p) := by
  obtain ⟨j, c⟩ := p
  obtain ⟨f, g, hN, hloc⟩ := good_normal c hg
  have hl : ∃ k, LocalAt k f := by
    rcases hloc with ⟨k, _, hk⟩ | ⟨_, hk⟩
    · exact ⟨k, hk⟩
    · exact ⟨[], hk []⟩
  obtain ⟨k, hk⟩ := hl
  rw [hN a j, hN b j]
  have hc := h.1 j
  rw [← hc]
  refine orel_map _ _ (local_congr hk (h.2 (a.cur j))) fun x y hxy => ⟨fun l => ?_, fun D k' => ?_⟩
  · by_cases hl : l = j
    · simp [mkM, hl]
    · simp [mkM, hl, h.1 l]
  · by_cases hD : D = a.cur j
    · simp [mkM, ← hc, hD, hxy k']
    · simp [mkM, ← hc, hD, h.2 D k']

theorem snoc_ne_self (k : Bytes) : k ++ [0] ≠ k := by
  intro h
  have := congrArg List.length h
  simp at this

theorem tagged_comm (p q : Nat × Cmd) (hp : goodP p) (hq : goodP q) (htag : p.1 ≠ q.1) (hind : indepP p q)
    (a : MState) :
    ORel MEq ((applyTagged a p).bind (fun a' => applyTagged a' q))
             ((applyTagged a q).bind (fun a' => applyTagged a' p)) := by
  obtain ⟨i, c1⟩ := p
  obtain ⟨j, c2⟩ := q
  simp only at htag
  have hji : j ≠ i := fun h => htag h.symm
  obtain ⟨f1, g1, hN1, hl1⟩ := good_normal c1 hp
  obtain ⟨f2, g2, hN2, hl2⟩ := good_normal c2 hq
  -- keys the two requests are local to, different from each other
  have hkeys : ∃ k1 k2, k1 ≠ k2 ∧ LocalAt k1 f1 ∧ LocalAt k2 f2 := by
    rcases hl1 with ⟨k1, hk1, hL1⟩ | ⟨_, hL1⟩
    · rcases hl2 with ⟨k2, hk2, hL2⟩ | ⟨_, hL2⟩
      · exact ⟨k1, k2, hind k1 k2 hk1 hk2, hL1, hL2⟩
      · exact ⟨k1, k1 ++ [0], fun h => snoc_ne_self k1 h.symm, hL1, hL2 _⟩
    · rcases hl2 with ⟨k2, hk2, hL2⟩ | ⟨_, hL2⟩
      · exact ⟨k2 ++ [0], k2, snoc_ne_self k2, hL1 _, hL2⟩
      · exact ⟨[], [0], by decide, hL1 _, hL2 _⟩
  obtain ⟨k1, k2, hne, hL1, hL2⟩ := hkeys
  -- both orders, with the second request's view of the state after the first spelled out
  have e1 : (applyTagged a (i, c1)).bind (fun a' => applyTagged a' (j, c2)) =
      (f1 (a.dbs (a.cur i))).bind (fun x => (f2 (if a.cur j = a.cur i then x else a.dbs (a.cur j))).map
        (fun y => mkM (mkM a i (g1 (a.cur i)) x) j (g2 (a.cur j)) y)) := by
    rw [hN1 a i]
    cases f1 (a.dbs (a.cur i)) with
    | none => rfl
    | some x => simp only [Option.map_some, Option.bind_some, hN2, mkM, hji, if_false]
  have e2 : (applyTagged a (j, c2)).bind (fun a' => applyTagged a' (i, c1)) =
      (f2 (a.dbs (a.cur j))).bind (fun y => (f1 (if a.cur i = a.cur j then y else a.dbs (a.cur i))).map
        (fun x => mkM (mkM a j (g2 (a.cur j)) y) i (g1 (a.cur i)) x)) := by
    rw [hN2 a j]
    cases f2 (a.dbs (a.cur j)) with
    | none => rfl
    | some y => simp only [Option.map_some, Option.bind_some, hN1, mkM, htag, if_false]
  rw [e1, e2]
  have hcur : ∀ (x y x' y' : Keyspace) (l : Nat), (mkM (mkM a i (g1 (a.cur i)) x) j (g2 (a.cur j)) y).cur l =
      (mkM (mkM a j (g2 (a.cur j)) y') i (g1 (a.cur i)) x').cur l := by
    intro x y x' y' l
    by_cases hli : l = i <;> by_cases hlj : l = j <;> simp only [mkM, hli, hlj, htag, hji, ↓reduceIte]
  by_cases hD : a.cur i = a.cur j
  · -- both connections have selected the same database: locality
    have hc := local_commute hL1 hL2 hne (a.dbs (a.cur i))
    simp only [← hD, if_true] at hcur ⊢
    refine orel_bind_map hc fun x y z w hzw => ⟨hcur x z w y, fun D k' => ?_⟩
    by_cases hDD : D = a.cur i
    · simp only [mkM, hDD, hji, htag, ← hD, ↓reduceIte, hzw k']
    · simp only [mkM, hDD, hji, htag, ← hD, ↓reduceIte]
  · -- different databases: the two requests touch different keyspaces
    have hD' : ¬ (a.cur j = a.cur i) := fun h => hD h.symm
    simp only [hD, hD', if_false]
    cases f1 (a.dbs (a.cur i)) <;> cases f2 (a.dbs (a.cur j)) <;> try trivial
    rename_i x y
    refine ⟨hcur x y x y, fun D k' => ?_⟩
    by_cases hDi : D = a.cur i <;> by_cases hDj : D = a.cur j <;>
      simp only [mkM, hDi, hDj, hji, htag, hD, hD', ↓reduceIte]

theorem sched_equiv (s1 s2 : List (Nat × Cmd)) (hproj : ∀ j, proj Prod.fst j s1 = proj Prod.fst j s2)
    (hgood : ∀ p ∈ s1, goodP p) (hind : ∀ p ∈ s1, ∀ q ∈ s1, p.1 ≠ q.1 → indepP p q)
    (a b : MState) (hab : MEq a b) : ORel MEq (applySched a s1) (applySched b s2) := by
  rw [applySched_run, applySched_run]
  exact sched_indep MEq applyTagged Prod.fst goodP indepP meq_refl meq_symm meq_trans tagged_congr tagged_comm
    s1 s2 hproj hgood hind a b hab

def TagOk (n : Nat) (p : Nat × Cmd) : Prop :=
  GoodReq p.2 ∧ ∀ k, keyOf p.2 = some k → fnv32a k % n = p.1

theorem indep_of_tagOk (n : Nat) (p q : Nat × Cmd) (hp : TagOk n p) (hq : TagOk n q) (h : p.1 ≠ q.1) : indepP p q := by
  intro k1 k2 h1 h2 he
  apply h
  rw [← hp.2 k1 h1, ← hq.2 k2 h2, he]

def ReqOn (key : Bytes) (c : Cmd) : Prop := GoodReq c ∧ ∀ k, keyOf c = some k → k = key

theorem reqOn_plain (key : Bytes) (c : Cmd) (rest : List Arg) (hargs : c.args = .b key :: rest)
    (hn : lower c.name ∈ plainNames) : ReqOn key c :=
  ⟨GoodReq.key key rest hargs hn, fun k hk => by
    rw [keyOf_plain c key rest hargs hn] at hk; exact (Option.some.inj hk).symm⟩

theorem reqOn_noop (key : Bytes) (c : Cmd) (h : lower c.name = b!"script" ∨ lower c.name = b!"function") :
    ReqOn key c := by
  refine ⟨GoodReq.noop h, fun k hk => ?_⟩
  rw [noop_keyOf c h] at hk
  cases hk

theorem expCmd_reqOn (p : PObj) (hns : otypeOf p.rtype ≠ some .stream) (c : Cmd) (h : ExpCmd p c) :
    ReqOn p.key c := by
  rcases h with ⟨hn, rest, hargs⟩ | h | h | ⟨hs, _⟩
  · exact reqOn_plain p.key c rest hargs (plainExp_plain _ hn)
  · exact reqOn_noop _ c (Or.inr (by rw [h]; decide))
  · exact reqOn_noop _ c (Or.inl (by rw [h]; decide))
  · exact absurd hs hns

theorem keyReq_reqOn (key : Bytes) (c : Cmd) (h : KeyReq key c) : ReqOn key c := by
  obtain ⟨hn, rest, hargs⟩ := keyReq_plain key c h
  exact reqOn_plain key c rest hargs hn

theorem replayEntry_reqOn (cfg : RCfg) (D : Int) (ex : Exists) (e : Entry) (hrht : cfg.replaceHashTag = false)
    (hns : otypeOf e.obj.rtype ≠ some .stream)
    (hkey : (∃ ot, otypeOf e.obj.rtype = some ot ∧ (ot = .function ∨ ot = .aux)) ∨ e.obj.key = e.key) :
    ∀ c ∈ (replayEntry cfg D ex e).1, ReqOn e.key c := by
  rcases hkey with ⟨ot, hot, hk⟩ | hkey
  · obtain ⟨cs, hcs, hn⟩ := replay_keyless cfg D ex e ot hot hk
    rw [hcs]; exact fun c hc => reqOn_noop _ c (hn c hc)
  · intro c hc
    have hd := dstKey_off cfg e.key hrht
    rcases mem_replayEntry cfg D ex e c hc with ⟨cs, c0, hx, h0, hc0⟩ | h
    · have : c = c0 := by
        rcases hc0 with rfl | rfl
        · rfl
        · rw [hd, show rewriteCmd e.key e.key c0 = c0 by simp [rewriteCmd]]
      rw [this, ← hkey]
      exact expCmd_reqOn _ hns c0 (execCmd_mem cfg.x e.obj cs hx c0 h0)
    · rw [hd] at h; exact keyReq_reqOn _ c h

theorem stepReqs_mem (cfg : RCfg) (htick : cfg.tick = 0) (w : Worker) (ex : Exists) (e : Entry) (c : Cmd)
    (hc : c ∈ stepReqs cfg w ex e) :
    c = cmdB b!"select" [intToDec (mapDb cfg e.db)] ∨ ∃ D, c ∈ (replayEntry cfg D ex e).1 := by
  obtain ⟨d, hd, hsel⟩ := afterSelect_shape cfg w e
  unfold stepReqs at hc
  by_cases hA : e.db ≠ -1 ∧ cfg.filterDb e.db = true
  · rw [workerStep_skipDb cfg w ex e hA] at hc
    simp at hc
  · by_cases hk : cfg.filterKey e.key = true
    · rw [workerStep_skipKey cfg w ex e hA hk] at hc
      simp only [hd, List.drop_left] at hc
      exact Or.inl (hsel c hc)
    · rw [workerStep_replay cfg htick w ex e hA hk] at hc
      simp only [hd, List.append_assoc, List.drop_left, List.mem_append] at hc
      rcases hc with hc | hc
      · exact Or.inl (hsel c hc)
      · exact Or.inr ⟨_, hc⟩

/-- the entries whose requests carry the entry's key -/
def EntryKeyed (e : Entry) : Prop :=
  (EntryOk e ∧ otypeOf e.obj.rtype ≠ some .stream) ∧
  ((∃ ot, otypeOf e.obj.rtype = some ot ∧ (ot = .function ∨ ot = .aux)) ∨ e.obj.key = e.key)

theorem step_tagOk (cfg : RCfg) (htick : cfg.tick = 0) (hrht : cfg.replaceHashTag = false)
    (n idx : Nat) (w : Worker) (ex : Exists) (e : Entry) (hk : EntryKeyed e) :
    ∀ c ∈ stepReqs cfg w ex e, TagOk n (workerOf cfg n e idx, c) := by
  intro c hc
  rcases stepReqs_mem cfg htick w ex e c hc with rfl | ⟨D, hD⟩
  · refine ⟨GoodReq.sel (show lower b!"select" = b!"select" by decide), fun k hk' => ?_⟩
    have : keyOf (cmdB b!"select" [intToDec (mapDb cfg e.db)]) = none :=
      keyOf_none_of_name _ (show lower b!"select" ∉ plainNames by decide)
    rw [this] at hk'; cases hk'
  · by_cases hf : otypeOf e.obj.rtype = some .function
    · obtain ⟨cs, hcs, hn⟩ := replay_keyless cfg D ex e .function hf (Or.inl rfl)
      rw [hcs] at hD
      have hr := reqOn_noop e.key c (hn c hD)
      refine ⟨hr.1, fun k hk' => ?_⟩
      rw [noop_keyOf c (hn c hD)] at hk'; cases hk'
    · have hr := replayEntry_reqOn cfg D ex e hrht hk.1.2 hk.2 c hD
      refine ⟨hr.1, fun k hk' => ?_⟩
      have hkk := hr.2 k hk'
      subst hkk
      simp only [workerOf, hf, ne_eq, not_false_eq_true, or_true, if_true, dstKey, hrht, Bool.false_eq_true, if_false]

theorem sched_tagOk (cfg : RCfg) (htick : cfg.tick = 0) (hrht : cfg.replaceHashTag = false) :
    ∀ (es : List Entry), (∀ e ∈ es, EntryKeyed e) → ∀ (idx : Nat) (ws : List Worker) (ex : Exists),
      ∀ p ∈ schedOf (fanOutTrace cfg es idx ws ex), TagOk ws.length p := by
  intro es
  induction es with
  | nil => intro _ idx ws ex p hp; cases hp
  | cons e es ih =>
    intro hes idx ws ex p hp
    simp only [fanOutTrace, schedOf, List.flatMap_cons, List.mem_append] at hp
    rcases hp with hp | hp
    · obtain ⟨c, hc, rfl⟩ := List.mem_map.mp hp
      exact step_tagOk cfg htick hrht ws.length idx _ ex e (hes e (List.mem_cons_self ..)) c hc
    · split at hp
      · have := ih (fun x hx => hes x (List.mem_cons_of_mem _ hx)) _ _ _ p hp
        simpa using this
      · simp at hp

theorem otOf_ne_stream (o : ObjE) : otOf o ≠ .stream := by
  unfold otOf; cases o.kind <;> decide

theorem trace_keyed {db : Nat} {items : List Item} {es : List Entry} (htr : Trace db items es)
    (hcar : ∀ i ∈ items, i.carried) : ∀ e ∈ es, EntryKeyed e := by
  have hok := trace_ok htr
  induction htr with
  | nil db => intro e he; cases he
  | skip _ _ ih => exact ih (fun x hx => hcar x (List.mem_cons_of_mem _ hx)) hok
  | @aux db k v items es e hdb hrt _ ih =>
    intro x hx
    rcases List.mem_cons.mp hx with rfl | hx'
    · exact ⟨⟨hok _ hx, by rw [hrt]; decide⟩, Or.inl ⟨.aux, by rw [hrt]; decide, Or.inr rfl⟩⟩
    · exact ih (fun x hx => hcar x (List.mem_cons_of_mem _ hx)) (fun y hy => hok y (List.mem_cons_of_mem _ hy)) x hx'
  | @function db code items es e hdb hrt _ ih =>
    intro x hx
    rcases List.mem_cons.mp hx with rfl | hx'
    · exact ⟨⟨hok _ hx, by rw [hrt]; decide⟩, Or.inl ⟨.function, by rw [hrt]; decide, Or.inl rfl⟩⟩
    · exact ih (fun x hx => hcar x (List.mem_cons_of_mem _ hx)) (fun y hy => hok y (List.mem_cons_of_mem _ hy)) x hx'
  | @key db k items ces es hke _ ih =>
    intro x hx
    rcases List.mem_append.mp hx with hx' | hx'
    · obtain ⟨hkind, _, _⟩ := hcar (.key k) (List.mem_cons_self ..)
      rcases hke with ⟨e, rfl, he, hobj⟩ | ⟨f, its, e0, tl, _, hces, hc, _⟩
      · simp only [List.mem_singleton] at hx'; subst hx'
        refine ⟨⟨hok _ hx, ?_⟩, Or.inr ?_⟩
        · rw [hobj]
          show otypeOf k.obj.rtype ≠ _
          rw [otypeOf_rtype k.obj hkind]
          intro h; exact otOf_ne_stream k.obj (Option.some.inj h)
        · rw [hobj, he.1]; rfl
      · have := hc x hx'
        refine ⟨⟨hok x hx, by rw [this.hrt]; decide⟩, Or.inr ?_⟩
        rw [this.hokey, this.ent.1]
    · exact ih (fun x hx => hcar x (List.mem_cons_of_mem _ hx)) (fun y hy => hok y (List.mem_append_right _ hy)) x hx'

theorem proj_eq_of_map (s : List (Nat × Cmd)) (j : Nat) :
    proj Prod.fst j s = ((s.filter (fun p => p.1 == j)).map (·.2)).map (fun c => (j, c)) := by
  unfold proj
  rw [List.map_map]
  symm
  apply map_id_of_mem
  intro a ha
  have := (List.mem_filter.mp ha).2
  simp only [beq_iff_eq] at this
  simp [Function.comp, ← this]

/-- the snapshot-order schedule of keyed entries on `n` workers, whose projections are `logs`, and
    ANY schedule with these projections end alike -/
theorem interleavings_agree (cfg : RCfg) (htick : cfg.tick = 0) (hrht : cfg.replaceHashTag = false)
    (es : List Entry) (hk : ∀ e ∈ es, EntryKeyed e) (n : Nat) (hn : 1 ≤ n) (logs : List (List Cmd))
    (hlen : logs.length = n)
    (hproj0 : ∀ j, j < n → ((schedOf (fanOutTrace cfg es 0 (List.replicate n {}) [])).filter
      (fun p => p.1 == j)).map (·.2) = logs.getD j [])
    (sched : List (Nat × Cmd)) (hsched : ∀ j, (sched.filter (fun p => p.1 == j)).map (·.2) = logs.getD j []) :
    ORel MEq (applySched {} (schedOf (fanOutTrace cfg es 0 (List.replicate n {}) []))) (applySched {} sched) := by
  have hlenN : (List.replicate n ({} : Worker)).length = n := by simp
  have htag := sched_tagOk cfg htick hrht es hk 0 (List.replicate n {}) []
  rw [hlenN] at htag
  generalize hs0 : schedOf (fanOutTrace cfg es 0 (List.replicate n {}) []) = sched0 at htag hproj0 ⊢
  have hproj : ∀ j, proj Prod.fst j sched0 = proj Prod.fst j sched := by
    intro j
    rw [proj_eq_of_map sched0 j, proj_eq_of_map sched j, hsched j]
    by_cases hj : j < n
    · rw [hproj0 j hj]
    · have hnone : sched0.filter (fun p => p.1 == j) = [] := by
        rw [List.filter_eq_nil_iff]
        intro p hp
        have hlt : p.1 < n := by
          have := trace_tag_lt cfg es 0 (List.replicate n {}) [] (by rw [hlenN]; omega)
          rw [← hs0] at hp
          simp only [schedOf, List.mem_flatMap] at hp
          obtain ⟨q, hq, hpq⟩ := hp
          obtain ⟨c, _, rfl⟩ := List.mem_map.mp hpq
          have := this q hq
          rwa [hlenN] at this
        simp; omega
      have hl : logs.getD j [] = [] := by
        simp only [List.getD]
        rw [List.getElem?_eq_none (by omega)]
        rfl
      rw [hnone, hl]; rfl
  exact sched_equiv sched0 sched hproj (fun p hp => (htag p hp).1)
    (fun p hp q hq hne => indep_of_tagOk n p q (htag p hp) (htag q hq) hne) {} {} (meq_refl _)

end GunYu.Rdb
