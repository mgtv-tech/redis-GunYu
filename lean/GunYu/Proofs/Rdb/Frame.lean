/-
  Helper lemmas for C03: the file frame — magic/version header and the
  CRC64 footer — as written by the specification is accepted by the loader.
-/
import GunYu.Model.Rdb.Enc
import GunYu.Model.Rdb.Dec
import GunYu.Proofs.Rdb.Read

namespace GunYu.Rdb
open GunYu

theorem version_digits : ∀ v : Fin 14, 1 ≤ v.val →
    parseInt64 (verDigits v.val) = some (v.val : Int) := by decide

theorem header_file (f : FileE) (h1 : 1 ≤ f.version) (h13 : f.version ≤ 13) (rest : Bytes) :
    header (b!"REDIS" ++ verDigits f.version ++ rest) = some (f.version, rest) := by
  unfold header
  have hlen : (b!"REDIS" ++ verDigits f.version).length = 9 := by simp [verDigits]
  have e : b!"REDIS" ++ verDigits f.version ++ rest = (b!"REDIS" ++ verDigits f.version) ++ rest := rfl
  rw [e, readN_append' 9 _ _ hlen]
  simp only
  have t5 : (b!"REDIS" ++ verDigits f.version).take 5 = b!"REDIS" := by simp
  have d5 : (b!"REDIS" ++ verDigits f.version).drop 5 = verDigits f.version := by simp
  rw [t5, d5]
  have hv := version_digits ⟨f.version, by omega⟩ h1
  simp only at hv
  simp only [ne_eq, not_true_eq_false, if_false, hv]
  have hc : Gen.Rdb.c_RdbVersion = 13 := rfl
  have : ¬ ((f.version : Int) ≤ 0 ∨ (f.version : Int) > ((Gen.Rdb.c_RdbVersion : Nat) : Int)) := by
    rw [hc]; omega
  simp only [this, if_false, Int.toNat_natCast]

/-- the footer check passes for a correct checksum and for the all-zero
    "checksum disabled" footer -/
theorem footer_file (f : FileE) (hnb : f.footer ≠ .bad) :
    footer (rdbFile f) ((rdbFile f).drop f.body.length) = true := by
  have hdrop : ∀ tail : Bytes, (f.body ++ tail).drop f.body.length = tail := fun tail => by simp
  have hcons : ∀ tail : Bytes, consumed (f.body ++ tail) tail = f.body := fun tail => consumed_append _ _
  have hlt : (crc64Spec f.body).toNat < 256 ^ 8 := by
    have := (crc64Spec f.body).isLt
    have e : (256 : Nat) ^ 8 = 2 ^ 64 := by decide
    omega
  unfold rdbFile footer
  simp only
  have hr8 : ∀ n : Nat, readN 8 (le64 n) = some (le64 n, []) := fun n => by
    have := readN_append' 8 (le64 n) [] (leN_length 8 n)
    simpa using this
  have htab : (crc64Tab f.body).toNat = (crc64Spec f.body).toNat := by
    rw [show crc64Tab f.body = crc64Spec f.body from crc64Tab_eq_spec_from f.body 0#64]
  cases hf : f.footer with
  | good =>
    simp only [hdrop, hcons, hr8]
    rw [show le64 (crc64Spec f.body).toNat = leN 8 (crc64Spec f.body).toNat from rfl, ofLE_leN' 8 _ hlt, htab]
    simp
  | zero =>
    simp only [hdrop, hr8]
    have z : ofLE (le64 0) = 0 := by decide
    simp [z]
  | bad => exact absurd hf hnb

/-- nothing follows the footer of a file the specification writes -/
theorem inputEnds_file (f : FileE) : inputEnds ((rdbFile f).drop f.body.length) = true := by
  have hdrop : ∀ tail : Bytes, (f.body ++ tail).drop f.body.length = tail := fun tail => by simp
  unfold rdbFile inputEnds
  simp only [hdrop]
  cases f.footer <;> simp [le64, leN_length]

theorem verifyDumpPayload_parts (rv : Nat) (b v c : Bytes) (hv : v.length = 2) (hc : c.length = 8) :
    verifyDumpPayload rv (b ++ v ++ c) =
      (decide (ofLE v ≤ rv) && decide (ofLE c = (crc64Spec (b ++ v)).toNat)) := by
  have hl : (b ++ v ++ c).length = b.length + 10 := by simp only [List.length_append, hv, hc]
  have h10 : b.length + 10 - 10 = b.length := by omega
  have h8 : b.length + 10 - 8 = (b ++ v).length := by simp only [List.length_append, hv]; omega
  unfold verifyDumpPayload
  rw [if_neg (by omega), hl, h10, h8, List.drop_left' rfl, List.append_assoc, List.take_left' rfl, List.drop_left' rfl,
    ← hv, List.take_left' rfl]

end GunYu.Rdb
