/-
  Helper lemmas for C03: decimal rendering and parsing are inverse
  (`decToNat? (natToDec n) = some n`, `parseInt64 (intToDec v) = some v`).
-/
import GunYu.Model.Rdb.Listpack
import GunYu.Proofs.Rdb.Str

namespace GunYu.Rdb
open GunYu

def decStep (a : Nat) (b : UInt8) : Nat := a * 10 + (b.toNat - 48)

theorem digit_byte (d : Nat) (h : d < 10) :
    isDigit (UInt8.ofNat (48 + d)) = true ∧ (UInt8.ofNat (48 + d)).toNat - 48 = d := by
  have hb := u8_toNat (48 + d) (by omega)
  constructor
  · unfold isDigit
    simp only [Bool.and_eq_true, decide_eq_true_eq, UInt8.le_iff_toNat_le, hb]
    constructor
    · have : (48 : UInt8).toNat = 48 := by decide
      omega
    · have : (57 : UInt8).toNat = 57 := by decide
      omega
  · omega

/-- the digits `natToDecAux` prepends: non-empty, all digits, value `n` -/
theorem natToDecAux_spec (fuel n : Nat) (acc : Bytes) (h : n < fuel) :
    ∃ ds : Bytes, natToDecAux fuel n acc = ds ++ acc ∧ ds ≠ [] ∧ ds.all isDigit = true ∧
      ∀ a, ds.foldl decStep a = a * 10 ^ ds.length + n := by
  induction fuel generalizing n acc with
  | zero => omega
  | succ fuel ih =>
    obtain ⟨hd1, hd2⟩ := digit_byte (n % 10) (Nat.mod_lt _ (by decide))
    simp only [natToDecAux]
    by_cases h0 : n / 10 = 0
    · simp only [h0, if_true]
      refine ⟨[UInt8.ofNat (48 + n % 10)], rfl, by simp, by simp only [List.all_cons, List.all_nil, hd1, Bool.and_true], ?_⟩
      intro a
      simp only [List.foldl_cons, List.foldl_nil, decStep, hd2, List.length_singleton, Nat.pow_one]
      omega
    · simp only [h0, if_false]
      have hlt : n / 10 < fuel := by omega
      obtain ⟨ds, hds, hne, hall, hval⟩ := ih (n / 10) (UInt8.ofNat (48 + n % 10) :: acc) hlt
      refine ⟨ds ++ [UInt8.ofNat (48 + n % 10)], by rw [hds]; simp, by simp, ?_, ?_⟩
      · simp only [List.all_append, List.all_cons, List.all_nil, hall, hd1, Bool.and_true]
      · intro a
        rw [List.foldl_append, hval]
        simp only [List.foldl_cons, List.foldl_nil, decStep, hd2, List.length_append, List.length_singleton,
          Nat.pow_succ]
        have : n = n / 10 * 10 + n % 10 := by omega
        rw [Nat.add_mul, Nat.mul_assoc]
        omega

theorem natToDec_spec (n : Nat) :
    ∃ ds : Bytes, natToDec n = ds ∧ ds ≠ [] ∧ ds.all isDigit = true ∧ ds.foldl decStep 0 = n := by
  obtain ⟨ds, h1, h2, h3, h4⟩ := natToDecAux_spec (n + 1) n [] (by omega)
  refine ⟨ds, by rw [natToDec, h1]; simp, h2, h3, ?_⟩
  rw [h4]; simp

theorem decToNat_natToDec (n : Nat) : decToNat? (natToDec n) = some n := by
  obtain ⟨ds, h1, h2, h3, h4⟩ := natToDec_spec n
  rw [h1]
  unfold decToNat?
  have : ds.isEmpty = false := by cases ds <;> simp_all
  simp only [this, Bool.false_eq_true, if_false, h3, if_true]
  have : (fun acc (b : UInt8) => acc * 10 + (b.toNat - 48)) = decStep := rfl
  rw [this, h4]

theorem natToDec_head (n : Nat) : ∃ c r, natToDec n = c :: r ∧ isDigit c = true := by
  obtain ⟨ds, h1, h2, h3, _⟩ := natToDec_spec n
  cases ds with
  | nil => exact absurd rfl h2
  | cons c r =>
    refine ⟨c, r, h1, ?_⟩
    simp only [List.all_cons, Bool.and_eq_true] at h3
    exact h3.1

theorem isDigit_ne (c : UInt8) (h : isDigit c = true) : c ≠ 45 ∧ c ≠ 43 :=
  ⟨fun e => by subst e; exact absurd h (by decide), fun e => by subst e; exact absurd h (by decide)⟩

/-- `strconv.ParseInt` reads back what `strconv.FormatInt` wrote -/
theorem parseInt64_intToDec (v : Int) (h : inSigned 64 v) : parseInt64 (intToDec v) = some v := by
  obtain ⟨h1, h2⟩ := h
  have h1' : -(2 ^ 63 : Int) ≤ v := by simpa using h1
  have h2' : v < (2 ^ 63 : Int) := by simpa using h2
  unfold intToDec
  by_cases hneg : v < 0
  · simp only [hneg, if_true, parseInt64, decToNat_natToDec]
    have hle : v.natAbs ≤ 2 ^ 63 := by omega
    simp [hle]
    omega
  · simp only [hneg, if_false]
    obtain ⟨c, r, hcr, hd⟩ := natToDec_head v.toNat
    obtain ⟨n45, n43⟩ := isDigit_ne c hd
    have hdec := decToNat_natToDec v.toNat
    rw [hcr] at hdec ⊢
    simp only [parseInt64, n45, n43, if_false, hdec]
    have hlt : v.toNat < 2 ^ 63 := by omega
    simp [hlt]
    omega

end GunYu.Rdb
