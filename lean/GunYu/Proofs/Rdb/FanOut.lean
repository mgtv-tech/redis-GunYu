/-
  Helper lemmas for C03 about the replay model: the branches of `replayEntry` and
  `expandEntry` as equations, what the requests of an entry are, what an entry does to
  the existence table; and the keyed fan-out keeps, on every worker, the requests of the
  entries routed to it in snapshot order.
-/
import GunYu.Model.Rdb.Replay

namespace GunYu.Rdb
open GunYu

/-- the connection after the DB switch of `workerStep` -/
def afterSelect (cfg : RCfg) (w : Worker) (e : Entry) : Worker :=
  if e.db = -1 then w else
  if mapDb cfg e.db ≠ w.cur then
    { cur := mapDb cfg e.db, log := w.log ++ [cmdB b!"select" [intToDec (mapDb cfg e.db)]] } else w

theorem afterSelect_shape (cfg : RCfg) (w : Worker) (e : Entry) :
    ∃ d, (afterSelect cfg w e).log = w.log ++ d ∧ ∀ c ∈ d, c = cmdB b!"select" [intToDec (mapDb cfg e.db)] := by
  unfold afterSelect
  split
  · exact ⟨[], by simp, fun c hc => by cases hc⟩
  · split
    · exact ⟨_, rfl, fun c hc => by simpa using hc⟩
    · exact ⟨[], by simp, fun c hc => by cases hc⟩

theorem workerStep_eq (cfg : RCfg) (w : Worker) (ex : Exists) (e : Entry) :
    workerStep cfg w ex e =
      if e.db ≠ -1 ∧ cfg.filterDb e.db then (w, ex, true) else
      if cfg.filterKey e.key then (afterSelect cfg w e, ex, true) else
      let r := replayEntry { cfg with now := cfg.now + cfg.tick * (afterSelect cfg w e).log.length }
        (afterSelect cfg w e).cur ex e
      ({ afterSelect cfg w e with log := (afterSelect cfg w e).log ++ r.1 }, r.2.1, r.2.2) := by
  unfold workerStep afterSelect
  rfl

/-- `restoreCmd` of `Replay`: RESTORE is tried first -/
def sendsRestore (cfg : RCfg) (p : PObj) : Bool :=
  cfg.enableRestore && !(decide (p.valueDumpSize > cfg.maxBulk) || p.isSplited)

/-- `IDLETIME` / `FREQ` of a RESTORE request (targets from 5.0 on) -/
def restoreOpts (cfg : RCfg) (e : Entry) : List Bytes :=
  if cfg.x.tgtMajor ≥ 5 then
    (if e.idle ≠ 0 then [b!"IDLETIME", natToDec e.idle] else []) ++
    (if e.freq ≠ 0 then [b!"FREQ", natToDec e.freq] else [])
  else []

/-- the RESTORE requests for `e` (its key already the one it is replayed to): one, and one
    more with REPLACE when the key is known to exist -/
def restoreCmds (cfg : RCfg) (db : Int) (ex : Exists) (e : Entry) : List Cmd :=
  let params := e.key :: natToDec (ttlOf cfg.now e.expireAt) :: e.obj.dump :: restoreOpts cfg e
  if ex.has db e.key then [cmdB b!"restore" params, cmdB b!"restore" (params ++ [b!"REPLACE"])]
  else [cmdB b!"restore" params]

/-- the probe of a first chunk, with DEL when the key is known to exist -/
def probeCmds (db : Int) (ex : Exists) (e : Entry) : List Cmd :=
  if e.obj.firstBin then
    cmdB b!"exists" [e.key] :: (if ex.has db e.key then [cmdB b!"del" [e.key]] else [])
  else []

def expireCmds (cfg : RCfg) (e : Entry) : List Cmd :=
  if e.expireAt ≠ 0 then [cmdB b!"pexpire" [e.key, natToDec (ttlOf cfg.now e.expireAt)]] else []

theorem replayEntry_unknown (cfg : RCfg) (db : Int) (ex : Exists) (e : Entry)
    (h : otypeOf e.obj.rtype = none) : replayEntry cfg db ex e = ([], ex, false) := by
  simp only [replayEntry, h]

theorem replayEntry_keyless (cfg : RCfg) (db : Int) (ex : Exists) (e : Entry) (ot : OType)
    (h : otypeOf e.obj.rtype = some ot) (hot : ot = .function ∨ ot = .aux) :
    replayEntry cfg db ex e = ((execCmd cfg.x e.obj).getD [], ex, (execCmd cfg.x e.obj).isSome) := by
  simp only [replayEntry, h, hot, if_true]
  cases execCmd cfg.x e.obj <;> rfl

theorem replayEntry_expand (cfg : RCfg) (db : Int) (ex : Exists) (e : Entry) (ot : OType)
    (h : otypeOf e.obj.rtype = some ot) (hot : ¬ (ot = .function ∨ ot = .aux))
    (hr : sendsRestore cfg e.obj = false) :
    replayEntry cfg db ex e = expandEntry cfg db ex { e with key := dstKey cfg e.key } ot e.key := by
  unfold sendsRestore at hr
  simp only [replayEntry, h, hot, if_false, hr, Bool.not_false, if_true]

theorem replayEntry_restore (cfg : RCfg) (db : Int) (ex : Exists) (e : Entry) (ot : OType)
    (h : otypeOf e.obj.rtype = some ot) (hot : ¬ (ot = .function ∨ ot = .aux))
    (hr : sendsRestore cfg e.obj = true) (hl : typeLoadable cfg.x.tgtMajor e.obj.rtype = true) :
    replayEntry cfg db ex e =
      (restoreCmds cfg db ex { e with key := dstKey cfg e.key },
       if e.expireAt ≠ 0 ∧ ttlOf cfg.now e.expireAt = 1 then ex.del db (dstKey cfg e.key)
       else ex.add db (dstKey cfg e.key), true) := by
  unfold sendsRestore at hr
  simp only [replayEntry, h, hot, if_false, hr, Bool.not_true, Bool.false_eq_true, hl, if_true]
  rfl

theorem replayEntry_fallback (cfg : RCfg) (db : Int) (ex : Exists) (e : Entry) (ot : OType)
    (h : otypeOf e.obj.rtype = some ot) (hot : ¬ (ot = .function ∨ ot = .aux))
    (hr : sendsRestore cfg e.obj = true) (hl : typeLoadable cfg.x.tgtMajor e.obj.rtype = false) :
    replayEntry cfg db ex e =
      (restoreCmds cfg db ex { e with key := dstKey cfg e.key } ++
         (expandEntry cfg db ex { e with key := dstKey cfg e.key } ot e.key).1,
       (expandEntry cfg db ex { e with key := dstKey cfg e.key } ot e.key).2) := by
  unfold sendsRestore at hr
  simp only [replayEntry, h, hot, if_false, hr, Bool.not_true, Bool.false_eq_true, hl]
  rfl

theorem expandEntry_module (cfg : RCfg) (db : Int) (ex : Exists) (e : Entry) (src : Bytes) :
    expandEntry cfg db ex e .module src = ([], ex, false) := by
  simp only [expandEntry, if_true]

theorem expandEntry_none (cfg : RCfg) (db : Int) (ex : Exists) (e : Entry) (ot : OType) (src : Bytes)
    (hot : ot ≠ .module) (hx : execCmd cfg.x e.obj = none) :
    expandEntry cfg db ex e ot src = (probeCmds db ex e, ex, false) := by
  simp only [expandEntry, hot, if_false, hx, Option.map_none, probeCmds]

theorem expandEntry_some (cfg : RCfg) (db : Int) (ex : Exists) (e : Entry) (ot : OType) (src : Bytes)
    (cs : List Cmd) (hot : ot ≠ .module) (hx : execCmd cfg.x e.obj = some cs) :
    (expandEntry cfg db ex e ot src).1 =
      probeCmds db ex e ++ cs.map (rewriteCmd src e.key) ++ expireCmds cfg e ∧
    (expandEntry cfg db ex e ot src).2.2 = true := by
  simp only [expandEntry, hot, if_false, hx, Option.map_some, probeCmds, expireCmds, and_self]

theorem dstKey_off (cfg : RCfg) (k : Bytes) (h : cfg.replaceHashTag = false) : dstKey cfg k = k := by
  simp only [dstKey, h, Bool.false_eq_true, if_false]

theorem entry_key_off (cfg : RCfg) (e : Entry) (h : cfg.replaceHashTag = false) :
    ({ e with key := dstKey cfg e.key } : Entry) = e := by
  rw [dstKey_off cfg e.key h]

theorem rewrite_self (k : Bytes) (cs : List Cmd) : cs.map (rewriteCmd k k) = cs := by
  induction cs with
  | nil => rfl
  | cons c cs ih => simp [rewriteCmd, ih]

theorem replay_keyless (cfg : RCfg) (db : Int) (ex : Exists) (e : Entry) (ot : OType)
    (hot : otypeOf e.obj.rtype = some ot) (hk : ot = .function ∨ ot = .aux) :
    ∃ cs, replayEntry cfg db ex e = (cs, ex, true) ∧
      ∀ c ∈ cs, lower c.name = b!"script" ∨ lower c.name = b!"function" := by
  rw [replayEntry_keyless cfg db ex e ot hot hk]
  rcases hk with rfl | rfl <;> simp only [execCmd, hot] <;> split
  · exact ⟨_, rfl, fun c hc => by cases List.mem_singleton.mp hc; exact Or.inr (show lower b!"FUNCTION" = b!"function" by decide)⟩
  · exact ⟨[], rfl, fun c hc => by cases hc⟩
  · exact ⟨_, rfl, fun c hc => by cases List.mem_singleton.mp hc; exact Or.inl (show lower b!"script" = b!"script" by decide)⟩
  · exact ⟨[], rfl, fun c hc => by cases hc⟩

theorem exists_add_has (ex : Exists) (D : Int) (k : Bytes) (D' : Int) (k' : Bytes)
    (h : (Exists.add ex D k).has D' k' = true) : ex.has D' k' = true ∨ (D' = D ∧ k' = k) := by
  unfold Exists.add at h
  split at h
  · exact Or.inl h
  · simp only [Exists.has, List.any_cons, Bool.or_eq_true, Bool.and_eq_true, beq_iff_eq] at h
    rcases h with ⟨h1, h2⟩ | h
    · exact Or.inr ⟨h1.symm, h2.symm⟩
    · exact Or.inl (by simpa [Exists.has] using h)

theorem exists_del_has (ex : Exists) (D : Int) (k : Bytes) (D' : Int) (k' : Bytes)
    (h : (Exists.del ex D k).has D' k' = true) : ex.has D' k' = true := by
  simp only [Exists.del, Exists.has, List.any_filter, List.any_eq_true, Bool.and_eq_true] at h ⊢
  obtain ⟨x, hx, _, h2⟩ := h
  exact ⟨x, hx, h2⟩

def ExGrows (ex ex' : Exists) (D : Int) (k : Bytes) : Prop :=
  ∀ D' k', ex'.has D' k' = true → ex.has D' k' = true ∨ (D' = D ∧ k' = k)

theorem exGrows_refl (ex : Exists) (D : Int) (k : Bytes) : ExGrows ex ex D k := fun _ _ h => Or.inl h

theorem exGrows_add {ex ex' : Exists} {D : Int} {k : Bytes} (h : ExGrows ex ex' D k) : ExGrows ex (ex'.add D k) D k := by
  intro D' k' h'
  rcases exists_add_has ex' D k D' k' h' with h1 | h1
  · exact h D' k' h1
  · exact Or.inr h1

theorem exGrows_del {ex ex' : Exists} {D : Int} {k : Bytes} (h : ExGrows ex ex' D k) : ExGrows ex (ex'.del D k) D k :=
  fun D' k' h' => h D' k' (exists_del_has ex' D k D' k' h')

theorem exGrows_ite {ex a b : Exists} {D : Int} {k : Bytes} (c : Prop) [Decidable c]
    (ha : ExGrows ex a D k) (hb : ExGrows ex b D k) : ExGrows ex (if c then a else b) D k := by
  split <;> assumption

theorem exGrows_trans {ex ex1 ex2 : Exists} {D : Int} {k : Bytes} (h1 : ExGrows ex ex1 D k) (h2 : ExGrows ex1 ex2 D k) :
    ExGrows ex ex2 D k := by
  intro D' k' h
  rcases h2 D' k' h with h | h
  · exact h1 D' k' h
  · exact Or.inr h

theorem expandEntry_grows (cfg : RCfg) (db : Int) (ex : Exists) (e : Entry) (ot : OType) (src : Bytes) :
    ExGrows ex (expandEntry cfg db ex e ot src).2.1 db e.key := by
  by_cases hot : ot = .module
  · rw [hot, expandEntry_module]; exact exGrows_refl _ _ _
  · cases hx : execCmd cfg.x e.obj with
    | none => rw [expandEntry_none cfg db ex e ot src hot hx]; exact exGrows_refl _ _ _
    | some cs =>
      simp only [expandEntry, hot, if_false, hx, Option.map_some]
      have h1 := exGrows_ite (e.obj.firstBin = true) (exGrows_del (exGrows_refl ex db e.key)) (exGrows_refl ex db e.key)
      have h2 := exGrows_ite ((cs.map (rewriteCmd src e.key)).isEmpty = true) h1 (exGrows_add h1)
      exact exGrows_ite _ (exGrows_del h2) h2

theorem replayEntry_grows (cfg : RCfg) (db : Int) (ex : Exists) (e : Entry) :
    ExGrows ex (replayEntry cfg db ex e).2.1 db (dstKey cfg e.key) := by
  cases hot : otypeOf e.obj.rtype with
  | none => rw [replayEntry_unknown cfg db ex e hot]; exact exGrows_refl _ _ _
  | some ot =>
    by_cases hk : ot = .function ∨ ot = .aux
    · rw [replayEntry_keyless cfg db ex e ot hot hk]; exact exGrows_refl _ _ _
    · cases hr : sendsRestore cfg e.obj with
      | false => rw [replayEntry_expand cfg db ex e ot hot hk hr]; exact expandEntry_grows _ _ _ _ _ _
      | true =>
        cases hl : typeLoadable cfg.x.tgtMajor e.obj.rtype with
        | true =>
          rw [replayEntry_restore cfg db ex e ot hot hk hr hl]
          exact exGrows_ite _ (exGrows_del (exGrows_refl _ _ _)) (exGrows_add (exGrows_refl _ _ _))
        | false => rw [replayEntry_fallback cfg db ex e ot hot hk hr hl]; exact expandEntry_grows _ _ _ _ _ _

/-- the names of the commands a string / list / set / sorted-set / hash value expands to -/
def plainExpNames : List Bytes := [b!"set", b!"RPUSH", b!"SADD", b!"ZADD", b!"HSET"]

/-- EXISTS / DEL / PEXPIRE / RESTORE on `key`: what `Replay` issues itself, next to the expansion -/
def KeyReq (key : Bytes) (c : Cmd) : Prop :=
  ∃ name rest, name ∈ [b!"exists", b!"del", b!"pexpire", b!"restore"] ∧ c = cmdB name (key :: rest)

theorem mem_restoreCmds (cfg : RCfg) (db : Int) (ex : Exists) (e : Entry) (c : Cmd)
    (hc : c ∈ restoreCmds cfg db ex e) : KeyReq e.key c := by
  unfold restoreCmds at hc
  cases h : ex.has db e.key
  · simp only [h, Bool.false_eq_true, if_false, List.mem_singleton] at hc
    exact ⟨b!"restore", _, by decide, hc⟩
  · simp only [h, if_true, List.mem_cons, List.not_mem_nil, or_false] at hc
    rcases hc with rfl | rfl <;> exact ⟨b!"restore", _, by decide, rfl⟩

theorem mem_probeCmds (db : Int) (ex : Exists) (e : Entry) (c : Cmd) (hc : c ∈ probeCmds db ex e) :
    KeyReq e.key c := by
  unfold probeCmds at hc
  split at hc
  · rcases List.mem_cons.mp hc with rfl | hc
    · exact ⟨b!"exists", [], by decide, rfl⟩
    · split at hc
      · exact ⟨b!"del", [], by decide, List.mem_singleton.mp hc⟩
      · cases hc
  · cases hc

theorem mem_expireCmds (cfg : RCfg) (e : Entry) (c : Cmd) (hc : c ∈ expireCmds cfg e) : KeyReq e.key c := by
  unfold expireCmds at hc
  split at hc
  · exact ⟨b!"pexpire", _, by decide, List.mem_singleton.mp hc⟩
  · cases hc

theorem mem_expandEntry (cfg : RCfg) (db : Int) (ex : Exists) (e : Entry) (ot : OType) (src : Bytes) (c : Cmd)
    (hc : c ∈ (expandEntry cfg db ex e ot src).1) :
    (∃ cs c0, execCmd cfg.x e.obj = some cs ∧ c0 ∈ cs ∧ c = rewriteCmd src e.key c0) ∨ KeyReq e.key c := by
  by_cases hot : ot = .module
  · rw [hot, expandEntry_module] at hc; cases hc
  · cases hx : execCmd cfg.x e.obj with
    | none =>
      rw [expandEntry_none cfg db ex e ot src hot hx] at hc
      exact Or.inr (mem_probeCmds db ex e c hc)
    | some cs =>
      rw [(expandEntry_some cfg db ex e ot src cs hot hx).1, List.mem_append, List.mem_append] at hc
      rcases hc with (hc | hc) | hc
      · exact Or.inr (mem_probeCmds db ex e c hc)
      · obtain ⟨c0, h0, rfl⟩ := List.mem_map.mp hc
        exact Or.inl ⟨cs, c0, rfl, h0, rfl⟩
      · exact Or.inr (mem_expireCmds cfg e c hc)

/-- every request of an entry is a command of its expansion — with the key argument rewritten on
    the expansion path — or EXISTS / DEL / PEXPIRE / RESTORE on the key it is replayed to -/
theorem mem_replayEntry (cfg : RCfg) (db : Int) (ex : Exists) (e : Entry) (c : Cmd)
    (hc : c ∈ (replayEntry cfg db ex e).1) :
    (∃ cs c0, execCmd cfg.x e.obj = some cs ∧ c0 ∈ cs ∧
      (c = c0 ∨ c = rewriteCmd e.key (dstKey cfg e.key) c0)) ∨ KeyReq (dstKey cfg e.key) c := by
  have hexp : ∀ ot, c ∈ (expandEntry cfg db ex { e with key := dstKey cfg e.key } ot e.key).1 →
      (∃ cs c0, execCmd cfg.x e.obj = some cs ∧ c0 ∈ cs ∧
        (c = c0 ∨ c = rewriteCmd e.key (dstKey cfg e.key) c0)) ∨ KeyReq (dstKey cfg e.key) c := by
    intro ot h
    rcases mem_expandEntry cfg db ex _ ot e.key c h with ⟨cs, c0, h1, h2, h3⟩ | h
    · exact Or.inl ⟨cs, c0, h1, h2, Or.inr h3⟩
    · exact Or.inr h
  cases hot : otypeOf e.obj.rtype with
  | none => rw [replayEntry_unknown cfg db ex e hot] at hc; cases hc
  | some ot =>
    by_cases hk : ot = .function ∨ ot = .aux
    · rw [replayEntry_keyless cfg db ex e ot hot hk] at hc
      cases hx : execCmd cfg.x e.obj with
      | none => rw [hx] at hc; cases hc
      | some cs => rw [hx] at hc; exact Or.inl ⟨cs, c, rfl, hc, Or.inl rfl⟩
    · cases hr : sendsRestore cfg e.obj with
      | false => rw [replayEntry_expand cfg db ex e ot hot hk hr] at hc; exact hexp ot hc
      | true =>
        cases hl : typeLoadable cfg.x.tgtMajor e.obj.rtype with
        | true =>
          rw [replayEntry_restore cfg db ex e ot hot hk hr hl] at hc
          exact Or.inr (mem_restoreCmds cfg db ex _ c hc)
        | false =>
          rw [replayEntry_fallback cfg db ex e ot hot hk hr hl, List.mem_append] at hc
          rcases hc with hc | hc
          · exact Or.inr (mem_restoreCmds cfg db ex _ c hc)
          · exact hexp ot hc

theorem workerStep_log (cfg : RCfg) (w : Worker) (ex : Exists) (e : Entry) :
    ∃ d, (workerStep cfg w ex e).1.log = w.log ++ d := by
  rw [workerStep_eq]
  obtain ⟨d1, h1, _⟩ := afterSelect_shape cfg w e
  split
  · exact ⟨[], by simp⟩
  · split
    · exact ⟨d1, h1⟩
    · simp only
      rw [h1]
      exact ⟨_, List.append_assoc _ _ _⟩

theorem workerStep_log_drop (cfg : RCfg) (w : Worker) (ex : Exists) (e : Entry) :
    (workerStep cfg w ex e).1.log = w.log ++ (workerStep cfg w ex e).1.log.drop w.log.length := by
  obtain ⟨d, hd⟩ := workerStep_log cfg w ex e
  rw [hd, List.drop_left]

theorem workerOf_lt (cfg : RCfg) (n : Nat) (e : Entry) (idx : Nat) (hn : 0 < n) : workerOf cfg n e idx < n := by
  unfold workerOf; split <;> exact Nat.mod_lt _ hn

theorem getD_set_eq (ws : List Worker) (i : Nat) (w : Worker) (h : i < ws.length) :
    (ws.set i w).getD i {} = w := by
  simp [List.getD, h]

theorem getD_set_ne (ws : List Worker) (i j : Nat) (w : Worker) (h : i ≠ j) :
    (ws.set i w).getD j {} = ws.getD j {} := by
  simp [List.getD, List.getElem?_set_ne h]

/-- every worker's log after the fan-out is its log before, followed by the
    request blocks of exactly the entries routed to it, in snapshot order -/
theorem fanOut_logs (cfg : RCfg) (es : List Entry) (idx : Nat) (ws : List Worker) (ex : Exists)
    (hn : 0 < ws.length) (j : Nat) (hj : j < ws.length) :
    ((fanOut cfg es idx ws ex).1.getD j {}).log =
      (ws.getD j {}).log ++ ((fanOutTrace cfg es idx ws ex).filter (fun p => p.1 == j)).flatMap (·.2) := by
  induction es generalizing idx ws ex with
  | nil => simp [fanOut, fanOutTrace]
  | cons e es ih =>
    have hlt := workerOf_lt cfg ws.length e idx hn
    simp only [fanOut, fanOutTrace]
    generalize hi : workerOf cfg ws.length e idx = i at hlt ⊢
    have hdrop := workerStep_log_drop cfg (ws.getD i {}) ex e
    generalize hstep : workerStep cfg (ws.getD i {}) ex e = r at hdrop ⊢
    obtain ⟨w', ex', ok⟩ := r
    simp only at hdrop ⊢
    have hlen : (ws.set i w').length = ws.length := by simp
    cases ok with
    | true =>
      simp only [if_true]
      rw [ih i (ws.set i w') ex' (by rw [hlen]; exact hn) (by rw [hlen]; exact hj)]
      by_cases hij : i = j
      · subst hij
        rw [getD_set_eq ws i w' hlt]
        simp only [List.filter_cons, beq_self_eq_true, if_true, List.flatMap_cons]
        rw [← List.append_assoc, ← hdrop]
      · rw [getD_set_ne ws i j w' hij]
        have : (i == j) = false := by simp [hij]
        simp only [List.filter_cons, this, Bool.false_eq_true, if_false]
    | false =>
      simp only [Bool.false_eq_true, if_false]
      by_cases hij : i = j
      · subst hij
        rw [getD_set_eq ws i w' hlt]
        simp only [List.filter_cons, beq_self_eq_true, if_true, List.flatMap_cons, List.filter_nil,
          List.flatMap_nil, List.append_nil]
        exact hdrop
      · rw [getD_set_ne ws i j w' hij]
        have : (i == j) = false := by simp [hij]
        simp [this]

end GunYu.Rdb
