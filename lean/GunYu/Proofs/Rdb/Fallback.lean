/-
  Helper lemmas for C03: the `Bad data format` fall-back of `RdbReplay.Replay` on a version-aware
  target (`RedisSem.applyCmdsV`): the RESTORE of a value type the target cannot load is refused without
  effect; the value then goes through the same probe / expansion / PEXPIRE path as without RESTORE.
-/
import GunYu.Proofs.Rdb.SyncS
import GunYu.Model.Rdb.TargetV

namespace GunYu.Rdb
open GunYu GunYu.RedisSem

theorem dump_head (t : UInt8) (raw : Bytes) : ∃ r, createValueDump t raw = t :: r := by
  simp only [createValueDump]
  exact ⟨_, rfl⟩

theorem refused_restore (major : Nat) (k ttl : Bytes) (t : UInt8) (raw : Bytes) (opts : List Bytes) :
    refused major (cmdB b!"restore" (k :: ttl :: createValueDump t raw :: opts)) = !typeLoadable major t := by
  obtain ⟨r, hr⟩ := dump_head t raw
  simp [refused, cmdB, hr, lower_restore]

theorem not_refused_of_name (major : Nat) (c : Cmd) (h : lower c.name ≠ b!"restore") : refused major c = false := by
  simp [refused, h]

theorem applyCmdsV_eq (major : Nat) : ∀ (cs : List Cmd) (ks : Keyspace), (∀ c ∈ cs, refused major c = false) →
    applyCmdsV major ks cs = applyCmds ks cs := by
  intro cs
  induction cs with
  | nil => intro ks _; rfl
  | cons c cs ih =>
    intro ks h
    simp only [applyCmdsV, applyCmds, applyXCmdV, h c (List.mem_cons_self ..), Bool.false_eq_true, if_false]
    cases applyXCmd ks c with
    | none => rfl
    | some ks' => exact ih ks' (fun x hx => h x (List.mem_cons_of_mem _ hx))

theorem applyReqsV_eq (major : Nat) : ∀ (cs : List Cmd) (t : TState), (∀ c ∈ cs, refused major c = false) →
    applyReqsV major t cs = applyReqs t cs := by
  intro cs
  induction cs with
  | nil => intro t _; rfl
  | cons c cs ih =>
    intro t h
    simp only [applyReqsV, applyReqs, applyReqV, h c (List.mem_cons_self ..), Bool.false_eq_true, if_false]
    cases applyReq t c with
    | none => rfl
    | some t' => exact ih t' (fun x hx => h x (List.mem_cons_of_mem _ hx))

theorem ne_restore_name (c : Cmd) (n : Bytes) (hc : c.name = n) (h : lower n ≠ b!"restore") :
    lower c.name ≠ b!"restore" := by subst hc; exact h

theorem fallback_apply (major : Nat) (ks : Keyspace) (k ttlB : Bytes) (t : UInt8) (raw : Bytes) (opts : List Bytes)
    (cs : List Cmd) (v : Val) (exp ttl : Nat)
    (hnl : typeLoadable major t = false) (hnr : ∀ c ∈ cs, lower c.name ≠ b!"restore")
    (hfresh : RedisSem.get ks k = none) (happ : applyCmds ks cs = some (ks ++ [(k, v, 0)]))
    (httl : exp = 0 → ttl = 0) :
    applyCmdsV major ks (cmdB b!"restore" (k :: ttlB :: createValueDump t raw :: opts) ::
      ([cmdB b!"exists" [k]] ++ cs ++ (if exp ≠ 0 then [cmdB b!"pexpire" [k, natToDec ttl]] else []))) =
      some (ks ++ [(k, v, ttl)]) := by
  simp only [applyCmdsV, applyXCmdV, refused_restore, hnl, Bool.not_false, if_true]
  rw [applyCmdsV_eq major _ ks, apply_expand ks k cs v exp ttl hfresh happ httl]
  intro c hc
  apply not_refused_of_name
  simp only [List.mem_append] at hc
  rcases hc with (hc | hc) | hc
  · simp only [List.mem_singleton] at hc; subst hc; exact ne_restore_name _ b!"exists" rfl (by decide)
  · exact hnr c hc
  · split at hc
    · simp only [List.mem_singleton] at hc; subst hc; exact ne_restore_name _ b!"pexpire" rfl (by decide)
    · simp at hc

/-- the fall-back of one unsplit entry, for any value kind whose expansion is known -/
theorem restore_fallback_core (cfg : RCfg) (db : Int) (ex : Exists) (e : Entry) (k : Bytes) (o : ObjE) (ks : Keyspace)
    (ot : OType) (cs : List Cmd) (v : Val)
    (hobj : e.obj = pobjOf k o) (hkey : e.key = k)
    (hot : otypeOf o.rtype = some ot) (h1 : ¬ (ot = .function ∨ ot = .aux)) (h3 : ot ≠ .module)
    (hexec : execCmd cfg.x (pobjOf k o) = some cs) (hnr : ∀ c ∈ cs, lower c.name ≠ b!"restore")
    (happ : applyCmds ks cs = some (ks ++ [(k, v, 0)]))
    (hv : viaRestore cfg o) (hnl : typeLoadable cfg.x.tgtMajor o.rtype = false)
    (hrht : cfg.replaceHashTag = false) (hex : ex.has db k = false) (hfresh : RedisSem.get ks k = none) :
    (∃ opts, (replayEntry cfg db ex e).1 =
      cmdB b!"restore" (k :: natToDec (ttlOf cfg.now e.expireAt) :: createValueDump o.rtype o.ser :: opts) ::
        ([cmdB b!"exists" [k]] ++ cs ++
          (if e.expireAt ≠ 0 then [cmdB b!"pexpire" [k, natToDec (ttlOf cfg.now e.expireAt)]] else []))) ∧
    (replayEntry cfg db ex e).2.2 = true ∧
    applyCmdsV cfg.x.tgtMajor ks (replayEntry cfg db ex e).1 =
      some (ks ++ [(k, v, ttlOf cfg.now e.expireAt)]) := by
  have hr : sendsRestore cfg e.obj = true := by rw [hobj]; exact (sendsRestore_pobjOf cfg _ _).mpr hv
  obtain ⟨hx1, hok⟩ := expandEntry_some cfg db ex e ot e.key cs h3 (by rw [hobj]; exact hexec)
  -- the requests: the refused RESTORE, then probe, expansion, PEXPIRE
  have hreq : restoreCmds cfg db ex e ++ (expandEntry cfg db ex e ot e.key).1 =
      cmdB b!"restore" (k :: natToDec (ttlOf cfg.now e.expireAt) :: createValueDump o.rtype o.ser :: restoreOpts cfg e) ::
        ([cmdB b!"exists" [k]] ++ cs ++
          (if e.expireAt ≠ 0 then [cmdB b!"pexpire" [k, natToDec (ttlOf cfg.now e.expireAt)]] else [])) := by
    rw [hx1, rewrite_self]
    simp only [restoreCmds, probeCmds, expireCmds, hkey, hex, Bool.false_eq_true, if_false, hobj]
    rfl
  rw [replayEntry_fallback cfg db ex e ot (by rw [hobj]; exact hot) h1 hr (by rw [hobj]; exact hnl),
    entry_key_off cfg e hrht]
  dsimp only
  rw [hreq]
  exact ⟨⟨_, rfl⟩, hok, fallback_apply cfg.x.tgtMajor ks k _ o.rtype o.ser _ cs v e.expireAt (ttlOf cfg.now e.expireAt)
    hnl hnr hfresh happ (fun h0 => by rw [h0]; exact ttlOf_zero _)⟩

end GunYu.Rdb
