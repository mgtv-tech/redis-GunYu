/-
  Helper lemmas for C03: whatever buffer `StreamParser.ExecCmd` (model `execStream`) is
  run on, every command it emits is named XADD, XSETID, XGROUP or XCLAIM — in particular
  never SELECT / SCRIPT / FUNCTION / RESTORE. (For ARBITRARY buffers: no well-formedness.)
-/
import GunYu.Proofs.Rdb.StreamKey

namespace GunYu.Rdb
open GunYu

def streamName (c : Cmd) : Prop :=
  c.name = b!"XADD" ∨ c.name = b!"XSETID" ∨ c.name = b!"XGROUP" ∨ c.name = b!"XCLAIM"

theorem execStream_names (x : XCfg) (t : UInt8) (key buf : Bytes) (cs : List Cmd)
    (h : execStream x t key buf = some cs) : ∀ c ∈ cs, streamName c := by
  intro c hc
  rcases execStream_onKey x t key buf cs h c hc with h | h | h | h
  · exact Or.inl h.1
  · exact Or.inr (Or.inl h.1)
  · exact Or.inr (Or.inr (Or.inl h.1))
  · exact Or.inr (Or.inr (Or.inr h.1))

end GunYu.Rdb
