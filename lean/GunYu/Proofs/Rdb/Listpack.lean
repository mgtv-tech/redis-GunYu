/-
  Helper lemmas for C03: listpack blobs decode to their logical contents.
-/
import GunYu.Model.Rdb.Listpack
import GunYu.Proofs.Rdb.Ziplist

namespace GunYu.Rdb
open GunYu

theorem lpSkip_backlen (l : Nat) : lpSkip l = l + (lpBacklen l).length := by
  unfold lpSkip lpBacklen
  simp only [apply_ite List.length, List.length_cons, List.length_nil, Nat.zero_add, Nat.reduceAdd,
    apply_ite (fun n => l + n)]

theorem lpSkip_bounds (n : Nat) : n < lpSkip n ∧ lpSkip n ≤ n + 5 := by
  unfold lpSkip
  repeat' split
  all_goals omega

theorem drop_entry (body rest : Bytes) :
    (body ++ lpBacklen body.length ++ rest).drop (lpSkip body.length) = rest := by
  rw [lpSkip_backlen]
  have : (body ++ lpBacklen body.length).length = body.length + (lpBacklen body.length).length := by simp
  rw [List.drop_left' this]

theorem lpNext_u7 (b : UInt8) (r : Bytes) (h : b.toNat / 128 = 0) :
    lpNext (b :: r) = some (natToDec (b.toNat % 128), (b :: r).drop (lpSkip 1)) := by
  simp only [lpNext, h, if_true]

theorem lpNext_s6 (b : UInt8) (r : Bytes) (h : b.toNat / 64 = 2) :
    lpNext (b :: r) = (readN (b.toNat % 64) r).map fun s => (s.1, (b :: r).drop (lpSkip (1 + b.toNat % 64))) := by
  have h1 : ¬ b.toNat / 128 = 0 := by omega
  simp only [lpNext, h, h1, if_true, if_false]
  cases readN (b.toNat % 64) r <;> rfl

theorem lpNext_i13 (b : UInt8) (r : Bytes) (h : b.toNat / 32 = 6) :
    lpNext (b :: r) = r.head?.map fun b1 => (lpInt 13 (b.toNat % 32 * 256 + b1.toNat), (b :: r).drop (lpSkip 2)) := by
  have h1 : ¬ b.toNat / 128 = 0 := by omega
  have h2 : ¬ b.toNat / 64 = 2 := by omega
  simp only [lpNext, h, h1, h2, if_true, if_false]
  cases r <;> rfl

theorem lpNext_s12 (b : UInt8) (r : Bytes) (h : b.toNat / 16 = 14) :
    lpNext (b :: r) = r.head?.bind fun b1 => (readN (b.toNat % 16 * 256 + b1.toNat) r.tail).map fun s =>
      (s.1, (b :: r).drop (lpSkip (2 + (b.toNat % 16 * 256 + b1.toNat)))) := by
  have h1 : ¬ b.toNat / 128 = 0 := by omega
  have h2 : ¬ b.toNat / 64 = 2 := by omega
  have h3 : ¬ b.toNat / 32 = 6 := by omega
  simp only [lpNext, h, h1, h2, h3, if_true, if_false]
  cases r with
  | nil => rfl
  | cons b1 r1 => cases hr : readN (b.toNat % 16 * 256 + b1.toNat) r1 <;> simp [hr]

theorem lpNext_s32 (b : UInt8) (r : Bytes) (h : b.toNat = 0xF0) :
    lpNext (b :: r) = (readN 4 r).bind fun lb => (readN (ofLE lb.1) lb.2).map fun s =>
      (s.1, (b :: r).drop (lpSkip (5 + ofLE lb.1))) := by
  simp only [lpNext, h]
  cases readN 4 r with
  | none => rfl
  | some lb => cases h2 : readN (ofLE lb.1) lb.2 <;> simp [h2]

theorem lpNext_le (b : UInt8) (r : Bytes) (w : Nat) (h : (b.toNat, w) ∈ [(0xF1, 2), (0xF2, 3), (0xF3, 4), (0xF4, 8)]) :
    lpNext (b :: r) = (readN w r).map fun v => (lpInt (8 * w) (ofLE v.1), (b :: r).drop (lpSkip (w + 1))) := by
  simp only [List.mem_cons, Prod.mk.injEq, List.mem_nil_iff, or_false] at h
  rcases h with ⟨h, rfl⟩ | ⟨h, rfl⟩ | ⟨h, rfl⟩ | ⟨h, rfl⟩ <;>
    simp only [lpNext, h, Nat.reduceDiv, Nat.reduceEqDiff, ↓reduceIte] <;> cases readN _ r <;> rfl

theorem lpNext_other (b : UInt8) (r : Bytes) (c1 : ¬ b.toNat / 128 = 0) (c2 : ¬ b.toNat / 64 = 2)
    (c3 : ¬ b.toNat / 32 = 6) (c4 : ¬ b.toNat / 16 = 14) (c5 : ¬ b.toNat = 0xF0) (c6 : ¬ b.toNat = 0xF1)
    (c7 : ¬ b.toNat = 0xF2) (c8 : ¬ b.toNat = 0xF3) (c9 : ¬ b.toNat = 0xF4) : lpNext (b :: r) = none := by
  simp only [lpNext, c1, c2, c3, c4, c5, c6, c7, c8, c9, if_false]

theorem lpNext_shorter (rem e rem' : Bytes) (h : lpNext rem = some (e, rem')) : rem'.length < rem.length := by
  cases rem with
  | nil => cases h
  | cons b r =>
    have key : ∀ n, ((b :: r).drop (lpSkip n)).length < (b :: r).length := by
      intro n
      have := (lpSkip_bounds n).1
      simp only [List.length_drop, List.length_cons]
      omega
    by_cases c1 : b.toNat / 128 = 0
    · rw [lpNext_u7 b r c1] at h
      cases h; exact key _
    by_cases c2 : b.toNat / 64 = 2
    · rw [lpNext_s6 b r c2] at h
      generalize readN (b.toNat % 64) r = o at h
      cases o <;> cases h; exact key _
    by_cases c3 : b.toNat / 32 = 6
    · rw [lpNext_i13 b r c3] at h
      generalize r.head? = o at h
      cases o <;> cases h; exact key _
    by_cases c4 : b.toNat / 16 = 14
    · rw [lpNext_s12 b r c4] at h
      simp only [Option.bind_eq_some_iff, Option.map_eq_some_iff, Prod.mk.injEq] at h
      obtain ⟨_, _, _, _, _, rfl⟩ := h
      exact key _
    by_cases c5 : b.toNat = 0xF0
    · rw [lpNext_s32 b r c5] at h
      simp only [Option.bind_eq_some_iff, Option.map_eq_some_iff, Prod.mk.injEq] at h
      obtain ⟨_, _, _, _, _, rfl⟩ := h
      exact key _
    by_cases c : ∃ w, (b.toNat, w) ∈ [(0xF1, 2), (0xF2, 3), (0xF3, 4), (0xF4, 8)]
    · obtain ⟨w, hw⟩ := c
      rw [lpNext_le b r w hw] at h
      generalize readN w r = o at h
      cases o <;> cases h; exact key _
    · rw [lpNext_other b r c1 c2 c3 c4 c5 (fun h => c ⟨2, by simp [h]⟩) (fun h => c ⟨3, by simp [h]⟩)
        (fun h => c ⟨4, by simp [h]⟩) (fun h => c ⟨8, by simp [h]⟩)] at h
      cases h

theorem lpNext_enc_le (w : Nat) (c : UInt8) (v : Int) (rest : Bytes) (hw : 0 < w)
    (hc : (c.toNat, w) ∈ [(0xF1, 2), (0xF2, 3), (0xF3, 4), (0xF4, 8)]) (h : inSigned (8 * w) v) :
    lpNext ((c :: leN w (ofSigned (8 * w) v)) ++ lpBacklen (c :: leN w (ofSigned (8 * w) v)).length ++ rest) =
      some (intToDec v, rest) := by
  have hdrop := drop_entry (c :: leN w (ofSigned (8 * w) v)) rest
  simp only [List.cons_append, List.append_assoc, List.length_cons, leN_length] at hdrop ⊢
  rw [lpNext_le _ _ w hc, readN_append' w _ _ (leN_length w _), Option.map_some, lpInt, int_le_roundtrip w v hw h, hdrop]

theorem lpNext_enc (e : LPEntry) (rest : Bytes) (h : e.wf) :
    lpNext (e.enc ++ rest) = some (e.val, rest) := by
  have hdrop := drop_entry e.body rest
  unfold LPEntry.enc
  cases e with
  | u7 v =>
    have h : v < 128 := h
    have hv := u8_toNat v (by omega)
    simp only [LPEntry.body, LPEntry.val, List.cons_append, List.nil_append] at hdrop ⊢
    rw [lpNext_u7 _ _ (by rw [hv]; omega), hv, Nat.mod_eq_of_lt h]
    exact congrArg (fun x => some (_, x)) hdrop
  | s6 s =>
    have h : s.length < 64 := h
    have hv := u8_toNat (0x80 + s.length) (by omega)
    simp only [LPEntry.body, LPEntry.val, List.cons_append, List.append_assoc, List.length_cons] at hdrop ⊢
    rw [lpNext_s6 _ _ (by rw [hv]; omega), hv, show (0x80 + s.length) % 64 = s.length by omega, readN_append,
      Nat.add_comm 1, Option.map_some, hdrop]
  | i13 v =>
    have h : inSigned 13 v := h
    have hlt : ofSigned 13 v < 8192 := ofSigned_lt 13 v (by decide) h
    have hv := u8_toNat (0xC0 + ofSigned 13 v / 256) (by omega)
    simp only [LPEntry.body, LPEntry.val, List.cons_append, List.nil_append] at hdrop ⊢
    rw [lpNext_i13 _ _ (by rw [hv]; omega), hv, List.head?_cons, Option.map_some, u8_toNat _ (Nat.mod_lt _ (by decide)),
      show (0xC0 + ofSigned 13 v / 256) % 32 * 256 + ofSigned 13 v % 256 = ofSigned 13 v by omega, lpInt,
      toSigned_ofSigned 13 v (by decide) h]
    exact congrArg (fun x => some (_, x)) hdrop
  | s12 s =>
    have h : s.length < 4096 := h
    have hv := u8_toNat (0xE0 + s.length / 256) (by omega)
    simp only [LPEntry.body, LPEntry.val, List.cons_append, List.append_assoc, List.length_cons] at hdrop ⊢
    rw [lpNext_s12 _ _ (by rw [hv]; omega), hv, List.head?_cons, Option.bind_some, List.tail_cons,
      u8_toNat _ (Nat.mod_lt _ (by decide)),
      show (0xE0 + s.length / 256) % 16 * 256 + s.length % 256 = s.length by omega, readN_append,
      Nat.add_comm 2, Option.map_some, hdrop]
  | s32 s =>
    have h : s.length < 256 ^ 4 := h
    simp only [LPEntry.body, LPEntry.val, List.cons_append, List.append_assoc, List.length_cons, List.length_append,
      leN_length] at hdrop ⊢
    rw [lpNext_s32 _ _ (by decide), readN_append' 4 _ _ (leN_length 4 _), Option.bind_some, ofLE_leN' 4 _ h,
      readN_append, show 5 + s.length = 4 + s.length + 1 by omega, Option.map_some, hdrop]
  | i16 v => exact lpNext_enc_le 2 0xF1 v rest (by decide) (by decide) h
  | i24 v => exact lpNext_enc_le 3 0xF2 v rest (by decide) (by decide) h
  | i32 v => exact lpNext_enc_le 4 0xF3 v rest (by decide) (by decide) h
  | i64 v => exact lpNext_enc_le 8 0xF4 v rest (by decide) (by decide) h

theorem lpEntries_cons (a : LPEntry) (b : List LPEntry) : lpEntries (a :: b) = a.enc ++ lpEntries b := by
  simp [lpEntries]

theorem lpEntries_append (a b : List LPEntry) : lpEntries (a ++ b) = lpEntries a ++ lpEntries b := by
  simp [lpEntries]

theorem lpTake_entries (es : List LPEntry) (rest : Bytes) (h : ∀ e ∈ es, e.wf) :
    lpTake es.length (lpEntries es ++ rest) = some (es.map LPEntry.val, rest) := by
  induction es with
  | nil => simp [lpTake, lpEntries]
  | cons e es ih =>
    rw [lpEntries_cons, List.append_assoc, List.length_cons, lpTake, lpNext_enc e _ (h e (List.mem_cons_self ..))]
    simp only
    rw [ih (fun x hx => h x (List.mem_cons_of_mem _ hx))]
    rfl

theorem lpTake_append (a b : List LPEntry) (rest : Bytes) :
    lpEntries (a ++ b) ++ rest = lpEntries a ++ (lpEntries b ++ rest) := by
  rw [lpEntries_append, List.append_assoc]

/-- the count field of a blob: the length, or 65535 ("unknown") from 65535 elements on -/
def lpCount (es : List LPEntry) : Nat := if es.length < 65535 then es.length else 65535

theorem lpNew_shape (A C body : Bytes) (hAl : A.length = 4) (hCl : C.length = 2) :
    lpNew (A ++ C ++ body ++ [0xFF]) = some (ofLE C, body ++ [0xFF]) := by
  unfold lpNew
  have hlen : ¬ (A ++ C ++ body ++ [0xFF]).length < 6 := by
    simp only [List.length_append, hAl, hCl]; omega
  simp only [hlen, if_false]
  have e6 : (A ++ C ++ body ++ [0xFF]) = (A ++ C) ++ (body ++ [0xFF]) := by simp
  have e4 : (A ++ C ++ body ++ [0xFF]) = A ++ (C ++ (body ++ [0xFF])) := by simp
  have l6 : (A ++ C).length = 6 := by simp [hAl, hCl]
  have d6 : (A ++ C ++ body ++ [0xFF]).drop 6 = body ++ [0xFF] := by
    rw [e6, List.drop_left' l6]
  have d4 : ((A ++ C ++ body ++ [0xFF]).drop 4).take 2 = C := by
    rw [e4, List.drop_left' hAl, List.take_left' hCl]
  rw [d6, d4]

theorem lpNew_blob' (es : List LPEntry) :
    lpNew (lpBlob es) = some (lpCount es, lpEntries es ++ [0xFF]) := by
  unfold lpBlob
  dsimp only
  rw [lpNew_shape _ _ _ (leN_length 4 _) (leN_length 2 _)]
  have p2 : (256 : Nat) ^ 2 = 65536 := by decide
  have hn16 : (if es.length < 65535 then es.length else 65535) < 256 ^ 2 := by
    rw [p2]; split <;> omega
  rw [ofLE_leN' 2 _ hn16]
  rfl

theorem lpNew_blob (es : List LPEntry) (h : es.length < 65535) :
    lpNew (lpBlob es) = some (es.length, lpEntries es ++ [0xFF]) := by
  rw [lpNew_blob']; simp [lpCount, h]

/-- no element starts with the end marker -/
theorem lpEntry_head (e : LPEntry) (h : e.wf) (X : Bytes) : ∃ b r, e.enc ++ X = b :: r ∧ b ≠ 0xFF := by
  have c255 : (0xFF : UInt8).toNat = 255 := by decide
  unfold LPEntry.enc
  cases e with
  | u7 v =>
    have h : v < 128 := h
    exact ⟨UInt8.ofNat v, _, rfl, u8_ne v 0xFF (by omega) (by omega)⟩
  | s6 s =>
    have h : s.length < 64 := h
    exact ⟨UInt8.ofNat (0x80 + s.length), _, rfl, u8_ne _ 0xFF (by omega) (by omega)⟩
  | i13 v =>
    have hlt := ofSigned_lt 13 v (by decide) h
    have hlt' : ofSigned 13 v < 8192 := by simpa using hlt
    exact ⟨UInt8.ofNat (0xC0 + ofSigned 13 v / 256), _, rfl, u8_ne _ 0xFF (by omega) (by omega)⟩
  | s12 s =>
    have h : s.length < 4096 := h
    exact ⟨UInt8.ofNat (0xE0 + s.length / 256), _, rfl, u8_ne _ 0xFF (by omega) (by omega)⟩
  | s32 s => exact ⟨0xF0, _, rfl, by decide⟩
  | i16 v => exact ⟨0xF1, _, rfl, by decide⟩
  | i24 v => exact ⟨0xF2, _, rfl, by decide⟩
  | i32 v => exact ⟨0xF3, _, rfl, by decide⟩
  | i64 v => exact ⟨0xF4, _, rfl, by decide⟩

theorem lpUntilEnd_entries (es : List LPEntry) (fuel : Nat) (hf : es.length < fuel) (h : ∀ e ∈ es, e.wf) :
    lpUntilEnd fuel (lpEntries es ++ [0xFF]) = some (es.map LPEntry.val) := by
  induction es generalizing fuel with
  | nil =>
    obtain ⟨f, rfl⟩ : ∃ f, fuel = f + 1 := ⟨fuel - 1, by simp at hf; omega⟩
    simp [lpUntilEnd, lpEntries]
  | cons e es ih =>
    obtain ⟨f, rfl⟩ : ∃ f, fuel = f + 1 := ⟨fuel - 1, by simp at hf; omega⟩
    have hw := h e (List.mem_cons_self ..)
    obtain ⟨b, r, hbr, hne⟩ := lpEntry_head e hw (lpEntries es ++ [0xFF])
    rw [lpEntries_cons, List.append_assoc]
    have hnext := lpNext_enc e (lpEntries es ++ [0xFF]) hw
    rw [hbr] at hnext ⊢
    simp only [lpUntilEnd, hne, if_false, hnext]
    rw [ih f (by simp at hf; omega) (fun x hx => h x (List.mem_cons_of_mem _ hx))]
    rfl

theorem lpEntries_length_ge (es : List LPEntry) : es.length ≤ (lpEntries es).length := by
  induction es with
  | nil => simp [lpEntries]
  | cons e es ih =>
    rw [lpEntries_cons, List.length_append, List.length_cons]
    have h1 := lpSkip_backlen e.body.length
    have h2 := (lpSkip_bounds e.body.length).1
    unfold LPEntry.enc
    rw [List.length_append]
    omega

/-- a well-formed listpack blob of ANY number of elements yields exactly its
    entries' values (count field 65535: walked to the end marker) -/
theorem lpAll_blob (es : List LPEntry) (h : lpWf es) : lpAll (lpBlob es) = some (es.map LPEntry.val) := by
  unfold lpAll
  rw [lpNew_blob']
  simp only
  by_cases hl : es.length < 65535
  · have hc : lpCount es = es.length := by simp [lpCount, hl]
    have hne : ¬ (es.length = 65535) := by omega
    simp only [hc, hne, if_false]
    rw [lpTake_entries es [0xFF] h]
    rfl
  · have hc : lpCount es = 65535 := by simp [lpCount, hl]
    simp only [hc, if_true]
    apply lpUntilEnd_entries es _ _ h
    have := lpEntries_length_ge es
    unfold lpBlob
    simp only [List.length_append]
    omega

theorem lpPairs_blob (es : List LPEntry) (h : lpWf es) (he : es.length % 2 = 0) :
    lpPairs (lpBlob es) = some (pairUp (es.map LPEntry.val)) := by
  unfold lpPairs
  rw [lpAll_blob es h]
  simp [he]

end GunYu.Rdb
