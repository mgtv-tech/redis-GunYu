/-
  Helper lemmas for C03: whatever buffer `StreamParser.ExecCmd` (model `execStream`)
  is run on, every command it emits NAMES THE KEY at its key position (XADD / XSETID / XCLAIM:
  first argument; XGROUP CREATE: second). For ARBITRARY buffers: no well-formedness. This is
  the premise C20's `Value` needs of a stream entry (Props/C20Loader.lean `loader_stream_stmt`).
-/
import GunYu.Model.Rdb.Exec

namespace GunYu.Rdb
open GunYu

/-- the command is one of the four stream commands AND names `key` at its key position
    (first argument; for `XGROUP <sub> key …` the second) -/
def streamOnKey (key : Bytes) (c : Cmd) : Prop :=
  (c.name = b!"XADD" ∧ c.args.head? = some (Arg.b key)) ∨
  (c.name = b!"XSETID" ∧ c.args.head? = some (Arg.b key)) ∨
  (c.name = b!"XGROUP" ∧ (c.args.drop 1).head? = some (Arg.b key)) ∨
  (c.name = b!"XCLAIM" ∧ c.args.head? = some (Arg.b key))

theorem streamEntries_onKey (key : Bytes) (mMs mSeq : Nat) (fields : List Bytes) (nf : Nat) :
    ∀ (fuel : Nat) (count deleted : Int) (rem : Bytes) (cs : List Cmd),
      streamEntries key mMs mSeq fields nf fuel count deleted rem = some cs → ∀ c ∈ cs, streamOnKey key c := by
  intro fuel
  induction fuel with
  | zero => intro count deleted rem cs h; simp [streamEntries] at h
  | succ fuel ih =>
    intro count deleted rem cs h
    simp only [streamEntries] at h
    split at h
    · cases h; intro c hc; cases hc
    · split at h
      · cases h
      · split at h
        · cases h
        · split at h
          · cases h
          · split at h
            · cases h
            · split at h
              · cases h
              · split at h
                · exact ih _ _ _ _ h
                · split at h
                  · cases h
                  · rename_i rest hrest
                    cases h
                    intro c hc
                    rcases List.mem_cons.mp hc with rfl | hc
                    · exact Or.inl ⟨rfl, rfl⟩
                    · exact ih _ _ _ _ hrest c hc

theorem streamNode_onKey (key bs : Bytes) (cs : List Cmd) (r : Bytes) (h : streamNode key bs = some (cs, r)) :
    ∀ c ∈ cs, streamOnKey key c := by
  unfold streamNode at h
  split at h
  · cases h
  · split at h
    · cases h
    · split at h
      · cases h
      · split at h
        · cases h
        · split at h
          · cases h
          · split at h
            · cases h
            · split at h
              · cases h
              · split at h
                · cases h
                · split at h
                  · cases h
                  · split at h
                    · cases h
                    · split at h
                      · cases h
                      · simp only at h
                        split at h
                        · cases h
                        · rename_i cmds hcmds
                          cases h
                          exact streamEntries_onKey _ _ _ _ _ _ _ _ _ _ hcmds

theorem streamNodes_onKey (key : Bytes) : ∀ (n : Nat) (bs : Bytes) (cs : List Cmd) (r : Bytes),
    streamNodes key n bs = some (cs, r) → ∀ c ∈ cs, streamOnKey key c := by
  intro n
  induction n with
  | zero => intro bs cs r h; simp only [streamNodes, Option.some.injEq, Prod.mk.injEq] at h; obtain ⟨rfl, _⟩ := h; intro c hc; cases hc
  | succ n ih =>
    intro bs cs r h
    simp only [streamNodes] at h
    split at h
    · cases h
    · rename_i c1 r1 h1
      split at h
      · cases h
      · rename_i cs2 r2 h2
        cases h
        intro c hc
        rcases List.mem_append.mp hc with hc | hc
        · exact streamNode_onKey key bs c1 r1 h1 c hc
        · exact ih _ _ _ h2 c hc

theorem consumerPel_onKey (key group consumer : Bytes) (nacks : List (Bytes × Nat × Nat)) :
    ∀ (n : Nat) (bs : Bytes) (cs : List Cmd) (r : Bytes),
      consumerPel key group consumer nacks n bs = some (cs, r) → ∀ c ∈ cs, streamOnKey key c := by
  intro n
  induction n with
  | zero => intro bs cs r h; simp only [consumerPel, Option.some.injEq, Prod.mk.injEq] at h; obtain ⟨rfl, _⟩ := h; intro c hc; cases hc
  | succ n ih =>
    intro bs cs r h
    simp only [consumerPel] at h
    split at h
    · cases h
    · split at h
      · cases h
      · rename_i cs2 r2 h2
        cases h
        intro c hc
        rcases List.mem_cons.mp hc with rfl | hc
        · exact Or.inr (Or.inr (Or.inr ⟨rfl, rfl⟩))
        · exact ih _ _ _ h2 c hc

theorem streamConsumers_onKey (cc : Bool) (v3 : Bool) (key group : Bytes) (nacks : List (Bytes × Nat × Nat)) :
    ∀ (n : Nat) (bs : Bytes) (cs : List Cmd) (r : Bytes),
      streamConsumers cc v3 key group nacks n bs = some (cs, r) → ∀ c ∈ cs, streamOnKey key c := by
  intro n
  induction n with
  | zero => intro bs cs r h; simp only [streamConsumers, Option.some.injEq, Prod.mk.injEq] at h; obtain ⟨rfl, _⟩ := h; intro c hc; cases hc
  | succ n ih =>
    intro bs cs r h
    simp only [streamConsumers] at h
    split at h
    · cases h
    · split at h
      · cases h
      · split at h
        · cases h
        · split at h
          · cases h
          · rename_i cs1 r3 h1
            split at h
            · cases h
            · rename_i cs2 r4 h2
              cases h
              intro c hc
              rcases List.mem_append.mp hc with hc | hc
              · rcases List.mem_append.mp hc with hc | hc
                · split at hc
                  · simp only [List.mem_singleton] at hc; subst hc; exact Or.inr (Or.inr (Or.inl ⟨rfl, rfl⟩))
                  · cases hc
                · exact consumerPel_onKey _ _ _ _ _ _ _ _ h1 c hc
              · exact ih _ _ _ h2 c hc

theorem streamGroups_onKey (x : XCfg) (v2 v3 : Bool) (key : Bytes) (ea sl lm ls : Nat) :
    ∀ (n : Nat) (bs : Bytes) (cs : List Cmd),
      streamGroups x v2 v3 key ea sl lm ls n bs = some cs → ∀ c ∈ cs, streamOnKey key c := by
  intro n
  induction n with
  | zero => intro bs cs h; simp only [streamGroups, Option.some.injEq] at h; subst h; intro c hc; cases hc
  | succ n ih =>
    intro bs cs h
    simp only [streamGroups] at h
    split at h
    · cases h
    · split at h
      · split at h
        · cases h
        · split at h
          · cases h
          · split at h
            · cases h
            · split at h
              · cases h
              · split at h
                · cases h
                · rename_i claims r6 hcl
                  split at h
                  · cases h
                  · rename_i rest hrest
                    cases h
                    intro c hc
                    rcases List.mem_cons.mp hc with rfl | hc
                    · exact Or.inr (Or.inr (Or.inl ⟨rfl, rfl⟩))
                    · rcases List.mem_append.mp hc with hc | hc
                      · exact streamConsumers_onKey _ _ _ _ _ _ _ _ _ hcl c hc
                      · exact ih _ _ hrest c hc
      · cases h

theorem execStream_onKey (x : XCfg) (t : UInt8) (key buf : Bytes) (cs : List Cmd)
    (h : execStream x t key buf = some cs) : ∀ c ∈ cs, streamOnKey key c := by
  unfold execStream at h
  simp only at h
  split at h
  · cases h
  · split at h
    · cases h
    · rename_i xadds r1 hx
      split at h
      · split at h
        · cases h
        · split at h
          · cases h
          · split at h
            · cases h
            · rename_i gs hg
              cases h
              intro c hc
              simp only [List.mem_append, List.mem_singleton] at hc
              rcases hc with ((hc | hc) | hc) | hc
              · exact streamNodes_onKey _ _ _ _ _ hx c hc
              · split at hc
                · simp only [List.mem_singleton] at hc; subst hc; exact Or.inl ⟨rfl, rfl⟩
                · cases hc
              · subst hc; exact Or.inr (Or.inl ⟨rfl, rfl⟩)
              · exact streamGroups_onKey _ _ _ _ _ _ _ _ _ _ _ hg c hc
      · cases h

end GunYu.Rdb
