/-
  Helper lemmas for C03: the oracle's keyspace commands are LOCAL to their key —
  the reply and the new state of the key depend only on the key's old state, every
  other key is untouched — hence commands on different keys commute (up to the
  order of the key list) and respect key-wise equality of keyspaces.
-/
import GunYu.Proofs.Rdb.Sem

namespace GunYu.RedisSem
open GunYu GunYu.Rdb

theorem get_del (ks : Keyspace) (k k' : Bytes) :
    get (del ks k) k' = if k' = k then none else get ks k' := by
  unfold get del
  rw [List.find?_filter]
  by_cases h : k' = k
  · subst h
    rw [if_pos rfl, List.find?_eq_none.mpr (fun e _ => by cases (e.1 == k') <;> simp)]; rfl
  · rw [if_neg h]
    congr 2; funext e
    by_cases he : e.1 = k' <;> simp [he, h]

theorem get_put (ks : Keyspace) (k k' : Bytes) (v : Val) (t : Nat) :
    get (put ks k v t) k' = if k' = k then some (v, t) else get ks k' := by
  unfold put get
  split
  · rename_i hany
    have hkey : ((fun e : Bytes × Val × Nat => e.1 == k') ∘ fun e => if e.1 == k then (k, v, t) else e) =
        fun e => e.1 == k' := by
      funext e; by_cases he : e.1 = k <;> simp [he]
    rw [List.find?_map, hkey]
    cases hf : ks.find? (fun e => e.1 == k') with
    | none =>
      have hn : ¬ k' = k := by
        rintro rfl
        obtain ⟨e, he, hek⟩ := List.any_eq_true.mp hany
        exact absurd hek (by simpa using List.find?_eq_none.mp hf e he)
      simp [hn]
    | some y =>
      have hy : y.1 = k' := by simpa using List.find?_some hf
      by_cases h : k' = k <;> simp [h, hy]
  · rename_i hany
    rw [List.find?_append]
    cases hf : ks.find? (fun e => e.1 == k') with
    | none =>
      by_cases h : k' = k
      · subst h; simp
      · simp [h]; exact fun e => h e.symm
    | some y =>
      have hy : y.1 = k' := by simpa using List.find?_some hf
      have hn : ¬ k' = k := by
        rintro rfl
        exact hany (List.any_eq_true.mpr ⟨y, List.mem_of_find?_eq_some hf, by simp [hy]⟩)
      simp [hn]

inductive Upd where
  | keep
  | set (v : Val) (t : Nat)
  | reset (v : Val) (t : Nat)
  | remove

def applyUpd (ks : Keyspace) (k : Bytes) : Upd → Keyspace
  | .keep => ks
  | .set v t => put ks k v t
  | .reset v t => put (del ks k) k v t
  | .remove => del ks k

def Upd.slot (cur : Option (Val × Nat)) : Upd → Option (Val × Nat)
  | .keep => cur
  | .set v t => some (v, t)
  | .reset v t => some (v, t)
  | .remove => none

theorem get_applyUpd (ks : Keyspace) (k k' : Bytes) (u : Upd) :
    get (applyUpd ks k u) k' = if k' = k then u.slot (get ks k) else get ks k' := by
  by_cases h : k' = k <;> cases u <;> simp [applyUpd, Upd.slot, get_put, get_del, h]

/-- `f` reads and writes key `k` only: reply (error or not) and update are a function of
    the key's current state -/
def LocalAt (k : Bytes) (f : Keyspace → Option Keyspace) : Prop :=
  ∃ F : Option (Val × Nat) → Option Upd, ∀ ks, f ks = (F (get ks k)).map (applyUpd ks k)

theorem local_none (k : Bytes) : LocalAt k (fun _ => none) := ⟨fun _ => none, fun _ => rfl⟩

theorem local_upd (k : Bytes) (u : Upd) : LocalAt k (fun ks => some (applyUpd ks k u)) :=
  ⟨fun _ => some u, fun _ => rfl⟩

theorem local_ite {k : Bytes} (c : Prop) [Decidable c] {f g : Keyspace → Option Keyspace}
    (hf : c → LocalAt k f) (hg : ¬ c → LocalAt k g) : LocalAt k (fun ks => if c then f ks else g ks) := by
  by_cases h : c
  · simp only [h, if_true]; exact hf h
  · simp only [h, if_false]; exact hg h

theorem local_rpush (k e : Bytes) : LocalAt k (fun ks => doRpush ks k e) := by
  refine ⟨fun cur => match cur with
    | none => some (.set (.list [e]) 0)
    | some (.list l, t) => some (.set (.list (l ++ [e])) t)
    | _ => none, fun ks => ?_⟩
  unfold doRpush
  dsimp only
  generalize get ks k = cur
  cases cur with
  | none => rfl
  | some p => obtain ⟨v, t⟩ := p; cases v <;> rfl

theorem local_sadd (k m : Bytes) : LocalAt k (fun ks => doSadd ks k m) := by
  refine ⟨fun cur => match cur with
    | none => some (.set (.set [m]) 0)
    | some (.set l, t) => some (.set (.set (if l.contains m then l else l ++ [m])) t)
    | _ => none, fun ks => ?_⟩
  unfold doSadd
  dsimp only
  generalize get ks k = cur
  cases cur with
  | none => rfl
  | some p => obtain ⟨v, t⟩ := p; cases v <;> rfl

theorem local_zadd (k : Bytes) (score : Arg) (m : Bytes) : LocalAt k (fun ks => doZadd ks k score m) := by
  refine ⟨fun cur => match cur with
    | none => some (.set (.zset [(m, score)]) 0)
    | some (.zset l, t) => some (.set (.zset (upsert l m score)) t)
    | _ => none, fun ks => ?_⟩
  unfold doZadd
  dsimp only
  generalize get ks k = cur
  cases cur with
  | none => rfl
  | some p => obtain ⟨v, t⟩ := p; cases v <;> rfl

theorem local_hset (k f v : Bytes) : LocalAt k (fun ks => doHset ks k f v) := by
  refine ⟨fun cur => match cur with
    | none => some (.set (.hash [(f, v)]) 0)
    | some (.hash l, t) => some (.set (.hash (upsert l f v)) t)
    | _ => none, fun ks => ?_⟩
  unfold doHset
  dsimp only
  generalize get ks k = cur
  cases cur with
  | none => rfl
  | some p => obtain ⟨v', t⟩ := p; cases v' <;> rfl

theorem local_pexpire (k t : Bytes) : LocalAt k (fun ks => doPexpire ks k t) := by
  refine ⟨fun cur => match decToNat? t, cur with
    | some ttl, some (v, _) => some (.set v ttl)
    | some _, none => some .keep
    | none, _ => none, fun ks => ?_⟩
  unfold doPexpire
  dsimp only
  generalize get ks k = cur
  cases decToNat? t with
  | none => rfl
  | some ttl =>
    cases cur with
    | none => rfl
    | some p => rfl

theorem local_restore (k t payload : Bytes) (opts : List Arg) : LocalAt k (fun ks => doRestore ks k t payload opts) := by
  refine ⟨fun cur => match decToNat? t with
    | none => none
    | some ttl => if cur.isSome && !(opts.any (fun a => a == .b b!"REPLACE")) then none
                  else some (.reset (.restored payload) ttl), fun ks => ?_⟩
  unfold doRestore
  dsimp only
  generalize get ks k = cur
  cases decToNat? t with
  | none => rfl
  | some ttl =>
    dsimp only
    split <;> rfl

def plainNames : List Bytes :=
  [b!"set", b!"del", b!"exists", b!"pexpire", b!"rpush", b!"sadd", b!"zadd", b!"hset", b!"restore"]

theorem plain_ne_stream :
    ∀ n ∈ plainNames, n ≠ b!"xgroup" ∧ n ≠ b!"xclaim" ∧ n ≠ b!"xadd" ∧ n ≠ b!"xsetid" := by decide

theorem plain_not_special : ∀ n ∈ plainNames, n ≠ b!"select" ∧ n ≠ b!"script" ∧ n ≠ b!"function" := by decide

/-- each branch of `applyCmd` fails, is a fixed update, or is one of the `do…` functions above -/
theorem local_applyXCmd (c : Cmd) (k : Bytes) (rest : List Arg) (hargs : c.args = .b k :: rest)
    (hname : lower c.name ∈ plainNames) : LocalAt k (fun ks => applyXCmd ks c) := by
  obtain ⟨h1, h2, h3, h4⟩ := plain_ne_stream _ hname
  unfold applyXCmd
  refine local_ite _ (fun h => absurd h h1) fun _ => local_ite _ (fun h => absurd h h2) fun _ => ?_
  simp only [applyCmd, hargs, argBytes]
  -- `split` on the whole chain is slow; the chain is walked by `local_ite`, the matches on the
  -- remaining arguments are split one by one
  refine local_ite _ (fun _ => ?set) fun _ => local_ite _ (fun _ => local_upd k .remove) fun _ =>
    local_ite _ (fun _ => local_upd k .keep) fun _ => local_ite _ (fun _ => ?pexpire) fun _ =>
    local_ite _ (fun _ => ?rpush) fun _ => local_ite _ (fun _ => ?sadd) fun _ =>
    local_ite _ (fun _ => ?zadd) fun _ => local_ite _ (fun _ => ?hset) fun _ =>
    local_ite _ (fun _ => ?restore) fun _ =>
    local_ite _ (fun h => absurd h h3) fun _ => local_ite _ (fun h => absurd h h4) fun _ => local_none k
  case set => split; exact local_upd k (.set (.str _) 0); exact local_none k
  case pexpire => split; exact local_pexpire k _; exact local_none k
  case rpush => split; exact local_rpush k _; exact local_none k
  case sadd => split; exact local_sadd k _; exact local_none k
  case zadd => split; exact local_zadd k _ _; exact local_none k
  case hset => split; exact local_hset k _ _; exact local_none k
  case restore => split; exact local_restore k _ _ _; exact local_none k

/-- the same keys with the same values and times to live (the order of the key list aside) -/
def KEq (a b : Keyspace) : Prop := ∀ k, get a k = get b k

def ORel {α : Type} (R : α → α → Prop) : Option α → Option α → Prop
  | none, none => True
  | some a, some b => R a b
  | _, _ => False

theorem local_congr {k : Bytes} {f : Keyspace → Option Keyspace} (h : LocalAt k f) {a b : Keyspace}
    (hab : KEq a b) : ORel KEq (f a) (f b) := by
  obtain ⟨F, hF⟩ := h
  rw [hF a, hF b, hab k]
  cases F (get b k) with
  | none => trivial
  | some u => intro k'; rw [get_applyUpd, get_applyUpd, hab k, hab k']

theorem local_commute {k1 k2 : Bytes} {f1 f2 : Keyspace → Option Keyspace} (h1 : LocalAt k1 f1)
    (h2 : LocalAt k2 f2) (hne : k1 ≠ k2) (ks : Keyspace) :
    ORel KEq ((f1 ks).bind f2) ((f2 ks).bind f1) := by
  obtain ⟨F1, hF1⟩ := h1
  obtain ⟨F2, hF2⟩ := h2
  have hne' : k2 ≠ k1 := fun h => hne h.symm
  rw [hF1 ks, hF2 ks]
  -- the second command reads its key as the first left it: untouched
  cases hu1 : F1 (get ks k1) <;> cases hu2 : F2 (get ks k2) <;>
    simp only [Option.map_none, Option.map_some, Option.bind_none, Option.bind_some, hF1, hF2, get_applyUpd, hne, hne',
      if_false, hu1, hu2]
  iterate 3 trivial
  intro k
  by_cases hk1 : k = k1 <;> by_cases hk2 : k = k2 <;> simp [get_applyUpd, hk1, hk2, hne, hne']
end GunYu.RedisSem
