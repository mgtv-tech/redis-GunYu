/-
  Helper lemmas for C03: the replay oracle on the commands a value is expanded into. Replayed into a
  keyspace that does not hold the key, they append exactly the value and leave every other key alone
  (`cmds_frame`); the keyspace is a variable throughout, the empty one is an instance.
-/
import GunYu.Model.Rdb.Value

namespace GunYu.RedisSem
open GunYu GunYu.Rdb

theorem get_nil (k : Bytes) : get [] k = none := rfl
theorem put_nil (k : Bytes) (v : Val) (t : Nat) : put [] k v t = [(k, v, t)] := rfl

theorem apply_rpush (ks : Keyspace) (k e : Bytes) :
    applyXCmd ks (cmdB b!"RPUSH" [k, e]) = doRpush ks k e := by
  simp [applyXCmd, applyCmd, cmdB, lower, lowerByte, argBytes]

theorem apply_sadd (ks : Keyspace) (k e : Bytes) :
    applyXCmd ks (cmdB b!"SADD" [k, e]) = doSadd ks k e := by
  simp [applyXCmd, applyCmd, cmdB, lower, lowerByte, argBytes]

theorem apply_zadd (ks : Keyspace) (k m : Bytes) (s : Arg) :
    applyXCmd ks ⟨b!"ZADD", [Arg.b k, s, Arg.b m]⟩ = doZadd ks k s m := by
  simp [applyXCmd, applyCmd, lower, lowerByte, argBytes]

theorem apply_hset (ks : Keyspace) (k f v : Bytes) :
    applyXCmd ks (cmdB b!"HSET" [k, f, v]) = doHset ks k f v := by
  simp [applyXCmd, applyCmd, cmdB, lower, lowerByte, argBytes]

theorem apply_set (ks : Keyspace) (k v : Bytes) :
    applyXCmd ks (cmdB b!"set" [k, v]) = some (put ks k (.str v) 0) := by
  simp [applyXCmd, applyCmd, cmdB, lower, lowerByte, argBytes]

theorem upsert_new {β} (l : List (Bytes × β)) (k : Bytes) (v : β) (h : ∀ e ∈ l, e.1 ≠ k) :
    upsert l k v = l ++ [(k, v)] := by
  unfold upsert
  have : l.any (fun e => e.1 == k) = false := by
    rw [List.any_eq_false]
    intro e he
    simpa using h e he
  simp [this]

theorem any_false_of_get_none (ks : Keyspace) (k : Bytes) (h : get ks k = none) :
    ks.any (fun e => e.1 == k) = false := by
  unfold get at h
  cases hf : ks.find? (fun e => e.1 == k) with
  | some x => simp [hf] at h
  | none =>
    rw [List.find?_eq_none] at hf
    rw [List.any_eq_false]
    exact hf

theorem get_frame (ks : Keyspace) (k : Bytes) (v : Val) (t : Nat) (h : get ks k = none) :
    get (ks ++ [(k, v, t)]) k = some (v, t) := by
  have hf : ks.find? (fun e => e.1 == k) = none := by simpa [get] using h
  simp [get, List.find?_append, hf]

theorem map_id_of_mem {α} (l : List α) (f : α → α) (h : ∀ a ∈ l, f a = a) : l.map f = l := by
  induction l with
  | nil => rfl
  | cons a l ih =>
    rw [List.map_cons, h a (List.mem_cons_self ..), ih (fun x hx => h x (List.mem_cons_of_mem _ hx))]

theorem put_frame (ks : Keyspace) (k : Bytes) (v v' : Val) (t t' : Nat) (h : get ks k = none) :
    put (ks ++ [(k, v, t)]) k v' t' = ks ++ [(k, v', t')] := by
  have ha := any_false_of_get_none ks k h
  unfold put
  have hany : (ks ++ [(k, v, t)]).any (fun e => e.1 == k) = true := by simp
  rw [hany]
  simp only [if_true, List.map_append, List.map_cons, List.map_nil, beq_self_eq_true]
  congr 1
  rw [List.any_eq_false] at ha
  apply map_id_of_mem
  intro e he
  have := ha e he
  simp at this
  simp [this]

theorem put_new (ks : Keyspace) (k : Bytes) (v : Val) (t : Nat) (h : get ks k = none) :
    put ks k v t = ks ++ [(k, v, t)] := by
  unfold put
  rw [any_false_of_get_none ks k h]
  simp

/-- replaying commands that only touch key `k` into a keyspace that does not hold
    `k` is replaying them into the empty keyspace, next to the untouched rest -/
theorem rpush_fold_frame (ks : Keyspace) (k : Bytes) (es l : List Bytes) (t : Nat) (h : get ks k = none) :
    applyCmds (ks ++ [(k, .list l, t)]) (es.map (fun e => cmdB b!"RPUSH" [k, e])) =
      some (ks ++ [(k, .list (l ++ es), t)]) := by
  induction es generalizing l with
  | nil => simp [applyCmds]
  | cons e es ih =>
    simp only [List.map_cons, applyCmds, apply_rpush, doRpush, get_frame ks k _ _ h, put_frame ks k _ _ _ _ h]
    rw [ih]
    simp

theorem sadd_fold_frame (ks : Keyspace) (k : Bytes) (es l : List Bytes) (t : Nat) (h : get ks k = none)
    (hnd : (l ++ es).Nodup) :
    applyCmds (ks ++ [(k, .set l, t)]) (es.map (fun e => cmdB b!"SADD" [k, e])) =
      some (ks ++ [(k, .set (l ++ es), t)]) := by
  induction es generalizing l with
  | nil => simp [applyCmds]
  | cons e es ih =>
    have hnot : l.contains e = false := by
      have := List.nodup_append.mp hnd
      simp only [List.contains_eq_mem, decide_eq_false_iff_not]
      intro hm
      exact (this.2.2 e hm e (List.mem_cons_self ..)) rfl
    simp only [List.map_cons, applyCmds, apply_sadd, doSadd, get_frame ks k _ _ h, put_frame ks k _ _ _ _ h, hnot]
    have hnd' : ((l ++ [e]) ++ es).Nodup := by simpa using hnd
    have := ih (l ++ [e]) hnd'
    simp only [Bool.false_eq_true, if_false]
    rw [this]
    simp

theorem zadd_fold_frame (ks : Keyspace) (k : Bytes) (ps l : List (Bytes × Arg)) (t : Nat) (h : get ks k = none)
    (hnd : ((l ++ ps).map (·.1)).Nodup) :
    applyCmds (ks ++ [(k, .zset l, t)]) (ps.map (fun p => ⟨b!"ZADD", [Arg.b k, p.2, Arg.b p.1]⟩)) =
      some (ks ++ [(k, .zset (l ++ ps), t)]) := by
  induction ps generalizing l with
  | nil => simp [applyCmds]
  | cons p ps ih =>
    have hnew : ∀ e ∈ l, e.1 ≠ p.1 := by
      intro e he heq
      rw [List.map_append, List.nodup_append] at hnd
      exact (hnd.2.2 e.1 (List.mem_map_of_mem he) p.1 (by simp)) heq
    simp only [List.map_cons, applyCmds, apply_zadd, doZadd, get_frame ks k _ _ h, put_frame ks k _ _ _ _ h,
      upsert_new l p.1 p.2 hnew]
    have hnd' : (((l ++ [(p.1, p.2)]) ++ ps).map (·.1)).Nodup := by simpa using hnd
    rw [ih (l ++ [(p.1, p.2)]) hnd']
    simp

theorem hset_fold_frame (ks : Keyspace) (k : Bytes) (ps l : List (Bytes × Bytes)) (t : Nat) (h : get ks k = none)
    (hnd : ((l ++ ps).map (·.1)).Nodup) :
    applyCmds (ks ++ [(k, .hash l, t)]) (ps.map (fun p => cmdB b!"HSET" [k, p.1, p.2])) =
      some (ks ++ [(k, .hash (l ++ ps), t)]) := by
  induction ps generalizing l with
  | nil => simp [applyCmds]
  | cons p ps ih =>
    have hnew : ∀ e ∈ l, e.1 ≠ p.1 := by
      intro e he heq
      rw [List.map_append, List.nodup_append] at hnd
      exact (hnd.2.2 e.1 (List.mem_map_of_mem he) p.1 (by simp)) heq
    simp only [List.map_cons, applyCmds, apply_hset, doHset, get_frame ks k _ _ h, put_frame ks k _ _ _ _ h,
      upsert_new l p.1 p.2 hnew]
    have hnd' : (((l ++ [(p.1, p.2)]) ++ ps).map (·.1)).Nodup := by simpa using hnd
    rw [ih (l ++ [(p.1, p.2)]) hnd']
    simp

theorem rpush_all_frame (ks : Keyspace) (k : Bytes) (es : List Bytes) (hne : es ≠ []) (h : get ks k = none) :
    applyCmds ks (es.map (fun e => cmdB b!"RPUSH" [k, e])) = some (ks ++ [(k, .list es, 0)]) := by
  cases es with
  | nil => exact absurd rfl hne
  | cons e es =>
    simp only [List.map_cons, applyCmds, apply_rpush, doRpush, h, put_new ks k _ _ h]
    rw [rpush_fold_frame ks k es [e] 0 h]; rfl

theorem sadd_all_frame (ks : Keyspace) (k : Bytes) (es : List Bytes) (hne : es ≠ []) (hnd : es.Nodup)
    (h : get ks k = none) :
    applyCmds ks (es.map (fun e => cmdB b!"SADD" [k, e])) = some (ks ++ [(k, .set es, 0)]) := by
  cases es with
  | nil => exact absurd rfl hne
  | cons e es =>
    simp only [List.map_cons, applyCmds, apply_sadd, doSadd, h, put_new ks k _ _ h]
    rw [sadd_fold_frame ks k es [e] 0 h hnd]; rfl

theorem zadd_all_frame (ks : Keyspace) (k : Bytes) (ps : List (Bytes × Arg)) (hne : ps ≠ [])
    (hnd : (ps.map (·.1)).Nodup) (h : get ks k = none) :
    applyCmds ks (ps.map (fun p => ⟨b!"ZADD", [Arg.b k, p.2, Arg.b p.1]⟩)) = some (ks ++ [(k, .zset ps, 0)]) := by
  cases ps with
  | nil => exact absurd rfl hne
  | cons p ps =>
    simp only [List.map_cons, applyCmds, apply_zadd, doZadd, h, put_new ks k _ _ h]
    rw [zadd_fold_frame ks k ps [(p.1, p.2)] 0 h hnd]; rfl

theorem hset_all_frame (ks : Keyspace) (k : Bytes) (ps : List (Bytes × Bytes)) (hne : ps ≠ [])
    (hnd : (ps.map (·.1)).Nodup) (h : get ks k = none) :
    applyCmds ks (ps.map (fun p => cmdB b!"HSET" [k, p.1, p.2])) = some (ks ++ [(k, .hash ps, 0)]) := by
  cases ps with
  | nil => exact absurd rfl hne
  | cons p ps =>
    simp only [List.map_cons, applyCmds, apply_hset, doHset, h, put_new ks k _ _ h]
    rw [hset_fold_frame ks k ps [(p.1, p.2)] 0 h hnd]; rfl

theorem hset_all (k : Bytes) (ps : List (Bytes × Bytes)) (h : ps ≠ []) (hnd : (ps.map (·.1)).Nodup) :
    applyCmds [] (ps.map (fun p => cmdB b!"HSET" [k, p.1, p.2])) = some [(k, .hash ps, 0)] :=
  hset_all_frame [] k ps h hnd rfl

/-- the whole expansion of a fresh key, next to an arbitrary rest of the keyspace -/
theorem cmds_frame (ks : Keyspace) (k : Bytes) (o : ObjE) (hk : o.kind ≠ .other) (hne : o.nonempty)
    (hd : o.members.Nodup) (h : get ks k = none) :
    applyCmds ks (o.cmds k) = some (ks ++ [(k, o.value, 0)]) := by
  unfold ObjE.cmds ObjE.value
  unfold ObjE.nonempty at hne
  unfold ObjE.members at hd
  cases hkind : o.kind with
  | other => exact absurd hkind hk
  | str =>
    cases o with
    | str s => simp [applyCmds, apply_set, put_new ks k _ _ h]
    | _ => cases hkind
  | list => rw [hkind] at hne; exact rpush_all_frame ks k o.elems hne h
  | set => rw [hkind] at hne hd; exact sadd_all_frame ks k o.elems hne hd h
  | zset => rw [hkind] at hne hd; exact zadd_all_frame ks k o.scored hne hd h
  | hash => rw [hkind] at hne hd; exact hset_all_frame ks k o.pairs hne hd h

theorem applyCmds_append (ks : Keyspace) (a b : List Cmd) :
    applyCmds ks (a ++ b) = (applyCmds ks a).bind (fun ks' => applyCmds ks' b) := by
  induction a generalizing ks with
  | nil => simp [applyCmds]
  | cons c a ih =>
    simp only [List.cons_append, applyCmds]
    cases applyXCmd ks c with
    | none => simp
    | some ks' => simp [ih]

theorem apply_exists (ks : Keyspace) (k : Bytes) : applyXCmd ks (cmdB b!"exists" [k]) = some ks := by
  simp [applyXCmd, applyCmd, cmdB, lower, lowerByte, argBytes]

theorem apply_pexpire (ks : Keyspace) (k t : Bytes) :
    applyXCmd ks (cmdB b!"pexpire" [k, t]) = doPexpire ks k t := by
  simp [applyXCmd, applyCmd, cmdB, lower, lowerByte, argBytes]

end GunYu.RedisSem
