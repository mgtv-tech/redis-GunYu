/-
  Helper lemmas for C03 (streams, module payloads): `ReadBuffer` steps over exactly the
  value's serialization — `StreamParser.ReadBuffer` (`skipStream`: listpack nodes, length,
  ids, counters, groups with PEL and consumers, the IDMP state of type 26) and
  `rdbLoadCheckModuleValue` (`skipModuleValue` over a module payload) — so the teed
  buffer is the serialization and the loader is positioned behind the value.
-/
import GunYu.Proofs.Rdb.StreamExec

namespace GunYu.Rdb
open GunYu

theorem skipLength64_saveLen (n : Nat) (rest : Bytes) (h : n < 2 ^ 64) : skipLength64 (saveLen n ++ rest) = some rest := by
  simp [skipLength64, readLength64_saveLen n rest h]

theorem skipN_append (n : Nat) (a rest : Bytes) (h : a.length = n) : skipN n (a ++ rest) = some rest := by
  simp [skipN, readN_append' n a rest h]

theorem skipStreamLp_enc (n : SNodeE) (rest : Bytes) (hw : n.w.wf) : skipStreamLp (n.enc ++ rest) = some rest := by
  unfold skipStreamLp SNodeE.enc
  simp only [List.append_assoc]
  rw [readString_idb]
  simp only [idb_length, ne_eq, not_true_eq_false, if_false]
  exact skipString_enc n.w rest hw

theorem skipStreamNack_enc (n : SNackE) (rest : Bytes) (h : n.count < 2 ^ 32) :
    skipStreamNack (nackEnc n ++ rest) = some rest := by
  unfold skipStreamNack nackEnc
  simp only [List.append_assoc]
  rw [← List.append_assoc (beN 8 n.ms), skipN_append 16 _ _ (by simp [beN_length])]
  simp only
  rw [skipN_append 8 _ _ (leN_length 8 n.time)]
  simp only
  exact skipLength_encLen (minForm n.count) n.count rest (minForm_fits _ (lt_2_64 h)) h

theorem skipStreamConsumer_enc (ver : Nat) (c : SConsumerE) (rest : Bytes)
    (h : c.name.wf ∧ c.pel.length < 2 ^ 64) :
    skipStreamConsumer (decide (ver ≥ 3)) (SConsumerE.enc ver c ++ rest) = some rest := by
  obtain ⟨h1, h2⟩ := h
  unfold skipStreamConsumer SConsumerE.enc
  simp only [List.append_assoc, skipString_enc c.name _ h1, skipN_append 8 _ _ (leN_length 8 c.seen)]
  have h3 : (if decide (ver ≥ 3) = true then
        skipN 8 ((if ver ≥ 3 then leN 8 c.active else []) ++
          (saveLen c.pel.length ++ (c.pel.flatMap (fun p => beN 8 p.1 ++ beN 8 p.2) ++ rest)))
      else some ((if ver ≥ 3 then leN 8 c.active else []) ++
          (saveLen c.pel.length ++ (c.pel.flatMap (fun p => beN 8 p.1 ++ beN 8 p.2) ++ rest)))) =
      some (saveLen c.pel.length ++ (c.pel.flatMap (fun p => beN 8 p.1 ++ beN 8 p.2) ++ rest)) := by
    by_cases hv : ver ≥ 3
    · simp only [hv, decide_true, if_true, skipN_append 8 _ _ (leN_length 8 c.active)]
    · simp only [hv, decide_false, Bool.false_eq_true, if_false, List.nil_append]
  rw [h3]
  simp only [readLength64_saveLen _ _ h2]
  exact skipMany_flatMap (skipN 16) (fun p : Nat × Nat => beN 8 p.1 ++ beN 8 p.2) c.pel rest
    (fun a _ r => skipN_append 16 _ r (by simp [beN_length]))

theorem skipStreamGroup_enc (ver : Nat) (g : SGroupE) (rest : Bytes) (h : GroupOk g) (h32 : g.consumers.length < 2 ^ 32) :
    skipStreamGroup (decide (ver ≥ 2)) (decide (ver ≥ 3)) (SGroupE.enc ver g ++ rest) = some rest := by
  obtain ⟨h1, h2, h3, h4, h5, h6, h7, h8⟩ := h
  unfold skipStreamGroup SGroupE.enc
  simp only [List.append_assoc, skipString_enc g.name _ h1, skipLength64_saveLen _ _ h2, skipLength64_saveLen _ _ h3]
  have her : (if decide (ver ≥ 2) = true then
        skipLength64 ((if ver ≥ 2 then saveLen g.entriesRead else []) ++
          (saveLen g.pel.length ++ (g.pel.flatMap nackEnc ++ (saveLen g.consumers.length ++
            (g.consumers.flatMap (SConsumerE.enc ver) ++ rest)))))
      else some ((if ver ≥ 2 then saveLen g.entriesRead else []) ++
          (saveLen g.pel.length ++ (g.pel.flatMap nackEnc ++ (saveLen g.consumers.length ++
            (g.consumers.flatMap (SConsumerE.enc ver) ++ rest)))))) =
      some (saveLen g.pel.length ++ (g.pel.flatMap nackEnc ++ (saveLen g.consumers.length ++
            (g.consumers.flatMap (SConsumerE.enc ver) ++ rest)))) := by
    by_cases hv : ver ≥ 2
    · simp only [hv, decide_true, if_true, skipLength64_saveLen _ _ h4]
    · simp only [hv, decide_false, Bool.false_eq_true, if_false, List.nil_append]
  simp only [group_pel_enc]
  rw [her]
  simp only [readLength64_saveLen _ _ h6]
  rw [skipMany_flatMap skipStreamNack nackEnc g.pel _ (fun n hn r => skipStreamNack_enc n r (h7 n hn).2.2.2)]
  simp only
  rw [show saveLen g.consumers.length = encLen (minForm g.consumers.length) g.consumers.length from rfl,
    readLength_encLen _ _ _ (minForm_fits _ h5) h32]
  simp only
  exact skipMany_flatMap _ (SConsumerE.enc ver) g.consumers rest
    (fun c hc r => skipStreamConsumer_enc ver c r ⟨(h8 c hc).1, (h8 c hc).2.1⟩)

theorem skipIdmpProducer_enc (p : SE × List (SE × Nat × Nat)) (rest : Bytes)
    (h : p.1.wf ∧ p.2.length < 2 ^ 64 ∧ ∀ e ∈ p.2, e.1.wf ∧ e.2.1 < 2 ^ 64 ∧ e.2.2 < 2 ^ 64) :
    skipIdmpProducer (p.1.enc ++ saveLen p.2.length ++
      p.2.flatMap (fun e => e.1.enc ++ saveLen e.2.1 ++ saveLen e.2.2) ++ rest) = some rest := by
  obtain ⟨h1, h2, h3⟩ := h
  unfold skipIdmpProducer
  simp only [List.append_assoc, skipString_enc p.1 _ h1, readLength64_saveLen _ _ h2]
  apply skipMany_flatMap skipIdmpEntry (fun e : SE × Nat × Nat => e.1.enc ++ (saveLen e.2.1 ++ saveLen e.2.2)) p.2 rest
  intro e he r
  obtain ⟨e1, e2, e3⟩ := h3 e he
  unfold skipIdmpEntry
  simp only [List.append_assoc, skipString_enc e.1 _ e1, skipLength64_saveLen _ _ e2, skipLength64_saveLen _ _ e3]

theorem skipIdmp_enc (i : SIdmpE) (rest : Bytes) (hs : i.sizes)
    (hw : ∀ p ∈ i.producers, p.1.wf ∧ ∀ e ∈ p.2, e.1.wf ∧ e.2.1 < 2 ^ 64 ∧ e.2.2 < 2 ^ 64) :
    (match skipMany skipLength64 2 (i.enc ++ rest) with
      | none => none
      | some r5 =>
        match readLength64 r5 with
        | none => none
        | some (np, r6) =>
          match skipMany skipIdmpProducer np r6 with
          | none => none
          | some r7 => skipMany skipLength64 2 r7) = some rest := by
  obtain ⟨s1, s2, s3, s4, s5, s6⟩ := hs
  unfold SIdmpE.enc
  simp only [List.append_assoc, skipMany, skipLength64_saveLen _ _ s1, skipLength64_saveLen _ _ s2,
    readLength64_saveLen _ _ s3]
  have := skipMany_flatMap skipIdmpProducer
    (fun p : SE × List (SE × Nat × Nat) => p.1.enc ++ (saveLen p.2.length ++
      p.2.flatMap (fun e => e.1.enc ++ (saveLen e.2.1 ++ saveLen e.2.2)))) i.producers
    (saveLen i.added ++ (saveLen i.dups ++ rest))
    (fun p hp r => by
      have := skipIdmpProducer_enc p r ⟨(hw p hp).1, s6 p hp, (hw p hp).2⟩
      simpa only [List.append_assoc] using this)
  rw [this]
  simp only [skipLength64_saveLen _ _ s4, skipLength64_saveLen _ _ s5]

theorem skipStream_ser (s : StreamE) (rest : Bytes) (hwf : s.wf) (hs : s.sound) :
    skipStream s.rtype (s.ser ++ rest) = some rest := by
  have hgok := groupOk_of s hwf hs
  obtain ⟨_, hv1, hv4, hnodes, hlen, hlm, hls, hfm, hfs, hdm, hds, hea, hgw, hidw⟩ := hwf
  obtain ⟨hnl, hgl, _, _, _, _, _, _, _, hsz⟩ := hs
  obtain ⟨f2, f3, f4⟩ := rtype_flags s hv1 hv4
  unfold skipStream
  simp only [f2, f3, f4, StreamE.ser, List.append_assoc, readLength64_saveLen _ _ hnl]
  rw [skipMany_flatMap skipStreamLp SNodeE.enc s.nodes _ (fun n hn r => skipStreamLp_enc n r (hnodes n hn).1)]
  simp only
  have hgroups : ∀ X : Bytes, skipMany (skipStreamGroup (decide (s.ver ≥ 2)) (decide (s.ver ≥ 3))) s.groups.length
      (s.groups.flatMap (SGroupE.enc s.ver) ++ X) = some X := fun X =>
    skipMany_flatMap _ (SGroupE.enc s.ver) s.groups X
      (fun g hg r => skipStreamGroup_enc s.ver g r (hgok g hg) (hgw g hg).2.2.2.2.1)
  have hcnt : skipMany skipLength64 (if decide (s.ver ≥ 2) = true then 8 else 3)
      (saveLen s.length ++ (saveLen s.lastMs ++ (saveLen s.lastSeq ++
        ((if s.ver ≥ 2 then saveLen s.firstMs ++ (saveLen s.firstSeq ++ (saveLen s.maxDelMs ++ (saveLen s.maxDelSeq ++
            saveLen s.entriesAdded))) else []) ++
          (saveLen s.groups.length ++ (s.groups.flatMap (SGroupE.enc s.ver) ++
            ((if s.ver ≥ 4 then s.idmp.enc else []) ++ rest))))))) =
      some (saveLen s.groups.length ++ (s.groups.flatMap (SGroupE.enc s.ver) ++
            ((if s.ver ≥ 4 then s.idmp.enc else []) ++ rest))) := by
    by_cases hv : s.ver ≥ 2
    · simp only [hv, decide_true, if_true, skipMany, List.append_assoc, skipLength64_saveLen _ _ hlen,
        skipLength64_saveLen _ _ hlm, skipLength64_saveLen _ _ hls, skipLength64_saveLen _ _ hfm,
        skipLength64_saveLen _ _ hfs, skipLength64_saveLen _ _ hdm, skipLength64_saveLen _ _ hds,
        skipLength64_saveLen _ _ hea]
    · simp only [hv, decide_false, Bool.false_eq_true, if_false, skipMany, List.nil_append,
        skipLength64_saveLen _ _ hlen, skipLength64_saveLen _ _ hlm, skipLength64_saveLen _ _ hls]
  rw [hcnt]
  simp only [readLength64_saveLen _ _ hgl, hgroups]
  by_cases hv : s.ver ≥ 4
  · simp only [hv, decide_true, if_true]
    exact skipIdmp_enc s.idmp rest hsz.1 hidw
  · simp only [hv, decide_false, Bool.false_eq_true, if_false, List.nil_append]

theorem readLength_saveLen (n : Nat) (rest : Bytes) (h : n < 2 ^ 32) : readLength (saveLen n ++ rest) = some (n, rest) :=
  readLength_encLen (minForm n) n rest (minForm_fits n (lt_2_64 h)) h

theorem skipLength_saveLen (n : Nat) (rest : Bytes) (h : n < 2 ^ 64) : skipLength (saveLen n ++ rest) = some rest := by
  simp [skipLength, readLength, saveLen, readEncodedLength_encLen (minForm n) n rest (minForm_fits n h)]

theorem saveLen_pos (n : Nat) : 1 ≤ (saveLen n).length := by
  unfold saveLen
  cases minForm n <;> simp [encLen]

theorem modOp_enc_pos (o : ModOp) : 1 ≤ o.enc.length := by
  cases o <;> simp only [ModOp.enc, List.length_append] <;> exact Nat.le_trans (saveLen_pos _) (Nat.le_add_right _ _)

theorem modOps_len (ops : List ModOp) : ops.length ≤ (ops.flatMap ModOp.enc).length := by
  induction ops with
  | nil => simp
  | cons o ops ih =>
    have := modOp_enc_pos o
    simp only [List.flatMap_cons, List.length_append, List.length_cons]
    omega

/-- `rdbLoadCheckModuleValue` steps over the items of a module payload up to and
    including its EOF opcode -/
theorem skipModuleValue_ops (rest : Bytes) : ∀ (ops : List ModOp) (fuel : Nat), ops.length + 1 ≤ fuel →
    (∀ o ∈ ops, o.wf) → skipModuleValue fuel (ops.flatMap ModOp.enc ++ (saveLen 0 ++ rest)) = some rest := by
  intro ops
  induction ops with
  | nil =>
    intro fuel hf _
    obtain ⟨f, rfl⟩ : ∃ f, fuel = f + 1 := ⟨fuel - 1, by omega⟩
    simp only [List.flatMap_nil, List.nil_append, skipModuleValue, readLength_saveLen 0 rest (by decide), if_true]
  | cons o ops ih =>
    intro fuel hf hw
    obtain ⟨f, rfl⟩ : ∃ f, fuel = f + 1 := ⟨fuel - 1, by omega⟩
    have hf' : ops.length + 1 ≤ f := by simp only [List.length_cons] at hf; omega
    have ih' := ih f hf' (fun x hx => hw x (List.mem_cons_of_mem _ hx))
    have ho := hw o (List.mem_cons_self ..)
    cases o with
    | sint n =>
      simp +decide only [List.flatMap_cons, ModOp.enc, List.append_assoc, skipModuleValue,
        readLength_saveLen 1 _ (by decide), if_false, if_true, skipLength_saveLen n _ ho, ih']
    | uint n =>
      simp +decide only [List.flatMap_cons, ModOp.enc, List.append_assoc, skipModuleValue,
        readLength_saveLen 2 _ (by decide), if_false, if_true, skipLength_saveLen n _ ho, ih']
    | float b =>
      simp +decide only [List.flatMap_cons, ModOp.enc, List.append_assoc, skipModuleValue,
        readLength_saveLen 3 _ (by decide), if_false, if_true, skipN_append 4 b _ ho, ih']
    | double b =>
      simp +decide only [List.flatMap_cons, ModOp.enc, List.append_assoc, skipModuleValue,
        readLength_saveLen 4 _ (by decide), if_false, if_true, skipN_append 8 b _ ho, ih']
    | str s =>
      simp +decide only [List.flatMap_cons, ModOp.enc, List.append_assoc, skipModuleValue,
        readLength_saveLen 5 _ (by decide), if_false, if_true, skipString_enc s _ ho, ih']

/-- module id, items, EOF: the module value / module aux reader consumes exactly the payload -/
theorem skipModule_payload (id : Nat) (ops : List ModOp) (rest : Bytes) (hid : id < 2 ^ 64) (hw : ∀ o ∈ ops, o.wf) :
    ∃ r, skipLength64 (modulePayload id ops ++ rest) = some r ∧ skipModuleValue (r.length + 1) r = some rest := by
  unfold modulePayload
  refine ⟨ops.flatMap ModOp.enc ++ (saveLen 0 ++ rest), ?_, ?_⟩
  · simp only [List.append_assoc, skipLength64_saveLen id _ hid]
  · apply skipModuleValue_ops rest ops _ _ hw
    have := modOps_len ops
    simp only [List.length_append]
    omega

end GunYu.Rdb
