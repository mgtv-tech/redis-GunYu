/-
  Helper lemmas for C03: `Loader.Next` opcode by opcode; on a key item whose value is a
  stream or a module value (type 7); on a module aux item under the `skip` policy.
-/
import GunYu.Proofs.Rdb.Chunk
import GunYu.Proofs.Rdb.StreamSkip

namespace GunYu.Rdb
open GunYu

/-! Each equation is `nextLoop`'s definition with the opcode put in; the comparisons of the
opcode with the ones tested before it are closed by evaluation. -/

theorem nextLoop_selectdb (cfg : DCfg) (F : Nat) (ls : LState) (e : Entry) (r : Bytes)
    (hls : ls.total - ls.read = 0) :
    nextLoop cfg (F + 1) ls e (0xFE :: r) =
      match readLength r with
      | none => none
      | some (n, r1) => nextLoop cfg F { ls with db := n } e r1 := by
  rw [nextLoop.eq_def]; dsimp only; rw [if_neg (by omega)]; rfl

theorem nextLoop_resizedb (cfg : DCfg) (F : Nat) (ls : LState) (e : Entry) (r : Bytes)
    (hls : ls.total - ls.read = 0) :
    nextLoop cfg (F + 1) ls e (0xFB :: r) =
      match skipLength r with
      | none => none
      | some r1 => match skipLength r1 with
        | none => none
        | some r2 => nextLoop cfg F ls e r2 := by
  rw [nextLoop.eq_def]; dsimp only; rw [if_neg (by omega)]; rfl

theorem nextLoop_slotinfo (cfg : DCfg) (F : Nat) (ls : LState) (e : Entry) (r : Bytes)
    (hls : ls.total - ls.read = 0) :
    nextLoop cfg (F + 1) ls e (0xF4 :: r) =
      match skipMany skipLength64 3 r with
      | none => none
      | some r1 => nextLoop cfg F ls e r1 := by
  rw [nextLoop.eq_def]; dsimp only; rw [if_neg (by omega)]; rfl

theorem nextLoop_eof (cfg : DCfg) (F : Nat) (ls : LState) (e : Entry) (r : Bytes)
    (hls : ls.total - ls.read = 0) : nextLoop cfg (F + 1) ls e (0xFF :: r) = some (none, ls, r) := by
  rw [nextLoop.eq_def]; dsimp only; rw [if_neg (by omega)]; rfl

theorem nextLoop_moduleaux (cfg : DCfg) (F : Nat) (ls : LState) (e : Entry) (r : Bytes)
    (hls : ls.total - ls.read = 0) :
    nextLoop cfg (F + 1) ls e (0xF7 :: r) =
      match skipLength64 r with
      | none => none
      | some r1 =>
        match skipModuleValue (r1.length + 1) r1 with
        | none => none
        | some r2 => if cfg.failModAux then none else nextLoop cfg F ls e r2 := by
  rw [nextLoop.eq_def]; dsimp only; rw [if_neg (by omega)]; rfl

theorem nextLoop_aux (cfg : DCfg) (F : Nat) (ls : LState) (e : Entry) (r : Bytes)
    (hls : ls.total - ls.read = 0) :
    nextLoop cfg (F + 1) ls e (0xFA :: r) =
      match readBuffer cfg ls 0xFA r with
      | none => none
      | some (p, ls', rest) =>
        some (some { e with db := (ls.db : Int), key := p.key, type := 0xFA, obj := p }, ls', rest) := by
  rw [nextLoop.eq_def]; dsimp only; rw [if_neg (by omega)]; rfl

theorem nextLoop_function (cfg : DCfg) (F : Nat) (ls : LState) (e : Entry) (r : Bytes)
    (hls : ls.total - ls.read = 0) :
    nextLoop cfg (F + 1) ls e (0xF5 :: r) =
      match readBuffer cfg ls 0xF5 r with
      | none => none
      | some (p, ls', rest) => some (some { e with key := [], type := 0xF5, obj := p }, ls', rest) := by
  rw [nextLoop.eq_def]; dsimp only; rw [if_neg (by omega)]; rfl

/-- the values `next_plain` does not cover and the loader nevertheless reads as ONE
    entry: streams (types 15/19/21/26) and module values (type 7) -/
def ObjE.opaque : ObjE → Prop
  | .stream s => s.wf ∧ s.sound
  | .module2 id ops => id < 2 ^ 64 ∧ ∀ o ∈ ops, o.wf
  | _ => False

def otOther : ObjE → OType
  | .stream _ => .stream
  | _ => .module

theorem stream_rtype_cases (s : StreamE) (h1 : 1 ≤ s.ver) (h4 : s.ver ≤ 4) :
    s.rtype = 15 ∨ s.rtype = 19 ∨ s.rtype = 21 ∨ s.rtype = 26 := by
  have : s.ver = 1 ∨ s.ver = 2 ∨ s.ver = 3 ∨ s.ver = 4 := by omega
  rcases this with h | h | h | h <;> simp [StreamE.rtype, h]

theorem opaque_rtype (o : ObjE) (ho : o.opaque) :
    otypeOf o.rtype = some (otOther o) ∧ otOther o ≠ .function ∧ otOther o ≠ .aux ∧ o.rtype ≠ 4 ∧
    ¬ (o.rtype = 0 ∨ o.rtype = 0xFA) ∧ o.rtype.toNat < 244 := by
  cases o with
  | stream s =>
    obtain ⟨⟨_, h1, h4, _⟩, _⟩ := ho
    rcases stream_rtype_cases s h1 h4 with h | h | h | h <;>
      (simp only [ObjE.rtype, h, otOther]; decide)
  | module2 id ops => simp only [ObjE.rtype, otOther]; decide
  | _ => exact absurd ho (by simp [ObjE.opaque])

theorem skipValue_opaque (o : ObjE) (rest : Bytes) (ho : o.opaque) : skipValue o.rtype (o.ser ++ rest) = some rest := by
  cases o with
  | stream s =>
    obtain ⟨hwf, hs⟩ := ho
    have hsk := skipStream_ser s rest hwf hs
    obtain ⟨_, h1, h4, _⟩ := hwf
    simp only [ObjE.rtype, ObjE.ser]
    rcases stream_rtype_cases s h1 h4 with h | h | h | h <;>
      (rw [h] at hsk ⊢; unfold skipValue; simpa using hsk)
  | module2 id ops =>
    obtain ⟨hid, hw⟩ := ho
    obtain ⟨r, h1, h2⟩ := skipModule_payload id ops rest hid hw
    simp only [ObjE.rtype, ObjE.ser]
    unfold skipValue
    simp [h1, h2]
  | _ => exact absurd ho (by simp [ObjE.opaque])

theorem pobjOf_opaque (key : Bytes) (o : ObjE) (ho : o.opaque) :
    pobjOf key o = { rtype := o.rtype, key := key, val := [], buf := o.ser, total := 0, read := 0, history := 0 } := by
  cases o <;> first | rfl | exact absurd ho (by simp [ObjE.opaque])

/-- `ReadBuffer` on key + serialization of a stream / module value: the parser object
    whose teed buffer is exactly the serialization (`raw_is_encode` for opaque values) -/
theorem readBuffer_opaque (cfg : DCfg) (ls : LState) (key : SE) (o : ObjE) (rest : Bytes)
    (hls : ls.total = 0 ∧ ls.read = 0) (hkey : key.wf) (ho : o.opaque) :
    readBuffer cfg ls o.rtype (key.enc ++ (o.ser ++ rest)) =
      some (pobjOf key.val o, { ls with total := 0, read := 0 }, rest) := by
  obtain ⟨hot, hnf, _, hh, hval, _⟩ := opaque_rtype o ho
  unfold readBuffer
  simp only [hot, hnf, if_false, hls.1, hls.2, Nat.sub_self, ne_eq, not_true_eq_false, hh,
    readString_enc key _ hkey, skipValue_opaque o rest ho, consumed_append, hval, if_true,
    pobjOf_opaque key.val o ho]

/-- `Loader.Next` on a key item holding a stream or a module value: ONE entry with the
    key, the loader's DB, the expiry, and the parser object whose teed buffer is the
    value's serialization; the loader is ready for the next item behind the value -/
theorem next_opaque (cfg : DCfg) (ls : LState) (k : KeyE) (rest : Bytes)
    (hls : ls.total = 0 ∧ ls.read = 0) (hwf : k.wf) (ho : k.obj.opaque) :
    ∃ e ls', next cfg ls (k.enc ++ rest) = some (some e, ls', rest) ∧
      e.key = k.key.val ∧ e.db = (ls.db : Int) ∧ e.expireAt = k.exp.at ∧
      e.type = k.obj.rtype ∧ e.obj = pobjOf k.key.val k.obj ∧
      ls'.db = ls.db ∧ ls'.total = 0 ∧ ls'.read = 0 := by
  have hwf' := hwf
  obtain ⟨hkey, _, _, _, _⟩ := hwf
  have hls0 : ls.total - ls.read = 0 := by omega
  obtain ⟨fuel, hnext0⟩ := next_at_key cfg ls k rest hls0 hwf'
  obtain ⟨hm1, _, _, _⟩ := metaOf_fields k
  obtain ⟨hot, hnf, _, hh, hval, hlt⟩ := opaque_rtype k.obj ho
  obtain ⟨n1, n2, n3, n4, n5, n6, n7, n8, n9, n10, n11⟩ := not_opcode k.obj.rtype hlt
  have hrb := readBuffer_opaque cfg ls k.key k.obj rest hls hkey ho
  refine ⟨{ metaOf k {} with db := (ls.db : Int), key := k.key.val, type := k.obj.rtype,
                              obj := pobjOf k.key.val k.obj },
          { ({ ls with total := 0, read := 0 } : LState) with
              last := some { metaOf k {} with db := (ls.db : Int), key := k.key.val, type := k.obj.rtype,
                                              obj := pobjOf k.key.val k.obj } }, ?_, rfl, rfl, hm1, rfl, rfl, rfl, rfl, rfl⟩
  rw [hnext0]
  have hn : ¬ (ls.total - ls.read ≠ 0) := by omega
  simp only [nextLoop, hn, if_false, n1, n2, n3, n4, n5, n6, n7, n8, n9, n10, n11, hrb]
  rfl

theorem nextLoop_modaux (cfg : DCfg) (F : Nat) (ls : LState) (e : Entry) (id : Nat) (ops : List ModOp) (X : Bytes)
    (hls : ls.total - ls.read = 0) (hid : id < 2 ^ 64) (hw : ∀ o ∈ ops, o.wf) (hpol : cfg.failModAux = false) :
    nextLoop cfg (F + 1) ls e ((Item.moduleAux id ops).enc ++ X) = nextLoop cfg F ls e X := by
  obtain ⟨r, h1, h2⟩ := skipModule_payload id ops X hid hw
  rw [Item.enc, List.cons_append, nextLoop_moduleaux cfg F ls e _ hls]
  simp only [h1, h2, hpol, Bool.false_eq_true, if_false]

end GunYu.Rdb
