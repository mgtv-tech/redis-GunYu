/-
  Helper lemmas for C03: `ReadBuffer` consumes exactly the value's
  serialization (the teed bytes are the encoding), for every non-stream value.
-/
import GunYu.Proofs.Rdb.Obj

namespace GunYu.Rdb
open GunYu

theorem consumed_append (a r : Bytes) : consumed (a ++ r) r = a := by
  unfold consumed
  have : (a ++ r).length - r.length = a.length := by simp
  rw [this, List.take_left' rfl]

theorem skipString_enc (s : SE) (rest : Bytes) (h : s.wf) : skipString (s.enc ++ rest) = some rest := by
  simp [skipString, readString_enc s rest h]

theorem skipLength_encLen (f : LenForm) (n : Nat) (rest : Bytes) (h : f.fits n) (h32 : n < 2 ^ 32) :
    skipLength (encLen f n ++ rest) = some rest := by
  simp [skipLength, readLength_encLen f n rest h h32]

theorem skipMany_flatMap {α} (f : Bytes → Option Bytes) (enc : α → Bytes) (l : List α) (rest : Bytes)
    (h : ∀ a ∈ l, ∀ r, f (enc a ++ r) = some r) :
    skipMany f l.length (l.flatMap enc ++ rest) = some rest := by
  induction l with
  | nil => simp [skipMany]
  | cons a l ih =>
    simp only [List.length_cons, List.flatMap_cons, List.append_assoc, skipMany]
    rw [h a (List.mem_cons_self ..)]
    exact ih (fun x hx => h x (List.mem_cons_of_mem _ hx))

/-- the types whose value is one string (string, aux value, function, and every packed encoding) -/
theorem skipValue_str (t : UInt8) (bs : Bytes)
    (h : (t = 0 ∨ t = 0xFA ∨ t = 0xF5) ∨ t = 10 ∨ t = 11 ∨ t = 20 ∨ t = 12 ∨ t = 17 ∨ t = 9 ∨ t = 13 ∨ t = 16) :
    skipValue t bs = skipString bs := by
  unfold skipValue
  rcases h with h | h
  · rw [if_pos h]
  · by_cases h0 : t = 0 ∨ t = 0xFA ∨ t = 0xF5
    · rw [if_pos h0]
    · rw [if_neg h0, if_pos h]

theorem skipValue_strs (t : UInt8) (bs : Bytes) (h : t = 1 ∨ t = 14 ∨ t = 2) :
    skipValue t bs = (readLength bs).bind fun nr => skipMany skipString nr.1 nr.2 := by
  rcases h with rfl | rfl | rfl <;> cases hr : readLength bs <;> simp [skipValue, hr]

theorem skipValue_ser (o : ObjE) (rest : Bytes) (hwf : o.wf) (hk : o.kind ≠ .other)
    (hh : o.rtype ≠ 4) : skipValue o.rtype (o.ser ++ rest) = some rest := by
  cases o with
  | str s => exact (skipValue_str 0 _ (by decide)).trans (skipString_enc s rest hwf)
  | listZiplist w zl => exact (skipValue_str 10 _ (by decide)).trans (skipString_enc w rest hwf.1)
  | setIntset w width vs => exact (skipValue_str 11 _ (by decide)).trans (skipString_enc w rest hwf.1)
  | setListpack w es => exact (skipValue_str 20 _ (by decide)).trans (skipString_enc w rest hwf.1)
  | zsetZiplist w zl => exact (skipValue_str 12 _ (by decide)).trans (skipString_enc w rest hwf.1)
  | zsetListpack w es => exact (skipValue_str 17 _ (by decide)).trans (skipString_enc w rest hwf.1)
  | hashZipmap w items => exact (skipValue_str 9 _ (by decide)).trans (skipString_enc w rest hwf.1)
  | hashZiplist w zl => exact (skipValue_str 13 _ (by decide)).trans (skipString_enc w rest hwf.1)
  | hashListpack w es => exact (skipValue_str 16 _ (by decide)).trans (skipString_enc w rest hwf.1)
  | listLinked f items =>
    obtain ⟨hf, h32, hi⟩ := hwf
    simp only [ObjE.rtype, ObjE.ser, List.append_assoc]
    rw [skipValue_strs 1 _ (by decide), readLength_encLen f _ _ hf h32]
    exact skipMany_flatMap skipString SE.enc items rest (fun a ha r => skipString_enc a r (hi a ha))
  | listQuick f nodes =>
    obtain ⟨hf, h32, hn⟩ := hwf
    simp only [ObjE.rtype, ObjE.ser, List.append_assoc]
    rw [skipValue_strs 14 _ (by decide), readLength_encLen f _ _ hf h32]
    exact skipMany_flatMap skipString (fun n => n.1.enc) nodes rest (fun a ha r => skipString_enc a.1 r (hn a ha).1)
  | setTable f items =>
    obtain ⟨hf, h32, hi⟩ := hwf
    simp only [ObjE.rtype, ObjE.ser, List.append_assoc]
    rw [skipValue_strs 2 _ (by decide), readLength_encLen f _ _ hf h32]
    exact skipMany_flatMap skipString SE.enc items rest (fun a ha r => skipString_enc a r (hi a ha))
  | listQuick2 f nodes =>
    obtain ⟨hf, h32, hn⟩ := hwf
    have h18 : ∀ bs, skipValue 18 bs = (readLength bs).bind fun nr =>
        skipMany (fun b => (skipLength b).bind skipString) nr.1 nr.2 := by
      intro bs; cases hr : readLength bs <;> simp [skipValue, hr]
    simp only [ObjE.rtype, ObjE.ser, List.append_assoc]
    rw [h18, readLength_encLen f _ _ hf h32]
    apply skipMany_flatMap
    intro a ha r
    have hwa := hn a ha
    cases a with
    | plain s =>
      simp only [QNode.enc, List.append_assoc]
      rw [skipLength_encLen .b6 1 _ (by decide) (by decide)]
      exact skipString_enc s r hwa
    | packed w es =>
      simp only [QNode.enc, List.append_assoc]
      rw [skipLength_encLen .b6 2 _ (by decide) (by decide)]
      exact skipString_enc w r hwa.1
  | zset1 f items =>
    obtain ⟨hf, h32, hi⟩ := hwf
    have h3 : ∀ bs, skipValue 3 bs = (readLength bs).bind fun nr =>
        skipMany (fun b => (skipString b).bind (fun r1 => (readFloatStr r1).map (·.2))) nr.1 nr.2 := by
      intro bs; cases hr : readLength bs <;> simp [skipValue, hr]
    simp only [ObjE.rtype, ObjE.ser, List.append_assoc]
    rw [h3, readLength_encLen f _ _ hf h32]
    apply skipMany_flatMap
    intro a ha r
    simp only [List.append_assoc]
    rw [skipString_enc a.1 _ (hi a ha).1]
    simp [readFloatStr_enc a.2 r (hi a ha).2]
  | zset2 f items =>
    obtain ⟨hf, h32, hi⟩ := hwf
    have h5 : ∀ bs, skipValue 5 bs = (readLength bs).bind fun nr =>
        skipMany (fun b => (skipString b).bind (skipN 8)) nr.1 nr.2 := by
      intro bs; cases hr : readLength bs <;> simp [skipValue, hr]
    simp only [ObjE.rtype, ObjE.ser, List.append_assoc]
    rw [h5, readLength_encLen f _ _ hf h32]
    apply skipMany_flatMap
    intro a ha r
    simp only [List.append_assoc]
    rw [skipString_enc a.1 _ (hi a ha).1]
    simp [skipN, readN_append' 8 _ _ (leN_length 8 _)]
  | hashTable f items => exact absurd rfl hh
  | stream s => exact absurd rfl hk
  | module2 id ops => exact absurd rfl hk
  | raw t b => exact absurd rfl hk

theorem otOf_ne_function (o : ObjE) : otOf o ≠ .function := by
  unfold otOf; cases o.kind <;> decide

theorem rtype_val_flag (o : ObjE) (hk : o.kind ≠ .other) (hs : o.kind ≠ .str) :
    ¬ (o.rtype = 0 ∨ o.rtype = 0xFA) := by
  cases o <;> first
    | exact absurd rfl hk
    | exact absurd rfl hs
    | (simp only [ObjE.rtype]; decide)

/-- `ReadBuffer` on key + serialization with no value pending: the parser object of the value, with
    the teed buffer equal to the serialization (`raw_is_encode`); the loader's DB and last entry play no part -/
theorem readBuffer_value (cfg : DCfg) (ls : LState) (key : SE) (o : ObjE) (rest : Bytes)
    (hls : ls.total = 0 ∧ ls.read = 0) (hkey : key.wf) (hwf : o.wf) (hk : o.kind ≠ .other) (hh : o.rtype ≠ 4) :
    readBuffer cfg ls o.rtype (key.enc ++ (o.ser ++ rest)) =
      some (pobjOf key.val o, { ls with total := 0, read := 0 }, rest) := by
  have hot := otypeOf_rtype o hk
  have hnf := otOf_ne_function o
  unfold readBuffer
  simp only [hot, hnf, if_false, hls.1, hls.2, Nat.sub_self, ne_eq, not_true_eq_false]
  rw [readString_enc key _ hkey]
  simp only [hh, if_false]
  rw [skipValue_ser o rest hwf hk hh]
  simp only [consumed_append]
  by_cases hs : o.kind = .str
  · cases o with
    | str s =>
      simp only [pobjOf, ObjE.ser, ObjE.rtype, true_or, if_true]
      rw [readString_enc s rest hwf]
      rfl
    | _ => simp [ObjE.kind] at hs
  · have hn := rtype_val_flag o hk hs
    simp only [hn, if_false]
    cases o with
    | str s => exact absurd rfl hs
    | hashTable f items => exact absurd rfl hh
    | _ => rfl

theorem readBuffer_plain (cfg : DCfg) (key : SE) (o : ObjE) (rest : Bytes)
    (hkey : key.wf) (hwf : o.wf) (hk : o.kind ≠ .other) (hh : o.rtype ≠ 4) :
    readBuffer cfg {} o.rtype (key.enc ++ (o.ser ++ rest)) = some (pobjOf key.val o, {}, rest) :=
  readBuffer_value cfg {} key o rest ⟨rfl, rfl⟩ hkey hwf hk hh

end GunYu.Rdb
