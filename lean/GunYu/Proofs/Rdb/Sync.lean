/-
  Helper lemmas for C03 `full_sync`: the loader over a whole item list
  (fuel monotonicity of `Next`, items stepped over inside one `Next`, AUX and
  function items, segments of entries), the single-worker replay and the
  multi-database oracle.
-/
import GunYu.Proofs.Rdb.Chunk
import GunYu.Proofs.Rdb.Frame
import GunYu.Proofs.Rdb.FanOut
import GunYu.Proofs.Rdb.Sem
import GunYu.Proofs.Rdb.Commute
import GunYu.Proofs.Rdb.Decimal
import GunYu.Model.Rdb.Dataset
import GunYu.Proofs.Rdb.NextOther

namespace GunYu.Rdb
open GunYu GunYu.RedisSem

theorem nextLoop_mono (cfg : DCfg) : ∀ (F F' : Nat) (ls : LState) (e : Entry) (bs : Bytes)
    (r : Option Entry × LState × Bytes),
    nextLoop cfg F ls e bs = some r → F ≤ F' → nextLoop cfg F' ls e bs = some r := by
  intro F
  induction F with
  | zero => intro F' ls e bs r h; simp [nextLoop] at h
  | succ F ih =>
    intro F' ls e bs r h hle
    obtain ⟨G, rfl⟩ : ∃ G, F' = G + 1 := ⟨F' - 1, by omega⟩
    have IH := fun ls e bs h => ih G ls e bs r h (by omega)
    -- both sides branch alike; they differ in the fuel of the recursive calls only
    have ite : ∀ {c : Prop} [Decidable c] {a a' b b' : Option (Option Entry × LState × Bytes)},
        (a = some r → a' = some r) → (b = some r → b' = some r) →
        (if c then a else b) = some r → (if c then a' else b') = some r := by
      intro c _ a a' b b' ha hb; split <;> assumption
    revert h
    rw [nextLoop.eq_def, nextLoop.eq_def]; dsimp only
    refine ite id ?_
    cases bs with
    | nil => exact id
    | cons t r =>
      dsimp only
      refine ite id (ite ?fb (ite ?fc (ite ?fd (ite ?fe (ite ?f4 (ite id (ite ?f7 (ite ?f8 (ite ?f9 id)))))))))
      case fb =>
        cases skipLength r with
        | none => exact id
        | some r1 => dsimp only; cases skipLength r1 <;> first | exact id | exact IH _ _ _
      case fc => cases readN 8 r <;> first | exact id | exact IH _ _ _
      case fd => cases readN 4 r <;> first | exact id | exact IH _ _ _
      case fe => cases readLength r <;> first | exact id | exact IH _ _ _
      case f4 => cases skipMany skipLength64 3 r <;> first | exact id | exact IH _ _ _
      case f7 =>
        cases skipLength64 r with
        | none => exact id
        | some r1 =>
          dsimp only
          cases skipModuleValue (r1.length + 1) r1 with
          | none => exact id
          | some r2 => exact ite id (IH _ _ _)
      case f8 => cases readLength r <;> first | exact id | exact IH _ _ _
      case f9 => cases r <;> first | exact id | exact IH _ _ _

theorem skipLength_encLen' (f : LenForm) (n : Nat) (rest : Bytes) (h : f.fits n) :
    skipLength (encLen f n ++ rest) = some rest := by
  simp [skipLength, readLength, readEncodedLength_encLen f n rest h]

theorem skipLength64_encLen (f : LenForm) (n : Nat) (rest : Bytes) (h : f.fits n) :
    skipLength64 (encLen f n ++ rest) = some rest := by
  simp [skipLength64, readLength64_encLen f n rest h]

def Item.isSkip : Item → Bool
  | .selectDb .. | .resizeDb .. | .slotInfo .. => true
  | _ => false

def lsAfter (ls : LState) : Item → LState
  | .selectDb _ n => { ls with db := n }
  | _ => ls

theorem nextLoop_skip (cfg : DCfg) (F : Nat) (ls : LState) (e : Entry) (i : Item) (X : Bytes)
    (hls : ls.total - ls.read = 0) (hwf : i.wf) (hs : i.isSkip = true) :
    nextLoop cfg (F + 1) ls e (i.enc ++ X) = nextLoop cfg F (lsAfter ls i) e X := by
  cases i with
  | selectDb f n =>
    rw [Item.enc, List.cons_append, nextLoop_selectdb cfg F ls e _ hls, readLength_encLen f n X hwf.1 hwf.2]
    rfl
  | resizeDb f1 a f2 b =>
    rw [Item.enc, List.cons_append, List.append_assoc, nextLoop_resizedb cfg F ls e _ hls,
      skipLength_encLen' f1 a _ hwf.1]
    simp only
    rw [skipLength_encLen' f2 b _ hwf.2]
    rfl
  | slotInfo a b c =>
    obtain ⟨ha, hb, hc⟩ := hwf
    rw [Item.enc, List.cons_append, nextLoop_slotinfo cfg F ls e _ hls]
    simp only [List.append_assoc, skipMany, skipLength64_encLen _ _ _ (minForm_fits a ha),
      skipLength64_encLen _ _ _ (minForm_fits b hb), skipLength64_encLen _ _ _ (minForm_fits c hc)]
    rfl
  | _ => simp [Item.isSkip] at hs

theorem item_enc_pos (i : Item) (hs : i.isSkip = true) : 1 ≤ i.enc.length := by
  cases i <;> simp [Item.isSkip, Item.enc] at hs ⊢

theorem next_skip (cfg : DCfg) (ls : LState) (i : Item) (X : Bytes) (r : Option Entry × LState × Bytes)
    (hls : ls.total - ls.read = 0) (hwf : i.wf) (hs : i.isSkip = true)
    (h : next cfg (lsAfter ls i) X = some r) : next cfg ls (i.enc ++ X) = some r := by
  unfold next at h ⊢
  rw [nextLoop_skip cfg _ ls {} i X hls hwf hs]
  apply nextLoop_mono cfg _ _ _ _ _ _ h
  have := item_enc_pos i hs
  simp only [List.length_append]; omega

def auxObj (k v : SE) : PObj := { rtype := 0xFA, key := k.val, val := v.val, buf := v.enc }

theorem next_aux (cfg : DCfg) (ls : LState) (k v : SE) (X : Bytes)
    (hls : ls.total = 0 ∧ ls.read = 0) (hk : k.wf) (hv : v.wf) :
    next cfg ls ((Item.aux k v).enc ++ X) =
      some (some { db := (ls.db : Int), key := k.val, type := 0xFA, obj := auxObj k v }, ls, X) := by
  obtain ⟨h1, h2⟩ := hls
  have hrb : readBuffer cfg ls 0xFA (k.enc ++ (v.enc ++ X)) = some (auxObj k v, ls, X) := by
    unfold readBuffer
    have hot : otypeOf 0xFA = some .aux := by decide
    simp only [hot, h1, h2, Nat.sub_self, ne_eq, not_true_eq_false, if_false,
      show (OType.aux = OType.function) = False by decide, readString_enc k _ hk,
      show ((0xFA : UInt8) = 4) = False by decide]
    have hsv : skipValue 0xFA (v.enc ++ X) = some X := by simp [skipValue, skipString_enc v X hv]
    cases ls
    simp_all [consumed_append, readString_enc v X hv, auxObj]
  unfold next
  rw [Item.enc, List.cons_append, List.append_assoc, nextLoop_aux cfg _ ls {} _ (by omega), hrb]
  rfl

def fnObj (code : SE) : PObj := { rtype := 0xF5, key := [], val := [], buf := code.enc }

theorem next_function (cfg : DCfg) (ls : LState) (code : SE) (X : Bytes)
    (hls : ls.total = 0 ∧ ls.read = 0) (hc : code.wf) :
    next cfg ls ((Item.function code).enc ++ X) =
      some (some { key := [], type := 0xF5, obj := fnObj code }, ls, X) := by
  obtain ⟨h1, h2⟩ := hls
  have hrb : readBuffer cfg ls 0xF5 (code.enc ++ X) = some (fnObj code, ls, X) := by
    unfold readBuffer
    have hot : otypeOf 0xF5 = some .function := by decide
    simp only [hot, h1, h2, Nat.sub_self, if_true,
      show ((0xF5 : UInt8) = 4) = False by decide, if_false]
    have hsv : skipValue 0xF5 (code.enc ++ X) = some X := by simp [skipValue, skipString_enc code X hc]
    cases ls
    simp_all [consumed_append, fnObj]
  unfold next
  rw [Item.enc, List.cons_append, nextLoop_function cfg _ ls {} _ (by omega), hrb]

/-- `es` are the entries successive `Next` calls return from `(ls, bs)`; they end at `(ls', bs')` -/
inductive Seg (cfg : DCfg) : LState → Bytes → List Entry → LState → Bytes → Prop
  | nil (ls : LState) (bs : Bytes) : Seg cfg ls bs [] ls bs
  | cons {ls : LState} {bs : Bytes} {e : Entry} {ls1 : LState} {bs1 : Bytes} {es : List Entry}
      {ls' : LState} {bs' : Bytes} :
      next cfg ls bs = some (some e, ls1, bs1) → Seg cfg ls1 bs1 es ls' bs' → Seg cfg ls bs (e :: es) ls' bs'

theorem parseLoop_seg (cfg : DCfg) (whole : Bytes) {ls : LState} {bs : Bytes} {es : List Entry}
    {ls' : LState} {bs' : Bytes} (h : Seg cfg ls bs es ls' bs') (F : Nat) :
    parseLoop cfg whole (es.length + F) ls bs =
      (es ++ (parseLoop cfg whole F ls' bs').1, (parseLoop cfg whole F ls' bs').2) := by
  induction h with
  | nil ls bs => simp
  | @cons ls bs e ls1 bs1 es ls' bs' hn _ ih =>
    rw [show (e :: es).length + F = (es.length + F) + 1 by simp; omega]
    simp only [parseLoop, hn, ih, List.cons_append]

theorem nextValue_seg (cfg : DCfg) : ∀ (fuel : Nat) (ls : LState) (bs : Bytes) (es : List Entry)
    (ls' : LState) (rest : Bytes), nextValue cfg fuel ls bs = some (es, ls', rest) →
    Seg cfg ls bs es ls' rest ∧ es.length ≤ fuel := by
  intro fuel
  induction fuel with
  | zero => intro ls bs es ls' rest h; simp [nextValue] at h
  | succ fuel ih =>
    intro ls bs es ls' rest h
    simp only [nextValue] at h
    cases hn : next cfg ls bs with
    | none => simp [hn] at h
    | some r =>
      obtain ⟨oe, ls1, r1⟩ := r
      cases oe with
      | none => simp [hn] at h
      | some e =>
        simp only [hn] at h
        by_cases hz : ls1.total - ls1.read = 0
        · simp only [hz, if_true, Option.some.injEq, Prod.mk.injEq] at h
          obtain ⟨rfl, rfl, rfl⟩ := h
          exact ⟨Seg.cons hn (Seg.nil _ _), by simp⟩
        · simp only [hz, if_false] at h
          cases hv : nextValue cfg fuel ls1 r1 with
          | none => simp [hv] at h
          | some q =>
            obtain ⟨es1, l, r⟩ := q
            simp only [hv, Option.some.injEq, Prod.mk.injEq] at h
            obtain ⟨rfl, rfl, rfl⟩ := h
            obtain ⟨hs, hl⟩ := ih _ _ _ _ _ hv
            exact ⟨Seg.cons hn hs, by simp; omega⟩

theorem encLen_pos (f : LenForm) (n : Nat) : 1 ≤ (encLen f n).length := by
  cases f <;> simp [encLen]

theorem se_enc_pos (s : SE) : 1 ≤ s.enc.length := by
  cases s <;> simp [SE.enc]
  have := encLen_pos ‹_› (List.length ‹_›); omega

theorem encPairs_len (ps : List (SE × SE)) : ps.length ≤ (encPairs ps).length := by
  induction ps with
  | nil => simp [encPairs]
  | cons p ps ih =>
    have := se_enc_pos p.1
    simp only [encPairs, List.flatMap_cons, List.length_append, List.length_cons] at ih ⊢
    omega

theorem rtype4_hashTable (o : ObjE) (hk : o.kind ≠ .other) (h4 : o.rtype = 4) :
    ∃ f items, o = .hashTable f items := by
  cases o <;> first
    | exact ⟨_, _, rfl⟩
    | exact absurd rfl hk
    | (simp [ObjE.rtype] at h4)

/-- what every entry of key item `k`, read in source database `db`, carries -/
def EntryOf (db : Nat) (k : KeyE) (e : Entry) : Prop :=
  e.key = k.key.val ∧ e.db = (db : Int) ∧ e.expireAt = k.exp.at

structure IsChunk (db : Nat) (k : KeyE) (e : Entry) : Prop where
  ent : EntryOf db k e
  hokey : e.obj.key = k.key.val
  hrt : e.obj.rtype = 4
  hsp : e.obj.isSplited = true
  hsome : (hashPairs e.obj).isSome = true

/-- the entries the loader returns for key item `k`: ONE entry with the parser object
    of the whole value, or — a hash table above the chunk threshold — several chunks -/
def KeyEntries (db : Nat) (k : KeyE) (ces : List Entry) : Prop :=
  (∃ e, ces = [e] ∧ EntryOf db k e ∧ e.obj = pobjOf k.key.val k.obj) ∨
  (∃ f items e0 tl, k.obj = .hashTable f items ∧ ces = e0 :: tl ∧ (∀ e ∈ ces, IsChunk db k e) ∧
    e0.obj.firstBin = true ∧ (∀ e ∈ tl, e.obj.firstBin = false) ∧
    ces.flatMap (fun e => (hashPairs e.obj).getD []) = pairVals items)

theorem keyEntries_all {db : Nat} {k : KeyE} {ces : List Entry} (h : KeyEntries db k ces) :
    ∀ e ∈ ces, e.key = k.key.val ∧ e.db = (db : Int) := by
  intro e he
  rcases h with ⟨e0, rfl, h0, _⟩ | ⟨f, items, e0, tl, _, _, hc, _⟩
  · cases List.mem_singleton.mp he; exact ⟨h0.1, h0.2.1⟩
  · exact ⟨(hc e he).ent.1, (hc e he).ent.2.1⟩

/-- the entries of an item list read from source database `db` -/
inductive Trace : Nat → List Item → List Entry → Prop
  | nil (db : Nat) : Trace db [] []
  | skip {db : Nat} {i : Item} {items : List Item} {es : List Entry} :
      i.isSkip = true → Trace (dbAfter db i) items es → Trace db (i :: items) es
  | aux {db : Nat} {k v : SE} {items : List Item} {es : List Entry} {e : Entry} :
      e.db = (db : Int) → e.obj.rtype = 0xFA → Trace db items es → Trace db (.aux k v :: items) (e :: es)
  | function {db : Nat} {code : SE} {items : List Item} {es : List Entry} {e : Entry} :
      e.db = -1 → e.obj.rtype = 0xF5 → Trace db items es → Trace db (.function code :: items) (e :: es)
  | key {db : Nat} {k : KeyE} {items : List Item} {ces es : List Entry} :
      KeyEntries db k ces → Trace db items es → Trace db (.key k :: items) (ces ++ es)

theorem lsAfter_db (ls : LState) (i : Item) : (lsAfter ls i).db = dbAfter ls.db i := by
  cases i <;> rfl

theorem lsAfter_counts (ls : LState) (i : Item) :
    (lsAfter ls i).total = ls.total ∧ (lsAfter ls i).read = ls.read := by
  cases i <;> exact ⟨rfl, rfl⟩

theorem parseLoop_same (cfg : DCfg) (whole : Bytes) (F : Nat) (ls ls' : LState) (bs bs' : Bytes)
    (h : next cfg ls bs = next cfg ls' bs') :
    parseLoop cfg whole F ls bs = parseLoop cfg whole F ls' bs' := by
  cases F with
  | zero => rfl
  | succ F => simp only [parseLoop, h]

theorem keyE_enc_len (k : KeyE) : 1 + k.key.enc.length + k.obj.ser.length ≤ k.enc.length := by
  simp only [KeyE.enc, List.length_append, List.length_cons, List.length_nil]; omega

/-- module aux items are stepped over by the loader under the `skip` policy: they leave
    no entry -/
def Item.isModAux : Item → Bool
  | .moduleAux .. => true
  | _ => false

def stripAux (items : List Item) : List Item := items.filter (fun i => !i.isModAux)

/-- what the loader needs of an item to read it: a module aux item needs the `skip`
    policy; a key item holds a non-empty value of a string / list / set / sorted-set /
    hash encoding, or a stream / module value (`ObjE.opaque`) -/
def Item.readable (cfg : DCfg) : Item → Prop
  | .moduleAux .. => cfg.failModAux = false
  | .key k => (k.obj.kind ≠ .other ∧ k.obj.nonempty) ∨ k.obj.opaque
  | _ => True

theorem stripAux_cons (i : Item) (items : List Item) (h : i.isModAux = false) :
    stripAux (i :: items) = i :: stripAux items := by
  simp [stripAux, h]

theorem next_modaux (cfg : DCfg) (ls : LState) (id : Nat) (ops : List ModOp) (X : Bytes) (r : Option Entry × LState × Bytes)
    (hls : ls.total - ls.read = 0) (hid : id < 2 ^ 64) (hw : ∀ o ∈ ops, o.wf) (hpol : cfg.failModAux = false)
    (h : next cfg ls X = some r) : next cfg ls ((Item.moduleAux id ops).enc ++ X) = some r := by
  unfold next at h ⊢
  rw [nextLoop_modaux cfg _ ls {} id ops X hls hid hw hpol]
  apply nextLoop_mono cfg _ _ _ _ _ _ h
  simp only [Item.enc, List.cons_append, List.length_cons, List.length_append]; omega

theorem parse_stepped_over (cfg : DCfg) (whole : Bytes) (F : Nat) (ls ls2 : LState) (bs X : Bytes)
    (h : ∀ r, next cfg ls2 X = some r → next cfg ls bs = some r) (hsome : (next cfg ls2 X).isSome = true) :
    (next cfg ls bs).isSome = true ∧ parseLoop cfg whole F ls bs = parseLoop cfg whole F ls2 X := by
  obtain ⟨r, hr⟩ := Option.isSome_iff_exists.mp hsome
  have hnx := h r hr
  exact ⟨by rw [hnx]; rfl, parseLoop_same cfg whole F ls ls2 bs X (by rw [hnx, hr])⟩

theorem parse_after_seg (cfg : DCfg) (whole : Bytes) {ls ls' : LState} {bs X : Bytes} {ces es : List Entry} {ok : Bool}
    (hseg : Seg cfg ls bs ces ls' X) (hne : ces ≠ []) (F : Nat) (hlen : ces.length ≤ F)
    (hpl : parseLoop cfg whole (F - ces.length) ls' X = (es, ok)) :
    (next cfg ls bs).isSome = true ∧ parseLoop cfg whole F ls bs = (ces ++ es, ok) := by
  have hps := parseLoop_seg cfg whole hseg (F - ces.length)
  rw [show ces.length + (F - ces.length) = F by omega, hpl] at hps
  refine ⟨?_, hps⟩
  cases hseg with
  | nil => exact absurd rfl hne
  | cons hn _ => rw [hn]; rfl

theorem key_entries (cfg : DCfg) (ls : LState) (k : KeyE) (X : Bytes) (hls : ls.total = 0 ∧ ls.read = 0)
    (hwf : k.wf) (hr : (k.obj.kind ≠ .other ∧ k.obj.nonempty) ∨ k.obj.opaque) :
    ∃ ces ls', Seg cfg ls (k.enc ++ X) ces ls' X ∧ ces ≠ [] ∧ ces.length ≤ k.enc.length ∧
      (ls'.total = 0 ∧ ls'.read = 0) ∧ ls'.db = ls.db ∧ KeyEntries ls.db k ces := by
  have hlen := keyE_enc_len k
  rcases hr with ⟨hk, hne⟩ | hop
  case inr =>
    -- a stream or a module value: one entry whose buffer is the serialization
    obtain ⟨e, ls', hnx, he1, he2, he3, _, he7, hdb, hz1, hz2⟩ := next_opaque cfg ls k X hls hwf hop
    exact ⟨[e], ls', Seg.cons hnx (Seg.nil _ _), by simp, by simp only [List.length_singleton]; omega, ⟨hz1, hz2⟩, hdb,
      Or.inl ⟨e, rfl, ⟨he1, he2, he3⟩, he7⟩⟩
  by_cases h4 : k.obj.rtype = 4
  · obtain ⟨f, its, hobj⟩ := rtype4_hashTable k.obj hk h4
    have hne' : its ≠ [] := by
      intro h0
      rw [hobj, h0] at hne
      simp [ObjE.nonempty, ObjE.kind, ObjE.pairs] at hne
    obtain ⟨ces, ls', hnv, _, hdb, hall, ⟨e0, tl, hces, hfb0, hfbtl⟩, hsome, hflat, hz1, hz2, halt⟩ :=
      nextValue_hash cfg ls k f its X hobj hls hwf hne'
    obtain ⟨hseg, hcl⟩ := nextValue_seg cfg _ _ _ _ _ _ hnv
    have hser : its.length + 1 ≤ k.obj.ser.length := by
      rw [hobj]
      have := encPairs_len its
      have := encLen_pos f its.length
      simp only [ObjE.ser, List.length_append, encPairs] at *
      omega
    refine ⟨ces, ls', hseg, by rw [hces]; simp, by omega, ⟨hz1, hz2⟩, hdb, ?_⟩
    rcases halt with ⟨e, he1, he2⟩ | hsp
    · have := hall e (by rw [he1]; simp)
      exact Or.inl ⟨e, he1, ⟨this.1, this.2.1, this.2.2.1⟩, he2⟩
    · refine Or.inr ⟨f, its, e0, tl, hobj, hces, fun e he => ?_, hfb0, hfbtl, hflat⟩
      have := hall e he
      exact ⟨⟨this.1, this.2.1, this.2.2.1⟩, this.2.2.2.2.2.2.1, this.2.2.2.2.2.2.2, hsp e he, hsome e he⟩
  · obtain ⟨e, ls', hnx, he1, he2, he3, _, _, _, he7, hdb, hz1, hz2⟩ := next_plain cfg ls k X hls hwf hk h4
    exact ⟨[e], ls', Seg.cons hnx (Seg.nil _ _), by simp, by simp only [List.length_singleton]; omega, ⟨hz1, hz2⟩, hdb,
      Or.inl ⟨e, rfl, ⟨he1, he2, he3⟩, he7⟩⟩

theorem parse_items (cfg : DCfg) (whole foot : Bytes) : ∀ (items : List Item),
    (∀ i ∈ items, i.wf) → (∀ i ∈ items, i.readable cfg) →
    ∀ (ls : LState) (F : Nat), ls.total = 0 ∧ ls.read = 0 → (items.flatMap Item.enc).length + 1 ≤ F →
      (next cfg ls (items.flatMap Item.enc ++ 0xFF :: foot)).isSome = true ∧
      ∃ es, parseLoop cfg whole F ls (items.flatMap Item.enc ++ 0xFF :: foot) =
              (es, footer whole foot && inputEnds foot) ∧ Trace ls.db (stripAux items) es := by
  intro items
  induction items with
  | nil =>
    intro _ _ ls F hls hF
    have hnext : next cfg ls (0xFF :: foot) = some (none, ls, foot) :=
      nextLoop_eof cfg _ ls {} foot (by omega)
    obtain ⟨F', rfl⟩ : ∃ F', F = F' + 1 := ⟨F - 1, by omega⟩
    simp only [List.flatMap_nil, List.nil_append, hnext, Option.isSome_some, parseLoop, true_and]
    exact ⟨[], rfl, Trace.nil _⟩
  | cons i items ih =>
    intro hwf hcar ls F hls hF
    have hwfi := hwf i (List.mem_cons_self ..)
    have hcari := hcar i (List.mem_cons_self ..)
    have ih' := ih (fun x hx => hwf x (List.mem_cons_of_mem _ hx)) (fun x hx => hcar x (List.mem_cons_of_mem _ hx))
    simp only [List.flatMap_cons, List.append_assoc, List.length_append] at hF ⊢
    generalize hX : items.flatMap Item.enc ++ 0xFF :: foot = X at ih' ⊢
    have hls0 : ls.total - ls.read = 0 := by omega
    -- an item that yields the entries `ces` (at least one), after which the loader is at `ls'`
    have hent : ∀ (ces : List Entry) (ls' : LState), Seg cfg ls (i.enc ++ X) ces ls' X → ces ≠ [] →
        ces.length ≤ i.enc.length → ls'.total = 0 ∧ ls'.read = 0 →
        (∀ es, Trace ls'.db (stripAux items) es → Trace ls.db (stripAux (i :: items)) (ces ++ es)) →
        (next cfg ls (i.enc ++ X)).isSome = true ∧
        ∃ es, parseLoop cfg whole F ls (i.enc ++ X) = (es, footer whole foot && inputEnds foot) ∧
          Trace ls.db (stripAux (i :: items)) es := by
      intro ces ls' hseg hne hlen hz htrace
      obtain ⟨_, es, hpl, htr⟩ := ih' ls' (F - ces.length) hz (by omega)
      obtain ⟨h1, h2⟩ := parse_after_seg cfg whole hseg hne F (by omega) hpl
      exact ⟨h1, ces ++ es, h2, htrace es htr⟩
    by_cases hs : i.isSkip = true
    · -- SELECTDB / RESIZEDB / slot info: stepped over inside `Next`
      have hc := lsAfter_counts ls i
      obtain ⟨hsome, es, hpl, htr⟩ := ih' (lsAfter ls i) F (by rw [hc.1, hc.2]; exact hls) (by omega)
      obtain ⟨h1, h2⟩ := parse_stepped_over cfg whole F ls (lsAfter ls i) _ X
        (fun r hr => next_skip cfg ls i X r hls0 hwfi hs hr) hsome
      rw [lsAfter_db] at htr
      refine ⟨h1, es, by rw [h2, hpl], ?_⟩
      rw [stripAux_cons i items (by cases i <;> first | rfl | simp [Item.isSkip] at hs)]
      exact Trace.skip hs htr
    cases i with
    | selectDb _ _ | resizeDb _ _ _ _ | slotInfo _ _ _ => simp [Item.isSkip] at hs
    | moduleAux id ops =>
      -- module aux data under the `skip` policy: stepped over inside `Next`
      obtain ⟨hsome, es, hpl, htr⟩ := ih' ls F hls (by omega)
      obtain ⟨h1, h2⟩ := parse_stepped_over cfg whole F ls ls _ X
        (fun r hr => next_modaux cfg ls id ops X r hls0 hwfi.1 hwfi.2 hcari hr) hsome
      exact ⟨h1, es, by rw [h2, hpl], htr⟩
    | aux k v =>
      refine hent _ ls (Seg.cons (next_aux cfg ls k v X hls hwfi.1 hwfi.2) (Seg.nil _ _)) (by simp)
        (by simp [Item.enc]) hls fun es htr => ?_
      rw [stripAux_cons _ items rfl]
      exact Trace.aux (e := { db := (ls.db : Int), key := k.val, type := 0xFA, obj := auxObj k v }) rfl rfl htr
    | function code =>
      refine hent _ ls (Seg.cons (next_function cfg ls code X hls hwfi) (Seg.nil _ _)) (by simp)
        (by simp [Item.enc]) hls fun es htr => ?_
      rw [stripAux_cons _ items rfl]
      exact Trace.function (e := { key := [], type := 0xF5, obj := fnObj code }) rfl rfl htr
    | key k =>
      obtain ⟨ces, ls', hseg, hne, hlen, hz, hdb, hke⟩ := key_entries cfg ls k X hls hwfi hcari
      refine hent ces ls' hseg hne hlen hz fun es htr => ?_
      rw [stripAux_cons _ items rfl]
      rw [hdb] at htr
      exact Trace.key hke htr

theorem del_absent (ks : Keyspace) (k : Bytes) (h : RedisSem.get ks k = none) : del ks k = ks := by
  have ha := any_false_of_get_none ks k h
  rw [List.any_eq_false] at ha
  unfold del
  rw [List.filter_eq_self]
  intro a ha'
  have := ha a ha'
  simp at this
  simp [this]

theorem get_append (ks l : Keyspace) (k : Bytes) :
    RedisSem.get (ks ++ l) k = (RedisSem.get ks k).or (RedisSem.get l k) := by
  unfold RedisSem.get
  rw [List.find?_append]
  cases ks.find? (fun e => e.1 == k) <;> rfl

theorem lower_restore : lower b!"restore" = b!"restore" := by decide

theorem apply_restore (ks : Keyspace) (k t payload : Bytes) (opts : List Bytes) :
    applyXCmd ks (cmdB b!"restore" (k :: t :: payload :: opts)) = doRestore ks k t payload (opts.map Arg.b) := by
  simp [applyXCmd, applyCmd, cmdB, lower_restore, argBytes]

theorem restore_fresh (ks : Keyspace) (k payload : Bytes) (ttl : Nat) (opts : List Bytes) (h : RedisSem.get ks k = none) :
    applyXCmd ks (cmdB b!"restore" (k :: natToDec ttl :: payload :: opts)) =
      some (ks ++ [(k, .restored payload, ttl)]) := by
  rw [apply_restore]
  simp only [doRestore, decToNat_natToDec, h, Option.isSome_none, Bool.false_and, Bool.false_eq_true, if_false]
  rw [del_absent ks k h, put_new ks k _ _ h]

/-- requests that act on the selected database's keyspace -/
def keyCmd (c : Cmd) : Prop :=
  lower c.name ≠ b!"select" ∧ lower c.name ≠ b!"script" ∧ lower c.name ≠ b!"function"

theorem applyReq_key (t : TState) (c : Cmd) (h : keyCmd c) :
    applyReq t c = (applyXCmd (t.dbs t.cur) c).map (fun ks => t.setDb t.cur ks) := by
  obtain ⟨h1, h2, h3⟩ := h
  simp [applyReq, h1, h2, h3]

theorem setDb_setDb (t : TState) (d : Int) (a b : Keyspace) : (t.setDb d a).setDb d b = t.setDb d b := by
  simp only [TState.setDb, TState.mk.injEq, true_and]
  funext x
  by_cases hx : x = d <;> simp [hx]

theorem setDb_self (t : TState) : t.setDb t.cur (t.dbs t.cur) = t := by
  cases t with
  | mk cur dbs =>
    simp only [TState.setDb, TState.mk.injEq, true_and]
    funext x
    by_cases hx : x = cur <;> simp [hx]

theorem applyReqs_lift (cs : List Cmd) : ∀ (t : TState) (ks' : Keyspace), (∀ c ∈ cs, keyCmd c) →
    applyCmds (t.dbs t.cur) cs = some ks' → applyReqs t cs = some (t.setDb t.cur ks') := by
  induction cs with
  | nil =>
    intro t ks' _ h
    simp only [applyCmds, Option.some.injEq] at h
    subst h
    simp [applyReqs, setDb_self]
  | cons c cs ih =>
    intro t ks' hn h
    simp only [applyCmds] at h
    cases hx : applyXCmd (t.dbs t.cur) c with
    | none => simp [hx] at h
    | some ks1 =>
      simp only [hx] at h
      simp only [applyReqs, applyReq_key t c (hn c (List.mem_cons_self ..)), hx, Option.map_some]
      have := ih (t.setDb t.cur ks1) ks' (fun x hx' => hn x (List.mem_cons_of_mem _ hx'))
        (by simpa [TState.setDb] using h)
      rw [this]
      show some ((t.setDb t.cur ks1).setDb t.cur ks') = _
      rw [setDb_setDb]

theorem applyReqs_append (t : TState) (a b : List Cmd) :
    applyReqs t (a ++ b) = (applyReqs t a).bind (fun t' => applyReqs t' b) := by
  induction a generalizing t with
  | nil => simp [applyReqs]
  | cons c a ih =>
    simp only [List.cons_append, applyReqs]
    cases applyReq t c with
    | none => simp
    | some t' => simp [ih]

theorem applyReqs_noop (cs : List Cmd) (T : TState)
    (h : ∀ c ∈ cs, lower c.name = b!"script" ∨ lower c.name = b!"function") : applyReqs T cs = some T := by
  induction cs with
  | nil => rfl
  | cons c cs ih =>
    have hc := h c (List.mem_cons_self ..)
    have hns : lower c.name ≠ b!"select" := by
      rcases hc with hc | hc <;> (rw [hc]; decide)
    simp only [applyReqs, applyReq, hns, if_false, hc, if_true]
    exact ih (fun x hx => h x (List.mem_cons_of_mem _ hx))

theorem lower_select : lower b!"select" = b!"select" := by decide

theorem applyReq_select (t : TState) (D : Int) (h : 0 ≤ D) :
    applyReq t (cmdB b!"select" [intToDec D]) = some { t with cur := D } := by
  have hn : ¬ D < 0 := by omega
  simp only [applyReq, cmdB, lower_select, if_true, List.map_cons, List.map_nil, intToDec, hn, if_false,
    decToNat_natToDec]
  have : Int.ofNat D.toNat = D := Int.toNat_of_nonneg h
  rw [this]

theorem setDb_dbs (T : TState) (D0 : Int) (ks : Keyspace) (x : Bytes × Val × Nat) (h : ks = T.dbs D0 ++ [x]) :
    ∀ D, (TState.setDb { T with cur := D0 } D0 ks).dbs D = if D = D0 then T.dbs D ++ [x] else T.dbs D := by
  intro D
  by_cases hD : D = D0
  · subst hD; simp [TState.setDb, h]
  · simp [TState.setDb, hD]

/-- the replay loop of a single worker (what `fanOut` is for `parallel = 1`) -/
def runOne (cfg : RCfg) : List Entry → Worker → Exists → Worker × Exists × Bool
  | [], w, ex => (w, ex, true)
  | e :: es, w, ex =>
    let r := workerStep cfg w ex e
    if r.2.2 then runOne cfg es r.1 r.2.1 else r

theorem workerOf_one (cfg : RCfg) (e : Entry) (idx : Nat) : workerOf cfg 1 e idx = 0 := by
  unfold workerOf
  split <;> exact Nat.mod_one _

theorem fanOut_one (cfg : RCfg) (es : List Entry) : ∀ (idx : Nat) (w : Worker) (ex : Exists),
    fanOut cfg es idx [w] ex = ([(runOne cfg es w ex).1], (runOne cfg es w ex).2.1, (runOne cfg es w ex).2.2) := by
  induction es with
  | nil => intro idx w ex; rfl
  | cons e es ih =>
    intro idx w ex
    simp only [fanOut, List.length_singleton, workerOf_one, List.getD_cons_zero, List.set_cons_zero, runOne]
    cases hr : workerStep cfg w ex e with
    | mk w' r2 =>
      obtain ⟨ex', ok⟩ := r2
      cases ok with
      | true => simp [ih]
      | false => simp

theorem runOne_append (cfg : RCfg) (a b : List Entry) : ∀ (w : Worker) (ex : Exists) (w1 : Worker) (ex1 : Exists),
    runOne cfg a w ex = (w1, ex1, true) → runOne cfg (a ++ b) w ex = runOne cfg b w1 ex1 := by
  induction a with
  | nil =>
    intro w ex w1 ex1 h
    simp only [runOne, Prod.mk.injEq] at h
    obtain ⟨rfl, rfl, _⟩ := h
    rfl
  | cons e a ih =>
    intro w ex w1 ex1 h
    simp only [runOne, List.cons_append] at h ⊢
    cases hok : (workerStep cfg w ex e).2.2 with
    | true =>
      simp only [hok, if_true] at h ⊢
      exact ih _ _ _ _ h
    | false =>
      simp only [hok, Bool.false_eq_true, if_false] at h
      rw [h] at hok
      simp at hok

/-- worker `w` with existence table `ex` replays `es` without error and ends as `w'`, `ex'`; the
    requests it issues take the target, as the worker's connection sees it, from `T` to `T'`,
    and the connection ends in the database the worker has recorded -/
def Replays (cfg : RCfg) (es : List Entry) (w : Worker) (ex : Exists) (T : TState)
    (w' : Worker) (ex' : Exists) (T' : TState) : Prop :=
  ∃ log, runOne cfg es w ex = (w', ex', true) ∧ w'.log = w.log ++ log ∧
    applyReqs T log = some T' ∧ w'.cur = T'.cur

theorem Replays.cur {cfg : RCfg} {es : List Entry} {w w' : Worker} {ex ex' : Exists} {T T' : TState}
    (h : Replays cfg es w ex T w' ex' T') : w'.cur = T'.cur := by
  obtain ⟨_, _, _, _, h⟩ := h; exact h

theorem Replays.nil (cfg : RCfg) (w : Worker) (ex : Exists) (T : TState) (h : w.cur = T.cur) :
    Replays cfg [] w ex T w ex T :=
  ⟨[], rfl, (List.append_nil _).symm, rfl, h⟩

theorem Replays.append {cfg : RCfg} {a b : List Entry} {w w1 w2 : Worker} {ex ex1 ex2 : Exists}
    {T T1 T2 : TState} (h1 : Replays cfg a w ex T w1 ex1 T1) (h2 : Replays cfg b w1 ex1 T1 w2 ex2 T2) :
    Replays cfg (a ++ b) w ex T w2 ex2 T2 := by
  obtain ⟨l1, hs1, hl1, ha1, _⟩ := h1
  obtain ⟨l2, hs2, hl2, ha2, hc2⟩ := h2
  refine ⟨l1 ++ l2, ?_, ?_, ?_, hc2⟩
  · rw [runOne_append cfg a b w ex w1 ex1 hs1]; exact hs2
  · rw [hl2, hl1, List.append_assoc]
  · rw [applyReqs_append, ha1]; exact ha2

theorem Replays.one {cfg : RCfg} {e : Entry} {w w' : Worker} {ex ex' : Exists} {T T' : TState}
    (log : List Cmd) (hs : workerStep cfg w ex e = (w', ex', true)) (hl : w'.log = w.log ++ log)
    (ha : applyReqs T log = some T') (hc : w'.cur = T'.cur) : Replays cfg [e] w ex T w' ex' T' :=
  ⟨log, by simp only [runOne, hs, if_true], hl, ha, hc⟩

theorem cfg_tick0 (cfg : RCfg) (h : cfg.tick = 0) (n : Nat) :
    { cfg with now := cfg.now + cfg.tick * n } = cfg := by
  cases cfg
  simp_all

theorem afterSelect_apply (cfg : RCfg) (w : Worker) (e : Entry) (T : TState) (db : Nat)
    (hdb : e.db = (db : Int)) (hcur : w.cur = T.cur) (hpos : 0 ≤ mapDb cfg (db : Int)) :
    ∃ log, (afterSelect cfg w e).log = w.log ++ log ∧ (afterSelect cfg w e).cur = mapDb cfg (db : Int) ∧
      applyReqs T log = some { T with cur := mapDb cfg (db : Int) } := by
  have hne : ¬ ((db : Int) = -1) := by omega
  unfold afterSelect
  simp only [hdb, hne, if_false]
  by_cases hc : mapDb cfg (db : Int) ≠ w.cur
  · simp only [hc, ne_eq, not_false_eq_true, if_true]
    refine ⟨[cmdB b!"select" [intToDec (mapDb cfg (db : Int))]], by simp, by simp, ?_⟩
    simp [applyReqs, applyReq_select T _ hpos]
  · simp only [hc, if_false]
    have : mapDb cfg (db : Int) = T.cur := by rw [← hcur]; exact Decidable.of_not_not hc
    refine ⟨[], by simp, by rw [this, hcur], ?_⟩
    simp only [applyReqs, this]

/-! `db` is the source database of an entry; the worker replays it into `mapDb cfg db`. -/

theorem step_skipDb (cfg : RCfg) (w : Worker) (ex : Exists) (e : Entry) (T : TState) (db : Nat)
    (hdb : e.db = (db : Int)) (hfd : cfg.filterDb (db : Int) = true) (hcur : w.cur = T.cur) :
    Replays cfg [e] w ex T w ex T := by
  have hne : (db : Int) ≠ -1 := by omega
  exact Replays.one [] (by rw [workerStep_eq]; simp [hdb, hfd, hne]) (List.append_nil _).symm rfl hcur

theorem step_skipKey (cfg : RCfg) (w : Worker) (ex : Exists) (e : Entry) (T : TState) (db : Nat)
    (hdb : e.db = (db : Int)) (hfd : cfg.filterDb (db : Int) = false) (hfk : cfg.filterKey e.key = true)
    (hcur : w.cur = T.cur) (hpos : 0 ≤ mapDb cfg (db : Int)) :
    ∃ w', Replays cfg [e] w ex T w' ex { T with cur := mapDb cfg (db : Int) } := by
  obtain ⟨log, h1, h2, h3⟩ := afterSelect_apply cfg w e T db hdb hcur hpos
  exact ⟨_, Replays.one log (by rw [workerStep_eq]; simp [hdb, hfd, hfk]) h1 h3 h2⟩

theorem step_reqs (cfg : RCfg) (w : Worker) (ex : Exists) (e : Entry) (T T' : TState) (db : Nat)
    (htick : cfg.tick = 0)
    (hdb : e.db = (db : Int)) (hfd : cfg.filterDb (db : Int) = false) (hfk : cfg.filterKey e.key = false)
    (hcur : w.cur = T.cur) (hpos : 0 ≤ mapDb cfg (db : Int))
    (hok : (replayEntry cfg (mapDb cfg (db : Int)) ex e).2.2 = true)
    (happ : applyReqs { T with cur := mapDb cfg (db : Int) } (replayEntry cfg (mapDb cfg (db : Int)) ex e).1 = some T')
    (hT' : T'.cur = mapDb cfg (db : Int)) :
    ∃ w', Replays cfg [e] w ex T w' (replayEntry cfg (mapDb cfg (db : Int)) ex e).2.1 T' := by
  obtain ⟨log, h1, h2, h3⟩ := afterSelect_apply cfg w e T db hdb hcur hpos
  refine ⟨{ afterSelect cfg w e with
      log := (afterSelect cfg w e).log ++ (replayEntry cfg (mapDb cfg (db : Int)) ex e).1 },
    Replays.one (log ++ (replayEntry cfg (mapDb cfg (db : Int)) ex e).1) ?_ ?_ ?_ (h2.trans hT'.symm)⟩
  · rw [workerStep_eq]
    simp only [hdb, hfd, hfk, Bool.false_eq_true, and_false, if_false, cfg_tick0 cfg htick, h2, hok]
  · simp only [h1, List.append_assoc]
  · rw [applyReqs_append, h3]; exact happ

theorem step_apply (cfg : RCfg) (w : Worker) (ex : Exists) (e : Entry) (T : TState) (db : Nat)
    (ks' : Keyspace) (htick : cfg.tick = 0)
    (hdb : e.db = (db : Int)) (hfd : cfg.filterDb (db : Int) = false) (hfk : cfg.filterKey e.key = false)
    (hcur : w.cur = T.cur) (hpos : 0 ≤ mapDb cfg (db : Int))
    (hok : (replayEntry cfg (mapDb cfg (db : Int)) ex e).2.2 = true)
    (hkc : ∀ c ∈ (replayEntry cfg (mapDb cfg (db : Int)) ex e).1, keyCmd c)
    (happ : applyCmds (T.dbs (mapDb cfg (db : Int))) (replayEntry cfg (mapDb cfg (db : Int)) ex e).1 = some ks') :
    ∃ w', Replays cfg [e] w ex T w' (replayEntry cfg (mapDb cfg (db : Int)) ex e).2.1
      (TState.setDb { T with cur := mapDb cfg (db : Int) } (mapDb cfg (db : Int)) ks') :=
  step_reqs cfg w ex e T _ db htick hdb hfd hfk hcur hpos hok
    (applyReqs_lift _ { T with cur := mapDb cfg (db : Int) } ks' hkc happ) rfl

/-- an AUX entry: at most a DB switch and `SCRIPT LOAD`; no keyspace changes -/
theorem step_aux (cfg : RCfg) (w : Worker) (ex : Exists) (e : Entry) (T : TState) (db : Nat)
    (htick : cfg.tick = 0) (hdb : e.db = (db : Int)) (hrt : e.obj.rtype = 0xFA) (hcur : w.cur = T.cur)
    (hpos : cfg.filterDb (db : Int) = false → 0 ≤ mapDb cfg (db : Int)) :
    ∃ w' T', Replays cfg [e] w ex T w' ex T' ∧ T'.dbs = T.dbs := by
  cases hfd : cfg.filterDb (db : Int) with
  | true => exact ⟨w, T, step_skipDb cfg w ex e T db hdb hfd hcur, rfl⟩
  | false =>
    cases hfk : cfg.filterKey e.key with
    | true =>
      obtain ⟨w', h⟩ := step_skipKey cfg w ex e T db hdb hfd hfk hcur (hpos hfd)
      exact ⟨w', _, h, rfl⟩
    | false =>
      obtain ⟨cs, hcs, hn⟩ := replay_keyless cfg (mapDb cfg (db : Int)) ex e .aux (by rw [hrt]; decide) (Or.inr rfl)
      obtain ⟨w', h⟩ := step_reqs cfg w ex e T { T with cur := mapDb cfg (db : Int) } db htick hdb hfd hfk hcur
        (hpos hfd) (by rw [hcs]) (by rw [hcs]; exact applyReqs_noop cs _ hn) rfl
      rw [hcs] at h
      exact ⟨w', _, h, rfl⟩

/-- a function library: `FUNCTION RESTORE` at most; no DB switch, no keyspace changes -/
theorem step_function (cfg : RCfg) (w : Worker) (ex : Exists) (e : Entry) (T : TState)
    (htick : cfg.tick = 0) (hdb : e.db = -1) (hrt : e.obj.rtype = 0xF5) (hcur : w.cur = T.cur) :
    ∃ w', Replays cfg [e] w ex T w' ex T := by
  have hsel : afterSelect cfg w e = w := by simp [afterSelect, hdb]
  cases hfk : cfg.filterKey e.key with
  | true =>
    refine ⟨w, Replays.one [] ?_ (List.append_nil _).symm rfl hcur⟩
    rw [workerStep_eq]
    simp [hdb, hfk, hsel]
  | false =>
    obtain ⟨cs, hcs, hn⟩ := replay_keyless cfg w.cur ex e .function (by rw [hrt]; decide) (Or.inl rfl)
    refine ⟨{ w with log := w.log ++ cs }, Replays.one cs ?_ rfl (applyReqs_noop cs T hn) hcur⟩
    rw [workerStep_eq]
    simp only [hdb, ne_eq, not_true_eq_false, false_and, if_false, hfk, Bool.false_eq_true, hsel,
      cfg_tick0 cfg htick, hcs]

theorem replays_skipDb (cfg : RCfg) (db : Nat) (hfd : cfg.filterDb (db : Int) = true)
    (w : Worker) (ex : Exists) (T : TState) (hcur : w.cur = T.cur) :
    ∀ (ces : List Entry), (∀ e ∈ ces, e.db = (db : Int)) → Replays cfg ces w ex T w ex T := by
  intro ces
  induction ces with
  | nil => intro _; exact Replays.nil cfg w ex T hcur
  | cons e ces ih =>
    intro h
    exact (step_skipDb cfg w ex e T db (h e (List.mem_cons_self ..)) hfd hcur).append
      (ih (fun x hx => h x (List.mem_cons_of_mem _ hx)))

theorem replays_skipKey (cfg : RCfg) (db : Nat) (key : Bytes) (hfd : cfg.filterDb (db : Int) = false)
    (hfk : cfg.filterKey key = true) (hpos : 0 ≤ mapDb cfg (db : Int)) (ex : Exists) :
    ∀ (ces : List Entry) (w : Worker) (T : TState),
      (∀ e ∈ ces, e.key = key ∧ e.db = (db : Int)) → w.cur = T.cur →
      ∃ w' T', Replays cfg ces w ex T w' ex T' ∧ T'.dbs = T.dbs := by
  intro ces
  induction ces with
  | nil => intro w T _ hcur; exact ⟨w, T, Replays.nil cfg w ex T hcur, rfl⟩
  | cons e ces ih =>
    intro w T h hcur
    have he := h e (List.mem_cons_self ..)
    obtain ⟨w1, h1⟩ := step_skipKey cfg w ex e T db he.2 hfd (by rw [he.1]; exact hfk) hcur hpos
    obtain ⟨w2, T2, h2, hd2⟩ := ih w1 _ (fun x hx => h x (List.mem_cons_of_mem _ hx)) h1.cur
    exact ⟨w2, T2, h1.append h2, hd2⟩

theorem sendsRestore_pobjOf (cfg : RCfg) (k : Bytes) (o : ObjE) :
    sendsRestore cfg (pobjOf k o) = true ↔ viaRestore cfg o := by
  have ht : (pobjOf k o).total - (pobjOf k o).read = 0 := Nat.sub_self _
  have hh : (pobjOf k o).history = 0 := rfl
  have hb : (pobjOf k o).buf = o.ser := rfl
  simp only [sendsRestore, viaRestore, PObj.valueDumpSize, PObj.isSplited, ht, hh, hb, ne_eq, not_true_eq_false,
    decide_false, Nat.lt_irrefl, Bool.or_self, Bool.or_false, Bool.and_eq_true, Bool.not_eq_true', decide_eq_false_iff_not,
    Nat.not_lt, gt_iff_lt]

/-- the expansion path of an unsplit value: probe, DEL when the key is known to exist, the
    expansion `cs`, PEXPIRE when the key has an expiry -/
theorem replay_expand_whole (cfg : RCfg) (D : Int) (ex : Exists) (e : Entry) (k : Bytes) (o : ObjE) (ot : OType)
    (cs : List Cmd) (hobj : e.obj = pobjOf k o) (hkey : e.key = k)
    (hot : otypeOf o.rtype = some ot) (hk : ¬ (ot = .function ∨ ot = .aux)) (hnm : ot ≠ .module)
    (hexec : execCmd cfg.x (pobjOf k o) = some cs)
    (hnv : ¬ viaRestore cfg o) (hrht : cfg.replaceHashTag = false) :
    (replayEntry cfg D ex e).1 =
      [cmdB b!"exists" [k]] ++ (if ex.has D k then [cmdB b!"del" [k]] else []) ++ cs ++
        (if e.expireAt ≠ 0 then [cmdB b!"pexpire" [k, natToDec (ttlOf cfg.now e.expireAt)]] else []) ∧
    (replayEntry cfg D ex e).2.2 = true := by
  have hr : sendsRestore cfg e.obj = false := by
    rw [hobj, ← Bool.not_eq_true]; exact fun h => hnv ((sendsRestore_pobjOf cfg _ _).mp h)
  rw [replayEntry_expand cfg D ex e ot (by rw [hobj]; exact hot) hk hr, entry_key_off cfg e hrht]
  obtain ⟨h1, h2⟩ := expandEntry_some cfg D ex e ot e.key cs hnm (by rw [hobj]; exact hexec)
  have hfb : e.obj.firstBin = true := by rw [hobj]; rfl
  refine ⟨?_, h2⟩
  rw [h1, rewrite_self]
  simp only [probeCmds, expireCmds, hfb, if_true, hkey, List.cons_append, List.nil_append]

theorem pobjOf_facts (o : ObjE) (hk : o.kind ≠ .other) :
    otypeOf o.rtype = some (otOf o) ∧ ¬ (otOf o = .function ∨ otOf o = .aux) ∧ otOf o ≠ .module := by
  refine ⟨otypeOf_rtype o hk, ?_, ?_⟩ <;> (unfold otOf; cases hkk : o.kind <;> simp_all)

theorem keyCmd_name (c : Cmd) (n : Bytes) (hc : c.name = n)
    (h : lower n ≠ b!"select" ∧ lower n ≠ b!"script" ∧ lower n ≠ b!"function") : keyCmd c := by
  subst hc; exact h

theorem keyReq_plain (key : Bytes) (c : Cmd) (h : KeyReq key c) :
    lower c.name ∈ plainNames ∧ ∃ rest, c.args = .b key :: rest := by
  have hp : ∀ n ∈ [b!"exists", b!"del", b!"pexpire", b!"restore"], lower n ∈ plainNames := by decide
  obtain ⟨name, rest, hn, rfl⟩ := h
  exact ⟨hp name hn, rest.map Arg.b, rfl⟩

theorem keyReq_keyCmd (key : Bytes) (c : Cmd) (h : KeyReq key c) : keyCmd c :=
  plain_not_special _ (keyReq_plain key c h).1

theorem cmds_names (o : ObjE) (k : Bytes) : ∀ c ∈ o.cmds k, c.name ∈ plainExpNames := by
  intro c hc
  unfold ObjE.cmds at hc
  cases hkind : o.kind <;> simp only [hkind] at hc
  · split at hc
    · cases List.mem_singleton.mp hc; simp [plainExpNames, cmdB]
    · cases hc
  all_goals first
    | cases hc
    | (obtain ⟨e, _, rfl⟩ := List.mem_map.mp hc; simp [plainExpNames, cmdB])

theorem keyCmd_expansion (fb : Bool) (key : Bytes) (cs : List Cmd) (c1 : Prop) [Decidable c1] (t : Bytes)
    (hcs : ∀ c ∈ cs, keyCmd c) :
    ∀ c ∈ (if fb then [cmdB b!"exists" [key]] else []) ++ cs ++
      (if c1 then [cmdB b!"pexpire" [key, t]] else []), keyCmd c := by
  intro c hc
  simp only [List.mem_append] at hc
  rcases hc with (hc | hc) | hc
  · cases fb
    · simp at hc
    · simp only [if_true, List.mem_singleton] at hc; subst hc; exact keyCmd_name _ b!"exists" rfl (by decide)
  · exact hcs c hc
  · split at hc
    · simp only [List.mem_singleton] at hc; subst hc; exact keyCmd_name _ b!"pexpire" rfl (by decide)
    · simp at hc

theorem ttlOf_zero (now : Nat) : ttlOf now 0 = 0 := by simp [ttlOf]

theorem apply_expire (ks : Keyspace) (k : Bytes) (v : Val) (t exp ttl : Nat) (hfresh : RedisSem.get ks k = none)
    (ht : exp = 0 → t = ttl) :
    applyCmds (ks ++ [(k, v, t)]) (if exp ≠ 0 then [cmdB b!"pexpire" [k, natToDec ttl]] else []) =
      some (ks ++ [(k, v, ttl)]) := by
  by_cases h0 : exp = 0
  · simp [h0, applyCmds, ht h0]
  · simp only [h0, ne_eq, not_false_eq_true, if_true, applyCmds, apply_pexpire, doPexpire,
      decToNat_natToDec, get_frame ks k _ _ hfresh, put_frame ks k _ _ _ _ hfresh]

theorem apply_expand (ks : Keyspace) (k : Bytes) (cs : List Cmd) (v : Val) (exp ttl : Nat)
    (hfresh : RedisSem.get ks k = none) (happ : applyCmds ks cs = some (ks ++ [(k, v, 0)]))
    (httl : exp = 0 → ttl = 0) :
    applyCmds ks ([cmdB b!"exists" [k]] ++ cs ++
        (if exp ≠ 0 then [cmdB b!"pexpire" [k, natToDec ttl]] else [])) =
      some (ks ++ [(k, v, ttl)]) := by
  rw [applyCmds_append, applyCmds_append]
  simp only [applyCmds, apply_exists, Option.bind_some]
  rw [happ]
  exact apply_expire ks k v 0 exp ttl hfresh (fun h => (httl h).symm)

/-- one chunk of a split hash table: (probe,) one HSET per pair of the chunk, PEXPIRE -/
theorem replay_chunk (cfg : RCfg) (D : Int) (ex : Exists) (e : Entry) (key : Bytes) (ps : List (Bytes × Bytes))
    (hkey : e.key = key) (hokey : e.obj.key = key) (hrt : e.obj.rtype = 4) (hsp : e.obj.isSplited = true)
    (hps : hashPairs e.obj = some ps) (hrht : cfg.replaceHashTag = false)
    (hprobe : e.obj.firstBin = true → ex.has D key = false) :
    (replayEntry cfg D ex e).1 =
      (if e.obj.firstBin then [cmdB b!"exists" [key]] else []) ++
        ps.map (fun q => cmdB b!"HSET" [key, q.1, q.2]) ++
        (if e.expireAt ≠ 0 then [cmdB b!"pexpire" [key, natToDec (ttlOf cfg.now e.expireAt)]] else []) ∧
    (replayEntry cfg D ex e).2.2 = true := by
  have hexec : execCmd cfg.x e.obj = some (ps.map (fun q => cmdB b!"HSET" [key, q.1, q.2])) := by
    rw [execCmd_hash_chunk cfg.x e.obj hrt, hps, hokey]; rfl
  have hr : sendsRestore cfg e.obj = false := by simp [sendsRestore, hsp]
  rw [replayEntry_expand cfg D ex e .hash (by rw [hrt]; decide) (by decide) hr, entry_key_off cfg e hrht]
  obtain ⟨h1, h2⟩ := expandEntry_some cfg D ex e .hash e.key _ (by decide) hexec
  refine ⟨?_, h2⟩
  rw [h1, rewrite_self]
  unfold probeCmds expireCmds
  cases hfb : e.obj.firstBin with
  | true => simp only [hkey, hprobe hfb, Bool.false_eq_true, if_false, if_true]
  | false => simp only [hkey, Bool.false_eq_true, if_false]

/-- the requests of one chunk on the oracle; `l` = the pairs already stored (`[]` = the key is absent) -/
theorem apply_chunk (ks : Keyspace) (key : Bytes) (l ps : List (Bytes × Bytes)) (first : Bool) (exp ttl : Nat)
    (hfresh : RedisSem.get ks key = none) (hnd : ((l ++ ps).map (·.1)).Nodup) (httl : exp = 0 → ttl = 0) :
    applyCmds (if l = [] then ks else ks ++ [(key, .hash l, ttl)])
      ((if first then [cmdB b!"exists" [key]] else []) ++
        ps.map (fun q => cmdB b!"HSET" [key, q.1, q.2]) ++
        (if exp ≠ 0 then [cmdB b!"pexpire" [key, natToDec ttl]] else [])) =
      some (if l ++ ps = [] then ks else ks ++ [(key, .hash (l ++ ps), ttl)]) := by
  have hprobe : ∀ ks' : Keyspace, applyCmds ks' (if first then [cmdB b!"exists" [key]] else []) = some ks' := by
    intro ks'
    cases first <;> simp [applyCmds, apply_exists]
  rw [applyCmds_append, applyCmds_append, hprobe]
  simp only [Option.bind_some]
  by_cases hl : l = []
  · subst hl
    cases ps with
    | nil =>
      simp only [if_true, List.map_nil, applyCmds, Option.bind_some, List.append_nil]
      by_cases h0 : exp = 0
      · simp [h0, applyCmds]
      · simp [h0, applyCmds, apply_pexpire, doPexpire, decToNat_natToDec, hfresh]
    | cons p ps =>
      simp only [if_true, List.map_cons, applyCmds, apply_hset, doHset, hfresh, put_new ks key _ _ hfresh]
      rw [hset_fold_frame ks key ps [(p.1, p.2)] 0 hfresh (by simpa using hnd)]
      simp only [Option.bind_some, List.nil_append, List.cons_append, reduceCtorEq, if_false]
      exact apply_expire ks key _ 0 exp ttl hfresh (fun h0 => (httl h0).symm)
  · have hne : l ++ ps ≠ [] := by simp [hl]
    simp only [hl, hne, if_false]
    rw [hset_fold_frame ks key ps l ttl hfresh hnd]
    simp only [Option.bind_some]
    exact apply_expire ks key _ ttl exp ttl hfresh (fun _ => rfl)

/-- the target knows at least the keys the tool's existence table knows -/
def ExSub (ex : Exists) (T : TState) : Prop :=
  ∀ D k, ex.has D k = true → (RedisSem.get (T.dbs D) k).isSome = true

theorem exSub_nil (T : TState) : ExSub [] T := by
  intro D k h; simp [Exists.has] at h

theorem exSub_keep {ex : Exists} {T T' : TState} (h : ExSub ex T) (hd : T'.dbs = T.dbs) : ExSub ex T' := by
  intro D k hk
  rw [hd]; exact h D k hk

theorem exSub_step {ex ex' : Exists} {T T' : TState} {D0 : Int} {x : Bytes × Val × Nat}
    (h : ExSub ex T) (hg : ExGrows ex ex' D0 x.1)
    (hd : ∀ D, T'.dbs D = if D = D0 then T.dbs D ++ [x] else T.dbs D) : ExSub ex' T' := by
  intro D k hk
  rw [hd D]
  rcases hg D k hk with h1 | ⟨rfl, rfl⟩
  · have := h D k h1
    split
    · rw [get_append, Option.isSome_or, this]; rfl
    · exact this
  · simp only [if_true]
    rw [get_append, Option.isSome_or]
    simp [RedisSem.get]

theorem exSub_fresh {ex : Exists} {T : TState} (h : ExSub ex T) (D : Int) (k : Bytes)
    (hf : RedisSem.get (T.dbs D) k = none) : ex.has D k = false := by
  cases hh : ex.has D k with
  | false => rfl
  | true => have := h _ _ hh; rw [hf] at this; cases this

/-- what the replay of the entries `ces` of key item `k`, read in source database `db`, achieves
    on the single worker, seen by the target (`H` = what the target must hold for the key
    afterwards): a filtered key leaves the keyspaces as they are, a replayed one is appended to
    its target database -/
def KeyDone (cfg : RCfg) (H : (Nat × KeyE) → (Bytes × Val × Nat) → Prop) (db : Nat) (k : KeyE)
    (ces : List Entry) (w : Worker) (ex : Exists) (T : TState) : Prop :=
  ∃ w' ex' T', Replays cfg ces w ex T w' ex' T' ∧ ExSub ex' T' ∧
    ((replayed cfg (db, k) = false ∧ T'.dbs = T.dbs) ∨
     (replayed cfg (db, k) = true ∧ ∃ x, x.1 = k.key.val ∧ H (db, k) x ∧
        ∀ D, T'.dbs D = if D = mapDb cfg (db : Int) then T.dbs D ++ [x] else T.dbs D))

theorem keyDone_filtered (cfg : RCfg) (H : (Nat × KeyE) → (Bytes × Val × Nat) → Prop) (db : Nat) (k : KeyE)
    (ces : List Entry) (w : Worker) (ex : Exists) (T : TState)
    (hall : ∀ e ∈ ces, e.key = k.key.val ∧ e.db = (db : Int)) (hrep : replayed cfg (db, k) = false)
    (hpos : cfg.filterDb (db : Int) = false → 0 ≤ mapDb cfg (db : Int))
    (hcur : w.cur = T.cur) (hsub : ExSub ex T) : KeyDone cfg H db k ces w ex T := by
  cases hfd : cfg.filterDb (db : Int) with
  | true =>
    exact ⟨w, ex, T, replays_skipDb cfg db hfd w ex T hcur ces (fun e he => (hall e he).2), hsub, Or.inl ⟨hrep, rfl⟩⟩
  | false =>
    have hfk : cfg.filterKey k.key.val = true := by simpa [replayed, hfd] using hrep
    obtain ⟨w', T', h, hd⟩ := replays_skipKey cfg db k.key.val hfd hfk (hpos hfd) ex ces w T hall hcur
    exact ⟨w', ex, T', h, exSub_keep hsub hd, Or.inl ⟨hrep, hd⟩⟩

section
variable (cfg : RCfg) (htick : cfg.tick = 0) (hrht : cfg.replaceHashTag = false) (db : Nat) (k : KeyE)
  (hfd : cfg.filterDb (db : Int) = false) (hfk : cfg.filterKey k.key.val = false) (hpos : 0 ≤ mapDb cfg (db : Int))
include htick hrht hfd hfk hpos

/-- the hash under construction: absent while no pair has arrived -/
def hashSt (ks0 : Keyspace) (key : Bytes) (l : List (Bytes × Bytes)) (ttl : Nat) : Keyspace :=
  if l = [] then ks0 else ks0 ++ [(key, .hash l, ttl)]

theorem chunk_step (e : Entry) (hc : IsChunk db k e) (w : Worker) (ex : Exists) (T : TState)
    (ks0 : Keyspace) (l : List (Bytes × Bytes))
    (hcur : w.cur = T.cur) (hst : T.dbs (mapDb cfg (db : Int)) = hashSt ks0 k.key.val l (ttlOf cfg.now k.exp.at))
    (hfresh : RedisSem.get ks0 k.key.val = none)
    (hnd : ((l ++ (hashPairs e.obj).getD []).map (·.1)).Nodup)
    (hprobe : e.obj.firstBin = true → ex.has (mapDb cfg (db : Int)) k.key.val = false) :
    ∃ w' ex' T', Replays cfg [e] w ex T w' ex' T' ∧ ExGrows ex ex' (mapDb cfg (db : Int)) k.key.val ∧
      ∀ D, T'.dbs D = if D = mapDb cfg (db : Int)
        then hashSt ks0 k.key.val (l ++ (hashPairs e.obj).getD []) (ttlOf cfg.now k.exp.at) else T.dbs D := by
  obtain ⟨hkey, hdb, hexp⟩ := hc.ent
  obtain ⟨ps, hps⟩ := Option.isSome_iff_exists.mp hc.hsome
  rw [hps] at hnd ⊢
  simp only [Option.getD_some] at hnd ⊢
  obtain ⟨hreq, hok⟩ := replay_chunk cfg (mapDb cfg (db : Int)) ex e k.key.val ps hkey hc.hokey hc.hrt hc.hsp hps hrht hprobe
  have hg := replayEntry_grows cfg (mapDb cfg (db : Int)) ex e
  rw [dstKey_off cfg e.key hrht, hkey] at hg
  have happ := apply_chunk ks0 k.key.val l ps e.obj.firstBin k.exp.at (ttlOf cfg.now k.exp.at) hfresh hnd
    (fun h0 => by rw [h0]; exact ttlOf_zero _)
  rw [hexp] at hreq
  obtain ⟨w', hrun⟩ := step_apply cfg w ex e T db _ htick hdb hfd (by rw [hkey]; exact hfk) hcur hpos hok
    (by rw [hreq]; exact keyCmd_expansion _ _ _ _ _ (fun c hc => by
      obtain ⟨q, _, rfl⟩ := List.mem_map.mp hc; exact keyCmd_name _ b!"HSET" rfl (by decide)))
    (by rw [hreq, hst]; exact happ)
  refine ⟨w', _, _, hrun, hg, fun D => ?_⟩
  simp only [TState.setDb, hashSt]

theorem chunks_tail (ks0 : Keyspace) (hfresh : RedisSem.get ks0 k.key.val = none) :
    ∀ (tl : List Entry) (w : Worker) (ex : Exists) (T : TState) (l : List (Bytes × Bytes)),
      (∀ e ∈ tl, IsChunk db k e ∧ e.obj.firstBin = false) →
      w.cur = T.cur → T.dbs (mapDb cfg (db : Int)) = hashSt ks0 k.key.val l (ttlOf cfg.now k.exp.at) →
      ((l ++ tl.flatMap (fun e => (hashPairs e.obj).getD [])).map (·.1)).Nodup →
      ∃ w' ex' T', Replays cfg tl w ex T w' ex' T' ∧ ExGrows ex ex' (mapDb cfg (db : Int)) k.key.val ∧
        ∀ D, T'.dbs D = if D = mapDb cfg (db : Int)
          then hashSt ks0 k.key.val (l ++ tl.flatMap (fun e => (hashPairs e.obj).getD [])) (ttlOf cfg.now k.exp.at)
          else T.dbs D := by
  intro tl
  induction tl with
  | nil =>
    intro w ex T l _ hcur hst _
    refine ⟨w, ex, T, Replays.nil cfg w ex T hcur, exGrows_refl _ _ _, fun D => ?_⟩
    by_cases hD : D = mapDb cfg (db : Int)
    · subst hD; simp [hst]
    · simp [hD]
  | cons e tl ih =>
    intro w ex T l hall hcur hst hnd
    have he := hall e (List.mem_cons_self ..)
    simp only [List.flatMap_cons, ← List.append_assoc] at hnd ⊢
    have hnd1 : ((l ++ (hashPairs e.obj).getD []).map (·.1)).Nodup := by
      rw [List.map_append] at hnd
      exact (List.nodup_append.mp hnd).1
    obtain ⟨w1, ex1, T1, hr1, hg1, hd1⟩ := chunk_step cfg htick hrht db k hfd hfk hpos e he.1
      w ex T ks0 l hcur hst hfresh hnd1 (fun h => by rw [he.2] at h; cases h)
    obtain ⟨w2, ex2, T2, hr2, hg2, hd2⟩ := ih w1 ex1 T1 _
      (fun x hx => hall x (List.mem_cons_of_mem _ hx)) hr1.cur (by rw [hd1]; simp) hnd
    refine ⟨w2, ex2, T2, hr1.append hr2, exGrows_trans hg1 hg2, fun D => ?_⟩
    rw [hd2 D]
    by_cases hD : D = mapDb cfg (db : Int)
    · simp [hD]
    · simp [hD, hd1 D]

/-- the single entry of an unsplit value of kind `ot`: ONE `restore key ttl payload …` when the
    payload fits, else probe, the expansion `cs` — which builds `v` on a fresh key — and PEXPIRE -/
theorem keyDone_whole (H : (Nat × KeyE) → (Bytes × Val × Nat) → Prop) (e : Entry) (ot : OType)
    (cs : List Cmd) (v : Val)
    (he : EntryOf db k e) (hobj : e.obj = pobjOf k.key.val k.obj)
    (hot : otypeOf k.obj.rtype = some ot) (hk : ¬ (ot = .function ∨ ot = .aux))
    (hexp : ¬ viaRestore cfg k.obj → ot ≠ .module ∧ execCmd cfg.x (pobjOf k.key.val k.obj) = some cs ∧
      (∀ c ∈ cs, keyCmd c) ∧
      ∀ ks, RedisSem.get ks k.key.val = none → applyCmds ks cs = some (ks ++ [(k.key.val, v, 0)]))
    (hload : cfg.enableRestore = true → typeLoadable cfg.x.tgtMajor k.obj.rtype = true)
    (hHr : viaRestore cfg k.obj →
      H (db, k) (k.key.val, .restored (createValueDump k.obj.rtype k.obj.ser), ttlOf cfg.now k.exp.at))
    (hHe : ¬ viaRestore cfg k.obj → H (db, k) (k.key.val, v, ttlOf cfg.now k.exp.at))
    (w : Worker) (ex : Exists) (T : TState) (hcur : w.cur = T.cur) (hsub : ExSub ex T)
    (hfresh : RedisSem.get (T.dbs (mapDb cfg (db : Int))) k.key.val = none) :
    KeyDone cfg H db k [e] w ex T := by
  obtain ⟨hk1, hk2, hk3⟩ := he
  have hrep : replayed cfg (db, k) = true := by simp [replayed, hfd, hfk]
  have hex := exSub_fresh hsub _ _ hfresh
  have hot' : otypeOf e.obj.rtype = some ot := by rw [hobj]; exact hot
  have hg := replayEntry_grows cfg (mapDb cfg (db : Int)) ex e
  rw [dstKey_off cfg e.key hrht, hk1] at hg
  have main : ∃ x, x.1 = k.key.val ∧ H (db, k) x ∧ (replayEntry cfg (mapDb cfg (db : Int)) ex e).2.2 = true ∧
      (∀ c ∈ (replayEntry cfg (mapDb cfg (db : Int)) ex e).1, keyCmd c) ∧
      applyCmds (T.dbs (mapDb cfg (db : Int))) (replayEntry cfg (mapDb cfg (db : Int)) ex e).1 =
        some (T.dbs (mapDb cfg (db : Int)) ++ [x]) := by
    by_cases hv : viaRestore cfg k.obj
    · have hr : sendsRestore cfg e.obj = true := by rw [hobj]; exact (sendsRestore_pobjOf cfg _ _).mpr hv
      rw [replayEntry_restore cfg _ ex e ot hot' hk hr (by rw [hobj]; exact hload hv.1), entry_key_off cfg e hrht]
      refine ⟨_, rfl, hHr hv, rfl, fun c hc => keyReq_keyCmd _ c (mem_restoreCmds _ _ _ _ c hc), ?_⟩
      simp only [restoreCmds, hk1, hex, Bool.false_eq_true, if_false, List.cons_append, hk3, hobj, applyCmds,
        restore_fresh _ _ _ _ _ hfresh]
      rfl
    · obtain ⟨hnm, hexec, hkc, happ⟩ := hexp hv
      obtain ⟨h1, h2⟩ := replay_expand_whole cfg (mapDb cfg (db : Int)) ex e k.key.val k.obj ot cs hobj hk1 hot hk hnm
        hexec hv hrht
      simp only [hex, Bool.false_eq_true, if_false, List.append_nil, hk3] at h1
      rw [h1]
      exact ⟨_, rfl, hHe hv, h2, keyCmd_expansion true _ cs _ _ hkc,
        apply_expand _ _ cs v _ _ hfresh (happ _ hfresh) (fun h0 => by rw [h0]; exact ttlOf_zero _)⟩
  obtain ⟨x, hx1, hxH, hok, hkc, happ⟩ := main
  obtain ⟨w', hrun⟩ := step_apply cfg w ex e T db _ htick hk2 hfd (by rw [hk1]; exact hfk) hcur hpos hok hkc happ
  have hdbs := setDb_dbs T (mapDb cfg (db : Int)) _ x rfl
  exact ⟨w', _, _, hrun, exSub_step hsub (by rw [hx1]; exact hg) hdbs, Or.inr ⟨hrep, x, hx1, hxH, hdbs⟩⟩

theorem keyDone_chunks (H : (Nat × KeyE) → (Bytes × Val × Nat) → Prop) (e0 : Entry) (tl : List Entry)
    (ps : List (Bytes × Bytes))
    (hc : ∀ e ∈ e0 :: tl, IsChunk db k e) (hfbtl : ∀ e ∈ tl, e.obj.firstBin = false)
    (hflat : (e0 :: tl).flatMap (fun e => (hashPairs e.obj).getD []) = ps) (hne : ps ≠ [])
    (hd : (ps.map (·.1)).Nodup) (hH : H (db, k) (k.key.val, .hash ps, ttlOf cfg.now k.exp.at))
    (w : Worker) (ex : Exists) (T : TState) (hcur : w.cur = T.cur) (hsub : ExSub ex T)
    (hfresh : RedisSem.get (T.dbs (mapDb cfg (db : Int))) k.key.val = none) :
    KeyDone cfg H db k (e0 :: tl) w ex T := by
  have hrep : replayed cfg (db, k) = true := by simp [replayed, hfd, hfk]
  have hex := exSub_fresh hsub _ _ hfresh
  subst hflat
  simp only [List.flatMap_cons] at hd hne
  have hnd0 : ((([] : List (Bytes × Bytes)) ++ (hashPairs e0.obj).getD []).map (fun q => q.1)).Nodup := by
    rw [List.map_append] at hd
    simpa using (List.nodup_append.mp hd).1
  obtain ⟨w1, ex1, T1, hr1, hg1, hd1⟩ := chunk_step cfg htick hrht db k hfd hfk hpos e0
    (hc e0 (List.mem_cons_self ..)) w ex T (T.dbs (mapDb cfg (db : Int))) [] hcur (by simp [hashSt]) hfresh hnd0
    (fun _ => hex)
  obtain ⟨w2, ex2, T2, hr2, hg2, hd2⟩ := chunks_tail cfg htick hrht db k hfd hfk hpos (T.dbs (mapDb cfg (db : Int)))
    hfresh tl w1 ex1 T1 ([] ++ (hashPairs e0.obj).getD [])
    (fun e he => ⟨hc e (List.mem_cons_of_mem _ he), hfbtl e he⟩) hr1.cur (by rw [hd1]; simp) (by simpa using hd)
  have hdbs : ∀ D, T2.dbs D = if D = mapDb cfg (db : Int)
      then T.dbs D ++ [(k.key.val, .hash ((e0 :: tl).flatMap (fun e => (hashPairs e.obj).getD [])),
        ttlOf cfg.now k.exp.at)] else T.dbs D := by
    intro D
    rw [hd2 D]
    by_cases hD : D = mapDb cfg (db : Int)
    · subst hD
      simp only [if_true, List.nil_append, hashSt, List.flatMap_cons, hne, if_false]
    · simp [hD, hd1 D]
  exact ⟨w2, ex2, T2, hr1.append hr2, exSub_step hsub (exGrows_trans hg1 hg2) hdbs, Or.inr ⟨hrep, _, rfl, hH, hdbs⟩⟩

end

theorem keysFrom_skip (db : Nat) (i : Item) (items : List Item) (h : ∀ k, i ≠ .key k) :
    keysFrom db (i :: items) = keysFrom (dbAfter db i) items := by
  cases i <;> first | rfl | exact absurd rfl (h _)

/-- what the replay of ONE key item achieves on the single worker, whatever entries the loader
    returned for it, from any state in which the key is absent from its target database -/
def KeyStep (cfg : RCfg) (H : (Nat × KeyE) → (Bytes × Val × Nat) → Prop) (db : Nat) (k : KeyE) : Prop :=
  ∀ (ces : List Entry), KeyEntries db k ces →
    ∀ (w : Worker) (ex : Exists) (T : TState), w.cur = T.cur → ExSub ex T →
    (replayed cfg (db, k) = true → RedisSem.get (T.dbs (mapDb cfg (db : Int))) k.key.val = none) →
    KeyDone cfg H db k ces w ex T

theorem keyStep_of_replayed (cfg : RCfg) (H : (Nat × KeyE) → (Bytes × Val × Nat) → Prop) (db : Nat) (k : KeyE)
    (hpos : cfg.filterDb (db : Int) = false → 0 ≤ mapDb cfg (db : Int))
    (h : cfg.filterDb (db : Int) = false → cfg.filterKey k.key.val = false →
      ∀ (ces : List Entry), KeyEntries db k ces → ∀ (w : Worker) (ex : Exists) (T : TState), w.cur = T.cur →
        ExSub ex T → RedisSem.get (T.dbs (mapDb cfg (db : Int))) k.key.val = none → KeyDone cfg H db k ces w ex T) :
    KeyStep cfg H db k := by
  intro ces hke w ex T hcur hsub hfresh
  cases hrep : replayed cfg (db, k) with
  | false => exact keyDone_filtered cfg H db k ces w ex T (keyEntries_all hke) hrep hpos hcur hsub
  | true =>
    simp only [replayed, Bool.and_eq_true, Bool.not_eq_true'] at hrep
    exact h hrep.1 hrep.2 ces hke w ex T hcur hsub (hfresh (by simp [replayed, hrep.1, hrep.2]))

theorem keysFrom_mem : ∀ (items : List Item) (db : Nat) (p : Nat × KeyE), p ∈ keysFrom db items → Item.key p.2 ∈ items := by
  intro items
  induction items with
  | nil => intro db p h; simp [keysFrom] at h
  | cons i items ih =>
    intro db p h
    cases i with
    | key k =>
      simp only [keysFrom, List.mem_cons] at h
      rcases h with rfl | h
      · exact List.mem_cons_self ..
      · exact List.mem_cons_of_mem _ (ih db p h)
    | _ => exact List.mem_cons_of_mem _ (ih _ p (by simpa [keysFrom] using h))

/-- the whole item list on the single worker, for ANY per-key result `H` whose key
    steps are available (`KeyStep`) -/
theorem replay_trace (cfg : RCfg) (htick : cfg.tick = 0)
    (hpos : ∀ n : Nat, cfg.filterDb (n : Int) = false → 0 ≤ mapDb cfg (n : Int))
    (H : (Nat × KeyE) → (Bytes × Val × Nat) → Prop)
    {db : Nat} {items : List Item} {es : List Entry} (htr : Trace db items es) :
    (∀ p ∈ keysFrom db items, KeyStep cfg H p.1 p.2) →
    ∀ (w : Worker) (ex : Exists) (T : TState), w.cur = T.cur → ExSub ex T →
    (∀ p ∈ keysFrom db items, replayed cfg p = true →
      RedisSem.get (T.dbs (mapDb cfg (p.1 : Int))) p.2.key.val = none) →
    (((keysFrom db items).filter (replayed cfg)).map (fun p => (mapDb cfg (p.1 : Int), p.2.key.val))).Nodup →
    ∃ w' ex' T', Replays cfg es w ex T w' ex' T' ∧
      ∀ D, ∃ l, T'.dbs D = T.dbs D ++ l ∧
        Pointwise H (expectedKeys cfg D (keysFrom db items)) l := by
  induction htr with
  | nil db =>
    intro _ w ex T hcur _ _ _
    exact ⟨w, ex, T, Replays.nil cfg w ex T hcur, fun D => ⟨[], by simp, Pointwise.nil⟩⟩
  | @skip db i items es hs _ ih =>
    intro hks w ex T hcur hsub hfresh hnd
    have hk : keysFrom db (i :: items) = keysFrom (dbAfter db i) items :=
      keysFrom_skip db i items (fun k h => by subst h; simp [Item.isSkip] at hs)
    rw [hk] at hks hfresh hnd ⊢
    exact ih hks w ex T hcur hsub hfresh hnd
  | @aux db k v items es e hdb hrt _ ih =>
    intro hks w ex T hcur hsub hfresh hnd
    obtain ⟨w1, T1, hr1, hd1⟩ := step_aux cfg w ex e T db htick hdb hrt hcur (hpos db)
    obtain ⟨w2, ex2, T2, hr2, hfin⟩ := ih hks w1 ex T1 hr1.cur (exSub_keep hsub hd1) (by rw [hd1]; exact hfresh) hnd
    exact ⟨w2, ex2, T2, hr1.append hr2, fun D => by rw [← hd1]; exact hfin D⟩
  | @function db code items es e hdb hrt _ ih =>
    intro hks w ex T hcur hsub hfresh hnd
    obtain ⟨w1, hr1⟩ := step_function cfg w ex e T htick hdb hrt hcur
    obtain ⟨w2, ex2, T2, hr2, hfin⟩ := ih hks w1 ex T hr1.cur hsub hfresh hnd
    exact ⟨w2, ex2, T2, hr1.append hr2, hfin⟩
  | @key db k items ces es hke _ ih =>
    intro hks w ex T hcur hsub hfresh hnd
    have hk : keysFrom db (Item.key k :: items) = (db, k) :: keysFrom db items := rfl
    rw [hk] at hks hfresh hnd
    simp only [hk]
    obtain ⟨w1, ex1, T1, hr1, hsub1, hcase⟩ := hks (db, k) (List.mem_cons_self ..) ces hke
      w ex T hcur hsub (hfresh (db, k) (List.mem_cons_self ..))
    have hks' : ∀ p ∈ keysFrom db items, KeyStep cfg H p.1 p.2 := fun p hp => hks p (List.mem_cons_of_mem _ hp)
    rcases hcase with ⟨hrep, hdbs⟩ | ⟨hrep, x, hx1, hx, hdbs⟩
    · -- filtered out: the target is untouched
      have hnd' : (((keysFrom db items).filter (replayed cfg)).map
          (fun p => (mapDb cfg (p.1 : Int), p.2.key.val))).Nodup := by
        simpa [List.filter_cons, hrep] using hnd
      obtain ⟨w2, ex2, T2, hr2, hfin⟩ := ih hks' w1 ex1 T1 hr1.cur hsub1
        (fun p hp hr => by rw [hdbs]; exact hfresh p (List.mem_cons_of_mem _ hp) hr) hnd'
      refine ⟨w2, ex2, T2, hr1.append hr2, fun D => ?_⟩
      obtain ⟨l, hl, hf⟩ := hfin D
      refine ⟨l, by rw [hl, hdbs], ?_⟩
      simpa [expectedKeys, List.filter_cons, hrep] using hf
    · -- replayed into `mapDb db`
      have hnd0 : ((mapDb cfg (db : Int), k.key.val) :: ((keysFrom db items).filter (replayed cfg)).map
          (fun p => (mapDb cfg (p.1 : Int), p.2.key.val))).Nodup := by
        simpa [List.filter_cons, hrep] using hnd
      obtain ⟨hnotin, hnd'⟩ := List.nodup_cons.mp hnd0
      obtain ⟨w2, ex2, T2, hr2, hfin⟩ := ih hks' w1 ex1 T1 hr1.cur hsub1
        (by
          intro p hp hr
          rw [hdbs]
          have hf := hfresh p (List.mem_cons_of_mem _ hp) hr
          by_cases hD : mapDb cfg (p.1 : Int) = mapDb cfg (db : Int)
          · have hne : x.1 ≠ p.2.key.val := by
              intro heq
              apply hnotin
              rw [List.mem_map]
              exact ⟨p, List.mem_filter.mpr ⟨hp, hr⟩, by rw [hD, ← heq, hx1]⟩
            simp only [hD, if_true]
            rw [get_append, ← hD, hf]
            simp [RedisSem.get, hne]
          · simp only [hD, if_false]; exact hf) hnd'
      refine ⟨w2, ex2, T2, hr1.append hr2, fun D => ?_⟩
      obtain ⟨l, hl, hf⟩ := hfin D
      rw [hdbs D] at hl
      by_cases hD : D = mapDb cfg (db : Int)
      · refine ⟨x :: l, by rw [hl]; simp [hD], ?_⟩
        have : expectedKeys cfg D ((db, k) :: keysFrom db items) = (db, k) :: expectedKeys cfg D (keysFrom db items) := by
          simp [expectedKeys, hrep, hD]
        rw [this]
        exact Pointwise.cons hx hf
      · refine ⟨l, by rw [hl]; simp [hD], ?_⟩
        have : expectedKeys cfg D ((db, k) :: keysFrom db items) = expectedKeys cfg D (keysFrom db items) := by
          have hne : ¬ (mapDb cfg (db : Int) = D) := fun h => hD h.symm
          simp [expectedKeys, hne]
        rw [this]
        exact hf

theorem parseRdb_file (d : DCfg) (f : FileE) (hwf : f.wf) (hcar : ∀ i ∈ f.items, i.readable d)
    (hfoot : f.footer ≠ .bad) :
    ∃ es, parseRdb d (rdbFile f) = (es, true) ∧ Trace 0 (stripAux f.items) es := by
  obtain ⟨h1, h13, hitems⟩ := hwf
  have hft := footer_file f hfoot
  have hie := inputEnds_file f
  have hsplit : ∃ foot, rdbFile f = f.body ++ foot := by
    unfold rdbFile; exact ⟨_, rfl⟩
  obtain ⟨foot, hfile⟩ := hsplit
  have hdrop : (rdbFile f).drop f.body.length = foot := by rw [hfile]; simp
  rw [hdrop] at hft hie
  have hfile' : rdbFile f = b!"REDIS" ++ verDigits f.version ++ (f.items.flatMap Item.enc ++ 0xFF :: foot) := by
    rw [hfile]; simp [FileE.body]
  have hlen : (f.items.flatMap Item.enc).length + 1 ≤ (rdbFile f).length + 1 := by
    rw [hfile']; simp only [List.length_append]; omega
  obtain ⟨_, es, hpl, htr⟩ := parse_items d (rdbFile f) foot f.items hitems hcar {} ((rdbFile f).length + 1)
    ⟨rfl, rfl⟩ hlen
  refine ⟨es, ?_, htr⟩
  unfold parseRdb
  have hh : header (rdbFile f) = some (f.version, f.items.flatMap Item.enc ++ 0xFF :: foot) := by
    rw [hfile']; exact header_file f h1 h13 _
  simp only [hh, hpl, hft, hie, Bool.and_self]

theorem sendRdb_one (d : DCfg) (cfg : RCfg) (bs : Bytes) (es : List Entry) (w' : Worker) (ex' : Exists) (T T' : TState)
    (hpar : cfg.parallel = 1) (hparse : parseRdb d bs = (es, true)) (hrun : Replays cfg es {} [] T w' ex' T') :
    ∃ log, sendRdb d cfg [] bs = ([log], true) ∧ applyReqs T log = some T' := by
  obtain ⟨log, hrun, hlog, happ, _⟩ := hrun
  refine ⟨log, ?_, happ⟩
  unfold sendRdb
  simp only [hparse, hpar, Nat.max_self, List.replicate_one, fanOut_one, hrun, List.map_cons, List.map_nil,
    Bool.and_self]
  simpa using hlog

end GunYu.Rdb
