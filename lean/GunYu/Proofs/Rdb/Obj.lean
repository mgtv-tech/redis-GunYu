/-
  Helper lemmas for C03: the expansion of every (non-stream) encoded value is
  the expected command list.
-/
import GunYu.Model.Rdb.Value
import GunYu.Proofs.Rdb.Listpack
import GunYu.Proofs.Rdb.Sem

namespace GunYu.Rdb
open GunYu

theorem readString_enc' (s : SE) (h : s.wf) : readString s.enc = some (s.val, []) := by
  have := readString_enc s [] h
  simpa using this

theorem readStrings_enc (items : List SE) (rest : Bytes) (h : ∀ s ∈ items, s.wf) :
    readStrings items.length (flatEnc items ++ rest) = some (items.map SE.val, rest) := by
  induction items with
  | nil => simp [readStrings, flatEnc]
  | cons s items ih =>
    simp only [List.length_cons, flatEnc, List.flatMap_cons, List.append_assoc, readStrings]
    rw [readString_enc s _ (h s (List.mem_cons_self ..))]
    simp only
    have := ih (fun x hx => h x (List.mem_cons_of_mem _ hx))
    simp only [flatEnc] at this
    rw [this]
    rfl

theorem readPairs_enc (items : List (SE × SE)) (rest : Bytes) (h : ∀ p ∈ items, p.1.wf ∧ p.2.wf) :
    readPairs items.length (items.flatMap (fun p => p.1.enc ++ p.2.enc) ++ rest) =
      some (items.map (fun p => (p.1.val, p.2.val)), rest) := by
  induction items with
  | nil => simp [readPairs]
  | cons p items ih =>
    obtain ⟨h1, h2⟩ := h p (List.mem_cons_self ..)
    simp only [List.length_cons, List.flatMap_cons, List.append_assoc, readPairs]
    rw [readString_enc p.1 _ h1]
    simp only
    rw [readString_enc p.2 _ h2]
    simp only
    rw [ih (fun x hx => h x (List.mem_cons_of_mem _ hx))]
    rfl

theorem quicklistNodes_enc (nodes : List (SE × ZL)) (rest : Bytes)
    (h : ∀ n ∈ nodes, n.1.wf ∧ n.1.val = n.2.blob ∧ n.2.wf) :
    quicklistNodes nodes.length (nodes.flatMap (fun n => n.1.enc) ++ rest) =
      some (nodes.flatMap (fun n => n.2.vals)) := by
  induction nodes with
  | nil => simp [quicklistNodes]
  | cons n nodes ih =>
    obtain ⟨h1, h2, h3⟩ := h n (List.mem_cons_self ..)
    simp only [List.length_cons, List.flatMap_cons, List.append_assoc, quicklistNodes]
    rw [readString_enc n.1 _ h1]
    simp only
    rw [h2, zlAll_blob n.2 h3]
    simp only
    rw [ih (fun x hx => h x (List.mem_cons_of_mem _ hx))]

theorem quicklist2Nodes_enc (nodes : List QNode) (rest : Bytes) (h : ∀ n ∈ nodes, n.wf) :
    quicklist2Nodes nodes.length (nodes.flatMap QNode.enc ++ rest) = some (nodes.flatMap QNode.vals) := by
  induction nodes with
  | nil => simp [quicklist2Nodes]
  | cons n nodes ih =>
    have hn := h n (List.mem_cons_self ..)
    have ih' := ih (fun x hx => h x (List.mem_cons_of_mem _ hx))
    simp only [List.length_cons, List.flatMap_cons, List.append_assoc, quicklist2Nodes]
    cases n with
    | plain s =>
      have hs : s.wf := hn
      simp only [QNode.enc, List.append_assoc]
      rw [readLength_encLen .b6 1 _ (by decide) (by decide)]
      simp only
      rw [readString_enc s _ hs]
      simp only [if_true, ih', QNode.vals]
    | packed w es =>
      obtain ⟨hw, hv, hes⟩ := hn
      simp only [QNode.enc, List.append_assoc]
      rw [readLength_encLen .b6 2 _ (by decide) (by decide)]
      simp only
      rw [readString_enc w _ hw]
      simp only [show (2 : Nat) ≠ 1 by decide, if_false, if_true]
      rw [hv, lpAll_blob es hes]
      simp only [ih', QNode.vals]

theorem readFloatStr_enc (sc : Score1) (rest : Bytes) (h : sc.wf) :
    readFloatStr (sc.enc ++ rest) = some (sc.enc, rest) := by
  cases sc with
  | nan => simp [Score1.enc, readFloatStr]
  | pinf => simp [Score1.enc, readFloatStr]
  | ninf => simp [Score1.enc, readFloatStr]
  | ascii s =>
    obtain ⟨hl, _⟩ := h
    simp only [Score1.enc, List.cons_append, readFloatStr]
    rw [u8_toNat s.length (by omega)]
    have : ¬ s.length ≥ 253 := by omega
    simp only [this, if_false]
    rw [readN_append]

theorem floatStrBits_enc (sc : Score1) (h : sc.wf) : floatStrBits sc.enc = some sc.bits := by
  cases sc with
  | nan => simp [Score1.enc, floatStrBits, Score1.bits]
  | pinf => simp [Score1.enc, floatStrBits, Score1.bits]
  | ninf => simp [Score1.enc, floatStrBits, Score1.bits]
  | ascii s =>
    obtain ⟨hl, hd⟩ := h
    have c253 : (253 : UInt8).toNat = 253 := by decide
    have c254 : (254 : UInt8).toNat = 254 := by decide
    have c255 : (255 : UInt8).toNat = 255 := by decide
    have n1 := u8_ne s.length 253 (by omega) (by omega)
    have n2 := u8_ne s.length 254 (by omega) (by omega)
    have n3 := u8_ne s.length 255 (by omega) (by omega)
    cases hn : parseF64 s with
    | none => simp [hn] at hd
    | some bits =>
    simp only [Score1.enc, floatStrBits, n1, n2, n3, if_false, Score1.bits, hn, Option.getD_some]

theorem zset1Elems_enc (items : List (SE × Score1)) (rest : Bytes) (h : ∀ p ∈ items, p.1.wf ∧ p.2.wf) :
    zset1Elems items.length (items.flatMap (fun p => p.1.enc ++ p.2.enc) ++ rest) =
      some (items.map (fun p => (p.1.val, p.2.bits))) := by
  induction items with
  | nil => simp [zset1Elems]
  | cons p items ih =>
    obtain ⟨h1, h2⟩ := h p (List.mem_cons_self ..)
    simp only [List.length_cons, List.flatMap_cons, List.append_assoc, zset1Elems]
    rw [readString_enc p.1 _ h1]
    simp only
    rw [readFloatStr_enc p.2 _ h2]
    simp only
    rw [floatStrBits_enc p.2 h2]
    simp only
    rw [ih (fun x hx => h x (List.mem_cons_of_mem _ hx))]
    rfl

theorem zset2Elems_enc (items : List (SE × Nat)) (rest : Bytes) (h : ∀ p ∈ items, p.1.wf ∧ p.2 < 2 ^ 64) :
    zset2Elems items.length (items.flatMap (fun p => p.1.enc ++ leN 8 p.2) ++ rest) =
      some (items.map (fun p => (p.1.val, p.2))) := by
  induction items with
  | nil => simp [zset2Elems]
  | cons p items ih =>
    obtain ⟨h1, h2⟩ := h p (List.mem_cons_self ..)
    simp only [List.length_cons, List.flatMap_cons, List.append_assoc, zset2Elems]
    rw [readString_enc p.1 _ h1]
    simp only
    rw [readN_append' 8 _ _ (leN_length 8 _)]
    simp only [ofLE_leN' 8 p.2 (by simpa using h2)]
    rw [ih (fun x hx => h x (List.mem_cons_of_mem _ hx))]
    rfl

theorem listElems_ser (o : ObjE) (hwf : o.wf) (hk : o.kind = .list) : listElems o.rtype o.ser = some o.elems := by
  cases o with
  | listLinked f items =>
    obtain ⟨hf, h32, hi⟩ := hwf
    have := readStrings_enc items [] hi
    rw [List.append_nil] at this
    simp +decide only [ObjE.rtype, ObjE.ser, ObjE.elems, listElems, if_false, if_true,
      readLength_encLen f _ _ hf h32, this, Option.map_some]
  | listZiplist w zl =>
    obtain ⟨hw, hv, hz⟩ := hwf
    simp only [ObjE.rtype, ObjE.ser, ObjE.elems, listElems, if_true, readString_enc' w hw, hv, zlAll_blob zl hz]
  | listQuick f nodes =>
    obtain ⟨hf, h32, hn⟩ := hwf
    have := quicklistNodes_enc nodes [] hn
    rw [List.append_nil] at this
    simp +decide only [ObjE.rtype, ObjE.ser, ObjE.elems, listElems, if_false, if_true, readLength_encLen f _ _ hf h32, this]
  | listQuick2 f nodes =>
    obtain ⟨hf, h32, hn⟩ := hwf
    have := quicklist2Nodes_enc nodes [] hn
    rw [List.append_nil] at this
    simp +decide only [ObjE.rtype, ObjE.ser, ObjE.elems, listElems, if_false, if_true,
      readLength_encLen f _ _ hf h32, this]
  | _ => cases hk

theorem setElems_ser (o : ObjE) (hwf : o.wf) (hk : o.kind = .set) : setElems o.rtype o.ser = some o.elems := by
  cases o with
  | setTable f items =>
    obtain ⟨hf, h32, hi⟩ := hwf
    have := readStrings_enc items [] hi
    rw [List.append_nil] at this
    simp only [ObjE.rtype, ObjE.ser, ObjE.elems, setElems, if_true, readLength_encLen f _ _ hf h32, this, Option.map_some]
  | setIntset w width vs =>
    obtain ⟨hw, hv, hwd, h32, hin⟩ := hwf
    simp +decide only [ObjE.rtype, ObjE.ser, ObjE.elems, setElems, if_false, if_true,
      readString_enc' w hw, hv, intsetAll_blob width vs hwd h32 hin]
  | setListpack w es =>
    obtain ⟨hw, hv, hes⟩ := hwf
    simp +decide only [ObjE.rtype, ObjE.ser, ObjE.elems, setElems, if_false, if_true, readString_enc' w hw, hv, lpAll_blob es hes]
  | _ => cases hk

theorem hashPairs_pobjOf (k : Bytes) (o : ObjE) (hwf : o.wf) (hk : o.kind = .hash) :
    hashPairs (pobjOf k o) = some o.pairs := by
  cases o with
  | hashTable f items =>
    obtain ⟨hf, h32, hi⟩ := hwf
    have := readPairs_enc items [] hi
    rw [List.append_nil] at this
    simp only [pobjOf, ObjE.rtype, ObjE.ser, ObjE.pairs, hashPairs, PObj.firstBin, if_true, decide_true, skipLength,
      readLength_encLen f _ _ hf h32, Option.map_some, Nat.sub_zero, this]
  | hashZipmap w items =>
    obtain ⟨hw, hv, hi⟩ := hwf
    simp +decide only [pobjOf, ObjE.rtype, ObjE.ser, ObjE.pairs, hashPairs, if_false, if_true,
      readString_enc' w hw, hv, zipmapAll_blob items hi]
  | hashZiplist w zl =>
    obtain ⟨hw, hv, hz, he⟩ := hwf
    simp +decide only [pobjOf, ObjE.rtype, ObjE.ser, ObjE.pairs, hashPairs, if_false,
      if_true, readString_enc' w hw, hv, zlPairs_blob zl hz he]
  | hashListpack w es =>
    obtain ⟨hw, hv, hes, he⟩ := hwf
    simp +decide only [pobjOf, ObjE.rtype, ObjE.ser, ObjE.pairs, hashPairs, if_false, if_true, readString_enc' w hw, hv, lpPairs_blob es hes he]
  | _ => cases hk

def otOf (o : ObjE) : OType :=
  match o.kind with
  | .str => .string | .list => .list | .set => .set | .zset => .zset | .hash => .hash | .other => .aux

theorem otypeOf_rtype (o : ObjE) (hk : o.kind ≠ .other) : otypeOf o.rtype = some (otOf o) := by
  cases o <;> first
    | exact absurd rfl hk
    | rfl

/-- the expansion of an encoded value is the expected command list -/
theorem execCmd_pobjOf (x : XCfg) (k : Bytes) (o : ObjE) (hwf : o.wf) (hk : o.kind ≠ .other) :
    execCmd x (pobjOf k o) = some (o.cmds k) := by
  have hot := otypeOf_rtype o hk
  have hr : (pobjOf k o).rtype = o.rtype := rfl
  have hb : (pobjOf k o).buf = o.ser := rfl
  have hkey : (pobjOf k o).key = k := rfl
  unfold otOf at hot
  unfold execCmd ObjE.cmds
  rw [hr, hot, hb, hkey]
  cases hkind : o.kind with
  | other => exact absurd hkind hk
  | str =>
    cases o with
    | str s => rfl
    | _ => cases hkind
  | list => simp only [listElems_ser o hwf hkind, Option.map_some]
  | set => simp only [setElems_ser o hwf hkind, Option.map_some]
  | hash => simp only [hashPairs_pobjOf k o hwf hkind, Option.map_some]
  | zset =>
    cases o with
    | zset1 f items =>
      obtain ⟨hf, h32, hi⟩ := hwf
      have := zset1Elems_enc items [] hi
      rw [List.append_nil] at this
      simp only [ObjE.rtype, ObjE.ser, ObjE.scored, true_or, if_true, readLength_encLen f _ _ hf h32, this,
        Option.map_some, List.map_map, Function.comp_def]
    | zset2 f items =>
      obtain ⟨hf, h32, hi⟩ := hwf
      have := zset2Elems_enc items [] hi
      rw [List.append_nil] at this
      simp +decide only [ObjE.rtype, ObjE.ser, ObjE.scored, or_true, if_true, if_false,
        readLength_encLen f _ _ hf h32, this, Option.map_some, List.map_map, Function.comp_def]
    | zsetZiplist w zl =>
      obtain ⟨hw, hv, hz, he⟩ := hwf
      simp +decide only [ObjE.rtype, ObjE.ser, ObjE.scored, or_self, if_false, if_true, readString_enc' w hw, hv,
        zlPairs_blob zl hz he, Option.map_some, List.map_map, Function.comp_def, cmdB, List.map_cons, List.map_nil]
    | zsetListpack w es =>
      obtain ⟨hw, hv, hes, he⟩ := hwf
      simp +decide only [ObjE.rtype, ObjE.ser, ObjE.scored, or_self, if_false,
        readString_enc' w hw, hv, lpPairs_blob es hes he, Option.map_some, List.map_map, Function.comp_def, cmdB,
        List.map_cons, List.map_nil]
    | _ => cases hkind

end GunYu.Rdb
