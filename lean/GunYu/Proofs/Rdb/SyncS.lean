/-
  Helper lemmas for C03 `full_sync` over datasets WITH streams, module values and module aux
  items: what the expansion of a carried value is (`expansion_spec`), the key step of every
  `Item.carriedS` key item, the whole-file replay `replay_fileS`, and what it gives for `Item.carried`.
-/
import GunYu.Proofs.Rdb.Sync
import GunYu.Proofs.Rdb.Commute
import GunYu.Proofs.Rdb.StreamSem
import GunYu.Proofs.Rdb.StreamNames
import GunYu.Model.Rdb.TargetV

namespace GunYu.Rdb
open GunYu GunYu.RedisSem

theorem lower_del : lower b!"del" = b!"del" := by decide

theorem apply_del (ks : Keyspace) (k : Bytes) : applyXCmd ks (cmdB b!"del" [k]) = some (del ks k) := by
  simp [applyXCmd, applyCmd, cmdB, lower_del, argBytes]

/-- probe, DEL, any expansion that builds value `v` on the then-absent key, PEXPIRE: whatever
    the key held before (another type, a stream with a higher last id and other groups, a TTL)
    is gone; the key holds exactly `v` -/
theorem apply_expand_existing (ks : Keyspace) (k : Bytes) (cs : List Cmd) (v : Val) (exp ttl : Nat)
    (happ : ∀ ks', RedisSem.get ks' k = none → applyCmds ks' cs = some (ks' ++ [(k, v, 0)]))
    (httl : exp = 0 → ttl = 0) :
    applyCmds ks ([cmdB b!"exists" [k], cmdB b!"del" [k]] ++ cs ++
        (if exp ≠ 0 then [cmdB b!"pexpire" [k, natToDec ttl]] else [])) =
      some (del ks k ++ [(k, v, ttl)]) := by
  have hfresh : RedisSem.get (del ks k) k = none := by rw [get_del]; exact if_pos rfl
  rw [applyCmds_append, applyCmds_append]
  simp only [applyCmds, apply_exists, apply_del, Option.bind_some]
  rw [happ _ hfresh]
  exact apply_expire _ k v 0 exp ttl hfresh (fun h => (httl h).symm)

theorem stream_cmds_names (x : XCfg) (s : StreamE) (k : Bytes) : ∀ c ∈ s.cmds x k, streamName c := by
  intro c hc
  simp only [StreamE.cmds, List.mem_append, List.mem_flatMap, List.mem_map, List.mem_singleton] at hc
  rcases hc with ((hc | hc) | hc) | hc
  · obtain ⟨n, _, p, _, rfl⟩ := hc
    exact Or.inl rfl
  · split at hc
    · simp only [List.mem_singleton] at hc; subst hc; exact Or.inl rfl
    · simp at hc
  · subst hc; exact Or.inr (Or.inl rfl)
  · obtain ⟨g, _, hg⟩ := hc
    simp only [SGroupE.cmds, List.mem_cons, List.mem_flatMap, List.mem_append, List.mem_map] at hg
    rcases hg with rfl | ⟨c0, _, hcc | ⟨p, _, rfl⟩⟩
    · exact Or.inr (Or.inr (Or.inl rfl))
    · split at hcc
      · simp only [List.mem_singleton] at hcc; subst hcc; exact Or.inr (Or.inr (Or.inl rfl))
      · cases hcc
    · exact Or.inr (Or.inr (Or.inr rfl))

theorem execCmd_streamObj (x : XCfg) (k : Bytes) (s : StreamE) (hwf : s.wf) (hs : s.sound) :
    execCmd x (pobjOf k (.stream s)) = some (s.cmds x k) := by
  have hot : otypeOf (pobjOf k (ObjE.stream s)).rtype = some .stream :=
    (opaque_rtype (.stream s) ⟨hwf, hs⟩).1
  have h1 := execStream_ser x k s [] hwf hs
  unfold execCmd
  simp only [hot]
  simpa [pobjOf, ObjE.rtype, ObjE.ser] using h1

theorem valueS_plain (x : XCfg) (o : ObjE) (hk : o.kind ≠ .other) : o.valueS x = o.value := by
  cases o <;> first | rfl | exact absurd rfl hk

theorem cmdsS_plain (x : XCfg) (k : Bytes) (o : ObjE) (hk : o.kind ≠ .other) : o.cmdsS x k = o.cmds k := by
  cases o <;> first | rfl | exact absurd rfl hk

/-- the expansion of a value of a string / list / set / sorted-set / hash encoding (well-formed, not
    empty, members distinct) or of a sound stream is the expected one: keyspace commands, none of
    them RESTORE, which build the logical value on a key the target does not hold -/
theorem expansion_spec (x : XCfg) (k : Bytes) (o : ObjE)
    (h : (o.kind ≠ .other ∧ o.wf ∧ o.nonempty ∧ o.members.Nodup) ∨ (∃ s, o = .stream s ∧ s.wf ∧ s.sound)) :
    ∃ ot, otypeOf o.rtype = some ot ∧ ¬ (ot = .function ∨ ot = .aux) ∧ ot ≠ .module ∧
      execCmd x (pobjOf k o) = some (o.cmdsS x k) ∧
      (∀ c ∈ o.cmdsS x k, keyCmd c ∧ lower c.name ≠ b!"restore") ∧
      ∀ ks, RedisSem.get ks k = none → applyCmds ks (o.cmdsS x k) = some (ks ++ [(k, o.valueS x, 0)]) := by
  rcases h with ⟨hk, hwf, hne, hd⟩ | ⟨s, rfl, hwf, hs⟩
  · obtain ⟨hot, hkeyed, hnm⟩ := pobjOf_facts o hk
    rw [cmdsS_plain x k o hk, valueS_plain x o hk]
    refine ⟨_, hot, hkeyed, hnm, execCmd_pobjOf x k o hwf hk, fun c hc => ?_, fun ks hf => cmds_frame ks k o hk hne hd hf⟩
    exact (by decide : ∀ n ∈ plainExpNames, (lower n ≠ b!"select" ∧ lower n ≠ b!"script" ∧ lower n ≠ b!"function") ∧
      lower n ≠ b!"restore") c.name (cmds_names o k c hc)
  · refine ⟨.stream, (opaque_rtype (.stream s) ⟨hwf, hs⟩).1, by decide, by decide, execCmd_streamObj x k s hwf hs,
      fun c hc => ?_, fun ks hf => stream_cmds_apply ks k x s hwf hs hf⟩
    rcases stream_cmds_names x s k c hc with h | h | h | h <;> (unfold keyCmd; rw [h]; decide)

theorem holdsS_whole (cfg : RCfg) (db : Nat) (k : KeyE) :
    (viaRestore cfg k.obj → HoldsS cfg (db, k)
      (k.key.val, .restored (createValueDump k.obj.rtype k.obj.ser), ttlOf cfg.now k.exp.at)) ∧
    (¬ viaRestore cfg k.obj → HoldsS cfg (db, k) (k.key.val, k.obj.valueS cfg.x, ttlOf cfg.now k.exp.at)) :=
  ⟨fun hv => ⟨rfl, rfl, Or.inr ⟨rfl, hv⟩⟩, fun hv => ⟨rfl, rfl, Or.inl ⟨rfl, Or.inl hv⟩⟩⟩

/-- the key step of a `carriedS` key item: a value with an expected expansion (`expansion_spec`),
    or a module value that travels by RESTORE -/
theorem keyStepS (cfg : RCfg) (htick : cfg.tick = 0) (hrht : cfg.replaceHashTag = false)
    (hpos : ∀ n : Nat, cfg.filterDb (n : Int) = false → 0 ≤ mapDb cfg (n : Int))
    (db : Nat) (k : KeyE)
    (hk : ((k.obj.kind ≠ .other ∧ k.obj.wf ∧ k.obj.nonempty ∧ k.obj.members.Nodup) ∨
        (∃ s, k.obj = .stream s ∧ s.wf ∧ s.sound)) ∨ (k.obj.opaque ∧ viaRestore cfg k.obj))
    (hload : cfg.enableRestore = true → typeLoadable cfg.x.tgtMajor k.obj.rtype = true) :
    KeyStep cfg (HoldsS cfg) db k := by
  refine keyStep_of_replayed cfg _ db k (hpos db) fun hfd hfk ces hke w ex T hcur hsub hfresh => ?_
  rcases hke with ⟨e, rfl, he, hobj⟩ | ⟨f, items, e0, tl, hobj, rfl, hc, hfb0, hfbtl, hflat⟩
  · -- ONE entry carrying the whole value
    have hexp : ∃ ot cs, otypeOf k.obj.rtype = some ot ∧ ¬ (ot = .function ∨ ot = .aux) ∧
        (¬ viaRestore cfg k.obj → ot ≠ .module ∧ execCmd cfg.x (pobjOf k.key.val k.obj) = some cs ∧
          (∀ c ∈ cs, keyCmd c) ∧ ∀ ks, RedisSem.get ks k.key.val = none →
            applyCmds ks cs = some (ks ++ [(k.key.val, k.obj.valueS cfg.x, 0)])) := by
      rcases hk with hk | ⟨ho, hv⟩
      · obtain ⟨ot, h1, h2, h3, h4, h5, h6⟩ := expansion_spec cfg.x k.key.val k.obj hk
        exact ⟨ot, _, h1, h2, fun _ => ⟨h3, h4, fun c hc => (h5 c hc).1, h6⟩⟩
      · obtain ⟨hot, hnf1, hnf2, _⟩ := opaque_rtype k.obj ho
        exact ⟨_, [], hot, not_or.mpr ⟨hnf1, hnf2⟩, fun hnv => absurd hv hnv⟩
    obtain ⟨ot, cs, hot, hkeyed, hexp⟩ := hexp
    exact keyDone_whole cfg htick hrht db k hfd hfk (hpos db hfd) _ e ot cs (k.obj.valueS cfg.x) he hobj hot hkeyed hexp
      hload (holdsS_whole cfg db k).1 (holdsS_whole cfg db k).2 w ex T hcur hsub hfresh
  · -- a hash table in several chunks
    have hkind : k.obj.kind ≠ .other := by rw [hobj]; simp [ObjE.kind]
    obtain ⟨_, _, hne, hd⟩ : k.obj.kind ≠ .other ∧ k.obj.wf ∧ k.obj.nonempty ∧ k.obj.members.Nodup := by
      rcases hk with (hk | ⟨s, hs, _⟩) | ⟨ho, _⟩
      · exact hk
      · rw [hobj] at hs; cases hs
      · rw [hobj] at ho; exact absurd ho (by simp [ObjE.opaque])
    have hv : k.obj.valueS cfg.x = .hash (pairVals items) := by rw [valueS_plain cfg.x k.obj hkind, hobj]; rfl
    rw [hobj] at hd hne
    exact keyDone_chunks cfg htick hrht db k hfd hfk (hpos db hfd) _ e0 tl (pairVals items) hc hfbtl hflat
      (by simpa [ObjE.nonempty, ObjE.kind, ObjE.pairs, pairVals] using hne) hd
      ⟨rfl, rfl, Or.inl ⟨hv.symm, Or.inr (by rw [hobj]; rfl)⟩⟩ w ex T hcur hsub hfresh

theorem keysFrom_strip : ∀ (items : List Item) (db : Nat), keysFrom db (stripAux items) = keysFrom db items := by
  intro items
  induction items with
  | nil => intro db; rfl
  | cons i items ih =>
    intro db
    cases i with
    | moduleAux id ops =>
      have : stripAux (Item.moduleAux id ops :: items) = stripAux items := by
        simp [stripAux, Item.isModAux]
      rw [this, ih]; rfl
    | key k => rw [stripAux_cons _ _ rfl]; simp only [keysFrom, ih]
    | _ => rw [stripAux_cons _ _ rfl]; simp only [keysFrom, dbAfter, ih]

theorem carriedS_key {d : DCfg} {cfg : RCfg} {k : KeyE} (hwf : k.obj.wf) (h : (Item.key k).carriedS d cfg) :
    ((k.obj.kind ≠ .other ∧ k.obj.wf ∧ k.obj.nonempty ∧ k.obj.members.Nodup) ∨
      (∃ s, k.obj = .stream s ∧ s.wf ∧ s.sound)) ∨ (k.obj.opaque ∧ viaRestore cfg k.obj) := by
  simp only [Item.carriedS] at h
  cases hoo : k.obj with
  | stream s => rw [hoo] at h hwf; exact Or.inl (Or.inr ⟨s, rfl, hwf, h⟩)
  | module2 id ops => rw [hoo] at h hwf; exact Or.inr ⟨hwf, h⟩
  | raw t b => rw [hoo] at h; exact absurd h (by simp)
  | _ => rw [hoo] at h hwf; exact Or.inl (Or.inl ⟨h.1, hwf, h.2⟩)

theorem carriedS_readable (d : DCfg) (cfg : RCfg) (i : Item) (hwf : i.wf) (h : i.carriedS d cfg) : i.readable d := by
  cases i with
  | moduleAux id ops => exact h
  | key k =>
    rcases carriedS_key hwf.2.1 h with (⟨hk, _, hne, _⟩ | ⟨s, hs, hw, hsound⟩) | ⟨ho, _⟩
    · exact Or.inl ⟨hk, hne⟩
    · exact Or.inr (by rw [hs]; exact ⟨hw, hsound⟩)
    · exact Or.inr ho
  | _ => trivial

/-- the hypotheses of the whole-file theorems; Props/C03.lean (`full_sync_partial`,
    `full_sync_streams`) says what each stands for -/
structure FullSync (d : DCfg) (cfg : RCfg) (f : FileE) : Prop where
  wf : f.wf
  foot : f.footer ≠ .bad
  car : ∀ i ∈ f.items, i.carriedS d cfg
  tick : cfg.tick = 0
  rht : cfg.replaceHashTag = false
  load : ∀ p ∈ f.keys, cfg.enableRestore = true → typeLoadable cfg.x.tgtMajor p.2.obj.rtype = true
  db : ∀ n : Nat, cfg.filterDb (n : Int) = false → 0 ≤ mapDb cfg (n : Int)
  distinct : ((f.keys.filter (replayed cfg)).map (fun p => (mapDb cfg (p.1 : Int), p.2.key.val))).Nodup

theorem keySteps_of_carriedS {d : DCfg} {cfg : RCfg} {f : FileE} (h : FullSync d cfg f) :
    ∀ p ∈ f.keys, KeyStep cfg (HoldsS cfg) p.1 p.2 := by
  intro p hp
  have hmem := keysFrom_mem f.items 0 p hp
  exact keyStepS cfg h.tick h.rht h.db p.1 p.2 (carriedS_key (h.wf.2.2 _ hmem).2.1 (h.car _ hmem)) (h.load p hp)

theorem replay_fileS {d : DCfg} {cfg : RCfg} {f : FileE} (h : FullSync d cfg f) :
    ∃ es w' ex' T', parseRdb d (rdbFile f) = (es, true) ∧ Trace 0 (stripAux f.items) es ∧
      Replays cfg es {} [] {} w' ex' T' ∧
      ∀ D, Pointwise (HoldsS cfg) (expectedKeys cfg D f.keys) (T'.dbs D) := by
  obtain ⟨es, hparse, htr⟩ := parseRdb_file d f h.wf
    (fun i hi => carriedS_readable d cfg i (h.wf.2.2 i hi) (h.car i hi)) h.foot
  have hkeys : keysFrom 0 (stripAux f.items) = f.keys := keysFrom_strip f.items 0
  obtain ⟨w', ex', T', hrun, hfin⟩ := replay_trace cfg h.tick h.db (HoldsS cfg) htr
    (by rw [hkeys]; exact keySteps_of_carriedS h)
    {} [] {} rfl (exSub_nil _) (fun _ _ _ => rfl) (by rw [hkeys]; exact h.distinct)
  refine ⟨es, w', ex', T', hparse, htr, hrun, fun D => ?_⟩
  obtain ⟨l, hl, hf⟩ := hfin D
  have : T'.dbs D = l := by rw [hl]; rfl
  rw [this, ← hkeys]; exact hf

theorem carriedS_of_carried (d : DCfg) (cfg : RCfg) (i : Item) (h : i.carried) : i.carriedS d cfg := by
  cases i with
  | moduleAux id ops => exact absurd h (by simp [Item.carried])
  | key k =>
    obtain ⟨hk, hne, hd⟩ := h
    simp only [Item.carriedS]
    cases hoo : k.obj <;> rw [hoo] at hk hne hd <;> first
      | exact ⟨hk, hne, hd⟩
      | exact absurd rfl hk
  | _ => trivial

theorem stripAux_carried (items : List Item) (h : ∀ i ∈ items, i.carried) : stripAux items = items := by
  unfold stripAux
  rw [List.filter_eq_self]
  intro i hi
  cases i <;> first | rfl | exact absurd (h _ hi) (by simp [Item.carried])

theorem Pointwise.imp {α β : Type} {R R' : α → β → Prop} {as : List α} {bs : List β}
    (h : Pointwise R as bs) (himp : ∀ a ∈ as, ∀ b, R a b → R' a b) : Pointwise R' as bs := by
  induction h with
  | nil => exact Pointwise.nil
  | cons hab _ ih =>
    exact Pointwise.cons (himp _ (List.mem_cons_self ..) _ hab)
      (ih (fun a ha => himp a (List.mem_cons_of_mem _ ha)))

theorem holds_of_carried (cfg : RCfg) (f : FileE) (hcar : ∀ i ∈ f.items, i.carried) (D : Int)
    (l : List (Bytes × Val × Nat)) (h : Pointwise (HoldsS cfg) (expectedKeys cfg D f.keys) l) :
    Pointwise (Holds cfg) (expectedKeys cfg D f.keys) l := by
  refine h.imp fun p hp x hx => ?_
  have hk : p.2.obj.kind ≠ .other := (hcar _ (keysFrom_mem f.items 0 p (List.mem_filter.mp hp).1)).1
  obtain ⟨h1, h2, h3⟩ := hx
  rw [valueS_plain cfg.x p.2.obj hk] at h3
  exact ⟨h1, h2, h3⟩

end GunYu.Rdb
