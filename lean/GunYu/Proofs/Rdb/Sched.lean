/-
  Helper lemmas for C03: schedules. Two schedules with the same projection to every
  connection lead to related states when requests of different connections commute
  (Mazurkiewicz-trace argument, generic in the state, the requests and the relation).
-/
import GunYu.Proofs.Rdb.Commute

namespace GunYu.Sched
open GunYu.RedisSem

variable {S P : Type}

def run (act : S → P → Option S) : S → List P → Option S
  | s, [] => some s
  | s, p :: ps =>
    match act s p with
    | none => none
    | some s' => run act s' ps

theorem run_cons (act : S → P → Option S) (a : S) (p : P) (ps : List P) :
    run act a (p :: ps) = (act a p).bind (fun a' => run act a' ps) := by
  simp only [run]
  cases act a p <;> rfl

theorem run_append (act : S → P → Option S) (a : S) (s t : List P) :
    run act a (s ++ t) = (run act a s).bind (fun a' => run act a' t) := by
  induction s generalizing a with
  | nil => rfl
  | cons p s ih =>
    simp only [List.cons_append, run]
    cases act a p with
    | none => rfl
    | some a' => exact ih a'

theorem orel_bind {R : S → S → Prop} {x y : Option S} {f g : S → Option S} (h : ORel R x y)
    (hfg : ∀ a b, R a b → ORel R (f a) (g b)) : ORel R (x.bind f) (y.bind g) := by
  cases x <;> cases y <;> first | trivial | exact hfg _ _ h | exact h.elim

theorem orel_map {β : Type} {R : S → S → Prop} {R' : β → β → Prop} {x y : Option S} (G G' : S → β)
    (h : ORel R x y) (hG : ∀ a b, R a b → R' (G a) (G' b)) : ORel R' (x.map G) (y.map G') := by
  cases x <;> cases y <;> first | trivial | exact hG _ _ h | exact h.elim

theorem orel_bind_map {β : Type} {R : S → S → Prop} {R' : β → β → Prop} {o1 o2 : Option S}
    {h1 h2 : S → Option S} {A B : S → S → β} (h : ORel R (o1.bind h1) (o2.bind h2))
    (hAB : ∀ x y z w, R z w → R' (A x z) (B y w)) :
    ORel R' (o1.bind (fun x => (h1 x).map (A x))) (o2.bind (fun y => (h2 y).map (B y))) := by
  cases o1 <;> cases o2 <;> simp only [Option.bind_none, Option.bind_some] at h ⊢
  · trivial
  · rename_i y; revert h; cases h2 y <;> intro h <;> first | trivial | exact h.elim
  · rename_i x; revert h; cases h1 x <;> intro h <;> first | trivial | exact h.elim
  · rename_i x y
    revert h
    cases h1 x <;> cases h2 y <;> intro h <;> first | trivial | exact h.elim | exact hAB _ _ _ _ h

theorem orel_trans {R : S → S → Prop} (htr : ∀ a b c, R a b → R b c → R a c) {x y z : Option S}
    (h1 : ORel R x y) (h2 : ORel R y z) : ORel R x z := by
  cases x <;> cases y <;> cases z <;> first | trivial | exact htr _ _ _ h1 h2 | exact h1.elim | exact h2.elim

theorem orel_symm {R : S → S → Prop} (hs : ∀ a b, R a b → R b a) {x y : Option S} (h : ORel R x y) : ORel R y x := by
  cases x <;> cases y <;> first | trivial | exact hs _ _ h | exact h.elim

/-- the requests of connection `j` in a schedule -/
def proj (tag : P → Nat) (j : Nat) (s : List P) : List P := s.filter (fun x => tag x == j)

theorem split_first (tag : P → Nat) (p : P) : ∀ (s : List P) (rest : List P), proj tag (tag p) s = p :: rest →
    ∃ pre post, s = pre ++ p :: post ∧ (∀ q ∈ pre, tag q ≠ tag p) ∧ proj tag (tag p) post = rest := by
  intro s
  induction s with
  | nil => intro rest h; simp [proj] at h
  | cons x s ih =>
    intro rest h
    unfold proj at h
    rw [List.filter_cons] at h
    by_cases hx : tag x = tag p
    · have hb : (tag x == tag p) = true := by simp [hx]
      simp only [hb, if_true, List.cons.injEq] at h
      obtain ⟨rfl, hr⟩ := h
      refine ⟨[], s, rfl, ?_, hr⟩
      intro q hq; cases hq
    · have hb : (tag x == tag p) = false := by simp [hx]
      simp only [hb, Bool.false_eq_true, if_false] at h
      obtain ⟨pre, post, hs, hpre, hpost⟩ := ih rest h
      refine ⟨x :: pre, post, by rw [hs]; rfl, ?_, hpost⟩
      intro q hq
      rcases List.mem_cons.mp hq with rfl | hq
      · exact hx
      · exact hpre q hq

theorem mem_of_proj (tag : P → Nat) (s1 s2 : List P) (h : ∀ j, proj tag j s1 = proj tag j s2) :
    ∀ q ∈ s2, q ∈ s1 := by
  intro q hq
  have : q ∈ proj tag (tag q) s2 := List.mem_filter.mpr ⟨hq, by simp⟩
  rw [← h] at this
  exact (List.mem_filter.mp this).1

theorem proj_append (tag : P → Nat) (j : Nat) (a b : List P) : proj tag j (a ++ b) = proj tag j a ++ proj tag j b := by
  simp [proj]

theorem proj_nil_of (tag : P → Nat) (j : Nat) (s : List P) (h : ∀ q ∈ s, tag q ≠ j) : proj tag j s = [] := by
  unfold proj
  rw [List.filter_eq_nil_iff]
  intro q hq
  simp [h q hq]

section
variable (R : S → S → Prop) (act : S → P → Option S) (tag : P → Nat) (good : P → Prop) (indep : P → P → Prop)
variable (hrefl : ∀ a, R a a) (hsymm : ∀ a b, R a b → R b a) (htrans : ∀ a b c, R a b → R b c → R a c)
variable (hcongr : ∀ p, good p → ∀ a b, R a b → ORel R (act a p) (act b p))
variable (hcomm : ∀ p q, good p → good q → tag p ≠ tag q → indep p q →
  ∀ a, ORel R ((act a p).bind (fun a' => act a' q)) ((act a q).bind (fun a' => act a' p)))

include hcongr in
theorem run_congr (s : List P) (hg : ∀ p ∈ s, good p) : ∀ a b, R a b → ORel R (run act a s) (run act b s) := by
  induction s with
  | nil => intro a b h; exact h
  | cons p s ih =>
    intro a b h
    rw [run_cons, run_cons]
    exact orel_bind (hcongr p (hg p (List.mem_cons_self ..)) a b h)
      (fun a' b' h' => ih (fun x hx => hg x (List.mem_cons_of_mem _ hx)) a' b' h')

include hrefl hcongr hcomm htrans in
theorem move_front (p : P) (hp : good p) (post : List P) (hpost : ∀ x ∈ post, good x) :
    ∀ (pre : List P), (∀ q ∈ pre, good q ∧ tag q ≠ tag p ∧ indep q p) →
    ∀ a, ORel R (run act a (pre ++ p :: post)) (run act a (p :: (pre ++ post))) := by
  intro pre
  induction pre with
  | nil => intro _ a; exact run_congr R act good hcongr _ (by
      intro x hx; rcases List.mem_cons.mp hx with rfl | hx
      · exact hp
      · exact hpost x hx) a a (hrefl a)
  | cons q pre ih =>
    intro hpre a
    obtain ⟨hq, hqt, hqi⟩ := hpre q (List.mem_cons_self ..)
    have hpre' := fun x hx => hpre x (List.mem_cons_of_mem _ hx)
    have hgood : ∀ x ∈ pre ++ post, good x := by
      intro x hx
      rcases List.mem_append.mp hx with hx | hx
      · exact (hpre' x hx).1
      · exact hpost x hx
    -- step 1: below `q`, bring `p` to the front
    have s1 : ORel R (run act a (q :: pre ++ p :: post)) ((act a q).bind (fun a1 => run act a1 (p :: (pre ++ post)))) := by
      rw [List.cons_append, run_cons]
      cases act a q with
      | none => trivial
      | some a1 => exact ih hpre' a1
    -- step 2: swap `q` and `p`
    have e2 : (act a q).bind (fun a1 => run act a1 (p :: (pre ++ post))) =
        ((act a q).bind (fun a1 => act a1 p)).bind (fun a2 => run act a2 (pre ++ post)) := by
      cases act a q with
      | none => rfl
      | some a1 => simp only [Option.bind_some, run_cons]
    have e3 : run act a (p :: (q :: pre ++ post)) =
        ((act a p).bind (fun a1 => act a1 q)).bind (fun a2 => run act a2 (pre ++ post)) := by
      rw [run_cons]
      cases act a p with
      | none => rfl
      | some a1 => simp only [Option.bind_some, List.cons_append, run_cons]
    have s2 : ORel R (((act a q).bind (fun a1 => act a1 p)).bind (fun a2 => run act a2 (pre ++ post)))
        (((act a p).bind (fun a1 => act a1 q)).bind (fun a2 => run act a2 (pre ++ post))) :=
      orel_bind (hcomm q p hq hp hqt hqi a) (fun x y hxy => run_congr R act good hcongr _ hgood x y hxy)
    rw [e2] at s1
    rw [List.cons_append, e3]
    exact orel_trans htrans s1 s2

include hrefl hsymm htrans hcongr hcomm in
theorem sched_indep : ∀ (s1 s2 : List P), (∀ j, proj tag j s1 = proj tag j s2) →
    (∀ p ∈ s1, good p) → (∀ p ∈ s1, ∀ q ∈ s1, tag p ≠ tag q → indep p q) →
    ∀ a b, R a b → ORel R (run act a s1) (run act b s2) := by
  intro s1
  induction s1 with
  | nil =>
    intro s2 hproj _ _ a b hab
    have : s2 = [] := by
      cases s2 with
      | nil => rfl
      | cons q s2 =>
        have := mem_of_proj tag [] (q :: s2) hproj q (List.mem_cons_self ..)
        cases this
    subst this
    exact hab
  | cons p s1 ih =>
    intro s2 hproj hgood hindep a b hab
    have hp := hgood p (List.mem_cons_self ..)
    have hpj : proj tag (tag p) s2 = p :: proj tag (tag p) s1 := by
      rw [← hproj (tag p)]
      simp [proj]
    obtain ⟨pre, post, hs2, hpre, hpost⟩ := split_first tag p s2 _ hpj
    have hmem : ∀ q ∈ s2, q ∈ p :: s1 := mem_of_proj tag (p :: s1) s2 hproj
    have hgood2 : ∀ q ∈ s2, good q := fun q hq => hgood q (hmem q hq)
    have hpre' : ∀ q ∈ pre, good q ∧ tag q ≠ tag p ∧ indep q p := by
      intro q hq
      have hq2 : q ∈ s2 := by rw [hs2]; exact List.mem_append_left _ hq
      exact ⟨hgood2 q hq2, hpre q hq, hindep q (hmem q hq2) p (List.mem_cons_self ..) (hpre q hq)⟩
    have hpostg : ∀ x ∈ post, good x := fun x hx => hgood2 x (by rw [hs2]; exact List.mem_append_right _ (List.mem_cons_of_mem _ hx))
    -- s2 ~ p :: (pre ++ post)
    have hmove := move_front R act tag good indep hrefl htrans hcongr hcomm p hp post hpostg pre hpre' b
    rw [← hs2] at hmove
    -- projections of s1 and pre ++ post agree
    have hproj' : ∀ j, proj tag j s1 = proj tag j (pre ++ post) := by
      intro j
      have hj := hproj j
      rw [hs2, proj_append] at hj
      rw [proj_append]
      by_cases hjp : j = tag p
      · subst hjp
        rw [proj_nil_of tag _ pre hpre, List.nil_append, hpost]
      · have hne : ¬ tag p = j := fun h => hjp h.symm
        have h1 : proj tag j (p :: s1) = proj tag j s1 := by simp [proj, hne]
        have h2 : proj tag j (p :: post) = proj tag j post := by simp [proj, hne]
        rw [h1, h2] at hj
        exact hj
    have hstep : ORel R (run act a (p :: s1)) (run act b (p :: (pre ++ post))) := by
      rw [run_cons, run_cons]
      exact orel_bind (hcongr p hp a b hab) (fun a' b' h' =>
        ih (pre ++ post) hproj' (fun x hx => hgood x (List.mem_cons_of_mem _ hx))
          (fun x hx y hy => hindep x (List.mem_cons_of_mem _ hx) y (List.mem_cons_of_mem _ hy)) a' b' h')
    exact orel_trans htrans hstep (orel_symm hsymm hmove)

end

end GunYu.Sched
