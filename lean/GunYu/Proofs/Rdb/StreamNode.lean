/-
  Helper lemmas for C03: one stream listpack node expands into exactly one XADD
  per live entry (SAMEFIELDS resolved, deleted entries skipped, ids = master +
  delta), for every integer width.
-/
import GunYu.Model.Rdb.Enc
import GunYu.Model.Rdb.Exec
import GunYu.Proofs.Rdb.Decimal
import GunYu.Proofs.Rdb.Listpack

namespace GunYu.Rdb
open GunYu

theorem inSigned_widen (a : Nat) (v : Int) (ha : a = 13 ∨ a = 16 ∨ a = 24 ∨ a = 32 ∨ a = 64)
    (h : inSigned a v) : inSigned 64 v := by
  obtain ⟨h1, h2⟩ := h
  have p12 : (2 : Nat) ^ (13 - 1) = 4096 := by decide
  have p15 : (2 : Nat) ^ (16 - 1) = 32768 := by decide
  have p23 : (2 : Nat) ^ (24 - 1) = 8388608 := by decide
  have p31 : (2 : Nat) ^ (32 - 1) = 2147483648 := by decide
  have p63 : (2 : Nat) ^ (64 - 1) = 9223372036854775808 := by decide
  unfold inSigned
  rw [p63]
  rcases ha with rfl | rfl | rfl | rfl | rfl
  · rw [p12] at h1 h2; omega
  · rw [p15] at h1 h2; omega
  · rw [p23] at h1 h2; omega
  · rw [p31] at h1 h2; omega
  · rw [p63] at h1 h2; omega

theorem nat_inSigned64 (n : Nat) (h : n < 2 ^ 63) : inSigned 64 (n : Int) := by
  have p63 : (2 : Nat) ^ (64 - 1) = 9223372036854775808 := by decide
  unfold inSigned; rw [p63]
  have : (2 : Nat) ^ 63 = 9223372036854775808 := by decide
  omega

theorem intEntry_spec (e : LPEntry) (v : Int) (hw : e.wf) (hi : e.int? = some v) :
    e.val = intToDec v ∧ inSigned 64 v := by
  cases e with
  | u7 n =>
    have hn : n < 128 := hw
    simp only [LPEntry.int?, Option.some.injEq] at hi
    subst hi
    constructor
    · simp [LPEntry.val, intToDec]
    · exact nat_inSigned64 n (Nat.lt_trans hn (by decide))
  | i13 w => cases hi; exact ⟨rfl, inSigned_widen 13 _ (by simp) hw⟩
  | i16 w => cases hi; exact ⟨rfl, inSigned_widen 16 _ (by simp) hw⟩
  | i24 w => cases hi; exact ⟨rfl, inSigned_widen 24 _ (by simp) hw⟩
  | i32 w => cases hi; exact ⟨rfl, inSigned_widen 32 _ (by simp) hw⟩
  | i64 w => cases hi; exact ⟨rfl, inSigned_widen 64 _ (by simp) hw⟩
  | s6 s => cases hi
  | s12 s => cases hi
  | s32 s => cases hi

theorem lpNextInt_enc (e : LPEntry) (v : Int) (X : Bytes) (hw : e.wf) (hi : e.int? = some v) :
    lpNextInt (e.enc ++ X) = some (v, X) := by
  obtain ⟨hv, h64⟩ := intEntry_spec e v hw hi
  unfold lpNextInt
  rw [lpNext_enc e X hw]
  simp only [hv, parseInt64_intToDec v h64]

theorem lpIntMin_spec (v : Int) (h : inSigned 64 v) : (lpIntMin v).wf ∧ (lpIntMin v).int? = some v := by
  unfold lpIntMin
  by_cases h0 : 0 ≤ v ∧ v ≤ 127
  · rw [if_pos h0]
    exact ⟨show v.toNat < 128 by omega, congrArg some (Int.toNat_of_nonneg h0.1)⟩
  by_cases h13 : inSigned 13 v
  · rw [if_neg h0, if_pos h13]; exact ⟨h13, rfl⟩
  by_cases h16 : inSigned 16 v
  · rw [if_neg h0, if_neg h13, if_pos h16]; exact ⟨h16, rfl⟩
  by_cases h24 : inSigned 24 v
  · rw [if_neg h0, if_neg h13, if_neg h16, if_pos h24]; exact ⟨h24, rfl⟩
  by_cases h32 : inSigned 32 v
  · rw [if_neg h0, if_neg h13, if_neg h16, if_neg h24, if_pos h32]; exact ⟨h32, rfl⟩
  rw [if_neg h0, if_neg h13, if_neg h16, if_neg h24, if_neg h32]
  exact ⟨h, rfl⟩

theorem lpNextInt_min (n : Nat) (X : Bytes) (h : n < 2 ^ 63) :
    lpNextInt ((lpIntMin (n : Int)).enc ++ X) = some ((n : Int), X) := by
  obtain ⟨hw, hi⟩ := lpIntMin_spec (n : Int) (nat_inSigned64 n h)
  exact lpNextInt_enc _ _ X hw hi

theorem interleave_zip (fs vs : List LPEntry) (h : fs.length = vs.length) :
    interleave (fs.map LPEntry.val) (vs.map LPEntry.val) =
      (List.zip fs vs).flatMap (fun p => [p.1.val, p.2.val]) := by
  induction fs generalizing vs with
  | nil => cases vs <;> simp [interleave]
  | cons f fs ih =>
    cases vs with
    | nil => simp at h
    | cons v vs =>
      simp only [List.map_cons, interleave, List.zip_cons_cons, List.flatMap_cons, List.cons_append,
        List.nil_append]
      rw [ih vs (by simpa using h)]

theorem wrap64_exact (a : Nat) (d : Int) (h0 : 0 ≤ (a : Int) + d) (h1 : (a : Int) + d < (2 ^ 64 : Nat)) :
    wrap64 a d = ((a : Int) + d).toNat := by
  unfold wrap64
  rw [Int.emod_eq_of_lt h0 h1]

def liveCount (es : List SEntryE) : Nat := (es.filter (fun e => !e.deleted)).length
def delCount (es : List SEntryE) : Nat := (es.filter (fun e => e.deleted)).length

theorem streamEntries_spec (key : Bytes) (mMs mSeq : Nat) (mf : List LPEntry) (es : List SEntryE)
    (X : Bytes) (fuel : Nat) (hfuel : es.length < fuel)
    (hall : ∀ x ∈ es.flatMap (fun e => e.lp mf.length), x.wf)
    (hid : ∀ e ∈ es, e.idWf mMs mSeq)
    (hcnt : ∀ e ∈ es, (e.same = true → e.items.length = mf.length) ∧ (e.same = false → e.items.length % 2 = 0))
    (hsmall : ∀ e ∈ es, e.items.length < 65535) :
    streamEntries key mMs mSeq (mf.map LPEntry.val) mf.length fuel (liveCount es) (delCount es)
        (lpEntries (es.flatMap (fun e => e.lp mf.length)) ++ X) =
      some ((es.filter (fun e => !e.deleted)).map
        (fun e => cmdB b!"XADD" (key :: e.id mMs mSeq :: e.fieldVals mf))) := by
  induction es generalizing fuel with
  | nil =>
    obtain ⟨f, rfl⟩ : ∃ f, fuel = f + 1 := ⟨fuel - 1, by simp at hfuel; omega⟩
    simp [streamEntries, liveCount, delCount]
  | cons e es ih =>
    obtain ⟨f, rfl⟩ : ∃ f, fuel = f + 1 := ⟨fuel - 1, by simp at hfuel; omega⟩
    have hpos : ((liveCount (e :: es) : Int) > 0 ∨ (delCount (e :: es) : Int) > 0) := by
      unfold liveCount delCount
      cases hd : e.deleted <;> simp [List.filter_cons, hd] <;> omega
    obtain ⟨dms, dseq, hms, hseq, a0, a1, b0, b1⟩ := hid e (List.mem_cons_self ..)
    obtain ⟨hsame, heven⟩ := hcnt e (List.mem_cons_self ..)
    have hsm := hsmall e (List.mem_cons_self ..)
    have hwfe : ∀ x ∈ e.lp mf.length, x.wf := fun x hx =>
      hall x (by simp only [List.flatMap_cons, List.mem_append]; exact Or.inl hx)
    have ih' := ih f (by simp at hfuel; omega)
      (fun x hx => hall x (by simp only [List.flatMap_cons, List.mem_append]; exact Or.inr hx))
      (fun x hx => hid x (List.mem_cons_of_mem _ hx)) (fun x hx => hcnt x (List.mem_cons_of_mem _ hx))
      (fun x hx => hsmall x (List.mem_cons_of_mem _ hx))
    have p63 : (2 : Nat) ^ 63 = 9223372036854775808 := by decide
    have hflags3 : e.flags ≤ 3 := by
      unfold SEntryE.flags; cases e.deleted <;> cases e.same <;> decide
    have hflags : e.flags < 2 ^ 63 := by omega
    have hfl_same : ((e.flags : Int) % 4 ≥ 2) ↔ e.same = true := by
      unfold SEntryE.flags; cases e.deleted <;> cases e.same <;> decide
    have hfl_del : ((e.flags : Int) % 2 = 1) ↔ e.deleted = true := by
      unfold SEntryE.flags; cases e.deleted <;> cases e.same <;> decide
    have hid_eq : fmtId (wrap64 mMs dms) (wrap64 mSeq dseq) = e.id mMs mSeq := by
      rw [wrap64_exact mMs dms a0 a1, wrap64_exact mSeq dseq b0 b1]
      simp [SEntryE.id, streamId, fmtId, hms, hseq]
    simp only [streamEntries, hpos, not_true_eq_false, if_false, List.flatMap_cons, lpEntries_append,
      List.append_assoc]
    have hlp : ∃ c : Nat, e.lp mf.length = [lpIntMin e.flags, e.msDelta, e.seqDelta] ++
        (if e.same then [] else [lpIntMin (e.numFields mf.length)]) ++ e.items ++ [lpIntMin (c : Int)] :=
      ⟨_, rfl⟩
    obtain ⟨c, hlp⟩ := hlp
    have hw_flags : (lpIntMin (e.flags : Int)).wf := hwfe _ (by rw [hlp]; simp)
    have hw_ms : e.msDelta.wf := hwfe _ (by rw [hlp]; simp)
    have hw_seq : e.seqDelta.wf := hwfe _ (by rw [hlp]; simp)
    have hw_items : ∀ x ∈ e.items, x.wf := fun x hx => hwfe x (by rw [hlp]; simp [hx])
    have hw_cnt : (lpIntMin (c : Int)).wf := hwfe _ (by rw [hlp]; simp)
    rw [hlp]
    simp only [lpEntries_append, lpEntries_cons, List.append_assoc, List.cons_append, List.nil_append]
    have e0 : lpEntries [] = ([] : Bytes) := rfl
    simp only [e0, List.nil_append]
    rw [lpNextInt_min e.flags _ hflags]
    simp only
    rw [lpNextInt_enc e.msDelta dms _ hw_ms hms]
    simp only
    rw [lpNextInt_enc e.seqDelta dseq _ hw_seq hseq]
    simp only [hid_eq]
    -- the field/value list, SAMEFIELDS or not, and what is left: the entry's own element count
    generalize hscr : (if (e.flags : Int) % 4 ≥ 2 then _ else _ : Option (List Bytes × Bytes)) = scr
    have htake := lpTake_entries e.items
      ((lpIntMin (c : Int)).enc ++ (lpEntries (es.flatMap (fun e => e.lp mf.length)) ++ X)) hw_items
    have hfv : scr = some (e.fieldVals mf,
        (lpIntMin (c : Int)).enc ++ (lpEntries (es.flatMap (fun e => e.lp mf.length)) ++ X)) := by
      rw [← hscr]
      cases hs : e.same with
      | true =>
        have hlen := hsame hs
        rw [if_pos (hfl_same.mpr hs)]
        simp only [if_true, e0, List.nil_append]
        rw [hlen] at htake
        rw [htake, Option.map_some, interleave_zip mf e.items hlen.symm]
        simp [SEntryE.fieldVals, hs]
      | false =>
        have hev := heven hs
        have hnf : e.numFields mf.length = e.items.length / 2 := by simp [SEntryE.numFields, hs]
        have hns : ¬ ((e.flags : Int) % 4 ≥ 2) := fun h => by
          have := hfl_same.mp h; rw [hs] at this; exact absurd this (by decide)
        rw [if_neg hns]
        simp only [Bool.false_eq_true, if_false, lpEntries_cons, e0, List.append_nil, hnf]
        rw [lpNextInt_min (e.items.length / 2) _ (by omega)]
        simp only [Int.toNat_natCast, show 2 * (e.items.length / 2) = e.items.length by omega, htake]
        simp [SEntryE.fieldVals, hs]
    rw [hfv]
    simp only
    rw [lpNext_enc (lpIntMin (c : Int)) _ hw_cnt]
    simp only
    cases hd : e.deleted with
    | true =>
      have hc : liveCount (e :: es) = liveCount es := by simp [liveCount, List.filter_cons, hd]
      have hdc : ((delCount (e :: es) : Nat) : Int) - 1 = (delCount es : Nat) := by
        simp [delCount, List.filter_cons, hd]
      simp only [hfl_del.mpr hd, if_true, hc, hdc, ih', List.filter_cons, hd, Bool.not_true,
        Bool.false_eq_true, if_false]
    | false =>
      have hc : ((liveCount (e :: es) : Nat) : Int) - 1 = (liveCount es : Nat) := by
        simp [liveCount, List.filter_cons, hd]
      have hdc : delCount (e :: es) = delCount es := by simp [delCount, List.filter_cons, hd]
      have hnd : ¬ ((e.flags : Int) % 2 = 1) := fun h => by
        have := hfl_del.mp h; rw [hd] at this; exact absurd this (by decide)
      simp only [hnd, if_false, hc, hdc, ih', List.filter_cons, hd, Bool.not_false, if_true, List.map_cons]

theorem flatMap_lp_length_ge (es : List SEntryE) (m : Nat) : es.length ≤ (es.flatMap (fun e => e.lp m)).length := by
  induction es with
  | nil => simp
  | cons e es ih =>
    rw [List.flatMap_cons, List.length_append, List.length_cons]
    have : 1 ≤ (e.lp m).length := by simp [SEntryE.lp]
    omega

theorem mem_flatMap_lp_length (l : List SEntryE) (m : Nat) (e : SEntryE) (he : e ∈ l) :
    (e.lp m).length ≤ (l.flatMap (fun e => e.lp m)).length := by
  induction l with
  | nil => simp at he
  | cons a t ih =>
    rw [List.flatMap_cons, List.length_append]
    rcases List.mem_cons.mp he with rfl | he'
    · omega
    · have := ih he'; omega

/-- a stream id as the file holds it: 8 + 8 bytes big endian, saved as a 16-byte string -/
theorem idb_length (a b : Nat) : (beN 8 a ++ beN 8 b).length = 16 := by simp [beN_length]

theorem readString_idb (a b : Nat) (X : Bytes) :
    readString (encLen .b6 16 ++ (beN 8 a ++ (beN 8 b ++ X))) = some (beN 8 a ++ beN 8 b, X) := by
  have hwf : (SE.raw .b6 (beN 8 a ++ beN 8 b)).wf := by
    show LenForm.b6.fits _
    rw [idb_length]; decide
  have h := readString_enc (SE.raw .b6 (beN 8 a ++ beN 8 b)) X hwf
  simpa only [SE.enc, SE.val, idb_length, List.append_assoc] using h

theorem idb_take (a b : Nat) : (beN 8 a ++ beN 8 b).take 8 = beN 8 a := by
  rw [List.take_left' (beN_length 8 a)]

theorem idb_drop (a b : Nat) : (beN 8 a ++ beN 8 b).drop 8 = beN 8 b := by
  rw [List.drop_left' (beN_length 8 a)]

/-- the XADDs a node stands for -/
def SNodeE.xadds (n : SNodeE) (key : Bytes) : List Cmd :=
  n.live.map (fun p => cmdB b!"XADD" (key :: p.1 :: p.2))

/-- One stream node (`<master id><listpack>`): the expansion is one XADD per
    live entry, with the entry's id and its own field/value list. -/
theorem streamNode_spec (key : Bytes) (n : SNodeE) (rest : Bytes) (hwf : n.wf)
    (hid : ∀ e ∈ n.entries, e.idWf n.masterMs n.masterSeq) :
    streamNode key (n.enc ++ rest) = some (n.xadds key, rest) := by
  obtain ⟨hw, hv, hlp, hms, hseq, hent⟩ := hwf
  obtain ⟨hlpw, hlplen⟩ := hlp
  have p63 : (2 : Nat) ^ 63 = 9223372036854775808 := by decide
  unfold streamNode SNodeE.enc
  simp only [List.append_assoc]
  rw [readString_idb]
  simp only [idb_length, ne_eq, not_true_eq_false, if_false]
  rw [idb_take, idb_drop, ofBE_beN 8 _ (by simpa using hms), ofBE_beN 8 _ (by simpa using hseq)]
  rw [readString_enc n.w rest hw]
  simp only
  rw [hv]
  unfold SNodeE.blob
  rw [lpNew_blob _ hlplen]
  simp only
  have hlpe : n.lpEntries = [lpIntMin ((liveCount n.entries : Nat) : Int), lpIntMin ((delCount n.entries : Nat) : Int),
      lpIntMin ((n.masterFields.length : Nat) : Int)] ++ n.masterFields ++ [lpIntMin 0] ++
      n.entries.flatMap (fun e => e.lp n.masterFields.length) := rfl
  have hge := flatMap_lp_length_ge n.entries n.masterFields.length
  have hlen_all : n.lpEntries.length = 3 + n.masterFields.length + 1 +
      (n.entries.flatMap (fun e => e.lp n.masterFields.length)).length := by
    rw [hlpe]; simp; omega
  have hlive : liveCount n.entries ≤ n.entries.length := List.length_filter_le _ _
  have hdel : delCount n.entries ≤ n.entries.length := List.length_filter_le _ _
  have hwf_mf : ∀ x ∈ n.masterFields, x.wf := fun x hx => hlpw x (by rw [hlpe]; simp [hx])
  have hwf_zero : (lpIntMin 0).wf := hlpw _ (by rw [hlpe]; simp)
  have hwf_ent : ∀ x ∈ n.entries.flatMap (fun e => e.lp n.masterFields.length), x.wf :=
    fun x hx => hlpw x (by rw [hlpe]; exact List.mem_append_right _ hx)
  have hfuel : n.entries.length < (lpBlob n.lpEntries).length + 1 := by
    have h1 := lpEntries_length_ge n.lpEntries
    unfold lpBlob
    simp only [List.length_append]
    omega
  generalize (lpBlob n.lpEntries).length + 1 = F at hfuel ⊢
  rw [hlpe]
  simp only [lpEntries_append, lpEntries_cons, List.append_assoc, List.cons_append, List.nil_append]
  rw [lpNextInt_min _ _ (by omega)]
  simp only
  rw [lpNextInt_min _ _ (by omega)]
  simp only
  rw [lpNextInt_min _ _ (by omega)]
  simp only
  have hnn : ¬ ((n.masterFields.length : Int) < 0) := by omega
  simp only [hnn, if_false, Int.toNat_natCast]
  rw [lpTake_entries n.masterFields _ hwf_mf]
  simp only
  rw [lpNext_enc (lpIntMin 0) _ hwf_zero]
  have hz : (lpIntMin 0).val = b!"0" := by decide
  simp only [hz, ne_eq, not_true_eq_false, if_false]
  have hsmall : ∀ e ∈ n.entries, e.items.length < 65535 := by
    intro e he
    have h1 := mem_flatMap_lp_length n.entries n.masterFields.length e he
    have h2 : e.items.length ≤ (e.lp n.masterFields.length).length := by
      simp only [SEntryE.lp, List.length_append]; omega
    omega
  have := streamEntries_spec key n.masterMs n.masterSeq n.masterFields n.entries ([0xFF]) F hfuel hwf_ent hid
    (fun e he => ⟨(hent e he).2, (hent e he).1⟩) hsmall
  rw [this]
  simp only [SNodeE.xadds, SNodeE.live, List.map_map]
  rfl

theorem streamNodes_spec (key : Bytes) (nodes : List SNodeE) (rest : Bytes)
    (hwf : ∀ n ∈ nodes, n.wf ∧ ∀ e ∈ n.entries, e.idWf n.masterMs n.masterSeq) :
    streamNodes key nodes.length (nodes.flatMap SNodeE.enc ++ rest) =
      some (nodes.flatMap (fun n => n.xadds key), rest) := by
  induction nodes with
  | nil => simp [streamNodes]
  | cons n nodes ih =>
    obtain ⟨h1, h2⟩ := hwf n (List.mem_cons_self ..)
    simp only [List.length_cons, List.flatMap_cons, List.append_assoc, streamNodes]
    rw [streamNode_spec key n _ h1 h2]
    simp only
    rw [ih (fun x hx => hwf x (List.mem_cons_of_mem _ hx))]

end GunYu.Rdb
