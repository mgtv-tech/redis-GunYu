/-
  Helper lemmas for C03 `fanout_parallel`: the target with one connection per
  worker, what one entry does to it (independently of the worker it is routed to),
  and the comparison of two fan-outs with different numbers of workers.
-/
import GunYu.Proofs.Rdb.Sync
import GunYu.Proofs.Rdb.StreamNames

namespace GunYu.Rdb
open GunYu GunYu.RedisSem

theorem put_conn (m : MState) (j : Nat) (t : TState) : (m.put j t).conn j = t := by
  cases t; simp [MState.put, MState.conn]

theorem put_put (m : MState) (j : Nat) (t t' : TState) : (m.put j t).put j t' = m.put j t' := by
  simp only [MState.put, MState.mk.injEq, and_true]
  funext i
  by_cases hi : i = j <;> simp [hi]

theorem put_conn_self (m : MState) (j : Nat) : m.put j (m.conn j) = m := by
  cases m with
  | mk cur dbs =>
    simp only [MState.put, MState.conn, MState.mk.injEq, and_true]
    funext i
    by_cases hi : i = j <;> simp [hi]

theorem applySched_conn (j : Nat) : ∀ (cs : List Cmd) (m : MState),
    applySched m (cs.map (fun c => (j, c))) = (applyReqs (m.conn j) cs).map (m.put j) := by
  intro cs
  induction cs with
  | nil => intro m; simp [applySched, applyReqs, put_conn_self]
  | cons c cs ih =>
    intro m
    simp only [List.map_cons, applySched, applyTagged, applyReqs]
    cases hr : applyReq (m.conn j) c with
    | none => simp
    | some t =>
      simp only [Option.map_some, ih, put_conn]
      cases applyReqs t cs with
      | none => simp
      | some t' => simp [put_put]

theorem applySched_append (m : MState) (a b : List (Nat × Cmd)) :
    applySched m (a ++ b) = (applySched m a).bind (fun m' => applySched m' b) := by
  induction a generalizing m with
  | nil => simp [applySched]
  | cons p a ih =>
    simp only [List.cons_append, applySched]
    cases applyTagged m p with
    | none => simp
    | some m' => simp [ih]

theorem applyReqs_cur (cs : List Cmd) : ∀ (t t' : TState), (∀ c ∈ cs, lower c.name ≠ b!"select") →
    applyReqs t cs = some t' → t'.cur = t.cur := by
  induction cs with
  | nil => intro t t' _ h; simp only [applyReqs, Option.some.injEq] at h; rw [h]
  | cons c cs ih =>
    intro t t' hn h
    simp only [applyReqs] at h
    have hc := hn c (List.mem_cons_self ..)
    cases hr : applyReq t c with
    | none => simp [hr] at h
    | some t1 =>
      simp only [hr] at h
      have h1 : t1.cur = t.cur := by
        simp only [applyReq, hc, if_false] at hr
        split at hr
        · simp only [Option.some.injEq] at hr; rw [← hr]
        · cases hx : applyXCmd (t.dbs t.cur) c with
          | none => simp [hx] at hr
          | some ks => simp only [hx, Option.map_some, Option.some.injEq] at hr; rw [← hr]; rfl
      rw [ih t1 t' (fun x hx => hn x (List.mem_cons_of_mem _ hx)) h, h1]

/-- what `ExecCmd` emits: for a string / list / set / sorted-set / hash value commands of
    `plainExpNames` on the value's key; `FUNCTION` / `script` for a library / an AUX field; for a
    stream the names of `execStream_names` -/
def ExpCmd (p : PObj) (c : Cmd) : Prop :=
  (c.name ∈ plainExpNames ∧ ∃ rest, c.args = Arg.b p.key :: rest) ∨
  c.name = b!"FUNCTION" ∨ c.name = b!"script" ∨ (otypeOf p.rtype = some .stream ∧ streamName c)

theorem expCmd_map {α : Type} (p : PObj) (x : Option (List α)) (g : α → Cmd) (hg : ∀ a, ExpCmd p (g a))
    (cs : List Cmd) (h : x.map (fun es => es.map g) = some cs) : ∀ c ∈ cs, ExpCmd p c := by
  obtain ⟨es, _, rfl⟩ := Option.map_eq_some_iff.mp h
  intro c hc
  obtain ⟨a, _, rfl⟩ := List.mem_map.mp hc
  exact hg a

theorem execCmd_mem (x : XCfg) (p : PObj) (cs : List Cmd) (h : execCmd x p = some cs) :
    ∀ c ∈ cs, ExpCmd p c := by
  have hplain : ∀ (n : Bytes) (rest : List Arg), n ∈ plainExpNames → ExpCmd p ⟨n, Arg.b p.key :: rest⟩ :=
    fun n rest hn => Or.inl ⟨hn, rest, rfl⟩
  unfold execCmd at h
  cases hot : otypeOf p.rtype with
  | none => simp [hot] at h
  | some ot =>
    cases ot <;> simp only [hot] at h
    case string =>
      cases h; intro c hc; cases List.mem_singleton.mp hc
      exact hplain b!"set" _ (by decide)
    case list => exact expCmd_map p _ _ (fun e => hplain b!"RPUSH" [.b e] (by decide)) cs h
    case set => exact expCmd_map p _ _ (fun e => hplain b!"SADD" [.b e] (by decide)) cs h
    case zset =>
      split at h
      · split at h
        · cases h
        · exact expCmd_map p _ _ (fun (a : Bytes × Nat) => hplain b!"ZADD" [.f a.2, .b a.1] (by decide)) cs h
      · split at h
        · cases h
        · exact expCmd_map p _ _ (fun (a : Bytes × Bytes) => hplain b!"ZADD" [.b a.2, .b a.1] (by decide)) cs h
    case hash => exact expCmd_map p _ _ (fun (a : Bytes × Bytes) => hplain b!"HSET" [.b a.1, .b a.2] (by decide)) cs h
    case stream =>
      exact fun c hc => Or.inr (Or.inr (Or.inr ⟨hot, execStream_names _ _ _ _ _ h c hc⟩))
    case module => cases h
    case function =>
      split at h <;> cases h
      · intro c hc; cases List.mem_singleton.mp hc; exact Or.inr (Or.inl rfl)
      · intro c hc; cases hc
    case aux =>
      split at h <;> cases h
      · intro c hc; cases List.mem_singleton.mp hc; exact Or.inr (Or.inr (Or.inl rfl))
      · intro c hc; cases hc

def noSel (c : Cmd) : Prop := lower c.name ≠ b!"select"

theorem plainExp_plain : ∀ n ∈ plainExpNames, lower n ∈ plainNames := by decide

theorem expCmd_noSel (p : PObj) (c : Cmd) (h : ExpCmd p c) : noSel c := by
  unfold noSel
  rcases h with ⟨h, _⟩ | h | h | ⟨_, h | h | h | h⟩
  · exact (plain_not_special _ (plainExp_plain _ h)).1
  all_goals rw [h]; decide

theorem keyReq_noSel (key : Bytes) (c : Cmd) (h : KeyReq key c) : noSel c :=
  (plain_not_special _ (keyReq_plain key c h).1).1

theorem rewriteCmd_name (src dst : Bytes) (c : Cmd) : (rewriteCmd src dst c).name = c.name := by
  unfold rewriteCmd
  split
  · rfl
  · split
    · simp only; split <;> rfl
    · simp only; split <;> rfl

theorem replayEntry_noSel (cfg : RCfg) (D : Int) (ex : Exists) (e : Entry) :
    ∀ c ∈ (replayEntry cfg D ex e).1, noSel c := by
  intro c hc
  rcases mem_replayEntry cfg D ex e c hc with ⟨cs, c0, hx, h0, rfl | rfl⟩ | h
  · exact expCmd_noSel _ _ (execCmd_mem cfg.x e.obj cs hx c h0)
  · unfold noSel
    rw [rewriteCmd_name]
    exact expCmd_noSel _ _ (execCmd_mem cfg.x e.obj cs hx c0 h0)
  · exact keyReq_noSel _ c h

/-- the entries the comparison covers: an entry without a database is a function library
    (what the loader produces); values of EVERY kind, streams included -/
def EntryOk (e : Entry) : Prop :=
  (e.db = -1 ∧ e.obj.rtype = 0xF5) ∨ ∃ n : Nat, e.db = (n : Int)

/-- the database an entry's requests go to; `none` for an entry without database: the connection
    stays where it is -/
def selOf (cfg : RCfg) (e : Entry) : Option Int := if e.db = -1 then none else some (mapDb cfg e.db)

/-- worker-independent description of `workerStep`: the database the connection is switched
    to, the requests issued there, the new existence table, success -/
def entryEffect (cfg : RCfg) (ex : Exists) (e : Entry) : Option Int × List Cmd × Exists × Bool :=
  if e.db ≠ -1 ∧ cfg.filterDb e.db then (none, [], ex, true) else
  if cfg.filterKey e.key then (selOf cfg e, [], ex, true) else
  (selOf cfg e, replayEntry cfg ((selOf cfg e).getD 0) ex e)

def stepReqs (cfg : RCfg) (w : Worker) (ex : Exists) (e : Entry) : List Cmd :=
  (workerStep cfg w ex e).1.log.drop w.log.length

theorem replayEntry_function_indep (cfg : RCfg) (D1 D2 : Int) (ex : Exists) (e : Entry) (hrt : e.obj.rtype = 0xF5) :
    replayEntry cfg D1 ex e = replayEntry cfg D2 ex e := by
  have hot : otypeOf e.obj.rtype = some .function := by rw [hrt]; decide
  rw [replayEntry_keyless cfg D1 ex e _ hot (Or.inl rfl), replayEntry_keyless cfg D2 ex e _ hot (Or.inl rfl)]

theorem workerStep_skipDb (cfg : RCfg) (w : Worker) (ex : Exists) (e : Entry)
    (hA : e.db ≠ -1 ∧ cfg.filterDb e.db = true) : workerStep cfg w ex e = (w, ex, true) := by
  rw [workerStep_eq, if_pos hA]

theorem entryEffect_skipDb (cfg : RCfg) (ex : Exists) (e : Entry)
    (hA : e.db ≠ -1 ∧ cfg.filterDb e.db = true) : entryEffect cfg ex e = (none, [], ex, true) := by
  unfold entryEffect; rw [if_pos hA]

theorem workerStep_skipKey (cfg : RCfg) (w : Worker) (ex : Exists) (e : Entry)
    (hA : ¬ (e.db ≠ -1 ∧ cfg.filterDb e.db = true)) (hk : cfg.filterKey e.key = true) :
    workerStep cfg w ex e = (afterSelect cfg w e, ex, true) := by
  rw [workerStep_eq, if_neg hA, if_pos hk]

theorem entryEffect_skipKey (cfg : RCfg) (ex : Exists) (e : Entry)
    (hA : ¬ (e.db ≠ -1 ∧ cfg.filterDb e.db = true)) (hk : cfg.filterKey e.key = true) :
    entryEffect cfg ex e = (selOf cfg e, [], ex, true) := by
  unfold entryEffect; rw [if_neg hA, if_pos hk]

theorem workerStep_replay (cfg : RCfg) (htick : cfg.tick = 0) (w : Worker) (ex : Exists) (e : Entry)
    (hA : ¬ (e.db ≠ -1 ∧ cfg.filterDb e.db = true)) (hk : ¬ cfg.filterKey e.key = true) :
    workerStep cfg w ex e =
      ({ afterSelect cfg w e with log := (afterSelect cfg w e).log ++ (replayEntry cfg (afterSelect cfg w e).cur ex e).1 },
        (replayEntry cfg (afterSelect cfg w e).cur ex e).2) := by
  rw [workerStep_eq, if_neg hA, if_neg hk]
  simp only [cfg_tick0 cfg htick]

theorem entryEffect_replay (cfg : RCfg) (ex : Exists) (e : Entry)
    (hA : ¬ (e.db ≠ -1 ∧ cfg.filterDb e.db = true)) (hk : ¬ cfg.filterKey e.key = true) :
    entryEffect cfg ex e = (selOf cfg e, replayEntry cfg ((selOf cfg e).getD 0) ex e) := by
  unfold entryEffect; rw [if_neg hA, if_neg hk]

theorem step_char (cfg : RCfg) (htick : cfg.tick = 0)
    (hdb : ∀ n : Nat, cfg.filterDb (n : Int) = false → 0 ≤ mapDb cfg (n : Int))
    (e : Entry) (hok : EntryOk e) (ex : Exists) (w : Worker) (j : Nat) (M : MState) (hc : w.cur = M.cur j) :
    (workerStep cfg w ex e).2 = (entryEffect cfg ex e).2.2 ∧
    (workerStep cfg w ex e).1.cur = (entryEffect cfg ex e).1.getD w.cur ∧
    ∃ sel, stepReqs cfg w ex e = sel ++ (entryEffect cfg ex e).2.1 ∧
      applyReqs (M.conn j) sel = some { cur := (entryEffect cfg ex e).1.getD (M.cur j), dbs := M.dbs } := by
  unfold stepReqs
  by_cases hA : e.db ≠ -1 ∧ cfg.filterDb e.db = true
  · rw [workerStep_skipDb cfg w ex e hA, entryEffect_skipDb cfg ex e hA]
    exact ⟨rfl, rfl, [], by simp, rfl⟩
  · rcases hok with ⟨hm1, hrt⟩ | ⟨n, hn⟩
    · -- a function library: no DB switch
      have hsel : afterSelect cfg w e = w := by simp [afterSelect, hm1]
      have hnone : selOf cfg e = none := by simp [selOf, hm1]
      by_cases hk : cfg.filterKey e.key = true
      · rw [workerStep_skipKey cfg w ex e hA hk, entryEffect_skipKey cfg ex e hA hk, hsel, hnone]
        simp only [Option.getD_none, List.drop_length]
        exact ⟨trivial, trivial, [], by simp, rfl⟩
      · rw [workerStep_replay cfg htick w ex e hA hk, entryEffect_replay cfg ex e hA hk, hsel, hnone]
        simp only [Option.getD_none, List.drop_left, replayEntry_function_indep cfg w.cur 0 ex e hrt]
        exact ⟨trivial, trivial, [], by simp, rfl⟩
    · have hne : ¬ (e.db = -1) := by rw [hn]; omega
      have hsome : selOf cfg e = some (mapDb cfg e.db) := by simp [selOf, hne]
      have hfd : cfg.filterDb (n : Int) = false := by
        cases h : cfg.filterDb (n : Int) with
        | false => rfl
        | true => exact absurd ⟨hne, by rw [hn]; exact h⟩ hA
      obtain ⟨log, h1, h2, h3⟩ := afterSelect_apply cfg w e (M.conn j) n hn hc (hdb n hfd)
      rw [← hn] at h2 h3
      by_cases hk : cfg.filterKey e.key = true
      · rw [workerStep_skipKey cfg w ex e hA hk, entryEffect_skipKey cfg ex e hA hk, hsome]
        simp only [Option.getD_some, h1, List.drop_left, h2]
        exact ⟨trivial, trivial, log, by simp, h3⟩
      · rw [workerStep_replay cfg htick w ex e hA hk, entryEffect_replay cfg ex e hA hk, hsome]
        simp only [Option.getD_some, h1, List.append_assoc, List.drop_left, h2]
        exact ⟨trivial, trivial, log, rfl, h3⟩

/-- the effect of one entry on the keyspaces — no worker, no connection in it -/
def entryDbs (cfg : RCfg) (ex : Exists) (e : Entry) (dbs : Int → Keyspace) : Option (Int → Keyspace) :=
  match (entryEffect cfg ex e).1 with
  | some D => (applyReqs { cur := D, dbs := dbs } (entryEffect cfg ex e).2.1).map (·.dbs)
  | none => some dbs

theorem entryEffect_noSel (cfg : RCfg) (ex : Exists) (e : Entry) :
    ∀ c ∈ (entryEffect cfg ex e).2.1, noSel c := by
  by_cases hA : e.db ≠ -1 ∧ cfg.filterDb e.db = true
  · rw [entryEffect_skipDb cfg ex e hA]; intro c hc; cases hc
  · by_cases hk : cfg.filterKey e.key = true
    · rw [entryEffect_skipKey cfg ex e hA hk]; intro c hc; cases hc
    · rw [entryEffect_replay cfg ex e hA hk]; exact replayEntry_noSel cfg _ ex e

theorem entryEffect_none_noop (cfg : RCfg) (ex : Exists) (e : Entry) (hok : EntryOk e)
    (hnone : (entryEffect cfg ex e).1 = none) (t : TState) :
    applyReqs t (entryEffect cfg ex e).2.1 = some t := by
  by_cases hA : e.db ≠ -1 ∧ cfg.filterDb e.db = true
  · rw [entryEffect_skipDb cfg ex e hA]; rfl
  · by_cases hk : cfg.filterKey e.key = true
    · rw [entryEffect_skipKey cfg ex e hA hk]; rfl
    · rw [entryEffect_replay cfg ex e hA hk] at hnone ⊢
      rcases hok with ⟨hm1, hrt⟩ | ⟨n, hn⟩
      · obtain ⟨cs, hcs, hnn⟩ := replay_keyless cfg ((selOf cfg e).getD 0) ex e .function (by rw [hrt]; decide) (Or.inl rfl)
        show applyReqs t (replayEntry cfg ((selOf cfg e).getD 0) ex e).1 = some t
        rw [hcs]
        exact applyReqs_noop cs t hnn
      · have hne : ¬ (e.db = -1) := by rw [hn]; omega
        simp [selOf, hne] at hnone

/-- one entry, replayed by worker `w` on connection `j`: the keyspaces change by `entryDbs`,
    whatever `w` and `j` are; only connection `j`'s selected database moves, to the worker's -/
theorem step_M (cfg : RCfg) (htick : cfg.tick = 0)
    (hdb : ∀ n : Nat, cfg.filterDb (n : Int) = false → 0 ≤ mapDb cfg (n : Int))
    (e : Entry) (hok : EntryOk e) (ex : Exists) (w : Worker) (j : Nat) (M : MState) (hc : w.cur = M.cur j) :
    (applySched M ((stepReqs cfg w ex e).map (fun c => (j, c)))).map (·.dbs) = entryDbs cfg ex e M.dbs ∧
    ∀ M', applySched M ((stepReqs cfg w ex e).map (fun c => (j, c))) = some M' →
      M'.cur j = (workerStep cfg w ex e).1.cur ∧ ∀ i, i ≠ j → M'.cur i = M.cur i := by
  obtain ⟨_, hcur, sel, hreq, hsel⟩ := step_char cfg htick hdb e hok ex w j M hc
  have happ : applySched M ((stepReqs cfg w ex e).map (fun c => (j, c))) =
      (applyReqs { cur := (entryEffect cfg ex e).1.getD (M.cur j), dbs := M.dbs } (entryEffect cfg ex e).2.1).map
        (M.put j) := by
    rw [applySched_conn, hreq, applyReqs_append, hsel]
    rfl
  rw [happ]
  unfold entryDbs
  cases hs : (entryEffect cfg ex e).1 with
  | none =>
    rw [entryEffect_none_noop cfg ex e hok hs]
    simp only [Option.getD_none, Option.map_some, Option.some.injEq]
    refine ⟨rfl, ?_⟩
    intro M' hM'
    subst hM'
    rw [hcur, hs, Option.getD_none, hc]
    exact ⟨by simp [MState.put], fun i hi => by simp [MState.put, hi]⟩
  | some D =>
    simp only [Option.getD_some]
    cases hr : applyReqs { cur := D, dbs := M.dbs } (entryEffect cfg ex e).2.1 with
    | none => simp
    | some t =>
      simp only [Option.map_some, Option.some.injEq]
      refine ⟨rfl, ?_⟩
      intro M' hM'
      subst hM'
      have ht := applyReqs_cur _ _ _ (entryEffect_noSel cfg ex e) hr
      rw [hcur, hs, Option.getD_some]
      exact ⟨by simp [MState.put, ht], fun i hi => by simp [MState.put, hi]⟩

/-- the keyspaces after all entries in snapshot order — no worker in it -/
def entriesDbs (cfg : RCfg) : List Entry → Exists → (Int → Keyspace) → Option (Int → Keyspace)
  | [], _, dbs => some dbs
  | e :: es, ex, dbs =>
    match entryDbs cfg ex e dbs with
    | none => none
    | some dbs' =>
      if (entryEffect cfg ex e).2.2.2 then entriesDbs cfg es (entryEffect cfg ex e).2.2.1 dbs' else some dbs'

/-- success of the replay — no worker in it -/
def entriesOk (cfg : RCfg) : List Entry → Exists → Bool
  | [], _ => true
  | e :: es, ex => (entryEffect cfg ex e).2.2.2 && entriesOk cfg es (entryEffect cfg ex e).2.2.1

theorem fanOut_dbs (cfg : RCfg) (htick : cfg.tick = 0)
    (hdb : ∀ n : Nat, cfg.filterDb (n : Int) = false → 0 ≤ mapDb cfg (n : Int)) :
    ∀ (es : List Entry), (∀ e ∈ es, EntryOk e) → ∀ (idx : Nat) (ws : List Worker) (ex : Exists) (M : MState),
      0 < ws.length → (∀ j, j < ws.length → (ws.getD j {}).cur = M.cur j) →
      (applySched M (schedOf (fanOutTrace cfg es idx ws ex))).map (·.dbs) = entriesDbs cfg es ex M.dbs ∧
      (fanOut cfg es idx ws ex).2.2 = entriesOk cfg es ex := by
  intro es
  induction es with
  | nil => intro _ idx ws ex M _ _; exact ⟨rfl, rfl⟩
  | cons e es ih =>
    intro hok idx ws ex M hn hcur
    have hoke := hok e (List.mem_cons_self ..)
    have hlt := workerOf_lt cfg ws.length e idx hn
    simp only [fanOutTrace, fanOut, entriesDbs, entriesOk]
    generalize hi : workerOf cfg ws.length e idx = i at hlt ⊢
    have hc := hcur i hlt
    obtain ⟨hres, _, _⟩ := step_char cfg htick hdb e hoke ex (ws.getD i {}) i M hc
    obtain ⟨hdbs, hcurs⟩ := step_M cfg htick hdb e hoke ex (ws.getD i {}) i M hc
    unfold stepReqs at hdbs hcurs
    generalize hstep : workerStep cfg (ws.getD i {}) ex e = r at hres hdbs hcurs ⊢
    obtain ⟨w', ex', ok⟩ := r
    have hex : ex' = (entryEffect cfg ex e).2.2.1 := congrArg Prod.fst hres
    have hokf : ok = (entryEffect cfg ex e).2.2.2 := congrArg Prod.snd hres
    simp only [schedOf, List.flatMap_cons] at hdbs hcurs ⊢
    rw [applySched_append]
    have hlen : (ws.set i w').length = ws.length := by simp
    have ih' := ih (fun x hx => hok x (List.mem_cons_of_mem _ hx)) i (ws.set i w') ex'
    cases hs : applySched M (List.map (fun c => (i, c)) (List.drop (ws.getD i {}).log.length w'.log)) with
    | none =>
      rw [hs] at hdbs
      simp only [Option.map_none] at hdbs
      rw [← hdbs]
      -- the replay failed on the target: nothing is claimed about the model's flag beyond the fold
      refine ⟨by simp, ?_⟩
      rw [← hokf, ← hex]
      cases ok with
      | true =>
        simp only [if_true, Bool.true_and]
        exact (ih' { cur := fun j => ((ws.set i w').getD j {}).cur } (by rw [hlen]; exact hn) (fun j _ => rfl)).2
      | false => simp
    | some M1 =>
      rw [hs] at hdbs
      simp only [Option.map_some] at hdbs
      rw [← hdbs]
      obtain ⟨hc1, hc2⟩ := hcurs M1 hs
      simp only [Option.bind_some]
      rw [← hokf, ← hex]
      cases ok with
      | true =>
        simp only [if_true, Bool.true_and]
        refine ih' M1 (by rw [hlen]; exact hn) ?_
        intro j hj
        rw [hlen] at hj
        by_cases hij : i = j
        · subst hij; rw [getD_set_eq ws i w' hlt, hc1]
        · rw [getD_set_ne ws i j w' hij, hc2 j (fun h => hij h.symm)]; exact hcur j hj
      | false =>
        simp [applySched]

theorem trace_ok {db : Nat} {items : List Item} {es : List Entry} (htr : Trace db items es) :
    ∀ e ∈ es, EntryOk e := by
  induction htr with
  | nil db => intro e he; cases he
  | skip _ _ ih => exact ih
  | @aux db k v items es e hdb hrt _ ih =>
    intro x hx
    rcases List.mem_cons.mp hx with rfl | hx
    · exact Or.inr ⟨db, hdb⟩
    · exact ih x hx
  | @function db code items es e hdb hrt _ ih =>
    intro x hx
    rcases List.mem_cons.mp hx with rfl | hx
    · exact Or.inl ⟨hdb, hrt⟩
    · exact ih x hx
  | @key db k items ces es hke _ ih =>
    intro x hx
    rcases List.mem_append.mp hx with hx | hx
    · exact Or.inr ⟨db, (keyEntries_all hke x hx).2⟩
    · exact ih x hx

theorem schedOf_proj (tr : List (Nat × List Cmd)) (j : Nat) :
    ((schedOf tr).filter (fun p => p.1 == j)).map (·.2) = (tr.filter (fun p => p.1 == j)).flatMap (·.2) := by
  induction tr with
  | nil => rfl
  | cons p tr ih =>
    simp only [schedOf, List.flatMap_cons, List.filter_append, List.map_append] at ih ⊢
    rw [ih]
    by_cases hp : p.1 = j
    · subst hp
      have h1 : (List.filter (fun q : Nat × Cmd => q.1 == p.1) (p.2.map (fun c => (p.1, c)))) = p.2.map (fun c => (p.1, c)) := by
        rw [List.filter_eq_self]; intro a ha; obtain ⟨c, _, rfl⟩ := List.mem_map.mp ha; simp
      rw [h1]
      simp [Function.comp_def]
    · have h1 : (List.filter (fun q : Nat × Cmd => q.1 == j) (p.2.map (fun c => (p.1, c)))) = [] := by
        rw [List.filter_eq_nil_iff]; intro a ha; obtain ⟨c, _, rfl⟩ := List.mem_map.mp ha; simp [hp]
      rw [h1]
      simp [hp]

theorem fanOut_length (cfg : RCfg) (es : List Entry) : ∀ (idx : Nat) (ws : List Worker) (ex : Exists),
    (fanOut cfg es idx ws ex).1.length = ws.length := by
  induction es with
  | nil => intro idx ws ex; rfl
  | cons e es ih =>
    intro idx ws ex
    simp only [fanOut]
    split
    · rw [ih]; simp
    · simp

theorem trace_tag_lt (cfg : RCfg) (es : List Entry) : ∀ (idx : Nat) (ws : List Worker) (ex : Exists),
    0 < ws.length → ∀ p ∈ fanOutTrace cfg es idx ws ex, p.1 < ws.length := by
  induction es with
  | nil => intro idx ws ex _ p hp; cases hp
  | cons e es ih =>
    intro idx ws ex hn p hp
    simp only [fanOutTrace] at hp
    rcases List.mem_cons.mp hp with rfl | hp
    · exact workerOf_lt _ _ _ _ hn
    · split at hp
      · have := ih _ _ _ (by simp; exact hn) p hp
        simpa using this
      · cases hp

theorem schedOf_single (tr : List (Nat × List Cmd)) (h : ∀ p ∈ tr, p.1 = 0) :
    schedOf tr = ((tr.filter (fun p => p.1 == 0)).flatMap (·.2)).map (fun c => (0, c)) := by
  induction tr with
  | nil => rfl
  | cons p tr ih =>
    have hp := h p (List.mem_cons_self ..)
    simp only [schedOf, List.flatMap_cons] at ih ⊢
    rw [ih (fun x hx => h x (List.mem_cons_of_mem _ hx))]
    simp [hp]

theorem getD_map_log (l : List Worker) (j : Nat) : (l.map (·.log)).getD j [] = (l.getD j {}).log := by
  simp only [List.getD, List.getElem?_map]
  cases l[j]? <;> rfl

theorem getD_replicate_cur (n j : Nat) : ((List.replicate n ({} : Worker)).getD j {}).cur = 0 := by
  simp only [List.getD, List.getElem?_replicate]
  split <;> rfl

/-- what one worker achieves, any number of workers achieve in the snapshot-order schedule -/
theorem fanout_of_single (d : DCfg) (cfg : RCfg) (bs : Bytes) (es : List Entry) (w' : Worker) (ex' : Exists)
    (T' : TState) (htick : cfg.tick = 0)
    (hdb : ∀ n : Nat, cfg.filterDb (n : Int) = false → 0 ≤ mapDb cfg (n : Int))
    (hparse : parseRdb d bs = (es, true)) (hok : ∀ e ∈ es, EntryOk e)
    (hrun : Replays cfg es {} [] {} w' ex' T') (n : Nat) (hn : 1 ≤ n) (hpar : cfg.parallel = n) :
    ∃ logs M, sendRdb d cfg [] bs = (logs, true) ∧ logs.length = n ∧
      (∀ j, j < n → ((schedOf (fanOutTrace cfg es 0 (List.replicate n {}) [])).filter (fun p => p.1 == j)).map (·.2) =
        logs.getD j []) ∧
      applySched {} (schedOf (fanOutTrace cfg es 0 (List.replicate n {}) [])) = some M ∧ M.dbs = T'.dbs := by
  obtain ⟨log, hrun, hlog, happ, _⟩ := hrun
  -- one worker, seen as connection 0
  have h1 := fanOut_dbs cfg htick hdb es hok 0 [{}] [] {} (by simp) (fun j hj => by
    have : j = 0 := by simpa using hj
    subst this; rfl)
  have htags : ∀ p ∈ fanOutTrace cfg es 0 [{}] [], p.1 = 0 := by
    intro p hp
    have := trace_tag_lt cfg es 0 [{}] [] (by simp) p hp
    simpa using this
  have hlogs1 := fanOut_logs cfg es 0 [{}] [] (by simp) 0 (by simp)
  rw [fanOut_one, hrun] at hlogs1
  simp only [List.getD_cons_zero, hlog] at hlogs1
  have hl : ((fanOutTrace cfg es 0 [{}] []).filter (fun p => p.1 == 0)).flatMap (·.2) = log := by
    simpa using hlogs1.symm
  rw [schedOf_single _ htags, hl, applySched_conn] at h1
  have hconn : ({} : MState).conn 0 = ({} : TState) := rfl
  rw [hconn, happ, fanOut_one, hrun] at h1
  simp only [Option.map_some] at h1
  obtain ⟨h1d, h1ok⟩ := h1
  -- `n` workers
  have hlenN : (List.replicate n ({} : Worker)).length = n := by simp
  have hN := fanOut_dbs cfg htick hdb es hok 0 (List.replicate n {}) [] {} (by rw [hlenN]; omega)
    (fun j _ => getD_replicate_cur n j)
  obtain ⟨hNd, hNok⟩ := hN
  rw [← h1d] at hNd
  rw [← h1ok] at hNok
  cases hs : applySched {} (schedOf (fanOutTrace cfg es 0 (List.replicate n {}) [])) with
  | none => rw [hs] at hNd; simp at hNd
  | some M =>
    rw [hs] at hNd
    simp only [Option.map_some, Option.some.injEq] at hNd
    refine ⟨((fanOut cfg es 0 (List.replicate n {}) []).1).map (·.log), M, ?_, ?_, ?_, rfl, ?_⟩
    · unfold sendRdb
      have hmax : max cfg.parallel 1 = n := by rw [hpar]; omega
      simp only [hparse, hmax]
      generalize hr : fanOut cfg es 0 (List.replicate n {}) [] = r at hNok ⊢
      obtain ⟨ws, ex2, ok⟩ := r
      simp only at hNok ⊢
      rw [hNok]; rfl
    · rw [List.length_map, fanOut_length, hlenN]
    · intro j hj
      rw [schedOf_proj, getD_map_log, fanOut_logs cfg es 0 (List.replicate n {}) [] (by rw [hlenN]; omega) j
        (by rw [hlenN]; exact hj)]
      have : ((List.replicate n ({} : Worker)).getD j {}).log = [] := by
        simp only [List.getD, List.getElem?_replicate]
        split <;> rfl
      rw [this, List.nil_append]
    · simpa [MState.put] using hNd

end GunYu.Rdb
