/-
  Closed forms of a fault-free `Campaign` of the etcd election (transaction
  phase and whole call) on a well-formed key space, and what they answer when
  a foreign key is / is not first-created under the prefix.
-/
import GunYu.Proofs.EtcdInv2

set_option linter.unusedVariables false

namespace GunYu.Etcd
open GunYu

def campTxnSpec0 (idOf : Nat → Bytes) (s : Sys) (p : Bytes) (L : Nat) : Sys × Out :=
  match findKey s.st.kvs (keyOf p L) with
  | none =>
    if s.st.leaseLive L then
      let kvs' := s.st.kvs ++ [{ key := keyOf p L, val := idOf L, create := s.st.rev + 1, lease := L }]
      if ownerIs kvs' p (s.st.rev + 1) then
        ({ st := { s.st with kvs := kvs', rev := s.st.rev + 1 },
           el := setEl s.el L p { key := keyOf p L, rev := some (s.st.rev + 1), pend := false },
           told := setTold s.told p L true }, .role .leader .ok)
      else
        ({ st := { s.st with kvs := kvs', rev := s.st.rev + 1 },
           el := setEl s.el L p { key := keyOf p L, rev := some (s.st.rev + 1), pend := true },
           told := setTold s.told p L false }, .pending)
    else ({ s with el := setEl s.el L p { s.el L p with key := keyOf p L } }, .role .candidate .other)
  | some own =>
    if ownerIs s.st.kvs p own.create then
      ({ st := s.st, el := setEl s.el L p { key := keyOf p L, rev := some own.create, pend := false },
         told := setTold s.told p L true }, .role .leader .ok)
    else
      ({ st := s.st, el := setEl s.el L p { key := keyOf p L, rev := some own.create, pend := true },
         told := setTold s.told p L false }, .pending)

theorem campTxn0_eq (idOf : Nat → Bytes) (s : Sys) (p : Bytes) (L : Nat)
    (hpos : ∀ kv ∈ s.st.kvs, 1 ≤ kv.create) (hp : p ≠ []) :
    campTxn idOf s p L 0 = campTxnSpec0 idOf s p L := by
  unfold campTxn campTxnSpec0
  dsimp only
  rw [campaignTxn_eval _ _ hpos]
  unfold campaignTxnSpec
  have hkne : keyOf p L ≠ [] := keyOf_ne_nil p L
  simp only [show ¬ (0 = 1) by decide, show ¬ (0 = 2) by decide, ↓reduceIte, hkne, hp, or_self]
  cases hfk : findKey s.st.kvs (keyOf p L) with
  | none =>
    dsimp only
    by_cases hl : s.st.leaseLive L = true
    · simp only [hl, ↓reduceIte, Gen.etcdOwnerResp, newKV, List.getElem?_cons_succ,
        List.getElem?_cons_zero, ownerTest_eq]
    · simp only [hl, Bool.false_eq_true, ↓reduceIte]
  | some own =>
    dsimp only
    simp only [Gen.etcdOwnerResp, Gen.etcdOwnResp, Bool.false_eq_true, ↓reduceIte, List.getElem?_cons_succ,
      List.getElem?_cons_zero, List.getD_cons_zero, List.head?_cons, Option.map_some, ownerTest_eq]

theorem findKey_of_mem {kvs : List KV} {rev : Nat} (h : Wf kvs rev) {kv : KV} (hm : kv ∈ kvs) :
    findKey kvs kv.key = some kv := by
  cases hf : findKey kvs kv.key with
  | none => exact absurd rfl (findKey_none hf kv hm)
  | some kv' =>
    obtain ⟨hm', hk'⟩ := findKey_some hf
    rw [h.eq_of_key hm' hm hk']

theorem createRevOf_of_mem {kvs : List KV} {rev : Nat} (h : Wf kvs rev) {kv : KV} (hm : kv ∈ kvs) :
    createRevOf kvs kv.key = kv.create := by
  unfold createRevOf; rw [findKey_of_mem h hm]

/-- a foreign key under the prefix that is older than the caller's own key (or
    the caller has none) -/
def foreignFirst (s : Sys) (p : Bytes) (L : Nat) : Prop :=
  ∃ ow ∈ s.st.kvs, p.isPrefixOf ow.key = true ∧ ow.key ≠ keyOf p L ∧
    ∀ own ∈ s.st.kvs, own.key = keyOf p L → ow.create < own.create

theorem mem_underPfx_append {kvs : List KV} {p : Bytes} {kv x : KV} :
    x ∈ kvs ++ [kv] ↔ x ∈ kvs ∨ x = kv := by simp

/-- the transaction phase answers "leader" exactly when no foreign key is first -/
theorem campTxn0_leader_iff (idOf : Nat → Bytes) {s : Sys} (h : Inv s) (p : Bytes) (L : Nat) (hp : p ≠ [])
    (hlive : s.st.leaseLive L = true) :
    (campTxn idOf s p L 0).2 = .role .leader .ok ↔ ¬ foreignFirst s p L := by
  rw [campTxn0_eq idOf s p L (fun kv hkv => (h.wf.pos kv hkv).1) hp]
  unfold campTxnSpec0
  cases hfk : findKey s.st.kvs (keyOf p L) with
  | none =>
    dsimp only
    simp only [hlive, ↓reduceIte]
    have hnone := findKey_none hfk
    unfold ownerIs
    cases hfc : firstCreate (s.st.kvs ++ [{ key := keyOf p L, val := idOf L, create := s.st.rev + 1, lease := L }]) p with
    | none =>
      exfalso
      exact firstCreate_none hfc { key := keyOf p L, val := idOf L, create := s.st.rev + 1, lease := L }
        (by simp) (keyOf_prefix p L)
    | some ow =>
      obtain ⟨hmem, hpre, hmin⟩ := firstCreate_some hfc
      dsimp only
      by_cases hc : ow.create = s.st.rev + 1
      · simp only [hc, beq_self_eq_true, ↓reduceIte, true_iff]
        rintro ⟨f, hf, hfp, _, _⟩
        have := hmin f (List.mem_append_left _ hf) hfp
        have := (h.wf.pos f hf).2
        omega
      · have hb : (ow.create == s.st.rev + 1) = false := by simp [hc]
        simp only [hb, Bool.false_eq_true, ↓reduceIte, reduceCtorEq, false_iff, Classical.not_not]
        rcases List.mem_append.1 hmem with hold | hnew
        · exact ⟨ow, hold, hpre, fun e => hnone ow hold e, fun own hown hk => absurd hk (hnone own hown)⟩
        · simp at hnew; subst hnew; exact absurd rfl hc
  | some own =>
    obtain ⟨hownm, hownk⟩ := findKey_some hfk
    dsimp only
    unfold ownerIs
    cases hfc : firstCreate s.st.kvs p with
    | none =>
      exfalso
      exact firstCreate_none hfc own hownm (by rw [hownk]; exact keyOf_prefix p L)
    | some ow =>
      obtain ⟨hmem, hpre, hmin⟩ := firstCreate_some hfc
      dsimp only
      by_cases hc : ow.create = own.create
      · simp only [hc, beq_self_eq_true, ↓reduceIte, true_iff]
        rintro ⟨f, hf, hfp, _, hlt⟩
        have := hmin f hf hfp
        have := hlt own hownm hownk
        omega
      · have hb : (ow.create == own.create) = false := by simp [hc]
        simp only [hb, Bool.false_eq_true, ↓reduceIte, reduceCtorEq, false_iff, Classical.not_not]
        refine ⟨ow, hmem, hpre, fun e => hc ?_, fun own' hown' hk' => ?_⟩
        · rw [h.wf.eq_of_key hmem hownm (e.trans hownk.symm)]
        · have e : own' = own := h.wf.eq_of_key hown' hownm (hk'.trans hownk.symm)
          rw [e]
          have := hmin own hownm (by rw [hownk]; exact keyOf_prefix p L)
          omega

/-- the transaction phase of a fault-free Campaign with a live lease answers
    leader or leaves the Delete pending, nothing else -/
theorem campTxn0_out (idOf : Nat → Bytes) {s : Sys} (h : Inv s) (p : Bytes) (L : Nat) (hp : p ≠ [])
    (hlive : s.st.leaseLive L = true) :
    (campTxn idOf s p L 0).2 = .role .leader .ok ∨
    ((campTxn idOf s p L 0).2 = .pending ∧ ((campTxn idOf s p L 0).1.el L p).pend = true ∧
      ((campTxn idOf s p L 0).1.el L p).key = keyOf p L) := by
  rw [campTxn0_eq idOf s p L (fun kv hkv => (h.wf.pos kv hkv).1) hp]
  unfold campTxnSpec0
  cases hfk : findKey s.st.kvs (keyOf p L) with
  | none =>
    dsimp only
    simp only [hlive, ↓reduceIte]
    split
    · exact Or.inl rfl
    · right; dsimp only; rw [setEl_same]; exact ⟨rfl, rfl, rfl⟩
  | some own =>
    dsimp only
    split
    · exact Or.inl rfl
    · right; dsimp only; rw [setEl_same]; exact ⟨rfl, rfl, rfl⟩

/-- the Delete phase of a fault-free Campaign: follower, own key gone, nothing else touched -/
theorem campDel0 (idOf : Nat → Bytes) (s : Sys) (p : Bytes) (L : Nat)
    (hpend : (s.el L p).pend = true) (hkey : (s.el L p).key = keyOf p L) :
    (campDel idOf s p L 0).2 = .role .follower .ok ∧
    (campDel idOf s p L 0).1.st.kvs = delKV s.st.kvs (keyOf p L) ∧
    (campDel idOf s p L 0).1.told p L = false := by
  unfold campDel
  dsimp only
  rw [loserDelete_eval]
  have hkne : keyOf p L ≠ [] := keyOf_ne_nil p L
  simp only [hpend, Bool.not_true, Bool.false_eq_true, ↓reduceIte, show ¬ (0 = 3) by decide,
    show ¬ (0 = 4) by decide, hkey, hkne]
  exact ⟨trivial, trivial, setTold_same _ _ _ _⟩

end GunYu.Etcd
