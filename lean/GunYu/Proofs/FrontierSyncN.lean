/-
  Sync mode over any number of recovery slots (Model/FrontierSyncN.lean): `bestLatest` selects a record with
  a reported run id and maximal end offset; the record of the last unit applied is that one, whatever earlier
  units or an earlier numbering left in other slots. Core only.
-/
import GunYu.Model.FrontierSyncN
import GunYu.Proofs.FrontierRestart

namespace GunYu.Frontier
open GunYu

/-- first component of one iteration of `LoadBisyncLatestStartRecord`'s selection loop -/
def pickBest (ids : List Bytes) (acc : Option Rec) (r : Rec) : Option Rec :=
  if matchRun r.runId ids then
    (match acc with
      | none => some r
      | some b => if r.endOff > b.endOff ∨ (r.endOff = b.endOff ∧ r.mtime > b.mtime) then some r else some b)
  else acc

theorem bestLatest_eq (l : List Rec) (ids : List Bytes) :
    bestLatest l ids = (l.foldl (pickBest ids) none, (l.filter (fun r => matchRun r.runId ids)).length) := by
  have fold : ∀ (l : List Rec) (acc : Option Rec × Nat),
      l.foldl (fun (acc : Option Rec × Nat) r =>
        if matchRun r.runId ids then
          (match acc.1 with
            | none => some r
            | some b => if r.endOff > b.endOff ∨ (r.endOff = b.endOff ∧ r.mtime > b.mtime) then some r else some b,
           acc.2 + 1)
        else acc) acc =
      (l.foldl (pickBest ids) acc.1, acc.2 + (l.filter (fun r => matchRun r.runId ids)).length) := by
    intro l
    induction l with
    | nil => intro acc; rfl
    | cons r rest ih =>
      intro acc
      rw [List.foldl_cons, ih, List.foldl_cons, List.filter_cons]
      unfold pickBest
      cases matchRun r.runId ids with
      | true => simp only [if_true, List.length_cons]; rw [Nat.add_assoc, Nat.add_comm 1]
      | false => rfl
  exact (fold l (none, 0)).trans (by rw [Nat.zero_add])

theorem bestLatest_fst (l : List Rec) (ids : List Bytes) :
    (bestLatest l ids).1 = l.foldl (pickBest ids) none := by
  rw [bestLatest_eq]

/-- `acc` is what the selection loop holds after the records `seen`: nothing iff none of them carries a
    reported run id, otherwise one of them that does, with an end offset not below any other's -/
def IsBest (ids : List Bytes) (seen : List Rec) (acc : Option Rec) : Prop :=
  (acc = none → ∀ r ∈ seen, matchRun r.runId ids = false) ∧
  ∀ b, acc = some b → b ∈ seen ∧ matchRun b.runId ids = true ∧
    ∀ r ∈ seen, matchRun r.runId ids = true → r.endOff ≤ b.endOff

theorem isBest_step (ids : List Bytes) (seen : List Rec) (acc : Option Rec) (x : Rec) (h : IsBest ids seen acc) :
    IsBest ids (seen ++ [x]) (pickBest ids acc x) := by
  have hmem : ∀ r, r ∈ seen ++ [x] ↔ r ∈ seen ∨ r = x := by
    intro r; rw [List.mem_append, List.mem_singleton]
  unfold pickBest
  cases hm : matchRun x.runId ids with
  | false =>
    refine ⟨fun hn r hr => ?_, fun b hb => ?_⟩
    · rcases (hmem r).mp hr with hr | rfl
      · exact h.1 hn r hr
      · exact hm
    · obtain ⟨h1, h2, h3⟩ := h.2 b hb
      refine ⟨(hmem b).mpr (Or.inl h1), h2, fun r hr hrm => ?_⟩
      rcases (hmem r).mp hr with hr | rfl
      · exact h3 r hr hrm
      · rw [hm] at hrm; cases hrm
  | true =>
    -- the record replaces what is held when it ends later (or as late, with a later mtime)
    have hnew : (∀ a, acc = some a → a.endOff ≤ x.endOff) → ∀ b, some x = some b →
        b ∈ seen ++ [x] ∧ matchRun b.runId ids = true ∧
          ∀ r ∈ seen ++ [x], matchRun r.runId ids = true → r.endOff ≤ b.endOff := by
      intro hle b hb
      cases hb
      refine ⟨(hmem x).mpr (Or.inr rfl), hm, fun r hr hrm => ?_⟩
      rcases (hmem r).mp hr with hr | rfl
      · cases hacc : acc with
        | none => rw [h.1 hacc r hr] at hrm; cases hrm
        | some a => exact Int.le_trans ((h.2 a hacc).2.2 r hr hrm) (hle a hacc)
      · exact Int.le_refl _
    simp only [if_true]
    cases acc with
    | none => exact ⟨(fun hn => nomatch hn), hnew (fun a ha => nomatch ha)⟩
    | some a =>
      dsimp only
      by_cases hgt : x.endOff > a.endOff ∨ (x.endOff = a.endOff ∧ x.mtime > a.mtime)
      · rw [if_pos hgt]
        exact ⟨(fun hn => nomatch hn), hnew (fun a' ha' => by cases ha'; omega)⟩
      · rw [if_neg hgt]
        refine ⟨(fun hn => nomatch hn), fun b hb => ?_⟩
        cases hb
        obtain ⟨h1, h2, h3⟩ := h.2 a rfl
        refine ⟨(hmem a).mpr (Or.inl h1), h2, fun r hr hrm => ?_⟩
        rcases (hmem r).mp hr with hr | rfl
        · exact h3 r hr hrm
        · omega

theorem isBest_bestLatest (l : List Rec) (ids : List Bytes) : IsBest ids l (bestLatest l ids).1 := by
  rw [bestLatest_fst]
  exact foldl_seen (isBest_step ids) l [] none ⟨(fun _ r hr => nomatch hr), fun b hb => nomatch hb⟩

/-- `LoadBisyncLatestStartRecord` returns nothing iff no record of the scanned slots carries a reported run id -/
theorem bestLatest_none {l : List Rec} {ids : List Bytes} (h : (bestLatest l ids).1 = none) :
    ∀ r ∈ l, matchRun r.runId ids = false :=
  (isBest_bestLatest l ids).1 h

/-- … otherwise a record of the scanned slots with a reported run id whose end offset is maximal among them -/
theorem bestLatest_some {l : List Rec} {ids : List Bytes} {b : Rec} (h : (bestLatest l ids).1 = some b) :
    b ∈ l ∧ matchRun b.runId ids = true ∧ ∀ r ∈ l, matchRun r.runId ids = true → r.endOff ≤ b.endOff :=
  (isBest_bestLatest l ids).2 b h

theorem mem_scanLatest {N : Nat} {latest : Nat → Option Rec} {r : Rec} :
    r ∈ scanLatest N latest ↔ ∃ t, t < N ∧ latest t = some r := by
  unfold scanLatest
  rw [List.mem_filterMap]
  constructor
  · rintro ⟨t, ht, h⟩; exact ⟨t, List.mem_range.mp ht, h⟩
  · rintro ⟨t, ht, h⟩; exact ⟨t, List.mem_range.mpr ht, h⟩

theorem iterOff_mono {next : Int → Int} (hs : ∀ o, o < next o) (o : Int) :
    ∀ n : Nat, o ≤ iterOff next o n := by
  intro n
  induction n with
  | zero => exact Int.le_refl _
  | succ k ih =>
    have := hs (iterOff next o k)
    simp only [iterOff]; omega

/-- `n` units have been applied: exactly the first `n` units of the stream behind the root checkpoint,
    in order; the process continues at the end of the n-th; the record of the n-th is in one of the
    scanned slots and carries the process's sequence number; every OTHER record a start may read (left by
    earlier units in other slots, or by an earlier numbering - with ANY sequence number) does not end
    beyond it, and not AT it once a unit has been committed -/
structure SyncNInv (next : Int → Int) (rid : Bytes) (ids : List Bytes) (N : Nat) (o₀ : Int)
    (s : SyncNSys) (n : Nat) : Prop where
  root : ∃ db, s.root = (rid, o₀, db)
  off : s.off = iterOff next o₀ n
  applied : s.applied = unitStarts next o₀ n
  below : ∀ t r, s.latest t = some r → matchRun r.runId ids = true →
    r.endOff ≤ iterOff next o₀ n ∧ (0 < n → r.endOff = iterOff next o₀ n → r.seq = s.cur ∧ r.runId = rid)
  top : 0 < n → ∃ t, t < N ∧ ∃ r, s.latest t = some r ∧ r.endOff = iterOff next o₀ n ∧ r.runId = rid

/-- what a start answers in a state of the invariant: the end of the n-th unit, and - once a unit has
    been committed - the sequence number the process holds and the run id the units are recorded under -/
theorem startLatestN_of_inv {next : Int → Int} {rid : Bytes} {ids : List Bytes} {N : Nat} {o₀ : Int}
    {s : SyncNSys} {n : Nat} (hi : SyncNInv next rid ids N o₀ s n)
    (hs : ∀ o, o < next o) (hrid : matchRun rid ids = true) :
    ∃ db rid' seq, startLatestN N (some s.root) s.latest ids = .point db rid' (iterOff next o₀ n) seq ∧
      matchRun rid' ids = true ∧ (0 < n → seq = s.cur ∧ rid' = rid) := by
  obtain ⟨db, hroot⟩ := hi.root
  have hne : rid ≠ [] := matchRun_ne_nil hrid
  unfold startLatestN
  simp only
  cases hb : (bestLatest (scanLatest N s.latest) ids).1 with
  | none =>
    have hnone := bestLatest_none hb
    have hn0 : n = 0 := by
      cases Nat.eq_zero_or_pos n with
      | inl h => exact h
      | inr hpos =>
        obtain ⟨t, ht, r, hr, _, hrr⟩ := hi.top hpos
        have := hnone r (mem_scanLatest.mpr ⟨t, ht, hr⟩)
        rw [hrr, hrid] at this
        cases this
    subst hn0
    exact ⟨db, rid, 0, by simp only [rootPoint, hroot, iterOff], hrid, fun h => absurd h (by omega)⟩
  | some b =>
    obtain ⟨hbm, hbmatch, hbmax⟩ := bestLatest_some hb
    obtain ⟨t, ht, hbt⟩ := mem_scanLatest.mp hbm
    simp only
    obtain ⟨hle, heq⟩ := hi.below t b hbt hbmatch
    cases Nat.eq_zero_or_pos n with
    | inl hn0 =>
      subst hn0
      simp only [iterOff] at hle
      by_cases hnew : rootNewer s.root b.endOff ids = true
      · rw [hnew]
        exact ⟨db, rid, 0, by simp only [if_true, rootPoint, hroot, iterOff], hrid, fun h => absurd h (by omega)⟩
      · have hbe : b.endOff = o₀ := by
          have : ¬ (o₀ > b.endOff) := fun h => hnew (rootNewer_iff.mpr (by rw [hroot]; exact ⟨hne, h, hrid⟩))
          omega
        rw [(Bool.not_eq_true _).mp hnew]
        exact ⟨0, b.runId, b.seq, by simp only [iterOff, hbe]; rfl, hbmatch, fun h => absurd h (by omega)⟩
    | inr hpos =>
      obtain ⟨t', ht', r, hr, hre, hrr⟩ := hi.top hpos
      have hge := hbmax r (mem_scanLatest.mpr ⟨t', ht', hr⟩) (by rw [hrr]; exact hrid)
      have hbe : b.endOff = iterOff next o₀ n := by omega
      obtain ⟨hseq, hrun⟩ := heq hpos hbe
      have hmono := iterOff_mono hs o₀ n
      rw [rootNewer_of_le ids (show s.root.2.1 ≤ b.endOff by rw [hroot]; show o₀ ≤ b.endOff; omega)]
      exact ⟨0, b.runId, b.seq, by simp [hbe], hbmatch, fun _ => ⟨hseq, hrun⟩⟩

theorem syncNRun_root (next : Int → Int) (rid : Bytes) (ids : List Bytes) (N : Nat) (steps : List SyncNStep)
    (s : SyncNSys) : (syncNRun next rid ids N s steps).root = s.root := by
  refine foldl_inv (f := syncNStep next rid ids N) (I := fun s' => s'.root = s.root) (fun s' st h => ?_) steps rfl
  cases st with
  | commitNext slot mt => simp only [syncNStep]; split <;> exact h
  | restart => simp only [syncNStep]; split <;> exact h

/-- every record a start may read ends strictly before the root checkpoint: the root overrides, seq 0 -/
theorem startLatestN_root_of_strict {rid : Bytes} {ids : List Bytes} {N : Nat} {o₀ : Int} {db : Nat}
    {latest : Nat → Option Rec} (hrid : matchRun rid ids = true)
    (h0 : ∀ t r, latest t = some r → matchRun r.runId ids = true → r.endOff < o₀) :
    startLatestN N (some (rid, o₀, db)) latest ids = .point db rid o₀ 0 := by
  have hne : rid ≠ [] := matchRun_ne_nil hrid
  unfold startLatestN
  simp only
  cases hb : (bestLatest (scanLatest N latest) ids).1 with
  | none => simp only [rootPoint]
  | some b =>
    obtain ⟨hbm, hbmatch, _⟩ := bestLatest_some hb
    obtain ⟨t, _, hbt⟩ := mem_scanLatest.mp hbm
    have hlt := h0 t b hbt hbmatch
    have hn : rootNewer (rid, o₀, db) b.endOff ids = true := rootNewer_iff.mpr ⟨hne, hlt, hrid⟩
    simp only [hn, if_true, rootPoint]

theorem syncN_restart_inv {next : Int → Int} {rid : Bytes} {ids : List Bytes} {N : Nat} {o₀ : Int}
    {s : SyncNSys} {n : Nat} (hi : SyncNInv next rid ids N o₀ s n)
    (hs : ∀ o, o < next o) (hrid : matchRun rid ids = true) :
    SyncNInv next rid ids N o₀ (syncNStep next rid ids N s .restart) n ∧
    (syncNStep next rid ids N s .restart).latest = s.latest ∧
    (0 < n → (syncNStep next rid ids N s .restart).cur = s.cur) := by
  obtain ⟨db, rid', seq, hst, _, hseq⟩ := startLatestN_of_inv hi hs hrid
  simp only [syncNStep, hst]
  refine ⟨⟨hi.root, rfl, hi.applied, fun t r hr hm => ?_, hi.top⟩, trivial, fun hpos => (hseq hpos).1⟩
  obtain ⟨h1, h2⟩ := hi.below t r hr hm
  exact ⟨h1, fun hpos he => ⟨by rw [(h2 hpos he).1, (hseq hpos).1], (h2 hpos he).2⟩⟩

theorem syncN_commit_inv {next : Int → Int} {rid : Bytes} {ids : List Bytes} {N : Nat} {o₀ : Int}
    {s : SyncNSys} {n : Nat} (hi : SyncNInv next rid ids N o₀ s n) (hs : ∀ o, o < next o)
    {slot : Nat} (mt : Int) (hsl : slot < N) :
    SyncNInv next rid ids N o₀ (syncNStep next rid ids N s (.commitNext slot mt)) (n + 1) := by
  have hstep := hs (iterOff next o₀ n)
  simp only [syncNStep, hsl, if_true]
  refine ⟨hi.root, by simp only [hi.off, iterOff], by simp only [hi.applied, hi.off, unitStarts], ?_, ?_⟩
  · intro t r hr hm
    by_cases hts : t = slot
    · simp only [hts, if_true, Option.some.injEq] at hr
      subst hr
      simp only [hi.off, iterOff]
      exact ⟨Int.le_refl _, fun _ _ => by simp⟩
    · simp only [hts, if_false] at hr
      have := (hi.below t r hr hm).1
      simp only [iterOff]
      exact ⟨by omega, fun _ h => by omega⟩
  · intro _
    exact ⟨slot, hsl, { seq := s.cur + 1, endOff := next s.off, mtime := mt, runId := rid, slot := slot },
      by simp only [if_true], by simp only [hi.off, iterOff], rfl⟩

theorem syncNStep_inv {next : Int → Int} {rid : Bytes} {ids : List Bytes} {N : Nat} {o₀ : Int}
    {s : SyncNSys} {n : Nat} (hi : SyncNInv next rid ids N o₀ s n)
    (hs : ∀ o, o < next o) (hrid : matchRun rid ids = true) (st : SyncNStep) :
    ∃ n', SyncNInv next rid ids N o₀ (syncNStep next rid ids N s st) n' := by
  cases st with
  | restart => exact ⟨n, (syncN_restart_inv hi hs hrid).1⟩
  | commitNext slot mt =>
    by_cases hsl : slot < N
    · exact ⟨n + 1, syncN_commit_inv hi hs mt hsl⟩
    · exact ⟨n, by simp only [syncNStep, hsl, if_false]; exact hi⟩

theorem syncNRun_inv {next : Int → Int} {rid : Bytes} {ids : List Bytes} {N : Nat} {o₀ : Int}
    (hs : ∀ o, o < next o) (hrid : matchRun rid ids = true) (steps : List SyncNStep) :
    ∀ {s : SyncNSys} {n : Nat}, SyncNInv next rid ids N o₀ s n →
      ∃ n', SyncNInv next rid ids N o₀ (syncNRun next rid ids N s steps) n' :=
  fun hi => foldl_inv (f := syncNStep next rid ids N) (I := fun s => ∃ n, SyncNInv next rid ids N o₀ s n)
    (fun _ st ⟨_, hi⟩ => syncNStep_inv hi hs hrid st) steps ⟨_, hi⟩

/-- with leftovers STRICTLY before the root and a process that starts at seq 0 the sequence number the
    process holds is the number of units applied -/
theorem syncNRun_numbered {next : Int → Int} {rid : Bytes} {ids : List Bytes} {N : Nat} {o₀ : Int}
    (hs : ∀ o, o < next o) (hrid : matchRun rid ids = true) (steps : List SyncNStep) :
    ∀ {s : SyncNSys} {n : Nat}, SyncNInv next rid ids N o₀ s n → s.cur = (n : Int) →
      (n = 0 → ∀ t r, s.latest t = some r → matchRun r.runId ids = true → r.endOff < o₀) →
      ∃ n', SyncNInv next rid ids N o₀ (syncNRun next rid ids N s steps) n' ∧
        (syncNRun next rid ids N s steps).cur = (n' : Int) ∧
        (n' = 0 → ∀ t r, (syncNRun next rid ids N s steps).latest t = some r →
          matchRun r.runId ids = true → r.endOff < o₀) := by
  induction steps with
  | nil => intro s n hi hc h0; exact ⟨n, hi, hc, h0⟩
  | cons st rest ih =>
    intro s n hi hc h0
    have e : syncNRun next rid ids N s (st :: rest) = syncNRun next rid ids N (syncNStep next rid ids N s st) rest := rfl
    rw [e]
    cases st with
    | restart =>
      obtain ⟨hn, hl, hcur⟩ := syncN_restart_inv hi hs hrid
      refine ih hn ?_ (by rw [hl]; exact h0)
      cases Nat.eq_zero_or_pos n with
      | inr hpos => rw [hcur hpos]; exact hc
      | inl hz =>
        subst hz
        obtain ⟨db0, hroot⟩ := hi.root
        have := startLatestN_root_of_strict (N := N) (latest := s.latest) (db := db0) hrid (h0 rfl)
        simp only [syncNStep, hroot, this]
        rfl
    | commitNext slot mt =>
      by_cases hsl : slot < N
      · refine ih (syncN_commit_inv hi hs mt hsl) ?_ (fun h => absurd h (Nat.succ_ne_zero n))
        simp only [syncNStep, hsl, if_true, hc]; omega
      · have : syncNStep next rid ids N s (.commitNext slot mt) = s := by simp only [syncNStep, hsl, if_false]
        rw [this]
        exact ih hi hc h0

/-- with one slot the scan is `startLatest` of Model/Frontier.lean over `NS.latest` -/
theorem startLatestN_one (ns : NS) (ids : List Bytes) :
    startLatestN 1 ns.root (fun _ => ns.latest) ids = startLatest ns ids := by
  unfold startLatestN startLatest
  cases ns.root with
  | none => rfl
  | some root =>
    simp only
    cases ns.latest with
    | none => simp [scanLatest, bestLatest, rootPoint]
    | some r => by_cases hm : matchRun r.runId ids = true <;> simp [scanLatest, bestLatest, hm, rootPoint]

end GunYu.Frontier
