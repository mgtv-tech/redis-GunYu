/-
  The slot of a key `pre{tag}post`, and the regenerated slot-tag table of
  checkpoint.initBisyncSlotTags: entry `s` is a brace-free tag whose `{tag}`
  hashes to slot `s`.
-/
import GunYu.Model.BisyncUnit
import GunYu.Props.C11

namespace GunYu.BisyncUnit
open GunYu GunYu.Slot

theorem hashSlotSpec_lt (k : Bytes) : hashSlotSpec k < 16384 := Nat.mod_lt _ (by decide)

theorem hashSlotSpec_tag (pre tag post : Bytes) (hpre : lbrace ∉ pre) (htag : rbrace ∉ tag)
    (hne : tag ≠ []) :
    hashSlotSpec (pre ++ lbrace :: (tag ++ rbrace :: post)) = (crc16Tab tag).toNat % 16384 := by
  rw [← Props.C11.keyToSlot_eq_spec, (Props.C11.keyToSlot_tag pre tag post hpre htag hne).1,
    Props.C11.crc16Tab_eq_xmodem]

theorem hashSlotSpec_wrap (pre tag post : Bytes) (hpre : lbrace ∉ pre) (htag : rbrace ∉ tag)
    (hne : tag ≠ []) :
    hashSlotSpec (pre ++ lbrace :: (tag ++ rbrace :: post)) = hashSlotSpec (braced tag) :=
  (hashSlotSpec_tag pre tag post hpre htag hne).trans
    (hashSlotSpec_tag [] tag [] List.not_mem_nil htag hne).symm

/-! ### the regenerated table

  The 16384 entries are checked by kernel evaluation, of a mirror over `Nat` of what
  `hashSlotSpec` does to `{slot-<hex i>}`. The mirror is written with `Nat.xor`, `Nat.mod`, …
  applied directly, which the kernel computes on literals in one step (the notation
  reaches them only through several instances), and is proved equal to the model for every `i`. -/

/-- Row `h` of the CRC16 table in closed form (the table-free XMODEM update): a few
    arithmetic steps, where a lookup makes the kernel walk the 256-row list. -/
def rowN (h : Nat) : Nat :=
  (fun y => Nat.xor (Nat.xor (Nat.mod (Nat.shiftLeft y 12) 65536) (Nat.shiftLeft y 5)) y)
    (Nat.xor h (Nat.shiftRight h 4))

/-- `tabStep` over `Nat` -/
def stepN (c b : Nat) : Nat :=
  Nat.xor (Nat.mod (Nat.shiftLeft c 8) 65536) (rowN (Nat.xor (Nat.shiftRight c 8) b))

theorem crc16Table_rows :
    Gen.crc16Table.toList.map BitVec.toNat = (List.range 256).map rowN := by decide +kernel

theorem crc16Table_getD (k : Nat) (hk : k < 256) : (Gen.crc16Table.getD k 0#16).toNat = rowN k := by
  have h := congrArg (·[k]?) crc16Table_rows
  simp only [List.getElem?_map, List.getElem?_range hk, Array.getElem?_toList, Option.map_some] at h
  rw [Array.getD_eq_getD_getElem?]
  cases hv : Gen.crc16Table[k]? with
  | none => rw [hv] at h; cases h
  | some v => rw [hv] at h; exact Option.some.inj h

theorem tabStep_toNat (c : BitVec 16) (b : UInt8) : (tabStep c b).toNat = stepN c.toNat b.toNat := by
  have hk : c.toNat >>> 8 ^^^ b.toNat < 2 ^ 8 :=
    Nat.xor_lt_two_pow (by have := c.isLt; rw [Nat.shiftRight_eq_div_pow]; omega) b.toNat_lt
  have hidx : (((c >>> 8) ^^^ b.toBitVec.setWidth 16) &&& 0x00FF#16).toNat = c.toNat >>> 8 ^^^ b.toNat := by
    rw [BitVec.toNat_and, BitVec.toNat_xor, BitVec.toNat_ushiftRight, BitVec.toNat_setWidth]
    show (c.toNat >>> 8 ^^^ b.toNat % 2 ^ 16) &&& 2 ^ 8 - 1 = _
    rw [Nat.mod_eq_of_lt (by have := b.toNat_lt; omega), Nat.and_two_pow_sub_one_eq_mod,
      Nat.mod_eq_of_lt hk]
  unfold tabStep
  rw [BitVec.toNat_xor, BitVec.toNat_shiftLeft, hidx, crc16Table_getD _ hk]
  rfl

/-- `hexDigit` over `Nat` -/
def digN (d : Nat) : Nat := bif Nat.blt d 10 then Nat.add 48 d else Nat.add 87 d

theorem hexDigit_toNat : ∀ d < 16, (hexDigit d).toNat = digN d := by decide

/-- the state after `step` has consumed the `%x` digits of `n`, most significant first,
    starting from `c` (fuel as in `hexLowerAux`). Written with the recursor: the kernel
    unfolds a definition by structural recursion through `brecOn`, at several times the
    work per step. -/
def hexFold {σ δ : Type} (step : σ → δ → σ) (dig : Nat → δ) (c : σ) (fuel : Nat) : Nat → σ :=
  Nat.rec (fun _ => c)
    (fun _ rest n =>
      step (bif Nat.beq (Nat.div n 16) 0 then c else rest (Nat.div n 16)) (dig (Nat.mod n 16)))
    fuel

theorem hexFold_succ {σ δ : Type} (step : σ → δ → σ) (dig : Nat → δ) (c : σ) (fuel n : Nat) :
    hexFold step dig c (fuel + 1) n =
      step (bif Nat.beq (Nat.div n 16) 0 then c else hexFold step dig c fuel (Nat.div n 16))
        (dig (Nat.mod n 16)) := rfl

theorem foldl_hexLowerAux {σ : Type} (step : σ → UInt8 → σ) (c : σ) (fuel n : Nat) (acc : Bytes) :
    (hexLowerAux fuel n acc).foldl step c = acc.foldl step (hexFold step hexDigit c fuel n) := by
  induction fuel generalizing n acc with
  | zero => rfl
  | succ f ih =>
    rw [hexLowerAux, hexFold_succ]
    cases hz : Nat.beq (Nat.div n 16) 0
    · have hz : n / 16 ≠ 0 := Nat.ne_of_beq_eq_false hz
      simp only [if_neg hz, ih]
      rfl
    · have hz : n / 16 = 0 := Nat.eq_of_beq_eq_true hz
      simp only [if_pos hz]
      rfl

theorem hexFold_toNat (c : BitVec 16) (fuel n : Nat) :
    (hexFold tabStep hexDigit c fuel n).toNat = hexFold stepN digN c.toNat fuel n := by
  induction fuel generalizing n with
  | zero => rfl
  | succ f ih =>
    rw [hexFold_succ, hexFold_succ, tabStep_toNat, hexDigit_toNat (Nat.mod n 16) (Nat.mod_lt n (by decide))]
    cases Nat.beq (Nat.div n 16) 0
    · rw [cond_false, cond_false, ih]
    · rfl

theorem hexLowerAux_all (p : UInt8 → Prop) (hd : ∀ d < 16, p (hexDigit d)) (fuel n : Nat)
    (acc : Bytes) (hacc : ∀ b ∈ acc, p b) : ∀ b ∈ hexLowerAux fuel n acc, p b := by
  induction fuel generalizing n acc with
  | zero => exact hacc
  | succ f ih =>
    have hacc' : ∀ b ∈ hexDigit (n % 16) :: acc, p b := by
      intro b hb
      rcases List.mem_cons.mp hb with e | e
      · exact e ▸ hd _ (Nat.mod_lt n (by decide))
      · exact hacc b e
    unfold hexLowerAux
    split
    · exact hacc'
    · exact ih _ _ hacc'

theorem slotTagOfIdx_braceFree (i : Nat) :
    lbrace ∉ slotTagOfIdx i ∧ rbrace ∉ slotTagOfIdx i ∧ slotTagOfIdx i ≠ [] := by
  have key : ∀ b ∈ slotTagOfIdx i, b ≠ lbrace ∧ b ≠ rbrace := by
    intro b hb
    rcases List.mem_append.mp hb with h | h
    · exact (by decide : ∀ b ∈ Gen.slotTagPrefix, b ≠ lbrace ∧ b ≠ rbrace) b h
    · exact hexLowerAux_all (fun b => b ≠ lbrace ∧ b ≠ rbrace) (by decide) _ _ [] (fun _ h => nomatch h) b h
  exact ⟨fun h => (key _ h).1 rfl, fun h => (key _ h).2 rfl,
    fun e => absurd (List.append_eq_nil_iff.mp e).1 (by decide)⟩

def tagSlotN (i : Nat) : Nat := Nat.mod (hexFold stepN digN 25532 (Nat.succ i) i) 16384

theorem prefix_crc : (crc16Spec Gen.slotTagPrefix).toNat = 25532 := by decide +kernel

theorem tagSlotN_eq (i : Nat) : hashSlotSpec (braced (slotTagOfIdx i)) = tagSlotN i := by
  have hbf := slotTagOfIdx_braceFree i
  refine (hashSlotSpec_tag [] _ [] List.not_mem_nil hbf.2.1 hbf.2.2).trans ?_
  rw [slotTagOfIdx, hexLower, crc16Tab, List.foldl_append, foldl_hexLowerAux, List.foldl_nil, hexFold_toNat]
  show Nat.mod (hexFold stepN digN (crc16Tab Gen.slotTagPrefix).toNat _ _) _ = _
  rw [Props.C11.crc16Tab_eq_xmodem, prefix_crc]
  rfl

/-- the entries of `l` hash to the slots `s, s+1, …`, and `e` is the slot after the last -/
def checkRun (e : Nat) : Nat → List Nat → Bool
  | s, [] => Nat.beq s e
  | s, i :: is => Nat.beq (tagSlotN i) s && checkRun e (Nat.succ s) is

def checkTable : Nat → List (List Nat) → Bool
  | _, [] => true
  | base, c :: cs => checkRun (Nat.add base 1024) base c && checkTable (Nat.add base 1024) cs

theorem table_ok : checkTable 0 Gen.slotTagChunks = true := by decide +kernel

theorem checkRun_get (e s : Nat) (l : List Nat) (h : checkRun e s l = true) :
    s + l.length = e ∧ ∀ j < l.length, tagSlotN (l.getD j 0) = s + j := by
  induction l generalizing s with
  | nil => exact ⟨Nat.eq_of_beq_eq_true h, fun _ hj => nomatch hj⟩
  | cons i is ih =>
    rw [checkRun, Bool.and_eq_true] at h
    obtain ⟨hlen, hget⟩ := ih (s + 1) h.2
    refine ⟨by rw [List.length_cons]; omega, fun j hj => ?_⟩
    cases j with
    | zero => exact Nat.eq_of_beq_eq_true h.1
    | succ j => rw [List.getD_cons_succ, hget j (Nat.lt_of_succ_lt_succ hj)]; omega

theorem checkTable_get (base : Nat) (cs : List (List Nat)) (h : checkTable base cs = true)
    (c j : Nat) (hc : c < cs.length) (hj : j < 1024) :
    tagSlotN ((cs.getD c []).getD j 0) = base + 1024 * c + j := by
  induction cs generalizing base c with
  | nil => nomatch hc
  | cons x xs ih =>
    rw [checkTable, Bool.and_eq_true] at h
    cases c with
    | zero =>
      obtain ⟨hlen, hget⟩ := checkRun_get _ _ x h.1
      exact hget j (by have : base + x.length = base + 1024 := hlen; omega)
    | succ c =>
      rw [List.getD_cons_succ, ih (base + 1024) h.2 c (Nat.lt_of_succ_lt_succ hc)]
      omega

/-- every entry of the regenerated table: `{tag}` hashes to its slot under the
    HASH_SLOT specification; the tag is non-empty and brace-free -/
theorem slotTag_spec (s : Nat) (hs : s < 16384) :
    hashSlotSpec (braced (slotTag s)) = s ∧
    lbrace ∉ slotTag s ∧ rbrace ∉ slotTag s ∧ slotTag s ≠ [] := by
  refine ⟨?_, slotTagOfIdx_braceFree _⟩
  rw [slotTag, tagSlotN_eq, slotTagIdx, checkTable_get 0 _ table_ok (s / 1024) (s % 1024)
    (by rw [show Gen.slotTagChunks.length = 16 from rfl]; omega) (Nat.mod_lt s (by decide))]
  omega

end GunYu.BisyncUnit
