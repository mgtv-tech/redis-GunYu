/-
  C08 → C06: what a re-opened disk cache is, in the vocabulary of C06
  (`Psync.Cache`, `Psync.CData`), and that it satisfies C06's hypotheses
  `CacheWF` / `CacheOK` (definitions imported from Model/Psync.lean, not copied).
-/
import GunYu.Model.Psync
import GunYu.Proofs.StoreFs
import GunYu.Proofs.StoreFsTrue

namespace GunYu.StoreFs
open GunYu GunYu.Store GunYu.Psync

/-- the cache description C06 reasons about, for a re-opened directory labelled `id` -/
def cacheOf (id : Psync.Id) (r : Reopened) : Cache :=
  { backend := .disk, runId := id,
    rdb := r.rdb.map (fun p => ((p.1 : Int), (p.2 : Int))),
    aof := match firstLeft r.segs, lastRight r.segs with
      | some l, some rr => some ((l : Int), (rr : Int))
      | _, _ => none }

/-- the byte the indexed segments hold at absolute offset `n` -/
def segByte (segs : List DSeg) (n : Int) : UInt8 :=
  match segs.find? (fun g => decide ((g.left : Int) ≤ n ∧ n < (g.right : Int))) with
  | some g => g.data.getD (n - (g.left : Int)).toNat 0
  | none => 0

/-- the cached bytes: the log bytes of the indexed segments; the snapshot is the
    snapshot of history `id` at the offset it is filed under -/
def dataOf (id : Psync.Id) (r : Reopened) : CData :=
  ⟨segByte r.segs, (id, match r.rdb with | some p => (p.1 : Int) | none => 0)⟩

theorem contig_cover_strict {l : List DSeg} (hc : Contig l) {f r n : Nat}
    (hf : firstLeft l = some f) (hr : lastRight l = some r) (h1 : f ≤ n) (h2 : n < r) :
    ∃ g ∈ l, g.left ≤ n ∧ n < g.right := by
  induction l generalizing f with
  | nil => simp [firstLeft] at hf
  | cons a t ih =>
    simp only [firstLeft, Option.some.injEq] at hf; subst hf
    cases t with
    | nil =>
      simp only [lastRight, Option.some.injEq] at hr; subst hr
      exact ⟨a, by simp, h1, h2⟩
    | cons b t' =>
      by_cases hn : n < a.right
      · exact ⟨a, by simp, h1, hn⟩
      · rw [lastRight_cons_cons] at hr
        obtain ⟨g, hg, hl, hrr⟩ := ih hc.2 (f := b.left) rfl hr (by have := hc.1; omega)
        exact ⟨g, List.mem_cons_of_mem _ hg, hl, hrr⟩

theorem contig_first_le_last {l : List DSeg} (hc : Contig l) {f r : Nat}
    (hf : firstLeft l = some f) (hr : lastRight l = some r) : f ≤ r := by
  cases l with
  | nil => simp [firstLeft] at hf
  | cons a t =>
    have h1 := contig_first_le hc List.mem_cons_self hf
    have h2 := contig_right_le_last hc List.mem_cons_self hr
    unfold DSeg.right at h2
    omega

theorem reopen_rdb_aligned (fs : FS) (l sz : Nat) (g : DSeg) (rest : List DSeg)
    (h : (reopen fs).rdb = some (l, sz)) (hs : (reopen fs).segs = g :: rest) : l = g.left := by
  have hs' : contigRun (sortSegs (scanSegs fs)) = g :: rest := hs
  unfold reopen at h
  simp only [hs'] at h
  generalize (if decide ((g :: rest).length < (sortSegs (scanSegs fs)).length) = true then none
      else scanRdb fs) = rdb1 at h
  cases rdb1 with
  | none => simp at h
  | some p =>
    obtain ⟨l', s'⟩ := p
    simp only [] at h
    split at h
    · simp at h; omega
    · simp at h

/-- **the re-opened cache is one C06 can reason about.** For ANY directory image:
    the log range is ordered, a snapshot offered starts where the log starts, and
    data is held under a real id only. The two side conditions are the ones the
    model cannot see: offsets are int64, and the announced snapshot size is positive. -/
theorem reopen_cacheWF (fs : FS) (id : Psync.Id) (hid1 : id ≠ []) (hid2 : id ≠ qId)
    (h64 : ∀ r, lastRight (reopen fs).segs = some r → (r : Int) ≤ maxInt64)
    (hrdb : ∀ L S, (reopen fs).rdb = some (L, S) → 0 < S ∧ (L : Int) ≤ maxInt64) :
    CacheWF (cacheOf id (reopen fs)) := by
  refine ⟨?_, ?_, ?_, ?_⟩
  · unfold cacheOf
    dsimp only
    cases hf : firstLeft (reopen fs).segs with
    | none => trivial
    | some f =>
      cases hr : lastRight (reopen fs).segs with
      | none => trivial
      | some r =>
        dsimp only
        have := contig_first_le_last (reopen_contig fs) hf hr
        have := h64 r hr
        refine ⟨by omega, by omega, this⟩
  · unfold cacheOf
    dsimp only
    cases hr : (reopen fs).rdb with
    | none => trivial
    | some p =>
      obtain ⟨L, S⟩ := p
      have := hrdb L S hr
      simp only [Option.map_some]
      exact ⟨by omega, by omega, this.2⟩
  · unfold cacheOf
    dsimp only
    cases hr : (reopen fs).rdb with
    | none => trivial
    | some p =>
      obtain ⟨L, S⟩ := p
      simp only [Option.map_some]
      cases hs : (reopen fs).segs with
      | nil => simp [firstLeft]
      | cons g rest =>
        have hal := reopen_rdb_aligned fs L S g rest hr hs
        simp only [firstLeft]
        cases hlr : lastRight (g :: rest) with
        | none => trivial
        | some r => dsimp only; rw [if_pos trivial]; omega
  · intro h
    rcases h with h | h
    · exact absurd h hid1
    · exact absurd h hid2

/-- **… and what it holds is the history's.** If every stream file of the
    directory holds (after its header) bytes of history `id` at the file's offsets
    — which every crash image of the writers' scripts does (`script_ops_true`) — then
    the re-opened cache `Holds` history `id` in C06's sense. -/
theorem reopen_holds (w : World) (fs : FS) (id : Psync.Id)
    (h : FsTrue (fun k => w.hist id (k : Int)) fs) :
    Holds w id (cacheOf id (reopen fs)) (dataOf id (reopen fs)) := by
  refine ⟨?_, ?_⟩
  · unfold cacheOf
    dsimp only
    cases hf : firstLeft (reopen fs).segs with
    | none => trivial
    | some f =>
      cases hr : lastRight (reopen fs).segs with
      | none => trivial
      | some r =>
        dsimp only
        intro n hl hn
        obtain ⟨g0, hg0, hl0, hr0⟩ := contig_cover_strict (reopen_contig fs) hf hr (n := n.toNat) (by omega) (by omega)
        show segByte (reopen fs).segs n = w.hist id n
        unfold segByte
        cases hfind : (reopen fs).segs.find? (fun g => decide ((g.left : Int) ≤ n ∧ n < (g.right : Int))) with
        | none =>
          have := List.find?_eq_none.mp hfind g0 hg0
          simp only [decide_eq_true_eq, not_and, Int.not_lt] at this
          omega
        | some g =>
          dsimp only
          have hgm := List.mem_of_find?_eq_some hfind
          have hp := List.find?_some hfind
          simp only [decide_eq_true_eq] at hp
          have htrue := reopen_segs_true h g hgm
          have hi : (n - (g.left : Int)).toNat < g.data.length := by
            have := hp.2; unfold DSeg.right at this; omega
          rw [List.getD_eq_getElem?_getD, List.getElem?_eq_getElem hi]
          simp only [Option.getD_some]
          have := htrue _ _ (List.getElem?_eq_getElem hi)
          rw [this]
          show w.hist id ((g.left + (n - (g.left : Int)).toNat : Nat) : Int) = w.hist id n
          have h1 := hp.1
          congr 1
          omega
  · unfold cacheOf dataOf
    dsimp only
    cases hr : (reopen fs).rdb with
    | none => trivial
    | some p =>
      simp only [Option.map_some]
      refine ⟨?_, ?_⟩ <;> first | rfl | trivial | (intros; first | rfl | trivial)

theorem reopen_cacheOK (w : World) (src : Source) (fs : FS) (id : Psync.Id)
    (h : FsTrue (fun k => w.hist id (k : Int)) fs) :
    CacheOK w src (cacheOf id (reopen fs)) (dataOf id (reopen fs)) := by
  have hh := reopen_holds w fs id h
  constructor
  · intro e
    have : id = src.id1 := e
    subst this; exact hh
  · intro e
    have : id = src.id2 := e
    subst this; exact Or.inl hh

end GunYu.StoreFs
