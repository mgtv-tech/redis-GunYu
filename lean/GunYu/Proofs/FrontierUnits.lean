/-
  The numbering of replay units the parser produces
  (Model/Bisync.lean `parse` = RedisOutput.parseAofReplayUnits: nextUnitSeq = bisyncSeq + 1, every
  emitted unit gets the next number and ends at the end offset of its last command). End offsets
  grow strictly with the unit number: the hypothesis `hm` / `hs` of the transition-system theorems
  is a property of the unit builder, not an assumption. Core only.
-/
import GunYu.Model.Bisync
import GunYu.Model.FrontierSys

namespace GunYu.Frontier
open GunYu GunYu.Bisync GunYu.BisyncUnit

/-- what one iteration does to the numbering: an emitted unit carries the current number and ends where
    the command ends, the number advances by one; nothing emitted: the number stays -/
def StepOk (st : PState) (endOff : Nat) (r : PState × StepOut) : Prop :=
  match r.2 with
  | .emit e => e.seq = st.seq ∧ e.endOff = endOff ∧ r.1.seq = st.seq + 1
  | .none => r.1.seq = st.seq
  | .err _ => True

theorem ite_ind {α : Sort _} {P : α → Prop} {c : Prop} [Decidable c] {a b : α} (ha : P a) (hb : P b) :
    P (if c then a else b) := by
  split <;> assumption

theorem stepData_ok (cfg : PCfg) (st : PState) (name : Bytes) (argv : List Bytes) (endOff : Nat) :
    StepOk st endOff (stepData cfg st name argv endOff) := by
  unfold stepData
  cases cfg.filter.filterCmdKey name argv with
  | none => exact rfl
  | some newArgv =>
    refine ite_ind rfl (ite_ind rfl (ite_ind rfl ?_))
    cases buildUnit cfg.mode cfg.resolver [⟨name, newArgv⟩] with
    | error e => trivial
    | ok u => exact ⟨rfl, rfl, rfl⟩

/-- a `.ret` of the prologue is an iteration's result -/
def PreOk (st : PState) (endOff : Nat) : Pre → Prop
  | .ret r => StepOk st endOff r
  | .go _ _ => True

theorem preFilter_ok (cfg : PCfg) (st : PState) (name : Bytes) (argv : List Bytes) (endOff : Nat) :
    PreOk st endOff (preFilter cfg st name argv endOff) := by
  unfold preFilter
  refine ite_ind (ite_ind ?_ (ite_ind rfl (ite_ind rfl (ite_ind rfl trivial)))) trivial
  cases argv with
  | nil => trivial
  | cons a t =>
    cases t with
    | cons _ _ => trivial
    | nil =>
      dsimp only
      cases Filter.atoi? a with
      | none => trivial
      | some n => exact ite_ind rfl trivial

theorem step_ok (cfg : PCfg) (st : PState) (name : Bytes) (argv : List Bytes) (endOff : Nat) :
    StepOk st endOff (Bisync.step cfg st name argv endOff) := by
  unfold Bisync.step
  refine ite_ind (ite_ind trivial rfl) (ite_ind (ite_ind trivial (ite_ind rfl (ite_ind rfl ?_))) ?_)
  · cases buildUnit cfg.mode cfg.resolver st.txn with
    | error e => trivial
    | ok u => exact ⟨rfl, rfl, rfl⟩
  · have hpre := preFilter_ok cfg st name argv endOff
    cases hp : preFilter cfg st name argv endOff with
    | ret r => rw [hp] at hpre; exact hpre
    | go bypass sel => exact ite_ind rfl (ite_ind rfl (stepData_ok cfg { st with bypass := bypass } name argv endOff))

/-- end offsets of the decoded commands grow strictly, the first one beyond `lo` -/
def Rising : Nat → List Item → Prop
  | _, [] => True
  | lo, it :: rest => lo < it.endOff ∧ Rising it.endOff rest

/-- units numbered n, n+1, … with strictly growing end offsets, the first one beyond `lo` -/
def Numbered : Nat → Nat → List Emit → Prop
  | _, _, [] => True
  | n, lo, e :: es => e.seq = n ∧ lo < e.endOff ∧ Numbered (n + 1) e.endOff es

theorem Rising.weaken {lo lo' : Nat} (h : lo ≤ lo') : ∀ {l : List Item}, Rising lo' l → Rising lo l
  | [], _ => trivial
  | _ :: _, hr => ⟨Nat.lt_of_le_of_lt h hr.1, hr.2⟩

theorem parse_numbered (cfg : PCfg) :
    ∀ (its : List Item) (st : PState) (acc : List Emit) (lo : Nat), Rising lo its →
      ∃ new, (Bisync.parse cfg st its acc).1 = acc.reverse ++ new ∧ Numbered st.seq lo new := by
  intro its
  induction its with
  | nil => intro st acc lo _; exact ⟨[], by simp [Bisync.parse], trivial⟩
  | cons it rest ih =>
    intro st acc lo hr
    have hok := step_ok cfg st (lower it.cmd.name) it.cmd.args it.endOff
    unfold Bisync.parse
    cases hs : Bisync.step cfg st (lower it.cmd.name) it.cmd.args it.endOff with
    | mk st' out =>
      rw [hs] at hok
      cases out with
      | err e => exact ⟨[], by simp, trivial⟩
      | none =>
        simp only
        have hseq : st'.seq = st.seq := hok
        obtain ⟨new, h1, h2⟩ := ih st' acc lo (hr.2.weaken (Nat.le_of_lt hr.1))
        rw [hseq] at h2
        exact ⟨new, h1, h2⟩
      | emit e =>
        simp only
        obtain ⟨he1, he2, he3⟩ : e.seq = st.seq ∧ e.endOff = it.endOff ∧ st'.seq = st.seq + 1 := hok
        obtain ⟨new, h1, h2⟩ := ih st' (e :: acc) it.endOff hr.2
        refine ⟨e :: new, ?_, he1, by rw [he2]; exact hr.1, ?_⟩
        · rw [h1]; simp
        · rw [he3] at h2; rw [he2]; exact h2

theorem respLen_pos (c : Cmd) : 0 < respLen c := by unfold respLen; omega

theorem items_rising : ∀ (cmds : List Cmd) (off : Nat), Rising off (items off cmds)
  | [], _ => trivial
  | c :: cs, off => ⟨by have := respLen_pos c; show off < off + respLen c; omega, items_rising cs (off + respLen c)⟩

/-- the units the parser emits from offset `off` with the next number `n` -/
def parsedUnits (cfg : PCfg) (off n : Nat) (cmds : List Cmd) : List Emit :=
  (Bisync.parse cfg { prevOff := off, seq := n } (items off cmds) []).1

theorem parsedUnits_numbered (cfg : PCfg) (off n : Nat) (cmds : List Cmd) :
    Numbered n off (parsedUnits cfg off n cmds) := by
  obtain ⟨new, h1, h2⟩ := parse_numbered cfg (items off cmds) { prevOff := off, seq := n } [] off (items_rising cmds off)
  unfold parsedUnits
  rw [h1]
  simpa using h2

/-- unit number ↦ end offset: `off` at number `k` (where the numbering starts: the root checkpoint for
    k = 0), the end offsets of the units k+1, k+2, …; extended strictly increasing to all integers -/
def unitsE (off : Int) (k : Int) : List Emit → Int → Int
  | [], i => off + (i - k)
  | u :: us, i => if i ≤ k then off + (i - k) else unitsE (u.endOff : Int) (k + 1) us i

theorem unitsE_base (off k : Int) (us : List Emit) : unitsE off k us k = off := by
  cases us with
  | nil => simp [unitsE]
  | cons u us => simp [unitsE]

theorem unitsE_ge : ∀ (us : List Emit) (off k : Int) (n lo : Nat), Numbered n lo us → (lo : Int) = off →
    ∀ j, k ≤ j → off ≤ unitsE off k us j := by
  intro us
  induction us with
  | nil => intro off k n lo _ _ j hj; simp only [unitsE]; omega
  | cons u us ih =>
    intro off k n lo hn hlo j hj
    simp only [unitsE]
    split
    · omega
    · have := ih (u.endOff : Int) (k + 1) (n + 1) u.endOff hn.2.2 rfl j (by omega)
      have h2 : (lo : Int) < (u.endOff : Int) := by exact_mod_cast hn.2.1
      omega

theorem unitsE_strict : ∀ (us : List Emit) (off k : Int) (n lo : Nat), Numbered n lo us → (lo : Int) = off →
    ∀ i j, i < j → unitsE off k us i < unitsE off k us j := by
  intro us
  induction us with
  | nil => intro off k n lo _ _ i j hij; simp only [unitsE]; omega
  | cons u us ih =>
    intro off k n lo hn hlo i j hij
    simp only [unitsE]
    by_cases hi : i ≤ k
    · rw [if_pos hi]
      by_cases hj : j ≤ k
      · rw [if_pos hj]; omega
      · rw [if_neg hj]
        have := unitsE_ge us (u.endOff : Int) (k + 1) (n + 1) u.endOff hn.2.2 rfl j (by omega)
        have h2 : (lo : Int) < (u.endOff : Int) := by exact_mod_cast hn.2.1
        omega
    · rw [if_neg hi, if_neg (by omega)]
      exact ih (u.endOff : Int) (k + 1) (n + 1) u.endOff hn.2.2 rfl i j hij

theorem numbered_seq_ge : ∀ (us : List Emit) (n lo : Nat), Numbered n lo us → ∀ u ∈ us, n ≤ u.seq := by
  intro us
  induction us with
  | nil => intro n lo _ u hu; exact absurd hu (List.not_mem_nil)
  | cons v us ih =>
    intro n lo hn u hu
    rcases List.mem_cons.mp hu with rfl | hu
    · rw [hn.1]; exact Nat.le_refl _
    · have := ih (n + 1) v.endOff hn.2.2 u hu; omega

theorem unitsE_at : ∀ (us : List Emit) (off k : Int) (n lo : Nat), Numbered n lo us → (n : Int) = k + 1 →
    ∀ u ∈ us, unitsE off k us (u.seq : Int) = (u.endOff : Int) := by
  intro us
  induction us with
  | nil => intro off k n lo _ _ u hu; exact absurd hu (List.not_mem_nil)
  | cons v us ih =>
    intro off k n lo hn hk u hu
    have hge := numbered_seq_ge (v :: us) n lo hn u hu
    have hgt : ¬ ((u.seq : Int) ≤ k) := by
      have : (n : Int) ≤ (u.seq : Int) := by exact_mod_cast hge
      omega
    simp only [unitsE, if_neg hgt]
    rcases List.mem_cons.mp hu with rfl | hu
    · have : (u.seq : Int) = k + 1 := by rw [hn.1]; exact hk
      rw [this]; exact unitsE_base _ _ _
    · exact ih (v.endOff : Int) (k + 1) (n + 1) v.endOff hn.2.2 (by omega) u hu

end GunYu.Frontier
