/-
  C01/C02/C09: the loop forwards the item stream unchanged and in order. Every command
  carries the stream offset of its item (the ghost `off` of `Req.cmd`), so that the queue
  is seen to reach the wire offsets included (`Sender.run_dataO`, used by Props.C02's
  resumed-run theorem); the statements about the bare commands of Proofs/SenderData.lean
  (`Sender.step_data`) follow by dropping the offsets.
-/
import GunYu.Proofs.SenderData
import GunYu.Proofs.SenderStep

namespace GunYu.Sender

abbrev CmdO := Bytes × List Bytes × Int

def cmdOfReqO : Req → Option CmdO
  | .cmd n a off => if n = bPing then none else some (n, a, off)
  | _ => none

/-- commands (other than keep-alive pings) in a batch, in wire order -/
def dataBO (b : Batch) : List CmdO := b.filterMap cmdOfReqO
def dataOutO (out : List Batch) : List CmdO := out.flatMap dataBO

def itemCmdO (i : Item) : Option CmdO := if i.cmd = bPing then none else some (i.cmd, i.args, i.offset)
/-- commands waiting in the queue -/
def qdO (s : SState) : List CmdO := s.queue.filterMap itemCmdO

@[simp] theorem dataOutO_nil : dataOutO [] = [] := rfl
@[simp] theorem dataOutO_append (a b : List Batch) : dataOutO (a ++ b) = dataOutO a ++ dataOutO b := by
  simp [dataOutO]
@[simp] theorem dataOutO_none : dataOutO (optToList none) = [] := rfl
@[simp] theorem dataOutO_some (b : Batch) : dataOutO (optToList (some b)) = dataBO b := by
  simp [dataOutO, optToList]

theorem dataBO_append (a b : Batch) : dataBO (a ++ b) = dataBO a ++ dataBO b := by simp [dataBO]

theorem dataBO_cpPart (c : SCfg) (s : SState) (u : Bool) (off : Int) : dataBO (cpPart c s u off) = [] := by
  rcases cpPart_shape c s u off with h | ⟨-, h⟩ <;> rw [h]
  · cases (u && c.resume) <;> rfl
  · rfl

theorem dataBO_sendReqs (c : SCfg) (s : SState) (tb u : Bool) (off : Int) :
    dataBO (sendReqs c s tb u off) = qdO s := by
  rw [dataBO, filterMap_sendReqs cmdOfReqO rfl rfl, ← dataBO, dataBO_cpPart, List.append_nil]
  rfl

/-- a flush moves the queue onto the wire, unchanged and in order -/
theorem sendOnce_dataO (c : SCfg) (s : SState) (tb up : Bool) (off : Int) :
    dataOutO (optToList (sendOnce c s tb up off).2) ++ qdO (sendOnce c s tb up off).1 = qdO s ∧
    (sendOnce c s tb up off).1.txn = s.txn := by
  rcases sendOnce_cases c s tb up off with ⟨_, h⟩ | h <;> rw [h]
  · simp
  · simp [dataBO_sendReqs, qdO]

theorem tail_dataO (c : SCfg) (s : SState) (tb up : Bool) (out : List Batch) :
    dataOutO (tail c s tb up out).2 ++ qdO (tail c s tb up out).1 = dataOutO out ++ qdO s ∧
    (tail c s tb up out).1.txn = s.txn := by
  rw [tail_eq]
  split
  · obtain ⟨h, ht⟩ := sendOnce_dataO c s tb up s.lastOffset
    exact ⟨by rw [dataOutO_append, List.append_assoc]; exact congrArg _ h, ht⟩
  · exact ⟨rfl, rfl⟩

theorem preFlush_dataO (c : SCfg) (s : SState) (t : Txn) (nf : Bool) (prev : Int) :
    dataOutO (preFlush c s t nf prev).2 ++ qdO (preFlush c s t nf prev).1 = qdO s ∧
    (preFlush c s t nf prev).1.txn = s.txn := by
  unfold preFlush
  split
  · exact sendOnce_dataO ..
  · simp

theorem absorb_dataO (s : SState) (t : Txn) (it : Item) (hp : it.cmd ≠ bPing) :
    qdO (absorb s t it) = qdO s ++ (if forwards t then [(it.cmd, it.args, it.offset)] else []) ∧
    (absorb s t it).txn = s.txn := by
  unfold absorb forwards
  cases t <;> simp [enqueue, qdO, itemCmdO, hp]

/-- what one event contributes to the forwarded stream, and the status after it -/
def fwd1O (t : Txn) : Ev → List CmdO × Txn
  | .item it =>
    if it.cmd = bPing then ([], t)
    else ((if forwards (txnStatus it.cmd t).1 then [(it.cmd, it.args, it.offset)] else []), (txnStatus it.cmd t).1)
  | _ => ([], t)

theorem stepItemTxn_dataO (c : SCfg) (s : SState) (t : Txn) (nf : Bool) (it : Item) (prev : Int)
    (hp : it.cmd ≠ bPing) :
    dataOutO (stepItemTxn c s t nf it prev).2 ++ qdO (stepItemTxn c s t nf it prev).1
      = qdO s ++ (if forwards t then [(it.cmd, it.args, it.offset)] else []) ∧
    (stepItemTxn c s t nf it prev).1.txn = s.txn := by
  unfold stepItemTxn
  obtain ⟨h1, h1t⟩ := preFlush_dataO c s t nf prev
  obtain ⟨h2, h2t⟩ := absorb_dataO (preFlush c s t nf prev).1 t it hp
  obtain ⟨h3, h3t⟩ := tail_dataO c (absorb (preFlush c s t nf prev).1 t it) c.txnMode
    (c.resume && c.txnMode) (preFlush c s t nf prev).2
  exact ⟨by rw [h3, h2, ← List.append_assoc, h1], by rw [h3t, h2t, h1t]⟩

theorem stepItemPlain_dataO (c : SCfg) (s : SState) (t : Txn) (it : Item) (hp : it.cmd ≠ bPing) :
    dataOutO (stepItemPlain c s t it).2 ++ qdO (stepItemPlain c s t it).1
      = qdO s ++ (if forwards t then [(it.cmd, it.args, it.offset)] else []) ∧
    (stepItemPlain c s t it).1.txn = s.txn := by
  unfold stepItemPlain
  split
  · rename_i h; subst h; simp [forwards]
  · split
    · rename_i h; subst h
      simpa [forwards, qdO] using tail_dataO c { s with needFlush := true } c.txnMode (c.resume && c.txnMode) []
    · rename_i hb hc
      have hf : forwards t = true := by
        cases t <;> first | rfl | exact absurd rfl hb | exact absurd rfl hc
      simpa [hf, enqueue, qdO, itemCmdO, hp] using
        tail_dataO c (enqueue s it) c.txnMode (c.resume && c.txnMode) []

theorem tick_dataO (c : SCfg) (s : SState) (ev : Ev) (hev : ∀ it, ev ≠ .item it) :
    dataOutO (step c s ev).2 ++ qdO (step c s ev).1 = qdO s ++ (fwd1O s.txn ev).1 ∧
    (step c s ev).1.txn = (fwd1O s.txn ev).2 := by
  have hf : fwd1O s.txn ev = ([], s.txn) := by
    cases ev <;> first | rfl | exact absurd rfl (hev _)
  rw [hf, List.append_nil]
  rcases step_tick c s ev hev with ⟨nf, up, -, h⟩ | ⟨hq, h⟩ <;> rw [h]
  · exact tail_dataO c { s with needFlush := nf } c.txnMode up []
  · simpa [qdO, hq, itemCmdO, pingItem] using
      tail_dataO c { s with queue := [pingItem s.lastOffset], needFlush := true } false
        (c.resume && c.txnMode) []

theorem step_dataO (c : SCfg) (s : SState) (ev : Ev) :
    dataOutO (step c s ev).2 ++ qdO (step c s ev).1 = qdO s ++ (fwd1O s.txn ev).1 ∧
    (step c s ev).1.txn = (fwd1O s.txn ev).2 := by
  cases ev with
  | item it =>
    simp only [step, fwd1O]
    split
    · simp [qdO]
    · rename_i hp
      unfold stepItem
      simp only
      split
      · exact stepItemTxn_dataO c
          { s with lastOffset := it.offset, txn := (txnStatus it.cmd s.txn).1,
                   needFlush := (txnStatus it.cmd s.txn).2 }
          (txnStatus it.cmd s.txn).1 (txnStatus it.cmd s.txn).2 it s.lastOffset hp
      · exact stepItemPlain_dataO c
          { s with lastOffset := it.offset, txn := (txnStatus it.cmd s.txn).1,
                   needFlush := (txnStatus it.cmd s.txn).2 }
          (txnStatus it.cmd s.txn).1 it hp
  | _ => exact tick_dataO c s _ nofun

/-- the forwarded stream of a schedule, offsets included -/
def fwdO (t : Txn) : List Ev → List CmdO
  | [] => []
  | ev :: rest => (fwd1O t ev).1 ++ (if ev = .done then [] else fwdO (fwd1O t ev).2 rest)

theorem run_dataO (c : SCfg) (s : SState) (evs : List Ev) :
    dataOutO (run c s evs).2 ++ qdO (run c s evs).1 = qdO s ++ fwdO s.txn evs := by
  induction evs generalizing s with
  | nil => simp [run, fwdO]
  | cons ev rest ih =>
    obtain ⟨h1, ht⟩ := step_dataO c s ev
    simp only [run, fwdO]
    split
    · simp only [List.append_nil]; exact h1
    · rw [dataOutO_append, List.append_assoc, ih, ht, ← List.append_assoc, h1, List.append_assoc]

def noOff (x : CmdO) : Cmd := (x.1, x.2.1)

theorem itemCmd_eq : itemCmd = fun i => (itemCmdO i).map noOff := by
  funext i
  unfold itemCmd itemCmdO
  split <;> rfl

theorem dataB_eq (b : Batch) : dataB b = (dataBO b).map noOff := by
  have h : cmdOfReq = fun r => (cmdOfReqO r).map noOff := by
    funext r
    cases r <;> simp only [cmdOfReq, cmdOfReqO, Option.map_none]
    split <;> rfl
  rw [dataB, h, dataBO, List.map_filterMap]

theorem dataOut_eq (out : List Batch) : dataOut out = (dataOutO out).map noOff := by
  rw [dataOut, funext dataB_eq, dataOutO, List.map_flatMap]

theorem qd_eq (s : SState) : qd s = (qdO s).map noOff := by
  rw [qd, itemCmd_eq, qdO, List.map_filterMap]

theorem fwd1_eq (t : Txn) (ev : Ev) : fwd1 t ev = ((fwd1O t ev).1.map noOff, (fwd1O t ev).2) := by
  cases ev <;> simp only [fwd1, fwd1O, List.map_nil]
  split
  · rfl
  · split <;> rfl

theorem dataB_cmds (q : List Item) :
    dataB (q.map (fun i => Req.cmd i.cmd i.args i.offset)) = q.filterMap itemCmd :=
  List.filterMap_map ..

theorem dataB_cpPart (c : SCfg) (s : SState) (u : Bool) (off : Int) : dataB (cpPart c s u off) = [] := by
  rw [dataB_eq, dataBO_cpPart]
  rfl

theorem dataB_sendReqs (c : SCfg) (s : SState) (tb u : Bool) (off : Int) :
    dataB (sendReqs c s tb u off) = qd s := by
  rw [dataB_eq, dataBO_sendReqs, qd_eq]

theorem sendOnce_data (c : SCfg) (s : SState) (tb up : Bool) (off : Int) :
    dataOut (optToList (sendOnce c s tb up off).2) ++ qd (sendOnce c s tb up off).1 = qd s ∧
    (sendOnce c s tb up off).1.txn = s.txn := by
  obtain ⟨h, ht⟩ := sendOnce_dataO c s tb up off
  exact ⟨by rw [dataOut_eq, qd_eq, qd_eq, ← List.map_append, h], ht⟩

theorem step_data (c : SCfg) (s : SState) (ev : Ev) :
    dataOut (step c s ev).2 ++ qd (step c s ev).1 = qd s ++ (fwd1 s.txn ev).1 ∧
    (step c s ev).1.txn = (fwd1 s.txn ev).2 := by
  obtain ⟨h, ht⟩ := step_dataO c s ev
  rw [fwd1_eq]
  exact ⟨by rw [dataOut_eq, qd_eq, qd_eq, ← List.map_append, h, List.map_append], ht⟩

end GunYu.Sender
