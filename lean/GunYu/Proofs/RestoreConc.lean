/-
  C20 — N replay workers on ONE keyspace (`Sys`, Model/RestoreWorker.lean), any interleaving.

  What a worker does depends on the keyspace only through the cells of its own keys, and every request it issues for an
  entry concerns the entry's TARGET key only. `soloKs E m W ks`: the keyspace after worker `W`, ALONE, finishes the entry in
  progress and replays the next `m` entries of its pipe; the invariant (`Inv`, Proofs/RestoreConcInv.lean) is stated with it.

  Core Lean only.
-/
import GunYu.Proofs.RestoreWorker

namespace GunYu.Restore
open GunYu

/-- two targets a worker cannot tell apart: same connection DB, clock and load-set, equal keyspace on the keys `K` -/
structure TAgree (K : Bytes → Prop) (t1 t2 : Target) : Prop where
  cur : t1.cur = t2.cur
  now : t1.now = t2.now
  bad : t1.bad = t2.bad
  ks  : ∀ d k, K k → t1.ks d k = t2.ks d k

theorem TAgree.refl (K : Bytes → Prop) (t : Target) : TAgree K t t := ⟨rfl, rfl, rfl, fun _ _ _ => rfl⟩

theorem applyReq_agree (K : Bytes → Prop) (t1 t2 : Target) (h : TAgree K t1 t2) (r : Req) :
    TAgree K (applyReq t1 r) (applyReq t2 r) := by
  have key : noSel r → TAgree K (applyReq t1 r) (applyReq t2 r) := by
    intro hn
    refine ⟨?_, ?_, ?_, ?_⟩
    · rw [applyReq_cur _ _ hn, applyReq_cur _ _ hn]; exact h.cur
    · rw [applyReq_now, applyReq_now]; exact h.now
    · rw [applyReq_bad, applyReq_bad]; exact h.bad
    · intro d k hk
      rw [applyReq_ks _ _ hn, applyReq_ks _ _ hn, h.cur, h.now, h.ks d k hk]
  cases r with
  | select db => exact ⟨rfl, h.now, h.bad, h.ks⟩
  | _ => exact key (by simp [noSel])

theorem applyReqs_agree (K : Bytes → Prop) (t1 t2 : Target) (h : TAgree K t1 t2) (rs : List Req) :
    TAgree K (applyReqs t1 rs) (applyReqs t2 rs) := by
  induction rs generalizing t1 t2 with
  | nil => exact h
  | cons r rs ih => exact ih _ _ (applyReq_agree K t1 t2 h r)

theorem viewOf_agree (K : Bytes → Prop) (t1 t2 : Target) (h : TAgree K t1 t2) (e : Entry) (hk : K e.key) :
    viewOf t1 e = viewOf t2 e := by
  simp [viewOf, Target.get, h.cur, h.bad, h.ks _ _ hk]

/-- what the system needs to know about an entry of a worker's pipe: if it is keyed, the key it is replayed to is
    one of the worker's keys `K`, and its expanded commands name that key -/
def EntryOK (w : WCfg) (K : Bytes → Prop) (e : Entry) : Prop :=
  keyless e = false → K (retag w.rht e).key ∧ ∀ c ∈ (retag w.rht e).cmds, cmdKey c = (retag w.rht e).key

theorem stepF_local (w : WCfg) (b : Bool) (pol : Policy) (cfg : Cfg) (cur : Nat) (st : RState) (K : Bytes → Prop)
    (t1 t2 : Target) (h : TAgree K t1 t2) (e : Entry) (he : EntryOK w K e) :
    stepF w b pol cfg cur st t1 e = stepF w b pol cfg cur st t2 e := by
  have hv := fun sel => stepOf_view b pol cfg st (applyReqs t1 sel) (applyReqs t2 sel) (retag w.rht e) fun hk =>
    viewOf_agree K _ _ (applyReqs_agree K t1 t2 h sel) _ (he (by rwa [retag_keyless] at hk)).1
  simp only [stepF_eq, (hv _).1, (hv _).2.1, (hv _).2.2]

theorem stepF_unsent (w : WCfg) (b : Bool) (pol : Policy) (cfg : Cfg) (cur : Nat) (st : RState) (t : Target) (e : Entry)
    (h : (stepF w b pol cfg cur st t e).sent = false) :
    (stepF w b pol cfg cur st t e).reqs = [] ∧ (stepF w b pol cfg cur st t e).out = .ok ∧
    (stepF w b pol cfg cur st t e).cur = cur ∧ (stepF w b pol cfg cur st t e).st = st ∧
    (stepF w b pol cfg cur st t e).sel = [] := by
  revert h
  let P (x : StepRes) : Prop := x.sent = false → x.reqs = [] ∧ x.out = .ok ∧ x.cur = cur ∧ x.st = st ∧ x.sel = []
  show P (stepF w b pol cfg cur st t e)
  rw [stepF_eq]
  exact ite_elim (fun _ _ => ⟨rfl, rfl, rfl, rfl, rfl⟩) fun _ => ite_elim (fun _ h => nomatch h) fun _ h => nomatch h

/-- the SELECT of an iteration moves this connection into the DB the loop remembers -/
theorem stepF_sel (w : WCfg) (b : Bool) (pol : Policy) (cfg : Cfg) (cur : Nat) (st : RState) (t t0 : Target) (e : Entry)
    (hc : t0.cur = cur) :
    applyReqs t0 (stepF w b pol cfg cur st t e).sel = { t0 with cur := (stepF w b pol cfg cur st t e).cur } := by
  subst hc
  let P (x : StepRes) : Prop := applyReqs t0 x.sel = { t0 with cur := x.cur }
  show P (stepF w b pol cfg t0.cur st t e)
  rw [stepF_eq]
  exact ite_elim (fun _ => rfl) fun _ => ite_elim (fun _ => applyReqs_select t0 _ _) fun _ => applyReqs_select t0 _ _

/-- the requests of an iteration (after the SELECT) concern one of the worker's keys, or no key -/
theorem stepF_reqs (w : WCfg) (b : Bool) (pol : Policy) (cfg : Cfg) (cur : Nat) (st : RState) (t : Target) (e : Entry)
    (K : Bytes → Prop) (he : EntryOK w K e) :
    ∀ r ∈ (stepF w b pol cfg cur st t e).reqs, noSel r ∧ ∀ k, reqKey r = some k → K k := by
  let P (x : StepRes) : Prop := ∀ r ∈ x.reqs, noSel r ∧ ∀ k, reqKey r = some k → K k
  show P (stepF w b pol cfg cur st t e)
  rw [stepF_eq]
  refine ite_elim (fun _ => List.forall_mem_nil _) fun _ => ite_elim (fun _ => List.forall_mem_nil _) fun _ r hr => ?_
  have hx := (stepOf_ok b pol cfg).reqs _ _ _ r hr
  refine ⟨hx.noSel, fun k hk => ?_⟩
  cases hkk : keyless e with
  | true => rw [(stepOf_keyless b pol cfg _ _ _ (by rw [retag_keyless]; exact hkk)).2.2 r hr] at hk; cases hk
  | false =>
    rcases onKey_reqKey (hx.onKey (he hkk).2) with h | h
    · rw [h] at hk; cases hk
    · rw [h] at hk; cases hk; exact (he hkk).1

theorem runWorkerF_local (w : WCfg) (b : Bool) (pol : Policy) (cfg : Cfg) (K : Bytes → Prop) :
    ∀ (es : List Entry) (cur : Nat) (st : RState) (t1 t2 : Target), TAgree K t1 t2 → (∀ e ∈ es, EntryOK w K e) →
      runWorkerF w b pol cfg cur st t1 es = runWorkerF w b pol cfg cur st t2 es
  | [], _, _, _, _, _, _ => rfl
  | e :: es, cur, st, t1, t2, h, hes => by
    have he := hes e (List.mem_cons_self ..)
    have hes' : ∀ x ∈ es, EntryOK w K x := fun x hx => hes x (List.mem_cons_of_mem _ hx)
    have hl := stepF_local w b pol cfg cur st K t1 t2 h e he
    simp only [runWorkerF, hl]
    generalize stepF w b pol cfg cur st t2 e = r
    cases hs : r.sent with
    | false => simp only [if_true]; exact runWorkerF_local w b pol cfg K es r.cur r.st t1 t2 h hes'
    | true =>
      simp only [Bool.true_eq_false, if_false]
      have ih := runWorkerF_local w b pol cfg K es r.cur r.st _ _ (applyReqs_agree K t1 t2 h (r.sel ++ r.reqs)) hes'
      cases r.out <;> simp [ih]

theorem workerTarget_agree (K : Bytes → Prop) (ls : List (List Req × Outcome)) :
    ∀ (t1 t2 : Target), TAgree K t1 t2 → TAgree K (workerTarget t1 ls) (workerTarget t2 ls) := by
  induction ls with
  | nil => intro t1 t2 h; exact h
  | cons l ls ih => intro t1 t2 h; exact ih _ _ (applyReqs_agree K t1 t2 h l.1)

/-- the keyspace after worker `W`, ALONE, finishes the entry in progress and then replays the next `m` entries of its pipe -/
def soloKs (E : Env) (m : Nat) (W : WSt) (ks : KS) : KS :=
  if W.out = .ok then
    (workerTarget (applyReqs (E.tgt W.cur ks) W.pend)
      (runWorkerF E.w E.bisync E.pol E.cfg W.cur W.st (applyReqs (E.tgt W.cur ks) W.pend) (W.queue.take m))).ks
  else (applyReqs (E.tgt W.cur ks) W.pend).ks

/-- what is known of a worker at any time: its pending requests and the keyed entries of its pipe concern its keys `K` only -/
structure WOK (E : Env) (K : Bytes → Prop) (W : WSt) : Prop where
  pend  : ∀ r ∈ W.pend, noSel r ∧ ∀ k, reqKey r = some k → K k
  queue : ∀ e ∈ W.queue, EntryOK E.w K e
  halt  : W.halted = true → W.pend = []

def AgreeOn (K : Bytes → Prop) (a b : KS) : Prop := ∀ d k, K k → a d k = b d k

theorem soloKs_local (E : Env) (K : Bytes → Prop) (m : Nat) (W : WSt) (hw : WOK E K W) (ks1 ks2 : KS)
    (h : AgreeOn K ks1 ks2) : AgreeOn K (soloKs E m W ks1) (soloKs E m W ks2) := by
  have h0 : TAgree K (E.tgt W.cur ks1) (E.tgt W.cur ks2) := ⟨rfl, rfl, rfl, h⟩
  have h1 := applyReqs_agree K _ _ h0 W.pend
  unfold soloKs
  split
  · have hq : ∀ e ∈ W.queue.take m, EntryOK E.w K e := fun e he => hw.queue e (List.mem_of_mem_take he)
    rw [runWorkerF_local E.w E.bisync E.pol E.cfg K _ W.cur W.st _ _ h1 hq]
    exact (workerTarget_agree K _ _ _ h1).ks
  · exact h1.ks

end GunYu.Restore
