/-
  C07 across restarts, target side: the largest stored offset (what
  `GetCheckpoint` returns) never decreases when the target executes any prefix of
  a request log whose checkpoint writes are all at or above it.
-/
import GunYu.Proofs.TargetExec

namespace GunYu.Target
open GunYu GunYu.Sender

def maxStep (m : Int) (p : Int × CpRec) : Int :=
  match p.2.offset with
  | some o => if o > m then o else m
  | none => m

theorem maxOffset_eq (cps : List (Int × CpRec)) : maxOffset cps = cps.foldl maxStep (-1) := rfl

theorem foldl_maxStep_ge (cps : List (Int × CpRec)) (init x : Int) :
    x ≤ cps.foldl maxStep init ↔ x ≤ init ∨ ∃ p ∈ cps, ∃ o, p.2.offset = some o ∧ x ≤ o := by
  induction cps generalizing init with
  | nil => simp
  | cons p rest ih =>
    simp only [List.foldl_cons, ih, List.mem_cons, exists_eq_or_imp]
    unfold maxStep
    cases hp : p.2.offset with
    | none => simp
    | some o =>
      simp only [Option.some.injEq, exists_eq_left']
      constructor
      · rintro (h | h)
        · split at h
          · exact Or.inr (Or.inl h)
          · exact Or.inl h
        · exact Or.inr (Or.inr h)
      · rintro (h | h | h)
        · left; split <;> omega
        · left; split <;> omega
        · exact Or.inr h

theorem le_maxOffset_iff (cps : List (Int × CpRec)) (x : Int) :
    x ≤ maxOffset cps ↔ x ≤ -1 ∨ ∃ p ∈ cps, ∃ o, p.2.offset = some o ∧ x ≤ o := by
  rw [maxOffset_eq]; exact foldl_maxStep_ge cps (-1) x

def KeysNodup (cps : List (Int × CpRec)) : Prop := (cps.map (·.1)).Nodup

theorem keysNodup_setCp (cps : List (Int × CpRec)) (db : Int) (r : CpRec) (h : KeysNodup cps) :
    KeysNodup (setCp cps db r) := by
  unfold KeysNodup setCp at *
  simp only [List.map_cons, List.nodup_cons]
  refine ⟨?_, ?_⟩
  · intro hm
    obtain ⟨p, hp, hpe⟩ := List.mem_map.mp hm
    have := (List.mem_filter.mp hp).2
    simp at this
    exact this hpe
  · exact List.Nodup.sublist (List.Sublist.map _ List.filter_sublist) h

theorem lookup_of_mem_nodup (cps : List (Int × CpRec)) (h : KeysNodup cps) (p : Int × CpRec)
    (hp : p ∈ cps) : cps.lookup p.1 = some p.2 := by
  induction cps with
  | nil => cases hp
  | cons q rest ih =>
    unfold KeysNodup at h
    simp only [List.map_cons, List.nodup_cons] at h
    rcases List.mem_cons.mp hp with rfl | hr
    · simp [List.lookup]
    · have hne : p.1 ≠ q.1 := by
        intro e
        exact h.1 (e ▸ List.mem_map.mpr ⟨p, hr, rfl⟩)
      simp only [List.lookup]
      have : (p.1 == q.1) = false := by simpa using hne
      rw [this]
      exact ih h.2 hr

/-- a write into the current database's record that does not lower its offset
    below `x` keeps `x ≤ maxOffset` -/
theorem setCp_keeps (cps : List (Int × CpRec)) (hn : KeysNodup cps) (db : Int) (r : CpRec) (x : Int)
    (hx : x ≤ maxOffset cps)
    (hr : ∀ o, (getCp cps db).offset = some o → x ≤ o → ∃ o', r.offset = some o' ∧ x ≤ o') :
    x ≤ maxOffset (setCp cps db r) := by
  rw [le_maxOffset_iff] at hx ⊢
  rcases hx with h | ⟨p, hp, o, hpo, hxo⟩
  · exact Or.inl h
  · right
    by_cases hdb : p.1 = db
    · -- the witness is the record being replaced
      have hl := lookup_of_mem_nodup cps hn p hp
      have hg : (getCp cps db).offset = some o := by
        unfold getCp; rw [← hdb, hl]; simpa using hpo
      obtain ⟨o', ho', hxo'⟩ := hr o hg hxo
      exact ⟨(db, r), by simp [setCp], o', ho', hxo'⟩
    · refine ⟨p, ?_, o, hpo, hxo⟩
      unfold setCp
      exact List.mem_cons_of_mem _ (List.mem_filter.mpr ⟨hp, by simpa using hdb⟩)

/-- checkpoint offsets written by a request list -/
def cpReqs (l : List Req) : List Int := l.filterMap cpOfReq

theorem mem_cpReqs {l : List Req} {o : Int} : o ∈ cpReqs l ↔ Req.cpOffset o ∈ l := by
  unfold cpReqs
  rw [List.mem_filterMap]
  constructor
  · rintro ⟨r, hr, h⟩
    cases r with
    | cpOffset o' => cases h; exact hr
    | _ => cases h
  · exact fun h => ⟨_, h, rfl⟩

theorem execReq_keeps (t : TState) (r : Req) (x : Int) (hn : KeysNodup t.cps)
    (hx : x ≤ maxOffset t.cps) (hr : ∀ o, r = .cpOffset o → x ≤ o) :
    KeysNodup (execReq t r).cps ∧ x ≤ maxOffset (execReq t r).cps := by
  cases r with
  | cmd name args off =>
    simp only [execReq]
    split
    · split
      · split <;> exact ⟨hn, hx⟩
      · exact ⟨hn, hx⟩
    · split <;> exact ⟨hn, hx⟩
  | cpMeta =>
    exact ⟨keysNodup_setCp _ _ _ hn, setCp_keeps _ hn _ _ x hx (fun o ho hxo => ⟨o, ho, hxo⟩)⟩
  | cpOffset o =>
    exact ⟨keysNodup_setCp _ _ _ hn, setCp_keeps _ hn _ _ x hx (fun _ _ _ => ⟨o, rfl, hr o rfl⟩)⟩
  | _ => exact ⟨hn, hx⟩

theorem foldl_execReq_keeps (q : List Req) (t : TState) (x : Int) (hn : KeysNodup t.cps)
    (hx : x ≤ maxOffset t.cps) (hr : ∀ o ∈ cpReqs q, x ≤ o) :
    KeysNodup (q.foldl execReq t).cps ∧ x ≤ maxOffset (q.foldl execReq t).cps := by
  induction q generalizing t with
  | nil => exact ⟨hn, hx⟩
  | cons r rest ih =>
    have h1 := execReq_keeps t r x hn hx
      (fun o ho => hr o (mem_cpReqs.mpr (ho ▸ List.mem_cons_self ..)))
    exact ih _ h1.1 h1.2 (fun o ho => hr o (mem_cpReqs.mpr (List.mem_cons_of_mem _ (mem_cpReqs.mp ho))))

/-- invariant of the connection state machine: what is queued in an open MULTI
    also only writes offsets `≥ x` -/
def QueuedOk (t : TState) (x : Int) : Prop :=
  ∀ q, t.queued = some q → ∀ o ∈ cpReqs q, x ≤ o

theorem applyReq_keeps (t : TState) (r : Req) (x : Int) (hn : KeysNodup t.cps)
    (hx : x ≤ maxOffset t.cps) (hq : QueuedOk t x) (hr : ∀ o, r = .cpOffset o → x ≤ o) :
    KeysNodup (applyReq t r).cps ∧ x ≤ maxOffset (applyReq t r).cps ∧ QueuedOk (applyReq t r) x := by
  unfold applyReq
  cases hqq : t.queued with
  | some q =>
    have hqok := hq q hqq
    cases r with
    | exec =>
      have h := foldl_execReq_keeps q { t with queued := none } x hn hx hqok
      refine ⟨h.1, h.2, fun q' hq' => ?_⟩
      rw [foldl_execReq_queued] at hq'
      cases hq'
    | _ =>
      refine ⟨hn, hx, fun q' hq' o ho => ?_⟩
      cases hq'
      rcases List.mem_append.mp (mem_cpReqs.mp ho) with h | h
      · exact hqok o (mem_cpReqs.mpr h)
      · exact hr o (List.mem_singleton.mp h).symm
  | none =>
    cases r with
    | multi => exact ⟨hn, hx, fun q' hq' o ho => by cases hq'; cases ho⟩
    | _ =>
      have h := execReq_keeps t _ x hn hx hr
      refine ⟨h.1, h.2, fun q' hq' => ?_⟩
      rw [execReq_queued, hqq] at hq'
      cases hq'

theorem applyLog_keeps (log : List Req) (t : TState) (x : Int) (hn : KeysNodup t.cps)
    (hx : x ≤ maxOffset t.cps) (hq : QueuedOk t x) (hr : ∀ o ∈ cpReqs log, x ≤ o) :
    KeysNodup (applyLog t log).cps ∧ x ≤ maxOffset (applyLog t log).cps := by
  induction log generalizing t with
  | nil => exact ⟨hn, hx⟩
  | cons r rest ih =>
    have h1 := applyReq_keeps t r x hn hx hq
      (fun o ho => hr o (mem_cpReqs.mpr (ho ▸ List.mem_cons_self ..)))
    exact ih _ h1.1 h1.2.1 h1.2.2
      (fun o ho => hr o (mem_cpReqs.mpr (List.mem_cons_of_mem _ (mem_cpReqs.mp ho))))

theorem cpReqs_take_sub (l : List Req) (k : Nat) : ∀ o ∈ cpReqs (l.take k), o ∈ cpReqs l :=
  fun _ ho => mem_cpReqs.mpr (List.mem_of_mem_take (mem_cpReqs.mp ho))

theorem cpReqs_flatten (out : List Batch) : cpReqs out.flatten = cpOffsets out := by
  induction out with
  | nil => rfl
  | cons b rest ih =>
    simp only [List.flatten_cons, cpOffsets, List.flatMap_cons, cpOffsetsB] at ih ⊢
    unfold cpReqs at ih ⊢
    rw [List.filterMap_append, ih]

end GunYu.Target
