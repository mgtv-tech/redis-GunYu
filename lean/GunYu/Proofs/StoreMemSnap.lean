/-
  C05, memory backend: snapshot readers. For arbitrary operation lists, a copy loop
  replaying the OFFERED snapshot has written to its pipe exactly the first `pos` bytes
  the snapshot holds, in order (`SnapInv`, on top of `MemInv`). That the snapshot holds
  the bytes received for it is Proofs/StoreMemRecv.lean.
-/
import GunYu.Proofs.StoreMemInv

namespace GunYu.Store
open GunYu

def mflat (l : List MSeg) : Bytes := l.flatMap (·.data)

/-- the `next` pointers of a snapshot's segments follow the list; the last one has none -/
def Linked : List MSeg → Prop
  | [] => True
  | [a] => a.next = none
  | a :: b :: rest => a.next = some b.sid ∧ Linked (b :: rest)

def rdbW (rd : MRdb) : Option Nat := if rd.writing then some rd.cur else none

theorem Linked.tail {a : MSeg} {l : List MSeg} (h : Linked (a :: l)) : Linked l := by
  cases l with
  | nil => trivial
  | cons b t => exact h.2

theorem linked_map (f : MSeg → MSeg) (hs : ∀ g, (f g).sid = g.sid) (hn : ∀ g, (f g).next = g.next) :
    ∀ l, Linked l → Linked (l.map f) := by
  intro l
  induction l with
  | nil => intro _; trivial
  | cons a t ih =>
    intro h
    cases t with
    | nil => simp only [List.map_cons, List.map_nil, Linked]; rw [hn]; exact h
    | cons b t' =>
      simp only [List.map_cons, Linked]
      exact ⟨by rw [hn, hs]; exact h.1, ih h.2⟩

theorem linked_snoc : ∀ (init : List MSeg) (last last' x : MSeg), Linked (init ++ [last]) → last'.sid = last.sid →
    last'.next = some x.sid → x.next = none → Linked (init ++ [last'] ++ [x]) := by
  intro init
  induction init with
  | nil => intro last last' x _ _ hn hx; exact ⟨hn, hx⟩
  | cons a t ih =>
    intro last last' x h hs hn hx
    cases t with
    | nil =>
      simp only [List.cons_append, List.nil_append, Linked] at h ⊢
      exact ⟨by rw [hs]; exact h.1, hn, hx⟩
    | cons b t' =>
      simp only [List.cons_append, Linked] at h ⊢
      exact ⟨h.1, ih last last' x h.2 hs hn hx⟩

theorem linked_adjacent : ∀ (pre : List MSeg) (a b : MSeg) (post : List MSeg), Linked (pre ++ a :: b :: post) →
    a.next = some b.sid := by
  intro pre
  induction pre with
  | nil => intro a b post h; exact h.1
  | cons x t ih => intro a b post h; exact ih a b post h.tail

theorem linked_last : ∀ (init : List MSeg) (last : MSeg), Linked (init ++ [last]) → last.next = none := by
  intro init
  induction init with
  | nil => intro last h; exact h
  | cons x t ih => intro last h; exact ih last h.tail

theorem mflat_append (a b : List MSeg) : mflat (a ++ b) = mflat a ++ mflat b := by
  unfold mflat; simp

theorem mflat_map (f : MSeg → MSeg) (hd : ∀ g, (f g).data = g.data) (l : List MSeg) : mflat (l.map f) = mflat l := by
  unfold mflat
  induction l with
  | nil => rfl
  | cons a t ih => simp only [List.map_cons, List.flatMap_cons, hd, ih]

structure SnapInv (s : Mem) : Prop where
  streamNext : ∀ g ∈ s.segs, g.next = none
  nextBound : ∀ g, (g ∈ s.heap ∨ ∃ rd, s.rdb = some rd ∧ g ∈ rd.segs) → ∀ n, g.next = some n → n < s.nextSid
  heapNext : ∀ g ∈ s.heap, ∀ rd, s.rdb = some rd → rd.replayable = true → ∀ b ∈ rd.segs, g.next ≠ some b.sid
  disj : ∀ rd, s.rdb = some rd → ∀ a ∈ s.segs, ∀ b ∈ rd.segs, a.sid ≠ b.sid
  linked : ∀ rd, s.rdb = some rd → Linked rd.segs
  sbound : ∀ r ∈ s.readers, r.isAof = false → r.seg < s.nextSid ∧ r.start = 0
  snap : ∀ rd, s.rdb = some rd → rd.replayable = true →
    StreamOk false rd.segs (rdbW rd) s.readers s.nextSid 0 (mflat rd.segs)

theorem SnapInv.init (l m : Nat) : SnapInv (Mem.init l m) :=
  ⟨(by intro g hg; cases hg), (by intro g hg; rcases hg with h | ⟨rd, h, _⟩ <;> cases h),
   (by intro g hg; cases hg), (by intro rd h; cases h), (by intro rd h; cases h), (by intro r hr; cases hr),
   (by intro rd h; cases h)⟩

/-- The stream side changes — indexed segments keep identity and `next`, a segment may move
    from the index to the heap — while snapshot, readers and `nextSid` stay. -/
theorem SnapInv.stream {s s' : Mem} (hs : SnapInv s)
    (hsegs : ∀ g' ∈ s'.segs, ∃ g ∈ s.segs, g'.next = g.next ∧ g'.sid = g.sid)
    (hheap : ∀ g' ∈ s'.heap, ∃ g, (g ∈ s.heap ∨ g ∈ s.segs) ∧ g'.next = g.next)
    (hrdb : s'.rdb = s.rdb) (hrs : s'.readers = s.readers) (hn : s'.nextSid = s.nextSid) : SnapInv s' := by
  -- a segment that comes from the index has no successor
  have heap' : ∀ g' ∈ s'.heap, g'.next = none ∨ ∃ g ∈ s.heap, g'.next = g.next := by
    intro g' hg'
    obtain ⟨g, hg | hg, e⟩ := hheap g' hg'
    · exact Or.inr ⟨g, hg, e⟩
    · exact Or.inl (e.trans (hs.streamNext g hg))
  refine ⟨?_, ?_, ?_, ?_, ?_, ?_, ?_⟩
  · intro g' hg'
    obtain ⟨g, hg, e, _⟩ := hsegs g' hg'
    exact e.trans (hs.streamNext g hg)
  · intro g' hg' n hnx
    rw [hn]
    rcases hg' with hg' | hg'
    · rcases heap' g' hg' with e | ⟨g, hg, e⟩
      · rw [e] at hnx; cases hnx
      · exact hs.nextBound g (Or.inl hg) n (e ▸ hnx)
    · rw [hrdb] at hg'; exact hs.nextBound g' (Or.inr hg') n hnx
  · intro g' hg' rd hr hrep b hb
    rw [hrdb] at hr
    rcases heap' g' hg' with e | ⟨g, hg, e⟩
    · rw [e]; exact fun h => by cases h
    · rw [e]; exact hs.heapNext g hg rd hr hrep b hb
  · intro rd hr a ha b hb
    rw [hrdb] at hr
    obtain ⟨g, hg, _, e⟩ := hsegs a ha
    rw [e]; exact hs.disj rd hr g hg b hb
  · intro rd hr; rw [hrdb] at hr; exact hs.linked rd hr
  · intro r hr ha; rw [hrs] at hr; rw [hn]; exact hs.sbound r hr ha
  · intro rd hr hrep; rw [hrdb] at hr; rw [hrs, hn]; exact hs.snap rd hr hrep

/-- a new segment with a fresh identity and no successor is indexed -/
theorem SnapInv.pushSeg {s s' : Mem} (hs : SnapInv s) (hb : ∀ rd, s.rdb = some rd → ∀ b ∈ rd.segs, b.sid < s.nextSid)
    (x : MSeg) (hx : x.sid = s.nextSid) (hnx : x.next = none) (hsegs : s'.segs = s.segs ++ [x]) (hheap : s'.heap = s.heap)
    (hrdb : s'.rdb = s.rdb) (hrs : s'.readers = s.readers) (hn : s'.nextSid = s.nextSid + 1) : SnapInv s' := by
  refine ⟨?_, ?_, ?_, ?_, ?_, ?_, ?_⟩
  · intro g hg
    rw [hsegs] at hg
    rcases List.mem_append.mp hg with hg | hg
    · exact hs.streamNext g hg
    · rw [List.mem_singleton] at hg; rw [hg]; exact hnx
  · intro g hg n hn'
    rw [hheap, hrdb] at hg
    have := hs.nextBound g hg n hn'
    omega
  · intro g hg rd hr
    rw [hheap] at hg; rw [hrdb] at hr
    exact hs.heapNext g hg rd hr
  · intro rd hr a ha b hb'
    rw [hrdb] at hr; rw [hsegs] at ha
    rcases List.mem_append.mp ha with ha | ha
    · exact hs.disj rd hr a ha b hb'
    · rw [List.mem_singleton] at ha
      have := hb rd hr b hb'
      rw [ha, hx]; omega
  · intro rd hr; rw [hrdb] at hr; exact hs.linked rd hr
  · intro r hr ha
    rw [hrs] at hr
    have := hs.sbound r hr ha
    exact ⟨by omega, this.2⟩
  · intro rd hr hrep
    rw [hrdb] at hr; rw [hrs, hn]
    exact (hs.snap rd hr hrep).monoSid (Nat.le_succ _)

/-- The snapshot side changes — its segments keep identity and `next`, stay linked, and still make
    up a stream if they did — while stream index, heap, readers and `nextSid` stay. -/
theorem SnapInv.snapshot {s s' : Mem} {r r' : MRdb} (hs : SnapInv s) (hr : s.rdb = some r) (hr' : s'.rdb = some r')
    (hmem : ∀ b ∈ r'.segs, ∃ b0 ∈ r.segs, b.next = b0.next ∧ b.sid = b0.sid) (hlink : Linked r'.segs)
    (hrep : r'.replayable = r.replayable)
    (hsnap : StreamOk false r.segs (rdbW r) s.readers s.nextSid 0 (mflat r.segs) →
      StreamOk false r'.segs (rdbW r') s.readers s.nextSid 0 (mflat r'.segs))
    (hsegs : s'.segs = s.segs) (hheap : s'.heap = s.heap) (hrs : s'.readers = s.readers) (hn : s'.nextSid = s.nextSid) :
    SnapInv s' := by
  refine ⟨hsegs ▸ hs.streamNext, ?_, ?_, ?_, ?_, hrs ▸ hn ▸ hs.sbound, ?_⟩
  · intro g hg n hnx
    rw [hn]
    rcases hg with hg | ⟨rd, h', hg⟩
    · exact hs.nextBound g (Or.inl (hheap ▸ hg)) n hnx
    · cases hr'.symm.trans h'
      obtain ⟨b0, hb0, e, _⟩ := hmem g hg
      exact hs.nextBound b0 (Or.inr ⟨r, hr, hb0⟩) n (e ▸ hnx)
  · intro g hg rd h' hrp b hb
    cases hr'.symm.trans h'
    obtain ⟨b0, hb0, _, e⟩ := hmem b hb
    rw [e]; exact hs.heapNext g (hheap ▸ hg) r hr (hrep ▸ hrp) b0 hb0
  · intro rd h' a ha b hb
    cases hr'.symm.trans h'
    obtain ⟨b0, hb0, _, e⟩ := hmem b hb
    rw [e]; exact hs.disj r hr a (hsegs ▸ ha) b0 hb0
  · intro rd h'
    cases hr'.symm.trans h'
    exact hlink
  · intro rd h' hrp
    cases hr'.symm.trans h'
    rw [hrs, hn]
    exact hsnap (hs.snap r hr (hrep ▸ hrp))

theorem gcOnce_snap {s s' : Mem} (h : s.gcOnce = some s') (hs : SnapInv s) : SnapInv s' := by
  rcases (gcOnce_cases h).imp gcAof_eq gcRdb_eq with ⟨first, rest, hsg, _, _, _, rfl⟩ | ⟨r, first, rest, hr, hrs, _, _, rfl⟩
  · refine hs.stream (fun g hg => ⟨g, by rw [hsg]; exact List.mem_cons_of_mem _ hg, rfl, rfl⟩) (fun g hg => ?_) rfl rfl rfl
    rcases List.mem_cons.mp hg with rfl | hg
    · exact ⟨g, Or.inr (by rw [hsg]; exact List.mem_cons_self ..), rfl⟩
    · exact ⟨g, Or.inl hg, rfl⟩
  · -- what is left of the snapshot is not replayable
    have hsub : ∀ rd', (if rest.isEmpty then none else some ({ r with segs := rest, replayable := false } : MRdb)) = some rd' →
        rd'.replayable = false ∧ rd'.segs = rest := by
      intro rd' h'
      split at h'
      · cases h'
      · cases h'; exact ⟨rfl, rfl⟩
    refine ⟨hs.streamNext, ?_, ?_, ?_, ?_, hs.sbound, ?_⟩
    · intro g hg n hn
      rcases hg with hg | ⟨rd', h', hg⟩
      · rcases List.mem_cons.mp hg with rfl | hg
        · exact hs.nextBound g (Or.inr ⟨r, hr, by rw [hrs]; simp⟩) n hn
        · exact hs.nextBound g (Or.inl hg) n hn
      · obtain ⟨_, e⟩ := hsub rd' h'
        exact hs.nextBound g (Or.inr ⟨r, hr, by rw [hrs]; rw [e] at hg; exact List.mem_cons_of_mem _ hg⟩) n hn
    · intro g _ rd' h' hrep
      rw [(hsub rd' h').1] at hrep; cases hrep
    · intro rd' h' a ha b hb
      obtain ⟨_, e⟩ := hsub rd' h'
      exact hs.disj r hr a ha b (by rw [hrs]; rw [e] at hb; exact List.mem_cons_of_mem _ hb)
    · intro rd' h'
      obtain ⟨_, e⟩ := hsub rd' h'
      have := hs.linked r hr
      rw [hrs] at this
      rw [e]; exact this.tail
    · intro rd' h' hrep
      rw [(hsub rd' h').1] at hrep; cases hrep

theorem gc_snap (s : Mem) (need : Nat) (hs : SnapInv s) : SnapInv (s.gc need) :=
  gc_keeps gcOnce_snap s need hs

theorem ensure_snap (s : Mem) (need : Nat) (hs : SnapInv s) : SnapInv (s.ensure need).1 :=
  ensure_keeps gcOnce_snap s need hs

theorem mUpdate_next {l : List MSeg} {sid : Nat} {f : MSeg → MSeg} (hs : ∀ g, (f g).sid = g.sid)
    (hn : ∀ g, (f g).next = g.next) {x : MSeg} (hx : x ∈ mUpdate l sid f) : ∃ g ∈ l, x.next = g.next ∧ x.sid = g.sid := by
  obtain ⟨g, hg, rfl⟩ := mem_mUpdate.mp hx
  refine ⟨g, hg, ?_, ?_⟩
  · split
    · exact hn g
    · rfl
  · split
    · exact hs g
    · rfl

theorem aofRotate_snap (s : Mem) (cur : Nat) (seg : MSeg) (rotate : Bool) (hi : MemInv s) (hs : SnapInv s) :
    SnapInv (aofRotate s cur seg rotate).1 := by
  unfold aofRotate
  cases rotate with
  | false => exact hs
  | true =>
    simp only [if_true]
    have h1 : SnapInv { s with segs := mUpdate s.segs cur (fun g => { g with closed := true }) } :=
      hs.stream (fun _ hg => mUpdate_next (f := fun g => ({ g with closed := true } : MSeg)) (fun _ => rfl) (fun _ => rfl) hg)
        (fun g hg => ⟨g, Or.inl hg, rfl⟩) rfl rfl rfl
    exact h1.pushSeg hi.rdb.bound _ rfl rfl rfl rfl rfl rfl rfl

theorem aofPut_snap (s2 : Mem) (cur1 : Nat) (piece : Bytes) (hs : SnapInv s2) : SnapInv (aofPut s2 cur1 piece) :=
  hs.stream (fun _ hg => mUpdate_next (f := fun g => ({ g with data := g.data ++ piece } : MSeg)) (fun _ => rfl) (fun _ => rfl) hg)
    (fun g hg => ⟨g, Or.inl hg, rfl⟩) rfl rfl rfl

theorem appendAofLoop_snap (fuel : Nat) (s : Mem) (buf : Bytes) (done : Nat) (hi : MemInv s) (hs : SnapInv s) :
    SnapInv (Mem.appendAofLoop fuel s buf done).1 :=
  (appendAofLoop_keeps (P := fun s => MemInv s ∧ SnapInv s)
    (fun s cur seg _ hw hf h => ⟨aofRotate_inv s cur seg _ h.1 hw hf, aofRotate_snap s cur seg _ h.1 h.2⟩)
    (fun s n h => ⟨ensure_inv s n h.1, ensure_snap s n h.2⟩)
    (fun s cur piece hw h => ⟨aofPut_inv s cur piece h.1 hw, aofPut_snap s cur piece h.2⟩) fuel s buf done ⟨hi, hs⟩).2

theorem finishAof_snap (s : Mem) (cur : Nat) (isCurrent : Bool) (hs : SnapInv s) : SnapInv (s.finishAof cur isCurrent) := by
  have close_next : ∀ (l : List MSeg) x, x ∈ mUpdate l cur (fun g => ({ g with closed := true } : MSeg)) →
      ∃ g ∈ l, x.next = g.next ∧ x.sid = g.sid :=
    fun _ _ hx => mUpdate_next (f := fun g => ({ g with closed := true } : MSeg)) (fun _ => rfl) (fun _ => rfl) hx
  have close_heap : ∀ x ∈ mUpdate s.heap cur (fun g => ({ g with closed := true } : MSeg)),
      ∃ g, (g ∈ s.heap ∨ g ∈ s.segs) ∧ x.next = g.next := by
    intro x hx
    obtain ⟨g0, hg0, e, _⟩ := close_next _ x hx
    exact ⟨g0, Or.inl hg0, e⟩
  obtain ⟨X, e, h⟩ := finishAof_cases s cur isCurrent
  rw [e]
  apply gc_snap
  rcases h with ⟨rfl, _⟩ | ⟨g, hf, _, rfl⟩
  · exact hs.stream (close_next _) close_heap rfl rfl rfl
  · -- the empty segment moves to the heap
    refine hs.stream (fun x hx => close_next _ x (List.mem_filter.mp hx).1) (fun x hx => ?_) rfl rfl rfl
    rcases List.mem_cons.mp hx with rfl | hx
    · obtain ⟨g0, hg0, e, _⟩ := close_next _ x (mFind_some hf).1
      exact ⟨g0, Or.inr hg0, e⟩
    · exact close_heap x hx

theorem mCloseAll_mem {l : List MSeg} {x : MSeg} (hx : x ∈ mCloseAll l) : ∃ g ∈ l, x.next = g.next ∧ x.sid = g.sid := by
  unfold mCloseAll at hx
  obtain ⟨g, hg, rfl⟩ := List.mem_map.mp hx
  exact ⟨g, hg, rfl, rfl⟩

theorem reset_snap (s : Mem) (hs : SnapInv s) : SnapInv s.reset := by
  unfold Mem.reset
  refine ⟨?_, ?_, ?_, ?_, ?_, hs.sbound, ?_⟩
  · intro g hg; cases hg
  · intro g hg n hn
    rcases hg with hg | ⟨rd, h, _⟩
    · rcases List.mem_append.mp hg with hg | hg
      · obtain ⟨g0, hg0, hn', _⟩ := mCloseAll_mem hg
        rw [hn'] at hn
        rcases List.mem_append.mp hg0 with hg0 | hg0
        · rw [hs.streamNext g0 hg0] at hn; cases hn
        · cases hr : s.rdb with
          | none => rw [hr] at hg0; cases hg0
          | some rd => rw [hr] at hg0; exact hs.nextBound g0 (Or.inr ⟨rd, hr, hg0⟩) n hn
      · exact hs.nextBound g (Or.inl hg) n hn
    · cases h
  · intro g _ rd h; cases h
  · intro rd h; cases h
  · intro rd h; cases h
  · intro rd h; cases h

theorem rdbRotate_snap (s : Mem) (r : MRdb) (seg : MSeg) (rotate : Bool) (hi : MemInv s) (hs : SnapInv s)
    (hr : s.rdb = some r) (hw : r.writing = true) (hf : mFind r.segs r.cur = some seg) :
    SnapInv (rdbRotate s r seg rotate).1 := by
  unfold rdbRotate
  cases rotate with
  | false => exact hs
  | true =>
    simp only [if_true]
    have hR := hi.rdb
    rw [hr] at hR
    obtain ⟨init, last, hinit, hls, _, hupd⟩ :=
      hR.writerSeg rfl hw (fun g => ({ g with closed := true, next := some s.nextSid } : MSeg))
    have hlast : r.segs.getLast? = some last := by rw [hinit]; simp
    have hseg : seg = last := by
      obtain ⟨hm, hsid⟩ := mFind_some hf
      exact sid_unique (hR.nodup r rfl) hm (List.mem_of_getLast? hlast) (by rw [hsid, hls])
    subst hseg
    have hsegs : (rdbRotated r seg s.nextSid).segs =
        init ++ [({ seg with closed := true, next := some s.nextSid } : MSeg)] ++
          [{ sid := s.nextSid, left := seg.right, data := [], closed := false, next := none }] := by
      unfold rdbRotated; dsimp only; rw [hupd]
    have hmem : ∀ b ∈ (rdbRotated r seg s.nextSid).segs, (∃ b0 ∈ r.segs, b.sid = b0.sid ∧ (b.next = b0.next ∨ b.next = some s.nextSid)) ∨
        (b.sid = s.nextSid ∧ b.next = none) := by
      intro b hb
      rw [hsegs] at hb
      rcases List.mem_append.mp hb with hb | hb
      · rcases List.mem_append.mp hb with hb | hb
        · exact Or.inl ⟨b, by rw [hinit]; exact List.mem_append_left _ hb, rfl, Or.inl rfl⟩
        · rw [List.mem_singleton] at hb; subst hb
          exact Or.inl ⟨seg, by rw [hinit]; simp, rfl, Or.inr rfl⟩
      · rw [List.mem_singleton] at hb; subst hb
        exact Or.inr ⟨rfl, rfl⟩
    refine ⟨hs.streamNext, ?_, ?_, ?_, ?_, ?_, ?_⟩
    · intro g hg n hn
      show n < s.nextSid + 1
      rcases hg with hg | ⟨rd, h', hg⟩
      · have := hs.nextBound g (Or.inl hg) n hn; omega
      · cases h'
        rcases hmem g hg with ⟨b0, hb0, _, hn' | hn'⟩ | ⟨_, hn'⟩
        · have := hs.nextBound b0 (Or.inr ⟨r, hr, hb0⟩) n (by rw [← hn']; exact hn); omega
        · rw [hn'] at hn; cases hn; omega
        · rw [hn'] at hn; cases hn
    · intro g hg rd h' hrep b hb
      cases h'
      have hrep' : r.replayable = true := hrep
      rcases hmem b hb with ⟨b0, hb0, hsid, _⟩ | ⟨hsid, _⟩
      · rw [hsid]; exact hs.heapNext g hg r hr hrep' b0 hb0
      · rw [hsid]
        intro e
        have := hs.nextBound g (Or.inl hg) s.nextSid e
        omega
    · intro rd h' a ha b hb
      cases h'
      rcases hmem b hb with ⟨b0, hb0, hsid, _⟩ | ⟨hsid, _⟩
      · rw [hsid]; exact hs.disj r hr a ha b0 hb0
      · rw [hsid]
        have := hi.stream.bound a ha
        omega
    · intro rd h'
      cases h'
      rw [hsegs]
      have := hs.linked r hr
      rw [hinit] at this
      exact linked_snoc init seg _ _ this rfl rfl rfl
    · intro r' hr' ha
      exact ⟨by have := (hs.sbound r' hr' ha).1; show r'.seg < s.nextSid + 1; omega, (hs.sbound r' hr' ha).2⟩
    · intro rd h' hrep
      cases h'
      have hrep' : r.replayable = true := hrep
      have hsn := hs.snap r hr hrep'
      have hwr : rdbW r = some r.cur := by unfold rdbW; rw [hw]; rfl
      rw [hwr] at hsn
      have hflat : mflat (rdbRotated r seg s.nextSid).segs = mflat r.segs := by
        rw [hsegs, hinit]
        simp [mflat]
      have hw' : rdbW (rdbRotated r seg s.nextSid) = some s.nextSid := by
        unfold rdbW rdbRotated; dsimp only; rw [hw]; rfl
      rw [hflat, hw']
      have h1 := hsn.mapSegs (fun g => if g.sid == r.cur then ({ g with closed := true, next := some s.nextSid } : MSeg) else g)
        (by intro g; split <;> rfl) (by intro g; split <;> rfl) (by intro g; split <;> rfl)
      have h2 := h1.pushSeg { sid := s.nextSid, left := seg.right, data := [], closed := false, next := none } rfl rfl
        (by show seg.right = 0 + (mflat r.segs).length; exact hsn.lastEnd seg hlast)
      exact h2

theorem rdbPut_snap (s2 : Mem) (r2 : MRdb) (piece : Bytes) (hi : MemInv s2) (hs : SnapInv s2) (hr : s2.rdb = some r2)
    (hw : r2.writing = true) : SnapInv (rdbPut s2 r2 r2.cur piece) := by
  have hR := hi.rdb
  rw [hr] at hR
  obtain ⟨init, last, hinit, _, _, hupd⟩ := hR.writerSeg rfl hw (fun g => ({ g with data := g.data ++ piece } : MSeg))
  unfold rdbPut
  refine hs.snapshot hr rfl
    (fun _ hb => mUpdate_next (f := fun g => ({ g with data := g.data ++ piece } : MSeg)) (fun _ => rfl) (fun _ => rfl) hb)
    ?_ rfl ?_ rfl rfl rfl rfl
  · show Linked (mUpdate r2.segs r2.cur _)
    rw [mUpdate_eq_map]
    exact linked_map _ (by intro g; split <;> rfl) (by intro g; split <;> rfl) _ (hs.linked r2 hr)
  · intro hsn
    have hwr : rdbW r2 = some r2.cur := by unfold rdbW; rw [hw]; rfl
    rw [hwr] at hsn
    have hflat : mflat (mUpdate r2.segs r2.cur (fun g => ({ g with data := g.data ++ piece } : MSeg))) = mflat r2.segs ++ piece := by
      rw [hupd, hinit]; simp [mflat]
    have hw' : rdbW ({ r2 with segs := mUpdate r2.segs r2.cur (fun g => ({ g with data := g.data ++ piece } : MSeg)),
                               written := r2.written + piece.length } : MRdb) = some r2.cur := by
      unfold rdbW; dsimp only; rw [hw]; rfl
    show StreamOk false (mUpdate r2.segs r2.cur _) (rdbW _) s2.readers s2.nextSid 0 (mflat (mUpdate r2.segs r2.cur _))
    rw [hflat, hw']
    exact hsn.appendPiece piece

theorem appendRdbLoop_snap (fuel : Nat) (s : Mem) (buf : Bytes) (done : Nat) (hi : MemInv s) (hs : SnapInv s) :
    SnapInv (Mem.appendRdbLoop fuel s buf done).1 :=
  (appendRdbLoop_keeps (P := fun s => MemInv s ∧ SnapInv s)
    (fun s r seg _ hr hw hf h => ⟨rdbRotate_inv s r seg _ h.1 hr hw, rdbRotate_snap s r seg _ h.1 h.2 hr hw hf⟩)
    (fun s n h => ⟨ensure_inv s n h.1, ensure_snap s n h.2⟩)
    (fun s r piece hr hw h => ⟨rdbPut_inv s r piece h.1 hr hw, rdbPut_snap s r piece h.1 h.2 hr hw⟩)
    fuel s buf done ⟨hi, hs⟩).2

theorem finishRdb_snap (s : Mem) (failed : Bool) (hs : SnapInv s) : SnapInv (s.finishRdb failed) := by
  have hmem : ∀ (r : MRdb), ∀ b ∈ mUpdate r.segs r.cur (fun g => ({ g with closed := true } : MSeg)),
      ∃ b0 ∈ r.segs, b.next = b0.next ∧ b.sid = b0.sid :=
    fun _ _ hb => mUpdate_next (f := fun g => ({ g with closed := true } : MSeg)) (fun _ => rfl) (fun _ => rfl) hb
  rcases finishRdb_cases s failed with e | ⟨r, hr, _, e | ⟨_, _, e⟩⟩ <;> rw [e]
  · exact hs
  · refine ⟨hs.streamNext, ?_, ?_, ?_, ?_, hs.sbound, ?_⟩
    · intro g hg n hn
      rcases hg with hg | ⟨rd, h', _⟩
      · rcases List.mem_append.mp hg with hg | hg
        · obtain ⟨b0, hb0, hn', _⟩ := hmem r g hg
          exact hs.nextBound b0 (Or.inr ⟨r, hr, hb0⟩) n (by rw [← hn']; exact hn)
        · exact hs.nextBound g (Or.inl hg) n hn
      · cases h'
    · intro g _ rd h'; cases h'
    · intro rd h'; cases h'
    · intro rd h'; cases h'
    · intro rd h'; cases h'
  · refine hs.snapshot hr rfl (hmem r) ?_ rfl ?_ rfl rfl rfl rfl
    · show Linked (mUpdate r.segs r.cur _)
      rw [mUpdate_eq_map]
      exact linked_map _ (by intro g; split <;> rfl) (by intro g; split <;> rfl) _ (hs.linked r hr)
    · intro hsn
      have hflat : mflat (mUpdate r.segs r.cur (fun g => ({ g with closed := true } : MSeg))) = mflat r.segs := by
        rw [mUpdate_eq_map]; exact mflat_map _ (by intro g; split <;> rfl) _
      show StreamOk false (mUpdate r.segs r.cur _) (rdbW _) s.readers s.nextSid 0 (mflat (mUpdate r.segs r.cur _))
      rw [hflat]
      exact (hsn.closeSeg r.cur).noWriter

/-- the first segment of a replayable snapshot starts at 0 -/
theorem snap_first_left {s : Mem} (hs : SnapInv s) {rd : MRdb} (hr : s.rdb = some rd) (hrep : rd.replayable = true)
    {first : MSeg} {rest : List MSeg} (hsg : rd.segs = first :: rest) : first.left = 0 := by
  have := (hs.snap rd hr hrep).flat first rest hsg
  unfold mflat at this
  omega

theorem SnapInv.setReaders {s : Mem} (hs : SnapInv s) (rs' : List MReader)
    (hb : ∀ r ∈ rs', r.isAof = false → r.seg < s.nextSid ∧ r.start = 0)
    (hsn : ∀ rd, s.rdb = some rd → rd.replayable = true →
      StreamOk false rd.segs (rdbW rd) rs' s.nextSid 0 (mflat rd.segs)) :
    SnapInv { s with readers := rs' } :=
  ⟨hs.streamNext, hs.nextBound, hs.heapNext, hs.disj, hs.linked, hb, hsn⟩

theorem SnapInv.setReader {s : Mem} (hs : SnapInv s) (r' : MReader)
    (hr' : r'.isAof = false → r'.seg < s.nextSid ∧ r'.start = 0 ∧ ∀ rd, s.rdb = some rd → rd.replayable = true →
      (r'.released = false → ∀ g ∈ rd.segs, g.sid = r'.seg → MAofOk 0 (mflat rd.segs) r' g)) :
    SnapInv { s with readers := mSetReader s.readers r' } := by
  apply hs.setReaders
  · intro r hr ha
    rcases mem_mSetReader hr with hr | rfl
    · exact hs.sbound r hr ha
    · exact ⟨(hr' ha).1, (hr' ha).2.1⟩
  · intro rd hrd hrep
    exact (hs.snap rd hrd hrep).setReader r' (fun ha => ⟨(hr' ha).1, (hr' ha).2.2 rd hrd hrep⟩)

theorem SnapInv.touch {s : Mem} (hs : SnapInv s) {r : MReader} (hr : r ∈ s.readers) (r' : MReader) (ha : r'.isAof = r.isAof)
    (hseg : r'.seg = r.seg) (hp : r'.pos = r.pos) (hst : r'.start = r.start) (ho : r'.out = r.out)
    (hrel : r'.released = false → r.released = false) : SnapInv { s with readers := mSetReader s.readers r' } := by
  apply hs.setReaders
  · intro x hx hxa
    rcases mem_mSetReader hx with hx | rfl
    · exact hs.sbound x hx hxa
    · have := hs.sbound r hr (by rw [← ha]; exact hxa)
      exact ⟨by rw [hseg]; exact this.1, by rw [hst]; exact this.2⟩
  · intro rd hrd hrep
    exact (hs.snap rd hrd hrep).touchReader hr r' ha hseg hp hst ho hrel

theorem open_snap (s : Mem) (rid off : Nat) (hi : MemInv s) (hs : SnapInv s) : SnapInv (s.open rid off).1 := by
  rcases open_shape s rid off with h | ⟨r, h, ho, hst, hk⟩ <;> rw [h]
  · exact hs
  rcases hk with ⟨_, _, ha', _, _⟩ | ⟨rd, first, rest, hro, hsg, _, hseg, hp⟩
  · apply hs.setReaders
    · intro x hx ha
      rcases List.mem_append.mp hx with hx | hx
      · exact hs.sbound x hx ha
      · rw [List.mem_singleton] at hx; subst hx; rw [ha'] at ha; cases ha
    · intro rd hrd hrep
      exact (hs.snap rd hrd hrep).addReader r (by intro ha; rw [ha'] at ha; cases ha)
  · -- a reader of the offered snapshot starts at offset 0 of its first segment
    obtain ⟨hrd, hrep⟩ := rdbOffered_replayable _ _ hro
    have hfm : first ∈ rd.segs := by rw [hsg]; simp
    have hfb : r.seg < s.nextSid := hseg ▸ hi.rdb.bound rd hrd first hfm
    apply hs.setReaders
    · intro x hx ha
      rcases List.mem_append.mp hx with hx | hx
      · exact hs.sbound x hx ha
      · rw [List.mem_singleton] at hx; subst hx; exact ⟨hfb, hst.trans hp⟩
    · intro rd' hrd' hrep'
      rw [hrd] at hrd'; cases hrd'
      have hsn := hs.snap rd hrd hrep
      refine hsn.addReader r (fun _ => ⟨hfb, fun _ g hg hsid => ?_⟩)
      have : g = first := sid_unique hsn.nodup hg hfm (hsid.trans hseg)
      subst this
      have hl := snap_first_left hs hrd hrep hsg
      exact ⟨by omega, by omega, by omega, Nat.le_of_eq hst, by rw [ho, hst]; simp⟩

theorem linked_next_mem : ∀ (l : List MSeg) (g : MSeg) (nx : Nat), Linked l → g ∈ l → g.next = some nx →
    ∃ pre b post, l = pre ++ g :: b :: post ∧ b.sid = nx := by
  intro l
  induction l with
  | nil => intro g nx _ hg; cases hg
  | cons a t ih =>
    intro g nx hl hg hn
    cases t with
    | nil =>
      simp only [List.mem_singleton] at hg; subst hg
      simp only [Linked] at hl
      rw [hl] at hn; cases hn
    | cons b t' =>
      rcases List.mem_cons.mp hg with rfl | hg
      · have := hl.1
        rw [this] at hn; cases hn
        exact ⟨[], b, t', rfl, rfl⟩
      · obtain ⟨pre, b', post, e, hs⟩ := ih g nx hl.2 hg hn
        exact ⟨a :: pre, b', post, by rw [e]; rfl, hs⟩

theorem mFind_none_of_disj {l : List MSeg} {sid : Nat} (h : ∀ a ∈ l, a.sid ≠ sid) : mFind l sid = none := by
  unfold mFind
  rw [List.find?_eq_none]
  intro a ha
  simpa using h a ha

theorem lookup_of_snapshot {s : Mem} (hs : SnapInv s) {rd : MRdb} (hr : s.rdb = some rd)
    (hn : (rd.segs.map (·.sid)).Nodup) {g : MSeg} (hg : g ∈ rd.segs) : s.lookup g.sid = some g := by
  unfold Mem.lookup
  rw [mFind_none_of_disj (fun a ha => hs.disj rd hr a ha g hg), hr]
  dsimp only
  rw [mFind_of_mem hn hg]

theorem copyStep_snap (s : Mem) (rid : Nat) (hs : SnapInv s) : SnapInv (s.copyStep rid).1 := by
  rcases copyStep_cases s rid with h | ⟨r, r', hf, hrel, hm, h⟩
  · rw [h]; exact hs
  rw [h]
  have hr := mFindReader_mem hf
  refine hs.setReader r' (fun ha => ?_)
  have hb : r.isAof = false → r.seg < s.nextSid ∧ r.start = 0 := hs.sbound r hr
  cases hm with
  | finish st => exact ⟨(hb ha).1, (hb ha).2, fun rd hrd hrep hrel' => by cases hrel'⟩
  | deliver g hl hpos hne =>
    -- bytes of the held segment go to the pipe
    refine ⟨(hb ha).1, (hb ha).2, fun rd hrd hrep _ g' hg' hsid => ?_⟩
    have hsn := hs.snap rd hrd hrep
    have : g' = g := by
      have := lookup_of_snapshot hs hrd hsn.nodup hg'
      rw [hsid, hl] at this; cases this; rfl
    subst this
    exact ((hsn.readers r hr ha).2 hrel g' hg' hsid).advance (hsn.segOk g' hg') _ rfl rfl rfl
  | nextAof g nx ha' => rw [show r.isAof = false from ha] at ha'; cases ha'
  | nextRdb g nx _ hl hpos hd hn =>
    -- the held segment `g` is drained: on to `g.next`; where `g` is decides what is known of it
    have hwhere := (lookup_cases hl).2
    refine ⟨?_, (hb ha).2, fun rd hrd hrep _ g' hg' hsid => ?_⟩
    · rcases hwhere with hw | hw | hw
      · rw [hs.streamNext g hw] at hn; cases hn
      · exact hs.nextBound g (Or.inr hw) nx hn
      · exact hs.nextBound g (Or.inl hw) nx hn
    · have hsid' : g'.sid = nx := hsid
      rcases hwhere with hw | ⟨rd0, hrd0, hw⟩ | hw
      · rw [hs.streamNext g hw] at hn; cases hn
      · rw [hrd] at hrd0; cases hrd0
        have hsn := hs.snap rd hrd hrep
        obtain ⟨pre, b, post, hsplit, hb'⟩ := linked_next_mem rd.segs g nx (hs.linked rd hrd) hw hn
        have : g' = b := sid_unique hsn.nodup hg' (by rw [hsplit]; simp) (by rw [hsid', hb'])
        subst this
        exact ((hsn.readers r hr ha).2 hrel g hw (lookup_cases hl).1).next hd (mcontig_adjacent (hsplit ▸ hsn.contig)) _
          rfl rfl rfl
      · exact absurd (by rw [hn, hsid']) (hs.heapNext g hw rd hrd hrep g' hg')

theorem SnapInv.touched {s s' : Mem} (hs : SnapInv s) (h : Touched s s') : SnapInv s' := by
  rcases h with rfl | ⟨r, r', rfl, hr, ha, hseg, hp, hst, ho, hrel⟩
  · exact hs
  · exact hs.touch hr r' ha hseg hp hst ho hrel

theorem SnapInv.setPend {s : Mem} (hs : SnapInv s) (a r : Option Bytes) : SnapInv { s with pendA := a, pendR := r } :=
  ⟨hs.streamNext, hs.nextBound, hs.heapNext, hs.disj, hs.linked, hs.sbound, hs.snap⟩

theorem appends_snap (s : Mem) (hi : MemInv s) (hs : SnapInv s) :
    SnapInv s.retry.1 ∧ (∀ chunk, SnapInv (s.step (.aofAppend chunk)).1) ∧ ∀ chunk, SnapInv (s.step (.rdbAppend chunk)).1 := by
  have := appends_keep (P := fun s => MemInv s ∧ SnapInv s) (fun s a r h => ⟨setPend_inv s h.1 a r, h.2.setPend a r⟩)
    (fun fuel s buf h => ⟨appendAofLoop_inv fuel s buf 0 h.1, appendAofLoop_snap fuel s buf 0 h.1 h.2⟩)
    (fun fuel s buf h => ⟨appendRdbLoop_inv fuel s buf 0 h.1, appendRdbLoop_snap fuel s buf 0 h.1 h.2⟩)
    (fun s h => ⟨finishRdb_inv s false h.1, finishRdb_snap s false h.2⟩) s ⟨hi, hs⟩
  exact ⟨this.1.2, fun c => (this.2.1 c).2, fun c => (this.2.2 c).2⟩

theorem retry_snap (s : Mem) (hi : MemInv s) (hs : SnapInv s) : SnapInv s.retry.1 := (appends_snap s hi hs).1

theorem step_snap (s : Mem) (op : MOp) (hi : MemInv s) (hs : SnapInv s) : SnapInv (s.step op).1 := by
  cases op with
  | setRunId id => exact ⟨hs.streamNext, hs.nextBound, hs.heapNext, hs.disj, hs.linked, hs.sbound, hs.snap⟩
  | delRunId id =>
    simp only [Mem.step]
    split
    · exact hs
    · have := reset_snap s hs
      exact ⟨this.streamNext, this.nextBound, this.heapNext, this.disj, this.linked, this.sbound, this.snap⟩
  | newRdbWriter off size =>
    simp only [Mem.step]
    have h0 := reset_snap s hs
    have hrd : s.reset.rdb = none := rfl
    refine ⟨h0.streamNext, ?_, ?_, ?_, ?_, ?_, ?_⟩
    · intro g hg n hn
      show n < s.reset.nextSid + 1
      rcases hg with hg | ⟨rd, h', hg⟩
      · have := h0.nextBound g (Or.inl hg) n hn; omega
      · cases h'
        simp only [List.mem_singleton] at hg; subst hg; cases hn
    · intro g hg rd h' _ b hb
      cases h'
      simp only [List.mem_singleton] at hb; subst hb
      intro e
      have := h0.nextBound g (Or.inl hg) _ e
      exact Nat.lt_irrefl _ this
    · intro rd h' a ha; cases ha
    · intro rd h'; cases h'; rfl
    · intro r hr ha
      exact ⟨by have := (h0.sbound r hr ha).1; show r.seg < s.reset.nextSid + 1; omega, (h0.sbound r hr ha).2⟩
    · intro rd h' _
      cases h'
      have := (StreamOk.empty (k := false) s.reset.readers s.reset.nextSid 0 [] (fun r hr ha => (h0.sbound r hr ha).1)).pushSeg
        { sid := s.reset.nextSid, left := 0, data := [], closed := false, next := none } rfl rfl (by simp)
      exact this
  | rdbAppend chunk => exact (appends_snap s hi hs).2.2 chunk
  | rdbClose => exact finishRdb_snap s false hs
  | rdbFail => exact finishRdb_snap s true hs
  | newAofWriter off =>
    rw [step_newAofWriter_eq]
    cases hin : s.installWriter off with
    | none => exact hs
    | some s1 =>
      dsimp only
      have h1 : SnapInv s1 := by
        rw [(installWriter_spec hin).1]
        exact hs.pushSeg hi.rdb.bound _ rfl rfl rfl rfl rfl rfl rfl
      cases s.aofW with
      | none => exact h1
      | some old => exact finishAof_snap s1 old false h1
  | aofAppend chunk => exact (appends_snap s hi hs).2.1 chunk
  | aofClose =>
    simp only [Mem.step]
    cases haw : s.aofW with
    | none => exact hs
    | some cur => exact finishAof_snap s cur true hs
  | openReader rid off => exact open_snap s rid off hi hs
  | startReader rid => exact hs.touched (startReader_touched s rid)
  | copyStep rid => exact copyStep_snap s rid hs
  | consume rid n => exact hs.touched (consume_touched s rid n)
  | closeReader rid => exact hs.touched (closeReader_touched s rid)
  | retryAppend => exact retry_snap s hi hs

/-- both invariants together -/
def FullInv (s : Mem) : Prop := MemInv s ∧ SnapInv s

theorem FullInv.init (l m : Nat) : FullInv (Mem.init l m) := ⟨MemInv.init l m, SnapInv.init l m⟩

theorem FullInv.step {s : Mem} (h : FullInv s) (op : MOp) : FullInv (s.step op).1 :=
  ⟨step_inv s op h.1, step_snap s op h.1 h.2⟩

theorem FullInv.run {s : Mem} (h : FullInv s) (ops : List MOp) : FullInv (s.run ops) :=
  run_keeps (fun _ op h => h.step op) ops s h

theorem FullInv.settle {s : Mem} (h : FullInv s) : FullInv s.settle :=
  settle_keeps (fun s rid h => ⟨copyStep_inv s rid h.1, copyStep_snap s rid h.2⟩)
    (fun s h => ⟨retry_inv s h.1, retry_snap s h.1 h.2⟩) s h

/-- a copy loop that replays the OFFERED snapshot (it holds one of its segments and has
    not returned) is inside that segment and has written to its pipe exactly the first
    `pos` bytes the snapshot holds, in order -/
theorem snapshot_reader_delivers {s : Mem} (h : FullInv s) (rd : MRdb) (hro : s.rdbOffered = some rd) :
    ∀ r ∈ s.readers, r.isAof = false → r.released = false → ∀ g ∈ rd.segs, g.sid = r.seg →
      g.left ≤ r.pos ∧ r.pos ≤ g.right ∧ r.out = (mflat rd.segs).take r.pos := by
  intro r hr ha hrel g hg hsid
  obtain ⟨hrd, hrep⟩ := rdbOffered_replayable _ _ hro
  have hok := ((h.2.snap rd hrd hrep).readers r hr ha).2 hrel g hg hsid
  have hst := (h.2.sbound r hr ha).2
  refine ⟨hok.inl, hok.inr, ?_⟩
  have := hok.out
  rw [hst] at this
  simpa using this

/-- the offered snapshot's segments are contiguous from offset 0 and chained by their `next` pointers -/
theorem snapshot_shape {s : Mem} (h : FullInv s) (rd : MRdb) (hro : s.rdbOffered = some rd) :
    MContig rd.segs ∧ Linked rd.segs ∧ (∀ first rest, rd.segs = first :: rest → first.left = 0) ∧
      (mflat rd.segs).length = rd.written := by
  obtain ⟨hrd, hrep⟩ := rdbOffered_replayable _ _ hro
  refine ⟨(h.2.snap rd hrd hrep).contig, h.2.linked rd hrd, fun first rest hsg => snap_first_left h.2 hrd hrep hsg, ?_⟩
  have := h.1.rdb.whole rd hrd hrep
  rw [← this]
  unfold mflat mBuffered
  induction rd.segs with
  | nil => rfl
  | cons a t ih => simp [ih]

end GunYu.Store
