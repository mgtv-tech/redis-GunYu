/-
  C13 — the inventory of everything the tool writes to the target on the
  bidirectional path OUTSIDE a unit commit, procedure by procedure, with the
  requests each issues in order (read from the code; the write calls of every
  listed procedure are fixed by the source fact `c13_target_writes`, the
  absence of any other transaction by `c13_txn_batcher_sites`,
  `c13_multi_put_sites`, `c13_aof_dispatch`, `c13_first_put`).

  Result: every request of every writer is a STAND-ALONE request of the
  bookkeeping vocabulary with a generated namespace name, i.e. an event the
  global theorems range over — `Ev.toolRaw` ("the tool writes something
  outside the vocabulary") never happens for the modelled writers.
-/
import GunYu.Proofs.BisyncNames

namespace GunYu.Bisync
open GunYu GunYu.BisyncUnit

/-- what seeds a new namespace (`seedBisyncNamespace`): the root checkpoint
    fields, then the frontier snapshot (pipeline / parallel) or one latest
    record (sync) -/
structure NsSeed where
  rootFields : List Bytes
  state : Sum (List Bytes) (Bytes × List Bytes)     -- frontier fields | (slot tag, latest-record fields)

inductive Writer where
  /-- `bisyncFrontierCoordinator.flush` and `cleanupRecoveredBisyncCommitRecords`:
      SaveBisyncFrontierSnapshot, DeleteBisyncCommitKeys (one DEL per record,
      pipelined, no MULTI), one ZREM per index key -/
  | frontierFlush (cp : Bytes) (fields : List Bytes) (recs : List (Bytes × Nat)) (idx : List (Bytes × List Bytes))
  /-- `purgeBisyncRecoveryState`: DEL per record, ZREM per index, then DEL frontier -/
  | purge (cp : Bytes) (recs : List (Bytes × Nat)) (idx : List (Bytes × List Bytes))
  /-- `seedBisyncNamespace`: SetCheckpoint + frontier / latest (when there is a seed), then SaveBisyncNamespaceMode -/
  | seedNamespace (cp : Bytes) (seed : Option NsSeed) (modeFields : List Bytes)
  /-- `SaveBisyncNamespaceMode` alone (in-place switch, first start) -/
  | saveMode (cp : Bytes) (modeFields : List Bytes)
  /-- `cleanupBisyncNamespace` of a retired namespace: journal records in chunks
      (one multi-key DEL each), EACH MARKER ALONE, the latest / index keys in
      chunks, the two root keys -/
  | cleanupNamespace (cp : Bytes) (journalChunks : List (List Bytes)) (tags : List Bytes) (slotChunks : List (List Bytes))
  /-- `RedisOutput.ResetStartPoint` (the source answered FULLRESYNC): DelCheckpoint of every id the position
      may be stored under (one HDEL of the root key per id and database), `purgeBisyncRecoveryState`, then the
      latest record of every recovery slot, ONE single-key DEL each (DeleteBisyncCommitKeys) -/
  | resetStartPoint (cp : Bytes) (hdels : List (List Bytes)) (recs : List (Bytes × Nat)) (idx : List (Bytes × List Bytes))
      (tags : List Bytes)
  /-- SetCheckpointHash / the HSETNX of ResolveOrCreateBisyncCheckpointName / DelCheckpointHash -/
  | hashSet (runId name : Bytes) (nx : Bool)
  | hashDel (runId : Bytes)
  /-- SetCheckpoint / UpdateCheckpoint / DelCheckpoint on the root key: HSET and HDEL of its fields -/
  | rootWrites (cp : Bytes) (ops : List (Sum (List Bytes) (List Bytes)))

def Writer.requests : Writer → List Bookkeeping
  | .frontierFlush cp fields recs idx =>
    [.frontierSave cp fields] ++ recs.map (fun r => .journalDel cp r.1 r.2) ++ idx.map (fun i => .indexRem cp i.1 i.2)
  | .purge cp recs idx =>
    recs.map (fun r => .journalDel cp r.1 r.2) ++ idx.map (fun i => .indexRem cp i.1 i.2) ++ [.frontierDel cp]
  | .seedNamespace cp seed modeFields =>
    (match seed with
     | none => []
     | some s => [.rootSet cp s.rootFields,
                  match s.state with
                  | .inl f => .frontierSave cp f
                  | .inr (tag, f) => .latestSeed cp tag f]) ++ [.rootSet cp modeFields]
  | .saveMode cp modeFields => [.rootSet cp modeFields]
  | .cleanupNamespace cp journalChunks tags slotChunks =>
    journalChunks.map (.nsDel cp) ++ tags.map (.markerDel cp) ++ slotChunks.map (.nsDel cp) ++ [.rootDel cp]
  | .resetStartPoint cp hdels recs idx tags =>
    hdels.map (.rootHdel cp) ++
      (recs.map (fun r => .journalDel cp r.1 r.2) ++ idx.map (fun i => .indexRem cp i.1 i.2) ++ [.frontierDel cp]) ++
      tags.map (.latestDel cp)
  | .hashSet runId name nx => [.cpHashSet runId name nx]
  | .hashDel runId => [.cpHashDel runId]
  | .rootWrites cp ops => ops.map (fun o => match o with | .inl f => .rootSet cp f | .inr f => .rootHdel cp f)

/-- the namespace name is a generated one; the chunks of a clean-up are
    non-empty lists of latest / index / journal keys of that namespace (how
    `cleanupBisyncNamespace` assembles them: `loadBisyncCommitRecordKeys`,
    `BisyncLatestCheckpointKey`, `BisyncCommitIndexKey`; `deleteBisyncKeysInChunks`
    sends no empty chunk) -/
def Writer.Ok : Writer → Prop
  | .frontierFlush cp _ _ _ => GenCp cp
  | .purge cp _ _ => GenCp cp
  | .seedNamespace cp _ _ => GenCp cp
  | .saveMode cp _ => GenCp cp
  | .cleanupNamespace cp jc _ sc =>
    GenCp cp ∧ (∀ ch ∈ jc, ch ≠ [] ∧ ∀ k ∈ ch, PlainNsKey cp k) ∧ (∀ ch ∈ sc, ch ≠ [] ∧ ∀ k ∈ ch, PlainNsKey cp k)
  | .resetStartPoint cp _ _ _ _ => GenCp cp
  | .hashSet _ _ _ => True
  | .hashDel _ => True
  | .rootWrites cp _ => GenCp cp

/-- **Every request of every writer is a bookkeeping request as the tool issues
    it** (stand-alone, generated name, no key with an expiry beside another key). -/
theorem writer_requests_fromTool (w : Writer) (hw : w.Ok) : ∀ bk ∈ w.requests, bk.FromTool := by
  -- the three ways `requests` puts its lists together
  have app : ∀ {l₁ l₂ : List Bookkeeping}, (∀ b ∈ l₁, b.FromTool) → (∀ b ∈ l₂, b.FromTool) →
      ∀ b ∈ l₁ ++ l₂, b.FromTool := fun h₁ h₂ => List.forall_mem_append.mpr ⟨h₁, h₂⟩
  have one : ∀ {b : Bookkeeping}, b.FromTool → ∀ b' ∈ [b], b'.FromTool := List.forall_mem_singleton.mpr
  have map : ∀ {α : Type} {f : α → Bookkeeping} (l : List α), (∀ a ∈ l, (f a).FromTool) →
      ∀ b ∈ l.map f, b.FromTool := fun _ => List.forall_mem_map.mpr
  cases w with
  | frontierFlush cp fields recs idx => exact app (app (one hw) (map recs fun _ _ => hw)) (map idx fun _ _ => hw)
  | purge cp recs idx => exact app (app (map recs fun _ _ => hw) (map idx fun _ _ => hw)) (one hw)
  | seedNamespace cp seed modeFields =>
    refine app ?_ (one hw)
    cases seed with
    | none => exact fun _ h => nomatch h
    | some s =>
      refine List.forall_mem_cons.mpr ⟨hw, one ?_⟩
      cases s.state with
      | inl f => exact hw
      | inr p => obtain ⟨tag, f⟩ := p; exact hw
  | saveMode cp modeFields => exact one hw
  | cleanupNamespace cp jc tags sc =>
    obtain ⟨hcp, hj, hs⟩ := hw
    exact app (app (app (map jc fun ch hch => ⟨hcp, hj ch hch⟩) (map tags fun _ _ => hcp))
      (map sc fun ch hch => ⟨hcp, hs ch hch⟩)) (one hcp)
  | resetStartPoint cp hdels recs idx tags =>
    exact app (app (map hdels fun _ _ => hw) (app (app (map recs fun _ _ => hw) (map idx fun _ _ => hw)) (one hw)))
      (map tags fun _ _ => hw)
  | hashSet runId name nx => exact one trivial
  | hashDel runId => exact one trivial
  | rootWrites cp ops => exact map ops fun o _ => by cases o <;> exact hw

/-- a history step: one event, or one run of a writer procedure of the link from `src` -/
inductive Step where
  | ev (e : Ev)
  | writer (src : SiteId) (w : Writer)

def Step.events : Step → List Ev
  | .ev e => [e]
  | .writer src w => w.requests.map (.book src)

def Step.Ok (cfg : WCfg) : Step → Prop
  | .ev e => EvGen cfg e
  | .writer _ w => w.Ok

def flattenSteps (ss : List Step) : List Ev := ss.flatMap Step.events

theorem steps_good (cfg : WCfg) (ss : List Step) (h : ∀ s ∈ ss, s.Ok cfg) : GoodEvents cfg (flattenSteps ss) := by
  intro e he
  unfold flattenSteps at he
  obtain ⟨s, hs, hes⟩ := List.mem_flatMap.mp he
  have hok := h s hs
  cases s with
  | ev e' =>
    simp only [Step.events, List.mem_cons, List.not_mem_nil, or_false] at hes
    rw [hes]; exact evGen_ok cfg e' hok
  | writer src w =>
    simp only [Step.events, List.mem_map] at hes
    obtain ⟨bk, hbk, rfl⟩ := hes
    exact fromTool_ok bk (writer_requests_fromTool w hok bk hbk)

/-- no step ever is the "raw" event -/
theorem steps_never_raw (cfg : WCfg) (ss : List Step) (h : ∀ s ∈ ss, s.Ok cfg) :
    ∀ e ∈ flattenSteps ss, ∀ src isTxn cmds, e ≠ .toolRaw src isTxn cmds := by
  intro e he src isTxn cmds heq
  have := steps_good cfg ss h e he
  rw [heq] at this
  exact this

end GunYu.Bisync
