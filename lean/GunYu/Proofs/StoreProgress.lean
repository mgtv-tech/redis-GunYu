/-
  C05, disk backend — one `file.Read` of a stream reader in a reachable state, and the
  state after a rotation step: the ingredients of the catch-up step
  (`follow_delivers`, Proofs/StoreReach.lean).
-/
import GunYu.Model.StoreProgress
import GunYu.Proofs.StoreFrame

namespace GunYu.Store
open GunYu

theorem stream_delivered {s : Disk} (h : DInv s) {r : DReader} (hr : r ∈ s.readers) (ho : r.isOpen = true)
    (ha : r.isAof = true) :
    s.hbase ≤ r.start ∧ r.start ≤ r.pos ∧ r.pos ≤ s.hbase + s.hist.length ∧
      r.out = (s.hist.drop (r.start - s.hbase)).take (r.pos - r.start) := by
  obtain ⟨⟨g, hg, _, _, hpr⟩, _, hs, hp, hout⟩ := (h.readersOk r hr ho).1 ha
  exact ⟨hs, hp, Nat.le_trans hpr (h.embed g hg).2.1, hout⟩

theorem seg_bytes {s : Disk} (h : DInv s) {g : DSeg} (hg : g ∈ s.all) {pos : Nat} (hl : g.left ≤ pos) (n : Nat) :
    (g.data.drop (pos - g.left)).take n =
      (s.hist.drop (pos - s.hbase)).take ((g.data.drop (pos - g.left)).take n).length := by
  obtain ⟨e1, _, e3⟩ := h.embed g hg
  have hdrop : g.data.drop (pos - g.left) =
      (s.hist.drop (pos - s.hbase)).take (g.data.length - (pos - g.left)) := by
    conv => lhs; rw [e3]
    rw [List.drop_take, List.drop_drop, Nat.add_comm, Nat.sub_add_sub_cancel hl e1]
  rw [hdrop, List.take_take]
  exact take_eq_take_length _ _

/-- one `file.Read` of an open stream reader: nothing (it stands at the end of its file), or
    bytes of the history at its position, by which it moves on -/
theorem read_stream {s : Disk} (h : DInv s) {rid : Nat} {x : DReader} (hf : findReader s.readers rid = some x)
    (ho : x.isOpen = true) (ha : x.isAof = true) (n : Nat) :
    s.read rid n = (s, Out.eof) ∨ ∃ bs, bs ≠ [] ∧
      s.read rid n = ({ s with readers := setReader s.readers { x with pos := x.pos + bs.length, out := x.out ++ bs } },
        Out.data bs) ∧
      bs = (s.hist.drop (x.pos - s.hbase)).take bs.length := by
  obtain ⟨⟨g, hg, hc, hl, _⟩, _⟩ := (h.readersOk x (findReader_some hf).1 ho).1 ha
  have hfg : findSeg s.all x.cur = some g := by
    rw [← hc]; exact findSeg_of_mem h.contig (all_initNonempty h.nonempty) hg
  simp only [Disk.read, hf, ho, ha, hfg, Bool.not_true, Bool.false_eq_true, if_false, if_true]
  by_cases he : ((g.data.drop (x.pos - g.left)).take n).isEmpty = true
  · rw [if_pos he]; exact Or.inl rfl
  · rw [if_neg he]
    exact Or.inr ⟨_, fun e => he (by rw [e]; rfl), rfl, seg_bytes h hg hl n⟩

theorem read_snapshot {s : Disk} {rid : Nat} {x : DReader} {rd : DRdb} (hf : findReader s.readers rid = some x)
    (ho : x.isOpen = true) (ha : x.isAof = false) (hrd : s.rdb = some rd) (hlt : x.pos < rd.data.length)
    {n : Nat} (hn : 0 < n) :
    (s.read rid n).2 = Out.data ((rd.data.drop x.pos).take n) ∧ (rd.data.drop x.pos).take n ≠ [] := by
  have hne : (rd.data.drop x.pos).take n ≠ [] := by
    apply List.ne_nil_of_length_pos
    rw [List.length_take, List.length_drop]
    exact Nat.lt_min.mpr ⟨hn, Nat.sub_pos_of_lt hlt⟩
  have he : ((rd.data.drop x.pos).take n).isEmpty = false := by simpa [List.isEmpty_iff] using hne
  exact ⟨by simp only [Disk.read, hf, ho, ha, hrd, he, Bool.not_true, Bool.false_eq_true, if_false], hne⟩

/-- the state after both halves of a rotation step of reader `r` -/
theorem adv_both {s : Disk} (h : DInv s) {r : DReader} (hr : r ∈ s.readers) (hc : s.canAdvance r = true) :
    ((s.step (.advAcquire r.id)).1.step (.advRelease r.id)).1 =
      { s with readers := setReader (setReader s.readers { r with prev := some r.cur, cur := r.pos })
                            { r with prev := none, cur := r.pos } } := by
  have hf := findReader_of_mem h.ids hr
  have ho : r.isOpen = true := by
    unfold Disk.canAdvance at hc
    simp only [Bool.and_eq_true] at hc
    exact hc.1.1.1.1
  have h1 : (s.step (.advAcquire r.id)).1 =
      { s with readers := setReader s.readers { r with prev := some r.cur, cur := r.pos } } := by
    simp only [Disk.step, Disk.advAcquire, hf, hc, if_true]
  rw [h1]
  have hf2 : findReader (setReader s.readers { r with prev := some r.cur, cur := r.pos }) r.id =
      some { r with prev := some r.cur, cur := r.pos } := findReader_setReader_hit hf rfl
  simp only [Disk.step, Disk.advRelease, hf2]
  simp [ho]

/-- only the last segment can be empty, and it ends where the history ends -/
theorem not_canAdvance_at_start {s : Disk} (h : DInv s) {x : DReader} (hx : x ∈ s.readers) (ho : x.isOpen = true)
    (ha : x.isAof = true) (hc : x.pos = x.cur) (hlt : x.pos < s.hbase + s.hist.length) : s.canAdvance x = false := by
  obtain ⟨⟨g, hg, hgc, _, _⟩, _⟩ := (h.readersOk x hx ho).1 ha
  have hfg : findSeg s.all x.cur = some g := by
    rw [← hgc]; exact findSeg_of_mem h.contig (all_initNonempty h.nonempty) hg
  cases hca : s.canAdvance x with
  | false => rfl
  | true =>
    exfalso
    unfold Disk.canAdvance at hca
    simp only [Bool.and_eq_true, hfg, beq_iff_eq] at hca
    have hpr : x.pos = g.right := hca.1.2
    have hlen : g.left + g.data.length = g.left + 0 := hpr.symm.trans (hc.trans hgc.symm)
    have he : g.data = [] := List.eq_nil_of_length_eq_zero (Nat.add_left_cancel hlen)
    -- an empty segment is the live one
    have hlive : s.live = some g := by
      unfold Disk.all at hg
      rcases List.mem_append.mp hg with h1 | h1
      · exact absurd he (h.nonempty g h1)
      · cases hl : s.live with
        | none => rw [hl] at h1; cases h1
        | some y => rw [hl] at h1; simp at h1; rw [h1]
    have hend := h.lastEnd g.right (by unfold Disk.all; rw [hlive]; exact lastRight_append_single _ _)
    rw [← hend, ← hpr] at hlt
    exact Nat.lt_irrefl _ hlt

end GunYu.Store
