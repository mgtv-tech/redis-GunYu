/-
  D18 as a theorem: on the target, every database that holds a `<rid>_offset`
  written by a run also holds the `<rid>_runid` field -- at EVERY prefix of the
  requests the target executes, for every configuration and schedule. Without it
  `StartPoint` reads the record as run id "?" and the position is lost.

  The proof couples the sender's bookkeeping (`connDb`, `cpInDbs`) with the
  target's state between flushes.
-/
import GunYu.Proofs.Crash
import GunYu.Proofs.SenderRun
import GunYu.Proofs.Parser

namespace GunYu.Sender
open GunYu GunYu.Target

/-- every database that stores an offset also stores the run id -/
def RunIdInv (t : TState) : Prop :=
  ∀ d o, (getCp t.cps d).offset = some o → (getCp t.cps d).hasRunId = true

/-- what the sender believes between two flushes is true of the target -/
def Coupled (s : SState) (t : TState) : Prop :=
  t.cur = s.connDb ∧
  (∀ d, s.cpInDbs.contains d = true → (getCp t.cps d).hasRunId = true) ∧
  RunIdInv t

/-- a `select` item's `db` tag is the database its argument selects (true of every
    item the parser hands over: `selectItem`) -/
def SelOK (it : Item) : Prop := it.cmd = bSelect → ∀ cur, selArg cur it.args = it.db

def AllPrefixes (P : TState → Prop) (t : TState) (l : List Req) : Prop :=
  ∀ k, P ((l.take k).foldl execReq t)

theorem allPrefixes_nil {P : TState → Prop} {t : TState} (h : P t) : AllPrefixes P t [] := by
  intro k; rw [List.take_nil]; exact h

theorem allPrefixes_cons {P : TState → Prop} {t : TState} {r : Req} {l : List Req}
    (h0 : P t) (h : AllPrefixes P (execReq t r) l) : AllPrefixes P t (r :: l) := by
  intro k
  cases k with
  | zero => exact h0
  | succ k => exact h k

theorem allPrefixes_append {P : TState → Prop} {t : TState} {a b : List Req}
    (ha : AllPrefixes P t a) (hb : AllPrefixes P (a.foldl execReq t) b) : AllPrefixes P t (a ++ b) := by
  induction a generalizing t with
  | nil => exact hb
  | cons r a ih => exact allPrefixes_cons (ha 0) (ih (fun k => ha (k + 1)) hb)

theorem getCp_setCp (cps : List (Int × CpRec)) (d d' : Int) (r : CpRec) :
    getCp (setCp cps d r) d' = if d' = d then r else getCp cps d' := by
  split
  · rename_i h; rw [h, getCp_setCp_eq]
  · rename_i h; rw [getCp_setCp_ne _ _ _ _ h]

theorem execReq_select (t : TState) (off : Int) : ∀ a : List Bytes,
    (execReq t (Req.cmd bSelect a off)).cps = t.cps ∧
    (execReq t (Req.cmd bSelect a off)).cur = selArg t.cur a
  | [x] => by
    simp only [execReq, selArg, ↓reduceIte]
    cases atoi? x <;> exact ⟨rfl, rfl⟩
  | [] => ⟨rfl, rfl⟩
  | _ :: _ :: _ => ⟨rfl, rfl⟩

/-- a queued command touches no checkpoint record; a truthful `select` moves the
    connection to its `db` tag -/
theorem execReq_item (t : TState) (i : Item) (hi : SelOK i) :
    (execReq t (Req.cmd i.cmd i.args i.offset)).cps = t.cps ∧
    (execReq t (Req.cmd i.cmd i.args i.offset)).cur = (if i.cmd = bSelect then i.db else t.cur) := by
  by_cases hs : i.cmd = bSelect
  · rw [if_pos hs, ← hi hs t.cur, hs]; exact execReq_select t i.offset i.args
  · simp only [execReq, hs, ↓reduceIte]; split <;> exact ⟨rfl, rfl⟩

theorem exec_cmds (q : List Item) (hq : ∀ i ∈ q, SelOK i) (t : TState) :
    ((q.map (fun i => Req.cmd i.cmd i.args i.offset)).foldl execReq t).cps = t.cps ∧
    ((q.map (fun i => Req.cmd i.cmd i.args i.offset)).foldl execReq t).cur = dbAfter t.cur q := by
  induction q generalizing t with
  | nil => exact ⟨rfl, rfl⟩
  | cons i rest ih =>
    obtain ⟨h1, h2⟩ := execReq_item t i (hq i (List.mem_cons_self ..))
    obtain ⟨hc, hcur⟩ := ih (fun j hj => hq j (List.mem_cons_of_mem _ hj))
      (execReq t (Req.cmd i.cmd i.args i.offset))
    rw [List.map_cons, List.foldl_cons, hc, hcur, h1, h2]
    exact ⟨rfl, rfl⟩

theorem allPrefixes_cmds (q : List Item) (hq : ∀ i ∈ q, SelOK i) (t : TState) (h : RunIdInv t) :
    AllPrefixes RunIdInv t (q.map (fun i => Req.cmd i.cmd i.args i.offset)) := by
  intro k d o ho
  rw [← List.map_take, (exec_cmds (q.take k) (fun i hi => hq i (List.mem_of_mem_take hi)) t).1] at ho ⊢
  exact h d o ho

theorem hasRunId_cpMeta (t : TState) (d : Int) :
    (getCp (execReq t .cpMeta).cps d).hasRunId = (if d = t.cur then true else (getCp t.cps d).hasRunId) := by
  simp only [execReq]
  rw [getCp_setCp]
  split <;> rfl

theorem hasRunId_cpOffset (t : TState) (o d : Int) :
    (getCp (execReq t (.cpOffset o)).cps d).hasRunId = (getCp t.cps d).hasRunId := by
  simp only [execReq]
  rw [getCp_setCp]
  split
  · rename_i h; rw [h]
  · rfl

theorem runIdInv_cpMeta (t : TState) (h : RunIdInv t) : RunIdInv (execReq t .cpMeta) := by
  intro d o ho
  rw [hasRunId_cpMeta]
  split
  · rfl
  · rename_i hd
    simp only [execReq] at ho
    rw [getCp_setCp, if_neg hd] at ho
    exact h d o ho

theorem runIdInv_cpOffset (t : TState) (o : Int) (h : RunIdInv t)
    (hr : (getCp t.cps t.cur).hasRunId = true) : RunIdInv (execReq t (.cpOffset o)) := by
  intro d o' ho
  rw [hasRunId_cpOffset]
  by_cases hd : d = t.cur
  · rw [hd]; exact hr
  · simp only [execReq] at ho
    rw [getCp_setCp, if_neg hd] at ho
    exact h d o' ho

theorem stripB_sendReqs (c : SCfg) (s : SState) (tb u : Bool) (off : Int) :
    stripB (sendReqs c s tb u off) =
      s.queue.map (fun i => Req.cmd i.cmd i.args i.offset) ++ cpPart c s u off := by
  unfold sendReqs
  cases tb
  · simp only [Bool.false_eq_true, ↓reduceIte, List.nil_append, List.append_nil]
    exact stripB_plain _ (by
      intro r hr
      rcases List.mem_append.mp hr with h | h
      · exact plain_cmds _ r h
      · exact plain_cpPart c s u off r h)
  · simpa only [↓reduceIte, List.append_assoc] using
      stripB_block (s.queue.map (fun i => Req.cmd i.cmd i.args i.offset) ++ cpPart c s u off)

theorem cpPart_cases (c : SCfg) (s : SState) (u : Bool) (off : Int) :
    (cpPart c s u off = [] ∧ cpInAfter c s u = s.cpInDbs) ∨
    (s.cpInDbs.contains (dbAfter s.connDb s.queue) = true ∧
      cpPart c s u off = [Req.cpOffset off] ∧ cpInAfter c s u = s.cpInDbs) ∨
    (cpPart c s u off = [Req.cpMeta, Req.cpOffset off] ∧
      cpInAfter c s u = dbAfter s.connDb s.queue :: s.cpInDbs) := by
  unfold cpPart cpInAfter
  cases u && c.resume
  · exact Or.inl ⟨rfl, rfl⟩
  · cases hm : s.cpInDbs.contains (dbAfter s.connDb s.queue)
    · exact Or.inr (Or.inr ⟨rfl, rfl⟩)
    · exact Or.inr (Or.inl ⟨rfl, rfl, rfl⟩)

theorem cpPart_coupled (c : SCfg) (s : SState) (u : Bool) (off : Int) (t : TState)
    (hcur : t.cur = dbAfter s.connDb s.queue)
    (hin : ∀ d, s.cpInDbs.contains d = true → (getCp t.cps d).hasRunId = true)
    (hinv : RunIdInv t) :
    AllPrefixes RunIdInv t (cpPart c s u off) ∧
    ((cpPart c s u off).foldl execReq t).cur = t.cur ∧
    (∀ d, (cpInAfter c s u).contains d = true →
      (getCp ((cpPart c s u off).foldl execReq t).cps d).hasRunId = true) ∧
    RunIdInv ((cpPart c s u off).foldl execReq t) := by
  rcases cpPart_cases c s u off with ⟨e1, e2⟩ | ⟨hm, e1, e2⟩ | ⟨e1, e2⟩ <;> rw [e1, e2]
  · exact ⟨allPrefixes_nil hinv, rfl, hin, hinv⟩
  · have hr := hin _ hm
    rw [← hcur] at hr
    have hinv3 := runIdInv_cpOffset t off hinv hr
    refine ⟨allPrefixes_cons hinv (allPrefixes_nil hinv3), rfl, ?_, hinv3⟩
    intro d hd
    rw [List.foldl_cons, List.foldl_nil, hasRunId_cpOffset]
    exact hin d hd
  · have hinv2 := runIdInv_cpMeta t hinv
    have hr2 : (getCp (execReq t .cpMeta).cps (execReq t .cpMeta).cur).hasRunId = true := by
      rw [hasRunId_cpMeta]; exact if_pos rfl
    have hinv3 := runIdInv_cpOffset _ off hinv2 hr2
    refine ⟨allPrefixes_cons hinv (allPrefixes_cons hinv2 (allPrefixes_nil hinv3)), rfl, ?_, hinv3⟩
    intro d hd
    rw [List.foldl_cons, List.foldl_cons, List.foldl_nil, hasRunId_cpOffset, hasRunId_cpMeta]
    split
    · rfl
    · rename_i hdd
      rw [← hcur, List.contains_cons, Bool.or_eq_true, beq_iff_eq] at hd
      exact hin d (hd.resolve_left hdd)

/-- what every part of a loop iteration keeps (`r`: the state returned, the batches sent) -/
def Keeps (t : TState) (r : SState × List Batch) : Prop :=
  AllPrefixes RunIdInv t (bodies r.2) ∧ Coupled r.1 ((bodies r.2).foldl execReq t) ∧
    ∀ i ∈ r.1.queue, SelOK i

theorem coupled_congr {s s' : SState} {t : TState} (h : Coupled s t)
    (h1 : s'.connDb = s.connDb) (h2 : s'.cpInDbs = s.cpInDbs) : Coupled s' t := by
  obtain ⟨a, b, c⟩ := h
  exact ⟨by rw [h1]; exact a, by rw [h2]; exact b, c⟩

theorem bodies_append (a b : List Batch) : bodies (a ++ b) = bodies a ++ bodies b := by
  simp [bodies]

theorem keeps_quiet {s s' : SState} {t : TState} (hc : Coupled s t) (hq : ∀ i ∈ s.queue, SelOK i)
    (h1 : s'.connDb = s.connDb) (h2 : s'.cpInDbs = s.cpInDbs) (h3 : s'.queue = s.queue) :
    Keeps t (s', []) :=
  ⟨allPrefixes_nil hc.2.2, coupled_congr hc h1 h2, by rw [h3]; exact hq⟩

theorem sendOnce_coupled (c : SCfg) (s : SState) (tb up : Bool) (off : Int) (t : TState)
    (hc : Coupled s t) (hq : ∀ i ∈ s.queue, SelOK i) :
    Keeps t ((sendOnce c s tb up off).1, optToList (sendOnce c s tb up off).2) := by
  rcases sendOnce_cases c s tb up off with ⟨_, h⟩ | h <;> rw [h]
  · exact keeps_quiet hc hq rfl rfl rfl
  · obtain ⟨hcur, hin, hinv⟩ := hc
    simp only [Keeps, optToList, bodies, List.flatMap_cons, List.flatMap_nil, List.append_nil,
      stripB_sendReqs, List.foldl_append]
    obtain ⟨hcps, hcur'⟩ := exec_cmds s.queue hq t
    obtain ⟨p1, p2, p3, p4⟩ := cpPart_coupled c s (up && decide (0 ≤ off)) off _
      (by rw [hcur', hcur]) (fun d hd => by rw [hcps]; exact hin d hd)
      (fun d o ho => by rw [hcps] at ho ⊢; exact hinv d o ho)
    exact ⟨allPrefixes_append (allPrefixes_cmds s.queue hq t hinv) p1,
      ⟨by rw [p2, hcur', hcur], p3, p4⟩, fun _ h => nomatch h⟩

theorem tail_coupled (c : SCfg) (s : SState) (tb up : Bool) (t : TState)
    (hc : Coupled s t) (hq : ∀ i ∈ s.queue, SelOK i) : Keeps t (tail c s tb up []) := by
  rw [tail_eq]
  split
  · have h := sendOnce_coupled c s tb up s.lastOffset t hc hq
    rw [List.nil_append]
    exact ⟨h.1, coupled_congr h.2.1 rfl rfl, h.2.2⟩
  · exact keeps_quiet hc hq rfl rfl rfl

theorem preFlush_coupled (c : SCfg) (s : SState) (tx : Txn) (nf : Bool) (prev : Int) (t : TState)
    (hc : Coupled s t) (hq : ∀ i ∈ s.queue, SelOK i) :
    AllPrefixes RunIdInv t (bodies (preFlush c s tx nf prev).2) ∧
    Coupled (preFlush c s tx nf prev).1 ((bodies (preFlush c s tx nf prev).2).foldl execReq t) ∧
    (∀ i ∈ (preFlush c s tx nf prev).1.queue, SelOK i) := by
  show Keeps t (preFlush c s tx nf prev)
  unfold preFlush
  split
  · have h := sendOnce_coupled c s c.txnMode (c.resume && c.txnMode)
      (if tx = Txn.commit then s.lastOffset else prev) t hc hq
    exact ⟨h.1, coupled_congr h.2.1 rfl rfl, h.2.2⟩
  · exact keeps_quiet hc hq rfl rfl rfl

theorem then_tail (c : SCfg) (s1 : SState) (out1 : List Batch) (tb up : Bool) (t : TState)
    (h : Keeps t (s1, out1)) : Keeps t (tail c s1 tb up out1) := by
  rw [tail_out]
  obtain ⟨h1, h2, hq⟩ := h
  have h' := tail_coupled c s1 tb up _ h2 hq
  simp only [Keeps, bodies_append, List.foldl_append]
  exact ⟨allPrefixes_append h1 h'.1, h'.2.1, h'.2.2⟩

theorem step_coupled (c : SCfg) (s : SState) (ev : Ev) (t : TState)
    (hc : Coupled s t) (hq : ∀ i ∈ s.queue, SelOK i) (hev : ∀ it, ev = .item it → SelOK it) :
    AllPrefixes RunIdInv t (bodies (step c s ev).2) ∧
    Coupled (step c s ev).1 ((bodies (step c s ev).2).foldl execReq t) ∧
    (∀ i ∈ (step c s ev).1.queue, SelOK i) := by
  show Keeps t (step c s ev)
  have htick := step_tick c s ev
  cases ev with
  | item it =>
    -- the item joins a queue of truthful items
    have henq : ∀ q : List Item, (∀ i ∈ q, SelOK i) → ∀ i ∈ q ++ [it], SelOK i := by
      intro q h0 i hi
      rcases List.mem_append.mp hi with h | h
      · exact h0 i h
      · rw [List.mem_singleton.mp h]; exact hev it rfl
    simp only [step]
    split
    · exact keeps_quiet hc hq rfl rfl rfl
    · simp only [stepItem]
      split
      · -- transactional mode: flush what was queued, absorb, end-of-iteration flush
        obtain ⟨p1, p2, p3⟩ := preFlush_coupled c
          { s with lastOffset := it.offset, txn := (txnStatus it.cmd s.txn).1,
                   needFlush := (txnStatus it.cmd s.txn).2 }
          (txnStatus it.cmd s.txn).1 (txnStatus it.cmd s.txn).2 s.lastOffset t (coupled_congr hc rfl rfl) hq
        simp only [stepItemTxn]
        unfold absorb
        split
        · exact then_tail c _ _ _ _ t ⟨p1, coupled_congr p2 rfl rfl, henq _ p3⟩
        · split <;> exact then_tail c _ _ _ _ t ⟨p1, coupled_congr p2 rfl rfl, p3⟩
      · unfold stepItemPlain
        split
        · exact keeps_quiet hc hq rfl rfl rfl
        · split
          · exact tail_coupled c _ _ _ t (coupled_congr hc rfl rfl) hq
          · exact tail_coupled c _ _ _ t (coupled_congr hc rfl rfl) (henq _ hq)
  | _ =>
    rcases htick nofun with ⟨nf, up, -, h⟩ | ⟨_, h⟩ <;> rw [h]
    · exact tail_coupled c _ _ _ t (coupled_congr hc rfl rfl) hq
    · refine tail_coupled c _ _ _ t (coupled_congr hc rfl rfl) (fun i hi => ?_)
      rw [List.mem_singleton.mp hi]
      exact fun h => absurd h (show bPing ≠ bSelect by decide)

theorem run_coupled (c : SCfg) (s : SState) (evs : List Ev) (t : TState)
    (hc : Coupled s t) (hq : ∀ i ∈ s.queue, SelOK i)
    (hev : ∀ ev ∈ evs, ∀ it, ev = .item it → SelOK it) :
    AllPrefixes RunIdInv t (bodies (run c s evs).2) := by
  induction evs generalizing s t with
  | nil => simpa [run, bodies] using allPrefixes_nil hc.2.2
  | cons ev rest ih =>
    obtain ⟨h1, h2, h3⟩ := step_coupled c s ev t hc hq (hev ev (List.mem_cons_self ..))
    simp only [run]
    split
    · exact h1
    · rw [bodies_append]
      exact allPrefixes_append h1
        (ih _ _ h2 h3 (fun e he => hev e (List.mem_cons_of_mem _ he)))

theorem mem_parserItems {c : PCfg} {start : Int} {raws : List Raw} {i : Item}
    (h : i ∈ parserItems c start raws) :
    i = selectItem c.startDbId start ∨ i ∈ parseAll c { lastSent := start } raws := by
  rcases List.mem_append.mp h with h | h
  · split at h
    · exact Or.inl (List.mem_singleton.mp h)
    · cases h
  · exact Or.inr h

theorem mem_itemsOf {evs : List Ev} {it : Item} (h : Ev.item it ∈ evs) : it ∈ itemsOf evs := by
  induction evs with
  | nil => cases h
  | cons ev rest ih =>
    rcases List.mem_cons.mp h with rfl | h'
    · simp [itemsOf]
    · cases ev <;> simp [itemsOf, ih h']

theorem parseStep_emit_selOK (c : PCfg) (s : PState) (r : Raw) (i : Item)
    (hsel : r.cmd = bSelect → ∀ a n, r.args = [a] → atoi? a = some n → 0 ≤ n)
    (h : (parseStep c s r).2 = POut.emit i) : SelOK i := by
  rcases parseStep_cases c s r with ⟨b, h'⟩ | h' | ⟨x, n, _, _, _, _, _, h'⟩ | ⟨a, b, off, hneg, _, h'⟩ <;>
    rw [h'] at h <;> cases h
  · exact fun _ cur => selArg_selectItem cur _ r.off
  · intro hs
    obtain ⟨x, n, hx, hn, hlt⟩ := hneg hs
    have := hsel hs x n hx hn
    omega

theorem parseAll_mem_emit (c : PCfg) (L : List Raw) (s : PState) :
    ∀ i ∈ parseAll c s L, ∃ r ∈ L, ∃ s', (parseStep c s' r).2 = POut.emit i := by
  induction L generalizing s with
  | nil => intro i hi; simp [parseAll] at hi
  | cons r rest ih =>
    intro i hi
    have tl : ∀ s', i ∈ parseAll c s' rest → ∃ r' ∈ r :: rest, ∃ s', (parseStep c s' r').2 = POut.emit i :=
      fun s' h => (ih s' i h).imp fun r' h' => ⟨List.mem_cons_of_mem _ h'.1, h'.2⟩
    simp only [parseAll] at hi
    cases hps : parseStep c s r with
    | mk s' o =>
      rw [hps] at hi
      cases o with
      | fail => cases hi
      | skip => exact tl s' hi
      | emit j =>
        rcases List.mem_cons.mp hi with rfl | hi'
        · exact ⟨r, List.mem_cons_self .., s, by rw [hps]⟩
        · exact tl s' hi'

theorem parseAll_selOK (c : PCfg) (raws : List Raw) (s : PState)
    (hsel : ∀ r ∈ raws, r.cmd = bSelect → ∀ a n, r.args = [a] → atoi? a = some n → 0 ≤ n) :
    ∀ i ∈ parseAll c s raws, SelOK i := by
  intro i hi
  obtain ⟨r, hr, s', h⟩ := parseAll_mem_emit c raws s i hi
  exact parseStep_emit_selOK c s' r i (hsel r hr) h

end GunYu.Sender
