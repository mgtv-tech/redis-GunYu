/-
  C17 — a sender session keeps `Good`: alone, cut after any number of requests on the wire (`good_life`), and
  with gc passes BESIDE it (Model/BookSys.lean `sessionRun`, `good_session`).

  The sender's theorems (Proofs/BookLife.lean `life_abs`, imported from Props.C02 / C02Lives / C07) speak about
  the pure run: the wire log applied to the abstract target the session found (`absOf`). `RelP` (Proofs/
  BookAbs.lean) carries them over to the fields of the master id under the checkpoint key; the order invariant
  `NoAfter` makes what the pair of ids reads what the master id alone reads. gc spares the database of the
  largest offset, the writes of a session never decrease (Props.C02 `wire_ordered`), so the position stays the
  pure run's.
-/
import GunYu.Proofs.BookAbs
import GunYu.Proofs.BookLife
import GunYu.Proofs.BookWrites

namespace GunYu.BookSys
open GunYu GunYu.Checkpoint

set_option linter.unusedSimpArgs false
set_option linter.unusedVariables false

theorem lifeReqs_masWrite (c : Ctl) (ver : Bytes) (tr : List (Int × BkW))
    (hr : ∀ w ∈ tr, ∀ o, w.2 = BkW.off o → InRange o) :
    ∀ q ∈ tr.flatMap (writeReq c.key c.mas ver), MasWrite c q := by
  intro q hq
  obtain ⟨w, hw, hqw⟩ := List.mem_flatMap.mp hq
  unfold writeReq at hqw
  split at hqw
  · have : q = Req.hsetCp w.1.toNat c.key (senderEntries c.mas ver w.2) := by simpa using hqw
    subst this
    refine ⟨_, _, rfl, ?_⟩
    intro e he
    obtain ⟨wdb, ww⟩ := w
    cases ww with
    | rmeta =>
      simp only [senderEntries, List.mem_cons, List.not_mem_nil, or_false] at he
      rcases he with rfl | rfl
      · exact ⟨⟨fun h => by simp at h, fun _ => rfl⟩, rfl⟩
      · exact ⟨⟨fun h => by simp at h, fun h => by simp at h⟩, rfl⟩
    | off o =>
      simp only [senderEntries, List.mem_cons, List.not_mem_nil, or_false] at he
      subst he
      have hro := hr _ hw o rfl
      refine ⟨⟨fun _ => ?_, fun h => by simp at h⟩, rfl⟩
      show (Resp.parseInt64 (intToDec o)).isSome = true
      rw [Resp.parseInt64_intToDec o hro.1 hro.2]; rfl
  · simp at hqw

theorem writeReq_hset (n N ver : Bytes) (tr : List (Int × BkW)) :
    ∀ q ∈ tr.flatMap (writeReq n N ver), ∃ db n' es, q = Req.hsetCp db n' es := by
  intro q hq
  obtain ⟨w, _, hqw⟩ := List.mem_flatMap.mp hq
  unfold writeReq at hqw
  split at hqw
  · exact ⟨_, _, _, List.mem_singleton.mp hqw⟩
  · cases hqw

theorem hasKey_of_trace_off (N n ver : Bytes) : ∀ (tr : List (Int × BkW)) (t : Checkpoint.Target) (z o : Int),
    (z, BkW.off o) ∈ tr → 0 ≤ z →
    hasKey (N, Kind.offset) ((Checkpoint.applyAll t (tr.flatMap (writeReq n N ver))).cps z.toNat n) := by
  intro tr
  induction tr with
  | nil => intro t z o h; cases h
  | cons w tr ih =>
    intro t z o h hz
    simp only [List.flatMap_cons]
    rw [applyAll_append]
    rcases List.mem_cons.mp h with rfl | h'
    · -- written now; the later writes only add fields
      apply hasKey_mono_hsets _ (writeReq_hset n N ver tr)
      unfold writeReq
      simp only [hz, if_true, Checkpoint.applyAll, List.foldl_cons, List.foldl_nil]
      rw [applyReq_hsetCp_cps, if_pos ⟨rfl, rfl⟩, hasKey_hsetMany]
      exact Or.inl ⟨⟨N, .offset, intToDec o⟩, by simp [senderEntries], rfl⟩
    · exact ih _ z o h' hz

theorem uniqueMax_fold {cps : List (Int × Target.CpRec)} {tr : List (Int × BkW)} {z z' X Y : Int}
    (hm : Target.UniqueMax cps z X) (hm' : Target.UniqueMax (tr.foldl absW cps) z' Y)
    (hlo : ∀ w ∈ tr, ∀ o, w.2 = BkW.off o → X ≤ o) :
    X ≤ Y ∧ (z ≠ z' → X < Y) ∧ ((z' = z ∧ Y = X) ∨ ∃ o, (z', BkW.off o) ∈ tr ∧ Y = o) := by
  obtain ⟨v, hv, hXv⟩ := absFold_ge X z tr cps ⟨X, hm.1, Int.le_refl _⟩ hlo
  have hlt : z ≠ z' → X < Y := fun hne => Int.lt_of_le_of_lt hXv (hm'.2 z hne v hv)
  have hcases : (z' = z ∧ Y = X) ∨ ∃ o, (z', BkW.off o) ∈ tr ∧ Y = o := by
    rcases absFold_offset_cases z' tr cps with hc | ⟨o, ho, hc⟩
    · rw [hm'.1] at hc
      by_cases he : z' = z
      · subst he
        rw [hm.1] at hc
        exact Or.inl ⟨rfl, Option.some.inj hc⟩
      · exact absurd (hlt (fun h => he h.symm)) (Int.not_lt.mpr (Int.le_of_lt (hm.2 z' he Y hc.symm)))
    · rw [hm'.1] at hc
      exact Or.inr ⟨o, ho, Option.some.inj hc⟩
  refine ⟨?_, hlt, hcases⟩
  rcases hcases with ⟨_, h⟩ | ⟨o, ho, h⟩
  · exact Int.le_of_eq h.symm
  · exact h ▸ hlo _ ho o rfl

theorem good_after_writes {t t' : Checkpoint.Target} {c : Ctl} {X Y : Int} {d dN : Nat}
    (G : Good t c X d) (hl : c.lab = c.mas) (hp : c.pend = none) (hXY : X ≤ Y) (Fnr' : FrameNR t' c X d)
    (hold : ∀ db n e, e ∈ t'.cps db n → e.rid ≠ c.mas → e ∈ t.cps db n)
    (hYk : hasKey (c.mas, Kind.offset) (t'.cps dN c.key)) (hYv : offOf [c.mas] (t'.cps dN c.key) = Y)
    (hrid' : ∀ db, hasKey (c.mas, Kind.offset) (t'.cps db c.key) → hasKey (c.mas, Kind.runid) (t'.cps db c.key))
    (hNlt : ∀ db, db ≠ dN → ∀ x ∈ t'.cps db c.key, x.key = (c.mas, Kind.offset) →
      ∀ v, Resp.parseInt64 x.val = some v → v < Y)
    (hlt : dN ≠ d → X < Y) : Good t' c Y dN := by
  obtain ⟨C, F, hH, hC⟩ := G
  have hpar : ∀ db, Parses [c.mas, c.sec] (t'.cps db c.key) := fun db => parses_of_ok Fnr'.str _ db _
  have hqok := fun db => ridSel_ne_qmark Fnr'.str C.mq C.sq db c.key
  refine ⟨C, ?_, ?_, ?_⟩
  · refine (⟨Fnr'.hashL, Fnr'.hashM, Fnr'.str, Fnr'.ord, fun db => (Fnr'.sle db).mono hXY, ?_⟩ :
      FrameNR t' c Y dN).withRid hrid'
    intro p hp'; rw [hp] at hp'; cases hp'
  · refine ⟨Int.le_trans hH.nonneg hXY, hpar, ?_, ?_, ?_⟩
    · rw [offOf_pair_eq_one (Fnr'.ord _) (hpar _) hYk]; exact hYv
    · exact ridOf_ne_of_hasKey ((matchId_pair _ _ _).mpr (Or.inl rfl)) (hrid' _ hYk) (hqok _)
    · intro db hdb x hx hsx v hv
      rw [offSel_iff, matchId_pair] at hsx
      rcases hsx.1 with hm | hs
      · exact hNlt db hdb x hx (by show (x.rid, x.kind) = _; rw [hm, hsx.2]) v hv
      · have hxo := hold db c.key x hx (by rw [hs]; exact C.hne.symm)
        have hs1 : offSel [c.sec] x = true := by rw [offSel_iff, matchId_one]; exact ⟨hs, hsx.2⟩
        have hle := F.sle db x hxo hs1 v hv
        by_cases hdd : db = d
        · have := hlt (fun h => hdb (by rw [hdd, h]))
          omega
        · have hs2 : offSel [c.mas, c.sec] x = true := by
            rw [offSel_iff, matchId_pair]; exact ⟨Or.inr hs, hsx.2⟩
          have := hH.dom db hdd x hxo hs2 v hv
          omega
  · rw [hl]
    refine ⟨hYv, ridOf_ne_of_hasKey ((matchId_one _ _).mpr rfl) (hrid' _ hYk) ?_⟩
    intro x hx hsx
    apply hqok _ x hx
    rw [ridSel_iff] at hsx ⊢
    exact ⟨matchId_mas_pair c _ hsx.1, hsx.2⟩

def fullLog (sc : Sender.SCfg) (evs : List Sender.Ev) : List Sender.Req := (Sender.run sc Sender.initS evs).2.flatten

/-- the pure run: the abstract target after `j` requests of the wire log -/
def pureAt (T0 : Target.TState) (sc : Sender.SCfg) (evs : List Sender.Ev) (j : Nat) : Target.TState :=
  Target.applyLog T0 ((fullLog sc evs).take j)

/-- what a session starts from: the hypotheses of the sender's theorems, on the abstract target `T0` -/
structure SessCtx (pc : Sender.PCfg) (sc : Sender.SCfg) (raws : List Sender.Raw) (evs : List Sender.Ev)
    (X0 : Int) (d0 : Nat) (T0 : Target.TState) : Prop where
  H : LifeHyp pc sc raws X0 (d0 : Int) evs
  hX0 : 0 ≤ X0
  hq0 : T0.queued = none
  hc0 : T0.cur = 0
  hu0 : Target.UniqueMax T0.cps (d0 : Int) X0
  hr0 : Sender.RunIdInv T0

/-- after `j` requests of the wire log: `Good` for the pure run's position `(Xj, dj)`, which no later position
    write goes below -/
structure SessInv (c : Ctl) (t : Checkpoint.Target) (T0 : Target.TState) (sc : Sender.SCfg) (evs : List Sender.Ev)
    (j : Nat) (Xj : Int) (dj : Nat) : Prop where
  good : Good t c Xj dj
  rel : RelP c.mas c.key t (pureAt T0 sc evs j).cps
  max : Target.UniqueMax (pureAt T0 sc evs j).cps (dj : Int) Xj
  low : ∀ o ∈ Target.cpReqs ((fullLog sc evs).drop j), Xj ≤ o

theorem applyLog_sameConn (l : List Sender.Req) : ∀ {a b : Target.TState}, SameConn a b →
    SameConn (Target.applyLog a l) (Target.applyLog b l) := by
  induction l with
  | nil => intro a b h; exact h
  | cons r rs ih =>
    intro a b h
    simp only [Target.applyLog, List.foldl_cons]
    exact ih (applyReq_sameConn h r).2

theorem pureAt_add (T0 : Target.TState) (sc : Sender.SCfg) (evs : List Sender.Ev) (j m : Nat) :
    pureAt T0 sc evs (j + m) = Target.applyLog (pureAt T0 sc evs j) (((fullLog sc evs).drop j).take m) := by
  unfold pureAt
  rw [List.take_add, GunYu.Target.applyLog_append]

/-- **a piece of the session** (no MULTI open at its start): the invariant holds after it, for the pure run's
    position at that point -/
theorem seg_step (ver : Bytes) {pc : Sender.PCfg} {sc : Sender.SCfg} {raws : List Sender.Raw} {evs : List Sender.Ev}
    {X0 : Int} {d0 : Nat} {T0 : Target.TState} (S : SessCtx pc sc raws evs X0 d0 T0)
    {c : Ctl} {t : Checkpoint.Target} {j : Nat} {Xj : Int} {dj : Nat} (I : SessInv c t T0 sc evs j Xj dj)
    (hX : X0 ≤ Xj) (hl : c.lab = c.mas) (hp : c.pend = none) (hq : (pureAt T0 sc evs j).queued = none) (m : Nat)
    (hhi : ∀ w ∈ logTrace (pureAt T0 sc evs j) (((fullLog sc evs).drop j).take m), ∀ o, w.2 = BkW.off o → o < 2^63) :
    ∃ Y d', Xj ≤ Y ∧ SessInv c (applyAll t ((logTrace (pureAt T0 sc evs j) (((fullLog sc evs).drop j).take m)).flatMap
      (writeReq c.key c.mas ver))) T0 sc evs (j + m) Y d' := by
  obtain ⟨G, hrel, hmax, hlow⟩ := I
  have hG := G
  obtain ⟨C, F, hH, hC⟩ := G
  generalize hseg : ((fullLog sc evs).drop j).take m = seg at hhi ⊢
  generalize htr : logTrace (pureAt T0 sc evs j) seg = tr at hhi ⊢
  -- the remaining log splits into this piece and the rest; the positions it writes are sorted
  have hsplit : (fullLog sc evs).drop j = seg ++ (fullLog sc evs).drop (j + m) := by
    rw [← hseg, ← List.drop_drop, List.take_append_drop]
  have hsorted : (Target.cpReqs ((fullLog sc evs).drop j)).Pairwise (· ≤ ·) := by
    have h1 := life_sorted pc sc raws X0 d0 evs S.H S.hX0
    have h2 : fullLog sc evs = (fullLog sc evs).take j ++ (fullLog sc evs).drop j := (List.take_append_drop _ _).symm
    unfold fullLog at h2 ⊢
    rw [h2, cpReqs_append] at h1
    exact (List.pairwise_append.mp h1).2.1
  have htroff : ∀ w ∈ tr, ∀ o, w.2 = BkW.off o → o ∈ Target.cpReqs seg :=
    fun w hw o ho => logTrace_off_idle hq (htr ▸ hw) ho
  have hsegsub : ∀ o ∈ Target.cpReqs seg, o ∈ Target.cpReqs ((fullLog sc evs).drop j) := by
    intro o ho; rw [hsplit, cpReqs_append]; exact List.mem_append_left _ ho
  have hlo : ∀ w ∈ tr, ∀ o, w.2 = BkW.off o → Xj ≤ o := fun w hw o ho => hlow o (hsegsub o (htroff w hw o ho))
  have hrange : ∀ w ∈ tr, ∀ o, w.2 = BkW.off o → InRange o := by
    intro w hw o ho
    have h1 := hlo w hw o ho
    have h2 := hH.nonneg
    exact ⟨by omega, hhi w hw o ho⟩
  have hP : (pureAt T0 sc evs (j + m)).cps = tr.foldl absW (pureAt T0 sc evs j).cps := by
    rw [pureAt_add, hseg, logTrace_cps, htr]
  have hrel' := relP_fold (ver := ver) tr hrel hrange
  rw [← hP] at hrel'
  have hmw := lifeReqs_masWrite c ver tr hrange
  obtain ⟨Fnr', hold⟩ := frameNR_masWrites C (tr.flatMap (writeReq c.key c.mas ver)) F.nr hmw
  have hmono := fun db => hasKey_mono_hsets (k := (c.mas, Kind.offset)) (db := db) (n := c.key) (t := t) _
    (writeReq_hset c.key c.mas ver tr)
  obtain ⟨d', Y, hd'0, hX0Y, hum, hrun, _⟩ := life_abs pc sc raws X0 d0 evs S.H S.hX0
    (Int.natCast_nonneg d0) T0 S.hq0 S.hc0 S.hu0 S.hr0 (j + m)
  have hum' : Target.UniqueMax (pureAt T0 sc evs (j + m)).cps d' Y := hum
  have hrun' : Sender.RunIdInv (pureAt T0 sc evs (j + m)) := hrun
  generalize ht' : applyAll t (tr.flatMap (writeReq c.key c.mas ver)) = t' at hrel' Fnr' hold hmono
  have hdN : ((d'.toNat : Nat) : Int) = d' := Int.toNat_of_nonneg hd'0
  have hkd := hG.masOffset hl
  -- the pure run's position moved up, to the value of an offset write of the piece, or stayed
  obtain ⟨hXjY, hltI, hmove⟩ := uniqueMax_fold hmax (hP ▸ hum') hlo
  have hYk : hasKey (c.mas, Kind.offset) (t'.cps d'.toNat c.key) := by
    rcases hmove with ⟨he, _⟩ | ⟨o, ho, _⟩
    · exact hmono _ (by rw [he, Int.toNat_natCast]; exact hkd)
    · exact ht' ▸ hasKey_of_trace_off c.mas c.key ver tr t d' o ho hd'0
  have hYv : offOf [c.mas] (t'.cps d'.toNat c.key) = Y := by
    have := hrel'.offset_of_hasKey hYk
    rw [hdN, hum'.1] at this
    exact (Option.some.inj this).symm
  have hlt : d'.toNat ≠ dj → Xj < Y := fun hne => hltI (fun he => hne (by rw [← he]; simp))
  have hrid' : ∀ db, hasKey (c.mas, Kind.offset) (t'.cps db c.key) → hasKey (c.mas, Kind.runid) (t'.cps db c.key) := by
    intro db hk
    have h2 := hrun' (db : Int) _ (hrel'.offset_of_hasKey hk)
    rw [← (hrel' db).1] at h2
    simpa [absRec] using h2
  have hNlt : ∀ db, db ≠ d'.toNat → ∀ x ∈ t'.cps db c.key, x.key = (c.mas, Kind.offset) →
      ∀ v, Resp.parseInt64 x.val = some v → v < Y := by
    intro db hdb x hx hk v hv
    have hne : (db : Int) ≠ d' := fun h => hdb (by rw [← h]; simp)
    apply hum'.2 (db : Int) hne v
    rw [hrel'.offset_of_hasKey ⟨x, hx, hk⟩, offOf_one_of_mem (Fnr'.str.nodup db c.key) hx hk hv]
  refine ⟨Y, d'.toNat, hXjY, good_after_writes hG hl hp hXjY Fnr' hold hYk hYv hrid' hNlt hlt, hrel', hdN ▸ hum', ?_⟩
  -- the position is at most every position still to be written
  intro o ho
  have hrest : o ∈ Target.cpReqs ((fullLog sc evs).drop j) := by
    rw [hsplit, cpReqs_append]; exact List.mem_append_right _ ho
  rcases hmove with ⟨_, hY⟩ | ⟨o', ho', hY⟩
  · rw [hY]; exact hlow o hrest
  · rw [hY]
    rw [hsplit, cpReqs_append] at hsorted
    exact (List.pairwise_append.mp hsorted).2.2 o' (htroff _ ho' o' rfl) o ho

/-- **a gc pass beside the session** (stopped after any number of its requests) keeps the invariant -/
theorem gc_step {c : Ctl} {t : Checkpoint.Target} {T0 : Target.TState} {sc : Sender.SCfg} {evs : List Sender.Ev}
    {j : Nat} {Xj : Int} {dj : Nat} (I : SessInv c t T0 sc evs j Xj dj) (g : GcPass)
    (h1 : c.mas ∈ g.live) (h2 : c.sec ∈ g.live) :
    SessInv c (applyAll t ((gcReqs t g.live g.before g.orders).take g.k)) T0 sc evs j Xj dj := by
  obtain ⟨G, hrel, hmax, hlow⟩ := I
  refine ⟨good_gc G g.live h1 h2 g.before g.orders g.k, ?_, hmax, hlow⟩
  have hshape : ∀ q ∈ (gcReqs t g.live g.before g.orders).take g.k,
      (∃ db name ρ b, q = Req.hdelCp db name (staleKeys ρ b) ∧ (ρ = c.mas → b = true)) ∨ (∃ rid, q = Req.hdelHash rid) := by
    intro q hq
    rcases gcLoop_shape g.live g.before t.hash g.orders t G.fr.str q (mem_take hq) with ⟨db, name, ρ, b, rfl, _, hb⟩ | ⟨rid, rfl, _⟩
    · exact Or.inl ⟨db, name, ρ, b, rfl, fun h => hb (h ▸ h1) (h ▸ G.ctl.mq)⟩
    · exact Or.inr ⟨rid, rfl⟩
  exact applyAll_inv (I := fun t => RelP c.mas c.key t _) (fun _ q hrel hq => relP_gcReq hrel q hq) _ hrel hshape

/-- the abstract target the sender's theorems are applied to is `absOf` of the state, on its finite support -/
theorem session_start {t : Checkpoint.Target} {c : Ctl} {X : Int} {d : Nat} (G : Good t c X d) (hl : c.lab = c.mas)
    {pc : Sender.PCfg} {sc : Sender.SCfg} {raws : List Sender.Raw} {evs : List Sender.Ev}
    (H : LifeHyp pc sc raws X (d : Int) evs) :
    ∃ T0, SessCtx pc sc raws evs X d T0 ∧ SessInv c t T0 sc evs 0 X d := by
  obtain ⟨dbs, hfin⟩ := G.fr.str.fin
  have hC' : Carrier c.mas t c.key d X := hl ▸ G.carr
  have habs : ∀ db : Nat, Target.getCp (absOf c.mas c.key dbs t).cps (db : Int) = absRec c.mas (t.cps db c.key) :=
    getCp_absOf (fun db' h => hfin db' h c.key)
  have hkd := G.masOffset hl
  have hu : Target.UniqueMax (absOf c.mas c.key dbs t).cps (d : Int) X := by
    constructor
    · rw [habs d, absRec_offset_of hkd, hC'.1]
    · intro d' hd' o' ho'
      obtain ⟨db, rfl, _, hv⟩ := absOf_offset_some (fun db' h => hfin db' h c.key) ho'
      have := offOf_lt_of_below (G.masBelow db (fun h => hd' (by rw [h]))) G.holds.nonneg
      omega
  have hr : Sender.RunIdInv (absOf c.mas c.key dbs t) := by
    intro d0 o ho
    obtain ⟨db, rfl, hk, _⟩ := absOf_offset_some (fun db' h => hfin db' h c.key) ho
    rw [habs db]
    have := G.fr.hasrid _ hk
    simp [absRec, this]
  refine ⟨absOf c.mas c.key dbs t, ⟨H, G.holds.nonneg, rfl, rfl, hu, hr⟩,
    G, fun db => by rw [← habs db]; exact ⟨rfl, Or.inl rfl⟩, hu, ?_⟩
  -- every position the session writes is at or above the start (imported: Props.C02 `resumed_wire`)
  intro o ho
  have hcp := (Props.C02.resumed_wire sc _ raws X evs H.items H.sorted H.above G.holds.nonneg).2.1
  rw [Sender.cpOffsetsB_bodies _ (Sender.run_wf sc Sender.initS evs)] at hcp
  rw [List.drop_zero] at ho
  unfold fullLog at ho
  rw [GunYu.Target.cpReqs_flatten] at ho
  exact hcp o ho

/-- **One sender life keeps `Good`.** The position is labelled with the master id (the relabel, if
    any, is complete), no rename is pending; the session replays the source stream after the stored
    position `(X, d)` (`LifeHyp`: the hypotheses of `Props.C02.Lives`) and the target dies after ANY
    number `k` of the requests on the wire. Then `Good` holds again, for a position `(Y, d')` with
    `X ≤ Y`. (`hhi`: the offsets written are int64, as they are in the code by type.) -/
theorem good_life (ver : Bytes) {t : Checkpoint.Target} {c : Ctl} {X : Int} {d : Nat} (G : Good t c X d)
    (hl : c.lab = c.mas) (hp : c.pend = none)
    (pc : Sender.PCfg) (sc : Sender.SCfg) (raws : List Sender.Raw) (evs : List Sender.Ev)
    (H : LifeHyp pc sc raws X (d : Int) evs) (k : Nat)
    (hhi : ∀ w ∈ logTrace {} ((Sender.run sc Sender.initS evs).2.flatten.take k),
      ∀ o, w.2 = BkW.off o → o < 2^63) :
    ∃ Y d', X ≤ Y ∧
      Good (applyAll t (lifeReqs c.key c.mas ver ((Sender.run sc Sender.initS evs).2.flatten.take k))) c Y d' := by
  obtain ⟨T0, S, I0⟩ := session_start G hl H
  -- the piece of the session from its start to the cut; the trace only depends on the connection state
  have hconn : logTrace {} ((fullLog sc evs).take k) = logTrace (pureAt T0 sc evs 0) (((fullLog sc evs).drop 0).take k) :=
    logTrace_congr _ ⟨S.hc0.symm, S.hq0.symm⟩
  obtain ⟨Y, d', hXY, I1⟩ := seg_step ver S I0 (Int.le_refl _) hl hp S.hq0 k (hconn ▸ hhi)
  refine ⟨Y, d', hXY, ?_⟩
  show Good (applyAll t ((logTrace {} ((fullLog sc evs).take k)).flatMap (writeReq c.key c.mas ver))) c Y d'
  rw [hconn]; exact I1.good

theorem good_session_aux (ver : Bytes) {pc : Sender.PCfg} {sc : Sender.SCfg} {raws : List Sender.Raw}
    {evs : List Sender.Ev} {X0 : Int} {d0 : Nat} {T0 : Target.TState} (S : SessCtx pc sc raws evs X0 d0 T0)
    {c : Ctl} (hl : c.lab = c.mas) (hp : c.pend = none) :
    ∀ (sched : List (Nat × Option GcPass)) (conn : Target.TState) (t : Checkpoint.Target) (j : Nat) (Xj : Int) (dj : Nat),
      SameConn conn (pureAt T0 sc evs j) → SessInv c t T0 sc evs j Xj dj → X0 ≤ Xj →
      (pureAt T0 sc evs j).queued = none → (∀ o ∈ Target.cpReqs ((fullLog sc evs).drop j), o < 2^63) →
      SchedOK c.mas c.sec conn ((fullLog sc evs).drop j) sched →
      ∃ Y d', Xj ≤ Y ∧ Good (sessionRun c.key c.mas ver conn t ((fullLog sc evs).drop j) sched) c Y d' := by
  intro sched
  induction sched with
  | nil => intro conn t j Xj dj _ I _ _ _ _; exact ⟨Xj, dj, Int.le_refl _, I.good⟩
  | cons pg rest ih =>
    intro conn t j Xj dj hconn I hX hq hhi hok
    obtain ⟨n, g⟩ := pg
    obtain ⟨hq', hlive, hrest⟩ := hok
    simp only [sessionRun]
    rw [logTrace_congr _ hconn]
    have hsplit : (fullLog sc evs).drop j = ((fullLog sc evs).drop j).take n ++ (fullLog sc evs).drop (j + n) := by
      rw [← List.drop_drop, List.take_append_drop]
    rw [hsplit, cpReqs_append] at hhi
    obtain ⟨Y, d', hXY, I1⟩ := seg_step ver S I hX hl hp hq n
      (fun w hw o ho => hhi o (List.mem_append_left _ (logTrace_off_idle hq hw ho)))
    have hhi' := fun o ho => hhi o (List.mem_append_right _ ho)
    have hconn' : SameConn (Target.applyLog conn (((fullLog sc evs).drop j).take n)) (pureAt T0 sc evs (j + n)) := by
      rw [pureAt_add]; exact applyLog_sameConn _ hconn
    rw [List.drop_drop] at hrest ⊢
    have hXY0 : X0 ≤ Y := Int.le_trans hX hXY
    cases g with
    | none =>
      simp only
      cases rest with
      | nil => simp only [sessionRun]; exact ⟨Y, d', hXY, I1.good⟩
      | cons pg' rest' =>
        have hqn : (pureAt T0 sc evs (j + n)).queued = none := by
          rw [← hconn'.2]; exact hq' (Or.inr (by simp))
        obtain ⟨Y2, d2, hY2, G2⟩ := ih _ _ _ _ _ hconn' I1 hXY0 hqn hhi' hrest
        exact ⟨Y2, d2, Int.le_trans hXY hY2, G2⟩
    | some gp =>
      simp only
      obtain ⟨hl1, hl2⟩ := hlive gp rfl
      have I2 := gc_step I1 gp hl1 hl2
      have hqn : (pureAt T0 sc evs (j + n)).queued = none := by
        rw [← hconn'.2]; exact hq' (Or.inl rfl)
      obtain ⟨Y2, d2, hY2, G2⟩ := ih _ _ _ _ _ hconn' I2 hXY0 hqn hhi' hrest
      exact ⟨Y2, d2, Int.le_trans hXY hY2, G2⟩

/-- **A sender session with gc passes beside it keeps `Good`** — the production case: `gcStaleCheckpoint` is a
    cron of the replaying process. -/
theorem good_session (ver : Bytes) {t : Checkpoint.Target} {c : Ctl} {X : Int} {d : Nat} (G : Good t c X d)
    (hl : c.lab = c.mas) (hp : c.pend = none)
    (pc : Sender.PCfg) (sc : Sender.SCfg) (raws : List Sender.Raw) (evs : List Sender.Ev)
    (H : LifeHyp pc sc raws X (d : Int) evs)
    (hhi : ∀ o ∈ Target.cpReqs (fullLog sc evs), o < 2^63)
    (sched : List (Nat × Option GcPass)) (hok : SchedOK c.mas c.sec {} (fullLog sc evs) sched) :
    ∃ Y d', X ≤ Y ∧ Good (sessionRun c.key c.mas ver {} t (fullLog sc evs) sched) c Y d' := by
  obtain ⟨T0, S, I0⟩ := session_start G hl H
  exact good_session_aux ver S hl hp sched {} t 0 X d ⟨S.hc0.symm, S.hq0.symm⟩ I0 (Int.le_refl _) S.hq0 hhi hok

end GunYu.BookSys
