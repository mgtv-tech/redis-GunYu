/-
  Preservation of the etcd election invariant by Resign, Renew, Campaign and
  the session / clock events; `inv_run`.
-/
import GunYu.Proofs.EtcdInv


namespace GunYu.Etcd
open GunYu

theorem inv_resign (idOf : Nat → Bytes) {s : Sys} (h : Inv s) (p : Bytes) (L f : Nat) :
    Inv (resignStep idOf s p L f).1 := by
  unfold resignStep
  dsimp only
  rw [resignTxn_eval]
  have same := @inv_untold s h L p s.st { s.el L p with key := nulKey } h.wf (Nat.le_refl _)
    (fun _ hkv => Or.inl hkv) (Or.inr (Or.inl rfl)) (h.elRev L p)
  by_cases hf1 : f = 1
  · simp only [hf1, ↓reduceIte]; exact same
  simp only [hf1, ↓reduceIte]
  unfold resignTxnSpec
  by_cases hk : (s.el L p).key = []
  · simp only [hk, ↓reduceIte]; exact same
  simp only [hk, ↓reduceIte]
  by_cases hc : some (createRevOf s.st.kvs (s.el L p).key) = (s.el L p).rev
  · simp only [hc, ↓reduceIte]
    exact inv_untold h L p (wf_delKV h.wf _ _ (le_bump _ _)) (le_bump _ _)
      (fun _ hkv => Or.inl (mem_delKV hkv)) (Or.inr (Or.inl rfl))
      (fun r hr => Nat.le_trans (h.elRev L p r hr) (le_bump _ _))
  · simp only [hc, ↓reduceIte]; exact same

theorem inv_told_only {s : Sys} (h : Inv s) (p : Bytes) (L : Nat) (b : Bool)
    (hb : b = true → (s.el L p).key = keyOf p L ∧
      ∀ kv ∈ s.st.kvs, kv.key = keyOf p L → some kv.create = (s.el L p).rev →
        ∀ kv' ∈ s.st.kvs, p.isPrefixOf kv'.key = true → kv.create ≤ kv'.create) :
    Inv { s with told := setTold s.told p L b } := by
  refine inv_step h h.wf (Nat.le_refl _) (fun kv hkv => Or.inl hkv)
    (hel_local L p (fun _ _ _ => rfl) (fun p' L' hq => setTold_other _ _ _ _ _ _ hq) (Or.inr ?_))
  refine ⟨h.elKey L p, h.elRev L p, fun ht => ?_⟩
  have : b = true := by
    have e : setTold s.told p L b p L = b := setTold_same _ _ _ _
    rw [← e]; exact ht
  exact hb this

theorem inv_renew (idOf : Nat → Bytes) {s : Sys} (h : Inv s) (p : Bytes) (L f : Nat) :
    Inv (renewStep idOf s p L f).1 := by
  unfold renewStep
  dsimp only
  rw [renewGet_eval]
  by_cases hf1 : f = 1
  · simp only [hf1, ↓reduceIte]; exact h
  simp only [hf1, ↓reduceIte]
  by_cases hp : p = []
  · simp only [hp, ↓reduceIte]; exact h
  simp only [hp, ↓reduceIte]
  cases hfc : firstCreate s.st.kvs p with
  | none =>
    simp only [Option.toList, List.head?]
    exact inv_told_only h p L false (fun hb => by cases hb)
  | some kv =>
    simp only [Option.toList, List.head?]
    obtain ⟨hmem, hpre, hmin⟩ := firstCreate_some hfc
    by_cases hown : kv.key = (s.el L p).key ∧ some kv.create = (s.el L p).rev
    · simp only [hown, and_self, ↓reduceIte]
      refine inv_told_only h p L true (fun _ => ?_)
      refine ⟨h.elKey_of_mem hmem hown.1, fun kv2 hkv2 _ hc2 kv' hkv' hp' => ?_⟩
      have : kv2.create = kv.create := by
        have := hc2.trans hown.2.symm
        exact Option.some.inj this
      rw [this]; exact hmin kv' hkv' hp'
    · simp only [hown, ↓reduceIte]
      exact inv_told_only h p L false (fun hb => by cases hb)

theorem inv_campTxn (idOf : Nat → Bytes) {s : Sys} (h : Inv s) (p : Bytes) (L f : Nat) :
    Inv (campTxn idOf s p L f).1 := by
  unfold campTxn
  dsimp only
  rw [campaignTxn_eval _ _ (fun kv hkv => (h.wf.pos kv hkv).1)]
  have hrevb := h.elRev L p
  -- setting only the key field: nothing changes if the instance is told, else it is untold
  have hkeyonly : ∀ (st' : Store), Wf st'.kvs st'.rev → s.st.rev ≤ st'.rev →
      (∀ kv ∈ st'.kvs, kv ∈ s.st.kvs ∨ s.st.rev < kv.create) →
      Inv { st := st', el := setEl s.el L p { s.el L p with key := keyOf p L }, told := s.told } := by
    intro st' hwf hrev hkvs
    refine inv_step h hwf hrev hkvs (hel_local L p (fun L' p' hq => setEl_other _ _ _ _ _ _ hq)
      (fun _ _ _ => rfl) ?_)
    by_cases ht : s.told p L = true
    · left
      refine ⟨?_, fun x => x⟩
      dsimp only; rw [setEl_same]
      have := (h.told p L ht).1
      cases he : s.el L p with
      | mk k r pd => rw [he] at this; simp only at this; subst this; rfl
    · right
      refine elOk_untold ?_ ?_ (by simpa using ht)
      · dsimp only; rw [setEl_same]; exact Or.inr (Or.inr rfl)
      · dsimp only; rw [setEl_same]; intro r hr; exact Nat.le_trans (hrevb r hr) hrev
  -- key and revision are set; told "leader" only if the caller's revision is the least under the prefix
  have howner : ∀ (st' : Store) (c : Nat) (pend told : Bool), Wf st'.kvs st'.rev → s.st.rev ≤ st'.rev →
      (∀ kv ∈ st'.kvs, kv ∈ s.st.kvs ∨ s.st.rev < kv.create) → c ≤ st'.rev →
      (told = true → ownerIs st'.kvs p c = true) →
      Inv { st := st', el := setEl s.el L p { key := keyOf p L, rev := some c, pend := pend },
            told := setTold s.told p L told } := by
    intro st' c pend told hwf hrev hkvs hc ho
    refine inv_step h hwf hrev hkvs (hel_local L p (fun _ _ hq => setEl_other _ _ _ _ _ _ hq)
      (fun _ _ hq => setTold_other _ _ _ _ _ _ hq)
      (Or.inr ⟨?_, ?_, fun ht => ⟨?_, fun kv _ _ hkc kv' hkv' hp' => ?_⟩⟩))
    · dsimp only; rw [setEl_same]; exact Or.inr (Or.inr rfl)
    · dsimp only; rw [setEl_same]; intro r hr; cases hr; exact hc
    · dsimp only; rw [setEl_same]
    · dsimp only at hkc ht; rw [setEl_same] at hkc; rw [setTold_same] at ht
      cases hkc
      exact ownerIs_min (ho ht) kv' hkv' hp'
  have hsame := hkeyonly s.st h.wf (Nat.le_refl _) (fun kv hkv => Or.inl hkv)
  by_cases hf1 : f = 1
  · simp only [hf1, ↓reduceIte]; exact hsame
  simp only [hf1, ↓reduceIte]
  unfold campaignTxnSpec
  have hkne : keyOf p L ≠ [] := keyOf_ne_nil p L
  by_cases hp : p = []
  · simp only [hp, or_true, ↓reduceIte]
    rw [← hp]; exact hsame
  simp only [hkne, hp, or_self, ↓reduceIte]
  cases hfk : findKey s.st.kvs (keyOf p L) with
  | none =>
    simp only []
    by_cases hl : s.st.leaseLive L = true
    · simp only [hl, ↓reduceIte]
      have hwf' : Wf (s.st.kvs ++ [newKV { key := keyOf p L, pfx := p, val := idOf L, lease := L, rev := (s.el L p).rev } s.st])
          (s.st.rev + 1) :=
        h.wf.append _ (fun x hx => findKey_none hfk x hx) rfl ⟨keyOf_ne_nil p L, keyOf_ne_nul p L⟩
      have hkvs' : ∀ kv ∈ s.st.kvs ++ [newKV { key := keyOf p L, pfx := p, val := idOf L, lease := L, rev := (s.el L p).rev } s.st],
          kv ∈ s.st.kvs ∨ s.st.rev < kv.create := by
        intro kv hkv
        rcases List.mem_append.1 hkv with hkv | hkv
        · exact Or.inl hkv
        · simp at hkv; subst hkv; right; simp [newKV]
      by_cases hf2 : f = 2
      · simp only [hf2, ↓reduceIte]
        exact hkeyonly _ hwf' (Nat.le_succ _) hkvs'
      simp only [hf2, ↓reduceIte, Gen.etcdOwnerResp, List.getElem?_cons_succ, List.getElem?_cons_zero,
        ownerTest_eq]
      split
      · next ho => exact howner _ _ false true hwf' (Nat.le_succ _) hkvs' (Nat.le_refl _) (fun _ => ho)
      · exact howner _ _ true false hwf' (Nat.le_succ _) hkvs' (Nat.le_refl _) (fun ht => by cases ht)
    · simp only [hl, Bool.false_eq_true, ↓reduceIte]; exact hsame
  | some own =>
    simp only []
    by_cases hf2 : f = 2
    · simp only [hf2, ↓reduceIte]; exact hsame
    simp only [hf2, ↓reduceIte, Gen.etcdOwnerResp, Gen.etcdOwnResp, Bool.false_eq_true,
      List.getElem?_cons_succ, List.getElem?_cons_zero, List.getD_cons_zero, List.head?_cons, Option.map_some,
      ownerTest_eq]
    have hle : own.create ≤ s.st.rev := (h.wf.pos own (findKey_some hfk).1).2
    split
    · next ho => exact howner _ _ false true h.wf (Nat.le_refl _) (fun _ hkv => Or.inl hkv) hle (fun _ => ho)
    · exact howner _ _ true false h.wf (Nat.le_refl _) (fun _ hkv => Or.inl hkv) hle (fun ht => by cases ht)

theorem inv_campaign (idOf : Nat → Bytes) {s : Sys} (h : Inv s) (p : Bytes) (L f : Nat) :
    Inv (campaignStep idOf s p L f).1 := by
  unfold campaignStep
  simp only []
  split
  · exact inv_campDel idOf (inv_campTxn idOf h p L f) p L f
  · exact inv_campTxn idOf h p L f

theorem inv_stepEv (idOf : Nat → Bytes) {s : Sys} (h : Inv s) (ev : Ev) : Inv (step idOf s ev).1 := by
  cases ev with
  | grant L ttl =>
    simp only [step]
    split
    · exact h
    · exact inv_leases h _
  | keepAlive L =>
    simp only [step]
    split
    · split
      · exact inv_leases h _
      · exact h
    · exact h
  | revoke L =>
    simp only [step]
    split
    · exact inv_kvs_filter h _ _ _
    · exact h
  | campaign p L f => exact inv_campaign idOf h p L f
  | campTxn p L f => exact inv_campTxn idOf h p L f
  | campDel p L f => exact inv_campDel idOf h p L f
  | renew p L f => exact inv_renew idOf h p L f
  | resign p L f => exact inv_resign idOf h p L f
  | leader p => exact h
  | tick d => exact inv_kvs_filter h _ _ _

theorem inv_run (idOf : Nat → Bytes) : ∀ (evs : List Ev) {s : Sys}, Inv s → Inv (run idOf s evs)
  | [], _, h => h
  | ev :: rest, _, h => inv_run idOf rest (inv_stepEv idOf h ev)

theorem holder_unique_of_inv {s : Sys} (h : Inv s) {p : Bytes} {L1 L2 : Nat}
    (h1 : holder s p L1) (h2 : holder s p L2) : L1 = L2 := by
  obtain ⟨t1, kv1, hm1, hk1, hc1⟩ := h1
  obtain ⟨t2, kv2, hm2, hk2, hc2⟩ := h2
  obtain ⟨e1, min1⟩ := h.told p L1 t1
  obtain ⟨e2, min2⟩ := h.told p L2 t2
  rw [e1] at hk1
  rw [e2] at hk2
  have p1 : p.isPrefixOf kv1.key = true := by rw [hk1]; exact keyOf_prefix p L1
  have p2 : p.isPrefixOf kv2.key = true := by rw [hk2]; exact keyOf_prefix p L2
  have a := min1 kv1 hm1 hk1 hc1 kv2 hm2 p2
  have b := min2 kv2 hm2 hk2 hc2 kv1 hm1 p1
  have heq : kv1 = kv2 := h.wf.eq_of_create hm1 hm2 (by omega)
  rw [heq] at hk1
  exact keyOf_inj (hk1.symm.trans hk2)

end GunYu.Etcd
