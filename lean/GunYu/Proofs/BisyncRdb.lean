/-
  Helper lemmas for C18, snapshot phase: every command of the list
  `buildBisyncRdbReplayUnit` assembles (expanded form with key rewriting,
  DEL prefix, PEXPIRE suffix; RESTORE form) resolves to exactly the target key.
-/
import GunYu.Proofs.BisyncCommit
import GunYu.Proofs.FilterKeys
import GunYu.Proofs.FilterParse

namespace GunYu.BisyncUnit
open GunYu

/-- what an object parser hands over for an entry with key `src`: the static
    tables name key positions, all holding `src`, and those positions do not
    move when the arguments there are replaced by `tgt` -/
def RawOn (src tgt : Bytes) (c : Cmd) : Prop :=
  ∃ idx, Filter.keyIndexes (lower c.name) c.args = some idx ∧
    (∀ i ∈ idx, c.args.getD i [] = src) ∧
    Filter.keyIndexes (lower c.name) (rewriteRdbKeys (lower c.name) c.args src tgt) = some idx

/-- all resolved keys of `c` are `tgt`, and there is at least one -/
def OnKey (tgt : Bytes) (c : Cmd) : Prop :=
  ∃ ks, commandKeys c.name c.args = some ks ∧ ks ≠ [] ∧ ∀ x ∈ ks, x = tgt

theorem rewrite_length (name : Bytes) (args : List Bytes) (src tgt : Bytes) :
    (rewriteRdbKeys name args src tgt).length = args.length := by
  unfold rewriteRdbKeys
  split
  · rfl
  · split
    · rfl
    · exact List.length_mapIdx

theorem rewrite_getD (name : Bytes) (args : List Bytes) (src tgt : Bytes) (idx : List Nat)
    (hidx : Filter.keyIndexes name args = some idx) (hemp : src.isEmpty = true → tgt = src)
    (i : Nat) (hi : i ∈ idx) (hlt : i < args.length) (hsrc : args.getD i [] = src) :
    (rewriteRdbKeys name args src tgt).getD i [] = tgt := by
  unfold rewriteRdbKeys
  split
  · rename_i h
    rw [hsrc]
    rw [Bool.or_eq_true] at h
    rcases h with h | h
    · exact (hemp h).symm
    · exact (by simpa using h)
  · rw [hidx]
    simp only
    rw [List.getD_eq_getElem?_getD, List.getElem?_mapIdx, List.getElem?_eq_getElem hlt]
    have hsrc' : args[i] = src := by
      rw [List.getD_eq_getElem?_getD, List.getElem?_eq_getElem hlt] at hsrc
      simpa using hsrc
    simp only [Option.map_some, Option.getD_some, hsrc', beq_self_eq_true, Bool.and_true]
    have hc : idx.contains i = true := by simpa using hi
    rw [hc]; rfl

theorem onKey_of_raw (src tgt : Bytes) (c : Cmd) (hemp : src.isEmpty = true → tgt = src) (h : RawOn src tgt c) :
    OnKey tgt ⟨lower c.name, rewriteRdbKeys (lower c.name) c.args src tgt⟩ := by
  obtain ⟨idx, hidx, hon, hst⟩ := h
  obtain ⟨hne, hrange⟩ := Filter.keyIndexes_inRange hidx
  refine ⟨idx.map (fun i => (rewriteRdbKeys (lower c.name) c.args src tgt).getD i []), ?_, ?_, ?_⟩
  · rw [commandKeys_eq]
    exact congrArg (Option.map _) hst
  · intro hm
    exact hne (List.map_eq_nil_iff.mp hm)
  · intro x hx
    obtain ⟨i, hi, rfl⟩ := List.mem_map.mp hx
    exact rewrite_getD _ _ _ _ idx hidx hemp i hi (hrange i hi) (hon i hi)

/-- commands of the first-key class of the tables (`set`, `hset`, `rpush`,
    `sadd`, `zadd`, `xadd`, … : position (1,1,1), no extractor) on the source
    key are `RawOn` -/
theorem rawOn_generic (src tgt : Bytes) (name : Bytes) (rest : List Bytes)
    (h1 : Gen.commandKeyExtractors.lookup (lower (lower name)) = none)
    (h2 : Gen.commandKeyPositions.lookup (lower (lower name)) = some (1, 1, 1)) :
    RawOn src tgt ⟨name, src :: rest⟩ := by
  have hk : ∀ k r, Filter.keyIndexes (lower name) (k :: r) = some [0] := fun k r => keyIndexes_generic (lower name) k r h1 h2
  refine ⟨[0], hk _ _, ?_, ?_⟩
  · intro i hi
    have : i = 0 := by simpa using hi
    rw [this]; rfl
  · have hlen := rewrite_length (lower name) (src :: rest) src tgt
    cases hr : rewriteRdbKeys (lower name) (src :: rest) src tgt with
    | nil => rw [hr] at hlen; simp at hlen
    | cons k r => exact hk k r

/-- `XGROUP <CREATE|SETID|DESTROY|CREATECONSUMER|DELCONSUMER> key …`: the key is
    the SECOND argument (extractor `xgroup`); rewriting it leaves the position -/
theorem rawOn_xgroup (src tgt name sub : Bytes) (rest : List Bytes)
    (h1 : Gen.commandKeyExtractors.lookup (lower (lower name)) = some .xgroup)
    (hsub : (lower sub == Filter.wCreate || lower sub == Filter.wSetid || lower sub == Filter.wDestroy ||
      lower sub == Filter.wCreateconsumer || lower sub == Filter.wDelconsumer) = true) :
    RawOn src tgt ⟨name, sub :: src :: rest⟩ := by
  have hk : ∀ k r, Filter.keyIndexes (lower name) (sub :: k :: r) = some [1] := by
    intro k r
    unfold Filter.keyIndexes
    simp only [List.isEmpty_cons, Bool.false_eq_true, ↓reduceIte, h1, Filter.runExtractor, Filter.xgroupIdx, hsub]
  refine ⟨[1], hk _ _, ?_, ?_⟩
  · intro i hi
    have : i = 1 := by simpa using hi
    rw [this]; rfl
  · have hshape : ∃ k r, rewriteRdbKeys (lower name) (sub :: src :: rest) src tgt = sub :: k :: r := by
      unfold rewriteRdbKeys
      split
      · exact ⟨src, rest, rfl⟩
      · rw [hk]
        simp only [List.mapIdx_cons]
        exact ⟨_, _, by simp; exact ⟨rfl, rfl⟩⟩
    obtain ⟨k, r, hr⟩ := hshape
    rw [hr]; exact hk k r

theorem onKey_del (tgt : Bytes) : OnKey tgt ⟨rDel, [tgt]⟩ := by
  refine ⟨[tgt], ?_, by simp, by simp⟩
  rw [commandKeys_eq, Filter.keyIndexes_del rDel (Or.inl (by decide)) [tgt] (by simp)]
  rfl

theorem onKey_generic (tgt name : Bytes) (rest : List Bytes)
    (h1 : Gen.commandKeyExtractors.lookup (lower name) = none)
    (h2 : Gen.commandKeyPositions.lookup (lower name) = some (1, 1, 1)) : OnKey tgt ⟨name, tgt :: rest⟩ :=
  ⟨[tgt], commandKeys_generic name tgt rest h1 h2, by simp, by simp⟩

/-- **every command of the expanded form is on the target key** -/
theorem rdbExpanded_onKey (src tgt : Bytes) (raw : List Cmd) (delPrefix : Bool) (ttl : Option Bytes)
    (hemp : src.isEmpty = true → tgt = src) (hraw : ∀ c ∈ raw, RawOn src tgt c) :
    ∀ c ∈ rdbExpanded src tgt raw delPrefix ttl, OnKey tgt c := by
  intro c hc
  unfold rdbExpanded at hc
  rcases List.mem_append.mp hc with hc | hc
  · rcases List.mem_append.mp hc with hc | hc
    · cases delPrefix with
      | false => cases hc
      | true =>
        have : c = ⟨rDel, [tgt]⟩ := by simpa using hc
        rw [this]
        exact onKey_del tgt
    · obtain ⟨c0, hc0, rfl⟩ := List.mem_map.mp hc
      exact onKey_of_raw src tgt c0 hemp (hraw c0 hc0)
  · cases ttl with
    | none => cases hc
    | some t =>
      have : c = ⟨rPexpire, [tgt, t]⟩ := by simpa using hc
      rw [this]
      exact onKey_generic tgt rPexpire [t] (by decide +kernel) (by decide +kernel)

theorem rdbRestore_onKey (tgt ttl dump : Bytes) (opts : List Bytes) :
    ∀ c ∈ rdbRestore tgt ttl dump opts, OnKey tgt c := by
  intro c hc
  have : c = ⟨rRestore, tgt :: ttl :: dump :: opts⟩ := by simpa [rdbRestore] using hc
  rw [this]
  exact onKey_generic tgt rRestore _ (by decide +kernel) (by decide +kernel)

/-- with the static tables answering, the resolver's keys are the tables' -/
theorem resolved_of_onKey (fb : Bytes → List Bytes → Fb) (tgt : Bytes) (c : Cmd) (h : OnKey tgt c) :
    ∀ x ∈ resolvedKeys (resolverWith fb) c, x = tgt := by
  obtain ⟨ks, hk, _, hall⟩ := h
  rw [resolvedKeys_of_ok (resolverWith_some hk)]
  exact hall

end GunYu.BisyncUnit
