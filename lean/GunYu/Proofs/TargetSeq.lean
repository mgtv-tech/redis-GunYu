/-
  The target executes the forwarded commands sequentially: the DB a command
  runs in is decided by the latest preceding forwarded SELECT (C01, C02).
-/
import GunYu.Proofs.SenderRun

namespace GunYu.Target
open GunYu GunYu.Sender

/-- the DB selected after a forwarded SELECT with these arguments -/
def selArg (cur : Int) (a : List Bytes) : Int :=
  match a with
  | [x] => (atoi? x).getD cur
  | _ => cur

/-- sequential execution of forwarded commands from connection DB `cur`:
    final DB and the data commands applied, each tagged with its DB -/
def seqApplied (cur : Int) : List Cmd → Int × List Applied
  | [] => (cur, [])
  | (n, a) :: rest =>
    if n = bSelect then seqApplied (selArg cur a) rest
    else
      let r := seqApplied cur rest
      (r.1, { db := cur, name := n, args := a } :: r.2)

theorem seqApplied_append (cur : Int) (x y : List Cmd) :
    seqApplied cur (x ++ y) =
      ((seqApplied (seqApplied cur x).1 y).1, (seqApplied cur x).2 ++ (seqApplied (seqApplied cur x).1 y).2) := by
  induction x generalizing cur with
  | nil => simp [seqApplied]
  | cons p x ih =>
    obtain ⟨n, a⟩ := p
    simp only [List.cons_append, seqApplied]
    split
    · exact ih _
    · simp [ih]

theorem execReq_seq (t : TState) (r : Req) (hp : Plain r = true) :
    (execReq t r).cur = (seqApplied t.cur (dataB [r])).1 ∧
    (execReq t r).applied = t.applied ++ (seqApplied t.cur (dataB [r])).2 := by
  cases r with
  | cmd n a off =>
    simp only [execReq, dataB, List.filterMap_cons, List.filterMap_nil, cmdOfReq]
    by_cases hs : n = bSelect
    · subst hs
      have : bSelect ≠ bPing := by decide
      simp only [this, ↓reduceIte, seqApplied, selArg]
      split
      · split <;> simp_all
      · simp
    · by_cases hpg : n = bPing
      · subst hpg; simp [hs, seqApplied]
      · simp [hs, hpg, seqApplied]
  | cpMeta => exact ⟨rfl, (List.append_nil _).symm⟩
  | cpOffset o => exact ⟨rfl, (List.append_nil _).symm⟩
  | _ => cases hp

theorem foldl_execReq_seq (body : List Req) (hp : ∀ r ∈ body, Plain r = true) (t : TState) :
    (body.foldl execReq t).cur = (seqApplied t.cur (dataB body)).1 ∧
    (body.foldl execReq t).applied = t.applied ++ (seqApplied t.cur (dataB body)).2 := by
  induction body generalizing t with
  | nil => simp [dataB, seqApplied]
  | cons r body ih =>
    have h1 := execReq_seq t r (hp r (List.mem_cons_self ..))
    have h2 := ih (fun r hr => hp r (List.mem_cons_of_mem _ hr)) (execReq t r)
    have hd : dataB (r :: body) = dataB [r] ++ dataB body := dataB_append [r] body
    rw [List.foldl_cons, hd, seqApplied_append]
    simp only
    rw [h2.1, h2.2, h1.1, h1.2, List.append_assoc]
    exact ⟨rfl, rfl⟩

/-- **What the target has executed after any sequence of complete batches**:
    the forwarded commands in wire order, each in the DB chosen by the latest
    forwarded SELECT before it; no MULTI is left open. -/
theorem applyLog_out (out : List Batch) (hwf : AllWF out) (t : TState) (hq : t.queued = none) :
    (applyLog t out.flatten).queued = none ∧
    (applyLog t out.flatten).cur = (seqApplied t.cur (dataOut out)).1 ∧
    (applyLog t out.flatten).applied = t.applied ++ (seqApplied t.cur (dataOut out)).2 := by
  induction out generalizing t with
  | nil => simp [applyLog, seqApplied, hq]
  | cons b out ih =>
    obtain ⟨body, hp, happ, hd⟩ := applyLog_wf b t hq (hwf b (List.mem_cons_self ..))
    have hseq := foldl_execReq_seq body hp t
    have hq' : (applyLog t b).queued = none := by
      rw [happ, foldl_execReq_queued, hq]
    have h2 := ih (fun x hx => hwf x (List.mem_cons_of_mem _ hx)) (applyLog t b) hq'
    have hsplit : applyLog t (b :: out).flatten = applyLog (applyLog t b) out.flatten := by
      simp [applyLog, List.foldl_append]
    have hdo : dataOut (b :: out) = dataB b ++ dataOut out := by simp [dataOut]
    rw [hsplit, hdo, seqApplied_append]
    simp only
    refine ⟨h2.1, ?_, ?_⟩
    · rw [h2.2.1, happ, hseq.1, hd]
    · rw [h2.2.2, happ, hseq.1, hseq.2, hd, List.append_assoc]

end GunYu.Target
