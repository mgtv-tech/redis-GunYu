/-
  Helper lemmas for C10: what the builders put into a filter, and the
  decision procedure of FilterCmdKey in closed form.
-/
import GunYu.Model.Filter
import GunYu.Proofs.FilterRange
import GunYu.Proofs.FilterTrie
import GunYu.Proofs.FilterKeys

namespace GunYu.Filter
open GunYu

/-- some non-empty configured prefix is a byte-wise prefix of the key -/
def prefixHit (ps : List Bytes) (k : Bytes) : Prop := ∃ p ∈ ps, p ≠ [] ∧ p <+: k

/-- the command name is one of the listed names in lower or in upper case -/
def cmdListed (l : List Bytes) (cmd : Bytes) : Prop := ∃ b ∈ l, cmd = lower b ∨ cmd = upper b

theorem build_prefBlack (c : FilterCfg) : (build c).prefBlack = insertPrefixes none c.prefBlack := rfl
theorem build_prefWhite (c : FilterCfg) : (build c).prefWhite = insertPrefixes none c.prefWhite := rfl
theorem build_slotWhite (c : FilterCfg) : (build c).slotWhite = insertSlotList none c.slotWhite := rfl
theorem build_slotBlack (c : FilterCfg) : (build c).slotBlack = insertSlotList none c.slotBlack := rfl
theorem build_cmdBlack (c : FilterCfg) : (build c).cmdBlack = insertCmds none c.cmdBlack true := rfl
theorem build_cmdWhite (c : FilterCfg) : (build c).cmdWhite = insertCmds none c.cmdWhite true := rfl
theorem build_dbBlack (c : FilterCfg) : (build c).dbBlack = c.dbBlack := by
  simp [build, KeyFilter.insertDbBlackList, KeyFilter.insertSlotBlackList,
    KeyFilter.insertSlotWhiteList, KeyFilter.insertPrefixKeyWhiteList, KeyFilter.insertPrefixKeyBlackList,
    KeyFilter.insertCmdWhiteList, KeyFilter.insertCmdBlackList]

theorem out_prefBlack (c : FilterCfg) :
    (buildOutput c).prefBlack = insertPrefixes (insertPrefixes none reservedPrefixes) c.prefBlack := rfl
theorem out_prefWhite (c : FilterCfg) : (buildOutput c).prefWhite = insertPrefixes none c.prefWhite := rfl
theorem out_slotWhite (c : FilterCfg) : (buildOutput c).slotWhite = insertSlotList none c.slotWhite := rfl
theorem out_slotBlack (c : FilterCfg) : (buildOutput c).slotBlack = insertSlotList none c.slotBlack := rfl
theorem out_cmdBlack (c : FilterCfg) :
    (buildOutput c).cmdBlack = insertCmds (insertCmds none Gen.noRouteCmds true) c.cmdBlack true := rfl
theorem out_cmdWhite (c : FilterCfg) : (buildOutput c).cmdWhite = none := rfl
theorem out_dbBlack (c : FilterCfg) : (buildOutput c).dbBlack = c.dbBlack := by
  simp [buildOutput, KeyFilter.insertDbBlackList, KeyFilter.insertSlotBlackList,
    KeyFilter.insertSlotWhiteList, KeyFilter.insertPrefixKeyWhiteList, KeyFilter.insertPrefixKeyBlackList,
    KeyFilter.insertCmdBlackList]

theorem filterKey_eq (f : KeyFilter) (k : Bytes) :
    f.filterKey k = (optMatch f.prefBlack k || (f.prefWhite.isSome && !optMatch f.prefWhite k)) := by
  unfold KeyFilter.filterKey optMatch
  cases f.prefBlack <;> cases f.prefWhite <;> simp

theorem filterSlot_eq (f : KeyFilter) (k : Bytes) :
    f.filterSlot k = (optContains f.slotBlack (Slot.keyToSlot k) ||
      (f.slotWhite.isSome && !optContains f.slotWhite (Slot.keyToSlot k))) := by
  unfold KeyFilter.filterSlot optContains
  cases f.slotBlack <;> cases f.slotWhite <;> simp

theorem filterCmd_eq (f : KeyFilter) (cmd : Bytes) :
    f.filterCmd cmd = (optSearch f.cmdBlack cmd || (f.cmdWhite.isSome && !optSearch f.cmdWhite cmd)) := by
  unfold KeyFilter.filterCmd optSearch
  cases f.cmdBlack <;> cases f.cmdWhite <;> simp

theorem optMatch_insertPrefixes (o : Option Trie) (ps : List Bytes) (k : Bytes) :
    optMatch (insertPrefixes o ps) k = true ↔ prefixHit ps k ∨ optMatch o k = true := by
  simp only [optMatch_iff, optSearch_insertPrefixes, prefixHit]
  constructor
  · rintro ⟨p, h1, h2 | h2, h3⟩
    · exact Or.inl ⟨p, h2, h1, h3⟩
    · exact Or.inr ⟨p, h1, h2, h3⟩
  · rintro (⟨p, h1, h2, h3⟩ | ⟨p, h1, h2, h3⟩)
    · exact ⟨p, h2, Or.inl h1, h3⟩
    · exact ⟨p, h1, Or.inr h2, h3⟩

theorem optMatch_prefixes (ps : List Bytes) (k : Bytes) :
    optMatch (insertPrefixes none ps) k = true ↔ prefixHit ps k := by
  rw [optMatch_insertPrefixes]; simp [optMatch]

theorem optMatch_prefixes2 (ps qs : List Bytes) (k : Bytes) :
    optMatch (insertPrefixes (insertPrefixes none ps) qs) k = true ↔ prefixHit (ps ++ qs) k := by
  rw [optMatch_insertPrefixes, optMatch_prefixes, or_comm]
  simp only [prefixHit, List.mem_append, or_and_right, exists_or]

theorem buildOutput_hasKeyRules (c : FilterCfg) : (buildOutput c).hasKeyRules = true := by
  have : (buildOutput c).prefBlack.isSome = true := by
    rw [out_prefBlack, isSome_insertPrefixes, isSome_insertPrefixes]
    right; left; simp [reservedPrefixes]
  simp [KeyFilter.hasKeyRules, this]

theorem partialProjection_eq : Gen.partialProjectionCmds = [wMset, wDel, wUnlink] := by decide

theorem allowsPartial_iff (cmd : Bytes) :
    allowsPartial cmd = true ↔ lower cmd = wMset ∨ lower cmd = wDel ∨ lower cmd = wUnlink := by
  unfold allowsPartial
  rw [partialProjection_eq]
  simp only [List.contains_cons, List.contains_nil, Bool.or_false, Bool.or_eq_true, beq_iff_eq]

/-- the key positions whose key the rules accept, in command order -/
def keptIdx (f : KeyFilter) (args : List Bytes) (idx : List Nat) : List Nat :=
  idx.filter (fun i => !f.keyRejected (args.getD i []))

theorem filterCmdKey_resolved (f : KeyFilter) (cmd : Bytes) (args : List Bytes) (idx : List Nat)
    (hr : f.hasKeyRules = true) (hidx : keyIndexes cmd args = some idx) :
    f.filterCmdKey cmd args =
      (if (keptIdx f args idx).length == idx.length then some args
       else if (keptIdx f args idx).isEmpty then none
       else if !allowsPartial cmd then none
       else if lower cmd == wDel || lower cmd == wUnlink then
         some ((keptIdx f args idx).map (fun i => args.getD i []))
       else if lower cmd == wMset then
         if (keptIdx f args idx).any (fun i => i + 1 ≥ args.length) then none
         else some ((keptIdx f args idx).flatMap (fun i => [args.getD i [], args.getD (i + 1) []]))
       else none) := by
  have hin := (keyIndexes_inRange hidx).2
  have hany : idx.any (fun i => decide (i ≥ args.length)) = false := by
    rw [List.any_eq_false]
    intro i hi
    have := hin i hi
    simp; omega
  unfold KeyFilter.filterCmdKey
  simp only [hr, Bool.not_true, Bool.false_eq_true, if_false, hidx, hany, keptIdx]
  rfl

theorem keptIdx_length_iff (f : KeyFilter) (args : List Bytes) (idx : List Nat) :
    ((keptIdx f args idx).length == idx.length) = true ↔ keptIdx f args idx = idx := by
  unfold keptIdx
  rw [beq_iff_eq, List.length_filter_eq_length_iff, List.filter_eq_self]

theorem filterCmdKey_all (f : KeyFilter) (cmd : Bytes) (args : List Bytes) (idx : List Nat)
    (hr : f.hasKeyRules = true) (hidx : keyIndexes cmd args = some idx)
    (hk : keptIdx f args idx = idx) : f.filterCmdKey cmd args = some args := by
  rw [filterCmdKey_resolved f cmd args idx hr hidx, if_pos ((keptIdx_length_iff f args idx).mpr hk)]

theorem filterCmdKey_none (f : KeyFilter) (cmd : Bytes) (args : List Bytes) (idx : List Nat)
    (hr : f.hasKeyRules = true) (hidx : keyIndexes cmd args = some idx)
    (hk : keptIdx f args idx = []) : f.filterCmdKey cmd args = none := by
  have hne := (keyIndexes_inRange hidx).1
  have h1 : ¬ ((keptIdx f args idx).length == idx.length) = true := by
    rw [keptIdx_length_iff, hk]; exact fun h => hne h.symm
  rw [filterCmdKey_resolved f cmd args idx hr hidx, if_neg h1, hk]
  simp

theorem filterCmdKey_some (f : KeyFilter) (cmd : Bytes) (args : List Bytes) (idx : List Nat)
    (hr : f.hasKeyRules = true) (hidx : keyIndexes cmd args = some idx)
    (hk1 : keptIdx f args idx ≠ idx) (hk2 : keptIdx f args idx ≠ []) :
    f.filterCmdKey cmd args =
      (if lower cmd = wDel ∨ lower cmd = wUnlink then
         some ((keptIdx f args idx).map (fun i => args.getD i []))
       else if lower cmd = wMset then
         if ∃ i ∈ keptIdx f args idx, args.length ≤ i + 1 then none
         else some ((keptIdx f args idx).flatMap (fun i => [args.getD i [], args.getD (i + 1) []]))
       else none) := by
  have h1 : ¬ ((keptIdx f args idx).length == idx.length) = true := by
    rw [keptIdx_length_iff]; exact hk1
  have h2 : ¬ (keptIdx f args idx).isEmpty = true := by simpa using hk2
  rw [filterCmdKey_resolved f cmd args idx hr hidx, if_neg h1, if_neg h2]
  simp only [Bool.or_eq_true, beq_iff_eq, List.any_eq_true, decide_eq_true_eq, ge_iff_le, Bool.not_eq_true']
  cases hp : allowsPartial cmd with
  | true => simp only [Bool.true_eq_false, if_false]
  | false =>
    -- no projection for this command: it is none of MSET / DEL / UNLINK
    have hn : ¬ (lower cmd = wMset ∨ lower cmd = wDel ∨ lower cmd = wUnlink) := fun h => by
      rw [(allowsPartial_iff cmd).mpr h] at hp; cases hp
    rw [if_pos rfl, if_neg (fun h => hn (Or.inr h)), if_neg (fun h => hn (Or.inl h))]

end GunYu.Filter
