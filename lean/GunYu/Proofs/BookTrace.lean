/-
  C17 / Model/BookSys.lean — the bookkeeping trace of a sender log and the sender model's abstract
  target (`Target.TState.cps`): the abstract records after a log are the fold of the trace
  (`logTrace_cps`); the trace only depends on the connection state (`logTrace_congr`). Core only.
-/
import GunYu.Model.BookSys

namespace GunYu.BookSys
open GunYu GunYu.Sender GunYu.Target

/-- what a bookkeeping write does to the abstract per-database records -/
def absW (cps : List (Int × CpRec)) (w : Int × BkW) : List (Int × CpRec) :=
  match w.2 with
  | .rmeta => setCp cps w.1 { getCp cps w.1 with hasRunId := true }
  | .off o => setCp cps w.1 { getCp cps w.1 with offset := some o }

theorem execReq_cps (t : TState) (r : Sender.Req) : (execReq t r).cps = (execW t r).foldl absW t.cps := by
  cases r with
  | cmd name args off =>
    simp only [execReq, execW, List.foldl_nil]
    split
    · split
      · split <;> rfl
      · rfl
    · split <;> rfl
  | multi => rfl
  | exec => rfl
  | cpMeta => rfl
  | cpOffset o => rfl

theorem execTrace_cps (q : List Sender.Req) : ∀ t : TState,
    (q.foldl execReq t).cps = (execTrace t q).foldl absW t.cps := by
  induction q with
  | nil => intro t; rfl
  | cons r rs ih =>
    intro t
    simp only [List.foldl_cons, execTrace, List.foldl_append]
    rw [ih, execReq_cps]

theorem step_queued {t : TState} {q : List Sender.Req} (hq : t.queued = some q) (r : Sender.Req) :
    Target.applyReq t r = (if r = .exec then q.foldl execReq { t with queued := none }
      else { t with queued := some (q ++ [r]) }) ∧
    stepTrace t r = if r = .exec then execTrace { t with queued := none } q else [] := by
  unfold Target.applyReq stepTrace
  rw [hq]
  cases r <;> exact ⟨rfl, rfl⟩

theorem step_idle {t : TState} (hq : t.queued = none) (r : Sender.Req) :
    Target.applyReq t r = (if r = .multi then { t with queued := some [] } else execReq t r) ∧
    stepTrace t r = if r = .multi then [] else execW t r := by
  unfold Target.applyReq stepTrace
  rw [hq]
  cases r <;> exact ⟨rfl, rfl⟩

theorem applyReq_cps (t : TState) (r : Sender.Req) :
    (Target.applyReq t r).cps = (stepTrace t r).foldl absW t.cps := by
  cases hq : t.queued with
  | some q =>
    rw [(step_queued hq r).1, (step_queued hq r).2]
    split
    · exact execTrace_cps q _
    · rfl
  | none =>
    rw [(step_idle hq r).1, (step_idle hq r).2]
    split
    · rfl
    · exact execReq_cps t r

theorem logTrace_cps (log : List Sender.Req) : ∀ t : TState,
    (applyLog t log).cps = (logTrace t log).foldl absW t.cps := by
  induction log with
  | nil => intro t; rfl
  | cons r rs ih =>
    intro t
    simp only [applyLog, List.foldl_cons, logTrace, List.foldl_append]
    have := ih (Target.applyReq t r)
    simp only [applyLog] at this
    rw [this, applyReq_cps]

def SameConn (t t' : TState) : Prop := t.cur = t'.cur ∧ t.queued = t'.queued

theorem execReq_sameConn {t t' : TState} (h : SameConn t t') (r : Sender.Req) :
    SameConn (execReq t r) (execReq t' r) := by
  obtain ⟨hc, hq⟩ := h
  cases r with
  | cmd name args off =>
    simp only [execReq]
    split
    · split
      · split
        · exact ⟨rfl, hq⟩
        · exact ⟨hc, hq⟩
      · exact ⟨hc, hq⟩
    · split
      · exact ⟨hc, hq⟩
      · exact ⟨hc, hq⟩
  | multi => exact ⟨hc, hq⟩
  | exec => exact ⟨hc, hq⟩
  | cpMeta => exact ⟨hc, hq⟩
  | cpOffset o => exact ⟨hc, hq⟩

theorem execW_congr {t t' : TState} (h : SameConn t t') (r : Sender.Req) : execW t r = execW t' r := by
  cases r <;> simp [execW, h.1]

theorem execTrace_congr (q : List Sender.Req) : ∀ {t t' : TState}, SameConn t t' →
    execTrace t q = execTrace t' q ∧ SameConn (q.foldl execReq t) (q.foldl execReq t') := by
  induction q with
  | nil => intro t t' h; exact ⟨rfl, h⟩
  | cons r rs ih =>
    intro t t' h
    obtain ⟨h1, h2⟩ := ih (execReq_sameConn h r)
    simp only [execTrace, List.foldl_cons]
    exact ⟨by rw [execW_congr h r, h1], h2⟩

theorem applyReq_sameConn {t t' : TState} (h : SameConn t t') (r : Sender.Req) :
    stepTrace t r = stepTrace t' r ∧ SameConn (Target.applyReq t r) (Target.applyReq t' r) := by
  cases hq : t.queued with
  | some q =>
    have hs : SameConn { t with queued := none } { t' with queued := none } := ⟨h.1, rfl⟩
    rw [(step_queued hq r).1, (step_queued hq r).2, (step_queued (h.2 ▸ hq) r).1, (step_queued (h.2 ▸ hq) r).2]
    split
    · exact execTrace_congr q hs
    · exact ⟨rfl, h.1, rfl⟩
  | none =>
    rw [(step_idle hq r).1, (step_idle hq r).2, (step_idle (h.2 ▸ hq) r).1, (step_idle (h.2 ▸ hq) r).2]
    split
    · exact ⟨rfl, h.1, rfl⟩
    · exact ⟨execW_congr h r, execReq_sameConn h r⟩

theorem logTrace_congr (log : List Sender.Req) : ∀ {t t' : TState}, SameConn t t' →
    logTrace t log = logTrace t' log := by
  induction log with
  | nil => intro t t' _; rfl
  | cons r rs ih =>
    intro t t' h
    obtain ⟨h1, h2⟩ := applyReq_sameConn h r
    simp only [logTrace]
    rw [h1, ih h2]

end GunYu.BookSys
