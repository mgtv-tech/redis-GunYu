/-
  C02: which database the next start resumes in, on a target that ALREADY holds
  checkpoint records of earlier runs (Proofs/ResumeDb.lean covers the target
  without any). `UniqueMax cps d o`: database `d` holds offset `o` and every other
  database a strictly smaller one -- `GetCheckpoint`'s choice is then unique.
  `resumed_unique_max`: execute any prefix of the wire of a run that was resumed
  from `(d0, start)` -- first data command `select d0` carrying `start` (when
  `d0 > 0`; a new connection is in database 0), every other command above `start`,
  every stored position at or above `start`, keys ordered -- on a target where
  `(d0, start)` is the unique maximum: afterwards the maximum is unique again, and
  it sits in the database the connection was in at the last position write.
-/
import GunYu.Proofs.ResumeDb
import GunYu.Proofs.Parser
import GunYu.Proofs.SenderDataO

namespace GunYu.Target
open GunYu GunYu.Sender

/-- database `d` holds offset `o`, every other database a strictly smaller one -/
def UniqueMax (cps : List (Int × CpRec)) (d o : Int) : Prop :=
  (getCp cps d).offset = some o ∧
  ∀ d', d' ≠ d → ∀ o', (getCp cps d').offset = some o' → o' < o

theorem nodata_not_select {r : Req} (h : cmdOfReqO r = none) : ∀ a off, r ≠ .cmd bSelect a off := by
  intro a off he
  subst he
  have : bSelect ≠ bPing := by decide
  simp [cmdOfReqO, this] at h

theorem nodata_no_key_or_cp {r : Req} (h : cmdOfReqO r = none) :
    keyOfReq r = none ∨ ∃ o, r = .cpOffset o := by
  cases r with
  | cmd n a off =>
    left
    simp only [cmdOfReqO] at h
    simp only [keyOfReq]
    split at h
    · rename_i hp; simp [hp]
    · cases h
  | cpOffset o => exact Or.inr ⟨o, rfl⟩
  | _ => exact Or.inl rfl

/-- requests that are no data command leave the connection's database alone -/
theorem fold_cur_of_nodata (P : List Req) (h : ∀ r ∈ P, cmdOfReqO r = none) (t : TState) :
    (P.foldl execReq t).cur = t.cur := by
  induction P generalizing t with
  | nil => rfl
  | cons r P ih =>
    rw [List.foldl_cons, ih (fun x hx => h x (List.mem_cons_of_mem _ hx))]
    exact execReq_cur_of_nonselect t r (nodata_not_select (h r (List.mem_cons_self ..)))

theorem split_last_cp (Q : List Req) (h : cpOffsetsB Q ≠ []) :
    ∃ E1 o E2, Q = E1 ++ Req.cpOffset o :: E2 ∧ cpOffsetsB E2 = [] := by
  induction Q with
  | nil => exact absurd rfl h
  | cons r Q ih =>
    by_cases hq : cpOffsetsB Q = []
    · cases r with
      | cpOffset o => exact ⟨[], o, Q, rfl, hq⟩
      | _ => exact absurd hq h
    · obtain ⟨E1, o, E2, hQ, hE2⟩ := ih hq
      exact ⟨r :: E1, o, E2, by rw [hQ]; rfl, hE2⟩

/-- every key of a request list whose data commands end above `start` and whose
    position writes are at or above `start` is at least `2·start+1` -/
theorem key_lb (Q : List Req) (start : Int) (hd : ∀ x ∈ dataBO Q, start < x.2.2)
    (hc : ∀ o ∈ cpOffsetsB Q, start ≤ o) : ∀ k ∈ keysB Q, 2 * start + 1 ≤ k := by
  intro k hk
  unfold keysB at hk
  obtain ⟨r, hr, hkr⟩ := List.mem_filterMap.mp hk
  cases r with
  | cmd n a off =>
    simp only [keyOfReq] at hkr
    split at hkr
    · cases hkr
    · rename_i hp
      have : (n, a, off) ∈ dataBO Q :=
        List.mem_filterMap.mpr ⟨_, hr, by simp [cmdOfReqO, hp]⟩
      have := hd _ this
      injection hkr with hkr
      simp only at this
      omega
  | cpOffset o =>
    have : o ∈ cpOffsetsB Q := List.mem_filterMap.mpr ⟨_, hr, rfl⟩
    have := hc _ this
    simp only [keyOfReq] at hkr
    injection hkr with hkr
    omega
  | _ => cases hkr

theorem prefix_filterMap {α β} (f : α → Option β) {a b : List α} (h : a <+: b) :
    a.filterMap f <+: b.filterMap f := h.filterMap f

/-- once the connection is in the database of the unique maximum (`Inv`), any
    ordered request list above it keeps the maximum unique -/
theorem phase2 (Q : List Req) (t : TState) (start : Int) (hI : Inv t (2 * start + 1) (2 * start))
    (hs : (keysB Q).Pairwise (· ≤ ·)) (hlow : ∀ k ∈ keysB Q, 2 * start + 1 ≤ k) :
    (cpOffsetsB Q = [] ∧ ∀ d, (getCp (Q.foldl execReq t).cps d).offset = (getCp t.cps d).offset) ∨
    (∃ E1 o E2, Q = E1 ++ Req.cpOffset o :: E2 ∧ cpOffsetsB E2 = [] ∧
      UniqueMax (Q.foldl execReq t).cps (E1.foldl execReq t).cur o) := by
  by_cases hq : cpOffsetsB Q = []
  · exact Or.inl ⟨hq, fun d => fold_no_cp_offsets Q hq t d⟩
  · right
    obtain ⟨E1, o, E2, hQ, hE2⟩ := split_last_cp Q hq
    subst hQ
    exact ⟨E1, o, E2, rfl, hE2, resume_db_unique_from E1 E2 o t _ _ hI hs hlow hE2⟩

/-- a unique maximum in the connection's own database is `Inv` -/
theorem inv_of_uniqueMax (t : TState) (start : Int) (hu : UniqueMax t.cps t.cur start) :
    Inv t (2 * start + 1) (2 * start) := by
  refine ⟨?_, ?_, by omega, start, rfl⟩
  · intro d o h
    by_cases hd : d = t.cur
    · subst hd; rw [hu.1] at h; injection h with h; omega
    · have := hu.2 d hd o h; omega
  · intro d hd o h
    have := hu.2 d hd o h; omega

/-- **Resumed run, any crash point: the largest stored offset stays in exactly
    one database.** -/
theorem resumed_unique_max (B : List Req) (t : TState) (d0 start : Int)
    (hu : UniqueMax t.cps d0 start) (hcur : t.cur = 0) (hd0 : 0 ≤ d0)
    (hsorted : (keysB B).Pairwise (· ≤ ·))
    (hcp : ∀ o ∈ cpOffsetsB B, start ≤ o)
    (hdata : if 0 < d0 then
        (dataBO B = [] ∧ cpOffsetsB B = []) ∨
        (∃ rest, dataBO B = (bSelect, [intToDec d0], start) :: rest ∧ ∀ x ∈ rest, start < x.2.2)
      else ∀ x ∈ dataBO B, start < x.2.2)
    (E : List Req) (hE : E <+: B) :
    (cpOffsetsB E = [] ∧ ∀ d, (getCp (E.foldl execReq t).cps d).offset = (getCp t.cps d).offset) ∨
    (∃ E1 o E2, E = E1 ++ Req.cpOffset o :: E2 ∧ cpOffsetsB E2 = [] ∧ start ≤ o ∧
      UniqueMax (E.foldl execReq t).cps (E1.foldl execReq t).cur o) := by
  have hkE : keysB E <+: keysB B := prefix_filterMap _ hE
  have hcE : cpOffsetsB E <+: cpOffsetsB B := prefix_filterMap _ hE
  have hdE : dataBO E <+: dataBO B := prefix_filterMap _ hE
  split at hdata
  · rename_i hpos
    rcases hdata with ⟨_, hnocp⟩ | ⟨rest, hsel, hrest⟩
    · -- nothing but keep-alives went out
      have : cpOffsetsB E = [] := by
        rw [hnocp] at hcE; exact List.prefix_nil.mp hcE
      exact Or.inl ⟨this, fun d => fold_no_cp_offsets E this t d⟩
    · -- B = P ++ select d0 :: Q, nothing but keep-alives in P
      obtain ⟨P, r, Q, hB, hP, hr, hQ⟩ := List.filterMap_eq_cons_iff.mp hsel
      have hr' : r = .cmd bSelect [intToDec d0] start := by
        cases r with
        | cmd n a off =>
          simp only [cmdOfReqO] at hr
          split at hr
          · cases hr
          · injection hr with hr
            simp only [Prod.mk.injEq] at hr
            obtain ⟨rfl, rfl, rfl⟩ := hr; rfl
        | _ => cases hr
      subst hr'
      have hsp : bSelect ≠ bPing := by decide
      -- no position write before the select: its key would be below the select's
      have hPcp : cpOffsetsB P = [] := by
        apply List.eq_nil_iff_forall_not_mem.mpr
        intro o ho
        obtain ⟨x, hx, hxo⟩ := List.mem_filterMap.mp ho
        cases x <;> cases hxo
        have h1 : 2 * o + 1 ∈ keysB P := List.mem_filterMap.mpr ⟨_, hx, rfl⟩
        have h2 : 2 * start ∈ keysB (Req.cmd bSelect [intToDec d0] start :: Q) := by
          rw [keysB_cons]; simp [keyOfReq, hsp]
        rw [hB, keysB_append] at hsorted
        have := (List.pairwise_append.mp hsorted).2.2 _ h1 _ h2
        have := hcp o (by rw [hB, cpOffsetsB_append]; exact List.mem_append_left _ ho)
        omega
      rcases List.prefix_or_prefix_of_prefix hE (hB ▸ List.prefix_append P _) with hEP | hPE
      · have : cpOffsetsB E = [] := by
          have := prefix_filterMap cpOfReq hEP
          unfold cpOffsetsB at hPcp ⊢
          rw [hPcp] at this; exact List.prefix_nil.mp this
        exact Or.inl ⟨this, fun d => fold_no_cp_offsets E this t d⟩
      · obtain ⟨E', rfl⟩ := hPE
        rw [hB] at hE
        have hE' : E' <+: Req.cmd bSelect [intToDec d0] start :: Q :=
          (List.prefix_append_right_inj P).mp hE
        cases E' with
        | nil =>
          have : cpOffsetsB (P ++ []) = [] := by simpa using hPcp
          exact Or.inl ⟨this, fun d => fold_no_cp_offsets _ this t d⟩
        | cons r' Q' =>
          obtain ⟨hr'eq, hQ'⟩ := List.cons_prefix_cons.mp hE'
          subst hr'eq
          -- the target after P and the select
          let t1 := execReq (P.foldl execReq t) (.cmd bSelect [intToDec d0] start)
          have ht1cur : t1.cur = d0 := by
            simp only [t1, execReq, ↓reduceIte, atoi?_intToDec]
          have ht1cps : t1.cps = (P.foldl execReq t).cps :=
            execReq_cps_of_noncp _ _ rfl (by intro h; cases h)
          have hoff1 : ∀ d, (getCp t1.cps d).offset = (getCp t.cps d).offset := by
            intro d; rw [ht1cps]; exact fold_no_cp_offsets P hPcp t d
          have hI1 : Inv t1 (2 * start + 1) (2 * start) := by
            apply inv_of_uniqueMax
            rw [ht1cur]
            exact ⟨by rw [hoff1]; exact hu.1, fun d' hd' o' h => hu.2 d' hd' o' (by rw [← hoff1]; exact h)⟩
          -- keys of Q': ordered, above the start
          have hQs : (keysB Q').Pairwise (· ≤ ·) := by
            rw [hB, keysB_append, keysB_cons] at hsorted
            have h1 := (List.pairwise_append.mp (List.pairwise_append.mp hsorted).2.1).2.1
            exact h1.sublist (prefix_filterMap keyOfReq hQ').sublist
          have hQlow : ∀ k ∈ keysB Q', 2 * start + 1 ≤ k := by
            apply key_lb
            · intro x hx
              have : x ∈ dataBO Q := (prefix_filterMap cmdOfReqO hQ').subset hx
              unfold dataBO at this; rw [hQ] at this
              exact hrest x this
            · intro o ho
              have h1 : o ∈ cpOffsetsB Q := (prefix_filterMap cpOfReq hQ').subset ho
              exact hcp o (by rw [hB, cpOffsetsB_append]; exact List.mem_append_right _ h1)
          have hfold : ∀ X : List Req, (P ++ Req.cmd bSelect [intToDec d0] start :: X).foldl execReq t
              = X.foldl execReq t1 := by
            intro X; rw [List.foldl_append, List.foldl_cons]
          rcases phase2 Q' t1 start hI1 hQs hQlow with ⟨hnc, hsame⟩ | ⟨E1, o, E2, hQ'eq, hE2, hum⟩
          · left
            refine ⟨?_, fun d => by rw [hfold, hsame, hoff1]⟩
            rw [cpOffsetsB_append, hPcp]
            exact hnc
          · right
            subst hQ'eq
            refine ⟨P ++ Req.cmd bSelect [intToDec d0] start :: E1, o, E2, by simp, hE2, ?_, ?_⟩
            · have : o ∈ cpOffsetsB (E1 ++ Req.cpOffset o :: E2) := by
                rw [cpOffsetsB_append]; exact List.mem_append_right _ (List.mem_cons_self ..)
              have h1 : o ∈ cpOffsetsB Q := (prefix_filterMap cpOfReq hQ').subset this
              exact hcp o (by rw [hB, cpOffsetsB_append]; exact List.mem_append_right _ h1)
            · rw [hfold, hfold]; exact hum
  · -- d0 = 0: the new connection is already in the database of the maximum
    rename_i hpos
    have hd : d0 = 0 := by omega
    subst hd
    have hI : Inv t (2 * start + 1) (2 * start) := inv_of_uniqueMax t start (by rw [hcur]; exact hu)
    have hs : (keysB E).Pairwise (· ≤ ·) := hsorted.sublist hkE.sublist
    have hlow : ∀ k ∈ keysB E, 2 * start + 1 ≤ k :=
      key_lb E start (fun x hx => hdata x (hdE.subset hx)) (fun o ho => hcp o (hcE.subset ho))
    rcases phase2 E t start hI hs hlow with h | ⟨E1, o, E2, hEeq, hE2, hum⟩
    · exact Or.inl h
    · right
      refine ⟨E1, o, E2, hEeq, hE2, ?_, hum⟩
      apply hcp; apply hcE.subset
      rw [hEeq, cpOffsetsB_append]; exact List.mem_append_right _ (List.mem_cons_self ..)

end GunYu.Target
