/-
  C17 — the invariant `Good` of the bookkeeping writers (Model/BookSys.lean, Model/Checkpoint.lean)
  and what it implies: the preconditions of the C17 safety theorems (`UpdPre`, `GcPre`'s parts,
  `Solo`). Core only.

  Control state `Ctl` (ghost, except `lab` = `cfg.RunId` and `key` = the key the hash resolves):
    mas / sec   the two ids the source reports (master replication id, second id)
    lab         the id the position is labelled with (the one the checkpoint hash maps)
    key         the checkpoint key the hash maps `lab` to
    up          a process has completed its start (its configured key name is `key`)
    pend        key name a rename that was cut after its first request has written to
    names, ids  key names / ids used so far
-/
import GunYu.Proofs.BookStr

namespace GunYu.BookSys
open GunYu GunYu.Checkpoint

set_option linter.unusedSimpArgs false
set_option linter.unusedVariables false

structure Ctl where
  key   : Bytes
  lab   : Bytes
  mas   : Bytes
  sec   : Bytes
  up    : Bool := false
  pend  : Option Bytes := none
  names : List Bytes := []
  ids   : List Bytes := []

/-- the part that does not look at the target -/
structure CtlOK (c : Ctl) : Prop where
  hne : c.mas ≠ c.sec
  m0 : c.mas ≠ []
  mq : c.mas ≠ qmark
  sq : c.sec ≠ qmark
  lab : c.lab = c.mas ∨ c.lab = c.sec
  l0 : c.lab ≠ []
  key0 : c.key ≠ []
  keyIn : c.key ∈ c.names
  masIn : c.mas ∈ c.ids
  secIn : c.sec ∈ c.ids
  upk : c.up = true → c.pend = none
  s0 : c.sec ≠ []

/-- what a rename cut after its first request left under the new key -/
structure PendOK (t : Checkpoint.Target) (c : Ctl) (p : Bytes) (X : Int) (d : Nat) : Prop where
  ne : p ≠ c.key
  p0 : p ≠ []
  mem : p ∈ c.names
  ok : LocOk [c.mas, c.sec] t p d X
  rid : ∀ db, ∀ e ∈ t.cps db p, e.rid = c.lab
  unm : ∀ q ∈ t.hash, q.2 ≠ p
  hasrid : ∀ db, hasKey (c.mas, Kind.offset) (t.cps db p) → hasKey (c.mas, Kind.runid) (t.cps db p)

/-- the part every deletion keeps -/
structure Frame (t : Checkpoint.Target) (c : Ctl) (X : Int) (d : Nat) : Prop where
  hashL : hlookup t.hash c.lab = some c.key
  hashM : c.lab ≠ c.mas → Unmapped t.hash c.mas
  str : StrA t c.names c.ids
  ord : ∀ db, NoAfter c.mas c.sec (t.cps db c.key)
  sle : ∀ db, OffLe [c.sec] (t.cps db c.key) X
  hasrid : ∀ db, hasKey (c.mas, Kind.offset) (t.cps db c.key) → hasKey (c.mas, Kind.runid) (t.cps db c.key)
  pend : ∀ p, c.pend = some p → PendOK t c p X d

/-- `Frame` without the run-id clause (the sender's offset write keeps that clause only together with
    its own bookkeeping: Props.C07) -/
structure FrameNR (t : Checkpoint.Target) (c : Ctl) (X : Int) (d : Nat) : Prop where
  hashL : hlookup t.hash c.lab = some c.key
  hashM : c.lab ≠ c.mas → Unmapped t.hash c.mas
  str : StrA t c.names c.ids
  ord : ∀ db, NoAfter c.mas c.sec (t.cps db c.key)
  sle : ∀ db, OffLe [c.sec] (t.cps db c.key) X
  pend : ∀ p, c.pend = some p → PendOK t c p X d

theorem Frame.nr {t : Checkpoint.Target} {c : Ctl} {X : Int} {d : Nat} (F : Frame t c X d) :
    FrameNR t c X d := ⟨F.hashL, F.hashM, F.str, F.ord, F.sle, F.pend⟩

theorem FrameNR.withRid {t : Checkpoint.Target} {c : Ctl} {X : Int} {d : Nat} (F : FrameNR t c X d)
    (h : ∀ db, hasKey (c.mas, Kind.offset) (t.cps db c.key) → hasKey (c.mas, Kind.runid) (t.cps db c.key)) :
    Frame t c X d := ⟨F.hashL, F.hashM, F.str, F.ord, F.sle, h, F.pend⟩

structure Good (t : Checkpoint.Target) (c : Ctl) (X : Int) (d : Nat) : Prop where
  ctl : CtlOK c
  fr : Frame t c X d
  holds : Holds [c.mas, c.sec] t c.key d X
  carr : Carrier c.lab t c.key d X

theorem getHash_lab {t : Checkpoint.Target} {c : Ctl} (C : CtlOK c) (hL : hlookup t.hash c.lab = some c.key)
    (hM : c.lab ≠ c.mas → Unmapped t.hash c.mas) : getHash t.hash [c.mas, c.sec] = some (c.key, c.lab) := by
  by_cases hm : c.lab = c.mas
  · rw [hm]; exact getHash_of_first (hm ▸ hL) C.key0
  · have h : c.lab = c.sec := C.lab.resolve_left hm
    rw [h]; exact getHash_of_second (hM hm) (h ▸ hL)

theorem Good.hashEq {t : Checkpoint.Target} {c : Ctl} {X : Int} {d : Nat} (G : Good t c X d) :
    getHash t.hash [c.mas, c.sec] = some (c.key, c.lab) := getHash_lab G.ctl G.fr.hashL G.fr.hashM

theorem Good.hashEq_swapped {t : Checkpoint.Target} {c : Ctl} {X : Int} {d : Nat} (G : Good t c X d)
    (h : c.lab = c.sec) : getHash t.hash [c.sec, c.mas] = some (c.key, c.lab) := by
  rw [h]; exact getHash_of_first (h ▸ G.fr.hashL) G.ctl.key0

theorem Good.ownAll {t : Checkpoint.Target} {c : Ctl} {X : Int} {d : Nat} (G : Good t c X d) (n : Bytes) :
    RunidOwn t n := fun db e he hk => (G.fr.str.ok db n e he).2 hk

theorem parses_of_ok {t : Checkpoint.Target} {names ids : List Bytes} (h : StrA t names ids)
    (sel : List Bytes) (db : Nat) (n : Bytes) : Parses sel (t.cps db n) :=
  fun e he _ hk => (h.ok db n e he).1 hk

/-- the ids the start passes to `UpdateCheckpoint` -/
theorem Good.startIdsEq {t : Checkpoint.Target} {c : Ctl} {X : Int} {d : Nat} (G : Good t c X d) :
    startIds t.hash [c.mas, c.sec] = if c.lab = c.sec then [c.sec, c.mas] else [c.mas, c.sec] := by
  rw [startIds_eq G.hashEq]
  by_cases h : c.lab = c.sec
  · rw [if_pos ⟨h, fun h' => G.ctl.hne h'.symm⟩, if_pos h]
  · rw [if_neg (fun h' => h h'.1), if_neg h]

theorem locOk_of_empty {ids : List Bytes} {t : Checkpoint.Target} {loc : Bytes} {d : Nat} {X : Int}
    (h : ∀ db, t.cps db loc = []) : LocOk ids t loc d X :=
  LocOk.of_fresh (fun db e he => by rw [h db] at he; cases he)

/-- the preconditions of `update_prefix_safe` & co. for what the START runs
    (`UpdateCheckpoint(loc, startIds …)`) with a key name that is the current one, the one a cut
    rename wrote to, or a new one -/
theorem Good.updPre_start {t : Checkpoint.Target} {c : Ctl} {X : Int} {d : Nat} (G : Good t c X d)
    (loc : Bytes) (hloc0 : loc ≠ [])
    (hloc : loc = c.key ∨ c.pend = some loc ∨ loc ∉ c.names) (now : Int)
    (hnow : -(2^63 : Int) ≤ now ∧ now < 2^63) :
    (c.lab ≠ c.sec → UpdPre c.mas c.sec loc t c.key c.lab d X now) ∧
    (c.lab = c.sec → UpdPre c.sec c.mas loc t c.key c.lab d X now) := by
  have hfresh : c.key ≠ loc → LocOk [c.mas, c.sec] t loc d X := by
    intro hk
    rcases hloc with h | h | h
    · exact absurd h.symm hk
    · exact (G.fr.pend loc h).ok
    · exact locOk_of_empty (G.fr.str.names loc h).1
  constructor
  · intro _
    exact ⟨G.ctl.hne, G.ctl.m0, G.ctl.mq, G.ctl.sq, hloc0, G.hashEq, G.ctl.key0, G.holds, G.ownAll _,
      hfresh, hnow⟩
  · intro hl
    exact ⟨fun h => G.ctl.hne h.symm, hl ▸ G.ctl.l0, G.ctl.sq, G.ctl.mq, hloc0, G.hashEq_swapped hl,
      G.ctl.key0, G.holds.swap, G.ownAll _, fun hk => (hfresh hk).swap, hnow⟩

/-- … and for `SetRunId(new id)`: `UpdateCheckpoint(key, [mas, lab])` while the position is still
    labelled with the second id -/
theorem Good.updPre_relabel {t : Checkpoint.Target} {c : Ctl} {X : Int} {d : Nat} (G : Good t c X d)
    (now : Int) (hnow : -(2^63 : Int) ≤ now ∧ now < 2^63) :
    UpdPre c.mas c.sec c.key t c.key c.lab d X now :=
  ⟨G.ctl.hne, G.ctl.m0, G.ctl.mq, G.ctl.sq, G.ctl.key0, G.hashEq, G.ctl.key0, G.holds, G.ownAll _,
    fun h => absurd rfl h, hnow⟩

/-- a `_runid` field stores its own id: none of two ids that are not "?" reads "?" -/
theorem ridSel_ne_qmark {t : Checkpoint.Target} {names ids : List Bytes} (hs : StrA t names ids) {a b : Bytes}
    (ha : a ≠ qmark) (hb : b ≠ qmark) (db : Nat) (n : Bytes) :
    ∀ e ∈ t.cps db n, ridSel [a, b] e = true → e.val ≠ qmark := by
  intro e he hse
  rw [ridSel_iff] at hse
  rw [(hs.ok db n e he).2 hse.2]
  rcases (matchId_pair _ _ _).mp hse.1 with h | h <;> rw [h]
  · exact ha
  · exact hb

/-- `Inv` of the maintenance proofs, carried by the label -/
theorem Good.toInv {t : Checkpoint.Target} {c : Ctl} {X : Int} {d : Nat} (G : Good t c X d) :
    Inv c.mas c.sec c.lab t c.key c.lab d X :=
  ⟨G.hashEq, G.holds, G.carr, fun db => ridSel_ne_qmark G.fr.str G.ctl.mq G.ctl.sq db c.key⟩

theorem Good.labq {t : Checkpoint.Target} {c : Ctl} {X : Int} {d : Nat} (G : Good t c X d) :
    c.lab ≠ qmark := by
  rcases G.ctl.lab with h | h <;> rw [h]
  · exact G.ctl.mq
  · exact G.ctl.sq

theorem matchId_mas_pair (c : Ctl) (x : Bytes) (h : matchId [c.mas] x = true) : matchId [c.mas, c.sec] x = true := by
  rw [matchId_one] at h; rw [matchId_pair]; exact Or.inl h

theorem Good.masBelow {t : Checkpoint.Target} {c : Ctl} {X : Int} {d : Nat} (G : Good t c X d) (db : Nat) (hdb : db ≠ d) :
    OffBelow [c.mas] (t.cps db c.key) X := (G.holds.dom db hdb).sub (matchId_mas_pair c)

/-- the position is an `_offset` field of the label: without one the label alone would read −1 -/
theorem Good.labOffset {t : Checkpoint.Target} {c : Ctl} {X : Int} {d : Nat} (G : Good t c X d) :
    hasKey (c.lab, Kind.offset) (t.cps d c.key) := by
  apply Classical.byContradiction
  intro hno
  have h1 := offOf_one_of_not hno
  have h2 := G.carr.1
  have h3 := G.holds.nonneg
  omega

theorem Good.masOffset {t : Checkpoint.Target} {c : Ctl} {X : Int} {d : Nat} (G : Good t c X d) (hl : c.lab = c.mas) :
    hasKey (c.mas, Kind.offset) (t.cps d c.key) := hl ▸ G.labOffset

/-- the label alone: largest offset in `d`, smaller elsewhere (`Solo`, hypothesis of `gc_spares_live_id`) -/
theorem Good.soloLab {t : Checkpoint.Target} {c : Ctl} {X : Int} {d : Nat} (G : Good t c X d) :
    Solo c.lab t c.key d X := by
  have hsub : ∀ x, matchId [c.lab] x = true → matchId [c.mas, c.sec] x = true := by
    intro x hx
    rw [matchId_one] at hx; rw [matchId_pair, hx]
    rcases G.ctl.lab with h | h
    · exact Or.inl h
    · exact Or.inr h
  exact ⟨G.holds.nonneg, fun db => parses_of_ok G.fr.str _ db _, G.carr.1,
    fun db hdb => (G.holds.dom db hdb).sub hsub⟩

theorem Good.nonempty {t : Checkpoint.Target} {c : Ctl} {X : Int} {d : Nat} (G : Good t c X d) :
    t.cps d c.key ≠ [] :=
  let ⟨_, he, _⟩ := G.labOffset
  List.ne_nil_of_mem he

end GunYu.BookSys
