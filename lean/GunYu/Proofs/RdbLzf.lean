/-
  C04 — the output buffer of `lzfDecompress` (Model/RdbLzf.lean): it follows the
  bytes really produced, one step ahead, whatever the declared length says.
-/
import GunYu.Model.RdbLzf
import GunYu.Model.RdbAlloc

namespace GunYu.RdbLzf
open GunYu

theorem room_ge (step blen need outlen : Nat) : blen ≤ room step blen need outlen := by
  unfold room; split
  · exact Nat.le_refl _
  · omega

theorem room_le_outlen (step blen need outlen : Nat) (h : blen ≤ outlen) : room step blen need outlen ≤ outlen := by
  unfold room; split
  · exact h
  · omega

theorem room_fits_iff {step blen o n outlen : Nat} (hb : blen ≤ outlen) (ho : o ≤ outlen) :
    o + n ≤ room step blen (o + n) outlen ↔ n ≤ outlen - o :=
  ⟨fun h => by have := room_le_outlen step blen (o + n) outlen hb; omega,
   fun h => by unfold room; split <;> omega⟩

/-- the length field of a back reference (3 bits, extended by one byte when 7) -/
theorem refLen_le {c len : Nat} {r r1 : Bytes} (hc : c < 256)
    (h : (if c / 32 = 7 then (match r with | [] => none | x :: r1 => some (c / 32 + x.toNat, r1))
          else some (c / 32, r)) = some (len, r1)) : len + 2 ≤ 264 ∧ r1.length ≤ r.length := by
  split at h
  · cases r with
    | nil => cases h
    | cons x r' =>
      cases h
      have := x.toNat_lt
      exact ⟨by omega, Nat.le_succ _⟩
  · cases h; exact ⟨by omega, Nat.le_refl _⟩

theorem hasLen_iff (l : Bytes) (n : Nat) : hasLen l n = true ↔ n ≤ l.length := by
  cases n with
  | zero => simp [hasLen]
  | succ k =>
    have hd : l.drop k = [] ↔ l.length ≤ k := List.drop_eq_nil_iff
    cases h : l.drop k with
    | nil =>
      have := hd.mp h
      simp only [hasLen, h]
      exact ⟨nofun, fun h2 => by omega⟩
    | cons x t =>
      simp only [hasLen, h]
      refine ⟨fun _ => Nat.lt_of_not_le fun h' => ?_, fun _ => trivial⟩
      rw [hd.mpr h'] at h; cases h

theorem mem_grew {blen blen' : Nat} {tr : List (Nat × Nat)} {p : Nat × Nat} (h : p ∈ grew blen blen' tr) :
    p ∈ tr ∨ (p = (blen, blen') ∧ blen' ≠ blen) := by
  unfold grew at h
  split at h
  · exact Or.inl h
  · rename_i hne
    rcases List.mem_cons.mp h with h | h
    · exact Or.inr ⟨h, hne⟩
    · exact Or.inl h

/-- the invariant of the loop (`o` bytes produced, buffer of length `blen`, growth steps `tr`): the buffer is at most
    one run (≤ 264) and one step ahead of the output -/
structure WInv (step outlen o blen : Nat) (tr : List (Nat × Nat)) : Prop where
  ob : o ≤ blen
  bo : blen ≤ outlen
  bs : blen ≤ o + 264 + step
  tr : ∀ p ∈ tr, p.1 < p.2 ∧ p.2 ≤ blen

theorem WInv.afterRoom {step outlen o blen : Nat} {tr : List (Nat × Nat)} (inv : WInv step outlen o blen tr)
    (runLen : Nat) (hr : runLen ≤ 264) {o' : Nat} (ho : o ≤ o') (ho' : o' ≤ o + runLen)
    (hfit : o' ≤ room step blen (o + runLen) outlen) :
    WInv step outlen o' (room step blen (o + runLen) outlen) (grew blen (room step blen (o + runLen) outlen) tr) := by
  have hge := room_ge step blen (o + runLen) outlen
  have hle : room step blen (o + runLen) outlen ≤ max blen (o + runLen + step) := by unfold room; split <;> omega
  refine ⟨hfit, room_le_outlen _ _ _ _ inv.bo, by have := inv.bs; omega, fun p hp => ?_⟩
  rcases mem_grew hp with hp | ⟨rfl, hne⟩
  · exact ⟨(inv.tr p hp).1, Nat.le_trans (inv.tr p hp).2 hge⟩
  · exact ⟨Nat.lt_of_le_of_ne hge (Ne.symm hne), Nat.le_refl _⟩

theorem WInv.next {step outlen o blen : Nat} {tr : List (Nat × Nat)} (inv : WInv step outlen o blen tr)
    (runLen : Nat) (hr : runLen ≤ 264) (hfit : o + runLen ≤ room step blen (o + runLen) outlen) :
    WInv step outlen (o + runLen) (room step blen (o + runLen) outlen)
      (grew blen (room step blen (o + runLen) outlen) tr) :=
  inv.afterRoom runLen hr (Nat.le_add_right ..) (Nat.le_refl _) hfit

theorem WInv.failed {step outlen o blen : Nat} {tr : List (Nat × Nat)} (inv : WInv step outlen o blen tr)
    (runLen : Nat) (hr : runLen ≤ 264) :
    WInv step outlen o (room step blen (o + runLen) outlen) (grew blen (room step blen (o + runLen) outlen) tr) :=
  inv.afterRoom runLen hr (Nat.le_refl _) (Nat.le_add_right ..) (Nat.le_trans inv.ob (room_ge ..))

/-- a round stops before `lzfRoom` is called (the input ends inside a back reference), or calls it for a run of at most
    264 bytes -/
theorem walk_round (step outlen fuel : Nat) (ctrl : UInt8) (r : Bytes) (o blen : Nat) (tr : List (Nat × Nat)) :
    walk step outlen (fuel + 1) (ctrl :: r) o blen tr = ⟨false, o, blen, tr⟩ ∨
    ∃ runLen r', runLen ≤ 264 ∧ r'.length ≤ r.length ∧
      (walk step outlen (fuel + 1) (ctrl :: r) o blen tr =
          ⟨false, o, room step blen (o + runLen) outlen, grew blen (room step blen (o + runLen) outlen) tr⟩ ∨
       o + runLen ≤ room step blen (o + runLen) outlen ∧
         walk step outlen (fuel + 1) (ctrl :: r) o blen tr =
           walk step outlen fuel r' (o + runLen) (room step blen (o + runLen) outlen)
             (grew blen (room step blen (o + runLen) outlen) tr)) := by
  have hc : ctrl.toNat < 256 := ctrl.toNat_lt
  rw [walk]
  by_cases hlit : ctrl.toNat < 32
  · refine Or.inr ⟨ctrl.toNat + 1, r.drop (ctrl.toNat + 1), by omega, by rw [List.length_drop]; omega, ?_⟩
    simp only [hlit, if_true]
    by_cases hok : hasLen r (ctrl.toNat + 1) = true ∧
        o + ctrl.toNat + 1 ≤ room step blen (o + ctrl.toNat + 1) outlen
    · rw [if_pos hok]; exact Or.inr ⟨hok.2, rfl⟩
    · rw [if_neg hok]; exact Or.inl rfl
  · simp only [hlit, if_false]
    cases hlen : (if ctrl.toNat / 32 = 7 then
        (match r with | [] => none | x :: r1 => some (ctrl.toNat / 32 + x.toNat, r1))
        else some (ctrl.toNat / 32, r)) with
    | none => exact Or.inl rfl
    | some p =>
      obtain ⟨len, r1⟩ := p
      have hlen264 := refLen_le hc hlen
      cases r1 with
      | nil => exact Or.inl rfl
      | cons lo r2 =>
        refine Or.inr ⟨len + 2, r2, hlen264.1, Nat.le_of_succ_le hlen264.2, ?_⟩
        simp only
        by_cases hok : ctrl.toNat % 32 * 256 + lo.toNat + 1 ≤ o ∧ o + len + 2 ≤ room step blen (o + len + 2) outlen
        · rw [if_pos hok]; exact Or.inr ⟨hok.2, rfl⟩
        · rw [if_neg hok]; exact Or.inl rfl

theorem walk_inv (step outlen : Nat) : ∀ (fuel : Nat) (inp : Bytes) (o blen : Nat) (tr : List (Nat × Nat)),
    WInv step outlen o blen tr →
      WInv step outlen (walk step outlen fuel inp o blen tr).o (walk step outlen fuel inp o blen tr).blen
        (walk step outlen fuel inp o blen tr).grows ∧
      o ≤ (walk step outlen fuel inp o blen tr).o ∧
      (walk step outlen fuel inp o blen tr).o ≤ o + 264 * inp.length ∧
      ((walk step outlen fuel inp o blen tr).ok = true → (walk step outlen fuel inp o blen tr).o = outlen)
  | 0, inp, o, blen, tr, inv => by
    simp only [walk]
    refine ⟨inv, Nat.le_refl _, by omega, ?_⟩
    intro h; simp only [Bool.and_eq_true, decide_eq_true_eq] at h; exact h.2
  | fuel+1, [], o, blen, tr, inv => by
    simp only [walk]
    refine ⟨inv, Nat.le_refl _, by omega, ?_⟩
    intro h; simpa using h
  | fuel+1, ctrl :: r, o, blen, tr, inv => by
    rcases walk_round step outlen fuel ctrl r o blen tr with h | ⟨runLen, r', hr, hl, h | ⟨hfit, h⟩⟩
    · rw [h]; exact ⟨inv, Nat.le_refl _, Nat.le_add_right .., nofun⟩
    · rw [h]; exact ⟨inv.failed runLen hr, Nat.le_refl _, Nat.le_add_right .., nofun⟩
    · rw [h]
      obtain ⟨h1, h2, h3, h4⟩ := walk_inv step outlen fuel r' _ _ _ (inv.next runLen hr hfit)
      exact ⟨h1, by omega, by rw [List.length_cons]; omega, h4⟩

theorem init_inv (step outlen : Nat) : WInv step outlen 0 (min outlen step) [] :=
  ⟨Nat.zero_le _, Nat.min_le_left _ _, by have := Nat.min_le_right outlen step; omega, fun p hp => by cases hp⟩

/-- **the LZF output buffer follows the bytes really produced** (D33): when
    `lzfDecompress` stops — success or any error — `len(out)` is at most the bytes
    produced plus one run (≤ 264) plus one step, the bytes produced are at most
    264 per compressed byte: NO bound mentions the declared length `outlen`, which
    only caps the buffer from above. Every growth step ends below the same bound. -/
theorem run_buffer_bounded (step : Nat) (inp : Bytes) (outlen : Nat) :
    (run step inp outlen).blen ≤ (run step inp outlen).o + 264 + step ∧
    (run step inp outlen).o ≤ 264 * inp.length ∧
    (run step inp outlen).blen ≤ outlen ∧
    (∀ p ∈ (run step inp outlen).grows, p.1 < p.2 ∧ p.2 ≤ (run step inp outlen).o + 264 + step) := by
  unfold run
  split
  · simp
  · obtain ⟨inv, _, ho, _⟩ := walk_inv step outlen inp.length inp 0 (min outlen step) [] (init_inv step outlen)
    refine ⟨inv.bs, by omega, inv.bo, ?_⟩
    intro p hp
    have := inv.tr p hp
    have := inv.bs
    omega

theorem run_ok (step : Nat) (inp : Bytes) (outlen : Nat) (h : (run step inp outlen).ok = true) :
    (run step inp outlen).o = outlen ∧ (run step inp outlen).blen = outlen ∧ outlen ≤ 264 * inp.length := by
  unfold run at h ⊢
  split
  · rename_i hg; rw [if_pos hg] at h; cases h
  · rename_i hg
    rw [if_neg hg] at h
    obtain ⟨inv, _, _, hok⟩ := walk_inv step outlen inp.length inp 0 (min outlen step) [] (init_inv step outlen)
    have ho := hok h
    have := inv.ob
    have := inv.bo
    exact ⟨ho, by omega, by omega⟩

theorem _root_.GunYu.RdbAlloc.GrowOK.realloc_le {g : Nat → Nat → Nat} (hg : RdbAlloc.GrowOK g) {cap m B : Nat}
    (hc : cap ≤ 2 * B) (hm : m ≤ B) :
    (if m ≤ cap then 0 else g cap m) ≤ 2 * B ∧ (if m ≤ cap then cap else g cap m) ≤ 2 * B := by
  have := hg.le cap m
  split <;> omega

theorem reqs_le (g : Nat → Nat → Nat) (hg : RdbAlloc.GrowOK g) (B : Nat) :
    ∀ (tr : List (Nat × Nat)) (cap mx sum : Nat), (∀ p ∈ tr, p.2 ≤ B) → cap ≤ 2 * B → mx ≤ 2 * B →
      (reqs g tr cap mx sum).1 ≤ 2 * B ∧ (reqs g tr cap mx sum).2.1 ≤ 2 * B
  | [], cap, mx, sum, _, h1, h2 => by simp only [reqs]; exact ⟨h1, h2⟩
  | (l, n) :: rest, cap, mx, sum, h, h1, h2 => by
    simp only [reqs]
    have hn : n ≤ B := h (l, n) (List.mem_cons_self)
    obtain ⟨hre, hcap⟩ := hg.realloc_le h1 hn
    exact reqs_le g hg B rest _ _ _ (fun p hp => h p (List.mem_cons_of_mem _ hp)) hcap (by omega)

/-- **what `lzfDecompress` asks of the allocator**: with any `append` growth that
    at most doubles, no single request — the first `make`, a temporary chunk, a
    re-allocation — exceeds twice (bytes produced + one run + one step) -/
theorem requests_bounded (g : Nat → Nat → Nat) (hg : RdbAlloc.GrowOK g) (step : Nat) (inp : Bytes) (outlen : Nat) :
    (requests g step inp outlen).1 ≤ 2 * ((run step inp outlen).o + 264 + step) ∧
    (requests g step inp outlen).1 ≤ 2 * (264 * inp.length + 264 + step) := by
  have hb := run_buffer_bounded step inp outlen
  have h0 : (if outlen > inp.length * 264 then 0 else min outlen step) ≤ (run step inp outlen).o + 264 + step := by
    split
    · omega
    · have := Nat.min_le_right outlen step; omega
  have := (reqs_le g hg ((run step inp outlen).o + 264 + step) (run step inp outlen).grows.reverse
    (if outlen > inp.length * 264 then 0 else min outlen step)
    (if outlen > inp.length * 264 then 0 else min outlen step)
    (if outlen > inp.length * 264 then 0 else min outlen step)
    (fun p hp => (hb.2.2.2 p (List.mem_reverse.mp hp)).2) (by omega) (by omega)).2
  unfold requests
  simp only
  constructor
  · exact this
  · omega

end GunYu.RdbLzf
