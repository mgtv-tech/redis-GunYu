/-
  The in-memory position (`Model/SenderMem.lean`) is the position the SAME schedule
  writes to the target when resuming is switched on.

  For a configuration `c` with `resume = false` let `resumeOn c` be its resumable
  twin. Both loops take the same branches (no branch looks at `resume` or at
  `cpInDbs`), so they run in lock step: same queue, same flushes, the twin's
  batches are those of `c` with the checkpoint requests added (`run_sim`, first
  part), and `setMemCP` assigns exactly where the twin puts `<rid>_offset` on the
  wire, with the database the connection is in at that request (`run_sim`, second
  part: `memOf` reads the last `cpOffset` of the twin's wire).
-/
import GunYu.Model.SenderMem
import GunYu.Proofs.RunId

namespace GunYu.Sender
open GunYu GunYu.Target

/-- requests other than the checkpoint writes -/
def notCp : Req → Bool
  | .cpMeta => false
  | .cpOffset _ => false
  | _ => true

def noCp (l : List Req) : List Req := l.filter notCp

/-- the resumable twin of a configuration -/
def resumeOn (c : SCfg) : SCfg := { c with resume := true }

/-- a loop state with other run-id bookkeeping -/
def wk (s : SState) (k : List Int) : SState := { s with cpInDbs := k }

theorem wk_queue (s : SState) (k : List Int) : (wk s k).queue = s.queue := rfl
theorem wk_qbytes (s : SState) (k : List Int) : (wk s k).qbytes = s.qbytes := rfl
theorem wk_txn (s : SState) (k : List Int) : (wk s k).txn = s.txn := rfl
theorem wk_needFlush (s : SState) (k : List Int) : (wk s k).needFlush = s.needFlush := rfl
theorem wk_inTxn (s : SState) (k : List Int) : (wk s k).inTxn = s.inTxn := rfl
theorem wk_lastOffset (s : SState) (k : List Int) : (wk s k).lastOffset = s.lastOffset := rfl
theorem wk_connDb (s : SState) (k : List Int) : (wk s k).connDb = s.connDb := rfl
theorem wk_cpInDbs (s : SState) (k : List Int) : (wk s k).cpInDbs = k := rfl

/-- an empty queue has no bytes -/
def QInv (s : SState) : Prop := s.queue = [] → s.qbytes = 0

/-- the position a list of executed requests leaves: the last `<rid>_offset` written,
    with the database the connection is in at that request -/
def memStep (p : TState × Mem) (r : Req) : TState × Mem :=
  (execReq p.1 r, match r with
    | .cpOffset o => { off := o, db := p.1.cur }
    | _ => p.2)

def memOf (t : TState) (m : Mem) (l : List Req) : Mem := (l.foldl memStep (t, m)).2

theorem memFold_fst (l : List Req) (t : TState) (m : Mem) :
    (l.foldl memStep (t, m)).1 = l.foldl execReq t := by
  induction l generalizing t m with
  | nil => rfl
  | cons r rest ih => simp only [List.foldl_cons]; exact ih _ _

theorem memOf_nil (t : TState) (m : Mem) : memOf t m [] = m := rfl

theorem memOf_append (t : TState) (m : Mem) (a b : List Req) :
    memOf t m (a ++ b) = memOf (a.foldl execReq t) (memOf t m a) b := by
  unfold memOf
  rw [List.foldl_append]
  have : a.foldl memStep (t, m) = (a.foldl execReq t, (a.foldl memStep (t, m)).2) := by
    rw [← memFold_fst a t m]
  rw [this]

theorem memOf_cmds (q : List Item) (t : TState) (m : Mem) :
    memOf t m (q.map (fun i => Req.cmd i.cmd i.args i.offset)) = m := by
  induction q generalizing t with
  | nil => rfl
  | cons i rest ih =>
    simp only [List.map_cons]
    rw [show (Req.cmd i.cmd i.args i.offset :: rest.map (fun i => Req.cmd i.cmd i.args i.offset)) =
      [Req.cmd i.cmd i.args i.offset] ++ rest.map (fun i => Req.cmd i.cmd i.args i.offset) from rfl,
      memOf_append]
    exact ih _

theorem noCp_append (a b : List Req) : noCp (a ++ b) = noCp a ++ noCp b := by
  simp [noCp]

theorem noCp_cmds (q : List Item) :
    noCp (q.map (fun i => Req.cmd i.cmd i.args i.offset)) = q.map (fun i => Req.cmd i.cmd i.args i.offset) := by
  induction q with
  | nil => rfl
  | cons i rest ih =>
    simp only [List.map_cons, noCp, List.filter_cons, notCp, ↓reduceIte]
    exact congrArg _ ih

theorem cpPart_off (c : SCfg) (hr : c.resume = false) (s : SState) (u : Bool) (off : Int) :
    cpPart c s u off = [] := by
  simp [cpPart, hr]

theorem noCp_cpPart (c : SCfg) (s : SState) (u : Bool) (off : Int) : noCp (cpPart c s u off) = [] := by
  unfold cpPart
  split
  · split <;> simp [noCp, notCp]
  · rfl

/-! ### one flush in closed form -/

theorem sendOnce_closed (c : SCfg) (s : SState) (tb up : Bool) (off : Int) (hqi : QInv s) :
    (sendOnce c s tb up off).1 =
      { s with queue := [], qbytes := 0, cpInDbs := cpInAfter c s (up && decide (0 ≤ off)),
               connDb := dbAfter s.connDb s.queue } ∧
    bodies (optToList (sendOnce c s tb up off).2) =
      s.queue.map (fun i => Req.cmd i.cmd i.args i.offset) ++ cpPart c s (up && decide (0 ≤ off)) off := by
  unfold sendOnce
  simp only
  generalize (up && decide (0 ≤ off)) = u
  split
  · rename_i h
    simp only [Bool.and_eq_true, List.isEmpty_iff, Bool.not_eq_true'] at h
    obtain ⟨⟨hq, _⟩, hu⟩ := h
    have hb := hqi hq
    subst hu
    refine ⟨?_, ?_⟩
    · cases s
      simp only at hq hb
      subst hq hb
      simp [cpInAfter, dbAfter]
    · simp [optToList, bodies, hq, cpPart]
  · split
    · rename_i _ h
      have hall : (if tb = true then [Req.multi] else []) = [] ∧ s.queue = [] ∧ cpPart c s u off = [] := by
        simp only [sendReqs, List.isEmpty_iff, List.append_eq_nil_iff, List.map_eq_nil_iff] at h
        exact ⟨h.1.1.1, h.1.1.2, h.1.2⟩
      obtain ⟨_, hq, hcp⟩ := hall
      have hb := hqi hq
      have hur : (u && c.resume) = false := by
        cases hx : (u && c.resume) with
        | false => rfl
        | true => simp [cpPart, hx] at hcp
      refine ⟨?_, ?_⟩
      · cases s
        simp only at hq hb
        subst hq hb
        simp [cpInAfter, dbAfter, hur]
      · simp [optToList, bodies, hq, hcp]
    · simp only [optToList, bodies, List.flatMap_cons, List.flatMap_nil, List.append_nil, stripB_sendReqs]
      constructor <;> first | trivial | rfl

/-! ### the two loops in lock step -/

/-- what one stretch of the two loops has in common -/
def SimOut (r r' : SState × List Batch) (t : TState) (m m' : Mem) : Prop :=
  (∃ k', r'.1 = wk r.1 k') ∧ bodies r.2 = noCp (bodies r'.2) ∧ memOf t m (bodies r'.2) = m' ∧ QInv r.1

theorem sendOnce_sim (c : SCfg) (hr : c.resume = false) (s : SState) (hqi : QInv s) (k : List Int)
    (tb up upG : Bool) (off : Int) (t : TState) (m : Mem)
    (hcur : t.cur = s.connDb) (hsel : ∀ i ∈ s.queue, SelOK i) :
    (∃ k', (sendOnce (resumeOn c) (wk s k) tb upG off).1 = wk (sendOnce c s tb up off).1 k') ∧
    bodies (optToList (sendOnce c s tb up off).2) =
      noCp (bodies (optToList (sendOnce (resumeOn c) (wk s k) tb upG off).2)) ∧
    memOf t m (bodies (optToList (sendOnce (resumeOn c) (wk s k) tb upG off).2)) = memOnce c s upG off m ∧
    QInv (sendOnce c s tb up off).1 := by
  obtain ⟨h1, h2⟩ := sendOnce_closed c s tb up off hqi
  obtain ⟨h1', h2'⟩ := sendOnce_closed (resumeOn c) (wk s k) tb upG off hqi
  refine ⟨⟨cpInAfter (resumeOn c) (wk s k) (upG && decide (0 ≤ off)), ?_⟩, ?_, ?_, ?_⟩
  · rw [h1', h1]; rfl
  · rw [h2, h2', cpPart_off c hr, List.append_nil, noCp_append, noCp_cpPart, List.append_nil]
    exact (noCp_cmds s.queue).symm
  · rw [h2']
    show memOf t m (s.queue.map (fun i => Req.cmd i.cmd i.args i.offset) ++ _) = _
    rw [memOf_append, memOf_cmds]
    obtain ⟨_, hcur'⟩ := exec_cmds s.queue hsel t
    generalize (s.queue.map (fun i => Req.cmd i.cmd i.args i.offset)).foldl execReq t = t1 at hcur'
    have hdb : t1.cur = dbAfter s.connDb s.queue := by rw [hcur', hcur]
    unfold memOnce cpPart
    cases hu : (upG && decide (0 ≤ off))
    · simp [memOf, hr]
    · simp only [resumeOn, Bool.and_self, ↓reduceIte, hr, Bool.not_false]
      split
      · simp [memOf, memStep, hdb]
      · simp [memOf, memStep, execReq, hdb]
  · rw [h1]; intro _; rfl

def mark (s : SState) : SState := { s with needFlush := true }
def fin (s : SState) : SState := { s with needFlush := false, inTxn := false }

def sizeHit (c : SCfg) (s : SState) : Bool :=
  !s.needFlush && !s.inTxn && (decide (c.batchCount ≤ s.queue.length) || decide (c.batchBytes ≤ s.qbytes))

theorem tail_hit (c : SCfg) (s : SState) (tb up : Bool) (h : sizeHit c s = true) :
    tail c s tb up [] = (fin (sendOnce c (mark s) tb up s.lastOffset).1,
                         optToList (sendOnce c (mark s) tb up s.lastOffset).2) := by
  unfold sizeHit at h
  unfold tail
  simp only [h, ↓reduceIte, List.nil_append]
  rfl

theorem tail_flag (c : SCfg) (s : SState) (tb up : Bool) (hn : s.needFlush = true) :
    tail c s tb up [] = (fin (sendOnce c s tb up s.lastOffset).1,
                         optToList (sendOnce c s tb up s.lastOffset).2) := by
  unfold tail
  simp only [hn, Bool.not_true, Bool.false_and, Bool.false_eq_true, ↓reduceIte, List.nil_append]
  rfl

theorem tail_none (c : SCfg) (s : SState) (tb up : Bool) (h : sizeHit c s = false) (hn : s.needFlush = false) :
    tail c s tb up [] = (s, []) := by
  unfold sizeHit at h
  rw [hn] at h
  unfold tail
  simp only [hn, h, Bool.false_eq_true, ↓reduceIte]

theorem tailM_hit (c : SCfg) (s : SState) (upG : Bool) (m : Mem) (h : sizeHit c s = true) :
    tailM c s upG m = memOnce c (mark s) upG s.lastOffset m := by
  unfold sizeHit at h
  unfold tailM
  simp only [h, ↓reduceIte]
  rfl

theorem tailM_flag (c : SCfg) (s : SState) (upG : Bool) (m : Mem)
    (hn : s.needFlush = true) : tailM c s upG m = memOnce c s upG s.lastOffset m := by
  unfold tailM
  simp only [hn, Bool.not_true, Bool.false_and, Bool.false_eq_true, ↓reduceIte]

theorem tailM_none (c : SCfg) (s : SState) (upG : Bool) (m : Mem) (h : sizeHit c s = false)
    (hn : s.needFlush = false) : tailM c s upG m = m := by
  unfold sizeHit at h
  rw [hn] at h
  unfold tailM
  simp only [hn, h, Bool.false_eq_true, ↓reduceIte]

theorem bodies_nil : bodies ([] : List Batch) = [] := rfl

/-- the end-of-iteration flush in lock step -/
theorem tail_sim (c : SCfg) (hr : c.resume = false) (s : SState) (hqi : QInv s) (k : List Int)
    (tb up upG : Bool) (t : TState) (m : Mem)
    (hcur : t.cur = s.connDb) (hsel : ∀ i ∈ s.queue, SelOK i) :
    SimOut (tail c s tb up []) (tail (resumeOn c) (wk s k) tb upG []) t m (tailM c s upG m) := by
  cases hh : sizeHit c s
  · cases hn : s.needFlush
    · rw [tail_none c s tb up hh hn, tail_none (resumeOn c) (wk s k) tb upG hh hn, tailM_none c s upG m hh hn]
      exact ⟨⟨k, rfl⟩, rfl, rfl, hqi⟩
    · rw [tail_flag c s tb up hn, tail_flag (resumeOn c) (wk s k) tb upG hn, tailM_flag c s upG m hn]
      obtain ⟨⟨k', a1⟩, a2, a3, a4⟩ := sendOnce_sim c hr s hqi k tb up upG s.lastOffset t m hcur hsel
      exact ⟨⟨k', congrArg fin a1⟩, a2, a3, a4⟩
  · rw [tail_hit c s tb up hh, tail_hit (resumeOn c) (wk s k) tb upG hh, tailM_hit c s upG m hh]
    obtain ⟨⟨k', a1⟩, a2, a3, a4⟩ := sendOnce_sim c hr (mark s) hqi k tb up upG s.lastOffset t m hcur hsel
    exact ⟨⟨k', congrArg fin a1⟩, a2, a3, a4⟩

/-- the flush before a barrier / EXEC in lock step -/
theorem preFlush_sim (c : SCfg) (hr : c.resume = false) (s : SState) (hqi : QInv s) (k : List Int)
    (tx : Txn) (nf : Bool) (prev : Int) (t : TState) (m : Mem)
    (hcur : t.cur = s.connDb) (hsel : ∀ i ∈ s.queue, SelOK i) :
    SimOut (preFlush c s tx nf prev) (preFlush (resumeOn c) (wk s k) tx nf prev) t m
      (preFlushM c s tx nf prev m) := by
  unfold preFlush preFlushM
  cases nf
  · simp only [Bool.false_eq_true, ↓reduceIte]
    exact ⟨⟨k, rfl⟩, rfl, rfl, hqi⟩
  · simp only [↓reduceIte]
    obtain ⟨⟨k', a1⟩, a2, a3, a4⟩ := sendOnce_sim c hr s hqi k c.txnMode (c.resume && c.txnMode) c.txnMode
      (if tx = Txn.commit then s.lastOffset else prev) t m hcur hsel
    exact ⟨⟨k', congrArg fin a1⟩, a2, a3, a4⟩

theorem absorb_wk (s : SState) (k : List Int) (tx : Txn) (it : Item) :
    absorb (wk s k) tx it = wk (absorb s tx it) k := by
  unfold absorb
  split
  · rfl
  · split <;> rfl

theorem absorb_qinv (s : SState) (tx : Txn) (it : Item) (h : QInv s) : QInv (absorb s tx it) := by
  unfold absorb
  split
  · intro hq; simp [enqueue] at hq
  · split
    · exact h
    · exact h

theorem absorb_sel (s : SState) (tx : Txn) (it : Item) (h : ∀ i ∈ s.queue, SelOK i) (hit : SelOK it) :
    ∀ i ∈ (absorb s tx it).queue, SelOK i := by
  unfold absorb
  split
  · intro i hi
    simp only [enqueue, List.mem_append, List.mem_singleton] at hi
    rcases hi with h' | h'
    · exact h i h'
    · rw [h']; exact hit
  · split
    · exact h
    · exact h

theorem absorb_connDb (s : SState) (tx : Txn) (it : Item) : (absorb s tx it).connDb = s.connDb := by
  unfold absorb
  split
  · rfl
  · split <;> rfl

/-- a transactional item in lock step: flush what was queued, absorb, end-of-iteration flush
    (`s'` is the twin's state: the caller's has the form `wk s k` only up to unfolding) -/
theorem stepItemTxn_sim (c : SCfg) (hr : c.resume = false) (s s' : SState) (hqi : QInv s) (k : List Int)
    (hs' : s' = wk s k) (tx : Txn) (nf : Bool) (it : Item) (prev : Int) (t : TState) (m : Mem)
    (hc : Coupled s' t) (hsel : ∀ i ∈ s.queue, SelOK i) (hit : SelOK it) :
    SimOut (stepItemTxn c s tx nf it prev) (stepItemTxn (resumeOn c) s' tx nf it prev) t m
      (stepItemTxnM c s tx nf it prev m) := by
  subst hs'
  have htxm : (resumeOn c).txnMode = c.txnMode := rfl
  have hres : (resumeOn c).resume = true := rfl
  unfold stepItemTxn stepItemTxnM
  simp only [htxm, hres, Bool.true_and]
  obtain ⟨⟨k1, p1⟩, p2, p3, p4⟩ := preFlush_sim c hr s hqi k tx nf prev t m hc.1 hsel
  obtain ⟨_, c2, c3⟩ := preFlush_coupled (resumeOn c) (wk s k) tx nf prev t hc hsel
  generalize preFlush c s tx nf prev = pf at p1 p2 p3 p4 ⊢
  generalize preFlush (resumeOn c) (wk s k) tx nf prev = pf' at p1 p2 p3 c2 c3 ⊢
  generalize preFlushM c s tx nf prev m = m1 at p3 ⊢
  have hsel1 : ∀ i ∈ pf.1.queue, SelOK i := fun i hi => c3 i (by rw [p1]; exact hi)
  have hcur1 : ((bodies pf'.2).foldl execReq t).cur = (absorb pf.1 tx it).connDb := by
    rw [absorb_connDb, c2.1, p1]; rfl
  obtain ⟨⟨k2, q1⟩, q2, q3, q4⟩ := tail_sim c hr (absorb pf.1 tx it) (absorb_qinv _ _ _ p4) k1
    c.txnMode (c.resume && c.txnMode) c.txnMode ((bodies pf'.2).foldl execReq t) m1 hcur1
    (absorb_sel _ _ _ hsel1 hit)
  rw [tail_out c, tail_out (resumeOn c), p1, absorb_wk]
  refine ⟨⟨k2, q1⟩, ?_, ?_, q4⟩
  · rw [bodies_append, bodies_append, noCp_append, p2, q2]
  · rw [bodies_append, memOf_append, p3]
    exact q3

/-- **One iteration of the two loops in lock step.** -/
theorem step_sim (c : SCfg) (hr : c.resume = false) (s : SState) (hqi : QInv s) (k : List Int)
    (ev : Ev) (t : TState) (m : Mem)
    (hc : Coupled (wk s k) t) (hsel : ∀ i ∈ s.queue, SelOK i) (hev : ∀ it, ev = .item it → SelOK it) :
    SimOut (step c s ev) (step (resumeOn c) (wk s k) ev) t m (stepM c s m ev) := by
  have hcur : t.cur = s.connDb := hc.1
  have plain : ∀ (s0 : SState) tb up upG, s0.connDb = s.connDb → QInv s0 → (∀ i ∈ s0.queue, SelOK i) →
      SimOut (tail c s0 tb up []) (tail (resumeOn c) (wk s0 k) tb upG []) t m (tailM c s0 upG m) :=
    fun s0 tb up upG h1 h2 h3 => tail_sim c hr s0 h2 k tb up upG t m (by rw [h1]; exact hcur) h3
  have htxm : (resumeOn c).txnMode = c.txnMode := rfl
  have hres : (resumeOn c).resume = true := rfl
  cases ev with
  | item it =>
    have hit := hev it rfl
    simp only [step, stepM, wk_lastOffset]
    split
    · exact ⟨⟨k, rfl⟩, rfl, rfl, hqi⟩
    · unfold stepItem stepItemM
      simp only [htxm, wk_txn]
      by_cases htx : c.txnMode = true
      · simp only [htx, ↓reduceIte]
        exact stepItemTxn_sim c hr
          { s with lastOffset := it.offset, txn := (txnStatus it.cmd s.txn).1,
                   needFlush := (txnStatus it.cmd s.txn).2 } _ hqi k rfl _ _ it _ t m
          (coupled_congr hc rfl rfl) hsel hit
      · -- ticker mode
        have htx0 : c.txnMode = false := by simpa using htx
        simp only [htx0, Bool.false_eq_true, ↓reduceIte]
        unfold stepItemPlain stepItemPlainM
        simp only [htxm, hres, htx0]
        split
        · exact ⟨⟨k, rfl⟩, rfl, rfl, hqi⟩
        · split
          · exact plain { s with lastOffset := it.offset, txn := (txnStatus it.cmd s.txn).1, needFlush := true } _ _ _ rfl hqi hsel
          · refine plain (enqueue { s with lastOffset := it.offset, txn := (txnStatus it.cmd s.txn).1, needFlush := (txnStatus it.cmd s.txn).2 } it) _ _ _ rfl (by intro hq; simp [enqueue] at hq) ?_
            intro i hi
            simp only [enqueue, List.mem_append, List.mem_singleton] at hi
            rcases hi with h | h
            · exact hsel i h
            · rw [h]; exact hit
  | batchTick =>
    simp only [step, stepM, htxm, hres, wk_needFlush, wk_inTxn, wk_queue]
    by_cases hb : (!s.needFlush && !s.inTxn && !s.queue.isEmpty) = true
    · simp only [hb, ↓reduceIte]
      exact plain { s with needFlush := true } _ _ _ rfl hqi hsel
    · simp only [hb]
      exact plain s _ _ _ rfl hqi hsel
  | keepaliveTick =>
    simp only [step, stepM, htxm, hres, wk_needFlush, wk_inTxn, wk_queue, wk_lastOffset]
    split
    · split
      · refine plain { s with queue := [pingItem s.lastOffset], needFlush := true } _ _ _ rfl (by intro hq; simp at hq) ?_
        intro i hi
        simp only [List.mem_singleton] at hi
        rw [hi]
        intro h
        have : bPing ≠ bSelect := by decide
        exact absurd h this
      · exact plain { s with needFlush := true } _ _ _ rfl hqi hsel
    · exact plain s _ _ _ rfl hqi hsel
  | cpTick =>
    simp only [step, stepM, htxm, hres, wk_inTxn, wk_queue]
    split
    · exact plain { s with needFlush := true } _ _ _ rfl hqi hsel
    · exact plain s _ _ _ rfl hqi hsel
  | done =>
    simp only [step, stepM, htxm, hres, wk_inTxn, wk_queue]
    split
    · exact plain { s with needFlush := true } _ _ _ rfl hqi hsel
    · exact plain s _ _ _ rfl hqi hsel

theorem run_cons_done (c : SCfg) (s : SState) (rest : List Ev) :
    run c s (Ev.done :: rest) = step c s .done := by
  simp [run]

theorem run_cons_ne (c : SCfg) (s : SState) (ev : Ev) (rest : List Ev) (h : ev ≠ .done) :
    run c s (ev :: rest) =
      ((run c (step c s ev).1 rest).1, (step c s ev).2 ++ (run c (step c s ev).1 rest).2) := by
  simp [run, h]

/-- **The whole run in lock step**: the batches of the resumable twin are those of
    `c` with the checkpoint requests added, and `setMemCP` assigned last exactly
    where the twin's wire has its last `<rid>_offset`, with the database the
    connection is in there. -/
theorem run_sim (c : SCfg) (hr : c.resume = false) (evs : List Ev) :
    ∀ (s : SState) (k : List Int) (t : TState) (m : Mem), QInv s → Coupled (wk s k) t →
      (∀ i ∈ s.queue, SelOK i) → (∀ ev ∈ evs, ∀ it, ev = .item it → SelOK it) →
      bodies (run c s evs).2 = noCp (bodies (run (resumeOn c) (wk s k) evs).2) ∧
      memOf t m (bodies (run (resumeOn c) (wk s k) evs).2) = runM c s m evs ∧
      (run (resumeOn c) (wk s k) evs).1.queue = (run c s evs).1.queue := by
  induction evs with
  | nil => intro s k t m _ _ _ _; exact ⟨rfl, rfl, rfl⟩
  | cons ev rest ih =>
    intro s k t m hqi hc hsel hev
    obtain ⟨⟨k', a1⟩, a2, a3, a4⟩ := step_sim c hr s hqi k ev t m hc hsel (hev ev (List.mem_cons_self ..))
    obtain ⟨_, b2, b3⟩ := step_coupled (resumeOn c) (wk s k) ev t hc hsel (hev ev (List.mem_cons_self ..))
    by_cases hd : ev = Ev.done
    · subst hd
      rw [run_cons_done, run_cons_done]
      simp only [runM, ↓reduceIte]
      exact ⟨a2, a3, by rw [a1]; rfl⟩
    · rw [run_cons_ne c s ev rest hd, run_cons_ne (resumeOn c) (wk s k) ev rest hd]
      simp only [runM, hd, ↓reduceIte, bodies_append, noCp_append]
      rw [a1] at b2 b3 ⊢
      obtain ⟨i1, i2, i3⟩ := ih (step c s ev).1 k' ((bodies (step (resumeOn c) (wk s k) ev).2).foldl execReq t)
        (stepM c s m ev) a4 b2 b3 (fun e he => hev e (List.mem_cons_of_mem _ he))
      refine ⟨by rw [a2, i1], ?_, i3⟩
      rw [memOf_append, a3]
      exact i2

/-! ### reading the position off the twin's wire -/

theorem memOf_cons (r : Req) (W : List Req) (t : TState) (m : Mem) :
    memOf t m (r :: W) = memOf (execReq t r) (memStep (t, m) r).2 W := rfl

/-- what `memOf` found: nothing written (the position is the old one), or the LAST
    `<rid>_offset` of the list, with the database the connection is in there -/
theorem memOf_split (W : List Req) : ∀ (t : TState) (m : Mem),
    (Sender.cpOffsetsB W = [] ∧ memOf t m W = m) ∨
    ∃ E1 E2, W = E1 ++ Req.cpOffset (memOf t m W).off :: E2 ∧ Sender.cpOffsetsB E2 = [] ∧
      (E1.foldl execReq t).cur = (memOf t m W).db := by
  induction W with
  | nil => intro t m; exact Or.inl ⟨rfl, rfl⟩
  | cons r W ih =>
    intro t m
    rw [memOf_cons]
    rcases ih (execReq t r) (memStep (t, m) r).2 with ⟨h1, h2⟩ | ⟨E1, E2, h1, h2, h3⟩
    · rw [h2]
      cases r with
      | cpOffset o => exact .inr ⟨[], W, rfl, h1, rfl⟩
      | _ => exact .inl ⟨h1, rfl⟩
    · exact .inr ⟨r :: E1, E2, by rw [List.cons_append, ← h1], h2, h3⟩

/-- executing a request: the data and the selected database do not depend on the checkpoint records -/
theorem execReq_same (r : Req) (a b : TState) (h1 : a.applied = b.applied) (h2 : a.cur = b.cur) :
    (execReq a r).applied = (execReq b r).applied ∧ (execReq a r).cur = (execReq b r).cur := by
  cases r with
  | cmd n a off =>
    simp only [execReq]
    split
    · split
      · split
        · exact ⟨h1, rfl⟩
        · exact ⟨h1, h2⟩
      · exact ⟨h1, h2⟩
    · split
      · exact ⟨h1, h2⟩
      · exact ⟨by simp [h1, h2], h2⟩
  | _ => exact ⟨h1, h2⟩

theorem foldl_execReq_same (q : List Req) : ∀ (a b : TState), a.applied = b.applied → a.cur = b.cur →
    (q.foldl execReq a).applied = (q.foldl execReq b).applied ∧ (q.foldl execReq a).cur = (q.foldl execReq b).cur := by
  induction q with
  | nil => intro a b h1 h2; exact ⟨h1, h2⟩
  | cons r rest ih =>
    intro a b h1 h2
    obtain ⟨e1, e2⟩ := execReq_same r a b h1 h2
    exact ih _ _ e1 e2

/-- two targets that differ in their checkpoint records only -/
def SameButCps (a b : TState) : Prop := a.applied = b.applied ∧ a.cur = b.cur ∧ a.queued = b.queued

theorem applyReq_same (r : Req) (a b : TState) (h : SameButCps a b) : SameButCps (applyReq a r) (applyReq b r) := by
  obtain ⟨h1, h2, h3⟩ := h
  have hexec : SameButCps (execReq a r) (execReq b r) :=
    ⟨(execReq_same r a b h1 h2).1, (execReq_same r a b h1 h2).2, by rw [execReq_queued, execReq_queued, h3]⟩
  unfold applyReq
  rw [← h3]
  cases a.queued with
  | some q =>
    cases r with
    | exec =>
      obtain ⟨e1, e2⟩ := foldl_execReq_same q { a with queued := none } { b with queued := none } h1 h2
      exact ⟨e1, e2, by rw [foldl_execReq_queued, foldl_execReq_queued]⟩
    | _ => exact ⟨h1, h2, rfl⟩
  | none =>
    cases r with
    | multi => exact ⟨h1, h2, rfl⟩
    | _ => exact hexec

theorem applyLog_same (W : List Req) : ∀ (a b : TState), SameButCps a b → SameButCps (applyLog a W) (applyLog b W) := by
  induction W with
  | nil => intro a b h; exact h
  | cons r rest ih =>
    intro a b h
    exact ih _ _ (applyReq_same r a b h)

/-- the checkpoint requests touch neither the executed data nor the selected database -/
theorem foldl_noCp (W : List Req) : ∀ (t t' : TState), t.applied = t'.applied → t.cur = t'.cur →
    ((noCp W).foldl execReq t).applied = (W.foldl execReq t').applied ∧
    ((noCp W).foldl execReq t).cur = (W.foldl execReq t').cur := by
  induction W with
  | nil => intro t t' h1 h2; exact ⟨h1, h2⟩
  | cons r rest ih =>
    intro t t' h1 h2
    cases r with
    | cmd n a off =>
      obtain ⟨e1, e2⟩ := execReq_same (.cmd n a off) t t' h1 h2
      exact ih _ _ e1 e2
    | _ => exact ih _ _ h1 h2

end GunYu.Sender
