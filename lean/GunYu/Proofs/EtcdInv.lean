/-
  The invariant of the etcd election system (Model/EtcdLease.lean) and its
  preservation by every event.
-/
import GunYu.Proofs.EtcdLease


namespace GunYu.Etcd
open GunYu

/-- (wf) the key space is well formed; (elKey) an election object's key is
    "", "\x00" or the key of its session under its prefix; (elRev) the revision
    it remembers is not from the future; (told) whoever was told it leads `p`
    has its key field set, and if that key is in the store at the remembered
    create revision it is the FIRST-CREATED key under `p`. -/
structure Inv (s : Sys) : Prop where
  wf : Wf s.st.kvs s.st.rev
  elKey : ∀ L p, (s.el L p).key = [] ∨ (s.el L p).key = nulKey ∨ (s.el L p).key = keyOf p L
  elRev : ∀ L p r, (s.el L p).rev = some r → r ≤ s.st.rev
  told : ∀ p L, s.told p L = true → (s.el L p).key = keyOf p L ∧
    ∀ kv ∈ s.st.kvs, kv.key = keyOf p L → some kv.create = (s.el L p).rev →
      ∀ kv' ∈ s.st.kvs, p.isPrefixOf kv'.key = true → kv.create ≤ kv'.create

theorem inv_init (rev now : Nat) : Inv (Sys.init rev now) := by
  refine ⟨Wf.nil _, fun L p => Or.inl rfl, fun L p r h => ?_, fun p L h => ?_⟩
  · simp [Sys.init, El.init] at h; omega
  · simp [Sys.init] at h

/-- an election object whose key is that of a stored entry names its session's key -/
theorem Inv.elKey_of_mem {s : Sys} (h : Inv s) {kv : KV} (hm : kv ∈ s.st.kvs) {L : Nat} {p : Bytes}
    (hk : kv.key = (s.el L p).key) : (s.el L p).key = keyOf p L := by
  rcases h.elKey L p with h0 | h0 | h0
  · exact absurd (hk.trans h0) (h.wf.names kv hm).1
  · exact absurd (hk.trans h0) (h.wf.names kv hm).2
  · exact h0

/-- what an election object and the belief about it must satisfy on their own -/
def ElOk (s : Sys) (L : Nat) (p : Bytes) : Prop :=
  ((s.el L p).key = [] ∨ (s.el L p).key = nulKey ∨ (s.el L p).key = keyOf p L) ∧
  (∀ r, (s.el L p).rev = some r → r ≤ s.st.rev) ∧
  (s.told p L = true → (s.el L p).key = keyOf p L ∧
    ∀ kv ∈ s.st.kvs, kv.key = keyOf p L → some kv.create = (s.el L p).rev →
      ∀ kv' ∈ s.st.kvs, p.isPrefixOf kv'.key = true → kv.create ≤ kv'.create)

/-- master preservation lemma: the key space stays well formed, every entry is
    an old one or younger than the old store revision, and every election
    object is either untouched (and not newly told) or re-established -/
theorem inv_step {s s' : Sys} (h : Inv s)
    (hwf : Wf s'.st.kvs s'.st.rev) (hrev : s.st.rev ≤ s'.st.rev)
    (hkvs : ∀ kv ∈ s'.st.kvs, kv ∈ s.st.kvs ∨ s.st.rev < kv.create)
    (hel : ∀ L p, (s'.el L p = s.el L p ∧ (s'.told p L = true → s.told p L = true)) ∨ ElOk s' L p) :
    Inv s' := by
  refine ⟨hwf, fun L p => ?_, fun L p r hr => ?_, fun p L ht => ?_⟩
  · rcases hel L p with ⟨he, _⟩ | ⟨hk, _, _⟩
    · rw [he]; exact h.elKey L p
    · exact hk
  · rcases hel L p with ⟨he, _⟩ | ⟨_, hr', _⟩
    · rw [he] at hr; have := h.elRev L p r hr; omega
    · exact hr' r hr
  · rcases hel L p with ⟨he, ht'⟩ | ⟨_, _, hT⟩
    · obtain ⟨hk, hmin⟩ := h.told p L (ht' ht)
      rw [he]
      refine ⟨hk, fun kv hkv hkey hc kv' hkv' hp => ?_⟩
      rcases hkvs kv hkv with hold | hnew
      · rcases hkvs kv' hkv' with hold' | hnew'
        · exact hmin kv hold hkey hc kv' hold' hp
        · have := (h.wf.pos kv hold).2; omega
      · have := h.elRev L p kv.create hc.symm; omega
    · exact hT ht

theorem setEl_same (f : Nat → Bytes → El) (L : Nat) (p : Bytes) (e : El) : setEl f L p e L p = e := by
  simp [setEl]

theorem setEl_other (f : Nat → Bytes → El) (L L' : Nat) (p p' : Bytes) (e : El) (h : ¬ (L' = L ∧ p' = p)) :
    setEl f L p e L' p' = f L' p' := by
  simp [setEl, h]

theorem setTold_same (f : Bytes → Nat → Bool) (p : Bytes) (L : Nat) (b : Bool) : setTold f p L b p L = b := by
  simp [setTold]

theorem setTold_other (f : Bytes → Nat → Bool) (p p' : Bytes) (L L' : Nat) (b : Bool) (h : ¬ (p' = p ∧ L' = L)) :
    setTold f p L b p' L' = f p' L' := by
  simp [setTold, h]

/-- the usual shape of a step: only the election object (L, p) and the belief
    about it may change -/
theorem hel_local {s s' : Sys} (L : Nat) (p : Bytes)
    (hE : ∀ L' p', ¬ (L' = L ∧ p' = p) → s'.el L' p' = s.el L' p')
    (hT : ∀ p' L', ¬ (p' = p ∧ L' = L) → s'.told p' L' = s.told p' L')
    (hown : (s'.el L p = s.el L p ∧ (s'.told p L = true → s.told p L = true)) ∨ ElOk s' L p) :
    ∀ L' p', (s'.el L' p' = s.el L' p' ∧ (s'.told p' L' = true → s.told p' L' = true)) ∨ ElOk s' L' p' := by
  intro L' p'
  by_cases hq : L' = L ∧ p' = p
  · obtain ⟨rfl, rfl⟩ := hq; exact hown
  · left
    refine ⟨hE L' p' hq, fun ht => ?_⟩
    rw [hT p' L' (fun hh => hq ⟨hh.2, hh.1⟩)] at ht
    exact ht

/-- an election object that is not told anything needs only its key shape and revision bound -/
theorem elOk_untold {s : Sys} {L : Nat} {p : Bytes}
    (hk : (s.el L p).key = [] ∨ (s.el L p).key = nulKey ∨ (s.el L p).key = keyOf p L)
    (hr : ∀ r, (s.el L p).rev = some r → r ≤ s.st.rev) (ht : s.told p L = false) : ElOk s L p :=
  ⟨hk, hr, fun h => by rw [ht] at h; cases h⟩

theorem inv_kvs_filter {s : Sys} (h : Inv s) (f : KV → Bool) (leases : Nat → Option LeaseRec) (now : Nat) :
    Inv { s with st := { s.st with kvs := s.st.kvs.filter f, leases := leases, now := now } } := by
  refine inv_step h ?_ ?_ ?_ ?_
  · exact h.wf.filter f _ (Nat.le_refl _)
  · exact Nat.le_refl _
  · intro kv hkv; exact Or.inl (List.mem_filter.1 hkv).1
  · intro L p; exact Or.inl ⟨rfl, fun ht => ht⟩

theorem inv_leases {s : Sys} (h : Inv s) (leases : Nat → Option LeaseRec) :
    Inv { s with st := { s.st with leases := leases } } := by
  refine inv_step h ?_ ?_ ?_ ?_
  · exact h.wf
  · exact Nat.le_refl _
  · intro kv hkv; exact Or.inl hkv
  · intro L p; exact Or.inl ⟨rfl, fun ht => ht⟩

theorem inv_untold {s : Sys} (h : Inv s) (L : Nat) (p : Bytes) {st' : Store} {e' : El}
    (hwf : Wf st'.kvs st'.rev) (hrev : s.st.rev ≤ st'.rev)
    (hkvs : ∀ kv ∈ st'.kvs, kv ∈ s.st.kvs ∨ s.st.rev < kv.create)
    (hk : e'.key = [] ∨ e'.key = nulKey ∨ e'.key = keyOf p L) (hr : ∀ r, e'.rev = some r → r ≤ st'.rev) :
    Inv { st := st', el := setEl s.el L p e', told := setTold s.told p L false } :=
  inv_step h hwf hrev hkvs (hel_local L p (fun _ _ hq => setEl_other _ _ _ _ _ _ hq)
    (fun _ _ hq => setTold_other _ _ _ _ _ _ hq)
    (Or.inr (elOk_untold (by dsimp only; rw [setEl_same]; exact hk) (by dsimp only; rw [setEl_same]; exact hr)
      (setTold_same _ _ _ _))))

theorem wf_delKV {kvs : List KV} {rev : Nat} (h : Wf kvs rev) (k : Bytes) (rev' : Nat) (hr : rev ≤ rev') :
    Wf (delKV kvs k) rev' := h.filter _ rev' hr

theorem mem_delKV {kvs : List KV} {k : Bytes} {kv : KV} (h : kv ∈ delKV kvs k) : kv ∈ kvs :=
  (List.mem_filter.1 h).1

theorem mem_delKV_of_ne {kvs : List KV} {k : Bytes} {kv : KV} (h : kv ∈ kvs) (hne : kv.key ≠ k) :
    kv ∈ delKV kvs k :=
  List.mem_filter.2 ⟨h, decide_eq_true hne⟩

theorem le_bump (c : Prop) [Decidable c] (r : Nat) : r ≤ (if c then r + 1 else r) := by
  split <;> omega

theorem inv_campDel (idOf : Nat → Bytes) {s : Sys} (h : Inv s) (p : Bytes) (L f : Nat) :
    Inv (campDel idOf s p L f).1 := by
  unfold campDel
  by_cases hp : (s.el L p).pend = false
  · simp only [hp, Bool.not_false, ↓reduceIte]; exact h
  simp only [Bool.not_eq_false] at hp
  simp only [hp, Bool.not_true, Bool.false_eq_true, ↓reduceIte]
  rw [loserDelete_eval]
  have hkey := h.elKey L p
  have hrevb := h.elRev L p
  have same := fun e' => @inv_untold s h L p s.st e' h.wf (Nat.le_refl _) (fun _ hkv => Or.inl hkv)
  have del := fun e' => @inv_untold s h L p
    { s.st with kvs := delKV s.st.kvs (s.el L p).key,
                rev := if (findKey s.st.kvs (s.el L p).key).isSome then s.st.rev + 1 else s.st.rev } e'
    (wf_delKV h.wf _ _ (le_bump _ _)) (le_bump _ _) (fun _ hkv => Or.inl (mem_delKV hkv))
  by_cases hf3 : f = 3
  · simp only [hf3, ↓reduceIte]; exact same { s.el L p with pend := false } hkey hrevb
  simp only [hf3, ↓reduceIte]
  by_cases hk : (s.el L p).key = []
  · simp only [hk, ↓reduceIte]; exact same ⟨[], (s.el L p).rev, false⟩ (Or.inl rfl) hrevb
  simp only [hk, ↓reduceIte]
  by_cases hf4 : f = 4
  · simp only [hf4, ↓reduceIte]
    exact del { s.el L p with pend := false } hkey (fun r hr => Nat.le_trans (hrevb r hr) (le_bump _ _))
  · simp only [hf4, ↓reduceIte]
    exact del ⟨nulKey, none, false⟩ (Or.inr (Or.inl rfl)) (fun r hr => by cases hr)

end GunYu.Etcd
