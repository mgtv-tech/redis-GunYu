/-
  C20 — the concurrent replay system under `replace` / `ignore` with values the target can take: no entry fails, so no
  worker ever raises the cancel. (`conc_is_one_worker` needs "no cancel": with this it follows from its own hypotheses
  whenever the ENVIRONMENT does not cancel.)

  Core Lean only.
-/
import GunYu.Proofs.RestoreConcInv

namespace GunYu.Restore
open GunYu

/-- an entry that cannot fail under `replace` / `ignore`: not a module value; bidirectional — where the RESTORE path is
    taken the target can load the payload -/
def EntryNoFail (E : Env) (e : Entry) : Prop :=
  (retag E.w.rht e).otype ≠ .module ∧
  (E.bisync = true → keyless e = false → ¬ (e.db ≥ 0 ∧ E.w.filterDb e.db.toNat = true) → ¬ E.w.filterKey e.key = true →
    useRestore E.cfg (retag E.w.rht e) = true → E.bad (retag E.w.rht e).key = false)

theorem stepF_out_ok (E : Env) (hp : E.pol ≠ .error) (cur : Nat) (st : RState) (ks : KS) (e : Entry) (h : EntryNoFail E e) :
    (stepF E.w E.bisync E.pol E.cfg cur st (E.tgt cur ks) e).out = .ok := by
  let P (x : StepRes) : Prop := x.out = .ok
  show P (stepF E.w E.bisync E.pol E.cfg cur st (E.tgt cur ks) e)
  rw [stepF_eq]
  refine ite_elim (fun _ => rfl) fun c1 => ite_elim (fun _ => rfl) fun c2 => ?_
  refine (stepOf_out E.bisync E.pol E.cfg st _ _).resolve_right (not_or.2 ⟨hp, not_or.2 ⟨h.1, ?_⟩⟩)
  rintro ⟨hb, k1, k2, k3⟩
  rw [retag_keyless] at k1
  simp only [viewOf, applyReqs_bad] at k3
  rw [show (E.tgt cur ks).bad = E.bad from rfl, h.2 hb k1 c1 c2 k2] at k3
  cases k3

theorem wstep_ok (E : Env) (hp : E.pol ≠ .error) (c o : Bool) (W : WSt) (ks : KS) (ho : W.out = .ok)
    (hq : ∀ e ∈ W.queue, EntryNoFail E e) :
    (wstep E c o W ks).1.out = .ok ∧ (∀ e ∈ (wstep E c o W ks).1.queue, EntryNoFail E e) ∧ (wstep E c o W ks).2.2 = false := by
  cases hh : W.halted with
  | true => rw [wstep_halted E c o W ks hh]; exact ⟨ho, hq, rfl⟩
  | false =>
    cases hpd : W.pend with
    | cons q qs => rw [wstep_exec E c o W ks q qs hh hpd]; exact ⟨ho, hq, rfl⟩
    | nil =>
      by_cases hc : c = true ∧ o = true
      · rw [wstep_observe E c o W ks hh hpd ho hc]; exact ⟨ho, hq, rfl⟩
      · cases hqq : W.queue with
        | nil => rw [wstep_drain E c o W ks hh hpd ho hc hqq]; exact ⟨ho, hq, rfl⟩
        | cons e rest =>
          rw [wstep_take E c o W ks e rest hh hpd ho hc hqq]
          refine ⟨stepF_out_ok E hp W.cur W.st ks e (hq e (by rw [hqq]; exact List.mem_cons_self ..)),
            fun x hx => hq x (by rw [hqq]; exact List.mem_cons_of_mem _ hx), rfl⟩

structure AllOk (E : Env) (S : Sys) : Prop where
  out : ∀ (i : Nat) (W : WSt), S.ws[i]? = some W → W.out = .ok
  q   : ∀ (i : Nat) (W : WSt), S.ws[i]? = some W → ∀ e ∈ W.queue, EntryNoFail E e
  nc  : S.cancel = false

def Move.isCancel : Move → Bool
  | .cancel => true
  | _ => false

theorem AllOk.move (E : Env) (hp : E.pol ≠ .error) (S : Sys) (h : AllOk E S) (m : Move) (hm : m.isCancel = false) :
    AllOk E (Sys.move E S m) := by
  cases m with
  | cancel => cases hm
  | close j k =>
    cases hj : S.ws[j]? with
    | none => rw [move_close_none E S j k hj]; exact h
    | some Wj =>
      rw [move_close_some E S j k Wj hj]
      exact ⟨forall_set (h.out j Wj hj) fun i W _ => h.out i W,
        forall_set (fun e he => h.q j Wj hj e (List.mem_of_mem_take he)) fun i W _ => h.q i W, h.nc⟩
  | work j obs =>
    show AllOk E (Sys.step E S j obs)
    unfold Sys.step
    cases hj : S.ws[j]? with
    | none => exact h
    | some Wj =>
      obtain ⟨w1, w2, w3⟩ := wstep_ok E hp S.cancel obs Wj S.ks (h.out j Wj hj) (h.q j Wj hj)
      exact ⟨forall_set w1 fun i W _ => h.out i W, forall_set w2 fun i W _ => h.q i W,
        by show (S.cancel || _) = false; rw [w3, h.nc]; rfl⟩

theorem AllOk.run (E : Env) (hp : E.pol ≠ .error) :
    ∀ (sched : List Move) (S : Sys), AllOk E S → (∀ m ∈ sched, m.isCancel = false) → AllOk E (Sys.run E S sched)
  | [], _, h, _ => h
  | m :: rest, S, h, hs =>
    AllOk.run E hp rest _ (AllOk.move E hp S h m (hs m (List.mem_cons_self ..))) (fun x hx => hs x (List.mem_cons_of_mem _ hx))

end GunYu.Restore
