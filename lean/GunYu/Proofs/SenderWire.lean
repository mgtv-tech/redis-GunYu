/-
  C02 core: the wire is ORDERED. Give every forwarded data command the key
  2·(its stream offset) and every checkpoint write `<rid>_offset o` the key
  2·o+1. Then for every schedule the key sequence on the wire is non-decreasing:
    * a command sent AFTER a checkpoint write has a strictly larger offset
      (the stored position never covers a write not yet sent: nothing skipped)
    * a command sent BEFORE a checkpoint write has an offset ≤ it
      (a resume from the stored position never re-sends it: nothing repeated
       once the write and its commands are atomic)
-/
import GunYu.Proofs.SenderRun

namespace GunYu.Sender

def keyOfReq : Req → Option Int
  | .cmd n _ off => if n = bPing then none else some (2 * off)
  | .cpOffset o => some (2 * o + 1)
  | _ => none

def keysB (b : Batch) : List Int := b.filterMap keyOfReq
def keys (out : List Batch) : List Int := out.flatMap keysB

@[simp] theorem keys_nil : keys [] = [] := rfl
@[simp] theorem keys_append (a b : List Batch) : keys (a ++ b) = keys a ++ keys b := by simp [keys]
@[simp] theorem keys_none : keys (optToList none) = [] := rfl
@[simp] theorem keys_some (b : Batch) : keys (optToList (some b)) = keysB b := by simp [keys, optToList]
theorem keysB_append (a b : Batch) : keysB (a ++ b) = keysB a ++ keysB b := by simp [keysB]

/-- keys of the queued items (pings carry none) -/
def qkeys (q : List Item) : List Int :=
  q.filterMap (fun i => if i.cmd = bPing then none else some (2 * i.offset))

theorem keysB_cpPart (c : SCfg) (s : SState) (u : Bool) (off : Int) :
    keysB (cpPart c s u off) = if u && c.resume then [2 * off + 1] else [] := by
  rcases cpPart_shape c s u off with h | ⟨hu, h⟩ <;> rw [h]
  · cases (u && c.resume) <;> rfl
  · rw [hu]; rfl

theorem keysB_sendReqs (c : SCfg) (s : SState) (tb u : Bool) (off : Int) :
    keysB (sendReqs c s tb u off) = qkeys s.queue ++ (if u && c.resume then [2 * off + 1] else []) := by
  rw [keysB, filterMap_sendReqs keyOfReq rfl rfl, ← keysB, keysB_cpPart]
  rfl

theorem sendOnce_keys (c : SCfg) (s : SState) (tb up : Bool) (off : Int) :
    ∃ tl, keys (optToList (sendOnce c s tb up off).2) ++ qkeys (sendOnce c s tb up off).1.queue
            = qkeys s.queue ++ tl ∧
      (tl = [] ∨ (tl = [2 * off + 1] ∧ (sendOnce c s tb up off).1.queue = [])) := by
  rcases sendOnce_cases c s tb up off with ⟨_, h⟩ | h <;> rw [h]
  · exact ⟨[], by simp, .inl rfl⟩
  · simp only [keys_some, keysB_sendReqs]
    by_cases h : (up && decide (0 ≤ off) && c.resume) = true
    · exact ⟨[2 * off + 1], by simp [h, qkeys], .inr (by simp)⟩
    · exact ⟨[], by simp [h, qkeys], .inl rfl⟩

/-- the queue holds no keep-alive, strictly increasing offsets, all ≤ `hi` -/
def QOk (q : List Item) (hi : Int) : Prop :=
  (q.map (·.offset)).Pairwise (· < ·) ∧ (∀ i ∈ q, i.offset ≤ hi) ∧ (∀ i ∈ q, i.cmd ≠ bPing)

/-- smallest key anything still to be sent can have -/
def lowkey (q : List Item) (last : Int) : Int :=
  match q with
  | [] => 2 * last + 1
  | i :: _ => 2 * i.offset

/-- `l` is sorted and lies within `[lo, hi]` -/
def Within (lo hi : Int) (l : List Int) : Prop :=
  l.Pairwise (· ≤ ·) ∧ ∀ k ∈ l, lo ≤ k ∧ k ≤ hi

theorem within_nil (lo hi : Int) : Within lo hi [] := ⟨List.Pairwise.nil, by intro k hk; cases hk⟩

theorem within_append {lo mid hi : Int} {a b : List Int}
    (ha : Within lo mid a) (hb : Within mid hi b) (hlm : lo ≤ mid) (hmh : mid ≤ hi) :
    Within lo hi (a ++ b) := by
  refine ⟨?_, ?_⟩
  · rw [List.pairwise_append]
    refine ⟨ha.1, hb.1, ?_⟩
    intro x hx y hy
    have := (ha.2 x hx).2; have := (hb.2 y hy).1; omega
  · intro k hk
    rcases List.mem_append.mp hk with h | h
    · have := ha.2 k h; omega
    · have := hb.2 k h; omega

theorem within_mono {lo lo' hi hi' : Int} {l : List Int} (h : Within lo hi l)
    (h1 : lo' ≤ lo) (h2 : hi ≤ hi') : Within lo' hi' l :=
  ⟨h.1, fun k hk => by have := h.2 k hk; omega⟩

theorem qkeys_eq (q : List Item) (hp : ∀ i ∈ q, i.cmd ≠ bPing) :
    qkeys q = q.map (fun i => 2 * i.offset) := by
  induction q with
  | nil => rfl
  | cons i q ih =>
    have h1 : i.cmd ≠ bPing := hp i (List.mem_cons_self ..)
    have := ih (fun j hj => hp j (List.mem_cons_of_mem _ hj))
    simp only [qkeys, List.filterMap_cons, h1, ↓reduceIte, List.map_cons] at this ⊢
    rw [this]

theorem qkeys_within (q : List Item) (hi : Int) (h : QOk q hi) (hne : q ≠ []) :
    Within (lowkey q hi) (2 * hi) (qkeys q) := by
  obtain ⟨hs, hle, hp⟩ := h
  rw [qkeys_eq q hp]
  cases q with
  | nil => exact absurd rfl hne
  | cons i q =>
    have hs' := List.pairwise_map.mp hs
    simp only [lowkey]
    refine ⟨List.pairwise_map.mpr (hs'.imp fun {a b} (hab : a.offset < b.offset) =>
      (by omega : (2 : Int) * a.offset ≤ 2 * b.offset)), ?_⟩
    intro k hk
    obtain ⟨j, hj, rfl⟩ := List.mem_map.mp hk
    have h2 := hle j hj
    rcases List.mem_cons.mp hj with rfl | hjq
    · omega
    · have : i.offset < j.offset := (List.pairwise_cons.mp hs').1 j hjq
      omega

theorem sendOnce_within (c : SCfg) (s : SState) (tb up : Bool) (off : Int) (h : QOk s.queue off) :
    Within (lowkey s.queue off) (2 * off + 1) (keys (optToList (sendOnce c s tb up off).2)) := by
  obtain ⟨tl, hk, htl⟩ := sendOnce_keys c s tb up off
  rw [sendOnce_queue_nil] at hk
  simp only [qkeys, List.filterMap_nil, List.append_nil] at hk
  rw [hk]
  have htlw : Within (2 * off + 1) (2 * off + 1) tl := by
    rcases htl with rfl | ⟨rfl, _⟩
    · exact within_nil _ _
    · exact ⟨by simp, by intro k hk; simp at hk; omega⟩
  by_cases hne : s.queue = []
  · rw [hne]; simp only [List.filterMap_nil, List.nil_append, lowkey]
    exact htlw
  · have hq := qkeys_within s.queue off h hne
    have hlo : lowkey s.queue off ≤ 2 * off := by
      cases hqq : s.queue with
      | nil => exact absurd hqq hne
      | cons i q =>
        simp only [lowkey]
        have := h.2.1 i (by rw [hqq]; exact List.mem_cons_self ..)
        omega
    exact within_append hq
      (within_mono htlw (by omega) (Int.le_refl _)) hlo (by omega)

/-- result of (part of) an iteration: the new keys `K` lie between what the old
    situation `(q, last)` could still send and what the new one `(q', last')` can -/
def StepOK (q : List Item) (last : Int) (q' : List Item) (last' : Int) (K : List Int) : Prop :=
  QOk q' last' ∧ Within (lowkey q last) (lowkey q' last') K ∧ lowkey q last ≤ lowkey q' last'

theorem stepOK_trans {q0 q1 q2 : List Item} {l0 l1 l2 : Int} {K1 K2 : List Int}
    (h1 : StepOK q0 l0 q1 l1 K1) (h2 : StepOK q1 l1 q2 l2 K2) : StepOK q0 l0 q2 l2 (K1 ++ K2) :=
  ⟨h2.1, within_append h1.2.1 h2.2.1 h1.2.2 h2.2.2, Int.le_trans h1.2.2 h2.2.2⟩

theorem qok_nil (hi : Int) : QOk [] hi := by simp [QOk]

theorem lowkey_le_top (q : List Item) (last : Int) (h : QOk q last) : lowkey q last ≤ 2 * last + 1 := by
  cases q with
  | nil => simp [lowkey]
  | cons i q => simp only [lowkey]; have := h.2.1 i (List.mem_cons_self ..); omega

theorem lowkey_mono_last (q : List Item) {a b : Int} (hab : a ≤ b) : lowkey q a ≤ lowkey q b := by
  cases q with
  | nil => simp only [lowkey]; omega
  | cons i q => exact Int.le_refl _

theorem flush_stepOK (c : SCfg) (s : SState) (tb up : Bool) (off last : Int)
    (h : QOk s.queue off) (hl : last ≤ off) :
    StepOK s.queue last [] off (keys (optToList (sendOnce c s tb up off).2)) := by
  have hw := sendOnce_within c s tb up off h
  have hlow := lowkey_mono_last s.queue hl
  refine ⟨qok_nil _, ?_, ?_⟩
  · simpa [lowkey] using within_mono hw hlow (Int.le_refl _)
  · have h1 := lowkey_le_top s.queue off h
    have h2 : lowkey ([] : List Item) off = 2 * off + 1 := rfl
    omega

theorem tail_stepOK (c : SCfg) (s : SState) (tb up : Bool) (h : QOk s.queue s.lastOffset) :
    StepOK s.queue s.lastOffset (tail c s tb up []).1.queue s.lastOffset (keys (tail c s tb up []).2) ∧
    (tail c s tb up []).1.lastOffset = s.lastOffset := by
  refine ⟨?_, (tail_cp c s tb up []).1⟩
  rw [tail_eq]
  split
  · simpa [sendOnce_queue_nil] using flush_stepOK c s tb up s.lastOffset s.lastOffset h (Int.le_refl _)
  · exact ⟨h, within_nil _ _, Int.le_refl _⟩

theorem qok_weaken {q : List Item} {a b : Int} (h : QOk q a) (hab : a ≤ b) : QOk q b :=
  ⟨h.1, fun i hi => by have := h.2.1 i hi; omega, h.2.2⟩

theorem stepOK_relabel (q : List Item) {a b : Int} (h : QOk q a) (hab : a ≤ b) : StepOK q a q b [] :=
  ⟨qok_weaken h hab, within_nil _ _, lowkey_mono_last q hab⟩

theorem qok_snoc {q : List Item} {prev : Int} (h : QOk q prev) (it : Item)
    (hlt : prev < it.offset) (hp : it.cmd ≠ bPing) : QOk (q ++ [it]) it.offset := by
  obtain ⟨hs, hle, hpp⟩ := h
  refine ⟨?_, ?_, ?_⟩
  · rw [List.map_append, List.pairwise_append]
    refine ⟨hs, by simp, ?_⟩
    intro a ha b hb
    obtain ⟨i, hi, rfl⟩ := List.mem_map.mp ha
    simp at hb; subst hb
    have := hle i hi; omega
  · intro i hi
    rcases List.mem_append.mp hi with h | h
    · have := hle i h; omega
    · simp at h; subst h; exact Int.le_refl _
  · intro i hi
    rcases List.mem_append.mp hi with h | h
    · exact hpp i h
    · simp at h; subst h; exact hp

theorem enqueue_stepOK {q : List Item} {prev : Int} (h : QOk q prev) (it : Item)
    (hlt : prev < it.offset) (hp : it.cmd ≠ bPing) : StepOK q prev (q ++ [it]) it.offset [] := by
  refine ⟨qok_snoc h it hlt hp, within_nil _ _, ?_⟩
  cases q with
  | nil => simp only [lowkey, List.nil_append]; omega
  | cons i q => exact Int.le_refl _

/-- phase 1 of a transactional item: the forced flush of what was queued before -/
theorem preFlush_stepOK (c : SCfg) (s : SState) (t : Txn) (nf : Bool) (prev : Int)
    (hq : QOk s.queue prev) (hlt : prev ≤ s.lastOffset) :
    (preFlush c s t nf prev).1.lastOffset = s.lastOffset ∧
    ((StepOK s.queue prev (preFlush c s t nf prev).1.queue prev (keys (preFlush c s t nf prev).2)) ∨
     (t = .commit ∧ (preFlush c s t nf prev).1.queue = [] ∧
      StepOK s.queue prev [] s.lastOffset (keys (preFlush c s t nf prev).2))) := by
  refine ⟨(preFlush_cp c s t nf prev).1, ?_⟩
  unfold preFlush
  split
  · simp only
    by_cases ht : t = Txn.commit
    · right
      simp only [ht, ↓reduceIte, true_and]
      exact ⟨sendOnce_queue_nil _ _ _ _ _,
        flush_stepOK c s _ _ s.lastOffset prev (qok_weaken hq (by omega)) (by omega)⟩
    · left
      simp only [ht, ↓reduceIte]
      have := flush_stepOK c s c.txnMode (c.resume && c.txnMode) prev prev hq (Int.le_refl _)
      simpa [sendOnce_queue_nil] using this
  · left
    exact ⟨hq, within_nil _ _, Int.le_refl _⟩

theorem tail_out (c : SCfg) (s : SState) (tb up : Bool) (out : List Batch) :
    tail c s tb up out = ((tail c s tb up []).1, out ++ (tail c s tb up []).2) := by
  rw [tail_eq, tail_eq]
  split <;> simp

theorem stepItemTxn_ok (c : SCfg) (s : SState) (t : Txn) (nf : Bool) (it : Item) (prev : Int)
    (hq : QOk s.queue prev) (hle : prev ≤ s.lastOffset)
    (hlt : forwards t = true → prev < s.lastOffset) (hit : it.offset = s.lastOffset)
    (hp : it.cmd ≠ bPing) :
    StepOK s.queue prev (stepItemTxn c s t nf it prev).1.queue s.lastOffset
      (keys (stepItemTxn c s t nf it prev).2) ∧
    (stepItemTxn c s t nf it prev).1.lastOffset = s.lastOffset := by
  unfold stepItemTxn
  simp only
  obtain ⟨hl1, hph1⟩ := preFlush_stepOK c s t nf prev hq hle
  generalize hpf : preFlush c s t nf prev = pf at hl1 hph1
  -- phase 2: absorb
  have hph2 : StepOK s.queue prev (absorb pf.1 t it).queue s.lastOffset (keys pf.2) ∧
      (absorb pf.1 t it).lastOffset = s.lastOffset := by
    refine ⟨?_, by rw [absorb_last, hl1]⟩
    rcases hph1 with h1 | ⟨htc, hqn, h1⟩
    · have hq1 : QOk pf.1.queue prev := h1.1
      unfold absorb
      split
      · -- enqueue
        rename_i hten
        have hlt' := hlt (by simp [forwards, hten.1, hten.2])
        have := stepOK_trans h1 (enqueue_stepOK hq1 it (by omega) hp)
        simpa [enqueue, hit] using this
      · split
        · have := stepOK_trans h1 (stepOK_relabel pf.1.queue hq1 hle)
          simpa using this
        · have := stepOK_trans h1 (stepOK_relabel pf.1.queue hq1 hle)
          simpa using this
    · subst htc
      have : absorb pf.1 Txn.commit it = pf.1 := by simp [absorb]
      rw [this, hqn]
      exact h1
  obtain ⟨h2, hl2⟩ := hph2
  -- phase 3: the tail
  obtain ⟨h3, hl3⟩ := tail_stepOK c (absorb pf.1 t it) c.txnMode (c.resume && c.txnMode)
    (by rw [hl2]; exact h2.1)
  rw [tail_out, keys_append]
  rw [hl2] at h3 hl3
  exact ⟨stepOK_trans h2 h3, hl3⟩

theorem stepItemPlain_ok (c : SCfg) (s : SState) (t : Txn) (it : Item) (prev : Int)
    (hq : QOk s.queue prev) (hle : prev ≤ s.lastOffset)
    (hlt : forwards t = true → prev < s.lastOffset) (hit : it.offset = s.lastOffset)
    (hp : it.cmd ≠ bPing) :
    StepOK s.queue prev (stepItemPlain c s t it).1.queue s.lastOffset
      (keys (stepItemPlain c s t it).2) ∧
    (stepItemPlain c s t it).1.lastOffset = s.lastOffset := by
  unfold stepItemPlain
  split
  · exact ⟨stepOK_relabel s.queue hq hle, rfl⟩
  · split
    · obtain ⟨h3, hl3⟩ := tail_stepOK c { s with needFlush := true } c.txnMode (c.resume && c.txnMode)
        (qok_weaken hq hle)
      have := stepOK_trans (stepOK_relabel s.queue hq hle) h3
      exact ⟨by simpa using this, hl3⟩
    · rename_i htb htc
      have hlt' := hlt (by simp [forwards, htb, htc])
      have he := enqueue_stepOK hq it (by omega) hp
      rw [hit] at he
      obtain ⟨h3, hl3⟩ := tail_stepOK c (enqueue s it) c.txnMode (c.resume && c.txnMode)
        (by simpa [enqueue] using he.1)
      have h3' : StepOK (s.queue ++ [it]) s.lastOffset
          (tail c (enqueue s it) c.txnMode (c.resume && c.txnMode) []).1.queue s.lastOffset
          (keys (tail c (enqueue s it) c.txnMode (c.resume && c.txnMode) []).2) := h3
      have := stepOK_trans he h3'
      exact ⟨by simpa using this, hl3⟩

theorem keepalive_ping_ok (c : SCfg) (s : SState) (up : Bool) :
    StepOK [] s.lastOffset
      (tail c { s with queue := [pingItem s.lastOffset], needFlush := true } false up []).1.queue
      s.lastOffset
      (keys (tail c { s with queue := [pingItem s.lastOffset], needFlush := true } false up []).2) ∧
    (tail c { s with queue := [pingItem s.lastOffset], needFlush := true } false up []).1.lastOffset
      = s.lastOffset := by
  refine ⟨?_, (tail_cp _ _ _ _ _).1⟩
  rw [tail_eq]
  simp only [Bool.true_or, ↓reduceIte, List.nil_append, sendOnce_queue_nil]
  obtain ⟨tl, hk, htl⟩ := sendOnce_keys c
    { s with queue := [pingItem s.lastOffset], needFlush := true } false up s.lastOffset
  rw [sendOnce_queue_nil] at hk
  have hk' : keys (optToList (sendOnce c
      { s with queue := [pingItem s.lastOffset], needFlush := true } false up s.lastOffset).2) = tl := by
    simpa [qkeys, pingItem] using hk
  rw [hk']
  refine ⟨qok_nil _, ?_, Int.le_refl _⟩
  rcases htl with rfl | ⟨rfl, _⟩
  · exact within_nil _ _
  · exact ⟨by simp, by intro k hk; simp at hk; simp [lowkey]; omega⟩

theorem txnStatus_exec (p : Txn) : (txnStatus bExec p).1 = .commit := by
  cases p <;> decide

theorem tick_ok (c : SCfg) (s : SState) (ev : Ev) (hq : QOk s.queue s.lastOffset)
    (hev : ∀ it, ev ≠ .item it) :
    StepOK s.queue s.lastOffset (step c s ev).1.queue (step c s ev).1.lastOffset
      (keys (step c s ev).2) := by
  rcases step_tick c s ev hev with ⟨nf, up, -, h⟩ | ⟨hqe, h⟩ <;> rw [h]
  · obtain ⟨h, hl⟩ := tail_stepOK c { s with needFlush := nf } c.txnMode up hq
    rw [hl]
    exact h
  · obtain ⟨h, hl⟩ := keepalive_ping_ok c s (c.resume && c.txnMode)
    rw [hl, hqe]
    exact h

/-- **One iteration keeps the wire ordered.** Item offsets never decrease; only an
    item that is not queued (a transaction bracket) may repeat the previous
    item's offset. -/
theorem step_ok (c : SCfg) (s : SState) (ev : Ev) (hq : QOk s.queue s.lastOffset)
    (hlt : ∀ it, ev = .item it → s.lastOffset ≤ it.offset ∧
      (it.cmd ≠ bPing → forwards (txnStatus it.cmd s.txn).1 = true → s.lastOffset < it.offset)) :
    StepOK s.queue s.lastOffset (step c s ev).1.queue (step c s ev).1.lastOffset
      (keys (step c s ev).2) := by
  cases ev with
  | item it =>
    obtain ⟨hn, hne⟩ := hlt it rfl
    simp only [step]
    split
    · exact stepOK_relabel s.queue hq hn
    · rename_i hp
      have hcm : forwards (txnStatus it.cmd s.txn).1 = true → s.lastOffset < it.offset := hne hp
      unfold stepItem
      simp only
      split
      · obtain ⟨h, hl⟩ := stepItemTxn_ok c
          { s with lastOffset := it.offset, txn := (txnStatus it.cmd s.txn).1,
                   needFlush := (txnStatus it.cmd s.txn).2 }
          (txnStatus it.cmd s.txn).1 (txnStatus it.cmd s.txn).2 it s.lastOffset hq hn hcm rfl hp
        rw [hl]; exact h
      · obtain ⟨h, hl⟩ := stepItemPlain_ok c
          { s with lastOffset := it.offset, txn := (txnStatus it.cmd s.txn).1,
                   needFlush := (txnStatus it.cmd s.txn).2 }
          (txnStatus it.cmd s.txn).1 it s.lastOffset hq hn hcm rfl hp
        rw [hl]; exact h
  | _ => exact tick_ok c s _ hq nofun

end GunYu.Sender
