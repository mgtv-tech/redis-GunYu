/-
  Helper lemmas for C10, range lists (pkg/filter/range.go model).
-/
import GunYu.Model.Filter

namespace GunYu.Filter

/-- sorted by left bound -/
def SortedL (xs : List (Nat × Nat)) : Prop := xs.Pairwise (fun a b => a.1 ≤ b.1)

theorem mem_insertSorted (l r : Nat) (xs : List (Nat × Nat)) (p : Nat × Nat) :
    p ∈ insertSorted l r xs ↔ p = (l, r) ∨ p ∈ xs := by
  fun_induction insertSorted l r xs
  case case1 => simp
  case case2 => simp
  case case3 ih => simp only [List.mem_cons, ih, or_left_comm]

theorem sorted_insertSorted (l r : Nat) (xs : List (Nat × Nat)) (h : SortedL xs) :
    SortedL (insertSorted l r xs) := by
  unfold SortedL at h ⊢
  fun_induction insertSorted l r xs
  case case1 => simp
  case case2 a b rest hgt =>
    rw [List.pairwise_cons] at h ⊢
    refine ⟨fun q hq => ?_, List.pairwise_cons.mpr h⟩
    rcases List.mem_cons.mp hq with rfl | hq
    · exact Nat.le_of_lt hgt
    · exact Nat.le_trans (Nat.le_of_lt hgt) (h.1 q hq)
  case case3 a b rest hle ih =>
    rw [List.pairwise_cons] at h ⊢
    refine ⟨fun q hq => ?_, ih h.2⟩
    rcases (mem_insertSorted l r rest q).mp hq with rfl | hq
    · exact Nat.le_of_not_gt hle
    · exact h.1 q hq

theorem length_insertSorted (l r : Nat) (xs : List (Nat × Nat)) :
    (insertSorted l r xs).length = xs.length + 1 := by
  fun_induction insertSorted l r xs <;> simp [*]

theorem insertSorted_at (l r : Nat) (xs : List (Nat × Nat)) (k : Nat) (hk : k ≤ xs.length)
    (hlo : ∀ h, (hh : h < k) → ¬ (xs[h].1 > l))
    (hhi : ∀ h, k ≤ h → (hh : h < xs.length) → xs[h].1 > l) :
    insertSorted l r xs = xs.take k ++ (l, r) :: xs.drop k := by
  fun_induction insertSorted l r xs generalizing k
  case case1 => simp
  case case2 a b rest hgt =>
    cases k with
    | zero => rfl
    | succ k => exact absurd hgt (hlo 0 (Nat.succ_pos k))
  case case3 a b rest hle ih =>
    cases k with
    | zero => exact absurd (hhi 0 (Nat.le_refl _) (Nat.succ_pos _)) hle
    | succ k =>
      rw [List.take_succ_cons, List.drop_succ_cons, List.cons_append,
        ih k (Nat.le_of_succ_le_succ hk) (fun h hh => hlo (h + 1) (Nat.succ_lt_succ hh))
          (fun h hkh hh => hhi (h + 1) (Nat.succ_le_succ hkh) (Nat.succ_lt_succ hh))]

theorem sorted_getElem_le (ps : List (Nat × Nat)) (hs : SortedL ps) (a b : Nat) (hab : a ≤ b) (hb : b < ps.length) :
    (ps[a]'(by omega)).1 ≤ ps[b].1 := by
  rcases Nat.lt_or_eq_of_le hab with h | h
  · exact List.pairwise_iff_getElem.mp hs a b (by omega) hb h
  · subst h; exact Nat.le_refl _

theorem scanRanges_iff (xs : List (Nat × Nat)) (s : Nat) (h : SortedL xs) :
    scanRanges xs s = true ↔ ∃ p ∈ xs, p.1 ≤ s ∧ s ≤ p.2 := by
  unfold SortedL at h
  fun_induction scanRanges xs s
  case case1 => simp
  case case2 a b rest s hgt =>
    rw [List.pairwise_cons] at h
    refine ⟨nofun, fun ⟨p, hp, h1, _⟩ => ?_⟩
    rcases List.mem_cons.mp hp with rfl | hp
    · exact absurd h1 (Nat.not_le.mpr hgt)
    · exact absurd (Nat.le_trans (h.1 p hp) h1) (Nat.not_le.mpr hgt)
  case case3 a b rest s hle hsb =>
    exact ⟨fun _ => ⟨(a, b), List.mem_cons_self, Nat.le_of_not_gt hle, hsb⟩, fun _ => rfl⟩
  case case4 a b rest s hle hsb ih =>
    rw [List.pairwise_cons] at h
    rw [ih h.2]
    constructor
    · rintro ⟨p, hp, h1⟩; exact ⟨p, List.mem_cons_of_mem _ hp, h1⟩
    · rintro ⟨p, hp, h1, h2⟩
      rcases List.mem_cons.mp hp with rfl | hp
      · exact absurd h2 hsb
      · exact ⟨p, hp, h1, h2⟩

/-- invariant of every reachable range list -/
structure RangeList.WF (rl : RangeList) : Prop where
  sorted : SortedL rl.list
  minLeft : rl.minLeft = 0
  maxRight : ∀ p ∈ rl.list, p.2 ≤ rl.maxRight

theorem RangeList.wf_empty : RangeList.empty.WF :=
  ⟨by simp [RangeList.empty, SortedL], rfl, by simp [RangeList.empty]⟩

theorem RangeList.wf_insert (rl : RangeList) (l r : Nat) (h : rl.WF) : (rl.insert l r).WF := by
  unfold RangeList.insert
  split
  · refine ⟨sorted_insertSorted l r _ h.sorted, ?_, ?_⟩
    · simp only [h.minLeft]; split <;> omega
    · intro p hp
      simp only at hp ⊢
      rcases (mem_insertSorted l r _ p).mp hp with hp | hp
      · subst hp; simp only; split <;> omega
      · have := h.maxRight p hp; split <;> omega
  · exact h

theorem RangeList.mem_insert (rl : RangeList) (l r : Nat) (p : Nat × Nat) :
    p ∈ (rl.insert l r).list ↔ (p = (l, r) ∧ l ≤ r) ∨ p ∈ rl.list := by
  unfold RangeList.insert
  split
  · rename_i h; simp only [mem_insertSorted, h, and_true]
  · rename_i h; simp only [h, and_false, false_or]

theorem RangeList.contains_iff (rl : RangeList) (s : Nat) (h : rl.WF) :
    rl.contains s = true ↔ ∃ p ∈ rl.list, p.1 ≤ s ∧ s ≤ p.2 := by
  unfold RangeList.contains
  split
  · rename_i he
    have : rl.list = [] := by simpa using he
    simp [this]
  · split
    · rename_i hb
      constructor
      · intro hf; cases hf
      · rintro ⟨p, hp, h1, h2⟩
        have := h.maxRight p hp
        have hm := h.minLeft
        simp only [Bool.or_eq_true, decide_eq_true_eq] at hb
        omega
    · exact scanRanges_iff _ _ h.sorted

theorem RangeList.wf_foldl (rs : List (Nat × Nat)) (rl : RangeList) (h : rl.WF) :
    (rs.foldl (fun rl p => rl.insert p.1 p.2) rl).WF := by
  induction rs generalizing rl with
  | nil => exact h
  | cons x rest ih => exact ih _ (RangeList.wf_insert rl x.1 x.2 h)

theorem RangeList.mem_foldl (rs : List (Nat × Nat)) (rl : RangeList) (p : Nat × Nat) :
    p ∈ (rs.foldl (fun rl p => rl.insert p.1 p.2) rl).list ↔ (p ∈ rs ∧ p.1 ≤ p.2) ∨ p ∈ rl.list := by
  induction rs generalizing rl with
  | nil => simp
  | cons x rest ih =>
    simp only [List.foldl_cons, ih, RangeList.mem_insert, List.mem_cons]
    constructor
    · rintro (⟨h1, h2⟩ | ⟨h1, h2⟩ | h1)
      · exact Or.inl ⟨Or.inr h1, h2⟩
      · subst h1; exact Or.inl ⟨Or.inl rfl, h2⟩
      · exact Or.inr h1
    · rintro (⟨h1 | h1, h2⟩ | h1)
      · subst h1; exact Or.inr (Or.inl ⟨rfl, h2⟩)
      · exact Or.inl ⟨h1, h2⟩
      · exact Or.inr (Or.inr h1)

/-- what one configured entry denotes: `[x]` is the slot x, `[l, r]` with
    `l ≤ r` the range; reversed and malformed entries denote nothing. -/
def entryRange? : List Nat → Option (Nat × Nat)
  | [x] => some (x, x)
  | [x, y] => if x ≤ y then some (x, y) else none
  | _ => none

theorem wf_insertSlotEntries (es : List (List Nat)) (rl : RangeList) (h : rl.WF) :
    (insertSlotEntries rl es).WF := by
  fun_induction insertSlotEntries rl es
  case case1 => exact h
  case case2 ih => exact ih (RangeList.wf_insert _ _ _ h)
  case case4 ih => exact ih (RangeList.wf_insert _ _ _ h)
  all_goals rename_i ih; exact ih h

theorem mem_insertSlotEntries (es : List (List Nat)) (rl : RangeList) (p : Nat × Nat) :
    p ∈ (insertSlotEntries rl es).list ↔ (∃ e ∈ es, entryRange? e = some p) ∨ p ∈ rl.list := by
  fun_induction insertSlotEntries rl es
  case case1 => simp
  case case2 rl x rest ih =>
    simp only [ih, List.mem_cons, exists_eq_or_imp, entryRange?, RangeList.mem_insert, Option.some.injEq,
      Nat.le_refl, and_true, eq_comm (a := p), or_assoc, or_left_comm]
  case case3 rl x y rest hxy ih =>
    simp only [ih, List.mem_cons, exists_eq_or_imp, entryRange?, if_neg (Nat.not_le.mpr hxy), reduceCtorEq, false_or]
  case case4 rl x y rest hxy ih =>
    simp only [ih, List.mem_cons, exists_eq_or_imp, entryRange?, RangeList.mem_insert, Nat.le_of_not_gt hxy,
      ↓reduceIte, Option.some.injEq, and_true, eq_comm (a := p), or_assoc, or_left_comm]
  case case5 rl e rest h1 h2 ih =>
    have he : entryRange? e = none := by
      match e with
      | [] => rfl
      | [x] => exact (h1 x rfl).elim
      | [x, y] => exact (h2 x y rfl).elim
      | _ :: _ :: _ :: _ => rfl
    simp only [ih, List.mem_cons, exists_eq_or_imp, he, reduceCtorEq, false_or]

/-- the slot is in the union of what the configured entries denote -/
def slotIn (entries : List (List Nat)) (s : Nat) : Prop :=
  ∃ e ∈ entries, ∃ l r, entryRange? e = some (l, r) ∧ l ≤ s ∧ s ≤ r

/-- lookup in the list built from a configuration ("not configured" = `none`) -/
def optContains (o : Option RangeList) (s : Nat) : Bool :=
  match o with
  | some rl => rl.contains s
  | none => false

theorem optContains_insertSlotList (es : List (List Nat)) (s : Nat) :
    optContains (insertSlotList none es) s = true ↔ slotIn es s := by
  unfold insertSlotList
  split
  · rename_i he
    have : es = [] := by simpa using he
    subst this
    simp [optContains, slotIn]
  · simp only [optContains, Option.getD_none]
    rw [RangeList.contains_iff _ _ (wf_insertSlotEntries es _ RangeList.wf_empty)]
    constructor
    · rintro ⟨p, hp, h1, h2⟩
      rcases (mem_insertSlotEntries es _ p).mp hp with ⟨e, he, hr⟩ | hp
      · exact ⟨e, he, p.1, p.2, hr, h1, h2⟩
      · simp [RangeList.empty] at hp
    · rintro ⟨e, he, l, r, hr, h1, h2⟩
      exact ⟨(l, r), (mem_insertSlotEntries es _ _).mpr (Or.inl ⟨e, he, hr⟩), h1, h2⟩

theorem isSome_insertSlotList (es : List (List Nat)) :
    (insertSlotList none es).isSome = true ↔ es ≠ [] := by
  cases es <;> simp [insertSlotList]

end GunYu.Filter
