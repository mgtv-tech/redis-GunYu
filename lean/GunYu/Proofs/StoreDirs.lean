/-
  C05, disk backend with several run-id directories: the invariant of the current
  index (`DInv`, Proofs/StoreDisk.lean) holds for it AND for every parked directory
  through `SetRunId` (new directory, rename, switch to an existing directory),
  `DelRunId` (current or foreign id), `VerifyRunId` and restarts.
-/
import GunYu.Model.StoreDirs
import GunYu.Proofs.StoreFrame

namespace GunYu.Store
open GunYu

/-- the two loading branches of `newRunId` are one: with no current id nothing is parked -/
theorem setRunId_cases (x : DiskD) (new : String) :
    ((new = "" ∨ new = "?" ∨ new = x.cur.runId) ∧ x.setRunId new = x) ∨
    (new ≠ "" ∧ new ≠ "?" ∧ new ≠ x.cur.runId ∧
      ((∃ img, dirLookup x.dirs new = some img ∧
          x.setRunId new = { cur := img.loaded new (closeAllReaders x.cur.readers), dirs := dirErase x.parkCur new }) ∨
       (dirLookup x.dirs new = none ∧
          (x.cur.runId = "" ∧ x.setRunId new = { x with cur := { x.cur.reset with runId := new } } ∨
           x.cur.runId ≠ "" ∧
             x.setRunId new = { x with cur := { x.cur.closeAllForSwitch.rescan with runId := new } })))) := by
  unfold DiskD.setRunId
  by_cases hp : new = "" ∨ new = "?"
  · rw [if_pos hp]; exact Or.inl ⟨hp.elim Or.inl (fun e => Or.inr (Or.inl e)), rfl⟩
  have h0 : new ≠ "" := fun e => hp (Or.inl e)
  have h1 : new ≠ "?" := fun e => hp (Or.inr e)
  rw [if_neg hp]
  by_cases hr : x.cur.runId = ""
  · rw [if_pos hr]
    have h2 : new ≠ x.cur.runId := hr ▸ h0
    cases dirLookup x.dirs new with
    | some img => exact Or.inr ⟨h0, h1, h2, Or.inl ⟨img, rfl, by rw [DiskD.parkCur, if_pos hr]⟩⟩
    | none => exact Or.inr ⟨h0, h1, h2, Or.inr ⟨rfl, Or.inl ⟨hr, rfl⟩⟩⟩
  rw [if_neg hr]
  by_cases h2 : new = x.cur.runId
  · rw [if_pos h2]; exact Or.inl ⟨Or.inr (Or.inr h2), rfl⟩
  rw [if_neg h2]
  cases dirLookup x.dirs new with
  | some img => exact Or.inr ⟨h0, h1, h2, Or.inl ⟨img, rfl, rfl⟩⟩
  | none => exact Or.inr ⟨h0, h1, h2, Or.inr ⟨rfl, Or.inr ⟨hr, rfl⟩⟩⟩

theorem delRunId_cases (x : DiskD) (id : String) :
    ((id = "" ∨ id = "?" ∨ id ≠ x.cur.runId ∧ dirLookup x.dirs id = none) ∧ x.delRunId id = x) ∨
    (id ≠ "" ∧ id ≠ "?" ∧
      (id = x.cur.runId ∧ x.delRunId id = { x with cur := { x.cur.reset with runId := "" } } ∨
       id ≠ x.cur.runId ∧ (dirLookup x.dirs id).isSome = true ∧
         x.delRunId id = { cur := { x.cur.reset with runId := "" }, dirs := dirErase x.parkCur id })) := by
  unfold DiskD.delRunId
  by_cases hp : id = "" ∨ id = "?"
  · rw [if_pos hp]; exact Or.inl ⟨hp.elim Or.inl (fun e => Or.inr (Or.inl e)), rfl⟩
  have h0 : id ≠ "" := fun e => hp (Or.inl e)
  have h1 : id ≠ "?" := fun e => hp (Or.inr e)
  rw [if_neg hp]
  by_cases h2 : id = x.cur.runId
  · rw [if_pos h2]; exact Or.inr ⟨h0, h1, Or.inl ⟨h2, rfl⟩⟩
  rw [if_neg h2]
  cases dirLookup x.dirs id with
  | none => exact Or.inl ⟨Or.inr (Or.inr ⟨h2, rfl⟩), rfl⟩
  | some img => exact Or.inr ⟨h0, h1, Or.inr ⟨h2, rfl, rfl⟩⟩

theorem parkCur_forall {x : DiskD} {P : String × Disk → Prop} (hd : ∀ e ∈ x.dirs, P e)
    (hc : x.cur.runId ≠ "" → P (x.cur.runId, x.cur.parked)) : ∀ e ∈ x.parkCur, P e := by
  unfold DiskD.parkCur
  by_cases hr : x.cur.runId = ""
  · rw [if_pos hr]; exact hd
  · rw [if_neg hr]; exact List.forall_mem_cons.mpr ⟨hc hr, hd⟩

/-- `VerifyRunId` is a sequence of `SetRunId`s -/
theorem verifyRunId_ind {P : DiskD → Prop} (hset : ∀ x id, P x → P (x.setRunId id)) :
    ∀ (ids : List String) {x : DiskD}, P x → P (x.verifyRunId ids).1 := by
  intro ids
  induction ids with
  | nil => exact fun h => h
  | cons id rest ih =>
    intro x h
    unfold DiskD.verifyRunId
    by_cases h1 : id = "" ∨ id = "?"
    · rw [if_pos h1]; exact ih h
    rw [if_neg h1]
    by_cases h2 : (!x.exists id) = true
    · rw [if_pos h2]; exact ih h
    rw [if_neg h2]
    dsimp only
    by_cases h3 : (x.setRunId id).cur.latest = 0
    · rw [if_pos h3]; exact ih (hset x id h)
    · rw [if_neg h3]; exact hset x id h

theorem step_base (x : DiskD) {o : DOp} (h1 : ∀ id, o ≠ .setRunId id) (h2 : o ≠ .delRunId) :
    x.step (.base o) = ({ x with cur := (x.cur.step o).1 }, (x.cur.step o).2) := by
  cases o with
  | setRunId id => exact absurd rfl (h1 id)
  | delRunId => exact absurd rfl h2
  | _ => rfl

/-- the four run-id operations (`SetRunId` and `DelRunId` also in their `base` form), and
    work on the current index -/
theorem XOp.byKind {P : XOp → Prop} (set : ∀ id, P (.setRunId id)) (bset : ∀ id, P (.base (.setRunId id)))
    (del : ∀ id, P (.delRunId id)) (bdel : P (.base .delRunId)) (verify : ∀ ids, P (.verifyRunId ids))
    (restart : P .restart) (base : ∀ o, (∀ id, o ≠ .setRunId id) → o ≠ .delRunId → P (.base o)) :
    ∀ op, P op
  | .setRunId id => set id
  | .delRunId id => del id
  | .verifyRunId ids => verify ids
  | .restart => restart
  | .base o => by
    cases o with
    | setRunId id => exact bset id
    | delRunId => exact bdel
    | _ => exact base _ (fun _ e => nomatch e) (fun e => nomatch e)

theorem DInv.withReaders {s : Disk} (h : DInv s) (rs : List DReader) (hc : ∀ r ∈ rs, r.isOpen = false)
    (hn : (rs.map (·.id)).Nodup) : DInv { s with readers := rs } :=
  ⟨h.contig, h.nonempty, h.embed, h.lastEnd, h.rdbAlign, h.rdbShape, hn, fun r hr => ROk_of_closed (hc r hr)⟩

theorem closeAllReaders_ids (rs : List DReader) (hn : (rs.map (·.id)).Nodup) :
    ((closeAllReaders rs).map (·.id)).Nodup := by
  unfold closeAllReaders
  rw [map_ids_of_id_pres _ _ close_id]; exact hn

theorem noWriter_iff (s : Disk) : s.noWriter ↔ s.live = none ∧ ∀ r, s.rdb = some r → r.writing = false := by
  unfold Disk.noWriter
  cases s.rdb <;> simp

theorem parked_spec {s : Disk} (h : DInv s) : DInv s.parked ∧ s.parked.noWriter ∧ s.parked.readers = [] := by
  obtain ⟨hd, hl, hr, _⟩ := closeAllForSwitch_spec h
  exact ⟨hd.withReaders [] (fun _ hr => nomatch hr) .nil, (noWriter_iff _).mpr ⟨hl, hr⟩, rfl⟩

/-- without a writer there is nothing to close but the readers -/
theorem parked_eq {s : Disk} (hw : s.noWriter) : s.parked = { s with readers := [] } := by
  obtain ⟨hl, hr⟩ := (noWriter_iff s).mp hw
  unfold Disk.parked Disk.closeAllForSwitch
  have hd : ({ s with readers := closeAllReaders s.readers } : Disk).dropWritingRdb =
      { s with readers := closeAllReaders s.readers } := by
    unfold Disk.dropWritingRdb
    cases hrd : s.rdb with
    | none => simp
    | some r => simp [hr r hrd]
  rw [hd]
  unfold Disk.closeLive
  simp [hl]

/-- a parked directory scanned again is itself -/
theorem loaded_eq {img : Disk} (h : DInv img) (hw : img.noWriter) (id : String) (rs : List DReader) :
    img.loaded id rs = { img with runId := id, readers := rs } := by
  obtain ⟨hl, hr⟩ := (noWriter_iff img).mp hw
  unfold Disk.loaded
  rw [rescan_eq_self h hl hr]

structure DInvD (x : DiskD) : Prop where
  cur : DInv x.cur
  parked : ∀ e ∈ x.dirs, DInv e.2 ∧ e.2.noWriter ∧ e.2.readers = []

theorem DInvD.init (l m : Nat) : DInvD (DiskD.init l m) :=
  ⟨DInv.init l m, fun _ he => nomatch he⟩

theorem dirLookup_mem {dirs : List (String × Disk)} {id : String} {img : Disk} (h : dirLookup dirs id = some img) :
    (id, img) ∈ dirs := by
  unfold dirLookup at h
  cases hf : dirs.find? (fun e => e.1 == id) with
  | none => rw [hf] at h; cases h
  | some e =>
    rw [hf] at h
    cases h
    have hp : e.1 = id := by simpa using List.find?_some hf
    exact hp ▸ List.mem_of_find?_eq_some hf

theorem dirErase_mem {dirs : List (String × Disk)} {id : String} {e : String × Disk} (h : e ∈ dirErase dirs id) :
    e ∈ dirs := (List.mem_filter.mp h).1

theorem parkCur_mem {x : DiskD} (h : DInvD x) : ∀ e ∈ x.parkCur, DInv e.2 ∧ e.2.noWriter ∧ e.2.readers = [] :=
  parkCur_forall h.parked fun _ => parked_spec h.cur

theorem DInvD.setRunId {x : DiskD} (h : DInvD x) (new : String) : DInvD (x.setRunId new) := by
  rcases setRunId_cases x new with ⟨_, e⟩ | ⟨_, _, _, ⟨img, hl, e⟩ | ⟨_, ⟨_, e⟩ | ⟨_, e⟩⟩⟩ <;> rw [e]
  · exact h
  · obtain ⟨hi, hw, _⟩ := h.parked _ (dirLookup_mem hl)
    rw [loaded_eq hi hw]
    exact ⟨(hi.with_runId new).withReaders _ (closeAllReaders_closed _) (closeAllReaders_ids _ h.cur.ids),
      fun e he => parkCur_mem h e (dirErase_mem he)⟩
  · exact ⟨h.cur.reset.with_runId new, h.parked⟩
  · refine ⟨?_, h.parked⟩
    show DInv { x.cur.closeAllForSwitch.rescan with runId := new }
    rw [rescan_closeAllForSwitch h.cur]
    exact (closeAllForSwitch_spec h.cur).1.with_runId new

theorem DInvD.delRunId {x : DiskD} (h : DInvD x) (id : String) : DInvD (x.delRunId id) := by
  rcases delRunId_cases x id with ⟨_, e⟩ | ⟨_, _, ⟨_, e⟩ | ⟨_, _, e⟩⟩ <;> rw [e]
  · exact h
  · exact ⟨h.cur.reset.with_runId "", h.parked⟩
  · exact ⟨h.cur.reset.with_runId "", fun e he => parkCur_mem h e (dirErase_mem he)⟩

theorem DInvD.verifyRunId (ids : List String) {x : DiskD} (h : DInvD x) : DInvD (x.verifyRunId ids).1 :=
  verifyRunId_ind (fun _ id h => h.setRunId id) ids h

theorem DInvD.restart {x : DiskD} (h : DInvD x) : DInvD x.restart :=
  ⟨(DInv.init _ _).withReaders _ (closeAllReaders_closed _) (closeAllReaders_ids _ h.cur.ids), parkCur_mem h⟩

theorem DInvD.step {x : DiskD} (h : DInvD x) (op : XOp) (hok : x.okOp op) : DInvD (x.step op).1 := by
  revert hok
  refine XOp.byKind (P := fun op => x.okOp op → DInvD (x.step op).1) (fun id _ => h.setRunId id)
    (fun id _ => h.setRunId id) (fun id _ => h.delRunId id) (fun _ => h.delRunId _)
    (fun ids _ => h.verifyRunId ids) (fun _ => h.restart) (fun o h1 h2 hok => ?_) op
  rw [step_base x h1 h2]
  -- the protocol over directories asks a current id of the writer constructors, beyond `Disk.okOp`
  have hok' : x.cur.okOp o := by
    cases o with
    | newRdbWriter off size => exact hok.2
    | newAofWriter off => exact hok.2
    | setRunId id => exact absurd rfl (h1 id)
    | delRunId => exact absurd rfl h2
    | _ => exact hok
  exact ⟨h.cur.step o hok', h.parked⟩

theorem DInvD.run {x : DiskD} (h : DInvD x) (ops : List XOp) (hwf : x.wf ops) : DInvD (x.run ops) := by
  induction ops generalizing x with
  | nil => exact h
  | cons op rest ih => exact ih (h.step op hwf.1) hwf.2

/-! ### other directories are never touched by work on the current one, and a
    directory that was left is found again as it was left -/

theorem dirLookup_erase_ne {dirs : List (String × Disk)} {a b : String} (hne : a ≠ b) :
    dirLookup (dirErase dirs b) a = dirLookup dirs a := by
  unfold dirLookup dirErase
  rw [List.find?_filter]
  congr 2
  funext e
  by_cases h : e.1 = a <;> simp [h, hne]

/-- **switch away and back.** With the current id `a` (no writer open) and an existing
    directory `b`: after `SetRunId(b)` then `SetRunId(a)` the index of `a` holds the
    segments, the snapshot and the written history it held before. -/
theorem switch_back {x : DiskD} (h : DInvD x) {a b : String} (ha : x.cur.runId = a) (ha0 : a ≠ "") (ha1 : a ≠ "?")
    (hb0 : b ≠ "") (hb1 : b ≠ "?") (hab : a ≠ b) (hw : x.cur.noWriter) {img : Disk} (hl : dirLookup x.dirs b = some img) :
    let y := (x.setRunId b).setRunId a
    y.cur.runId = a ∧ y.cur.segs = x.cur.segs ∧ y.cur.rdb = x.cur.rdb ∧ y.cur.live = none ∧
      y.cur.hbase = x.cur.hbase ∧ y.cur.hist = x.cur.hist := by
  intro y
  have hxa : ¬ x.cur.runId = "" := by rw [ha]; exact ha0
  have hba : ¬ b = x.cur.runId := by rw [ha]; exact fun e => hab e.symm
  -- first switch: `a` is parked, `b` loaded
  have h1 : x.setRunId b = { cur := img.loaded b (closeAllReaders x.cur.readers), dirs := dirErase x.parkCur b } := by
    unfold DiskD.setRunId
    simp only [hb0, hb1, or_self, if_false, hxa, hba, hl]
  have hpark : dirLookup (dirErase x.parkCur b) a = some x.cur.parked := by
    rw [dirLookup_erase_ne hab]
    unfold DiskD.parkCur
    simp only [hxa, if_false]
    rw [ha]
    simp [dirLookup]
  -- second switch: what was parked under `a` is loaded again
  have hy : y = (x.setRunId b).setRunId a := rfl
  rw [h1] at hy
  have hrid : (img.loaded b (closeAllReaders x.cur.readers)).runId = b := rfl
  unfold DiskD.setRunId at hy
  simp only [ha0, ha1, or_self, if_false, hrid, hb0, hab, hpark] at hy
  obtain ⟨hpi, hpw, _⟩ := parked_spec h.cur
  rw [hy, loaded_eq hpi hpw, parked_eq hw]
  exact ⟨rfl, rfl, rfl, ((noWriter_iff _).mp hw).1, rfl, rfl⟩

end GunYu.Store
