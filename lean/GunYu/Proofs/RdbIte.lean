/-
  What holds of both branches of an `if` holds of the `if`: the lemmas about the `if` chains of Model/RdbFrame*.lean and
  Model/RdbFanout.lean go down a chain one branch at a time, never splitting on the conditions.
-/
namespace GunYu

theorem ite_elim {β} {P : β → Prop} {c : Prop} [Decidable c] {a b : β} (ha : P a) (hb : P b) :
    P (if c then a else b) := by
  split <;> assumption

end GunYu
