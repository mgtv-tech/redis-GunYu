/-
  Helper lemmas for the two-run theorem of C02 (Props/C02TwoRuns.lean): the
  forwarded stream WITH offsets as a function of the parser's items, where item
  offsets come from, and the unique split of an offset-ordered list at a stored
  position.
-/
import GunYu.Proofs.ResumedWire
import GunYu.Proofs.Restart
import GunYu.Proofs.Nested
import GunYu.Proofs.RunId
import GunYu.Proofs.TxnShape

namespace GunYu.Sender
open GunYu GunYu.Target

/-- the forwarded, non-bracket, non-ping commands of an item list, offsets included -/
def itemCmdsO (items : List Item) : List CmdO :=
  items.filterMap (fun i => if itemCmds.isBracketOrPingB i.cmd then none else some (i.cmd, i.args, i.offset))

theorem itemCmdsO_proj (items : List Item) : (itemCmdsO items).map noOff = itemCmds items := by
  induction items with
  | nil => rfl
  | cons i rest ih =>
    simp only [itemCmdsO, itemCmds, List.filterMap_cons] at ih ⊢
    by_cases hb : itemCmds.isBracketOrPingB i.cmd = true
    · simp [hb, ih]
    · simp [hb, ih, noOff]

theorem itemCmdsO_append (x y : List Item) : itemCmdsO (x ++ y) = itemCmdsO x ++ itemCmdsO y := by
  simp [itemCmdsO, List.filterMap_append]

theorem fwdItemsO_eq (t : Txn) (items : List Item) (hnn : ItemsNoNested (inT t) items) :
    fwdItemsO t items = itemCmdsO items := by
  induction items generalizing t with
  | nil => rfl
  | cons it rest ih =>
    have hpm : bPing ≠ bMulti := by decide
    have hpe : bPing ≠ bExec := by decide
    have hin : inT (fwd1O t (.item it)).2 =
        if it.cmd = bMulti then true else if it.cmd = bExec then false else inT t := by
      rw [fwd1O]
      split
      · rename_i hp; rw [hp, if_neg hpm, if_neg hpe]
      · exact inT_txnStatus _ _
    have hnn' : (it.cmd = bMulti → inT t = false) ∧ ItemsNoNested (inT (fwd1O t (.item it)).2) rest := by
      rw [hin]
      rw [ItemsNoNested] at hnn
      split
      · rw [if_pos ‹_›] at hnn; exact ⟨fun _ => hnn.1, hnn.2⟩
      · rename_i hm
        rw [if_neg hm] at hnn
        refine ⟨fun h => absurd h hm, ?_⟩
        split
        · rw [if_pos ‹_›] at hnn; exact hnn
        · rw [if_neg ‹_›] at hnn; exact hnn
    rw [fwdItemsO, ih _ hnn'.2, itemCmdsO, itemCmdsO, List.filterMap_cons, fwd1O]
    by_cases hp : it.cmd = bPing
    · simp [hp, itemCmds.isBracketOrPingB]
    · rw [if_neg hp]
      simp only [forwards_txnStatus _ _ hnn'.1, itemCmds.isBracketOrPingB]
      by_cases hm : it.cmd = bMulti
      · simp [hm]
      · by_cases he : it.cmd = bExec
        · simp [he]
        · simp [hp, hm, he]

theorem split_unique {α} (p : α → Prop) {L M L' M' : List α} (h : L ++ M = L' ++ M')
    (hL : ∀ x ∈ L, p x) (hM : ∀ x ∈ M, ¬ p x) (hL' : ∀ x ∈ L', p x) (hM' : ∀ x ∈ M', ¬ p x) :
    L = L' ∧ M = M' := by
  induction L generalizing L' with
  | nil =>
    cases L' with
    | nil => exact ⟨rfl, by simpa using h⟩
    | cons y L' =>
      exfalso
      simp only [List.nil_append, List.cons_append] at h
      exact hM y (by rw [h]; exact List.mem_cons_self ..) (hL' y (List.mem_cons_self ..))
  | cons x L ih =>
    cases L' with
    | nil =>
      exfalso
      simp only [List.nil_append, List.cons_append] at h
      exact hM' x (by rw [← h]; exact List.mem_cons_self ..) (hL x (List.mem_cons_self ..))
    | cons y L' =>
      simp only [List.cons_append, List.cons.injEq] at h
      obtain ⟨hxy, hrest⟩ := h
      obtain ⟨h1, h2⟩ := ih hrest (fun z hz => hL z (List.mem_cons_of_mem _ hz))
        (fun z hz => hL' z (List.mem_cons_of_mem _ hz))
      exact ⟨by rw [hxy, h1], h2⟩

/-- the offset of a handed-over item: the end of its own command, or `lastSent` for a
    bracket let through inside a filtered database -/
theorem parseStep_emit_offset (c : PCfg) (s : PState) (r : Raw) (i : Item)
    (h : (parseStep c s r).2 = POut.emit i) :
    i.offset = if passBracket s r.cmd then s.lastSent else r.off := by
  rcases parseStep_cases c s r with ⟨b, h'⟩ | h' | ⟨x, n, hs, -, -, -, -, h'⟩ | ⟨a, b, off, -, hoff, h'⟩ <;>
    rw [h'] at h <;> cases h
  · have hsm : bSelect ≠ bMulti := by decide
    have hse : bSelect ≠ bExec := by decide
    simp [passBracket, hs, hsm, hse, selectItem]
  · rcases hoff with ⟨hpb, rfl, -⟩ | ⟨hpb, rfl, -⟩ <;> rw [hpb] <;> rfl

theorem parseStep_emit_select_db (c : PCfg) (s : PState) (r : Raw) (i : Item)
    (hsel : r.cmd = bSelect → ∀ a n, r.args = [a] → atoi? a = some n → 0 ≤ n)
    (hmapnn : ∀ n : Int, 0 ≤ n → 0 ≤ mapDb c n)
    (h : (parseStep c s r).2 = POut.emit i) (hi : i.cmd = bSelect) : 0 ≤ i.db := by
  rcases parseStep_cases c s r with ⟨b, h'⟩ | h' | ⟨x, n, -, -, -, h0, -, h'⟩ | ⟨a, b, off, hneg, -, h'⟩ <;>
    rw [h'] at h <;> cases h
  · exact hmapnn n h0
  · obtain ⟨x, n, hx, hn, hlt⟩ := hneg hi
    have := hsel hi x n hx hn
    omega

theorem itemCmdsO_own (c : PCfg) (s : PState) (raws : List Raw) :
    ∀ x ∈ itemCmdsO (parseAll c s raws), ∃ r ∈ raws, x.2.2 = r.off := by
  intro x hx
  obtain ⟨i, hi, hxi⟩ := List.mem_filterMap.mp hx
  obtain ⟨r, hr, s', hemit⟩ := parseAll_mem_emit c raws s i hi
  refine ⟨r, hr, ?_⟩
  split at hxi
  · cases hxi
  · rename_i hb
    cases hxi
    rw [parseStep_emit_offset c s' r i hemit]
    -- only a bracket is let through with `lastSent`, and brackets are not forwarded as commands
    cases hpb : passBracket s' r.cmd
    · rfl
    · rw [← parseStep_emit_cmd c s' r i hemit] at hpb
      simp only [passBracket, Bool.and_eq_true, Bool.or_eq_true, decide_eq_true_eq] at hpb
      rcases hpb.2 with ⟨h, _⟩ | ⟨h, _⟩ <;> simp [itemCmds.isBracketOrPingB, h] at hb

theorem parseFails_cons_ok {c : PCfg} {s s' : PState} {r : Raw} {out : POut}
    (hps : parseStep c s r = (s', out)) (hout : out ≠ .fail) (rest : List Raw) :
    parseFails c s (r :: rest) = parseFails c s' rest := by
  rw [parseFails, hps]
  cases out with
  | fail => exact absurd rfl hout
  | _ => rfl

theorem parseState_cons_ok {c : PCfg} {s s' : PState} {r : Raw} {out : POut}
    (hps : parseStep c s r = (s', out)) (hout : out ≠ .fail) (rest : List Raw) :
    parseState c s (r :: rest) = parseState c s' rest := by
  rw [parseState, hps]
  cases out with
  | fail => exact absurd rfl hout
  | _ => rfl

theorem sorted_append_lt {X Y : List Raw} (h : ((X ++ Y).map (·.off)).Pairwise (· < ·)) :
    (X.map (·.off)).Pairwise (· < ·) ∧ (Y.map (·.off)).Pairwise (· < ·) ∧
      ∀ x ∈ X, ∀ y ∈ Y, x.off < y.off := by
  rw [List.map_append, List.pairwise_append] at h
  exact ⟨h.1, h.2.1, fun x hx y hy =>
    h.2.2 _ (List.mem_map.mpr ⟨x, hx, rfl⟩) _ (List.mem_map.mpr ⟨y, hy, rfl⟩)⟩

theorem sorted_cons_lt {x : Raw} {Y : List Raw} (h : ((x :: Y).map (·.off)).Pairwise (· < ·)) :
    (Y.map (·.off)).Pairwise (· < ·) ∧ ∀ y ∈ Y, x.off < y.off := by
  rw [List.map_cons, List.pairwise_cons] at h
  exact ⟨h.2, fun y hy => h.1 _ (List.mem_map.mpr ⟨y, hy, rfl⟩)⟩

theorem filter_gt_self {L : List Raw} {o : Int} (h : ∀ r ∈ L, o < r.off) :
    L.filter (fun r => decide (o < r.off)) = L :=
  List.filter_eq_self.mpr (fun r hr => by simpa using h r hr)

theorem filter_gt_nil {L : List Raw} {o : Int} (h : ∀ r ∈ L, r.off ≤ o) :
    L.filter (fun r => decide (o < r.off)) = [] :=
  List.filter_eq_nil_iff.mpr (fun r hr => by have := h r hr; simp only [decide_eq_true_eq]; omega)

theorem filter_le_self {L : List Raw} {o : Int} (h : ∀ r ∈ L, r.off ≤ o) :
    L.filter (fun r => decide (r.off ≤ o)) = L :=
  List.filter_eq_self.mpr (fun r hr => by simpa using h r hr)

theorem filter_le_nil {L : List Raw} {o : Int} (h : ∀ r ∈ L, o < r.off) :
    L.filter (fun r => decide (r.off ≤ o)) = [] :=
  List.filter_eq_nil_iff.mpr (fun r hr => by have := h r hr; simp only [decide_eq_true_eq]; omega)

theorem sorted_split (raws : List Raw) (o : Int) (hraw : (raws.map (·.off)).Pairwise (· < ·)) :
    raws = raws.filter (fun r => decide (r.off ≤ o)) ++ raws.filter (fun r => decide (o < r.off)) := by
  induction raws with
  | nil => rfl
  | cons r rest ih =>
    obtain ⟨hrest, hgt⟩ := sorted_cons_lt hraw
    by_cases h : r.off ≤ o
    · rw [List.filter_cons_of_pos (by simpa using h), List.filter_cons_of_neg (by simpa using h),
        List.cons_append, ← ih hrest]
    · rw [List.filter_cons_of_neg (by simpa using h), List.filter_cons_of_pos (by simpa using h),
        filter_le_nil (fun x hx => by have := hgt x hx; omega),
        filter_gt_self (fun x hx => by have := hgt x hx; omega), List.nil_append]

/-- `o` is the end of a command of `raws` up to which the parser, started in `s`, has not
    failed and after which it is outside every filtered database -/
def SafeCut (c : PCfg) (s : PState) (raws : List Raw) (o : Int) : Prop :=
  ∃ pre r post, raws = pre ++ r :: post ∧ r.off = o ∧
    parseFails c s (pre ++ [r]) = false ∧ (parseState c s (pre ++ [r])).bypass = false

theorem safeCut_cons {c : PCfg} {s s' : PState} {r : Raw} {out : POut} {rest : List Raw} {o : Int}
    (hps : parseStep c s r = (s', out)) (hout : out ≠ .fail) (h : SafeCut c s' rest o) :
    SafeCut c s (r :: rest) o := by
  obtain ⟨pre, r1, post, he, ho, hf, hb⟩ := h
  exact ⟨r :: pre, r1, post, by rw [he]; rfl, ho,
    by rw [List.cons_append, parseFails_cons_ok hps hout]; exact hf,
    by rw [List.cons_append, parseState_cons_ok hps hout]; exact hb⟩

/-- **Every offset the parser hands over is a safe place to cut.** An item's offset
    is the parser's starting `lastSent`, or the end offset of a source command `r`
    after which the parser is outside every filtered database. -/
theorem offset_cut_unbypassed (c : PCfg) (raws : List Raw) (s : PState)
    (hraw : (raws.map (·.off)).Pairwise (· < ·)) (hlo : ∀ r ∈ raws, s.lastSent < r.off) :
    ∀ i ∈ parseAll c s raws, i.offset = s.lastSent ∨
      ∃ pre r post, raws = pre ++ r :: post ∧ r.off = i.offset ∧
        parseFails c s (pre ++ [r]) = false ∧ (parseState c s (pre ++ [r])).bypass = false := by
  show ∀ i ∈ parseAll c s raws, i.offset = s.lastSent ∨ SafeCut c s raws i.offset
  induction raws generalizing s with
  | nil => intro i hi; simp [parseAll] at hi
  | cons r rest ih =>
    intro i hi
    obtain ⟨hrawrest, hrest⟩ := sorted_cons_lt hraw
    have hr : s.lastSent < r.off := hlo r (List.mem_cons_self ..)
    simp only [parseAll] at hi
    cases hps : parseStep c s r with
    | mk s' out =>
      rw [hps] at hi
      cases out with
      | fail => cases hi
      | skip =>
        have hls := parseStep_skip_lastSent c s r s' hps
        rcases ih s' hrawrest (fun r' hr' => by rw [hls]; exact Int.lt_trans hr (hrest r' hr')) i hi
          with h | h
        · exact Or.inl (h.trans hls)
        · exact Or.inr (safeCut_cons hps (by simp) h)
      | emit i0 =>
        have hemit : (parseStep c s r).2 = POut.emit i0 := by rw [hps]
        have hoff := parseStep_emit_offset c s r i0 hemit
        have hls : s'.lastSent = i0.offset := by
          have := (parseStep_emit_off c s r i0 hemit).2.1
          rwa [hps] at this
        -- the item of `r` itself: `lastSent`, or its own offset and then the parser is not in bypass
        have hself : i0.offset = s.lastSent ∨ SafeCut c s (r :: rest) i0.offset := by
          cases hpb : passBracket s r.cmd with
          | true => left; rw [hoff, hpb]; rfl
          | false =>
            rw [hpb] at hoff
            have hb := emit_own_offset_unbypassed c s r i0 hemit hpb
            rw [hps] at hb
            exact Or.inr ⟨[], r, rest, rfl, hoff.symm, by rw [List.nil_append, parseFails, hps]; rfl,
              by rw [List.nil_append, parseState, hps]; exact hb⟩
        rcases List.mem_cons.mp hi with rfl | hi'
        · exact hself
        · have hlo' : ∀ r' ∈ rest, s'.lastSent < r'.off := by
            intro r' hr'
            have := hrest r' hr'
            rw [hls, hoff]; split <;> omega
          rcases ih s' hrawrest hlo' i hi' with h | h
          · rw [hls] at h; rw [h]; exact hself
          · exact Or.inr (safeCut_cons hps (by simp) h)

theorem cut_unbypassed (c : PCfg) (raws : List Raw) (s : PState)
    (hraw : (raws.map (·.off)).Pairwise (· < ·)) (hlo : ∀ r ∈ raws, s.lastSent < r.off) :
    ∀ i ∈ parseAll c s raws, i.offset = s.lastSent ∨
      (parseState c s (raws.filter (fun r => decide (r.off ≤ i.offset)))).bypass = false := by
  intro i hi
  rcases offset_cut_unbypassed c raws s hraw hlo i hi with h | ⟨pre, r, post, hr, hro, _, hb⟩
  · exact Or.inl h
  · right
    subst hr
    obtain ⟨_, h1, hlt⟩ := sorted_append_lt hraw
    obtain ⟨_, hgt⟩ := sorted_cons_lt h1
    rw [List.filter_append, List.filter_cons_of_pos (by simpa using Int.le_of_eq hro),
      filter_le_self (fun x hx => by have := hlt x hx r (List.mem_cons_self ..); omega),
      filter_le_nil (fun x hx => by have := hgt x hx; omega)]
    exact hb

/-- decidable form of "SELECT arguments are non-negative" -/
def selOK (raws : List Raw) : Bool :=
  raws.all (fun x => !(x.cmd == bSelect) ||
    (match x.args with
     | [a] => (match atoi? a with | some n => decide (0 ≤ n) | none => true)
     | _ => true))

theorem selOK_spec (raws : List Raw) (h : selOK raws = true) :
    ∀ x ∈ raws, x.cmd = bSelect → ∀ a n, x.args = [a] → atoi? a = some n → 0 ≤ n := by
  intro x hx hs a n ha hn
  have := List.all_eq_true.mp h x hx
  simp only [hs, beq_self_eq_true, Bool.not_true, Bool.false_or, ha, hn, decide_eq_true_eq] at this
  exact this

theorem lookup_mem {β : Type} (l : List (Int × β)) (n : Int) (t : β) (h : l.lookup n = some t) :
    (n, t) ∈ l := by
  induction l with
  | nil => simp [List.lookup] at h
  | cons p rest ih =>
    obtain ⟨a, b⟩ := p
    by_cases hab : n = a
    · subst hab
      simp only [List.lookup, beq_self_eq_true] at h
      injection h with h
      subst h
      exact List.mem_cons_self ..
    · have : (n == a) = false := by simpa using hab
      simp only [List.lookup, this] at h
      exact List.mem_cons_of_mem _ (ih h)

theorem mapDb_ok (c : PCfg) (ht : c.targetDb = -1) (hm : ∀ p ∈ c.dbMap, p.2 ≠ -1) :
    ∀ n : Int, 0 ≤ n → mapDb c n ≠ -1 := by
  intro n hn
  unfold mapDb
  simp only [ht, ne_eq, not_true_eq_false, ↓reduceIte]
  cases hl : c.dbMap.lookup n with
  | none => show n ≠ -1; omega
  | some t =>
    show t ≠ -1
    have : (n, t) ∈ c.dbMap := lookup_mem _ _ _ hl
    exact hm _ this

/-- decidable form of `NonNeg` -/
def nonNegB (evs : List Ev) : Bool :=
  evs.all (fun e => match e with | .item it => decide (0 ≤ it.offset) | _ => true)

theorem nonNegB_spec (evs : List Ev) (h : nonNegB evs = true) : NonNeg evs := by
  induction evs with
  | nil => trivial
  | cons e rest ih =>
    simp only [nonNegB, List.all_cons, Bool.and_eq_true] at h
    cases e with
    | item it => exact ⟨by simpa using h.1, ih h.2⟩
    | _ => exact ih h.2

/-! ### the configuration's `startDbId` only matters for the initial select -/

theorem parseStep_setDb (c : PCfg) (d : Int) (s : PState) (r : Raw) :
    parseStep { c with startDbId := d } s r = parseStep c s r := rfl

theorem parseAll_setDb (c : PCfg) (d : Int) (s : PState) (raws : List Raw) :
    parseAll { c with startDbId := d } s raws = parseAll c s raws := by
  induction raws generalizing s with
  | nil => rfl
  | cons r rest ih => simp only [parseAll, parseStep_setDb, ih]

theorem parseState_setDb (c : PCfg) (d : Int) (s : PState) (raws : List Raw) :
    parseState { c with startDbId := d } s raws = parseState c s raws := by
  induction raws generalizing s with
  | nil => rfl
  | cons r rest ih => simp only [parseState, parseStep_setDb, ih]

theorem parseFails_setDb (c : PCfg) (d : Int) (s : PState) (raws : List Raw) :
    parseFails { c with startDbId := d } s raws = parseFails c s raws := by
  induction raws generalizing s with
  | nil => rfl
  | cons r rest ih => simp only [parseFails, parseStep_setDb, ih]

theorem specStream_setDb (c : PCfg) (d : Int) (b : Bool) (cur : Int) (raws : List Raw) :
    specStream { c with startDbId := d } b cur raws = specStream c b cur raws := by
  induction raws generalizing b cur with
  | nil => rfl
  | cons r rest ih => unfold specStream; simp only [ih]; rfl

theorem mapDb_setDb (c : PCfg) (d : Int) (n : Int) : mapDb { c with startDbId := d } n = mapDb c n := rfl

theorem parserItems_zero (c : PCfg) (o : Int) (raws : List Raw) :
    parserItems { c with startDbId := 0 } o raws = parseAll c { lastSent := o } raws := by
  rw [parserItems, if_neg (Int.lt_irrefl 0), parseAll_setDb, List.nil_append]

theorem parserItems_append (c : PCfg) (o : Int) (x y : List Raw)
    (h : parseFails c { lastSent := o } x = false) :
    parserItems c o (x ++ y) = parserItems c o x ++ parseAll c (parseState c { lastSent := o } x) y := by
  unfold parserItems
  rw [parseAll_append c _ x y h, List.append_assoc]

/-- a new connection executing a resumed parser's items is the connection in the
    resume database executing the parser's items -/
theorem seq_parserItems (c : PCfg) (d o : Int) (hd : 0 ≤ d) (R : List Raw) :
    seqApplied 0 (itemCmds (parserItems { c with startDbId := d } o R)) =
      seqApplied d (itemCmds (parseAll c { lastSent := o } R)) := by
  unfold parserItems
  rw [parseAll_setDb]
  by_cases hpos : d > 0
  · simp only [hpos, ↓reduceIte]
    have hnb : itemCmds.isBracketOrPingB bSelect = false := by decide
    rw [List.singleton_append, itemCmds_cons_data _ _ (by simpa [selectItem] using hnb)]
    simp only [selectItem, seqApplied, ↓reduceIte]
    have hsa : selArg 0 [intToDec d] = d := by simp [selArg, atoi?_intToDec]
    rw [hsa]
  · have hz : d = 0 := by omega
    subst hz
    simp

/-- the specification of `A ++ Y` is the specification of `A` followed by the
    specification of `Y` continued from where ANY parser that read `A` stands:
    its bypass flag and the database the connection is in after executing what
    it handed over -/
theorem spec_split (c : PCfg) (s : PState) (cur : Int) (A Y : List Raw)
    (hnf : parseFails c s A = false)
    (hinv : s.currentDB = cur ∨ s.currentDB = -1)
    (hsel : ∀ x ∈ A ++ Y, x.cmd = bSelect → ∀ a n, x.args = [a] → atoi? a = some n → 0 ≤ n)
    (hmap : ∀ n : Int, 0 ≤ n → mapDb c n ≠ -1) :
    specStream c s.bypass cur (A ++ Y) = specStream c s.bypass cur A ++
      specStream c (parseState c s A).bypass (seqApplied cur (itemCmds (parseAll c s A))).1 Y := by
  have hsel1 : ∀ x ∈ A, x.cmd = bSelect → ∀ a n, x.args = [a] → atoi? a = some n → 0 ≤ n :=
    fun x hx => hsel x (List.mem_append_left _ hx)
  have hsel2 : ∀ x ∈ Y, x.cmd = bSelect → ∀ a n, x.args = [a] → atoi? a = some n → 0 ≤ n :=
    fun x hx => hsel x (List.mem_append_right _ hx)
  rw [← parser_refines_spec c (A ++ Y) s cur hinv hsel hmap, parseAll_append c s A Y hnf,
    itemCmds_append, seqApplied_append]
  simp only
  rw [parser_refines_spec c A s cur hinv hsel1 hmap,
    parser_refines_spec c Y _ _ (parseAll_inv c A s cur hinv hsel1) hsel2 hmap]

/-- at a cut that leaves the parser outside every filtered database (`offset_cut_unbypassed`:
    every handed-over offset is one), in database `d`: the specification continues as that of
    a run resumed in `d`, and it is what the continuing parser hands over -/
theorem spec_at_cut (c : PCfg) (s0 : PState) (cur0 : Int) (A Y : List Raw)
    (hnf : parseFails c s0 A = false)
    (hb1 : (parseState c s0 A).bypass = false)
    (hinv0 : s0.currentDB = cur0 ∨ s0.currentDB = -1)
    (hsel : ∀ x ∈ A ++ Y, x.cmd = bSelect → ∀ a n, x.args = [a] → atoi? a = some n → 0 ≤ n)
    (hmap : ∀ n : Int, 0 ≤ n → mapDb c n ≠ -1)
    {d : Int} (hd : d = (seqApplied cur0 (itemCmds (parseAll c s0 A))).1) :
    specStream c s0.bypass cur0 (A ++ Y) = specStream c s0.bypass cur0 A ++ specStream c false d Y ∧
    (seqApplied d (itemCmds (parseAll c (parseState c s0 A) Y))).2 = specStream c false d Y := by
  have hinv1 := parseAll_inv c A s0 cur0 hinv0 (fun x hx => hsel x (List.mem_append_left _ hx))
  rw [← hd] at hinv1
  constructor
  · rw [spec_split c s0 cur0 A Y hnf hinv0 hsel hmap, hb1, ← hd]
  · rw [parser_refines_spec c Y _ d hinv1 (fun x hx => hsel x (List.mem_append_right _ hx)) hmap, hb1]

/-- `spec_at_cut` with the resumed run's own items (`restart_at_start_is_spec`) -/
theorem restart_completes_spec_gen (c : PCfg) (s0 : PState) (cur0 : Int) (A r2 : List Raw) (o : Int)
    (hnf : parseFails c s0 A = false)
    (hb1 : (parseState c s0 A).bypass = false)
    (hinv0 : s0.currentDB = cur0 ∨ s0.currentDB = -1)
    (hsel : ∀ x ∈ A ++ r2, x.cmd = bSelect → ∀ a n, x.args = [a] → atoi? a = some n → 0 ≤ n)
    (hmap : ∀ n : Int, 0 ≤ n → mapDb c n ≠ -1)
    (hd : c.startDbId = (seqApplied cur0 (itemCmds (parseAll c s0 A))).1)
    (hd0 : 0 ≤ c.startDbId) :
    specStream c s0.bypass cur0 (A ++ r2) =
      (seqApplied cur0 (itemCmds (parseAll c s0 A))).2 ++
      (seqApplied 0 (itemCmds (parserItems c o r2))).2 ∧
    (seqApplied c.startDbId (itemCmds (parseAll c (parseState c s0 A) r2))).2 =
      (seqApplied 0 (itemCmds (parserItems c o r2))).2 := by
  obtain ⟨h1, h2⟩ := spec_at_cut c s0 cur0 A r2 hnf hb1 hinv0 hsel hmap hd
  rw [restart_at_start_is_spec c r2 o (fun x hx => hsel x (List.mem_append_right _ hx)) hmap hd0]
  exact ⟨by rw [h1, parser_refines_spec c A s0 cur0 hinv0 (fun x hx => hsel x (List.mem_append_left _ hx)) hmap], h2⟩

theorem itemCmdsO_parserItems_le (c : PCfg) (start o : Int) (A : List Raw) (hso : start ≤ o)
    (hA : ∀ r ∈ A, r.off ≤ o) : ∀ x ∈ itemCmdsO (parserItems c start A), x.2.2 ≤ o := by
  intro x hx
  unfold parserItems at hx
  rw [itemCmdsO_append] at hx
  rcases List.mem_append.mp hx with h | h
  · split at h
    · have hnb : itemCmds.isBracketOrPingB bSelect = false := by decide
      simp only [itemCmdsO, List.filterMap_cons, List.filterMap_nil, selectItem, hnb,
        Bool.false_eq_true, ↓reduceIte, List.mem_singleton] at h
      rw [h]; exact hso
    · simp [itemCmdsO] at h
  · obtain ⟨r, hr, hxr⟩ := itemCmdsO_own c _ A x h
    have := hA r hr; omega

theorem last_cp_unique {E1 E2 E1' E2' : List Req} {o o' : Int}
    (h : E1 ++ Req.cpOffset o :: E2 = E1' ++ Req.cpOffset o' :: E2')
    (h2 : cpOffsetsB E2 = []) (h2' : cpOffsetsB E2' = []) : E1 = E1' ∧ o = o' ∧ E2 = E2' := by
  induction E1 generalizing E1' with
  | nil =>
    cases E1' with
    | nil =>
      simp only [List.nil_append, List.cons.injEq, Req.cpOffset.injEq] at h
      exact ⟨rfl, h.1, h.2⟩
    | cons y E1'' =>
      exfalso
      simp only [List.nil_append, List.cons_append, List.cons.injEq] at h
      have : o' ∈ cpOffsetsB E2 := by
        rw [h.2, cpOffsetsB_append]; apply List.mem_append_right; simp [cpOffsetsB, cpOfReq]
      rw [h2] at this; cases this
  | cons x E1r ih =>
    cases E1' with
    | nil =>
      exfalso
      simp only [List.nil_append, List.cons_append, List.cons.injEq] at h
      have : o ∈ cpOffsetsB E2' := by
        rw [← h.2, cpOffsetsB_append]; apply List.mem_append_right; simp [cpOffsetsB, cpOfReq]
      rw [h2'] at this; cases this
    | cons y E1r' =>
      simp only [List.cons_append, List.cons.injEq] at h
      obtain ⟨h1, h3, h4⟩ := ih h.2
      exact ⟨by rw [h.1, h1], h3, h4⟩

/-! ### a parser failure is a property of the command, not of the parser state -/

/-- a SELECT the parser cannot read: not exactly one argument, or not a number -/
def badSelect (r : Raw) : Bool :=
  decide (r.cmd = bSelect) &&
    (match r.args with
     | [a] => (atoi? a).isNone
     | _ => true)

theorem parseStep_fail_iff (c : PCfg) (s : PState) (r : Raw) :
    ((parseStep c s r).2 = POut.fail) ↔ badSelect r = true := by
  by_cases hp : r.cmd = bPing
  · have hne : bPing ≠ bSelect := by decide
    unfold parseStep badSelect
    simp only [hp, ↓reduceIte, hne, decide_false, Bool.false_and, Bool.false_eq_true, iff_false]
    cases c.filterCmdKey bPing r.args with
    | none => simp
    | some a => cases s.bypass <;> simp
  · by_cases hs : r.cmd = bSelect
    · have hne : bSelect ≠ bPing := by decide
      unfold parseStep badSelect
      simp only [hs, hne, ↓reduceIte, decide_true, Bool.true_and]
      cases ha : r.args with
      | nil => simp
      | cons a rest =>
        cases rest with
        | cons _ _ => simp
        | nil =>
          simp only
          cases hn : atoi? a with
          | none => simp
          | some n =>
            simp only [Option.isNone_some, Bool.false_eq_true, iff_false]
            cases c.filterDb n
            · simp only [Bool.false_eq_true, ↓reduceIte]
              cases c.filterCmdKey bSelect [a] with
              | none => simp
              | some x =>
                simp only
                by_cases h0 : n ≥ 0
                · simp only [h0, ↓reduceIte]
                  cases (selectDB c s.currentDB n).2 <;> simp
                · simp [h0]
            · simp
    · rw [parseStep_data c s r hp hs]
      unfold badSelect
      simp only [hs, decide_false, Bool.false_and, Bool.false_eq_true, iff_false]
      by_cases h1 : c.filterCmd r.cmd = true
      · simp [h1]
      · by_cases h2 : r.cmd = bPublish ∧ (r.args.head?.map lower) = some bSentinelHello
        · simp [h2]
        · by_cases h3 : s.bypass = true ∧ passBracket s r.cmd = false
          · simp [h1, h3]
          · simp only [h1, h2, h3, Bool.false_eq_true, ↓reduceIte]
            cases c.filterCmdKey r.cmd r.args <;> simp

theorem parseFails_eq_any (c : PCfg) (s : PState) (raws : List Raw) :
    parseFails c s raws = raws.any badSelect := by
  induction raws generalizing s with
  | nil => rfl
  | cons r rest ih =>
    simp only [parseFails, List.any_cons]
    have hiff := parseStep_fail_iff c s r
    cases hps : parseStep c s r with
    | mk s' o =>
      rw [hps] at hiff
      cases o with
      | fail =>
        have : badSelect r = true := hiff.mp rfl
        simp [this]
      | _ =>
        have : badSelect r = false := by
          cases hb : badSelect r with
          | false => rfl
          | true => have := hiff.mpr hb; cases this
        simp only [this, Bool.false_or]; exact ih s'

theorem parseFails_of_subset (c : PCfg) (s s' : PState) {X Y : List Raw} (h : ∀ r ∈ Y, r ∈ X)
    (hx : parseFails c s X = false) : parseFails c s' Y = false := by
  rw [parseFails_eq_any] at hx ⊢
  cases hy : Y.any badSelect with
  | false => rfl
  | true =>
    obtain ⟨r, hr, hb⟩ := List.any_eq_true.mp hy
    have : X.any badSelect = true := List.any_eq_true.mpr ⟨r, h r hr, hb⟩
    rw [hx] at this; cases this

theorem parseFails_sublist (c : PCfg) (s s' : PState) {x y : List Raw} (h : List.Sublist y x)
    (hx : parseFails c s x = false) : parseFails c s' y = false :=
  parseFails_of_subset c s s' (fun _ hr => h.subset hr) hx

/-- in transactional resumable mode a batch sent without MULTI/EXEC carries no data -/
theorem unbracketed_no_data {b : Batch} (hs : TxnShape b) (hstrip : stripB b = b)
    {E : List Req} (hpre : E <+: b) : dataB E = [] := by
  rcases hs with hnd | ⟨⟨bd, _, hbb⟩, _⟩
  · have : dataB E <+: dataB b := hpre.filterMap cmdOfReq
    rw [hnd] at this
    exact List.prefix_nil.mp this
  · exfalso
    rw [hbb, stripB_block] at hstrip
    have := congrArg List.length hstrip
    simp at this
    omega

theorem dataB_bodies (out : List Batch) (hwf : AllWF out) : dataB (bodies out) = dataOut out :=
  filterMap_bodies cmdOfReq rfl rfl out hwf

/-! ### the database of a stored position is a real (non-negative) database -/

theorem parseAll_select_db_nonneg (c : PCfg) (raws : List Raw) (s : PState)
    (hsel : ∀ r ∈ raws, r.cmd = bSelect → ∀ a n, r.args = [a] → atoi? a = some n → 0 ≤ n)
    (hmapnn : ∀ n : Int, 0 ≤ n → 0 ≤ mapDb c n) :
    ∀ i ∈ parseAll c s raws, SelOK i ∧ (i.cmd = bSelect → 0 ≤ i.db) := by
  intro i hi
  obtain ⟨r, hr, s', h⟩ := parseAll_mem_emit c raws s i hi
  exact ⟨parseStep_emit_selOK c s' r i (hsel r hr) h,
    parseStep_emit_select_db c s' r i (hsel r hr) hmapnn h⟩

theorem seqApplied_db_nonneg (items : List Item) (cur : Int) (hcur : 0 ≤ cur)
    (h : ∀ i ∈ items, SelOK i ∧ (i.cmd = bSelect → 0 ≤ i.db)) :
    0 ≤ (seqApplied cur (itemCmds items)).1 := by
  induction items generalizing cur with
  | nil => simpa [itemCmds, seqApplied] using hcur
  | cons i rest ih =>
    have hrest := fun j hj => h j (List.mem_cons_of_mem _ hj)
    by_cases hb : itemCmds.isBracketOrPingB i.cmd = true
    · rw [itemCmds_cons_bracket i rest hb]; exact ih cur hcur hrest
    · have hb' : itemCmds.isBracketOrPingB i.cmd = false := by simpa using hb
      rw [itemCmds_cons_data i rest hb']
      simp only [seqApplied]
      split
      · rename_i hs
        obtain ⟨hok, hnn⟩ := h i (List.mem_cons_self ..)
        have : selArg cur i.args = i.db := hok hs cur
        rw [this]
        exact ih _ (hnn hs) hrest
      · exact ih cur hcur hrest

theorem mapDb_nonneg (c : PCfg) (ht : c.targetDb = -1) (hm : ∀ p ∈ c.dbMap, 0 ≤ p.2) :
    ∀ n : Int, 0 ≤ n → 0 ≤ mapDb c n := by
  intro n hn
  unfold mapDb
  simp only [ht, ne_eq, not_true_eq_false, ↓reduceIte]
  cases hl : c.dbMap.lookup n with
  | none => show 0 ≤ n; exact hn
  | some t =>
    show 0 ≤ t
    exact hm _ (lookup_mem _ _ _ hl)

theorem mapDb_ne_of_nonneg (c : PCfg) (h : ∀ n : Int, 0 ≤ n → 0 ≤ mapDb c n) :
    ∀ n : Int, 0 ≤ n → mapDb c n ≠ -1 := by
  intro n hn; have := h n hn; omega

theorem nonNeg_of_items (evs : List Ev) (h : ∀ i ∈ itemsOf evs, 0 ≤ i.offset) : NonNeg evs := by
  induction evs with
  | nil => trivial
  | cons e rest ih =>
    cases e with
    | item it =>
      exact ⟨h it (by simp [itemsOf]), ih (fun i hi => h i (by simp [itemsOf, hi]))⟩
    | _ => exact ih (fun i hi => h i (by simpa [itemsOf] using hi))

theorem bodies_plain (out : List Batch) (hwf : AllWF out) : ∀ r ∈ bodies out, Plain r = true := by
  intro r hr
  unfold bodies at hr
  obtain ⟨b, hb, hrb⟩ := List.mem_flatMap.mp hr
  obtain ⟨body, hp, hs, _⟩ := stripB_wf b (hwf b hb)
  rw [hs] at hrb
  exact hp r hrb

end GunYu.Sender
