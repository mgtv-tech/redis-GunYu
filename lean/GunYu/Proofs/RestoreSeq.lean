/-
  C20 — whole runs WITHOUT the assumption that the groups' cells are pairwise distinct.

  1. `seqW`: the effects of the key groups applied one after the other, each evaluated on the
     keyspace AS IT IS WHEN THE GROUP IS REACHED; `Runner.seqW_spec`: that is what the worker loop
     with DB selection does, for any list of good groups (outcome and whole keyspace).
  2. `polSeq`: the key-exists policy applied literally, group after group (`polEff`): a key created by an
     earlier group of the same run is an existing key for a later group that is replayed to the same cell.
     Consequences for cells that several groups are replayed to: `replace` — the LAST group wins; `ignore` —
     the FIRST group wins where the target held nothing, the target's own value stays otherwise; `error` —
     the run stops at the first group whose cell the target held or an earlier group wrote.

  Core Lean only.
-/
import GunYu.Proofs.RestoreRun

namespace GunYu.Restore
open GunYu

/-- the groups' effects in order, each on the keyspace as it is when the group is reached -/
def seqW (eff : Target → KGroup → Eff) : Target → List KGroup → Outcome × KS
  | t, [] => (.ok, t.ks)
  | t, g :: gs =>
    match eff (t.inDb g.dbn) g with
    | .keep => seqW eff t gs
    | .set o => seqW eff { t with ks := t.ks.set g.dbn g.key (some o) } gs
    | .stop out => (out, t.ks)

theorem seqW_eq_seqD (eff : Target → KGroup → Eff) : ∀ (gs : List KGroup) (t : Target), seqW eff t gs = seqD KGroup.dbn eff t gs
  | [], _ => rfl
  | g :: gs, t => by
    simp only [seqW, seqD]
    cases eff (t.inDb g.dbn) g with
    | keep => exact seqW_eq_seqD eff gs t
    | set o => exact seqW_eq_seqD eff gs _
    | stop out => rfl

theorem Runner.seqW_spec {run : RState → Target → List Entry → Run} {eff : Target → KGroup → Eff} {good : KGroup → Prop}
    (R : Runner run eff good) (gs : List KGroup) (c : Nat) (st : RState) (t : Target) (hc : t.cur = c)
    (hgood : ∀ g ∈ gs, good g ∧ g.oneDb) :
    (runWG run c st t (flat gs)).1.out = (seqW eff t gs).1 ∧ (runWG run c st t (flat gs)).1.tgt.ks = (seqW eff t gs).2 := by
  rw [seqW_eq_seqD]; exact R.seqD_spec gs c st t t hc rfl rfl rfl hgood

/-- whatever the effects are: a cell that no group is replayed to is untouched -/
theorem seqW_frame (eff : Target → KGroup → Eff) :
    ∀ (gs : List KGroup) (t : Target) (d : Nat) (k : Bytes), (d, k) ∉ gs.map KGroup.cell → (seqW eff t gs).2 d k = t.ks d k :=
  fun gs t d k h => by
    rw [seqW_eq_seqD]
    exact seqD_frame gs t d k fun g hg hh => h (List.mem_map.mpr ⟨g, hg, Prod.ext hh.1.symm hh.2.symm⟩)

/-- effects that write only where nothing is (`ignore`, `error`): what the target held at the start is never changed -/
theorem seqW_keeps_held (eff : Target → KGroup → Eff) (hset : ∀ (t : Target) (g : KGroup) (o : Obj), eff t g = .set o → t.get g.key = none) :
    ∀ (gs : List KGroup) (t : Target) (d : Nat) (k : Bytes) (v : Obj), t.ks d k = some v → (seqW eff t gs).2 d k = some v
  | [], _, _, _, _, h => h
  | g :: gs, t, d, k, v, h => by
    simp only [seqW]
    cases he : eff (t.inDb g.dbn) g with
    | keep => exact seqW_keeps_held eff hset gs t d k v h
    | stop out => exact h
    | set o =>
      have hn : t.ks g.dbn g.key = none := hset (t.inDb g.dbn) g o he
      refine seqW_keeps_held eff hset gs _ d k v ?_
      have : ¬ (d = g.dbn ∧ k = g.key) := by rintro ⟨rfl, rfl⟩; rw [hn] at h; cases h
      simp [KS.set, this, h]

/-- what the key-exists policy says for a key that holds `was` when its group is reached (`o` = the snapshot's object) -/
def polEff (pol : Policy) (o : Obj) (was : Option Obj) : Eff :=
  match pol, was with
  | .replace, _ => .set o
  | _, none => .set o
  | .ignore, some _ => .keep
  | .error, some _ => .stop .errExists

/-- the policy applied group after group to the keyspace as it is when the group is reached -/
def polSeq (pol : Policy) (obj : KGroup → Obj) : KS → List KGroup → Outcome × KS
  | ks, [] => (.ok, ks)
  | ks, g :: gs =>
    match polEff pol (obj g) (ks g.dbn g.key) with
    | .keep => polSeq pol obj ks gs
    | .set o => polSeq pol obj (ks.set g.dbn g.key (some o)) gs
    | .stop out => (out, ks)

theorem seqW_eq_polSeq (pol : Policy) (obj : KGroup → Obj) (eff : Target → KGroup → Eff) :
    ∀ (gs : List KGroup) (t : Target),
      (∀ g ∈ gs, ∀ t' : Target, t'.now = t.now → t'.bad = t.bad → eff t' g = polEff pol (obj g) (t'.get g.key)) →
      seqW eff t gs = polSeq pol obj t.ks gs
  | [], t, _ => rfl
  | g :: gs, t, h => by
    have hg := h g (List.mem_cons_self ..) (t.inDb g.dbn) rfl rfl
    have hrest : ∀ t' : Target, t'.now = t.now → t'.bad = t.bad →
        ∀ x ∈ gs, ∀ t'' : Target, t''.now = t'.now → t''.bad = t'.bad → eff t'' x = polEff pol (obj x) (t''.get x.key) :=
      fun t' h1 h2 x hx t'' h3 h4 => h x (List.mem_cons_of_mem _ hx) t'' (h3.trans h1) (h4.trans h2)
    simp only [seqW, polSeq, hg]
    have hget : (t.inDb g.dbn).get g.key = t.ks g.dbn g.key := rfl
    rw [hget]
    cases polEff pol (obj g) (t.ks g.dbn g.key) with
    | keep => exact seqW_eq_polSeq pol obj eff gs t (hrest t rfl rfl)
    | set o => exact seqW_eq_polSeq pol obj eff gs { t with ks := t.ks.set g.dbn g.key (some o) } (hrest _ rfl rfl)
    | stop out => rfl

theorem polSeq_frame (pol : Policy) (obj : KGroup → Obj) :
    ∀ (gs : List KGroup) (ks : KS) (d : Nat) (k : Bytes), (d, k) ∉ gs.map KGroup.cell → (polSeq pol obj ks gs).2 d k = ks d k
  | [], _, _, _, _ => rfl
  | g :: gs, ks, d, k, h => by
    have h1 : ¬ (d = g.dbn ∧ k = g.key) := fun hh => h (by simp [KGroup.cell, hh.1, hh.2])
    have h2 : (d, k) ∉ gs.map KGroup.cell := fun hh => h (List.mem_cons_of_mem _ hh)
    simp only [polSeq]
    cases polEff pol (obj g) (ks g.dbn g.key) with
    | keep => exact polSeq_frame pol obj gs ks d k h2
    | set o => rw [polSeq_frame pol obj gs _ d k h2, KS.set_other _ _ _ _ _ _ h1]
    | stop out => rfl

theorem polSeq_cons (pol : Policy) (obj : KGroup → Obj) (ks : KS) (g : KGroup) (gs : List KGroup) :
    polSeq pol obj ks (g :: gs) =
      match pol, ks g.dbn g.key with
      | .replace, _ => polSeq pol obj (ks.set g.dbn g.key (some (obj g))) gs
      | _, none => polSeq pol obj (ks.set g.dbn g.key (some (obj g))) gs
      | .ignore, some _ => polSeq pol obj ks gs
      | .error, some _ => (.errExists, ks) := by
  cases pol <;> cases h : ks g.dbn g.key <;> simp [polSeq, polEff, h]

theorem polSeq_append (pol : Policy) (obj : KGroup → Obj) :
    ∀ (a b : List KGroup) (ks : KS),
      polSeq pol obj ks (a ++ b) =
        if (polSeq pol obj ks a).1 = .ok then polSeq pol obj (polSeq pol obj ks a).2 b else polSeq pol obj ks a
  | [], b, ks => by simp [polSeq]
  | g :: a, b, ks => by
    have ih := polSeq_append pol obj a b
    rw [List.cons_append, polSeq_cons, polSeq_cons]
    cases pol <;> cases h : ks g.dbn g.key <;> simp [ih]

theorem polSeq_ok (pol : Policy) (obj : KGroup → Obj) (hp : pol ≠ .error) :
    ∀ (gs : List KGroup) (ks : KS), (polSeq pol obj ks gs).1 = .ok
  | [], _ => rfl
  | g :: gs, ks => by
    have ih := polSeq_ok pol obj hp gs
    rw [polSeq_cons]
    cases pol <;> cases h : ks g.dbn g.key <;> simp [ih] at hp ⊢

/-- **replace**: a cell ends with the object of the LAST group that is replayed to it -/
theorem polSeq_replace_last (obj : KGroup → Obj) (pre post : List KGroup) (g : KGroup) (ks : KS)
    (hlast : g.cell ∉ post.map KGroup.cell) :
    (polSeq .replace obj ks (pre ++ g :: post)).2 g.dbn g.key = some (obj g) := by
  rw [polSeq_append, polSeq_ok .replace obj (by simp), if_pos rfl, polSeq_cons]
  simp only
  rw [polSeq_frame .replace obj post _ g.dbn g.key hlast, KS.set_same]

/-- **ignore**: what the target held at the start is never changed … -/
theorem polSeq_ignore_keeps (obj : KGroup → Obj) :
    ∀ (gs : List KGroup) (ks : KS) (d : Nat) (k : Bytes) (o : Obj), ks d k = some o → (polSeq .ignore obj ks gs).2 d k = some o
  | [], _, _, _, _, h => h
  | g :: gs, ks, d, k, o, h => by
    rw [polSeq_cons]
    cases hg : ks g.dbn g.key with
    | some x => exact polSeq_ignore_keeps obj gs ks d k o h
    | none =>
      simp only
      refine polSeq_ignore_keeps obj gs _ d k o ?_
      rw [KS.set_other _ _ _ _ _ _ (by rintro ⟨rfl, rfl⟩; rw [hg] at h; cases h)]
      exact h

/-- … and a cell the target did not hold ends with the object of the FIRST group that is replayed to it
    (the later groups of the same cell are dropped) -/
theorem polSeq_ignore_first (obj : KGroup → Obj) (pre post : List KGroup) (g : KGroup) (ks : KS)
    (hfirst : g.cell ∉ pre.map KGroup.cell) (hnone : ks g.dbn g.key = none) :
    (polSeq .ignore obj ks (pre ++ g :: post)).2 g.dbn g.key = some (obj g) := by
  rw [polSeq_append, polSeq_ok .ignore obj (by simp), if_pos rfl, polSeq_cons]
  have : (polSeq .ignore obj ks pre).2 g.dbn g.key = none := by rw [polSeq_frame .ignore obj pre ks g.dbn g.key hfirst, hnone]
  simp only [this]
  exact polSeq_ignore_keeps obj post _ g.dbn g.key (obj g) (KS.set_same _ _ _ _)

/-- groups with pairwise distinct cells none of which the target holds: every policy writes them all -/
theorem polSeq_clean (pol : Policy) (obj : KGroup → Obj) :
    ∀ (gs : List KGroup) (ks : KS), (gs.map KGroup.cell).Nodup → (∀ g ∈ gs, ks g.dbn g.key = none) →
      (polSeq pol obj ks gs).1 = .ok ∧ ∀ g ∈ gs, (polSeq pol obj ks gs).2 g.dbn g.key = some (obj g)
  | [], _, _, _ => ⟨rfl, by simp⟩
  | g :: gs, ks, hnd, hnone => by
    rw [List.map_cons, List.nodup_cons] at hnd
    obtain ⟨hnotin, hnd'⟩ := hnd
    have hrest : ∀ x ∈ gs, (ks.set g.dbn g.key (some (obj g))) x.dbn x.key = none := fun x hx => by
      rw [KS.set_other _ _ _ _ _ _ fun (hh : x.dbn = g.dbn ∧ x.key = g.key) =>
        hnotin (List.mem_map.mpr ⟨x, hx, (Prod.ext hh.1 hh.2 : x.cell = g.cell)⟩)]
      exact hnone x (List.mem_cons_of_mem _ hx)
    obtain ⟨i1, i2⟩ := polSeq_clean pol obj gs _ hnd' hrest
    have hc : polSeq pol obj ks (g :: gs) = polSeq pol obj (ks.set g.dbn g.key (some (obj g))) gs := by
      rw [polSeq_cons]; cases pol <;> simp [hnone g (List.mem_cons_self ..)]
    rw [hc]
    refine ⟨i1, fun x hx => ?_⟩
    rcases List.mem_cons.mp hx with rfl | hx
    · rw [polSeq_frame pol obj gs _ x.dbn x.key hnotin, KS.set_same]
    · exact i2 x hx

/-- **error**: the run stops with the key-exists error at the first group whose cell the target held at the start
    OR an earlier group of this run wrote; the groups before it are written, every other cell is untouched -/
theorem polSeq_error_stops (obj : KGroup → Obj) (pre post : List KGroup) (g : KGroup) (ks : KS)
    (hnd : (pre.map KGroup.cell).Nodup) (hnone : ∀ p ∈ pre, ks p.dbn p.key = none)
    (hheld : ks g.dbn g.key ≠ none ∨ g.cell ∈ pre.map KGroup.cell) :
    (polSeq .error obj ks (pre ++ g :: post)).1 = .errExists ∧
    (∀ p ∈ pre, (polSeq .error obj ks (pre ++ g :: post)).2 p.dbn p.key = some (obj p)) ∧
    (∀ d k, (d, k) ∉ pre.map KGroup.cell → (polSeq .error obj ks (pre ++ g :: post)).2 d k = ks d k) := by
  obtain ⟨c1, c2⟩ := polSeq_clean .error obj pre ks hnd hnone
  have hsome : (polSeq .error obj ks pre).2 g.dbn g.key ≠ none := by
    by_cases hin : g.cell ∈ pre.map KGroup.cell
    · obtain ⟨p, hp, hpc⟩ := List.mem_map.mp hin
      have h1 : p.dbn = g.dbn := congrArg Prod.fst hpc
      have h2 : p.key = g.key := congrArg Prod.snd hpc
      rw [← h1, ← h2, c2 p hp]; simp
    · rw [polSeq_frame .error obj pre ks g.dbn g.key hin]
      rcases hheld with h | h
      · exact h
      · exact absurd h hin
  have hall : polSeq .error obj ks (pre ++ g :: post) = (.errExists, (polSeq .error obj ks pre).2) := by
    rw [polSeq_append, c1, if_pos rfl, polSeq_cons]
    cases h : (polSeq .error obj ks pre).2 g.dbn g.key with
    | none => exact absurd h hsome
    | some x => rfl
  rw [hall]
  exact ⟨rfl, c2, fun d k h => polSeq_frame .error obj pre ks d k h⟩

/-- `replace` / `ignore`: what a cell ends with depends only on the groups that are replayed to THAT cell — dropping any
    set of other groups (those of the other workers) changes nothing there -/
theorem polSeq_cell_filter (pol : Policy) (hp : pol ≠ .error) (obj : KGroup → Obj) (P : KGroup → Bool) (d : Nat) (k : Bytes)
    (hP : ∀ g : KGroup, g.dbn = d → g.key = k → P g = true) :
    ∀ (gs : List KGroup) (ks ks' : KS), ks d k = ks' d k →
      (polSeq pol obj ks gs).2 d k = (polSeq pol obj ks' (gs.filter P)).2 d k
  | [], _, _, h => h
  | g :: gs, ks, ks', h => by
    have ih := polSeq_cell_filter pol hp obj P d k hP gs
    by_cases hc : g.dbn = d ∧ g.key = k
    · obtain ⟨rfl, rfl⟩ := hc
      rw [List.filter_cons, hP g rfl rfl, if_pos rfl, polSeq_cons, polSeq_cons, ← h]
      cases pol with
      | error => exact absurd rfl hp
      | replace => exact ih _ _ (by rw [KS.set_same, KS.set_same])
      | ignore =>
        cases hv : ks g.dbn g.key with
        | none => exact ih _ _ (by rw [KS.set_same, KS.set_same])
        | some x => exact ih _ _ h
    · have hne : ¬ (d = g.dbn ∧ k = g.key) := fun hh => hc ⟨hh.1.symm, hh.2.symm⟩
      -- one step on another cell: the sequence goes on from a keyspace that holds the same under `(d, k)`
      have step : ∀ (ks : KS) (l : List KGroup), ∃ ks1 : KS, ks1 d k = ks d k ∧ polSeq pol obj ks (g :: l) = polSeq pol obj ks1 l := by
        intro ks l
        rw [polSeq_cons]
        cases pol with
        | error => exact absurd rfl hp
        | replace => exact ⟨_, KS.set_other _ _ _ _ _ _ hne, rfl⟩
        | ignore =>
          cases hv : ks g.dbn g.key with
          | none => exact ⟨_, KS.set_other _ _ _ _ _ _ hne, rfl⟩
          | some x => exact ⟨ks, rfl, rfl⟩
      obtain ⟨ks1, h1, e1⟩ := step ks gs
      rw [e1, List.filter_cons]
      cases hPg : P g with
      | false => simp only [Bool.false_eq_true, if_false]; exact ih ks1 ks' (h1.trans h)
      | true =>
        obtain ⟨ks2, h2, e2⟩ := step ks' (gs.filter P)
        simp only [if_true, e2]
        exact ih ks1 ks2 (h1.trans (h.trans h2.symm))

end GunYu.Restore
