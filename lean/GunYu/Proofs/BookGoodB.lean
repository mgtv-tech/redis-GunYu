/-
  C17 — the invariant `Good` (Proofs/BookGood.lean) as a Bool the driver evaluates on a dumped target state
  (op c17good), and that the Bool DECIDES it:

    goodChecks … X d          the clauses, each a named Bool, over the databases / keys of the dump
    good_of_checks            all true + "the dump is the whole state" + the ghost clauses (names / ids used so far,
                              which no dump can show)  →  Good
  so "the driver answers good" means `Good` holds of the state the real writers produced. Core only.
-/
import GunYu.Proofs.BookGood

namespace GunYu.BookSys
open GunYu GunYu.Checkpoint

set_option linter.unusedSimpArgs false
set_option linter.unusedVariables false

def entryOKb (e : Entry) : Bool :=
  (!(decide (e.kind = Kind.offset ∨ e.kind = Kind.mtime)) || (Resp.parseInt64 e.val).isSome) &&
  (!(decide (e.kind = Kind.runid)) || decide (e.val = e.rid))

def hasKeyb (k : FKey) (fs : Cp) : Bool := fs.any (fun e => decide (e.key = k))

def noAfterb (N O : Bytes) : Cp → Bool
  | [] => true
  | e :: rest => (!(decide (e.key = (N, Kind.offset))) || rest.all (fun x => !(decide (x.key = (O, Kind.offset))))) && noAfterb N O rest

/-- every `_offset` field of the ids parses and is below (strictly / at most) `X` -/
def offsBelow (ids : List Bytes) (fs : Cp) (X : Int) (strict : Bool) : Bool :=
  fs.all (fun e => !(offSel ids e) || (match Resp.parseInt64 e.val with
    | some v => if strict then decide (v < X) else decide (v ≤ X)
    | none => false))

def unmappedb (h : List (Bytes × Bytes)) (x : Bytes) : Bool :=
  decide (hlookup h x = none) || decide (hlookup h x = some [])

theorem entryOKb_iff (e : Entry) : entryOKb e = true ↔ EntryOK e := by
  unfold entryOKb EntryOK
  simp only [Bool.and_eq_true, Bool.or_eq_true, Bool.not_eq_true', decide_eq_false_iff_not, decide_eq_true_eq]
  constructor
  · rintro ⟨h1, h2⟩
    exact ⟨fun hk => h1.resolve_left (fun h => h hk), fun hk => h2.resolve_left (fun h => h hk)⟩
  · rintro ⟨h1, h2⟩
    refine ⟨?_, ?_⟩
    · by_cases hk : e.kind = Kind.offset ∨ e.kind = Kind.mtime
      · exact Or.inr (h1 hk)
      · exact Or.inl hk
    · by_cases hk : e.kind = Kind.runid
      · exact Or.inr (h2 hk)
      · exact Or.inl hk

theorem hasKeyb_iff (k : FKey) (fs : Cp) : hasKeyb k fs = true ↔ hasKey k fs := by
  unfold hasKeyb hasKey
  simp only [List.any_eq_true, decide_eq_true_eq]

theorem noAfterb_iff (N O : Bytes) : ∀ fs : Cp, noAfterb N O fs = true ↔ NoAfter N O fs := by
  intro fs
  induction fs with
  | nil => simp [noAfterb, NoAfter]
  | cons e rest ih =>
    unfold NoAfter at ih ⊢
    simp only [noAfterb, Bool.and_eq_true, Bool.or_eq_true, Bool.not_eq_true', decide_eq_false_iff_not,
      List.all_eq_true, List.pairwise_cons, ih]
    constructor
    · rintro ⟨h1, h2⟩
      refine ⟨?_, h2⟩
      intro b hb hab
      rcases h1 with h | h
      · exact h hab.1
      · exact h b hb hab.2
    · rintro ⟨h1, h2⟩
      refine ⟨?_, h2⟩
      by_cases hk : e.key = (N, Kind.offset)
      · exact Or.inr (fun b hb hb2 => h1 b hb ⟨hk, hb2⟩)
      · exact Or.inl hk

theorem offsBelow_strict {ids : List Bytes} {fs : Cp} {X : Int} (h : offsBelow ids fs X true = true) :
    OffBelow ids fs X := by
  unfold offsBelow at h
  rw [List.all_eq_true] at h
  intro x hx hs v hv
  have := h x hx
  simp only [hs, Bool.not_true, Bool.false_or, hv, if_true, decide_eq_true_eq] at this
  exact this

theorem offsBelow_le {ids : List Bytes} {fs : Cp} {X : Int} (h : offsBelow ids fs X false = true) :
    OffLe ids fs X := by
  unfold offsBelow at h
  rw [List.all_eq_true] at h
  intro x hx hs v hv
  have := h x hx
  simp only [hs, Bool.not_true, Bool.false_or, hv, Bool.false_eq_true, if_false, decide_eq_true_eq] at this
  exact this

/-- the clauses of `Good t c X d` for a dump of databases `dbs` and keys `keys` -/
def goodChecks (dbs : List Nat) (keys : List Bytes) (t : Checkpoint.Target) (c : Ctl) (X : Int) (d : Nat) :
    List (String × Bool) :=
  let fs := t.cps d c.key
  [ ("ctl", decide (c.mas ≠ c.sec ∧ c.mas ≠ [] ∧ c.mas ≠ qmark ∧ c.sec ≠ qmark ∧ c.sec ≠ [] ∧ (c.lab = c.mas ∨ c.lab = c.sec) ∧
      c.lab ≠ [] ∧ c.key ≠ [] ∧ (c.up = true → c.pend = none))),
    ("hashL", decide (hlookup t.hash c.lab = some c.key)),
    ("hashM", decide (c.lab = c.mas) || unmappedb t.hash c.mas),
    ("holds.at", decide (0 ≤ X ∧ offOf [c.mas, c.sec] fs = X ∧ ridOf [c.mas, c.sec] fs ≠ qmark)),
    ("holds.dom", dbs.all (fun db => decide (db = d) || offsBelow [c.mas, c.sec] (t.cps db c.key) X true)),
    ("carrier", decide (offOf [c.lab] fs = X ∧ ridOf [c.lab] fs ≠ qmark)),
    ("wf", dbs.all (fun db => keys.all (fun n => (t.cps db n).all entryOKb && decide ((t.cps db n).map Entry.key).Nodup))),
    ("order", dbs.all (fun db => noAfterb c.mas c.sec (t.cps db c.key))),
    ("second-le", dbs.all (fun db => offsBelow [c.sec] (t.cps db c.key) X false)),
    ("hasrid", dbs.all (fun db => !(hasKeyb (c.mas, Kind.offset) (t.cps db c.key)) || hasKeyb (c.mas, Kind.runid) (t.cps db c.key))),
    ("pend", match c.pend with
      | none => true
      | some p =>
        decide (p ≠ c.key ∧ p ≠ []) &&
        dbs.all (fun db => decide (db = d) || offsBelow [c.mas, c.sec] (t.cps db p) X true) &&
        (decide (offOf [c.mas, c.sec] (t.cps d p) = X) || (t.cps d p).all (fun e => !(matchId [c.mas, c.sec] e.rid))) &&
        dbs.all (fun db => (t.cps db p).all (fun e => decide (e.rid = c.lab))) &&
        !(t.hash.any (fun q => decide (q.2 = p))) &&
        dbs.all (fun db => !(hasKeyb (c.mas, Kind.offset) (t.cps db p)) || hasKeyb (c.mas, Kind.runid) (t.cps db p))) ]

/-- "" = every clause holds; otherwise the name of the first one that does not -/
def firstBad : List (String × Bool) → String
  | [] => ""
  | (n, b) :: rest => if b then firstBad rest else n

theorem firstBad_empty : ∀ l : List (String × Bool), (∀ p ∈ l, p.1 ≠ "") → firstBad l = "" → ∀ p ∈ l, p.2 = true := by
  intro l
  induction l with
  | nil => intro _ _ p hp; cases hp
  | cons x rest ih =>
    intro hne h p hp
    obtain ⟨n, b⟩ := x
    unfold firstBad at h
    cases b with
    | false => simp only [Bool.false_eq_true, if_false] at h; exact absurd h (hne _ (List.mem_cons_self ..))
    | true =>
      simp only [if_true] at h
      rcases List.mem_cons.mp hp with rfl | hp'
      · rfl
      · exact ih (fun q hq => hne q (List.mem_cons_of_mem _ hq)) h p hp'

theorem unmapped_of_check {h : List (Bytes × Bytes)} {lab mas : Bytes}
    (hc : (decide (lab = mas) || unmappedb h mas) = true) (hl : lab ≠ mas) : Unmapped h mas := by
  simp only [Bool.or_eq_true, decide_eq_true_eq, unmappedb] at hc
  exact hc.resolve_left hl

theorem hasrid_of_check {k k' : FKey} {fs : Cp} (hc : (!(hasKeyb k fs) || hasKeyb k' fs) = true)
    (hk : hasKey k fs) : hasKey k' fs := by
  rw [(hasKeyb_iff k fs).mpr hk] at hc
  exact (hasKeyb_iff _ _).mp hc

theorem wf_of_check {dbs : List Nat} {keys : List Bytes} {t : Checkpoint.Target}
    (hc : dbs.all (fun db => keys.all (fun n => (t.cps db n).all entryOKb && decide ((t.cps db n).map Entry.key).Nodup)) = true)
    (hdbs : ∀ db, db ∉ dbs → ∀ n, t.cps db n = []) (hkeys : ∀ n, n ∉ keys → ∀ db, t.cps db n = []) (db : Nat) (n : Bytes) :
    (∀ e ∈ t.cps db n, EntryOK e) ∧ FieldsNodup (t.cps db n) := by
  by_cases hdb : db ∈ dbs
  · by_cases hn : n ∈ keys
    · have := List.all_eq_true.mp (List.all_eq_true.mp hc db hdb) n hn
      simp only [Bool.and_eq_true, List.all_eq_true, decide_eq_true_eq] at this
      exact ⟨fun e he => (entryOKb_iff e).mp (this.1 e he), this.2⟩
    · rw [hkeys n hn db]; exact ⟨fun _ he => (nomatch he), List.nodup_nil⟩
  · rw [hdbs db hdb n]; exact ⟨fun _ he => (nomatch he), List.nodup_nil⟩

/-- **what the driver decides is `Good`**: the clauses over a dump that is the whole state, together with the ghost
    clauses (key names / ids used so far) no dump can show -/
theorem good_of_checks {dbs : List Nat} {keys : List Bytes} {t : Checkpoint.Target} {c : Ctl} {X : Int} {d : Nat}
    (h : ∀ p ∈ goodChecks dbs keys t c X d, p.2 = true)
    (hdbs : ∀ db, db ∉ dbs → ∀ n, t.cps db n = []) (hkeys : ∀ n, n ∉ keys → ∀ db, t.cps db n = [])
    (hkeyIn : c.key ∈ c.names) (hmasIn : c.mas ∈ c.ids) (hsecIn : c.sec ∈ c.ids)
    (hnames : ∀ n, n ∉ c.names → (∀ db, t.cps db n = []) ∧ ∀ p ∈ t.hash, p.2 ≠ n)
    (hids : ∀ ρ, ρ ∉ c.ids → (∀ db n, ∀ e ∈ t.cps db n, e.rid ≠ ρ) ∧ hlookup t.hash ρ = none)
    (hpmem : ∀ p, c.pend = some p → p ∈ c.names) : Good t c X d := by
  unfold goodChecks at h
  simp only [List.mem_cons, List.not_mem_nil, or_false, forall_eq_or_imp, forall_eq] at h
  obtain ⟨h1, h2, h3, h4, h5, h6, h7, h8, h9, h10, h11⟩ := h
  simp only [decide_eq_true_eq] at h1 h2 h4 h6
  obtain ⟨hne, hm0, hmq, hsq, hs0, hlab, hl0, hk0, hupk⟩ := h1
  have hwf := wf_of_check h7 hdbs hkeys
  have hstr : StrA t c.names c.ids := ⟨fun db n => (hwf db n).1, fun db n => (hwf db n).2, ⟨dbs, hdbs⟩, hnames, hids⟩
  -- a clause checked on the dumped databases holds in all: the others hold nothing
  have hall : ∀ (n : Bytes) {P : Nat → Cp → Prop}, (∀ db, P db []) → (∀ db ∈ dbs, P db (t.cps db n)) →
      ∀ db, P db (t.cps db n) := by
    intro n P h0 h1 db
    by_cases hdb : db ∈ dbs
    · exact h1 db hdb
    · rw [hdbs db hdb n]; exact h0 db
  have hbelow : ∀ n, dbs.all (fun db => decide (db = d) || offsBelow [c.mas, c.sec] (t.cps db n) X true) = true →
      ∀ db, db ≠ d → OffBelow [c.mas, c.sec] (t.cps db n) X := by
    intro n hc
    refine hall n (P := fun db fs => db ≠ d → OffBelow [c.mas, c.sec] fs X) (fun _ _ _ hx => nomatch hx) ?_
    intro db hdb hne'
    have := List.all_eq_true.mp hc db hdb
    simp only [Bool.or_eq_true, decide_eq_true_eq] at this
    exact offsBelow_strict (this.resolve_left hne')
  have hrid : ∀ n, dbs.all (fun db => !(hasKeyb (c.mas, Kind.offset) (t.cps db n)) || hasKeyb (c.mas, Kind.runid) (t.cps db n)) = true →
      ∀ db, hasKey (c.mas, Kind.offset) (t.cps db n) → hasKey (c.mas, Kind.runid) (t.cps db n) := by
    intro n hc
    exact hall n (P := fun _ fs => hasKey (c.mas, Kind.offset) fs → hasKey (c.mas, Kind.runid) fs)
      (fun _ ⟨_, he, _⟩ => nomatch he) (fun db hdb => hasrid_of_check (List.all_eq_true.mp hc db hdb))
  refine ⟨⟨hne, hm0, hmq, hsq, hlab, hl0, hk0, hkeyIn, hmasIn, hsecIn, hupk, hs0⟩, ?_,
    ⟨h4.1, fun db => parses_of_ok hstr _ db _, h4.2.1, h4.2.2, hbelow c.key h5⟩, h6⟩
  refine ⟨h2, unmapped_of_check h3, hstr, ?_, ?_, hrid c.key h10, ?_⟩
  · exact hall c.key (P := fun _ fs => NoAfter c.mas c.sec fs) (fun _ => List.Pairwise.nil)
      (fun db hdb => (noAfterb_iff _ _ _).mp (List.all_eq_true.mp h8 db hdb))
  · exact hall c.key (P := fun _ fs => OffLe [c.sec] fs X) (fun _ _ hx => nomatch hx)
      (fun db hdb => offsBelow_le (List.all_eq_true.mp h9 db hdb))
  · intro p hp
    rw [hp] at h11
    simp only [Bool.and_eq_true] at h11
    obtain ⟨⟨⟨⟨⟨ha, hb⟩, hc⟩, hd⟩, he⟩, hf⟩ := h11
    simp only [decide_eq_true_eq, Bool.or_eq_true, List.all_eq_true, Bool.not_eq_true', List.any_eq_false,
      decide_eq_false_iff_not] at ha hc hd he
    exact ⟨ha.1, ha.2, hpmem p hp,
      ⟨fun db => parses_of_ok hstr _ db _, hbelow p hb, hc, fun db => ridSel_ne_qmark hstr hmq hsq db p⟩,
      hall p (P := fun _ fs => ∀ e ∈ fs, e.rid = c.lab) (fun _ _ hx => nomatch hx) hd, he, hrid p hf⟩

end GunYu.BookSys
