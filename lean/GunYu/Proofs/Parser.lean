/-
  Parser-side lemmas for C01/C02: `parseStep` / `parseAll`.
-/
import GunYu.Model.Sender
import GunYu.Proofs.Decimal
import GunYu.Proofs.TargetSeq
import GunYu.Proofs.SenderData

namespace GunYu.Sender
open GunYu GunYu.Decimal GunYu.Target

theorem natToDec_head_digit (n : Nat) : ∃ b rest, natToDec n = b :: rest ∧ isDigit b = true := by
  have hne := natToDec_ne_nil n
  cases h : natToDec n with
  | nil => exact absurd h hne
  | cons b rest =>
    refine ⟨b, rest, rfl, ?_⟩
    apply natToDec_all_digit n
    rw [h]; exact List.mem_cons_self ..

/-- `strconv.Atoi` reads back what `strconv.Itoa` printed -/
theorem atoi?_intToDec (k : Int) : atoi? (intToDec k) = some k := by
  unfold intToDec
  by_cases hk : k < 0
  · simp only [hk, ↓reduceIte, atoi?, decToNat?_natToDec, Option.map_some]
    congr 1
    show -(k.natAbs : Int) = k
    omega
  · simp only [hk, ↓reduceIte]
    obtain ⟨b, rest, hb, hd⟩ := natToDec_head_digit k.toNat
    have h45 : b ≠ 45 := by
      intro h; subst h; simp [isDigit] at hd
    have h43 : b ≠ 43 := by
      intro h; subst h; simp [isDigit] at hd
    have : atoi? (natToDec k.toNat) = (decToNat? (natToDec k.toNat)).map Int.ofNat := by
      rw [hb]
      unfold atoi?
      split
      · rename_i heq; simp at heq; exact absurd heq.1 h45
      · rename_i heq; simp at heq; exact absurd heq.1 h43
      · rfl
    rw [this, decToNat?_natToDec]
    simp only [Option.map_some]
    congr 1
    have := Int.toNat_of_nonneg (a := k) (by omega)
    simp only [Int.ofNat_eq_natCast]
    omega

theorem selArg_selectItem (cur db : Int) (off : Int) :
    selArg cur (selectItem db off).args = db := by
  simp [selectItem, selArg, atoi?_intToDec]

/-! ### what one parser step can do -/

/-- A source `SELECT n` (n ≥ 0) to a database that is not filtered and whose
    command passes the key filter leaves the parser in the mapped database, and
    forwards `select <mapped>` exactly when that differs from the database the
    target connection is already in. -/
theorem parseStep_select (c : PCfg) (s : PState) (a : Bytes) (n : Int) (off : Int)
    (ha : atoi? a = some n) (hn : 0 ≤ n) (hdb : c.filterDb n = false)
    (hk : (c.filterCmdKey bSelect [a]).isSome) :
    (parseStep c s { cmd := bSelect, args := [a], off := off }).1.currentDB = mapDb c n ∧
    (parseStep c s { cmd := bSelect, args := [a], off := off }).1.bypass = false ∧
    (parseStep c s { cmd := bSelect, args := [a], off := off }).2 =
        (if mapDb c n ≠ s.currentDB then POut.emit (selectItem (mapDb c n) off) else POut.skip) := by
  have hne : bSelect ≠ bPing := by decide
  obtain ⟨x, hx⟩ := Option.isSome_iff_exists.mp hk
  have hn1 : n ≠ -1 := by omega
  unfold parseStep
  simp only [hne, ↓reduceIte, ha, hdb, hx, hn, selectDB, hn1, Bool.false_eq_true]
  by_cases hch : mapDb c n = s.currentDB
  · simp [hch]
  · simp [hch]

/-- A `SELECT` to a filtered database forwards nothing and puts the parser in
    bypass: every following command is withheld until the next SELECT. -/
theorem parseStep_select_filtered (c : PCfg) (s : PState) (a : Bytes) (n : Int) (off : Int)
    (ha : atoi? a = some n) (hdb : c.filterDb n = true) :
    parseStep c s { cmd := bSelect, args := [a], off := off } =
      ({ s with bypass := true }, POut.skip) := by
  have hne : bSelect ≠ bPing := by decide
  unfold parseStep
  simp [hne, ha, hdb]

/-- An ordinary command (not PING / SELECT) is forwarded iff the parser is not
    in bypass, the command is not blacklisted, it is not the sentinel hello and
    its keys pass the filter; what is forwarded is the command with exactly the
    filtered argument list, its END offset and the parser's current database. -/
theorem parseStep_data (c : PCfg) (s : PState) (r : Raw) (hp : r.cmd ≠ bPing) (hs : r.cmd ≠ bSelect) :
    parseStep c s r =
      if c.filterCmd r.cmd then (s, POut.skip)
      else if r.cmd = bPublish ∧ (r.args.head?.map lower) = some bSentinelHello then (s, POut.skip)
      else if s.bypass ∧ passBracket s r.cmd = false then (s, POut.skip)
      else match c.filterCmdKey r.cmd r.args with
        | none => (s, POut.skip)
        | some a =>
          (sent s r.cmd (if passBracket s r.cmd then s.lastSent else r.off),
           POut.emit { cmd := r.cmd, args := a,
                       offset := (if passBracket s r.cmd then s.lastSent else r.off), db := s.currentDB }) := by
  unfold parseStep
  simp only [hp, hs, ↓reduceIte]
  rfl

/-- the four outcomes of a step: nothing handed over, failure, a SELECT answered by
    `select <mapped db>`, the command itself (own offset, or a bracket let through in bypass) -/
theorem parseStep_cases (c : PCfg) (s : PState) (r : Raw) :
    (∃ b, parseStep c s r = ({ s with bypass := b }, .skip)) ∨
    parseStep c s r = (s, .fail) ∨
    (∃ x n, r.cmd = bSelect ∧ r.args = [x] ∧ atoi? x = some n ∧ 0 ≤ n ∧ mapDb c n ≠ s.currentDB ∧
      parseStep c s r = ({ s with bypass := false, currentDB := mapDb c n, lastSent := r.off },
        .emit (selectItem (mapDb c n) r.off))) ∨
    (∃ a b off, (r.cmd = bSelect → ∃ x n, r.args = [x] ∧ atoi? x = some n ∧ n < 0) ∧
      ((passBracket s r.cmd = false ∧ off = r.off ∧ b = false) ∨
       (passBracket s r.cmd = true ∧ off = s.lastSent ∧ b = s.bypass)) ∧
      parseStep c s r = (sent { s with bypass := b } r.cmd off,
        .emit { cmd := r.cmd, args := a, offset := off, db := s.currentDB })) := by
  generalize h : parseStep c s r = res
  by_cases hp : r.cmd = bPing
  · unfold parseStep at h
    simp only [hp, ↓reduceIte] at h
    split at h
    · exact .inl ⟨s.bypass, h.symm⟩
    · rename_i a _
      split at h
      · exact .inl ⟨s.bypass, h.symm⟩
      · rename_i hb
        have hb : s.bypass = false := by simpa using hb
        exact .inr (.inr (.inr ⟨a, s.bypass, r.off, fun hs => absurd (hp ▸ hs) (by decide),
          .inl ⟨by simp [passBracket, hb], rfl, hb⟩, by rw [hp]; exact h.symm⟩))
  · by_cases hs : r.cmd = bSelect
    · have hne : bSelect ≠ bPing := by decide
      have hpb : passBracket s r.cmd = false := by
        have hsm : bSelect ≠ bMulti := by decide
        have hse : bSelect ≠ bExec := by decide
        simp [passBracket, hs, hsm, hse]
      unfold parseStep at h
      simp only [hs, hne, ↓reduceIte] at h
      split at h
      · split at h
        · exact .inr (.inl h.symm)
        · rename_i a ha _ n hn
          cases hdb : c.filterDb n with
          | true => rw [hdb] at h; exact .inl ⟨true, h.symm⟩
          | false =>
            simp only [hdb, Bool.false_eq_true, ↓reduceIte] at h
            split at h
            · exact .inl ⟨false, h.symm⟩
            · rename_i x _
              split at h
              · rename_i h0
                simp only [selectDB] at h
                split at h
                · exact .inl ⟨false, h.symm⟩
                · split at h
                  · rename_i hch
                    exact .inr (.inr (.inl ⟨a, n, hs, ha, hn, h0, by simpa using hch, h.symm⟩))
                  · exact .inl ⟨false, h.symm⟩
              · rename_i h0
                exact .inr (.inr (.inr ⟨x, false, r.off, fun _ => ⟨a, n, ha, hn, by omega⟩,
                  .inl ⟨hpb, rfl, rfl⟩, by rw [hs]; exact h.symm⟩))
      · exact .inr (.inl h.symm)
    · rw [parseStep_data c s r hp hs] at h
      split at h
      · exact .inl ⟨s.bypass, h.symm⟩
      · split at h
        · exact .inl ⟨s.bypass, h.symm⟩
        · split at h
          · exact .inl ⟨s.bypass, h.symm⟩
          · rename_i h3
            split at h
            · exact .inl ⟨s.bypass, h.symm⟩
            · rename_i a _
              refine .inr (.inr (.inr ⟨a, s.bypass, _, fun h => absurd h hs, ?_, h.symm⟩))
              cases hpb : passBracket s r.cmd with
              | true => exact .inr ⟨rfl, rfl, rfl⟩
              | false =>
                refine .inl ⟨rfl, rfl, ?_⟩
                cases hb : s.bypass with
                | false => rfl
                | true => exact absurd ⟨hb, hpb⟩ h3

/-- offsets of what the parser emits are offsets of source commands, in order:
    nothing is reordered, duplicated or invented by the parser -/
theorem parseStep_emit_off (c : PCfg) (s : PState) (r : Raw) (i : Item)
    (h : (parseStep c s r).2 = POut.emit i) :
    (i.offset = r.off ∨ (i.offset = s.lastSent ∧
        ((i.cmd = bMulti ∧ s.txnOpen = false) ∨ (i.cmd = bExec ∧ s.txnOpen = true)))) ∧
    (parseStep c s r).1.lastSent = i.offset ∧
    (parseStep c s r).1.txnOpen =
      (if i.cmd = bMulti then true else if i.cmd = bExec then false else s.txnOpen) := by
  have hsm : bSelect ≠ bMulti := by decide
  have hse : bSelect ≠ bExec := by decide
  rcases parseStep_cases c s r with ⟨b, h'⟩ | h' | ⟨x, n, -, -, -, -, -, h'⟩ | ⟨a, b, off, -, hoff, h'⟩ <;>
    rw [h'] at h ⊢ <;> cases h
  · exact ⟨.inl rfl, rfl, by simp [selectItem, hsm, hse]⟩
  · refine ⟨?_, rfl, rfl⟩
    rcases hoff with ⟨-, rfl, -⟩ | ⟨hpb, rfl, -⟩
    · exact .inl rfl
    · simp only [passBracket, Bool.and_eq_true, Bool.or_eq_true, decide_eq_true_eq,
        Bool.not_eq_true'] at hpb
      exact .inr ⟨rfl, hpb.2⟩

theorem parseStep_skip (c : PCfg) (s : PState) (r : Raw) (s' : PState)
    (h : parseStep c s r = (s', POut.skip)) : ∃ b, s' = { s with bypass := b } := by
  rcases parseStep_cases c s r with ⟨b, h'⟩ | h' | ⟨x, n, -, -, -, -, -, h'⟩ | ⟨a, b, off, -, -, h'⟩ <;>
    rw [h'] at h <;> cases h
  exact ⟨b, rfl⟩

theorem parseStep_skip_lastSent (c : PCfg) (s : PState) (r : Raw) (s' : PState)
    (h : parseStep c s r = (s', POut.skip)) : s'.lastSent = s.lastSent := by
  obtain ⟨b, rfl⟩ := parseStep_skip c s r s' h
  rfl

theorem parseStep_skip_txnOpen (c : PCfg) (s : PState) (r : Raw) (s' : PState)
    (h : parseStep c s r = (s', POut.skip)) : s'.txnOpen = s.txnOpen := by
  obtain ⟨b, rfl⟩ := parseStep_skip c s r s' h
  rfl

/-- the parser never reorders or invents positions: with source offsets increasing
    from at least `lastSent`, the offsets it hands to the sender never decrease -/
theorem parseAll_offsets_mono (c : PCfg) (raws : List Raw) (s : PState)
    (hraw : (raws.map (·.off)).Pairwise (· < ·)) (hlo : ∀ r ∈ raws, s.lastSent ≤ r.off) :
    ((parseAll c s raws).map (·.offset)).Pairwise (· ≤ ·) ∧
    ∀ i ∈ parseAll c s raws, s.lastSent ≤ i.offset := by
  induction raws generalizing s with
  | nil => simp [parseAll]
  | cons r rest ih =>
    have hr : s.lastSent ≤ r.off := hlo r (List.mem_cons_self ..)
    simp only [List.map_cons, List.pairwise_cons] at hraw
    have hrest_lo : ∀ r' ∈ rest, r.off ≤ r'.off := fun r' hr' =>
      Int.le_of_lt (hraw.1 r'.off (List.mem_map.mpr ⟨r', hr', rfl⟩))
    simp only [parseAll]
    cases hps : parseStep c s r with
    | mk s' o =>
      cases o with
      | fail => simp
      | skip =>
        simp only
        have hl : s'.lastSent = s.lastSent := parseStep_skip_lastSent c s r s' hps
        rw [← hl]
        exact ih s' hraw.2 (fun r' hr' => by rw [hl]; exact Int.le_trans hr (hrest_lo r' hr'))
      | emit i =>
        simp only
        obtain ⟨hoff, hls, _⟩ := parseStep_emit_off c s r i (by rw [hps])
        rw [hps] at hls
        simp only at hls
        -- the item carries `r.off`, or (a bracket let through) `s.lastSent`
        have hb : s.lastSent ≤ i.offset ∧ i.offset ≤ r.off := by
          rcases hoff with h | ⟨h, _⟩ <;> rw [h]
          · exact ⟨hr, Int.le_refl _⟩
          · exact ⟨Int.le_refl _, hr⟩
        have := ih s' hraw.2 (fun r' hr' => by rw [hls]; exact Int.le_trans hb.2 (hrest_lo r' hr'))
        rw [hls] at this
        refine ⟨?_, ?_⟩
        · simp only [List.map_cons, List.pairwise_cons]
          refine ⟨?_, this.1⟩
          intro x hx
          obtain ⟨j, hj, rfl⟩ := List.mem_map.mp hx
          exact this.2 j hj
        · intro j hj
          rcases List.mem_cons.mp hj with rfl | hj'
          · exact hb.1
          · exact Int.le_trans hb.1 (this.2 j hj')

/-- the sender's status after an item (`fwd1`) -/
def txnAfter (t : Txn) (it : Item) : Txn :=
  if it.cmd = bPing then t else (txnStatus it.cmd t).1

/-- what the sender's wire-order proof needs of its input: offsets never
    decrease, and only an item the sender does not queue (a transaction bracket)
    may repeat the offset before it. `t` = the sender's transaction status. -/
def ItemsMono : Txn → Int → List Item → Prop
  | _, _, [] => True
  | t, last, it :: rest =>
    last ≤ it.offset ∧
    (it.cmd ≠ bPing → forwards (txnStatus it.cmd t).1 = true → last < it.offset) ∧
    ItemsMono (txnAfter t it) it.offset rest

theorem inT_txnStatus (cmd : Bytes) (t : Txn) :
    inT (txnStatus cmd t).1 = (if cmd = bMulti then true else if cmd = bExec then false else inT t) := by
  by_cases hm : cmd = bMulti
  · subst hm; cases t <;> decide
  · by_cases he : cmd = bExec
    · subst he; cases t <;> decide
    · by_cases hs : cmd = bSelect
      · subst hs; cases t <;> decide
      · cases t <;> simp [txnStatus, cmdClass, inT, hm, he, hs]

/-- the sender forwards everything but the brackets -- a MULTI inside a transaction it
    would forward as data -/
theorem forwards_txnStatus (cmd : Bytes) (t : Txn) (h : cmd = bMulti → inT t = false) :
    forwards (txnStatus cmd t).1 = !(decide (cmd = bMulti) || decide (cmd = bExec)) := by
  by_cases hm : cmd = bMulti
  · have := h hm
    subst hm
    cases t <;> first | decide | cases this
  · by_cases he : cmd = bExec
    · subst he; cases t <;> decide
    · by_cases hs : cmd = bSelect
      · subst hs; cases t <;> decide
      · cases t <;> simp [txnStatus, cmdClass, forwards, hm, he, hs]

/-- the items of a schedule, in order -/
def itemsOf : List Ev → List Item
  | [] => []
  | .item it :: rest => it :: itemsOf rest
  | _ :: rest => itemsOf rest

/-- **The parser's output is what the sender assumes** (`Props.C02.SMono`): for
    a source stream whose command END offsets increase strictly from above the
    start offset, every item offset is above the previous one, except that a
    transaction bracket handed over inside a filtered database repeats it -- and
    the sender never queues that bracket (the parser's `txnOpen` is the sender's
    "inside a transaction"). -/
theorem parseAll_itemsMono (c : PCfg) (raws : List Raw) (s : PState) (t : Txn)
    (ht : s.txnOpen = inT t)
    (hraw : (raws.map (·.off)).Pairwise (· < ·)) (hlo : ∀ r ∈ raws, s.lastSent < r.off) :
    ItemsMono t s.lastSent (parseAll c s raws) := by
  induction raws generalizing s t with
  | nil => simp [parseAll, ItemsMono]
  | cons r rest ih =>
    have hr : s.lastSent < r.off := hlo r (List.mem_cons_self ..)
    simp only [List.map_cons, List.pairwise_cons] at hraw
    have hrest_lo : ∀ r' ∈ rest, r.off < r'.off := by
      intro r' hr'
      exact hraw.1 r'.off (List.mem_map.mpr ⟨r', hr', rfl⟩)
    simp only [parseAll]
    cases hps : parseStep c s r with
    | mk s' o =>
      cases o with
      | fail => simp [ItemsMono]
      | skip =>
        simp only
        have hl : s'.lastSent = s.lastSent := parseStep_skip_lastSent c s r s' hps
        have hto : s'.txnOpen = s.txnOpen := parseStep_skip_txnOpen c s r s' hps
        rw [← hl]
        exact ih s' t (by rw [hto]; exact ht) hraw.2
          (fun r' hr' => by rw [hl]; exact Int.lt_trans hr (hrest_lo r' hr'))
      | emit i =>
        simp only
        obtain ⟨hoff, hls, hto⟩ := parseStep_emit_off c s r i (by rw [hps])
        rw [hps] at hls hto
        simp only at hls hto
        have hile : i.offset ≤ r.off := by
          rcases hoff with h | ⟨h, _⟩ <;> rw [h]
          · exact Int.le_refl _
          · exact Int.le_of_lt hr
        have ht' : s'.txnOpen = inT (txnAfter t i) := by
          unfold txnAfter
          by_cases hp : i.cmd = bPing
          · have hpm : bPing ≠ bMulti := by decide
            have hpe : bPing ≠ bExec := by decide
            rw [hto]; simp [hp, hpm, hpe, ht]
          · rw [hto, if_neg hp, inT_txnStatus, ht]
        have := ih s' (txnAfter t i) ht' hraw.2
          (fun r' hr' => by rw [hls]; exact Int.lt_of_le_of_lt hile (hrest_lo r' hr'))
        rw [hls] at this
        refine ⟨?_, ?_, this⟩
        · rcases hoff with h | ⟨h, _⟩ <;> rw [h]
          · exact Int.le_of_lt hr
          · exact Int.le_refl _
        · intro _ hfw
          rcases hoff with h | ⟨_, ⟨hm, hop⟩ | ⟨he, _⟩⟩
          · rw [h]; exact hr
          · -- a MULTI outside a transaction is absorbed, not queued
            rw [forwards_txnStatus _ _ (fun _ => by rw [← ht]; exact hop), hm] at hfw
            cases hfw
          · rw [forwards_txnStatus _ _ (fun h => absurd (he ▸ h) (by decide)), he] at hfw
            cases hfw

end GunYu.Sender
