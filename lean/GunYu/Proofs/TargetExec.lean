/-
  Helper lemmas for C01/C02/C09: how the target executes what the sender sends.
-/
import GunYu.Model.Target
import GunYu.Proofs.SenderData
import GunYu.Proofs.SenderCp

namespace GunYu.Target
open GunYu GunYu.Sender

/-- requests that are neither MULTI nor EXEC brackets -/
def Plain : Req → Bool
  | .multi => false
  | .exec => false
  | _ => true

theorem execReq_queued (t : TState) (r : Req) : (execReq t r).queued = t.queued := by
  cases r <;> simp only [execReq]
  case cmd n a =>
    split
    · split
      · split <;> rfl
      · rfl
    · split <;> rfl

theorem foldl_execReq_queued (l : List Req) (t : TState) :
    (l.foldl execReq t).queued = t.queued := by
  induction l generalizing t with
  | nil => rfl
  | cons r l ih => simp only [List.foldl_cons]; rw [ih, execReq_queued]

theorem applyReq_plain (t : TState) (r : Req) (hr : Plain r = true) :
    applyReq t r = match t.queued with
      | some q => { t with queued := some (q ++ [r]) }
      | none => execReq t r := by
  unfold applyReq
  cases r <;> first | rfl | cases hr

/-- queueing: inside MULTI plain requests only accumulate -/
theorem applyLog_queue (body : List Req) (hb : ∀ r ∈ body, Plain r = true) (t : TState) (q : List Req)
    (hq : t.queued = some q) :
    applyLog t body = { t with queued := some (q ++ body) } := by
  induction body generalizing t q with
  | nil => rw [List.append_nil, ← hq]; rfl
  | cons r body ih =>
    rw [applyLog, List.foldl_cons, applyReq_plain t r (hb r (List.mem_cons_self ..)), hq]
    exact (ih (fun r hr => hb r (List.mem_cons_of_mem _ hr)) _ (q ++ [r]) rfl).trans
      (by rw [List.append_assoc]; rfl)

/-- outside MULTI plain requests execute one by one -/
theorem applyLog_plain (body : List Req) (hb : ∀ r ∈ body, Plain r = true) (t : TState)
    (hq : t.queued = none) :
    applyLog t body = body.foldl execReq t := by
  induction body generalizing t with
  | nil => rfl
  | cons r body ih =>
    rw [applyLog, List.foldl_cons, applyReq_plain t r (hb r (List.mem_cons_self ..)), hq]
    exact ih (fun r hr => hb r (List.mem_cons_of_mem _ hr)) _ (by rw [execReq_queued, hq])

theorem applyLog_append (t : TState) (x y : List Req) :
    applyLog t (x ++ y) = applyLog (applyLog t x) y := List.foldl_append ..

theorem applyLog_open_block (p : List Req) (hp : ∀ r ∈ p, Plain r = true) (t : TState)
    (hq : t.queued = none) : applyLog t (Req.multi :: p) = { t with queued := some p } := by
  have h1 : applyReq t Req.multi = { t with queued := some [] } := by simp [applyReq, hq]
  rw [applyLog, List.foldl_cons, h1]
  exact applyLog_queue p hp { t with queued := some [] } [] rfl

/-- a MULTI … EXEC block executes its body atomically, in order -/
theorem applyLog_block (body : List Req) (hb : ∀ r ∈ body, Plain r = true) (t : TState)
    (hq : t.queued = none) :
    applyLog t ([Req.multi] ++ body ++ [Req.exec]) = body.foldl execReq t := by
  have : ({ t with queued := none } : TState) = t := by rw [← hq]
  rw [List.singleton_append, applyLog_append, applyLog_open_block body hb t hq]
  simp only [applyLog, List.foldl_cons, List.foldl_nil, applyReq, this]

theorem applyLog_batch {b body : List Req} (hb : ∀ r ∈ body, Plain r = true) (t : TState)
    (hq : t.queued = none) (h : b = body ∨ b = [Req.multi] ++ body ++ [Req.exec]) :
    applyLog t b = body.foldl execReq t := by
  rcases h with rfl | rfl
  · exact applyLog_plain b hb t hq
  · exact applyLog_block body hb t hq

/-- a batch without its MULTI/EXEC brackets -/
def stripB : Batch → List Req
  | .multi :: rest => rest.dropLast
  | b => b

/-- a batch as the sender builds it: a plain body, optionally bracketed -/
def WFBatch (b : Batch) : Prop :=
  ∃ body : List Req, (∀ r ∈ body, Plain r = true) ∧
    ((b = body) ∨ (b = [Req.multi] ++ body ++ [Req.exec]))

theorem plain_cmds (q : List Item) : ∀ r ∈ q.map (fun i => Req.cmd i.cmd i.args i.offset), Plain r = true := by
  intro r hr
  obtain ⟨i, _, rfl⟩ := List.mem_map.mp hr
  rfl

theorem plain_cpPart (c : SCfg) (s : SState) (u : Bool) (off : Int) :
    ∀ r ∈ cpPart c s u off, Plain r = true := by
  intro r hr
  unfold cpPart at hr
  split at hr
  · split at hr <;> simp at hr <;> rcases hr with rfl | rfl <;> rfl
  · cases hr

/-- the plain body of a flush -/
def sendBody (c : SCfg) (s : SState) (u : Bool) (off : Int) : List Req :=
  s.queue.map (fun i => Req.cmd i.cmd i.args i.offset) ++ cpPart c s u off

theorem plain_sendBody (c : SCfg) (s : SState) (u : Bool) (off : Int) :
    ∀ r ∈ sendBody c s u off, Plain r = true := by
  intro r hr
  rcases List.mem_append.mp hr with h | h
  · exact plain_cmds _ r h
  · exact plain_cpPart c s u off r h

theorem sendReqs_eq (c : SCfg) (s : SState) (tb u : Bool) (off : Int) :
    sendReqs c s tb u off =
      if tb then [Req.multi] ++ sendBody c s u off ++ [Req.exec] else sendBody c s u off := by
  unfold sendReqs sendBody
  cases tb <;> simp

theorem wf_sendReqs (c : SCfg) (s : SState) (tb u : Bool) (off : Int) :
    WFBatch (sendReqs c s tb u off) := by
  refine ⟨sendBody c s u off, plain_sendBody c s u off, ?_⟩
  rw [sendReqs_eq]
  cases tb <;> simp

/-- executing a well-formed batch = executing its body in order (atomically
    when bracketed) -/
theorem applyLog_wf (b : Batch) (t : TState) (hq : t.queued = none) (hb : WFBatch b) :
    ∃ body, (∀ r ∈ body, Plain r = true) ∧ applyLog t b = body.foldl execReq t ∧ dataB b = dataB body := by
  obtain ⟨body, hp, h⟩ := hb
  refine ⟨body, hp, applyLog_batch hp t hq h, ?_⟩
  rcases h with rfl | rfl
  · rfl
  · rw [dataB_append, dataB_append]
    exact List.append_nil _

end GunYu.Target
