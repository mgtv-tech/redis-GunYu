/-
  Lemmas about the runCluster state machine (Model/Handover.lean) for Props/C16Handover.lean.
-/
import GunYu.Model.Handover

namespace GunYu.Handover

@[simp] theorem upd_same (f : Nat → Local) (i : Nat) (v : Local) : upd f i v i = v := by simp [upd]
theorem upd_other (f : Nat → Local) {i k : Nat} (v : Local) (h : k ≠ i) : upd f i v k = f k := by
  simp [upd, h]

@[simp] theorem set_now (s : State) (i : Nat) (p : Phase) : (s.set i p).now = s.now := rfl
@[simp] theorem set_lease (s : State) (i : Nat) (p : Phase) : (s.set i p).lease = s.lease := rfl
@[simp] theorem set_same (s : State) (i : Nat) (p : Phase) : ((s.set i p).loc i).phase = p := by
  simp [State.set]
theorem set_other (s : State) {i k : Nat} (p : Phase) (h : k ≠ i) : (s.set i p).loc k = s.loc k := by
  simp [State.set, upd, h]
@[simp] theorem set_cache (s : State) (i k : Nat) (p : Phase) : ((s.set i p).loc k).cache = (s.loc k).cache := by
  by_cases h : k = i
  · subst h; simp [State.set]
  · rw [set_other s p h]
@[simp] theorem set_disk (s : State) (i k : Nat) (p : Phase) : ((s.set i p).loc k).disk = (s.loc k).disk := by
  by_cases h : k = i
  · subst h; simp [State.set]
  · rw [set_other s p h]

theorem sending_phase (l : Local) : sending l = true ↔ l.phase = .lead ∨ ∃ w, l.phase = .stopL w := by
  unfold sending
  cases l.phase <;> simp

/-- replacing one record by one that sends only if the old one did makes no new sender -/
theorem sending_upd {f : Nat → Local} {i : Nat} {v : Local} (h : sending v = true → sending (f i) = true)
    (k : Nat) (hk : sending (upd f i v k) = true) : sending (f k) = true := by
  unfold upd at hk
  split at hk
  · next e => exact e ▸ h hk
  · exact hk

/-- every instance that is sending holds the unexpired lease -/
def Safe (s : State) : Prop := ∀ i, sending (s.loc i) = true → holdsUntil s i s.now = true

theorem holdsUntil_iff (s : State) (i t : Nat) :
    holdsUntil s i t = true ↔ ∃ e, s.lease = some (i, e) ∧ t < e := by
  unfold holdsUntil
  cases s.lease with
  | none => simp
  | some p =>
    obtain ⟨h, e⟩ := p
    simp only [Bool.and_eq_true, beq_iff_eq, decide_eq_true_eq, Option.some.injEq, Prod.mk.injEq]
    constructor
    · rintro ⟨rfl, ht⟩; exact ⟨e, ⟨rfl, rfl⟩, ht⟩
    · rintro ⟨e', ⟨rfl, rfl⟩, ht⟩; exact ⟨rfl, ht⟩

theorem heldByOther_of_holds {s : State} {k i : Nat} (h : holdsUntil s k s.now = true) (hk : k ≠ i) :
    heldByOther s i = true := by
  obtain ⟨e, hl, ht⟩ := (holdsUntil_iff s k s.now).mp h
  simp [heldByOther, hl, ht, hk]

/-- two instances never send at the same time -/
theorem Safe.unique {s : State} (h : Safe s) {i j : Nat} (hi : sending (s.loc i) = true)
    (hj : sending (s.loc j) = true) : i = j := by
  obtain ⟨e, hl, _⟩ := (holdsUntil_iff s i s.now).mp (h i hi)
  obtain ⟨e', hl', _⟩ := (holdsUntil_iff s j s.now).mp (h j hj)
  rw [hl] at hl'
  cases hl'
  rfl

/-- instances outside `0 … n-1` do not exist -/
def Bounded (c : Cfg) (s : State) : Prop := ∀ i, c.n ≤ i → sending (s.loc i) = false

/-- the events of a trace only name existing instances -/
def Ev.within (c : Cfg) : Ev → Prop
  | .tick _ => True
  | .campaign i _ => i < c.n
  | .renew i _ => i < c.n
  | .tcampaign j _ => j < c.n
  | .offer i j => i < c.n ∧ j < c.n
  | .stopped i => i < c.n
  | .resigned i _ => i < c.n
  | .fsync j _ => j < c.n
  | .fail i _ => i < c.n
  | .landed j => j < c.n
  | .crash i => i < c.n
  | .restart i => i < c.n

theorem timely_spec (c : Cfg) (s : State) (d : Nat) (h : timely c s d = true) (i : Nat) (hi : i < c.n)
    (hs : sending (s.loc i) = true) : holdsUntil s i (s.now + d) = true := by
  unfold timely at h
  rw [List.all_eq_true] at h
  have := h i (List.mem_range.mpr hi)
  simpa [hs] using this

/-- the instances an event acts on -/
def Ev.targets : Ev → List Nat
  | .tick _ => []
  | .campaign i _ => [i]
  | .renew i _ => [i]
  | .tcampaign j _ => [j]
  | .offer i j => [i, j]
  | .stopped i => [i]
  | .resigned i _ => [i]
  | .fsync j _ => [j]
  | .fail i _ => [i]
  | .landed _ => []
  | .crash i => [i]
  | .restart i => [i]

/-- Every transition has one of nine forms (the branches of `step`, each with what it knows about the
    state it starts from). `move`: one instance changes phase without becoming a sender, a candidate only
    when its pause is over, out of `dead` only by `restart`. `acquire`: the same with the key taken; only
    the loop's successful campaign makes a sender. `relet`: the key is rewritten for its holder, or for an
    instance that does not send while the key is not another's. -/
theorem step_cases (c : Cfg) (g : Bool) (s : State) {motive : Ev → State → Prop}
    (same : ∀ ev, motive ev s)
    (tick : ∀ d, (g = true → timely c s d = true) → motive (.tick d) { s with now := s.now + d })
    (move : ∀ ev i p, i ∈ ev.targets →
      (sending { s.loc i with phase := p } = true → sending (s.loc i) = true) →
      (∀ w, (s.loc i).phase = .cand w → w ≤ s.now) → ((s.loc i).phase = .dead → ev = .restart i) →
      motive ev (s.set i p))
    (acquire : ∀ ev i p, i ∈ ev.targets → sending (s.loc i) = false → heldByOther s i = false →
      (sending { s.loc i with phase := p } = true → ev = .campaign i true) →
      (∀ w, (s.loc i).phase = .cand w → w ≤ s.now) → (s.loc i).phase ≠ .dead →
      motive ev { s.set i p with lease := some (i, s.now + c.ttl) })
    (relet : ∀ ev i, holdsUntil s i s.now = true ∨ (sending (s.loc i) = false ∧ heldByOther s i = false) →
      motive ev { s with lease := some (i, s.now + c.ttl) })
    (offer : ∀ i j, i ≠ j → (s.loc i).phase = .lead → (s.loc j).phase = .foll →
      motive (.offer i j) ((s.set i (.stopL .handover)).set j (.follOffered (s.now + c.takeoverDelay))))
    (ended : ∀ ev i p, i ∈ ev.targets → sending (endSyncer (s.loc i) p) = false →
      ((∃ w, (s.loc i).phase = .cand w) ∨ (s.loc i).phase = .dead → p = .dead) →
      motive ev { s with loc := upd s.loc i (endSyncer (s.loc i) p) })
    (released : ∀ i ok w, (s.loc i).phase = .resign w → ownsLease s i = true →
      motive (.resigned i ok) { s.set i (.cand (s.now + pauseResign c w ok)) with lease := none })
    (fsync : ∀ j v, (s.loc j).phase = .foll →
      motive (.fsync j v) { s with loc := upd s.loc j { s.loc j with cache := v } })
    (ev : Ev) : motive ev (step c g s ev) := by
  cases ev with
  | tick d =>
    simp only [step]
    split
    · exact same _
    · next h => exact tick d (fun hg => by simpa [hg] using h)
  | campaign i ok =>
    simp only [step]
    cases hp : (s.loc i).phase with
    | cand w =>
      simp only
      split
      · exact same _
      · next hw =>
        have hw' : ∀ w', Phase.cand w = .cand w' → w' ≤ s.now := fun w' h => by cases h; omega
        split
        · exact move _ i _ List.mem_cons_self (by simp [sending]) (by rwa [hp]) (by simp [hp])
        · next hok =>
          split
          · exact move _ i _ List.mem_cons_self (by simp [sending]) (by rwa [hp]) (by simp [hp])
          · next hfree =>
            exact acquire _ i _ List.mem_cons_self (by simp [sending, hp]) (by simpa using hfree)
              (fun _ => by simp at hok; rw [hok]) (by rwa [hp]) (by simp [hp])
    | _ => exact same _
  | renew i ok =>
    simp only [step]
    cases hp : (s.loc i).phase with
    | lead =>
      simp only
      split
      · next h => exact relet _ i (Or.inl (by simp at h; exact h.2))
      · exact move _ i _ List.mem_cons_self (by simp [sending, hp]) (by simp [hp]) (by simp [hp])
    | stopL w =>
      simp only
      split
      · next h => exact relet _ i (Or.inl (by simp at h; exact h.2))
      · exact same _
    | resign w =>
      simp only
      split
      · next h => exact relet _ i (Or.inl (by simp at h; exact h.2))
      · exact same _
    | _ => exact same _
  | tcampaign j ok =>
    simp only [step]
    split
    · next hf =>
      have hns : sending (s.loc j) = false := by
        unfold sending; cases hp : (s.loc j).phase <;> simp [hp, isFollowing] at hf ⊢
      have hc : ∀ w, (s.loc j).phase = .cand w → w ≤ s.now := fun w h => by simp [h, isFollowing] at hf
      have hd : (s.loc j).phase ≠ .dead := fun h => by simp [h, isFollowing] at hf
      split
      · exact move _ j _ List.mem_cons_self (by simp [sending]) hc (fun h => absurd h hd)
      · split
        · exact same _
        · next hfree =>
          exact acquire _ j _ List.mem_cons_self hns (by simpa using hfree) (by simp [sending]) hc hd
    · exact same _
  | offer i j =>
    simp only [step]
    split
    · next h =>
      simp only [Bool.and_eq_true, bne_iff_ne, ne_eq, beq_iff_eq] at h
      exact offer i j h.1.1.1 h.1.1.2 h.1.2
    · exact same _
  | stopped i =>
    simp only [step]
    cases hp : (s.loc i).phase with
    | stopL w => exact ended _ i _ List.mem_cons_self (by simp [sending, endSyncer]) (by simp [hp])
    | stopF w => exact ended _ i _ List.mem_cons_self (by simp [sending, endSyncer]) (by simp [hp])
    | follOffered u =>
      simp only
      split
      · exact same _
      · exact ended _ i _ List.mem_cons_self (by simp [sending, endSyncer]) (by simp [hp])
    | _ => exact same _
  | resigned i ok =>
    simp only [step]
    cases hp : (s.loc i).phase with
    | resign w =>
      simp only
      split
      · next h => exact released i ok w hp (by simp at h; exact h.2)
      · exact move _ i _ List.mem_cons_self (by simp [sending]) (by simp [hp]) (by simp [hp])
    | _ => exact same _
  | fsync j v =>
    simp only [step]
    split
    · next hp => exact fsync j v hp
    · exact same _
  | fail i brk =>
    simp only [step]
    cases hp : (s.loc i).phase with
    | lead => exact move _ i _ List.mem_cons_self (by simp [sending, hp]) (by simp [hp]) (by simp [hp])
    | foll => exact move _ i _ List.mem_cons_self (by simp [sending]) (by simp [hp]) (by simp [hp])
    | _ => exact same _
  | landed j =>
    simp only [step]
    split
    · exact same _
    · next h => exact relet _ j (Or.inr (by simpa using h))
  | crash i => exact ended _ i _ List.mem_cons_self (by simp [sending, endSyncer]) (fun _ => rfl)
  | restart i =>
    simp only [step]
    cases hp : (s.loc i).phase with
    | dead => exact move _ i _ List.mem_cons_self (by simp [sending]) (by simp [hp]) (fun _ => rfl)
    | _ => exact same _

theorem run_inv (c : Cfg) (g : Bool) (P : State → Prop) (evs : List Ev)
    (h : ∀ s, ∀ ev ∈ evs, P s → P (step c g s ev)) (s : State) (hs : P s) : P (run c g s evs) := by
  induction evs generalizing s with
  | nil => exact hs
  | cons ev evs ih =>
    exact ih (fun s e he => h s e (List.mem_cons_of_mem _ he)) _ (h s ev (List.mem_cons_self ..) hs)

theorem step_now_le (c : Cfg) (g : Bool) (s : State) (ev : Ev) : s.now ≤ (step c g s ev).now := by
  apply step_cases c g s (motive := fun _ s' => s.now ≤ s'.now) <;> intros <;> simp

theorem step_loc_other (c : Cfg) (g : Bool) (s : State) (ev : Ev) (i : Nat) (h : i ∉ ev.targets) :
    (step c g s ev).loc i = s.loc i := by
  revert h
  apply step_cases c g s (motive := fun ev s' => i ∉ ev.targets → s'.loc i = s.loc i)
  case same | tick | relet => intros; rfl
  case move => intro ev k p hk _ _ _ h; exact set_other s p (fun e => h (e ▸ hk))
  case acquire => intro ev k p hk _ _ _ _ _ h; exact set_other s p (fun e => h (e ▸ hk))
  case offer =>
    intro a b _ _ _ h
    simp only [Ev.targets, List.mem_cons, List.mem_nil_iff, or_false, not_or] at h
    rw [set_other _ _ h.2, set_other _ _ h.1]
  case ended => intro ev k p hk _ _ h; exact upd_other _ _ (fun e => h (e ▸ hk))
  case released => intro k ok w _ _ h; exact set_other s _ (by simpa [Ev.targets] using h)
  case fsync => intro k v _ h; exact upd_other _ _ (by simpa [Ev.targets] using h)

theorem safe_of_loc {c : Cfg} {s s' : State} (hs : Safe s) (hb : Bounded c s) (hn : s'.now = s.now)
    (hl : s'.lease = s.lease) (h : ∀ k, sending (s'.loc k) = true → sending (s.loc k) = true) :
    Safe s' ∧ Bounded c s' := by
  refine ⟨fun k hk => ?_, fun k hk => ?_⟩
  · have := hs k (h k hk)
    unfold holdsUntil at this ⊢
    rwa [hl, hn]
  · cases hsk : sending (s'.loc k) with
    | false => rfl
    | true => have := h k hsk; rw [hb k hk] at this; cases this

theorem safe_of_lease {c : Cfg} (httl : 0 < c.ttl) {s s' : State} {i : Nat} (hn : s'.now = s.now)
    (hl : s'.lease = some (i, s.now + c.ttl)) (h : ∀ k, sending (s'.loc k) = true → k = i)
    (hi : c.n ≤ i → sending (s'.loc i) = false) : Safe s' ∧ Bounded c s' := by
  refine ⟨fun k hk => ?_, fun k hk => ?_⟩
  · cases h k hk
    simp [holdsUntil, hl, hn, httl]
  · cases hsk : sending (s'.loc k) with
    | false => rfl
    | true => cases h k hsk; rw [hi hk] at hsk; cases hsk

theorem step_safe (c : Cfg) (httl : 0 < c.ttl) (s : State) (ev : Ev) (hb : Bounded c s) (hw : ev.within c)
    (hs : Safe s) : Safe (step c true s ev) ∧ Bounded c (step c true s ev) := by
  revert hw
  apply step_cases c true s (motive := fun ev s' => ev.within c → Safe s' ∧ Bounded c s')
  case same => intros; exact ⟨hs, hb⟩
  case tick =>
    intro d ht _
    refine ⟨fun i hi => ?_, hb⟩
    by_cases hin : i < c.n
    · exact timely_spec c s d (ht rfl) i hin hi
    · rw [hb i (by omega)] at hi; cases hi
  case move =>
    intro ev i p _ hp _ _ _
    exact safe_of_loc hs hb rfl rfl (sending_upd hp)
  case acquire =>
    intro ev i p _ _ hfree hp _ _ hw
    refine safe_of_lease httl rfl rfl (fun k hk => ?_) (fun hi => ?_)
    · -- another sender would hold the key
      by_cases hki : k = i
      · exact hki
      · have hk' : sending (s.loc k) = true := by rwa [show _ = s.loc k from set_other s p hki] at hk
        rw [heldByOther_of_holds (hs k hk') hki] at hfree; cases hfree
    · cases hsi : sending (({ s.set i p with lease := some (i, s.now + c.ttl) } : State).loc i) with
      | false => rfl
      | true =>
        have := hp (by simpa [State.set] using hsi)
        subst this
        exact absurd hw (by simp [Ev.within]; omega)
  case relet =>
    intro ev i h _
    refine safe_of_lease httl rfl rfl (fun k hk => ?_) (hb i)
    rcases h with h | ⟨_, hfree⟩
    · obtain ⟨e, hl, _⟩ := (holdsUntil_iff s i s.now).mp h
      obtain ⟨e', hl', _⟩ := (holdsUntil_iff s k s.now).mp (hs k hk)
      rw [hl] at hl'; cases hl'; rfl
    · by_cases hki : k = i
      · exact hki
      · rw [heldByOther_of_holds (hs k hk) hki] at hfree; cases hfree
  case offer =>
    intro i j hij hpi _ _
    exact safe_of_loc hs hb rfl rfl fun k hk =>
      sending_upd (fun _ => by simp [sending, hpi]) k (sending_upd (fun h => by simp [sending] at h) k hk)
  case ended =>
    intro ev i p _ hp _ _
    exact safe_of_loc hs hb rfl rfl (sending_upd fun h => by rw [hp] at h; cases h)
  case released =>
    intro i ok w hp hown _
    -- a sender would hold the key, which is the resigning instance's
    have hnone : ∀ k, sending ((s.set i (.cand (s.now + pauseResign c w ok))).loc k) = false := by
      intro k
      by_cases hki : k = i
      · subst hki; simp [State.set, sending]
      · rw [set_other s _ hki]
        cases hk : sending (s.loc k) with
        | false => rfl
        | true =>
          obtain ⟨e, hl, _⟩ := (holdsUntil_iff s k s.now).mp (hs k hk)
          simp only [ownsLease, hl, beq_iff_eq] at hown
          exact absurd hown hki
    exact ⟨fun k hk => absurd hk (by rw [show sending _ = false from hnone k]; simp), fun k _ => hnone k⟩
  case fsync =>
    intro j v _ _
    exact safe_of_loc hs hb rfl rfl (sending_upd fun h => h)

theorem run_safe (c : Cfg) (httl : 0 < c.ttl) (evs : List Ev) (s : State) (hb : Bounded c s)
    (hw : ∀ ev ∈ evs, ev.within c) (hs : Safe s) :
    Safe (run c true s evs) ∧ Bounded c (run c true s evs) :=
  run_inv c true (fun s => Safe s ∧ Bounded c s) evs
    (fun s ev he h => step_safe c httl s ev h.2 (hw ev he) h.1) s ⟨hs, hb⟩

/-- the key never lives longer than one TTL from now -/
def LeaseFresh (c : Cfg) (s : State) : Prop := ∀ h e, s.lease = some (h, e) → e ≤ s.now + c.ttl

theorem step_fresh (c : Cfg) (g : Bool) (s : State) (ev : Ev) (hf : LeaseFresh c s) :
    LeaseFresh c (step c g s ev) := by
  have keep : ∀ s' : State, s'.lease = s.lease → s.now ≤ s'.now → LeaseFresh c s' := by
    intro s' hl hn h e he
    rw [hl] at he
    have := hf h e he
    omega
  have fresh : ∀ (s' : State) (i : Nat), s'.lease = some (i, s'.now + c.ttl) → LeaseFresh c s' := by
    intro s' i hl h e he
    rw [hl] at he; cases he; exact Nat.le_refl _
  apply step_cases c g s (motive := fun _ s' => LeaseFresh c s')
  case acquire | relet => intros; exact fresh _ _ rfl
  case released => intro _ _ _ _ _ h e he; cases he
  all_goals intros; exact keep _ rfl (by simp)

theorem run_fresh (c : Cfg) (g : Bool) (evs : List Ev) (s : State) (hf : LeaseFresh c s) :
    LeaseFresh c (run c g s evs) :=
  run_inv c g (LeaseFresh c) evs (fun s ev _ => step_fresh c g s ev) s hf

/-- only follower sessions (and, for a memory channel, the end of a syncer) change a cache -/
theorem step_cache (c : Cfg) (g : Bool) (s : State) (ev : Ev) (j : Nat) (hd : (s.loc j).disk = true)
    (hev : ∀ v, ev ≠ .fsync j v) :
    ((step c g s ev).loc j).cache = (s.loc j).cache ∧ ((step c g s ev).loc j).disk = true := by
  revert hev
  apply step_cases c g s (motive := fun ev s' => (∀ v, ev ≠ .fsync j v) →
    (s'.loc j).cache = (s.loc j).cache ∧ (s'.loc j).disk = true)
  case ended =>
    intro ev i p _ _ _ _
    by_cases hji : j = i
    · subst hji; simp [endSyncer, hd]
    · simp only; rw [upd_other _ _ hji]; exact ⟨rfl, hd⟩
  case fsync =>
    intro k v _ hev
    have hjk : j ≠ k := fun e => hev v (e ▸ rfl)
    simp only; rw [upd_other _ _ hjk]; exact ⟨rfl, hd⟩
  all_goals intros; simp [hd]

theorem run_cache (c : Cfg) (g : Bool) (evs : List Ev) (s : State) (j : Nat) (hd : (s.loc j).disk = true)
    (hev : ∀ ev ∈ evs, ∀ v, ev ≠ .fsync j v) :
    ((run c g s evs).loc j).cache = (s.loc j).cache :=
  (run_inv c g (fun s' => (s'.loc j).cache = (s.loc j).cache ∧ (s'.loc j).disk = true) evs
    (fun s' ev he h => by
      have h1 := step_cache c g s' ev j h.2 (hev ev he)
      exact ⟨h1.1.trans h.1, h1.2⟩) s ⟨rfl, hd⟩).1

theorem timely_of_silent (c : Cfg) (s : State) (d : Nat) (h : ∀ k, sending (s.loc k) = false) :
    timely c s d = true := by
  unfold timely
  rw [List.all_eq_true]
  intro k _
  simp [h k]

/-! ### an instance that stays away from the election until an expiry has passed -/

/-- `E` (an expiry) has passed, or `i` is a candidate that will not campaign before `E`, or dead -/
def Quiet (E i : Nat) (s : State) : Prop :=
  E ≤ s.now ∨ (∃ w, (s.loc i).phase = .cand w ∧ E ≤ w) ∨ (s.loc i).phase = .dead

theorem Quiet.not_sending_before {E i : Nat} {s : State} (h : Quiet E i s) (hs : sending (s.loc i) = true) :
    E ≤ s.now := by
  rcases h with h | ⟨w, hp, _⟩ | hp
  · exact h
  · simp [sending, hp] at hs
  · simp [sending, hp] at hs

theorem step_quiet (c : Cfg) (g : Bool) (s : State) (ev : Ev) (E i : Nat) (hq : Quiet E i s)
    (hev : ev ≠ .restart i) : Quiet E i (step c g s ev) := by
  rcases hq with h | hq
  · exact Or.inl (Nat.le_trans h (step_now_le c g s ev))
  -- `i` is a waiting candidate or dead: an event either leaves it so, or is its campaign after the wait
  have hph : (∃ w, (s.loc i).phase = .cand w) ∨ (s.loc i).phase = .dead :=
    hq.imp (fun ⟨w, h, _⟩ => ⟨w, h⟩) id
  have other : ∀ s' : State, s'.loc i = s.loc i → Quiet E i s' := fun s' h => by
    unfold Quiet; rw [h]; exact Or.inr hq
  revert hev
  apply step_cases c g s (motive := fun ev s' => ev ≠ .restart i → Quiet E i s')
  case same | tick | relet => intros; exact other _ rfl
  case move =>
    intro ev k p _ _ hc hd hev
    by_cases hik : i = k
    · subst hik
      rcases hq with ⟨w, hp, hE⟩ | hp
      · exact Or.inl (Nat.le_trans hE (hc w hp))
      · exact absurd (hd hp) hev
    · exact other _ (set_other s p hik)
  case acquire =>
    intro ev k p _ _ _ _ hc hd _
    by_cases hik : i = k
    · subst hik
      rcases hq with ⟨w, hp, hE⟩ | hp
      · exact Or.inl (Nat.le_trans hE (hc w hp))
      · exact absurd hp hd
    · exact other _ (set_other s p hik)
  case offer =>
    intro a b _ ha hb _
    have hia : i ≠ a := fun e => by subst e; simp [ha] at hph
    have hib : i ≠ b := fun e => by subst e; simp [hb] at hph
    exact other _ (by rw [set_other _ _ hib, set_other _ _ hia])
  case ended =>
    intro ev k p _ _ hp _
    by_cases hik : i = k
    · subst hik; exact Or.inr (Or.inr (by simp [endSyncer, hp hph]))
    · exact other _ (upd_other _ _ hik)
  case released =>
    intro k ok w hp _ _
    exact other _ (set_other s _ (fun e => by subst e; simp [hp] at hph))
  case fsync =>
    intro k v hp _
    exact other _ (upd_other _ _ (fun e => by subst e; simp [hp] at hph))

theorem run_quiet (c : Cfg) (g : Bool) (evs : List Ev) (s : State) (E i : Nat) (hq : Quiet E i s)
    (hev : ∀ ev ∈ evs, ev ≠ .restart i) : Quiet E i (run c g s evs) :=
  run_inv c g (Quiet E i) evs (fun s ev he h => step_quiet c g s ev E i h (hev ev he)) s hq

end GunYu.Handover
