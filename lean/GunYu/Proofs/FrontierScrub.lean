/-
  What no start can read does not matter. `scrub` (Model/FrontierRenumber.lean) removes journal
  records of a foreign run id or without an index member, and a snapshot of a foreign run id; a start
  reads the same from the scrubbed namespace, every request keeps two namespaces that agree after
  scrubbing in agreement, hence so does every step of the split-queue system. Core only.
-/
import GunYu.Model.FrontierRenumber
import GunYu.Proofs.FrontierTraffic

namespace GunYu.Frontier
open GunYu

theorem find?_filter_some {α : Type} (P q : α → Bool) :
    ∀ (l : List α) (a : α), l.find? P = some a → q a = true → (l.filter q).find? P = some a := by
  intro l
  induction l with
  | nil => intro a h; simp at h
  | cons x l ih =>
    intro a h hq
    by_cases hx : P x = true
    · simp only [List.find?_cons, hx] at h
      simp only [Option.some.injEq] at h
      subst h
      simp only [List.filter_cons, hq, if_true, List.find?_cons, hx]
    · have hx' : P x = false := by simpa using hx
      simp only [List.find?_cons, hx'] at h
      by_cases hqx : q x = true
      · simp only [List.filter_cons, hqx, if_true, List.find?_cons, hx']
        exact ih a h hq
      · have hqx' : q x = false := by simpa using hqx
        simp only [List.filter_cons, hqx', Bool.false_eq_true, if_false]
        exact ih a h hq

theorem find?_filter_none {α : Type} (P q : α → Bool) (l : List α) (h : l.find? P = none) :
    (l.filter q).find? P = none := by
  rw [List.find?_eq_none] at h ⊢
  intro x hx
  exact h x (List.mem_filter.mp hx).1

theorem filterMap_congr' {α β : Type} (f g : α → Option β) :
    ∀ (l : List α), (∀ x ∈ l, f x = g x) → l.filterMap f = l.filterMap g := by
  intro l
  induction l with
  | nil => intro _; rfl
  | cons x l ih =>
    intro h
    simp only [List.filterMap_cons]
    rw [h x (List.mem_cons_self ..), ih (fun y hy => h y (List.mem_cons_of_mem _ hy))]

theorem filter_idem {α : Type} (p : α → Bool) (l : List α) : (l.filter p).filter p = l.filter p := by
  rw [List.filter_filter]; simp only [Bool.and_self]

/-! ### every journal hash is THE hash with its key -/

def UniqueL (J : List JRec) : Prop := ∀ j ∈ J, J.find? (fun x => x.kseq = j.kseq) = some j

theorem uniqueL_filter {J : List JRec} (q : JRec → Bool) (h : UniqueL J) : UniqueL (J.filter q) := by
  intro j hj
  obtain ⟨hm, hq⟩ := List.mem_filter.mp hj
  exact find?_filter_some _ q J j (h j hm) hq

theorem uniqueL_commit {J : List JRec} (k : Int) (r : Rec) (h : UniqueL J) :
    UniqueL (J.filter (fun j => decide (j.kseq ≠ k)) ++ [⟨k, r⟩]) := by
  intro j hj
  rw [List.find?_append]
  rcases List.mem_append.mp hj with hj | hj
  · rw [uniqueL_filter _ h j hj]; rfl
  · have hjk : j = ⟨k, r⟩ := by simpa using hj
    subst hjk
    have : (J.filter (fun j => decide (j.kseq ≠ k))).find? (fun x => decide (x.kseq = k)) = none := by
      rw [List.find?_eq_none]
      intro x hx
      have := (List.mem_filter.mp hx).2
      simpa using this
    simp only
    rw [this]
    simp

theorem uniqueL_eq {J : List JRec} (h : UniqueL J) {a b : JRec} (ha : a ∈ J) (hb : b ∈ J)
    (hk : a.kseq = b.kseq) : a = b := by
  have h1 := h a ha
  have h2 := h b hb
  rw [hk] at h1
  rw [h1] at h2
  exact Option.some.inj h2

theorem uniqueKeys_applyReq {ns : NS} (h : UniqueKeys ns) (q : Req) : UniqueKeys (applyReq ns q) := by
  cases q with
  | saveFrontier f => exact h
  | delRec k => exact uniqueL_filter _ h
  | zrem ks => exact h
  | delFrontier => exact h
  | commit r => exact uniqueL_commit r.seq r h
  | commitLatest r => exact h

theorem uniqueKeys_scrub {ns : NS} (ids : List Bytes) (h : UniqueKeys ns) : UniqueKeys (scrub ids ns) :=
  uniqueL_filter _ h

theorem loadSnapshot_scrub (ids : List Bytes) (ns : NS) : loadSnapshot (scrub ids ns) ids = loadSnapshot ns ids := by
  unfold loadSnapshot scrub scrubF
  cases hf : ns.frontier with
  | none => rfl
  | some f =>
    simp only
    cases hm : matchRun f.runId ids with
    | true => simp [hm]
    | false => simp

theorem scrub_index (ids : List Bytes) (ns : NS) : (scrub ids ns).index = ns.index := rfl
theorem scrub_root (ids : List Bytes) (ns : NS) : (scrub ids ns).root = ns.root := rfl

theorem loadRecords_scrub (ids : List Bytes) {ns : NS} (hu : UniqueKeys ns) (m : Int) :
    loadRecords (scrub ids ns) ids m = loadRecords ns ids m := by
  unfold loadRecords
  rw [scrub_index]
  apply filterMap_congr'
  intro p hp
  have hpi : p ∈ ns.index := (List.mem_filter.mp ((mem_idxSort p _).mp hp)).1
  show (match (ns.journal.filter (readable ids ns.index)).find? (fun j => decide (j.kseq = p.2)) with
      | none => none
      | some j => if matchRun j.r.runId ids = true then some j else none) = _
  cases hf : ns.journal.find? (fun j => decide (j.kseq = p.2)) with
  | none => rw [find?_filter_none _ _ _ hf]
  | some j =>
    have hjk : j.kseq = p.2 := by simpa using List.find?_some hf
    have hjm : j ∈ ns.journal := List.mem_of_find?_eq_some hf
    cases hm : matchRun j.r.runId ids with
    | true =>
      have hr : readable ids ns.index j = true := by
        unfold readable
        rw [hm]
        simp only [Bool.true_and, List.any_eq_true]
        exact ⟨p, hpi, by simpa using hjk.symm⟩
      rw [find?_filter_some _ _ _ j hf hr]
    | false =>
      -- the only record with this key is not readable: the scrubbed journal has none
      have hnone : (ns.journal.filter (readable ids ns.index)).find? (fun j => decide (j.kseq = p.2)) = none := by
        rw [List.find?_eq_none]
        intro x hx
        obtain ⟨hxm, hxr⟩ := List.mem_filter.mp hx
        intro hxk
        have hxk' : x.kseq = p.2 := by simpa using hxk
        have : x = j := uniqueL_eq hu hxm hjm (by rw [hxk', hjk])
        subst this
        unfold readable at hxr
        rw [hm] at hxr
        simp at hxr
      rw [hnone]
      simp [hm]

theorem startRecords_scrub (ids : List Bytes) {ns : NS} (hu : UniqueKeys ns) :
    startRecords (scrub ids ns) ids = startRecords ns ids := by
  unfold startRecords
  rw [loadSnapshot_scrub, loadRecords_scrub ids hu]

theorem purgeReqs_scrub (ids : List Bytes) {ns : NS} (hu : UniqueKeys ns) :
    purgeReqs (scrub ids ns) ids = purgeReqs ns ids := by
  unfold purgeReqs
  rw [loadRecords_scrub ids hu]

theorem startFrontier_scrub (ver : Bytes) (ids : List Bytes) {ns : NS} (hu : UniqueKeys ns) :
    startFrontier ver (scrub ids ns) ids = startFrontier ver ns ids := by
  unfold startFrontier restartFromRoot
  rw [scrub_root, loadSnapshot_scrub, startRecords_scrub ids hu, purgeReqs_scrub ids hu]

theorem scrubF_idem (ids : List Bytes) (o : Option Snap) : scrubF ids (scrubF ids o) = scrubF ids o := by
  cases o with
  | none => rfl
  | some f =>
    unfold scrubF
    cases hm : matchRun f.runId ids with
    | true => simp [hm]
    | false => simp [hm]

theorem scrub_eq (ids : List Bytes) (a b : NS) (hr : a.root = b.root)
    (hf : scrubF ids a.frontier = scrubF ids b.frontier)
    (hj : a.journal.filter (readable ids a.index) = b.journal.filter (readable ids b.index))
    (hi : a.index = b.index) (hl : a.latest = b.latest) : scrub ids a = scrub ids b := by
  unfold scrub
  rw [hr, hf, hj, hi, hl]

theorem scrub_idem (ids : List Bytes) (ns : NS) : scrub ids (scrub ids ns) = scrub ids ns :=
  scrub_eq ids _ _ rfl (scrubF_idem ids ns.frontier) (filter_idem _ _) rfl rfl

theorem readable_sub (ids : List Bytes) (ix ix' : List (Int × Int)) (j : JRec)
    (h : ∀ p ∈ ix', p ∈ ix) (hr : readable ids ix' j = true) : readable ids ix j = true := by
  unfold readable at hr ⊢
  simp only [Bool.and_eq_true, List.any_eq_true] at hr ⊢
  obtain ⟨a, p, hp, hk⟩ := hr
  exact ⟨a, p, h p hp, hk⟩

theorem scrub_applyReq (ids : List Bytes) (ns : NS) (q : Req) :
    scrub ids (applyReq ns q) = scrub ids (applyReq (scrub ids ns) q) := by
  have hjj := filter_idem (readable ids ns.index) ns.journal
  cases q with
  | saveFrontier f => exact scrub_eq ids _ _ rfl rfl hjj.symm rfl rfl
  | delFrontier => exact scrub_eq ids _ _ rfl rfl hjj.symm rfl rfl
  | commitLatest r => exact scrub_eq ids _ _ rfl (scrubF_idem ids ns.frontier).symm hjj.symm rfl rfl
  | delRec k =>
    refine scrub_eq ids _ _ rfl (scrubF_idem ids ns.frontier).symm ?_ rfl rfl
    · show (ns.journal.filter (fun j => decide (j.kseq ≠ k))).filter (readable ids ns.index) =
        ((ns.journal.filter (readable ids ns.index)).filter (fun j => decide (j.kseq ≠ k))).filter (readable ids ns.index)
      rw [List.filter_filter, List.filter_filter, List.filter_filter]
      apply List.filter_congr
      intro x _
      cases readable ids ns.index x <;> cases decide (x.kseq ≠ k) <;> rfl
  | zrem ks =>
    refine scrub_eq ids _ _ rfl (scrubF_idem ids ns.frontier).symm ?_ rfl rfl
    · have hix : (applyReq (scrub ids ns) (Req.zrem ks)).index = (applyReq ns (Req.zrem ks)).index := rfl
      have hjn : (applyReq ns (Req.zrem ks)).journal = ns.journal := rfl
      have hjs : (applyReq (scrub ids ns) (Req.zrem ks)).journal = ns.journal.filter (readable ids ns.index) := rfl
      have hsub : ∀ p ∈ (applyReq ns (Req.zrem ks)).index, p ∈ ns.index := by
        intro p hp
        simp only [applyReq] at hp
        exact (List.mem_filter.mp hp).1
      rw [hix, hjn, hjs, List.filter_filter]
      generalize (applyReq ns (Req.zrem ks)).index = ix' at hsub
      apply List.filter_congr
      intro x _
      cases h1 : readable ids ix' x with
      | false => rfl
      | true =>
        rw [readable_sub ids ns.index ix' x hsub h1]
        rfl
  | commit r =>
    -- for a key other than the unit's, readable before and after is the same
    have hrd : ∀ x : JRec, x.kseq ≠ r.seq →
        readable ids (ns.index.filter (fun p => decide (p.2 ≠ r.seq)) ++ [(r.seq, r.seq)]) x = readable ids ns.index x := by
      intro x hne
      unfold readable
      congr 1
      rw [Bool.eq_iff_iff]
      simp only [List.any_eq_true, List.mem_append, List.mem_filter, List.mem_singleton]
      constructor
      · rintro ⟨p, (⟨hp, _⟩ | hp), hpk⟩
        · exact ⟨p, hp, hpk⟩
        · rw [hp] at hpk
          simp only [beq_iff_eq] at hpk
          exact absurd hpk.symm hne
      · rintro ⟨p, hp, hpk⟩
        refine ⟨p, Or.inl ⟨hp, ?_⟩, hpk⟩
        simp only [beq_iff_eq] at hpk
        simp only [decide_eq_true_eq]
        rw [hpk]; exact hne
    refine scrub_eq ids _ _ rfl (scrubF_idem ids ns.frontier).symm ?_ rfl rfl
    · show (ns.journal.filter (fun j => decide (j.kseq ≠ r.seq)) ++ [(⟨r.seq, r⟩ : JRec)]).filter
          (readable ids (ns.index.filter (fun p => decide (p.2 ≠ r.seq)) ++ [(r.seq, r.seq)])) =
        ((ns.journal.filter (readable ids ns.index)).filter (fun j => decide (j.kseq ≠ r.seq)) ++ [(⟨r.seq, r⟩ : JRec)]).filter
          (readable ids (ns.index.filter (fun p => decide (p.2 ≠ r.seq)) ++ [(r.seq, r.seq)]))
      rw [List.filter_append, List.filter_append]
      congr 1
      rw [List.filter_filter, List.filter_filter, List.filter_filter]
      apply List.filter_congr
      intro x _
      cases hk : decide (x.kseq ≠ r.seq) with
      | false => simp
      | true =>
        have hne : x.kseq ≠ r.seq := by simpa using hk
        rw [hrd x hne]
        cases readable ids ns.index x <;> rfl

theorem scrubS_eq (ids : List Bytes) (a b : TSys) (hns : scrub ids a.ns = scrub ids b.ns)
    (hc : a.committed = b.committed) (hr : a.run = b.run) (hq : a.rq = b.rq) (hcq : a.cq = b.cq) :
    scrubS ids a = scrubS ids b := by
  unfold scrubS
  rw [hns, hc, hr, hq, hcq]

theorem scrubS_idem (ids : List Bytes) (s : TSys) : scrubS ids (scrubS ids s) = scrubS ids s :=
  scrubS_eq ids _ _ (scrub_idem ids s.ns) rfl rfl rfl rfl

theorem tstep_scrub (W : World) {s : TSys} (hu : UniqueKeys s.ns) (st : Step) :
    scrubS W.ids (tstep W s st) = scrubS W.ids (tstep W (scrubS W.ids s) st) := by
  have keep : ∀ (run : Option Run) (rq cq : List Req),
      scrubS W.ids { s with run := run, rq := rq, cq := cq } =
        scrubS W.ids { scrubS W.ids s with run := run, rq := rq, cq := cq } :=
    fun _ _ _ => scrubS_eq W.ids _ _ (scrub_idem W.ids s.ns).symm rfl rfl rfl rfl
  refine tstep_cases (W := W) (s := s) (t := scrubS W.ids s) rfl rfl rfl rfl (P := fun _ a b => scrubS W.ids a = scrubS W.ids b) st
    (scrubS_idem W.ids s).symm ?_
    (fun _ _ _ _ _ _ => scrubS_eq W.ids _ _ (scrub_applyReq W.ids s.ns _) rfl rfl rfl rfl)
    (fun _ _ _ _ _ _ _ _ => keep _ _ _) (fun _ _ _ _ => keep _ _ _)
    (fun _ _ _ => scrubS_eq W.ids _ _ (scrub_applyReq W.ids s.ns _) rfl rfl rfl rfl)
    (fun _ _ _ _ => scrubS_eq W.ids _ _ (scrub_applyReq W.ids s.ns _) rfl rfl rfl rfl) (keep _ _ _)
  -- a start reads the same from both
  intro _
  unfold tstartRun
  rw [show (scrubS W.ids s).ns = scrub W.ids s.ns from rfl, startFrontier_scrub W.ver W.ids hu]
  split
  · exact keep _ _ _
  · exact (scrubS_idem W.ids s).symm

theorem tstartRun_ns (W : World) (s : TSys) : (tstartRun W s).ns = s.ns := by
  unfold tstartRun; split <;> rfl

theorem tstep_uniqueKeys (W : World) {s : TSys} (hu : UniqueKeys s.ns) (st : Step) :
    UniqueKeys (tstep W s st).ns :=
  tstep_cases (t := s) rfl rfl rfl rfl (P := fun _ s' _ => UniqueKeys s'.ns) st hu
    (fun _ => by rw [tstartRun_ns]; exact hu)
    (fun _ _ _ _ _ _ => uniqueKeys_applyReq hu _) (fun _ _ _ _ _ _ _ _ => hu) (fun _ _ _ _ => hu)
    (fun _ _ _ => uniqueKeys_applyReq hu _) (fun _ _ _ _ => uniqueKeys_applyReq hu _) hu

/-- two states that agree after scrubbing -/
def Sim (ids : List Bytes) (s t : TSys) : Prop := scrubS ids s = scrubS ids t

theorem tstep_sim2 (W : World) {s t : TSys} (hs : UniqueKeys s.ns) (ht : UniqueKeys t.ns)
    (h : Sim W.ids s t) (st : Step) : Sim W.ids (tstep W s st) (tstep W t st) := by
  unfold Sim at h ⊢
  rw [tstep_scrub W hs st, tstep_scrub W ht st, h]

theorem trunSteps_sim (W : World) (steps : List Step) :
    ∀ {s t : TSys}, UniqueKeys s.ns → UniqueKeys t.ns → Sim W.ids s t →
      Sim W.ids (trunSteps W s steps) (trunSteps W t steps) ∧ UniqueKeys (trunSteps W s steps).ns := by
  induction steps with
  | nil => intro s t hs _ h; exact ⟨h, hs⟩
  | cons st rest ih =>
    intro s t hs ht h
    exact ih (tstep_uniqueKeys W hs st) (tstep_uniqueKeys W ht st) (tstep_sim2 W hs ht h st)

theorem sim_startSeqOf (W : World) {s t : TSys} (hs : UniqueKeys s.ns) (ht : UniqueKeys t.ns)
    (h : Sim W.ids s t) :
    startSeqOf W.ver s.ns W.ids = startSeqOf W.ver t.ns W.ids ∧
    startOffOf W.ver s.ns W.ids = startOffOf W.ver t.ns W.ids ∧ s.committed = t.committed := by
  have h' : scrubS W.ids s = scrubS W.ids t := h
  have hns : scrub W.ids s.ns = scrub W.ids t.ns := congrArg TSys.ns h'
  have e : startFrontier W.ver s.ns W.ids = startFrontier W.ver t.ns W.ids := by
    rw [← startFrontier_scrub W.ver W.ids hs, ← startFrontier_scrub W.ver W.ids ht, hns]
  exact ⟨by unfold startSeqOf; rw [e], by unfold startOffOf; rw [e],
    (congrArg TSys.committed h' : (scrubS W.ids s).committed = (scrubS W.ids t).committed)⟩

end GunYu.Frontier
