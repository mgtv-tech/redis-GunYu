/-
  C04 — the extended frame grammar (Model/RdbFrameX.lean): every reader is
  sequential and, once the float predicate decides, never "outside the model";
  the stateful item reader `itemS` is a good item reader in every state; the
  lemmas of the opcode loop for a STATEFUL reader (`bodyS`), of which the loop
  over a stateless reader (`bodyWith`) is the case of a trivial state.
-/
import GunYu.Proofs.RdbFrame
import GunYu.Model.RdbFrameX
import GunYu.Model.RdbFeed

namespace GunYu.RdbFrameX
open GunYu GunYu.RdbFrame

/-- `r` is sequential and — granted `P` — decides every input; `P` is what is asked of the float predicate (`floatX`) -/
def Fine (P : Prop) {α} (r : Rd α) : Prop := Seq r ∧ (P → NoUnsup r)

variable {P : Prop}

theorem fine_ret {α} (a : α) : Fine P (ret a) := ⟨ret_seq a, fun _ => nu_ret a⟩
theorem fine_fail {α} : Fine P (fail : Rd α) := ⟨fail_seq, fun _ => nu_fail⟩
theorem fine_u8 : Fine P u8 := ⟨u8_seq, fun _ => nu_u8⟩
theorem fine_takeN (n : Nat) : Fine P (takeN n) := ⟨takeN_seq n, fun _ => nu_takeN n⟩

theorem fine_andThen {α β} {r : Rd α} {k : α → Rd β} (hr : Fine P r) (hk : ∀ a, Fine P (k a)) : Fine P (andThen r k) :=
  ⟨andThen_seq hr.1 fun a => (hk a).1, fun h => nu_andThen (hr.2 h) fun a => (hk a).2 h⟩

theorem andThen_good {α β} {r : Rd α} {k : α → Rd β} (hr : Fine P r) (hc : Consumes r) (hk : ∀ a, Fine P (k a)) :
    Fine P (andThen r k) ∧ Consumes (andThen r k) :=
  ⟨fine_andThen hr hk, andThen_consumes hc fun a => (hk a).1⟩

theorem fine_repeatN {r : Rd Unit} (hr : Fine P r) : ∀ n, Fine P (repeatN n r)
  | 0 => fine_ret ()
  | n+1 => fine_andThen hr (fun _ => fine_repeatN hr n)

/-- what `measured` reports is the number of bytes consumed -/
theorem measured_count {α} {r : Rd α} {xs : Bytes} {a : α} {k : Nat} {rest : Bytes}
    (h : measured r xs = .ok (a, k) rest) : r xs = .ok a rest ∧ k = xs.length - rest.length := by
  unfold measured at h
  cases h1 : r xs with
  | err => rw [h1] at h; cases h
  | unsup => rw [h1] at h; cases h
  | ok b mid =>
    rw [h1] at h
    simp only [R.ok.injEq, Prod.mk.injEq] at h
    obtain ⟨⟨rfl, rfl⟩, rfl⟩ := h
    exact ⟨rfl, rfl⟩

theorem fine_measured {α} {r : Rd α} (hr : Fine P r) : Fine P (measured r) := by
  refine ⟨fun xs p rest h => ?_, fun hP xs => ?_⟩
  · obtain ⟨h1, hk⟩ := measured_count (a := p.1) (k := p.2) h
    obtain ⟨c, hc, hall, htr⟩ := hr.1 xs p.1 rest h1
    refine ⟨c, hc, fun ys => ?_, fun k hk => by simp only [measured, htr k hk]⟩
    simp only [measured, hall ys]
    rw [show p = (p.1, p.2) from rfl, hk, hc]
    simp [List.length_append]
  · unfold measured
    cases h : r xs with
    | ok a rest => nofun
    | err => nofun
    | unsup => exact absurd h (hr.2 hP xs)

theorem measured_consumes {α} {r : Rd α} (hr : Consumes r) : Consumes (measured r) :=
  fun xs p rest h => hr xs p.1 rest (measured_count (a := p.1) (k := p.2) h).1

theorem iter_seq {α} {stepR : Rd (Option α)} (hs : Seq stepR) : ∀ f, Seq (iter stepR f)
  | 0 => fail_seq
  | f+1 => by
    unfold iter
    refine andThen_seq hs (fun x => ?_)
    cases x with
    | some a => exact ret_seq a
    | none => exact iter_seq hs f

theorem iter_mono {α} {stepR : Rd (Option α)} : ∀ (f f' : Nat) (xs : Bytes) (a : α) (rest : Bytes),
    f ≤ f' → iter stepR f xs = .ok a rest → iter stepR f' xs = .ok a rest
  | 0, _, _, _, _, _, h => by simp [iter, fail] at h
  | f+1, 0, _, _, _, hle, _ => by omega
  | f+1, f'+1, xs, a, rest, hle, h => by
    unfold iter andThen at h ⊢
    cases h1 : stepR xs with
    | err => rw [h1] at h; cases h
    | unsup => rw [h1] at h; cases h
    | ok x mid =>
      rw [h1] at h
      cases x with
      | some b => exact h
      | none => exact iter_mono f f' mid a rest (by omega) h

/-- with a step that consumes, more fuel than input bytes is as good as any amount -/
theorem iter_fuel {α} {stepR : Rd (Option α)} (hc : Consumes stepR) : ∀ (f f' : Nat) (xs : Bytes),
    xs.length < f → xs.length < f' → iter stepR f xs = iter stepR f' xs
  | 0, _, _, h, _ => by omega
  | _+1, 0, _, _, h => by omega
  | f+1, f'+1, xs, h1, h2 => by
    unfold iter andThen
    cases hs : stepR xs with
    | err => rfl
    | unsup => rfl
    | ok x mid =>
      cases x with
      | some b => rfl
      | none =>
        have := hc xs none mid hs
        exact iter_fuel hc f f' mid (by omega) (by omega)

theorem iterLen_seq {α} {stepR : Rd (Option α)} (hs : Seq stepR) (hc : Consumes stepR) :
    Seq (fun xs => iter stepR (xs.length + 1) xs) := by
  intro xs a rest h
  obtain ⟨c, hx, hall, htr⟩ := iter_seq hs (xs.length + 1) xs a rest h
  refine ⟨c, hx, fun ys => ?_, fun k hk => ?_⟩
  · show iter stepR ((c ++ ys).length + 1) (c ++ ys) = .ok a ys
    by_cases hle : xs.length + 1 ≤ (c ++ ys).length + 1
    · exact iter_mono _ _ _ _ _ hle (hall ys)
    · rw [iter_fuel hc ((c ++ ys).length + 1) (xs.length + 1) (c ++ ys) (by omega) (by omega)]
      exact hall ys
  · show iter stepR ((c.take k).length + 1) (c.take k) = .err
    have hl : (c.take k).length ≤ k := by rw [List.length_take]; omega
    have hcx : c.length ≤ xs.length := by rw [hx]; simp
    rw [iter_fuel hc ((c.take k).length + 1) (xs.length + 1) (c.take k) (by omega) (by omega)]
    exact htr k hk

theorem nu_iter {α} {stepR : Rd (Option α)} (hs : NoUnsup stepR) : ∀ f, NoUnsup (iter stepR f)
  | 0 => nu_fail
  | f+1 => by
    unfold iter
    refine nu_andThen hs (fun x => ?_)
    cases x with
    | some a => exact nu_ret a
    | none => exact nu_iter hs f

theorem encLen_fine : Fine P encLen := by
  refine ⟨encLen_seq, fun _ => ?_⟩
  unfold encLen
  refine nu_andThen nu_u8 (fun u => ?_)
  refine ite_elim (nu_ret _) ?_
  refine ite_elim (nu_andThen nu_u8 (fun _ => nu_ret _)) ?_
  refine ite_elim (nu_ret _) ?_
  refine ite_elim (nu_andThen (nu_takeN 4) (fun _ => nu_ret _)) ?_
  exact ite_elim (nu_andThen (nu_takeN 8) (fun _ => nu_ret _)) nu_fail

theorem len_good : Fine P len ∧ Consumes len :=
  andThen_good encLen_fine encLen_good.2 (fun _ => ite_elim fine_fail (fine_ret _))

theorem len_fine : Fine P len := len_good.1

theorem len32_good : Fine P len32 ∧ Consumes len32 := andThen_good len_fine (len_good (P := P)).2 (fun _ => fine_ret _)

theorem len32_fine : Fine P len32 := len32_good.1

theorem skipBytes_fine (n : Nat) : Fine P (skipBytes n) := fine_andThen (fine_takeN n) (fun _ => fine_ret _)

theorem bytesN_fine (n : Nat) : Fine P (bytesN n) := by
  unfold bytesN; exact ite_elim (skipBytes_fine n) fine_fail

theorem strL_good : Fine P strL ∧ Consumes strL := by
  unfold strL
  refine andThen_good encLen_fine encLen_good.2 (fun p => ?_)
  refine ite_elim (fine_andThen (bytesN_fine _) (fun _ => fine_ret _)) ?_
  refine ite_elim (fine_andThen (skipBytes_fine _) (fun _ => fine_ret _)) ?_
  refine ite_elim (fine_andThen (skipBytes_fine _) (fun _ => fine_ret _)) ?_
  refine ite_elim (fine_andThen (skipBytes_fine _) (fun _ => fine_ret _)) ?_
  refine ite_elim ?_ fine_fail
  exact fine_andThen len32_fine (fun inlen => fine_andThen len32_fine (fun outlen => fine_andThen (fine_takeN _) (fun bs =>
    ite_elim (fine_ret _) fine_fail)))

theorem strL_fine : Fine P strL := strL_good.1

theorem strX_good : Fine P strX ∧ Consumes strX := andThen_good strL_fine (strL_good (P := P)).2 (fun _ => fine_ret _)

theorem strX_fine : Fine P strX := strX_good.1

theorem floatX_fine (cfg : Cfg) : Fine (∀ bs, cfg.floatOk bs ≠ .dunno) (floatX cfg) := by
  unfold floatX
  refine fine_andThen fine_u8 (fun u => ite_elim (fine_ret _) (fine_andThen (fine_takeN _) (fun bs => ?_)))
  cases hf : cfg.floatOk bs
  · exact fine_ret _
  · exact fine_fail
  · exact ⟨outside_seq, fun h => absurd hf (h bs)⟩

theorem modStep_good : Fine P modStep ∧ Consumes modStep := by
  unfold modStep
  refine andThen_good len32_fine (len32_good (P := P)).2 (fun op => ?_)
  refine ite_elim (fine_ret _) ?_
  refine ite_elim (fine_andThen len32_fine (fun _ => fine_ret _)) ?_
  refine ite_elim (fine_andThen strX_fine (fun _ => fine_ret _)) ?_
  refine ite_elim (fine_andThen (skipBytes_fine _) (fun _ => fine_ret _)) ?_
  exact ite_elim (fine_andThen (skipBytes_fine _) (fun _ => fine_ret _)) (fine_ret _)

theorem moduleVals_fine : Fine P moduleVals :=
  ⟨iterLen_seq (modStep_good (P := P)).1.1 (modStep_good (P := P)).2, fun h xs => nu_iter (modStep_good.1.2 h) _ xs⟩

/-- `rdbLoadCheckModuleValue` never runs out of the fuel it is given: more fuel changes nothing -/
theorem moduleVals_fuel (xs : Bytes) (f : Nat) (h : xs.length < f) : iter modStep f xs = moduleVals xs :=
  iter_fuel (modStep_good (P := True)).2 f (xs.length + 1) xs h (by omega)

theorem lens_fine (k : Nat) : Fine P (lens k) := fine_repeatN (fine_andThen len_fine (fun _ => fine_ret _)) k

theorem streamNode_fine : Fine P streamNode := by
  unfold streamNode
  exact fine_andThen strL_fine (fun l => ite_elim strX_fine fine_fail)

theorem streamConsumer_fine (t : Nat) : Fine P (streamConsumer t) := by
  unfold streamConsumer
  exact fine_andThen strX_fine (fun _ => fine_andThen (skipBytes_fine _) (fun _ =>
    fine_andThen (ite_elim (skipBytes_fine _) (fine_ret _)) (fun _ =>
      fine_andThen len_fine (fun np => fine_repeatN (skipBytes_fine _) _))))

theorem streamGroup_fine (t : Nat) : Fine P (streamGroup t) := by
  unfold streamGroup
  exact fine_andThen strX_fine (fun _ => fine_andThen (lens_fine _) (fun _ =>
    fine_andThen (ite_elim (lens_fine _) (fine_ret _)) (fun _ =>
      fine_andThen len_fine (fun np =>
        fine_andThen (fine_repeatN (fine_andThen (skipBytes_fine _) (fun _ => fine_andThen (skipBytes_fine _) (fun _ => lens_fine _))) _) (fun _ =>
          fine_andThen len32_fine (fun nc => fine_repeatN (streamConsumer_fine t) _))))))

theorem streamIDMP_fine : Fine P streamIDMP := by
  unfold streamIDMP
  exact fine_andThen (lens_fine _) (fun _ => fine_andThen len_fine (fun npr =>
    fine_andThen (fine_repeatN (fine_andThen strX_fine (fun _ => fine_andThen len_fine (fun ne =>
      fine_repeatN (fine_andThen strX_fine (fun _ => lens_fine _)) _))) _) (fun _ => lens_fine _)))

theorem streamX_fine (t : Nat) : Fine P (streamX t) := by
  unfold streamX
  exact fine_andThen len_fine (fun nlp => fine_andThen (fine_repeatN streamNode_fine _) (fun _ =>
    fine_andThen (lens_fine _) (fun _ => fine_andThen (ite_elim (lens_fine _) (fine_ret _)) (fun _ =>
      fine_andThen len_fine (fun ng => fine_andThen (fine_repeatN (streamGroup_fine t) _) (fun _ =>
        ite_elim streamIDMP_fine (fine_ret _)))))))

theorem valueBodyX_fine (cfg : Cfg) (t : Nat) : Fine (∀ bs, cfg.floatOk bs ≠ .dunno) (valueBodyX cfg t) := by
  unfold valueBodyX
  refine ite_elim strX_fine ?_
  refine ite_elim (fine_andThen len32_fine (fun n => fine_repeatN strX_fine n)) ?_
  refine ite_elim (fine_andThen len32_fine (fun n => fine_repeatN (fine_andThen len_fine (fun _ => strX_fine)) n)) ?_
  refine ite_elim (fine_andThen len32_fine (fun n => fine_repeatN (fine_andThen strX_fine (fun _ => floatX_fine cfg)) n)) ?_
  refine ite_elim (fine_andThen len32_fine (fun n => fine_repeatN (fine_andThen strX_fine (fun _ => skipBytes_fine 8)) n)) ?_
  refine ite_elim fine_fail ?_
  refine ite_elim (fine_andThen len_fine (fun _ => moduleVals_fine)) ?_
  exact ite_elim (streamX_fine t) fine_fail

theorem itemOfX_fine (cfg : Cfg) (t : Nat) : Fine (∀ bs, cfg.floatOk bs ≠ .dunno) (itemOfX cfg t) := by
  unfold itemOfX
  refine ite_elim (fine_ret _) ?_
  refine ite_elim (fine_andThen len_fine (fun _ => fine_ret _)) ?_
  refine ite_elim (fine_andThen len_fine (fun _ => fine_andThen len_fine (fun _ => fine_ret _))) ?_
  refine ite_elim (fine_andThen (fine_takeN 8) (fun _ => fine_ret _)) ?_
  refine ite_elim (fine_andThen (fine_takeN 4) (fun _ => fine_ret _)) ?_
  refine ite_elim (fine_andThen (fine_takeN 1) (fun _ => fine_ret _)) ?_
  refine ite_elim (fine_andThen len_fine (fun _ => fine_andThen len_fine (fun _ => fine_andThen len_fine (fun _ => fine_ret _)))) ?_
  refine ite_elim (fine_andThen strX_fine (fun _ => fine_andThen strX_fine (fun _ => fine_ret _))) ?_
  refine ite_elim (fine_andThen strX_fine (fun _ => fine_ret _)) ?_
  refine ite_elim (fine_andThen len_fine (fun _ => fine_andThen moduleVals_fine (fun _ => ite_elim fine_fail (fine_ret _)))) ?_
  exact ite_elim (fine_andThen strX_fine (fun _ => fine_andThen (valueBodyX_fine cfg t) (fun _ => fine_ret _))) fine_fail

theorem hashChunk_succ_good (cfg : Cfg) (n used : Nat) (ih : ∀ used, Fine P (hashChunk cfg n used)) :
    Fine P (hashChunk cfg (n + 1) used) ∧ Consumes (hashChunk cfg (n + 1) used) := by
  unfold hashChunk
  refine andThen_good (fine_measured (fine_andThen strX_fine (fun _ => strX_fine)))
    (measured_consumes (andThen_consumes (strX_good (P := P)).2 (fun _ => (strX_fine (P := P)).1))) (fun p => ite_elim ?_ (ih _))
  cases n <;> exact fine_ret _

theorem hashChunk_fine (cfg : Cfg) : ∀ (n used : Nat), Fine P (hashChunk cfg n used)
  | 0, _ => fine_ret _
  | n+1, used => (hashChunk_succ_good cfg n used (hashChunk_fine cfg n)).1

theorem itemS_none_good (cfg : Cfg) :
    Fine (∀ bs, cfg.floatOk bs ≠ .dunno) (itemS cfg none) ∧ Consumes (itemS cfg none) := by
  unfold itemS
  refine andThen_good fine_u8 u8_consumes (fun op => ite_elim ?_ (fine_andThen (itemOfX_fine cfg _) (fun _ => fine_ret _)))
  exact fine_andThen strX_fine (fun _ => fine_andThen (fine_measured len32_fine) (fun p => hashChunk_fine cfg _ _))

theorem hashChunk_neverEof (cfg : Cfg) : ∀ (n used : Nat), Never (·.1 = Item.eofOp) (hashChunk cfg n used)
  | 0, _ => never_ret nofun
  | n+1, used => by
    unfold hashChunk
    refine never_andThen (fun p => ite_elim ?_ (hashChunk_neverEof cfg n _))
    cases n <;> exact never_ret nofun

theorem itemOfX_neverEof (cfg : Cfg) (t : Nat) (ht : t ≠ 0xFF) : Never (· = Item.eofOp) (itemOfX cfg t) := by
  have other : Never (· = Item.eofOp) (ret Item.other) := never_ret nofun
  have entry : Never (· = Item.eofOp) (ret Item.entry) := never_ret nofun
  unfold itemOfX
  rw [if_neg ht]
  refine ite_elim (never_andThen (fun _ => other)) ?_
  refine ite_elim (never_andThen (fun _ => never_andThen (fun _ => other))) ?_
  refine ite_elim (never_andThen (fun _ => other)) ?_
  refine ite_elim (never_andThen (fun _ => other)) ?_
  refine ite_elim (never_andThen (fun _ => other)) ?_
  refine ite_elim (never_andThen (fun _ => never_andThen (fun _ => never_andThen (fun _ => other)))) ?_
  refine ite_elim (never_andThen (fun _ => never_andThen (fun _ => entry))) ?_
  refine ite_elim (never_andThen (fun _ => entry)) ?_
  refine ite_elim (never_andThen (fun _ => never_andThen (fun _ => ite_elim never_fail other))) ?_
  exact ite_elim (never_andThen (fun _ => never_andThen (fun _ => entry))) never_fail

theorem itemS_eofOp (cfg : Cfg) : ∀ (s : HSt) (xs : Bytes) (s' : HSt) (rest : Bytes),
    itemS cfg s xs = .ok (Item.eofOp, s') rest → xs = 0xFF :: rest
  | some m, xs, s', rest, h => absurd rfl (hashChunk_neverEof cfg (m + 1) 0 xs _ rest h)
  | none, xs, s', rest, h => by
    obtain ⟨op, t, rfl, hk⟩ := u8_andThen_ok h
    split at hk
    · exact absurd rfl (never_andThen (fun _ => never_andThen (fun _ => hashChunk_neverEof cfg _ _)) t _ rest hk)
    · obtain ⟨a, mid, h1, h2⟩ := andThen_ok hk
      simp only [ret, R.ok.injEq, Prod.mk.injEq] at h2
      obtain ⟨⟨rfl, _⟩, rfl⟩ := h2
      by_cases hb : op.toNat = 0xFF
      · simp only [itemOfX, hb, if_true, ret, R.ok.injEq, true_and] at h1
        rw [show op = 0xFF from UInt8.toNat_inj.mp hb, h1]
      · exact absurd rfl (itemOfX_neverEof cfg op.toNat hb t _ mid h1)

structure GoodItemS {σ} (it : σ → Rd (Item × σ)) : Prop where
  seq : ∀ s, Seq (it s)
  consumes : ∀ s, Consumes (it s)
  eof : ∀ s xs s' rest, it s xs = .ok (Item.eofOp, s') rest → xs = 0xFF :: rest

theorem itemS_good (cfg : Cfg) : GoodItemS (itemS cfg) where
  seq
    | none => (itemS_none_good cfg).1.1
    | some m => (hashChunk_fine (P := True) cfg (m + 1) 0).1
  consumes
    | none => (itemS_none_good cfg).2
    | some m => (hashChunk_succ_good (P := True) cfg m 0 (hashChunk_fine cfg m)).2
  eof := itemS_eofOp cfg

theorem bodyS_fuel {σ} (it : σ → Rd (Item × σ)) (g : GoodItemS it) :
    ∀ (fuel : Nat) (all xs : Bytes) (s : σ) (cnt : Nat), xs.length < fuel → bodyS it fuel all xs s cnt ≠ .fuelOut
  | 0, _, _, _, _, h => by omega
  | fuel+1, all, xs, s, cnt, h => by
    unfold bodyS
    split
    · rcases footer_done_or_err all ‹_› cnt with h | h <;> rw [h] <;> nofun
    · next s' rest hi => exact bodyS_fuel it g fuel all rest s' _ (by have := g.consumes s xs _ rest hi; omega)
    · next s' rest hi => exact bodyS_fuel it g fuel all rest s' _ (by have := g.consumes s xs _ rest hi; omega)
    · nofun
    · nofun

theorem bodyS_done {σ} (it : σ → Rd (Item × σ)) (g : GoodItemS it) :
    ∀ (fuel : Nat) (pre xs : Bytes) (s : σ) (cnt n : Nat),
      bodyS it fuel (pre ++ xs) xs s cnt = .done n → EndsWithFooter (pre ++ xs)
  | 0, _, _, _, _, _, h => by simp [bodyS] at h
  | fuel+1, pre, xs, s, cnt, n, h => by
    unfold bodyS at h
    split at h
    · next s' rest hi =>
      rw [g.eof _ _ _ _ hi] at h ⊢
      exact footer_done_ends h
    · next s' rest hi =>
      obtain ⟨c, rfl, _, _⟩ := g.seq s xs _ rest hi
      rw [← List.append_assoc] at h ⊢
      exact bodyS_done it g fuel (pre ++ c) rest s' _ n h
    · next s' rest hi =>
      obtain ⟨c, rfl, _, _⟩ := g.seq s xs _ rest hi
      rw [← List.append_assoc] at h ⊢
      exact bodyS_done it g fuel (pre ++ c) rest s' _ n h
    · cases h
    · cases h

/-- an accepted body, cut anywhere, is rejected -/
theorem bodyS_trunc {σ} (it : σ → Rd (Item × σ)) (g : GoodItemS it) :
    ∀ (fuel : Nat) (all xs : Bytes) (s : σ) (cnt n : Nat),
      bodyS it fuel all xs s cnt = .done n →
      ∀ (k : Nat), k < xs.length → ∀ (fuel' : Nat) (all' : Bytes) (cnt' : Nat),
        bodyS it fuel' all' (xs.take k) s cnt' = .fuelOut ∨ ∃ m, bodyS it fuel' all' (xs.take k) s cnt' = .err m
  | 0, _, _, _, _, _, h => by simp [bodyS] at h
  | fuel+1, all, xs, s, cnt, n, h => by
    intro k hk fuel' all' cnt'
    cases fuel' with
    | zero => exact Or.inl rfl
    | succ fuel' =>
    unfold bodyS at h ⊢
    cases hi : it s xs with
    | err => rw [hi] at h; cases h
    | unsup => rw [hi] at h; cases h
    | ok p rest =>
      obtain ⟨itm, s'⟩ := p
      rw [hi] at h
      rcases (g.seq s).take hi hk with he | ⟨j, hj, ho⟩
      · rw [he]; exact Or.inr ⟨cnt', rfl⟩
      · rw [ho]
        cases itm with
        | eofOp =>
          have := (footer_done h).1
          exact Or.inr ⟨cnt', footer_short all' _ cnt' (by rw [List.length_take]; omega)⟩
        | entry => exact bodyS_trunc it g fuel all rest s' _ n h j hj fuel' all' (cnt' + 1)
        | other => exact bodyS_trunc it g fuel all rest s' _ n h j hj fuel' all' cnt'

/-- an item reader that never answers "outside the model" -/
def TotalS {σ} (it : σ → Rd (Item × σ)) : Prop := ∀ s xs, it s xs ≠ .unsup

theorem itemS_total (cfg : Cfg) (h : ∀ bs, cfg.floatOk bs ≠ .dunno) : TotalS (itemS cfg)
  | none => (itemS_none_good cfg).1.2 h
  | some m => (hashChunk_fine cfg (m + 1) 0).2 h

theorem bodyS_total {σ} (it : σ → Rd (Item × σ)) (ht : TotalS it) :
    ∀ (fuel : Nat) (all xs : Bytes) (s : σ) (cnt : Nat), bodyS it fuel all xs s cnt ≠ .unsup
  | 0, _, _, _, _ => by simp [bodyS]
  | fuel+1, all, xs, s, cnt => by
    unfold bodyS
    split
    · rcases footer_done_or_err all ‹_› cnt with h | h <;> rw [h] <;> nofun
    · exact bodyS_total it ht fuel _ _ _ _
    · exact bodyS_total it ht fuel _ _ _ _
    · nofun
    · next h => exact absurd h (ht s xs)

/-! A stateless item reader is a stateful one whose state is trivial: the loop `bodyWith` of Model/RdbFrame.lean and
  the transcript `RdbFeed.bodyChan` are instances of `bodyS` and `bodyChanS`. -/

def constS (it : Rd Item) : Unit → Rd (Item × Unit) := fun _ => andThen it (fun a => ret (a, ()))

theorem constS_good {it : Rd Item} (g : GoodItem it) : GoodItemS (constS it) where
  seq _ := andThen_seq g.seq (fun _ => ret_seq _)
  consumes _ := andThen_consumes g.consumes (fun _ => ret_seq _)
  eof _ xs _ rest h := by
    obtain ⟨a, mid, h1, h2⟩ := andThen_ok h
    simp only [ret, R.ok.injEq, Prod.mk.injEq] at h2
    obtain ⟨⟨rfl, _⟩, rfl⟩ := h2
    exact g.eof xs mid h1

theorem constS_total {it : Rd Item} (h : Total it) : TotalS (constS it) :=
  fun _ => nu_andThen h (fun _ => nu_ret _)

theorem bodyS_constS (it : Rd Item) : ∀ (fuel : Nat) (all xs : Bytes) (cnt : Nat),
    bodyS (constS it) fuel all xs () cnt = bodyWith it fuel all xs cnt
  | 0, _, _, _ => rfl
  | fuel+1, all, xs, cnt => by
    unfold bodyS bodyWith constS andThen
    cases it xs with
    | err => rfl
    | unsup => rfl
    | ok a rest =>
      cases a with
      | eofOp => rfl
      | entry => exact bodyS_constS it fuel all rest (cnt + 1)
      | other => exact bodyS_constS it fuel all rest cnt

theorem parseWith_eq_parseS (it : Rd Item) (maxVer : Nat) (f : Bytes) : parseWith it maxVer f = parseS (constS it) () maxVer f := by
  unfold parseS parseWith
  cases header maxVer f with
  | ok u rest => exact (bodyS_constS it _ f rest 0).symm
  | err => rfl
  | unsup => rfl

theorem bodyChanS_constS (it : Rd Item) : ∀ (fuel : Nat) (all xs : Bytes) (cnt : Nat),
    bodyChanS (constS it) fuel all xs () cnt = RdbFeed.bodyChan it fuel all xs cnt
  | 0, _, _, _ => rfl
  | fuel+1, all, xs, cnt => by
    unfold bodyChanS RdbFeed.bodyChan constS andThen
    cases it xs with
    | err => rfl
    | unsup => rfl
    | ok a rest =>
      cases a with
      | eofOp => rfl
      | entry => exact bodyChanS_constS it fuel all rest (cnt + 1)
      | other => exact bodyChanS_constS it fuel all rest cnt

theorem chanWith_eq_chanS (it : Rd Item) (maxVer : Nat) (f : Bytes) : RdbFeed.chanWith it maxVer f = chanS (constS it) () maxVer f := by
  unfold chanS RdbFeed.chanWith
  cases header maxVer f with
  | ok u rest => exact (bodyChanS_constS it _ f rest 0).symm
  | err => rfl
  | unsup => rfl

end GunYu.RdbFrameX
