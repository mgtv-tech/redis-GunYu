/-
  C05, memory backend — the offered snapshot holds exactly the bytes RECEIVED for
  its announcement (ghost `MRecv`, Model/StoreMemRecv.lean).

  `RecvRel a b bs`: what a (composite) step may do to the snapshot as far as a
  replayable result is concerned — it is the same announcement and its bytes are
  the old bytes followed by `bs`. Every operation other than a new announcement is
  `RecvRel s.rdb s'.rdb (s.rdbAccepted op)`; the invariant `RecvInv` follows.
-/
import GunYu.Model.StoreMemRecv
import GunYu.Proofs.StoreMemSnap

namespace GunYu.Store
open GunYu

def RecvRel (a b : Option MRdb) (bs : Bytes) : Prop :=
  ∀ rd', b = some rd' → rd'.replayable = true →
    ∃ rd, a = some rd ∧ rd.replayable = true ∧ rd'.left = rd.left ∧ rd'.size = rd.size ∧
      mflat rd'.segs = mflat rd.segs ++ bs

theorem RecvRel.refl (a : Option MRdb) : RecvRel a a [] := by
  intro rd' h hrep; exact ⟨rd', h, hrep, rfl, rfl, by simp⟩

theorem RecvRel.of_eq {a b : Option MRdb} (h : b = a) : RecvRel a b [] := by
  subst h; exact RecvRel.refl _

theorem RecvRel.trans {a b c : Option MRdb} {x y : Bytes} (h1 : RecvRel a b x) (h2 : RecvRel b c y) :
    RecvRel a c (x ++ y) := by
  intro rd' h hrep
  obtain ⟨rd, hb, hr, hl, hs, hf⟩ := h2 rd' h hrep
  obtain ⟨rd0, ha, hr0, hl0, hs0, hf0⟩ := h1 rd hb hr
  exact ⟨rd0, ha, hr0, hl.trans hl0, hs.trans hs0, by rw [hf, hf0, List.append_assoc]⟩

theorem RecvRel.trans_nil {a b c : Option MRdb} {x : Bytes} (h1 : RecvRel a b x) (h2 : RecvRel b c []) :
    RecvRel a c x := by
  have := h1.trans h2; simpa using this

theorem RecvRel.nil_trans {a b c : Option MRdb} {x : Bytes} (h1 : RecvRel a b []) (h2 : RecvRel b c x) :
    RecvRel a c x := by
  have := h1.trans h2; simpa using this

theorem RecvRel.to_none (a : Option MRdb) (bs : Bytes) : RecvRel a none bs := by
  intro rd' h; cases h

/-! ### the collector and the stream writer leave a replayable snapshot as it is -/

theorem RdbStep.recv {a b : Option MRdb} (h : RdbStep a b) : RecvRel a b [] := by
  rcases h with rfl | rfl | ⟨_, r', _, rfl, hrep, _⟩
  · exact RecvRel.refl _
  · exact RecvRel.to_none _ _
  · intro rd' h' hrep'; cases h'; rw [hrep] at hrep'; cases hrep'

theorem gc_recv (s : Mem) (need : Nat) : RecvRel s.rdb (s.gc need).rdb [] := (gc_frame s need).rdb.recv

theorem ensure_recv (s : Mem) (need : Nat) : RecvRel s.rdb (s.ensure need).1.rdb [] := (ensure_frame s need).rdb.recv

theorem appendAofLoop_recv (fuel : Nat) (s : Mem) (buf : Bytes) (done : Nat) :
    RecvRel s.rdb (Mem.appendAofLoop fuel s buf done).1.rdb [] :=
  (appendAofLoop_run (R := fun a _ b => RecvRel a.rdb b.rdb []) (fun _ => RecvRel.refl _) (fun h1 h2 => h1.trans_nil h2)
    (fun s cur seg n _ _ => by unfold aofRotate; split <;> exact RecvRel.refl _) ensure_recv
    (fun s cur piece _ => RecvRel.refl _) fuel s buf done).2

theorem finishAof_recv (s : Mem) (cur : Nat) (isCurrent : Bool) : RecvRel s.rdb (s.finishAof cur isCurrent).rdb [] := by
  obtain ⟨X, e, h⟩ := finishAof_cases s cur isCurrent
  rw [e]
  rcases h with ⟨rfl, _⟩ | ⟨g, _, _, rfl⟩ <;> exact gc_recv _ 0

theorem rdbRotate_recv (s : Mem) (r : MRdb) (seg : MSeg) (rotate : Bool) (hr : s.rdb = some r) :
    RecvRel s.rdb (rdbRotate s r seg rotate).1.rdb [] := by
  unfold rdbRotate
  cases rotate with
  | false => exact RecvRel.refl _
  | true =>
    simp only [if_true]
    intro rd' h hrep
    cases h
    refine ⟨r, hr, hrep, rfl, rfl, ?_⟩
    unfold rdbRotated
    dsimp only
    rw [mflat_append, mUpdate_eq_map, mflat_map _ (by intro g; split <;> rfl)]
    simp [mflat]

theorem rdbPut_recv (s2 : Mem) (r2 : MRdb) (piece : Bytes) (hi : MemInv s2) (hr : s2.rdb = some r2)
    (hw : r2.writing = true) : RecvRel s2.rdb (rdbPut s2 r2 r2.cur piece).rdb piece := by
  rw [hr]
  intro rd' h hrep
  unfold rdbPut at h
  dsimp only at h
  cases h
  have hR := hi.rdb
  rw [hr] at hR
  obtain ⟨init, last, hinit, _, _, hupd⟩ := hR.writerSeg rfl hw (fun g => ({ g with data := g.data ++ piece } : MSeg))
  refine ⟨r2, rfl, hrep, rfl, rfl, ?_⟩
  dsimp only
  rw [hupd, hinit]
  simp [mflat]

theorem appendRdbLoop_recv (fuel : Nat) (s : Mem) (buf : Bytes) (hi : MemInv s) :
    RecvRel s.rdb (Mem.appendRdbLoop fuel s buf 0).1.rdb (buf.take (Mem.appendRdbLoop fuel s buf 0).2.1) :=
  ((appendRdbLoop_run (R := fun a bs b => MemInv a → MemInv b ∧ RecvRel a.rdb b.rdb bs)
    (fun _ h => ⟨h, RecvRel.refl _⟩) (fun f g h => ⟨(g (f h).1).1, (f h).2.trans (g (f h).1).2⟩)
    (fun s r seg _ hr hw _ hi => ⟨rdbRotate_inv s r seg _ hi hr hw, rdbRotate_recv s r seg _ hr⟩)
    (fun s n hi => ⟨ensure_inv s n hi, ensure_recv s n⟩)
    (fun s r piece hr hw hi => ⟨rdbPut_inv s r piece hi hr hw, rdbPut_recv s r piece hi hr hw⟩) fuel s buf 0).2 hi).2

theorem finishRdb_recv (s : Mem) (failed : Bool) : RecvRel s.rdb (s.finishRdb failed).rdb [] := by
  rcases finishRdb_cases s failed with e | ⟨r, hr, _, e | ⟨_, _, e⟩⟩ <;> rw [e]
  · exact RecvRel.refl _
  · exact RecvRel.to_none _ _
  · intro rd' h hrep
    cases h
    refine ⟨r, hr, hrep, rfl, rfl, ?_⟩
    dsimp only
    rw [mUpdate_eq_map, mflat_map _ (by intro g; split <;> rfl)]
    simp

theorem rdbAppends_recv (s : Mem) (hi : MemInv s) :
    (s.pendA = none → RecvRel s.rdb s.retry.1.rdb (s.rdbAccepted .retryAppend)) ∧
      ∀ chunk, RecvRel s.rdb (s.step (.rdbAppend chunk)).1.rdb (s.rdbAccepted (.rdbAppend chunk)) :=
  have k := rdbAppends_run (R := fun a bs b => MemInv a → MemInv b ∧ RecvRel a.rdb b.rdb bs)
    (fun _ h => ⟨h, RecvRel.refl _⟩) (fun f g h => ⟨(g (f h).1).1, (f h).2.trans_nil (g (f h).1).2⟩)
    (fun s r h => ⟨setPend_inv s h s.pendA r, RecvRel.refl _⟩)
    (fun fuel s buf h => ⟨appendRdbLoop_inv fuel s buf 0 h, appendRdbLoop_recv fuel s buf h⟩)
    (fun s h => ⟨finishRdb_inv s false h, finishRdb_recv s false⟩) s
  ⟨fun hpa => (k.1 hpa hi).2, fun chunk => (k.2 chunk hi).2⟩

theorem retry_recv (s : Mem) (hi : MemInv s) : RecvRel s.rdb s.retry.1.rdb (s.rdbAccepted .retryAppend) := by
  cases hpa : s.pendA with
  | none => exact (rdbAppends_recv s hi).1 hpa
  | some buf =>
    -- the stream writer's retry
    unfold Mem.retry Mem.rdbAccepted
    rw [hpa]
    dsimp only
    cases haw : s.aofW with
    | none => exact RecvRel.refl _
    | some cur =>
      dsimp only
      have h1 := appendAofLoop_recv (buf.length + 1) s buf 0
      split <;> exact h1

theorem step_recv (s : Mem) (op : MOp) (hi : MemInv s) (hop : ∀ off size, op ≠ .newRdbWriter off size) :
    RecvRel s.rdb (s.step op).1.rdb (s.rdbAccepted op) := by
  cases op with
  | setRunId id => exact RecvRel.refl _
  | delRunId id =>
    simp only [Mem.step, Mem.rdbAccepted]
    split
    · exact RecvRel.refl _
    · exact RecvRel.to_none _ _
  | newRdbWriter off size => exact absurd rfl (hop off size)
  | rdbAppend chunk => exact (rdbAppends_recv s hi).2 chunk
  | rdbClose => exact finishRdb_recv s false
  | rdbFail => exact finishRdb_recv s true
  | newAofWriter off =>
    rw [step_newAofWriter_eq]
    cases hin : s.installWriter off with
    | none => exact RecvRel.refl _
    | some s1 =>
      dsimp only
      have e : s1.rdb = s.rdb := by rw [(installWriter_spec hin).1]
      cases s.aofW with
      | none => exact RecvRel.of_eq e
      | some old => exact e ▸ finishAof_recv s1 old false
  | aofAppend chunk =>
    simp only [Mem.step, Mem.rdbAccepted]
    split
    · exact RecvRel.refl _
    · split
      · exact RecvRel.refl _
      · have h1 := appendAofLoop_recv (chunk.length + 1) s chunk 0
        split <;> exact h1
  | aofClose =>
    simp only [Mem.step, Mem.rdbAccepted]
    split
    · exact finishAof_recv _ _ _
    · exact RecvRel.refl _
  | retryAppend => exact retry_recv s hi
  | openReader _ _ | startReader _ | copyStep _ | consume _ _ | closeReader _ =>
    rw [step_readerOp s rfl]; exact RecvRel.refl _

/-- a replayable snapshot is the announcement the ghost recorded and holds exactly
    the bytes received for it -/
def RecvInv (s : Mem) (g : Option MRecv) : Prop :=
  ∀ rd, s.rdb = some rd → rd.replayable = true → g = some ⟨rd.left, rd.size, mflat rd.segs⟩

theorem RecvInv.init (l m : Nat) : RecvInv (Mem.init l m) none := by
  intro rd h; cases h

theorem RecvInv.of_rel {s s' : Mem} {g : Option MRecv} {bs : Bytes} (h : RecvInv s g) (hr : RecvRel s.rdb s'.rdb bs) :
    RecvInv s' (g.map (fun x => { x with bytes := x.bytes ++ bs })) := by
  intro rd' h' hrep
  obtain ⟨rd, ha, hr0, hl, hs, hf⟩ := hr rd' h' hrep
  rw [h rd ha hr0]
  simp [hl, hs, hf]

theorem RecvInv.step {s : Mem} {g : Option MRecv} (hi : MemInv s) (h : RecvInv s g) (op : MOp) :
    RecvInv (s.step op).1 (mRecvStep g s op) := by
  by_cases hop : ∃ off size, op = .newRdbWriter off size
  · obtain ⟨off, size, rfl⟩ := hop
    intro rd h' _
    simp only [Mem.step] at h'
    cases h'
    simp [mRecvStep, mflat]
  · have hop' : ∀ off size, op ≠ .newRdbWriter off size := fun off size e => hop ⟨off, size, e⟩
    have := h.of_rel (step_recv s op hi hop')
    cases op <;> first | exact this | exact absurd rfl (hop' _ _)

theorem runRecv_fst (s : Mem) (g : Option MRecv) (ops : List MOp) : (s.runRecv g ops).1 = s.run ops := by
  induction ops generalizing s g with
  | nil => rfl
  | cons op rest ih => simp only [Mem.runRecv, Mem.run]; exact ih _ _

theorem RecvInv.run {s : Mem} {g : Option MRecv} (hi : MemInv s) (h : RecvInv s g) (ops : List MOp) :
    RecvInv (s.run ops) (s.runRecv g ops).2 := by
  induction ops generalizing s g with
  | nil => exact h
  | cons op rest ih =>
    simp only [Mem.runRecv, Mem.run]
    exact ih (step_inv s op hi) (h.step hi op)

theorem settleReaders_rdb (s : Mem) : s.settleReaders.rdb = s.rdb :=
  settleReaders_keeps (P := fun x => x.rdb = s.rdb) (fun x rid h => by rw [copyStep_eq]; exact h) s rfl

theorem settleLoopG_fst (fuel : Nat) : ∀ (s : Mem) (g : Option MRecv), (Mem.settleLoopG fuel s g).1 = Mem.settleLoop fuel s := by
  induction fuel with
  | zero => intro s g; rfl
  | succ fuel ih =>
    intro s g
    simp only [Mem.settleLoopG, Mem.settleLoop]
    split
    · exact ih _ _
    · rfl

theorem settleG_fst (s : Mem) (g : Option MRecv) : (s.settleG g).1 = s.settle := settleLoopG_fst _ s g

theorem settleLoopG_recv (fuel : Nat) : ∀ (s : Mem) (g : Option MRecv), MemInv s → RecvInv s g →
    RecvInv (Mem.settleLoopG fuel s g).1 (Mem.settleLoopG fuel s g).2 := by
  induction fuel with
  | zero => intro s g _ h; exact h
  | succ fuel ih =>
    intro s g hi h
    have h1 : MemInv s.settleReaders := settleReaders_keeps copyStep_inv s hi
    have hr1 : RecvInv s.settleReaders g := by
      intro rd h' hrep; rw [settleReaders_rdb] at h'; exact h rd h' hrep
    have h2 : RecvInv s.settleReaders.retry.1 (mRecvStep g s.settleReaders .retryAppend) :=
      hr1.step h1 .retryAppend
    simp only [Mem.settleLoopG]
    split
    · exact ih _ _ (retry_inv _ h1) h2
    · exact h2

theorem RecvInv.settle {s : Mem} {g : Option MRecv} (hi : MemInv s) (h : RecvInv s g) :
    RecvInv (s.settleG g).1 (s.settleG g).2 := settleLoopG_recv _ s g hi h

/-- a snapshot append on a LIVE writer that is not blocked appends the whole chunk -/
theorem appendRdbLoop_complete (fuel : Nat) : ∀ (s : Mem) (buf : Bytes) (done : Nat), MemInv s →
    (∃ r, s.rdb = some r ∧ r.writing = true) → buf.length < fuel →
    (Mem.appendRdbLoop fuel s buf done).2.2 = false → (Mem.appendRdbLoop fuel s buf done).2.1 = done + buf.length := by
  induction fuel with
  | zero => intro s buf done _ _ hf; omega
  | succ fuel ih =>
    intro s buf done hi hlive hf hnb
    rw [appendRdbLoop_succ] at hnb ⊢
    by_cases hb : buf.isEmpty = true
    · simp only [hb, if_true]
      have : buf = [] := List.isEmpty_iff.mp hb
      simp [this]
    · simp only [hb, if_false, Bool.false_eq_true] at hnb ⊢
      obtain ⟨r, hr, hw⟩ := hlive
      -- the writer is live: its current segment is found
      obtain ⟨last, hlast, hls, _⟩ := hi.rdb.cur r hr hw
      have hfind : mFind r.segs r.cur = some last := by
        rw [← hls]; exact mFind_of_mem (hi.rdb.nodup r hr) (List.mem_of_getLast? hlast)
      simp only [hr, hw, hfind, Bool.not_true, Bool.false_eq_true, if_false] at hnb ⊢
      have hne : 0 < buf.length := by cases buf <;> simp at hb ⊢
      have hsp := pieceSpace_pos s.logSize last.data.length buf.length hne
      generalize pieceSpace s.logSize last.data.length buf.length = ps at hsp hnb ⊢
      have h2 := ensure_inv _ ps.1 (rdbRotate_inv s r last ps.2 hi hr hw)
      obtain ⟨e1, w1⟩ := rdbRotate_rdb s r last ps.2 hr
      split at hnb
      · cases hnb
      · rename_i hfit
        rw [if_neg hfit]
        cases hr2 : ((rdbRotate s r last ps.2).1.ensure ps.1).1.rdb with
        | none => rw [hr2] at hnb; cases hnb
        | some q =>
          rw [hr2] at hnb
          dsimp only at hnb ⊢
          obtain ⟨hc, hwq⟩ := (ensure_frame _ ps.1).rdb.writer e1 hr2
          have hq : q.writing = true := by rw [hwq, w1, hw]
          rw [← hc] at hnb ⊢
          rw [ih _ (buf.drop ps.1) _ (rdbPut_inv _ q _ h2 hr2 hq) ⟨_, rfl, hq⟩ (by simp; omega) hnb]
          simp
          omega

end GunYu.Store
