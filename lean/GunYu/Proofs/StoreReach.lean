/-
  C05, disk backend — BOUNDED PROGRESS: the reader REACHES the writer's end.

  `follow_delivers` is one catch-up step. The steps are composed over a SCHEDULE: any
  interleaving of
    * the reader's own moves `AofRotateReader.read` (`Disk.follow` / `Disk.followGc`,
      the driven `dread` / `dreadgc` operations),
    * collector passes, appends of the stream writer, snapshot chunks and every move of
      OTHER readers (open, read, both halves of a rotation, close) — `quiet` operations.
  The reader's distance to the writer's end (`lag`) obeys a counted bound (`lagBound`):
  every own move takes at least one byte off it while it is positive, a collector pass
  or another reader's move never adds to it, an append adds exactly its length. The
  fairness assumption of the liveness reading is thereby a HYPOTHESIS of a safety
  theorem: "the schedule contains k moves of the reader after the last append".
-/
import GunYu.Proofs.StoreProgress

namespace GunYu.Store
open GunYu

inductive PMove where
  | follow (n : Nat)        -- `AofRotateReader.read` with a buffer of n bytes
  | followGc (n : Nat)      -- the same with a collector pass inside its rotation step
  | other (op : DOp)        -- anything else that does not invalidate the reader
deriving Repr, DecidableEq

/-- operations that neither are moves of reader `rid` nor invalidate stream readers -/
def quiet (rid : Nat) : DOp → Bool
  | .gc | .aofAppend _ | .rdbAppend _ => true
  | .openReader r _ _ | .read r _ | .advAcquire r | .advRelease r | .closeReader r => r != rid
  | _ => false

def Disk.move (s : Disk) (rid : Nat) : PMove → Disk
  | .follow n => (s.follow rid n).1
  | .followGc n => (s.followGc rid n).1
  | .other op => (s.step op).1

def Disk.sched (s : Disk) (rid : Nat) : List PMove → Disk
  | [] => s
  | m :: rest => (s.move rid m).sched rid rest

/-- the schedule respects the callers' protocol and leaves the reader alone -/
def Disk.schedOk (s : Disk) (rid : Nat) : List PMove → Prop
  | [] => True
  | m :: rest =>
    (match m with
     | .follow n => 0 < n
     | .followGc n => 0 < n
     | .other op => quiet rid op = true ∧ s.okOp op) ∧ (s.move rid m).schedOk rid rest

instance Disk.decSchedOk : (s : Disk) → (rid : Nat) → (l : List PMove) → Decidable (s.schedOk rid l)
  | _, _, [] => isTrue trivial
  | s, rid, m :: rest =>
    have := Disk.decSchedOk (s.move rid m) rid rest
    by
      unfold Disk.schedOk
      cases m <;> simp only [] <;> infer_instance

/-- the counted bound on the reader's distance to the writer's end -/
def lagBound : Nat → List PMove → Nat
  | d, [] => d
  | d, .follow _ :: rest => lagBound (d - 1) rest
  | d, .followGc _ :: rest => lagBound (d - 1) rest
  | d, .other (.aofAppend chunk) :: rest => lagBound (d + chunk.length) rest
  | d, .other _ :: rest => lagBound d rest

/-- reader `rid` is an open stream reader between two moves (not inside a rotation step) -/
structure Follows (s : Disk) (rid : Nat) (r : DReader) : Prop where
  found : findReader s.readers rid = some r
  isOpen : r.isOpen = true
  isAof : r.isAof = true
  prev : r.prev = none

def Disk.endOff (s : Disk) : Nat := s.hbase + s.hist.length

/-- a quiet operation leaves the reader exactly as it is, never removes history and adds
    exactly the appended chunk -/
theorem quiet_frame (s : Disk) (rid : Nat) (op : DOp) (hq : quiet rid op = true) :
    findReader (s.step op).1.readers rid = findReader s.readers rid ∧
    (s.step op).1.hbase = s.hbase ∧
    ((s.step op).1.hist = s.hist ∨ ∃ chunk, op = .aofAppend chunk ∧ (s.step op).1.hist = s.hist ++ chunk) := by
  -- another reader's operation on itself replaces that reader's entry only
  have self : ∀ {c : Bool} {r : Nat} {s' : Disk}, SelfOp c r s s' → (r != rid) = true →
      findReader s'.readers rid = findReader s.readers rid ∧ s'.hbase = s.hbase ∧
        (s'.hist = s.hist ∨ ∃ chunk, op = .aofAppend chunk ∧ s'.hist = s.hist ++ chunk) := by
    intro c r s' h hne
    have ho := h.other (bne_iff_ne.mp hne)
    obtain ⟨rs, e⟩ := h.eq
    rw [e] at ho ⊢
    exact ⟨ho, rfl, Or.inl rfl⟩
  cases op with
  | gc =>
    obtain ⟨hb, hh, hr, _⟩ := gc_ghost s
    exact ⟨congrArg (findReader · rid) hr, hb, Or.inl hh⟩
  | rdbAppend chunk =>
    obtain ⟨_, e, _⟩ := rdbAppend_eq s chunk
    rw [e]
    exact ⟨rfl, rfl, Or.inl rfl⟩
  | aofAppend chunk =>
    rw [aofAppend_step, appendLive_readers]
    rcases appendLive_spec s chunk with h | ⟨_, h2, h3⟩
    · rw [h]; exact ⟨rfl, rfl, Or.inl rfl⟩
    · exact ⟨rfl, h2, Or.inr ⟨chunk, rfl, h3⟩⟩
  | openReader r off crc =>
    rcases open_readers s r off crc with e | ⟨x, hx, e⟩ <;> rw [show (s.step (.openReader r off crc)).1 = _ from e]
    · exact ⟨rfl, rfl, Or.inl rfl⟩
    · exact ⟨findReader_append_ne _ _ _ (hx ▸ bne_iff_ne.mp hq), rfl, Or.inl rfl⟩
  | read r n => exact self (read_selfOp s r n) hq
  | advAcquire r => exact self (advAcquire_selfOp s r) hq
  | advRelease r => exact self (advRelease_selfOp s r) hq
  | closeReader r => exact self (closeReader_selfOp s r) hq
  | _ => cases hq

/-- the state in which the `file.Read` of the composite move happens: the reader stands
    where it stood, on the file it reads from, outside a rotation step — and while it is
    below the writer's end that file has something for it -/
theorem follow_mid {s : Disk} (h : DInv s) {rid : Nat} {r : DReader} (hF : Follows s rid r) (n : Nat)
    (withGc : Bool) :
    ∃ s1 r1, (if withGc then s.followGc rid n else s.follow rid n) = s1.read rid n ∧ DInv s1 ∧
      Follows s1 rid r1 ∧ r1.pos = r.pos ∧ r1.start = r.start ∧ s1.hist = s.hist ∧ s1.hbase = s.hbase ∧
      (r.pos < s.endOff → s1.canAdvance r1 = false) := by
  obtain ⟨hrm, hid⟩ := findReader_some hF.found
  subst hid
  by_cases hca : s.canAdvance r = true
  · -- after the rotation the reader stands at the start of the next file, with or without
    -- a collector pass in between
    have hs1 := adv_both h hrm hca
    have hi1 : DInv ((s.step (.advAcquire r.id)).1.step (.advRelease r.id)).1 :=
      (h.step (.advAcquire r.id) trivial).step (.advRelease r.id) trivial
    obtain ⟨s1, hS⟩ : ∃ s1, ((s.step (.advAcquire r.id)).1.step (.advRelease r.id)).1 = s1 := ⟨_, rfl⟩
    rw [hS] at hs1 hi1
    have key : ∀ s2 : Disk, DInv s2 → s2.readers = s1.readers → s2.hist = s1.hist → s2.hbase = s1.hbase →
        ∃ r1, DInv s2 ∧ Follows s2 r.id r1 ∧ r1.pos = r.pos ∧ r1.start = r.start ∧ s2.hist = s.hist ∧
          s2.hbase = s.hbase ∧ (r.pos < s.endOff → s2.canAdvance r1 = false) := by
      intro s2 hi2 e1 e2 e3
      have hf2 : findReader s2.readers r.id = some { r with prev := none, cur := r.pos } := by
        rw [e1, hs1]; exact findReader_setReader_hit (findReader_setReader_hit hF.found rfl) rfl
      have hh : s2.hist = s.hist ∧ s2.hbase = s.hbase := by rw [e2, e3, hs1]; exact ⟨rfl, rfl⟩
      refine ⟨_, hi2, ⟨hf2, hF.isOpen, hF.isAof, rfl⟩, rfl, rfl, hh.1, hh.2, fun hlt => ?_⟩
      exact not_canAdvance_at_start hi2 (findReader_some hf2).1 hF.isOpen hF.isAof rfl (by rw [hh.1, hh.2]; exact hlt)
    cases withGc with
    | false =>
      obtain ⟨r1, hk⟩ := key s1 hi1 rfl rfl rfl
      refine ⟨s1, r1, ?_, hk⟩
      simp only [Bool.false_eq_true, if_false, Disk.follow, hF.found, hca, if_true, hS]
      rfl
    | true =>
      obtain ⟨hb, hh, hr, _⟩ := gc_ghost s1
      obtain ⟨r1, hk⟩ := key s1.gc (hi1.step .gc trivial) hr hh hb
      refine ⟨s1.gc, r1, ?_, hk⟩
      simp only [if_true, Disk.followGc, hF.found, hca, hS]
      rfl
  · have hca' : s.canAdvance r = false := by simpa using hca
    refine ⟨s, r, ?_, h, hF, rfl, rfl, rfl, rfl, fun _ => hca'⟩
    cases withGc with
    | false => simp only [Bool.false_eq_true, if_false, Disk.follow, hF.found, hca']; rfl
    | true => simp only [if_true, Disk.followGc, hF.found, hca', Bool.false_eq_true, if_false]; rfl

/-- **catch-up step (disk).** A reader below the writer's end always has a delivering
    move: `AofRotateReader.read` (rotate if the file is exhausted and the next exists,
    then one `file.Read`) — with or without a collector pass inside the rotation —
    delivers at least one byte, and the bytes are the history's bytes at its position. -/
theorem follow_delivers {s : Disk} (h : DInv s) {r : DReader} (hr : r ∈ s.readers)
    (ho : r.isOpen = true) (ha : r.isAof = true) (hprev : r.prev = none)
    (hlt : r.pos < s.hbase + s.hist.length) (n : Nat) (hn : 0 < n) (withGc : Bool) :
    ∃ bs, (if withGc then s.followGc r.id n else s.follow r.id n).2 = Out.data bs ∧ bs ≠ [] ∧
      bs = (s.hist.drop (r.pos - s.hbase)).take bs.length := by
  obtain ⟨s1, r1, heq, hi1, hF1, hp1, _, hh1, hb1, hca1⟩ :=
    follow_mid h ⟨findReader_of_mem h.ids hr, ho, ha, hprev⟩ n withGc
  obtain ⟨hrm1, hid1⟩ := findReader_some hF1.found
  rw [heq]
  rcases read_stream hi1 hF1.found hF1.isOpen hF1.isAof n with e | ⟨bs, hne, e, hbs⟩
  · -- not at the end of the file it reads from: the read is not empty
    rcases reader_progress hi1 hrm1 hF1.isOpen hF1.isAof hF1.prev (by rw [hp1, hb1, hh1]; exact hlt) n hn with
      ⟨bs, hb, _⟩ | hc
    · rw [hid1, e] at hb; cases hb
    · rw [hca1 hlt] at hc; cases hc
  · rw [hp1, hh1, hb1] at hbs
    exact ⟨bs, by rw [e], hne, hbs⟩

/-- **one own move**: the reader stays a valid stream reader, nothing is appended, it never
    moves back, and while it is below the writer's end it moves forward. -/
theorem follow_move {s : Disk} (h : DInv s) {rid : Nat} {r : DReader} (hF : Follows s rid r) (n : Nat)
    (hn : 0 < n) (withGc : Bool) :
    let s' := (if withGc then s.followGc rid n else s.follow rid n).1
    ∃ r', DInv s' ∧ Follows s' rid r' ∧ r'.start = r.start ∧ s'.hist = s.hist ∧ s'.hbase = s.hbase ∧
      r.pos ≤ r'.pos ∧ (r.pos < s.endOff → r.pos < r'.pos) := by
  obtain ⟨s1, r1, heq, hi1, hF1, hp1, hst1, hh1, hb1, _⟩ := follow_mid h hF n withGc
  intro s'
  have hs' : s' = (s1.read rid n).1 := congrArg Prod.fst heq
  have hi' : DInv s' := hs' ▸ hi1.read rid n
  rcases read_stream hi1 hF1.found hF1.isOpen hF1.isAof n with e | ⟨bs, hne, e, _⟩ <;> rw [e] at hs'
  · refine ⟨r1, hi', hs' ▸ hF1, hst1, hs' ▸ hh1, hs' ▸ hb1, Nat.le_of_eq hp1.symm, fun hlt => ?_⟩
    -- below the writer's end the move delivers
    obtain ⟨hrm, hid⟩ := findReader_some hF.found
    subst hid
    obtain ⟨bs, hout, _⟩ := follow_delivers h hrm hF.isOpen hF.isAof hF.prev hlt n hn withGc
    rw [heq, e] at hout
    cases hout
  · have hpos : 0 < bs.length := List.length_pos_iff.mpr hne
    refine ⟨{ r1 with pos := r1.pos + bs.length, out := r1.out ++ bs }, hi', ?_, hst1, hs' ▸ hh1, hs' ▸ hb1,
      hp1 ▸ Nat.le_add_right _ _, fun _ => hp1 ▸ Nat.lt_add_of_pos_right hpos⟩
    rw [hs']
    exact ⟨findReader_setReader_hit hF1.found (findReader_some hF1.found).2, hF1.isOpen, hF1.isAof, hF1.prev⟩

theorem lagBound_mono (l : List PMove) : ∀ {a b : Nat}, a ≤ b → lagBound a l ≤ lagBound b l := by
  induction l with
  | nil => exact fun h => h
  | cons m rest ih =>
    intro a b h
    cases m with
    | follow n | followGc n => exact ih (Nat.sub_le_sub_right h 1)
    | other op =>
      cases op with
      | aofAppend chunk => exact ih (Nat.add_le_add_right h _)
      | _ => exact ih h

theorem lag_add (e c p : Nat) : e + c - p ≤ e - p + c := by
  rw [Nat.sub_le_iff_le_add, Nat.add_right_comm]
  exact Nat.add_le_add_right (Nat.le_add_of_sub_le (Nat.le_refl _)) c

theorem lagBound_le_other (d : Nat) (op : DOp) (rest : List PMove) :
    lagBound d rest ≤ lagBound d (.other op :: rest) := by
  cases op with
  | aofAppend chunk => exact lagBound_mono rest (Nat.le_add_right _ _)
  | _ => exact Nat.le_refl _

/-- one move of the schedule keeps within what `lagBound` counts for it -/
theorem move_lag {s : Disk} {rid : Nat} {r : DReader} (h : DInv s) (hF : Follows s rid r) {m : PMove}
    {rest : List PMove} (hok : s.schedOk rid (m :: rest)) :
    ∃ r1, DInv (s.move rid m) ∧ Follows (s.move rid m) rid r1 ∧ r1.start = r.start ∧ r.pos ≤ r1.pos ∧
      (s.move rid m).hbase = s.hbase ∧
      lagBound ((s.move rid m).endOff - r1.pos) rest ≤ lagBound (s.endOff - r.pos) (m :: rest) := by
  have hm := hok.1
  have own : ∀ (withGc : Bool) (n : Nat), 0 < n →
      let s' := (if withGc then s.followGc rid n else s.follow rid n).1
      ∃ r1, DInv s' ∧ Follows s' rid r1 ∧ r1.start = r.start ∧ r.pos ≤ r1.pos ∧ s'.hbase = s.hbase ∧
        lagBound (s'.endOff - r1.pos) rest ≤ lagBound (s.endOff - r.pos - 1) rest := by
    intro withGc n hn
    obtain ⟨r1, hi, hF1, hst, hh, hb, hle, hlt⟩ := follow_move h hF n hn withGc
    refine ⟨r1, hi, hF1, hst, hle, hb, lagBound_mono rest ?_⟩
    unfold Disk.endOff at hlt ⊢
    rw [hh, hb]
    by_cases hc : r.pos < s.hbase + s.hist.length
    · exact Nat.sub_le_sub_left (hlt hc) _
    · rw [Nat.sub_eq_zero_of_le (Nat.le_trans (Nat.le_of_not_lt hc) hle)]
      exact Nat.zero_le _
  cases m with
  | follow n => exact own false n hm
  | followGc n => exact own true n hm
  | other op =>
    obtain ⟨hfr, hb, hhist⟩ := quiet_frame s rid op hm.1
    refine ⟨r, h.step op hm.2, ⟨hfr ▸ hF.found, hF.isOpen, hF.isAof, hF.prev⟩, rfl, Nat.le_refl _, hb, ?_⟩
    show lagBound ((s.step op).1.endOff - r.pos) rest ≤ _
    unfold Disk.endOff
    rw [hb]
    rcases hhist with hh | ⟨chunk, rfl, hh⟩
    · rw [hh]
      exact lagBound_le_other _ op rest
    · rw [hh, List.length_append, ← Nat.add_assoc]
      exact lagBound_mono rest (lag_add _ _ _)

/-- **bounded progress.** Over ANY schedule the reader stays a valid stream reader that
    delivered exactly the history's bytes from its start to its position, and its distance
    to the writer's end is at most the counted bound. -/
theorem sched_lag (l : List PMove) : ∀ {s : Disk} {rid : Nat} {r : DReader}, DInv s → Follows s rid r →
    s.schedOk rid l →
    ∃ r', DInv (s.sched rid l) ∧ Follows (s.sched rid l) rid r' ∧ r'.start = r.start ∧ r.pos ≤ r'.pos ∧
      (s.sched rid l).hbase = s.hbase ∧
      (s.sched rid l).endOff - r'.pos ≤ lagBound (s.endOff - r.pos) l := by
  induction l with
  | nil => exact fun {s _ r} h hF _ => ⟨r, h, hF, rfl, Nat.le_refl _, rfl, Nat.le_refl _⟩
  | cons m rest ih =>
    intro s rid r h hF hok
    obtain ⟨r1, hi1, hF1, hst1, hle1, hb1, hbound⟩ := move_lag h hF hok
    obtain ⟨r', hi', hF', hst', hle', hb', hlag⟩ := ih hi1 hF1 hok.2
    exact ⟨r', hi', hF', hst'.trans hst1, Nat.le_trans hle1 hle', hb'.trans hb1, Nat.le_trans hlag hbound⟩

def ownMoves : List PMove → Nat
  | [] => 0
  | .other _ :: rest => ownMoves rest
  | _ :: rest => ownMoves rest + 1

def noAppend : List PMove → Bool
  | [] => true
  | .other (.aofAppend _) :: _ => false
  | _ :: rest => noAppend rest

theorem lagBound_noAppend (l : List PMove) : ∀ (d : Nat), noAppend l = true → lagBound d l = d - ownMoves l := by
  induction l with
  | nil => exact fun _ _ => rfl
  | cons m rest ih =>
    intro d h
    cases m with
    | follow n | followGc n =>
      show lagBound (d - 1) rest = d - (ownMoves rest + 1)
      rw [ih (d - 1) h, Nat.sub_sub, Nat.add_comm]
    | other op =>
      cases op with
      | aofAppend chunk => cases h
      | _ => exact ih d h

end GunYu.Store
