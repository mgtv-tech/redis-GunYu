/-
  The global invariant. `GInv` = the block invariant `WInv`
  + `NsTtl` for both stores (the only keys of the reserved namespace that
    carry an expiry are marker keys of brace-free checkpoint names)
  + `RInv` for both links (the resume position `cpos` lies at or before the
    read position and no block between them is owed a commit).
  With it, `BookClean` — assumed per event by `GoodRun` — is DERIVED
  (`bookClean_of_nsTtl`), and restarts of either syncer that resume at or
  behind the last committed unit are covered. `LInv` is what survives ANY
  restart; it is proved by running each step in the shadow world `w.norm`,
  whose commit log is the one the link positions account for.
-/
import GunYu.Proofs.BisyncTtl
import GunYu.Proofs.BisyncDrain

namespace GunYu.Bisync
open GunYu GunYu.BisyncUnit

/-! ### key forms -/

/-- a marker key of a brace-free checkpoint name -/
def MarkerForm (k : Bytes) : Prop := ∃ cp tag, Slot.lbrace ∉ cp ∧ k = Gen.markerKey cp tag

theorem first_split {α : Type} (x : α) (a a' r r' : List α) (ha : x ∉ a) (ha' : x ∉ a')
    (h : a ++ x :: r = a' ++ x :: r') : a = a' := by
  induction a generalizing a' with
  | nil =>
    cases a' with
    | nil => rfl
    | cons y ys =>
      injection h with h1 _
      exact absurd (h1 ▸ List.mem_cons_self ..) ha'
  | cons y ys ih =>
    cases a' with
    | nil =>
      injection h with h1 _
      exact absurd (h1 ▸ List.mem_cons_self ..) ha
    | cons y' ys' =>
      injection h with h1 h2
      rw [h1, ih ys' (fun hm => ha (List.mem_cons_of_mem _ hm)) (fun hm => ha' (List.mem_cons_of_mem _ hm)) h2]

def markerLit : Bytes := [58,109,97,114,107,101,114,58]      -- ":marker:"

/-- a key `redis-gunyu-bisync:<cp><lit>{…` with a brace-free `cp` and a literal ending otherwise
    than ":marker:" does (in its last three bytes) is no marker key: both keys are cut at their
    first `{` -/
theorem not_marker_of_lit (cp pre tl rest : Bytes) (hcp : Slot.lbrace ∉ cp) (hlit : Slot.lbrace ∉ pre ++ tl)
    (hl : tl.length = 3) (hne : tl ≠ [101,114,58]) :
    ¬ MarkerForm (nsPrefix ++ cp ++ (pre ++ tl ++ [Slot.lbrace]) ++ rest) := by
  have nobrace : ∀ cp lit : Bytes, Slot.lbrace ∉ cp → Slot.lbrace ∉ lit → Slot.lbrace ∉ nsPrefix ++ cp ++ lit := by
    intro cp lit hcp hlit h
    rcases List.mem_append.mp h with h | h
    · rcases List.mem_append.mp h with h | h
      · revert h; decide
      · exact hcp h
    · exact hlit h
  rintro ⟨cp', tag, hcp', heq⟩
  rw [markerKey_form] at heq
  -- both sides cut at their first `{`
  have split : ∀ (cp lit r : Bytes), nsPrefix ++ cp ++ (lit ++ [Slot.lbrace]) ++ r = (nsPrefix ++ cp ++ lit) ++ Slot.lbrace :: r :=
    fun cp lit r => by simp only [List.append_assoc, List.cons_append, List.nil_append]
  rw [split, show Gen.markerInfix = markerLit ++ [Slot.lbrace] from rfl, split] at heq
  have hp := first_split Slot.lbrace _ _ _ _ (nobrace cp _ hcp hlit) (nobrace cp' markerLit hcp' (by decide)) heq
  -- … and the literals compared in their last three bytes
  rw [show markerLit = [58,109,97,114,107] ++ [101,114,58] from rfl, ← List.append_assoc, ← List.append_assoc] at hp
  exact hne (List.append_inj' hp hl).2

theorem plainNsKey_not_marker (cp k : Bytes) (hcp : Slot.lbrace ∉ cp) (h : PlainNsKey cp k) : ¬ MarkerForm k := by
  obtain ⟨tag, rfl | rfl | ⟨seq, rfl⟩⟩ := h
  · rw [latestKey_form]
    exact not_marker_of_lit cp [58,108,97,116,101] [115,116,58] _ hcp (by decide) rfl (by decide)      -- ":late" "st:"
  · rw [commitIndexKey_form]
    exact not_marker_of_lit cp [58,105,110,100] [101,120,58] _ hcp (by decide) rfl (by decide)          -- ":ind" "ex:"
  · rw [commitRecordKey_form]
    exact not_marker_of_lit cp [58,99,111,109,109] [105,116,58] _ hcp (by decide) rfl (by decide)       -- ":comm" "it:"

theorem cpRooted_not_marker (k : Bytes) (h : Gen.checkpointKey <+: k) : ¬ MarkerForm k := by
  rintro ⟨cp', tag, _, heq⟩
  have hp : Gen.bisyncKeyPrefix <+: k := by
    rw [heq]; unfold Gen.markerKey
    simp only [List.append_assoc]
    exact List.prefix_append _ _
  have := List.prefix_of_prefix_length_le hp h (by decide)
  revert this; decide

/-! ### the store invariant -/

def NsTtl (st : Store) : Prop :=
  ∀ k e, st.get k = some e → e.expireAt.isSome = true → isNamespaceKey k = true → MarkerForm k

theorem nsTtl_nil : NsTtl [] := by intro k e h; cases h

theorem nsTtl_frame (P : Bytes → Prop) (st st' : Store) (h : NsTtl st) (hf : TtlFrame P st st')
    (hp : ∀ k, P k → isNamespaceKey k = true → MarkerForm k) : NsTtl st' := by
  intro k e' hg hs hns
  rcases hf k e' hg hs with ⟨e, he, hx⟩ | hpk
  · exact h k e he (by rw [hx]; exact hs) hns
  · exact hp k hpk hns

theorem nsTtl_exec (cfg : RedisCfg) (now : Nat) (st : Store) (cs : List Cmd) (h : NsTtl st)
    (hc : ∀ c ∈ cs, ∀ k, TtlAt c k → isNamespaceKey k = true → MarkerForm k) :
    NsTtl (execCmds cfg now st cs).1 :=
  nsTtl_frame _ st _ h (frame_execCmds cfg now cs st) (fun k ⟨c, hcm, hk⟩ hns => hc c hcm k hk hns)

def NoTtl (st : Store) (k : Bytes) : Prop := ∀ e, st.get k = some e → e.expireAt = none

theorem nsTtl_clean (st : Store) (h : NsTtl st) (k : Bytes) (hns : isNamespaceKey k = true) (hm : ¬ MarkerForm k) :
    NoTtl st k := by
  intro e he
  cases hx : e.expireAt with
  | none => rfl
  | some t => exact absurd (h k e he (by rw [hx]; rfl) hns) hm

theorem lazyExpire_clean (cfg : RedisCfg) (now : Nat) (st : Store) (k : Bytes) (h : NoTtl st k) :
    lazyExpire cfg now st k = (st, []) := by
  unfold lazyExpire
  cases hg : st.get k with
  | none => rfl
  | some e => simp only [h e hg]

theorem lazyExpireAll_clean (cfg : RedisCfg) (now : Nat) (st : Store) (ks : List Bytes) (h : ∀ k ∈ ks, NoTtl st k) :
    lazyExpireAll cfg now st ks = (st, []) := by
  induction ks with
  | nil => rfl
  | cons k ks ih =>
    simp only [lazyExpireAll, lazyExpire_clean cfg now st k (h k (List.mem_cons_self ..))]
    rw [ih (fun k' hk' => h k' (List.mem_cons_of_mem _ hk'))]
    rfl

/-! ### the bookkeeping requests the tool issues -/

/-- the requests the tool itself issues (a marker's expiry is Redis's doing:
    `Ev.expire`), with the checkpoint names the tool generates (brace-free) -/
def Bookkeeping.Issued : Bookkeeping → Prop
  | .markerExpiry _ _ _ => False
  | .journalDel cp _ _ => Slot.lbrace ∉ cp
  | .indexRem cp _ _ => Slot.lbrace ∉ cp
  | .latestSeed cp _ _ => Slot.lbrace ∉ cp
  | .latestDel cp _ => Slot.lbrace ∉ cp
  | .markerDel cp _ => Slot.lbrace ∉ cp
  | .nsDel cp _ => Slot.lbrace ∉ cp
  | _ => True

def SelfOrNothing (eff : List Cmd) (c : Cmd) : Prop := eff = [] ∨ eff = [c]

theorem execCmds_single (cfg : RedisCfg) (now : Nat) (st : Store) (c : Cmd) :
    (execCmds cfg now st [c]).2 = (propagate cfg now st c).2 := by
  simp [execCmds]

/-! Commands on keys that carry no expiry meet no lazy deletion: -/

theorem propAdd_clean (cfg : RedisCfg) (now : Nat) (st : Store) (kind : Kind) (members : List Bytes → List Bytes)
    (name k : Bytes) (rest : List Bytes) (h : NoTtl st k) :
    SelfOrNothing (propAdd cfg now st kind members ⟨name, k :: rest⟩).2 ⟨name, k :: rest⟩ := by
  unfold propAdd
  simp only [lazyExpire_clean cfg now st k h]
  cases touchKind st kind k (members rest) with
  | none => left; rfl
  | some st2 => right; rfl

theorem propRem_clean (cfg : RedisCfg) (now : Nat) (st : Store) (kind : Kind) (name k : Bytes) (ms : List Bytes)
    (h : NoTtl st k) : SelfOrNothing (propRem cfg now st kind ⟨name, k :: ms⟩).2 ⟨name, k :: ms⟩ := by
  unfold propRem
  simp only [lazyExpire_clean cfg now st k h]
  unfold remMembers
  cases st.get k with
  | none => left; rfl
  | some e =>
    simp only
    split
    · left; rfl
    · split
      · left; rfl
      · split <;> (right; rfl)

theorem propDel_clean (cfg : RedisCfg) (now : Nat) (st : Store) (c : Cmd) (h : ∀ k ∈ c.args, NoTtl st k) :
    SelfOrNothing (propDel cfg now st c).2 c := by
  unfold propDel
  simp only [lazyExpireAll_clean cfg now st c.args h]
  split
  · left; rfl
  · right; rfl

theorem propOther_clean (cfg : RedisCfg) (now : Nat) (st : Store) (c : Cmd) (k : Bytes)
    (hk : commandKeys c.name c.args = some [k]) (h : NoTtl st k) : SelfOrNothing (propOther cfg now st c).2 c := by
  unfold propOther
  simp only [hk, Option.getD_some]
  rw [lazyExpireAll_clean cfg now st [k] (by intro k' hk'; rw [List.mem_singleton.mp hk']; exact h)]
  right; rfl

/-- `DEL k` of one key propagates as nothing (key absent), as itself (key alive)
    or as the one DEL / UNLINK of the key's expiry (expired, not reaped) -/
theorem delOne_effects (rc : RedisCfg) (now : Nat) (st : Store) (k : Bytes) :
    (propagate rc now st ⟨wDel, [k]⟩).2 = [] ∨ (propagate rc now st ⟨wDel, [k]⟩).2 = [⟨wDel, [k]⟩] ∨
    (propagate rc now st ⟨wDel, [k]⟩).2 = [delCmd rc k] := by
  show (propDel rc now st ⟨wDel, [k]⟩).2 = [] ∨ (propDel rc now st ⟨wDel, [k]⟩).2 = _ ∨
    (propDel rc now st ⟨wDel, [k]⟩).2 = _
  rcases lazyExpire_eq rc now st k with h | h
  · cases hg : st.get k with
    | some e => right; left; simp [propDel, lazyExpireAll, h, hg]
    | none => left; simp [propDel, lazyExpireAll, h, hg]
  · right; right
    simp [propDel, lazyExpireAll, h, get_del_same]

/-! How `propagate` dispatches on the names of the vocabulary (by evaluation of the name tests): -/

theorem hset_self (rc : RedisCfg) (now : Nat) (st : Store) (k : Bytes) (rest : List Bytes) (h : NoTtl st k) :
    SelfOrNothing (propagate rc now st ⟨wHset, k :: rest⟩).2 ⟨wHset, k :: rest⟩ :=
  propAdd_clean rc now st .hash fieldNames wHset k rest h

theorem hdel_self (rc : RedisCfg) (now : Nat) (st : Store) (k : Bytes) (ms : List Bytes) (h : NoTtl st k) :
    SelfOrNothing (propagate rc now st ⟨wHdel, k :: ms⟩).2 ⟨wHdel, k :: ms⟩ :=
  propRem_clean rc now st .hash wHdel k ms h

theorem zrem_self (rc : RedisCfg) (now : Nat) (st : Store) (k : Bytes) (ms : List Bytes) (h : NoTtl st k) :
    SelfOrNothing (propagate rc now st ⟨wZrem, k :: ms⟩).2 ⟨wZrem, k :: ms⟩ :=
  propRem_clean rc now st .zset wZrem k ms h

theorem hsetnx_self (rc : RedisCfg) (now : Nat) (st : Store) (k : Bytes) (rest : List Bytes) (h : NoTtl st k) :
    SelfOrNothing (propagate rc now st ⟨wHsetnx, k :: rest⟩).2 ⟨wHsetnx, k :: rest⟩ := by
  have : propagate rc now st ⟨wHsetnx, k :: rest⟩ = propOther rc now st ⟨wHsetnx, k :: rest⟩ := by
    rw [propagate_eq]
    simp only [show lower wHsetnx = wHsetnx from by decide]
    rfl
  rw [this]
  exact propOther_clean rc now st _ k (commandKeys_generic wHsetnx _ _ (by decide +kernel) (by decide +kernel)) h

theorem del_self (rc : RedisCfg) (now : Nat) (st : Store) (ks : List Bytes) (h : ∀ k ∈ ks, NoTtl st k) :
    SelfOrNothing (propagate rc now st ⟨wDel, ks⟩).2 ⟨wDel, ks⟩ :=
  propDel_clean rc now st ⟨wDel, ks⟩ h

/-- every request other than the DEL of a marker alone propagates as itself or not at all: the keys it
    names are checkpoint keys or plain keys of a brace-free namespace, none of which carries an expiry -/
theorem bookSelf_of_nsTtl (rc : RedisCfg) (now : Nat) (st : Store) (bk : Bookkeeping) (hv : bk.Valid)
    (hi : bk.Issued) (hnm : ∀ cp tag, bk ≠ .markerDel cp tag) (hst : NsTtl st) :
    SelfOrNothing (propagate rc now st bk.toCmd).2 bk.toCmd := by
  have cpKey : ∀ k, Gen.checkpointKey <+: k → NoTtl st k :=
    fun k hk => nsTtl_clean st hst k (ns_of_cpRooted k hk) (cpRooted_not_marker k hk)
  have plain : ∀ cp k, Slot.lbrace ∉ cp → PlainNsKey cp k → NoTtl st k :=
    fun cp k hcp hk => nsTtl_clean st hst k (ns_of_prefix k (plainNsKey_ns cp k hk)) (plainNsKey_not_marker cp k hcp hk)
  have del1 : ∀ k, NoTtl st k → SelfOrNothing (propagate rc now st ⟨wDel, [k]⟩).2 ⟨wDel, [k]⟩ :=
    fun k h => del_self rc now st [k] fun k' hk' => List.mem_singleton.mp hk' ▸ h
  cases bk with
  | frontierSave cp fields => exact hset_self _ _ _ _ _ (cpKey _ (cpRooted_frontier hv))
  | journalDel cp tag seq => exact del1 _ (plain cp _ hi ⟨tag, .inr (.inr ⟨seq, rfl⟩)⟩)
  | indexRem cp tag members => exact zrem_self _ _ _ _ _ (plain cp _ hi ⟨tag, .inr (.inl rfl)⟩)
  | markerExpiry cp tag unlink => exact hi.elim
  | cpHashSet runId cpName nx =>
    cases nx with
    | false => exact hset_self _ _ _ _ _ (cpKey _ cpRooted_hash)
    | true => exact hsetnx_self _ _ _ _ _ (cpKey _ cpRooted_hash)
  | cpHashDel runId => exact hdel_self _ _ _ _ _ (cpKey _ cpRooted_hash)
  | rootSet cp fields => exact hset_self _ _ _ _ _ (cpKey _ hv)
  | rootHdel cp fields => exact hdel_self _ _ _ _ _ (cpKey _ hv)
  | latestSeed cp tag fields => exact hset_self _ _ _ _ _ (plain cp _ hi ⟨tag, .inl rfl⟩)
  | latestDel cp tag => exact del1 _ (plain cp _ hi ⟨tag, .inl rfl⟩)
  | rootDel cp =>
    refine del_self _ _ _ _ fun k hk => ?_
    rcases List.mem_cons.mp hk with rfl | hk
    · exact cpKey _ hv
    · exact List.mem_singleton.mp hk ▸ cpKey _ (cpRooted_frontier hv)
  | frontierDel cp => exact del1 _ (cpKey _ (cpRooted_frontier hv))
  | markerDel cp tag => exact absurd rfl (hnm cp tag)
  | nsDel cp keys => exact del_self _ _ _ _ fun k hk => plain cp k hi (hv.2 k hk)

/-- **`BookClean` is a consequence of the store invariant.** The DEL of a marker alone propagates as
    nothing, as itself, or as the one DEL / UNLINK of the marker's expiry — each a stand-alone marker
    deletion; every other request as itself or not at all. -/
theorem bookClean_of_nsTtl (cfg : WCfg) (w : World) (src : SiteId) (bk : Bookkeeping) (hv : bk.Valid)
    (hi : bk.Issued) (hst : NsTtl (w.site src.other).store) : BookClean cfg w src bk := by
  unfold BookClean
  simp only
  rw [execCmds_single]
  by_cases hm : ∃ cp tag, bk = .markerDel cp tag
  · obtain ⟨cp, tag, rfl⟩ := hm
    rcases delOne_effects (cfg.redis src.other) (w.site src.other).now (w.site src.other).store (Gen.markerKey cp tag)
      with h | h | h
    · exact Or.inl h
    · exact Or.inr ⟨_, hv, h⟩
    · exact Or.inr ⟨.markerExpiry cp tag (cfg.redis src.other).lazyUnlink, trivial, h⟩
  · rcases bookSelf_of_nsTtl (cfg.redis src.other) (w.site src.other).now _ bk hv hi (fun cp tag h => hm ⟨cp, tag, h⟩) hst
      with h | h
    · exact Or.inl h
    · exact Or.inr ⟨bk, hv, h⟩

/-! ### which commands of an execution can put an expiry on a namespace key -/

/-- the command cannot give a namespace key an expiry, except a marker key -/
def TtlSafe (c : Cmd) : Prop := ∀ k, TtlAt c k → isNamespaceKey k = true → MarkerForm k

theorem ttlSafe_noName (c : Cmd) (h : ttlName (lower c.name) = false) : TtlSafe c := by
  intro k ⟨hn, _⟩ _
  rw [h] at hn; cases hn

theorem ttlSafe_headOutside (c : Cmd) (h : ∀ k rest, c.args = k :: rest → isNamespaceKey k = false) : TtlSafe c := by
  intro k ⟨_, hh⟩ hns
  unfold HeadIs at hh
  cases hargs : c.args with
  | nil => rw [hargs] at hh; cases hh
  | cons a rest =>
    rw [hargs, List.head?_cons, Option.some.injEq] at hh
    rw [← hh, h a rest hargs] at hns
    cases hns

theorem ttlSafe_client (pc : PCfg) (c : Cmd) (hc : ClientOK pc c) : TtlSafe c :=
  ttlSafe_headOutside c fun k _ hargs =>
    Bool.eq_false_iff.mpr fun hns => hc.args k (hargs ▸ List.mem_cons_self ..) (Or.inl hns)

theorem ttlSafe_outside (c : Cmd) (h : touchesNamespace c = false) : TtlSafe c :=
  ttlSafe_headOutside c (head_outside c h)

theorem ttlSafe_commit (cp : Bytes) (k : CommitKind) (u : RUnit) (p : Payload) (hcp : Slot.lbrace ∉ cp)
    (hu : ∀ c ∈ u.cmds, TtlSafe c) : ∀ c ∈ commitCmds cp k u p, TtlSafe c := by
  obtain ⟨tail, heq, htail⟩ := commitCmds_eq cp k u p
  intro c hc
  rw [heq, List.mem_cons, List.mem_append] at hc
  rcases hc with rfl | hc | hc
  · intro k' ⟨_, hh⟩ _
    exact ⟨cp, u.slotTag, hcp, (Option.some.inj hh).symm⟩
  · exact hu c hc
  · obtain ⟨key, _, _, rfl | rfl⟩ := htail c hc <;> exact ttlSafe_noName _ rfl

theorem ttlSafe_book (bk : Bookkeeping) : TtlSafe bk.toCmd := by
  apply ttlSafe_noName
  cases bk with
  | markerExpiry _ _ unlink => cases unlink <;> rfl
  | cpHashSet _ _ nx => cases nx <;> rfl
  | _ => rfl

/-! ### the global invariant -/

/-- the resume position lies at or before the read position, and no block
    between the two is owed a commit -/
def RInv (w : World) : Prop :=
  ∀ s, (w.link s).cpos ≤ (w.link s).pos ∧
    dueTags (w.site s).stream (w.link s).cpos = dueTags (w.site s).stream (w.link s).pos

structure GInv (cfg : WCfg) (w : World) : Prop where
  winv : WInv cfg w
  ttl : ∀ s, NsTtl (w.site s).store
  resume : RInv w
  cps : ∀ s, Slot.lbrace ∉ (w.link s).cp

/-- the events of the global theorem: a condition on the EVENT alone (nothing
    about the state it meets) -/
def EvOK' (cfg : WCfg) : Ev → Prop
  | .client _ _ cmds => ∀ c ∈ cmds, ClientOK cfg.parser c
  | .tick _ _ => True
  | .expire _ k => ¬ FilterReserved k
  | .link _ _ => True
  | .snapshot _ cmds _ => ∀ c ∈ cmds, TxnSafe c ∧ isNamespaceKey (c.args.headD []) = false
  | .book _ bk => bk.Valid ∧ bk.Issued
  | .toolRaw _ _ _ => False
  | .restart _ _ _ => True

def GoodEvents (cfg : WCfg) (evs : List Ev) : Prop := ∀ e ∈ evs, EvOK' cfg e

theorem dueTags_le (s : List TBlock) (n m : Nat) (h : n ≤ m) : ∃ ext, dueTags s m = dueTags s n ++ ext := by
  unfold dueTags
  rw [← Nat.add_sub_cancel' h, List.take_add, List.filter_append, List.map_append]
  exact ⟨_, rfl⟩

theorem dueTags_sandwich (s : List TBlock) (a b c : Nat) (hab : a ≤ b) (hbc : b ≤ c)
    (h : dueTags s a = dueTags s c) : dueTags s a = dueTags s b := by
  obtain ⟨x, hx⟩ := dueTags_le s a b hab
  obtain ⟨y, hy⟩ := dueTags_le s b c hbc
  rw [hy, hx, List.append_assoc] at h
  have : x = [] := (List.append_eq_nil_iff.mp (List.self_eq_append_right.mp h)).1
  rw [hx, this, List.append_nil]

theorem ttl_setSite (w : World) (h : ∀ t, NsTtl (w.site t).store) (s : SiteId) (x : SiteSt) (hx : NsTtl x.store) :
    ∀ t, NsTtl ((w.setSite s x).site t).store := by
  intro t
  rcases eq_or_other s t with rfl | rfl
  · rw [site_setSite_same]; exact hx
  · rw [site_setSite_other]; exact h _

theorem ttl_execAt (cfg : WCfg) (w : World) (h : ∀ t, NsTtl (w.site t).store) (s : SiteId) (isTxn : Bool)
    (cmds : List Cmd) (tag : Tag) (hc : ∀ c ∈ cmds, TtlSafe c) :
    ∀ t, NsTtl ((execAt cfg w s isTxn cmds tag).site t).store :=
  ttl_setSite w h s _ (nsTtl_exec _ _ _ _ (h s) hc)

theorem evOK_of (cfg : WCfg) (w : World) (httl : ∀ s, NsTtl (w.site s).store) (e : Ev) (hok : EvOK' cfg e)
    (hnr : ¬ e.isRestart) : EvOK cfg w e := by
  cases e with
  | client s isTxn cmds => exact hok
  | tick s dt => trivial
  | expire s k => exact hok
  | link src arg => trivial
  | snapshot src cmds arg => exact fun c hc => (hok c hc).1
  | book src bk => exact ⟨hok.1, bookClean_of_nsTtl cfg w src bk hok.1 hok.2 (httl src.other)⟩
  | toolRaw _ _ _ => exact hok
  | restart _ _ _ => exact absurd trivial hnr

theorem ttlSafe_unit (cfg : WCfg) (w : World) (hinv : WInv cfg w) (src : SiteId) (tb : TBlock) (e : Emit)
    (hget : (w.site src).stream[(w.link src).pos]? = some tb) (hd : due tb = true)
    (hcmds : e.unit.cmds = tb.block.body.map norm) : ∀ c ∈ e.unit.cmds, TtlSafe c := by
  rw [hcmds]
  intro c hc
  obtain ⟨c0, hc0, rfl⟩ := List.mem_map.mp hc
  exact ttlSafe_outside _ ((fgn_of_due _ tb (hinv.blocks src tb (mem_of_getElem? _ _ _ hget).1) hd).1 c0 hc0).outside

theorem ttl_step (cfg : WCfg) (hf : FOK cfg.parser.filter) (w : World) (hinv : WInv cfg w)
    (httl : ∀ s, NsTtl (w.site s).store) (hcps : ∀ s, Slot.lbrace ∉ (w.link s).cp) (e : Ev) (hok : EvOK' cfg e) :
    ∀ t, NsTtl ((stepWorld cfg w e).site t).store := by
  have setSite := ttl_setSite w httl
  cases e with
  | client s isTxn cmds =>
    intro t
    unfold stepWorld
    simp only
    rw [site_nextId]
    exact setSite s _ (nsTtl_exec _ _ _ _ (httl s) (fun c hc => ttlSafe_client cfg.parser c (hok c hc))) t
  | tick s dt => exact setSite s _ (httl s)
  | expire s k =>
    intro t
    have hst : NsTtl (activeExpire (cfg.redis s) (w.site s).now (w.site s).store k).1 :=
      nsTtl_frame (fun _ => False) _ _ (httl s) (frame_lazyExpire _ _ _ _ _) (fun _ h => h.elim)
    unfold stepWorld
    simp only
    split
    · exact setSite s _ hst t
    · rw [site_nextId]; exact setSite s _ hst t
  | link src arg =>
    have hs := link_step_shape cfg hf w hinv src arg
    generalize stepWorld cfg w (.link src arg) = w' at hs
    intro t
    cases hs with
    | stay _ => exact httl t
    | skip tb pst' _ _ _ => rw [site_setLink]; exact httl t
    | halt tb e' _ _ _ => rw [site_setLink]; exact httl t
    | emit tb pst' em hget hd _ hcmds _ =>
      rcases eq_or_other src t with rfl | rfl
      · rw [site_commitWorld_same]; exact httl _
      · rw [site_commitWorld_other]
        exact ttl_execAt cfg w httl _ _ _ _
          (ttlSafe_commit _ _ _ _ (hcps src) (ttlSafe_unit cfg w hinv src tb em hget hd hcmds)) _
  | snapshot src cmds arg =>
    unfold stepWorld
    simp only
    cases hb : buildUnit standaloneMode cfg.parser.resolver cmds with
    | error e => exact httl
    | ok u =>
      refine ttl_execAt cfg w httl _ _ _ _ (ttlSafe_commit _ _ _ _ (hcps src) ?_)
      rw [buildUnit_cmds _ _ _ u hb]
      exact fun c hc => ttlSafe_headOutside c fun k rest hargs => by simpa [hargs] using (hok c hc).2
  | book src bk =>
    exact ttl_execAt cfg w httl _ _ _ _ fun c hc => List.mem_singleton.mp hc ▸ ttlSafe_book bk
  | toolRaw _ _ _ => exact hok.elim
  | restart src p sq =>
    intro t
    rcases restart_shape cfg w src p sq with h | ⟨_, l', h, _⟩ <;> rw [h]
    · exact httl t
    · rw [site_setLink]; exact httl t

theorem cp_step (cfg : WCfg) (hf : FOK cfg.parser.filter) (w : World) (hinv : WInv cfg w) (e : Ev) (t : SiteId) :
    ((stepWorld cfg w e).link t).cp = (w.link t).cp := by
  have setLink : ∀ src l', l'.cp = (w.link src).cp → ((w.setLink src l').link t).cp = (w.link t).cp :=
    fun src l' h => forall_setLink w src l' (fun t l => l.cp = (w.link t).cp) h (fun _ => rfl) t
  by_cases hl : e.isLink
  · obtain ⟨src, arg, rfl⟩ := hl.exists
    have hs := link_step_shape cfg hf w hinv src arg
    generalize stepWorld cfg w (.link src arg) = w' at hs
    cases hs with
    | stay _ => rfl
    | skip tb pst' _ _ _ => exact setLink src _ rfl
    | halt tb e' _ _ _ => exact setLink src _ rfl
    | emit tb pst' em _ _ _ _ _ =>
      rcases eq_or_other src t with rfl | rfl
      · rw [link_commitWorld_same]; rfl
      · rw [link_commitWorld_other]
  by_cases hr : e.isRestart
  · obtain ⟨src, p, sq, rfl⟩ := hr.exists
    rcases restart_shape cfg w src p sq with h | ⟨_, l', h, _, _, hcp, _⟩ <;> rw [h]
    exact setLink src l' hcp
  · rw [step_link_same cfg w e hl hr]

/-- the restart of the event, if it is one, resumes at or behind the last unit its link committed -/
def ExactAt (w : World) : Ev → Prop
  | .restart src p _ => (w.link src).cpos ≤ p
  | _ => True

/-- every restart of the run is exact (what the commit records of SYNC mode give; pipeline and
    parallel mode may resume earlier, at the contiguous frontier) -/
def ExactRestarts (cfg : WCfg) : World → List Ev → Prop
  | _, [] => True
  | w, e :: es => ExactAt w e ∧ ExactRestarts cfg (stepWorld cfg w e) es

theorem restart_dueTags (w : World) (h : RInv w) (src : SiteId) (p : Nat) (hex : (w.link src).cpos ≤ p)
    (hguard : p ≤ (w.link src).pos) :
    dueTags (w.site src).stream (w.link src).cpos = dueTags (w.site src).stream p ∧
    dueTags (w.site src).stream p = dueTags (w.site src).stream (w.link src).pos := by
  have hsand := dueTags_sandwich _ _ _ _ hex hguard (h src).2
  exact ⟨hsand, hsand ▸ (h src).2⟩

theorem gstep (cfg : WCfg) (hf : FOK cfg.parser.filter) (w : World) (hg : GInv cfg w) (e : Ev)
    (hok : EvOK' cfg e) (hex : ExactAt w e) : GInv cfg (stepWorld cfg w e) := by
  refine ⟨?_, ttl_step cfg hf w hg.winv hg.ttl hg.cps e hok, ?_,
    fun s => (cp_step cfg hf w hg.winv e s).symm ▸ hg.cps s⟩
  · -- the block invariant: a restart is the one event `step_preserves` does not cover
    by_cases hr : e.isRestart
    · obtain ⟨src, p, sq, rfl⟩ := hr.exists
      rcases restart_shape cfg w src p sq with h | ⟨hguard, l', h, hpos, _, _, _, hhalt, hidle⟩ <;> rw [h]
      · exact hg.winv
      · exact winv_setLink cfg w hg.winv src l' hidle (hpos ▸ Nat.le_trans hguard (hg.winv.pos src))
          (hpos ▸ (restart_dueTags w hg.resume src p hex hguard).2) (fun _ he => by rw [hhalt] at he; cases he)
    · exact step_preserves cfg hf w hg.winv e (evOK_of cfg w hg.ttl e hok hr)
  · -- the resume position
    have setLink : ∀ src (l' : LinkSt), (l'.cpos ≤ l'.pos ∧
        dueTags (w.site src).stream l'.cpos = dueTags (w.site src).stream l'.pos) → RInv (w.setLink src l') := by
      intro src l' h t
      rw [site_setLink]
      exact forall_setLink w src l' (fun t l => l.cpos ≤ l.pos ∧
        dueTags (w.site t).stream l.cpos = dueTags (w.site t).stream l.pos) h hg.resume t
    have hr := hg.resume
    by_cases hl : e.isLink
    · obtain ⟨src, arg, rfl⟩ := hl.exists
      have hs := link_step_shape cfg hf w hg.winv src arg
      generalize stepWorld cfg w (.link src arg) = w' at hs
      cases hs with
      | stay _ => exact hr
      | skip tb pst' hget hd _ =>
        refine setLink src _ ⟨Nat.le_succ_of_le (hr src).1, ?_⟩
        show _ = dueTags _ ((w.link src).pos + 1)
        rw [dueTags_succ _ _ tb hget, hd]
        simpa using (hr src).2
      | halt tb e hget hd hlive => exact setLink src _ (hr src)
      | emit tb pst' em hget hd _ hcmds hlive =>
        intro t
        rcases eq_or_other src t with rfl | rfl
        · rw [link_commitWorld_same]
          exact ⟨Nat.le_refl _, rfl⟩
        · obtain ⟨ext, hext, _⟩ := stream_commitWorld_other cfg w src arg tb.tag pst' em
          rw [link_commitWorld_other, hext, dueTags_append _ _ _ (Nat.le_trans (hr _).1 (hg.winv.pos _)),
            dueTags_append _ _ _ (hg.winv.pos _)]
          exact hr _
    by_cases hre : e.isRestart
    · obtain ⟨src, p, sq, rfl⟩ := hre.exists
      rcases restart_shape cfg w src p sq with h | ⟨hguard, l', h, hpos, hcpos, _⟩ <;> rw [h]
      · exact hr
      · refine setLink src l' ?_
        rw [hpos, hcpos, Nat.min_eq_left hex]
        exact ⟨hex, (restart_dueTags w hr src p hex hguard).1⟩
    · -- streams grow, links stay
      intro s
      obtain ⟨ext, hext⟩ := step_stream_grows cfg hf w hg.winv e s
      rw [step_link_same cfg w e hl hre, hext, dueTags_append _ _ _ (Nat.le_trans (hr s).1 (hg.winv.pos s)),
        dueTags_append _ _ _ (hg.winv.pos s)]
      exact hr s

theorem grun (cfg : WCfg) (hf : FOK cfg.parser.filter) (evs : List Ev) (w : World) (hg : GInv cfg w)
    (hgood : GoodEvents cfg evs) (hex : ExactRestarts cfg w evs) : GInv cfg (runWorld cfg w evs) := by
  induction evs generalizing w with
  | nil => exact hg
  | cons e es ih =>
    exact ih _ (gstep cfg hf w hg e (hgood e (List.mem_cons_self ..)) hex.1)
      (fun e' he' => hgood e' (List.mem_cons_of_mem _ he')) hex.2

theorem content_grun (cfg : WCfg) (hf : FOK cfg.parser.filter) (evs : List Ev) (w : World) (hg : GInv cfg w)
    (hc : Content w) (hgood : GoodEvents cfg evs) (hex : ExactRestarts cfg w evs) : Content (runWorld cfg w evs) := by
  induction evs generalizing w with
  | nil => exact hc
  | cons e es ih =>
    exact ih _ (gstep cfg hf w hg e (hgood e (List.mem_cons_self ..)) hex.1) (content_step cfg hf w hg.winv hc e)
      (fun e' he' => hgood e' (List.mem_cons_of_mem _ he')) hex.2

/-! ### quiescence, restarts included -/

def Ev.isLinkOrRestart : Ev → Prop
  | .link _ _ => True
  | .restart _ _ _ => True
  | _ => False

theorem dueTags_eq_nodue (s : List TBlock) (p q : Nat) (h : p ≤ q) (heq : dueTags s p = dueTags s q) :
    ∀ tb ∈ (s.drop p).take (q - p), due tb = false := by
  unfold dueTags at heq
  rw [← Nat.add_sub_cancel' h, List.take_add, List.filter_append, List.map_append] at heq
  have hnil := List.map_eq_nil_iff.mp (List.self_eq_append_right.mp heq)
  intro tb htb
  cases hd : due tb with
  | false => rfl
  | true => exact absurd (List.mem_filter.mpr ⟨htb, hd⟩) (hnil ▸ List.not_mem_nil)

/-- once nothing a link still has to read is owed a commit, link steps AND
    restarts of either syncer change neither stream, nor the commit log, nor
    the emitted units -/
theorem gquiesce (cfg : WCfg) (hf : FOK cfg.parser.filter) (evs : List Ev) (w : World) (hg : GInv cfg w)
    (hnp : NoPending w) (hl : ∀ e ∈ evs, e.isLinkOrRestart) (hex : ExactRestarts cfg w evs) :
    (runWorld cfg w evs).a.stream = w.a.stream ∧ (runWorld cfg w evs).b.stream = w.b.stream ∧
    (runWorld cfg w evs).commits = w.commits ∧
    (∀ s, ((runWorld cfg w evs).link s).emitted = (w.link s).emitted) := by
  refine run_moves_links_only cfg (fun w evs => GInv cfg w ∧ NoPending w ∧ (∀ e ∈ evs, e.isLinkOrRestart) ∧
    ExactRestarts cfg w evs) ?_ evs w ⟨hg, hnp, hl, hex⟩
  intro w e es ⟨hg, hnp, hl, hex⟩
  -- either event only sets the link from some `src` to a record `l'` with the same emitted units,
  -- nothing owed behind its position
  obtain ⟨hok, src, l', hstep, hem, hnp'⟩ : EvOK' cfg e ∧ ∃ src l', stepWorld cfg w e = w.setLink src l' ∧
      l'.emitted = (w.link src).emitted ∧ ∀ tb ∈ (w.site src).stream.drop l'.pos, due tb = false := by
    cases e with
    | link src arg =>
      obtain ⟨l', hstep, hem, _, hpos⟩ := link_step_settled cfg hf w hg.winv src arg (.inr (hnp src))
      exact ⟨trivial, src, l', hstep, hem, fun tb htb => hnp src tb (mem_drop_of_le hpos htb)⟩
    | restart src p sq =>
      refine ⟨trivial, src, ?_⟩
      rcases restart_shape cfg w src p sq with h | ⟨hguard, l', h, hpos, _, _, hem, _⟩
      · exact ⟨w.link src, h.trans (setLink_self w src).symm, rfl, hnp src⟩
      · refine ⟨l', h, hem, fun tb htb => ?_⟩
        -- a restart resuming at `p`: nothing is owed between `p` and the old position
        rw [hpos, ← List.take_append_drop ((w.link src).pos - p) (List.drop p _), List.drop_drop,
          Nat.add_sub_cancel' hguard] at htb
        rcases List.mem_append.mp htb with h | h
        · exact dueTags_eq_nodue _ _ _ hguard (restart_dueTags w hg.resume src p hex.1 hguard).2 tb h
        · exact hnp src tb h
    | _ => exact (hl _ (List.mem_cons_self ..)).elim
  refine ⟨src, l', hstep, hem, hstep ▸ gstep cfg hf w hg e hok hex.1, fun s => ?_,
    fun e' he' => hl e' (List.mem_cons_of_mem _ he'), hstep ▸ hex.2⟩
  rw [site_setLink]
  rcases eq_or_other src s with rfl | rfl
  · rw [link_setLink_same]; exact hnp'
  · rw [link_setLink_other]; exact hnp _

theorem goodEvents_nil (cfg : WCfg) : GoodEvents cfg [] := fun _ he => nomatch he

theorem goodEvents_cons (cfg : WCfg) (e : Ev) (es : List Ev) (h : EvOK' cfg e) (hs : GoodEvents cfg es) :
    GoodEvents cfg (e :: es) := by
  intro e' he'
  rcases List.mem_cons.mp he' with rfl | h'
  · exact h
  · exact hs e' h'

/-! ### sites that start with data -/

theorem ginv_initWith (cfg : WCfg) (cpAB cpBA : Bytes) (sa sb : Store) (na nb : Nat)
    (hab : Slot.lbrace ∉ cpAB) (hba : Slot.lbrace ∉ cpBA) (ha : NsTtl sa) (hb : NsTtl sb) :
    GInv cfg (World.initWith cpAB cpBA sa sb na nb) where
  winv := winv_initWith cfg cpAB cpBA sa sb na nb
  ttl := by intro s; cases s; exact ha; exact hb
  resume := by intro s; cases s <;> exact ⟨Nat.le_refl _, rfl⟩
  cps := by intro s; cases s; exact hab; exact hba

theorem ginv_init (cfg : WCfg) (cpAB cpBA : Bytes) (hab : Slot.lbrace ∉ cpAB) (hba : Slot.lbrace ∉ cpBA) :
    GInv cfg (World.init cpAB cpBA) :=
  ginv_initWith cfg cpAB cpBA [] [] 0 0 hab hba nsTtl_nil nsTtl_nil

/-! ### what holds under ANY restart (also one that resumes before the last committed unit) -/

theorem setSite_commits (w : World) (c : List (Tag × SiteId)) (s : SiteId) (x : SiteSt) :
    ({ w with commits := c } : World).setSite s x = { w.setSite s x with commits := c } := by
  cases s <;> rfl
theorem setLink_commits (w : World) (c : List (Tag × SiteId)) (s : SiteId) (l : LinkSt) :
    ({ w with commits := c } : World).setLink s l = { w.setLink s l with commits := c } := by
  cases s <;> rfl
theorem execAt_commits (cfg : WCfg) (w : World) (c : List (Tag × SiteId)) (s : SiteId) (isTxn : Bool)
    (cmds : List Cmd) (tag : Tag) :
    execAt cfg { w with commits := c } s isTxn cmds tag = { execAt cfg w s isTxn cmds tag with commits := c } := by
  cases s <;> rfl

/-- **The commit log is only ever appended to**, and nothing else depends on it: prepending to the
    log commutes with every step. -/
theorem step_prepend (cfg : WCfg) (w : World) (c : List (Tag × SiteId)) (e : Ev) :
    stepWorld cfg { w with commits := c ++ w.commits } e =
      { stepWorld cfg w e with commits := c ++ (stepWorld cfg w e).commits } := by
  cases e with
  | client s isTxn cmds =>
    unfold stepWorld
    simp only [site_commits, setSite_commits, commits_setSite]
  | tick s dt =>
    unfold stepWorld
    simp only [site_commits, setSite_commits, commits_setSite]
  | expire s k =>
    unfold stepWorld
    simp only [site_commits, setSite_commits]
    split <;> simp only [commits_setSite]
  | link src arg =>
    unfold stepWorld
    simp only [site_commits, link_commits]
    split
    · rfl
    · split
      · rfl
      · split
        · simp only [setLink_commits, commits_setLink]
        · split
          · simp only [setLink_commits, commits_setLink]
          · simp only [setLink_commits, execAt_commits, commits_execAt, commits_setLink, List.append_assoc]
  | snapshot src cmds arg =>
    unfold stepWorld
    simp only [link_commits]
    split
    · rfl
    · simp only [execAt_commits, commits_execAt]
  | book src bk =>
    unfold stepWorld
    simp only [execAt_commits, commits_execAt]
  | toolRaw src isTxn cmds =>
    unfold stepWorld
    simp only [execAt_commits, commits_execAt]
  | restart src p sq =>
    unfold stepWorld
    simp only [site_commits, link_commits]
    split
    · simp only [setLink_commits, commits_setLink]
    · rfl

theorem step_with_commits (cfg : WCfg) (w : World) (c : List (Tag × SiteId)) (e : Ev) :
    stepWorld cfg { w with commits := c } e =
      { stepWorld cfg { w with commits := [] } e with
        commits := c ++ (stepWorld cfg { w with commits := [] } e).commits } := by
  have := step_prepend cfg { w with commits := [] } c e
  rwa [List.append_nil] at this

/-- the commit log the link positions alone account for -/
def normCommits (w : World) : List (Tag × SiteId) :=
  (dueTags w.a.stream w.ab.pos).map (fun t => (t, SiteId.B)) ++ (dueTags w.b.stream w.ba.pos).map (fun t => (t, SiteId.A))

def World.norm (w : World) : World := { w with commits := normCommits w }

theorem site_norm (w : World) (t : SiteId) : w.norm.site t = w.site t := site_commits w _ t
theorem link_norm (w : World) (t : SiteId) : w.norm.link t = w.link t := link_commits w _ t

theorem commitsAt_norm (w : World) (s : SiteId) :
    commitsAt w.norm s.other = dueTags (w.site s).stream (w.link s).pos := by
  unfold commitsAt World.norm normCommits
  have hAB : (SiteId.A == SiteId.B) = false := rfl
  have hBA : (SiteId.B == SiteId.A) = false := rfl
  have ftrue : ∀ l : List Tag, l.filter (fun _ => true) = l := fun l => List.filter_eq_self.mpr (fun _ _ => rfl)
  have ffalse : ∀ l : List Tag, l.filter (fun _ => false) = [] := fun l => List.filter_eq_nil_iff.mpr (fun _ _ => by simp)
  cases s <;> simp [SiteId.other, World.site, World.link, List.filter_map, Function.comp_def, hAB, hBA, ftrue, ffalse]

/-- the four state facts of `WInv` carry over to any world with the same sites and links;
    its `once` holds for the normalised log by construction -/
theorem winv_norm_of (cfg : WCfg) (w1 w2 : World) (h : WInv cfg w1) (hs : ∀ t, w2.site t = w1.site t)
    (hl : ∀ t, w2.link t = w1.link t) : WInv cfg w2.norm where
  blocks := by intro s tb htb; rw [site_norm, hs] at htb; exact h.blocks s tb htb
  idle := by intro s; rw [link_norm, hl]; exact h.idle s
  pos := by intro s; rw [link_norm, site_norm, hl, hs]; exact h.pos s
  once := by intro s; rw [commitsAt_norm, site_norm, link_norm]
  halt := by intro s e he; rw [link_norm, hl] at he; exact h.halt s e he

/-- **the invariant that survives every restart**: the state facts (every
    block the tool wrote is quiet for the opposite link, every client block is
    forwardable, parsers idle between blocks, stops only on the builder), all
    commits ever made come from client blocks, every client block a link has
    consumed has been committed at least once, the expiry invariant -/
structure LInv (cfg : WCfg) (w : World) : Prop where
  winv : WInv cfg w.norm
  foreign : ∀ t ∈ w.commits, isForeign t.1 = true
  sup : ∀ s, ∀ t ∈ dueTags (w.site s).stream (w.link s).pos, t ∈ commitsAt w s.other
  ttl : ∀ s, NsTtl (w.site s).store
  cps : ∀ s, Slot.lbrace ∉ (w.link s).cp
  content : Content w

theorem self_commits (w : World) : ({ w with commits := w.commits } : World) = w := rfl

theorem norm_as_with (w : World) : w.norm = { w with commits := normCommits w } := rfl

theorem commitsAt_append_list (w : World) (d : List (Tag × SiteId)) (dst : SiteId) :
    commitsAt { w with commits := w.commits ++ d } dst =
      commitsAt w dst ++ (d.filter (fun p => p.2 == dst)).map (·.1) := by
  unfold commitsAt
  simp [List.filter_append]

/-- a non-restart event: everything through the normalised shadow world `w.norm`, which satisfies
    the block invariant and differs from `w` in its commit log only -/
theorem lstep_other (cfg : WCfg) (hf : FOK cfg.parser.filter) (w : World) (hl : LInv cfg w) (e : Ev)
    (hok : EvOK' cfg e) (hnr : ¬ e.isRestart) : LInv cfg (stepWorld cfg w e) := by
  have httl' : ∀ s, NsTtl (w.norm.site s).store := fun s => by rw [site_norm]; exact hl.ttl s
  have hw1 : WInv cfg (stepWorld cfg w.norm e) := step_preserves cfg hf w.norm hl.winv e (evOK_of cfg w.norm httl' e hok hnr)
  -- both steps are the step from the empty log, up to the log: `d` is what the event commits
  generalize hd : (stepWorld cfg { w with commits := [] } e).commits = d
  have e1 : stepWorld cfg w e = { stepWorld cfg { w with commits := [] } e with commits := w.commits ++ d } :=
    hd ▸ step_with_commits cfg w w.commits e
  have e2 : stepWorld cfg w.norm e = { stepWorld cfg { w with commits := [] } e with commits := normCommits w ++ d } :=
    hd ▸ step_with_commits cfg w (normCommits w) e
  have hs : ∀ t, (stepWorld cfg w e).site t = (stepWorld cfg w.norm e).site t := fun t => by
    rw [e1, e2]; exact (site_commits _ _ t).trans (site_commits _ _ t).symm
  have hlk : ∀ t, (stepWorld cfg w e).link t = (stepWorld cfg w.norm e).link t := fun t => by
    rw [e1, e2]; exact (link_commits _ _ t).trans (link_commits _ _ t).symm
  have hc : ∀ s, commitsAt (stepWorld cfg w e) s = commitsAt w s ++ (d.filter (fun p => p.2 == s)).map (·.1) := fun s => by
    rw [e1]; unfold commitsAt; simp [List.filter_append]
  -- the appended commits, read off the shadow world where `once` holds before and after
  have hdelta : ∀ s, dueTags ((stepWorld cfg w e).site s).stream ((stepWorld cfg w e).link s).pos =
      dueTags (w.site s).stream (w.link s).pos ++ (d.filter (fun p => p.2 == s.other)).map (·.1) := by
    intro s
    rw [hs, hlk, ← hw1.once s, ← commitsAt_norm, e2]
    unfold commitsAt
    simp [List.filter_append, World.norm]
  refine ⟨winv_norm_of cfg _ _ hw1 hs hlk, fun t ht => ?_, fun s t ht => ?_, fun s => ?_, fun s => ?_, fun s p hp => ?_⟩
  · rw [e1] at ht
    rcases List.mem_append.mp ht with h | h
    · exact hl.foreign t h
    · -- a new commit for `t.2` is a new due tag of the link towards `t.2`
      have hmem : t.1 ∈ (d.filter (fun p => p.2 == t.2)).map (·.1) :=
        List.mem_map.mpr ⟨t, List.mem_filter.mpr ⟨h, by simp⟩, rfl⟩
      have hd' := hdelta t.2.other
      rw [other_other] at hd'
      exact dueTags_foreign _ _ _ (hd' ▸ List.mem_append_right _ hmem)
  · rw [hdelta s] at ht
    rw [hc]
    exact (List.mem_append.mp ht).elim (fun h => List.mem_append_left _ (hl.sup s t h)) (List.mem_append_right _)
  · rw [hs]
    exact ttl_step cfg hf w.norm hl.winv httl' (fun t => by rw [link_norm]; exact hl.cps t) e hok s
  · rw [hlk, cp_step cfg hf w.norm hl.winv e s, link_norm]
    exact hl.cps s
  · have hcn : Content w.norm := fun s p hp => by
      rw [link_norm] at hp
      rw [site_norm]
      exact hl.content s p hp
    rw [hlk] at hp
    rw [hs]
    exact content_step cfg hf w.norm hl.winv hcn e s p hp

/-- ANY restart: resume at any block already reached, also before the last committed unit -/
theorem lstep_restart (cfg : WCfg) (w : World) (hl : LInv cfg w) (src : SiteId) (p : Nat) (sq : Nat) :
    LInv cfg (stepWorld cfg w (.restart src p sq)) := by
  rcases restart_shape cfg w src p sq with h | ⟨hguard, l', h, hpos, _, hcp, hem, hhalt, hidle⟩ <;> rw [h]
  · exact hl
  · have hw := hl.winv
    have setLink : ∀ (P : LinkSt → Prop) l', P l' → (∀ t, P (w.link t)) → ∀ t, P ((w.setLink src l').link t) :=
      fun P l' => forall_setLink w src l' (fun _ => P)
    refine ⟨⟨fun s tb htb => ?_, fun s => ?_, fun s => ?_, fun s => ?_, fun s e he => ?_⟩, fun t ht => ?_,
      fun s t ht => ?_, fun s => ?_, ?_, fun s q hq => ?_⟩
    · rw [site_norm, site_setLink, ← site_norm] at htb
      exact hw.blocks s tb htb
    · rw [link_norm]
      exact setLink (fun l => Idle l.pst) l' hidle (fun t => link_norm w t ▸ hw.idle t) s
    · rw [link_norm, site_norm, site_setLink]
      have := hw.pos src
      rw [link_norm, site_norm] at this
      rcases eq_or_other src s with rfl | rfl
      · rw [link_setLink_same, hpos]; exact Nat.le_trans hguard this
      · rw [link_setLink_other]
        have := hw.pos src.other
        rwa [link_norm, site_norm] at this
    · rw [commitsAt_norm, site_norm, link_norm]
    · rw [link_norm] at he
      revert he
      exact setLink (fun l => l.halted = some e → ∃ be, e = .build be) l' (fun h => by rw [hhalt] at h; cases h)
        (fun t => link_norm w t ▸ hw.halt t e) s
    · rw [commits_setLink] at ht
      exact hl.foreign t ht
    · rw [commitsAt_setLink]
      rw [site_setLink] at ht
      rcases eq_or_other src s with rfl | rfl
      · rw [link_setLink_same, hpos] at ht
        obtain ⟨ext, hext⟩ := dueTags_le (w.site src).stream p (w.link src).pos hguard
        exact hl.sup src t (hext ▸ List.mem_append_left _ ht)
      · rw [link_setLink_other] at ht
        exact hl.sup _ t ht
    · rw [site_setLink]; exact hl.ttl s
    · exact setLink (fun l => Slot.lbrace ∉ l.cp) l' (hcp ▸ hl.cps src) hl.cps
    · rw [site_setLink]
      rcases eq_or_other src s with rfl | rfl
      · rw [link_setLink_same, hem] at hq; exact hl.content _ q hq
      · rw [link_setLink_other] at hq; exact hl.content _ q hq

theorem lstep (cfg : WCfg) (hf : FOK cfg.parser.filter) (w : World) (hl : LInv cfg w) (e : Ev)
    (hok : EvOK' cfg e) : LInv cfg (stepWorld cfg w e) := by
  by_cases hr : e.isRestart
  · obtain ⟨src, p, sq, rfl⟩ := hr.exists
    exact lstep_restart cfg w hl src p sq
  · exact lstep_other cfg hf w hl e hok hr

theorem lrun (cfg : WCfg) (hf : FOK cfg.parser.filter) (evs : List Ev) (w : World) (hl : LInv cfg w)
    (hgood : GoodEvents cfg evs) : LInv cfg (runWorld cfg w evs) := by
  induction evs generalizing w with
  | nil => exact hl
  | cons e es ih =>
    exact ih _ (lstep cfg hf w hl e (hgood e (List.mem_cons_self ..))) (fun e' he' => hgood e' (List.mem_cons_of_mem _ he'))

theorem linv_initWith (cfg : WCfg) (cpAB cpBA : Bytes) (sa sb : Store) (na nb : Nat)
    (hab : Slot.lbrace ∉ cpAB) (hba : Slot.lbrace ∉ cpBA) (ha : NsTtl sa) (hb : NsTtl sb) :
    LInv cfg (World.initWith cpAB cpBA sa sb na nb) where
  winv := winv_norm_of cfg _ _ (winv_initWith cfg cpAB cpBA sa sb na nb) (fun _ => rfl) (fun _ => rfl)
  foreign := by intro t ht; cases ht
  sup := by intro s t ht; cases s <;> cases ht
  ttl := by intro s; cases s; exact ha; exact hb
  cps := by intro s; cases s; exact hab; exact hba
  content := content_initWith cpAB cpBA sa sb na nb

theorem initWith_nil (cpAB cpBA : Bytes) : World.initWith cpAB cpBA [] [] 0 0 = World.init cpAB cpBA := rfl

instance (w : World) (e : Ev) : Decidable (ExactAt w e) := by
  cases e <;> unfold ExactAt <;> infer_instance

instance decExactRestarts (cfg : WCfg) : ∀ (w : World) (evs : List Ev), Decidable (ExactRestarts cfg w evs)
  | _, [] => isTrue trivial
  | w, e :: es =>
    have := decExactRestarts cfg (stepWorld cfg w e) es
    show Decidable (ExactAt w e ∧ ExactRestarts cfg (stepWorld cfg w e) es) from inferInstance

end GunYu.Bisync
