/-
  `%x` rendering used in the etcd election key (`prefix ++ hex(lease id)`):
  round trip, hence injectivity; every rendered byte is a digit, so neither 0
  nor '/'. Hence the election key of a session is never empty, never `"\x00"`,
  and different sessions have different keys under one prefix.
-/
import GunYu.Model.EtcdLease


namespace GunYu.Etcd
open GunYu

def hexVal (b : UInt8) : Nat := if b.toNat < 58 then b.toNat - 48 else b.toNat - 87

def hexStepF (acc : Nat) (b : UInt8) : Nat := acc * 16 + hexVal b

theorem hexDigit_toNat (n : Nat) (h : n < 16) :
    (hexDigit n).toNat = if n < 10 then 48 + n else 87 + n := by
  unfold hexDigit
  by_cases h10 : n < 10
  · simp only [h10, ↓reduceIte, UInt8.toNat_ofNat']; omega
  · simp only [h10, ↓reduceIte, UInt8.toNat_ofNat']; omega

theorem hexVal_hexDigit (n : Nat) (h : n < 16) : hexVal (hexDigit n) = n := by
  unfold hexVal
  rw [hexDigit_toNat n h]
  by_cases h10 : n < 10
  · simp only [h10, ↓reduceIte]
    have : 48 + n < 58 := by omega
    simp only [this, ↓reduceIte]; omega
  · simp only [h10, ↓reduceIte]
    have : ¬ 87 + n < 58 := by omega
    simp only [this, ↓reduceIte]; omega

theorem hexDigit_ne_of_lt {n : Nat} (h : n < 16) {c : UInt8} (hc : c.toNat < 48) : hexDigit n ≠ c := by
  intro h0
  have := hexDigit_toNat n h
  rw [h0] at this
  split at this <;> omega

theorem natToHexAux_foldl (fuel n : Nat) (acc : Bytes) (h : n < fuel) :
    (natToHexAux fuel n acc).foldl hexStepF 0 = acc.foldl hexStepF n := by
  induction fuel generalizing n acc with
  | zero => omega
  | succ f ih =>
    have hm : n % 16 < 16 := Nat.mod_lt _ (by decide)
    simp only [natToHexAux]
    split
    · rename_i h0
      simp only [List.foldl_cons, hexStepF, hexVal_hexDigit _ hm]
      congr 1; omega
    · rename_i h0
      rw [ih _ _ (by omega)]
      simp only [List.foldl_cons, hexStepF, hexVal_hexDigit _ hm]
      congr 1; omega

theorem natToHex_foldl (n : Nat) : (natToHex n).foldl hexStepF 0 = n := by
  have := natToHexAux_foldl (n + 1) n [] (by omega)
  simpa [natToHex] using this

theorem natToHex_inj {a b : Nat} (h : natToHex a = natToHex b) : a = b := by
  have ha := natToHex_foldl a
  have hb := natToHex_foldl b
  rw [h] at ha
  omega

theorem natToHexAux_ne_nil (fuel n : Nat) (acc : Bytes) (h : n < fuel) :
    natToHexAux fuel n acc ≠ [] := by
  induction fuel generalizing n acc with
  | zero => omega
  | succ f ih =>
    simp only [natToHexAux]
    split
    · simp
    · apply ih; omega

theorem natToHex_ne_nil (n : Nat) : natToHex n ≠ [] :=
  natToHexAux_ne_nil (n + 1) n [] (by omega)

theorem natToHexAux_all (P : UInt8 → Prop) (hd : ∀ n, n < 16 → P (hexDigit n)) (fuel n : Nat) (acc : Bytes)
    (hacc : ∀ b ∈ acc, P b) : ∀ b ∈ natToHexAux fuel n acc, P b := by
  induction fuel generalizing n acc with
  | zero => simpa [natToHexAux] using hacc
  | succ f ih =>
    have hacc' : ∀ b ∈ hexDigit (n % 16) :: acc, P b := by
      intro b hb
      rcases List.mem_cons.1 hb with rfl | hb
      · exact hd _ (Nat.mod_lt _ (by decide))
      · exact hacc b hb
    simp only [natToHexAux]
    split
    · exact hacc'
    · exact ih _ _ hacc'

theorem natToHex_ne (n : Nat) {c : UInt8} (hc : c.toNat < 48) : ∀ b ∈ natToHex n, b ≠ c :=
  natToHexAux_all (· ≠ c) (fun _ h => hexDigit_ne_of_lt h hc) (n + 1) n [] (by simp)

theorem keyOf_eq (p : Bytes) (L : Nat) : keyOf p L = p ++ natToHex L := rfl

theorem keyOf_inj {p : Bytes} {L1 L2 : Nat} (h : keyOf p L1 = keyOf p L2) : L1 = L2 := by
  rw [keyOf_eq, keyOf_eq] at h
  exact natToHex_inj (List.append_cancel_left h)

theorem keyOf_ne_nil (p : Bytes) (L : Nat) : keyOf p L ≠ [] := by
  rw [keyOf_eq]
  intro h
  exact natToHex_ne_nil L (List.append_eq_nil_iff.1 h).2

theorem keyOf_ne_nul (p : Bytes) (L : Nat) : keyOf p L ≠ nulKey := by
  rw [keyOf_eq]
  intro h
  -- the key ends in a hex digit, and the only byte of "\x00" is 0
  cases hx : natToHex L with
  | nil => exact natToHex_ne_nil L hx
  | cons x xs =>
    have hmem : x ∈ natToHex L := by rw [hx]; exact List.mem_cons_self
    have h0 : x ∈ nulKey := by rw [← h]; exact List.mem_append_right _ hmem
    exact natToHex_ne L (c := 0) (by decide) x hmem (by simpa [nulKey] using h0)

theorem keyOf_prefix (p : Bytes) (L : Nat) : p.isPrefixOf (keyOf p L) = true := by
  rw [keyOf_eq]
  simp [List.isPrefixOf_iff_prefix]

end GunYu.Etcd
