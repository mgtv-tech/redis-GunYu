/-
  Helper lemmas for C18: the cluster client's transaction batcher (`txnPut`,
  `txnPutAll`) accepts exactly the single-slot routable lists of plain commands.
  One Put is characterised for any batcher state (`txnPut_plain_iff`); the
  statements for a fresh batcher and for one whose slot is fixed follow.
-/
import GunYu.Proofs.BisyncUnit
import GunYu.Model.ClusterNodes

namespace GunYu.BisyncUnit
open GunYu GunYu.Slot

/-- a command `chooseNodeWithCmdAndKeys` routes through the key-spec path -/
def Plain (c : Cmd) : Prop := upperName c.name ∉ specialRouted ∧ c.args ≠ []

/-- every slot has an owner in the client's slot map -/
def Covered (cv : ClusterView) : Prop := ∀ s, s < 16384 → ∃ n, cv.owner s = some n

theorem clusterHash_lt (k : Bytes) : clusterHash k < 16384 := by
  rw [Props.C11.clusterHash_eq_spec]; exact hashSlotSpec_lt k

theorem clusterResolve_eq (cv : ClusterView) (c : Cmd) :
    clusterResolve cv c.name c.args =
      match resolverWith cv.getKeys c.name c.args with
      | .err => .error .other
      | .notOk => .ok none
      | .ok ks => .ok (some ks) := by
  unfold clusterResolve resolverWith
  cases commandKeys c.name c.args with
  | some ks => rfl
  | none =>
    simp only
    cases cv.getKeys c.name c.args with
    | err => rfl
    | none => rfl
    | keys ks =>
      simp only
      cases ks <;> rfl

theorem plain_flags {c : Cmd} (h : Plain c) :
    (upperName c.name == uPing || upperName c.name == uCluster || upperName c.name == uInfo) = false ∧
    (upperName c.name == uSelect) = false ∧ (upperName c.name == uMget) = false ∧
    (upperName c.name == uMset || upperName c.name == uMsetnx) = false ∧
    (upperName c.name == uMulti || upperName c.name == uExec) = false ∧ c.args.isEmpty = false := by
  obtain ⟨h1, h2⟩ := h
  simp only [specialRouted, List.mem_cons, List.not_mem_nil, or_false, not_or] at h1
  obtain ⟨a1, a2, a3, a4, a5, a6, a7, a8, a9⟩ := h1
  refine ⟨?_, ?_, ?_, ?_, ?_, ?_⟩
  · simp [a1, a2, a3]
  · simp [a4]
  · simp [a5]
  · simp [a6, a7]
  · simp [a8, a9]
  · cases hc : c.args with
    | nil => exact absurd hc h2
    | cons _ _ => rfl

theorem sameNodeLoop_ok_of_slot (cv : ClusterView) (n s : Nat) (hn : cv.owner s = some n)
    (ks : List Bytes) (h : ∀ k ∈ ks, clusterHash k = s) : sameNodeLoop cv n ks = .ok () := by
  induction ks with
  | nil => rfl
  | cons k ks ih =>
    have hk := h k (by simp)
    simp only [sameNodeLoop, nodeOfKey, hk, hn]
    have : (n != n) = false := by simp
    rw [this]
    simp only [Bool.false_eq_true, ↓reduceIte]
    exact ih (fun k' hk' => h k' (List.mem_cons_of_mem _ hk'))

/-- chooseNode on a plain command: an error unless the resolver names keys;
    then a route whose key list is the resolver's -/
theorem chooseNode_plain (cv : ClusterView) (anyNode : Option Nat) (c : Cmd) (hp : Plain c) :
    chooseNode cv anyNode c =
      match resolverWith cv.getKeys c.name c.args with
      | .err => .error .other
      | .notOk => .error .other
      | .ok [] => .error .other
      | .ok (k :: ks) =>
        match nodeOfKey cv k with
        | none => .error .other
        | some n =>
          match sameNodeLoop cv n ks with
          | .error e => .error e
          | .ok _ => .ok (.route n (k :: ks)) := by
  obtain ⟨f1, f2, f3, f4, f5, f6⟩ := plain_flags hp
  unfold chooseNode
  simp only [f1, f2, f3, f4, f5, f6, Bool.false_eq_true, ↓reduceIte]
  rw [clusterResolve_eq]
  cases resolverWith cv.getKeys c.name c.args with
  | err => rfl
  | notOk => rfl
  | ok ks =>
    cases ks with
    | nil => rfl
    | cons k ks => rfl

theorem txnPut_eq_route (cv : ClusterView) (anyNode : Option Nat) (t : Txn) (c : Cmd) :
    txnPut cv anyNode t c =
      match chooseNode cv anyNode c with
      | .error e => .error e
      | .ok .skip => .ok t
      | .ok (.route node keys) => txnPutRoute t c node keys := by
  unfold txnPut txnPutRoute
  cases chooseNode cv anyNode c with
  | error e => rfl
  | ok ch => cases ch <;> rfl

theorem txnPutRoute_ok_iff (t t' : Txn) (c : Cmd) (node : Nat) (k : Bytes) (ks : List Bytes) :
    txnPutRoute t c node (k :: ks) = .ok t' ↔
      (∀ k' ∈ ks, clusterHash k' = clusterHash k) ∧ (∀ s, t.slot = some s → s = clusterHash k) ∧
        node = t.node.getD node ∧
        { node := some node, slot := some (clusterHash k), cmds := t.cmds ++ [c] } = t' := by
  by_cases hks : ∀ k' ∈ ks, clusterHash k' = clusterHash k
  · have hany : (ks.any fun k' => clusterHash k' != clusterHash k) = false := by simpa using hks
    refine Iff.trans ?_ (and_iff_right hks).symm
    simp only [txnPutRoute, hany]
    by_cases hn : node = t.node.getD node
    · cases hs : t.slot with
      | none => simp [← hn]
      | some s => by_cases hsl : s = clusterHash k <;> simp [← hn, hsl]
    · cases hs : t.slot with
      | none => simp [hn]
      | some s => by_cases hsl : s = clusterHash k <;> simp [hn, hsl]
  · have hany : (ks.any fun k' => clusterHash k' != clusterHash k) = true := by simpa using hks
    simp [txnPutRoute, hany, hks]

theorem txnPut_plain_iff (cv : ClusterView) (hcov : Covered cv) (anyNode : Option Nat) (t t' : Txn) (c : Cmd)
    (hp : Plain c) :
    txnPut cv anyNode t c = .ok t' ↔
      ∃ k ks n, resolverWith cv.getKeys c.name c.args = .ok (k :: ks) ∧ cv.owner (clusterHash k) = some n ∧
        (∀ k' ∈ ks, clusterHash k' = clusterHash k) ∧ (∀ s, t.slot = some s → s = clusterHash k) ∧
        n = t.node.getD n ∧ { node := some n, slot := some (clusterHash k), cmds := t.cmds ++ [c] } = t' := by
  rw [txnPut_eq_route, chooseNode_plain cv anyNode c hp]
  cases hr : resolverWith cv.getKeys c.name c.args with
  | err => simp
  | notOk => simp
  | ok keys =>
    cases keys with
    | nil => simp
    | cons k ks =>
      obtain ⟨n, hn⟩ := hcov (clusterHash k) (clusterHash_lt k)
      simp only [nodeOfKey, hn]
      constructor
      · intro h
        cases hl : sameNodeLoop cv n ks with
        | error e => rw [hl] at h; cases h
        | ok _ => rw [hl] at h; exact ⟨k, ks, n, rfl, hn, (txnPutRoute_ok_iff ..).mp h⟩
      · rintro ⟨_, _, n', ⟨⟩, hn', h⟩
        obtain rfl : n = n' := Option.some.inj (hn.symm.trans hn')
        rw [sameNodeLoop_ok_of_slot cv n _ hn ks h.1]
        exact (txnPutRoute_ok_iff ..).mpr h

/-- batcher state after some accepted commands: slot and node fixed together -/
def TKnown (cv : ClusterView) (t : Txn) (s : Nat) : Prop :=
  t.slot = some s ∧ t.node = cv.owner s ∧ (∃ n, cv.owner s = some n)

theorem txnPut_known (cv : ClusterView) (hcov : Covered cv) (anyNode : Option Nat) (t : Txn) (s : Nat)
    (ht : TKnown cv t s) (c : Cmd) (hp : Plain c) (t' : Txn) :
    txnPut cv anyNode t c = .ok t' ↔
      Routable (resolverWith cv.getKeys) c ∧
      (∀ k ∈ resolvedKeys (resolverWith cv.getKeys) c, clusterHash k = s) ∧
      t' = { t with cmds := t.cmds ++ [c] } := by
  obtain ⟨hs, hnode, n0, hn0⟩ := ht
  rw [txnPut_plain_iff cv hcov anyNode t t' c hp]
  constructor
  · rintro ⟨k, ks, n, hr, hn, hks, hslot, -, rfl⟩
    obtain rfl := hslot s hs
    rw [resolvedKeys_of_ok hr]
    refine ⟨⟨_, hr, List.cons_ne_nil _ _⟩, ?_, by rw [hs, hnode, hn]⟩
    intro k' hk'
    rcases List.mem_cons.mp hk' with rfl | hk'
    · rfl
    · exact hks k' hk'
  · rintro ⟨⟨keys, hr, hne⟩, hkeys, rfl⟩
    obtain ⟨k, ks, rfl⟩ := List.exists_cons_of_ne_nil hne
    rw [resolvedKeys_of_ok hr] at hkeys
    obtain rfl : clusterHash k = s := hkeys k List.mem_cons_self
    refine ⟨k, ks, n0, hr, hn0, fun k' hk' => hkeys k' (List.mem_cons_of_mem _ hk'),
      fun s' hs' => Option.some.inj (hs'.symm.trans hs), by rw [hnode, hn0]; rfl, by rw [hs, hnode, hn0]⟩

theorem tknown_after (cv : ClusterView) (t : Txn) (s : Nat) (ht : TKnown cv t s) (c : Cmd) :
    TKnown cv { t with cmds := t.cmds ++ [c] } s := ht

theorem txnPutAll_cons_ok_iff (cv : ClusterView) (anyNode : Option Nat) (t t' : Txn) (c : Cmd) (cs : List Cmd) :
    txnPutAll cv anyNode t (c :: cs) = .ok t' ↔
      ∃ t1, txnPut cv anyNode t c = .ok t1 ∧ txnPutAll cv anyNode t1 cs = .ok t' := by
  rw [txnPutAll]
  cases txnPut cv anyNode t c with
  | error e => exact ⟨nofun, fun ⟨_, h, _⟩ => nomatch h⟩
  | ok t1 => exact ⟨fun h => ⟨t1, rfl, h⟩, fun ⟨_, h1, h⟩ => Except.ok.inj h1 ▸ h⟩

theorem txnPutAll_known (cv : ClusterView) (hcov : Covered cv) (anyNode : Option Nat) (cmds : List Cmd)
    (hp : ∀ c ∈ cmds, Plain c) (t : Txn) (s : Nat) (ht : TKnown cv t s) (t' : Txn) :
    txnPutAll cv anyNode t cmds = .ok t' ↔
      (∀ c ∈ cmds, Routable (resolverWith cv.getKeys) c) ∧
      (∀ k ∈ allKeys (resolverWith cv.getKeys) cmds, clusterHash k = s) ∧
      t' = { t with cmds := t.cmds ++ cmds } := by
  induction cmds generalizing t with
  | nil => simp [txnPutAll, allKeys, eq_comm]
  | cons c cs ih =>
    obtain ⟨hpc, hpcs⟩ := List.forall_mem_cons.mp hp
    rw [txnPutAll_cons_ok_iff, allKeys_cons, List.forall_mem_cons, List.forall_mem_append]
    constructor
    · rintro ⟨t1, h1, h2⟩
      obtain ⟨a1, a2, rfl⟩ := (txnPut_known cv hcov anyNode t s ht c hpc t1).mp h1
      obtain ⟨b1, b2, rfl⟩ := (ih hpcs _ (tknown_after cv t s ht c)).mp h2
      exact ⟨⟨a1, b1⟩, ⟨a2, b2⟩, by simp⟩
    · rintro ⟨⟨a1, b1⟩, ⟨a2, b2⟩, rfl⟩
      exact ⟨_, (txnPut_known cv hcov anyNode t s ht c hpc _).mpr ⟨a1, a2, rfl⟩,
        (ih hpcs _ (tknown_after cv t s ht c)).mpr ⟨b1, b2, by simp⟩⟩

/-- the first accepted command fixes slot and node -/
theorem txnPut_fresh (cv : ClusterView) (hcov : Covered cv) (anyNode : Option Nat) (c : Cmd) (hp : Plain c)
    (t' : Txn) :
    txnPut cv anyNode {} c = .ok t' ↔
      ∃ k ks, resolverWith cv.getKeys c.name c.args = .ok (k :: ks) ∧
        (∀ k' ∈ ks, clusterHash k' = clusterHash k) ∧
        t' = { node := cv.owner (clusterHash k), slot := some (clusterHash k), cmds := [c] } := by
  rw [txnPut_plain_iff cv hcov anyNode {} t' c hp]
  constructor
  · rintro ⟨k, ks, n, hr, hn, hks, -, -, rfl⟩
    exact ⟨k, ks, hr, hks, by rw [hn]; rfl⟩
  · rintro ⟨k, ks, hr, hks, rfl⟩
    obtain ⟨n, hn⟩ := hcov (clusterHash k) (clusterHash_lt k)
    exact ⟨k, ks, n, hr, hn, hks, nofun, rfl, by rw [hn]; rfl⟩

/-- The batcher accepts a non-empty list of plain commands exactly when every
    command is routable and all keys share one `cluster.hash` value; it then
    holds exactly those commands. -/
theorem txnPutAll_fresh (cv : ClusterView) (hcov : Covered cv) (anyNode : Option Nat) (c : Cmd)
    (cs : List Cmd) (hp : ∀ c' ∈ c :: cs, Plain c') (t' : Txn) :
    txnPutAll cv anyNode {} (c :: cs) = .ok t' ↔
      (∀ c' ∈ c :: cs, Routable (resolverWith cv.getKeys) c') ∧
      (∃ s, (∀ k ∈ allKeys (resolverWith cv.getKeys) (c :: cs), clusterHash k = s) ∧
        t' = { node := cv.owner s, slot := some s, cmds := c :: cs }) := by
  obtain ⟨hpc, hpcs⟩ := List.forall_mem_cons.mp hp
  rw [txnPutAll_cons_ok_iff, allKeys_cons, List.forall_mem_cons]
  constructor
  · rintro ⟨t1, h1, h2⟩
    obtain ⟨k, ks, hr, hks, rfl⟩ := (txnPut_fresh cv hcov anyNode c hpc t1).mp h1
    obtain ⟨b1, b2, rfl⟩ := (txnPutAll_known cv hcov anyNode cs hpcs _ (clusterHash k)
      ⟨rfl, rfl, hcov _ (clusterHash_lt k)⟩ t').mp h2
    rw [resolvedKeys_of_ok hr]
    refine ⟨⟨⟨_, hr, List.cons_ne_nil _ _⟩, b1⟩, clusterHash k, List.forall_mem_append.mpr ⟨?_, b2⟩, rfl⟩
    exact List.forall_mem_cons.mpr ⟨rfl, hks⟩
  · rintro ⟨⟨⟨keys, hr, hne⟩, b1⟩, s, hkeys, rfl⟩
    obtain ⟨k, ks, rfl⟩ := List.exists_cons_of_ne_nil hne
    rw [resolvedKeys_of_ok hr, List.forall_mem_append, List.forall_mem_cons] at hkeys
    obtain ⟨⟨rfl, hks⟩, b2⟩ := hkeys
    exact ⟨_, (txnPut_fresh cv hcov anyNode c hpc _).mpr ⟨k, ks, hr, hks, rfl⟩,
      (txnPutAll_known cv hcov anyNode cs hpcs _ (clusterHash k) ⟨rfl, rfl, hcov _ (clusterHash_lt k)⟩ _).mpr
        ⟨b1, b2, rfl⟩⟩

end GunYu.BisyncUnit
