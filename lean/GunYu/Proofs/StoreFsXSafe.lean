/-
  C08, extended operation set: the snapshot side needs no source. Every operation
  of a script with faults that takes effect is safe for committed snapshot files
  (`RdbSafeP`): a committed name appears only by the rename of a temporary file
  that holds exactly the bytes received.
-/
import GunYu.Proofs.StoreFsXScript

namespace GunYu.StoreFsX
open GunYu GunYu.Store GunYu.StoreFs

structure StepSafe (P : Nat → Nat → Bytes → Prop) (s : XDisk) (r : XDisk × List Att) : Prop where
  fsEq : r.1.fs = s.fs.applyAll (okOps r.2)
  safe : Pos (RdbSafeP P) s.fs (okOps r.2)
  tmp : TmpRel r.1.d r.1.fs

theorem StepSafe.mk' {P : Nat → Nat → Bytes → Prop} {s : XDisk} {d' : Disk} {fs' : FS}
    {z' : List Nat} {atts : List Att} (hfs : fs' = s.fs.applyAll (okOps atts))
    (hs : Pos (RdbSafeP P) s.fs (okOps atts)) (ht : TmpRel d' fs') : StepSafe P s (⟨d', fs', z'⟩, atts) := ⟨hfs, hs, ht⟩

theorem StepSafe.seq {P : Nat → Nat → Bytes → Prop} {s s1 : XDisk} {r2 : XDisk × List Att}
    {ops1 : List FsOp} {fails : List Att} (hfs : s1.fs = s.fs.applyAll ops1)
    (hs1 : Pos (RdbSafeP P) s.fs ops1) (hfails : okOps fails = []) (h2 : StepSafe P s1 r2) :
    StepSafe P s (r2.1, allOk ops1 ++ fails ++ r2.2) :=
  have hs := Pos.seq hfs hs1 hfails h2.fsEq h2.safe
  ⟨hs.1, hs.2, h2.tmp⟩

theorem gc_atts_safe {P : Nat → Nat → Bytes → Prop} (s : XDisk) (htmp : TmpRel s.d s.fs) {atts : List Att}
    (hsub : ∀ o ∈ okOps atts, o ∈ gcOpsZ s.d s.zombies) {z' : List Nat} :
    StepSafe P s (⟨gcZ s.d s.zombies, s.fs.applyAll (okOps atts), z'⟩, atts) := by
  refine StepSafe.mk' rfl ?_ ?_
  · exact Pos.ofAll (fun o ho fs' => by
      rcases gcOpsZ_mem (hsub o ho) with ⟨l, sz, rfl⟩ | ⟨g, _, rfl⟩ <;> trivial)
  · apply tmpRel_frame htmp (fun r hr _ => gcZ_rdb_keep _ _ r hr)
    intro o ho l sz
    rcases gcOpsZ_mem (hsub o ho) with ⟨l', sz', rfl⟩ | ⟨x, _, rfl⟩
    · simp [FsOp.names, rdbTmpName, rdbName]
    · simp [FsOp.names, rdbTmpName, aofName]

theorem xbase_safe {P : Nat → Nat → Bytes → Prop} (s : XDisk) (o : DOp) (htmp : TmpRel s.d s.fs) (hok : s.d.okOp o)
    (hP : ∀ r chunk, o = .rdbAppend chunk → s.d.rdb = some r → r.writing = true →
      r.data.length + chunk.length = r.size → P r.left r.size (r.data ++ chunk)) :
    StepSafe P s (xbase s o) := by
  by_cases h2 : o = .gc
  · subst h2
    have := gc_atts_safe (P := P) s htmp (atts := allOk (gcOpsZ s.d s.zombies))
      (z' := zKeep s.zombies (gcZ s.d s.zombies)) (by rw [okOps_allOk]; exact fun _ h => h)
    rwa [okOps_allOk] at this
  · by_cases h1 : ∃ off size, o = .newRdbWriter off size
    · obtain ⟨off, size, rfl⟩ := h1
      unfold xbase
      simp only [baseOps, baseDisk]
      exact StepSafe.mk' (by rw [okOps_allOk]) (by rw [okOps_allOk]; exact (newRdbWriter_safe s off size).1)
        (newRdbWriter_safe (P := P) s off size).2
    · obtain ⟨e1, e2⟩ := base_generic s o (fun off size e => h1 ⟨off, size, e⟩) h2
      obtain ⟨hsafe, htmp'⟩ := fsOps_step P s.d s.fs o hok htmp hP
      unfold xbase
      simp only [e1, e2]
      exact StepSafe.mk' (by rw [okOps_allOk]) (by rw [okOps_allOk]; exact hsafe) htmp'

theorem onAof_safe {P : Nat → Nat → Bytes → Prop} (s : XDisk) (htmp : TmpRel s.d s.fs) (l : Nat) (ops : List FsOp)
    (hon : OnAof l ops) (d' : Disk) (hrdb : d'.rdb = s.d.rdb) (z' : List Nat) (fails : List Att)
    (hfails : okOps fails = []) :
    StepSafe P s (⟨d', s.fs.applyAll ops, z'⟩, allOk ops ++ fails) := by
  have hok := okOps_allOk_fails ops hfails
  exact StepSafe.mk' (by rw [hok]) (by rw [hok]; exact hon.safe _)
    (tmpRel_frame htmp (fun r hr _ => by rw [hrdb] at hr; exact hr) hon.tmp)

theorem xstep_safe {P : Nat → Nat → Bytes → Prop} (s : XDisk) (x : XOp) (htmp : TmpRel s.d s.fs) (hok : okX s x)
    (hP : ∀ r chunk, x = .op (.rdbAppend chunk) → s.d.rdb = some r → r.writing = true →
      r.data.length + chunk.length = r.size → P r.left r.size (r.data ++ chunk)) :
    StepSafe P s (xstep s x) := by
  have hdrop : ∀ r : DRdb, s.d.rdb = some r → r.writing = true → (s.d.step .rdbClose).1.rdb = none := by
    intro r hr hw
    simp only [Disk.step, hr, hw, if_true]
  refine xstep_elim (C := fun x r =>
    (∀ r chunk, x = .op (.rdbAppend chunk) → s.d.rdb = some r → r.writing = true →
      r.data.length + chunk.length = r.size → P r.left r.size (r.data ++ chunk)) → StepSafe P s r)
    s ?base ?closeHdr ?appendHdr ?appendOpen ?short ?closeRm ?rdbCloseRm ?commitFail ?gcRm x hok hP
  case base =>
    intro x o ha hP
    exact xbase_safe s o htmp ha.ok (fun r c e hr hw hl => hP r c (ha.commit r c e hr hw hl) hr hw hl)
  case closeHdr =>
    intro k g _ _ _
    exact onAof_safe s htmp g.left _ (onAof_hdrs (hdrTornOps_all _ _ _)) _ (closeLive_rdb _) _ _ (okOps_fail1 _)
  case appendHdr =>
    intro chunk k g hl _ hrot _
    exact onAof_safe s htmp g.left _ (onAof_append_hdrs _ _ (hdrTornOps_all _ _ _)) _
      (rot_fail_all s.d g chunk hl hrot).2 _ _ (okOps_fail1 _)
  case appendOpen =>
    intro chunk g hl _ hrot _
    exact onAof_safe s htmp g.left _ (onAof_append_hdrs _ _ (single_hdr_all _ _)) _
      (rot_fail_all s.d g chunk hl hrot).2 _ _ (okOps_fail1 _)
  case short =>
    intro chunk k g _ _ s1 rfl _
    have hon : OnAof g.left [FsOp.append (aofName g.left) (chunk.take k)] :=
      onAof_append_hdrs g.left _ (hs := []) (fun _ ho => nomatch ho)
    refine StepSafe.seq (s := s) rfl (hon.safe _) (okOps_fail1 _)
      (xbase_safe (P := P) ⟨_, _, s.zombies⟩ .aofClose ?_ trivial (fun r c e => nomatch e))
    exact tmpRel_frame htmp (fun r hr _ => hr) hon.tmp
  case closeRm =>
    intro g _ _ _
    have := onAof_safe (P := P) s htmp g.left [] (by intro o ho; cases ho) s.d.closeLive (closeLive_rdb _) s.zombies
      [⟨.remove (aofName g.left), false⟩] (okOps_fail1 _)
    simpa [allOk, FS.applyAll] using this
  case rdbCloseRm =>
    intro r hr hw _
    refine StepSafe.mk' (by rw [okOps_fail1]; rfl) (by rw [okOps_fail1]; exact Pos.nil) ?_
    intro r' hr'
    rw [hdrop r hr hw] at hr'
    cases hr'
  case commitFail =>
    intro chunk ren rmOk r hr hw _ _
    refine StepSafe.mk' rfl ?_ ?_
    · exact Pos.ofAll (fun o ho fs' => by
        rcases commitFail_okOps_mem r chunk ren rmOk o ho with rfl | rfl
        · rfl
        · trivial)
    · intro r' hr'
      rw [hdrop r hr hw] at hr'
      cases hr'
  case gcRm =>
    intro stuck all _
    exact gc_atts_safe s htmp (fun o ho => mem_okOps_map ho)

/-- **every operation of a script with faults is safe for committed snapshot files** -/
theorem xrun_safe {P : Nat → Nat → Bytes → Prop} (g0 : RecvG) (xs0 : List XOp)
    (hP0 : ∀ L S c, RecvFrom g0 (xs0.map recvOp) L S c → P L S c) :
    ∀ (rest pre : List XOp) (s : XDisk), xs0 = pre ++ rest → wfX s rest → TmpRel s.d s.fs →
      GInv s.d (recvFrom g0 (pre.map recvOp)) → Pos (RdbSafeP P) s.fs (xScriptOps s rest) := by
  intro rest
  induction rest with
  | nil => intro pre s _ _ _ _; exact Pos.nil
  | cons x rest ih =>
    intro pre s hxs hwf htmp hg
    have hstep := xstep_safe (P := P) s x htmp hwf.1 (by
      intro r chunk hx hrdb hw hc
      subst hx
      exact hP0 _ _ _ (recvFrom_commit (rest := rest.map recvOp) (by rw [hxs]; simp [recvOp]) hg hrdb hw hc))
    have hnext := ih (pre ++ [x]) (xstep s x).1 (by rw [hxs]; simp) hwf.2 hstep.tmp (by
      rw [List.map_append, List.map_singleton, recvFrom_snoc]
      exact ginv_xstep s _ x hg hwf.1)
    rw [xScriptOps_cons]
    rw [hstep.fsEq] at hnext
    exact Pos.append hstep.safe hnext

theorem xcrash_received (l m : Nat) (xs : List XOp) (hwf : wfX (XDisk.init l m) xs) (n k : Nat) :
    RdbOkP (RecvFrom ⟨"", none⟩ (xs.map recvOp)) (crashImageX [] (xScriptOps (XDisk.init l m) xs) n k) := by
  have := xrun_safe (P := RecvFrom ⟨"", none⟩ (xs.map recvOp)) ⟨"", none⟩ xs (fun _ _ _ h => h) xs [] _ rfl hwf
    (tmpRel_init l m) (GInv.init l m)
  exact crashImageX_rdbOkP (by intro e he; cases he) _ this n k

end GunYu.StoreFsX
