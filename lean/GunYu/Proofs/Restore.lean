/-
  Helper lemmas for C20 (Model/Restore.lean): the per-key view of the target
  semantics (`objStep`), frame properties, what `replay` / `buildUnit` send for one
  entry and when they fail, and their shape on the later chunks of a key.
-/
import GunYu.Model.Restore

namespace GunYu.Restore
open GunYu

/-- with a goal `P (if c then a else b)`, `P` a local definition, this walks through a nest of `if`s one branch at a
    time (`split` is slow on the nests of `replay` and `buildUnit`) -/
theorem ite_elim {α : Sort _} {P : α → Prop} {c : Prop} [Decidable c] {a b : α} (ha : c → P a) (hb : ¬ c → P b) :
    P (if c then a else b) := by
  split
  · exact ha ‹_›
  · exact hb ‹_›

/-- what one request does to the object stored under key `k` of the current DB -/
def objStep (k : Bytes) (now : Nat) (o : Option Obj) (r : Req) : Option Obj :=
  if reqKey r = some k then objEffect now o r else o

def objSteps (k : Bytes) (now : Nat) (o : Option Obj) (rs : List Req) : Option Obj :=
  rs.foldl (objStep k now) o

def noSel : Req → Prop
  | .select _ => False
  | _ => True

theorem applyReq_eq (t : Target) (r : Req) (h : noSel r) :
    applyReq t r = match reqKey r with
      | some k => t.put k (objEffect t.now (t.get k) r)
      | none => t := by
  cases r <;> first | rfl | exact absurd h (by simp [noSel])

theorem applyReq_cur (t : Target) (r : Req) (h : noSel r) : (applyReq t r).cur = t.cur := by
  rw [applyReq_eq t r h]
  cases reqKey r <;> simp [Target.put]

theorem applyReq_now (t : Target) (r : Req) : (applyReq t r).now = t.now := by
  cases r <;> simp [applyReq, Target.put, reqKey]

theorem applyReq_ks (t : Target) (r : Req) (h : noSel r) (d : Nat) (k : Bytes) :
    (applyReq t r).ks d k = if d = t.cur then objStep k t.now (t.ks d k) r else t.ks d k := by
  rw [applyReq_eq t r h]
  unfold objStep
  cases hk : reqKey r with
  | none => simp
  | some k' =>
    simp only [Target.put, KS.set, Target.get]
    by_cases hd : d = t.cur
    · subst hd
      by_cases hkk : k = k'
      · subst hkk; simp
      · have : ¬ k' = k := fun h => hkk h.symm
        simp [hkk, this]
    · simp [hd]

theorem applyReq_get (t : Target) (r : Req) (h : noSel r) (k : Bytes) :
    (applyReq t r).get k = objStep k t.now (t.get k) r := by
  unfold Target.get
  rw [applyReq_cur t r h, applyReq_ks t r h]
  simp

theorem applyReqs_cons (t : Target) (r : Req) (rs : List Req) : applyReqs t (r :: rs) = applyReqs (applyReq t r) rs := rfl

theorem objSteps_cons (k : Bytes) (now : Nat) (o : Option Obj) (r : Req) (rs : List Req) :
    objSteps k now o (r :: rs) = objSteps k now (objStep k now o r) rs := rfl

theorem applyReqs_cur (t : Target) (rs : List Req) (h : ∀ r ∈ rs, noSel r) : (applyReqs t rs).cur = t.cur := by
  induction rs generalizing t with
  | nil => rfl
  | cons r rs ih =>
    rw [applyReqs_cons, ih _ fun x hx => h x (List.mem_cons_of_mem _ hx), applyReq_cur t r (h r (List.mem_cons_self ..))]

theorem applyReqs_now (t : Target) (rs : List Req) : (applyReqs t rs).now = t.now := by
  induction rs generalizing t with
  | nil => rfl
  | cons r rs ih => rw [applyReqs_cons, ih, applyReq_now]

theorem applyReqs_get (t : Target) (rs : List Req) (h : ∀ r ∈ rs, noSel r) (k : Bytes) :
    (applyReqs t rs).get k = objSteps k t.now (t.get k) rs := by
  induction rs generalizing t with
  | nil => rfl
  | cons r rs ih =>
    rw [applyReqs_cons, objSteps_cons, ih _ fun x hx => h x (List.mem_cons_of_mem _ hx), applyReq_now,
      applyReq_get t r (h r (List.mem_cons_self ..))]

theorem applyReqs_append (t : Target) (a b : List Req) : applyReqs t (a ++ b) = applyReqs (applyReqs t a) b := by
  simp [applyReqs, List.foldl_append]

theorem objSteps_append (k now o) (a b : List Req) :
    objSteps k now o (a ++ b) = objSteps k now (objSteps k now o a) b := by
  simp [objSteps, List.foldl_append]

/-- requests that concern key `k` only (or no key at all) -/
def onKey (k : Bytes) : Req → Prop
  | .exists k' => k' = k
  | .del k' => k' = k
  | .pexpire k' _ => k' = k
  | .restore k' _ _ _ _ => k' = k
  | .data c => cmdKey c = k
  | .select _ => False
  | _ => True

theorem onKey_noSel {k r} (h : onKey k r) : noSel r := by
  cases r <;> simp [onKey, noSel] at *

theorem onKey_reqKey {k r} (h : onKey k r) : reqKey r = none ∨ reqKey r = some k := by
  cases r <;> simp [onKey, reqKey] at *
  all_goals exact h

theorem objStep_other {k k' now o r} (h : onKey k r) (hk : k' ≠ k) : objStep k' now o r = o := by
  unfold objStep
  rcases onKey_reqKey h with h' | h'
  · simp [h']
  · simp [h', Ne.symm hk]

theorem objSteps_other {k k' now o} {rs : List Req} (h : ∀ r ∈ rs, onKey k r) (hk : k' ≠ k) :
    objSteps k' now o rs = o := by
  induction rs generalizing o with
  | nil => rfl
  | cons r rs ih =>
    rw [objSteps_cons, objStep_other (h r (List.mem_cons_self ..)) hk]
    exact ih (fun x hx => h x (List.mem_cons_of_mem _ hx))

theorem applyReqs_frame (t : Target) (rs : List Req) (k : Bytes) (h : ∀ r ∈ rs, onKey k r)
    (d : Nat) (k' : Bytes) (hne : ¬ (d = t.cur ∧ k' = k)) : (applyReqs t rs).ks d k' = t.ks d k' := by
  induction rs generalizing t with
  | nil => rfl
  | cons r rs ih =>
    have hr := h r (List.mem_cons_self ..)
    have hcur := applyReq_cur t r (onKey_noSel hr)
    rw [applyReqs_cons, ih (applyReq t r) (fun x hx => h x (List.mem_cons_of_mem _ hx)) (by rw [hcur]; exact hne),
      applyReq_ks t r (onKey_noSel hr)]
    by_cases hd : d = t.cur
    · simp only [hd, if_true]
      have hk : k' ≠ k := fun hk => hne ⟨hd, hk⟩
      rw [← hd]
      exact objStep_other hr hk
    · simp [hd]

theorem objSteps_data_native (k now) (l : List Cmd) (x : Nat) (cs : List Cmd) (h : ∀ c ∈ cs, cmdKey c = k) :
    objSteps k now (some { val := .native l, exp := x }) (cs.map Req.data) = some { val := .native (l ++ cs), exp := x } := by
  induction cs generalizing l with
  | nil => simp [objSteps]
  | cons c cs ih =>
    have hc := h c (List.mem_cons_self ..)
    have : objStep k now (some { val := .native l, exp := x }) (.data c) = some { val := .native (l ++ [c]), exp := x } := by
      simp [objStep, reqKey, objEffect, hc, dataStep]
    rw [List.map_cons, objSteps_cons, this, ih (l ++ [c]) (fun y hy => h y (List.mem_cons_of_mem _ hy)), List.append_assoc]
    rfl

theorem objSteps_data_none (k now) (c : Cmd) (cs : List Cmd) (h : ∀ x ∈ c :: cs, cmdKey x = k) :
    objSteps k now none ((c :: cs).map Req.data) = some { val := .native (c :: cs), exp := 0 } := by
  have hc := h c (List.mem_cons_self ..)
  have : objStep k now none (.data c) = some { val := .native [c], exp := 0 } := by
    simp [objStep, reqKey, objEffect, hc, dataStep]
  rw [List.map_cons, objSteps_cons, this, objSteps_data_native k now [c] 0 cs (fun y hy => h y (List.mem_cons_of_mem _ hy))]
  rfl

/-- absolute expiry the snapshot prescribes (0 = none) -/
def expAbs (cfg : Cfg) (tnow : Nat) (expireAt : Nat) : Nat :=
  if expireAt = 0 then 0 else tnow + ttlMs cfg.now expireAt

theorem ttlMs_pos {now e : Nat} (h : e ≠ 0) : ttlMs now e ≠ 0 := by
  unfold ttlMs
  simp only [h, if_false]
  split <;> omega

/-- a later chunk (`expand`) on a native object whose expiry already is the snapshot's -/
theorem objSteps_expand_native (cfg : Cfg) (k : Bytes) (now : Nat) (E : Nat) (l : List Cmd) (e : Entry)
    (hk : e.key = k) (hc : ∀ c ∈ e.cmds, cmdKey c = k) (hE : e.expireAt = 0 ∨ e.expireAt = E) :
    objSteps k now (some { val := .native l, exp := expAbs cfg now E }) (expand cfg e)
      = some { val := .native (l ++ e.cmds), exp := expAbs cfg now E } := by
  unfold expand
  rw [objSteps_append, objSteps_data_native k now l _ e.cmds hc]
  by_cases h0 : e.expireAt = 0
  · simp [h0, objSteps]
  · have hE' : e.expireAt = E := by cases hE with
      | inl h => exact absurd h h0
      | inr h => exact h
    subst hE'
    simp only [h0, ne_eq, not_false_eq_true, if_true, objSteps, List.foldl_cons, List.foldl_nil, objStep, reqKey, objEffect, hk]
    simp [expAbs, h0]

/-- the first chunk (`expand`) on an absent key -/
theorem objSteps_expand_none (cfg : Cfg) (k : Bytes) (now : Nat) (e : Entry)
    (hk : e.key = k) (hc : ∀ c ∈ e.cmds, cmdKey c = k) (hne : e.cmds ≠ []) :
    objSteps k now none (expand cfg e)
      = some { val := .native e.cmds, exp := expAbs cfg now e.expireAt } := by
  unfold expand
  rw [objSteps_append]
  cases hcs : e.cmds with
  | nil => exact absurd hcs hne
  | cons c cs =>
    rw [objSteps_data_none k now c cs (by rw [← hcs]; exact hc)]
    by_cases h0 : e.expireAt = 0
    · simp [h0, objSteps, expAbs]
    · simp only [h0, ne_eq, not_false_eq_true, if_true, objSteps, List.foldl_cons, List.foldl_nil, objStep, reqKey, objEffect, hk]
      simp [expAbs, h0]

theorem expandB_eq (cfg : Cfg) (e : Entry) : expandB cfg e true = expand cfg e := by
  simp [expandB, expand]

theorem forall_mem_execUnit {P : Req → Prop} {cmds : List Req} :
    (∀ r ∈ execUnit cmds, P r) ↔ P .multi ∧ P .marker ∧ (∀ r ∈ cmds, P r) ∧ P .exec := by
  simp [execUnit, or_imp, forall_and]

/-- the requests of one bidirectional step: the probe, then the unit if one is built -/
def unitReqs (b : List Req × List Req × BOutcome × RState) : List Req :=
  b.1 ++ (if b.2.2.1 = .unit then execUnit b.2.1 else [])

def keyless (e : Entry) : Bool := decide (e.otype = .func) || decide (e.otype = .aux)

theorem replay_keyless (pol : Policy) (cfg : Cfg) (st : RState) (v : View) (e : Entry) (h : keyless e = true) :
    replay pol cfg st v e = (e.cmds.map Req.raw, .ok, st) := by
  unfold keyless at h
  unfold replay
  cases ho : e.otype <;> simp [ho] at h ⊢

theorem buildUnit_keyless (pol : Policy) (cfg : Cfg) (st : RState) (v : View) (e : Entry) (h : keyless e = true) :
    buildUnit pol cfg st v e = ([], e.cmds.map Req.raw, if e.cmds = [] then .skip else .unit, st) := by
  have hk : (!(decide (e.otype = .func) || decide (e.otype = .aux))) = false := by
    rw [show (decide (e.otype = .func) || decide (e.otype = .aux)) = keyless e from rfl, h]; rfl
  simp only [buildUnit, hk, Bool.false_and, Bool.false_eq_true, if_false, expandB, and_false, List.append_nil,
    List.map_eq_nil_iff]
  by_cases hc : e.cmds = [] <;> simp [hc]

def ReqFor (e : Entry) (r : Req) : Prop := onKey e.key r ∨ ∃ c ∈ e.cmds, r = .data c

theorem ReqFor.noSel {e : Entry} {r : Req} : ReqFor e r → noSel r
  | .inl h => onKey_noSel h
  | .inr ⟨_, _, h⟩ => h ▸ trivial

theorem ReqFor.onKey {e : Entry} {r : Req} (hc : ∀ c ∈ e.cmds, cmdKey c = e.key) : ReqFor e r → onKey e.key r
  | .inl h => h
  | .inr ⟨c, hm, h⟩ => h ▸ hc c hm

theorem expand_reqs (cfg : Cfg) (e : Entry) : ∀ r ∈ expand cfg e, ReqFor e r := by
  intro r hr
  rcases List.mem_append.mp hr with h | h
  · obtain ⟨c, hc, rfl⟩ := List.mem_map.mp h
    exact .inr ⟨c, hc, rfl⟩
  · split at h
    · rw [List.mem_singleton.mp h]; exact .inl rfl
    · cases h

theorem expandB_reqs (cfg : Cfg) (e : Entry) : ∀ (b : Bool), ∀ r ∈ expandB cfg e b, ReqFor e r
  | true => by rw [expandB_eq]; exact expand_reqs cfg e
  | false => by
    intro r hr
    simp only [expandB, Bool.false_eq_true, if_false, and_false, List.append_nil] at hr
    obtain ⟨c, _, rfl⟩ := List.mem_map.mp hr
    exact .inl trivial

theorem replay_reqs (pol : Policy) (cfg : Cfg) (st : RState) (v : View) (e : Entry) :
    ∀ r ∈ (replay pol cfg st v e).1, ReqFor e r := by
  let P (x : List Req × Outcome × RState) : Prop := ∀ r ∈ x.1, ReqFor e r
  have nil : ∀ r ∈ ([] : List Req), ReqFor e r := List.forall_mem_nil _
  have cons : ∀ {r : Req} {l : List Req}, onKey e.key r → (∀ x ∈ l, ReqFor e x) → ∀ x ∈ r :: l, ReqFor e x :=
    fun h hl => List.forall_mem_cons.2 ⟨.inl h, hl⟩
  have hx := expand_reqs cfg e
  show P (replay pol cfg st v e)
  unfold replay
  split
  · exact List.forall_mem_map.2 fun _ _ => .inl trivial
  · exact List.forall_mem_map.2 fun _ _ => .inl trivial
  · refine ite_elim (fun _ => ?_) fun _ => ?_
    · -- the RESTORE path
      refine ite_elim (fun _ => ?_) fun _ => ?_
      · cases pol
        · exact ite_elim
            (fun _ => ite_elim (fun _ => cons rfl (cons trivial nil)) fun _ => cons rfl (cons trivial (cons rfl (cons rfl hx))))
            fun _ => cons rfl (cons rfl nil)
        · exact cons rfl nil
        · exact cons rfl nil
      · exact ite_elim (fun _ => ite_elim (fun _ => cons trivial nil) fun _ => cons trivial (cons rfl hx)) fun _ => cons rfl nil
    · -- the expansion path
      refine ite_elim (fun _ => nil) fun _ => ?_
      refine ite_elim (fun _ => ?_) fun _ => ite_elim (fun _ => nil) fun _ => hx
      refine ite_elim (fun _ => ?_) fun _ => cons rfl hx
      cases pol
      · exact cons rfl (cons rfl hx)
      · exact cons rfl nil
      · exact cons rfl nil

theorem buildUnit_reqs (pol : Policy) (cfg : Cfg) (st : RState) (v : View) (e : Entry) :
    ∀ r ∈ unitReqs (buildUnit pol cfg st v e), ReqFor e r := by
  let P (b : List Req × List Req × BOutcome × RState) : Prop := ∀ r ∈ unitReqs b, ReqFor e r
  have of : ∀ {d c : List Req} {o : BOutcome} {s : RState}, (∀ r ∈ d, ReqFor e r) → (∀ r ∈ c, ReqFor e r) → P (d, c, o, s) := by
    intro d c o s hd hc
    refine List.forall_mem_append.2 ⟨hd, ite_elim (P := (∀ r ∈ ·, ReqFor e r)) (fun _ => ?_) fun _ => List.forall_mem_nil _⟩
    exact forall_mem_execUnit.2 ⟨.inl trivial, .inl trivial, hc, .inl trivial⟩
  have nil : ∀ r ∈ ([] : List Req), ReqFor e r := List.forall_mem_nil _
  show P (buildUnit pol cfg st v e)
  unfold buildUnit
  extract_lets hasKey st1 probe direct c1 c2
  have hd : ∀ r ∈ direct, ReqFor e r :=
    ite_elim (P := (∀ r ∈ ·, ReqFor e r)) (fun _ => List.forall_mem_singleton.2 (.inl rfl)) fun _ => nil
  have h2 : ∀ r ∈ c2, ReqFor e r :=
    ite_elim (P := (∀ r ∈ ·, ReqFor e r)) (fun _ => List.forall_mem_cons.2 ⟨.inl rfl, expandB_reqs cfg e hasKey⟩)
      fun _ => expandB_reqs cfg e hasKey
  clear_value c2 c1 direct probe st1 hasKey
  refine ite_elim (fun _ => of nil nil) fun _ => ?_
  refine ite_elim (fun _ => ite_elim (fun _ => of hd nil) fun _ => of hd nil) fun _ => ?_
  -- "Bad data format": the unit goes out with the probe
  refine ite_elim (fun _ => of (List.forall_mem_append.2
    ⟨hd, forall_mem_execUnit.2 ⟨.inl trivial, .inl trivial, List.forall_mem_singleton.2 (.inl trivial), .inl trivial⟩⟩) nil) fun _ => ?_
  refine ite_elim (fun _ => of hd (List.forall_mem_singleton.2 (.inl rfl))) fun _ => ?_
  refine ite_elim (fun _ => of hd nil) fun _ => ?_
  exact ite_elim (fun _ => of hd nil) fun _ => of hd h2

theorem replay_out (pol : Policy) (cfg : Cfg) (st : RState) (v : View) (e : Entry) :
    (replay pol cfg st v e).2.1 = .ok ∨ pol = .error ∨ e.otype = .module := by
  let P (x : List Req × Outcome × RState) : Prop := x.2.1 = .ok ∨ pol = .error ∨ e.otype = .module
  show P (replay pol cfg st v e)
  unfold replay
  split
  · exact .inl rfl
  · exact .inl rfl
  · refine ite_elim (fun _ => ?_) fun _ => ?_
    · refine ite_elim (fun _ => ?_) fun _ => ?_
      · cases pol
        · exact ite_elim (fun _ => ite_elim (fun hm => .inr (.inr hm)) fun _ => .inl rfl) fun _ => .inl rfl
        · exact .inl rfl
        · exact .inr (.inl rfl)
      · exact ite_elim (fun _ => ite_elim (fun hm => .inr (.inr hm)) fun _ => .inl rfl) fun _ => .inl rfl
    · refine ite_elim (fun hm => .inr (.inr hm)) fun _ => ?_
      refine ite_elim (fun _ => ?_) fun _ => ite_elim (fun _ => .inl rfl) fun _ => .inl rfl
      refine ite_elim (fun _ => ?_) fun _ => .inl rfl
      cases pol
      · exact .inl rfl
      · exact .inl rfl
      · exact .inr (.inl rfl)

theorem buildUnit_out (pol : Policy) (cfg : Cfg) (st : RState) (v : View) (e : Entry) :
    bOut (buildUnit pol cfg st v e).2.2.1 = .ok ∨ pol = .error ∨ e.otype = .module ∨
      (keyless e = false ∧ useRestore cfg e = true ∧ v.badData = true) := by
  let P (b : List Req × List Req × BOutcome × RState) : Prop :=
    bOut b.2.2.1 = .ok ∨ pol = .error ∨ e.otype = .module ∨ (keyless e = false ∧ useRestore cfg e = true ∧ v.badData = true)
  show P (buildUnit pol cfg st v e)
  unfold buildUnit
  extract_lets hasKey st1 probe direct c1 c2
  have hk : hasKey = !keyless e := rfl
  have hp : probe = true → pol = .ignore ∨ pol = .error := by
    intro h
    simp only [probe, Bool.and_eq_true, Bool.or_eq_true, decide_eq_true_eq] at h
    exact h.2
  clear_value c2 c1 direct st1 probe hasKey
  refine ite_elim (fun _ => .inl rfl) fun _ => ?_
  refine ite_elim (fun h => ite_elim (fun _ => .inl rfl) fun hi => ?_) fun _ => ?_
  · rw [Bool.and_eq_true] at h
    exact .inr (.inl ((hp h.1).resolve_left hi))
  refine ite_elim (fun h => ?_) fun _ => ?_
  · simp only [hk, Bool.and_eq_true, Bool.not_eq_true'] at h
    exact .inr (.inr (.inr ⟨h.1.1, h.1.2, h.2⟩))
  refine ite_elim (fun _ => .inl rfl) fun _ => ?_
  refine ite_elim (fun h => ?_) fun _ => ?_
  · simp only [Bool.and_eq_true, decide_eq_true_eq] at h
    exact .inr (.inr (.inl h.2))
  exact ite_elim (fun _ => .inl rfl) fun _ => .inl rfl

theorem retag_fields (b : Bool) (e : Entry) :
    (retag b e).otype = e.otype ∧ (retag b e).first = e.first ∧ (retag b e).splited = e.splited ∧ (retag b e).db = e.db := by
  unfold retag; split <;> exact ⟨rfl, rfl, rfl, rfl⟩

theorem retag_key_data (b : Bool) (e : Entry) (h : e.otype = .data) :
    (retag b e).key = if b then stripTag e.key else e.key := by
  unfold retag; cases b <;> simp [h]

theorem retag_keyless (b : Bool) (e : Entry) : keyless (retag b e) = keyless e := by
  simp only [keyless, (retag_fields b e).1]

/-- chunk of a split data value that is not the first one -/
structure Later (k : Bytes) (e : Entry) : Prop where
  key : e.key = k
  notFirst : e.first = false
  data : e.otype = .data
  split : e.splited = true

theorem useRestore_split {cfg : Cfg} {e : Entry} (h : e.splited = true) : useRestore cfg e = false := by
  simp [useRestore, h]

theorem replay_later (pol : Policy) (cfg : Cfg) (st : RState) (v : View) {k : Bytes} {e : Entry} (h : Later k e) :
    replay pol cfg st v e = if st = some k then ([], .ok, st) else (expand cfg e, .ok, st) := by
  unfold replay
  simp [h.data, useRestore_split h.split, h.notFirst, h.key]

/-- object under `k` after the later chunks were expanded onto a native value -/
theorem objSteps_later (cfg : Cfg) (k : Bytes) (now E : Nat) :
    ∀ (rest : List Entry) (l : List Cmd),
      (∀ e ∈ rest, e.key = k ∧ (∀ c ∈ e.cmds, cmdKey c = k) ∧ (e.expireAt = 0 ∨ e.expireAt = E)) →
      objSteps k now (some { val := .native l, exp := expAbs cfg now E }) (rest.flatMap (expand cfg))
        = some { val := .native (l ++ rest.flatMap (·.cmds)), exp := expAbs cfg now E }
  | [], l, _ => by simp [objSteps]
  | e :: rest, l, h => by
    obtain ⟨hk, hc, hE⟩ := h e (List.mem_cons_self ..)
    simp only [List.flatMap_cons]
    rw [objSteps_append, objSteps_expand_native cfg k now E l e hk hc hE,
      objSteps_later cfg k now E rest (l ++ e.cmds) (fun x hx => h x (List.mem_cons_of_mem _ hx))]
    simp

/-- requests of one unit: nothing when the unit is empty -/
def wrapUnit (cmds : List Req) : List Req := if cmds = [] then [] else execUnit cmds

theorem buildUnit_later (pol : Policy) (cfg : Cfg) (st : RState) (v : View) {k : Bytes} {e : Entry}
    (h : Later k e) :
    buildUnit pol cfg st v e =
      if st = some k then ([], [], .skip, st)
      else if expand cfg e = [] then ([], [], .skip, st) else ([], expand cfg e, .unit, st) := by
  unfold buildUnit
  simp only [h.data, h.notFirst, useRestore_split h.split, h.key]
  by_cases hs : st = some k <;> simp [hs, expandB_eq cfg e]

theorem objSteps_execUnit (k now o) (cmds : List Req) :
    objSteps k now o (execUnit cmds) = objSteps k now o cmds := by
  simp [execUnit, objSteps, objStep, reqKey, List.foldl_append]

theorem objSteps_wrapUnit (k now o) (cmds : List Req) :
    objSteps k now o (wrapUnit cmds) = objSteps k now o cmds := by
  unfold wrapUnit
  split
  · next h => simp [h]
  · exact objSteps_execUnit k now o cmds

theorem objSteps_flatMap_wrapUnit (k now) (f : Entry → List Req) : ∀ (es : List Entry) (o : Option Obj),
    objSteps k now o (es.flatMap fun e => wrapUnit (f e)) = objSteps k now o (es.flatMap f)
  | [], _ => rfl
  | e :: es, o => by
    simp only [List.flatMap_cons, objSteps_append, objSteps_wrapUnit, objSteps_flatMap_wrapUnit k now f es]

end GunYu.Restore
