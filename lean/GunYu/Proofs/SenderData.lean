/-
  C01/C09: the commands a batch, a list of batches and the queue carry, and what one
  event adds to the forwarded stream. That the loop forwards exactly this is proved in
  Proofs/SenderDataO.lean, with the stream offsets attached.
-/
import GunYu.Model.Sender

namespace GunYu.Sender

abbrev Cmd := Bytes × List Bytes

def cmdOfReq : Req → Option Cmd
  | .cmd n a _ => if n = bPing then none else some (n, a)
  | _ => none

/-- commands (other than keep-alive pings) in a batch, in wire order -/
def dataB (b : Batch) : List Cmd := b.filterMap cmdOfReq
def dataOut (out : List Batch) : List Cmd := out.flatMap dataB

def itemCmd (i : Item) : Option Cmd := if i.cmd = bPing then none else some (i.cmd, i.args)
/-- commands waiting in the queue -/
def qd (s : SState) : List Cmd := s.queue.filterMap itemCmd

@[simp] theorem dataOut_nil : dataOut [] = [] := rfl
@[simp] theorem dataOut_append (a b : List Batch) : dataOut (a ++ b) = dataOut a ++ dataOut b := by
  simp [dataOut]
@[simp] theorem dataOut_none : dataOut (optToList none) = [] := rfl
@[simp] theorem dataOut_some (b : Batch) : dataOut (optToList (some b)) = dataB b := by
  simp [dataOut, optToList]

theorem dataB_append (a b : Batch) : dataB (a ++ b) = dataB a ++ dataB b := by simp [dataB]

/-- is an item with this (new) status forwarded to the target? -/
def forwards (t : Txn) : Bool := t != .begin_ && t != .commit

/-- what one event contributes to the forwarded stream, and the status after it -/
def fwd1 (t : Txn) : Ev → List Cmd × Txn
  | .item it =>
    if it.cmd = bPing then ([], t)
    else ((if forwards (txnStatus it.cmd t).1 then [(it.cmd, it.args)] else []), (txnStatus it.cmd t).1)
  | _ => ([], t)

end GunYu.Sender
