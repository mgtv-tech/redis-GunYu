/-
  A source group `MULTI body EXEC` on its way to the target, for `Props/C09Lives.lean`:
  the parser always hands both brackets over (with their own end offset or, read
  inside a filtered database, the offset of the last command handed over); a
  transactional run writes no position from inside the group; hence a position
  that lies inside a source group is the offset its EXEC carried, and the rest of
  the group hands over nothing executable (`group_tail_quiet`).
-/
import GunYu.Props.C02Lives
import GunYu.Props.C09Crash

namespace GunYu.Sender
open GunYu GunYu.Target

/-- reading on only adds to the specification: every branch of `specStream` is the recursive
    call on the rest, possibly behind one more command, or stops -/
theorem specStream_prefix (c : PCfg) (b : Bool) (t : Int) (X Y : List Raw) :
    specStream c b t X <+: specStream c b t (X ++ Y) := by
  induction X generalizing b t with
  | nil => exact List.nil_prefix
  | cons r rest ih =>
    rw [List.cons_append, specStream, specStream]
    by_cases hp : r.cmd = bPing
    · rw [if_pos hp, if_pos hp]; exact ih _ _
    rw [if_neg hp, if_neg hp]
    by_cases hs : r.cmd = bSelect
    · rw [if_pos hs, if_pos hs]
      split
      · split
        · exact List.nil_prefix
        · split
          · exact ih _ _
          split
          · exact ih _ _
          · exact ih _ _
      · exact List.nil_prefix
    rw [if_neg hs, if_neg hs]
    by_cases h1 : r.cmd = bMulti ∨ r.cmd = bExec
    · rw [if_pos h1, if_pos h1]; exact ih _ _
    rw [if_neg h1, if_neg h1]
    by_cases h2 : c.filterCmd r.cmd = true
    · rw [if_pos h2, if_pos h2]; exact ih _ _
    rw [if_neg h2, if_neg h2]
    by_cases h3 : r.cmd = bPublish ∧ (r.args.head?.map lower) = some bSentinelHello
    · rw [if_pos h3, if_pos h3]; exact ih _ _
    rw [if_neg h3, if_neg h3]
    by_cases h4 : b = true
    · rw [if_pos h4, if_pos h4]; exact ih _ _
    rw [if_neg h4, if_neg h4]
    cases c.filterCmdKey r.cmd r.args with
    | none => exact ih _ _
    | some a => exact List.cons_prefix_cons.mpr ⟨rfl, ih _ _⟩

/-- a bracket that passes the user's filters and is not withheld is handed over,
    with its own end offset or -- read inside a filtered database -- `lastSent` -/
theorem parseStep_bracket (c : PCfg) (s : PState) (r : Raw) (hbr : r.cmd = bMulti ∨ r.cmd = bExec)
    (hfc : c.filterCmd r.cmd = false) (hfk : (c.filterCmdKey r.cmd r.args).isSome)
    (hpb : ¬ (s.bypass = true ∧ passBracket s r.cmd = false)) :
    ∃ a, parseStep c s r =
      (sent s r.cmd (if passBracket s r.cmd then s.lastSent else r.off),
       POut.emit { cmd := r.cmd, args := a,
                   offset := (if passBracket s r.cmd then s.lastSent else r.off), db := s.currentDB }) := by
  have hp : r.cmd ≠ bPing := by rcases hbr with h | h <;> rw [h] <;> decide
  have hs : r.cmd ≠ bSelect := by rcases hbr with h | h <;> rw [h] <;> decide
  have hpub : r.cmd ≠ bPublish := by rcases hbr with h | h <;> rw [h] <;> decide
  have hpubf : ¬ (r.cmd = bPublish ∧ (r.args.head?.map lower) = some bSentinelHello) := fun h => hpub h.1
  obtain ⟨a, ha⟩ := Option.isSome_iff_exists.mp hfk
  refine ⟨a, ?_⟩
  rw [parseStep_data c s r hp hs]
  simp only [hfc, Bool.false_eq_true, ↓reduceIte, hpubf, hpb, ha]

/-- a MULTI read outside a transaction and an EXEC read inside one are never withheld -/
theorem parseStep_in_order (c : PCfg) (s : PState) (r : Raw)
    (hbr : (r.cmd = bMulti ∧ s.txnOpen = false) ∨ (r.cmd = bExec ∧ s.txnOpen = true))
    (hfc : c.filterCmd r.cmd = false) (hfk : (c.filterCmdKey r.cmd r.args).isSome) :
    ∃ a, parseStep c s r =
      (sent s r.cmd (if passBracket s r.cmd then s.lastSent else r.off),
       POut.emit { cmd := r.cmd, args := a,
                   offset := (if passBracket s r.cmd then s.lastSent else r.off), db := s.currentDB }) := by
  have hem : bExec ≠ bMulti := by decide
  apply parseStep_bracket c s r (hbr.imp And.left And.left) hfc hfk
  intro ⟨h1, h2⟩
  rcases hbr with ⟨hc, hto⟩ | ⟨hc, hto⟩ <;> simp [passBracket, h1, hc, hto, hem] at h2

theorem parseStep_other_txnOpen (c : PCfg) (s : PState) (r : Raw) (hm : r.cmd ≠ bMulti) (he : r.cmd ≠ bExec)
    (s' : PState) (o : POut) (hps : parseStep c s r = (s', o)) (hnf : o ≠ POut.fail) :
    s'.txnOpen = s.txnOpen := by
  cases o with
  | fail => exact absurd rfl hnf
  | skip => exact parseStep_skip_txnOpen c s r s' hps
  | emit i =>
    have hcmd : i.cmd = r.cmd := parseStep_emit_cmd c s r i (by rw [hps])
    obtain ⟨_, _, hto⟩ := parseStep_emit_off c s r i (by rw [hps])
    rw [hps] at hto
    simpa [hcmd, hm, he] using hto

def NoBracket (L : List Raw) : Prop := ∀ r ∈ L, r.cmd ≠ bMulti ∧ r.cmd ≠ bExec

theorem parseState_noBracket_txnOpen (c : PCfg) (L : List Raw) (s : PState) (hnb : NoBracket L)
    (hnf : parseFails c s L = false) : (parseState c s L).txnOpen = s.txnOpen := by
  induction L generalizing s with
  | nil => rfl
  | cons r rest ih =>
    have hr := hnb r (List.mem_cons_self ..)
    cases hps : parseStep c s r with
    | mk s' o =>
      have ho : o ≠ POut.fail := by rintro rfl; simp [parseFails, hps] at hnf
      rw [parseFails_cons_ok hps ho] at hnf
      rw [parseState_cons_ok hps ho, ih s' (fun x hx => hnb x (List.mem_cons_of_mem _ hx)) hnf,
        parseStep_other_txnOpen c s r hr.1 hr.2 s' o hps ho]

/-- **the parser's `txnOpen` is false when it reaches a source MULTI** of a stream
    whose brackets are not nested and pass the user's filters -/
theorem txnOpen_before_multi (c : PCfg) (L : List Raw) (m : Raw) (rest : List Raw) (s : PState) (b : Bool)
    (hb : s.txnOpen = b) (hm : m.cmd = bMulti)
    (hraw : RawNoNested b (L ++ m :: rest))
    (hpass : ∀ r ∈ L, (r.cmd = bMulti ∨ r.cmd = bExec) →
      c.filterCmd r.cmd = false ∧ (c.filterCmdKey r.cmd r.args).isSome)
    (hnf : parseFails c s L = false) :
    (parseState c s L).txnOpen = false := by
  induction L generalizing s b with
  | nil =>
    simp only [List.nil_append, RawNoNested, hm, ↓reduceIte] at hraw
    simp only [parseState]; rw [hb]; exact hraw.1
  | cons r L' ih =>
    have hpass' : ∀ r' ∈ L', (r'.cmd = bMulti ∨ r'.cmd = bExec) →
        c.filterCmd r'.cmd = false ∧ (c.filterCmdKey r'.cmd r'.args).isSome :=
      fun r' hr' => hpass r' (List.mem_cons_of_mem _ hr')
    have hme : bMulti ≠ bExec := by decide
    simp only [parseFails] at hnf
    simp only [parseState]
    by_cases hrm : r.cmd = bMulti
    · simp only [List.cons_append, RawNoNested, hrm, ↓reduceIte] at hraw
      obtain ⟨hfc, hfk⟩ := hpass r (List.mem_cons_self ..) (Or.inl hrm)
      obtain ⟨a, hstep⟩ := parseStep_in_order c s r (Or.inl ⟨hrm, by rw [hb, hraw.1]⟩) hfc hfk
      rw [hstep] at hnf ⊢
      simp only at hnf ⊢
      exact ih _ true (by simp [sent, hrm]) hraw.2 hpass' hnf
    · by_cases hre : r.cmd = bExec
      · simp only [List.cons_append, RawNoNested, hre, hme.symm, ↓reduceIte] at hraw
        obtain ⟨hfc, hfk⟩ := hpass r (List.mem_cons_self ..) (Or.inr hre)
        by_cases h3 : s.bypass = true ∧ passBracket s r.cmd = false
        · have hp : r.cmd ≠ bPing := by rw [hre]; decide
          have hs : r.cmd ≠ bSelect := by rw [hre]; decide
          have hpub : r.cmd ≠ bPublish := by rw [hre]; decide
          have hpubf : ¬ (r.cmd = bPublish ∧ (r.args.head?.map lower) = some bSentinelHello) :=
            fun h => hpub h.1
          have hstep : parseStep c s r = (s, POut.skip) := by
            rw [parseStep_data c s r hp hs]
            simp only [hfc, Bool.false_eq_true, ↓reduceIte, hpubf, h3, and_self]
          have hto : s.txnOpen = false := by
            have := h3.2
            simp only [passBracket, h3.1, hre, hme.symm, decide_false, Bool.false_and, decide_true,
              Bool.true_and, Bool.false_or] at this
            exact this
          rw [hstep] at hnf ⊢
          simp only at hnf ⊢
          exact ih s false hto hraw hpass' hnf
        · obtain ⟨a, hstep⟩ := parseStep_bracket c s r (Or.inr hre) hfc hfk h3
          rw [hstep] at hnf ⊢
          simp only at hnf ⊢
          exact ih _ false (by simp [sent, hre, hme.symm]) hraw hpass' hnf
      · simp only [List.cons_append, RawNoNested, hrm, hre, ↓reduceIte] at hraw
        cases hps : parseStep c s r with
        | mk s' o =>
          rw [hps] at hnf
          cases o with
          | fail => simp at hnf
          | _ =>
            exact ih s' b (by rw [parseStep_other_txnOpen c s r hrm hre s' _ hps (by simp), hb]) hraw hpass' hnf

theorem parseAll_offset_src (c : PCfg) (L : List Raw) (s : PState) :
    ∀ i ∈ parseAll c s L, i.offset = s.lastSent ∨ ∃ r ∈ L, i.offset = r.off := by
  induction L generalizing s with
  | nil => intro i hi; simp [parseAll] at hi
  | cons r rest ih =>
    intro i hi
    simp only [parseAll] at hi
    cases hps : parseStep c s r with
    | mk s' o =>
      rw [hps] at hi
      cases o with
      | fail => simp at hi
      | skip =>
        simp only at hi
        rcases ih s' i hi with h | ⟨r', hr', h⟩
        · left; rw [h, parseStep_skip_lastSent c s r s' hps]
        · exact Or.inr ⟨r', List.mem_cons_of_mem _ hr', h⟩
      | emit j =>
        simp only at hi
        obtain ⟨hoff, hls, _⟩ := parseStep_emit_off c s r j (by rw [hps])
        rw [hps] at hls
        simp only at hls
        have hj : j.offset = s.lastSent ∨ ∃ r' ∈ r :: rest, j.offset = r'.off := by
          rcases hoff with h | ⟨h, _⟩
          · exact Or.inr ⟨r, List.mem_cons_self .., h⟩
          · exact Or.inl h
        rcases List.mem_cons.mp hi with rfl | hi'
        · exact hj
        · rcases ih s' i hi' with h | ⟨r', hr', h⟩
          · rw [hls] at h; rw [h]; exact hj
          · exact Or.inr ⟨r', List.mem_cons_of_mem _ hr', h⟩

theorem parseAll_cmd_src (c : PCfg) (L : List Raw) (s : PState) :
    ∀ i ∈ parseAll c s L, ∃ r ∈ L, i.cmd = r.cmd := by
  intro i hi
  obtain ⟨r, hr, s', h⟩ := parseAll_mem_emit c L s i hi
  exact ⟨r, hr, parseStep_emit_cmd c s' r i h⟩

theorem quiet_or_moved (c : PCfg) (o : Int) (L : List Raw) (s : PState)
    (hnb : NoBracket L) (hgt : ∀ r ∈ L, o < r.off) (hnf : parseFails c s L = false) :
    (parseAll c s L = [] ∧ (parseState c s L).lastSent = s.lastSent) ∨
      o < (parseState c s L).lastSent := by
  induction L generalizing s with
  | nil => exact Or.inl ⟨rfl, rfl⟩
  | cons r rest ih =>
    have hr := hnb r (List.mem_cons_self ..)
    have hrest : NoBracket rest := fun x hx => hnb x (List.mem_cons_of_mem _ hx)
    have hgt' : ∀ r' ∈ rest, o < r'.off := fun x hx => hgt x (List.mem_cons_of_mem _ hx)
    simp only [parseFails] at hnf
    simp only [parseState, parseAll]
    cases hps : parseStep c s r with
    | mk s' o' =>
      rw [hps] at hnf
      cases o' with
      | fail => simp at hnf
      | skip =>
        simp only at hnf ⊢
        rcases ih s' hrest hgt' hnf with ⟨h1, h2⟩ | h
        · exact Or.inl ⟨h1, by rw [h2, parseStep_skip_lastSent c s r s' hps]⟩
        · exact Or.inr h
      | emit i =>
        simp only at hnf ⊢
        right
        obtain ⟨hoff, hls, _⟩ := parseStep_emit_off c s r i (by rw [hps])
        rw [hps] at hls
        simp only at hls
        have hcmd : i.cmd = r.cmd := parseStep_emit_cmd c s r i (by rw [hps])
        have hown : i.offset = r.off := by
          rcases hoff with h | ⟨_, ⟨h, _⟩ | ⟨h, _⟩⟩
          · exact h
          · exact absurd (hcmd ▸ h) hr.1
          · exact absurd (hcmd ▸ h) hr.2
        have hro := hgt r (List.mem_cons_self ..)
        rcases ih s' hrest hgt' hnf with ⟨_, h2⟩ | h
        · rw [h2, hls, hown]; exact hro
        · exact h

theorem itemCmds_parse_exec (c : PCfg) (s : PState) (e : Raw) (he : e.cmd = bExec) :
    itemCmds (parseAll c s [e]) = [] := by
  simp only [parseAll]
  cases hps : parseStep c s e with
  | mk s' o =>
    cases o with
    | emit i =>
      have hcmd : i.cmd = e.cmd := parseStep_emit_cmd c s e i (by rw [hps])
      simp only
      rw [itemCmds_cons_bracket i [] (by rw [hcmd, he]; decide)]
      rfl
    | _ => rfl

theorem itemsOf_append (a b : List Ev) : itemsOf (a ++ b) = itemsOf a ++ itemsOf b := by
  induction a with
  | nil => rfl
  | cons ev rest ih => cases ev <;> simp [itemsOf, ih]

theorem itemsOf_split (evs : List Ev) (A B : List Item) (x : Item) (h : itemsOf evs = A ++ x :: B) :
    ∃ ea eb, evs = ea ++ Ev.item x :: eb ∧ itemsOf ea = A ∧ itemsOf eb = B := by
  induction evs generalizing A with
  | nil => simp [itemsOf] at h
  | cons ev rest ih =>
    have other : itemsOf (ev :: rest) = itemsOf rest →
        ∃ ea eb, ev :: rest = ea ++ Ev.item x :: eb ∧ itemsOf ea = A ∧ itemsOf eb = B := by
      intro he
      rw [he] at h
      obtain ⟨ea, eb, h1, h2, h3⟩ := ih A h
      exact ⟨ev :: ea, eb, by rw [h1]; rfl, by rw [← h2]; cases ev <;> first | rfl | (simp [itemsOf] at he), h3⟩
    cases ev with
    | item it =>
      simp only [itemsOf] at h
      cases A with
      | nil =>
        simp only [List.nil_append, List.cons.injEq] at h
        exact ⟨[], rest, by rw [h.1]; rfl, rfl, h.2⟩
      | cons a A' =>
        simp only [List.cons_append, List.cons.injEq] at h
        obtain ⟨ea, eb, h1, h2, h3⟩ := ih A' h.2
        exact ⟨Ev.item it :: ea, eb, by rw [h1]; rfl, by simp [itemsOf, h2, h.1], h3⟩
    | _ => exact other rfl

theorem run_lastOffset (c : SCfg) (s : SState) (evs : List Ev) :
    (run c s evs).1.lastOffset = s.lastOffset ∨
      ∃ i ∈ itemsOf evs, (run c s evs).1.lastOffset = i.offset := by
  induction evs generalizing s with
  | nil => exact Or.inl rfl
  | cons ev rest ih =>
    have hl := (step_cp c s ev).1
    have hnew : newLast s ev = s.lastOffset ∨ ∃ i ∈ itemsOf (ev :: rest), newLast s ev = i.offset := by
      cases ev with
      | item it => exact Or.inr ⟨it, by simp [itemsOf], rfl⟩
      | _ => exact Or.inl rfl
    simp only [run]
    split
    · rw [hl]; exact hnew
    · rcases ih (step c s ev).1 with h | ⟨i, hi, h⟩
      · rw [h, hl]; exact hnew
      · exact Or.inr ⟨i, by cases ev <;> simp [itemsOf, hi], h⟩

/-- the flush before an EXEC is absorbed stores the EXEC's offset, nothing else -/
theorem preFlush_commit_cp (c : SCfg) (s : SState) (nf : Bool) (prev : Int) :
    cpOffsets (preFlush c s .commit nf prev).2 = [] ∨
      cpOffsets (preFlush c s .commit nf prev).2 = [s.lastOffset] := by
  unfold preFlush
  split
  · simp only [↓reduceIte]
    rcases (sendOnce_cp c s c.txnMode (c.resume && c.txnMode) s.lastOffset).2 with h | ⟨h, _⟩
    · exact Or.inl h
    · exact Or.inr h
  · exact Or.inl rfl

theorem exec_cp (c : SCfg) (hc : c.txnMode = true) (s : SState) (it : Item) (he : it.cmd = bExec) :
    ∀ o ∈ cpOffsets (step c s (.item it)).2, o = it.offset := by
  have hpe : bExec ≠ bPing := by decide
  have hst' : txnStatus it.cmd ({ s with lastOffset := it.offset } : SState).txn = (Txn.commit, true) := by
    rw [he]; exact Props.C09.exec_status _
  simp only [step, he, hpe, ↓reduceIte]
  rw [Props.C09.stepItem_txn_eq c hc _ it s.lastOffset _ _ hst']
  unfold stepItemTxn
  simp only
  generalize hs1 : ({ s with lastOffset := it.offset, txn := Txn.commit, needFlush := true } : SState) = s1
  have hl1 : s1.lastOffset = it.offset := by rw [← hs1]
  obtain ⟨hlast, _⟩ := preFlush_cp c s1 .commit true s.lastOffset
  have habs : (absorb (preFlush c s1 .commit true s.lastOffset).1 .commit it).lastOffset = it.offset := by
    rw [absorb_last, hlast, hl1]
  obtain ⟨_, l2, h2, hl2⟩ := tail_cp c (absorb (preFlush c s1 .commit true s.lastOffset).1 .commit it)
    c.txnMode (c.resume && c.txnMode) (preFlush c s1 .commit true s.lastOffset).2
  intro o ho
  rw [h2] at ho
  rcases List.mem_append.mp ho with h | h
  · rcases preFlush_commit_cp c s1 true s.lastOffset with h0 | h0
    · rw [h0] at h; cases h
    · rw [h0, hl1] at h; simpa using h
  · rcases hl2 with h0 | ⟨h0, _⟩
    · rw [h0] at h; cases h
    · rw [h0, habs] at h; simpa using h

/-- **Transactional mode: no position comes from inside a transaction.** For a
    schedule whose items are `I1 ++ [MULTI] ++ I2 ++ [EXEC] ++ I3` (brackets not
    nested, no EXEC in `I2`), every position the run writes is the loop's initial
    `-1` or the offset of an item of `I1`, or the EXEC's offset, or the offset of
    an item of `I3`. -/
theorem txn_cp_positions (c : SCfg) (hc : c.txnMode = true) (evs : List Ev) (hnd : Props.C09.NoDone evs)
    (I1 I2 I3 : List Item) (x y : Item)
    (hitems : itemsOf evs = I1 ++ x :: (I2 ++ y :: I3))
    (hnn : ItemsNoNested false (itemsOf evs))
    (hx : x.cmd = bMulti) (hy : y.cmd = bExec) (hI2 : ∀ i ∈ I2, i.cmd ≠ bExec) :
    ∀ o ∈ cpOffsets (run c initS evs).2,
      (o = -1 ∨ ∃ i ∈ I1, o = i.offset) ∨ o = y.offset ∨ ∃ i ∈ I3, o = i.offset := by
  obtain ⟨e1, e2', hev, h1, h2'⟩ := itemsOf_split evs I1 _ x hitems
  obtain ⟨e2, e3, hev2, h2, h3⟩ := itemsOf_split e2' I2 I3 y h2'
  subst hev2
  subst hev
  have hnd1 : Props.C09.NoDone e1 := fun e he => hnd e (List.mem_append_left _ he)
  have hnd2 : Props.C09.NoDone e2 := fun e he =>
    hnd e (List.mem_append_right _ (List.mem_cons_of_mem _ (List.mem_append_left _ he)))
  have hnnE := Props.C01.noNested_of_items false _ hnn
  have hN := Props.C09.noNested_run c initS e1 (Ev.item x :: (e2 ++ Ev.item y :: e3)) hnd1
    (by simpa [initS, inT] using hnnE)
  simp only [Props.C01.NoNested, hx, ↓reduceIte] at hN
  have hpre : (run c initS e1).1.txn = .no ∨ (run c initS e1).1.txn = .barrier ∨
      (run c initS e1).1.txn = .commit := by
    have hout := hN.1
    cases hx' : (run c initS e1).1.txn <;> simp [hx', inT] at hout ⊢
  have hbody : ∀ ev ∈ e2, ∀ it, ev = .item it → it.cmd ≠ bExec := by
    intro ev hev it hit
    subst hit
    exact hI2 it (by rw [← h2]; exact mem_itemsOf hev)
  obtain ⟨hin1, _, hcpx⟩ := Props.C09.multi_opens c hc (run c initS e1).1 hpre x hx
  obtain ⟨hout2, _⟩ := Props.C09.no_flush_inside_txn_run c hc _ hin1 e2 hbody
  intro o ho
  have e : e1 ++ Ev.item x :: (e2 ++ Ev.item y :: e3) =
      e1 ++ ([Ev.item x] ++ (e2 ++ ([Ev.item y] ++ e3))) := by simp
  rw [e, Props.C09.run_append c initS e1 _ hnd1] at ho
  simp only at ho
  rw [Props.C09.run_append c (run c initS e1).1 [Ev.item x] _ (Props.C09.noDone_item x), Props.C09.run_single] at ho
  simp only at ho
  rw [Props.C09.run_append c (step c (run c initS e1).1 (Ev.item x)).1 e2 _ hnd2, hout2] at ho
  simp only [List.nil_append] at ho
  rw [Props.C09.run_append c _ [Ev.item y] _ (Props.C09.noDone_item y), Props.C09.run_single] at ho
  simp only [cpOffsets_append, List.mem_append] at ho
  have hfirst : ∀ v : Int, (v = initS.lastOffset ∨ ∃ i ∈ itemsOf e1, v = i.offset) →
      (v = -1 ∨ ∃ i ∈ I1, v = i.offset) := by
    intro v hv
    rcases hv with h | ⟨i, hi, h⟩
    · exact Or.inl h
    · exact Or.inr ⟨i, by rw [← h1]; exact hi, h⟩
  rcases ho with h | h | h | h
  · left
    apply hfirst
    rcases run_cp_origin c initS e1 o h with ⟨h0, _⟩ | h0
    · exact Or.inl h0
    · exact Or.inr h0
  · left
    apply hfirst
    rw [hcpx o h]
    exact run_lastOffset c initS e1
  · right; left
    exact exec_cp c hc _ y hy o h
  · right
    rcases run_cp_origin c _ e3 o h with ⟨h0, _⟩ | ⟨i, hi, h0⟩
    · left
      rw [h0, (step_cp c _ (Ev.item y)).1]
      rfl
    · right
      exact ⟨i, by rw [← h3]; exact hi, h0⟩

theorem group_order {pre body post : List Raw} {m e : Raw}
    (hraw : ((pre ++ m :: (body ++ e :: post)).map (·.off)).Pairwise (· < ·)) :
    (pre.map (·.off)).Pairwise (· < ·) ∧ (body.map (·.off)).Pairwise (· < ·) ∧
    (post.map (·.off)).Pairwise (· < ·) ∧
    (∀ r ∈ pre, r.off < m.off) ∧ (∀ r ∈ body, m.off < r.off ∧ r.off < e.off) ∧ m.off < e.off ∧
    (∀ r ∈ post, e.off < r.off) := by
  obtain ⟨hp, h1, hpm⟩ := sorted_append_lt hraw
  obtain ⟨h2, hm⟩ := sorted_cons_lt h1
  obtain ⟨hb, h3, hbe⟩ := sorted_append_lt h2
  obtain ⟨hpo, hepo⟩ := sorted_cons_lt h3
  refine ⟨hp, hb, hpo, fun r hr => hpm r hr m (List.mem_cons_self ..), ?_, ?_, hepo⟩
  · intro r hr
    exact ⟨hm r (List.mem_append_left _ hr), hbe r hr e (List.mem_cons_self ..)⟩
  · exact hm e (List.mem_append_right _ (List.mem_cons_self ..))

/-- **A position inside a source group leaves nothing of the group to execute.**
    A transactional run over the real parser's items for a stream
    `pre ++ [MULTI] ++ body ++ [EXEC] ++ post` that the parser reads from before
    the MULTI. If a position `o'` the run writes lies in `[MULTI.off, EXEC.off)`,
    it is the offset the EXEC carried out of a filtered database (`lastSent`), and
    the parser, standing after the group's commands ending at or before `o'`,
    hands over nothing executable for the rest of the group. -/
theorem group_tail_quiet (c : PCfg) (sc : SCfg) (hsc : sc.txnMode = true)
    (o : Int) (ho : 0 ≤ o) (pre body post : List Raw) (m e : Raw)
    (hm : m.cmd = bMulti) (he : e.cmd = bExec) (hnb : NoBracket body)
    (hraw : ((pre ++ m :: (body ++ e :: post)).map (·.off)).Pairwise (· < ·))
    (hlo : ∀ r ∈ pre ++ m :: (body ++ e :: post), o < r.off)
    (hnest : RawNoNested false (pre ++ m :: (body ++ e :: post)))
    (hpass : ∀ r ∈ pre ++ m :: (body ++ e :: post), (r.cmd = bMulti ∨ r.cmd = bExec) →
      c.filterCmd r.cmd = false ∧ (c.filterCmdKey r.cmd r.args).isSome)
    (hnf : parseFails c { lastSent := o } (pre ++ m :: (body ++ e :: post)) = false)
    (evs : List Ev) (hnd : Props.C09.NoDone evs)
    (hitems : itemsOf evs = parserItems c o (pre ++ m :: (body ++ e :: post)))
    (o' : Int) (ho' : o' ∈ cpOffsets (run sc initS evs).2) (h1 : m.off ≤ o') (h2 : o' < e.off) :
    itemCmds (parseAll c
      (parseState c { lastSent := o } (pre ++ m :: body.filter (fun r => decide (r.off ≤ o'))))
      (body.filter (fun r => decide (o' < r.off)) ++ [e])) = [] := by
  obtain ⟨_, hbs, _, hpm, hbme, _, hepo⟩ := group_order hraw
  generalize hB : pre ++ m :: (body ++ e :: post) = B at hlo hnest hpass hnf hitems
  have hmemB : ∀ {Y : List Raw}, (∀ r ∈ Y, r ∈ B) → ∀ s' : PState, parseFails c s' Y = false :=
    fun h s' => parseFails_of_subset c _ s' h hnf
  have hpreB : ∀ r ∈ pre, r ∈ B := fun r hr => hB ▸ List.mem_append_left _ hr
  have hgrpB : ∀ r ∈ m :: (body ++ e :: post), r ∈ B := fun r hr => hB ▸ List.mem_append_right _ hr
  have hmB : m ∈ B := hgrpB m (List.mem_cons_self ..)
  have heB : e ∈ B :=
    hgrpB e (List.mem_cons_of_mem _ (List.mem_append_right _ (List.mem_cons_self ..)))
  have hbodyB : ∀ r ∈ body, r ∈ B := fun r hr =>
    hgrpB r (List.mem_cons_of_mem _ (List.mem_append_left _ hr))
  -- the parser up to the MULTI
  have hto1 : (parseState c { lastSent := o } pre).txnOpen = false :=
    txnOpen_before_multi c pre m (body ++ e :: post) _ false rfl hm (by rw [hB]; exact hnest)
      (fun r hr => hpass r (hpreB r hr)) (hmemB hpreB _)
  obtain ⟨hfcm, hfkm⟩ := hpass m hmB (Or.inl hm)
  obtain ⟨am, hstepm⟩ := parseStep_in_order c _ m (Or.inl ⟨hm, hto1⟩) hfcm hfkm
  generalize hs1 : parseState c { lastSent := o } pre = s1 at hto1 hstepm
  generalize hoffm : (if passBracket s1 m.cmd = true then s1.lastSent else m.off) = offm at hstepm
  generalize hs2 : sent s1 m.cmd offm = s2 at hstepm
  have hto2 : s2.txnOpen = true := by rw [← hs2]; simp [sent, hm]
  -- the body and the EXEC
  have hto3 : (parseState c s2 body).txnOpen = true := by
    rw [parseState_noBracket_txnOpen c body s2 hnb (hmemB hbodyB _), hto2]
  obtain ⟨hfce, hfke⟩ := hpass e heB (Or.inr he)
  obtain ⟨ae, hstepe⟩ := parseStep_in_order c _ e (Or.inr ⟨he, hto3⟩) hfce hfke
  generalize hs3 : parseState c s2 body = s3 at hto3 hstepe
  generalize hoffe : (if passBracket s3 e.cmd = true then s3.lastSent else e.off) = offe at hstepe
  generalize hs4 : sent s3 e.cmd offe = s4 at hstepe
  have hls4 : s4.lastSent = offe := by rw [← hs4]; rfl
  -- the item list
  have hparse : parseAll c { lastSent := o } B =
      parseAll c { lastSent := o } pre ++
        { cmd := m.cmd, args := am, offset := offm, db := s1.currentDB } ::
          (parseAll c s2 body ++
            { cmd := e.cmd, args := ae, offset := offe, db := s3.currentDB } :: parseAll c s4 post) := by
    rw [← hB, parseAll_append c _ pre _ (hmemB hpreB _), hs1]
    congr 1
    simp only [parseAll, hstepm]
    congr 1
    rw [parseAll_append c s2 body _ (hmemB hbodyB _), hs3]
    congr 1
    simp only [parseAll, hstepe]
  have hnn : ItemsNoNested false (itemsOf evs) := by
    rw [hitems]
    exact Props.C02.itemsNoNested_parserItems c o B
      (parseAll_noNested c B { lastSent := o } false rfl hnest hpass)
  have hitems' : itemsOf evs =
      ((if c.startDbId > 0 then [selectItem c.startDbId o] else []) ++ parseAll c { lastSent := o } pre) ++
        { cmd := m.cmd, args := am, offset := offm, db := s1.currentDB } ::
          (parseAll c s2 body ++
            { cmd := e.cmd, args := ae, offset := offe, db := s3.currentDB } :: parseAll c s4 post) := by
    rw [hitems]; unfold parserItems; rw [hparse, List.append_assoc]
  have hI2 : ∀ i ∈ parseAll c s2 body, i.cmd ≠ bExec := by
    intro i hi
    obtain ⟨r, hr, hc⟩ := parseAll_cmd_src c body s2 i hi
    rw [hc]; exact (hnb r hr).2
  -- where the position comes from
  have hpos : o' = offe := by
    rcases txn_cp_positions sc hsc evs hnd _ _ _ _ _ hitems' hnn hm he hI2 o' ho' with
      (h | ⟨i, hi, h⟩) | h | ⟨i, hi, h⟩
    · exfalso
      have := hlo m hmB
      omega
    · exfalso
      rcases List.mem_append.mp hi with hi | hi
      · split at hi
        · simp only [List.mem_singleton] at hi
          rw [hi] at h
          have := hlo m hmB
          simp only [selectItem] at h
          omega
        · cases hi
      · rcases parseAll_offset_src c pre _ i hi with h0 | ⟨r, hr, h0⟩
        · have := hlo m hmB
          simp only at h0
          omega
        · have := hpm r hr
          omega
    · exact h
    · rcases parseAll_offset_src c post s4 i hi with h0 | ⟨r, hr, h0⟩
      · rw [h, h0, hls4]
      · exfalso
        have := hepo r hr
        omega
  have hlast3 : s3.lastSent = o' := by
    rw [hpos, ← hoffe]
    by_cases hpb : passBracket s3 e.cmd = true
    · simp only [hpb, ↓reduceIte]
    · exfalso
      rw [hpos, ← hoffe] at h2
      simp only [hpb, Bool.false_eq_true, ↓reduceIte] at h2
      omega
  -- the rest of the group hands over nothing
  have hsplit := sorted_split body o' hbs
  generalize hb1 : body.filter (fun r => decide (r.off ≤ o')) = b1 at hsplit ⊢
  generalize hb2 : body.filter (fun r => decide (o' < r.off)) = b2 at hsplit ⊢
  have hb1B : ∀ r ∈ b1, r ∈ B := fun r hr => hbodyB r (by rw [hsplit]; exact List.mem_append_left _ hr)
  have hb2B : ∀ r ∈ b2, r ∈ B := fun r hr => hbodyB r (by rw [hsplit]; exact List.mem_append_right _ hr)
  have hstate : parseState c { lastSent := o } (pre ++ m :: b1) = parseState c s2 b1 := by
    rw [parseState_append c _ pre _ (hmemB hpreB _), hs1]
    simp only [parseState, hstepm]
  have hs3' : parseState c (parseState c s2 b1) b2 = s3 := by
    rw [← hs3, hsplit, parseState_append c s2 b1 b2 (hmemB hb1B _)]
  have hquiet : parseAll c (parseState c s2 b1) b2 = [] := by
    rcases quiet_or_moved c o' b2 (parseState c s2 b1)
      (fun r hr => hnb r (by rw [hsplit]; exact List.mem_append_right _ hr))
      (fun r hr => by rw [← hb2] at hr; simpa using (List.mem_filter.mp hr).2)
      (hmemB hb2B _) with ⟨h, _⟩ | h
    · exact h
    · rw [hs3', hlast3] at h; omega
  rw [hstate, parseAll_append c _ b2 [e] (hmemB hb2B _), hquiet, List.nil_append]
  exact itemCmds_parse_exec c _ e he

theorem filter_le_split (raws : List Raw) (o o' : Int) (hraw : (raws.map (·.off)).Pairwise (· < ·))
    (h : o ≤ o') :
    raws.filter (fun r => decide (r.off ≤ o')) =
      raws.filter (fun r => decide (r.off ≤ o)) ++
        (raws.filter (fun r => decide (o < r.off))).filter (fun r => decide (r.off ≤ o')) := by
  conv => lhs; rw [sorted_split raws o hraw]
  rw [List.filter_append]
  congr 1
  apply filter_le_self
  intro r hr
  have := (List.mem_filter.mp hr).2
  simp only [decide_eq_true_eq] at this
  omega

section group
variable {pre body post : List Raw} {m e : Raw} {o : Int}

theorem grp_rest_mem (o : Int) :
    ∀ r ∈ body.filter (fun r => decide (o < r.off)) ++ [e], r ∈ pre ++ m :: (body ++ e :: post) := by
  intro r hr
  rcases List.mem_append.mp hr with h | h
  · have := (List.mem_filter.mp h).1; simp [this]
  · simp only [List.mem_singleton] at h; simp [h]

theorem grp_above (hraw : ((pre ++ m :: (body ++ e :: post)).map (·.off)).Pairwise (· < ·))
    (h : o < m.off) : ∀ r ∈ m :: (body ++ e :: post), o < r.off := by
  obtain ⟨_, _, _, _, hb, hme, hpo⟩ := group_order hraw
  intro r hr
  simp only [List.mem_cons, List.mem_append] at hr
  rcases hr with rfl | hr | rfl | hr
  · exact h
  · have := (hb r hr).1; omega
  · omega
  · have := hpo r hr; omega

theorem grp_gt_before (hraw : ((pre ++ m :: (body ++ e :: post)).map (·.off)).Pairwise (· < ·))
    (h : o < m.off) :
    (pre ++ m :: (body ++ e :: post)).filter (fun r => decide (o < r.off)) =
      pre.filter (fun r => decide (o < r.off)) ++ m :: (body ++ e :: post) := by
  rw [List.filter_append, filter_gt_self (grp_above hraw h)]

theorem grp_le_before (hraw : ((pre ++ m :: (body ++ e :: post)).map (·.off)).Pairwise (· < ·))
    (h : o < m.off) :
    (pre ++ m :: (body ++ e :: post)).filter (fun r => decide (r.off ≤ o)) =
      pre.filter (fun r => decide (r.off ≤ o)) := by
  rw [List.filter_append, filter_le_nil (grp_above hraw h), List.append_nil]

theorem grp_tail_above (hraw : ((pre ++ m :: (body ++ e :: post)).map (·.off)).Pairwise (· < ·))
    (h : o < e.off) : ∀ r ∈ e :: post, o < r.off := by
  intro r hr
  rcases List.mem_cons.mp hr with rfl | hr
  · exact h
  · have := (group_order hraw).2.2.2.2.2.2 r hr; omega

theorem grp_gt_inside (hraw : ((pre ++ m :: (body ++ e :: post)).map (·.off)).Pairwise (· < ·))
    (h1 : m.off ≤ o) (h2 : o < e.off) :
    (pre ++ m :: (body ++ e :: post)).filter (fun r => decide (o < r.off)) =
      body.filter (fun r => decide (o < r.off)) ++ e :: post := by
  obtain ⟨_, _, _, hp, _, _, _⟩ := group_order hraw
  have hmo : ¬ o < m.off := by omega
  rw [List.filter_append, filter_gt_nil (L := pre) (fun r hr => by have := hp r hr; omega),
    List.nil_append, List.filter_cons]
  simp only [hmo, decide_false, Bool.false_eq_true, ↓reduceIte]
  rw [List.filter_append, filter_gt_self (grp_tail_above hraw h2)]

theorem grp_le_inside (hraw : ((pre ++ m :: (body ++ e :: post)).map (·.off)).Pairwise (· < ·))
    (h1 : m.off ≤ o) (h2 : o < e.off) :
    (pre ++ m :: (body ++ e :: post)).filter (fun r => decide (r.off ≤ o)) =
      pre ++ m :: body.filter (fun r => decide (r.off ≤ o)) := by
  obtain ⟨_, _, _, hp, _, _, _⟩ := group_order hraw
  rw [List.filter_append, filter_le_self (L := pre) (fun r hr => by have := hp r hr; omega),
    List.filter_cons]
  simp only [h1, decide_true, ↓reduceIte]
  rw [List.filter_append, filter_le_nil (grp_tail_above hraw h2), List.append_nil]

theorem grp_le_after (hraw : ((pre ++ m :: (body ++ e :: post)).map (·.off)).Pairwise (· < ·))
    (h : e.off ≤ o) :
    (pre ++ m :: (body ++ e :: post)).filter (fun r => decide (r.off ≤ o)) =
      pre ++ m :: (body ++ e :: post.filter (fun r => decide (r.off ≤ o))) := by
  obtain ⟨_, _, _, hp, hb, hme, _⟩ := group_order hraw
  have hmo : m.off ≤ o := by omega
  rw [List.filter_append, filter_le_self (L := pre) (fun r hr => by have := hp r hr; omega),
    List.filter_cons]
  simp only [hmo, decide_true, ↓reduceIte]
  rw [List.filter_append, filter_le_self (L := body) (fun r hr => by have := (hb r hr).2; omega),
    List.filter_cons]
  simp only [h, decide_true, ↓reduceIte]

end group

end GunYu.Sender
