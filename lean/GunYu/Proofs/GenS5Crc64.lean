/-
  The REGENERATED `digest.update` of pkg/digest/crc64.go (lean/GunYu/Gen/FnCrc64.lean, translated
  from /repo's Go source on every run by harness/extract/gofn*.go, generator `gofn_crc64`) equals
  the two hand-written table-driven CRC64 models: `Rdb.crc64TabFrom` (C03/C04: the DUMP footer and
  the snapshot checksum) and `StoreFs.crc64` (C08: the segment header and the snapshot footer of
  the disk cache). Side condition: `len(p) < 2^63 - 1` (the range counter never wraps).
-/
import GunYu.Model.Rdb.Crc64
import GunYu.Props.C11Gen
import GunYu.Gen.FnCrc64

namespace GunYu.Proofs.GenS5
open GunYu GunYu.Gen
open GunYu.Props.C11 (index_nat lt_len_iff addI_nat)

theorem crc64_table_size : Gen.crc64Table.size = 256 := by decide +kernel

theorem arrIdx_crc64 (n : Nat) (h : n < 256) :
    GoSem.arrIdx Gen.crc64Table n = some (Gen.crc64Table.getD n 0#64) := by
  unfold GoSem.arrIdx
  have : n < Gen.crc64Table.size := by rw [crc64_table_size]; exact h
  simp [Array.getD, this]

/-- `byte(crc) ^ b` (Go, in uint8) is `(crc ^ uint64(b)) & 0xFF` (the hand models, in uint64) -/
theorem crc64_index_eq (crc : BitVec 64) (b : UInt8) :
    ((GoSem.bvToU8 crc) ^^^ b).toNat = ((crc ^^^ (b.toBitVec.setWidth 64)) &&& 0xFF#64).toNat := by
  have h1 : ((GoSem.bvToU8 crc) ^^^ b).toNat = ((crc.setWidth 8) ^^^ b.toBitVec).toNat := rfl
  rw [h1]
  have hm : ∀ i, i < 8 → (0xFF#64).getLsbD i = true := by decide
  have h2 : (crc.setWidth 8) ^^^ b.toBitVec = ((crc ^^^ (b.toBitVec.setWidth 64)) &&& 0xFF#64).setWidth 8 := by
    ext i hi
    simp only [BitVec.getElem_xor, BitVec.getElem_setWidth, BitVec.getLsbD_and, BitVec.getLsbD_xor,
      BitVec.getLsbD_setWidth]
    simp [hm i hi, show i < 64 by omega, BitVec.getLsbD_eq_getElem hi]
  rw [h2, BitVec.toNat_setWidth]
  have : ((crc ^^^ (b.toBitVec.setWidth 64)) &&& 0xFF#64).toNat < 256 := by
    rw [BitVec.toNat_and]
    exact Nat.lt_of_le_of_lt Nat.and_le_right (by decide)
  omega

/-- the same with the operands of `^` written the other way round (a harmless rewrite of the Go line) -/
theorem crc64_index_eq' (crc : BitVec 64) (b : UInt8) :
    (b ^^^ (GoSem.bvToU8 crc)).toNat = ((crc ^^^ (b.toBitVec.setWidth 64)) &&& 0xFF#64).toNat := by
  rw [UInt8.xor_comm]; exact crc64_index_eq crc b

theorem gen_crc64Update_loop (p : Bytes) (hlen : p.length < 9223372036854775807) :
    ∀ (fuel i : Nat) (d : Fn.digest), i ≤ p.length → p.length - i < fuel →
      Fn.crc64Update_loop1 p fuel d (i : Int) = some ⟨(p.drop i).foldl Rdb.crc64TabStep d.crc⟩ := by
  intro fuel
  induction fuel with
  | zero => intro i d _ h; omega
  | succ fuel ih =>
    intro i d hi hf
    unfold Fn.crc64Update_loop1
    by_cases hlt : i < p.length
    · have h1 : ((i : Int) < GoSem.len p) := (lt_len_iff p i).2 hlt
      simp only [h1, ↓reduceIte, index_nat p i hlt, Option.bind_some, bind]
      rw [arrIdx_crc64 _ (UInt8.toNat_lt _)]
      simp only [Option.bind_some]
      rw [addI_nat i (by omega), ih (i + 1) _ (by omega) (by omega)]
      rw [List.drop_eq_getElem_cons hlt, List.foldl_cons]
      simp only [Rdb.crc64TabStep, crc64_index_eq, crc64_index_eq', BitVec.xor_comm]
    · have h1 : ¬ ((i : Int) < GoSem.len p) := fun h => hlt ((lt_len_iff p i).1 h)
      have h2 : p.drop i = [] := List.drop_eq_nil_of_le (by omega)
      rw [if_neg h1, h2]
      rfl

/-- the regenerated `digest.update` continues the table-driven CRC64 of the hand model from the
    digest's current state, for every input and every state; it never panics -/
theorem gen_crc64Update_eq_tabFrom (d : Fn.digest) (p : Bytes) (hlen : p.length < 9223372036854775807) :
    Fn.crc64Update d p = some ⟨Rdb.crc64TabFrom d.crc p⟩ := by
  unfold Fn.crc64Update
  have h := gen_crc64Update_loop p hlen ((GoSem.len p).toNat + 1) 0 d (by omega)
    (by unfold GoSem.len; omega)
  simp only [Int.ofNat_zero, List.drop_zero] at h
  simp [h, Rdb.crc64TabFrom]

/-- two writes are one write of the concatenation (what `digest.Write` relies on) -/
theorem gen_crc64Update_append (d : Fn.digest) (p q : Bytes)
    (hp : p.length < 9223372036854775807) (hq : q.length < 9223372036854775807)
    (hpq : (p ++ q).length < 9223372036854775807) :
    (Fn.crc64Update d p).bind (fun d' => Fn.crc64Update d' q) = Fn.crc64Update d (p ++ q) := by
  rw [gen_crc64Update_eq_tabFrom d p hp, gen_crc64Update_eq_tabFrom d (p ++ q) hpq]
  simp only [Option.bind_some]
  rw [gen_crc64Update_eq_tabFrom _ q hq]
  simp [Rdb.crc64TabFrom, List.foldl_append]

-- non-vacuity: CRC-64/Jones("123456789") = 0xe9c6d914c4b8d9ca (Redis crc64.c test vector), evaluated
-- on the GENERATED definition
example : Fn.crc64Update ⟨0#64⟩ [49, 50, 51, 52, 53, 54, 55, 56, 57] = some ⟨0xe9c6d914c4b8d9ca#64⟩ := by
  decide +kernel
example : Fn.crc64Update ⟨0x1234#64⟩ [] = some ⟨0x1234#64⟩ := by decide +kernel

end GunYu.Proofs.GenS5
