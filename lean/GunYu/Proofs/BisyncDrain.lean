/-
  Streams only grow; every emitted unit holds the commands of a block of the
  source stream; and the drain: link steps alone consume the pending client
  blocks one commit each, each link paying only for itself, and reach a state
  where nothing is pending.
-/
import GunYu.Proofs.BisyncWorld

namespace GunYu.Bisync
open GunYu GunYu.BisyncUnit

/-! ### streams only grow; links change only by link steps -/

theorem tagIds_foreign (n : Nat) (bs : List Block) : ∀ tb ∈ tagIds n bs, isForeign tb.tag = true := by
  induction bs generalizing n with
  | nil => intro tb h; cases h
  | cons b bs ih =>
    intro tb h
    simp only [tagIds, List.mem_cons] at h
    rcases h with rfl | h
    · rfl
    · exact ih _ tb h

theorem step_stream_grows (cfg : WCfg) (hf : FOK cfg.parser.filter) (w : World) (hinv : WInv cfg w) (e : Ev)
    (t : SiteId) : ∃ ext, ((stepWorld cfg w e).site t).stream = (w.site t).stream ++ ext := by
  have same : ∃ ext, (w.site t).stream = (w.site t).stream ++ ext := ⟨[], (List.append_nil _).symm⟩
  by_cases hl : e.isLink
  · obtain ⟨src, arg, rfl⟩ := hl.exists
    have hs := link_step_shape cfg hf w hinv src arg
    generalize stepWorld cfg w (.link src arg) = w' at hs
    cases hs with
    | stay _ => exact same
    | skip tb pst' _ _ _ => rw [site_setLink]; exact same
    | halt tb e _ _ _ => rw [site_setLink]; exact same
    | emit tb pst' e _ _ _ _ _ =>
      rcases eq_or_other src t with rfl | rfl
      · rw [site_commitWorld_same]; exact same
      · exact (stream_commitWorld_other cfg w src arg tb.tag pst' e).imp fun _ h => h.1
  by_cases hr : e.isRestart
  · obtain ⟨src, p, sq, rfl⟩ := hr.exists
    rcases restart_shape cfg w src p sq with h | ⟨_, l', h, _⟩ <;> rw [h]
    · exact same
    · rw [site_setLink]; exact same
  · obtain ⟨s, x, n, ext, h, hx⟩ := site_step_shape cfg w e hl hr
    rw [h, site_nextId]
    rcases eq_or_other s t with rfl | rfl
    · rw [site_setSite_same]; exact ⟨ext, hx⟩
    · rw [site_setSite_other]; exact same

theorem step_link_same (cfg : WCfg) (w : World) (e : Ev) (hne : ¬ e.isLink) (hnr : ¬ e.isRestart) (t : SiteId) :
    (stepWorld cfg w e).link t = w.link t := by
  obtain ⟨s, x, n, _, h, _⟩ := site_step_shape cfg w e hne hnr
  rw [h, link_nextId, link_setSite]

/-! ### every emitted unit holds exactly the commands of a block of the source stream -/

def Content (w : World) : Prop :=
  ∀ s, ∀ p ∈ (w.link s).emitted, ∃ tb ∈ (w.site s).stream, tb.tag = p.1 ∧ p.2.unit.cmds = tb.block.body.map norm

theorem content_step (cfg : WCfg) (hf : FOK cfg.parser.filter) (w : World) (hinv : WInv cfg w) (hc : Content w)
    (e : Ev) : Content (stepWorld cfg w e) := by
  intro s p hp
  obtain ⟨ext, hext⟩ := step_stream_grows cfg hf w hinv e s
  -- a block of the old stream is a block of the new one
  suffices h : ∃ tb ∈ (w.site s).stream, tb.tag = p.1 ∧ p.2.unit.cmds = tb.block.body.map norm by
    obtain ⟨tb, htb, h⟩ := h
    exact ⟨tb, hext ▸ List.mem_append_left _ htb, h⟩
  -- a link record other than the one set to `l'` is the old one
  have setLink : ∀ src l', p ∈ ((w.setLink src l').link s).emitted → (p ∈ l'.emitted → p ∈ (w.link src).emitted) →
      p ∈ (w.link s).emitted := by
    intro src l' hp h
    rcases eq_or_other src s with rfl | rfl
    · rw [link_setLink_same] at hp; exact h hp
    · rw [link_setLink_other] at hp; exact hp
  by_cases hl : e.isLink
  · obtain ⟨src, arg, rfl⟩ := hl.exists
    have hs := link_step_shape cfg hf w hinv src arg
    generalize stepWorld cfg w (.link src arg) = w' at hs hp
    cases hs with
    | stay _ => exact hc s p hp
    | skip tb pst' _ _ _ => exact hc s p (setLink src _ hp id)
    | halt tb e _ _ _ => exact hc s p (setLink src _ hp id)
    | emit tb pst' em hget _ _ hcmds _ =>
      rcases eq_or_other src s with rfl | rfl
      · rw [link_commitWorld_same] at hp
        rcases List.mem_append.mp hp with hp | hp
        · exact hc _ p hp
        · rw [List.mem_singleton.mp hp]
          exact ⟨tb, (mem_of_getElem? _ _ _ hget).1, rfl, hcmds⟩
      · rw [link_commitWorld_other] at hp
        exact hc _ p hp
  by_cases hr : e.isRestart
  · obtain ⟨src, q, sq, rfl⟩ := hr.exists
    rcases restart_shape cfg w src q sq with h | ⟨_, l', h, _, _, _, hem, _⟩ <;> rw [h] at hp
    · exact hc s p hp
    · exact hc s p (setLink src l' hp (hem ▸ id))
  · exact hc s p (step_link_same cfg w e hl hr s ▸ hp)

theorem content_run (cfg : WCfg) (hf : FOK cfg.parser.filter) (evs : List Ev) (w : World) (hinv : WInv cfg w)
    (hc : Content w) (hgood : GoodRun cfg w evs) : Content (runWorld cfg w evs) := by
  induction evs generalizing w with
  | nil => exact hc
  | cons e es ih =>
    exact ih _ (step_preserves cfg hf w hinv e hgood.1) (content_step cfg hf w hinv hc e) hgood.2

theorem content_initWith (cpAB cpBA : Bytes) (sa sb : Store) (na nb : Nat) :
    Content (World.initWith cpAB cpBA sa sb na nb) := by
  intro s p hp
  cases s <;> cases hp

theorem content_init (cpAB cpBA : Bytes) : Content (World.init cpAB cpBA) :=
  content_initWith cpAB cpBA [] [] 0 0

/-! ### the drain -/

/-- client blocks a link has not read yet -/
def dueRest (w : World) (s : SiteId) : Nat :=
  (((w.site s).stream.drop (w.link s).pos).filter due).length

/-- … over both links -/
def pendingDue (w : World) : Nat := dueRest w .A + dueRest w .B

theorem pendingDue_eq (w : World) (src : SiteId) : pendingDue w = dueRest w src + dueRest w src.other := by
  cases src
  · rfl
  · exact Nat.add_comm _ _

theorem link_step_count (cfg : WCfg) (hf : FOK cfg.parser.filter) (w : World) (hinv : WInv cfg w)
    (src : SiteId) (arg : CommitArg) :
    pendingDue (stepWorld cfg w (.link src arg)) + (stepWorld cfg w (.link src arg)).commits.length =
      pendingDue w + w.commits.length := by
  have hs := link_step_shape cfg hf w hinv src arg
  generalize stepWorld cfg w (.link src arg) = w' at hs
  rw [pendingDue_eq _ src, pendingDue_eq w src]
  unfold dueRest
  cases hs with
  | stay _ => rfl
  | skip tb pst' hget hd _ =>
    rw [commits_setLink, site_setLink, site_setLink, link_setLink_same, link_setLink_other,
      drop_of_get _ _ tb hget, List.filter_cons, hd]
    rfl
  | halt tb e hget hd _ =>
    rw [commits_setLink, site_setLink, site_setLink, link_setLink_same, link_setLink_other]
  | emit tb pst' e hget hd _ _ _ =>
    obtain ⟨ext, hext, hnd⟩ := stream_commitWorld_other cfg w src arg tb.tag pst' e
    have hnil : ext.filter due = [] := List.filter_eq_nil_iff.mpr fun tb' h => by simp [hnd tb' h]
    rw [link_commitWorld_same, link_commitWorld_other, site_commitWorld_same, commits_commitWorld, hext,
      List.drop_append_of_le_length (hinv.pos src.other), List.filter_append, hnil]
    show (List.filter due (List.drop ((w.link src).pos + 1) _)).length + _ + _ = _
    rw [drop_of_get _ _ tb hget, List.filter_cons, hd]
    simp only [↓reduceIte, List.length_cons, List.length_append, List.length_nil, List.append_nil]
    omega

/-- **Drain bound.** Over any sequence of link steps, every commit consumes one
    pending client block and no new pending block appears. -/
theorem drain_count (cfg : WCfg) (hf : FOK cfg.parser.filter) (more : List Ev) (w : World) (hinv : WInv cfg w)
    (hl : ∀ e ∈ more, e.isLink) :
    pendingDue (runWorld cfg w more) + (runWorld cfg w more).commits.length = pendingDue w + w.commits.length := by
  induction more generalizing w with
  | nil => rfl
  | cons e es ih =>
    obtain ⟨src, arg, rfl⟩ := (hl e (List.mem_cons_self ..)).exists
    exact (ih _ (step_link cfg hf w hinv src arg) (fun e' he' => hl e' (List.mem_cons_of_mem _ he'))).trans
      (link_step_count cfg hf w hinv src arg)

/-! ### the work each link has left -/

/-- distance from the front of a block list to just past its last due block -/
def need : List TBlock → Nat
  | [] => 0
  | tb :: rest => if need rest > 0 then need rest + 1 else if due tb then 1 else 0

theorem need_eq_zero (l : List TBlock) : need l = 0 ↔ ∀ tb ∈ l, due tb = false := by
  induction l with
  | nil => simp [need]
  | cons tb rest ih =>
    rw [need, List.forall_mem_cons, ← ih]
    cases due tb <;> by_cases hr : need rest > 0 <;> simp [hr] <;> omega

theorem need_append (l t : List TBlock) (ht : ∀ tb ∈ t, due tb = false) : need (l ++ t) = need l := by
  induction l with
  | nil => exact (need_eq_zero t).mpr ht
  | cons tb rest ih => simp only [List.cons_append, need, ih]

theorem need_tail_le (tb : TBlock) (rest : List TBlock) : need rest ≤ need (tb :: rest) - 1 := by
  rw [need]
  split <;> omega

/-- work a live link still has before it is past its last pending client block -/
def needOf (w : World) (s : SiteId) : Nat :=
  if (w.link s).halted.isSome then 0 else need ((w.site s).stream.drop (w.link s).pos)

theorem settled_of_needOf (w : World) (s : SiteId) (h : needOf w s = 0) : Settled w s := by
  unfold needOf at h
  by_cases hh : (w.link s).halted.isSome = true
  · exact Or.inl hh
  · rw [if_neg hh] at h
    exact Or.inr ((need_eq_zero _).mp h)

/-- one link step: the stepping link's remaining work drops by one (or to zero when the builder
    stops it), the other link's is untouched: what a link writes at the other site is never owed a commit -/
theorem link_step_needOf (cfg : WCfg) (hf : FOK cfg.parser.filter) (w : World) (hinv : WInv cfg w)
    (src : SiteId) (arg : CommitArg) :
    needOf (stepWorld cfg w (.link src arg)) src ≤ needOf w src - 1 ∧
    needOf (stepWorld cfg w (.link src arg)) src.other = needOf w src.other := by
  have hs := link_step_shape cfg hf w hinv src arg
  generalize stepWorld cfg w (.link src arg) = w' at hs
  -- the link has passed block `tb`, its stop (if any) unchanged
  have passed : ∀ tb (l' : LinkSt), (w.site src).stream[(w.link src).pos]? = some tb → l'.pos = (w.link src).pos + 1 →
      l'.halted = (w.link src).halted →
      (if l'.halted.isSome then 0 else need ((w.site src).stream.drop l'.pos)) ≤ needOf w src - 1 := by
    intro tb l' hget hp hh
    unfold needOf
    rw [hp, hh, drop_of_get _ _ tb hget]
    split
    · exact Nat.zero_le _
    · exact need_tail_le tb _
  unfold needOf at passed ⊢
  cases hs with
  | stay h =>
    refine ⟨?_, rfl⟩
    rcases h with h | h
    · rw [if_pos h]; exact Nat.zero_le _
    · rw [List.drop_eq_nil_of_le (by simpa using h)]
      split <;> exact Nat.zero_le _
  | skip tb pst' hget hd _ =>
    rw [link_setLink_same, link_setLink_other, site_setLink, site_setLink]
    exact ⟨passed tb _ hget rfl rfl, rfl⟩
  | halt tb e hget hd _ =>
    rw [link_setLink_same, link_setLink_other, site_setLink, site_setLink]
    exact ⟨Nat.zero_le _, rfl⟩
  | emit tb pst' e hget hd _ _ _ =>
    obtain ⟨ext, hext, hnd⟩ := stream_commitWorld_other cfg w src arg tb.tag pst' e
    rw [link_commitWorld_same, link_commitWorld_other, site_commitWorld_same, hext,
      List.drop_append_of_le_length (hinv.pos src.other), need_append _ _ hnd]
    exact ⟨passed tb _ hget rfl rfl, rfl⟩

/-- **The drain reaches quiescence.** From any reachable world there is a
    finite sequence of link steps after which, for each link, either it has
    stopped (on a builder error) or nothing it still has to read is owed a
    commit. -/
theorem drain_reaches (cfg : WCfg) (hf : FOK cfg.parser.filter) (w : World) (hinv : WInv cfg w) :
    ∃ more, (∀ e ∈ more, e.isLink) ∧ WInv cfg (runWorld cfg w more) ∧
      ∀ s, Settled (runWorld cfg w more) s := by
  generalize hn : needOf w .A + needOf w .B = n
  induction n using Nat.strongRecOn generalizing w with
  | _ n ih =>
    by_cases hz : needOf w .A = 0 ∧ needOf w .B = 0
    · refine ⟨[], by simp, hinv, fun s => ?_⟩
      cases s
      · exact settled_of_needOf w .A hz.1
      · exact settled_of_needOf w .B hz.2
    · -- a link with work left takes a step: the total work drops
      obtain ⟨src, hwork⟩ : ∃ src : SiteId, needOf w src > 0 := by
        by_cases ha : needOf w .A = 0
        · exact ⟨.B, by omega⟩
        · exact ⟨.A, by omega⟩
      let arg : CommitArg := ⟨.latest, [], []⟩
      have hsum : ∀ W : World, needOf W .A + needOf W .B = needOf W src + needOf W src.other := by
        intro W
        cases src
        · rfl
        · exact Nat.add_comm _ _
      obtain ⟨h1, h2⟩ := link_step_needOf cfg hf w hinv src arg
      obtain ⟨more, hm1, hm2, hm3⟩ := ih _ (by rw [hsum, ← hn, hsum w]; omega) _ (step_link cfg hf w hinv src arg) rfl
      refine ⟨.link src arg :: more, fun e he => ?_, hm2, hm3⟩
      rcases List.mem_cons.mp he with rfl | he
      · trivial
      · exact hm1 e he

end GunYu.Bisync
