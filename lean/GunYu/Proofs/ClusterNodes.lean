/-
  C18 — helper lemmas for Model/ClusterNodes.lean: what a successful Put
  sequence guarantees whatever each node answers, the builder's iteration over
  the nodes, and the transaction flag on commands that are not MULTI / EXEC.
-/
import GunYu.Model.ClusterNodes
import GunYu.Proofs.BisyncTxn
import GunYu.Proofs.BisyncCommit

namespace GunYu.BisyncUnit
open GunYu GunYu.Slot

/-! ### one Put -/

theorem txnPut_inv (cv : ClusterView) (anyNode : Option Nat) (t t' : Txn) (c : Cmd)
    (h : txnPut cv anyNode t c = .ok t') :
    (∀ s, t.slot = some s → t'.slot = some s) ∧
    (∀ s, t'.slot = some s → ∀ key ∈ putKeys cv anyNode c, clusterHash key = s) ∧
    ((t' = t ∧ putKeys cv anyNode c = []) ∨ (t'.cmds = t.cmds ++ [c] ∧ t'.slot.isSome = true)) := by
  rw [txnPut_eq_route] at h
  unfold putKeys
  cases hc : chooseNode cv anyNode c with
  | error e => rw [hc] at h; cases h
  | ok ch =>
    rw [hc] at h
    cases ch with
    | skip =>
      cases h
      exact ⟨fun _ hs => hs, fun _ _ _ hk => (nomatch hk), Or.inl ⟨rfl, rfl⟩⟩
    | route node keys =>
      cases keys with
      | nil => cases h
      | cons k ks =>
        obtain ⟨hks, hslot, -, rfl⟩ := (txnPutRoute_ok_iff ..).mp h
        refine ⟨fun s hs => by rw [hslot s hs], ?_, Or.inr ⟨rfl, rfl⟩⟩
        rintro s ⟨⟩ key hk
        rcases List.mem_cons.mp hk with rfl | hk
        · rfl
        · exact hks key hk

/-! ### a Put sequence with a node per command -/

theorem assignPicks_map_fst (l : List Cmd) (picks : List Nat) : (assignPicks l picks).map (·.1) = l := by
  induction l generalizing picks with
  | nil => rfl
  | cons c cs ih =>
    unfold assignPicks
    split <;> simp [ih]

theorem txnPutAllN_inv (owner : Nat → Option Nat) (ans : NodeAns) (anyNode : Option Nat)
    (l : List (Cmd × Nat)) (t t' : Txn) (h : txnPutAllN owner ans anyNode t l = .ok t') :
    (∀ s, t.slot = some s → t'.slot = some s) ∧
    (∀ s, t'.slot = some s → ∀ p ∈ l, ∀ key ∈ putKeys ⟨owner, ans p.2⟩ anyNode p.1, clusterHash key = s) ∧
    (∃ ext, t'.cmds = t.cmds ++ ext ∧ ∀ c ∈ ext, c ∈ l.map (·.1)) := by
  induction l generalizing t with
  | nil =>
    cases h
    exact ⟨fun s hs => hs, fun s _ p hp => (nomatch hp), [], (List.append_nil _).symm, nofun⟩
  | cons p ps ih =>
    obtain ⟨c, n⟩ := p
    simp only [txnPutAllN] at h
    cases h1 : txnPut ⟨owner, ans n⟩ anyNode t c with
    | error e => rw [h1] at h; cases h
    | ok t1 =>
      rw [h1] at h
      obtain ⟨a1, a2, a3⟩ := txnPut_inv _ anyNode t t1 c h1
      obtain ⟨b1, b2, ext, b3, b4⟩ := ih t1 h
      have b4' : ∀ c' ∈ ext, c' ∈ ((c, n) :: ps).map (·.1) := fun c' hc' => List.mem_cons_of_mem _ (b4 c' hc')
      refine ⟨fun s hs => b1 s (a1 s hs), ?_, ?_⟩
      · intro s hs q hq key hk
        rcases List.mem_cons.mp hq with rfl | hq
        · rcases a3 with ⟨_, a3⟩ | ⟨_, a3⟩
          · rw [a3] at hk; cases hk
          · obtain ⟨s1, ht1⟩ := Option.isSome_iff_exists.mp a3
            rw [← Option.some.inj ((b1 s1 ht1).symm.trans hs)]
            exact a2 s1 ht1 key hk
        · exact b2 s hs q hq key hk
      · rcases a3 with ⟨a3, _⟩ | ⟨a3, _⟩
        · exact ⟨ext, by rw [b3, a3], b4'⟩
        · exact ⟨c :: ext, by rw [b3, a3, List.append_assoc]; rfl, List.forall_mem_cons.mpr ⟨List.mem_cons_self, b4'⟩⟩

/-! ### the builder's iteration -/

/-- invariant of the iteration: what is resolved was named, non-empty, by a node of `all` -/
def IterInv (ans : NodeAns) (all : List Nat) (cmd : Bytes) (args : List Bytes) (st : IterSt) : Prop :=
  st.found = true → ∃ n ∈ all, ans n cmd args = .keys st.resolved ∧ st.resolved ≠ []

theorem iterStep_inv (ans : NodeAns) (all : List Nat) (cmd : Bytes) (args : List Bytes) (n : Nat) (hn : n ∈ all)
    (st : IterSt) (h : IterInv ans all cmd args st) : IterInv ans all cmd args (iterStep st (ans n cmd args)) := by
  unfold iterStep
  by_cases hf : st.found = true
  · rw [if_pos hf]; exact h
  · rw [if_neg hf]
    cases ha : ans n cmd args with
    | err => intro h'; exact absurd h' hf
    | none => exact h
    | keys ks =>
      simp only
      by_cases hk : ks.isEmpty = true
      · rw [if_pos hk]; exact h
      · rw [if_neg hk]
        intro _
        exact ⟨n, hn, ha, by intro e; simp only at e; rw [e] at hk; exact hk rfl⟩

theorem foldl_inv (ans : NodeAns) (all : List Nat) (cmd : Bytes) (args : List Bytes) (l : List Nat)
    (hl : ∀ n ∈ l, n ∈ all) (st : IterSt) (h : IterInv ans all cmd args st) :
    IterInv ans all cmd args (l.foldl (fun st n => iterStep st (ans n cmd args)) st) := by
  induction l generalizing st with
  | nil => exact h
  | cons n ns ih =>
    simp only [List.foldl_cons]
    exact ih (fun m hm => hl m (List.mem_cons_of_mem _ hm)) _ (iterStep_inv ans all cmd args n (hl n (by simp)) st h)

/-- **The builder's answer is some visited node's answer.** When the iteration
    returns keys, a node among those visited named exactly these keys (and they
    are not empty). -/
theorem builderFb_keys (ans : NodeAns) (nodes : List Nat) (cmd : Bytes) (args ks : List Bytes)
    (h : builderFb ans nodes cmd args = .keys ks) : ∃ n ∈ nodes, ans n cmd args = .keys ks ∧ ks ≠ [] := by
  have hinv := foldl_inv ans nodes cmd args nodes (fun n hn => hn) {} (by intro h0; cases h0)
  unfold builderFb iterResult at h
  split at h
  · rename_i hf
    injection h with h
    obtain ⟨n, hn, h1, h2⟩ := hinv hf
    exact ⟨n, hn, by rw [← h]; exact h1, by rw [← h]; exact h2⟩
  · split at h <;> cases h

/-- an empty key list counts as "nothing" (as the resolver takes it) -/
def normFb : Fb → Fb
  | .keys ks => if ks.isEmpty then .none else .keys ks
  | .none => .none
  | .err => .err

theorem iterStep_idem (st : IterSt) (a : Fb) : iterStep (iterStep st a) a = iterStep st a := by
  unfold iterStep
  cases hf : st.found
  · cases a with
    | err => simp
    | none => simp
    | keys ks => cases hk : ks.isEmpty <;> simp [hf, hk]
  · simp [hf]

theorem foldl_uniform (ans : NodeAns) (cmd : Bytes) (args : List Bytes) (a : Fb) (l : List Nat)
    (h : ∀ m ∈ l, ans m cmd args = a) (st : IterSt) (hst : iterStep st a = st) :
    l.foldl (fun st m => iterStep st (ans m cmd args)) st = st := by
  induction l with
  | nil => rfl
  | cons m ms ih =>
    rw [List.foldl_cons, h m List.mem_cons_self, hst]
    exact ih fun x hx => h x (List.mem_cons_of_mem _ hx)

/-- uniform nodes: the iteration over a non-empty node list answers what every
    node answers -/
theorem builderFb_uniform (ans : NodeAns) (nodes : List Nat) (hne : nodes ≠ []) (cmd : Bytes) (args : List Bytes)
    (a : Fb) (h : ∀ n ∈ nodes, ans n cmd args = a) :
    builderFb ans nodes cmd args = normFb a := by
  obtain ⟨n, ns, rfl⟩ := List.exists_cons_of_ne_nil hne
  unfold builderFb
  rw [List.foldl_cons, h n List.mem_cons_self,
    foldl_uniform ans cmd args a ns (fun m hm => h m (List.mem_cons_of_mem _ hm)) _ (iterStep_idem _ a)]
  cases a with
  | err => rfl
  | none => rfl
  | keys ks => cases hk : ks.isEmpty <;> simp [iterStep, iterResult, normFb, hk]

/-! ### the receiving node -/

theorem nodeBlockOk_one_slot {ans : NodeAns} {owner : Nat → Option Nat} {n : Nat} {body : List Cmd}
    (h : nodeBlockOk ans owner n body = true) {k0 : Bytes} (h0 : k0 ∈ nodeKeys ans n body) :
    ∀ key ∈ nodeKeys ans n body, clusterHash key = clusterHash k0 := by
  unfold nodeBlockOk at h
  rw [Bool.and_eq_true] at h
  obtain ⟨_, hk⟩ := h
  cases hks : nodeKeys ans n body with
  | nil => rw [hks] at h0; cases h0
  | cons k ks =>
    rw [hks] at hk h0
    simp only [Bool.and_eq_true, List.all_eq_true, beq_iff_eq] at hk
    have hall : ∀ key ∈ k :: ks, clusterHash key = clusterHash k := List.forall_mem_cons.mpr ⟨rfl, hk.1⟩
    intro key hkey
    rw [hall key hkey, hall k0 h0]

/-! ### the transaction flag -/

/-- a command that is neither MULTI nor EXEC -/
def NotBracket (c : Cmd) : Prop := upperName c.name ≠ uMulti ∧ upperName c.name ≠ uExec

theorem chooseNodeF_clear (cv : ClusterView) (anyNode : Option Nat) (c : Cmd) (hc : NotBracket c) :
    chooseNodeF cv anyNode {} c = (chooseNode cv anyNode c).map (fun ch => (ch, {})) := by
  obtain ⟨h1, h2⟩ := hc
  unfold chooseNodeF
  have e1 : (upperName c.name == uMulti) = false := by simpa using h1
  have e2 : (upperName c.name == uExec) = false := by simpa using h2
  simp only [e1, e2, Bool.false_eq_true, ↓reduceIte]
  cases chooseNode cv anyNode c with
  | error e => rfl
  | ok ch =>
    cases ch with
    | skip => rfl
    | route n ks => simp [Except.map]

theorem txnPutF_clear (cv : ClusterView) (anyNode : Option Nat) (t : Txn) (c : Cmd) (hc : NotBracket c) :
    txnPutF cv anyNode t {} c = (txnPut cv anyNode t c, {}) := by
  unfold txnPutF
  rw [chooseNodeF_clear cv anyNode c hc, txnPut_eq_route]
  cases chooseNode cv anyNode c with
  | error e => rfl
  | ok ch =>
    cases ch with
    | skip => rfl
    | route node keys => rfl

theorem txnPutAllF_clear (cv : ClusterView) (anyNode : Option Nat) (cmds : List Cmd) (t : Txn)
    (hc : ∀ c ∈ cmds, NotBracket c) :
    txnPutAllF cv anyNode t {} cmds = (txnPutAll cv anyNode t cmds, {}) := by
  induction cmds generalizing t with
  | nil => rfl
  | cons c cs ih =>
    simp only [txnPutAllF, txnPutAll]
    rw [txnPutF_clear cv anyNode t c (hc c (by simp))]
    cases txnPut cv anyNode t c with
    | error e => rfl
    | ok t' =>
      simp only
      exact ih t' (fun c' hc' => hc c' (List.mem_cons_of_mem _ hc'))

end GunYu.BisyncUnit
