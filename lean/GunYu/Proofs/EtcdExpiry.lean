/-
  Leases of the etcd election system: every key in the store is attached to a
  live lease and is the election key of that lease under a '/'-terminated
  prefix; a lease that gets no keep-alive keeps its deadline, and once the
  clock is past it no key of that lease is left.
-/
import GunYu.Proofs.EtcdInv2


namespace GunYu.Etcd
open GunYu

/-- election prefixes as cmd/syncer.go builds them end in '/' -/
def PfxOk (p : Bytes) : Prop := p.getLast? = some 47

theorem PfxOk.ext_nil {p a : Bytes} (hp : PfxOk (p ++ a)) (ha : ∀ b ∈ a, b ≠ 47) : a = [] := by
  cases a with
  | nil => rfl
  | cons x xs =>
    exfalso
    unfold PfxOk at hp
    rw [List.getLast?_append, List.getLast?_eq_some_getLast (by simp)] at hp
    simp only [Option.some_or, Option.some.injEq] at hp
    exact ha _ (List.getLast_mem _) hp

/-- `p ++ h = p' ++ h'` with '/'-terminated `p`, `p'` and '/'-free `h`, `h'` splits uniquely -/
theorem split_unique {p p' h h' : Bytes} (hp : PfxOk p) (hp' : PfxOk p')
    (hh : ∀ b ∈ h, b ≠ 47) (hh' : ∀ b ∈ h', b ≠ 47) (e : p ++ h = p' ++ h') : p = p' ∧ h = h' := by
  rcases List.append_eq_append_iff.1 e with ⟨a, rfl, rfl⟩ | ⟨a, rfl, rfl⟩
  · cases hp'.ext_nil (fun b hb => hh b (List.mem_append_left _ hb)); simp
  · cases hp.ext_nil (fun b hb => hh' b (List.mem_append_left _ hb)); simp

theorem keyOf_inj2 {p p' : Bytes} {L L' : Nat} (hp : PfxOk p) (hp' : PfxOk p')
    (e : keyOf p L = keyOf p' L') : p = p' ∧ L = L' := by
  rw [keyOf_eq, keyOf_eq] at e
  obtain ⟨e1, e2⟩ := split_unique hp hp' (natToHex_ne L (by decide)) (natToHex_ne L' (by decide)) e
  exact ⟨e1, natToHex_inj e2⟩

def Ev.pfxOk : Ev → Prop
  | .campaign p _ _ => PfxOk p
  | .campTxn p _ _ => PfxOk p
  | .campDel p _ _ => PfxOk p
  | .renew p _ _ => PfxOk p
  | .resign p _ _ => PfxOk p
  | _ => True

/-- lease side of the invariant -/
structure LInv (s : Sys) : Prop where
  zero : s.st.leases 0 = none
  live : ∀ kv ∈ s.st.kvs, kv.lease ≠ 0 ∧ s.st.leaseLive kv.lease = true
  owner : ∀ kv ∈ s.st.kvs, ∃ p, PfxOk p ∧ kv.key = keyOf p kv.lease

theorem linv_init (rev now : Nat) : LInv (Sys.init rev now) :=
  ⟨rfl, by simp [Sys.init], by simp [Sys.init]⟩

/-- requests never touch leases or the clock -/
theorem evalTxn_frame {t : Txn} {a : Args} {st st' : Store} {r : TxnResp}
    (h : evalTxn t a st = some (st', r)) : st'.leases = st.leases ∧ st'.now = st.now := by
  unfold evalTxn at h
  split at h
  · cases h
  · dsimp only at h
    split at h
    · cases h
    · simp only [Option.some.injEq, Prod.mk.injEq] at h
      obtain ⟨h1, _⟩ := h
      subst h1; exact ⟨rfl, rfl⟩

/-- a step that leaves leases and clock alone and whose new keys are election
    keys of a live lease keeps the lease invariant -/
theorem linv_of {s s' : Sys} (h : LInv s) (hl : s'.st.leases = s.st.leases) (hn : s'.st.now = s.st.now)
    (hk : ∀ kv ∈ s'.st.kvs, kv ∈ s.st.kvs ∨
      (kv.lease ≠ 0 ∧ s.st.leaseLive kv.lease = true ∧ ∃ p, PfxOk p ∧ kv.key = keyOf p kv.lease)) : LInv s' := by
  have hlive : ∀ L, s'.st.leaseLive L = s.st.leaseLive L := by
    intro L; unfold Store.leaseLive; rw [hl, hn]
  refine ⟨by rw [hl]; exact h.zero, fun kv hkv => ?_, fun kv hkv => ?_⟩
  · rcases hk kv hkv with hold | ⟨h0, h1, _⟩
    · rw [hlive]; exact h.live kv hold
    · rw [hlive]; exact ⟨h0, h1⟩
  · rcases hk kv hkv with hold | ⟨_, _, h2⟩
    · exact h.owner kv hold
    · exact h2

/-- what a call of session `L` on prefix `p` does to the store: leases and clock stay; every key is an old
    one or the session's own election key, written while its lease is live -/
def CallStep (s s' : Sys) (p : Bytes) (L : Nat) : Prop :=
  ∃ kvs' rev', s'.st = { s.st with kvs := kvs', rev := rev' } ∧
    ∀ kv ∈ kvs', kv ∈ s.st.kvs ∨ (kv.lease = L ∧ kv.key = keyOf p L ∧ s.st.leaseLive L = true)

theorem CallStep.same {s s' : Sys} {p : Bytes} {L : Nat} (e : s'.st = s.st) : CallStep s s' p L :=
  ⟨_, _, e, fun _ hkv => Or.inl hkv⟩

theorem CallStep.del {s s' : Sys} {p : Bytes} {L : Nat} {k : Bytes} {r : Nat}
    (e : s'.st = { s.st with kvs := delKV s.st.kvs k, rev := r }) : CallStep s s' p L :=
  ⟨_, _, e, fun _ hkv => Or.inl (mem_delKV hkv)⟩

theorem CallStep.frame {s s' : Sys} {p : Bytes} {L : Nat} (h : CallStep s s' p L) :
    s'.st.leases = s.st.leases ∧ s'.st.now = s.st.now := by
  obtain ⟨_, _, e, _⟩ := h
  rw [e]; exact ⟨rfl, rfl⟩

theorem CallStep.linv {s s' : Sys} {p : Bytes} {L : Nat} (hc : CallStep s s' p L) (h : LInv s) (hp : PfxOk p) :
    LInv s' := by
  obtain ⟨_, _, e, hk⟩ := hc
  refine linv_of h (by rw [e]) (by rw [e]) (fun kv hkv => ?_)
  rw [e] at hkv
  refine (hk kv hkv).imp id (fun ⟨hL, hkey, hl⟩ => ⟨fun h0 => ?_, hL ▸ hl, p, hp, hL ▸ hkey⟩)
  -- lease 0 does not exist
  rw [hL] at h0; subst h0
  unfold Store.leaseLive leaseLiveAt at hl
  rw [h.zero] at hl; cases hl

theorem campTxn_callStep (idOf : Nat → Bytes) {s : Sys} (hi : Inv s) (p : Bytes) (L f : Nat) :
    CallStep s (campTxn idOf s p L f).1 p L := by
  unfold campTxn
  dsimp only
  rw [campaignTxn_eval _ _ (fun kv hkv => (hi.wf.pos kv hkv).1)]
  by_cases hf1 : f = 1
  · simp only [hf1, ↓reduceIte]; exact .same rfl
  simp only [hf1, ↓reduceIte]
  unfold campaignTxnSpec
  by_cases hpe : p = []
  · simp only [hpe, or_true, ↓reduceIte]; exact .same rfl
  simp only [keyOf_ne_nil p L, hpe, or_self, ↓reduceIte]
  cases hfk : findKey s.st.kvs (keyOf p L) with
  | none =>
    dsimp only
    by_cases hl : s.st.leaseLive L = true
    · simp only [hl, ↓reduceIte]
      have new : ∀ s' : Sys, s'.st = { s.st with
          kvs := s.st.kvs ++ [newKV { key := keyOf p L, pfx := p, val := idOf L, lease := L, rev := (s.el L p).rev } s.st],
          rev := s.st.rev + 1 } → CallStep s s' p L := fun s' e =>
        ⟨_, _, e, fun kv hkv => (List.mem_append.1 hkv).imp id (fun hkv => by
          rw [List.mem_singleton] at hkv; subst hkv; exact ⟨rfl, rfl, hl⟩)⟩
      by_cases hf2 : f = 2
      · simp only [hf2, ↓reduceIte]; exact new _ rfl
      simp only [hf2, ↓reduceIte, Gen.etcdOwnerResp, List.getElem?_cons_succ, List.getElem?_cons_zero]
      split <;> exact new _ rfl
    · simp only [hl, Bool.false_eq_true, ↓reduceIte]; exact .same rfl
  | some own =>
    dsimp only
    by_cases hf2 : f = 2
    · simp only [hf2, ↓reduceIte]; exact .same rfl
    simp only [hf2, ↓reduceIte, Gen.etcdOwnerResp, Gen.etcdOwnResp, Bool.false_eq_true,
      List.getElem?_cons_succ, List.getElem?_cons_zero, List.getD_cons_zero, List.head?_cons, Option.map_some]
    split <;> exact .same rfl

theorem campDel_callStep (idOf : Nat → Bytes) (s : Sys) (p : Bytes) (L f : Nat) :
    CallStep s (campDel idOf s p L f).1 p L := by
  unfold campDel
  dsimp only
  rw [loserDelete_eval]
  by_cases hp : (!(s.el L p).pend) = true
  · simp only [hp, ↓reduceIte]; exact .same rfl
  simp only [hp, Bool.false_eq_true, ↓reduceIte]
  by_cases hf3 : f = 3
  · simp only [hf3, ↓reduceIte]; exact .same rfl
  simp only [hf3, ↓reduceIte]
  by_cases hk : (s.el L p).key = []
  · simp only [hk, ↓reduceIte]; exact .same rfl
  simp only [hk, ↓reduceIte]
  split <;> exact .del rfl

theorem resign_callStep (idOf : Nat → Bytes) (s : Sys) (p : Bytes) (L f : Nat) :
    CallStep s (resignStep idOf s p L f).1 p L := by
  unfold resignStep
  dsimp only
  rw [resignTxn_eval]
  unfold resignTxnSpec
  by_cases hf1 : f = 1
  · simp only [hf1, ↓reduceIte]; exact .same rfl
  simp only [hf1, ↓reduceIte]
  by_cases hk : (s.el L p).key = []
  · simp only [hk, ↓reduceIte]; exact .same rfl
  simp only [hk, ↓reduceIte]
  by_cases hc : some (createRevOf s.st.kvs (s.el L p).key) = (s.el L p).rev
  · simp only [hc, ↓reduceIte]; exact .del rfl
  · simp only [hc, ↓reduceIte]; exact .same rfl

theorem renew_st (idOf : Nat → Bytes) (s : Sys) (p : Bytes) (L f : Nat) :
    (renewStep idOf s p L f).1.st = s.st := by
  unfold renewStep
  dsimp only
  split
  · rfl
  split
  · rfl
  · split
    · rfl
    · split <;> rfl

theorem setLease_same (f : Nat → Option LeaseRec) (L : Nat) (l : LeaseRec) : setLease f L l L = some l := by
  simp [setLease]

theorem setLease_other (f : Nat → Option LeaseRec) (L L' : Nat) (l : LeaseRec) (h : L' ≠ L) :
    setLease f L l L' = f L' := by
  simp [setLease, h]

/-- one lease (not lease 0) is rewritten, the clock stands, no key is added: the lease invariant is kept
    if the rewritten lease, where it was live and a remaining key hangs on it, is live again -/
theorem LInv.setLease {s s' : Sys} (h : LInv s) {L : Nat} {l : LeaseRec} (hL0 : L ≠ 0)
    (hl : s'.st.leases = setLease s.st.leases L l) (hn : s'.st.now = s.st.now)
    (hk : ∀ kv ∈ s'.st.kvs, kv ∈ s.st.kvs)
    (hlive : ∀ kv ∈ s'.st.kvs, kv.lease = L → s.st.leaseLive L = true →
      (!l.gone && decide (s.st.now ≤ l.dl)) = true) : LInv s' := by
  refine ⟨by rw [hl, setLease_other _ _ _ _ (fun e => hL0 e.symm)]; exact h.zero, fun kv hkv => ?_,
    fun kv hkv => h.owner kv (hk kv hkv)⟩
  obtain ⟨h0, hlv⟩ := h.live kv (hk kv hkv)
  refine ⟨h0, ?_⟩
  have hlv' := hlv
  unfold Store.leaseLive leaseLiveAt at hlv ⊢
  rw [hl, hn]
  by_cases hne : kv.lease = L
  · rw [hne, setLease_same]; exact hlive kv hkv hne (hne ▸ hlv')
  · rw [setLease_other _ _ _ _ hne]; exact hlv

theorem linv_stepEv (idOf : Nat → Bytes) {s : Sys} (hi : Inv s) (h : LInv s) (ev : Ev) (hp : ev.pfxOk) :
    LInv (step idOf s ev).1 := by
  cases ev with
  | grant L ttl =>
    simp only [step]
    split
    · exact h
    · rename_i hc
      have hnone : s.st.leases L = none := by
        cases hh : s.st.leases L with
        | none => rfl
        | some l => exact absurd (Or.inr (by simp [hh])) hc
      refine h.setLease (fun e => hc (Or.inl e)) rfl rfl (fun _ hkv => hkv) (fun _ _ _ hl => ?_)
      unfold Store.leaseLive leaseLiveAt at hl
      rw [hnone] at hl; cases hl
  | keepAlive L =>
    simp only [step]
    split
    · rename_i l hl
      split
      · rename_i hlive
        refine h.setLease (fun e => ?_) rfl rfl (fun _ hkv => hkv) (fun _ _ _ _ => ?_)
        · subst e; rw [h.zero] at hl; cases hl
        · unfold Store.leaseLive leaseLiveAt at hlive
          rw [hl] at hlive
          simp only [Bool.and_eq_true, Bool.not_eq_true', decide_eq_true_eq] at hlive ⊢
          exact ⟨hlive.1, Nat.le_add_right _ _⟩
      · exact h
    · exact h
  | revoke L =>
    simp only [step]
    split
    · rename_i l hl
      refine h.setLease (fun e => ?_) rfl rfl (fun _ hkv => (List.mem_filter.1 hkv).1)
        (fun kv hkv e => absurd e (by simpa using (List.mem_filter.1 hkv).2))
      subst e; rw [h.zero] at hl; cases hl
    · exact h
  | campaign p L f =>
    simp only [step]
    unfold campaignStep
    dsimp only
    have h1 := (campTxn_callStep idOf hi p L f).linv h hp
    split
    · exact (campDel_callStep idOf _ p L f).linv h1 hp
    · exact h1
  | campTxn p L f => exact (campTxn_callStep idOf hi p L f).linv h hp
  | campDel p L f => exact (campDel_callStep idOf s p L f).linv h hp
  | renew p L f => exact (CallStep.same (L := L) (renew_st idOf s p L f)).linv h hp
  | resign p L f => exact (resign_callStep idOf s p L f).linv h hp
  | leader p => exact h
  | tick d =>
    simp only [step]
    refine ⟨h.zero, fun kv hkv => ?_, fun kv hkv => h.owner kv (List.mem_filter.1 hkv).1⟩
    obtain ⟨hm, hlv⟩ := List.mem_filter.1 hkv
    obtain ⟨h0, _⟩ := h.live kv hm
    refine ⟨h0, ?_⟩
    unfold liveKV at hlv
    simp only [Bool.or_eq_true, decide_eq_true_eq, h0, false_or] at hlv
    exact hlv

theorem inv_linv_run (idOf : Nat → Bytes) : ∀ (evs : List Ev) {s : Sys}, Inv s → LInv s →
    (∀ ev ∈ evs, ev.pfxOk) → Inv (run idOf s evs) ∧ LInv (run idOf s evs)
  | [], _, hi, hl, _ => ⟨hi, hl⟩
  | ev :: rest, _, hi, hl, hp =>
    inv_linv_run idOf rest (inv_stepEv idOf hi ev) (linv_stepEv idOf hi hl ev (hp ev (by simp)))
      (fun e he => hp e (List.mem_cons_of_mem _ he))

def Ev.isKeepAlive (L : Nat) : Ev → Bool
  | .keepAlive L' => L' = L
  | _ => false

theorem campTxn_frame (idOf : Nat → Bytes) (s : Sys) (p : Bytes) (L f : Nat) :
    (campTxn idOf s p L f).1.st.leases = s.st.leases ∧ (campTxn idOf s p L f).1.st.now = s.st.now := by
  unfold campTxn
  dsimp only
  split
  · exact ⟨rfl, rfl⟩
  · split
    · exact ⟨rfl, rfl⟩
    · rename_i st' r he
      have := evalTxn_frame he
      split
      · exact this
      · split
        · split <;> exact this
        · exact this

theorem step_frame (idOf : Nat → Bytes) (s : Sys) (ev : Ev) (L : Nat) (l : LeaseRec)
    (hl : s.st.leases L = some l) (hk : ev.isKeepAlive L = false) :
    ∃ l', (step idOf s ev).1.st.leases L = some l' ∧ l'.dl = l.dl ∧ s.st.now ≤ (step idOf s ev).1.st.now := by
  have keep : ∀ s' : Sys, s'.st.leases = s.st.leases ∧ s'.st.now = s.st.now →
      ∃ l', s'.st.leases L = some l' ∧ l'.dl = l.dl ∧ s.st.now ≤ s'.st.now :=
    fun s' h => ⟨l, h.1 ▸ hl, rfl, h.2 ▸ Nat.le_refl _⟩
  cases ev with
  | grant L' ttl =>
    simp only [step]
    split
    · exact ⟨l, hl, rfl, Nat.le_refl _⟩
    · rename_i hc
      have hne : L ≠ L' := by
        intro e; subst e; exact hc (Or.inr (by simp [hl]))
      exact ⟨l, by dsimp only; rw [setLease_other _ _ _ _ hne]; exact hl, rfl, Nat.le_refl _⟩
  | keepAlive L' =>
    have hne : L ≠ L' := by
      intro e; subst e; simp [Ev.isKeepAlive] at hk
    simp only [step]
    split
    · split
      · exact ⟨l, by dsimp only; rw [setLease_other _ _ _ _ hne]; exact hl, rfl, Nat.le_refl _⟩
      · exact ⟨l, hl, rfl, Nat.le_refl _⟩
    · exact ⟨l, hl, rfl, Nat.le_refl _⟩
  | revoke L' =>
    simp only [step]
    split
    · rename_i l2 hl2
      by_cases hne : L = L'
      · subst hne
        rw [hl] at hl2; cases hl2
        exact ⟨⟨l.ttl, l.dl, true⟩, by dsimp only; rw [setLease_same], rfl, Nat.le_refl _⟩
      · exact ⟨l, by dsimp only; rw [setLease_other _ _ _ _ hne]; exact hl, rfl, Nat.le_refl _⟩
    · exact ⟨l, hl, rfl, Nat.le_refl _⟩
  | campaign p L' f =>
    simp only [step]
    unfold campaignStep
    dsimp only
    have h1 := campTxn_frame idOf s p L' f
    split
    · have h2 := (campDel_callStep idOf (campTxn idOf s p L' f).1 p L' f).frame
      exact keep _ ⟨h2.1.trans h1.1, h2.2.trans h1.2⟩
    · exact keep _ h1
  | campTxn p L' f => exact keep _ (campTxn_frame idOf s p L' f)
  | campDel p L' f => exact keep _ (campDel_callStep idOf s p L' f).frame
  | renew p L' f => exact keep _ (CallStep.same (p := p) (L := L') (renew_st idOf s p L' f)).frame
  | resign p L' f => exact keep _ (resign_callStep idOf s p L' f).frame
  | leader p => exact ⟨l, hl, rfl, Nat.le_refl _⟩
  | tick d => exact ⟨l, hl, rfl, by simp only [step]; exact Nat.le_add_right _ _⟩

theorem run_frame (idOf : Nat → Bytes) (L : Nat) : ∀ (evs : List Ev) (s : Sys) (l : LeaseRec),
    s.st.leases L = some l → (∀ ev ∈ evs, ev.isKeepAlive L = false) →
    ∃ l', (run idOf s evs).st.leases L = some l' ∧ l'.dl = l.dl
  | [], s, l, hl, _ => ⟨l, hl, rfl⟩
  | ev :: rest, s, l, hl, hk => by
    obtain ⟨l1, h1, hd1, _⟩ := step_frame idOf s ev L l hl (hk ev (by simp))
    obtain ⟨l2, h2, hd2⟩ := run_frame idOf L rest (step idOf s ev).1 l1 h1 (fun e he => hk e (List.mem_cons_of_mem _ he))
    exact ⟨l2, h2, by rw [hd2, hd1]⟩

end GunYu.Etcd
