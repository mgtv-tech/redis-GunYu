/-
  Helper lemmas for C10: the parser loop (Model/Sender.lean `parseStep`) in a
  bypassed database; key positions of projected DEL / UNLINK / MSET.
-/
import GunYu.Model.FilterParse
import GunYu.Proofs.FilterCmdKey

namespace GunYu.Filter
open GunYu GunYu.Sender

theorem parseStep_bypass (c : PCfg) (s : PState) (r : Raw) (hb : s.bypass = true)
    (hr : r.cmd ≠ bSelect) :
    parseStep c s r = (s, .skip) ∨
    (∃ a, (r.cmd = bMulti ∨ r.cmd = bExec) ∧
      parseStep c s r =
        (sent s r.cmd s.lastSent,
         .emit { cmd := r.cmd, args := a, offset := s.lastSent, db := s.currentDB })) := by
  fun_cases parseStep c s r
  case case15 hpb a _ off =>
    -- the one emitting branch reachable in bypass: a transaction bracket
    have hct : passBracket s r.cmd = true := by
      cases h : passBracket s r.cmd
      · exact absurd ⟨hb, h⟩ hpb
      · rfl
    have hbr : r.cmd = bMulti ∨ r.cmd = bExec := by
      simp only [passBracket, Bool.and_eq_true, Bool.or_eq_true, decide_eq_true_eq] at hct
      exact hct.2.elim (fun h => Or.inl h.1) (fun h => Or.inr h.1)
    exact Or.inr ⟨a, hbr, by simp only [off, hct, if_true]⟩
  all_goals first | exact Or.inl rfl | contradiction

theorem sent_bypass (s : PState) (cmd : Bytes) (off : Int) : (sent s cmd off).bypass = s.bypass := rfl

theorem parseAll_bypass (c : PCfg) (s : PState) (l : List Raw)
    (hb : s.bypass = true) (hl : ∀ p ∈ l, p.cmd ≠ bSelect) :
    ∀ i ∈ parseAll c s l, (i.cmd = bMulti ∨ i.cmd = bExec) ∧ i.offset = s.lastSent := by
  induction l generalizing s with
  | nil => simp [parseAll]
  | cons r rest ih =>
    have hr := hl r List.mem_cons_self
    have hrest : ∀ p ∈ rest, p.cmd ≠ bSelect := fun p hp => hl p (List.mem_cons_of_mem _ hp)
    rcases parseStep_bypass c s r hb hr with h | ⟨a, hbr, h⟩
    · rw [parseAll, h]
      exact ih s hb hrest
    · rw [parseAll, h]
      intro i hi
      rcases List.mem_cons.mp hi with hi | hi
      · subst hi; exact ⟨hbr, rfl⟩
      · exact ih (sent s r.cmd s.lastSent) hb hrest i hi

theorem parseStep_select_listed (c : PCfg) (s : PState) (a : Bytes) (n : Int) (off : Int)
    (ha : Sender.atoi? a = some n) (hdb : c.filterDb n = true) :
    parseStep c s { cmd := bSelect, args := [a], off := off } = ({ s with bypass := true }, .skip) := by
  unfold parseStep
  have h1 : bSelect ≠ bPing := by decide
  simp [h1, ha, hdb]

theorem parseStep_keeps_bypass (c : PCfg) (s : PState) (r : Raw) (hr : r.cmd ≠ bSelect) :
    (parseStep c s r).1.bypass = s.bypass := by
  fun_cases parseStep c s r
  all_goals first | rfl | contradiction

theorem stateAfter_keeps_bypass (c : PCfg) (s : PState) (l : List Raw) (hl : ∀ p ∈ l, p.cmd ≠ bSelect) :
    (stateAfter c s l).bypass = s.bypass := by
  induction l generalizing s with
  | nil => rfl
  | cons r rest ih =>
    have hr := hl r List.mem_cons_self
    have := ih (parseStep c s r).1 (fun p hp => hl p (List.mem_cons_of_mem _ hp))
    unfold stateAfter at this ⊢
    rw [List.foldl_cons, this, parseStep_keeps_bypass c s r hr]

theorem parseStep_select_unlisted (c : PCfg) (s : PState) (a : Bytes) (n : Int) (off : Int)
    (ha : Sender.atoi? a = some n) (hdb : c.filterDb n = false) :
    (parseStep c s { cmd := bSelect, args := [a], off := off }).1.bypass = false := by
  unfold parseStep
  have h1 : bSelect ≠ bPing := by decide
  simp only [h1, if_false, if_true, ha, hdb]
  cases c.filterCmdKey bSelect [a] with
  | none => simp
  | some x =>
    simp only [Bool.false_eq_true, if_false]
    by_cases hn : n ≥ 0
    · simp only [hn, if_true]
      cases (selectDB c s.currentDB n).2 <;> simp
    · simp [hn, sent]

theorem tableIndexes_all (last : Int) (hl : last = 0 ∨ last = -1) (n : Nat) (hn : 0 < n) :
    tableIndexes 1 last 1 n = some (List.range n) := by
  unfold tableIndexes
  have hlk : (if last > 0 then last - 1 else if last = 0 then (n : Int) - 1 else (n : Int) + last) = (n : Int) - 1 := by
    rcases hl with h | h <;> subst h <;> simp <;> omega
  rw [hlk]
  have h1 : ¬ ((n : Int) - 1 < 0 ∨ (n : Int) - 1 ≥ n ∨ (1 : Int) ≤ 0 ∨ (1 : Int) ≤ 0) := by omega
  have h2 : ¬ ((1 : Int) - 1 > (n : Int) - 1) := by omega
  simp only [h1, h2, if_false]
  have hc : (((n : Int) - 1 - (1 - 1)) / 1).toNat + 1 = n := by
    rw [Int.ediv_one]; omega
  rw [hc]
  congr 1
  have : ∀ j : Nat, ((1 : Int) - 1 + (j : Int) * 1).toNat = j := by intro j; omega
  simp

theorem tableIndexes_pairs (m : Nat) (hm : 0 < m) :
    tableIndexes 1 (-1) 2 (2 * m) = some ((List.range m).map (fun j => 2 * j)) := by
  unfold tableIndexes
  have hlk : (if (-1 : Int) > 0 then (-1 : Int) - 1 else if (-1 : Int) = 0 then ((2 * m : Nat) : Int) - 1
      else ((2 * m : Nat) : Int) + -1) = 2 * (m : Int) - 1 := by
    simp; omega
  rw [hlk]
  have h1 : ¬ (2 * (m : Int) - 1 < 0 ∨ 2 * (m : Int) - 1 ≥ ((2 * m : Nat) : Int) ∨ (1 : Int) ≤ 0 ∨ (2 : Int) ≤ 0) := by
    omega
  have h2 : ¬ ((1 : Int) - 1 > 2 * (m : Int) - 1) := by omega
  simp only [h1, h2, if_false]
  have hc : ((2 * (m : Int) - 1 - (1 - 1)) / 2).toNat + 1 = m := by omega
  rw [hc]
  congr 1
  apply List.map_congr_left
  intro j _
  omega

theorem lookup_del : Gen.commandKeyExtractors.lookup wDel = none ∧
    Gen.commandKeyPositions.lookup wDel = some (1, 0, 1) := by decide +kernel
theorem lookup_unlink : Gen.commandKeyExtractors.lookup wUnlink = none ∧
    Gen.commandKeyPositions.lookup wUnlink = some (1, -1, 1) := by decide +kernel
theorem lookup_mset : Gen.commandKeyExtractors.lookup wMset = none ∧
    Gen.commandKeyPositions.lookup wMset = some (1, -1, 2) := by decide +kernel

theorem keyIndexes_del (cmd : Bytes) (h : lower cmd = wDel ∨ lower cmd = wUnlink) (out : List Bytes)
    (hne : out ≠ []) : keyIndexes cmd out = some (List.range out.length) := by
  have hlen : 0 < out.length := List.length_pos_iff.mpr hne
  have hemp : out.isEmpty = false := by simpa using hne
  unfold keyIndexes
  rcases h with h | h
  · simp only [h, hemp, Bool.false_eq_true, if_false, lookup_del.1, lookup_del.2]
    exact tableIndexes_all 0 (Or.inl rfl) _ hlen
  · simp only [h, hemp, Bool.false_eq_true, if_false, lookup_unlink.1, lookup_unlink.2]
    exact tableIndexes_all (-1) (Or.inr rfl) _ hlen

theorem length_flatMap_pairs {α : Type} (l : List α) (g h : α → Bytes) :
    (l.flatMap (fun i => [g i, h i])).length = 2 * l.length := by
  induction l with
  | nil => rfl
  | cons x rest ih => simp only [List.flatMap_cons, List.length_append, ih, List.length_cons, List.length_nil]; omega

theorem getD_flatMap_pairs {α : Type} (l : List α) (g h : α → Bytes) (j : Nat) (hj : j < l.length) :
    (l.flatMap (fun i => [g i, h i])).getD (2 * j) [] = g (l[j]) := by
  induction l generalizing j with
  | nil => simp at hj
  | cons x rest ih =>
    cases j with
    | zero => simp
    | succ k =>
      have hk : k < rest.length := by simpa using hj
      have : 2 * (k + 1) = 2 * k + 1 + 1 := by omega
      simp only [List.flatMap_cons, this, List.getD_eq_getElem?_getD, List.cons_append, List.nil_append,
        List.getElem?_cons_succ, List.getElem_cons_succ]
      have := ih k hk
      simpa [List.getD_eq_getElem?_getD] using this

theorem keyIndexes_mset (cmd : Bytes) (h : lower cmd = wMset) {α : Type} (l : List α) (g v : α → Bytes)
    (hne : l ≠ []) :
    keyIndexes cmd (l.flatMap (fun i => [g i, v i])) = some ((List.range l.length).map (fun j => 2 * j)) := by
  have hlen : 0 < l.length := List.length_pos_iff.mpr hne
  have hl2 := length_flatMap_pairs l g v
  have hemp : (l.flatMap (fun i => [g i, v i])).isEmpty = false := by
    cases hc : l.flatMap (fun i => [g i, v i]) with
    | nil => rw [hc] at hl2; simp at hl2; omega
    | cons _ _ => rfl
  unfold keyIndexes
  simp only [h, hemp, Bool.false_eq_true, if_false, lookup_mset.1, lookup_mset.2, hl2]
  exact tableIndexes_pairs _ hlen

end GunYu.Filter
