/-
  C17 — structural invariants of the bookkeeping on `Checkpoint.Target` that every writer keeps
  (sender, SetCheckpoint, UpdateCheckpoint, gc), request by request. Core only.

  * `StrA`: every stored field is well formed (numeric fields parse, `_runid` fields store their own
    id), field names are unique inside a hash, finitely many databases hold anything, key names /
    ids not used so far hold nothing (`names`, `ids`: the names / ids used so far).
  * `NoAfter N O`: inside one hash no `_offset` field of the older id `O` comes after the `_offset`
    field of the newer id `N` (HSET keeps the place of an existing field and appends a new one);
    with it `fetchCheckpoint`'s "last matching field wins" over both ids reads what `N` alone reads.
  * `OffLe`: bound on the `_offset` fields of some ids.
-/
import GunYu.Proofs.CheckpointRerun

namespace GunYu.Checkpoint
open GunYu

set_option linter.unusedSimpArgs false
set_option linter.unusedVariables false

def hasKey (k : FKey) (fs : Cp) : Prop := ∃ e ∈ fs, e.key = k

def FieldsNodup (fs : Cp) : Prop := (fs.map Entry.key).Nodup

/-- numeric fields are decimal int64, `_runid` fields store their own id -/
def EntryOK (e : Entry) : Prop :=
  ((e.kind = .offset ∨ e.kind = .mtime) → (Resp.parseInt64 e.val).isSome = true) ∧
  (e.kind = .runid → e.val = e.rid)

theorem foldl_sel_congr {α : Type} (g : α → Entry → α) (sel sel' : Entry → Bool) (fs : Cp) :
    ∀ a : α, (∀ e ∈ fs, sel e = sel' e) →
      fs.foldl (fun a e => if sel e then g a e else a) a = fs.foldl (fun a e => if sel' e then g a e else a) a := by
  induction fs with
  | nil => intro a _; rfl
  | cons x fs ih =>
    intro a h
    simp only [List.foldl_cons, h x (List.mem_cons_self ..)]
    exact ih _ (fun e he => h e (List.mem_cons_of_mem _ he))

theorem offOf_congr {ids ids' : List Bytes} {fs : Cp} (h : ∀ e ∈ fs, offSel ids e = offSel ids' e) :
    offOf ids fs = offOf ids' fs :=
  foldl_sel_congr (fun o e => (Resp.parseInt64 e.val).getD o) (offSel ids) (offSel ids') fs (-1) h

theorem ridOf_congr {ids ids' : List Bytes} {fs : Cp} (h : ∀ e ∈ fs, ridSel ids e = ridSel ids' e) :
    ridOf ids fs = ridOf ids' fs :=
  foldl_sel_congr (fun _ e => e.val) (ridSel ids) (ridSel ids') fs qmark h

theorem offSel_of_match {ids ids' : List Bytes} {e : Entry} (h : matchId ids e.rid = matchId ids' e.rid) :
    offSel ids e = offSel ids' e := by simp [offSel, h]

theorem ridSel_of_match {ids ids' : List Bytes} {e : Entry} (h : matchId ids e.rid = matchId ids' e.rid) :
    ridSel ids e = ridSel ids' e := by simp [ridSel, h]

theorem rep_key (e x : Entry) : (rep e x).key = x.key := by
  unfold rep; split
  · rename_i h; exact h.symm
  · rfl

theorem map_key_rep (e : Entry) (fs : Cp) : (fs.map (rep e)).map Entry.key = fs.map Entry.key := by
  rw [List.map_map]
  apply List.map_congr_left
  intro x _; exact rep_key e x

theorem FieldsNodup.hsetOne {fs : Cp} (h : FieldsNodup fs) (e : Entry) : FieldsNodup (hsetOne fs e) := by
  unfold FieldsNodup at *
  rcases hsetOne_cases fs e with ⟨heq, _⟩ | ⟨heq, hno⟩
  · rw [heq, map_key_rep]; exact h
  · rw [heq, List.map_append]
    apply List.nodup_append.mpr
    refine ⟨h, by simp, ?_⟩
    intro a ha b hb
    simp only [List.map_cons, List.map_nil, List.mem_singleton] at hb
    obtain ⟨x, hx, rfl⟩ := List.mem_map.mp ha
    rw [hb]; exact hno x hx

theorem FieldsNodup.hsetMany {es : List Entry} : ∀ {fs : Cp}, FieldsNodup fs → FieldsNodup (hsetMany fs es) := by
  induction es with
  | nil => intro fs h; exact h
  | cons e es ih => intro fs h; simp only [Checkpoint.hsetMany, List.foldl_cons]; exact ih (h.hsetOne e)

theorem FieldsNodup.hdelMany {fs : Cp} (h : FieldsNodup fs) (ks : List FKey) : FieldsNodup (hdelMany fs ks) := by
  unfold FieldsNodup Checkpoint.hdelMany at *
  exact List.Nodup.sublist (List.Sublist.map _ List.filter_sublist) h

theorem eq_of_key : ∀ {fs : Cp}, FieldsNodup fs → ∀ {a b : Entry}, a ∈ fs → b ∈ fs → a.key = b.key → a = b := by
  intro fs
  induction fs with
  | nil => intro _ a b ha; cases ha
  | cons x fs ih =>
    intro h a b ha hb hk
    unfold FieldsNodup at h
    simp only [List.map_cons, List.nodup_cons] at h
    rcases List.mem_cons.mp ha with rfl | ha'
    · rcases List.mem_cons.mp hb with rfl | hb'
      · rfl
      · exact absurd (List.mem_map.mpr ⟨b, hb', hk.symm⟩) h.1
    · rcases List.mem_cons.mp hb with rfl | hb'
      · exact absurd (List.mem_map.mpr ⟨a, ha', hk⟩) h.1
      · exact ih h.2 ha' hb' hk

theorem hasKey_hsetOne {k : FKey} {fs : Cp} {e : Entry} :
    hasKey k (hsetOne fs e) ↔ k = e.key ∨ hasKey k fs := by
  constructor
  · rintro ⟨x, hx, hk⟩
    rcases mem_hsetOne hx with rfl | hx'
    · exact Or.inl hk.symm
    · exact Or.inr ⟨x, hx', hk⟩
  · rintro (rfl | ⟨x, hx, hk⟩)
    · exact ⟨e, mem_hsetOne_self fs e, rfl⟩
    · by_cases hxe : x.key = e.key
      · exact ⟨e, mem_hsetOne_self fs e, by rw [← hxe, hk]⟩
      · exact ⟨x, mem_hsetOne_of_ne hx hxe, hk⟩

theorem hasKey_hsetMany {k : FKey} {es : List Entry} : ∀ {fs : Cp},
    hasKey k (hsetMany fs es) ↔ (∃ e ∈ es, e.key = k) ∨ hasKey k fs := by
  induction es with
  | nil => intro fs; simp [Checkpoint.hsetMany]
  | cons e es ih =>
    intro fs
    simp only [Checkpoint.hsetMany, List.foldl_cons]
    have := ih (fs := hsetOne fs e)
    simp only [Checkpoint.hsetMany] at this
    rw [this, hasKey_hsetOne]
    constructor
    · rintro (⟨x, hx, hk⟩ | rfl | h)
      · exact Or.inl ⟨x, List.mem_cons_of_mem _ hx, hk⟩
      · exact Or.inl ⟨e, List.mem_cons_self .., rfl⟩
      · exact Or.inr h
    · rintro (⟨x, hx, hk⟩ | h)
      · rcases List.mem_cons.mp hx with rfl | hx'
        · exact Or.inr (Or.inl hk.symm)
        · exact Or.inl ⟨x, hx', hk⟩
      · exact Or.inr (Or.inr h)

theorem mem_hdelMany {e : Entry} {fs : Cp} {ks : List FKey} : e ∈ hdelMany fs ks ↔ e ∈ fs ∧ e.key ∉ ks := by
  unfold Checkpoint.hdelMany
  rw [List.mem_filter]
  exact and_congr_right fun _ =>
    ⟨fun h hin => of_decide_eq_true h (List.contains_iff_mem.mpr hin), fun h => decide_eq_true fun hc => h (List.contains_iff_mem.mp hc)⟩

theorem hasKey_hdelMany {k : FKey} {fs : Cp} {ks : List FKey} :
    hasKey k (hdelMany fs ks) ↔ hasKey k fs ∧ k ∉ ks := by
  unfold hasKey
  constructor
  · rintro ⟨x, hx, hk⟩
    exact ⟨⟨x, (mem_hdelMany.mp hx).1, hk⟩, hk ▸ (mem_hdelMany.mp hx).2⟩
  · rintro ⟨⟨x, hx, hk⟩, hnot⟩
    exact ⟨x, mem_hdelMany.mpr ⟨hx, hk ▸ hnot⟩, hk⟩

theorem mem_hsetMany_of_ne {es : List Entry} : ∀ {fs : Cp} {x : Entry}, x ∈ fs →
    (∀ e ∈ es, x.key ≠ e.key) → x ∈ hsetMany fs es := mem_hsetMany_keep

/-- the single `_offset` field of id `N` decides what `N` alone reads -/
theorem offOf_one_of_mem {N : Bytes} {fs : Cp} (hn : FieldsNodup fs) {e : Entry} (he : e ∈ fs)
    (hk : e.key = (N, Kind.offset)) {v : Int} (hv : Resp.parseInt64 e.val = some v) :
    offOf [N] fs = v := by
  apply foldl_offStep_all_eq [N] v fs (-1)
  · intro x hx hs
    rw [offSel_iff, matchId_one] at hs
    have : x.key = e.key := by rw [hk]; show (x.rid, x.kind) = _; rw [hs.1, hs.2]
    rw [eq_of_key hn hx he this]; exact hv
  · left
    refine ⟨e, he, ?_⟩
    rw [offSel_iff, matchId_one]
    have h1 : e.rid = N := congrArg Prod.fst hk
    have h2 : e.kind = Kind.offset := congrArg Prod.snd hk
    exact ⟨h1, h2⟩

theorem offOf_one_of_not {N : Bytes} {fs : Cp} (h : ¬ hasKey (N, Kind.offset) fs) : offOf [N] fs = -1 := by
  apply foldl_sel_inv (fun o e => (Resp.parseInt64 e.val).getD o) (offSel [N]) (· = -1) fs (-1) rfl
  intro x hx hs
  rw [offSel_iff, matchId_one] at hs
  exact absurd ⟨x, hx, by show (x.rid, x.kind) = _; rw [hs.1, hs.2]⟩ h

theorem ridOf_none {ids : List Bytes} {fs : Cp} (h : ∀ e ∈ fs, ridSel ids e = false) : ridOf ids fs = qmark :=
  foldl_sel_inv (fun _ e => e.val) (ridSel ids) (· = qmark) fs qmark rfl
    (fun x hx hs => nomatch (h x hx).symm.trans hs)

def NoAfter (N O : Bytes) (fs : Cp) : Prop :=
  fs.Pairwise (fun a b => ¬ (a.key = (N, Kind.offset) ∧ b.key = (O, Kind.offset)))

theorem NoAfter.hdelMany {N O : Bytes} {fs : Cp} (h : NoAfter N O fs) (ks : List FKey) :
    NoAfter N O (hdelMany fs ks) := by
  unfold NoAfter Checkpoint.hdelMany at *
  exact List.Pairwise.sublist List.filter_sublist h

theorem NoAfter.hsetOne {N O : Bytes} {fs : Cp} (h : NoAfter N O fs) (e : Entry)
    (he : e.key ≠ (O, Kind.offset) ∨ ¬ hasKey (N, Kind.offset) fs) : NoAfter N O (hsetOne fs e) := by
  unfold NoAfter at *
  rcases hsetOne_cases fs e with ⟨heq, _⟩ | ⟨heq, _⟩
  · rw [heq, List.pairwise_map]
    apply List.Pairwise.imp _ h
    intro a b hab
    rw [rep_key, rep_key]; exact hab
  · rw [heq]
    apply List.pairwise_append.mpr
    refine ⟨h, by simp, ?_⟩
    intro a ha b hb
    simp only [List.mem_singleton] at hb
    subst hb
    rintro ⟨h1, h2⟩
    rcases he with he | he
    · exact he h2
    · exact he ⟨a, ha, h1⟩

theorem NoAfter.hsetMany {N O : Bytes} {es : List Entry} (hes : ∀ e ∈ es, e.key ≠ (O, Kind.offset)) :
    ∀ {fs : Cp}, NoAfter N O fs → NoAfter N O (hsetMany fs es) := by
  induction es with
  | nil => intro fs h; exact h
  | cons e es ih =>
    intro fs h
    simp only [Checkpoint.hsetMany, List.foldl_cons]
    exact ih (fun e' he' => hes e' (List.mem_cons_of_mem _ he'))
      (h.hsetOne e (Or.inl (hes e (List.mem_cons_self ..))))

theorem noAfter_of_no {N O : Bytes} {fs : Cp} (h : ¬ hasKey (N, Kind.offset) fs ∨ ¬ hasKey (O, Kind.offset) fs) :
    NoAfter N O fs := by
  unfold NoAfter
  apply List.pairwise_of_forall_mem_list
  intro a ha b hb hab
  exact h.elim (fun h => h ⟨a, ha, hab.1⟩) (fun h => h ⟨b, hb, hab.2⟩)

/-- with `N`'s `_offset` field after every `_offset` field of `O`, reading both ids reads what `N`
    alone reads -/
theorem offOf_pair_of_noAfter {N O : Bytes} : ∀ {fs : Cp}, NoAfter N O fs → Parses [N, O] fs →
    hasKey (N, Kind.offset) fs → ∀ o o' : Int,
    fs.foldl (offStep [N, O]) o = fs.foldl (offStep [N]) o' := by
  intro fs
  induction fs with
  | nil => intro _ _ h; obtain ⟨e, he, _⟩ := h; cases he
  | cons x fs ih =>
    intro hna hp hk o o'
    unfold NoAfter at hna
    rw [List.pairwise_cons] at hna
    simp only [List.foldl_cons]
    by_cases hx : x.key = (N, Kind.offset)
    · have h1 : x.rid = N := congrArg Prod.fst hx
      have h2 : x.kind = Kind.offset := congrArg Prod.snd hx
      have hsel2 : offSel [N, O] x = true := by rw [offSel_iff, matchId_pair]; exact ⟨Or.inl h1, h2⟩
      have hsel1 : offSel [N] x = true := by rw [offSel_iff, matchId_one]; exact ⟨h1, h2⟩
      obtain ⟨v, hv⟩ := Option.isSome_iff_exists.mp
        (hp x (List.mem_cons_self ..) ((matchId_pair N O _).mpr (Or.inl h1)) (Or.inl h2))
      have e2 : offStep [N, O] o x = v := by simp [offStep, hsel2, hv]
      have e1 : offStep [N] o' x = v := by simp [offStep, hsel1, hv]
      rw [e2, e1]
      -- the rest holds no `_offset` field of `O`: both folds select the same fields
      have hsame : ∀ y ∈ fs, offSel [N, O] y = offSel [N] y := by
        intro y hy
        have hno := hna.1 y hy
        rw [Bool.eq_iff_iff, offSel_iff, offSel_iff, matchId_pair, matchId_one]
        constructor
        · rintro ⟨hm | hm, hko⟩
          · exact ⟨hm, hko⟩
          · exact absurd ⟨hx, by show (y.rid, y.kind) = _; rw [hm, hko]⟩ hno
        · rintro ⟨hm, hko⟩; exact ⟨Or.inl hm, hko⟩
      exact foldl_sel_congr (fun o e => (Resp.parseInt64 e.val).getD o) (offSel [N, O]) (offSel [N]) fs v hsame
    · have hk' : hasKey (N, Kind.offset) fs := by
        obtain ⟨e, he, hek⟩ := hk
        rcases List.mem_cons.mp he with rfl | he'
        · exact absurd hek hx
        · exact ⟨e, he', hek⟩
      exact ih hna.2 hp.tail hk' _ _

theorem offOf_pair_eq_one {N O : Bytes} {fs : Cp} (hna : NoAfter N O fs) (hp : Parses [N, O] fs)
    (hk : hasKey (N, Kind.offset) fs) : offOf [N, O] fs = offOf [N] fs :=
  offOf_pair_of_noAfter hna hp hk (-1) (-1)

def OffLe (ids : List Bytes) (fs : Cp) (X : Int) : Prop :=
  ∀ x ∈ fs, offSel ids x = true → ∀ v, Resp.parseInt64 x.val = some v → v ≤ X

theorem OffLe.mono {ids : List Bytes} {fs : Cp} {X Y : Int} (h : OffLe ids fs X) (hxy : X ≤ Y) :
    OffLe ids fs Y := fun x hx hs v hv => Int.le_trans (h x hx hs v hv) hxy

theorem OffLe.hdelMany {ids : List Bytes} {fs : Cp} {X : Int} (h : OffLe ids fs X) (ks : List FKey) :
    OffLe ids (hdelMany fs ks) X := fun x hx => h x (List.mem_filter.mp hx).1

/-- a `_runid` field of one of the ids exists and none stores "?": a run id is read -/
theorem ridOf_ne_of_hasKey {ids : List Bytes} {fs : Cp} {ρ : Bytes} (hm : matchId ids ρ = true)
    (hk : hasKey (ρ, Kind.runid) fs) (hall : ∀ x ∈ fs, ridSel ids x = true → x.val ≠ qmark) :
    ridOf ids fs ≠ qmark := by
  apply foldl_ridStep_ne ids fs qmark hall
  left
  obtain ⟨e, he, hek⟩ := hk
  refine ⟨e, he, ?_⟩
  rw [ridSel_iff]
  have h1 : e.rid = ρ := congrArg Prod.fst hek
  have h2 : e.kind = Kind.runid := congrArg Prod.snd hek
  exact ⟨h1 ▸ hm, h2⟩

structure StrA (t : Target) (names ids : List Bytes) : Prop where
  ok : ∀ db n, ∀ e ∈ t.cps db n, EntryOK e
  nodup : ∀ db n, FieldsNodup (t.cps db n)
  fin : ∃ dbs : List Nat, ∀ db, db ∉ dbs → ∀ n, t.cps db n = []
  names : ∀ n, n ∉ names → (∀ db, t.cps db n = []) ∧ ∀ p ∈ t.hash, p.2 ≠ n
  ids : ∀ ρ, ρ ∉ ids → (∀ db n, ∀ e ∈ t.cps db n, e.rid ≠ ρ) ∧ hlookup t.hash ρ = none

def ReqA (names ids : List Bytes) : Req → Prop
  | .hsetCp _ name es => name ∈ names ∧ ∀ e ∈ es, EntryOK e ∧ e.rid ∈ ids
  | .hdelCp _ _ _ => True
  | .delKeys _ _ => True
  | .hsetHash rid name => rid ∈ ids ∧ name ∈ names
  | .hsetnxHash rid name => rid ∈ ids ∧ name ∈ names
  | .hdelHash _ => True

theorem StrA.weaken {t : Target} {names ids names' ids' : List Bytes} (h : StrA t names ids)
    (hn : ∀ x ∈ names, x ∈ names') (hi : ∀ x ∈ ids, x ∈ ids') : StrA t names' ids' :=
  ⟨h.ok, h.nodup, h.fin, fun n hn' => h.names n (fun hc => hn' (hn n hc)),
    fun ρ hρ => h.ids ρ (fun hc => hρ (hi ρ hc))⟩

theorem hlookup_eq_none_iff {h : List (Bytes × Bytes)} {k : Bytes} : hlookup h k = none ↔ ∀ p ∈ h, p.1 ≠ k := by
  unfold hlookup
  rw [List.lookup_eq_none_iff]
  exact forall_congr' fun p => imp_congr_right fun _ => by rw [bne_iff_ne, ne_comm]

theorem hlookup_none_of_not_mem {h : List (Bytes × Bytes)} {k : Bytes} (hk : ∀ p ∈ h, p.1 ≠ k) :
    hlookup h k = none := hlookup_eq_none_iff.mpr hk

theorem mem_applyReq_cps {t : Target} {q : Req} {db : Nat} {n : Bytes} {e : Entry}
    (he : e ∈ (applyReq t q).cps db n) : e ∈ t.cps db n ∨ ∃ es, q = Req.hsetCp db n es ∧ e ∈ es := by
  cases q with
  | hsetCp db0 name es =>
    rw [applyReq_hsetCp_cps] at he
    split at he
    · rename_i hc
      obtain ⟨rfl, rfl⟩ := hc
      exact (mem_hsetMany he).symm.imp_right fun h => ⟨es, rfl, h⟩
    · exact Or.inl he
  | hdelCp db0 name ks =>
    rw [applyReq_hdelCp_cps] at he
    split at he
    · rename_i hc
      obtain ⟨rfl, rfl⟩ := hc
      exact Or.inl (List.mem_filter.mp he).1
    · exact Or.inl he
  | delKeys db0 names =>
    have hc : (applyReq t (Req.delKeys db0 names)).cps db n
        = if db = db0 ∧ names.contains n then [] else t.cps db n := rfl
    rw [hc] at he
    split at he
    · cases he
    · exact Or.inl he
  | hsetHash rid name => exact Or.inl he
  | hsetnxHash rid name =>
    have hc : (applyReq t (Req.hsetnxHash rid name)).cps = t.cps := by
      show (if _ then t else _ : Target).cps = _
      split <;> rfl
    rw [hc] at he; exact Or.inl he
  | hdelHash rid => exact Or.inl he

theorem hdelCp_keeps {P : Cp → Prop} {t : Target} {db : Nat} {name : Bytes} {ks : List FKey} {db' : Nat} {n : Bytes}
    (h : P (t.cps db' n)) (hdel : P (t.cps db' n) → P (hdelMany (t.cps db' n) ks)) :
    P ((applyReq t (Req.hdelCp db name ks)).cps db' n) := by
  rw [applyReq_hdelCp_cps]
  split
  · rename_i hc; obtain ⟨rfl, rfl⟩ := hc; exact hdel h
  · exact h

theorem mem_applyReq_hash {t : Target} {q : Req} {p : Bytes × Bytes} (hp : p ∈ (applyReq t q).hash) :
    p ∈ t.hash ∨ q = Req.hsetHash p.1 p.2 ∨ q = Req.hsetnxHash p.1 p.2 := by
  cases q with
  | hsetCp db name es => exact Or.inl hp
  | hdelCp db name ks => exact Or.inl hp
  | delKeys db names => exact Or.inl hp
  | hsetHash rid name =>
    have hp : p ∈ hashSet t.hash rid name := hp
    unfold hashSet at hp
    split at hp
    · obtain ⟨q, hq, rfl⟩ := List.mem_map.mp hp
      split
      · exact Or.inr (Or.inl rfl)
      · exact Or.inl hq
    · rcases List.mem_append.mp hp with hp | hp
      · exact Or.inl hp
      · rw [List.mem_singleton.mp hp]; exact Or.inr (Or.inl rfl)
  | hsetnxHash rid name =>
    have hp : p ∈ (if t.hash.any (fun p => p.1 = rid) then t else { t with hash := t.hash ++ [(rid, name)] }).hash := hp
    split at hp
    · exact Or.inl hp
    · rcases List.mem_append.mp hp with hp | hp
      · exact Or.inl hp
      · rw [List.mem_singleton.mp hp]; exact Or.inr (Or.inr rfl)
  | hdelHash rid => exact Or.inl (List.mem_filter.mp hp).1

theorem fieldsNodup_applyReq {t : Target} (h : ∀ db n, FieldsNodup (t.cps db n)) (q : Req) (db : Nat) (n : Bytes) :
    FieldsNodup ((applyReq t q).cps db n) := by
  cases q with
  | hsetCp db0 name es =>
    rw [applyReq_hsetCp_cps]
    split
    · exact (h db0 name).hsetMany
    · exact h db n
  | hdelCp db0 name ks => exact hdelCp_keeps (h db n) (fun h => h.hdelMany ks)
  | delKeys db0 names =>
    show FieldsNodup (if db = db0 ∧ names.contains n then [] else t.cps db n)
    split
    · exact List.nodup_nil
    · exact h db n
  | hsetHash rid name => exact h db n
  | hsetnxHash rid name =>
    show FieldsNodup ((if _ then t else _ : Target).cps db n)
    split <;> exact h db n
  | hdelHash rid => exact h db n

theorem strA_applyReq {t : Target} {names ids : List Bytes} (h : StrA t names ids) (q : Req)
    (hq : ReqA names ids q) : StrA (applyReq t q) names ids := by
  -- a key that held nothing holds nothing unless the request is an HSET on it
  have hnil : ∀ db n, t.cps db n = [] → (∀ es, q ≠ Req.hsetCp db n es) → (applyReq t q).cps db n = [] := by
    intro db n h0 hne
    apply List.eq_nil_iff_forall_not_mem.mpr
    intro e he
    rcases mem_applyReq_cps he with h' | ⟨es, rfl, _⟩
    · rw [h0] at h'; cases h'
    · exact hne es rfl
  refine ⟨?_, fieldsNodup_applyReq h.nodup q, ?_, ?_, ?_⟩
  · intro db n e he
    rcases mem_applyReq_cps he with h' | ⟨es, rfl, h'⟩
    · exact h.ok db n e h'
    · exact (hq.2 e h').1
  · obtain ⟨dbs, hd⟩ := h.fin
    refine ⟨(match q with | .hsetCp db0 _ _ => [db0] | _ => []) ++ dbs, ?_⟩
    intro db hdb n
    apply hnil db n (hd db (fun hc => hdb (List.mem_append_right _ hc)) n)
    rintro es rfl
    exact hdb (List.mem_append_left _ (List.mem_singleton.mpr rfl))
  · intro n hn
    refine ⟨fun db => hnil db n ((h.names n hn).1 db) ?_, ?_⟩
    · rintro es rfl; exact hn hq.1
    · intro p hp
      rcases mem_applyReq_hash hp with hp | rfl | rfl
      · exact (h.names n hn).2 p hp
      · exact fun hc => hn (hc ▸ hq.2)
      · exact fun hc => hn (hc ▸ hq.2)
  · intro ρ hρ
    constructor
    · intro db n e he
      rcases mem_applyReq_cps he with h' | ⟨es, rfl, h'⟩
      · exact (h.ids ρ hρ).1 db n e h'
      · exact fun hc => hρ (hc ▸ (hq.2 e h').2)
    · apply hlookup_eq_none_iff.mpr
      intro p hp
      rcases mem_applyReq_hash hp with hp | rfl | rfl
      · exact hlookup_eq_none_iff.mp (h.ids ρ hρ).2 p hp
      · exact fun hc => hρ (hc ▸ hq.1)
      · exact fun hc => hρ (hc ▸ hq.1)

theorem strA_applyAll {names ids : List Bytes} (rs : List Req) {t : Target} (h : StrA t names ids)
    (hq : ∀ q ∈ rs, ReqA names ids q) : StrA (applyAll t rs) names ids :=
  applyAll_inv (I := fun t => StrA t names ids) (fun _ q h hq => strA_applyReq h q hq) rs h hq

theorem mem_cpEntries {c : CpInfo} {now : Int} {e : Entry} (he : e ∈ cpEntries c now) :
    e = ⟨c.runId, .mtime, intToDec now⟩ ∨ e = ⟨c.runId, .runid, c.runId⟩ ∨ e = ⟨c.runId, .version, c.version⟩ ∨
      e = ⟨c.runId, .offset, intToDec c.offset⟩ := by
  unfold cpEntries at he
  simp only [List.mem_append, List.mem_singleton] at he
  rcases he with ((he | he) | he) | he
  · exact Or.inl he
  · split at he
    · exact Or.inr (Or.inl (List.mem_singleton.mp he))
    · cases he
  · split at he
    · exact Or.inr (Or.inr (Or.inl (List.mem_singleton.mp he)))
    · cases he
  · exact Or.inr (Or.inr (Or.inr he))

theorem cpEntries_ok {c : CpInfo} {now : Int} (hoff : -(2^63 : Int) ≤ c.offset ∧ c.offset < 2^63)
    (hnow : -(2^63 : Int) ≤ now ∧ now < 2^63) : ∀ e ∈ cpEntries c now, EntryOK e ∧ e.rid = c.runId := by
  intro e he
  have hp1 : (Resp.parseInt64 (intToDec now)).isSome = true := by
    rw [Resp.parseInt64_intToDec now hnow.1 hnow.2]; rfl
  have hp2 : (Resp.parseInt64 (intToDec c.offset)).isSome = true := by
    rw [Resp.parseInt64_intToDec c.offset hoff.1 hoff.2]; rfl
  rcases mem_cpEntries he with rfl | rfl | rfl | rfl
  · exact ⟨⟨fun _ => hp1, fun h => nomatch h⟩, rfl⟩
  · exact ⟨⟨fun h => h.elim (fun h => nomatch h) (fun h => nomatch h), fun _ => rfl⟩, rfl⟩
  · exact ⟨⟨fun h => h.elim (fun h => nomatch h) (fun h => nomatch h), fun h => nomatch h⟩, rfl⟩
  · exact ⟨⟨fun _ => hp2, fun h => nomatch h⟩, rfl⟩

end GunYu.Checkpoint
