/-
  C15 — the two hand-written models of cmd/syncer.go `clusterTicker` agree.

  `tickerRun` (Model/Lease.lean: a call answers at once or never; ticks at
  i·R; the theorems `ticker_*` of Props/C15.lean are about it) and
  `tickerRunD` (Model/LeaseTicker.lean: every answer has a duration, the Go
  ticker keeps one tick and drops the rest, outside close, closed at entry;
  theorems `tickd_*`) are compared by the driver on its scenarios only. Here:
  for EVERY role, renew period > 0, hold, campaign age, number
  of ticks and script, `tickerRunD` with all durations 0, nobody else closing
  the wait, observed until n·R + R/2, yields exactly what `tickerRun` yields
  (calls, close, return, deadline). Every theorem about `tickerRun` is thereby
  a theorem about `tickerRunD` on duration-free scripts (two are restated
  below): `tickerRun` is not an independent model but the duration-free
  section of `tickerRunD`.
-/
import GunYu.Model.LeaseTicker
import GunYu.Props.C15


namespace GunYu.Props.C15
open GunYu GunYu.Lease

/-- what `tickerRun` reports, of what `tickerRunD` reports -/
def toOut (o : TOutD) : TOut :=
  { calls := o.calls, closed := o.closed, returned := o.returned, deadline := o.deadline }

/-- every answer arrives in the instant the call is made -/
def zeroDur (script : List TRes) : List TAns := script.map fun a => { res := a, dur := 0 }

theorem zeroDur_headD (script : List TRes) (d : TRes) :
    (zeroDur script).headD { res := d, dur := 0 } = { res := script.headD d, dur := 0 } := by
  cases script <;> rfl

theorem zeroDur_tail (script : List TRes) : (zeroDur script).tail = zeroDur script.tail := by
  cases script <;> rfl

theorem stopOut_none_toOut (calls : List Nat) (dl hor : Nat) :
    toOut (stopOut calls dl none hor) = watchdogOut calls dl hor := by
  unfold stopOut watchdogOut toOut
  dsimp only
  split <;> rfl

/-- `util.Retry(clusterRenew, 2)` on answers without duration -/
theorem tries_zero2 (stop cur : Nat) (h : cur ≤ stop) (e : ErrClass) (script : List TRes) (calls : List Nat) :
    tries stop 2 cur e (zeroDur script) calls =
      if script.headD .ok = .blk then .stuck (cur :: calls)
      else if renewErr (script.headD .ok) = .ok then .ok cur (zeroDur script.tail) (cur :: calls)
      else if script.tail.headD .ok = .blk then .stuck (cur :: cur :: calls)
      else if renewErr (script.tail.headD .ok) = .ok then
        .ok cur (zeroDur script.tail.tail) (cur :: cur :: calls)
      else .failed cur (renewErr (script.tail.headD .ok)) (zeroDur script.tail.tail) (cur :: cur :: calls) := by
  have hns : ¬ stop < cur := by omega
  simp only [tries, zeroDur_headD, zeroDur_tail, Nat.add_zero, hns, ↓reduceIte]

theorem ticksDuring_none (R t : Nat) (hR : 0 < R) : ticksDuring R (t + R) false t = (t + R, false) := by
  unfold ticksDuring
  have : ¬ t + R ≤ t := by omega
  simp only [this, ↓reduceIte]

theorem hor_lt_next (N R : Nat) (hR : 0 < R) : N * R + R / 2 < (N + 1) * R := by
  rw [Nat.succ_mul]
  have : R / 2 < R := Nat.div_lt_self hR (by omega)
  omega

theorem tick_le_hor (i N R : Nat) (h : i ≤ N) : i * R ≤ N * R + R / 2 := by
  have := Nat.mul_le_mul_right R h
  omega

/-- leader loop: at tick `i` (at `i·R`), `n` ticks left of `N`, enough fuel -/
theorem leaderLoop_eq_tickerLeader (P : TParams) (hP : P.retry = 2) (R H N : Nat) (hR : 0 < R) :
    ∀ (n fuel i t dl : Nat) (script : List TRes) (calls : List Nat),
      i + n = N + 1 → n + 1 ≤ fuel →
      toOut (leaderLoop P R H (N * R + R / 2) none fuel t (i * R) false dl (zeroDur script) calls)
        = tickerLeader R H (N * R + R / 2) i n dl script calls := by
  intro n
  induction n with
  | zero =>
    intro fuel i t dl script calls hi hf
    obtain ⟨f, rfl⟩ : ∃ f, fuel = f + 1 := ⟨fuel - 1, by omega⟩
    have hi' : i = N + 1 := by omega
    subst hi'
    have hlt := hor_lt_next N R hR
    simp only [leaderLoop, tickerLeader, stopAt, Bool.false_eq_true, ↓reduceIte]
    by_cases c1 : dl < (N + 1) * R
    · simp only [c1, ↓reduceIte]; exact stopOut_none_toOut calls dl _
    · simp only [c1, ↓reduceIte, hlt]
      have : ¬ dl ≤ N * R + R / 2 := by omega
      simp only [toOut, watchdogOut, this, ↓reduceIte]
  | succ n ih =>
    intro fuel i t dl script calls hi hf
    obtain ⟨f, rfl⟩ : ∃ f, fuel = f + 1 := ⟨fuel - 1, by omega⟩
    have hle := tick_le_hor i N R (by omega)
    have hnl : ¬ N * R + R / 2 < i * R := by omega
    simp only [leaderLoop, tickerLeader, stopAt, Bool.false_eq_true, ↓reduceIte]
    by_cases c1 : dl < i * R
    · simp only [c1, ↓reduceIte]; exact stopOut_none_toOut calls dl _
    · simp only [c1, ↓reduceIte, hnl]
      rw [hP, tries_zero2 dl (i * R) (by omega)]
      have hnext : i * R + R = (i + 1) * R := by rw [Nat.succ_mul]
      by_cases h1 : script.headD .ok = .blk
      · simp only [h1, ↓reduceIte]; exact stopOut_none_toOut _ dl _
      · simp only [h1, ↓reduceIte]
        by_cases h2 : renewErr (script.headD .ok) = .ok
        · simp only [h2, ↓reduceIte, ticksDuring_none R (i * R) hR, ite_self]
          rw [hnext]
          exact ih f (i + 1) (i * R) (i * R + H) script.tail (i * R :: calls) (by omega) (by omega)
        · simp only [h2, ↓reduceIte]
          by_cases h3 : script.tail.headD .ok = .blk
          · simp only [h3, ↓reduceIte]; exact stopOut_none_toOut _ dl _
          · simp only [h3, ↓reduceIte]
            by_cases h4 : renewErr (script.tail.headD .ok) = .ok
            · simp only [h4, ↓reduceIte, ticksDuring_none R (i * R) hR, ite_self]
              rw [hnext]
              exact ih f (i + 1) (i * R) (i * R + H) script.tail.tail (i * R :: i * R :: calls)
                (by omega) (by omega)
            · simp only [h4, ↓reduceIte, toOut]

/-- follower loop, the same way -/
theorem followerLoop_eq_tickerFollower (R N : Nat) (hR : 0 < R) :
    ∀ (n fuel i t : Nat) (script : List TRes) (calls : List Nat),
      i + n = N + 1 → n + 1 ≤ fuel →
      toOut (followerLoop R (N * R + R / 2) none fuel t (i * R) false (zeroDur script) calls)
        = tickerFollower R i n script calls := by
  intro n
  induction n with
  | zero =>
    intro fuel i t script calls hi hf
    obtain ⟨f, rfl⟩ : ∃ f, fuel = f + 1 := ⟨fuel - 1, by omega⟩
    have hi' : i = N + 1 := by omega
    subst hi'
    have hlt := hor_lt_next N R hR
    simp only [followerLoop, tickerFollower, Bool.false_eq_true, ↓reduceIte, hlt, toOut]
  | succ n ih =>
    intro fuel i t script calls hi hf
    obtain ⟨f, rfl⟩ : ∃ f, fuel = f + 1 := ⟨fuel - 1, by omega⟩
    have hle := tick_le_hor i N R (by omega)
    have hnl : ¬ N * R + R / 2 < i * R := by omega
    have hnext : i * R + R = (i + 1) * R := by rw [Nat.succ_mul]
    simp only [followerLoop, tickerFollower, Bool.false_eq_true, ↓reduceIte, hnl, zeroDur_headD,
      zeroDur_tail, Nat.add_zero, or_false]
    cases hs : script.headD .follower with
    | blk => simp only [↓reduceIte, toOut]
    | err => simp only [reduceCtorEq, ↓reduceIte, toOut]
    | leader => simp only [reduceCtorEq, ↓reduceIte, toOut]
    | ok => simp only [reduceCtorEq, ↓reduceIte, toOut]
    | notLeader =>
      simp only [reduceCtorEq, ↓reduceIte, ticksDuring_none R (i * R) hR]
      rw [hnext]
      exact ih f (i + 1) (i * R) script.tail (i * R :: calls) (by omega) (by omega)
    | follower =>
      simp only [reduceCtorEq, ↓reduceIte, ticksDuring_none R (i * R) hR]
      rw [hnext]
      exact ih f (i + 1) (i * R) script.tail (i * R :: calls) (by omega) (by omega)

theorem ticks_le_fuel (n R len : Nat) (hR : 0 < R) : n + 1 ≤ len + (n * R + R / 2) / R + 2 := by
  have : n ≤ (n * R + R / 2) / R := (Nat.le_div_iff_mul_le hR).2 (by omega)
  omega

/-- THE equivalence of the two ticker models: for EVERY role, renew period
    `R > 0`, hold, campaign age, number of ticks and script, with the
    parameters of the source (two attempts per tick), `tickerRunD` on the
    script with all durations 0, nobody else closing the wait, observed until
    `n·R + R/2`, reports exactly the calls, close, return and deadline of
    `tickerRun`. -/
theorem tickerRunD_eq_tickerRun (leader : Bool) (R H ago n : Nat) (hR : 0 < R) (script : List TRes) :
    toOut (tickerRunD srcParams leader R H ago (n * R + R / 2) none false (zeroDur script))
      = tickerRun leader R H ago n script := by
  unfold tickerRunD tickerRun
  have hf := ticks_le_fuel n R (zeroDur script).length hR
  cases leader with
  | true =>
    simp only [Bool.false_eq_true, ↓reduceIte]
    have := leaderLoop_eq_tickerLeader srcParams rfl R H n hR n _ 1 0 (H - ago) script [] (by omega) hf
    rw [Nat.one_mul] at this
    exact this
  | false =>
    simp only [Bool.false_eq_true, ↓reduceIte]
    have := followerLoop_eq_tickerFollower R n hR n _ 1 0 script [] (by omega) hf
    rw [Nat.one_mul] at this
    exact this

-- non-vacuity: both sides evaluated on the scenarios of Props/C15.lean
example : toOut (tickerRunD srcParams true 1500 3500 200 (6 * 1500 + 1500 / 2) none false
      (zeroDur [.ok, .ok, .notLeader, .notLeader]))
    = { calls := [1500, 3000, 4500, 4500], closed := some (4500, .notLeader), returned := some 4500,
        deadline := 6500 } := by decide +kernel
example : (tickerRun true 1500 3500 200 7 [.ok, .blk]).returned = some 5000 ∧
    (tickerRunD srcParams true 1500 3500 200 (7 * 1500 + 1500 / 2) none false (zeroDur [.ok, .blk])).returned
      = some 5000 := by decide +kernel
-- R = 0 is excluded for a reason: `tickerRun` then issues every tick at instant 0, `tickerRunD` has fuel for
-- two rounds only (time.NewTicker panics on a period ≤ 0; ClusterConfig.fix yields R ≥ 1 s: renew_le_third)
example : (tickerRun true 0 5 0 4 []).calls.length = 4 ∧
    (tickerRunD srcParams true 0 5 0 0 none false (zeroDur [])).calls.length = 2 := by decide +kernel

/-! ### theorems about `tickerRun`, carried over to `tickerRunD` -/

/-- `ticker_failed_renewal_stops_leader` for the model with durations: a leader
    whose renewal fails (both attempts of one tick) after `k` good ticks closes
    its syncer's wait and returns at that tick, with that error -/
theorem tickd_failed_renewal_stops_leader (R H ago k n : Nat) (hR : 0 < R) (a1 a2 : TRes) (rest : List TRes)
    (h1 : renewErr a1 ≠ .ok) (h2 : renewErr a2 ≠ .ok) (b1 : a1 ≠ .blk) (b2 : a2 ≠ .blk) (hk : k < n)
    (hRH : R ≤ H) (h0 : ago + R ≤ H) :
    (tickerRunD srcParams true R H ago (n * R + R / 2) none false
        (zeroDur (List.replicate k .ok ++ a1 :: a2 :: rest))).closed = some ((k + 1) * R, renewErr a2) ∧
    (tickerRunD srcParams true R H ago (n * R + R / 2) none false
        (zeroDur (List.replicate k .ok ++ a1 :: a2 :: rest))).returned = some ((k + 1) * R) := by
  have e := tickerRunD_eq_tickerRun true R H ago n hR (List.replicate k .ok ++ a1 :: a2 :: rest)
  have t := ticker_failed_renewal_stops_leader R H ago k n a1 a2 rest h1 h2 b1 b2 hk hRH h0
  exact ⟨(congrArg TOut.closed e).trans t.1, (congrArg TOut.returned e).trans t.2.1⟩

/-- `ticker_blocked_renewal_stops_leader` for the model with durations -/
theorem tickd_blocked_renewal_stops_leader (R H ago k n : Nat) (hR : 0 < R) (rest : List TRes)
    (hk : k < n) (hRH : R ≤ H) (h0 : ago + R ≤ H) (hk0 : 0 < k) (hhor : k * R + H ≤ n * R + R / 2) :
    (tickerRunD srcParams true R H ago (n * R + R / 2) none false
        (zeroDur (List.replicate k .ok ++ .blk :: rest))).returned = some (k * R + H) := by
  have e := tickerRunD_eq_tickerRun true R H ago n hR (List.replicate k .ok ++ .blk :: rest)
  exact (congrArg TOut.returned e).trans
    (ticker_blocked_renewal_stops_leader R H ago k n rest hk hRH h0 hk0 hhor)

example : (tickerRunD srcParams true 1500 3500 200 (6 * 1500 + 1500 / 2) none false
    (zeroDur (List.replicate 2 .ok ++ .err :: .notLeader :: []))).closed = some (4500, .notLeader) := by decide +kernel

end GunYu.Props.C15
