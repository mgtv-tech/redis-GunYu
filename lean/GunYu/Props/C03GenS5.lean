/-
  C03 — the checksum loop the DUMP payload footer and the snapshot checksum rest on is REGENERATED
  from pkg/digest/crc64.go (`digest.update`, lean/GunYu/Gen/FnCrc64.lean, generator `gofn_crc64`)
  on every run; proved here for every input: it is the table-driven hand model `Rdb.crc64TabFrom`,
  hence CRC-64/Jones as Redis specifies it bit by bit.
  An edit of the Go loop (another shift, another index, a swapped operand) changes the generated
  definition and breaks these proofs.
-/
import GunYu.Proofs.GenS5Crc64
import GunYu.Proofs.Rdb.Crc64

namespace GunYu.Props.C03
open GunYu GunYu.Gen GunYu.Rdb

/-- the regenerated `digest.update` = the hand model of the Go loop, from any state -/
theorem gen_crc64Update_eq_model (d : Fn.digest) (p : Bytes) (hlen : p.length < 9223372036854775807) :
    Fn.crc64Update d p = some ⟨crc64TabFrom d.crc p⟩ :=
  Proofs.GenS5.gen_crc64Update_eq_tabFrom d p hlen

/-- a fresh digest (`digest.New()`, crc = 0) fed `p` holds CRC-64/Jones(p) as Redis' crc64.c
    defines it (LSB-first shift register over the reflected polynomial) -/
theorem gen_crc64_eq_jones (p : Bytes) (hlen : p.length < 9223372036854775807) :
    Fn.crc64Update ⟨0#64⟩ p = some ⟨crc64Spec p⟩ := by
  rw [gen_crc64Update_eq_model ⟨0#64⟩ p hlen]
  have h : crc64TabFrom 0#64 p = crc64Spec p := crc64Tab_eq_spec_from p 0#64
  rw [h]

/-- feeding in pieces = feeding the concatenation (the streaming use in pkg/rdb and pkg/store) -/
theorem gen_crc64Update_append (d : Fn.digest) (p q : Bytes)
    (hp : p.length < 9223372036854775807) (hq : q.length < 9223372036854775807)
    (hpq : (p ++ q).length < 9223372036854775807) :
    (Fn.crc64Update d p).bind (fun d' => Fn.crc64Update d' q) = Fn.crc64Update d (p ++ q) :=
  Proofs.GenS5.gen_crc64Update_append d p q hp hq hpq

-- non-vacuity: the Redis test vector, evaluated on the generated definition
example : Fn.crc64Update ⟨0#64⟩ [49, 50, 51, 52, 53, 54, 55, 56, 57] = some ⟨0xe9c6d914c4b8d9ca#64⟩ := by
  decide +kernel

end GunYu.Props.C03
