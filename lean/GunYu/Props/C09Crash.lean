/-
  C09, the crash: "at no instant, including after a crash and restart at any point,
  has the target executed only part of a source transaction". A source transaction
  goes out as ONE MULTI/EXEC block (`Props/C09.lean`); here the target dies after ANY
  number of requests of a run that contains a complete source transaction, and what
  it has executed is the forwarded stream up to a point that is not strictly inside
  the transaction. Across restarts: `Props/C09Lives.lean`.
-/
import GunYu.Props.C09
import GunYu.Proofs.TxnShape
import GunYu.Proofs.TwoRuns
import GunYu.Proofs.ResumedDb

namespace GunYu.Props.C09
open GunYu GunYu.Sender GunYu.Target

theorem dataOut_take_prefix (out : List Batch) (m : Nat) : dataOut (out.take m) <+: dataOut out := by
  have : out = out.take m ++ out.drop m := (List.take_append_drop m out).symm
  conv => rhs; rw [this]
  rw [dataOut_append]
  exact List.prefix_append _ _

theorem allWF_take {out : List Batch} (h : AllWF out) (m : Nat) : AllWF (out.take m) :=
  fun b hb => h b (List.mem_of_mem_take hb)

/-- **A crash never leaves part of a source transaction on the target.**
    Transactional resumable mode, ANY batching limits, ANY schedule
    `pre ++ [MULTI] ++ body ++ [EXEC] ++ post` whose brackets are not nested
    (hypothesis on the source, `Props.C01.noNested_of_items`), ANY number `k` of
    requests after which the target dies. Then the data commands it has executed
    are `D`, applied in order from the connection's database, where `D` is either
    a prefix of what was forwarded BEFORE the transaction (nothing of the
    transaction executed) or extends everything forwarded before it by ALL the
    transaction's forwarded commands (the whole transaction executed). -/
theorem crash_never_splits_txn (c : SCfg) (hc : c.txnMode = true) (hres : c.resume = true)
    (pre : List Ev) (m : Item) (body : List Ev) (e : Item) (post : List Ev)
    (hndp : NoDone pre) (hndb : NoDone body)
    (hnn : C01.NoNested false (pre ++ ([Ev.item m] ++ body ++ [Ev.item e])))
    (hm : m.cmd = bMulti) (he : e.cmd = bExec)
    (hbody : ∀ ev ∈ body, ∀ it, ev = .item it → it.cmd ≠ bExec)
    (hne : fwd .begin_ body ≠ [])
    (hnneg : NonNeg (pre ++ [Ev.item m] ++ body ++ [Ev.item e] ++ post))
    (t : TState) (hq : t.queued = none) (k : Nat) :
    ∃ D, (applyLog t ((run c initS (pre ++ [Ev.item m] ++ body ++ [Ev.item e] ++ post)).2.flatten.take k)).applied
        = t.applied ++ (seqApplied t.cur D).2 ∧
      (D <+: fwd .no pre ∨ fwd .no pre ++ fwd .begin_ body <+: D) := by
  obtain ⟨outPre, s1, block, extra, hrun, hdpre, _, hdblock, _⟩ :=
    source_txn_is_one_block_src c hc pre m body e hndp hndb hnn hm he hbody hne
  -- the wire of the whole schedule
  have hnd4 : NoDone (pre ++ [Ev.item m] ++ body ++ [Ev.item e]) :=
    noDone_append (noDone_append (noDone_append hndp (noDone_item m)) hndb) (noDone_item e)
  generalize hevs : pre ++ [Ev.item m] ++ body ++ [Ev.item e] ++ post = evs at hnneg ⊢
  have hwire : (run c initS evs).2 = outPre ++ block :: (extra ++
      (run c (run c initS (pre ++ [Ev.item m] ++ body ++ [Ev.item e])).1 post).2) := by
    rw [← hevs, run_append c initS _ post hnd4]
    show (run c initS (pre ++ [Ev.item m] ++ body ++ [Ev.item e])).2 ++ _ = _
    rw [hrun]
    simp [List.append_assoc]
  have hwf := run_wf c initS evs
  have hshape := run_shape_txn c hc hres initS (Or.inl rfl) evs hnneg
  obtain ⟨n, E', hsame, hE', hpre⟩ := crash_whole_batches_prefix (run c initS evs).2 hwf t hq k
  have hE'data : dataB E' = [] := by
    rcases hE' with rfl | ⟨b, hb, hstrip, hpb⟩
    · rfl
    · exact unbracketed_no_data (hshape b hb) hstrip hpb
  have hplain : ∀ r ∈ bodies ((run c initS evs).2.take n) ++ E', Plain r = true :=
    fun r hr => bodies_plain _ hwf r (hpre.subset hr)
  refine ⟨dataOut ((run c initS evs).2.take n), ?_, ?_⟩
  · rw [hsame.1, (foldl_execReq_seq _ hplain t).2, dataB_append, hE'data, List.append_nil,
      dataB_bodies _ (allWF_take hwf n)]
  · rw [hwire]
    by_cases hn : n ≤ outPre.length
    · left
      rw [List.take_append_of_le_length hn, ← hdpre]
      exact dataOut_take_prefix outPre n
    · right
      have hn' : outPre.length < n := by omega
      obtain ⟨j, hj⟩ : ∃ j, n = outPre.length + (j + 1) := ⟨n - outPre.length - 1, by omega⟩
      rw [hj, List.take_append, List.take_of_length_le (by omega)]
      have : outPre.length + (j + 1) - outPre.length = j + 1 := by omega
      rw [this, List.take_succ_cons, dataOut_append]
      have hcons : dataOut (block :: List.take j (extra ++
          (run c (run c initS (pre ++ [Ev.item m] ++ body ++ [Ev.item e])).1 post).2)) =
          dataB block ++ dataOut (List.take j (extra ++
          (run c (run c initS (pre ++ [Ev.item m] ++ body ++ [Ev.item e])).1 post).2)) := by
        simp [dataOut]
      rw [hcons, hdpre, hdblock, ← List.append_assoc]
      exact List.prefix_append _ _

/-! Non-vacuity: the example transaction of `Props/C09.lean` (three commands, batch
    count 2, ticks inside), followed by one more command; every hypothesis is
    discharged, and the executed commands at every crash point are computed: 1
    (before the transaction) up to request 11, then 4 (the whole transaction), never
    2 or 3. -/
def wPost : List Ev := [wSet 101 160, .batchTick]
example (k : Nat) : True := by
  have := crash_never_splits_txn wCfg rfl rfl wPre wM wBody wE wPost
    (by unfold NoDone; decide +kernel) (by unfold NoDone; decide +kernel)
    (by simp [C01.NoNested, wPre, wM, wBody, wE, wSet, bMulti, bExec])
    rfl rfl
    (by intro ev hev it hit; simp only [wBody, wSet, List.mem_cons, List.not_mem_nil, or_false] at hev
        rcases hev with rfl | rfl | rfl | rfl | rfl <;> (cases hit <;> decide))
    (by decide +kernel)
    (nonNegB_spec _ (by decide +kernel)) {} rfl k
  trivial
example : (List.range 20).map (fun k =>
    (applyLog {} ((run wCfg initS (wPre ++ [Ev.item wM] ++ wBody ++ [Ev.item wE] ++ wPost)).2.flatten.take k)).applied.length)
    = [0, 0, 0, 0, 0, 1, 1, 1, 1, 1, 1, 1, 1, 1, 4, 4, 4, 4, 5, 5] := by decide +kernel

end GunYu.Props.C09
