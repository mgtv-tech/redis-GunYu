/-
  C17 — the preconditions of the safety theorems of Props/C17.lean are INVARIANTS OF THE WRITERS.

  `Reach ver true t c`: the bookkeeping state `t` (control state `c`, Proofs/BookGood.lean `Ctl`) is
  reached from the EMPTY target by
    seed       the first start (`UpdateCheckpoint` on nothing) and the first `setCheckpoint` (SetCheckpoint
               on a new connection, after the snapshot replay),
    life       a sender session (Model/BookSys.lean `lifeReqs`: the HSETs `sendCmdsBatch` issues, in the
               database the target executes them in), the target dying after ANY number of requests on
               the wire; the stream is what the sender's theorems assume (`LifeHyp`),
    session    a sender session WITH gc passes beside it (`sessionRun`: the cron of the replaying process):
               the wire log executed piece by piece, after a piece a gc pass stopped after ANY number of its
               requests, the session going on with what it remembers (`good_session`; the proof needs that
               gc keeps the `_runid` field of a live id — the D24 repair),
    start      `syncer.updateCheckpoint`: `UpdateCheckpoint(loc, ids ordered by the hash)`, stopped after ANY
               number of its requests (an error reply = a stop); `loc` = the current key, the key a cut
               rename wrote to, or a name never used,
    relabel    `RedisOutput.SetRunId`: `UpdateCheckpoint(key, [master id, cfg.RunId])`, stopped after ANY number
               of its requests (retries = further `relabel` steps),
    gc         a pass of `gcStaleCp`, stopped after ANY number of its requests, any threshold, any
               database orders; the live set contains the two reported ids,
    failover / newSecond   the source reports a new master id (never used on this target) / a new second id,
    crash      the process stops,
    reset      `ResetStartPoint` (the source answered FULLRESYNC) deletes the position on purpose: `Reach ver false`
               are the states WITHOUT a position between it and the next `setCheckpoint` (`reseed`), on which
               `SetRunId`, gc, a crash and the next start run as well (`relabelB`, `gcB`, `crashB`, `startB`); they
               satisfy `Bare` (Proofs/BookBare.lean), and a start on them reads none, or the placeholder −1 (`reach_bare_no_position`).
  `reach_good`: every state `Reach ver true` satisfies `Good`; hence, with hypotheses on NOTHING but reachability,
  one database holds the STRICTLY largest offset of the reported ids, with a run id (no tie is reachable), and the
  hypotheses `UpdPre` / `GcPre` / `Solo` + `RunidOwn` of `update_prefix_safe` … `gc_spares_live_id` hold.
  The sender's part is IMPORTED (Props.C02 `crash_resume_db_resumed`, Props.C02Lives `crash_cut_resumed`,
  Props.C07 `cp_offset_has_runid`) through the refinement Proofs/BookAbs.lean.
-/
import GunYu.Props.C17
import GunYu.Proofs.BookSession
import GunYu.Proofs.BookBare

namespace GunYu.Props.C17
open GunYu GunYu.Checkpoint GunYu.BookSys

/-- `INFO keyspace` lists every database in which the key exists -/
def Lists (o : List Nat) (t : Checkpoint.Target) (key : Bytes) : Prop := ∀ db, t.cps db key ≠ [] → db ∈ o

inductive Reach (ver : Bytes) : Bool → Checkpoint.Target → Ctl → Prop
  | seed (loc A z : Bytes) (hA0 : A ≠ []) (hAq : A ≠ qmark) (hz : A ≠ z) (hzq : z ≠ qmark) (hz0 : z ≠ []) (hloc : loc ≠ [])
      (o1 o2 : List Nat) (now now' X0 : Int) (hnow : -(2^63 : Int) ≤ now ∧ now < 2^63)
      (hnow' : -(2^63 : Int) ≤ now' ∧ now' < 2^63) (hX0 : 0 ≤ X0 ∧ X0 < 2^63) :
      Reach ver true (seedTarget ver loc A z o1 o2 now now' X0) (seedCtl loc A z)
  | life {t : Checkpoint.Target} {c : Ctl} (h : Reach ver true t c) (hl : c.lab = c.mas) (hup : c.up = true)
      (X : Int) (d : Nat) (oS : List Nat) (hoS : Lists oS t c.key)
      (hsp : startPoint ver [c.mas, c.sec] oS t = some (some (X, d)))
      (pc : Sender.PCfg) (sc : Sender.SCfg) (raws : List Sender.Raw) (evs : List Sender.Ev)
      (H : LifeHyp pc sc raws X (d : Int) evs) (k : Nat)
      (hhi : ∀ w ∈ logTrace {} ((Sender.run sc Sender.initS evs).2.flatten.take k),
        ∀ o, w.2 = BkW.off o → o < 2^63) :
      Reach ver true (applyAll t (lifeReqs c.key c.mas ver ((Sender.run sc Sender.initS evs).2.flatten.take k))) c
  | session {t : Checkpoint.Target} {c : Ctl} (h : Reach ver true t c) (hl : c.lab = c.mas) (hup : c.up = true)
      (X : Int) (d : Nat) (oS : List Nat) (hoS : Lists oS t c.key)
      (hsp : startPoint ver [c.mas, c.sec] oS t = some (some (X, d)))
      (pc : Sender.PCfg) (sc : Sender.SCfg) (raws : List Sender.Raw) (evs : List Sender.Ev)
      (H : LifeHyp pc sc raws X (d : Int) evs)
      (hhi : ∀ o ∈ Target.cpReqs (fullLog sc evs), o < 2^63)
      (sched : List (Nat × Option GcPass)) (hok : SchedOK c.mas c.sec {} (fullLog sc evs) sched) :
      Reach ver true (sessionRun c.key c.mas ver {} t (fullLog sc evs) sched) c
  | start {t : Checkpoint.Target} {c : Ctl} (h : Reach ver true t c) (loc : Bytes) (hloc0 : loc ≠ [])
      (hloc : loc = c.key ∨ c.pend = some loc ∨ loc ∉ c.names) (o1 o2 : List Nat) (ho1 : Lists o1 t c.key)
      (now : Int) (hnow : -(2^63 : Int) ≤ now ∧ now < 2^63) (k : Nat) :
      Reach ver true (applyAll t ((updateReqs ver t loc (startIds t.hash [c.mas, c.sec]) o1 o2 now).take k))
        (startCtl c loc k (updateReqs ver t loc (startIds t.hash [c.mas, c.sec]) o1 o2 now).length)
  | relabel {t : Checkpoint.Target} {c : Ctl} (h : Reach ver true t c) (hl : c.lab ≠ c.mas) (hup : c.up = true)
      (o1 o2 : List Nat) (ho1 : Lists o1 t c.key) (now : Int) (hnow : -(2^63 : Int) ≤ now ∧ now < 2^63) (k : Nat) :
      Reach ver true (applyAll t ((updateReqs ver t c.key [c.mas, c.lab] o1 o2 now).take k)) (relabelCtl c k)
  | gc {t : Checkpoint.Target} {c : Ctl} (h : Reach ver true t c) (live : List Bytes) (h1 : c.mas ∈ live)
      (h2 : c.sec ∈ live) (before : Int) (orders : List (List Nat)) (k : Nat) :
      Reach ver true (applyAll t ((gcReqs t live before orders).take k)) c
  | failover {t : Checkpoint.Target} {c : Ctl} (h : Reach ver true t c) (hl : c.lab = c.mas) (N' : Bytes)
      (hN : N' ∉ c.ids) (hN0 : N' ≠ []) (hNq : N' ≠ qmark) :
      Reach ver true t { c with mas := N', sec := c.mas, ids := N' :: c.ids }
  | newSecond {t : Checkpoint.Target} {c : Ctl} (h : Reach ver true t c) (hl : c.lab = c.mas) (z : Bytes)
      (hz : z ∉ c.ids) (hzq : z ≠ qmark) (hz0 : z ≠ []) :
      Reach ver true t { c with sec := z, ids := z :: c.ids }
  | crash {t : Checkpoint.Target} {c : Ctl} (h : Reach ver true t c) : Reach ver true t { c with up := false }
  /-- `ResetStartPoint` (the source answered FULLRESYNC), complete: the position is deleted on purpose -/
  | reset {t : Checkpoint.Target} {c : Ctl} (h : Reach ver true t c) (hup : c.up = true) (order : List Nat)
      (hord : Lists order t c.key) :
      Reach ver false (applyAll t (resetReqs t c.key c.lab [c.mas, c.sec] order)) c
  /-- `SetRunId(master id)` on a target without a position (the `dbid < 0` branch), stopped anywhere -/
  | relabelB {t : Checkpoint.Target} {c : Ctl} (h : Reach ver false t c) (hl : c.lab ≠ c.mas) (hup : c.up = true)
      (o1 o2 : List Nat) (now : Int) (hnow : -(2^63 : Int) ≤ now ∧ now < 2^63) (k : Nat) :
      Reach ver false (applyAll t ((updateReqs ver t c.key [c.mas, c.lab] o1 o2 now).take k)) (relabelCtl c k)
  | gcB {t : Checkpoint.Target} {c : Ctl} (h : Reach ver false t c) (live : List Bytes) (h1 : c.mas ∈ live)
      (h2 : c.sec ∈ live) (before : Int) (orders : List (List Nat)) (k : Nat) :
      Reach ver false (applyAll t ((gcReqs t live before orders).take k)) c
  | crashB {t : Checkpoint.Target} {c : Ctl} (h : Reach ver false t c) : Reach ver false t { c with up := false }
  /-- the start of the next process with the same key name (nothing to do) -/
  | startB {t : Checkpoint.Target} {c : Ctl} (h : Reach ver false t c) (o1 o2 : List Nat) (now : Int) :
      Reach ver false (applyAll t (updateReqs ver t c.key (startIds t.hash [c.mas, c.sec]) o1 o2 now)) { c with up := true }
  /-- `setCheckpoint` after the snapshot replay: the position of the new history -/
  | reseed {t : Checkpoint.Target} {c : Ctl} (h : Reach ver false t c) (hl : c.lab = c.mas) (hup : c.up = true)
      (X0 now : Int) (hX0 : 0 ≤ X0 ∧ X0 < 2^63) (hnow : -(2^63 : Int) ≤ now ∧ now < 2^63) :
      Reach ver true (applyReq t (seedReq c.key c.mas ver X0 now)) c

theorem good_startPoint (ver : Bytes) {t : Checkpoint.Target} {c : Ctl} {X : Int} {d : Nat} (G : Good t c X d)
    (oS : List Nat) (hoS : d ∈ oS) : startPoint ver [c.mas, c.sec] oS t = some (some (X, d)) :=
  startPoint_of_holds ver G.hashEq G.ctl.key0 G.holds oS hoS

theorem good_of_startPoint (ver : Bytes) {t : Checkpoint.Target} {c : Ctl} {X0 X : Int} {d0 d : Nat} (G : Good t c X0 d0)
    {oS : List Nat} (hoS : Lists oS t c.key) (hsp : startPoint ver [c.mas, c.sec] oS t = some (some (X, d))) :
    Good t c X d := by
  have := good_startPoint ver G oS (hoS d0 G.nonempty)
  rw [hsp] at this
  injection this with this; injection this with this; injection this with hX hd
  exact hX ▸ hd ▸ G

theorem reach_inv_cond (ver : Bytes) {b : Bool} {t : Checkpoint.Target} {c : Ctl} (h : Reach ver b t c) :
    cond b (∃ X d, Good t c X d) (Bare t c) := by
  induction h with
  | seed loc A z hA0 hAq hz hzq hz0 hloc o1 o2 now now' X0 hnow hnow' hX0 =>
    exact ⟨X0, 0, good_seed ver loc A z hA0 hAq hz hzq hz0 hloc o1 o2 now now' X0 hnow hnow' hX0⟩
  | @life t c _ hl hup X d oS hoS hsp pc sc raws evs H k hhi ih =>
    obtain ⟨X0, d0, G0⟩ := ih
    have G := good_of_startPoint ver G0 hoS hsp
    obtain ⟨Y, d', _, G'⟩ := good_life ver G hl (G.ctl.upk hup) pc sc raws evs H k hhi
    exact ⟨Y, d', G'⟩
  | @session t c _ hl hup X d oS hoS hsp pc sc raws evs H hhi sched hok ih =>
    obtain ⟨X0, d0, G0⟩ := ih
    have G := good_of_startPoint ver G0 hoS hsp
    obtain ⟨Y, d', _, G'⟩ := good_session ver G hl (G.ctl.upk hup) pc sc raws evs H hhi sched hok
    exact ⟨Y, d', G'⟩
  | @start t c _ loc hloc0 hloc o1 o2 ho1 now hnow k ih =>
    obtain ⟨X, d, G⟩ := ih
    exact ⟨X, d, good_start ver G loc hloc0 hloc o1 o2 (ho1 d G.nonempty) now hnow k⟩
  | @relabel t c _ hl hup o1 o2 ho1 now hnow k ih =>
    obtain ⟨X, d, G⟩ := ih
    rw [G.ctl.lab.resolve_left hl]
    exact ⟨X, d, good_relabel ver G hl (G.ctl.upk hup) o1 o2 (ho1 d G.nonempty) now hnow k⟩
  | @gc t c _ live h1 h2 before orders k ih =>
    obtain ⟨X, d, G⟩ := ih
    exact ⟨X, d, good_gc G live h1 h2 before orders k⟩
  | @failover t c _ hl N' hN hN0 hNq ih =>
    obtain ⟨X, d, G⟩ := ih
    exact ⟨X, d, good_failover G hl N' hN hN0 hNq⟩
  | @newSecond t c _ hl z hz hzq hz0 ih =>
    obtain ⟨X, d, G⟩ := ih
    exact ⟨X, d, good_newSecond G hl z hz hzq hz0⟩
  | @crash t c _ ih =>
    obtain ⟨X, d, G⟩ := ih
    exact ⟨X, d, good_crash G⟩
  | @reset t c _ hup order hord ih =>
    obtain ⟨X, d, G⟩ := ih
    exact good_reset G (G.ctl.upk hup) order hord
  | @relabelB t c _ hl hup o1 o2 now hnow k ih =>
    have B : Bare t c := ih
    rw [B.ctl.lab.resolve_left hl]
    exact bare_relabel ver B hl o1 o2 now hnow k
  | @gcB t c _ live h1 h2 before orders k ih => exact bare_gc ih live h1 h2 before orders k
  | @crashB t c _ ih => exact Bare.withUp ih false
  | @startB t c _ o1 o2 now ih =>
    have B : Bare t c := ih
    rw [bare_start_noop ver B]
    exact B.withUp true
  | @reseed t c _ hl hup X0 now hX0 hnow ih => exact ⟨X0, 0, good_reseed ver ih hl X0 now hX0 hnow⟩

/-- **Every reachable state satisfies the invariant**: `Good` for a position when it has one, `Bare` between a
    `ResetStartPoint` and the next `setCheckpoint`. -/
theorem reach_inv (ver : Bytes) {b : Bool} {t : Checkpoint.Target} {c : Ctl} (h : Reach ver b t c) :
    (b = true → ∃ X d, Good t c X d) ∧ (b = false → Bare t c) :=
  ⟨fun hb => by subst hb; exact reach_inv_cond ver h, fun hb => by subst hb; exact reach_inv_cond ver h⟩

theorem reach_good (ver : Bytes) {t : Checkpoint.Target} {c : Ctl} (h : Reach ver true t c) :
    ∃ X d, Good t c X d := (reach_inv ver h).1 rfl

/-- a state between `ResetStartPoint` and the next `setCheckpoint` holds NO position: the next start reads
    none ("none only if none existed": it was deleted on purpose), whatever the writers did in between -/
theorem reach_bare_no_position (ver : Bytes) {t : Checkpoint.Target} {c : Ctl} (h : Reach ver false t c)
    (oS : List Nat) : ∃ r, startPoint ver [c.mas, c.sec] oS t = some r ∧ ∀ X d, r = some (X, d) → X = -1 := by
  have B := (reach_inv ver h).2 rfl
  have hh := getHash_lab B.ctl B.hashL B.hashM
  obtain ⟨cpKv, dbid, hgc, hoff, _⟩ := getCheckpoint_bare ver B oS
  unfold startPoint
  simp only [hh, B.ctl.key0, if_false, hgc]
  split
  · exact ⟨none, rfl, fun X d h => by cases h⟩
  · exact ⟨_, rfl, fun X d h => by injection h with h; injection h with h _; rw [← h, hoff]⟩

/-- In every reachable state ONE database `d` holds the position: the checkpoint hash resolves the
    reported ids to a key under which `d` reads an offset `X ≥ 0` with a run id, every `_offset` field of
    the two ids in any other database is STRICTLY smaller (never a tie), all numeric fields parse; every
    `_runid` field of the target stores its own id; and that `(X, d)` is what `GetCheckpointHash` +
    `GetCheckpoint` return for every iteration order of `INFO keyspace`. -/
theorem reach_position (ver : Bytes) {t : Checkpoint.Target} {c : Ctl} (h : Reach ver true t c) :
    ∃ X d, getHash t.hash [c.mas, c.sec] = some (c.key, c.lab) ∧ c.key ≠ [] ∧
      Holds [c.mas, c.sec] t c.key d X ∧ (∀ n, RunidOwn t n) ∧
      ∀ oS, Lists oS t c.key → startPoint ver [c.mas, c.sec] oS t = some (some (X, d)) := by
  obtain ⟨X, d, G⟩ := reach_good ver h
  exact ⟨X, d, G.hashEq, G.ctl.key0, G.holds, G.ownAll, fun oS hoS => good_startPoint ver G oS (hoS d G.nonempty)⟩

/-- no tie is reachable: whatever a start reads as the position, no other database holds an `_offset`
    field of the reported ids with the same (or a larger) value — the situation in which gc could move
    the position to another database (`exTie` in Props/C17.lean) does not arise -/
theorem reach_no_tie (ver : Bytes) {t : Checkpoint.Target} {c : Ctl} (h : Reach ver true t c)
    (oS : List Nat) (hoS : Lists oS t c.key) (X : Int) (d : Nat)
    (hsp : startPoint ver [c.mas, c.sec] oS t = some (some (X, d))) :
    ∀ db, db ≠ d → ∀ e ∈ t.cps db c.key, (e.rid = c.mas ∨ e.rid = c.sec) → e.kind = Kind.offset →
      ∀ v, Resp.parseInt64 e.val = some v → v < X := by
  obtain ⟨X0, d0, G0⟩ := reach_good ver h
  have G := good_of_startPoint ver G0 hoS hsp
  intro db hdb e he hr hk v hv
  exact G.holds.dom db hdb e he (by rw [offSel_iff, matchId_pair]; exact ⟨hr, hk⟩) v hv

/-- the hypotheses of `update_prefix_safe` / `update_restart_reads_local` / … for what the START runs -/
theorem reach_updPre_start (ver : Bytes) {t : Checkpoint.Target} {c : Ctl} (h : Reach ver true t c)
    (loc : Bytes) (hloc0 : loc ≠ []) (hloc : loc = c.key ∨ c.pend = some loc ∨ loc ∉ c.names) (now : Int)
    (hnow : -(2^63 : Int) ≤ now ∧ now < 2^63) :
    ∃ X d id1 id2, startIds t.hash [c.mas, c.sec] = [id1, id2] ∧ UpdPre id1 id2 loc t c.key c.lab d X now := by
  obtain ⟨X, d, G⟩ := reach_good ver h
  obtain ⟨P1, P2⟩ := G.updPre_start loc hloc0 hloc now hnow
  by_cases hl : c.lab = c.sec
  · exact ⟨X, d, c.sec, c.mas, by rw [G.startIdsEq, if_pos hl], P2 hl⟩
  · exact ⟨X, d, c.mas, c.sec, by rw [G.startIdsEq, if_neg hl], P1 hl⟩

/-- … for `SetRunId(master id)` -/
theorem reach_updPre_relabel (ver : Bytes) {t : Checkpoint.Target} {c : Ctl} (h : Reach ver true t c)
    (now : Int) (hnow : -(2^63 : Int) ≤ now ∧ now < 2^63) :
    ∃ X d, UpdPre c.mas c.sec c.key t c.key c.lab d X now := by
  obtain ⟨X, d, G⟩ := reach_good ver h
  exact ⟨X, d, G.updPre_relabel now hnow⟩

/-- the hypotheses of `gc_prefix_safe` -/
theorem reach_gcPre (ver : Bytes) {t : Checkpoint.Target} {c : Ctl} (h : Reach ver true t c) (live : List Bytes)
    (h1 : c.mas ∈ live) (h2 : c.sec ∈ live) : ∃ X d, GcPre c.mas c.sec live t c.key c.lab d X := by
  obtain ⟨X, d, G⟩ := reach_good ver h
  refine ⟨X, d, G.ctl.hne, G.ctl.m0, G.ctl.mq, G.ctl.sq, h1, h2, G.hashEq, G.ctl.key0, G.holds, G.ownAll _, ?_⟩
  rcases G.ctl.lab with hl | hl
  · exact Or.inl (hl ▸ G.carr)
  · exact Or.inr (hl ▸ G.carr)

/-- the hypotheses of `gc_spares_live_id` for the label -/
theorem reach_solo (ver : Bytes) {t : Checkpoint.Target} {c : Ctl} (h : Reach ver true t c) :
    ∃ X d, Solo c.lab t c.key d X ∧ c.lab ≠ qmark ∧ ∀ n, RunidOwn t n := by
  obtain ⟨X, d, G⟩ := reach_good ver h
  exact ⟨X, d, G.soloLab, G.labq, G.ownAll⟩

/-- **The start (rename / nothing to do), stopped anywhere, on ANY reachable state**: the next start reads
    the same offset in the same database. `oS` lists the databases holding the key (before). -/
theorem reach_start_safe (ver : Bytes) {t : Checkpoint.Target} {c : Ctl} (h : Reach ver true t c)
    (loc : Bytes) (hloc0 : loc ≠ []) (hloc : loc = c.key ∨ c.pend = some loc ∨ loc ∉ c.names)
    (o1 o2 oS : List Nat) (ho1 : Lists o1 t c.key) (hoS : Lists oS t c.key) (now : Int)
    (hnow : -(2^63 : Int) ≤ now ∧ now < 2^63) :
    ∃ X d, 0 ≤ X ∧ startPoint ver [c.mas, c.sec] oS t = some (some (X, d)) ∧
      ∀ k, startPoint ver [c.mas, c.sec] oS
        (applyAll t ((updateReqs ver t loc (startIds t.hash [c.mas, c.sec]) o1 o2 now).take k))
        = some (some (X, d)) := by
  obtain ⟨X, d, G⟩ := reach_good ver h
  have hd := hoS d G.nonempty
  refine ⟨X, d, G.holds.nonneg, good_startPoint ver G oS hd, fun k => ?_⟩
  have := good_startPoint ver (good_start ver G loc hloc0 hloc o1 o2 (ho1 d G.nonempty) now hnow k) oS hd
  rwa [(startCtl_ids ..).1, (startCtl_ids ..).2] at this

/-- a start that runs to completion leaves the position under the configured key -/
theorem reach_start_complete (ver : Bytes) {t : Checkpoint.Target} {c : Ctl} (h : Reach ver true t c)
    (loc : Bytes) (hloc0 : loc ≠ []) (hloc : loc = c.key ∨ c.pend = some loc ∨ loc ∉ c.names)
    (o1 o2 : List Nat) (ho1 : Lists o1 t c.key) (now : Int) (hnow : -(2^63 : Int) ≤ now ∧ now < 2^63) :
    ∃ X d c', Good (applyAll t (updateReqs ver t loc (startIds t.hash [c.mas, c.sec]) o1 o2 now)) c' X d ∧
      c'.key = loc ∧ c'.up = true ∧ c'.lab = c.lab := by
  obtain ⟨X, d, G⟩ := reach_good ver h
  have G' := good_start ver G loc hloc0 hloc o1 o2 (ho1 d G.nonempty) now hnow
    ((updateReqs ver t loc (startIds t.hash [c.mas, c.sec]) o1 o2 now).length + 2)
  rw [List.take_of_length_le (by omega)] at G'
  refine ⟨X, d, _, G', ?_⟩
  -- nothing to do means the configured key is the current one
  have hL : (updateReqs ver t loc (startIds t.hash [c.mas, c.sec]) o1 o2 now).length = 0 → c.key = loc := by
    intro h0
    apply Classical.byContradiction
    intro hk
    exact start_reqs_ne_nil ver G loc hloc0 hloc hk o1 o2 (ho1 d G.nonempty) now hnow (List.length_eq_zero_iff.mp h0)
  generalize (updateReqs ver t loc (startIds t.hash [c.mas, c.sec]) o1 o2 now).length = L at hL
  unfold startCtl
  by_cases h0 : L = 0
  · rw [if_pos h0]; exact ⟨hL h0, rfl, rfl⟩
  · rw [if_neg h0, if_neg (by omega), if_neg (by omega)]
    exact ⟨rfl, by simp, rfl⟩

/-- **`SetRunId(master id)` on ANY reachable state of a running process, stopped anywhere** -/
theorem reach_relabel_safe (ver : Bytes) {t : Checkpoint.Target} {c : Ctl} (h : Reach ver true t c)
    (hl : c.lab ≠ c.mas) (hup : c.up = true) (o1 o2 oS : List Nat) (ho1 : Lists o1 t c.key)
    (hoS : Lists oS t c.key) (now : Int) (hnow : -(2^63 : Int) ≤ now ∧ now < 2^63) :
    ∃ X d, 0 ≤ X ∧ startPoint ver [c.mas, c.sec] oS t = some (some (X, d)) ∧
      ∀ k, startPoint ver [c.mas, c.sec] oS
        (applyAll t ((updateReqs ver t c.key [c.mas, c.lab] o1 o2 now).take k)) = some (some (X, d)) := by
  obtain ⟨X, d, G⟩ := reach_good ver h
  have hd := hoS d G.nonempty
  have hls : c.lab = c.sec := by rcases G.ctl.lab with h | h; exact absurd h hl; exact h
  refine ⟨X, d, G.holds.nonneg, good_startPoint ver G oS hd, fun k => ?_⟩
  have := good_startPoint ver (good_relabel ver G hl (G.ctl.upk hup) o1 o2 (ho1 d G.nonempty) now hnow k) oS hd
  rw [(relabelCtl_ids ..).1, (relabelCtl_ids ..).2] at this
  rw [hls]; exact this

/-- **gc on ANY reachable state, stopped anywhere, any threshold, any database orders** -/
theorem reach_gc_safe (ver : Bytes) {t : Checkpoint.Target} {c : Ctl} (h : Reach ver true t c) (live : List Bytes)
    (h1 : c.mas ∈ live) (h2 : c.sec ∈ live) (oS : List Nat) (hoS : Lists oS t c.key) :
    ∃ X d, 0 ≤ X ∧ startPoint ver [c.mas, c.sec] oS t = some (some (X, d)) ∧
      ∀ before orders k, startPoint ver [c.mas, c.sec] oS
        (applyAll t ((gcReqs t live before orders).take k)) = some (some (X, d)) := by
  obtain ⟨X, d, G⟩ := reach_good ver h
  have hd := hoS d G.nonempty
  exact ⟨X, d, G.holds.nonneg, good_startPoint ver G oS hd,
    fun before orders k => good_startPoint ver (good_gc G live h1 h2 before orders k) oS hd⟩

/-- **gc never removes the newest checkpoint of the label** (any id of the live set that labels a
    reachable position): no request of the pass deletes its hash entry or a field of it in the database
    of the position -/
theorem reach_gc_spares_label (ver : Bytes) {t : Checkpoint.Target} {c : Ctl} (h : Reach ver true t c)
    (live : List Bytes) (hl : c.lab ∈ live) (before : Int) (orders : List (List Nat)) :
    ∃ X d, Solo c.lab t c.key d X ∧ ∀ q ∈ gcReqs t live before orders,
      q ≠ Req.hdelHash c.lab ∧ ∀ ks, q = Req.hdelCp d c.key ks → ∀ k ∈ ks, k.1 ≠ c.lab := by
  obtain ⟨X, d, G⟩ := reach_good ver h
  exact ⟨X, d, G.soloLab,
    gc_spares_live_id t live before orders c.lab c.key d X hl G.labq G.soloLab G.ownAll⟩


/-- **A sender session with gc passes beside it never lowers the position** (the scenario of D24): on a reachable
    state, the wire log of a session executed piece by piece, a gc pass — any threshold, any database orders, live
    set containing the reported ids, stopped after any number of its requests — after any piece; the next start
    reads a position not smaller than the one the session started from. -/
theorem reach_session_safe (ver : Bytes) {t : Checkpoint.Target} {c : Ctl} (h : Reach ver true t c) (hl : c.lab = c.mas)
    (hup : c.up = true) (X : Int) (d : Nat) (oS : List Nat) (hoS : Lists oS t c.key)
    (hsp : startPoint ver [c.mas, c.sec] oS t = some (some (X, d)))
    (pc : Sender.PCfg) (sc : Sender.SCfg) (raws : List Sender.Raw) (evs : List Sender.Ev)
    (H : LifeHyp pc sc raws X (d : Int) evs) (hhi : ∀ o ∈ Target.cpReqs (fullLog sc evs), o < 2^63)
    (sched : List (Nat × Option GcPass)) (hok : SchedOK c.mas c.sec {} (fullLog sc evs) sched) :
    ∃ Y d', X ≤ Y ∧ ∀ oS', d' ∈ oS' →
      startPoint ver [c.mas, c.sec] oS' (sessionRun c.key c.mas ver {} t (fullLog sc evs) sched) = some (some (Y, d')) := by
  obtain ⟨X0, d0, G0⟩ := reach_good ver h
  have G := good_of_startPoint ver G0 hoS hsp
  obtain ⟨Y, d', hle, G'⟩ := good_session ver G hl (G.ctl.upk hup) pc sc raws evs H hhi sched hok
  exact ⟨Y, d', hle, fun oS' h' => good_startPoint ver G' oS' h'⟩

theorem goodChecks_names (dbs : List Nat) (keys : List Bytes) (t : Checkpoint.Target) (c : Ctl) (X : Int) (d : Nat) :
    ∀ p ∈ goodChecks dbs keys t c X d, p.1 ≠ "" := by
  intro p hp
  unfold goodChecks at hp
  simp only [List.mem_cons, List.not_mem_nil, or_false] at hp
  rcases hp with h | h | h | h | h | h | h | h | h | h | h <;> (subst h; simp)

/-- **The Bool the driver evaluates (op `c17good`) decides the invariant**: when no clause of `goodChecks` fails on
    the dumped databases / key names, the dump is the whole state, and the ghost clauses (names / ids never used
    do not occur) hold, the state satisfies `Good`. -/
theorem goodChecks_decide_good {dbs : List Nat} {keys : List Bytes} {t : Checkpoint.Target} {c : Ctl} {X : Int} {d : Nat}
    (h : firstBad (goodChecks dbs keys t c X d) = "")
    (hdbs : ∀ db, db ∉ dbs → ∀ n, t.cps db n = []) (hkeys : ∀ n, n ∉ keys → ∀ db, t.cps db n = [])
    (hkeyIn : c.key ∈ c.names) (hmasIn : c.mas ∈ c.ids) (hsecIn : c.sec ∈ c.ids)
    (hnames : ∀ n, n ∉ c.names → (∀ db, t.cps db n = []) ∧ ∀ p ∈ t.hash, p.2 ≠ n)
    (hids : ∀ ρ, ρ ∉ c.ids → (∀ db n, ∀ e ∈ t.cps db n, e.rid ≠ ρ) ∧ hlookup t.hash ρ = none)
    (hpmem : ∀ p, c.pend = some p → p ∈ c.names) : Good t c X d :=
  good_of_checks (firstBad_empty _ (goodChecks_names dbs keys t c X d) h) hdbs hkeys hkeyIn hmasIn hsecIn hnames hids hpmem

theorem bareChecks_names (dbs : List Nat) (keys : List Bytes) (t : Checkpoint.Target) (c : Ctl) :
    ∀ p ∈ bareChecks dbs keys t c, p.1 ≠ "" := by
  intro p hp
  unfold bareChecks at hp
  simp only [List.mem_cons, List.not_mem_nil, or_false] at hp
  rcases hp with h | h | h | h | h | h | h <;> (subst h; simp)

/-- the same for the position-less states (op `c17bare`) -/
theorem bareChecks_decide_bare {dbs : List Nat} {keys : List Bytes} {t : Checkpoint.Target} {c : Ctl}
    (h : firstBad (bareChecks dbs keys t c) = "")
    (hdbs : ∀ db, db ∉ dbs → ∀ n, t.cps db n = []) (hkeys : ∀ n, n ∉ keys → ∀ db, t.cps db n = [])
    (hkeyIn : c.key ∈ c.names) (hmasIn : c.mas ∈ c.ids) (hsecIn : c.sec ∈ c.ids)
    (hnames : ∀ n, n ∉ c.names → (∀ db, t.cps db n = []) ∧ ∀ p ∈ t.hash, p.2 ≠ n)
    (hids : ∀ ρ, ρ ∉ c.ids → (∀ db n, ∀ e ∈ t.cps db n, e.rid ≠ ρ) ∧ hlookup t.hash ρ = none) : Bare t c :=
  bare_of_checks (firstBad_empty _ (bareChecks_names dbs keys t c) h) hdbs hkeys hkeyIn hmasIn hsecIn hnames hids

/-- `UpdateCheckpoint` with the database order of its clean-up modelled (DelCheckpoints: all records read first, an
    unreadable one aborts, then ascending (offset, mtime, db): Model/BookSys.lean `updateReqsReal`, what op `c17u`
    compares the real requests with) issues a PREFIX of `updateReqs` for some order `o2` — the statements above, for
    every order and every prefix, cover it. -/
theorem update_real_is_prefix (ver : Bytes) (t : Checkpoint.Target) (loc : Bytes) (ids : List Bytes) (o1 order : List Nat)
    (now : Int) : ∃ o2 k, updateReqsReal ver t loc ids o1 order now = (updateReqs ver t loc ids o1 o2 now).take k :=
  updateReqsReal_prefix ver t loc ids o1 order now

/-! ### non-vacuity: reachable states, and the statements on them

  ids "a" (first master), "b" (master after a failover), second id "0"; key "c"; version "1".
  seed (position 0@0) → a sender life (`Props.C02TwoRuns` `trEvs1`: SELECT 2 (→ database 5), two SETs, a
  checkpoint tick; the target dies after 5 requests: position 50@5) → failover to "b" → `SetRunId("b")`
  stopped after its first request → crash (`rx_reach3`). A start that renames the key to "d" and is stopped
  after its first request is taken from the state after the life (`rx_reach_pend`). -/

def rxA : Bytes := [97]
def rxB : Bytes := [98]
def rxZ : Bytes := [48]
def rxLoc : Bytes := [99]
def rxVer : Bytes := [49]

def rxT0 : Checkpoint.Target := seedTarget rxVer rxLoc rxA rxZ [] [] 5 6 0

theorem rx_now9 : -(2^63 : Int) ≤ 9 ∧ (9 : Int) < 2^63 := by decide

/-- "d" is a key name not used so far -/
theorem rx_fresh100 : ([100] : Bytes) = (seedCtl rxLoc rxA rxZ).key ∨ (seedCtl rxLoc rxA rxZ).pend = some [100] ∨
    [100] ∉ (seedCtl rxLoc rxA rxZ).names := Or.inr (Or.inr (by decide))

theorem rx_reach0 : Reach rxVer true rxT0 (seedCtl rxLoc rxA rxZ) :=
  Reach.seed rxLoc rxA rxZ (by decide) (by decide) (by decide) (by decide) (by decide) (by decide) [] [] 5 6 0
    (by decide) (by decide) (by decide)

theorem lists_applyAll {o : List Nat} {key : Bytes} (rs : List Req) {t : Checkpoint.Target} (h : Lists o t key)
    (hq : ∀ db es, Req.hsetCp db key es ∈ rs → db ∈ o) : Lists o (applyAll t rs) key :=
  applyAll_inv (I := fun t => Lists o t key) (S := (· ∈ rs)) (fun t q h hq' db hne => by
    obtain ⟨e, he⟩ := List.exists_mem_of_ne_nil _ hne
    rcases mem_applyReq_cps he with h' | ⟨es, rfl, _⟩
    · exact h db (List.ne_nil_of_mem h')
    · exact hq db es hq') rs h (fun _ hq' => hq')

theorem lists_seed (ver loc A z : Bytes) (hloc : loc ≠ []) (o1 o2 : List Nat) (now now' X0 : Int) (o : List Nat)
    (h0 : 0 ∈ o) : Lists o (seedTarget ver loc A z o1 o2 now now' X0) loc := by
  intro db h
  by_cases hd : db = 0
  · subst hd; exact h0
  · exfalso; apply h
    rw [seedTarget_cps _ _ _ _ hloc]; simp [hd]

theorem rx_lists0 (o : List Nat) (h0 : 0 ∈ o) : Lists o rxT0 rxLoc :=
  lists_seed rxVer rxLoc rxA rxZ (by decide) [] [] 5 6 0 o h0

example : startPoint rxVer [rxA, rxZ] [0] rxT0 = some (some (0, 0)) := by decide +kernel

/-- the stream `trRaws` resumed in database 0 after offset `X`: the clauses of `LifeHyp` that depend on `X` are
    left to evaluation -/
theorem rx_lifeHyp_of (X : Int)
    (hi : Sender.itemsOf C02.trEvs1 = Sender.parserItems { C02.trPc with startDbId := ((0 : Nat) : Int) } X C02.trRaws)
    (ha : ∀ r ∈ C02.trRaws, X < r.off) (hf : Sender.parseFails C02.trPc { lastSent := X } C02.trRaws = false) :
    LifeHyp C02.trPc C02.trCfg C02.trRaws X ((0 : Nat) : Int) C02.trEvs1 :=
  open GunYu.Sender GunYu.Props.C02 in
  { items := hi
    sorted := by decide +kernel
    above := ha
    nodone := by unfold GunYu.Props.C01.NoDone; decide +kernel
    nonest := run1_items_noNested_src trPc trRaws X (by simp [RawNoNested, trRaws, bSelect, bMulti, bExec])
      (fun r _ _ => ⟨rfl, rfl⟩)
    nofail := hf
    sel := selOK_spec trRaws (by decide +kernel)
    mapnn := mapDb_nonneg trPc rfl (by decide +kernel) }

theorem rx_lifeHyp : LifeHyp C02.trPc C02.trCfg C02.trRaws 0 ((0 : Nat) : Int) C02.trEvs1 :=
  rx_lifeHyp_of 0 (by decide +kernel) (by decide +kernel) (by decide +kernel)

open GunYu.Sender GunYu.Props.C02 in
def rxLog : List Sender.Req := (Sender.run trCfg Sender.initS trEvs1).2.flatten.take 5

open GunYu.Sender GunYu.Props.C02 in
theorem rx_trace : logTrace {} rxLog = [(5, BkW.rmeta), (5, BkW.off 50)] := by decide +kernel

def rxT1 : Checkpoint.Target := applyAll rxT0 (lifeReqs rxLoc rxA rxVer rxLog)

open GunYu.Sender GunYu.Props.C02 in
theorem rx_reach1 : Reach rxVer true rxT1 (seedCtl rxLoc rxA rxZ) :=
  Reach.life rx_reach0 rfl rfl 0 0 [0] (rx_lists0 [0] (by decide)) (by decide +kernel)
    trPc trCfg trRaws trEvs1 rx_lifeHyp 5
    (by
      show ∀ w ∈ logTrace {} rxLog, _
      rw [rx_trace]
      intro w hw o ho
      simp only [List.mem_cons, List.not_mem_nil, or_false] at hw
      rcases hw with rfl | rfl
      · cases ho
      · injection ho with ho; subst ho; decide)

theorem rx_lists1 : Lists [0, 5] rxT1 rxLoc := by
  unfold rxT1 lifeReqs
  rw [rx_trace]
  apply lists_applyAll _ (rx_lists0 [0, 5] (by decide))
  intro db es hq
  simp only [List.flatMap_cons, List.flatMap_nil, writeReq, List.mem_append] at hq
  rcases hq with hq | hq | hq
  · simp at hq; rw [hq.1]; decide
  · simp at hq; rw [hq.1]; decide
  · cases hq

/-- the life moved the position to 50 in database 5 -/
example : startPoint rxVer [rxA, rxZ] [0, 5] rxT1 = some (some (50, 5)) := by
  unfold rxT1 lifeReqs; rw [rx_trace]; decide +kernel

/-- `reach_position` / `reach_no_tie` / `reach_gc_safe` / `reach_gc_spares_label` on it -/
example : ∃ X d, startPoint rxVer [rxA, rxZ] [0, 5] rxT1 = some (some (X, d)) :=
  (reach_position rxVer rx_reach1).elim fun X h => h.elim fun d h => ⟨X, d, h.2.2.2.2 _ rx_lists1⟩
example := reach_no_tie rxVer rx_reach1 [0, 5] rx_lists1
example := reach_gc_safe rxVer rx_reach1 [rxA, rxZ] (by decide) (by decide) [0, 5] rx_lists1
example := reach_gc_spares_label rxVer rx_reach1 [rxA, rxZ] (by decide) 77 [[5, 0]]
example := reach_gcPre rxVer rx_reach1 [rxA, rxZ] (by decide) (by decide)
example := reach_solo rxVer rx_reach1
/-- the rename of the key to "d" has something to do there: 4 requests -/
theorem rx_rename_len : (updateReqs rxVer rxT1 [100] (startIds rxT1.hash [rxA, rxZ]) [0, 5] [0, 5] 9).length = 4 := by
  unfold rxT1 lifeReqs; rw [rx_trace]; decide +kernel
example : (updateReqs rxVer rxT1 [100] (startIds rxT1.hash [rxA, rxZ]) [0, 5] [0, 5] 9).length = 4 := rx_rename_len
example := reach_start_safe rxVer rx_reach1 [100] (by decide) rx_fresh100 [0, 5] [0, 5] [0, 5]
  rx_lists1 rx_lists1 9 rx_now9
example := reach_start_complete rxVer rx_reach1 [100] (by decide) rx_fresh100 [0, 5] [0, 5]
  rx_lists1 9 rx_now9
example := reach_updPre_start rxVer rx_reach1 [100] (by decide) rx_fresh100 9 rx_now9

theorem rx_reach2 : Reach rxVer true rxT1 { seedCtl rxLoc rxA rxZ with mas := rxB, sec := rxA, ids := rxB :: [rxA, rxZ] } :=
  Reach.failover rx_reach1 rfl rxB (by decide) (by decide) (by decide)

example := reach_relabel_safe rxVer rx_reach2 (by decide) rfl [0, 5] [0, 5] [0, 5] rx_lists1 rx_lists1 9 rx_now9
example := reach_updPre_relabel rxVer rx_reach2 9 rx_now9
example : (updateReqs rxVer rxT1 rxLoc [rxB, rxA] [0, 5] [0, 5] 9).length = 5 := by
  unfold rxT1 lifeReqs; rw [rx_trace]; decide +kernel

def rxT3 : Checkpoint.Target := applyAll rxT1 ((updateReqs rxVer rxT1 rxLoc [rxB, rxA] [0, 5] [0, 5] 9).take 1)

/-- `SetRunId("b")` stopped after its first request, then a crash: an orphan entry of "b" beside the position -/
theorem rx_reach3 : Reach rxVer true rxT3
    { relabelCtl { seedCtl rxLoc rxA rxZ with mas := rxB, sec := rxA, ids := rxB :: [rxA, rxZ] } 1 with up := false } :=
  Reach.crash (Reach.relabel rx_reach2 (by decide) rfl [0, 5] [0, 5] rx_lists1 9 rx_now9 1)

/-- in that crash state the label is still "a" and the orphan of "b" sits beside it; the position is read -/
example : startPoint rxVer [rxB, rxA] [0, 5] rxT3 = some (some (50, 5)) := by
  unfold rxT3 rxT1 lifeReqs; rw [rx_trace]; decide +kernel

/-! ### non-vacuity of `Reach.session`: seed 7@0, the same stream; after 5 requests on the wire (position 50@5) a gc
    pass runs beside the session and deletes the stale entry of database 0 (one request), the session goes on -/

def rxT0s : Checkpoint.Target := seedTarget rxVer rxLoc rxA rxZ [] [] 5 6 7

theorem rx_reach0s : Reach rxVer true rxT0s (seedCtl rxLoc rxA rxZ) :=
  Reach.seed rxLoc rxA rxZ (by decide) (by decide) (by decide) (by decide) (by decide) (by decide) [] [] 5 6 7
    (by decide) (by decide) (by decide)

theorem rx_lists0s (o : List Nat) (h0 : 0 ∈ o) : Lists o rxT0s rxLoc :=
  lists_seed rxVer rxLoc rxA rxZ (by decide) [] [] 5 6 7 o h0

theorem rx_lifeHyp7 : LifeHyp C02.trPc C02.trCfg C02.trRaws 7 ((0 : Nat) : Int) C02.trEvs1 :=
  rx_lifeHyp_of 7 (by decide +kernel) (by decide +kernel) (by decide +kernel)

def rxGc : GcPass := { live := [rxA, rxZ], before := 100, orders := [[0, 5]], k := 1 }

open GunYu.Sender GunYu.Props.C02 in
def rxSched : List (Nat × Option GcPass) := [(5, some rxGc), (3, none)]

open GunYu.Sender GunYu.Props.C02 in
theorem rx_session : Reach rxVer true (sessionRun rxLoc rxA rxVer {} rxT0s (fullLog trCfg trEvs1) rxSched) (seedCtl rxLoc rxA rxZ) :=
  Reach.session rx_reach0s rfl rfl 7 0 [0] (rx_lists0s [0] (by decide)) (by decide +kernel)
    trPc trCfg trRaws trEvs1 rx_lifeHyp7
    (by
      have : Target.cpReqs (fullLog trCfg trEvs1) = [50] := by decide +kernel
      rw [this]; intro o ho; simp at ho; subst ho; decide)
    rxSched (by
      refine ⟨fun _ => by decide +kernel, ?_, fun _ => by decide +kernel, ?_, trivial⟩
      · intro p hp; injection hp with hp; subst hp; exact ⟨by decide, by decide⟩
      · intro p hp; cases hp)

-- the gc pass beside the session issued its request: the entry of database 0 lost `_offset` / `_mtime`
open GunYu.Sender GunYu.Props.C02 in
example : startPoint rxVer [rxA, rxZ] [0, 5]
    (sessionRun rxLoc rxA rxVer {} rxT0s (fullLog trCfg trEvs1) rxSched) = some (some (50, 5)) := by decide +kernel
open GunYu.Sender GunYu.Props.C02 in
example : (gcReqs (applyAll rxT0s (lifeReqs rxLoc rxA rxVer ((fullLog trCfg trEvs1).take 5))) [rxA, rxZ] 100 [[0, 5]])
    = [Req.hdelCp 0 rxLoc (staleKeys rxA true)] := by decide +kernel

/-- a reachable state with a PENDING rename: the start renames the key to "d" and is stopped after its first request -/
theorem rx_reach_pend : ∃ t c, Reach rxVer true t c ∧ c.pend = some [100] ∧ c.key = rxLoc :=
  ⟨_, _, Reach.start rx_reach1 [100] (by decide) rx_fresh100 [0, 5] [0, 5] rx_lists1 9 rx_now9 1, by
    have hlen : (updateReqs rxVer rxT1 [100] (startIds rxT1.hash [(seedCtl rxLoc rxA rxZ).mas, (seedCtl rxLoc rxA rxZ).sec]) [0, 5] [0, 5] 9).length = 4 :=
      rx_rename_len
    rw [hlen]; decide⟩

/-! ### non-vacuity of the steps without a position: after the failover (`rx_reach2`: label "a", master id "b")
    the source answers FULLRESYNC — `ResetStartPoint` deletes the position (2 HDELs per label and database with
    the key), `SetRunId("b")` runs the `dbid < 0` branch of `UpdateCheckpoint` (placeholder −1 in database 0 and the
    hash entry), the snapshot replay ends with `setCheckpoint("b", 900)` -/

def rxCtl2 : Ctl := { seedCtl rxLoc rxA rxZ with mas := rxB, sec := rxA, ids := rxB :: [rxA, rxZ] }
def rxT4 : Checkpoint.Target := applyAll rxT1 (resetReqs rxT1 rxLoc rxA [rxB, rxA] [0, 5])

theorem rx_reach4 : Reach rxVer false rxT4 rxCtl2 := Reach.reset rx_reach2 rfl [0, 5] rx_lists1

example : (resetReqs rxT1 rxLoc rxA [rxB, rxA] [0, 5]).length = 4 := by
  unfold rxT1 lifeReqs; rw [rx_trace]; decide +kernel
example : startPoint rxVer [rxB, rxA] [0, 5] rxT4 = some none := by
  unfold rxT4 rxT1 lifeReqs; rw [rx_trace]; decide +kernel
example := reach_bare_no_position rxVer rx_reach4 [0, 5]

def rxT5 : Checkpoint.Target := applyAll rxT4 ((updateReqs rxVer rxT4 rxLoc [rxB, rxA] [0, 5] [0, 5] 9).take 2)

theorem rx_reach5 : Reach rxVer false rxT5 (relabelCtl rxCtl2 2) :=
  Reach.relabelB rx_reach4 (by decide) rfl [0, 5] [0, 5] 9 rx_now9 2

/-- the placeholder written by the `dbid < 0` branch -/
example : updateReqs rxVer rxT4 rxLoc [rxB, rxA] [0, 5] [0, 5] 9 =
    [Req.hsetCp 0 rxLoc (cpEntries { runId := rxB, offset := -1, version := rxVer } 9), Req.hsetHash rxB rxLoc] := by
  unfold rxT4 rxT1 lifeReqs; rw [rx_trace]; decide +kernel

theorem rx_reach6 : Reach rxVer true (applyReq rxT5 (seedReq rxLoc rxB rxVer 900 11)) (relabelCtl rxCtl2 2) :=
  Reach.reseed rx_reach5 rfl rfl 900 11 (by decide) (by decide)

example : startPoint rxVer [rxB, rxA] [0, 5] (applyReq rxT5 (seedReq rxLoc rxB rxVer 900 11)) = some (some (900, 0)) := by
  unfold rxT5 rxT4 rxT1 lifeReqs; rw [rx_trace]; decide +kernel

end GunYu.Props.C17
