/-
  C19 — the composition theorems of Props/C19.lean (`segments_*`) WITHOUT the assumptions on
  the events: Model/ClusterExec.lean is an operational model of the cluster client's batch
  execution and of the sender's retry / restart around it (per-node queues in any interleaving,
  a node part cut at any point, MOVED/ASK followed when the reply is read, the position batch,
  retry of the unacknowledged queue, restart at any moment). Every run of it is a run of the
  segment automaton: what Model/ClusterSegments.lean takes as guards (AppOK, Complete) and what
  Props/C19.lean takes as hypotheses (`Disciplined`, `PrefixRun`) is PROVED here of every run.

  Hypotheses left: on the cluster only — `ClusterExec.QuietRun` (a node that refused a command of
  a key does not execute a later command of that key of the same queue while the refused one is
  unexecuted: no ping-pong of a slot inside one pipeline; shown necessary below). That a node
  processes its queue in order (`Fifo`), that one key sits in one node queue of a batch
  (`RouteOK`, batch.go pinBatchRoute) and that Exec returns nil only after a good reply to every
  command (`ack`) are the guards of the operational model: they are what the tie checks on the
  code by trace membership.

  Quantifier: every stream length, every keying `grp`, every event list = every batch size, every
  slot map per attempt, every interleaving of the node queues, redirects of any command at any
  time, every cut point, any number of retries and restarts.
-/
import GunYu.Props.C19
import GunYu.Proofs.ClusterExec
import GunYu.Model.ClusterSender

namespace GunYu.Props.C19
open GunYu GunYu.ClusterSegments

/-- REFINEMENT: the segment events closed by a run of the operational model are a run of the
    segment automaton (every guard AppOK / Complete holds) ending in the model's own target and
    sender state; every cut event is a per-key prefix cut (`PrefixRun`); with the current sender
    (`split`: position batch only after the data batch was acknowledged, 4140441 / 5c65a57) no cut
    event stores a position (`Disciplined`) -/
theorem exec_refines_segments (n : Nat) (grp : Nat → Nat) (split : Bool) (xevs : List ClusterExec.XEv)
    (s : ClusterExec.XSt) (o : List ClusterSegments.Ev)
    (h : ClusterExec.run n grp split {} xevs = some (s, o))
    (hq : ClusterExec.QuietRun n grp split {} xevs) :
    ClusterSegments.run n grp {} o = some s.base ∧ PrefixRun n grp {} o ∧
    (split = true → Disciplined o) := by
  obtain ⟨a1, _, a3, a4⟩ := ClusterExec.run_refines xevs {} s o ClusterExec.XInv_init hq h
  exact ⟨a1, a3, a4⟩

/-- the blocking discipline is a THEOREM about the current sender, not a hypothesis -/
theorem exec_blocking_disciplined (n : Nat) (grp : Nat → Nat) (xevs : List ClusterExec.XEv)
    (s : ClusterExec.XSt) (o : List ClusterSegments.Ev)
    (h : ClusterExec.run n grp true {} xevs = some (s, o))
    (hq : ClusterExec.QuietRun n grp true {} xevs) : Disciplined o :=
  (exec_refines_segments n grp true xevs s o h hq).2.2 rfl

/-- at every moment of every run, whatever the interleaving and wherever the node parts are cut:
    what the open attempt has executed is, per key, a PREFIX of the key's part of the queue in
    source order, nothing twice (the fault model `PrefixCut`, derived) -/
theorem exec_cut_is_prefix (n : Nat) (grp : Nat → Nat) (split : Bool) (xevs : List ClusterExec.XEv)
    (s : ClusterExec.XSt) (o : List ClusterSegments.Ev)
    (h : ClusterExec.run n grp split {} xevs = some (s, o))
    (hq : ClusterExec.QuietRun n grp split {} xevs) (a : ClusterExec.Att) (ha : s.att = some a) :
    AppOK s.base.cur a.q a.app ∧ PrefixCut grp s.base.cur a.q a.app := by
  obtain ⟨_, a2, _, _⟩ := ClusterExec.run_refines xevs {} s o ClusterExec.XInv_init hq h
  exact ⟨ClusterExec.AInv_appOK (a2 a ha), ClusterExec.AInv_prefixCut (a2 a ha)⟩

/-- when Exec has returned nil every command of the queue has executed, per key completely and in
    source order (`Complete`, derived) -/
theorem exec_ack_complete (n : Nat) (grp : Nat → Nat) (split : Bool) (xevs : List ClusterExec.XEv)
    (s : ClusterExec.XSt) (o : List ClusterSegments.Ev)
    (h : ClusterExec.run n grp split {} xevs = some (s, o))
    (hq : ClusterExec.QuietRun n grp split {} xevs) (a : ClusterExec.Att) (ha : s.att = some a)
    (hk : a.acked = true) : Complete grp s.base.cur a.q a.app := by
  obtain ⟨_, a2, _, _⟩ := ClusterExec.run_refines xevs {} s o ClusterExec.XInv_init hq h
  exact ClusterExec.AInv_complete (a2 a ha)
    (ClusterExec.AInv_acked_allDone (a2 a ha) hk)

/-- the target's REAL per-key log — every execution of every attempt of every segment, the open
    attempt included — never skips: after a command of a key comes an earlier-or-equal one (a retry /
    restart jumps back) or the key's next command. Hypothesis: the cluster's `QuietRun` only. It does
    NOT bound the final value (the log may end on a replayed lower command): that is
    `exec_effective_prefix`. -/
theorem exec_never_skip (n : Nat) (grp : Nat → Nat) (xevs : List ClusterExec.XEv)
    (s : ClusterExec.XSt) (o : List ClusterSegments.Ev)
    (h : ClusterExec.run n grp true {} xevs = some (s, o))
    (hq : ClusterExec.QuietRun n grp true {} xevs) (g : Nat) :
    Adj (NoSkipRel grp g) (projG grp g s.tlog) := by
  obtain ⟨o2, t, h1, h2, _, h4, h5⟩ := ClusterExec.run_refines_real xevs s o hq h
  rw [← h2]
  exact segments_never_skip n grp (o ++ o2) t h1 (h5 rfl) h4 g

/-- the SET of executed commands is per key downward closed at every moment -/
theorem exec_downward_closed (n : Nat) (grp : Nat → Nat) (xevs : List ClusterExec.XEv)
    (s : ClusterExec.XSt) (o : List ClusterSegments.Ev)
    (h : ClusterExec.run n grp true {} xevs = some (s, o))
    (hq : ClusterExec.QuietRun n grp true {} xevs) : DownClosed grp s.tlog := by
  obtain ⟨o2, t, h1, h2, _, h4, h5⟩ := ClusterExec.run_refines_real xevs s o hq h
  rw [← h2]
  exact segments_executed_downward_closed n grp (o ++ o2) t h1 (h5 rfl) h4

/-- the position stored on the target — at every moment, also while its own reply is under way —
    covers executed commands only: a restart never resumes behind an unexecuted command -/
theorem exec_stored_position_covered (n : Nat) (grp : Nat → Nat) (xevs : List ClusterExec.XEv)
    (s : ClusterExec.XSt) (o : List ClusterSegments.Ev)
    (h : ClusterExec.run n grp true {} xevs = some (s, o))
    (hq : ClusterExec.QuietRun n grp true {} xevs) : ∀ i, i < s.tstored → i ∈ s.tlog := by
  obtain ⟨o2, t, h1, h2, h3, _, h5⟩ := ClusterExec.run_refines_real xevs s o hq h
  rw [← h2, ← h3]
  exact stored_position_covered_blocking n grp (o ++ o2) t (h5 rfl) h1

/-- the FINAL VALUE: the target's effective stream (`keepLast`: for every command its last execution —
    what an overwriting command leaves behind) below the stored position is, per key, exactly the
    specification prefix in source order. `exec_never_skip` alone does not give this (a log may END on
    a replayed lower command: `[0,1,2,0]` never skips); this does: below the stored position — which no
    restart sends again — no older command takes effect after a newer one of its key. Like every
    `keepLast` statement it speaks of the last execution, not of repetitions of APPEND-style commands. -/
theorem exec_effective_prefix (n : Nat) (grp : Nat → Nat) (xevs : List ClusterExec.XEv)
    (s : ClusterExec.XSt) (o : List ClusterSegments.Ev)
    (h : ClusterExec.run n grp true {} xevs = some (s, o))
    (hq : ClusterExec.QuietRun n grp true {} xevs) (g : Nat) :
    effBelow grp s.tlog s.tstored g = specBelow grp s.tstored g := by
  obtain ⟨o2, t, h1, h2, h3, _, h5⟩ := ClusterExec.run_refines_real xevs s o hq h
  have hi := (SInv_run n grp _ _ t (SInv_init n grp) (h5 rfl) h1).1
  rw [← h2, ← h3]
  exact effBelow_mono grp t.log t.cur t.stored g hi.le1 (hi.eff g)

/-- the same statement for ANY sender (the position may ride with the data batch) -/
def exec_stored_position_covered_stmt : Prop :=
  ∀ (n : Nat) (grp : Nat → Nat) (split : Bool) (xevs : List ClusterExec.XEv) (s : ClusterExec.XSt)
    (o : List ClusterSegments.Ev), ClusterExec.run n grp split {} xevs = some (s, o) →
    ClusterExec.QuietRun n grp split {} xevs → ∀ i, i < s.tstored → i ∈ s.tlog

/-- printable form of a segment event -/
def showEv : ClusterSegments.Ev → List Nat
  | .start => [0]
  | .batch q (.ok app st) => 1 :: q :: st.toNat :: app      -- acknowledged [.., q), stores?, executions
  | .batch q (.cut app st) => 2 :: q :: st.toNat :: app     -- cut

open ClusterExec in
/-- two keys (even / odd positions) on two node queues. First attempt: queue 1 refuses its commands
    (slot moved, redirects not followed), queue 0 executes: Exec fails with a redirect error; the
    sender retries the whole queue: command 2 is refused and followed when its reply is read, Exec
    returns nil, the position goes in a batch of its own, the queue is cleared; the run ends. -/
def xevsA : List XEv := [
  .begin 4 (· % 2) false,
  .nodeExec 0, .nodeRedirect 1, .nodeExec 2, .nodeRedirect 3, .fail .redirect,
  .begin 4 (· % 2) false,
  .nodeExec 0, .nodeExec 1, .nodeRedirect 2, .nodeExec 3, .clientOk 0, .chaseExec 2, .clientOk 1,
  .clientOk 3, .ack, .posSend, .posExec, .done,
  .restart]

example : (ClusterExec.run 4 (· % 2) true {} xevsA).map
    (fun r => (r.1.tlog, r.1.tstored, r.2.map showEv)) =
    some ([0, 2, 0, 1, 3, 2], 4, [[2, 4, 0, 0, 2], [1, 4, 1, 0, 1, 3, 2], [0]]) := by
  decide +kernel
example : ClusterExec.QuietRun 4 (· % 2) true {} xevsA :=
  ClusterExec.quietRun_of_B _ _ (by decide +kernel)

open ClusterExec in
/-- in the middle of the second attempt (crash now): the open attempt's executions count -/
example : (ClusterExec.run 4 (· % 2) true {} (xevsA.take 10)).map (fun r => (r.1.tlog, r.1.tstored)) =
    some ([0, 2, 0, 1], 0) := by decide +kernel

/-- instances of the hypotheses of `exec_cut_is_prefix` (an open attempt in the middle of its
    executions) and `exec_ack_complete` (an open, acknowledged attempt) on that run -/
example : (ClusterExec.run 4 (· % 2) true {} (xevsA.take 10)).bind
    (fun r => r.1.att.map (fun a => (a.app, a.redir, a.q, a.acked))) = some ([0, 1], [2], 4, false) := by decide +kernel
example : (ClusterExec.run 4 (· % 2) true {} (xevsA.take 16)).bind
    (fun r => r.1.att.map (fun a => (a.app, a.q, a.acked))) = some ([0, 1, 3, 2], 4, true) := by decide +kernel
example : ClusterExec.QuietRun 4 (· % 2) true {} (xevsA.take 16) :=
  ClusterExec.quietRun_of_B _ _ (by decide +kernel)

open ClusterExec in
/-- the position write is refused by its node (the checkpoint key's slot has moved) and followed -/
def xevsPos : List XEv := [
  .begin 2 (fun _ => 0) false, .nodeExec 0, .nodeExec 1, .clientOk 0, .clientOk 1, .ack,
  .posSend, .posRedirect, .posChaseExec, .done, .restart]

example : (ClusterExec.run 2 (fun _ => 0) true {} xevsPos).map (fun r => (r.1.tlog, r.1.tstored, r.2.map showEv)) =
    some ([0, 1], 2, [[1, 2, 1, 0, 1], [0]]) := by decide +kernel

open ClusterExec in
/-- … and the reply of the FOLLOWED position write is lost: an ordinary error (d698491), the run ends;
    the write is applied all the same: the closed event is an acknowledged batch that stores — the next
    run starts behind it and re-sends nothing. -/
def xevsPosLost : List XEv := [
  .begin 2 (fun _ => 0) false, .nodeExec 0, .nodeExec 1, .clientOk 0, .clientOk 1, .ack,
  .posSend, .posRedirect, .fail .other, .posChaseExec, .restart]

example : (ClusterExec.run 2 (fun _ => 0) true {} xevsPosLost).map (fun r => (r.1.tlog, r.1.tstored, r.2.map showEv)) =
    some ([0, 1], 2, [[1, 2, 1, 0, 1], [0]]) := by decide +kernel
open ClusterExec in
/-- what the client did before d698491 — report that lost reply as a REDIRECT error, on which the
    plain sender re-sends the queue below the position just stored — is not a run: a redirect error
    means a refused command that was not delivered elsewhere -/
example : (ClusterExec.run 2 (fun _ => 0) true {} [
    .begin 2 (fun _ => 0) false, .nodeExec 0, .nodeExec 1, .clientOk 0, .clientOk 1, .ack,
    .posSend, .posRedirect, .posChaseExec, .fail .redirect]).isNone := by decide +kernel
open ClusterExec in
example : (ClusterExec.run 1 (fun _ => 0) true {} [
    .begin 1 (fun _ => 0) false, .nodeRedirect 0, .chaseExec 0, .fail .redirect]).isNone := by decide +kernel

open ClusterExec in
/-- a Put refused with CROSSSLOT: Exec returns that error before anything is sent, the plain sender
    tries again (nothing is sent again), then the run ends -/
example : (ClusterExec.run 2 (fun _ => 0) true {} [
    .begin 2 (fun _ => 0) false, .fail .crossslot, .begin 2 (fun _ => 0) false, .fail .crossslot, .restart]).map
    (fun r => (r.1.tlog, r.2.map showEv)) = some ([], [[2, 2, 0], [2, 2, 0], [0]]) := by decide +kernel
open ClusterExec in
example : (ClusterExec.run 2 (fun _ => 0) true {} [
    .begin 2 (fun _ => 0) false, .nodeExec 0, .fail .crossslot]).isNone := by decide +kernel

open ClusterExec in
/-- the sender BEFORE 4140441 / 5c65a57 (`split = false`: the position rides with the data batch,
    what the pipelined modes still do — C19-F2): the checkpoint node applies the position while
    the data node refuses command 0 — the stored position covers a command that never executed.
    With the current sender `posSend` is not a step before `ack`. -/
def xevsUnsplit : List XEv := [.begin 2 (fun _ => 0) true, .posExec, .nodeRedirect 0, .fail .redirect]

example : (ClusterExec.run 2 (fun _ => 0) false {} xevsUnsplit).map (fun r => (r.1.tlog, r.1.tstored)) =
    some ([], 2) := by decide +kernel
open ClusterExec in
example : (ClusterExec.run 2 (fun _ => 0) true {} [.begin 2 (fun _ => 0) false, .posSend]).isNone := by decide +kernel
open ClusterExec in
example : (ClusterExec.run 2 (fun _ => 0) true {} xevsUnsplit).isNone := by decide +kernel

theorem exec_stored_position_covered_unsplit_false : ¬ exec_stored_position_covered_stmt := by
  intro h
  cases hr : ClusterExec.run 2 (fun _ => 0) false {} xevsUnsplit with
  | none => revert hr; decide
  | some r =>
    obtain ⟨s, o⟩ := r
    have h1 : s.tstored = 2 ∧ s.tlog = [] := by
      have : (ClusterExec.run 2 (fun _ => 0) false {} xevsUnsplit).map (fun r => (r.1.tlog, r.1.tstored)) =
          some ([], 2) := by decide +kernel
      rw [hr] at this
      simp only [Option.map_some, Option.some.injEq, Prod.mk.injEq] at this
      exact ⟨this.2, this.1⟩
    have h2 := h 2 (fun _ => 0) false xevsUnsplit s o hr
      (ClusterExec.quietRun_of_B _ _ (by decide +kernel)) 0 (by rw [h1.1]; decide)
    rw [h1.2] at h2
    exact absurd h2 List.not_mem_nil

open ClusterExec in
/-- `QuietRun` is needed: node 0 refuses command 0 and then executes command 1 of the same key
    (the slot came back inside the pipeline): the cut is not a prefix cut, the key's log skips -/
def xevsLoud : List XEv := [.begin 2 (fun _ => 0) false, .nodeRedirect 0, .nodeExec 1, .fail .redirect, .restart]

example : (ClusterExec.run 2 (fun _ => 0) true {} xevsLoud).map (fun r => r.2.map showEv) =
    some [[2, 2, 0, 1], [0]] ∧ ¬ PrefixCut (fun _ => 0) 0 2 [1] := by decide +kernel
example : ClusterExec.quietRunB 2 (fun _ => 0) true {} xevsLoud = false := by decide +kernel

open ClusterExec in
/-- guards of the model that ARE the client's obligations: Exec does not return nil before every
    reply was read; a redirect is followed only when the earlier replies of the queue were read; a
    non-redirect failure is never retried inside the segment -/
example : (ClusterExec.run 2 (fun _ => 0) true {} [.begin 2 (fun _ => 0) false, .nodeExec 0, .clientOk 0, .ack]).isNone := by
  decide +kernel
open ClusterExec in
example : (ClusterExec.run 2 (fun _ => 0) true {} [.begin 2 (fun _ => 0) false, .nodeExec 0, .nodeRedirect 1, .chaseExec 1]).isNone := by
  decide +kernel
open ClusterExec in
example : (ClusterExec.run 2 (fun _ => 0) true {}
    [.begin 2 (fun _ => 0) false, .fail .other, .begin 2 (fun _ => 0) false]).isNone := by decide +kernel

/-! ### transactional + PIPELINED sender and an error returned by Dispatch itself

    `sendFunc ⟨true, true⟩` dispatches the queue again after a non-redirect error of `sendFuncOnce`
    (Props/C19.lean: `sendFunc ⟨true,true⟩ [some .other, none] = (2, ok)`). No command reaches a node
    twice all the same: a transactional batch has at most ONE node batch (Put refuses a second node
    with CROSSSLOT), and a Dispatch that returns an error has queued a strict prefix of the node
    batches — of one node batch: nothing. Model: ClusterSender.put / dispatch / submitted. -/

open GunYu.ClusterSender in
theorem put_txn_one_node (s : PutSt) (h : s.nodes.length ≤ 1) (e : PutEv) :
    (put true s e).nodes.length ≤ 1 := by
  cases e with
  | refused => exact h
  | routed nd =>
    simp only [put]
    by_cases h1 : nd ∈ s.nodes
    · rw [if_pos h1]; exact h
    · by_cases h2 : True ∧ s.nodes.length = 1
      · rw [if_neg h1, if_pos h2]; exact h
      · -- no node batch yet: the first one
        rw [if_neg h1, if_neg h2, List.length_append, List.length_singleton]
        have : s.nodes.length ≠ 1 := fun h3 => h2 ⟨trivial, h3⟩
        omega

open GunYu.ClusterSender in
/-- the sender's transactional path (Put("multi") first): whatever is put, the batch has at most
    one node batch -/
theorem txn_batch_one_node : ∀ (evs : List PutEv) (s : PutSt), s.nodes.length ≤ 1 →
    (puts true s evs).nodes.length ≤ 1 := by
  intro evs
  induction evs with
  | nil => intro s h; exact h
  | cons e es ih => intro s h; exact ih _ (put_txn_one_node s h e)

open GunYu.ClusterSender in
theorem dispatch_prefix (s : PutSt) (f : Option Nat) :
    (dispatch s f).1 <+: s.nodes ∧ (s.err = true → (dispatch s f).1 = []) ∧
    ((dispatch s f).2 = false → (dispatch s f).1.length < s.nodes.length ∨ s.nodes = []) := by
  unfold dispatch
  by_cases he : s.err = true
  · rw [if_pos he]
    refine ⟨List.nil_prefix, fun _ => rfl, fun _ => ?_⟩
    cases s.nodes with
    | nil => exact .inr rfl
    | cons a t => exact .inl (Nat.zero_lt_succ _)
  · rw [if_neg he]
    by_cases hn : s.nodes = []
    · rw [if_pos hn]; exact ⟨List.nil_prefix, fun _ => rfl, nofun⟩
    · rw [if_neg hn]
      cases f with
      | none => exact ⟨List.prefix_refl _, fun h => absurd h he, nofun⟩
      | some k =>
        by_cases hk : k < s.nodes.length
        · simp only [if_pos hk]
          exact ⟨List.take_prefix _ _, fun h => absurd h he, fun _ => .inl (by rw [List.length_take]; omega)⟩
        · simp only [if_neg hk]
          exact ⟨List.prefix_refl _, fun h => absurd h he, nofun⟩

open GunYu.ClusterSender in
/-- a Dispatch that fails has queued a strict prefix of the node batches (or there is none: every Put
    was refused); when a Put was refused, nothing -/
theorem dispatch_error_prefix (s : PutSt) (f : Option Nat) (hf : (dispatch s f).2 = false) :
    ((dispatch s f).1.length < s.nodes.length ∨ s.nodes = []) ∧ (dispatch s f).1 <+: s.nodes ∧
    (s.err = true → (dispatch s f).1 = []) :=
  ⟨(dispatch_prefix s f).2.2 hf, (dispatch_prefix s f).1, (dispatch_prefix s f).2.1⟩

open GunYu.ClusterSender in
theorem dispatch_error_one_node_submits_nothing (s : PutSt) (h : s.nodes.length ≤ 1) (f : Option Nat)
    (hf : (dispatch s f).2 = false) : (dispatch s f).1 = [] := by
  have hp := dispatch_error_prefix s f hf
  rcases hp.1 with h1 | h1
  · exact List.eq_nil_of_length_eq_zero (by omega)
  · have hl := hp.2.1.length_le
    rw [h1] at hl
    exact List.eq_nil_of_length_eq_zero (by simpa using hl)

open GunYu.ClusterSender in
/-- NO DOUBLE EXECUTION through re-dispatch: over all attempts `sendFunc` makes on one queue — any
    mode, any error classes, Dispatch failing wherever — a batch of at most one node batch is handed
    to its node at most once. With `txn_batch_one_node`: every transactional batch. -/
theorem one_node_batch_submitted_once (m : SMode) (s : PutSt) (cs : Bool) (h : s.nodes.length ≤ 1) :
    ∀ (fs : List (Option Nat)) (r : Nat), (submitted m s cs fs r).length ≤ 1 := by
  intro fs
  induction fs with
  | nil => intro r; simp [submitted, sendFunc]
  | cons f rest ih =>
    intro r
    cases hd : (dispatch s f).2 with
    | true =>
      have h2 : (onceP s cs f).2 = none := by simp [onceP, hd]
      simp only [submitted, List.map_cons, h2, sendFunc, List.take_succ_cons, List.take_zero,
        List.flatten_cons]
      have := (dispatch_prefix s f).1.length_le
      simp only [List.map_nil, List.flatten_nil, List.append_nil]
      show (dispatch s f).1.length ≤ 1
      omega
    | false =>
      have h1 : (onceP s cs f).1 = [] := dispatch_error_one_node_submits_nothing s h f hd
      have h2 : ∃ e, (onceP s cs f).2 = some e := by simp [onceP, hd]
      obtain ⟨e, h2⟩ := h2
      have hr := ih (r + 1)
      simp only [submitted] at hr ⊢
      simp only [List.map_cons, h2]
      cases sendFunc_cons_some m e (rest.map (fun f => (onceP s cs f).2)) r with
      | inl h3 =>
        rw [h3]
        simp [h1]
      | inr h3 =>
        rw [h3.2]
        simp only [List.take_succ_cons, List.map_cons, h1, List.flatten_cons, List.nil_append]
        exact hr

open GunYu.ClusterSender in
/-- the transactional pipelined sender: Dispatch fails twice (node pipeline closed), then goes
    through — three attempts, the node batch is queued once -/
example : sendFunc ⟨true, true⟩ ([some 0, some 0, none].map (fun f => (onceP (puts true {} [.routed 2, .routed 2]) false f).2)) 0 = (3, .ok) ∧
    submitted ⟨true, true⟩ (puts true {} [.routed 2, .routed 2]) false [some 0, some 0, none] 0 = [2] := by decide +kernel
open GunYu.ClusterSender in
/-- a second node in a transactional batch: refused, the batch keeps one node batch and Dispatch
    returns the recorded error before submitting anything -/
example : puts true {} [.routed 2, .routed 1, .routed 2] = { nodes := [2], err := true } ∧
    dispatch (puts true {} [.routed 2, .routed 1, .routed 2]) none = ([], false) := by decide +kernel
open GunYu.ClusterSender in
/-- NOT so for a plain batch over two nodes: Dispatch fails at the second node batch, the first is
    already queued, the retry queues it again (a repeated part, which plain mode allows) -/
example : submitted ⟨false, true⟩ (puts false {} [.routed 0, .routed 1]) false [some 1, none] 0 = [0, 0, 1] := by decide +kernel

end GunYu.Props.C19
