/-
  C15 — the etcd-based election (cluster.metaEtcd configured): at most one
  instance holds a source's leader lease at any time.

  Property theorems only (helper lemmas: Proofs/Etcd*.lean). Quantifier: every
  list of events `grant | keepAlive | revoke | campaign | campTxn | campDel |
  renew | resign | leader | tick δ` with every fault flag (request lost before
  / after it was applied), by any number of sessions (one per instance) on any
  number of election prefixes, from an empty key space at any revision and
  clock. The requests are the ASTs regenerated from
  pkg/cluster/etcd_election.go (Gen/EtcdElection.lean); `idOf L` is the
  election id (server.listenPeer) of the instance whose session holds lease L.

  Assumptions (named in the evidence): etcd's transaction / lease semantics as
  transcribed in Model/EtcdLease.lean; the server grants a lease id once;
  ONE authoritative clock at the store.
-/
import GunYu.Model.EtcdLease
import GunYu.Proofs.EtcdInv2
import GunYu.Proofs.EtcdExpiry
import GunYu.Proofs.EtcdCalls


namespace GunYu.Props.C15
open GunYu GunYu.Etcd

/-! ### at most one holder -/

/-- For EVERY list of events, two sessions that both were told "leader" for
    prefix `p` and whose election key is still in the store (lease unexpired,
    not revoked, not resigned) are the same session. -/
theorem etcd_at_most_one_holder (idOf : Nat → Bytes) (rev now : Nat) (evs : List Etcd.Ev) (p : Bytes)
    (L1 L2 : Nat)
    (h1 : Etcd.holder (Etcd.run idOf (Etcd.Sys.init rev now) evs) p L1)
    (h2 : Etcd.holder (Etcd.run idOf (Etcd.Sys.init rev now) evs) p L2) : L1 = L2 :=
  Etcd.holder_unique_of_inv (Etcd.inv_run idOf evs (Etcd.inv_init rev now)) h1 h2

/-- "at any time": the same at every point of the schedule -/
theorem etcd_at_most_one_holder_always (idOf : Nat → Bytes) (rev now : Nat) (evs : List Etcd.Ev) (n : Nat)
    (p : Bytes) (L1 L2 : Nat)
    (h1 : Etcd.holder (Etcd.run idOf (Etcd.Sys.init rev now) (evs.take n)) p L1)
    (h2 : Etcd.holder (Etcd.run idOf (Etcd.Sys.init rev now) (evs.take n)) p L2) : L1 = L2 :=
  etcd_at_most_one_holder idOf rev now (evs.take n) p L1 L2 h1 h2

/-- a holder's key is the first-created key under the prefix, and `Leader`
    names its value -/
theorem etcd_holder_is_first_created (idOf : Nat → Bytes) (rev now : Nat) (evs : List Etcd.Ev) (p : Bytes)
    (L : Nat) (hp : p ≠ [])
    (h : Etcd.holder (Etcd.run idOf (Etcd.Sys.init rev now) evs) p L) :
    ∃ kv, firstCreate (Etcd.run idOf (Etcd.Sys.init rev now) evs).st.kvs p = some kv ∧
      kv.key = keyOf p L ∧
      leaderStep (Etcd.run idOf (Etcd.Sys.init rev now) evs) p = .leader kv.val .ok := by
  have hinv := Etcd.inv_run idOf evs (Etcd.inv_init rev now)
  generalize Etcd.run idOf (Etcd.Sys.init rev now) evs = s at h hinv
  obtain ⟨ht, kv, hm, hk, hc⟩ := h
  obtain ⟨ek, hmin⟩ := hinv.told p L ht
  rw [ek] at hk
  have hpre : p.isPrefixOf kv.key = true := by rw [hk]; exact keyOf_prefix p L
  cases hfc : firstCreate s.st.kvs p with
  | none => exact absurd hpre (fun hh => firstCreate_none hfc kv hm hh)
  | some m =>
    obtain ⟨hmm, hmp, hmmin⟩ := firstCreate_some hfc
    have a := hmin kv hm hk hc m hmm hmp
    have b := hmmin kv hm hpre
    have e : m = kv := hinv.wf.eq_of_create hmm hm (by omega)
    refine ⟨m, rfl, by rw [e]; exact hk, ?_⟩
    unfold leaderStep
    dsimp only
    rw [leaderGet_eval]
    simp [hp, hfc, Option.toList]

/-! Non-vacuity: sessions 1 and 2 (ttl 3 s) on the prefix "k/". -/
section examples
def eId : Nat → Bytes := fun L => [97 + UInt8.ofNat L]
def eP : Bytes := [107, 47]
def eRun (evs : List Etcd.Ev) : Etcd.Sys := Etcd.run eId (Etcd.Sys.init 10 5) evs

-- 1 wins, 2 is refused (and deletes its key again); both believe the right thing
example : Etcd.isHolder (eRun [.grant 1 3, .grant 2 3, .campaign eP 1 0, .campaign eP 2 0]) eP 1 = true := by decide +kernel
example : Etcd.isHolder (eRun [.grant 1 3, .grant 2 3, .campaign eP 1 0, .campaign eP 2 0]) eP 2 = false := by decide +kernel
example : (eRun [.grant 1 3, .grant 2 3, .campaign eP 1 0, .campaign eP 2 0]).st.kvs.length = 1 := by decide +kernel
-- 1 gets no keep-alive; 3001 ms later its key is gone, 2 takes over, 1 no longer counts
example : Etcd.isHolder (eRun [.grant 1 3, .campaign eP 1 0, .tick 2000, .grant 2 3, .tick 1001, .campaign eP 2 0]) eP 2 = true := by
  decide +kernel
example : Etcd.isHolder (eRun [.grant 1 3, .campaign eP 1 0, .tick 2000, .grant 2 3, .tick 1001, .campaign eP 2 0]) eP 1 = false := by
  decide +kernel
-- with keep-alives 1 stays the holder past its first deadline
example : Etcd.isHolder (eRun [.grant 1 3, .campaign eP 1 0, .tick 2000, .keepAlive 1, .tick 2000, .renew eP 1 0]) eP 1 = true := by
  decide +kernel
-- exactly at the deadline the lease is still live
example : Etcd.isHolder (eRun [.grant 1 3, .campaign eP 1 0, .tick 3000]) eP 1 = true := by decide +kernel
-- the hypothesis of the theorem is met by a state with a holder
example : Etcd.holder (eRun [.grant 1 3, .campaign eP 1 0]) eP 1 := by
  refine ⟨by decide, ⟨keyOf eP 1, eId 1, 11, 1⟩, by decide, by decide, by decide⟩
-- a Campaign of 2 cut between its transaction and its Delete: its key is in the store, it leads nothing
example : (Etcd.step eId (eRun [.grant 1 3, .grant 2 3, .campaign eP 1 0]) (.campTxn eP 2 0)).2 = .pending := by decide +kernel
example : (eRun [.grant 1 3, .grant 2 3, .campaign eP 1 0, .campTxn eP 2 0]).st.kvs.length = 2 := by decide +kernel
-- 1 resigns inside that window: 2's key is now first-created, its Renew would succeed, its Delete still removes it
example : (Etcd.step eId (eRun [.grant 1 3, .grant 2 3, .campaign eP 1 0, .campTxn eP 2 0, .resign eP 1 0]) (.renew eP 2 0)).2
    = .err .ok := by decide +kernel
example : (eRun [.grant 1 3, .grant 2 3, .campaign eP 1 0, .campTxn eP 2 0, .resign eP 1 0, .campDel eP 2 0]).st.kvs.length = 0 := by
  decide +kernel
end examples

/-! ### a campaign succeeds only for the first-created key or when the prefix is free -/

/-- A fault-free Campaign of a live session answers "leader" exactly when no
    foreign key under the prefix is older than the caller's own key (or the
    caller has none and the prefix is free); otherwise it answers "follower",
    the caller's own key is removed again, no other key is touched and the
    caller does not count as told. -/
theorem etcd_success_only_first_or_free (idOf : Nat → Bytes) (rev now : Nat) (evs : List Etcd.Ev) (p : Bytes)
    (L : Nat) (hp : p ≠ [])
    (hlive : (Etcd.run idOf (Etcd.Sys.init rev now) evs).st.leaseLive L = true) :
    ((campaignStep idOf (Etcd.run idOf (Etcd.Sys.init rev now) evs) p L 0).2 = .role .leader .ok ↔
      ¬ foreignFirst (Etcd.run idOf (Etcd.Sys.init rev now) evs) p L) ∧
    (foreignFirst (Etcd.run idOf (Etcd.Sys.init rev now) evs) p L →
      (campaignStep idOf (Etcd.run idOf (Etcd.Sys.init rev now) evs) p L 0).2 = .role .follower .ok ∧
      (campaignStep idOf (Etcd.run idOf (Etcd.Sys.init rev now) evs) p L 0).1.told p L = false ∧
      ∀ kv ∈ (Etcd.run idOf (Etcd.Sys.init rev now) evs).st.kvs, kv.key ≠ keyOf p L →
        kv ∈ (campaignStep idOf (Etcd.run idOf (Etcd.Sys.init rev now) evs) p L 0).1.st.kvs) := by
  have hinv := Etcd.inv_run idOf evs (Etcd.inv_init rev now)
  generalize Etcd.run idOf (Etcd.Sys.init rev now) evs = s at hlive hinv
  have hiff := campTxn0_leader_iff idOf hinv p L hp hlive
  have hout := campTxn0_out idOf hinv p L hp hlive
  have hkvs : ∀ kv ∈ s.st.kvs, kv ∈ (campTxn idOf s p L 0).1.st.kvs := by
    intro kv hkv
    rw [campTxn0_eq idOf s p L (fun kv hkv => (hinv.wf.pos kv hkv).1) hp]
    unfold campTxnSpec0
    cases findKey s.st.kvs (keyOf p L) with
    | none =>
      dsimp only
      by_cases hl : s.st.leaseLive L = true
      · simp only [hl, ↓reduceIte]
        split <;> exact List.mem_append_left _ hkv
      · simp only [hl, Bool.false_eq_true, ↓reduceIte]; exact hkv
    | some own =>
      dsimp only
      split <;> exact hkv
  unfold campaignStep
  dsimp only
  rcases hout with hl | ⟨hpd, hpend, hkey⟩
  · have hne : ¬ ((campTxn idOf s p L 0).2 = Out.pending) := by rw [hl]; simp
    simp only [hne, ↓reduceIte]
    refine ⟨hiff, fun hf => ?_⟩
    exact absurd hl (fun hh => (hiff.1 hh) hf)
  · simp only [hpd, ↓reduceIte]
    obtain ⟨d1, d2, d3⟩ := campDel0 idOf (campTxn idOf s p L 0).1 p L hpend hkey
    have hnl : ¬ ((campTxn idOf s p L 0).2 = .role .leader .ok) := by rw [hpd]; simp
    have hff : foreignFirst s p L := Classical.not_not.1 (fun hn => hnl (hiff.2 hn))
    refine ⟨⟨fun hh => ?_, fun hn => absurd hff hn⟩, fun _ => ⟨d1, d3, fun kv hkv hne => ?_⟩⟩
    · rw [d1] at hh; cases hh
    · rw [d2]; exact mem_delKV_of_ne (hkvs kv hkv) hne

/-- …and a Renew in that situation answers ErrNotLeader -/
theorem etcd_refused_when_foreign (idOf : Nat → Bytes) (rev now : Nat) (evs : List Etcd.Ev) (p : Bytes)
    (L : Nat) (hp : p ≠ [])
    (hf : foreignFirst (Etcd.run idOf (Etcd.Sys.init rev now) evs) p L) :
    (renewStep idOf (Etcd.run idOf (Etcd.Sys.init rev now) evs) p L 0).2 = .err .notLeader ∧
    (renewStep idOf (Etcd.run idOf (Etcd.Sys.init rev now) evs) p L 0).1.told p L = false := by
  have hinv := Etcd.inv_run idOf evs (Etcd.inv_init rev now)
  generalize Etcd.run idOf (Etcd.Sys.init rev now) evs = s at hf hinv
  obtain ⟨ow, hom, hop, hone, holt⟩ := hf
  unfold renewStep
  dsimp only
  rw [renewGet_eval]
  simp only [show ¬ (0 = 1) by decide, ↓reduceIte, hp]
  cases hfc : firstCreate s.st.kvs p with
  | none => exact absurd hop (fun hh => firstCreate_none hfc ow hom hh)
  | some m =>
    obtain ⟨hmm, hmp, hmmin⟩ := firstCreate_some hfc
    simp only [Option.toList, List.head?_cons]
    have hnot : ¬ (m.key = (s.el L p).key ∧ some m.create = (s.el L p).rev) := by
      rintro ⟨hk, _⟩
      have := holt m hmm (hk.trans (hinv.elKey_of_mem hmm hk))
      have := hmmin ow hom hop
      omega
    simp only [hnot, ↓reduceIte]
    exact ⟨trivial, setTold_same _ _ _ _⟩

-- non-vacuity: free prefix, own key first, foreign key first
example : (Etcd.step eId (eRun [.grant 1 3]) (.campaign eP 1 0)).2 = .role .leader .ok := by decide +kernel
example : (Etcd.step eId (eRun [.grant 1 3, .campaign eP 1 0]) (.campaign eP 1 0)).2 = .role .leader .ok := by decide +kernel
example : (Etcd.step eId (eRun [.grant 1 3, .grant 2 3, .campaign eP 1 0]) (.campaign eP 2 0)).2 = .role .follower .ok := by
  decide +kernel
example : foreignFirst (eRun [.grant 1 3, .grant 2 3, .campaign eP 1 0]) eP 2 :=
  ⟨⟨keyOf eP 1, eId 1, 11, 1⟩, by decide, by decide, by decide, by decide⟩
example : (eRun [.grant 1 3, .grant 2 3, .campaign eP 1 0]).st.leaseLive 2 = true := by decide +kernel

/-! ### a failed renewal is reported as loss of leadership -/

/-- A Renew changes nothing in the store. It returns nil exactly when the
    first-created key under the prefix is the caller's key at the revision it
    remembers — the caller then is a holder; otherwise it returns ErrNotLeader
    or ErrNoLeader and the caller no longer counts as told. -/
theorem etcd_failed_renew_reports_loss (idOf : Nat → Bytes) (s : Etcd.Sys) (p : Bytes) (L : Nat) (hp : p ≠ []) :
    (renewStep idOf s p L 0).1.st = s.st ∧
    (((renewStep idOf s p L 0).2 = .err .ok ∧ Etcd.holder (renewStep idOf s p L 0).1 p L) ∨
     (((renewStep idOf s p L 0).2 = .err .notLeader ∨ (renewStep idOf s p L 0).2 = .err .noLeader) ∧
      (renewStep idOf s p L 0).1.told p L = false ∧ ¬ Etcd.holder (renewStep idOf s p L 0).1 p L)) := by
  unfold renewStep
  dsimp only
  rw [renewGet_eval]
  simp only [show ¬ (0 = 1) by decide, ↓reduceIte, hp]
  cases hfc : firstCreate s.st.kvs p with
  | none =>
    simp only [Option.toList, List.head?_nil]
    refine ⟨trivial, Or.inr ⟨Or.inr trivial, setTold_same _ _ _ _, ?_⟩⟩
    rintro ⟨ht, _⟩
    dsimp only at ht
    rw [setTold_same] at ht
    cases ht
  | some m =>
    obtain ⟨hmm, _, _⟩ := firstCreate_some hfc
    simp only [Option.toList, List.head?_cons]
    by_cases hown : m.key = (s.el L p).key ∧ some m.create = (s.el L p).rev
    · simp only [hown, and_self, ↓reduceIte]
      exact ⟨trivial, Or.inl ⟨trivial, setTold_same _ _ _ _, m, hmm, hown.1, hown.2⟩⟩
    · simp only [hown, ↓reduceIte]
      refine ⟨trivial, Or.inr ⟨Or.inl trivial, setTold_same _ _ _ _, ?_⟩⟩
      rintro ⟨ht, _⟩
      dsimp only at ht
      rw [setTold_same] at ht
      cases ht

-- non-vacuity: 2 took over after 1's lease ran out; 1's renewal fails and is reported
example : (Etcd.step eId (eRun [.grant 1 3, .campaign eP 1 0, .tick 2000, .grant 2 3, .tick 1001, .campaign eP 2 0])
    (.renew eP 1 0)).2 = .err .notLeader := by decide +kernel
example : (Etcd.step eId (eRun [.grant 1 3, .campaign eP 1 0, .tick 3001]) (.renew eP 1 0)).2 = .err .noLeader := by decide +kernel

/-! ### resigning releases only one's own lease -/

/-- Whatever the fault, a Resign removes at most the key the election object
    names, and only if it is there at the create revision the object
    remembers; every other entry stays, nothing is added, and the caller no
    longer counts as told. -/
theorem etcd_resign_only_own (idOf : Nat → Bytes) (rev now : Nat) (evs : List Etcd.Ev) (p : Bytes) (L f : Nat) :
    (∀ kv ∈ (resignStep idOf (Etcd.run idOf (Etcd.Sys.init rev now) evs) p L f).1.st.kvs,
        kv ∈ (Etcd.run idOf (Etcd.Sys.init rev now) evs).st.kvs) ∧
    (∀ kv ∈ (Etcd.run idOf (Etcd.Sys.init rev now) evs).st.kvs,
        ¬ (kv.key = ((Etcd.run idOf (Etcd.Sys.init rev now) evs).el L p).key ∧
           some kv.create = ((Etcd.run idOf (Etcd.Sys.init rev now) evs).el L p).rev) →
        kv ∈ (resignStep idOf (Etcd.run idOf (Etcd.Sys.init rev now) evs) p L f).1.st.kvs) ∧
    (resignStep idOf (Etcd.run idOf (Etcd.Sys.init rev now) evs) p L f).1.told p L = false := by
  have hinv := Etcd.inv_run idOf evs (Etcd.inv_init rev now)
  generalize Etcd.run idOf (Etcd.Sys.init rev now) evs = s at hinv
  unfold resignStep
  dsimp only
  rw [resignTxn_eval]
  unfold resignTxnSpec
  by_cases hf1 : f = 1
  · simp only [hf1, ↓reduceIte]
    exact ⟨fun kv hkv => hkv, fun kv hkv _ => hkv, setTold_same _ _ _ _⟩
  simp only [hf1, ↓reduceIte]
  by_cases hk : (s.el L p).key = []
  · simp only [hk, ↓reduceIte]
    exact ⟨fun kv hkv => hkv, fun kv hkv _ => hkv, setTold_same _ _ _ _⟩
  simp only [hk, ↓reduceIte]
  by_cases hc : some (createRevOf s.st.kvs (s.el L p).key) = (s.el L p).rev
  · simp only [hc, ↓reduceIte]
    refine ⟨fun kv hkv => mem_delKV hkv,
      fun kv hkv hne => mem_delKV_of_ne hkv fun hkk => hne ⟨hkk, ?_⟩, setTold_same _ _ _ _⟩
    rw [← hc, ← hkk, createRevOf_of_mem hinv.wf hkv]
  · simp only [hc, ↓reduceIte]
    exact ⟨fun kv hkv => hkv, fun kv hkv _ => hkv, setTold_same _ _ _ _⟩

-- non-vacuity: 2's resign leaves 1's key alone; 1's own resign frees the prefix
example : (eRun [.grant 1 3, .grant 2 3, .campaign eP 1 0, .campaign eP 2 0, .resign eP 2 0]).st.kvs.length = 1 := by
  decide +kernel
example : (eRun [.grant 1 3, .campaign eP 1 0, .resign eP 1 0]).st.kvs.length = 0 := by decide +kernel
example : (Etcd.step eId (eRun [.grant 1 3, .grant 2 3, .campaign eP 1 0, .resign eP 1 0]) (.campaign eP 2 0)).2
    = .role .leader .ok := by decide +kernel

/-! ### a session that gets no keep-alive ceases to be the holder within one lease period -/

/-- If lease `L` has deadline `l.dl` (= the store time of its grant or last
    keep-alive + ttl) and no further `keepAlive L` reaches the store, then
    whatever everybody does — campaigns, renewals and resigns of any session
    incl. `L`'s own, faults, other sessions' leases — once the store's clock is
    past `l.dl` no key attached to `L` is left in the store and the instance is
    not a holder of any ('/'-terminated) prefix.
    Keep-alives are sent by the etcd client library's lessor, NEVER by the
    election code (`Renew` is a Get and extends nothing): what is attributable
    to the code is that its put carries the session's lease and that nothing it
    does prolongs a lease. This is a statement about the STORE ("holder" = told
    and key still there); it gives NO bound on how long the instance goes on
    ACTING as leader after its key has vanished — see the witness below. -/
theorem etcd_expiry_bound (idOf : Nat → Bytes) (rev now : Nat) (evs0 evs : List Etcd.Ev) (L : Nat) (l : LeaseRec)
    (hp0 : ∀ ev ∈ evs0, ev.pfxOk) (hp : ∀ ev ∈ evs, ev.pfxOk)
    (hl : (Etcd.run idOf (Etcd.Sys.init rev now) evs0).st.leases L = some l)
    (hstop : ∀ ev ∈ evs, ev.isKeepAlive L = false)
    (hlate : l.dl < (Etcd.run idOf (Etcd.run idOf (Etcd.Sys.init rev now) evs0) evs).st.now) :
    (∀ kv ∈ (Etcd.run idOf (Etcd.run idOf (Etcd.Sys.init rev now) evs0) evs).st.kvs, kv.lease ≠ L) ∧
    ∀ p, PfxOk p → ¬ Etcd.holder (Etcd.run idOf (Etcd.run idOf (Etcd.Sys.init rev now) evs0) evs) p L := by
  obtain ⟨hi0, hl0⟩ := Etcd.inv_linv_run idOf evs0 (Etcd.inv_init rev now) (Etcd.linv_init rev now) hp0
  generalize Etcd.run idOf (Etcd.Sys.init rev now) evs0 = s0 at hl hlate hi0 hl0
  obtain ⟨hi, hli⟩ := Etcd.inv_linv_run idOf evs hi0 hl0 hp
  obtain ⟨l', hl', hdl⟩ := Etcd.run_frame idOf L evs s0 l hl hstop
  generalize Etcd.run idOf s0 evs = s at hlate hi hli hl'
  have hdead : s.st.leaseLive L = false := by
    unfold Store.leaseLive leaseLiveAt
    rw [hl']
    have : ¬ s.st.now ≤ l'.dl := by omega
    simp [this]
  have hno : ∀ kv ∈ s.st.kvs, kv.lease ≠ L := by
    intro kv hkv e
    have := (hli.live kv hkv).2
    rw [e, hdead] at this; cases this
  refine ⟨hno, fun p hpp hh => ?_⟩
  obtain ⟨ht, kv, hm, hk, _⟩ := hh
  obtain ⟨ek, _⟩ := hi.told p L ht
  rw [ek] at hk
  obtain ⟨p', hp', hk'⟩ := hli.owner kv hm
  have := (keyOf_inj2 hp' hpp (hk'.symm.trans hk)).2
  exact hno kv hm this

theorem etcd_run_append (idOf : Nat → Bytes) : ∀ (a b : List Etcd.Ev) (s : Etcd.Sys),
    Etcd.run idOf (Etcd.run idOf s a) b = Etcd.run idOf s (a ++ b)
  | [], _, _ => rfl
  | e :: r, b, s => by simp only [List.cons_append, Etcd.run]; exact etcd_run_append idOf r b _

/-- Takeover: once that has happened a fault-free Campaign of any live session
    `j` is answered "leader" — unless a THIRD party's key under the prefix is
    older than `j`'s. -/
theorem etcd_takeover_possible (idOf : Nat → Bytes) (rev now : Nat) (evs0 evs : List Etcd.Ev) (L j : Nat)
    (l : LeaseRec) (p : Bytes) (hpp : PfxOk p)
    (hp0 : ∀ ev ∈ evs0, ev.pfxOk) (hp : ∀ ev ∈ evs, ev.pfxOk)
    (hl : (Etcd.run idOf (Etcd.Sys.init rev now) evs0).st.leases L = some l)
    (hstop : ∀ ev ∈ evs, ev.isKeepAlive L = false)
    (hlate : l.dl < (Etcd.run idOf (Etcd.run idOf (Etcd.Sys.init rev now) evs0) evs).st.now)
    (hj : (Etcd.run idOf (Etcd.run idOf (Etcd.Sys.init rev now) evs0) evs).st.leaseLive j = true) :
    (campaignStep idOf (Etcd.run idOf (Etcd.run idOf (Etcd.Sys.init rev now) evs0) evs) p j 0).2 = .role .leader .ok ∨
    ∃ kv ∈ (Etcd.run idOf (Etcd.run idOf (Etcd.Sys.init rev now) evs0) evs).st.kvs,
      p.isPrefixOf kv.key = true ∧ kv.lease ≠ L ∧ kv.key ≠ keyOf p j := by
  have hb := (etcd_expiry_bound idOf rev now evs0 evs L l hp0 hp hl hstop hlate).1
  have hpne : p ≠ [] := by
    intro e; subst e; simp [PfxOk] at hpp
  have hrun : Etcd.run idOf (Etcd.run idOf (Etcd.Sys.init rev now) evs0) evs
      = Etcd.run idOf (Etcd.Sys.init rev now) (evs0 ++ evs) := etcd_run_append idOf evs0 evs _
  rw [hrun] at hb hj ⊢
  have hiff := (etcd_success_only_first_or_free idOf rev now (evs0 ++ evs) p j hpne hj).1
  by_cases hf : foreignFirst (Etcd.run idOf (Etcd.Sys.init rev now) (evs0 ++ evs)) p j
  · right
    obtain ⟨ow, hom, hop, hone, _⟩ := hf
    exact ⟨ow, hom, hop, hb ow hom, hone⟩
  · exact Or.inl (hiff.2 hf)

-- the theorem instantiated: lease 1 granted at 5, no keep-alive of 1 among what follows
example : ¬ Etcd.holder (Etcd.run eId (eRun [.grant 1 3, .campaign eP 1 0])
    [.grant 2 3, .campaign eP 2 0, .renew eP 1 0, .tick 3001, .keepAlive 2, .campaign eP 1 0]) eP 1 :=
  (etcd_expiry_bound eId 10 5 [.grant 1 3, .campaign eP 1 0]
    [.grant 2 3, .campaign eP 2 0, .renew eP 1 0, .tick 3001, .keepAlive 2, .campaign eP 1 0] 1 ⟨3, 3005, false⟩
    (by intro ev h; simp at h; rcases h with rfl | rfl <;> simp [Etcd.Ev.pfxOk, PfxOk, eP])
    (by intro ev h; simp at h; rcases h with rfl | rfl | rfl | rfl | rfl | rfl <;> simp [Etcd.Ev.pfxOk, PfxOk, eP])
    (by decide) (by decide) (by decide)).2 eP (by unfold PfxOk; decide)

/-! OBSERVATION about the etcd path, outside C15 (whose text is about the Redis-based lease): no acting bound.
    Nothing in the code reads `Session.Done()`; `Renew` is only a Get; the lease timer of cmd/syncer.go (8b531f9) is
    re-armed by every successful `Renew`, i.e. it measures "last successful READ + hold", which says nothing about the
    key's remaining life. Witness: 1's Renew succeeds at the very deadline instant of its lease; 1 ms later the key is
    gone, 2 is granted a session, campaigns and is told leader — while 1 still believes what its Renew said. At the
    STORE there is one holder (the theorems above); session 1 goes on acting until its next Renew. -/
def etcdActingWitness : List Etcd.Ev :=
  [.grant 1 3, .campaign eP 1 0, .tick 3000, .renew eP 1 0, .tick 1, .grant 2 3, .campaign eP 2 0]
example : (Etcd.step eId (eRun [.grant 1 3, .campaign eP 1 0, .tick 3000]) (.renew eP 1 0)).2 = .err .ok := by decide +kernel
example : (Etcd.step eId (eRun [.grant 1 3, .campaign eP 1 0, .tick 3000, .renew eP 1 0, .tick 1, .grant 2 3])
    (.campaign eP 2 0)).2 = .role .leader .ok := by decide +kernel
example : (eRun etcdActingWitness).told eP 1 = true ∧ Etcd.isHolder (eRun etcdActingWitness) eP 1 = false ∧
    Etcd.isHolder (eRun etcdActingWitness) eP 2 = true := by decide +kernel

-- non-vacuity: lease 1 granted at 5 (deadline 3005), no keep-alive, others act, time passes
example : (eRun [.grant 1 3, .campaign eP 1 0]).st.leases 1 = some ⟨3, 3005, false⟩ := by decide +kernel
example : ∀ ev ∈ [Etcd.Ev.grant 2 3, .campaign eP 2 0, .tick 3001, .keepAlive 2], ev.isKeepAlive 1 = false := by decide +kernel
example : (eRun [.grant 1 3, .campaign eP 1 0, .grant 2 3, .campaign eP 2 0, .tick 3001]).st.now = 3006 := by decide +kernel
example : PfxOk eP := by unfold PfxOk; decide
-- takeover: 3001 ms after 1's grant a new session wins
example : (Etcd.step eId (eRun [.grant 1 3, .campaign eP 1 0, .tick 3001, .grant 2 3]) (.campaign eP 2 0)).2
    = .role .leader .ok := by decide +kernel

end GunYu.Props.C15
