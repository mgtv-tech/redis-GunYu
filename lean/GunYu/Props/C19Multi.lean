/-
  C19 — multi-key commands at a node during a slot migration (Model/ClusterMulti.lean):
  executed only where every key alone would be served (and lives), CROSSSLOT / TRYAGAIN execute nothing
  at ANY node, and the answer is compatible with the single-key model over the first key.
-/
import GunYu.Model.ClusterMulti

namespace GunYu.Props.C19
open GunYu.ClusterRoute GunYu.ClusterMulti

variable (slotOf : Key → Slot)

/-- one key: the single-key rule -/
theorem answerM_single (sv : Srv) (n : Node) (k : Key) (a : Bool) :
    answerM slotOf sv n [k] a = answer slotOf sv n k a := by
  unfold answerM tanswer answer
  simp only [List.all_nil, if_true, List.all_cons, Bool.and_true]
  by_cases ho : sv.owner (slotOf k) = n
  · simp only [ho, if_true]
    cases hm : sv.mig (slotOf k) with
    | none => rfl
    | some d =>
      cases sv.atDst k <;> simp
  · simp only [ho, if_false]
    by_cases hi : sv.mig (slotOf k) = some n ∧ a = true
    · simp [hi]
    · simp [hi]

theorem answerM_cons (sv : Srv) (n : Node) (k : Key) (ks : List Key) (a : Bool) :
    answerM slotOf sv n (k :: ks) a =
      if ks.all (fun x => slotOf x == slotOf k) = true then tanswer slotOf sv n (k :: ks) a else .err := rfl

theorem answerM_exec {sv : Srv} {n : Node} {k : Key} {ks : List Key} {a : Bool}
    (h : answerM slotOf sv n (k :: ks) a = .exec) :
    (∀ x ∈ k :: ks, slotOf x = slotOf k) ∧ tanswer slotOf sv n (k :: ks) a = .exec := by
  rw [answerM_cons] at h
  by_cases hs : (ks.all fun x => slotOf x == slotOf k) = true
  · exact ⟨List.forall_mem_cons.mpr ⟨rfl, fun x hx => eq_of_beq (List.all_eq_true.mp hs x hx)⟩,
      by rwa [if_pos hs] at h⟩
  · rw [if_neg hs] at h; exact nomatch h

theorem answerM_exec_one_slot (sv : Srv) (n : Node) (k : Key) (ks : List Key) (a : Bool)
    (h : answerM slotOf sv n (k :: ks) a = .exec) : ∀ x ∈ ks, slotOf x = slotOf k :=
  fun x hx => (answerM_exec slotOf h).1 x (List.mem_cons_of_mem _ hx)

theorem tanswer_exec_cases {sv : Srv} {n : Node} {k : Key} {ks : List Key} {a : Bool}
    (h : tanswer slotOf sv n (k :: ks) a = .exec) :
    (sv.owner (slotOf k) = n ∧ ∀ d, sv.mig (slotOf k) = some d → ∀ x ∈ k :: ks, sv.atDst x = false) ∨
    (sv.owner (slotOf k) ≠ n ∧ sv.mig (slotOf k) = some n ∧ a = true ∧
      ((∀ x ∈ k :: ks, sv.atDst x = true) ∨ ∀ x ∈ k :: ks, x = k)) := by
  unfold tanswer at h
  by_cases ho : sv.owner (slotOf k) = n
  · refine .inl ⟨ho, fun d hm => ?_⟩
    simp only [if_pos ho, hm] at h
    by_cases hall : ((k :: ks).all fun x => sv.atDst x = false) = true
    · simpa using hall
    · rw [if_neg hall] at h
      split at h <;> exact nomatch h
  · by_cases hi : sv.mig (slotOf k) = some n ∧ a = true
    · simp only [if_neg ho, if_pos hi] at h
      by_cases hor : ((k :: ks).all fun x => sv.atDst x = true) = true ∨ ((k :: ks).all fun x => x = k) = true
      · exact .inr ⟨ho, hi.1, hi.2, hor.imp (by simpa using ·) (by simpa using ·)⟩
      · rw [if_neg hor] at h; exact nomatch h
    · simp only [if_neg ho, if_neg hi] at h; exact nomatch h

/-- EXECUTED ⇒ EVERY KEY ALONE WOULD BE SERVED THERE: a multi-key command is executed by node `n` only
    when `n` serves each of its keys (owner, or importing node under ASKING) -/
theorem answerM_exec_each_key (sv : Srv) (n : Node) (keys : List Key) (a : Bool)
    (h : answerM slotOf sv n keys a = .exec) : ∀ x ∈ keys, answer slotOf sv n x a = .exec := by
  cases keys with
  | nil => exact nomatch h
  | cons k ks =>
    obtain ⟨hs, ht⟩ := answerM_exec slotOf h
    intro x hx
    unfold answer
    rw [hs x hx]
    rcases tanswer_exec_cases slotOf ht with ⟨ho, hm⟩ | ⟨ho, hm, ha, _⟩
    · rw [if_pos ho]
      cases hd : sv.mig (slotOf k) with
      | none => rfl
      | some d => simp [hm d hd x hx]
    · rw [if_neg ho, if_pos ⟨hm, ha⟩]

/-- … and, asked without ASKING, every key LIVES there (nothing of the command touches a key held by
    another node) -/
theorem answerM_exec_at_holder (sv : Srv) (n : Node) (keys : List Key)
    (h : answerM slotOf sv n keys false = .exec) : ∀ x ∈ keys, holder slotOf sv x = n := by
  cases keys with
  | nil => exact nomatch h
  | cons k ks =>
    obtain ⟨hs, ht⟩ := answerM_exec slotOf h
    intro x hx
    unfold holder
    rw [hs x hx]
    rcases tanswer_exec_cases slotOf ht with ⟨ho, hm⟩ | ⟨_, _, ha, _⟩
    · cases hd : sv.mig (slotOf k) with
      | none => exact ho
      | some d => simp [hm d hd x hx, ho]
    · exact nomatch ha

/-- CROSSSLOT: two keys of different slots - no node executes the command, whatever the ASKING flag -/
theorem answerM_crossslot (sv : Srv) (n : Node) (keys : List Key) (a : Bool) (k1 k2 : Key)
    (h1 : k1 ∈ keys) (h2 : k2 ∈ keys) (hne : slotOf k1 ≠ slotOf k2) :
    answerM slotOf sv n keys a = .err := by
  cases keys with
  | nil => exact nomatch h1
  | cons k ks =>
    rw [answerM_cons]
    by_cases hs : (ks.all fun x => slotOf x == slotOf k) = true
    · have hk : ∀ x ∈ k :: ks, slotOf x = slotOf k := fun x hx =>
        (List.mem_cons.mp hx).elim (· ▸ rfl) fun hx => eq_of_beq (List.all_eq_true.mp hs x hx)
      exact absurd ((hk k1 h1).trans (hk k2 h2).symm) hne
    · rw [if_neg hs]

/-- TRYAGAIN: while a slot migrates, a command with one key already transferred and one not is executed
    by NO node - not by the owner, not by the importing node under ASKING, not by a third node -/
theorem answerM_split_executes_nowhere (sv : Srv) (keys : List Key) (k1 k2 : Key) (d : Node)
    (h1 : k1 ∈ keys) (h2 : k2 ∈ keys) (hm : sv.mig (slotOf k1) = some d)
    (hg : sv.atDst k1 = true) (hh : sv.atDst k2 = false) :
    ∀ n a, answerM slotOf sv n keys a ≠ .exec := by
  intro n a hx
  cases keys with
  | nil => exact nomatch h1
  | cons k ks =>
    obtain ⟨hs, ht⟩ := answerM_exec slotOf hx
    rcases tanswer_exec_cases slotOf ht with ⟨_, hf⟩ | ⟨_, _, _, hall | hall⟩
    · exact nomatch hg.symm.trans (hf d (hs k1 h1 ▸ hm) k1 h1)
    · exact nomatch hh.symm.trans (hall k2 h2)
    · rw [hall k1 h1, ← hall k2 h2] at hg
      exact nomatch hh.symm.trans hg

theorem tanswer_first (sv : Srv) (n : Node) (k : Key) (ks : List Key) (a : Bool) :
    tanswer slotOf sv n (k :: ks) a = .err ∨ tanswer slotOf sv n (k :: ks) a = answer slotOf sv n k a := by
  unfold tanswer answer
  by_cases ho : sv.owner (slotOf k) = n
  · simp only [if_pos ho]
    cases hm : sv.mig (slotOf k) with
    | none => exact .inr rfl
    | some d =>
      simp only
      split
      · rename_i hf
        have : sv.atDst k = false := by simpa using List.all_eq_true.mp hf k (List.mem_cons_self ..)
        simp [this]
      · split
        · rename_i ht
          have : sv.atDst k = true := by simpa using List.all_eq_true.mp ht k (List.mem_cons_self ..)
          simp [this]
        · exact .inl rfl
  · by_cases hi : sv.mig (slotOf k) = some n ∧ a = true
    · simp only [if_neg ho, if_pos hi]
      split
      · exact .inr rfl
      · exact .inl rfl
    · simp only [if_neg ho, if_neg hi, or_true]

/-- the answer to a multi-key command is an answer the single-key model accepts for its FIRST key (the
    key the client routes by): an error, or exactly the first key's answer - so the trace of a run with
    multi-key commands is a run of ClusterRoute over first keys -/
theorem answerM_refines_first (sv : Srv) (n : Node) (k : Key) (ks : List Key) (a : Bool) :
    answerM slotOf sv n (k :: ks) a = .err ∨
    answerM slotOf sv n (k :: ks) a = answer slotOf sv n k a := by
  rw [answerM_cons]
  split
  · exact tanswer_first slotOf sv n k ks a
  · exact .inl rfl

/-! non-vacuity: slot = key / 10; keys 10, 11, 12 in slot 1 owned by node 0, migrating to node 1; key 11 transferred -/
section
private def sl : Key → Slot := fun k => k / 10
private def svM : Srv := ⟨fun _ => 0, fun s => if s = 1 then some 1 else none, fun k => k == 11⟩
example : answerM sl svM 0 [10, 12] false = .exec := by decide +kernel
example : answerM sl svM 0 [10, 11] false = .err := by decide +kernel          -- TRYAGAIN at the owner
example : answerM sl svM 1 [10, 11] true = .err := by decide +kernel           -- TRYAGAIN at the importing node
example : answerM sl svM 0 [11, 11] false = .ask 1 := by decide +kernel
example : answerM sl svM 1 [11] true = .exec := by decide +kernel
example : answerM sl svM 0 [10, 25] false = .err := by decide +kernel          -- CROSSSLOT
example : answerM sl svM 2 [10, 12] false = .moved 0 := by decide +kernel
example : ∀ n a, answerM sl svM n [10, 11, 12] a ≠ .exec :=
  answerM_split_executes_nowhere sl svM [10, 11, 12] 11 10 1 (by decide +kernel) (by decide +kernel) (by decide +kernel) (by decide +kernel) (by decide +kernel)
end

end GunYu.Props.C19
