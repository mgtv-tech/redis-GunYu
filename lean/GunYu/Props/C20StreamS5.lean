/-
  C20 x C03 (registered through checks/p/x_C20_c03.py): `loader_stream_stmt` of Props/C20Loader.lean, proved from
  C03's theorem about the stream expansion.
-/
import GunYu.Props.C20Loader
import GunYu.Proofs.Rdb.StreamKey
namespace GunYu.Props.C20
open GunYu

/-- **`loader_stream_stmt` from C03's lemma** `execStream_onKey`
    (Proofs/Rdb/StreamKey.lean): every command the stream expansion emits - on ANY buffer - names the
    key at the position `Restore.cmdKey` reads (XADD / XSETID / XCLAIM first argument, XGROUP second),
    so `Value.c0` / `Value.cr` hold of a stream entry the loader delivers. -/
theorem loader_stream_from_c03 : loader_stream_stmt := by
  intro x fmt p hot c hc
  obtain ⟨c0, hc0, rfl⟩ := List.mem_map.mp hc
  unfold Rdb.execCmd at hc0
  rw [hot] at hc0
  simp only at hc0
  cases h : Rdb.execStream x p.rtype p.key p.buf with
  | none => simp [h] at hc0
  | some cs =>
    simp only [h, Option.getD_some] at hc0
    have key_of : ∀ (c : Rdb.Cmd), c.args.head? = some (Rdb.Arg.b p.key) → lower c.name ≠ Restore.sXGROUP →
        Restore.cmdKey (cmdOfRdb fmt c) = p.key := by
      intro ⟨name, args⟩ ha hn
      cases args with
      | nil => cases ha
      | cons a as => obtain rfl := Option.some.inj ha; exact cmdKey_cmdOfRdb fmt _ _ _ hn
    rcases Rdb.execStream_onKey x p.rtype p.key p.buf cs h c0 hc0 with ⟨hn, ha⟩ | ⟨hn, ha⟩ | ⟨hn, ha⟩ | ⟨hn, ha⟩
    · exact key_of c0 ha (by rw [hn]; decide)
    · exact key_of c0 ha (by rw [hn]; decide)
    · have hl : lower c0.name = Restore.sXGROUP := by rw [hn]; decide
      cases hargs : c0.args with
      | nil => rw [hargs] at ha; cases ha
      | cons a as =>
        cases as with
        | nil => rw [hargs] at ha; cases ha
        | cons b bs => rw [hargs] at ha; simp at ha; subst ha; simp [Restore.cmdKey, cmdOfRdb, hl, hargs, argBytes]
    · exact key_of c0 ha (by rw [hn]; decide)
end GunYu.Props.C20
