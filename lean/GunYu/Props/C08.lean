/-
  C08 — after an unclean stop the disk cache serves only bytes it truly holds.

  Property theorems only (model: Model/StoreFs.lean; helper lemmas:
  Proofs/StoreFs.lean, Proofs/StoreDisk.lean).

  Quantifier: the theorems about `reopen`/`serve` hold for EVERY directory image
  (`fs : FS` arbitrary — whatever instant the process died at, whatever is torn,
  whatever was removed), the truthfulness theorems for every image in which the
  stream files hold (prefixes of) the source's bytes, which every prefix of a
  truthful operation list with a torn last append preserves
  (`crash_images_truthful`) — and the writers' own scripts ARE truthful operation
  lists (`script_ops_true`), so `crash_bytes_true` is unconditional over scripts,
  crash instants and torn lengths. The alteration theorems hold for every alteration of a
  closed segment's data or recorded size.
-/
import GunYu.Model.StoreFs
import GunYu.Proofs.StoreFs
import GunYu.Proofs.StoreFsTrue
import GunYu.Proofs.StoreFsSnap
import GunYu.Proofs.StoreFsBridge

namespace GunYu.Props.C08
open GunYu GunYu.Store GunYu.StoreFs

/-- **reopen_range_contiguous.** Whatever the directory holds, the stream
    segments a fresh `Storer` indexes are consecutive: each starts where the
    previous one ends (so the reported range `[first.left, last.right]` is one
    contiguous range). -/
theorem reopen_range_contiguous (fs : FS) : Contig (reopen fs).segs :=
  reopen_contig fs

/-- every offset of the reported stream range lies in an indexed segment -/
theorem reopen_range_covered (fs : FS) (f r off : Nat)
    (hf : firstLeft (reopen fs).segs = some f) (hr : lastRight (reopen fs).segs = some r)
    (h1 : f ≤ off) (h2 : off ≤ r) :
    ∃ g ∈ (reopen fs).segs, g.left ≤ off ∧ off ≤ g.right :=
  contig_cover (reopen_contig fs) hf hr h1 h2

/-- **gap_segments_discarded.** The indexed segments are a suffix of the
    segments found (sorted by offset); if anything older was cut off, the segment
    just before the cut does not connect to the first kept one (there is a gap),
    and no snapshot is offered. -/
theorem gap_segments_discarded (fs : FS) :
    ∃ pre, sortSegs (scanSegs fs) = pre ++ (reopen fs).segs ∧
      (pre ≠ [] →
        (∃ a f, pre.getLast? = some a ∧ (reopen fs).segs.head? = some f ∧ a.right ≠ f.left) ∧
        (reopen fs).rdb = none) := by
  obtain ⟨pre, hp⟩ := contigRun_suffix (sortSegs (scanSegs fs))
  refine ⟨pre, hp, fun hne => ⟨contigRun_maximal _ pre hp hne, ?_⟩⟩
  have hlen : (contigRun (sortSegs (scanSegs fs))).length < (sortSegs (scanSegs fs)).length := by
    have h2 := congrArg List.length hp
    rw [List.length_append] at h2
    have : 0 < pre.length := List.length_pos_iff.mpr hne
    omega
  unfold reopen
  simp only [hlen, decide_true, if_true]

/-- a snapshot that is offered starts exactly where the first indexed segment
    starts (repaired `TruncateGap`, D15): no offset between the snapshot and the
    stream is missing -/
theorem reopen_snapshot_aligned (fs : FS) (l sz : Nat) (g : DSeg) (rest : List DSeg)
    (h : (reopen fs).rdb = some (l, sz)) (hs : (reopen fs).segs = g :: rest) : l = g.left :=
  reopen_rdb_aligned fs l sz g rest h hs

/-- **tmp_snapshot_not_offered.** A snapshot is offered only if the file with the
    committed name `<left>_<size>.rdb` is in the directory; a temporary file
    `<left>_<size>.rdb.tmp` is never read as a snapshot … -/
theorem tmp_snapshot_not_offered (fs : FS) (l sz : Nat) (h : (reopen fs).rdb = some (l, sz)) :
    (∃ content, (rdbName l sz, content) ∈ fs) ∧ ∀ l' s', parseRdbName (rdbTmpName l' s') = none := by
  obtain ⟨e, he, hp⟩ := scanRdb_some (reopen_rdb_some h)
  refine ⟨⟨e.2, ?_⟩, fun _ _ => rfl⟩
  rw [← parseRdbName_some hp]; exact he

/-- … and the writers give a file the committed name only in the step in which
    the last announced byte has been written. In the model `r.data` is what has
    been WRITTEN to the temporary file; that the code's own accounting (`pumped`,
    which `closeRdb` compares with the announced size) counts a chunk only after
    its write succeeded is tied by the harness: scripts stop the writer between
    the reception of a chunk and its write (`drdbx`) and make the write of a
    chunk fail (`drdbf`) — for the model both are a close without the chunk. -/
theorem snapshot_committed_only_when_complete (s : Disk) (op : DOp) (a b : FName)
    (h : FsOp.rename a b ∈ fsOps s op) :
    ∃ r chunk, op = .rdbAppend chunk ∧ s.rdb = some r ∧ r.writing = true ∧
      r.data.length + chunk.length = r.size ∧ a = rdbTmpName r.left r.size ∧ b = rdbName r.left r.size :=
  rename_only_when_complete s op a b h

/-- **crash_snapshot_complete.** For EVERY writers' script respecting the callers'
    protocol, at EVERY instant the process may die (`n` file operations issued, the
    last one — if an append — torn after `k` bytes): a snapshot that the re-opened
    cache offers is a committed file that holds exactly the announced number of
    bytes. (`snapshot_committed_only_when_complete` lifted from one step to
    scripts and crash images; unconditional.) -/
theorem crash_snapshot_complete (l m : Nat) (ops : List DOp) (hwf : (Disk.init l m).wf ops) (n k L S : Nat) :
    let img := crashImage [] (scriptOps (Disk.init l m) ops) n k
    (reopen img).rdb = some (L, S) → ∃ c, img.get (rdbName L S) = some c ∧ c.length = S := by
  intro img h
  obtain ⟨c, hget, hrecv⟩ := reopen_rdb_okP (crashImage_received l m ops hwf n k) h
  exact ⟨c, hget, hrecv.2.1⟩

/-- **ghost_matches_index.** The ghost `received` — every byte handed to the snapshot
    writer since it was created, computed from the operation list alone — agrees with
    the index after every script: the snapshot the index holds is the one announced,
    with exactly the bytes received, and it is `writing` exactly while receiving. -/
theorem ghost_matches_index (l m : Nat) (ops : List DOp) (hwf : (Disk.init l m).wf ops) :
    let s := (Disk.init l m).run ops
    ∀ r, s.rdb = some r → received ops = some ⟨r.left, r.size, r.data, r.writing⟩ ∧ 0 < r.size := by
  intro s
  have key : ∀ (rest pre : List DOp) (s0 : Disk), s0.wf rest → GInv s0 (recvRun pre) →
      GInv (s0.run rest) (recvRun (pre ++ rest)) := by
    intro rest
    induction rest with
    | nil => intro pre s0 _ hg; simpa [Disk.run] using hg
    | cons op rest ih =>
      intro pre s0 hwf0 hg
      have := ih (pre ++ [op]) _ hwf0.2 (by rw [recvRun_snoc]; exact ginv_step s0 _ op hg hwf0.1)
      simpa [Disk.run] using this
  have := key ops [] _ hwf (GInv.init l m)
  simp only [List.nil_append] at this
  exact this.held

/-- **crash_snapshot_true.** For EVERY script of the writers respecting the callers'
    protocol, at EVERY instant the process may die (`n` file operations issued, the
    last one — if an append — torn after `k` bytes): a snapshot that the re-opened
    cache OFFERS is a committed file that holds exactly the bytes a snapshot writer
    of the script RECEIVED for that announcement — in order, complete (`size`
    bytes, the writer had seen them all: `receiving = false`) — at some point `j` of
    the script. The monitor `snapshot-bytes-wrong` is the tie of this theorem to the
    real writers. -/
theorem crash_snapshot_true (l m : Nat) (ops : List DOp) (hwf : (Disk.init l m).wf ops) (n k L S : Nat) :
    let img := crashImage [] (scriptOps (Disk.init l m) ops) n k
    (reopen img).rdb = some (L, S) →
      ∃ c, img.get (rdbName L S) = some c ∧ 0 < S ∧ c.length = S ∧
        ∃ j, j ≤ ops.length ∧ received (ops.take j) = some ⟨L, S, c, false⟩ := by
  intro img h
  exact reopen_rdb_okP (crashImage_received l m ops hwf n k) h

/-! ### the bridge to C06

  C06's theorems take a cache description `c : Psync.Cache` with the hypotheses
  `CacheWF c` and `CacheOK w c d` ("what C05/C08 provide"). `cacheOf id (reopen fs)`
  is the description of a re-opened directory labelled `id`; the theorems below
  provide both hypotheses, so C06's theorems apply to whatever survives a crash.
  (Definitions imported from Model/Psync.lean.) -/

/-- **reopen_cache_wf.** For ANY directory image the re-opened cache is well formed
    in C06's sense; the side conditions are what the model cannot see (offsets are
    int64) or does not constrain for arbitrary images (a positive announced size). -/
theorem reopen_cache_wf (fs : FS) (id : Psync.Id) (hid1 : id ≠ []) (hid2 : id ≠ Psync.qId)
    (h64 : ∀ r, lastRight (reopen fs).segs = some r → (r : Int) ≤ Psync.maxInt64)
    (hrdb : ∀ L S, (reopen fs).rdb = some (L, S) → 0 < S ∧ (L : Int) ≤ Psync.maxInt64) :
    Psync.CacheWF (cacheOf id (reopen fs)) :=
  reopen_cacheWF fs id hid1 hid2 h64 hrdb

/-- **reopened_cache_wf.** For every script of the writers and every crash instant
    the positive size is discharged (`crash_snapshot_true`): the re-opened cache
    satisfies C06's `CacheWF` as soon as the offsets are int64. -/
theorem reopened_cache_wf (l m : Nat) (ops : List DOp) (hwf : (Disk.init l m).wf ops) (n k : Nat)
    (id : Psync.Id) (hid1 : id ≠ []) (hid2 : id ≠ Psync.qId) :
    let img := crashImage [] (scriptOps (Disk.init l m) ops) n k
    (∀ r, lastRight (reopen img).segs = some r → (r : Int) ≤ Psync.maxInt64) →
    (∀ L S, (reopen img).rdb = some (L, S) → (L : Int) ≤ Psync.maxInt64) →
      Psync.CacheWF (cacheOf id (reopen img)) := by
  intro img h64 hL
  apply reopen_cacheWF img id hid1 hid2 h64
  intro L S h
  obtain ⟨_, _, hpos, _⟩ := crash_snapshot_true l m ops hwf n k L S h
  exact ⟨hpos, hL L S h⟩

/-- **reopened_cache_holds.** … and the content: if the chunks the script appends are
    history `id`'s bytes at the offsets they are appended at (`SrcOk`), the re-opened
    cache `Holds` history `id` in C06's sense (the log bytes on the range held are
    `w.hist id`; the snapshot is filed under its offset), whatever the crash instant … -/
theorem reopened_cache_holds (w : Psync.World) (id : Psync.Id) (l m : Nat) (ops : List DOp)
    (hwf : (Disk.init l m).wf ops) (hsrc : SrcOk (fun k => w.hist id (k : Int)) (Disk.init l m) ops) (n k : Nat) :
    let img := crashImage [] (scriptOps (Disk.init l m) ops) n k
    Psync.Holds w id (cacheOf id (reopen img)) (dataOf id (reopen img)) :=
  reopen_holds w _ id (crashImage_true _ l m ops hwf hsrc n k)

/-- **reopened_cache_ok.** … hence C06's `CacheOK` against any source. -/
theorem reopened_cache_ok (w : Psync.World) (src : Psync.Source) (id : Psync.Id) (l m : Nat) (ops : List DOp)
    (hwf : (Disk.init l m).wf ops) (hsrc : SrcOk (fun k => w.hist id (k : Int)) (Disk.init l m) ops) (n k : Nat) :
    let img := crashImage [] (scriptOps (Disk.init l m) ops) n k
    Psync.CacheOK w src (cacheOf id (reopen img)) (dataOf id (reopen img)) :=
  reopen_cacheOK w src _ id (crashImage_true _ l m ops hwf hsrc n k)

/-- **reopen_bytes_true.** If every stream file holds (after its header) bytes of
    the source at the file's offsets, then whatever a reader opened at `off`
    on the re-opened index delivers — with or without verification, however far it
    gets — is the source's byte at `off + k`, for every `k`. -/
theorem reopen_bytes_true (src : Nat → UInt8) (fs : FS) (h : FsTrue src fs) (verify : Bool) (off : Nat)
    (bs : Bytes) (e : ServeEnd) (hs : serve fs verify off = some (bs, e)) :
    ∀ k b, bs[k]? = some b → b = src (off + k) := by
  unfold serve at hs
  simp only [] at hs
  cases hi : indexAof (reopen fs).segs off with
  | none => simp [hi] at hs
  | some g =>
    simp only [hi, Option.some.injEq] at hs
    obtain ⟨A, B, hall, hdw, hl, hr⟩ := index_chain (reopen_contig fs)
      (fun y hy => reopen_nonempty fs y (List.dropLast_subset _ hy)) hi
    rw [hdw] at hs
    have := serveFrom_true src fs verify (g :: B) off (contig_suffix A _ (hall ▸ reopen_contig fs))
      (fun x hx => reopen_segs_true h x (by rw [hall]; exact List.mem_append_right _ hx))
      (fun x hx => by cases hx; exact ⟨hl, hr⟩)
    intro k b hb
    apply this k b
    rw [hs]; exact hb

/-- **crash_images_truthful.** A directory stays truthful through any list of
    file operations each of which is truthful (create, remove, header rewrite,
    append of bytes that leave the file truthful, rename onto a name the content
    is truthful for) — for every prefix of the list (the process may die after
    any operation) and with the last append torn to any length. -/
theorem crash_images_truthful (src : Nat → UInt8) (fs : FS) (h : FsTrue src fs) (ops : List FsOp)
    (hops : ∀ pre op post, ops = pre ++ op :: post → OpTrue src (fs.applyAll pre) op) (n k : Nat) :
    FsTrue src (crashImage fs ops n k) := by
  exact crashImage_inv (I := FsTrue src) (P := OpTrue src) (fun _ op h => FsTrue_apply h op)
    (fun _ _ _ k => OpTrue_torn k) h hops n k

/-- **script_ops_true.** The hypothesis of `crash_images_truthful` holds for the
    writers' own scripts: for EVERY script respecting the callers' protocol
    (`wf`) whose appended chunks are the source's bytes at the offsets they are
    appended at (`SrcOk`: all that "the callers write what they received" means),
    every file operation the writers issue — header rewrite, create, append,
    rename, remove, in the order the code issues them — is truthful at the
    directory state it is applied to. -/
theorem script_ops_true (src : Nat → UInt8) (l m : Nat) (ops : List DOp) (hwf : (Disk.init l m).wf ops)
    (hsrc : SrcOk src (Disk.init l m) ops) :
    ∀ pre op post, scriptOps (Disk.init l m) ops = pre ++ op :: post → OpTrue src (FS.applyAll [] pre) op :=
  scriptOps_true ops _ _ (DInv.init l m) hwf (histTrue_init src l m) hsrc (filesOk_init l m [])

/-- **crash_bytes_true.** UNCONDITIONAL over scripts and crash instants: for every
    script of the writers (as above), at EVERY instant the process may die (`n`
    file operations issued, the last one — if an append — torn after `k` bytes),
    whatever a reader opened at `off` on the re-opened cache delivers — with or
    without verification — is the source's byte at `off + j`, for every `j`. -/
theorem crash_bytes_true (src : Nat → UInt8) (l m : Nat) (ops : List DOp) (hwf : (Disk.init l m).wf ops)
    (hsrc : SrcOk src (Disk.init l m) ops) (n k : Nat) (verify : Bool) (off : Nat)
    (bs : Bytes) (e : ServeEnd)
    (hs : serve (crashImage [] (scriptOps (Disk.init l m) ops) n k) verify off = some (bs, e)) :
    ∀ j b, bs[j]? = some b → b = src (off + j) :=
  reopen_bytes_true src _ (crashImage_true src l m ops hwf hsrc n k) verify off bs e hs

/-- non-vacuity of the hypotheses of `script_ops_true` / `crash_bytes_true`: a script
    that respects the protocol and appends the source's bytes satisfies both -/
example : (Disk.init 32 0).wf [.setRunId "a", .newAofWriter 100, .aofAppend [7, 9], .aofAppend [9]] := by decide

example : SrcOk (fun i => if i = 100 then 7 else 9) (Disk.init 32 0)
    [.setRunId "a", .newAofWriter 100, .aofAppend [7, 9], .aofAppend [9]] := by
  refine ⟨trivial, trivial, ?_, ?_, trivial⟩
  · intro i b h
    match i, h with
    | 0, h => simp at h; subst h; decide
    | 1, h => simp at h; subst h; decide
    | n + 2, h => simp at h
  · intro i b h
    match i, h with
    | 0, h => simp at h; subst h; decide
    | n + 1, h => simp at h

/-- **crc_mismatch_refused.** With verification on, a reader delivers nothing
    from a segment whose content fails the header check … -/
theorem crc_mismatch_refused (fs : FS) (g : DSeg) (rest : List DSeg) (off : Nat) (file : Bytes)
    (hf : fs.get (aofName g.left) = some file) (hbad : segVerifyOk file = false) :
    serveFrom fs true (g :: rest) off = ([], ServeEnd.corrupt) :=
  serveFrom_refuses fs g rest off file hf hbad

/-- … wherever the failing segment is in the chain a reader follows: nothing at
    or beyond it is delivered and the reader does not end normally … -/
theorem corrupt_segment_never_served (fs : FS) (pre : List DSeg) (g : DSeg) (post : List DSeg) (off : Nat)
    (file : Bytes) (hf : fs.get (aofName g.left) = some file) (hbad : segVerifyOk file = false) :
    (serveFrom fs true (pre ++ g :: post) off).1.length ≤ (pre.map (·.data.length)).sum ∧
    (serveFrom fs true (pre ++ g :: post) off).2 ≠ ServeEnd.eof :=
  serveFrom_stops_at_corrupt fs pre g post off file hf hbad

/-- … a segment closed by the writer passes the check … -/
theorem closed_segment_verifies (data : Bytes) (h : data.length < 4294967296) :
    segVerifyOk (closedHeader data ++ data) = true :=
  segVerifyOk_written data h

/-- … and ANY alteration of its data (content or length) under the recorded
    header is accepted only if the length is unchanged and the CRC64 of the
    altered data collides with the recorded one. (That CRC64 detects every burst
    of ≤ 64 bits is the standard fact about CRCs, not re-proved here.) -/
theorem altered_data_accepted_iff (data data' : Bytes) (h : data.length < 4294967296) :
    segVerifyOk (closedHeader data ++ data') = true ↔
      data'.length = data.length ∧ crc64 data' = crc64 data := by
  rw [segVerifyOk_closed, Nat.mod_eq_of_lt h]
  simp only [Bool.and_eq_true, decide_eq_true_eq]
  constructor
  · rintro ⟨h1, h2⟩; exact ⟨h1.symm, h2.symm⟩
  · rintro ⟨h1, h2⟩; exact ⟨h1.symm, h2.symm⟩

/-- an alteration of the recorded size alone is always refused -/
theorem altered_size_refused (data : Bytes) (n : Nat) (hn : n ≠ data.length % 4294967296) (hn2 : n < 4294967296) :
    segVerifyOk ((1 :: (leBytes 8 (crc64 data) ++ leBytes 4 n ++ [0, 0, 0])) ++ data) = false := by
  rw [segVerifyOk_fields, Nat.mod_eq_of_lt (show n < 256 ^ 4 from hn2)]
  have hne : (n == data.length) = false := by
    simp only [beq_eq_false_iff_ne, ne_eq]
    intro e
    rw [e] at hn hn2
    exact hn (Nat.mod_eq_of_lt hn2).symm
  rw [hne, Bool.false_and]

/-- an alteration of the recorded checksum alone is always refused -/
theorem altered_crc_refused (data : Bytes) (c : Nat) (hc : c < 2 ^ 64) (hne : c ≠ crc64 data) :
    segVerifyOk ((1 :: (leBytes 8 c ++ leBytes 4 (data.length % 4294967296) ++ [0, 0, 0])) ++ data) = false :=
  segVerifyOk_altered_crc data c hc hne

/-! ### non-vacuity -/

/-- the D15 image: `639.aof` already removed, snapshot and later segments left -/
def exImage : FS :=
  [(.rdb 639 3, [7, 8, 9]),
   (.aof 658, fixHeader ++ [1, 2, 3]),
   (.aof 661, fixHeader ++ [4, 5])]

example : (reopen exImage).rdb = none := by decide
example : ((reopen exImage).segs.map (fun g => (g.left, g.data))) = [(658, [1, 2, 3]), (661, [4, 5])] := by decide
example : serve exImage false 659 = some ([2, 3, 4, 5], ServeEnd.eof) := by decide
-- the unclosed headers fail verification: a verifying reader refuses
example : serve exImage true 659 = some ([], ServeEnd.corrupt) := by decide +kernel
-- a gap: the older segment is discarded
example : ((reopen [(.aof 100, fixHeader ++ [1, 2]), (.aof 105, fixHeader ++ [9])]).segs.map (·.left)) = [105] := by decide
-- a temporary snapshot is not offered, a committed one aligned with the stream is
example : (reopen [(.rdbTmp 100 3, [1, 2])]).rdb = none := by decide
example : (reopen [(.rdb 100 3, [1, 2, 3]), (.aof 100, fixHeader ++ [5])]).rdb = some (100, 3) := by decide
example : FsTrue (fun o => UInt8.ofNat o) [(.aof 100, fixHeader ++ [100, 101, 102])] := by
  intro e he l hp i b hb
  simp at he; subst he
  simp [parseAofName] at hp; subst hp
  have hd : (fixHeader ++ [100, 101, 102] : Bytes).drop headerSize = [100, 101, 102] := by decide
  rw [hd] at hb
  match i, hb with
  | 0, hb => simp at hb; subst hb; decide
  | 1, hb => simp at hb; subst hb; decide
  | 2, hb => simp at hb; subst hb; decide
  | n + 3, hb => simp at hb
-- a script whose snapshot is committed: the crash image right after the rename offers it, complete;
-- one operation earlier (before the rename) nothing is offered
def exScript : List DOp := [.setRunId "id", .newRdbWriter 500 3, .rdbAppend [1, 2], .rdbAppend [3], .newAofWriter 500, .aofAppend [9]]
example : (Disk.init 32 0).wf exScript := by decide
example : (reopen (crashImage [] (scriptOps (Disk.init 32 0) exScript) 4 0)).rdb = some (500, 3) := by decide
example : (reopen (crashImage [] (scriptOps (Disk.init 32 0) exScript) 3 0)).rdb = none := by decide
-- the ghost: bytes received by the snapshot writer, at the points of the script
example : received (exScript.take 3) = some ⟨500, 3, [1, 2], true⟩ := by decide
example : received (exScript.take 4) = some ⟨500, 3, [1, 2, 3], false⟩ := by decide
-- a crash in the middle of the snapshot write (only the temporary file, with 2 of 3 bytes):
-- the re-opened store discards it
example : (crashImage [] (scriptOps (Disk.init 32 0) exScript) 2 2) = [(rdbTmpName 500 3, [1, 2])] := by decide
example : (reopen (crashImage [] (scriptOps (Disk.init 32 0) exScript) 2 2)).rdb = none := by decide
-- a crash after the commit: the snapshot is kept and the file holds exactly the bytes received
example : (reopen (crashImage [] (scriptOps (Disk.init 32 0) exScript) 4 0)).rdb = some (500, 3) ∧
    (crashImage [] (scriptOps (Disk.init 32 0) exScript) 4 0).get (rdbName 500 3) = some [1, 2, 3] := by decide
-- the description C06 reasons about, for the final image (snapshot at 500, log [500, 501])
example : cacheOf [7] (reopen (crashImage [] (scriptOps (Disk.init 32 0) exScript) 99 1)) =
    ⟨.disk, [7], some (500, 3), some (500, 501)⟩ := by decide
-- a closed segment verifies; a flipped data byte does not
example : segVerifyOk (closedHeader [1, 2, 3] ++ [1, 2, 3]) = true := by decide +kernel
example : segVerifyOk (closedHeader [1, 2, 3] ++ [1, 2, 7]) = false := by decide +kernel

end GunYu.Props.C08
