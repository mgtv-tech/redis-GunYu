/-
  C12 — fragmentation: "read through buffers of any size and any fragmentation of
  the underlying reads" as THEOREMS.

  Model/RespFrag.lean writes decoder.go over a model of `bufio.Reader` (fill,
  ReadByte, UnreadByte, ReadBytes('\n') incl. its ErrBufferFull rounds, io.ReadFull
  over Reader.Read incl. the large-read bypass) in front of an underlying reader
  that returns the stream in ARBITRARY pieces. The theorems quantify over every
  buffer size and every list of pieces (also empty pieces, a piece boundary inside
  a CRLF, inside a length line, one byte per read, empty pieces = reads returning
  `0, nil`, …) and both kinds of reader (io.EOF by a call of its own, or together
  with the last bytes and then pending in `b.err`). That the bufio model is the
  standard library's bufio is tied by correspondence (`fr` ops: the same commands
  AND the same sequence of request sizes on the underlying reader).

  Also here: the decoder's counter in WRAPPING 64-bit arithmetic, unconditionally
  (the int64 statements of Props/C12.lean carry a no-overflow hypothesis).
-/
import GunYu.Model.RespFrag
import GunYu.Proofs.RespFrag
import GunYu.Props.C12

namespace GunYu.Props.C12
open GunYu GunYu.Resp

/-- **Any buffer size, any fragmentation.** The parser loop reading through a
    `bufio.Reader` of any size over a reader that returns the stream in any
    pieces reports exactly what the parser loop over the plain byte sequence
    reports: same commands, same argument bytes, same offsets, same final error.
    No hypothesis on the stream (well-formed or not), on the pieces (empty pieces are reads that
    return `0, nil`) or on the kind of reader (`eofLast`: io.EOF is returned TOGETHER with the last
    bytes and kept pending in `b.err`, instead of by a call of its own). -/
theorem decodeAll_any_fragmentation (start pre size : Nat) (chunks : List Bytes) (eofLast : Bool) :
    decodeAllC start pre size chunks eofLast = decodeAllFrom start pre chunks.flatten :=
  decodeAllC_eq start pre size chunks eofLast

/-- two readers delivering the same bytes — whatever their buffer sizes and
    however differently they cut the stream — give the same result -/
theorem decodeAll_fragmentation_independent (start pre s1 s2 : Nat) (c1 c2 : List Bytes) (e1 e2 : Bool)
    (h : c1.flatten = c2.flatten) :
    decodeAllC start pre s1 c1 e1 = decodeAllC start pre s2 c2 e2 := by
  rw [decodeAllC_eq, decodeAllC_eq, h]

/-- **Lossless with exact offsets, through any buffer and any fragmentation**:
    for every sequence of well-formed commands, every start offset, every preset
    of the counter, every buffer size and every way of cutting the encoded
    stream into pieces, the parser loop reports every command with exactly its
    arguments and the offset of its end, then io.EOF -/
theorem decodeAll_offsets_fragmented (start pre size : Nat) (s : List (List Bytes)) (chunks : List Bytes)
    (eofLast : Bool) (hwf : ∀ c ∈ s, WF c) (hc : chunks.flatten = s.flatMap encodeCmd) :
    decodeAllC start pre size chunks eofLast = ((s.map cmdOf).zip (boundaries (start + pre) s), .eof) := by
  rw [decodeAllC_eq, hc]
  exact decodeAllFrom_stream start pre s hwf

/-- a stream cut inside its last command, delivered in any pieces: exactly the
    complete commands, then an end-of-input error -/
theorem decodeAll_truncated_fragmented (start size : Nat) (s : List (List Bytes)) (c : List Bytes) (k : Nat)
    (chunks : List Bytes) (eofLast : Bool) (hs : ∀ c ∈ s, WF c) (hcw : WF c) (hk : k < (encodeCmd c).length)
    (hc : chunks.flatten = s.flatMap encodeCmd ++ (encodeCmd c).take k) :
    decodeAllC start 0 size chunks eofLast = ((s.map cmdOf).zip (boundaries start s), .eof) ∨
    decodeAllC start 0 size chunks eofLast = ((s.map cmdOf).zip (boundaries start s), .ueof) := by
  rw [decodeAllC_eq, hc]
  exact decodeAllFrom_trunc start 0 s c k hs hcw hk

/-- **Encode for the target, decode again — through any buffer and any fragmentation** (a TCP
    connection delivers what `WriteArgs` + Flush sent in arbitrary segments): the same command and
    arguments, offset = bytes written, then io.EOF -/
theorem writeArgs_roundtrip_fragmented (size : Nat) (as : List Arg) (chunks : List Bytes) (eofLast : Bool)
    (h : WF (as.map Arg.payload)) (hc : chunks.flatten = writeArgs as) :
    decodeAllC 0 0 size chunks eofLast = ([(cmdOf (as.map Arg.payload), (writeArgs as).length)], .eof) := by
  have h1 : chunks.flatten = [as.map Arg.payload].flatMap encodeCmd := by
    rw [hc, writeArgs_eq_encodeCmd]; simp
  have h2 := decodeAll_offsets_fragmented 0 0 size [as.map Arg.payload] chunks eofLast
    (by intro c hcm; simp at hcm; subst hcm; exact h) h1
  rw [h2, writeArgs_eq_encodeCmd]
  simp [boundaries]

/-- one decoded value through the reader model: same value, same counter, and the
    reader is left holding exactly the unread rest (nothing over-read is lost:
    what bufio has buffered beyond the command is still delivered) -/
theorem decodeResp_fragmented (fuel depth size : Nat) (chunks : List Bytes) (eofLast : Bool) (off : Nat) :
    match decodeRespC fuel depth (Rd.new size chunks eofLast) off, decodeResp fuel depth chunks.flatten off with
    | .error e, .error e' => e = e'
    | .ok (v, o, r), .ok (v', o', rest) => v = v' ∧ o = o' ∧ r.flat = rest
    | _, _ => False := by
  have h := decodeRespC_sim fuel depth (Rd.new size chunks eofLast) off (Rd.new_inv size chunks eofLast)
  rw [Rd.new_flat] at h
  rcases h.inv with ⟨e, hx, hy⟩ | ⟨v, o, r, hx, hy, _⟩
  · rw [hx, hy]
  · rw [hx, hy]; exact ⟨rfl, rfl, rfl⟩

/-- Go's `d.offset++` / `d.offset += int64(len(b))` in wrapping int64, from any preset and for any
    sequence of increments, is the model's natural-number counter reduced to 64 bits — ALWAYS
    (no overflow hypothesis; `counter_int64_exact` is the corollary below 2^63) -/
theorem counter_int64_wraps (pre : Nat) (ks : List Nat) :
    count64 (Int64.ofNat pre) ks = Int64.ofNat (pre + ks.sum) :=
  count64_ofNat pre ks

/-- the parser's `startOffset + incrOffset` in wrapping int64 is the model's sum reduced to 64 bits -/
theorem parser_sum_int64_wraps (start incr : Nat) :
    Int64.ofNat start + Int64.ofNat incr = Int64.ofNat (start + incr) :=
  (int64_ofNat_add start incr).symm

/-! ## Non-vacuity -/

-- SET k "\r\n$" then PING, 43 bytes
private def demo : Bytes := encodeCmd [[83,69,84],[107],[13,10,36]] ++ encodeCmd [[80,73,78,71]]

-- cut between the '\r' and the '\n' that end the binary argument (index 27), buffer 16
example : decodeAllC 5 0 16 [demo.take 27, demo.drop 27] =
    ([(⟨[115,101,116], [[107],[13,10,36]]⟩, 34), (⟨[112,105,110,103], []⟩, 48)], .eof) := by decide +kernel
-- one byte per read
example : decodeAllC 5 0 16 (demo.map (fun b => [b])) =
    ([(⟨[115,101,116], [[107],[13,10,36]]⟩, 34), (⟨[112,105,110,103], []⟩, 48)], .eof) := by decide +kernel
-- the request sizes bufio makes on the underlying reader for [7 bytes | rest]: fill 16, fill 14 (2 still
-- buffered while the length line is searched), …
example : (decodeAllCReqs 5 0 16 [demo.take 7, demo.drop 7]).2.2 = [16, 14, 16, 16] := by decide +kernel
-- a line longer than the buffer (ErrBufferFull rounds of ReadBytes) on the inline path
example : (decodeAllC 0 0 16 [[80,73,78,71,32,32,32,32,32,32,32,32,32,32,32,32,32,32,32,65,13],[10]]).1.map (·.1.args) =
    [[[65]]] := by decide +kernel
-- cut inside the bulk payload (an empty read in between): ErrUnexpectedEOF, through the reader as on the plain bytes
example : decodeAllC 0 0 16 [demo.take 20, [], (demo.drop 20).take 6] = ([], .ueof) := by decide +kernel
-- WriteArgs of (string "SET", []byte "k", int64 -5), delivered as 5 + 1 + rest bytes
example : decodeAllC 0 0 16 [(writeArgs [.str [83,69,84], .bytes [107], .int (-5)]).take 5,
      ((writeArgs [.str [83,69,84], .bytes [107], .int (-5)]).drop 5).take 1,
      (writeArgs [.str [83,69,84], .bytes [107], .int (-5)]).drop 6] =
    ([(⟨[115,101,116], [[107],[45,53]]⟩, 28)], .eof) := by decide +kernel
-- a reader that stalls (empty pieces = `0, nil` reads) and reports io.EOF together with the last bytes
example : decodeAllC 5 0 16 [[], demo.take 27, [], [], demo.drop 27, []] true =
    ([(⟨[115,101,116], [[107],[13,10,36]]⟩, 34), (⟨[112,105,110,103], []⟩, 48)], .eof) := by decide +kernel
-- … and the error stays pending in the reader model after the last fill: one read of 16 bytes, EOF noted with it
example : ((Rd.new 16 [[42, 49, 13, 10]] true).fill.map (fun r => (r.buf, r.err))) = some ([42, 49, 13, 10], true) := by
  decide +kernel
-- wrap-around: 2^63 - 1 plus 1 is -2^63 in Go and in the theorem
example : count64 (Int64.ofNat (2^63 - 1)) [1] = Int64.ofNat (2^63) := counter_int64_wraps _ _
example : (Int64.ofNat (2^63)).toInt = -(2^63 : Int) := by decide +kernel

end GunYu.Props.C12
