/-
  C08 — checksum verification at re-open AND while the process lives.
  Model: Model/StoreFsLive.lean (`serveFromL`: `openFile` → `isCorrupted` on the first
  file and on every file the reader follows into; `hasWriter` segments skipped; the reader
  delivers the bytes of the FILES). Lemmas: Proofs/StoreFsLive.lean, StoreFsXClosed.lean
  (what the file of a closed segment IS in every reachable state), StoreFsVerifyAlg.lean
  (what the check accepts), StoreFsCrcBurst.lean (CRC64 detects every change confined to 8
  consecutive bytes — proved from the table regenerated from pkg/digest/crc64.go).

  Wording: a segment "FAILS THE CHECK" = `segVerifyOk file = false` (recorded size ≠ data
  length or recorded CRC64 ≠ CRC64 of the data). The `*_never_served*` theorems say what a
  failing check does to the reader; `closed_segment_file_exact` + `accepted_*` +
  `burst_alteration_refused` say WHICH changes of a closed segment's file make the check fail.
-/
import GunYu.Props.C08Faults
import GunYu.Proofs.StoreFsLive
import GunYu.Proofs.StoreFsXClosed
import GunYu.Proofs.StoreFsVerifyAlg
import GunYu.Proofs.StoreFsCrcBurst

namespace GunYu.Props.C08
open GunYu GunYu.Store GunYu.StoreFs GunYu.StoreFsX

/-! ### what a failing check does to the reader -/

/-- **verify_restart_nothing_live.** After a restart no segment has a writer: on a chain
    whose files are what the index holds (every re-built index: `reopen`), the file reader
    with nothing live is `serveFrom`, the function of `crc_mismatch_refused` /
    `corrupt_segment_never_served`. -/
theorem verify_restart_nothing_live (fs : FS) (v : Bool) (segs : List DSeg) (off : Nat) (hc : Contig segs)
    (hi : Intact fs segs) : serveFromL fs v [] segs off = serveFrom fs v segs off :=
  serveFromL_nil fs v segs off hc hi

/-- **live_segment_accepted.** The segment the index answers `hasWriter` for (the one being
    written — also the first one of a new writer, 99a0b20 — or one whose close observer never
    ran) is read without looking at its header, whatever it holds. -/
theorem live_segment_accepted (fs : FS) (v : Bool) (unv : List Nat) (g : DSeg) (off : Nat)
    (file : Bytes) (hf : fs.get (aofName g.left) = some file) (hlive : unv.contains g.left = true) :
    serveFromL fs v unv [g] off = ((file.drop headerSize).drop (off - g.left), ServeEnd.eof) :=
  serveFromL_live_accepted fs v unv g off file hf hlive

/-- **altered_closed_segment_never_served** (read: a closed segment that FAILS THE CHECK).
    With verification on, a closed segment whose file fails the size/CRC64 check stops the
    reader wherever the reader meets it — in the file it is opened on or in any file it
    follows into, whatever is live: every byte delivered was read from the intact files
    before it, lies before the segment's first offset and is the source's; the reader does
    not end normally. -/
theorem altered_closed_segment_never_served (src : Nat → UInt8) (fs : FS) (unv : List Nat) (pre : List DSeg)
    (g : DSeg) (post : List DSeg) (file : Bytes) (hf : fs.get (aofName g.left) = some file)
    (hbad : segVerifyOk file = false) (hclosed : unv.contains g.left = false) (off : Nat)
    (hc : Contig (pre ++ g :: post)) (hi : Intact fs pre) (ht : ∀ a ∈ pre, SegTrue src a)
    (hh : ∀ a, (pre ++ g :: post).head? = some a → a.left ≤ off ∧ off ≤ a.right) :
    (∀ k b, (serveFromL fs true unv (pre ++ g :: post) off).1[k]? = some b → off + k < g.left ∧ b = src (off + k)) ∧
    (serveFromL fs true unv (pre ++ g :: post) off).2 ≠ ServeEnd.eof :=
  serveFromL_before_corrupt src fs unv pre g post file hf hbad hclosed off hc hi ht hh

/-- **altered_closed_segment_never_served_live.** On the LIVE index after ANY script of the
    writers (faults included), with the file of ONE closed segment `g` replaced by anything
    that fails the check and every other file as it is: a verifying reader opened before the
    end of `g` delivers only the source's bytes before `g` (read from the files) and does
    not end normally. -/
theorem altered_closed_segment_never_served_live (src : Nat → UInt8) (l m : Nat) (xs : List XOp)
    (hwf : wfX (XDisk.init l m) xs) (hsrc : SrcOkX src (XDisk.init l m) xs) (fs' : FS) (g : DSeg) (file : Bytes)
    (off : Nat) (bs : Bytes) (e : ServeEnd) :
    let s := xfinal (XDisk.init l m) xs
    g ∈ s.d.all → (unverifiedOf s).contains g.left = false →
    (∀ n, n ≠ g.left → fs'.get (aofName n) = s.fs.get (aofName n)) →
    fs'.get (aofName g.left) = some file → segVerifyOk file = false → off < g.right →
    serveLive ⟨s.d, fs', s.zombies⟩ true off = some (bs, e) →
      (∀ k b, bs[k]? = some b → off + k < g.left ∧ b = src (off + k)) ∧ e ≠ ServeEnd.eof := by
  intro s hg hclosed hsame hf hbad hoff hs
  have hinv := xfinal_inv (src := src) xs _ hwf hsrc (xinv_init src l m)
  exact serveLive_altered_closed s hinv g hg hclosed fs' hsame file hf hbad off hoff bs e hs

/-- **live_bytes_true.** While the process lives: after ANY script of the writers
    (faults included), whatever a reader on the live index reads from the files — closed
    segments verified, the writer's segment not — is the source's byte at that offset. -/
theorem live_bytes_true (src : Nat → UInt8) (l m : Nat) (xs : List XOp)
    (hwf : wfX (XDisk.init l m) xs) (hsrc : SrcOkX src (XDisk.init l m) xs) (verify : Bool) (off : Nat)
    (bs : Bytes) (e : ServeEnd) (hs : serveLive (xfinal (XDisk.init l m) xs) verify off = some (bs, e)) :
    ∀ k b, bs[k]? = some b → b = src (off + k) :=
  serveLive_true _ (xfinal_inv (src := src) xs _ hwf hsrc (xinv_init src l m)) verify off bs e hs

/-! ### which changes make the check fail -/

/-- **closed_segment_file_exact.** In every state a script of the writers with faults reaches
    from the empty store, the FILE of every closed segment of the index is exactly the header
    `closeAof` writes for its data followed by its data — except the segments whose header
    rewrite failed at some point of the script (`taintRun`, their files carry a torn or
    zero header). -/
theorem closed_segment_file_exact (src : Nat → UInt8) (l m : Nat) (xs : List XOp)
    (hwf : wfX (XDisk.init l m) xs) (hsrc : SrcOkX src (XDisk.init l m) xs) (g : DSeg) :
    let s := xfinal (XDisk.init l m) xs
    g ∈ s.d.segs → g.left ∉ taintRun [] (XDisk.init l m) xs →
      s.fs.get (aofName g.left) = some (closedHeader g.data ++ g.data) := by
  intro s hg ht
  exact cinv_run (src := src) (u := []) xs _ [] hwf hsrc (xinv_init src l m) (cinv_init [] [] l m) g hg (by simp) ht

/-- a script without fault steps taints nothing: every closed segment's file is exact -/
theorem closed_segment_file_exact_plain (src : Nat → UInt8) (l m : Nat) (ops : List DOp)
    (hwf : wfX (XDisk.init l m) (ops.map XOp.op)) (hsrc : SrcOkX src (XDisk.init l m) (ops.map XOp.op)) (g : DSeg) :
    g ∈ (xfinal (XDisk.init l m) (ops.map XOp.op)).d.segs →
      (xfinal (XDisk.init l m) (ops.map XOp.op)).fs.get (aofName g.left) = some (closedHeader g.data ++ g.data) := by
  intro hg
  apply closed_segment_file_exact src l m _ hwf hsrc g hg
  rw [taintRun_plain ops _ rfl]
  simp

/-- … hence no false refusal: an unaltered closed segment passes the check while the process lives -/
theorem closed_segment_verifies_live (src : Nat → UInt8) (l m : Nat) (xs : List XOp)
    (hwf : wfX (XDisk.init l m) xs) (hsrc : SrcOkX src (XDisk.init l m) xs) (g : DSeg) (h32 : g.data.length < 4294967296) :
    let s := xfinal (XDisk.init l m) xs
    g ∈ s.d.segs → g.left ∉ taintRun [] (XDisk.init l m) xs →
      ∃ file, s.fs.get (aofName g.left) = some file ∧ segVerifyOk file = true := by
  intro s hg ht
  exact ⟨_, closed_segment_file_exact src l m xs hwf hsrc g hg ht, segVerifyOk_written g.data h32⟩

/-- **accepted_iff_consistent.** A file `hdr ++ data` passes the check iff header bytes 1..12
    (CRC64 and data size) are exactly those `closeAof` writes for `data`. -/
theorem accepted_iff_consistent (hdr data : Bytes) (hl : hdr.length = headerSize) (h32 : data.length < 4294967296) :
    segVerifyOk (hdr ++ data) = true ↔ hdrFields hdr = hdrFields (closedHeader data) :=
  StoreFs.accepted_iff_consistent hdr data hl h32

/-- **version_reserved_ignored.** Header byte 0 (version) and bytes 13..15 (reserved) are read
    by nobody: changing them never changes the verdict (as the code). -/
theorem version_reserved_ignored (hdr hdr' data : Bytes) (hl : hdr.length = headerSize) (hl' : hdr'.length = headerSize)
    (h : hdrFields hdr = hdrFields hdr') : segVerifyOk (hdr ++ data) = segVerifyOk (hdr' ++ data) :=
  StoreFs.version_reserved_ignored hdr hdr' data hl hl' h

/-- **accepted_alteration_cases.** Header and data changed TOGETHER: every accepted file
    `hdr' ++ data'` carries exactly the fields of its own data; against the file `closeAof`
    wrote for `data`: same data ⇒ same fields (only version / reserved bytes can differ);
    other data ⇒ size and CRC64 coincide (a collision) or header bytes 1..12 were rewritten
    too — to the fields of the new data: a CONSISTENT REPLACEMENT of a whole segment is
    accepted, inherently (nothing in the file is secret). -/
theorem accepted_alteration_cases (data hdr' data' : Bytes) (hl' : hdr'.length = headerSize)
    (h32 : data.length < 4294967296) (h32' : data'.length < 4294967296)
    (hacc : segVerifyOk (hdr' ++ data') = true) :
    hdrFields hdr' = hdrFields (closedHeader data') ∧
    (data' = data → hdrFields hdr' = hdrFields (closedHeader data)) ∧
    (data' ≠ data → (data'.length = data.length ∧ crc64 data' = crc64 data) ∨
      hdrFields hdr' ≠ hdrFields (closedHeader data)) :=
  StoreFs.accepted_alteration_cases data hdr' data' hl' h32 h32' hacc

/-- **burst_alteration_refused.** The burst fact, PROVED for the regenerated table: a closed
    segment whose data is changed inside a window of 8 consecutive bytes (any burst of at most
    57 bits wherever it starts, any byte-aligned 64-bit burst; header untouched) fails the
    check. (A 58..64-bit burst that straddles 9 bytes is the part of the standard CRC fact
    that stays in `trusted`.) -/
theorem burst_alteration_refused (a e e' z : Bytes) (hlen : e.length = e'.length) (h8 : e.length ≤ 8) (hne : e ≠ e')
    (h32 : (a ++ e ++ z).length < 4294967296) :
    segVerifyOk (closedHeader (a ++ e ++ z) ++ (a ++ e' ++ z)) = false := by
  cases hv : segVerifyOk (closedHeader (a ++ e ++ z) ++ (a ++ e' ++ z)) with
  | false => rfl
  | true =>
    have := (altered_data_accepted_iff (a ++ e ++ z) (a ++ e' ++ z) h32).mp hv
    exact absurd this.2 (fun h => crc64_window8 a e e' z hlen h8 hne h.symm)

/-- **live_burst_never_served.** Everything together, on the live index after ANY script with
    faults: change the data of a closed, untainted segment inside a window of 8 consecutive
    bytes (its header untouched, every other file as it is) — a verifying reader opened before
    the segment's end delivers only the source's bytes before it and does not end normally. -/
theorem live_burst_never_served (src : Nat → UInt8) (l m : Nat) (xs : List XOp)
    (hwf : wfX (XDisk.init l m) xs) (hsrc : SrcOkX src (XDisk.init l m) xs) (fs' : FS) (g : DSeg)
    (a e e' z : Bytes) (off : Nat) (bs : Bytes) (en : ServeEnd) :
    let s := xfinal (XDisk.init l m) xs
    g ∈ s.d.segs → g.left ∉ taintRun [] (XDisk.init l m) xs → (unverifiedOf s).contains g.left = false →
    g.data = a ++ e ++ z → e.length = e'.length → e.length ≤ 8 → e ≠ e' → g.data.length < 4294967296 →
    (∀ n, n ≠ g.left → fs'.get (aofName n) = s.fs.get (aofName n)) →
    fs'.get (aofName g.left) = some (closedHeader g.data ++ (a ++ e' ++ z)) → off < g.right →
    serveLive ⟨s.d, fs', s.zombies⟩ true off = some (bs, en) →
      (∀ k b, bs[k]? = some b → off + k < g.left ∧ b = src (off + k)) ∧ en ≠ ServeEnd.eof := by
  intro s hg _ hclosed hd hlen h8 hne h32 hsame hf hoff hs
  have hbad : segVerifyOk (closedHeader g.data ++ (a ++ e' ++ z)) = false := by
    rw [hd]; exact burst_alteration_refused a e e' z hlen h8 hne (by rw [← hd]; exact h32)
  exact altered_closed_segment_never_served_live src l m xs hwf hsrc fs' g _ off bs en
    (by simp only [Disk.all, List.mem_append]; exact Or.inl hg) hclosed hsame hf hbad hoff hs

/-! ### non-vacuity -/

/-- a closed segment [100,105) and the writer's segment [105,107) -/
def exLive : List XOp :=
  [.op (.setRunId "a"), .op (.newAofWriter 100), .op (.aofAppend [1, 2, 3, 4, 5]), .op (.aofAppend [6, 7])]

example : wfX (XDisk.init 20 0) exLive := by decide
example : (xfinal (XDisk.init 20 0) exLive).d.segs.map (·.left) = [100] ∧
    (xfinal (XDisk.init 20 0) exLive).d.live.map (·.left) = some 105 := by decide +kernel
example : taintRun [] (XDisk.init 20 0) exLive = [] := by decide +kernel
-- the closed segment's file is exactly header + data
example : (xfinal (XDisk.init 20 0) exLive).fs.get (.aof 100) = some (closedHeader [1, 2, 3, 4, 5] ++ [1, 2, 3, 4, 5]) := by
  decide +kernel
-- a verifying reader on the live index: the closed segment passes, the writer's segment (header
-- still zero) is accepted
example : serveLive (xfinal (XDisk.init 20 0) exLive) true 101 = some ([2, 3, 4, 5, 6, 7], ServeEnd.eof) := by decide +kernel
-- the same directory after a restart: the segment that was live is refused
example : serve (xfinal (XDisk.init 20 0) exLive).fs true 101 = some ([2, 3, 4, 5], ServeEnd.corrupt) := by decide +kernel
-- the closed segment altered (one data byte): nothing is delivered
example : serveLive ⟨(xfinal (XDisk.init 20 0) exLive).d,
    (xfinal (XDisk.init 20 0) exLive).fs.set (.aof 100) (closedHeader [1, 2, 3, 4, 5] ++ [1, 2, 9, 4, 5]), []⟩ true 101 =
    some ([], ServeEnd.corrupt) := by decide +kernel
-- the reader reads the FILE: the closed segment replaced by a shorter CONSISTENT file is accepted
-- (inherent), its bytes are delivered, and the reader finds no file where these bytes end
example : serveLive ⟨(xfinal (XDisk.init 20 0) exLive).d,
    (xfinal (XDisk.init 20 0) exLive).fs.set (.aof 100) (closedHeader [9] ++ [9]), []⟩ true 100 =
    some ([9], ServeEnd.notExist) := by decide +kernel
-- altered and reached by following (reader opened in an older closed segment)
def exLive3 : List XOp :=
  [.op (.setRunId "a"), .op (.newAofWriter 100), .op (.aofAppend [1, 2, 3, 4, 5]), .op (.aofAppend [6, 7, 8, 9, 10]),
   .op (.aofAppend [11])]
example : serveLive ⟨(xfinal (XDisk.init 20 0) exLive3).d,
    (xfinal (XDisk.init 20 0) exLive3).fs.set (.aof 105) (closedHeader [6, 7, 8, 9, 10] ++ [6, 7, 8, 9, 0]), []⟩ true 102 =
    some ([3, 4, 5], ServeEnd.corrupt) := by decide +kernel
-- a segment whose header rewrite failed: tainted, its file keeps a torn header, and while the
-- process lives a verifying reader passes through it (hasWriter)
def exZombie : List XOp :=
  [.op (.setRunId "a"), .op (.newAofWriter 100), .aofAppendHdrFail [1, 2, 3, 4, 5] 3, .op (.newAofWriter 105),
   .op (.aofAppend [6, 7])]
example : wfX (XDisk.init 20 0) exZombie := by decide
example : taintRun [] (XDisk.init 20 0) exZombie = [100, 100, 100] := by decide +kernel
example : serveLive (xfinal (XDisk.init 20 0) exZombie) true 100 = some ([1, 2, 3, 4, 5, 6, 7], ServeEnd.eof) := by
  decide +kernel
example : serve (xfinal (XDisk.init 20 0) exZombie).fs true 100 = some ([], ServeEnd.corrupt) := by decide +kernel
-- the first segment of a new writer is live: accepted by a verifying reader (99a0b20)
example : serveLive (xfinal (XDisk.init 32 0) [.op (.setRunId "a"), .op (.newAofWriter 100), .op (.aofAppend [1, 2])])
    true 100 = some ([1, 2], ServeEnd.eof) := by decide +kernel
-- the check, algebraically: a consistent replacement passes, version / reserved bytes are ignored
example : segVerifyOk (closedHeader [9, 9, 9] ++ [9, 9, 9]) = true := by decide +kernel
example : segVerifyOk ((7 :: (closedHeader [1, 2, 3]).tail.take 12 ++ [5, 5, 5]) ++ [1, 2, 3]) = true := by decide +kernel
-- a one-bit change in the data: refused (instance of the burst theorem)
example : segVerifyOk (closedHeader ([1, 2] ++ [3] ++ [4]) ++ ([1, 2] ++ [2] ++ [4])) = false :=
  burst_alteration_refused [1, 2] [3] [2] [4] rfl (by decide) (by decide) (by decide)

end GunYu.Props.C08
