/-
  C02 over ANY NUMBER of crashes and restarts. The step of `Props/C02TwoRuns.lean`
  is made general -- the crashed run may itself be a resumed one, on a target that
  holds the records of all earlier lives (`life_step`) -- and iterated over the
  states reachable by any number of lives (`Lives`): the specification of the
  whole stream always splits into a part the target has executed and exactly what
  a run resumed from the stored position will execute (`lives_lose_nothing`).
-/
import GunYu.Props.C02TwoRuns
import GunYu.Props.C09

namespace GunYu.Props.C02
open GunYu GunYu.Sender GunYu.Target

/-- `crash_cut` for a run resumed from `(start0, pc.startDbId)` (with
    `startDbId ≤ 0` this is `crash_cut`): the commands executed before the last
    position write are exactly the forwarded commands of the resumed parser's items
    for the source commands ending at or before `o` -- the initial select included. -/
theorem crash_cut_resumed (pc : PCfg) (sc : SCfg) (raws : List Raw) (start0 : Int) (evs : List Ev)
    (hitems : itemsOf evs = parserItems pc start0 raws)
    (hraw : (raws.map (·.off)).Pairwise (· < ·)) (hlo : ∀ r ∈ raws, start0 < r.off)
    (hstart : 0 ≤ start0) (hnd : C01.NoDone evs)
    (hnn : ItemsNoNested false (parseAll pc { lastSent := start0 } raws))
    (hnf : parseFails pc { lastSent := start0 } raws = false)
    (E E1 E2 : List Req) (o : Int) (hE : E <+: bodies (run sc initS evs).2)
    (hsplit : E = E1 ++ Req.cpOffset o :: E2) :
    raws = raws.filter (fun r => decide (r.off ≤ o)) ++ raws.filter (fun r => decide (o < r.off)) ∧
    parseFails pc { lastSent := start0 } (raws.filter (fun r => decide (r.off ≤ o))) = false ∧
    (parseState pc { lastSent := start0 } (raws.filter (fun r => decide (r.off ≤ o)))).bypass = false ∧
    start0 ≤ o ∧
    dataBO E1 = itemCmdsO (parserItems pc start0 (raws.filter (fun r => decide (r.off ≤ o)))) ∧
    dataBO E2 <+: itemCmdsO (parseAll pc
      (parseState pc { lastSent := start0 } (raws.filter (fun r => decide (r.off ≤ o))))
      (raws.filter (fun r => decide (o < r.off)))) :=
  cut_at_position pc sc raws start0 evs hitems hraw hlo hstart hnd hnn hnf E E1 E2 o hE hsplit

/-- no position is stored (hashes may exist: the run-id fields are written first) -/
def NoOffsets (cps : List (Int × CpRec)) : Prop := ∀ d, (getCp cps d).offset = none

/-- what `StartPoint` reads on a target: nothing (then the run starts at `start`,
    in database 0), or the unique largest offset and its database -/
def StartsAt (cps : List (Int × CpRec)) (start : Int) (o d : Int) : Prop :=
  (NoOffsets cps ∧ o = start ∧ d = 0) ∨ UniqueMax cps d o

theorem life_position (pc : PCfg) (d0 : Int) (sc : SCfg) (raws : List Raw) (start0 : Int) (evs : List Ev)
    (hitems : itemsOf evs = parserItems { pc with startDbId := d0 } start0 raws)
    (hraw : (raws.map (·.off)).Pairwise (· < ·)) (hlo : ∀ r ∈ raws, start0 < r.off)
    (hstart : 0 ≤ start0)
    (t : TState) (hcur : t.cur = 0) (hd0 : 0 ≤ d0)
    (ht : (NoOffsets t.cps ∧ d0 = 0) ∨ UniqueMax t.cps d0 start0)
    (E E1 E2 : List Req) (o : Int) (hE : E <+: bodies (run sc initS evs).2)
    (hsplit : E = E1 ++ Req.cpOffset o :: E2) (hlast : cpOffsetsB E2 = []) :
    UniqueMax (E.foldl execReq t).cps (E1.foldl execReq t).cur o := by
  have hm : SMono initS.txn initS.lastOffset evs :=
    resumed_parser_feeds_smono _ raws start0 evs hitems hraw hlo hstart
  rcases ht with ⟨hno, _⟩ | hu
  · exact resume_db_of_no_offsets sc evs hm t hno E hE E1 E2 o hsplit hlast
  · obtain ⟨hs, hcp, hdata⟩ := resumed_wire sc { pc with startDbId := d0 } raws start0 evs hitems hraw hlo hstart
    rcases resumed_unique_max _ t d0 start0 hu hcur hd0 hs hcp hdata E hE with ⟨hnone, _⟩ | ⟨E1', o', E2', hs', hl', _, hum⟩
    · exfalso
      rw [hsplit, cpOffsetsB_append] at hnone
      have : o ∈ cpOffsetsB E1 ++ cpOffsetsB (Req.cpOffset o :: E2) := by
        apply List.mem_append_right; simp [cpOffsetsB, cpOfReq]
      rw [hnone] at this; cases this
    · rw [hsplit] at hs'
      obtain ⟨h1, h2, _⟩ := last_cp_unique hs' hlast hl'
      rw [h1, h2, hsplit]
      rw [hsplit] at hum
      exact hum

/-- **One life.** Resume from what `StartPoint` read (`StartsAt`: nothing, or the
    unique largest offset `start0` in database `d0`) with the real parser's items
    for the stream after `start0`, any configuration, any schedule, a new
    connection; the target dies after ANY number of requests, having executed the
    wire prefix `E` whose last position write is `o` in database `d`. Then `(d, o)`
    is again the unique largest offset, and with `A`/`B` the source commands ending
    at or before / after `o`:
    `specStream d0 (stream) = S1 ++ specStream d B`, the target gained `S1 ++ X`,
    `X` a prefix of `specStream d B`. -/
theorem life_step (pc : PCfg) (d0 : Int) (sc : SCfg) (raws : List Raw) (start0 : Int) (evs : List Ev)
    (hitems : itemsOf evs = parserItems { pc with startDbId := d0 } start0 raws)
    (hraw : (raws.map (·.off)).Pairwise (· < ·)) (hlo : ∀ r ∈ raws, start0 < r.off)
    (hstart : 0 ≤ start0) (hnd : C01.NoDone evs)
    (hnn : ItemsNoNested false (parseAll pc { lastSent := start0 } raws))
    (hnf : parseFails pc { lastSent := start0 } raws = false)
    (hsel : ∀ x ∈ raws, x.cmd = bSelect → ∀ a n, x.args = [a] → atoi? a = some n → 0 ≤ n)
    (hmap : ∀ n : Int, 0 ≤ n → mapDb pc n ≠ -1)
    (t : TState) (hcur : t.cur = 0) (hd0 : 0 ≤ d0)
    (ht : (NoOffsets t.cps ∧ d0 = 0) ∨ UniqueMax t.cps d0 start0)
    (E E1 E2 : List Req) (o : Int) (hE : E <+: bodies (run sc initS evs).2)
    (hsplit : E = E1 ++ Req.cpOffset o :: E2) (hlast : cpOffsetsB E2 = [])
    (d : Int) (hd : d = (E1.foldl execReq t).cur) (hdpos : 0 ≤ d) :
    let A := raws.filter (fun r => decide (r.off ≤ o))
    let B := raws.filter (fun r => decide (o < r.off))
    let S1 := (seqApplied d0 (itemCmds (parseAll pc { lastSent := start0 } A))).2
    UniqueMax (E.foldl execReq t).cps d o ∧ start0 ≤ o ∧
    specStream pc false d0 raws = S1 ++ specStream pc false d B ∧
    (E.foldl execReq t).applied = t.applied ++ S1 ++ (seqApplied d (dataB E2)).2 ∧
    (seqApplied d (dataB E2)).2 <+: specStream pc false d B := by
  simp only
  refine ⟨?_, (cut_executed pc d0 sc raws start0 evs hitems hraw hlo hstart hnd hnn hnf hsel hmap t hcur hd0
    E E1 E2 o hE hsplit d hd).2⟩
  rw [hd]
  exact life_position pc d0 sc raws start0 evs hitems hraw hlo hstart t hcur hd0 ht E E1 E2 o hE hsplit hlast

/-- a life that dies before any position write: every stored offset is what it
    was, and what the target gained is a prefix of what the run had to execute -/
theorem life_nocp (pc : PCfg) (d0 : Int) (sc : SCfg) (raws : List Raw) (start0 : Int) (evs : List Ev)
    (hitems : itemsOf evs = parserItems { pc with startDbId := d0 } start0 raws)
    (hnd : C01.NoDone evs)
    (hnn : ItemsNoNested false (parseAll pc { lastSent := start0 } raws))
    (hsel : ∀ x ∈ raws, x.cmd = bSelect → ∀ a n, x.args = [a] → atoi? a = some n → 0 ≤ n)
    (hmap : ∀ n : Int, 0 ≤ n → mapDb pc n ≠ -1)
    (t : TState) (hcur : t.cur = 0) (hd0 : 0 ≤ d0)
    (E : List Req) (hE : E <+: bodies (run sc initS evs).2) (hnone : cpOffsetsB E = []) :
    (∀ d, (getCp (E.foldl execReq t).cps d).offset = (getCp t.cps d).offset) ∧
    (E.foldl execReq t).applied = t.applied ++ (seqApplied 0 (dataB E)).2 ∧
    (seqApplied 0 (dataB E)).2 <+: specStream pc false d0 raws := by
  have hwf := run_wf sc initS evs
  have hplainE : ∀ r ∈ E, Plain r = true := fun r hr => bodies_plain _ hwf r (hE.subset hr)
  refine ⟨fun d => fold_no_cp_offsets E hnone t d, ?_, ?_⟩
  · rw [(foldl_execReq_seq E hplainE t).2, hcur]
  · have hnn0 : ItemsNoNested false (parseAll { pc with startDbId := d0 } { lastSent := start0 } raws) := by
      rw [parseAll_setDb]; exact hnn
    have hnn' : C01.NoNested (inT .no) evs :=
      C01.noNested_of_items _ evs (by rw [hitems]; exact itemsNoNested_parserItems _ start0 raws hnn0)
    have h1 : dataB E <+: itemCmds (parserItems { pc with startDbId := d0 } start0 raws) := by
      have : dataB E <+: dataB (bodies (run sc initS evs).2) := hE.filterMap _
      rw [dataB_bodies _ hwf] at this
      have h2 := C01.wire_prefix sc evs
      rw [C01.fwd_eq_plainItems .no evs hnd hnn', C01.plainItems_eq_itemCmds, hitems] at h2
      exact this.trans h2
    have h3 := restart_at_start_is_spec { pc with startDbId := d0 } raws start0 hsel
      (fun n hn => by rw [mapDb_setDb]; exact hmap n hn) hd0
    rw [specStream_setDb] at h3
    rw [← h3]
    exact seqApplied_prefix 0 h1

theorem startsAt_unique {cps : List (Int × CpRec)} {s o d o' d' : Int}
    (h : StartsAt cps s o d) (h' : StartsAt cps s o' d') : o = o' ∧ d = d' := by
  rcases h with ⟨hn, ho, hd⟩ | hu
  · rcases h' with ⟨_, ho', hd'⟩ | hu'
    · exact ⟨by rw [ho, ho'], by rw [hd, hd']⟩
    · have := hu'.1; rw [hn d'] at this; cases this
  · rcases h' with ⟨hn', _, _⟩ | hu'
    · have := hu.1; rw [hn' d] at this; cases this
    · by_cases hdd : d = d'
      · subst hdd
        have := hu.1; rw [hu'.1] at this
        injection this with this
        exact ⟨this.symm, rfl⟩
      · have h1 := hu.2 d' (fun h => hdd h.symm) o' hu'.1
        have h2 := hu'.2 d hdd o hu.1
        omega

theorem startsAt_congr {cps cps' : List (Int × CpRec)} {s o d : Int}
    (h : ∀ x, (getCp cps' x).offset = (getCp cps x).offset) (hs : StartsAt cps s o d) :
    StartsAt cps' s o d := by
  rcases hs with ⟨hn, ho, hd⟩ | hu
  · exact Or.inl ⟨fun x => by rw [h x]; exact hn x, ho, hd⟩
  · exact Or.inr ⟨by rw [h d]; exact hu.1, fun d' hd' o' ho' => hu.2 d' hd' o' (by rw [← h d']; exact ho')⟩


/-! ### What a life of `Lives` stands for

A life of `Lives` has a schedule without `done` that contains ALL remaining items.
A real life receives some prefix of the stream, may end its loop by `done`, and
dies after `k` requests. The two lemmas below say that nothing is lost by the
restriction: the first `k` requests of a schedule do not depend on what follows
it (so the remaining items can be appended), and a `done` does to the loop what a
checkpoint tick does and ends it (so it can be replaced by one, dropping what
follows). -/

theorem life_received_prefix_wlog (c : SCfg) (evs1 more : List Ev) (k : Nat) (hnd : C01.NoDone evs1)
    (hk : k ≤ (run c initS evs1).2.flatten.length) :
    (run c initS (evs1 ++ more)).2.flatten.take k = (run c initS evs1).2.flatten.take k := by
  rw [C09.run_append c initS evs1 more hnd]
  simp only [List.flatten_append]
  exact List.take_append_of_le_length hk

theorem done_is_cpTick (c : SCfg) (s : SState) : step c s .done = step c s .cpTick := rfl

theorem run_done_as_cpTick (c : SCfg) (pre post : List Ev) (hnd : C01.NoDone pre) :
    run c initS (pre ++ Ev.done :: post) = run c initS (pre ++ [Ev.cpTick]) := by
  rw [C09.run_append c initS pre _ hnd, C09.run_append c initS pre _ hnd]
  have h1 : run c (run c initS pre).1 (Ev.done :: post) = step c (run c initS pre).1 .done := by
    simp [run]
  rw [h1, C09.run_single, done_is_cpTick]

/-- **The states reachable by any number of lives.** `Lives pc raws start t0 txn T o d`:
    starting from the target `t0` (no position stored), after some number of lives
    the target is `T` and the next `StartPoint` reads position `o` in database `d`.
    A life: ANY batching configuration, ANY schedule of ticks around the real
    parser's items for the stream after the position read (resumed in its
    database, new connection), and the target dies after ANY number `k` of
    requests. `txn = true` restricts every life to transactional resumable mode. -/
inductive Lives (pc : PCfg) (raws : List Raw) (start : Int) (t0 : TState) (txn : Bool) :
    TState → Int → Int → Prop
  | init : Lives pc raws start t0 txn t0 start 0
  | life {T : TState} {o d : Int} (h : Lives pc raws start t0 txn T o d)
      (sc : SCfg) (evs : List Ev) (k : Nat) (o' d' : Int)
      (hitems : itemsOf evs =
        parserItems { pc with startDbId := d } o (raws.filter (fun r => decide (o < r.off))))
      (hnd : C01.NoDone evs)
      (htx : txn = true → sc.txnMode = true ∧ sc.resume = true)
      (hpos : StartsAt (applyLog (crash T) ((run sc initS evs).2.flatten.take k)).cps start o' d') :
      Lives pc raws start t0 txn (applyLog (crash T) ((run sc initS evs).2.flatten.take k)) o' d'

/-- `Replayed S P Q`: the history `Q` of a target is the part `P` of the specification
    `S` executed life by life -- each life executes the NEXT piece `S1` of the
    specification (from where `P` ended) and possibly an overshoot `X`, a prefix of
    what the specification continues with; the overshoot is what the next life
    executes again. Nothing else is ever in `Q`. -/
inductive Replayed (S : List Applied) : List Applied → List Applied → Prop
  | nil : Replayed S [] []
  | life {P Q : List Applied} (h : Replayed S P Q) (S1 X : List Applied)
      (hS : P ++ S1 <+: S) (hX : X <+: S.drop (P ++ S1).length) :
      Replayed S (P ++ S1) (Q ++ S1 ++ X)

theorem Replayed.sublist {S P Q : List Applied} (h : Replayed S P Q) : List.Sublist P Q := by
  induction h with
  | nil => exact List.Sublist.refl _
  | life _ S1 X _ _ ih =>
    exact (ih.append (List.Sublist.refl S1)).trans (List.sublist_append_left _ _)

theorem filter_gt_filter (raws : List Raw) (o o' : Int) (h : o ≤ o') :
    (raws.filter (fun r => decide (o < r.off))).filter (fun r => decide (o' < r.off)) =
      raws.filter (fun r => decide (o' < r.off)) := by
  rw [List.filter_filter]
  apply List.filter_congr
  intro x _
  by_cases hx : o' < x.off
  · have : o < x.off := by omega
    simp [hx, this]
  · simp [hx]

theorem rest_of_stream (pc : PCfg) (raws : List Raw) (start o : Int)
    (hraw : (raws.map (·.off)).Pairwise (· < ·))
    (hnest : RawNoNested false raws)
    (hpass : ∀ r ∈ raws, (r.cmd = bMulti ∨ r.cmd = bExec) →
      pc.filterCmd r.cmd = false ∧ (pc.filterCmdKey r.cmd r.args).isSome)
    (hnf : parseFails pc { lastSent := start } raws = false)
    (hsel : ∀ x ∈ raws, x.cmd = bSelect → ∀ a n, x.args = [a] → atoi? a = some n → 0 ≤ n) :
    ((raws.filter (fun r => decide (o < r.off))).map (·.off)).Pairwise (· < ·) ∧
    (∀ r ∈ raws.filter (fun r => decide (o < r.off)), o < r.off) ∧
    ItemsNoNested false (parseAll pc { lastSent := o } (raws.filter (fun r => decide (o < r.off)))) ∧
    parseFails pc { lastSent := o } (raws.filter (fun r => decide (o < r.off))) = false ∧
    (∀ x ∈ raws.filter (fun r => decide (o < r.off)), x.cmd = bSelect →
      ∀ a n, x.args = [a] → atoi? a = some n → 0 ≤ n) ∧
    RawNoNested false (raws.filter (fun r => decide (o < r.off))) :=
  ⟨hraw.sublist (List.filter_sublist.map _), fun r hr => by simpa using (List.mem_filter.mp hr).2,
    run2_items_noNested_src pc raws o hraw hnest hpass,
    parseFails_sublist pc _ _ List.filter_sublist hnf, fun x hx => hsel x (List.mem_filter.mp hx).1,
    by rw [sorted_split raws o hraw] at hnest; exact rawNoNested_suffix false _ _ hnest⟩

/-- what a life resumed from `(o, d)` leaves behind when the next `StartPoint` reads
    `(o', d')`: the executed wire prefix `E` (whole blocks in transactional mode), and
    either no position write in it and `(o', d') = (o, d)`, or `o'` its last one -/
theorem life_outcome (pc : PCfg) (start : Int) (txn : Bool) {T : TState} {o d : Int} (B : List Raw)
    (hrawB : (B.map (·.off)).Pairwise (· < ·)) (hloB : ∀ r ∈ B, o < r.off) (ho0 : 0 ≤ o)
    (hnnB : ItemsNoNested false (parseAll pc { lastSent := o } B))
    (hselB : ∀ x ∈ B, x.cmd = bSelect → ∀ a n, x.args = [a] → atoi? a = some n → 0 ≤ n)
    (hmap : ∀ n : Int, 0 ≤ n → mapDb pc n ≠ -1)
    (hsa : StartsAt T.cps start o d) (hd0 : 0 ≤ d)
    (sc : SCfg) (evs : List Ev) (k : Nat) (o' d' : Int)
    (hitems : itemsOf evs = parserItems { pc with startDbId := d } o B) (hnd : C01.NoDone evs)
    (htx : txn = true → sc.txnMode = true ∧ sc.resume = true)
    (hpos : StartsAt (applyLog (crash T) ((run sc initS evs).2.flatten.take k)).cps start o' d') :
    ∃ E, E <+: bodies (run sc initS evs).2 ∧
      SameData (applyLog (crash T) ((run sc initS evs).2.flatten.take k)) (E.foldl execReq (crash T)) ∧
      (txn = true → ∀ y, 2 * y ∈ keysB E → ∃ o ∈ cpOffsetsB E, y ≤ o) ∧
      ((cpOffsetsB E = [] ∧ o' = o ∧ d' = d) ∨
       ∃ E1 E2, E = E1 ++ Req.cpOffset o' :: E2 ∧ cpOffsetsB E2 = [] ∧
         d' = (E1.foldl execReq (crash T)).cur) := by
  -- the target at the start of the life: `crash T`, a new connection on the same data
  have hcur : (crash T).cur = 0 := rfl
  have hq : (crash T).queued = none := rfl
  have hm : SMono initS.txn initS.lastOffset evs :=
    resumed_parser_feeds_smono _ B o evs hitems hrawB hloB ho0
  have hEx : ∃ E, E <+: bodies (run sc initS evs).2 ∧
      SameData (applyLog (crash T) ((run sc initS evs).2.flatten.take k)) (E.foldl execReq (crash T)) ∧
      (txn = true → ∀ y, 2 * y ∈ keysB E → ∃ o ∈ cpOffsetsB E, y ≤ o) := by
    cases htxn : txn with
    | false =>
      obtain ⟨E, hE, hs⟩ := crash_executes_body_prefix (run sc initS evs).2 (run_wf sc initS evs)
        (crash T) hq k
      exact ⟨E, hE, hs, fun h => by cases h⟩
    | true =>
      obtain ⟨h1, h2⟩ := htx htxn
      have h3 : NonNeg evs := nonNeg_of_items evs (fun i hi => by
        rw [hitems] at hi
        exact Int.le_trans ho0 (parserItems_ge _ o B hrawB hloB i hi))
      obtain ⟨E, hE, hs, hc⟩ := txn_crash_repeats_nothing_prefix sc h1 h2 evs hm h3 (crash T) hq k
      exact ⟨E, hE, hs, fun _ => hc⟩
  obtain ⟨E, hE, hsame, hcov⟩ := hEx
  refine ⟨E, hE, hsame, hcov, ?_⟩
  rw [hsame.2] at hpos
  by_cases hnone : cpOffsetsB E = []
  · -- no position written: `StartPoint` reads what it read before
    obtain ⟨hoff, _, _⟩ := life_nocp pc d sc B o evs hitems hnd hnnB hselB hmap (crash T) hcur hd0 E hE hnone
    exact Or.inl ⟨hnone, startsAt_unique hpos (startsAt_congr (cps := T.cps) hoff hsa)⟩
  · obtain ⟨E1, oE, E2, hsplit, hlast⟩ := split_last_cp E hnone
    obtain ⟨ho', hdd'⟩ := startsAt_unique hpos (Or.inr (life_position pc d sc B o evs hitems hrawB hloB ho0
      (crash T) hcur hd0 (hsa.imp (fun h => ⟨h.1, h.2.2⟩) id) E E1 E2 oE hE hsplit hlast))
    exact Or.inr ⟨E1, E2, by rw [ho']; exact hsplit, hlast, hdd'⟩

/-- **No write is ever lost, whatever the number of crashes; transactional mode
    never repeats one.** For every state reachable by lives: the next `StartPoint`
    reads `(o, d)` (`StartsAt`), and the one-pass specification of the WHOLE stream
    is `P ++ specStream d (stream after o)` where `P` has been executed by the
    target -- in order, as a subsequence of what it executed since the beginning
    (`Q`; the rest of `Q` are repetitions) -- and the second part is exactly what a
    run resumed from `(o, d)` executes. If every life was transactional and
    resumable, `Q = P`: nothing was executed twice. What else `Q` holds is said
    exactly by `Replayed`: life by life the next piece of the specification and an
    overshoot that is a prefix of what the specification continues with -- every
    extra command is a repetition-to-be of the next life, nothing is invented.
    (`Props/C02Start.lean` `lives_startPoint`: `StartsAt` is what the modelled
    `GetCheckpoint` returns in every reachable state.) -/
theorem lives_lose_nothing (pc : PCfg) (raws : List Raw) (start : Int) (t0 : TState) (txn : Bool)
    (hraw : (raws.map (·.off)).Pairwise (· < ·)) (hlo : ∀ r ∈ raws, start < r.off)
    (hstart : 0 ≤ start)
    (hnest : RawNoNested false raws)
    (hpass : ∀ r ∈ raws, (r.cmd = bMulti ∨ r.cmd = bExec) →
      pc.filterCmd r.cmd = false ∧ (pc.filterCmdKey r.cmd r.args).isSome)
    (hnf : parseFails pc { lastSent := start } raws = false)
    (hsel : ∀ x ∈ raws, x.cmd = bSelect → ∀ a n, x.args = [a] → atoi? a = some n → 0 ≤ n)
    (hmapnn : ∀ n : Int, 0 ≤ n → 0 ≤ mapDb pc n)
    (hno : NoOffsets t0.cps)
    (T : TState) (o d : Int) (h : Lives pc raws start t0 txn T o d) :
    StartsAt T.cps start o d ∧ start ≤ o ∧ 0 ≤ d ∧
    ∃ P Q, T.applied = t0.applied ++ Q ∧ List.Sublist P Q ∧
      specStream pc false 0 raws = P ++ specStream pc false d (raws.filter (fun r => decide (o < r.off))) ∧
      (txn = true → Q = P) ∧ Replayed (specStream pc false 0 raws) P Q := by
  have hmap := mapDb_ne_of_nonneg pc hmapnn
  induction h with
  | init =>
    refine ⟨Or.inl ⟨hno, rfl, rfl⟩, Int.le_refl _, Int.le_refl _, [], [], by simp, List.Sublist.refl _, ?_,
      fun _ => rfl, Replayed.nil⟩
    have : raws.filter (fun r => decide (start < r.off)) = raws := by
      apply List.filter_eq_self.mpr
      intro x hx; simpa using hlo x hx
    rw [this]; rfl
  | @life T o d hL sc evs k o' d' hitems hnd htx hpos ih =>
    obtain ⟨hsa, hso, hd0, P, Q, happ, hsub, hspec, hexact, hrep⟩ := ih
    have ho0 : 0 ≤ o := Int.le_trans hstart hso
    obtain ⟨hrawB, hloB, hnnB, hnfB, hselB, _⟩ := rest_of_stream pc raws start o hraw hnest hpass hnf hsel
    generalize hB : raws.filter (fun r => decide (o < r.off)) = B at hitems hspec hrawB hloB hnnB hnfB hselB
    obtain ⟨E, hE, hsame, hcov, hout⟩ := life_outcome pc start txn B hrawB hloB ho0 hnnB hselB hmap hsa hd0
      sc evs k o' d' hitems hnd htx hpos
    generalize applyLog (crash T) ((run sc initS evs).2.flatten.take k) = T1 at hpos hsame ⊢
    have hcur : (crash T).cur = 0 := rfl
    rcases hout with ⟨hnone, rfl, rfl⟩ | ⟨E1, E2, hsplit, hlast, hdd'⟩
    · -- no position written in this life: no new piece of the specification, only an overshoot
      obtain ⟨_, happE, hpre⟩ := life_nocp pc d' sc B o' evs hitems hnd hnnB hselB hmap (crash T) hcur hd0
        E hE hnone
      refine ⟨hpos, hso, hd0, P, Q ++ (seqApplied 0 (dataB E)).2, ?_, ?_, ?_, ?_, ?_⟩
      · rw [hsame.1, happE, show (crash T).applied = T.applied from rfl, happ, List.append_assoc]
      · exact hsub.trans (List.sublist_append_left _ _)
      · rw [hB]; exact hspec
      · -- transactional: every executed command is covered by a position write, and there is none
        intro htxn
        have hdE : dataB E = [] := List.eq_nil_iff_forall_not_mem.mpr (fun x hx => by
          obtain ⟨y, hy⟩ := dataB_key hx
          obtain ⟨o1, ho1, _⟩ := hcov htxn y hy
          rw [hnone] at ho1; cases ho1)
        rw [hdE, hexact htxn]; exact List.append_nil _
      · have := Replayed.life hrep [] (seqApplied 0 (dataB E)).2
          (by rw [List.append_nil, hspec]; exact List.prefix_append _ _)
          (by rw [List.append_nil, hspec, List.drop_left]; exact hpre)
        rwa [List.append_nil, List.append_nil] at this
    · -- the last position write of this life; its database is a real one
      obtain ⟨hdb, hoE, hspecB, happE, hX⟩ := cut_executed pc d sc B o evs hitems hrawB hloB ho0 hnd hnnB hnfB
        hselB hmap (crash T) hcur hd0 E E1 E2 o' hE hsplit d' hdd'
      have hd' : 0 ≤ d' := by
        rw [hdb]
        exact seqApplied_db_nonneg _ _ hd0 (parseAll_select_db_nonneg pc _ _
          (fun x hx => hselB x (List.mem_filter.mp hx).1) hmapnn)
      rw [← hB, filter_gt_filter raws o o' hoE] at hspecB hX
      rw [hB] at hspecB
      generalize (seqApplied d (itemCmds (parseAll pc { lastSent := o }
        (B.filter (fun r => decide (r.off ≤ o')))))).2 = S1 at hspecB happE
      have hS : specStream pc false 0 raws =
          (P ++ S1) ++ specStream pc false d' (raws.filter (fun r => decide (o' < r.off))) := by
        rw [hspec, hspecB, List.append_assoc]
      refine ⟨hpos, Int.le_trans hso hoE, hd', P ++ S1, Q ++ S1 ++ (seqApplied d' (dataB E2)).2,
        ?_, ?_, hS, ?_, ?_⟩
      · rw [hsame.1, happE, show (crash T).applied = T.applied from rfl, happ]
        simp only [List.append_assoc]
      · exact (hsub.append (List.Sublist.refl _)).trans (List.sublist_append_left _ _)
      · -- transactional: nothing executed after the last position write
        intro htxn
        subst hsplit
        rw [no_data_after_last_cp (keysB_prefix_ordered sc evs
          (resumed_parser_feeds_smono _ B o evs hitems hrawB hloB ho0) hE) (hcov htxn) hlast, hexact htxn]
        exact List.append_nil _
      · -- the next piece of the specification, then the overshoot
        exact Replayed.life hrep _ _ (by rw [hS]; exact List.prefix_append _ _)
          (by rw [hS, List.drop_left]; exact hX)


/-- **... and a run that finishes completes the stream.** After any number of
    lives, let one more resumed run finish (ticker mode, any schedule, closed by
    `done`): the target then holds, since the beginning, `Q ++ S` where the
    specification of the WHOLE stream `P ++ S` is a subsequence of it, in order --
    every source write has been executed, in its database; and after
    transactional resumable lives the target holds EXACTLY the specification. -/
theorem lives_then_complete (pc : PCfg) (raws : List Raw) (start : Int) (t0 : TState) (txn : Bool)
    (hraw : (raws.map (·.off)).Pairwise (· < ·)) (hlo : ∀ r ∈ raws, start < r.off)
    (hstart : 0 ≤ start)
    (hnest : RawNoNested false raws)
    (hpass : ∀ r ∈ raws, (r.cmd = bMulti ∨ r.cmd = bExec) →
      pc.filterCmd r.cmd = false ∧ (pc.filterCmdKey r.cmd r.args).isSome)
    (hnf : parseFails pc { lastSent := start } raws = false)
    (hsel : ∀ x ∈ raws, x.cmd = bSelect → ∀ a n, x.args = [a] → atoi? a = some n → 0 ≤ n)
    (hmapnn : ∀ n : Int, 0 ≤ n → 0 ≤ mapDb pc n)
    (hno : NoOffsets t0.cps)
    (T : TState) (o d : Int) (h : Lives pc raws start t0 txn T o d)
    (sc : SCfg) (hsc : sc.txnMode = false) (evs : List Ev)
    (hitems : itemsOf evs =
      parserItems { pc with startDbId := d } o (raws.filter (fun r => decide (o < r.off))))
    (hnd : C01.NoDone evs) :
    ∃ Q', (applyLog (crash T) (run sc initS (evs ++ [.done])).2.flatten).applied = t0.applied ++ Q' ∧
      List.Sublist (specStream pc false 0 raws) Q' ∧
      (txn = true → Q' = specStream pc false 0 raws) := by
  obtain ⟨_, _, hd0, P, Q, happ, hsub, hspec, hexact, _⟩ := lives_lose_nothing pc raws start t0 txn hraw hlo
    hstart hnest hpass hnf hsel hmapnn hno T o d h
  have hmap := mapDb_ne_of_nonneg pc hmapnn
  have hBsub : List.Sublist (raws.filter (fun r => decide (o < r.off))) raws := List.filter_sublist
  have hnnB := run2_items_noNested_src pc raws o hraw hnest hpass
  have hnnB' : ItemsNoNested false (parseAll { pc with startDbId := d } { lastSent := o }
      (raws.filter (fun r => decide (o < r.off)))) := by rw [parseAll_setDb]; exact hnnB
  have hall := resumed_executed_all { pc with startDbId := d } sc hsc _ evs o hitems hnd hnnB' (crash T) rfl
  have hs := restart_at_start_is_spec { pc with startDbId := d } (raws.filter (fun r => decide (o < r.off))) o
    (fun x hx => hsel x (hBsub.subset hx)) (fun n hn => by rw [mapDb_setDb]; exact hmap n hn) hd0
  rw [specStream_setDb] at hs
  have hc : (crash T).cur = 0 := rfl
  have ha : (crash T).applied = T.applied := rfl
  rw [hc, hs, ha, happ, List.append_assoc] at hall
  refine ⟨_, hall, ?_, ?_⟩
  · rw [hspec]; exact hsub.append (List.Sublist.refl _)
  · intro htxn; rw [hexact htxn, hspec]


/-! ### Non-vacuity: two lives of the example stream of `Props/C02TwoRuns.lean` -/

/-- decidable form of `UniqueMax` for a concrete checkpoint table -/
def uniqueMaxB (cps : List (Int × CpRec)) (d o : Int) : Bool :=
  decide ((getCp cps d).offset = some o) &&
  cps.all (fun p => p.1 == d ||
    (match (getCp cps p.1).offset with
     | some o' => decide (o' < o)
     | none => true))

theorem uniqueMaxB_spec (cps : List (Int × CpRec)) (d o : Int) (h : uniqueMaxB cps d o = true) :
    UniqueMax cps d o := by
  simp only [uniqueMaxB, Bool.and_eq_true, decide_eq_true_eq] at h
  refine ⟨h.1, ?_⟩
  intro d' hd' o' ho'
  cases hl : cps.lookup d' with
  | none => simp [getCp, hl] at ho'
  | some r =>
    have hm := lookup_mem cps d' r hl
    have := List.all_eq_true.mp h.2 (d', r) hm
    have hne : (d' == d) = false := by simpa using hd'
    simp only [hne, Bool.false_or, ho', decide_eq_true_eq] at this
    exact this

def lvT1 : TState := applyLog (crash trT) ((run trCfg initS trEvs1).2.flatten.take 5)
def lvEvs2 : List Ev :=
  (parserItems { trPc with startDbId := 5 } 50 (trRaws.filter (fun r => decide (50 < r.off)))).map Ev.item
    ++ [.cpTick, .batchTick]
def lvT2 : TState := applyLog (crash lvT1) ((run trCfg initS lvEvs2).2.flatten.take 6)

theorem lvLives1 : Lives trPc trRaws 0 trT false lvT1 50 5 :=
  Lives.life Lives.init trCfg trEvs1 5 50 5 (by decide +kernel) trEvs1_noDone (fun h => by cases h)
    (Or.inr (uniqueMaxB_spec _ _ _ (by decide +kernel)))

/-- life 1 dies one command beyond the position 50 it stored in database 5; life 2,
    resumed there, dies right after storing 160 in database 7 -/
theorem lvLives : Lives trPc trRaws 0 trT false lvT2 160 7 :=
  Lives.life lvLives1 trCfg lvEvs2 6 160 7 (by decide +kernel)
    (by unfold GunYu.Props.C01.NoDone; decide +kernel) (fun h => by cases h)
    (Or.inr (uniqueMaxB_spec _ _ _ (by decide +kernel)))

example : lvT2.cps = [(7, { offset := some 160, hasRunId := true }), (5, { offset := some 50, hasRunId := true })] := by
  decide +kernel
/-- what the target executed over both lives: `set b 2` twice (the `X` of life 1) -/
example : lvT2.applied =
    [ { db := 5, name := [115,101,116], args := [[97],[49]] },
      { db := 5, name := [115,101,116], args := [[98],[50]] },
      { db := 5, name := [115,101,116], args := [[98],[50]] },
      { db := 7, name := [100,101,108], args := [[98]] } ] := by decide +kernel
example : RawNoNested false trRaws := trRaws_noNested
example : ∀ r ∈ trRaws, (r.cmd = bMulti ∨ r.cmd = bExec) →
    trPc.filterCmd r.cmd = false ∧ (trPc.filterCmdKey r.cmd r.args).isSome := by
  intro r _ _; exact ⟨rfl, rfl⟩
/-- `lives_lose_nothing` instantiated on the two lives -/
example : True := by
  have := lives_lose_nothing trPc trRaws 0 trT false trRaws_sorted trRaws_above (by omega) trRaws_noNested
    (fun r _ _ => ⟨rfl, rfl⟩) trRaws_parses trRaws_selOK (mapDb_nonneg trPc rfl (by decide +kernel))
    (fun d => rfl) lvT2 160 7 lvLives
  trivial


/-! More instances: a transactional `Lives`, the
    branch without any stored position (`life_nocp`), `lives_then_complete`, and
    `crash_then_resume_txn_exact`. -/

def lvT1tx : TState := applyLog (crash trT) ((run trCfgTx initS trEvs1).2.flatten.take 10)
/-- a transactional life: dies inside its second block, position 77 in database 5 -/
theorem lvLivesTx : Lives trPc trRaws 0 trT true lvT1tx 77 5 :=
  Lives.life Lives.init trCfgTx trEvs1 10 77 5 (by decide +kernel) trEvs1_noDone
    (fun _ => ⟨rfl, rfl⟩)
    (Or.inr (uniqueMaxB_spec _ _ _ (by decide +kernel)))
example : True := by
  have := lives_lose_nothing trPc trRaws 0 trT true trRaws_sorted trRaws_above (by omega) trRaws_noNested
    (fun r _ _ => ⟨rfl, rfl⟩) trRaws_parses trRaws_selOK (mapDb_nonneg trPc rfl (by decide +kernel))
    (fun d => rfl) lvT1tx 77 5 lvLivesTx
  trivial
/-- exactly the specification up to 77, nothing twice -/
example : lvT1tx.applied =
    [ { db := 5, name := [115,101,116], args := [[97],[49]] },
      { db := 5, name := [115,101,116], args := [[98],[50]] } ] := by decide +kernel

/-- a life that dies after ONE request: no position stored (`StartsAt`'s first
    branch, `life_nocp`); the next life starts at the beginning again -/
def lvT0 : TState := applyLog (crash trT) ((run trCfg initS trEvs1).2.flatten.take 1)
theorem lvLivesNone : Lives trPc trRaws 0 trT false lvT0 0 0 :=
  Lives.life Lives.init trCfg trEvs1 1 0 0 (by decide +kernel) trEvs1_noDone (fun h => by cases h)
    (Or.inl ⟨by
      have hc : (applyLog (crash trT) ((run trCfg initS trEvs1).2.flatten.take 1)).cps = [] := by decide +kernel
      intro d; rw [hc]; rfl, rfl, rfl⟩)

/-- `lives_then_complete` after life 1: the run resumed at (5, 50) finishes -/
example : True := by
  have := lives_then_complete trPc trRaws 0 trT false trRaws_sorted trRaws_above (by omega) trRaws_noNested
    (fun r _ _ => ⟨rfl, rfl⟩) trRaws_parses trRaws_selOK (mapDb_nonneg trPc rfl (by decide +kernel))
    (fun d => rfl) lvT1 50 5 lvLives1 trCfg rfl lvEvs2 (by decide +kernel)
    (by unfold GunYu.Props.C01.NoDone; decide +kernel)
  trivial

/-- `crash_then_resume_txn_exact` on the example stream -/
example : True := by
  have := crash_then_resume_txn_exact trPc trCfgTx rfl rfl trRaws 0 trEvs1 trEvs1_items
    trRaws_sorted trRaws_above (by omega) trEvs1_noDone (nonNegB_spec trEvs1 (by decide +kernel))
    trItems_noNested trRaws_parses trRaws_selOK (mapDb_ok trPc rfl (by decide +kernel))
    trT rfl rfl rfl 10
  trivial

end GunYu.Props.C02
