/-
  C02 for the IN-MEMORY position (`EnableResumeFromBreakPoint` off): the same
  process runs `sendAof` again after a source reconnect (`Model/SenderMem.lean`).
  The pair `setMemCP` leaves in `checkpointInMem.Offset` / `checkpointInMemDb` is the
  last `<rid>_offset`, and the connection's database there, on the wire of the
  resumable twin (`resumeOn c`) run on the same schedule, and both targets execute
  the same data. So what `Props.C01.leave_then_resume` proves about a crash at the
  end of a resumable run holds for the in-process re-run (`rerun_then_resume`). In
  transactional mode the position moves with every flush the twin stores a position
  with (the defect repaired in 4336a6b was a position that never moved there).
-/
import GunYu.Props.C01Exit
import GunYu.Proofs.SenderMem

namespace GunYu.Props.C02
open GunYu GunYu.Sender GunYu.Target

theorem runLeaveM_eq_runM (c : SCfg) (evs : List Ev) (l : Leave) :
    ∀ (s : SState) (m : Mem), C01.NoDone evs → runLeaveM c s m evs l = runM c s m (evs ++ lastEv l) := by
  induction evs with
  | nil =>
    intro s m _
    cases l with
    | doneCase => simp [runLeaveM, leaveStepM, lastEv, runM]
    | otherCase ev =>
      by_cases h : ev = Ev.done
      · subst h; simp [runLeaveM, leaveStepM, lastEv, runM]
      · simp [runLeaveM, leaveStepM, lastEv, runM, h]
    | atOnce => rfl
  | cons ev rest ih =>
    intro s m hnd
    have hne : ev ≠ Ev.done := hnd ev (List.mem_cons_self ..)
    have hrest : C01.NoDone rest := fun e he => hnd e (List.mem_cons_of_mem _ he)
    simp only [runLeaveM, List.cons_append, runM, hne, ↓reduceIte]
    exact ih _ _ hrest

/-- **The in-memory position is the resumable twin's stored position.** -/
theorem mem_is_twin_position (c : SCfg) (hr : c.resume = false) (evs : List Ev) (l : Leave)
    (hnd : C01.NoDone evs)
    (hsel : ∀ ev ∈ evs ++ lastEv l, ∀ it, ev = .item it → SelOK it)
    (t : TState) (hcur : t.cur = 0) (hinv : RunIdInv t) (m : Mem) :
    bodies (runLeave c initS evs l).2 = noCp (bodies (runLeave (resumeOn c) initS evs l).2) ∧
    memOf t m (bodies (runLeave (resumeOn c) initS evs l).2) = runLeaveM c initS m evs l ∧
    unsent (runLeave (resumeOn c) initS evs l) = unsent (runLeave c initS evs l) := by
  rw [C01.runLeave_eq_run c initS evs l hnd, C01.runLeave_eq_run (resumeOn c) initS evs l hnd,
    runLeaveM_eq_runM c evs l initS m hnd]
  exact run_sim c hr (evs ++ lastEv l) initS [] t m (by intro _; rfl)
    ⟨by rw [hcur]; rfl, by intro d hd; simp [wk] at hd, hinv⟩
    (by intro i hi; simp [initS] at hi) hsel

/-- the target of the run and the target of its resumable twin have executed the same data -/
theorem mem_same_data (c : SCfg) (hr : c.resume = false) (evs : List Ev) (l : Leave)
    (hnd : C01.NoDone evs)
    (hsel : ∀ ev ∈ evs ++ lastEv l, ∀ it, ev = .item it → SelOK it)
    (t : TState) (hcur : t.cur = 0) (hinv : RunIdInv t) (hq : t.queued = none) :
    (applyLog t (runLeave c initS evs l).2.flatten).applied =
      (applyLog t (runLeave (resumeOn c) initS evs l).2.flatten).applied := by
  have hwf : ∀ c' : SCfg, AllWF (runLeave c' initS evs l).2 := by
    intro c'; rw [C01.runLeave_eq_run c' initS evs l hnd]; exact run_wf c' initS _
  rw [C01.applyLog_bodies _ (hwf c) t hq, C01.applyLog_bodies _ (hwf (resumeOn c)) t hq,
    (mem_is_twin_position c hr evs l hnd hsel t hcur hinv {}).1]
  exact (foldl_noCp _ t t rfl rfl).1

/-- **The in-process re-run from the in-memory position completes the stream.**
    `Props.C01.leave_then_resume` for a run with resume OFF: the position is the pair
    `(o, d)` that `setMemCP` left (`runLeaveM`, written in this run: `0 ≤ o`), the
    second run re-selects `d`. `T1` is the target of the REAL (non-resumable) run. -/
theorem rerun_then_resume (pc : PCfg) (sc1 : SCfg) (hr : sc1.resume = false) (raws : List Raw) (start0 : Int)
    (evs : List Ev) (l : Leave) (rest : List Item) (hnd : C01.NoDone evs)
    (hitems : itemsOf (evs ++ lastEv l) ++ rest = parseAll pc { lastSent := start0 } raws)
    (hraw : (raws.map (·.off)).Pairwise (· < ·)) (hlo : ∀ r ∈ raws, start0 < r.off)
    (hstart : 0 ≤ start0)
    (hnn : ItemsNoNested false (parseAll pc { lastSent := start0 } raws))
    (hnf : parseFails pc { lastSent := start0 } raws = false)
    (hsel : ∀ x ∈ raws, x.cmd = bSelect → ∀ a n, x.args = [a] → atoi? a = some n → 0 ≤ n)
    (hmap : ∀ n : Int, 0 ≤ n → mapDb pc n ≠ -1)
    (t : TState) (hcur : t.cur = 0) (hfresh : t.cps = []) (hq : t.queued = none)
    (o d : Int) (hm : runLeaveM sc1 initS {} evs l = { off := o, db := d }) (ho : 0 ≤ o)
    (hd : pc.startDbId = d) (hd0 : 0 ≤ d) :
    let T1 := applyLog t (runLeave sc1 initS evs l).2.flatten
    let A := raws.filter (fun r => decide (r.off ≤ o))
    let B := raws.filter (fun r => decide (o < r.off))
    let S1 := (seqApplied 0 (itemCmds (parseAll pc { lastSent := start0 } A))).2
    let S2 := (seqApplied 0 (itemCmds (parserItems pc o B))).2
    specStream pc false 0 raws = S1 ++ S2 ∧
    (∃ X, T1.applied = t.applied ++ S1 ++ X ∧ X <+: S2) ∧
    (∀ i ∈ unsent (runLeave sc1 initS evs l), o < i.offset) ∧
    (∀ (sc2 : SCfg) (evs2 : List Ev), itemsOf evs2 = parserItems pc o B → C01.NoDone evs2 →
      ItemsNoNested false (parseAll pc { lastSent := o } B) →
      (∃ more, T1.applied ++ S2 = (applyLog (crash T1) (run sc2 initS evs2).2.flatten).applied ++ more) ∧
      (sc2.txnMode = false →
        (applyLog (crash T1) (runLeave sc2 initS evs2 .doneCase).2.flatten).applied = T1.applied ++ S2)) := by
  intro T1 A B S1 S2
  have hinv : RunIdInv t := by
    intro d' o' h'; simp [getCp, hfresh] at h'
  have hselI : ∀ ev ∈ evs ++ lastEv l, ∀ it, ev = .item it → SelOK it := by
    intro ev hev it hit
    subst hit
    have h1 : it ∈ itemsOf (evs ++ lastEv l) := mem_itemsOf hev
    have h2 : it ∈ parseAll pc { lastSent := start0 } raws := by
      rw [← hitems]; exact List.mem_append_left _ h1
    exact parseAll_selOK pc raws _ hsel it h2
  obtain ⟨_, hmem, hun⟩ := mem_is_twin_position sc1 hr evs l hnd hselI t hcur hinv {}
  rw [hm] at hmem
  -- the position on the twin's wire
  have hsplit := memOf_split (bodies (runLeave (resumeOn sc1) initS evs l).2) t {}
  rw [hmem] at hsplit
  rcases hsplit with ⟨_, hbad⟩ | ⟨E1, E2, hW, hE2, hdb⟩
  · exfalso
    have : o = -1 := by
      have := congrArg Mem.off hbad
      simpa using this
    omega
  · have hdb' : pc.startDbId = (E1.foldl execReq t).cur := by rw [hd]; exact hdb.symm
    have hmain := C01.leave_then_resume pc (resumeOn sc1) raws start0 evs l rest hnd hitems hraw hlo hstart hnn hnf
      hsel hmap t hcur hfresh hq E1 E2 o hW hE2 hdb' (by rw [hd]; exact hd0)
    obtain ⟨_, hspec, ⟨X, hX, hXp, _⟩, hunsent, hsecond⟩ := hmain
    have happ : T1.applied = (applyLog t (runLeave (resumeOn sc1) initS evs l).2.flatten).applied :=
      mem_same_data sc1 hr evs l hnd hselI t hcur hinv hq
    have hsame : SameButCps (crash T1) (crash (applyLog t (runLeave (resumeOn sc1) initS evs l).2.flatten)) :=
      ⟨happ, rfl, rfl⟩
    refine ⟨hspec, ⟨X, by rw [happ]; exact hX, hXp⟩, ?_, ?_⟩
    · intro i hi
      apply hunsent i
      rw [hun]; exact hi
    · intro sc2 evs2 h1 h2 h3
      obtain ⟨⟨more, hmore⟩, hdone⟩ := hsecond sc2 evs2 h1 h2 h3
      refine ⟨⟨more, ?_⟩, ?_⟩
      · rw [happ, (applyLog_same _ _ _ hsame).1]; exact hmore
      · intro htx
        rw [happ, (applyLog_same _ _ _ hsame).1]; exact hdone htx

/-! ### Non-vacuity: a ticker-mode run with resume off -/

def memCfg : SCfg := { txnMode := false, resume := false, batchCount := 2, batchBytes := 1000 }
def memCfgTx : SCfg := { txnMode := true, resume := false, batchCount := 2, batchBytes := 1000 }
def memEvs : List Ev :=
  [ .item { cmd := bSelect, args := [[49]], offset := 1023, db := 1 },
    .item { cmd := [115,101,116], args := [[97],[98]], offset := 1050, db := 1 },
    .item { cmd := [115,101,116], args := [[99],[100]], offset := 1077, db := 1 },
    .cpTick,
    .item { cmd := [115,101,116], args := [[101],[102]], offset := 1104, db := 1 } ]

/-- ticker mode: the checkpoint tick moved the position to (1077, database 1); the command
    received afterwards is still queued, above the position -/
example : runLeaveM memCfg initS {} memEvs .atOnce = { off := 1077, db := 1 } := by decide +kernel
example : (unsent (runLeave memCfg initS memEvs .atOnce)).map (·.offset) = [1104] := by decide +kernel
/-- the Done case flushes and moves the position to the end -/
example : runLeaveM memCfg initS {} memEvs .doneCase = { off := 1104, db := 1 } := by decide +kernel
/-- transactional mode: every flush moves it (4336a6b) -/
example : runLeaveM memCfgTx initS {} memEvs .atOnce = { off := 1104, db := 1 } := by decide +kernel
/-- nothing consumed: the position stays what it was (D4: never the -1 placeholder) -/
example : runLeaveM memCfg initS { off := 77, db := 3 } [.cpTick, .keepaliveTick] .doneCase = { off := 77, db := 3 } := by
  decide +kernel
/-- the twin's wire carries the position where `mem_is_twin_position` says -/
example : memOf {} {} (bodies (runLeave (resumeOn memCfg) initS memEvs .atOnce).2) = { off := 1077, db := 1 } := by
  decide +kernel

end GunYu.Props.C02
