/-
  C06, second part: the retry loop and the collector.

  `GunYu.Props.C06` proves the property for one connection and for sequences of
  completed connections (`Reach`). Here:

  * the collector is C05's (`GunYu.Store.Disk.gc`, `GunYu.Store.Mem.gc`, imported,
    not copied): one pass of it is a `Collected` step on what the cache reports
    (`GunYu.Proofs.PsyncStore`), and a `Collected` step keeps `CacheWF` —
    including `contig`: equality on disk, `left ≤ l` in memory, where the
    snapshot's own offset stops being valid once the log no longer starts there —
    and `CacheOK` (`gc_keeps_disk`, `gc_keeps_memory`);
  * `RedisInput.Run`'s loop is the state machine `Loop` (Model/Psync.lean §9):
    attempts that fail at any call of `syncMeta` or later, `ErrCorrupted` followed
    by `DelRunId`, attempts whose INFO and PSYNC were answered by different
    sources (+CONTINUE under another id than INFO reported), with source changes,
    collector passes, cache and position losses in between. `loop_inv` shows the
    hypotheses of the single-connection theorems in every state it reaches,
    `loop_safe` / `loop_safe_stale` the property's statement for the next attempt.
-/
import GunYu.Props.C06
import GunYu.Props.C05
import GunYu.Proofs.PsyncStore

namespace GunYu.Props.C06
open GunYu GunYu.Psync GunYu.Store

theorem delOwn {c : Cache} (hc : CacheWF c) :
    CacheWF (c.delRunId c.runId) ∧ (c.delRunId c.runId).rdb = none ∧ (c.delRunId c.runId).aof = none := by
  obtain ⟨be, rid, rdb, aof⟩ := c
  cases be <;> simp only [Cache.delRunId]
  · -- disk ignores "" and "?": a cache under such a label holds nothing anyway
    split
    · rename_i h
      have hl := hc.label (h.elim .inl fun h => h.elim .inr fun h => absurd rfl h)
      exact ⟨hc, hl.1, hl.2⟩
    · exact ⟨wf_empty _ _, rfl, rfl⟩
  · rw [if_neg fun h => h.2.2.2 rfl]
    exact ⟨wf_empty _ _, rfl, rfl⟩

/-- a world is needed to name a run; its contents do not matter for `syncMeta` -/
def wAny : World := ⟨fun _ _ => 0, fun _ _ _ => 0⟩

/-! ## what a granted continuation says about the stored position -/

/-- when the source answered CONTINUE the stored position's id is one the source
    serves (or nothing was stored), and a position under the previous id, with the
    cache holding nothing under the current one, was checked against the switch
    offset by the source -/
theorem meta_cont_facts {s : Source} {sp : SP} {c : Cache} (hs : SourceWF s) (hc : CacheWF c)
    (hsp : SpWF sp) (hnf : (syncMeta s sp c).ps.full = false) (h0 : 0 ≤ sp.offset) :
    (sp.runId = s.id1 ∨ sp.runId = s.id2) ∧
      (sp.runId ≠ s.id1 → NotYetCurrent s c → sp.offset ≤ s.switchOff) := by
  have hm := run_mt wAny s sp c CData.empty
  rcases run_spec wAny sp CData.empty hs hc with hF | hK | hC
  · have := hF.full; rw [hm, hnf] at this; cases this
  · rcases hK.read with ⟨_, _, hout, hle, _⟩ | ⟨left, size, hr, hcase, _, _⟩
    · exact ⟨hout, fun _ hn => by have := hK.switch hn; omega⟩
    · rcases hcase with hi | ⟨hout, hlt⟩
      · have : sp.runId = qId := by simpa [SP.isInitial] using hi
        have := hsp this
        omega
      · refine ⟨hout, fun _ hn => ?_⟩
        have := hK.switch hn
        have := hc.left_le_latest hr
        omega
  · exact ⟨hC.sid.imp id And.left, fun h1 _ => (hC.sid.resolve_left h1).2⟩

theorem d1_of_meta {w : World} {s : Source} {t : Tgt} {c : Cache} (hs : SourceWF s) (hc : CacheWF c)
    (hag : Agree w s) (htr : Truthful w s t c) (hsp : SpWF t.stored)
    (hnf : (syncMeta s t.stored c).ps.full = false) (h0 : 0 ≤ t.stored.offset) :
    ∃ tid, t.truth = .at tid t.stored.offset ∧ AgreeBelow w tid s.id1 t.stored.offset := by
  obtain ⟨hin, hsw⟩ := meta_cont_facts hs hc hsp hnf h0
  exact truthful_prefix hag htr hin h0 hsw

theorem truthful_of_d1 {w : World} {s : Source} {tr : Truth} {x : Int}
    (h : 0 ≤ x → ∃ tid, tr = .at tid x ∧ AgreeBelow w tid s.id1 x) (l : Id) (c' : Cache) :
    Truthful w s ⟨⟨l, x⟩, tr⟩ c' := by
  intro _ h0
  obtain ⟨tid, ht, hd⟩ := h h0
  exact ⟨tid, ht, Or.inl hd⟩

theorem truthful_afterMeta (resume : Bool) {w : World} {s : Source} {t : Tgt} {c : Cache}
    (hs : SourceWF s) (hc : CacheWF c) (hag : Agree w s) (htr : Truthful w s t c) (hsp : SpWF t.stored)
    (c' : Cache) : Truthful w s (t.afterMeta resume (syncMeta s t.stored c)) c' := by
  unfold Tgt.afterMeta
  cases hf : (syncMeta s t.stored c).ps.full
  · cases resume <;> exact truthful_of_d1 (fun h0 => d1_of_meta hs hc hag htr hsp hf h0) _ c'
  · exact truthful_forget w s _ _ c' (.inr (by cases resume <;> exact (by decide : (-1 : Int) < 0)))

theorem spwf_afterMeta (resume : Bool) {s : Source} {t : Tgt} {c : Cache} (hs : SourceWF s) (hc : CacheWF c)
    (hsp : SpWF t.stored) : SpWF (t.afterMeta resume (syncMeta s t.stored c)).stored := by
  have hrid : (syncMeta s t.stored c).runId = s.id1 := (decisionL_row s t.stored c _).runId
  unfold Tgt.afterMeta SpWF
  cases hf : (syncMeta s t.stored c).ps.full <;> cases resume <;>
    simp only [Bool.false_eq_true, if_false, if_true, hrid, SP.initial]
  · exact hsp
  · intro h; exact absurd h hs.id1_nq
  · intro _; omega
  · intro _; omega

theorem spwf_afterSend (resume : Bool) {sP : Source} {t : Tgt} (hsp : SpWF t.stored) (r : Result)
    (hrid : r.mt.runId ≠ qId) (hstream : ∀ start byte, r.delivery = .stream start byte → t.stored.runId ≠ qId)
    (done : Bool) (e : Int) : SpWF (t.afterSend resume sP r done e).stored := by
  unfold Tgt.afterSend
  split
  · rename_i start byte hd
    split
    · intro x
      simp only at x
      cases resume
      · simp only [Bool.false_eq_true, if_false] at x; exact absurd x (hstream _ _ hd)
      · simp only [if_true] at x; exact absurd x hrid
    · exact hsp
  · cases done
    · simp only [Bool.false_eq_true, if_false]; intro _; simp [SP.initial]
    · simp only [if_true]; intro x; exact absurd x hrid
  · exact hsp

theorem spwf_step (resume : Bool) {w : World} {s : Source} {t : Tgt} {c : Cache} {d : CData}
    (hs : SourceWF s) (hc : CacheWF c) (hok : CacheOK w s c d) (hag : Agree w s) (hsp : SpWF t.stored)
    (done : Bool) (e : Int) : SpWF (step resume w s t c d done e).stored := by
  have hm := run_mt w s t.stored c d
  have hrid : (run w s t.stored c d).mt.runId ≠ qId := by rw [run_runId]; exact hs.id1_nq
  refine spwf_afterSend resume (by rw [hm]; exact spwf_afterMeta resume hs hc hsp) _ hrid (fun start byte hdel => ?_) done e
  obtain ⟨_, _, hfull, hin, _, _⟩ := stream_facts hs hc (keep_holds hc hok hag) hdel
  rw [afterMeta_cont resume t hfull]
  cases resume
  · exact (served_real hs hin).2
  · exact hrid

/-! ## one attempt, as far as it gets -/

theorem truthful_meta_cache {w : World} {s : Source} {t : Tgt} {c : Cache}
    (hs : SourceWF s) (hc : CacheWF c) (hag : Agree w s) (htr : Truthful w s t c) (hsp : SpWF t.stored) :
    Truthful w s t (syncMeta s t.stored c).cache := by
  cases hf : (syncMeta s t.stored c).ps.full
  · exact truthful_of_d1 (fun h0 => d1_of_meta hs hc hag htr hsp hf h0) _ _
  · have hF := (run_full (w := wAny) (d := CData.empty) hs hc hf).cache
    rw [run_mt] at hF
    exact truthful_cache_change w s t c _ htr (fun _ => Or.inr (by rw [hF]; exact ⟨rfl, rfl⟩))

/-- `ErrCorrupted` → `DelRunId(RunId())`: the cache is dropped, nothing else changes -/
theorem corrupted_inv (w : World) (σ : Sys) (h : Inv w σ) : Inv w σ.corrupted := by
  obtain ⟨hs, hag, hc, _, htr, hsp⟩ := h
  obtain ⟨a, b, c'⟩ := delOwn hc
  exact ⟨hs, hag, a, ok_empty w _ _ b c', truthful_cache_change w _ _ _ _ htr (fun _ => Or.inr ⟨b, c'⟩), hsp⟩

theorem inv_of_forgotten {w : World} {s : Source} (hs : SourceWF s) (hag : Agree w s) {c' : Cache} {d' : CData}
    (hc' : CacheWF c') (hok' : CacheOK w s c' d') {sp' : SP} (hf : sp'.offset < 0) (tr : Truth) :
    Inv w ⟨s, ⟨sp', tr⟩, c', d'⟩ :=
  ⟨hs, hag, hc', hok', truthful_forget w s sp' tr c' (.inr hf), fun _ => hf⟩

/-- **every attempt, however far it gets, keeps the invariant** -/
theorem attempt_inv (resume : Bool) (w : World) (σ : Sys) (st : Stage) (h : Inv w σ) (hfit : st.fits σ.s) :
    Inv w (attempt resume w σ st) := by
  obtain ⟨hs, hag, hc, hok, htr, hsp⟩ := h
  have hmc := meta_holds (w := w) (sp := σ.t.stored) (d := σ.d) hs hc (keep_holds hc hok hag)
  rw [run_mt] at hmc
  cases st with
  | early => exact ⟨hs, hag, hc, hok, htr, hsp⟩
  | cleared =>
    simp only [attempt]
    split
    · exact corrupted_inv w σ ⟨hs, hag, hc, hok, htr, hsp⟩
    · exact ⟨hs, hag, hc, hok, htr, hsp⟩
  | relabelled =>
    exact ⟨hs, hag, hmc.1, ok_of_cur hmc.2.1, truthful_meta_cache hs hc hag htr hsp, hsp⟩
  | reset =>
    simp only [attempt]
    cases hf : (syncMeta σ.s σ.t.stored σ.c).ps.full
    · exact ⟨hs, hag, hmc.1, ok_of_cur hmc.2.1, truthful_meta_cache hs hc hag htr hsp, hsp⟩
    · exact inv_of_forgotten hs hag hmc.1 (ok_of_cur hmc.2.1) (by decide) _
  | metaDone =>
    exact ⟨hs, hag, hmc.1, ok_of_cur hmc.2.1, truthful_afterMeta resume hs hc hag htr hsp _, spwf_afterMeta resume hs hc hsp⟩
  | written k =>
    obtain ⟨a, b, _⟩ := cache_consistent_after w σ.s σ.t.stored σ.c σ.d hs hc hok hag k hfit.1 hfit.2 _ rfl
    refine ⟨hs, hag, a, b, ?_, ?_⟩
    · simp only [attempt, run_mt]; exact truthful_afterMeta resume hs hc hag htr hsp _
    · simp only [attempt, run_mt]; exact spwf_afterMeta resume hs hc hsp
  | delivered done e k =>
    obtain ⟨a, b, _⟩ := cache_consistent_after w σ.s σ.t.stored σ.c σ.d hs hc hok hag k hfit.1 hfit.2 _ rfl
    exact ⟨hs, hag, a, b, truthful_preserved resume w σ.s σ.t σ.c σ.d hs hc hok hag htr done e k,
      spwf_step resume hs hc hok hag hsp done e⟩

/-! ## an attempt answered FULLRESYNC, whatever made it so -/

/-- the explicit outcome of a FULLRESYNC keeps the invariant at every stage -/
theorem fullAttempt_inv (resume : Bool) (w : World) (s : Source) (σ : Sys) (st : Stage)
    (h : Inv w ⟨s, σ.t, σ.c, σ.d⟩) (hfit : st.fits s) : Inv w (fullAttempt resume w s σ st) := by
  have hs : SourceWF s := h.src
  have hag : Agree w s := h.agree
  have hE := ok_empty w s (c := ⟨σ.c.backend, s.id1, none, none⟩) CData.empty rfl rfl
  have hneg : (if resume then (⟨s.id1, -1⟩ : SP) else SP.initial).offset < 0 := by
    cases resume <;> exact (by decide : (-1 : Int) < 0)
  cases st with
  | early => exact h
  | cleared => exact corrupted_inv w _ h
  | relabelled =>
    exact ⟨hs, hag, wf_empty _ _, hE, truthful_cache_change w _ _ _ _ h.tr (fun _ => Or.inr ⟨rfl, rfl⟩), h.sp⟩
  | reset => exact inv_of_forgotten hs hag (wf_empty _ _) hE (by decide) _
  | metaDone => exact inv_of_forgotten hs hag (wf_empty _ _) hE hneg _
  | written k =>
    obtain ⟨a, b⟩ := fresh_holds w hs σ.c.backend hfit.1 hfit.2
    exact inv_of_forgotten hs hag a (ok_of_cur b) hneg _
  | delivered done e k =>
    obtain ⟨a, b⟩ := fresh_holds w hs σ.c.backend hfit.1 hfit.2
    cases done
    · exact inv_of_forgotten hs hag a (ok_of_cur b) (by decide) _
    · exact ⟨hs, hag, a, ok_of_cur b, fun _ _ => ⟨s.id1, rfl, Or.inl (fun _ _ _ => rfl)⟩, fun x => absurd x hs.id1_nq⟩

/-- … and it is what `attempt` computes whenever the source answers FULLRESYNC -/
theorem attempt_full_eq (resume : Bool) (w : World) (σ : Sys) (st : Stage) (hs : SourceWF σ.s) (hc : CacheWF σ.c)
    (hf : (syncMeta σ.s σ.t.stored σ.c).ps.full = true) :
    attempt resume w σ st = fullAttempt resume w σ.s σ st := by
  have hm := run_mt w σ.s σ.t.stored σ.c σ.d
  have hF := run_full (w := w) (d := σ.d) hs hc hf
  have h1 := hF.cache; have h2 := hF.deleted; have h3 := hF.runId; have h4 := hF.after; have h5 := hF.data
  have h6 := hF.delivery
  rw [hm] at h1 h2 h3 h4
  cases st with
  | early => rfl
  | cleared => simp only [attempt, fullAttempt, h2, if_true]
  | relabelled => simp only [attempt, fullAttempt, h1, h2, if_true]
  | reset => simp only [attempt, fullAttempt, h1, h2, hf, if_true]
  | metaDone => simp only [attempt, fullAttempt, h1, h2, if_true, Tgt.afterMeta, hf, h3]
  | written k => simp only [attempt, fullAttempt, hm, h4, h5, Tgt.afterMeta, hf, if_true, h3]
  | delivered done e k =>
    simp only [attempt, fullAttempt, step, hm, h4, h5, Tgt.afterSend, h6, h3]

/-! ## INFO answered by one source, PSYNC by its successor -/

theorem mix_wf {sI sP : Source} (hI : SourceWF sI) (hP : SourceWF sP) : SourceWF (mix sI sP) := by
  have h1 := hP.first_pos
  have h2 := hP.len_nonneg
  -- the window kept is what of `sP`'s backlog lies at or below its switch offset
  have key : 0 ≤ (mix sI sP).backlogLen ∧ 0 ≤ (mix sI sP).masterOff := by
    simp only [mix]
    split
    · rename_i hok
      simp only [Bool.and_eq_true, decide_eq_true_eq] at hok
      split <;> omega
    · omega
  refine ⟨hI.id1_ne, hI.id1_nq, hI.id2_ne, hI.id2_nq, h1, key.1, fun hb => ?_, key.2, hP.snap_pos⟩
  simp only [mix] at hb ⊢
  rw [if_pos hb, if_pos hb]
  omega

/-- the view shares no prefix with a previous history (`switchOff = -2`): a request under INFO's
    previous id is never granted by it -/
theorem mix_agree (w : World) (sI sP : Source) : Agree w (mix sI sP) := by
  intro n h0 hn
  simp only [mix] at hn
  omega

/-- the view's backlog ends at the answering source's switch offset -/
theorem mix_bounds {sI sP : Source} (hP : SourceWF sP) :
    (mix sI sP).masterOff ≤ sP.masterOff ∧ ((mix sI sP).backlog = true → (mix sI sP).masterOff ≤ sP.switchOff) := by
  have hm := hP.master_nonneg
  simp only [mix]
  split
  · rename_i hb
    simp only [Bool.and_eq_true, decide_eq_true_eq] at hb
    have ht := hP.tail hb.1
    constructor
    · split <;> omega
    · intro _; split <;> omega
  · exact ⟨hm, fun h => absurd h ‹_›⟩

/-- **the view answers PSYNC as the answering source does**: for every request the
    attempt can make (under one of INFO's ids, or "?"), the view grants a
    continuation exactly when `sP` does -/
theorem mix_admits {sI sP : Source} (hP : SourceWF sP) (h2 : sP.id2 = sI.id1)
    (hB1 : sP.id1 ≠ sI.id1) (hB2 : sP.id1 ≠ sI.id2) (id : Id) (off : Int)
    (hid : id = sI.id1 ∨ id = sI.id2 ∨ id = qId) :
    (∃ n, admitPsync (mix sI sP) id off = .cont n) ↔ (∃ n, admitPsync sP id off = .cont n) := by
  have hf := hP.first_pos
  have hl := hP.len_nonneg
  rw [admit_cont_iff, admit_cont_iff]
  have hnB : id ≠ sP.id1 := by
    rcases hid with x | x | x <;> rw [x]
    · exact fun y => hB1 y.symm
    · exact fun y => hB2 y.symm
    · exact fun y => hP.id1_nq y.symm
  -- the view serves INFO's current id as `sP` serves its previous one: up to the switch offset
  have hL : (id = (mix sI sP).id1 ∨ (id = (mix sI sP).id2 ∧ off ≤ (mix sI sP).switchOff + 1)) ↔ (id = sI.id1 ∨ (id = sI.id2 ∧ off ≤ -1)) := Iff.rfl
  have hR : (id = sP.id1 ∨ (id = sP.id2 ∧ off ≤ sP.switchOff + 1)) ↔ (id = sI.id1 ∧ off ≤ sP.switchOff + 1) := by
    rw [h2]; exact ⟨fun h => h.resolve_left hnB, .inr⟩
  rw [hL, hR]
  cases hb : sP.backlog <;> simp only [mix, hb, Bool.false_and, Bool.true_and, Bool.false_eq_true, and_false, false_and,
    decide_eq_true_eq, if_false]
  by_cases hsw : sP.backlogFirst ≤ sP.switchOff + 1
  · simp only [hsw, if_true, true_and]
    constructor
    · rintro ⟨h | h, h3, h4⟩
      · exact ⟨⟨h, by split at h4 <;> omega⟩, h3, by split at h4 <;> omega⟩
      · omega
    · rintro ⟨⟨h, h5⟩, h3, h4⟩
      exact ⟨.inl h, h3, by split <;> omega⟩
  · simp only [hsw, if_false, false_and, and_false, false_iff]
    rintro ⟨⟨_, h5⟩, h3, _⟩
    omega

theorem holds_view_in {w : World} {sI sP : Source} (hag : Agree w sP) (h2 : sP.id2 = sI.id1) {c : Cache} {d : CData}
    (hc : CacheWF c) (hh : Holds w sI.id1 c d) (hle : c.latest ≤ sP.switchOff) :
    Holds (viewWorld w sI sP) sI.id1 c d := by
  have hAB : ∀ n, 0 ≤ n → n < sP.switchOff → w.hist sI.id1 n = w.hist sP.id1 n := by
    intro n h0 hn; rw [← h2]; exact hag n h0 hn
  refine hh.transfer (fun l r ha n h1 h3 => ?_) (fun left size hr n h0 hn e => ?_)
  · have := hc.aof_bounds ha
    rw [latest_aof ha] at hle
    exact (hAB n (by omega) (by omega)).trans (if_pos rfl).symm
  · have := hc.left_le_latest hr
    show (if d.rdbTok.1 = sI.id1 then _ else _) = if sI.id1 = sI.id1 then _ else _
    rw [if_pos rfl]
    split
    · rfl
    · exact e.trans (hAB n h0 (by omega))

theorem holds_view_out {w : World} {sI sP : Source} (hag : Agree w sP) (h2 : sP.id2 = sI.id1) {c : Cache} {d : CData}
    (hh : Holds (viewWorld w sI sP) sI.id1 c d)
    (hr : ∀ left size, c.rdb = some (left, size) → left ≤ sP.switchOff) : Holds w sP.id1 c d := by
  refine hh.transfer (fun l r ha n h1 h3 => if_pos rfl) (fun left size hr' n h0 hn e => ?_)
  have hl := hr left size hr'
  have e' : (if d.rdbTok.1 = sI.id1 then w.hist sP.id1 n else w.hist d.rdbTok.1 n) = w.hist sP.id1 n :=
    e.trans (if_pos rfl)
  split at e'
  · rename_i x; rw [x, ← h2]; exact hag n h0 (by omega)
  · exact e'

/-- the premises of a stale attempt: `sP` is `σ.s`'s successor under a new id -/
structure Successor (σ : Sys) (sP : Source) : Prop where
  prev : sP.id2 = σ.s.id1
  new1 : sP.id1 ≠ σ.s.id1
  new2 : sP.id1 ≠ σ.s.id2
  new3 : sP.id1 ≠ σ.t.stored.runId
  new4 : sP.id1 ≠ σ.c.runId

theorem change_inv {w : World} {σ : Sys} (ih : Inv w σ) {s' : Source} (hs' : SourceWF s') (hag' : Agree w s')
    (h1 : s'.id1 ≠ σ.t.stored.runId) (h2 : s'.id1 ≠ σ.c.runId)
    (h3 : s'.id2 = σ.t.stored.runId → σ.t.stored.runId = σ.s.id1)
    (h4 : s'.id2 = σ.c.runId → σ.c.runId = σ.s.id1) : Inv w ⟨s', σ.t, σ.c, σ.d⟩ :=
  ⟨hs', hag', ih.cwf, ok_change ih.cok h2 h4, truthful_source_change w σ.s s' σ.t σ.c ih.tr h1 h2 h3, ih.sp⟩

theorem stale_d1 {w : World} {σ : Sys} {sP : Source} (h : Inv w σ) (hP : SourceWF sP)
    (hnf : (syncMeta (mix σ.s sP) σ.t.stored σ.c).ps.full = false) (h0 : 0 ≤ σ.t.stored.offset) :
    ∃ tid, σ.t.truth = .at tid σ.t.stored.offset ∧ AgreeBelow w tid σ.s.id1 σ.t.stored.offset :=
  d1_of_meta (s := mix σ.s sP) (mix_wf h.src hP) h.cwf (mix_agree w σ.s sP)
    (truthful_same_ids w σ.s _ σ.t σ.c h.tr rfl rfl) h.sp hnf h0

theorem stale_truthful {w : World} {σ : Sys} {sP : Source} (h : Inv w σ) (hP : SourceWF sP) (hS : Successor σ sP)
    (hnf : (syncMeta (mix σ.s sP) σ.t.stored σ.c).ps.full = false)
    (l : Id) (hl : l = σ.t.stored.runId ∨ l = σ.s.id1) (c' : Cache) (hny : NotYetCurrent sP c') :
    Truthful w sP ⟨⟨l, σ.t.stored.offset⟩, σ.t.truth⟩ c' := by
  intro hin h0
  obtain ⟨tid, ht, hd⟩ := stale_d1 h hP hnf h0
  have hl2 : l = sP.id2 := by
    rcases hl with e | e
    · rcases hin with x | x
      · exact absurd (x.symm.trans e) hS.new3
      · exact x
    · exact e.trans hS.prev.symm
  refine ⟨tid, ht, Or.inr ⟨hl2, ?_, ?_, hny⟩⟩
  · show l ≠ sP.id1
    rw [hl2, hS.prev]; exact fun x => hS.new1 x.symm
  · show AgreeBelow w tid sP.id2 σ.t.stored.offset
    rw [hS.prev]; exact hd

/-- a cache the view keeps ends within the prefix the two histories share -/
theorem view_keep_holds {w : World} {σ : Sys} {sP : Source} (h : Inv w σ) (hP : SourceWF sP) (hagP : Agree w sP)
    (hS : Successor σ sP)
    (hK : KeepSpec (viewWorld w σ.s sP) (mix σ.s sP) σ.t.stored σ.c σ.d
      (run (viewWorld w σ.s sP) (mix σ.s sP) σ.t.stored σ.c σ.d)) :
    σ.c.latest ≤ sP.switchOff ∧ Holds w σ.s.id1 σ.c σ.d ∧ Holds (viewWorld w σ.s sP) σ.s.id1 σ.c σ.d := by
  have hcA : σ.c.runId = σ.s.id1 := by
    rcases hK.cid with e | ⟨_, e⟩
    · exact e
    · have := hK.lat_nonneg; simp only [mix] at e; omega
  have hlat : σ.c.latest ≤ sP.switchOff := by
    have := hK.lat_le; have := (mix_bounds (sI := σ.s) hP).2 hK.backlog; omega
  exact ⟨hlat, h.cok.cur hcA, holds_view_in hagP hS.prev h.cwf (h.cok.cur hcA) hlat⟩

/-- what a stale attempt granted CONTINUE leaves in the cache, seen from the successor -/
theorem stale_pack {w : World} {σ : Sys} {sP : Source} (h : Inv w σ) (hP : SourceWF sP) (hagP : Agree w sP)
    (hS : Successor σ sP)
    (hnf : (run (viewWorld w σ.s sP) (mix σ.s sP) σ.t.stored σ.c σ.d).mt.ps.full = false) :
    let r := run (viewWorld w σ.s sP) (mix σ.s sP) σ.t.stored σ.c σ.d
    r.mt.runId = σ.s.id1 ∧ CacheWF r.mt.cache ∧
      CacheOK w sP r.mt.cache (if r.mt.deleted then CData.empty else σ.d) ∧ r.mt.cache.runId = σ.s.id1 ∧
      (∀ k, 0 ≤ k → sP.masterOff + k ≤ maxInt64 →
        CacheWF (cacheAfter r.mt k) ∧ CacheOK w sP (cacheAfter r.mt k) r.data ∧ (cacheAfter r.mt k).runId = σ.s.id1) ∧
      (∀ start byte, r.delivery = .stream start byte → σ.t.stored.runId ≠ qId) := by
  have hs := h.src
  have hc := h.cwf
  have hsv := mix_wf hs hP
  have hvK := view_keep_holds h hP hagP hS
  have hhv := fun hK => (hvK hK).2.2
  intro r
  -- the snapshot held afterwards, if any, is the kept cache's: within the shared prefix
  have hrdb : ∀ k left size, (cacheAfter r.mt k).rdb = some (left, size) → left ≤ sP.switchOff := by
    intro k left size e
    rcases run_spec (viewWorld w σ.s sP) σ.t.stored σ.d hsv hc with hF | hK | hC
    · have := hF.full; rw [hnf] at this; cases this
    · rw [hK.after k] at e; have := hc.left_le_latest e; have := (hvK hK).1; omega
    · rw [hC.after k] at e; cases e
  -- what holds the view's history holds the successor's, read as its previous id's
  obtain ⟨mwf, mh, mid⟩ := meta_holds hsv hc hhv
  refine ⟨run_runId .., mwf, ok_of_cur (holds_view_out hagP hS.prev mh fun left size e => hrdb 0 left size ?_), mid,
    fun k hk hb => ?_, fun start byte hd => (served_real hs (stream_facts hsv hc hhv hd).2.2.2.1).2⟩
  · rw [cacheAfter_rdb hnf]; exact e
  · obtain ⟨a, b, c1⟩ := after_holds hsv hc hhv hk (by have := (mix_bounds (sI := σ.s) hP).1; omega)
    exact ⟨a, ok_of_cur (holds_view_out hagP hS.prev b (hrdb k)), c1⟩

/-- **a stale attempt, however far it gets, keeps the invariant** — for the source
    that answered PSYNC -/
theorem stale_inv (resume : Bool) (w : World) (σ : Sys) (sP : Source) (st : Stage) (h : Inv w σ)
    (hP : SourceWF sP) (hagP : Agree w sP) (hS : Successor σ sP) (hfit : st.fits sP) :
    Inv w (staleAttempt resume w σ sP st) := by
  -- the state seen from the successor, nothing done yet
  have hsucc := change_inv h hP hagP hS.new3 hS.new4 (fun e => e.symm.trans hS.prev) (fun e => e.symm.trans hS.prev)
  unfold staleAttempt
  simp only
  split
  · exact fullAttempt_inv resume w sP σ st hsucc hfit
  · rename_i hnf'
    have hnf := Bool.eq_false_iff.mpr hnf'
    obtain ⟨hrid, hmwf, hmok, hmid, hafter, hstream⟩ := stale_pack h hP hagP hS hnf
    have hm := run_mt (viewWorld w σ.s sP) (mix σ.s sP) σ.t.stored σ.c σ.d
    rw [hm] at hnf hrid hmwf hmok hmid
    have hsv := mix_wf h.src hP
    have hAB : σ.s.id1 ≠ sP.id1 := fun x => hS.new1 x.symm
    have hnyA : ∀ c' : Cache, c'.runId = σ.s.id1 → NotYetCurrent sP c' := fun c' e => Or.inl (by rw [e]; exact hAB)
    have htr0 : ∀ c', NotYetCurrent sP c' → Truthful w sP σ.t c' :=
      fun c' hny => stale_truthful h hP hS hnf _ (Or.inl rfl) c' hny
    -- CONTINUE: the position keeps its offset; in resume mode it is re-keyed to INFO's current id
    have hM : σ.t.afterMeta resume (syncMeta (mix σ.s sP) σ.t.stored σ.c) =
        ⟨⟨if resume then σ.s.id1 else σ.t.stored.runId, σ.t.stored.offset⟩, σ.t.truth⟩ := by
      rw [afterMeta_cont resume σ.t hnf, hrid]
    have htrM : ∀ c', NotYetCurrent sP c' →
        Truthful w sP (σ.t.afterMeta resume (syncMeta (mix σ.s sP) σ.t.stored σ.c)) c' := by
      intro c' hny
      rw [hM]
      exact stale_truthful h hP hS hnf _ (by cases resume; exact .inl rfl; exact .inr rfl) c' hny
    have hspM := spwf_afterMeta resume hsv h.cwf h.sp
    cases st with
    | early => exact hsucc
    | cleared =>
      simp only [attempt]
      split
      · exact corrupted_inv w _ hsucc
      · exact hsucc
    | relabelled => exact ⟨hP, hagP, hmwf, hmok, htr0 _ (hnyA _ hmid), h.sp⟩
    | reset =>
      simp only [attempt, hnf, Bool.false_eq_true, if_false]
      exact ⟨hP, hagP, hmwf, hmok, htr0 _ (hnyA _ hmid), h.sp⟩
    | metaDone => exact ⟨hP, hagP, hmwf, hmok, htrM _ (hnyA _ hmid), hspM⟩
    | written k =>
      obtain ⟨a, b, c1⟩ := hafter k hfit.1 hfit.2
      refine ⟨hP, hagP, a, b, ?_, ?_⟩
      · simp only [attempt, hm]; rw [hm] at c1; exact htrM _ (hnyA _ c1)
      · simp only [attempt, hm]; exact hspM
    | delivered done e k =>
      obtain ⟨a, b, c1⟩ := hafter k hfit.1 hfit.2
      refine ⟨hP, hagP, a, b, ?_, ?_⟩
      · simp only [hm]; rw [hm] at c1
        exact truthful_afterSend resume hP _ done e fun _ => htrM _ (hnyA _ c1)
      · simp only [hm]
        refine spwf_afterSend resume hspM _ ?_ ?_ done e
        · rw [hm, hrid]; exact h.src.id1_nq
        · intro start byte hd
          rw [hM]
          cases resume
          · exact hstream start byte hd
          · exact h.src.id1_nq

/-! ## every sequence of attempts and faults -/

/-- **invariant of the retry loop**: in every state reachable by attempts that fail
    at any stage (with or without `ErrCorrupted`), stale attempts, source changes,
    collector passes, cache and position losses, the hypotheses of the
    single-connection theorems hold. -/
theorem loop_inv (w : World) (σ : Sys) (h : Loop w σ) : Inv w σ := by
  have ended : ∀ (corrupted : Bool) {σ' : Sys}, Inv w σ' → Inv w (if corrupted then σ'.corrupted else σ') :=
    fun corrupted σ' h' => by cases corrupted; exact h'; exact corrupted_inv w σ' h'
  induction h with
  | init s be hs hag =>
    exact ⟨hs, hag, wf_empty _ _, ok_empty w _ _ rfl rfl, truthful_initially w s hs _, fun _ => by simp [SP.initial]⟩
  | attempt σ resume st corrupted _ hfit ih =>
    exact ended corrupted (attempt_inv resume w σ st ih hfit)
  | stale σ sP resume st corrupted _ hP hagP h2 h3 h4 h5 h6 hfit ih =>
    exact ended corrupted (stale_inv resume w σ sP st ih hP hagP ⟨h2, h3, h4, h5, h6⟩ hfit)
  | fullBy σ s' resume st corrupted _ hs' hag' h1 h2 h3 h4 hfit ih =>
    exact ended corrupted (fullAttempt_inv resume w s' σ st (change_inv ih hs' hag' h1 h2 h3 h4) hfit)
  | same σ s' _ hs' hag' h1 h2 ih =>
    exact ⟨hs', hag', ih.cwf, ok_same ih.cok h1 h2, truthful_same_ids w σ.s s' σ.t σ.c ih.tr h1 h2, ih.sp⟩
  | change σ s' _ hs' hag' h1 h2 h3 h4 ih => exact change_inv ih hs' hag' h1 h2 h3 h4
  | gc σ c' _ hcol ih =>
    exact ⟨ih.src, ih.agree, collected_wf ih.cwf hcol, collected_ok ih.cok hcol,
      truthful_cache_change w σ.s σ.t σ.c c' ih.tr (collected_notYetCurrent hcol), ih.sp⟩
  | cache σ c' d' _ hc' hok' hl ih =>
    exact ⟨ih.src, ih.agree, hc', hok', truthful_cache_change w σ.s σ.t σ.c c' ih.tr hl, ih.sp⟩
  | forget σ sp' _ hf ih =>
    exact ⟨ih.src, ih.agree, ih.cwf, ih.cok,
      truthful_forget w σ.s sp' σ.t.truth σ.c (hf.imp (fun h => ⟨h.1, h.2.1⟩) id),
      fun e => hf.elim (fun h => absurd e h.2.2) id⟩

/-- **the property over every sequence of attempts and faults**: whatever the next
    attempt hands the sender as log starts exactly at the offset the target's data
    ends at (the stored offset: the one it asked for), the target's data is a prefix
    of the source's current history up to there, and every byte from there on is
    that history's — no gap, no other history. Anything else it hands over is a
    snapshot (`loop_next_outcomes`). -/
theorem loop_safe (w : World) (σ : Sys) (h : Loop w σ) (start : Int) (byte : Int → UInt8)
    (hd : (run w σ.s σ.t.stored σ.c σ.d).delivery = .stream start byte) :
    start = σ.t.stored.offset ∧
    ∃ tid, σ.t.truth = .at tid start ∧ AgreeBelow w tid σ.s.id1 start ∧
      ∀ n, start ≤ n → byte n = w.hist σ.s.id1 n := by
  obtain ⟨hs, hag, hc, hok, htr, _⟩ := loop_inv w σ h
  exact continues_what_the_target_holds w σ.s σ.t σ.c σ.d hs hc hok hag htr start byte hd

/-- the next attempt's outcomes: a log from the stored offset granted under an id
    the source serves (the id asked for: the cache's when the cache is kept, the
    stored position's when it is cleared), or a snapshot: the source's own after
    FULLRESYNC, or the cached one followed by the cached log, which the stored
    position does not reach beyond -/
theorem loop_next_outcomes (w : World) (σ : Sys) (h : Loop w σ) :
    let r := run w σ.s σ.t.stored σ.c σ.d
    (r.mt.ps.full = true ∧ r.delivery = .snapshot (σ.s.id1, σ.s.masterOff) σ.s.masterOff σ.s.snapLen) ∨
    (r.mt.ps.full = false ∧
      ((r.mt.ps.reqId = σ.c.runId ∧ r.mt.ps.wireOff = σ.c.latest + 1) ∨
        (r.mt.ps.reqId = σ.t.stored.runId ∧ r.mt.ps.wireOff = σ.t.stored.offset + 1)) ∧
      ((∃ byte, r.delivery = .stream σ.t.stored.offset byte) ∨
        (∃ left size, σ.c.rdb = some (left, size) ∧ r.delivery = .snapshot σ.d.rdbTok left size ∧
          (σ.t.stored.isInitial = true ∨ σ.t.stored.offset < left)))) := by
  obtain ⟨hs, _, hc, _, _, _⟩ := loop_inv w σ h
  intro r
  rcases run_spec w σ.t.stored σ.d hs hc with hF | hK | hC
  · exact Or.inl ⟨hF.full, hF.delivery⟩
  · refine Or.inr ⟨hK.full, Or.inl ⟨hK.reqId, hK.wire⟩, ?_⟩
    rcases hK.read with ⟨_, hdel, _⟩ | ⟨left, size, hr, hcase, _, hdel⟩
    · exact Or.inl ⟨_, hdel⟩
    · exact Or.inr ⟨left, size, hr, hdel, hcase.imp id And.right⟩
  · exact Or.inr ⟨hC.full, Or.inr ⟨hC.reqId, hC.wire⟩, Or.inl ⟨_, hC.delivery⟩⟩

/-- **the same for an attempt whose INFO and PSYNC were answered by different
    sources** (the successor `sP` grants +CONTINUE under its own new id; the attempt
    keeps the id INFO reported): the log handed over starts exactly where the
    target's data ends, that data is a prefix of the *successor's* current history
    (it lies within the prefix the two histories share), and every byte from there
    on is the successor's. Otherwise the attempt ends in a FULLRESYNC from the
    successor (`staleAttempt`, `fullAttempt`) or replays the cached snapshot, which
    lies in the shared prefix too. -/
theorem loop_safe_stale (w : World) (σ : Sys) (h : Loop w σ) (sP : Source) (hP : SourceWF sP) (hagP : Agree w sP)
    (hS : Successor σ sP)
    (hnf : (run (viewWorld w σ.s sP) (mix σ.s sP) σ.t.stored σ.c σ.d).mt.ps.full = false) :
    let r := run (viewWorld w σ.s sP) (mix σ.s sP) σ.t.stored σ.c σ.d
    (∀ start byte, r.delivery = .stream start byte →
      start = σ.t.stored.offset ∧ start ≤ sP.switchOff ∧
      ∃ tid, σ.t.truth = .at tid start ∧ AgreeBelow w tid sP.id1 start ∧
        ∀ n, start ≤ n → byte n = w.hist sP.id1 n) ∧
    (∀ tok left size, r.delivery = .snapshot tok left size →
      tok = σ.d.rdbTok ∧ tok.2 = left ∧ left ≤ sP.switchOff ∧ AgreeBelow w tok.1 sP.id1 left) := by
  have hinv := loop_inv w σ h
  have hs := hinv.src
  have hc := hinv.cwf
  have hsv := mix_wf hs hP
  have hAB : ∀ n, 0 ≤ n → n < sP.switchOff → w.hist σ.s.id1 n = w.hist sP.id1 n := by
    intro n h0 hn; rw [← hS.prev]; exact hagP n h0 hn
  have hm := run_mt (viewWorld w σ.s sP) (mix σ.s sP) σ.t.stored σ.c σ.d
  have hvK := view_keep_holds hinv hP hagP hS
  intro r
  constructor
  · intro start byte hd
    obtain ⟨e, h0, _, _, hb, _⟩ := stream_facts hsv hc (fun hK => (hvK hK).2.2) hd
    subst e
    obtain ⟨tid, ht, hag1⟩ := stale_d1 hinv hP (by rw [← hm]; exact hnf) h0
    -- the view's backlog ends at the successor's switch offset
    have hle : σ.t.stored.offset ≤ sP.switchOff := by
      obtain ⟨_, h1, h2⟩ := stream_start hsv hc hd
      have := (mix_bounds (sI := σ.s) hP).2 h2; omega
    refine ⟨rfl, hle, tid, ht, fun n hn0 hn => (hag1 n hn0 hn).trans (hAB n hn0 (by omega)), fun n hn => ?_⟩
    -- the view's history under INFO's id is the successor's
    exact (hb n hn).trans (if_pos rfl)
  · intro tok left size hd
    rcases run_spec (viewWorld w σ.s sP) σ.t.stored σ.d hsv hc with hF | hK | hC
    · have := hF.full; rw [hnf] at this; cases this
    · rcases hK.read with ⟨_, hdel, _⟩ | ⟨left', size', hr, _, _, hdel⟩ <;> rw [hdel] at hd <;> cases hd
      -- the cached snapshot lies before the cache's end, within the shared prefix
      obtain ⟨hlat, hHA, _⟩ := hvK hK
      have hll := hc.left_le_latest hr
      have h1 := hHA.rdb_tok; rw [hr] at h1
      exact ⟨rfl, h1.1, by omega, fun n h0 hn => (h1.2 n h0 hn).trans (hAB n h0 (by omega))⟩
    · rw [hC.delivery] at hd; cases hd

/-! ## the collector is C05's

  `Store.Disk` / `Store.Mem` are C05's models of the two cache backends; their
  collectors are `Disk.gc` (operation `.gc`) and `Mem.gc` (run by `ensureLocked`
  inside every append). `ofDisk` / `ofMem` compute what the channel's query API
  reports of such a state — the `Cache` that `syncMeta` works on. -/

/-- **disk**: in every state C05's operation lists reach, one collector pass is a
    `Collected` step on what the channel reports, the reported log starts exactly at
    the reported snapshot's offset (`contig`, disk form), and the pass keeps
    `CacheWF` (all of it, `contig` included) and `CacheOK` for any source -/
theorem gc_keeps_disk (l m : Nat) (ops : List DOp) (hwf : (Disk.init l m).wf ops) :
    let s := (Disk.init l m).run ops
    (s.step .gc).1 = s.gc ∧ Collected (ofDisk s) (ofDisk s.gc) ∧
    (match (ofDisk s).rdb, (ofDisk s).aof with
      | some (left, _), some (lo, _) => lo = left
      | _, _ => True) ∧
    ∀ (w : World) (src : Source) (d : CData), CacheWF (ofDisk s) → CacheOK w src (ofDisk s) d →
      CacheWF (ofDisk s.gc) ∧ CacheOK w src (ofDisk s.gc) d := by
  intro s
  have hi : DInv s := (DInv.init l m).run ops hwf
  exact ⟨rfl, disk_gc_collected hi, disk_contig hi, fun w src d hc hok => disk_gc_keeps hi hc hok⟩

/-- **memory**: the same for `Mem.gc`, for any amount `need` it is asked to free. Here
    the log's first offset may move past the snapshot's (`CacheWF.contig`, memory
    form `left ≤ lo`): the collector drops the oldest log segments and keeps the
    snapshot offered, whose own offset `inRange` then no longer accepts. -/
theorem gc_keeps_memory (l m : Nat) (ops : List MOp) (need : Nat) :
    let s := (Mem.init l m).run ops
    Collected (ofMem s) (ofMem (s.gc need)) ∧
    ∀ (w : World) (src : Source) (d : CData), CacheWF (ofMem s) → CacheOK w src (ofMem s) d →
      CacheWF (ofMem (s.gc need)) ∧ CacheOK w src (ofMem (s.gc need)) d := by
  intro s
  have hi : MemInv s := C05.mem_invariant l m ops
  exact ⟨mem_gc_collected hi need, fun w src d hc hok => mem_gc_keeps hi need hc hok⟩

/-- the reported log range is C05's abstract log, and the bytes in it are the bytes
    written at those offsets (`disk_refines`): what `CacheOK` says about the cached
    log is a statement about what the writer was handed -/
theorem disk_log_is_written (l m : Nat) (ops : List DOp) (hwf : (Disk.init l m).wf ops) :
    let s := (Disk.init l m).run ops
    ∀ lo hi, (ofDisk s).aof = some (lo, hi) →
      lo = (s.abs.base : Int) ∧ hi = ((s.abs.base + s.abs.bytes.length : Nat) : Int) ∧
      s.hbase ≤ s.abs.base ∧ s.abs.bytes = s.hist.drop (s.abs.base - s.hbase) := by
  intro s
  have hi' : DInv s := (DInv.init l m).run ops hwf
  have hR : s.all ≠ [] → s.hbase ≤ s.abs.base ∧ s.abs.bytes = s.hist.drop (s.abs.base - s.hbase) :=
    C05.disk_refines l m ops hwf
  clear_value s
  intro lo hi h
  simp only [ofDisk] at h
  cases hf : firstLeft s.all with
  | none => rw [hf] at h; cases h
  | some a =>
    cases hr : lastRight s.all with
    | none => rw [hf, hr] at h; cases h
    | some b =>
      rw [hf, hr] at h
      cases h
      have hne : s.all ≠ [] := by intro e; rw [e] at hf; cases hf
      obtain ⟨h1, h2⟩ := hR hne
      have hb : s.abs.base = a := by simp only [Disk.abs, hf]
      have he := hi'.lastEnd b hr
      have hlen : s.abs.bytes.length = s.hist.length - (s.abs.base - s.hbase) := by
        rw [h2, List.length_drop]
      have hemb : a ≤ b := by
        obtain ⟨g, hg⟩ : ∃ g, g ∈ s.all := List.exists_mem_of_ne_nil _ hne
        have := contig_first_le hi'.contig hg hf
        have := contig_right_le_last hi'.contig hg hr
        have : g.left ≤ g.right := Nat.le_add_right _ _
        omega
      refine ⟨by rw [hb], ?_, h1, h2⟩
      have : s.abs.base + s.abs.bytes.length = b := by omega
      rw [this]

/-- the same for the memory cache (`mem_refines`) -/
theorem mem_log_is_written (l m : Nat) (ops : List MOp) :
    let s := (Mem.init l m).run ops
    ∀ lo hi, (ofMem s).aof = some (lo, hi) →
      lo = (s.abs.base : Int) ∧ hi = ((s.abs.base + s.abs.bytes.length : Nat) : Int) ∧
      s.hbase ≤ s.abs.base ∧ s.abs.bytes = s.hist.drop (s.abs.base - s.hbase) := by
  intro s
  have hi' : MemInv s := C05.mem_invariant l m ops
  have hR : s.segs ≠ [] → s.abs.id = s.runId ∧ s.hbase ≤ s.abs.base ∧
      s.abs.bytes = s.hist.drop (s.abs.base - s.hbase) ∧
      s.abs.base + s.abs.bytes.length = s.hbase + s.hist.length := C05.mem_refines l m ops
  clear_value s
  intro lo hi h
  simp only [ofMem] at h
  cases hl : s.runRev.getLast? with
  | none => rw [hl] at h; cases h
  | some oldest =>
    cases hh : s.runRev.head? with
    | none => rw [hl, hh] at h; cases h
    | some newest =>
      rw [hl, hh] at h
      cases h
      have hne : s.segs ≠ [] := by
        intro e
        have := runRev_eq s hi'
        rw [e] at this
        rw [this] at hh
        cases hh
      obtain ⟨_, h1, h2, h3⟩ := hR hne
      have hb : s.abs.base = oldest.left := by simp only [Mem.abs, hl]
      have hlast : s.segs.getLast? = some newest := by
        have := runRev_eq s hi'
        rw [this, List.head?_reverse] at hh
        exact hh
      have he := hi'.stream.lastEnd newest hlast
      refine ⟨by rw [hb], ?_, h1, h2⟩
      rw [h3, he]

/-- a collector pass of C05's disk cache between two attempts is a step of the loop -/
theorem loop_gc_disk (w : World) (σ : Sys) (l m : Nat) (ops : List DOp) (hwf : (Disk.init l m).wf ops)
    (hc : σ.c = ofDisk ((Disk.init l m).run ops)) (h : Loop w σ) :
    Loop w ⟨σ.s, σ.t, ofDisk ((Disk.init l m).run ops).gc, σ.d⟩ :=
  Loop.gc σ _ h (by rw [hc]; exact (gc_keeps_disk l m ops hwf).2.1)

/-- … and of C05's memory cache -/
theorem loop_gc_memory (w : World) (σ : Sys) (l m : Nat) (ops : List MOp) (need : Nat)
    (hc : σ.c = ofMem ((Mem.init l m).run ops)) (h : Loop w σ) :
    Loop w ⟨σ.s, σ.t, ofMem (((Mem.init l m).run ops).gc need), σ.d⟩ :=
  Loop.gc σ _ h (by rw [hc]; exact (gc_keeps_memory l m ops need).1)

/-! ## Non-vacuity -/

/-- 1. a first attempt: FULLRESYNC at 200, the replay completes, 30 further bytes are cached -/
def l1 : Sys := attempt true w0 σA (.delivered true 0 30)
/-- the source moves on to 230 -/
def l2 : Sys := ⟨s0b, l1.t, l1.c, l1.d⟩
/-- 2. the memory collector drops the log's first 10 bytes and keeps the snapshot -/
def cG : Cache := ⟨.memory, [1], some (200, 10), some (210, 230)⟩
def l3 : Sys := ⟨l2.s, l2.t, cG, l2.d⟩
/-- 3. a second attempt: the stored offset 200 is no longer valid in the cache (its
    log starts at 210), so the cache is cleared and PSYNC [1] 201 is granted; the
    log is replayed up to 215, 20 bytes are cached, then the attempt ends with
    `ErrCorrupted` and the loop drops the cache -/
def l4 : Sys := (attempt true w0 l3 (.delivered false 215 20)).corrupted

theorem loop_l2 : Loop w0 l2 :=
  Loop.same l1 s0b
    (Loop.attempt σA true (.delivered true 0 30) false (Loop.init s0 .memory s0_wf w0_agree) ⟨by decide, by decide⟩)
    s0b_wf w0_agree_b rfl rfl

/-- two attempts with a collector pass in between and one `ErrCorrupted`: the loop
    reaches `l4`, and the third attempt continues exactly at 215 -/
theorem loop_example :
    Loop w0 l4 ∧
    l2.t.stored = ⟨[1], 200⟩ ∧ l2.c = ⟨.memory, [1], some (200, 10), some (200, 230)⟩ ∧ Collected l2.c cG ∧
    (run w0 l3.s l3.t.stored l3.c l3.d).mt.clearLocal = true ∧
    (∃ byte, (run w0 l3.s l3.t.stored l3.c l3.d).delivery = .stream 200 byte) ∧
    l4.t.stored = ⟨[1], 215⟩ ∧ l4.c = ⟨.memory, [], none, none⟩ ∧
    ∃ byte, (run w0 l4.s l4.t.stored l4.c l4.d).delivery = .stream 215 byte := by
  have e2 : l2.c = ⟨.memory, [1], some (200, 10), some (200, 230)⟩ := by decide
  have hcol : Collected l2.c cG := by
    rw [e2]
    exact ⟨rfl, rfl, Or.inl rfl, Or.inr ⟨210, rfl, by decide, by decide⟩, fun h => by cases h⟩
  have h3 : Loop w0 l3 := Loop.gc l2 cG loop_l2 hcol
  have h4 : Loop w0 l4 := Loop.attempt l3 true (.delivered false 215 20) true h3 ⟨by decide, by decide⟩
  exact ⟨h4, by decide, e2, hcol, by decide, ⟨_, rfl⟩, by decide, by decide, ⟨_, rfl⟩⟩

/-- the successor of `s0b`: new id [3], previous id [1] valid up to 240, backlog [50,251) -/
def sP0 : Source := ⟨[3], [1], 240, true, 50, 200, 249, 10, true⟩
/-- a stale attempt from `l2`: INFO by `s0b` (ids [1],[2]), PSYNC [1] 231 granted by
    `sP0` with `+CONTINUE [3]`; the log is replayed up to 235, 10 bytes are cached -/
def l5 : Sys := staleAttempt true w0 l2 sP0 (.delivered false 235 10)

theorem sP0_wf : SourceWF sP0 := by refine ⟨?_, ?_, ?_, ?_, ?_, ?_, ?_, ?_, ?_⟩ <;> decide
theorem w0_agree_P : Agree w0 sP0 := by
  intro n _ _
  simp [w0, sP0]

/-- +CONTINUE under another id than INFO reported: the loop reaches `l5`, the cache
    keeps INFO's label [1] over the successor's bytes, and the next attempt —
    INFO now by the successor — continues under the previous id exactly at 235 -/
theorem loop_example_stale :
    Loop w0 l5 ∧ l5.s = sP0 ∧
    (run (viewWorld w0 l2.s sP0) (mix l2.s sP0) l2.t.stored l2.c l2.d).mt.ps.full = false ∧
    (∃ byte, (run (viewWorld w0 l2.s sP0) (mix l2.s sP0) l2.t.stored l2.c l2.d).delivery = .stream 200 byte) ∧
    l5.t.stored = ⟨[1], 235⟩ ∧ l5.c = ⟨.memory, [1], some (200, 10), some (200, 240)⟩ ∧
    (run w0 l5.s l5.t.stored l5.c l5.d).mt.ps.reqId = [1] ∧
    (run w0 l5.s l5.t.stored l5.c l5.d).mt.ps.wireOff = 241 ∧
    ∃ byte, (run w0 l5.s l5.t.stored l5.c l5.d).delivery = .stream 235 byte := by
  have h5 : Loop w0 l5 :=
    Loop.stale l2 sP0 true (.delivered false 235 10) false loop_l2 sP0_wf w0_agree_P rfl (by decide) (by decide)
      (by decide) (by decide) ⟨by decide, by decide⟩
  exact ⟨h5, by decide, by decide, ⟨_, rfl⟩, by decide, by decide, by decide, by decide, ⟨_, rfl⟩⟩

end GunYu.Props.C06
