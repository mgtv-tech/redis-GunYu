/-
  C13 — Bidirectional sync never echoes its own writes nor swallows foreign
  ones.

  Property theorems only (helpers: the Proofs/Bisync* modules). Quantifiers:

  * all units (any commands, any key/value bytes), all three ways a unit is
    committed (`latest` = sync, `journal` = pipeline/parallel, `rdb` = snapshot
    phase), any checkpoint name, any marker value and record fields;
  * the site the unit is committed at: ANY store contents and clock, and every
    combination of the version/configuration dependent propagation choices of
    the master (`RedisCfg`: DEL or UNLINK for expired keys; Redis ≥ 7 or older
    MULTI/EXEC propagation; `SET … EX/PX` rewritten to `PXAT` or not);
  * `propagate` (Model/BisyncSite.lean) is the TRUSTED TRANSCRIPTION of what a
    Redis master writes to its replication stream: absolute expiries, no-op
    commands omitted, the deletion of a key found expired propagated ahead of
    the command that touched it;
  * the opposite link's parser in any slot mode with any key resolver; the
    output filter is the default one (`FOK`: the facts used about it, proved
    for `Filter.buildOutput {}` = NoRouteCmds + the two reserved prefixes) —
    the property's quantifier does not range over user filters;
  * `exactly_once_and_quiesce`: all event lists (client commands and
    transactions at either site, clock advances, expiry-cycle visits, link
    steps, snapshot units, bookkeeping writes) in any interleaving.
-/
import GunYu.Model.Bisync
import GunYu.Model.BisyncSite
import GunYu.Proofs.BisyncBlocks
import GunYu.Proofs.BisyncWorld
import GunYu.Proofs.BisyncDrain
import GunYu.Proofs.BisyncGlobal

namespace GunYu.Props.C13
open GunYu GunYu.BisyncUnit GunYu.Bisync

/-- the default output filter satisfies what the theorems assume of it -/
theorem default_filter_ok : FOK (Filter.buildOutput {}) := defaultFilter_ok

/-- **Mirrored transactions are recognised.** Whatever unit a link commits at
    a site and however it commits it, every block the site's master propagates
    for that commit is passed over by the opposite link: no unit, no error,
    parser still idle, sequence counter untouched. This includes the case
    where the previous marker had expired but was not reaped yet, so that
    `DEL`/`UNLINK marker` precedes `SET marker` inside the MULTI/EXEC. -/
theorem mirrored_recognised (pc : PCfg) (hf : FOK pc.filter) (rcfg : RedisCfg) (now : Nat) (st : Store)
    (cp : Bytes) (k : CommitKind) (u : RUnit) (p : Payload) (hu : ∀ c ∈ u.cmds, TxnSafe c)
    (pst : PState) (hi : Idle pst) :
    ∀ b ∈ toBlocks rcfg true (commitCmds cp k u p).length (execCmds rcfg now st (commitCmds cp k u p)).2,
      ∃ pst', parseBlock pc pst b = ([], pst', none) ∧ Idle pst' ∧ pst'.seq = pst.seq :=
  fun b hb => tool_blocks_quiet pc hf rcfg now st _ (markerKey_isMarker cp u.slotTag) _ (commit_toolTxn cp k u p hu) b hb pst hi

/-- units come from the parser, which never hands on MULTI, EXEC or a SELECT:
    the hypothesis of `mirrored_recognised` holds for every emitted unit -/
theorem emitted_units_safe (pc : PCfg) (hf : FOK pc.filter) (b : Block) (hb : ∀ c ∈ b.body, Fgn pc c)
    (hne : b.body ≠ []) (pst pst' : PState) (hi : Idle pst) (e : Emit)
    (h : parseBlock pc pst b = ([e], pst', none)) : ∀ c ∈ e.unit.cmds, TxnSafe c := by
  rcases foreign_block pc hf b hb hne pst hi with ⟨p2, e2, h2, _, _, _, hc, _⟩ | ⟨p2, e2, h2, _⟩
  · rw [h] at h2
    injection h2 with h2 _
    injection h2 with h2 _
    rw [h2, hc]
    intro c hcm
    obtain ⟨c0, hc0, rfl⟩ := List.mem_map.mp hcm
    exact norm_txnSafe c0 (hb c0 hc0).safe
  · rw [h] at h2
    injection h2 with h2 _
    cases h2

-- The first-command-only test the code used before the repair misses the
-- lazy-expiry case; the repaired test recognises it.
private def mk0 : Bytes := Gen.markerKey [99,112] (slotTag 0)
private def expiredStore : Store := [(mk0, ⟨.str, [], some 5⟩)]
private def unit0 : RUnit := ⟨0, slotTag 0, [⟨[105,110,99,114], [[107]]⟩]⟩       -- INCR k
private def txn0 : List Cmd := commitCmds [99,112] .latest unit0 ⟨[123,125], [[102],[118]], 1⟩
private theorem txn0_run : (execCmds ⟨false, true, true⟩ 10 expiredStore txn0).2.map (·.name) =
      [wDel, wSet, [105,110,99,114], wHset] ∧
    isMirroredTxnFirstOnly (execCmds ⟨false, true, true⟩ 10 expiredStore txn0).2 = false ∧
    isMirroredTxn (execCmds ⟨false, true, true⟩ 10 expiredStore txn0).2 = true := by decide +kernel
example : (execCmds ⟨false, true, true⟩ 10 expiredStore txn0).2.map (·.name) =
    [wDel, wSet, [105,110,99,114], wHset] := txn0_run.1
example : isMirroredTxnFirstOnly (execCmds ⟨false, true, true⟩ 10 expiredStore txn0).2 = false := txn0_run.2.1
example : isMirroredTxn (execCmds ⟨false, true, true⟩ 10 expiredStore txn0).2 = true := txn0_run.2.2
example : ∀ c ∈ unit0.cmds, TxnSafe c := by
  intro c hc
  have : c = ⟨[105,110,99,114], [[107]]⟩ := by simpa [unit0] using hc
  rw [this]; exact ⟨by decide, by decide, by decide⟩

/-- **Bookkeeping traffic is skipped.** Every stand-alone request of the tool's
    bookkeeping (frontier save, journal deletion, index ZREM, a marker being
    expired by Redis, checkpoint-hash and root-checkpoint writes, namespace seed
    and cleanup — generated as the code generates them, checkpoint names as
    the tool forms them) met in a stream produces no unit and no error. -/
theorem bookkeeping_skipped (pc : PCfg) (hf : FOK pc.filter) (bk : Bookkeeping) (hv : bk.Valid)
    (pst : PState) (hi : Idle pst) :
    ∃ pst', parseBlock pc pst (.single bk.toCmd) = ([], pst', none) ∧ Idle pst' ∧ pst'.seq = pst.seq :=
  bookkeeping_cmd_quiet pc hf bk hv pst hi

-- a frontier save and a journal deletion under a generated checkpoint name
private theorem cpKey_prefix (sfx : Bytes) : Gen.checkpointKey <+: Gen.bisyncCheckpointKeyPrefix ++ sfx :=
  (show Gen.checkpointKey <+: Gen.bisyncCheckpointKeyPrefix from ⟨[45,98,105,115,121,110,99], by decide⟩).trans
    (List.prefix_append _ _)
example : (Bookkeeping.frontierSave (Gen.bisyncCheckpointKeyPrefix ++ [58, 48]) [[118], [49]]).Valid :=
  cpKey_prefix _
example : (Bookkeeping.journalDel [99,112] (slotTag 7) 3).Valid := trivial

/-- **Foreign writes are never suppressed.** A block (a stand-alone command or
    a MULTI/EXEC) that the tool did not write — commands the parser forwards
    (`Fgn`: not framing/PING/SELECT/PUBLISH, not on the command blacklist), no
    key under a prefix the output filter withholds, first argument (all
    arguments for DEL/UNLINK) outside the bisync/checkpoint namespace;
    ANY values, including byte-identical copies of marker values or of control
    keys — either comes out as exactly one unit holding exactly its commands,
    or stops the replay with the builder's error. It is never dropped. -/
theorem foreign_never_suppressed (pc : PCfg) (hf : FOK pc.filter) (b : Block)
    (hb : ∀ c ∈ b.body, Fgn pc c) (hne : b.body ≠ []) (pst : PState) (hi : Idle pst) :
    (∃ pst' e, parseBlock pc pst b = ([e], pst', none) ∧ Idle pst' ∧ pst'.seq = pst.seq + 1 ∧
      e.seq = pst.seq ∧ e.unit.cmds = b.body.map norm) ∨
    (∃ pst' e, parseBlock pc pst b = ([], pst', some (.build e)) ∧
      buildUnit pc.mode pc.resolver (b.body.map norm) = .error e) := by
  rcases foreign_block pc hf b hb hne pst hi with ⟨p2, e2, h2, h3, h4, h5, h6, _⟩ | h
  · exact Or.inl ⟨p2, e2, h2, h3, h4, h5, h6⟩
  · exact Or.inr h

/-- … and in standalone mode, when the resolver names keys for every command,
    it always comes out. -/
theorem foreign_emitted_standalone (pc : PCfg) (hf : FOK pc.filter) (hm : pc.mode = standaloneMode) (b : Block)
    (hb : ∀ c ∈ b.body, Fgn pc c) (hne : b.body ≠ []) (hr : ∀ c ∈ b.body, Routable pc.resolver (norm c))
    (pst : PState) (hi : Idle pst) :
    ∃ pst' e, parseBlock pc pst b = ([e], pst', none) ∧ e.unit.cmds = b.body.map norm := by
  rcases foreign_never_suppressed pc hf b hb hne pst hi with ⟨p2, e2, h2, _, _, _, h6⟩ | ⟨p2, e2, _, h3⟩
  · exact ⟨p2, e2, h2, h6⟩
  · exfalso
    rw [hm, buildUnit_standalone pc.resolver (b.body.map norm)
      (by intro h; exact hne (List.map_eq_nil_iff.mp h))
      (by intro c hc
          obtain ⟨c0, hc0, rfl⟩ := List.mem_map.mp hc
          exact hr c0 hc0)] at h3
    cases h3

/-- The statement with the hypothesis on KEYS only (as the property words it).
    It differs from `foreign_never_suppressed` only for commands whose first
    argument is not a key: the code's namespace test looks at the first
    argument of every command (e.g. `PUBLISH redis-gunyu-bisync:x …` would be
    skipped, though it has no key). Kept as the full statement; the proved
    theorem carries the extra first-argument hypothesis inside `Fgn`. -/
def foreign_never_suppressed_stmt : Prop :=
  ∀ (pc : PCfg), FOK pc.filter → ∀ (b : Block),
    (∀ c ∈ b.body, TxnSafe c ∧ lower c.name ≠ wPing ∧ Filter.eqFold (lower c.name) wPublish = false ∧
      pc.filter.filterCmd (lower c.name) = false ∧
      ∀ idx, Filter.keyIndexes (lower c.name) c.args = some idx → ∀ i ∈ idx, ¬ Res (c.args.getD i [])) →
    b.body ≠ [] → ∀ pst, Idle pst →
    (∃ pst' e, parseBlock pc pst b = ([e], pst', none) ∧ e.unit.cmds = b.body.map norm) ∨
    (∃ pst' e, parseBlock pc pst b = ([], pst', some (.build e)))

/-- for commands whose first argument is one of their keys (every data command
    of the generated tables except the numkeys / BITOP / XGROUP / EVAL
    families) and for DEL/UNLINK, the keys-only hypothesis is enough -/
theorem fgn_of_keys (pc : PCfg) (c : Cmd) (hs : TxnSafe c) (hp : lower c.name ≠ wPing)
    (hpub : Filter.eqFold (lower c.name) wPublish = false) (hbl : pc.filter.filterCmd (lower c.name) = false)
    (idx : List Nat) (hidx : Filter.keyIndexes (lower c.name) c.args = some idx)
    (hkeys : ∀ i ∈ idx, ¬ Res (c.args.getD i []))
    (hfirst : 0 ∈ idx)
    (hdel : (lower c.name = wDel ∨ lower c.name = wUnlink) → ∀ i, i < c.args.length → i ∈ idx) : Fgn pc c where
  safe := hs
  notPing := hp
  notPublish := hpub
  notBlack := hbl
  keys := by
    intro idx' hidx' i hi hr
    rw [hidx] at hidx'
    injection hidx' with e
    rw [← e] at hi
    exact hkeys i hi (Or.inr hr)
  outside := by
    have hns : ∀ i ∈ idx, isNamespaceKey (c.args.getD i []) = false := by
      intro i hi
      cases hx : isNamespaceKey (c.args.getD i []) with
      | false => rfl
      | true => exact absurd (Or.inl hx) (hkeys i hi)
    unfold touchesNamespace norm
    cases hargs : c.args with
    | nil => simp
    | cons k rest =>
      simp only [List.isEmpty_cons, Bool.false_eq_true, ↓reduceIte, List.headD_cons]
      have h0 := hns 0 hfirst
      rw [hargs] at h0
      split
      · rename_i hd
        have hname : lower c.name = wDel ∨ lower c.name = wUnlink := by
          have e : lower (lower c.name) = lower c.name := Filter.lower_lower _
          rw [e] at hd
          simpa using hd
        rw [List.any_eq_false]
        intro a ha
        obtain ⟨i, hi, rfl⟩ := List.getElem_of_mem ha
        have hi' : i < c.args.length := by rw [hargs]; exact hi
        have := hns i (hdel hname i hi')
        rw [hargs, List.getD_eq_getElem?_getD, List.getElem?_eq_getElem hi] at this
        simpa using this
      · simpa using h0

/-- a `SET key value` (any letter case of the name) is foreign whatever the value, if the key starts
    with neither `r` nor `/` -/
theorem fgn_set (pc : PCfg) (hf : FOK pc.filter) (n k v : Bytes) (hn : lower n = wSet)
    (hk : k.head? ≠ some 114 ∧ k.head? ≠ some 47) : Fgn pc ⟨n, [k, v]⟩ := by
  apply fgn_of_keys _ ⟨n, [k, v]⟩ (txnSafe_of_name _ wSet hn safe_set) (hn ▸ by decide) (hn ▸ by decide)
    (hn ▸ hf.setCmd) [0] (hn ▸ keyIndexes_generic wSet k [v] (by decide +kernel) (by decide +kernel))
  · intro i hi
    rw [List.mem_singleton.mp hi]
    exact word_not_res _ hk
  · exact List.mem_singleton.mpr rfl
  · intro h
    rw [hn] at h
    rcases h with h | h <;> exact absurd h (by decide)

-- a client SET whose VALUE is a byte-identical copy of a marker key and one
-- whose value is a marker JSON: both are foreign, whatever they carry
private def mkCopy : Bytes := Gen.markerKey [99,112] (slotTag 0)
private def fooSet (v : Bytes) : Cmd := ⟨[83,69,84], [[102,111,111], v]⟩      -- "SET" foo v
example (v : Bytes) : Fgn ⟨Filter.buildOutput {}, standaloneMode, defaultResolver⟩ (fooSet v) :=
  fgn_set _ default_filter_ok _ _ v (by decide) (by decide)
example : (parseBlock ⟨Filter.buildOutput {}, standaloneMode, defaultResolver⟩ {} (.single (fooSet mkCopy))).1.length = 1 := by
  decide +kernel

/-- **Exactly once, and the exchange quiesces.** Start from empty sites; run
    ANY list of events (`GoodRun`: client commands satisfy `ClientOK` — a
    forwardable name and no argument under a reserved prefix; expiry visits do
    not concern `/redis-gunyu…` keys; snapshot units consist of safe commands;
    a bookkeeping request carries a generated checkpoint name and propagates
    as itself or not at all). Then at every moment, for each link:

    1. the units it has committed at the other site are, in order, exactly the
       client (or expiry) blocks with a non-empty body among the blocks it has
       consumed — each once, nothing else ever: no block written by the other
       link, no snapshot unit, no bookkeeping comes back (`commitsAt = dueTags`);
    2. it can only have stopped because the builder refused a client block;
    3. once nothing it still has to read is owed a commit (`NoPending`), any
       further sequence of link steps leaves both streams and the commit log
       unchanged: no unit is emitted in the round after the last client write. -/
theorem exactly_once_and_quiesce (cfg : WCfg) (hf : FOK cfg.parser.filter) (cpAB cpBA : Bytes)
    (evs : List Ev) (hgood : GoodRun cfg (World.init cpAB cpBA) evs) :
    let w := runWorld cfg (World.init cpAB cpBA) evs
    (∀ src, commitsAt w src.other = dueTags (w.site src).stream (w.link src).pos) ∧
    (∀ t ∈ w.commits, isForeign t.1 = true) ∧
    (∀ src e, (w.link src).halted = some e → ∃ be, e = .build be) ∧
    (NoPending w → ∀ more, (∀ e ∈ more, e.isLink) →
      (runWorld cfg w more).a.stream = w.a.stream ∧ (runWorld cfg w more).b.stream = w.b.stream ∧
      (runWorld cfg w more).commits = w.commits ∧
      ∀ s, ((runWorld cfg w more).link s).emitted = (w.link s).emitted) := by
  intro w
  have hinv : WInv cfg w := run_preserves cfg hf evs _ (winv_init cfg cpAB cpBA) hgood
  exact ⟨hinv.once, hinv.commits_foreign, hinv.halt, fun hnp more hl => quiesce cfg hf more w hinv hnp hl⟩

/-- **What was committed is what was written.** In every reachable world, each
    unit a link has emitted holds exactly the commands (names lower-cased) of a
    block of its source stream, the block it is tagged with. Together with
    `exactly_once_and_quiesce` (which blocks were committed, once each): the
    commands applied at the other site are the client's, not merely the ids. -/
theorem emitted_content (cfg : WCfg) (hf : FOK cfg.parser.filter) (cpAB cpBA : Bytes)
    (evs : List Ev) (hgood : GoodRun cfg (World.init cpAB cpBA) evs) :
    let w := runWorld cfg (World.init cpAB cpBA) evs
    ∀ s, ∀ p ∈ (w.link s).emitted, ∃ tb ∈ (w.site s).stream, tb.tag = p.1 ∧ p.2.unit.cmds = tb.block.body.map norm :=
  content_run cfg hf evs _ (winv_init cfg cpAB cpBA) (content_init cpAB cpBA) hgood

/-- **The drain is bounded.** From any reachable world, over ANY sequence of
    link steps, pending client blocks plus commits is constant: every commit
    consumes exactly one pending client block and committing never creates a
    new pending block (what a link writes is not owed a commit). -/
theorem drain_bound (cfg : WCfg) (hf : FOK cfg.parser.filter) (cpAB cpBA : Bytes)
    (evs : List Ev) (hgood : GoodRun cfg (World.init cpAB cpBA) evs) (more : List Ev) (hl : ∀ e ∈ more, e.isLink) :
    let w := runWorld cfg (World.init cpAB cpBA) evs
    pendingDue (runWorld cfg w more) + (runWorld cfg w more).commits.length = pendingDue w + w.commits.length :=
  drain_count cfg hf more _ (run_preserves cfg hf evs _ (winv_init cfg cpAB cpBA) hgood) hl

/-- **The exchange quiesces.** From any reachable world there IS a finite
    sequence of link steps after which each link has stopped (only ever on the
    builder refusing a client block) or has no pending client block left; and
    from such a world on, any further link steps change neither stream, nor the
    commit log, nor the emitted units. -/
theorem drain_reaches (cfg : WCfg) (hf : FOK cfg.parser.filter) (cpAB cpBA : Bytes)
    (evs : List Ev) (hgood : GoodRun cfg (World.init cpAB cpBA) evs) :
    let w := runWorld cfg (World.init cpAB cpBA) evs
    ∃ more, (∀ e ∈ more, e.isLink) ∧ (∀ s, Settled (runWorld cfg w more) s) ∧
      ∀ further, (∀ e ∈ further, e.isLink) →
        (runWorld cfg (runWorld cfg w more) further).a.stream = (runWorld cfg w more).a.stream ∧
        (runWorld cfg (runWorld cfg w more) further).b.stream = (runWorld cfg w more).b.stream ∧
        (runWorld cfg (runWorld cfg w more) further).commits = (runWorld cfg w more).commits := by
  intro w
  have hinv : WInv cfg w := run_preserves cfg hf evs _ (winv_init cfg cpAB cpBA) hgood
  obtain ⟨more, h1, h2, h3⟩ := Bisync.drain_reaches cfg hf w hinv
  refine ⟨more, h1, h3, ?_⟩
  intro further hfu
  obtain ⟨a, b, c, _⟩ := quiesce_settled cfg hf further _ h2 h3 hfu
  exact ⟨a, b, c⟩

-- non-vacuity: a concrete history satisfying `GoodRun` in which a write at A
-- is applied at B, comes back in B's stream behind an expired marker, and is
-- not applied at A again
private def wcfg : WCfg :=
  { redisA := ⟨false, true, true⟩, redisB := ⟨false, true, true⟩,
    parser := ⟨Filter.buildOutput {}, standaloneMode, defaultResolver⟩ }
private def incrN : Cmd := ⟨[105,110,99,114,98,121], [[110,48], [53]]⟩     -- incrby n0 5
private def arg0 : CommitArg := ⟨.latest, [123,125], [[102],[118]]⟩
private def hist : List Ev :=
  [.client .A false [incrN], .link .A arg0, .tick .B 86400001, .client .A false [incrN], .link .A arg0,
   .link .B arg0, .link .B arg0, .link .A arg0]
private theorem incrN_ok : ClientOK wcfg.parser incrN :=
  clientOK_of_heads _ _ ⟨⟨by decide, by decide, by decide⟩, by decide, by decide⟩ (by decide +kernel) (by decide)
example : GoodRun wcfg (World.init [99,112,49] [99,112,50]) hist :=
  ⟨fun c hc => by rw [List.mem_singleton.mp hc]; exact incrN_ok, trivial, trivial,
   fun c hc => by rw [List.mem_singleton.mp hc]; exact incrN_ok, trivial, trivial, trivial, trivial, trivial⟩
private theorem hist_run : (runWorld wcfg (World.init [99,112,49] [99,112,50]) hist).commits.map (·.1) =
      [.foreign 0, .foreign 1] ∧
    ((runWorld wcfg (World.init [99,112,49] [99,112,50]) hist).b.stream.map (·.block.body.length)) = [3, 4] := by
  decide +kernel
example : (runWorld wcfg (World.init [99,112,49] [99,112,50]) hist).commits.map (·.1) =
    [.foreign 0, .foreign 1] := hist_run.1
example : ((runWorld wcfg (World.init [99,112,49] [99,112,50]) hist).b.stream.map (·.block.body.length)) =
    [3, 4] := hist_run.2

/-! ### the global theorems: arbitrary interleavings, restarts included, nothing assumed about states -/

/-- **`BookClean` is derived, not assumed.** Start from two sites holding any
    data in which no key of the reserved namespace other than a marker key
    carries an expiry (`NsTtl`; empty sites in particular); run events that
    satisfy `EvOK'` (a condition on each event alone), restarts of any kind
    included. Then the only namespace keys with an expiry are still marker
    keys; hence every bookkeeping request the tool issues meets no lazily
    expiring key and propagates as itself or not at all — the hypothesis
    `exactly_once_and_quiesce` made per event. -/
theorem bookclean_derived (cfg : WCfg) (hf : FOK cfg.parser.filter) (cpAB cpBA : Bytes) (sa sb : Store) (na nb : Nat)
    (hab : Slot.lbrace ∉ cpAB) (hba : Slot.lbrace ∉ cpBA) (ha : NsTtl sa) (hb : NsTtl sb)
    (evs : List Ev) (hgood : GoodEvents cfg evs)
    (src : SiteId) (bk : Bookkeeping) (hv : bk.Valid) (hi : bk.Issued) :
    BookClean cfg (runWorld cfg (World.initWith cpAB cpBA sa sb na nb) evs) src bk :=
  bookClean_of_nsTtl cfg _ src bk hv hi
    ((lrun cfg hf evs _ (linv_initWith cfg cpAB cpBA sa sb na nb hab hba ha hb) hgood).ttl src.other)

/-- **No loop — always.** Two sites holding any data (`NsTtl`), two links with
    checkpoint names as the tool generates them (brace-free). Run ANY list of
    events, each satisfying `EvOK'` (a condition on the event alone): client
    commands and MULTI/EXEC transactions at either site on any keys outside the
    reserved prefixes (the same keys at both sites included), clock advances,
    expiry visits (marker keys included), link steps in either direction,
    snapshot units, every bookkeeping request the tool issues, and restarts /
    reconnects of either syncer that resume at ANY block already reached — behind
    the last committed unit (sync mode) or BEFORE it (pipeline / parallel mode
    resuming at the contiguous frontier: committed units are read and committed
    again). Then, at every moment:

    1. every commit ever made — repeats after a restart included — was built
       from a client (or expiry) block: nothing a link, a snapshot unit or the
       bookkeeping wrote at a site is ever sent back;
    2. every block the tool wrote at a site is passed over by the opposite link
       whenever and however often it reads it (no unit, no error, parser idle);
    3. no false suppression: every client block with a non-empty effect a link
       has consumed has been committed at the other site AT LEAST once, and each
       emitted unit holds exactly the commands of its block;
    4. a link stops only because the unit builder refused a client block.

    What does NOT hold here is "at most once": see `exactly_once_any_restart_stmt`. -/
theorem no_loop_always (cfg : WCfg) (hf : FOK cfg.parser.filter) (cpAB cpBA : Bytes) (sa sb : Store) (na nb : Nat)
    (hab : Slot.lbrace ∉ cpAB) (hba : Slot.lbrace ∉ cpBA) (ha : NsTtl sa) (hb : NsTtl sb)
    (evs : List Ev) (hgood : GoodEvents cfg evs) :
    let w := runWorld cfg (World.initWith cpAB cpBA sa sb na nb) evs
    (∀ t ∈ w.commits, isForeign t.1 = true) ∧
    (∀ s, ∀ tb ∈ (w.site s).stream, isForeign tb.tag = false → QuietB cfg.parser tb.block) ∧
    ((∀ s, ∀ t ∈ dueTags (w.site s).stream (w.link s).pos, t ∈ commitsAt w s.other) ∧
      ∀ s, ∀ p ∈ (w.link s).emitted, ∃ tb ∈ (w.site s).stream, tb.tag = p.1 ∧ p.2.unit.cmds = tb.block.body.map norm) ∧
    (∀ src e, (w.link src).halted = some e → ∃ be, e = .build be) := by
  intro w
  have hl : LInv cfg w := lrun cfg hf evs _ (linv_initWith cfg cpAB cpBA sa sb na nb hab hba ha hb) hgood
  refine ⟨hl.foreign, ?_, ⟨hl.sup, hl.content⟩, ?_⟩
  · intro s tb htb hnf
    have := hl.winv.blocks s tb (by rw [site_norm]; exact htb)
    unfold BlockOK at this
    rw [hnf] at this
    simpa using this
  · intro src e he
    exact hl.winv.halt src e (by rw [link_norm]; exact he)

/-- **Exactly once and quiescence — when every restart is exact.** As
    `no_loop_always`, and in addition every restart of the run resumes at or
    behind the last unit its link committed (`ExactRestarts`: what the commit
    records of SYNC mode give, C14 `sync_mode_exact`; the property text itself
    says "absent restarts"). Then moreover:

    2'. for each link, the units it has committed at the other site are, in
        order, EXACTLY the client blocks with a non-empty effect among the blocks
        it has consumed, each once: re-reading after such a restart commits
        nothing twice;
    4'. once no block still to be read is owed a commit, any further link steps
        and exact restarts change neither stream, nor the commit log, nor the units.

    The one exception of the property text is not in this model: databases
    (`D31_counterexample` below). -/
theorem no_loop_no_false_suppression (cfg : WCfg) (hf : FOK cfg.parser.filter) (cpAB cpBA : Bytes)
    (sa sb : Store) (na nb : Nat)
    (hab : Slot.lbrace ∉ cpAB) (hba : Slot.lbrace ∉ cpBA) (ha : NsTtl sa) (hb : NsTtl sb)
    (evs : List Ev) (hgood : GoodEvents cfg evs)
    (hexact : ExactRestarts cfg (World.initWith cpAB cpBA sa sb na nb) evs) :
    let w := runWorld cfg (World.initWith cpAB cpBA sa sb na nb) evs
    (∀ t ∈ w.commits, isForeign t.1 = true) ∧
    ((∀ src, commitsAt w src.other = dueTags (w.site src).stream (w.link src).pos) ∧
      ∀ s, ∀ p ∈ (w.link s).emitted, ∃ tb ∈ (w.site s).stream, tb.tag = p.1 ∧ p.2.unit.cmds = tb.block.body.map norm) ∧
    (∀ src e, (w.link src).halted = some e → ∃ be, e = .build be) ∧
    (NoPending w → ∀ more, (∀ e ∈ more, e.isLinkOrRestart) → ExactRestarts cfg w more →
      (runWorld cfg w more).a.stream = w.a.stream ∧ (runWorld cfg w more).b.stream = w.b.stream ∧
      (runWorld cfg w more).commits = w.commits ∧
      ∀ s, ((runWorld cfg w more).link s).emitted = (w.link s).emitted) := by
  intro w
  have hg0 := ginv_initWith cfg cpAB cpBA sa sb na nb hab hba ha hb
  have hg : GInv cfg w := grun cfg hf evs _ hg0 hgood hexact
  exact ⟨hg.winv.commits_foreign,
    ⟨hg.winv.once, content_grun cfg hf evs _ hg0 (content_initWith cpAB cpBA sa sb na nb) hgood hexact⟩,
    hg.winv.halt, fun hnp more hl hex => gquiesce cfg hf more w hg hnp hl hex⟩

/-- … and the exchange still drains: from any such world there is a finite
    sequence of link steps after which both links are settled (existence). -/
theorem drain_reaches_global (cfg : WCfg) (hf : FOK cfg.parser.filter) (cpAB cpBA : Bytes) (sa sb : Store) (na nb : Nat)
    (hab : Slot.lbrace ∉ cpAB) (hba : Slot.lbrace ∉ cpBA) (ha : NsTtl sa) (hb : NsTtl sb)
    (evs : List Ev) (hgood : GoodEvents cfg evs)
    (hexact : ExactRestarts cfg (World.initWith cpAB cpBA sa sb na nb) evs) :
    let w := runWorld cfg (World.initWith cpAB cpBA sa sb na nb) evs
    ∃ more, (∀ e ∈ more, e.isLink) ∧ (∀ s, Settled (runWorld cfg w more) s) := by
  intro w
  have hg : GInv cfg w := grun cfg hf evs _ (ginv_initWith cfg cpAB cpBA sa sb na nb hab hba ha hb) hgood hexact
  obtain ⟨more, h1, _, h3⟩ := Bisync.drain_reaches cfg hf w hg.winv
  exact ⟨more, h1, h3⟩

/-- the statement WITHOUT the condition on restarts: exactly once for any
    restart. It is false, and allowed to be (the property says "absent
    restarts"; pipeline / parallel mode resume at the contiguous frontier). -/
def exactly_once_any_restart_stmt : Prop :=
  ∀ (cfg : WCfg), FOK cfg.parser.filter → ∀ (cpAB cpBA : Bytes), Slot.lbrace ∉ cpAB → Slot.lbrace ∉ cpBA →
    ∀ (evs : List Ev), GoodEvents cfg evs →
      ∀ src, commitsAt (runWorld cfg (World.init cpAB cpBA) evs) src.other =
        dueTags ((runWorld cfg (World.init cpAB cpBA) evs).site src).stream ((runWorld cfg (World.init cpAB cpBA) evs).link src).pos

-- non-vacuity: both directions active, the same key written at both sites,
-- the A→B syncer restarted and re-reading a block it had already passed
private def hist2 : List Ev :=
  [.client .A false [incrN], .link .A arg0, .client .B false [incrN], .link .B arg0, .link .B arg0,
   .link .A arg0, .restart .A 1 2, .link .A arg0, .link .A arg0, .tick .B 86400001,
   .client .A true [incrN, incrN], .link .A arg0, .link .B arg0, .book .A (.frontierSave cpA [[118], [49]])]
where cpA : Bytes := Gen.bisyncCheckpointKeyPrefix ++ [58, 49]
private theorem incr_ok : ∀ c ∈ [incrN], ClientOK wcfg.parser c := fun c hc => by rw [List.mem_singleton.mp hc]; exact incrN_ok
private theorem hist2_good : GoodEvents wcfg hist2 := by
  have hcc : ∀ c ∈ [incrN, incrN], ClientOK wcfg.parser c := by
    intro c hc
    have : c = incrN := by simpa using hc
    rw [this]; exact incrN_ok
  unfold hist2
  refine goodEvents_cons _ _ _ incr_ok <| goodEvents_cons _ _ _ trivial <| goodEvents_cons _ _ _ incr_ok <|
    goodEvents_cons _ _ _ trivial <| goodEvents_cons _ _ _ trivial <| goodEvents_cons _ _ _ trivial <|
    goodEvents_cons _ _ _ trivial <| goodEvents_cons _ _ _ trivial <| goodEvents_cons _ _ _ trivial <|
    goodEvents_cons _ _ _ trivial <| goodEvents_cons _ _ _ hcc <| goodEvents_cons _ _ _ trivial <|
    goodEvents_cons _ _ _ trivial <| goodEvents_cons _ _ _ ⟨cpKey_prefix _, trivial⟩ <| goodEvents_nil _
-- one evaluation of the history for the three facts below
private theorem hist2_run :
    ExactRestarts wcfg (World.initWith [99,112,49] [99,112,50] [] [] 0 0) hist2 ∧
    ((runWorld wcfg (World.init [99,112,49] [99,112,50]) (hist2.take 6)).ab.pos,
      (runWorld wcfg (World.init [99,112,49] [99,112,50]) (hist2.take 7)).ab.pos) = (2, 1) ∧
    (runWorld wcfg (World.init [99,112,49] [99,112,50]) hist2).commits =
      [(.foreign 0, .B), (.foreign 1, .A), (.foreign 2, .B)] := by decide +kernel
private theorem hist2_exact : ExactRestarts wcfg (World.initWith [99,112,49] [99,112,50] [] [] 0 0) hist2 := hist2_run.1
-- the restart really rewinds the A→B link (it had read two blocks, resumes at 1) …
example : ((runWorld wcfg (World.init [99,112,49] [99,112,50]) (hist2.take 6)).ab.pos,
    (runWorld wcfg (World.init [99,112,49] [99,112,50]) (hist2.take 7)).ab.pos) = (2, 1) := hist2_run.2.1
-- … and the history ends with each client block committed once at the other site, in order,
-- the block B's link wrote at A read twice by the restarted link and never sent back
example : (runWorld wcfg (World.init [99,112,49] [99,112,50]) hist2).commits =
    [(.foreign 0, .B), (.foreign 1, .A), (.foreign 2, .B)] := hist2_run.2.2
-- the theorem applied to that history
example : ∀ t ∈ (runWorld wcfg (World.initWith [99,112,49] [99,112,50] [] [] 0 0) hist2).commits, isForeign t.1 = true :=
  (no_loop_no_false_suppression wcfg default_filter_ok [99,112,49] [99,112,50] [] [] 0 0 (by decide) (by decide)
    nsTtl_nil nsTtl_nil hist2 hist2_good hist2_exact).1

-- a restart that resumes BEFORE the last committed unit (pipeline / parallel mode): the unit is committed again —
-- INCRBY n0 5 twice at the peer. `no_loop_always` covers this history; "exactly once" does not hold for it.
private def histRewind : List Ev := [.client .A false [incrN], .link .A arg0, .restart .A 0 1, .link .A arg0]
private theorem histRewind_good : GoodEvents wcfg histRewind := by
  unfold histRewind
  exact goodEvents_cons _ _ _ incr_ok <| goodEvents_cons _ _ _ trivial <| goodEvents_cons _ _ _ trivial <|
    goodEvents_cons _ _ _ trivial <| goodEvents_nil _
private theorem histRewind_run :
    (runWorld wcfg (World.init [99,112,49] [99,112,50]) histRewind).commits = [(.foreign 0, .B), (.foreign 0, .B)] ∧
    ¬ ExactRestarts wcfg (World.init [99,112,49] [99,112,50]) histRewind ∧
    ¬ commitsAt (runWorld wcfg (World.init [99,112,49] [99,112,50]) histRewind) SiteId.A.other =
      dueTags ((runWorld wcfg (World.init [99,112,49] [99,112,50]) histRewind).site .A).stream
        ((runWorld wcfg (World.init [99,112,49] [99,112,50]) histRewind).link .A).pos := by decide +kernel
example : (runWorld wcfg (World.init [99,112,49] [99,112,50]) histRewind).commits =
    [(.foreign 0, .B), (.foreign 0, .B)] := histRewind_run.1
example : ¬ ExactRestarts wcfg (World.init [99,112,49] [99,112,50]) histRewind := histRewind_run.2.1
/-- "exactly once whatever the restart" is refuted by that history -/
theorem exactly_once_needs_exact_restarts : ¬ exactly_once_any_restart_stmt := fun h =>
  histRewind_run.2.2 (h wcfg default_filter_ok [99,112,49] [99,112,50] (by decide) (by decide) histRewind histRewind_good .A)

/-! ### the exception: databases (known finding D31) -/

/-- the database a position of the source stream is written in: the argument
    of the last `SELECT` before it (a fresh replication stream starts in 0) -/
def dbBefore : List Item → Nat → Nat → Nat
  | [], _, cur => cur
  | it :: rest, off, cur =>
    if it.endOff > off then cur
    else if lower it.cmd.name == wSelect then dbBefore rest off ((decToNat? (it.cmd.args.headD [])).getD cur)
    else dbBefore rest off cur

/-- the database a commit transaction executes in at the target: the target
    connection's (0; the tool opens it and never selects) unless the
    transaction itself carries a `SELECT` -/
def commitDb (txn : List Cmd) : Nat :=
  match txn.find? (fun c => lower c.name == wSelect) with
  | some c => (decToNat? (c.args.headD [])).getD 0
  | none => 0

/-- what the property text asks for, with databases: every unit is committed in
    the database its commands were written in -/
def applied_in_source_db_stmt : Prop :=
  ∀ (pc : PCfg), FOK pc.filter → ∀ (its : List Item) (cp : Bytes) (k : CommitKind) (p : Payload),
    ∀ e ∈ (parse pc {} its []).1, commitDb (commitCmds cp k e.unit p) = dbBefore its e.startOff 0

private def selectSet : List Item :=
  items 0 [⟨wSelect, [[51]]⟩, ⟨wSet, [[107,48], [118]]⟩]           -- SELECT 3 ; SET k0 v

/-- **Known finding D31, as a counter-witness.** The statement with databases
    is FALSE for the tool as it is: the stream `SELECT 3; SET k0 v` yields one
    unit (the parser consumes the SELECT and the unit carries no database), and
    no commit transaction of that unit — whatever its kind — selects a
    database, so it executes in database 0 while the write was made in 3. -/
theorem D31_counterexample : ¬ applied_in_source_db_stmt := by
  intro h
  obtain ⟨e, he, h0, h3⟩ : ∃ e ∈ (parse ⟨Filter.buildOutput {}, standaloneMode, defaultResolver⟩ {} selectSet []).1,
      commitDb (commitCmds [99,112] .latest e.unit ⟨[123,125], [[102],[118]], 1⟩) = 0 ∧
      dbBefore selectSet e.startOff 0 = 3 := by decide +kernel
  have := h ⟨Filter.buildOutput {}, standaloneMode, defaultResolver⟩ default_filter_ok selectSet [99,112] .latest
    ⟨[123,125], [[102],[118]], 1⟩ e he
  rw [h0, h3] at this
  cases this

end GunYu.Props.C13
