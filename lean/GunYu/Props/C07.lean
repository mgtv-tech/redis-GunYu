/-
  C07 — The stored resume position only moves forward along command boundaries.

  Model: GunYu/Model/Sender.lean (`run` = the sendCmdsBatch loop over ANY event
  list: items in stream order interleaved with batch / keep-alive / checkpoint
  ticks and `done`, in any arrangement — an idle source is a list of ticks).
  `cpOffsets out` = every `<runid>_offset` value written, in wire order.
  Item offsets are command END offsets (Model `parseStep`, tied by the
  correspondence harness) or the offset the run started from (the initial
  SELECT item of a resumed run).
-/
import GunYu.Model.Sender
import GunYu.Model.Target
import GunYu.Proofs.SenderCp
import GunYu.Proofs.MaxOffset
import GunYu.Proofs.Parser
import GunYu.Proofs.RunId

namespace GunYu.Props.C07
open GunYu GunYu.Sender GunYu.Target

/-- offsets carried by the item events of a schedule -/
def itemOffsets : List Ev → List Int
  | [] => []
  | .item it :: rest => it.offset :: itemOffsets rest
  | _ :: rest => itemOffsets rest

/-- item offsets never decrease along the schedule, starting from `lo` -/
def Mono : Int → List Ev → Prop
  | _, [] => True
  | lo, .item it :: rest => lo ≤ it.offset ∧ Mono it.offset rest
  | lo, _ :: rest => Mono lo rest

theorem mem_shape {old new o : Int} {l : List Int} (h : StepShape old new l) (ho : o ∈ l) :
    0 ≤ o ∧ (o = old ∨ o = new) := by
  obtain ⟨l1, l2, rfl, h1, h2⟩ := h
  rcases List.mem_append.mp ho with m | m
  · rcases h1 with rfl | ⟨rfl, hp⟩ | ⟨rfl, hp⟩
    · cases m
    · simp at m; subst m; exact ⟨hp, Or.inl rfl⟩
    · simp at m; subst m; exact ⟨hp, Or.inr rfl⟩
  · rcases h2 with rfl | ⟨rfl, hp⟩
    · cases m
    · simp at m; subst m; exact ⟨hp, Or.inr rfl⟩

theorem pairwise_shape {old new : Int} {l : List Int} (h : StepShape old new l) (hle : old ≤ new) :
    l.Pairwise (· ≤ ·) := by
  obtain ⟨l1, l2, rfl, h1, h2⟩ := h
  rcases h1 with rfl | ⟨rfl, _⟩ | ⟨rfl, _⟩ <;> rcases h2 with rfl | ⟨rfl, _⟩ <;> simp [hle]

theorem newLast_mem (s : SState) (ev : Ev) (rest : List Ev) :
    newLast s ev = s.lastOffset ∨ newLast s ev ∈ itemOffsets (ev :: rest) := by
  cases ev <;> simp [newLast, itemOffsets]

/-- **Every stored offset is a command boundary** (an offset carried by an item
    the loop has received) or the position the loop started with, and is never
    negative — in particular never the "-1 / undefined" marker. For every
    configuration, every state, every schedule. -/
theorem cp_boundary (c : SCfg) (s : SState) (evs : List Ev) :
    ∀ o ∈ cpOffsets (run c s evs).2, 0 ≤ o ∧ (o = s.lastOffset ∨ o ∈ itemOffsets evs) := by
  induction evs generalizing s with
  | nil => intro o ho; simp [run] at ho
  | cons ev rest ih =>
    intro o ho
    obtain ⟨hlast, hshape⟩ := step_cp c s ev
    have hnew : ∀ o, o = newLast s ev → o = s.lastOffset ∨ o ∈ itemOffsets (ev :: rest) := by
      intro o h; rw [h]; exact newLast_mem s ev rest
    have hstep : ∀ o ∈ cpOffsets (step c s ev).2,
        0 ≤ o ∧ (o = s.lastOffset ∨ o ∈ itemOffsets (ev :: rest)) := by
      intro o ho
      obtain ⟨hp, h⟩ := mem_shape hshape ho
      exact ⟨hp, h.elim Or.inl (hnew o)⟩
    simp only [run] at ho
    split at ho
    · exact hstep o ho
    · rw [cpOffsets_append] at ho
      rcases List.mem_append.mp ho with m | m
      · exact hstep o m
      · obtain ⟨hp, h⟩ := ih (step c s ev).1 o m
        refine ⟨hp, ?_⟩
        rcases h with h | h
        · rw [hlast] at h; exact hnew o h
        · right
          cases ev <;> simp [itemOffsets, h]

/-- From a fresh loop (`lastOffset = -1`) every stored offset is the end offset
    of a command (or the start offset item) actually received. -/
theorem cp_boundary_fresh (c : SCfg) (evs : List Ev) :
    ∀ o ∈ cpOffsets (run c initS evs).2, o ∈ itemOffsets evs := by
  intro o ho
  obtain ⟨hp, h⟩ := cp_boundary c initS evs o ho
  rcases h with h | h
  · exfalso; simp [initS] at h; omega
  · exact h

theorem mono_newLast (s : SState) (ev : Ev) (rest : List Ev) (h : Mono s.lastOffset (ev :: rest)) :
    s.lastOffset ≤ newLast s ev ∧ Mono (newLast s ev) rest := by
  cases ev <;> simp [Mono, newLast] at h ⊢ <;> exact h

/-- **Successive stored offsets never decrease** within a run, and none is
    smaller than the position the loop held when the schedule began. -/
theorem cp_monotone (c : SCfg) (s : SState) (evs : List Ev) (hm : Mono s.lastOffset evs) :
    (cpOffsets (run c s evs).2).Pairwise (· ≤ ·) ∧
    ∀ o ∈ cpOffsets (run c s evs).2, s.lastOffset ≤ o := by
  induction evs generalizing s with
  | nil => simp [run]
  | cons ev rest ih =>
    obtain ⟨hlast, hshape⟩ := step_cp c s ev
    obtain ⟨hle, hrest⟩ := mono_newLast s ev rest hm
    have hstep_ge : ∀ o ∈ cpOffsets (step c s ev).2, s.lastOffset ≤ o := by
      intro o ho
      rcases (mem_shape hshape ho).2 with h | h <;> omega
    have hstep_le : ∀ o ∈ cpOffsets (step c s ev).2, o ≤ newLast s ev := by
      intro o ho
      rcases (mem_shape hshape ho).2 with h | h <;> omega
    simp only [run]
    split
    · exact ⟨pairwise_shape hshape hle, hstep_ge⟩
    · rw [cpOffsets_append]
      have hr := ih (step c s ev).1 (by rw [hlast]; exact hrest)
      rw [hlast] at hr
      refine ⟨?_, ?_⟩
      · rw [List.pairwise_append]
        refine ⟨pairwise_shape hshape hle, hr.1, ?_⟩
        intro a ha b hb
        have := hstep_le a ha
        have := hr.2 b hb
        omega
      · intro o ho
        rcases List.mem_append.mp ho with m | m
        · exact hstep_ge o m
        · have := hr.2 o m; omega

/-- **Across a restart**: if the next run only receives items at or beyond the
    position `x` it resumed from (the parser starts at `x`; the optional initial
    SELECT item carries `x` itself), nothing it stores is below `x`; so when
    `x` is at least everything stored before, stored positions never decrease
    over any number of restarts. -/
theorem restart_monotone (c : SCfg) (x : Int) (evs : List Ev)
    (hge : ∀ o ∈ itemOffsets evs, x ≤ o) :
    ∀ o ∈ cpOffsets (run c initS evs).2, x ≤ o := by
  intro o ho
  exact hge o (cp_boundary_fresh c evs o ho)

/-! ### Across any number of crashes and restarts (target side included)

`maxOffset t.cps` is what `GetCheckpoint` returns: the largest `<rid>_offset`
over all databases. `nextT` is one life of the tool: a new connection, the real
loop over ANY schedule, the target executing ANY prefix of what was sent (an
open MULTI is discarded), then the process dies. -/

def nextT (c : SCfg) (t : TState) (evs : List Ev) (k : Nat) : TState :=
  crash (applyLog (crash t) ((run c initS evs).2.flatten.take k))

/-- **One life never lowers the stored position**: if the run only receives items
    at or beyond the largest offset stored on the target when it starts (the
    parser starts there: `resumed_items_not_below_start`), then after ANY crash
    point the largest stored offset is at least what it was -- whichever
    databases the writes land in. -/
theorem restart_never_lowers_position (c : SCfg) (t : TState) (evs : List Ev) (k : Nat)
    (hn : KeysNodup t.cps) (hge : ∀ o ∈ itemOffsets evs, maxOffset t.cps ≤ o) :
    KeysNodup (nextT c t evs k).cps ∧ maxOffset t.cps ≤ maxOffset (nextT c t evs k).cps := by
  unfold nextT
  have h := applyLog_keeps ((run c initS evs).2.flatten.take k) (crash t) (maxOffset t.cps)
    (by simpa [crash] using hn) (by simp [crash])
    (by intro q hq; simp [crash] at hq)
    (by
      intro o ho
      have h1 := cpReqs_take_sub _ k o ho
      rw [cpReqs_flatten] at h1
      exact restart_monotone c _ evs hge o h1)
  simpa [crash] using h

/-- a sequence of lives, each resuming from what the previous one left -/
def RunsOK : TState → List (SCfg × List Ev × Nat) → Prop
  | _, [] => True
  | t, (c, evs, k) :: rest =>
    (∀ o ∈ itemOffsets evs, maxOffset t.cps ≤ o) ∧ RunsOK (nextT c t evs k) rest

def finalT : TState → List (SCfg × List Ev × Nat) → TState
  | t, [] => t
  | t, (c, evs, k) :: rest => finalT (nextT c t evs k) rest

/-- **Over any number of restarts the stored position never decreases**: any
    configurations, any schedules, any crash points, as long as every life
    starts its stream at the position it read. -/
theorem restarts_monotone (t : TState) (lives : List (SCfg × List Ev × Nat))
    (hn : KeysNodup t.cps) (hok : RunsOK t lives) :
    maxOffset t.cps ≤ maxOffset (finalT t lives).cps := by
  induction lives generalizing t with
  | nil => exact Int.le_refl _
  | cons l rest ih =>
    obtain ⟨c, evs, k⟩ := l
    obtain ⟨h1, h2⟩ := hok
    have hs := restart_never_lowers_position c t evs k hn h1
    exact Int.le_trans hs.2 (ih _ hs.1 h2)

/-- the hypothesis of the two theorems above is what the real parser delivers: a
    run that resumes at `x` (fresh parser, optional initial `select` carrying `x`,
    stream of commands ending beyond `x`) only hands over offsets `≥ x` -/
theorem resumed_items_not_below_start (pc : PCfg) (x : Int) (raws : List Raw) (evs : List Ev)
    (hitems : itemsOf evs = parserItems pc x raws)
    (hraw : (raws.map (·.off)).Pairwise (· < ·)) (hlo : ∀ r ∈ raws, x ≤ r.off) :
    ∀ o ∈ itemOffsets evs, x ≤ o := by
  have hio : ∀ evs : List Ev, itemOffsets evs = (itemsOf evs).map (·.offset) := by
    intro evs
    induction evs with
    | nil => rfl
    | cons ev rest ih => cases ev <;> simp [itemOffsets, itemsOf, ih]
  intro o ho
  rw [hio, hitems] at ho
  obtain ⟨i, hi, rfl⟩ := List.mem_map.mp ho
  rcases mem_parserItems hi with rfl | h
  · exact Int.le_refl _
  · exact (parseAll_offsets_mono pc raws { lastSent := x } hraw hlo).2 i h

/-! ### A stored offset is never without its run id (D18 as a theorem) -/

/-- **At every crash point, every database that holds a `<rid>_offset` holds the
    `<rid>_runid` field too**: for every configuration, every schedule whose
    `select` items are truthful about the database they select (the parser's are:
    `parser_items_selOK`), and ANY number `k` of requests the target executed,
    starting from a target on which that already held (e.g. an empty one) and a
    new connection. So what `GetCheckpoint` finds is always usable: a position is
    never read back as run id "?" (position lost, full resync). -/
theorem cp_offset_has_runid (c : SCfg) (evs : List Ev)
    (hev : ∀ ev ∈ evs, ∀ it, ev = .item it → SelOK it)
    (t : TState) (hq : t.queued = none) (hcur : t.cur = 0) (h0 : RunIdInv t) (k : Nat) :
    RunIdInv (applyLog t ((run c initS evs).2.flatten.take k)) := by
  obtain ⟨E, ⟨R, hER⟩, hsame⟩ := crash_executes_body_prefix (run c initS evs).2
    (run_wf c initS evs) t hq k
  have hall := run_coupled c initS evs t ⟨by rw [hcur]; rfl, by intro d hd; simp [initS] at hd, h0⟩
    (by intro i hi; simp [initS] at hi) hev
  have hE : E = (bodies (run c initS evs).2).take E.length := by
    rw [← hER]; simp
  have := hall E.length
  rw [← hE] at this
  intro d o ho
  rw [hsame.2] at ho ⊢
  exact this d o ho

/-- the hypothesis above holds for every schedule whose items are the parser's -/
theorem parser_items_selOK (pc : PCfg) (x : Int) (raws : List Raw) (evs : List Ev)
    (hitems : itemsOf evs = parserItems pc x raws)
    (hsel : ∀ r ∈ raws, r.cmd = bSelect → ∀ a n, r.args = [a] → atoi? a = some n → 0 ≤ n) :
    ∀ ev ∈ evs, ∀ it, ev = .item it → SelOK it := by
  intro ev hev it hit
  subst hit
  have := mem_itemsOf hev
  rw [hitems] at this
  rcases mem_parserItems this with rfl | h
  · exact fun _ cur => selArg_selectItem cur _ x
  · exact parseAll_selOK pc raws _ hsel it h

/-- An idle source (ticks only, in any number and order) stores nothing new
    beyond the position already held, and nothing at all when the run has not
    consumed anything yet — a keep-alive never replaces a good position. -/
theorem idle_stores_nothing_fresh (c : SCfg) (evs : List Ev) (hidle : itemOffsets evs = []) :
    cpOffsets (run c initS evs).2 = [] := by
  apply List.eq_nil_iff_forall_not_mem.mpr
  intro o ho
  have := cp_boundary_fresh c evs o ho
  rw [hidle] at this
  cases this

/-! Non-vacuity: a transactional, resumable configuration; a schedule with a
    keep-alive before the first item, a SELECT barrier and a transaction. -/
def exCfg : SCfg := { txnMode := true, resume := true, batchCount := 2, batchBytes := 1000 }
def exEvs : List Ev :=
  [ .keepaliveTick,
    .item { cmd := bSelect, args := [[49]], offset := 1023, db := 1 },
    .item { cmd := [115,101,116], args := [[97],[98]], offset := 1050, db := 1 },
    .batchTick,
    .item { cmd := bMulti, args := [], offset := 1065, db := 1 },
    .item { cmd := [115,101,116], args := [[99],[100]], offset := 1092, db := 1 },
    .item { cmd := bExec, args := [], offset := 1106, db := 1 },
    .cpTick, .done ]

example : Mono initS.lastOffset exEvs := by simp [exEvs, Mono, initS]
example : cpOffsets (run exCfg initS exEvs).2 = [1050, 1050, 1106] := by decide
example : itemOffsets exEvs = [1023, 1050, 1065, 1092, 1106] := by decide
def exT0 : TState := {}
-- D18: after 7 requests (inside the second block) db 1 holds offset 1050 together with the run id
example : getCp (applyLog exT0 ((run exCfg initS exEvs).2.flatten.take 7)).cps 1 =
    { offset := some 1050, hasRunId := true } := by decide +kernel
-- two lives: the first dies after 7 requests (inside the second block), the second resumes at 1050
example : maxOffset (nextT exCfg exT0 exEvs 7).cps = 1050 := by decide +kernel
example : RunsOK exT0 [(exCfg, exEvs, 7),
    (exCfg, [.item { cmd := [115,101,116], args := [[99],[100]], offset := 1092, db := 1 }, .batchTick], 9)] := by
  refine ⟨?_, ?_, trivial⟩
  · intro o ho
    have hm : maxOffset exT0.cps = -1 := by decide
    have hio : itemOffsets exEvs = [1023, 1050, 1065, 1092, 1106] := by decide
    rw [hm]; rw [hio] at ho; simp at ho; omega
  · intro o ho
    have hm : maxOffset (nextT exCfg exT0 exEvs 7).cps = 1050 := by decide +kernel
    rw [hm]; simp [itemOffsets] at ho; omega

end GunYu.Props.C07
