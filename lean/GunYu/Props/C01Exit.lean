/-
  C01/C02 -- EVERY WAY THE SENDER LOOP RETURNS.

  `Props/C01.lean` and `Props/C02*.lean` speak about `run`, which stops after the
  `case <-replayWait.Done()` iteration (`Ev.done`): in ticker mode that iteration
  flushes everything (`done_flushes_all`). The Go loop also returns when
  `replayWait` is found closed after ANY OTHER iteration -- an item that was still
  in `sendBuf`, a ticker that was due, or any iteration during which `replayWait`
  got closed -- and then WITHOUT the final flush (`Model/SenderExit.lean`,
  `Leave`, `runLeave`). This file shows that nothing is lost by that:

  1. `runLeave_eq_run`        a run that leaves by `l` after the iterations `evs` is
                              `run` on the schedule `evs ++ lastEv l`; hence every
                              for-all-schedules theorem about `run` holds for every
                              way of leaving (`leave_forwarded_exact`,
                              `leave_wire_prefix`, `leave_wire_ordered`,
                              `leave_executed_in_order`);
  2. `leave_unsent_not_covered`  whatever the loop holds unsent when it returns
                              lies STRICTLY above every position the run stored
                              (`…_parser`, `…_resumed_parser`: for the real parser's
                              items), and above the position the next start READS
                              on the target (`leave_unsent_above_startPoint`);
  3. `leave_then_resume`      `Props.C02.crash_then_resume` at the end of a run that
                              left in ANY way, having received ANY prefix of the
                              parser's items: the target holds `S1 ++ X`, the resumed
                              run executes a prefix of `S2` and, once done in ticker
                              mode, all of it, where `S1 ++ S2` is the specification
                              of the whole stream: the unsent items are re-sent;
  4. `doneCase_flushes_all`   the `Done` case in ticker mode leaves nothing unsent;
                              an `otherCase` leave that does (example at the end).
-/
import GunYu.Model.SenderExit
import GunYu.Props.C01
import GunYu.Props.C02
import GunYu.Props.C02TwoRuns
import GunYu.Props.C02Lives
import GunYu.Props.C02Start
import GunYu.Proofs.MaxOffset

namespace GunYu.Props.C01
open GunYu GunYu.Sender GunYu.Target

/-! ### 1. Leaving is a schedule of `run` -/

/-- **Every way of leaving is a schedule of `run`**: the iterations `evs` (none of
    them the `Done` case) followed by the way the loop leaves are exactly `run` on
    `evs ++ lastEv l`. (For `otherCase ev` no side condition is needed: an
    `otherCase .done` is the `Done` case.) -/
theorem runLeave_eq_run (c : SCfg) (s : SState) (evs : List Ev) (l : Leave) (hnd : NoDone evs) :
    runLeave c s evs l = run c s (evs ++ lastEv l) := by
  induction evs generalizing s with
  | nil =>
    cases l with
    | doneCase => simp [runLeave, leaveStep, lastEv, run]
    | otherCase ev =>
      simp only [runLeave, leaveStep, lastEv, List.nil_append]
      exact (C09.run_single c s ev).symm
    | atOnce => rfl
  | cons ev rest ih =>
    have hne : ev ≠ .done := hnd ev (List.mem_cons_self ..)
    have hrest : NoDone rest := fun e he => hnd e (List.mem_cons_of_mem _ he)
    simp only [runLeave, List.cons_append, run, hne, ↓reduceIte]
    rw [ih _ hrest]

/-- `runLeave` is: `run` over the iterations, then the last iteration -/
theorem runLeave_split (c : SCfg) (s : SState) (evs : List Ev) (l : Leave) (hnd : NoDone evs) :
    runLeave c s evs l =
      ((leaveStep c (run c s evs).1 l).1, (run c s evs).2 ++ (leaveStep c (run c s evs).1 l).2) := by
  induction evs generalizing s with
  | nil => simp [runLeave, run]
  | cons ev rest ih =>
    have hne : ev ≠ .done := hnd ev (List.mem_cons_self ..)
    have hrest : NoDone rest := fun e he => hnd e (List.mem_cons_of_mem _ he)
    simp only [runLeave, run, hne, ↓reduceIte]
    rw [ih _ hrest]
    simp [List.append_assoc]

/-- the commands still queued are the data commands among the unsent items -/
theorem qd_eq_unsent (r : SState × List Batch) : qd r.1 = (unsent r).filterMap itemCmd := rfl

/-- **Nothing dropped, duplicated, reordered, altered or invented, however the
    loop leaves**: the data commands on the wire followed by those left unsent
    are exactly the forwarded stream of the iterations performed. -/
theorem leave_forwarded_exact (c : SCfg) (evs : List Ev) (l : Leave) (hnd : NoDone evs) :
    dataOut (runLeave c initS evs l).2 ++ qd (runLeave c initS evs l).1 = fwd .no (evs ++ lastEv l) := by
  rw [runLeave_eq_run c initS evs l hnd]; exact forwarded_exact c _

/-- what is on the wire when the loop returns is a prefix of the forwarded stream -/
theorem leave_wire_prefix (c : SCfg) (evs : List Ev) (l : Leave) (hnd : NoDone evs) :
    dataOut (runLeave c initS evs l).2 <+: fwd .no (evs ++ lastEv l) :=
  ⟨_, leave_forwarded_exact c evs l hnd⟩

/-- the wire of a run that leaves in any way is ordered (`Props.C02.wire_ordered`):
    commands and position writes in offset order -/
theorem leave_wire_ordered (c : SCfg) (evs : List Ev) (l : Leave) (hnd : NoDone evs)
    (hm : C02.SMono initS.txn initS.lastOffset (evs ++ lastEv l)) :
    (keys (runLeave c initS evs l).2).Pairwise (· ≤ ·) := by
  rw [runLeave_eq_run c initS evs l hnd]; exact C02.wire_ordered c _ hm

/-- the target has executed the wire in order, each command in the database chosen
    by the latest forwarded `select`, and no MULTI is left open -- whatever the way
    of leaving -/
theorem leave_executed_in_order (c : SCfg) (evs : List Ev) (l : Leave) (hnd : NoDone evs)
    (t : TState) (hq : t.queued = none) :
    (applyLog t (runLeave c initS evs l).2.flatten).queued = none ∧
    (applyLog t (runLeave c initS evs l).2.flatten).applied =
      t.applied ++ (seqApplied t.cur (dataOut (runLeave c initS evs l).2)).2 := by
  rw [runLeave_eq_run c initS evs l hnd]; exact executed_in_order c _ t hq

/-! ### 2. What is left unsent is not covered by any stored position -/

/-- **Leaving without the final flush loses nothing.** For every configuration,
    every schedule with increasing offsets and EVERY way of leaving: every item the
    loop received, kept and did not send lies strictly above every position
    `<rid>_offset o` this run put on the wire. A restart, which re-reads the source
    from the stored position, therefore reads every unsent item again. -/
theorem leave_unsent_not_covered (c : SCfg) (evs : List Ev) (l : Leave) (hnd : NoDone evs)
    (hm : C02.SMono initS.txn initS.lastOffset (evs ++ lastEv l)) :
    ∀ o ∈ cpOffsets (runLeave c initS evs l).2, ∀ i ∈ unsent (runLeave c initS evs l), o < i.offset := by
  rw [runLeave_eq_run c initS evs l hnd]
  exact C02.pending_not_covered c _ hm

/-- the same with the hypothesis discharged for the REAL PARSER: any filter /
    mapping configuration, any source stream whose commands end at increasing
    offsets above the start offset, the iterations' items being what the parser
    emitted for it -/
theorem leave_unsent_not_covered_parser (pc : PCfg) (c : SCfg) (raws : List Raw) (start : Int)
    (evs : List Ev) (l : Leave) (hnd : NoDone evs)
    (hitems : itemsOf (evs ++ lastEv l) = parseAll pc { lastSent := start } raws)
    (hraw : (raws.map (·.off)).Pairwise (· < ·)) (hlo : ∀ r ∈ raws, start < r.off)
    (hstart : 0 ≤ start) :
    ∀ o ∈ cpOffsets (runLeave c initS evs l).2, ∀ i ∈ unsent (runLeave c initS evs l), o < i.offset :=
  leave_unsent_not_covered c evs l hnd
    (C02.parser_feeds_smono pc raws start (evs ++ lastEv l) hitems hraw hlo hstart)

/-- ... and for a RESUMED run (`parserItems`: the initial `select <startDbId>`
    carrying the start offset, then the parser's output) -/
theorem leave_unsent_not_covered_resumed_parser (pc : PCfg) (c : SCfg) (raws : List Raw) (start : Int)
    (evs : List Ev) (l : Leave) (hnd : NoDone evs)
    (hitems : itemsOf (evs ++ lastEv l) = parserItems pc start raws)
    (hraw : (raws.map (·.off)).Pairwise (· < ·)) (hlo : ∀ r ∈ raws, start < r.off)
    (hstart : 0 ≤ start) :
    ∀ o ∈ cpOffsets (runLeave c initS evs l).2, ∀ i ∈ unsent (runLeave c initS evs l), o < i.offset :=
  leave_unsent_not_covered c evs l hnd
    (C02.resumed_parser_feeds_smono pc raws start (evs ++ lastEv l) hitems hraw hlo hstart)

/-! the same against the TARGET: the position the next start reads -/

/-- executing complete well-formed batches = executing their bodies in order -/
theorem applyLog_bodies (out : List Batch) (hwf : AllWF out) (t : TState) (hq : t.queued = none) :
    applyLog t out.flatten = (bodies out).foldl execReq t := by
  induction out generalizing t with
  | nil => rfl
  | cons b rest ih =>
    obtain ⟨body, hp, hstrip, hshape⟩ := stripB_wf b (hwf b (List.mem_cons_self ..))
    have hrest : AllWF rest := fun x hx => hwf x (List.mem_cons_of_mem _ hx)
    have hb := applyLog_batch hp t hq hshape
    have hq1 : (body.foldl execReq t).queued = none := by rw [foldl_execReq_queued, hq]
    have hbod : bodies (b :: rest) = body ++ bodies rest := by simp [bodies, hstrip]
    rw [List.flatten_cons, applyLog_append, hb, hbod, List.foldl_append]
    exact ih hrest _ hq1

theorem cp_key_mem {out : List Batch} {o : Int} (ho : o ∈ cpOffsets out) : 2 * o + 1 ∈ keys out := by
  obtain ⟨b, hb, hob⟩ := List.mem_flatMap.mp ho
  obtain ⟨r, hr, hro⟩ := List.mem_filterMap.mp hob
  refine List.mem_flatMap.mpr ⟨b, hb, List.mem_filterMap.mpr ⟨r, hr, ?_⟩⟩
  cases r <;> cases hro
  rfl

/-- on a target that held nothing above `start`, the position the next start reads after the
    wire of `run` is at most the offset of any queued item at or above `start`, and strictly
    below it if the item lies above `start` -/
theorem startPoint_le_queued (c : SCfg) (sched : List Ev)
    (hm : C02.SMono initS.txn initS.lastOffset sched) (start : Int)
    (t : TState) (hn : KeysNodup t.cps) (hq : t.queued = none) (hle : maxOffset t.cps ≤ start)
    (i : Item) (hi : i ∈ (run c initS sched).1.queue) (histart : start ≤ i.offset) :
    (startPoint (applyLog t (run c initS sched).2.flatten)).1 ≤ i.offset ∧
    (start < i.offset → (startPoint (applyLog t (run c initS sched).2.flatten)).1 < i.offset) := by
  have hwf := run_wf c initS sched
  obtain ⟨_, hw, _⟩ := C02.run_ok c initS sched (qok_nil _) hm
  have hcover := C02.pending_not_covered c sched hm
  -- every position on the wire is ≥ −1: the table keeps one record per database
  have hge1 : ∀ o ∈ cpReqs (run c initS sched).2.flatten, -1 ≤ o := by
    intro o ho
    rw [cpReqs_flatten] at ho
    have := (hw.2 _ (cp_key_mem ho)).1
    simp only [lowkey, initS] at this
    omega
  have hm1 : -1 ≤ maxOffset t.cps := (le_maxOffset_iff t.cps (-1)).mpr (Or.inl (Int.le_refl _))
  have hkeep := applyLog_keeps (run c initS sched).2.flatten t (-1) hn hm1
    (by intro q hq'; rw [hq] at hq'; cases hq') hge1
  -- what is stored was there before (≤ start) or was written by this run (< the queued item)
  have hstored : ∀ p ∈ (applyLog t (run c initS sched).2.flatten).cps, ∀ o, p.2.offset = some o →
      o ≤ start ∨ o ∈ cpOffsets (run c initS sched).2 := by
    intro p hp o hpo
    have hg : (getCp (applyLog t (run c initS sched).2.flatten).cps p.1).offset = some o := by
      unfold getCp; rw [lookup_of_mem_nodup _ hkeep.1 p hp]; exact hpo
    rw [applyLog_bodies _ hwf t hq] at hg
    rcases C02.stored_comes_from _ t p.1 o hg with h | h
    · left
      obtain ⟨r, hr, hgr⟩ := C02.mem_of_getCp_offset t.cps p.1 o h
      have : o ≤ maxOffset t.cps :=
        (le_maxOffset_iff t.cps o).mpr (Or.inr ⟨(p.1, r), hr, o, by rw [← hgr]; exact h, Int.le_refl _⟩)
      omega
    · right; rw [cpOffsetsB_bodies _ hwf] at h; exact h
  have bound : ∀ b : Int, start ≤ b → (∀ o ∈ cpOffsets (run c initS sched).2, o ≤ b) →
      maxOffset (applyLog t (run c initS sched).2.flatten).cps ≤ b := by
    intro b hb hcp
    have h2 : ¬ (b + 1 ≤ maxOffset (applyLog t (run c initS sched).2.flatten).cps) := by
      intro h
      rcases (le_maxOffset_iff _ _).mp h with h | ⟨p, hp, o, hpo, hle'⟩
      · omega
      · rcases hstored p hp o hpo with h1 | h1
        · omega
        · have := hcp o h1; omega
    omega
  have hsp : ∀ b : Int, -1 ≤ b → maxOffset (applyLog t (run c initS sched).2.flatten).cps ≤ b →
      (startPoint (applyLog t (run c initS sched).2.flatten)).1 ≤ b := by
    intro b hb h
    unfold startPoint
    simp only
    split
    · exact hb
    · exact h
  constructor
  · exact hsp _ (by omega) (bound _ histart (fun o ho => by have := hcover o ho i hi; omega))
  · intro hlt
    have := hsp (i.offset - 1) (by omega)
      (bound _ (by omega) (fun o ho => by have := hcover o ho i hi; omega))
    omega

/-- **The position the next start reads does not cover what was left unsent.** Let
    a target that holds no position (a new connection, no open MULTI) execute
    everything a run put on the wire before it left -- in ANY way. The offset
    `Target.startPoint` (= `GetCheckpoint`: the largest stored offset, −1 if none)
    then returns is strictly below every unsent item. -/
theorem leave_unsent_above_startPoint (c : SCfg) (evs : List Ev) (l : Leave) (hnd : NoDone evs)
    (hm : C02.SMono initS.txn initS.lastOffset (evs ++ lastEv l))
    (t : TState) (hfresh : t.cps = []) (hq : t.queued = none) :
    ∀ i ∈ unsent (runLeave c initS evs l),
      (startPoint (applyLog t (runLeave c initS evs l).2.flatten)).1 < i.offset := by
  rw [runLeave_eq_run c initS evs l hnd]
  generalize evs ++ lastEv l = sched at hm ⊢
  intro i hi
  obtain ⟨hqok, _, hlow⟩ := C02.run_ok c initS sched (qok_nil _) hm
  -- an unsent item ends at a real offset
  have hpos : -1 < i.offset := by
    unfold unsent at hi
    cases hqq : (run c initS sched).1.queue with
    | nil => rw [hqq] at hi; cases hi
    | cons j q =>
      rw [hqq] at hi hlow hqok
      simp only [lowkey, initS] at hlow
      rcases List.mem_cons.mp hi with rfl | hiq
      · omega
      · have hs := hqok.1
        simp only [List.map_cons, List.pairwise_cons] at hs
        have := hs.1 _ (List.mem_map.mpr ⟨i, hiq, rfl⟩)
        omega
  exact (startPoint_le_queued c sched hm (-1) t (by rw [hfresh]; exact List.Pairwise.nil) hq
    (by rw [hfresh]; decide) i hi (by omega)).2 hpos

/-! the same on a target that ALREADY HOLDS records (a resumed life) -/

theorem fwdItemsO_mem_offset (t : Txn) (items : List Item) :
    ∀ x ∈ fwdItemsO t items, ∃ i ∈ items, i.offset = x.2.2 := by
  induction items generalizing t with
  | nil => intro x hx; cases hx
  | cons it rest ih =>
    intro x hx
    rcases List.mem_append.mp hx with h | h
    · refine ⟨it, List.mem_cons_self .., ?_⟩
      simp only [fwd1O] at h
      split at h
      · cases h
      · split at h
        · cases List.mem_singleton.mp h; rfl
        · cases h
    · obtain ⟨i, hi, he⟩ := ih _ x h
      exact ⟨i, List.mem_cons_of_mem _ hi, he⟩

/-- what is left in the queue carries the offset of an item the loop received -/
theorem unsent_offset_received (c : SCfg) (sched : List Ev)
    (hm : C02.SMono initS.txn initS.lastOffset sched) :
    ∀ i ∈ (run c initS sched).1.queue, ∃ j ∈ itemsOf sched, j.offset = i.offset := by
  intro i hi
  have hnp : i.cmd ≠ bPing := (C02.run_ok c initS sched (qok_nil _) hm).1.2.2 i hi
  have hx : (i.cmd, i.args, i.offset) ∈ qdO (run c initS sched).1 := by
    unfold qdO
    exact List.mem_filterMap.mpr ⟨i, hi, by simp [itemCmdO, hnp]⟩
  have hcons := run_dataO c initS (cut sched)
  rw [← run_cut, fwdO_cut_items] at hcons
  have hq0 : qdO initS = [] := rfl
  rw [hq0, List.nil_append] at hcons
  have hx' : (i.cmd, i.args, i.offset) ∈ fwdItemsO initS.txn (itemsOf (cut sched)) := by
    rw [← hcons]; exact List.mem_append_right _ hx
  obtain ⟨j, hj, he⟩ := fwdItemsO_mem_offset _ _ _ hx'
  exact ⟨j, (itemsOf_cut_prefix sched).subset hj, he⟩

/-- **... also for a RESUMED life.** The target holds the records of earlier lives, none above
    `start` (what `StartPoint` read: `Props.C02.StartsAt`, the unique largest offset); the run
    receives items at or above `start` (the resumed parser's: `parserItems_ge`) and leaves in ANY
    way. The offset the next start reads is then at most the offset of every unsent item, and
    strictly below every unsent item that ends above `start` -- i.e. every one but the initial
    `select <startDbId>`, which carries `start` itself (re-created by the next resumed run). -/
theorem leave_unsent_above_startPoint_resumed (c : SCfg) (evs : List Ev) (l : Leave) (hnd : NoDone evs)
    (hm : C02.SMono initS.txn initS.lastOffset (evs ++ lastEv l))
    (start : Int)
    (hge : ∀ j ∈ itemsOf (evs ++ lastEv l), start ≤ j.offset)
    (t : TState) (hn : KeysNodup t.cps) (hq : t.queued = none) (hle : maxOffset t.cps ≤ start) :
    ∀ i ∈ unsent (runLeave c initS evs l),
      (startPoint (applyLog t (runLeave c initS evs l).2.flatten)).1 ≤ i.offset ∧
      (start < i.offset →
        (startPoint (applyLog t (runLeave c initS evs l).2.flatten)).1 < i.offset) := by
  rw [runLeave_eq_run c initS evs l hnd]
  generalize evs ++ lastEv l = sched at hm hge ⊢
  intro i hi
  obtain ⟨j, hj, hje⟩ := unsent_offset_received c sched hm i hi
  exact startPoint_le_queued c sched hm start t hn hq hle i hi (by rw [← hje]; exact hge j hj)

/-! ### 3. ... so the resumed run sends it -/

/-- the last iteration as an event of a schedule WITHOUT `done`: the `Done` case
    does to the loop what a checkpoint tick does (`Props.C02.done_is_cpTick`) -/
def tickEv : Leave → List Ev
  | .doneCase => [.cpTick]
  | .otherCase ev => if ev = .done then [.cpTick] else [ev]
  | .atOnce => []

theorem noDone_tickEv (evs : List Ev) (l : Leave) (hnd : NoDone evs) : NoDone (evs ++ tickEv l) := by
  intro e he
  rcases List.mem_append.mp he with h | h
  · exact hnd e h
  · cases l with
    | doneCase => simp only [tickEv, List.mem_singleton] at h; subst h; exact Ev.noConfusion
    | otherCase ev =>
      simp only [tickEv] at h
      split at h
      · simp only [List.mem_singleton] at h; subst h; exact Ev.noConfusion
      · rename_i hne; simp only [List.mem_singleton] at h; subst h; exact hne
    | atOnce => cases h

theorem itemsOf_append (a b : List Ev) : itemsOf (a ++ b) = itemsOf a ++ itemsOf b := by
  induction a with
  | nil => rfl
  | cons ev rest ih => cases ev <;> simp [itemsOf, ih]

theorem itemsOf_map_item (is : List Item) : itemsOf (is.map Ev.item) = is := by
  induction is with
  | nil => rfl
  | cons i rest ih => simp [itemsOf, ih]

theorem itemsOf_tickEv (l : Leave) : itemsOf (tickEv l) = itemsOf (lastEv l) := by
  cases l with
  | doneCase => rfl
  | otherCase ev =>
    simp only [tickEv, lastEv]
    split
    · rename_i h; subst h; rfl
    · rfl
  | atOnce => rfl

theorem smono_prefix (t : Txn) (last : Int) (a b : List Ev) (h : C02.SMono t last (a ++ b)) :
    C02.SMono t last a := by
  induction a generalizing t last with
  | nil => trivial
  | cons ev rest ih =>
    cases ev with
    | item it => exact ⟨h.1, h.2.1, ih _ _ h.2.2⟩
    | _ => exact ih _ _ h

/-- a run that leaves in any way = `run` on a schedule without `done` -/
theorem runLeave_eq_run_tick (c : SCfg) (evs : List Ev) (l : Leave) (hnd : NoDone evs) :
    runLeave c initS evs l = run c initS (evs ++ tickEv l) := by
  rw [runLeave_eq_run c initS evs l hnd]
  cases l with
  | doneCase => exact C02.run_done_as_cpTick c evs [] hnd
  | otherCase ev =>
    simp only [tickEv, lastEv]
    split
    · rename_i h; subst h; exact C02.run_done_as_cpTick c evs [] hnd
    · rfl
  | atOnce => rfl

/-- **However the loop leaves, the restart completes the stream.**
    `Props.C02.crash_then_resume` at the END of a run that left in ANY of the ways
    of `Leave` (not only by the `Done` case with its final flush).

    RUN 1: any filter/mapping configuration `pc`, any batching configuration `sc1`
    (either mode), any source stream `raws` above the start offset. The loop
    performs the iterations `evs` and leaves by `l`, having received only a PREFIX
    of the parser's items (`rest`: what the parser had emitted but the loop had not
    taken from `sendBuf`, and what the parser would still emit). The target (no
    position stored yet, new connection) has executed everything the run put on
    the wire; its last position write is `<rid>_offset o`
    (`bodies wire = E1 ++ [o] ++ E2`). With `A`/`B` the source commands ending at
    or before / after `o`, `S1` = what the parser's items for `A` execute, `S2` =
    what a FRESH parser started at `(o, startDbId)` on `B` executes:

     1. `(startDbId, o)` is the unique largest stored offset (what `StartPoint` finds);
     2. `S1 ++ S2` is the one-pass specification `specStream` of the WHOLE stream;
     3. the target holds `S1 ++ X`, `X` a prefix of `S2`: everything up to the
        stored position is there -- whatever was left unsent (or never received) is
        above `o` (`leave_unsent_not_covered`), i.e. part of `S2`;

    RUN 2, any `sc2`, any schedule `evs2` of the resumed parser's items:

     4. at any moment it has executed a prefix of `S2`, and
     5. in ticker mode, once it leaves by the `Done` case, exactly `S2`: the target
        then holds `S1 ++ X ++ S2` -- the whole specification, only `X` twice.

    The hypotheses are those of `crash_then_resume` (source stream and
    configuration), plus `t.queued = none` (no MULTI open on the new connection). -/
theorem leave_then_resume (pc : PCfg) (sc1 : SCfg) (raws : List Raw) (start0 : Int)
    (evs : List Ev) (l : Leave) (rest : List Item) (hnd : NoDone evs)
    (hitems : itemsOf (evs ++ lastEv l) ++ rest = parseAll pc { lastSent := start0 } raws)
    (hraw : (raws.map (·.off)).Pairwise (· < ·)) (hlo : ∀ r ∈ raws, start0 < r.off)
    (hstart : 0 ≤ start0)
    (hnn : ItemsNoNested false (parseAll pc { lastSent := start0 } raws))
    (hnf : parseFails pc { lastSent := start0 } raws = false)
    (hsel : ∀ x ∈ raws, x.cmd = bSelect → ∀ a n, x.args = [a] → atoi? a = some n → 0 ≤ n)
    (hmap : ∀ n : Int, 0 ≤ n → mapDb pc n ≠ -1)
    (t : TState) (hcur : t.cur = 0) (hfresh : t.cps = []) (hq : t.queued = none)
    (E1 E2 : List Req) (o : Int)
    (hsplit : bodies (runLeave sc1 initS evs l).2 = E1 ++ Req.cpOffset o :: E2)
    (hlast : cpOffsetsB E2 = [])
    (hd : pc.startDbId = (E1.foldl execReq t).cur) (hd0 : 0 ≤ pc.startDbId) :
    let T1 := applyLog t (runLeave sc1 initS evs l).2.flatten
    let A := raws.filter (fun r => decide (r.off ≤ o))
    let B := raws.filter (fun r => decide (o < r.off))
    let S1 := (seqApplied 0 (itemCmds (parseAll pc { lastSent := start0 } A))).2
    let S2 := (seqApplied 0 (itemCmds (parserItems pc o B))).2
    UniqueMax T1.cps pc.startDbId o ∧
    specStream pc false 0 raws = S1 ++ S2 ∧
    (∃ X, T1.applied = t.applied ++ S1 ++ X ∧ X <+: S2 ∧
      X = (seqApplied pc.startDbId (dataB E2)).2) ∧
    (∀ i ∈ unsent (runLeave sc1 initS evs l), o < i.offset) ∧
    (∀ (sc2 : SCfg) (evs2 : List Ev), itemsOf evs2 = parserItems pc o B → NoDone evs2 →
      ItemsNoNested false (parseAll pc { lastSent := o } B) →
      (∃ more, T1.applied ++ S2 = (applyLog (crash T1) (run sc2 initS evs2).2.flatten).applied ++ more) ∧
      (sc2.txnMode = false →
        (applyLog (crash T1) (runLeave sc2 initS evs2 .doneCase).2.flatten).applied = T1.applied ++ S2)) := by
  -- the whole schedule of run 1, had it gone on: what it did, then the remaining items
  have hnd1 : NoDone (evs ++ tickEv l) := noDone_tickEv evs l hnd
  have hndm : NoDone (rest.map Ev.item) := by
    intro e he
    obtain ⟨i, _, rfl⟩ := List.mem_map.mp he
    exact Ev.noConfusion
  have hndall : NoDone ((evs ++ tickEv l) ++ rest.map Ev.item) := by
    intro e he
    rcases List.mem_append.mp he with h | h
    · exact hnd1 e h
    · exact hndm e h
  have hitems1 : itemsOf ((evs ++ tickEv l) ++ rest.map Ev.item) = parseAll pc { lastSent := start0 } raws := by
    rw [itemsOf_append, itemsOf_append, itemsOf_tickEv, ← itemsOf_append, itemsOf_map_item, hitems]
  have hrun := runLeave_eq_run_tick sc1 evs l hnd
  have happ := C09.run_append sc1 initS (evs ++ tickEv l) (rest.map Ev.item) hnd1
  rw [← hrun] at happ
  have hwf : AllWF (runLeave sc1 initS evs l).2 := by rw [hrun]; exact run_wf sc1 initS _
  -- the crash point: all requests of the run that left
  have htake : (run sc1 initS ((evs ++ tickEv l) ++ rest.map Ev.item)).2.flatten.take
      (runLeave sc1 initS evs l).2.flatten.length = (runLeave sc1 initS evs l).2.flatten := by
    rw [happ]
    simp only [List.flatten_append]
    rw [List.take_append_of_le_length (Nat.le_refl _), List.take_length]
  have hE : bodies (runLeave sc1 initS evs l).2 <+:
      bodies (run sc1 initS ((evs ++ tickEv l) ++ rest.map Ev.item)).2 := by
    rw [happ]
    simp only [bodies_append]
    exact List.prefix_append _ _
  have hsame : SameData
      (applyLog t ((run sc1 initS ((evs ++ tickEv l) ++ rest.map Ev.item)).2.flatten.take
        (runLeave sc1 initS evs l).2.flatten.length))
      ((bodies (runLeave sc1 initS evs l).2).foldl execReq t) := by
    rw [htake, applyLog_bodies _ hwf t hq]
    exact ⟨rfl, rfl⟩
  have h := C02.crash_then_resume pc sc1 raws start0 ((evs ++ tickEv l) ++ rest.map Ev.item) hitems1
    hraw hlo hstart hndall hnn hnf hsel hmap t hcur hfresh (runLeave sc1 initS evs l).2.flatten.length
    (bodies (runLeave sc1 initS evs l).2) E1 E2 o hE hsame hsplit hlast hd hd0
  simp only at h
  rw [htake] at h
  obtain ⟨h1, h2, h3, h4⟩ := h
  simp only
  refine ⟨h1, h2, h3, ?_, ?_⟩
  · -- what was left unsent is above the stored position
    have hm : C02.SMono initS.txn initS.lastOffset (evs ++ tickEv l) :=
      smono_prefix _ _ _ _ (C02.parser_feeds_smono pc raws start0 _ hitems1 hraw hlo hstart)
    have ho : o ∈ cpOffsets (run sc1 initS (evs ++ tickEv l)).2 := by
      rw [← hrun, ← cpOffsetsB_bodies _ hwf, hsplit, cpOffsetsB_append]
      apply List.mem_append_right
      simp [cpOffsetsB, cpOfReq]
    intro i hi
    rw [hrun] at hi
    exact C02.pending_not_covered sc1 _ hm o ho i hi
  · intro sc2 evs2 hi2 hnd2 hnn2
    obtain ⟨h5, h6⟩ := h4 sc2 evs2 hi2 hnd2 hnn2
    refine ⟨h5, ?_⟩
    intro hsc2
    rw [runLeave_eq_run sc2 initS evs2 .doneCase hnd2]
    exact h6 hsc2

/-! ### 4. The `Done` case flushes everything; another case need not -/

/-- **Ticker mode, the `Done` case**: the final flush leaves nothing unsent, the wire
    carries the whole forwarded stream (`done_flushes_all` for `runLeave`). -/
theorem doneCase_flushes_all (c : SCfg) (hc : c.txnMode = false) (evs : List Ev) (hnd : NoDone evs) :
    unsent (runLeave c initS evs .doneCase) = [] ∧
    dataOut (runLeave c initS evs .doneCase).2 = fwd .no evs := by
  rw [runLeave_eq_run c initS evs .doneCase hnd]
  exact ⟨done_queue_nil c hc evs hnd, by rw [lastEv, done_flushes_all c hc evs hnd, fwd_append_done _ _ hnd]⟩

/-- whatever the way of leaving, what is left unsent is exactly the part of the
    forwarded stream that is not on the wire -/
theorem leave_unsent_is_the_rest (c : SCfg) (evs : List Ev) (l : Leave) (hnd : NoDone evs) :
    ∃ sentPart, fwd .no (evs ++ lastEv l) = sentPart ++ (unsent (runLeave c initS evs l)).filterMap itemCmd ∧
      sentPart = dataOut (runLeave c initS evs l).2 :=
  ⟨_, (leave_forwarded_exact c evs l hnd).symm, rfl⟩

/-! ### Non-vacuity -/

/-- Ticker mode, batch limit 100: two items, then `replayWait` is closed while a
    THIRD item is being handled (`otherCase`): the loop returns with three unsent
    items and nothing on the wire ... -/
example :
    unsent (runLeave C02.trCfg initS [exSet 97 50, exSet 98 77] (.otherCase (exSet 99 104))) =
      [ { cmd := [115,101,116], args := [[97],[118]], offset := 50, db := 1 },
        { cmd := [115,101,116], args := [[98],[118]], offset := 77, db := 1 },
        { cmd := [115,101,116], args := [[99],[118]], offset := 104, db := 1 } ] ∧
    (runLeave C02.trCfg initS [exSet 97 50, exSet 98 77] (.otherCase (exSet 99 104))).2 = [] := by
  decide +kernel
/-- ... the same when it returns `atOnce` after the third item ... -/
example :
    unsent (runLeave C02.trCfg initS [exSet 97 50, exSet 98 77, exSet 99 104] .atOnce) =
      [ { cmd := [115,101,116], args := [[97],[118]], offset := 50, db := 1 },
        { cmd := [115,101,116], args := [[98],[118]], offset := 77, db := 1 },
        { cmd := [115,101,116], args := [[99],[118]], offset := 104, db := 1 } ] := by
  decide +kernel
/-- ... whereas the `Done` case sends all three and stores position 104 -/
example :
    unsent (runLeave C02.trCfg initS [exSet 97 50, exSet 98 77, exSet 99 104] .doneCase) = [] ∧
    (runLeave C02.trCfg initS [exSet 97 50, exSet 98 77, exSet 99 104] .doneCase).2 =
      [[ Req.cmd [115,101,116] [[97],[118]] 50, Req.cmd [115,101,116] [[98],[118]] 77,
         Req.cmd [115,101,116] [[99],[118]] 104, Req.cpMeta, Req.cpOffset 104 ]] := by
  decide +kernel
/-- transactional mode: even the `Done` case forces no flush (`transactionBatch` is
    set), the two items stay unsent -- covered by the same theorems -/
example :
    unsent (runLeave C02.trCfgTx initS [exSet 97 50, exSet 98 77] .doneCase) =
      [ { cmd := [115,101,116], args := [[97],[118]], offset := 50, db := 1 },
        { cmd := [115,101,116], args := [[98],[118]], offset := 77, db := 1 } ] ∧
    (runLeave C02.trCfgTx initS [exSet 97 50, exSet 98 77] .doneCase).2 = [] := by
  decide +kernel
/-- `runLeave` and `run` on a concrete schedule (theorem 1 computed) -/
example : runLeave C02.trCfg initS [exSet 97 50, .cpTick, exSet 98 77] (.otherCase .keepaliveTick) =
    run C02.trCfg initS ([exSet 97 50, .cpTick, exSet 98 77] ++ [.keepaliveTick]) := by decide +kernel

/-! The example stream of `Props/C02TwoRuns.lean` (database 1 filtered, 2 → 5, 3 → 7;
    ticker mode, batch limit 100). Run 1 takes `select 5`, `set a 1`, a checkpoint
    tick (position 50 stored in database 5), and while it handles `set b 2`
    (offset 77) `replayWait` is closed: it returns with `set b 2` UNSENT; `select 7`
    and `del b` were never taken from `sendBuf`. -/
def exitEvs : List Ev := (C02.trItems.take 2).map Ev.item ++ [.cpTick]
def exitSetB : Item := { cmd := [115,101,116], args := [[98],[50]], offset := 77, db := 5 }
def exitLeave : Leave := .otherCase (.item exitSetB)
def exitRest : List Item := C02.trItems.drop 3
def exitOut : List Batch := (runLeave C02.trCfg initS exitEvs exitLeave).2

theorem exitEvs_noDone : NoDone exitEvs := by unfold NoDone; decide +kernel

example : exitLeave.proper := by simp [exitLeave, Leave.proper]
example : unsent (runLeave C02.trCfg initS exitEvs exitLeave) = [exitSetB] := by decide +kernel
example : exitOut =
    [ [ Req.cmd bSelect [[53]] 23 ],            -- the database switch is a barrier: flushed at once
      [ Req.cmd [115,101,116] [[97],[49]] 50, Req.cpMeta, Req.cpOffset 50 ] ] := by
  decide +kernel
example : itemsOf (exitEvs ++ lastEv exitLeave) ++ exitRest =
    parseAll C02.trPc { lastSent := 0 } C02.trRaws := by decide +kernel

/-- theorem 2 on the example (the run received the parser's items for the first
    three source commands): the stored position 50 is below the unsent 77 -/
example : ∀ o ∈ cpOffsets (runLeave C02.trCfg initS exitEvs exitLeave).2,
    ∀ i ∈ unsent (runLeave C02.trCfg initS exitEvs exitLeave), o < i.offset :=
  leave_unsent_not_covered_parser C02.trPc C02.trCfg (C02.trRaws.take 3) 0 exitEvs exitLeave exitEvs_noDone
    (by decide +kernel) (by decide +kernel) (by decide +kernel) (by omega)
example : cpOffsets (runLeave C02.trCfg initS exitEvs exitLeave).2 = [50] := by decide +kernel

/-- ... and against the target: the next start reads (50, database 5) -/
example : ∀ i ∈ unsent (runLeave C02.trCfg initS exitEvs exitLeave),
    (startPoint (applyLog C02.trT (runLeave C02.trCfg initS exitEvs exitLeave).2.flatten)).1 < i.offset :=
  leave_unsent_above_startPoint C02.trCfg exitEvs exitLeave exitEvs_noDone
    (C02.parser_feeds_smono C02.trPc (C02.trRaws.take 3) 0 _ (by decide +kernel) (by decide +kernel)
      (by decide +kernel) (by omega))
    C02.trT rfl rfl
example : startPoint (applyLog C02.trT (runLeave C02.trCfg initS exitEvs exitLeave).2.flatten) = (50, [5]) := by
  decide +kernel

theorem trPc_mapOK : ∀ n : Int, 0 ≤ n → mapDb C02.trPc n ≠ -1 := mapDb_ok C02.trPc rfl (by decide +kernel)

/-- theorem 3 on the example: all hypotheses discharged; the last position write of
    the run that left is `<rid>_offset 50`, nothing was executed after it -/
example : True := by
  have h := leave_then_resume C02.trPc C02.trCfg C02.trRaws 0 exitEvs exitLeave exitRest exitEvs_noDone
    (by decide +kernel) C02.trRaws_sorted C02.trRaws_above (by omega) C02.trItems_noNested C02.trRaws_parses C02.trRaws_selOK
    trPc_mapOK C02.trT rfl rfl rfl ((bodies exitOut).take 3) ((bodies exitOut).drop 4) 50
    (by decide +kernel) (by decide +kernel) (by decide +kernel) (by decide +kernel)
  trivial
/-- the values it speaks about: the target holds `S1` = `set a 1` (`X = []`), ... -/
example : (applyLog C02.trT exitOut.flatten).applied =
    [ { db := 5, name := [115,101,116], args := [[97],[49]] } ] := by decide +kernel
/-- ... `S2` is what the run resumed at (50, database 5) executes: the unsent
    `set b 2` and the `del b` it never received, ... -/
example : (seqApplied 0 (itemCmds (parserItems C02.trPc 50 (C02.trRaws.filter (fun r => decide (50 < r.off)))))).2 =
    [ { db := 5, name := [115,101,116], args := [[98],[50]] },
      { db := 7, name := [100,101,108], args := [[98]] } ] := by decide +kernel
/-- ... and once the resumed run has left by its `Done` case the target holds exactly
    the specification of the whole stream: nothing lost (here nothing twice) -/
example : (applyLog (crash (applyLog C02.trT exitOut.flatten))
      (runLeave C02.trCfg initS C02.trEvs2 .doneCase).2.flatten).applied =
    specStream C02.trPc false 0 C02.trRaws := by decide +kernel

/-- theorem 3 for the `Done` case on the same stream: run 1 also takes `set b 2`
    and then leaves by the `Done` case (final flush, position 77) -/
def exitEvsD : List Ev := exitEvs ++ [.item exitSetB]
example : True := by
  have h := leave_then_resume C02.trPc C02.trCfg C02.trRaws 0 exitEvsD .doneCase exitRest
    (by unfold NoDone; decide +kernel)
    (by decide +kernel) C02.trRaws_sorted C02.trRaws_above (by omega) C02.trItems_noNested C02.trRaws_parses C02.trRaws_selOK
    trPc_mapOK C02.trT rfl rfl rfl ((bodies (runLeave C02.trCfg initS exitEvsD .doneCase).2).take 5)
    ((bodies (runLeave C02.trCfg initS exitEvsD .doneCase).2).drop 6) 77
    (by decide +kernel) (by decide +kernel) (by decide +kernel) (by decide +kernel)
  trivial
example : unsent (runLeave C02.trCfg initS exitEvsD .doneCase) = [] := by decide +kernel

/-! Instances for the resumed run (`Props.C02.rdPc/rdRaws/rdCfg/rdT`: resumed at 50 in database
    5 on a target holding 50 and an older 23; the run receives all items and leaves at once): `leave_wire_ordered`,
    `leave_unsent_not_covered_resumed_parser`, `leave_unsent_above_startPoint_resumed`. -/
def exitRAll : List Ev := (parserItems C02.rdPc 50 C02.rdRaws).map Ev.item
def exitRLeaveAll : Leave := .atOnce

theorem exitRAll_noDone : NoDone exitRAll := by unfold NoDone; decide +kernel

example : True := by
  have hitems : itemsOf (exitRAll ++ lastEv exitRLeaveAll) = parserItems C02.rdPc 50 C02.rdRaws := by
    decide +kernel
  have h1 := leave_unsent_not_covered_resumed_parser C02.rdPc C02.rdCfg C02.rdRaws 50 exitRAll
    exitRLeaveAll exitRAll_noDone hitems (by decide +kernel) (by decide +kernel) (by omega)
  have hm := C02.resumed_parser_feeds_smono C02.rdPc C02.rdRaws 50 (exitRAll ++ lastEv exitRLeaveAll)
    hitems (by decide +kernel) (by decide +kernel) (by omega)
  have h2 := leave_wire_ordered C02.rdCfg exitRAll exitRLeaveAll exitRAll_noDone hm
  have h3 := leave_unsent_above_startPoint_resumed C02.rdCfg exitRAll exitRLeaveAll exitRAll_noDone hm
    50
    (by rw [hitems]; exact C02.parserItems_ge C02.rdPc 50 C02.rdRaws (by decide +kernel) (by decide +kernel))
    C02.rdT (by unfold KeysNodup; decide +kernel) rfl (by decide +kernel)
  trivial
/-- computed: the run received everything and left at once (ticker mode, batch count 2, no tick):
    `select 5` and `set a 1` went out as one batch, `select 7` flushed nothing more, `set b 2` (ends
    at 119) is still queued; no position was written, the next start reads the old (50, [5]) -/
example : (unsent (runLeave C02.rdCfg initS exitRAll exitRLeaveAll)).map (·.offset) = [119] := by
  decide +kernel
example : startPoint (applyLog C02.rdT (runLeave C02.rdCfg initS exitRAll exitRLeaveAll).2.flatten) = (50, [5]) := by
  decide +kernel

end GunYu.Props.C01
