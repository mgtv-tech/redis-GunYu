/-
  C16 → C06, the promotion as it really happens on the DISK backend: the follower's syncer
  ends, `NewSyncer` makes a NEW channel over the same directory tree (a fresh Storer: no current
  id), and the new leader's input begins with `channel.StartPoint(inputIds)` → `VerifyRunId`,
  which picks the directory (Model/ReplicaIdSrc.lean `verifyRunId`). And over lives that include
  crash restarts (Props/C16Restart.lean `StepC`).

  * `verifyRunId_spec` (Props/C16Id.lean)   : `VerifyRunId` changes no directory; the id it leaves
      current is the one it found or one of the listed ids whose directory exists
  * `promoted_new_storer_cache_ok`          : whatever directory the new Storer picks, the cache
      C06 starts from (`cacheOfData .disk x _`) satisfies C06's `CacheOK` (and `CacheWF` under the
      int64 / non-empty-snapshot side conditions) — after ANY life of the follower including
      kills and restarts from crash images
  The memory backend is void here by the property's own `memory_cache_lost_at_promotion`: the
  promoted syncer gets a new EMPTY memory channel (`promoted_cache_wf_none` is all there is to say).
-/
import GunYu.Props.C16Promote
import GunYu.Props.C16Restart
import GunYu.Props.C16Id

namespace GunYu.Props.C16
open GunYu GunYu.Replica GunYu.StoreFs

/-- **promoted_new_storer_cache_ok.** A disk follower lived ANY life (`StepC`: sessions against
    any faithful, changing leaders cut anywhere, clean restarts, periods as leader, kills with
    restarts from crash images); it is promoted: a NEW Storer over its directories (no current
    id) runs `VerifyRunId(ids)` with the source's ids. Whatever directory `x` that leaves
    current, the cache C06's `syncMeta` starts from satisfies C06's `CacheOK` for every source
    and every world agreeing with the history, and `CacheWF` under the side conditions. -/
theorem promoted_new_storer_cache_ok (h : Hist UInt8) (steps : List (StepC UInt8)) (F : Store UInt8)
    (hok : ∀ (pre : List (StepC UInt8)) (st : StepC UInt8) (post : List (StepC UInt8)),
      steps = pre ++ st :: post → st.Ok h (pre.foldl (stepC .disk) F))
    (hwf : WF .disk F) (hF : ∀ id, FaithfulAt h F.dirs id) (ids : List Id) :
    let G := steps.foldl (stepC .disk) F
    let N := verifyRunId (⟨"", G.dirs⟩ : Store UInt8) ids
    (N.cur = "" ∨ N.cur ∈ ids) ∧
    (∀ (w : Psync.World) (src : Psync.Source), Agrees w h →
      Psync.CacheOK w src (cacheOfData .disk N.cur N.curData) (cdataOfData N.cur N.curData)) ∧
    (N.cur ≠ "" → N.cur ≠ "?" →
      (∀ d, N.curData = some d → (d.right : Int) ≤ Psync.maxInt64 ∧ ∀ s, d.snap = some s → s ≠ []) →
      Psync.CacheWF (cacheOfData .disk N.cur N.curData)) := by
  intro G N
  have hmain := (follower_prefix_of_leader_crash_runs h .disk steps F hok hwf hF).1
  have hdirs : N.dirs = G.dirs := (verifyRunId_spec ids _).1
  have hfa : ∀ d, N.curData = some d → d.Faithful h N.cur := by
    intro d hd
    have hm := curData_mem hd
    rw [hdirs] at hm
    exact hmain N.cur d hm
  refine ⟨?_, ?_, ?_⟩
  · exact (verifyRunId_spec ids (⟨"", G.dirs⟩ : Store UInt8)).2.imp_right And.left
  · intro w src hag
    exact cacheOK_of_holds w src .disk N.cur _ (promoted_cache_holds_opt h w .disk N.cur _ hfa hag)
  · intro hx1 hx2 hside
    cases hd : N.curData with
    | none => exact promoted_cache_wf_none .disk N.cur
    | some d => exact promoted_cache_wf .disk N.cur d hx1 hx2 (hside d hd).1 (hside d hd).2

/-! ### non-vacuity: the life `lifeCr` of Props/C16Restart.lean (crash, session, clean restart,
    crash), then the promotion with the source's ids -/
example : (verifyRunId (⟨"", (lifeCr.foldl (stepC .disk) ⟨"", []⟩).dirs⟩ : Store UInt8) ["idA", "idZ"]).cur = "idA" := by decide +kernel
example : ∀ (w : Psync.World) (src : Psync.Source), Agrees w hCr →
    Psync.CacheOK w src
      (cacheOfData .disk "idA" (verifyRunId (⟨"", (lifeCr.foldl (stepC .disk) ⟨"", []⟩).dirs⟩ : Store UInt8) ["idA", "idZ"]).curData)
      (cdataOfData "idA" (verifyRunId (⟨"", (lifeCr.foldl (stepC .disk) ⟨"", []⟩).dirs⟩ : Store UInt8) ["idA", "idZ"]).curData) := by
  have := (promoted_new_storer_cache_ok hCr lifeCr ⟨"", []⟩ (okAll_positions hCr .disk lifeCr _ (lifeCr_ok _))
    ⟨Or.inl rfl, by decide⟩ (fun id d hd => by cases hd) ["idA", "idZ"]).2.1
  have hc : (verifyRunId (⟨"", (lifeCr.foldl (stepC .disk) ⟨"", []⟩).dirs⟩ : Store UInt8) ["idA", "idZ"]).cur = "idA" := by decide +kernel
  rw [hc] at this
  exact this

end GunYu.Props.C16
