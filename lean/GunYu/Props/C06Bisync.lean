/-
  C06 in bidirectional mode — the position a bisync start feeds into `syncMeta`.

  In bisync mode `RedisOutput.StartPoint` answers with `bisyncStartPoint` (syncer/bisync.go:1451):
  the rebuilt frontier, the per-slot latest record, or the root checkpoint. C14 models that
  function (`Frontier.startFrontier`, `Frontier.startLatest`) and proves what its answer is in
  every state the bidirectional replay reaches, after a stop at any request: `(rid, off, seq)`
  with `off = e seq`, the end of unit `seq`, every unit `1..seq` committed on the target.

  This file composes the two models: C14's answer is the `sp` of C06's `run`, and the truth of
  the target that C06's `Truthful` speaks about - "history `rid` applied up to `off`" - is
  exactly C14's committed contiguous prefix. `bisync_outcome_continue_or_full`: whatever the
  bidirectional replay did before the stop, the (re)connection either continues the log exactly
  from the end of the committed contiguous prefix (bytes = the current history's, the prefix
  agrees with it), or delivers a complete snapshot (the source's own after FULLRESYNC, or the
  cached one, which lies beyond that prefix). `bisync_sync_mode_outcome`: the same for sync mode,
  where the units applied are exactly `1..n` and the position is the end of unit `n`.

  Hypothesis kept (it is `Truthful`'s second disjunct): a position still labelled with the
  source's PREVIOUS id meets a cache that holds nothing under the current id yet - in the
  non-bisync loop that is an invariant (`loop_inv`); for bisync it is assumed here, because
  the bisync bookkeeping (`SetRunId` -> root checkpoint re-keyed, recovery state keyed by run id)
  is C14/C17's model, not part of `Loop`.
-/
import GunYu.Props.C06Loop
import GunYu.Props.C14

namespace GunYu.Props.C06
open GunYu GunYu.Psync

/-- one connection from a truthful position `(rid, off)`: continue exactly there, or a snapshot -/
theorem point_outcome (w : World) (s : Source) (c : Cache) (d : CData) (hs : SourceWF s) (hc : CacheWF c)
    (hok : CacheOK w s c d) (hag : Agree w s) (rid : Id) (off : Int)
    (hlab : rid = s.id2 → rid ≠ s.id1 → NotYetCurrent s c) :
    (∃ byte, (run w s ⟨rid, off⟩ c d).delivery = .stream off byte ∧ (run w s ⟨rid, off⟩ c d).mt.ps.full = false ∧
        AgreeBelow w rid s.id1 off ∧ ∀ n, off ≤ n → byte n = w.hist s.id1 n) ∨
    ((run w s ⟨rid, off⟩ c d).mt.ps.full = true ∧
        (run w s ⟨rid, off⟩ c d).delivery = .snapshot (s.id1, s.masterOff) s.masterOff s.snapLen) ∨
    ((run w s ⟨rid, off⟩ c d).mt.ps.full = false ∧ ∃ left size, c.rdb = some (left, size) ∧
        (run w s ⟨rid, off⟩ c d).delivery = .snapshot d.rdbTok left size ∧ (rid = qId ∨ off < left)) := by
  have htr := tgtAt_truthful w s c rid off hlab
  have key : ∀ byte, (run w s ⟨rid, off⟩ c d).delivery = .stream off byte →
      AgreeBelow w rid s.id1 off ∧ ∀ n, off ≤ n → byte n = w.hist s.id1 n := by
    intro byte hdel
    obtain ⟨_, tid, ht, hag', hb⟩ := continues_what_the_target_holds w s (tgtAt rid off) c d hs hc hok hag htr off byte hdel
    have : tid = rid := by
      simp only [tgtAt] at ht
      injection ht with h1 _
      exact h1.symm
    subst this
    exact ⟨hag', hb⟩
  rcases run_spec w ⟨rid, off⟩ d hs hc with hF | hK | hC
  · exact Or.inr (Or.inl ⟨hF.full, hF.delivery⟩)
  · rcases hK.read with ⟨_, hdel, _⟩ | ⟨left, size, hr, hcase, _, hdel⟩
    · exact Or.inl ⟨_, hdel, hK.full, key _ hdel⟩
    · refine Or.inr (Or.inr ⟨hK.full, left, size, hr, hdel, ?_⟩)
      rcases hcase with h | h
      · left; simpa [SP.isInitial] using h
      · exact Or.inr h.2
  · exact Or.inl ⟨_, hC.delivery, hC.full, key _ hC.delivery⟩

/-- **bisync, frontier modes (pipeline / parallel)**: after ANY step list of the bidirectional replay
    (commits in any lane order, reports, flushes, single requests reaching the target, starts, a crash
    anywhere) the point a start selects is the end of the contiguous committed prefix (C14), and the
    connection that `syncMeta` makes from it continues the log exactly there or takes a snapshot. -/
theorem bisync_outcome_continue_or_full (W : Frontier.World) (s₀ : Frontier.Sys) (hi : Frontier.SysInv W s₀)
    (steps : List Frontier.Step) (db : Nat) (rid : Bytes) (off seq : Int)
    (hstart : (Frontier.startFrontier W.ver (Frontier.runSteps W s₀ steps).ns W.ids).1 = .point db rid off seq)
    (w : World) (s : Source) (c : Cache) (d : CData) (hs : SourceWF s) (hc : CacheWF c)
    (hok : CacheOK w s c d) (hag : Agree w s)
    (hlab : rid = s.id2 → rid ≠ s.id1 → NotYetCurrent s c) :
    (0 ≤ seq ∧ off = W.e seq ∧ ∀ j, 0 < j → j ≤ seq → j ∈ (Frontier.runSteps W s₀ steps).committed) ∧
    ((∃ byte, (run w s ⟨rid, W.e seq⟩ c d).delivery = .stream (W.e seq) byte ∧
        (run w s ⟨rid, W.e seq⟩ c d).mt.ps.full = false ∧
        AgreeBelow w rid s.id1 (W.e seq) ∧ ∀ n, W.e seq ≤ n → byte n = w.hist s.id1 n) ∨
     ((run w s ⟨rid, W.e seq⟩ c d).mt.ps.full = true ∧
        (run w s ⟨rid, W.e seq⟩ c d).delivery = .snapshot (s.id1, s.masterOff) s.masterOff s.snapLen) ∨
     ((run w s ⟨rid, W.e seq⟩ c d).mt.ps.full = false ∧ ∃ left size, c.rdb = some (left, size) ∧
        (run w s ⟨rid, W.e seq⟩ c d).delivery = .snapshot d.rdbTok left size ∧ (rid = qId ∨ W.e seq < left))) := by
  have h14 := C14.resume_is_committed_prefix W s₀ hi steps db rid off seq hstart
  refine ⟨h14, ?_⟩
  have := point_outcome w s c d hs hc hok hag rid off hlab
  rw [h14.2.1] at this
  exact this

/-- **bisync, sync mode**: for every interleaving of commits and restarts the target applied exactly
    the units `1..n`, a start answers the end of unit `n` under the run id recorded, and the connection
    made from it continues the log exactly there or takes a snapshot. -/
theorem bisync_sync_mode_outcome (W : Frontier.World) (db : Nat) (steps : List Frontier.SyncStep)
    (hmono : ∀ i, 0 ≤ i → W.e 0 ≤ W.e i) (hrid : Frontier.matchRun W.rid W.ids = true)
    (w : World) (s : Source) (c : Cache) (d : CData) (hs : SourceWF s) (hc : CacheWF c)
    (hok : CacheOK w s c d) (hag : Agree w s)
    (hlab : W.rid = s.id2 → W.rid ≠ s.id1 → NotYetCurrent s c) :
    ∃ n : Nat,
      (Frontier.syncRun W { ns := { root := some (W.rid, W.e 0, db) }, cur := 0 } steps).applied = Frontier.upTo n ∧
      (∃ db', Frontier.startLatest (Frontier.syncRun W { ns := { root := some (W.rid, W.e 0, db) }, cur := 0 } steps).ns W.ids
        = .point db' W.rid (W.e n) n) ∧
      ((∃ byte, (run w s ⟨W.rid, W.e n⟩ c d).delivery = .stream (W.e n) byte ∧
          (run w s ⟨W.rid, W.e n⟩ c d).mt.ps.full = false ∧
          AgreeBelow w W.rid s.id1 (W.e n) ∧ ∀ m, W.e n ≤ m → byte m = w.hist s.id1 m) ∨
       ((run w s ⟨W.rid, W.e n⟩ c d).mt.ps.full = true ∧
          (run w s ⟨W.rid, W.e n⟩ c d).delivery = .snapshot (s.id1, s.masterOff) s.masterOff s.snapLen) ∨
       ((run w s ⟨W.rid, W.e n⟩ c d).mt.ps.full = false ∧ ∃ left size, c.rdb = some (left, size) ∧
          (run w s ⟨W.rid, W.e n⟩ c d).delivery = .snapshot d.rdbTok left size ∧ (W.rid = qId ∨ W.e n < left))) := by
  obtain ⟨n, happ, hst⟩ := C14.sync_mode_exact W db steps hmono hrid
  exact ⟨n, happ, hst, point_outcome w s c d hs hc hok hag W.rid (W.e n) hlab⟩

/-! ### non-vacuity: C14's example (units 2, 1, 3 committed out of order, a flush, a crash in the
    middle of the journal clean-up; a start resumes at 1030 after unit 3) meets a source under the
    same run id whose backlog holds 1031: the log is continued exactly from 1030 -/

def sBi : Source := ⟨[114], [112], 900, true, 1, 1100, 1100, 10, true⟩
def wBi : World := ⟨fun _ n => UInt8.ofNat n.toNat, fun _ _ _ => 0⟩
def cBi : Cache := ⟨.memory, [], none, none⟩

example : (Frontier.startFrontier C14.exW.ver C14.exS.ns C14.exW.ids).1 = .point 0 [114] 1030 3 := by decide
example : SourceWF sBi := by refine ⟨?_, ?_, ?_, ?_, ?_, ?_, ?_, ?_, ?_⟩ <;> decide
example : Agree wBi sBi := fun _ _ _ => rfl
example : CacheWF cBi := ⟨trivial, trivial, trivial, fun _ => ⟨rfl, rfl⟩⟩
example : ∃ byte, (run wBi sBi ⟨[114], C14.exW.e 3⟩ cBi CData.empty).delivery = .stream 1030 byte := ⟨_, rfl⟩

end GunYu.Props.C06
