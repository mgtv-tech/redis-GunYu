/-
  C15 — the duration arithmetic the lease rests on, as REGENERATED from the
  source on every run (Gen/LeaseArith.lean, generator c15arith):

    fixDur        config/config.go (*ClusterConfig).fix, statements on the two durations
    etcdTtl       … its `cc.MetaEtcd.Ttl = …`
    storeTtl      cmd/syncer.go run(): the ttl handed to cluster.NewRedisCluster
    leaseHold     cmd/syncer.go leaseHold()
    tickerPeriod  cmd/syncer.go clusterTicker: period of time.NewTicker

  (`+ - *` with a non-constant operand wrap like int64; `/` truncates like Go.)
  Proved here, for EVERY configuration as written (any two int64 durations):
  the regenerated `fix` is the hand model `fixCfg` the other theorems use; on
  its output nothing wraps, hold + renew period = the ttl the store counts,
  renew period ≤ hold, renew period ≥ 1 s; and the acting theorem with ALL its
  numeric hypotheses discharged from these definitions — what remains is the
  environment bound it names: clock drift over one lease + time to stop the
  syncer ≤ one renew period (≥ 1 s whatever was configured).
-/
import GunYu.Model.Lease
import GunYu.Model.LeaseTimed
import GunYu.Gen.LeaseArith
import GunYu.Props.C15

set_option linter.unusedVariables false

namespace GunYu.Props.C15
open GunYu GunYu.Lease
open GunYu.Gen.LeaseArith

theorem wrap64_id (x : Int) (h1 : -9223372036854775808 ≤ x) (h2 : x < 9223372036854775808) :
    wrap64 x = x := by
  unfold wrap64; omega

/-- the regenerated `(*ClusterConfig).fix` IS the hand model `fixCfg`, for every
    pair of durations (no range condition: `fix` multiplies constants only).
    The two differ in one thing: Go's `/` truncates (`Int.tdiv`), the model's
    floors; they agree because the lease they divide has been clamped to ≥ 3 s.
    That lemma is all `grind` is told. The case analysis over the clamps is left
    to it on purpose: `fixDur` is regenerated on every run, and the proof is to
    go through when the clamps of `fix` are split, merged, reordered or their
    constants spelt differently. -/
theorem gen_fixDur_eq_model (c : Cfg) : fixDur c.lease c.renew = ((fixCfg c).lease, (fixCfg c).renew) := by
  unfold fixDur fixCfg second
  grind [Int.tdiv_eq_ediv_of_nonneg]

/-- range of what the regenerated `fix` leaves behind -/
theorem gen_fix_range (c : Cfg) :
    3000000000 ≤ (fixDur c.lease c.renew).1 ∧ (fixDur c.lease c.renew).1 ≤ 600000000000 ∧
    1000000000 ≤ (fixDur c.lease c.renew).2 ∧ (fixDur c.lease c.renew).2 ≤ (fixDur c.lease c.renew).1 / 3 := by
  rw [gen_fixDur_eq_model]
  have h := renew_le_third c
  simp only [second] at h
  exact ⟨h.1, h.2.1, h.2.2.1, h.2.2.2.1⟩

/-- the ttl `run()` hands to the lease store is `ttlSeconds` of the model -/
theorem gen_storeTtl_eq_model (c : Cfg) (h : 0 ≤ c.lease) : storeTtl c.lease c.renew = ttlSeconds c := by
  simp only [storeTtl, ttlSeconds, second]
  exact Int.tdiv_eq_ediv_of_nonneg h

/-- the etcd session gets the ttl the Redis lease gets -/
theorem gen_etcdTtl_eq_storeTtl (lease renew : Int) (h : 0 ≤ lease) :
    etcdTtl lease renew = storeTtl lease renew := rfl

theorem leaseHold_eq (L R : Int) (hL : 0 ≤ L) (hL' : L < 9223372036854775808) (hR : 0 ≤ R)
    (hR' : R < 9223372036854775808) : leaseHold L R = L / 1000000000 * 1000000000 - R := by
  simp only [leaseHold]
  rw [Int.tdiv_eq_ediv_of_nonneg hL, wrap64_id (L / 1000000000 * 1000000000) (by omega) (by omega),
    wrap64_id _ (by omega) (by omega)]

/-- On every fixed configuration: nothing wraps; hold + renew period is exactly
    the lease as the store counts it (whole seconds); the renew period (= the
    ticker's period) is at least 1 s and at most the hold; ttl ∈ [3, 600]. -/
theorem gen_hold_plus_renew (c : Cfg) :
    leaseHold (fixDur c.lease c.renew).1 (fixDur c.lease c.renew).2
        + tickerPeriod (fixDur c.lease c.renew).1 (fixDur c.lease c.renew).2
      = storeTtl (fixDur c.lease c.renew).1 (fixDur c.lease c.renew).2 * 1000000000 ∧
    tickerPeriod (fixDur c.lease c.renew).1 (fixDur c.lease c.renew).2
      ≤ leaseHold (fixDur c.lease c.renew).1 (fixDur c.lease c.renew).2 ∧
    1000000000 ≤ tickerPeriod (fixDur c.lease c.renew).1 (fixDur c.lease c.renew).2 ∧
    3 ≤ storeTtl (fixDur c.lease c.renew).1 (fixDur c.lease c.renew).2 ∧
    storeTtl (fixDur c.lease c.renew).1 (fixDur c.lease c.renew).2 ≤ 600 := by
  obtain ⟨h1, h2, h3, h4⟩ := gen_fix_range c
  generalize (fixDur c.lease c.renew).1 = L at *
  generalize (fixDur c.lease c.renew).2 = R at *
  rw [leaseHold_eq L R (by omega) (by omega) (by omega) (by omega)]
  simp only [tickerPeriod, storeTtl]
  rw [Int.tdiv_eq_ediv_of_nonneg (by omega)]
  grind

/-- the driver's `leaseHoldMs` (ms, used by the ticker ops) is the regenerated
    `leaseHold` on whole-millisecond durations -/
theorem gen_leaseHold_eq_model (leaseMs renewMs : Nat) (hb : leaseMs ≤ 1000000000000)
    (h : renewMs ≤ leaseMs / 1000 * 1000) :
    leaseHold ((leaseMs : Int) * 1000000) ((renewMs : Int) * 1000000)
      = ((leaseHoldMs leaseMs renewMs : Nat) : Int) * 1000000 := by
  rw [leaseHold_eq _ _ (by omega) (by omega) (by omega) (by omega)]
  simp only [leaseHoldMs]
  grind

/-! ### the acting theorem from the regenerated constants only -/

/-- ttl (s) the instance hands to the store, for a configuration AS WRITTEN -/
def cfgTtl (raw : Cfg) : Nat :=
  (storeTtl (fixDur raw.lease raw.renew).1 (fixDur raw.lease raw.renew).2).toNat
/-- its leaseHold, rounded UP to ms -/
def cfgHoldMs (raw : Cfg) : Nat :=
  ((leaseHold (fixDur raw.lease raw.renew).1 (fixDur raw.lease raw.renew).2 + 999999) / 1000000).toNat
/-- its renew period, rounded DOWN to ms -/
def cfgRenewMs (raw : Cfg) : Nat :=
  (tickerPeriod (fixDur raw.lease raw.renew).1 (fixDur raw.lease raw.renew).2 / 1000000).toNat

/-- the numeric hypotheses of the acting / ticker theorems, for every
    configuration as written -/
theorem cfg_hold_renew_ttl (raw : Cfg) :
    cfgHoldMs raw + cfgRenewMs raw ≤ cfgTtl raw * 1000 ∧ 1 ≤ cfgTtl raw ∧
    1000 ≤ cfgRenewMs raw ∧ cfgRenewMs raw ≤ cfgHoldMs raw := by
  obtain ⟨h1, h2, h3, h4, h5⟩ := gen_hold_plus_renew raw
  unfold cfgHoldMs cfgRenewMs cfgTtl
  generalize leaseHold (fixDur raw.lease raw.renew).1 (fixDur raw.lease raw.renew).2 = H at *
  generalize tickerPeriod (fixDur raw.lease raw.renew).1 (fixDur raw.lease raw.renew).2 = R at *
  generalize storeTtl (fixDur raw.lease raw.renew).1 (fixDur raw.lease raw.renew).2 = T at *
  grind

/-- AT MOST ONE ACTING, from the regenerated constants only. Every instance
    `id` runs with a configuration `raw id` as written (any durations); its
    ttl, hold and renew period are what the code computes from it. `D id` =
    drift of its clock against the store's over one lease, `S id` = time from
    clusterTicker's return until the syncer has stopped (real ms). If
    `D id + S id ≤ renew period of id`, then for every schedule that keeps to
    `TAllowed` two instances running RunLeader for one key are the same. -/
theorem at_most_one_acting_from_config (raw : Bytes → Cfg) (D S : Bytes → Nat)
    (hDS : ∀ id, D id + S id ≤ cfgRenewMs (raw id)) (st : Store) (now : Nat) (evs : List TEv)
    (hok : trunOk (fun id => cfgTtl (raw id)) (fun id => cfgHoldMs (raw id) + D id + S id)
      (TSys.init st now) evs) (key i j : Bytes)
    (hi : ((trun (fun id => cfgTtl (raw id)) (fun id => cfgHoldMs (raw id) + D id + S id)
      (TSys.init st now) evs).inst key i).acting = true)
    (hj : ((trun (fun id => cfgTtl (raw id)) (fun id => cfgHoldMs (raw id) + D id + S id)
      (TSys.init st now) evs).inst key j).acting = true) : i = j :=
  at_most_one_acting_with_drift (fun id => cfgTtl (raw id)) (fun id => cfgHoldMs (raw id)) D S
    (fun id => (cfg_hold_renew_ttl (raw id)).2.1)
    (fun id => by
      have h := cfg_hold_renew_ttl (raw id)
      have := hDS id
      show cfgHoldMs (raw id) + D id + S id ≤ cfgTtl (raw id) * 1000
      omega)
    st now evs hok key i j hi hj

/-- …in particular one second of drift + stop time is enough whatever was
    configured (the renew period is never below 1 s) -/
theorem at_most_one_acting_one_second (raw : Bytes → Cfg) (D S : Bytes → Nat)
    (hDS : ∀ id, D id + S id ≤ 1000) (st : Store) (now : Nat) (evs : List TEv)
    (hok : trunOk (fun id => cfgTtl (raw id)) (fun id => cfgHoldMs (raw id) + D id + S id)
      (TSys.init st now) evs) (key i j : Bytes)
    (hi : ((trun (fun id => cfgTtl (raw id)) (fun id => cfgHoldMs (raw id) + D id + S id)
      (TSys.init st now) evs).inst key i).acting = true)
    (hj : ((trun (fun id => cfgTtl (raw id)) (fun id => cfgHoldMs (raw id) + D id + S id)
      (TSys.init st now) evs).inst key j).acting = true) : i = j :=
  at_most_one_acting_from_config raw D S
    (fun id => Nat.le_trans (hDS id) (cfg_hold_renew_ttl (raw id)).2.2.1) st now evs hok key i j hi hj

-- non-vacuity: defaults (10 s / 3.33 s), a 5 s lease with 1.5 s renewals (the ticker examples), clamping
example : fixDur 0 0 = (10000000000, 3333333333) := by decide +kernel
example : cfgTtl ⟨0, 0⟩ = 10 ∧ cfgHoldMs ⟨0, 0⟩ = 6667 ∧ cfgRenewMs ⟨0, 0⟩ = 3333 := by decide +kernel
example : cfgTtl ⟨5000000000, 1500000000⟩ = 5 ∧ cfgHoldMs ⟨5000000000, 1500000000⟩ = 3500 := by decide +kernel
example : leaseHold 5000000000 1500000000 = 3500000000 := by decide +kernel
example : leaseHold 3900000000 1000000000 = 2000000000 ∧ storeTtl 3900000000 1000000000 = 3 := by decide +kernel
example : fixDur (-5) 7000000000000 = (3000000000, 1000000000) := by decide +kernel
-- the wrap is real outside the fixed range: leaseHold of an unfixed configuration overflows
example : leaseHold 0 (-9223372036854775808) = -9223372036854775808 := by decide +kernel
-- the schedule of Props/C15.lean (`okEvs`: ttl 3 s, hold 2 s) is one of a 3 s / 1 s configuration
example : cfgTtl ⟨3000000000, 1000000000⟩ = 3 ∧ cfgHoldMs ⟨3000000000, 1000000000⟩ + 0 + 0 = 2000 := by decide +kernel

-- … and the hypotheses of at_most_one_acting_from_config are met by it: every instance configured 3 s / 1 s,
-- drift + stop time 0 (the schedule has a slow call and a renewal; Props/C15.lean `okEvs`)
example : trunOk (fun _ => cfgTtl ⟨3000000000, 1000000000⟩) (fun _ => cfgHoldMs ⟨3000000000, 1000000000⟩ + 0 + 0)
    (TSys.init Store.empty 5) okEvs :=
  trunOk_of_B _ _ [(kK, iA)] okEvs _ (fun _ _ _ => rfl) (by decide) (by decide)
example : ((trun (fun _ => cfgTtl ⟨3000000000, 1000000000⟩) (fun _ => cfgHoldMs ⟨3000000000, 1000000000⟩ + 0 + 0)
    (TSys.init Store.empty 5) okEvs).inst kK iA).acting = true := by decide +kernel

end GunYu.Props.C15
