/-
  C14 — sync mode on a target with ANY number of recovery slots (cluster).

  Property theorems only (model: Model/FrontierSyncN.lean, lemmas: Proofs/FrontierSyncN.lean).

  Quantifiers: any number `N` of scanned slots; ANY initial contents of the per-slot latest hashes
  (what earlier numberings left behind in any slots, records of foreign run ids, a root override that
  purged nothing), any assignment of units to slots, every interleaving of commits and restarts.
-/
import GunYu.Model.FrontierSyncN
import GunYu.Proofs.FrontierSyncN

namespace GunYu.Props.C14
open GunYu GunYu.Frontier

/-- `LoadBisyncLatestStartRecord`'s selection over any list of latest records (one per scanned slot, any
    order): the result is a record of the list with a reported run id whose END OFFSET is maximal among
    those (the unit sequence number plays no role: after a numbering restart an older slot may hold a
    larger one), and nothing is returned only when no record carries a reported run id. -/
theorem best_latest_is_max_end_offset (recs : List Rec) (ids : List Bytes) :
    (∀ b, (bestLatest recs ids).1 = some b →
      b ∈ recs ∧ matchRun b.runId ids = true ∧ ∀ r ∈ recs, matchRun r.runId ids = true → r.endOff ≤ b.endOff) ∧
    ((bestLatest recs ids).1 = none → ∀ r ∈ recs, matchRun r.runId ids = false) :=
  ⟨fun _ h => bestLatest_some h, fun h => bestLatest_none h⟩

/-- one scanned slot: the N-slot start is the start of `sync_mode_exact`'s model -/
theorem sync_start_one_slot (ns : NS) (ids : List Bytes) :
    startLatestN 1 ns.root (fun _ => ns.latest) ids = startLatest ns ids := startLatestN_one ns ids

/-- the invariant holds in a namespace whose latest hashes hold ANYTHING that does not end beyond the root
    checkpoint (fresh namespace: nothing; after a full resynchronisation: the latest records of the
    previous numbering - ANY sequence numbers - which no start ever purges in this mode); the process
    may hold any sequence number -/
theorem syncN_init_inv (next : Int → Int) (rid : Bytes) (ids : List Bytes) (N : Nat) (o₀ : Int) (db : Nat)
    (latest₀ : Nat → Option Rec) (cur₀ : Int)
    (hleft : ∀ t r, latest₀ t = some r → matchRun r.runId ids = true → r.endOff ≤ o₀) :
    SyncNInv next rid ids N o₀ { root := (rid, o₀, db), latest := latest₀, cur := cur₀, off := o₀ } 0 :=
  ⟨⟨db, rfl⟩, rfl, rfl, fun t r hr hm => ⟨hleft t r hr hm, fun h => absurd h (by omega)⟩,
   fun h => absurd h (by omega)⟩

/-- every step (a unit committed into the slot of its keys, a restart) preserves it -/
theorem syncN_each_step_preserves (next : Int → Int) (rid : Bytes) (ids : List Bytes) (N : Nat) (o₀ : Int)
    (s : SyncNSys) (n : Nat) (hi : SyncNInv next rid ids N o₀ s n)
    (hs : ∀ o, o < next o) (hrid : matchRun rid ids = true) (st : SyncNStep) :
    ∃ n', SyncNInv next rid ids N o₀ (syncNStep next rid ids N s st) n' := syncNStep_inv hi hs hrid st

/-- Sync mode over ANY number of recovery slots, units landing in ANY slots, restarts that really
    re-scan the target, starting over ANY leftovers that do not end beyond the root checkpoint (root
    override without purge; their sequence numbers are arbitrary): for EVERY interleaving of commits and
    restarts the units the target applied are exactly the first n units of the stream behind the root,
    in order — none twice, none skipped — a start resumes at the end of the n-th, and once a unit has
    been committed it hands the process the sequence number of that unit and the run id it was recorded
    under. `hs`: a unit ends after it starts (unit_offsets_grow for the parser's units). -/
theorem sync_mode_exact_slots (next : Int → Int) (rid : Bytes) (ids : List Bytes) (N : Nat) (o₀ : Int) (db : Nat)
    (latest₀ : Nat → Option Rec) (steps : List SyncNStep)
    (hs : ∀ o, o < next o) (hrid : matchRun rid ids = true)
    (hleft : ∀ t r, latest₀ t = some r → matchRun r.runId ids = true → r.endOff ≤ o₀) :
    let s := syncNRun next rid ids N { root := (rid, o₀, db), latest := latest₀, cur := 0, off := o₀ } steps
    ∃ n : Nat,
      s.applied = unitStarts next o₀ n ∧ s.off = iterOff next o₀ n ∧
      ∃ db' rid' seq, startLatestN N (some (rid, o₀, db)) s.latest ids = .point db' rid' (iterOff next o₀ n) seq ∧
        matchRun rid' ids = true ∧ (0 < n → seq = s.cur ∧ rid' = rid) := by
  intro s
  obtain ⟨n, hi⟩ := syncNRun_inv hs hrid steps (syncN_init_inv next rid ids N o₀ db latest₀ 0 hleft)
  obtain ⟨db', rid', seq, hst, hm, hseq⟩ := startLatestN_of_inv hi hs hrid
  refine ⟨n, hi.applied, hi.off, db', rid', seq, ?_, hm, hseq⟩
  rw [syncNRun_root] at hst
  exact hst

/-- … in the numbering of a `World` (unit i ends at `W.e i`, as in `sync_mode_exact`): starting from seq 0
    over leftovers that end strictly before the root, the units are numbered 1, 2, … and a start returns
    exactly (W.e n, n). -/
theorem sync_mode_exact_slots_numbered (next : Int → Int) (rid : Bytes) (ids : List Bytes) (N : Nat) (o₀ : Int)
    (db : Nat) (latest₀ : Nat → Option Rec) (steps : List SyncNStep)
    (hs : ∀ o, o < next o) (hrid : matchRun rid ids = true)
    (hleft : ∀ t r, latest₀ t = some r → matchRun r.runId ids = true → r.endOff ≤ o₀) :
    let s := syncNRun next rid ids N { root := (rid, o₀, db), latest := latest₀, cur := 0, off := o₀ } steps
    (∀ t r, latest₀ t = some r → matchRun r.runId ids = true → r.endOff < o₀) →
    ∃ n : Nat, s.applied = unitStarts next o₀ n ∧
      ∃ db', startLatestN N (some (rid, o₀, db)) s.latest ids = .point db' rid (iterOff next o₀ n) n := by
  intro s hstrict
  obtain ⟨n, hi, hcur, h0⟩ := syncNRun_numbered hs hrid steps
    (syncN_init_inv next rid ids N o₀ db latest₀ 0 hleft) rfl (fun _ => hstrict)
  refine ⟨n, hi.applied, ?_⟩
  cases Nat.eq_zero_or_pos n with
  | inr hpos =>
    obtain ⟨db', rid', seq, hst, _, hseq⟩ := startLatestN_of_inv hi hs hrid
    rw [syncNRun_root] at hst
    obtain ⟨h1, h2⟩ := hseq hpos
    refine ⟨db', ?_⟩
    rw [hst, h1, h2, hcur]
  | inl hz =>
    subst hz
    refine ⟨db, ?_⟩
    have := startLatestN_root_of_strict (N := N) (latest := s.latest) (db := db) hrid (h0 rfl)
    simpa [iterOff] using this

/-! ### non-vacuity -/

def exNext (o : Int) : Int := o + 10
def exIds : List Bytes := [[114], [112]]

/-- leftovers of an earlier numbering: slot 7 holds unit 50 ending AT the root 1000 (a full
    resynchronisation whose snapshot was taken right behind the last replayed unit), slot 2 a record of a
    foreign run id ending far beyond -/
def exLeft : Nat → Option Rec := latestOfList
  [(7, { seq := 50, endOff := 1000, mtime := 9, runId := [114], slot := 7 }),
   (2, { seq := 3, endOff := 5000, mtime := 9, runId := [99], slot := 2 })]

def exSN : SyncNSys := syncNRun exNext [114] exIds 16 { root := ([114], 1000, 0), latest := exLeft, cur := 0, off := 1000 }
  [SyncNStep.restart, .commitNext 3 5, .commitNext 9 6, .restart, .commitNext 3 7, .restart]

/-- the three units that start at 1000, 1010, 1020 — each once, in order; they carry the numbers 51, 52, 53
    (the first start took the leftover that ends at the root, and with it its sequence number) -/
example : exSN.applied = [1000, 1010, 1020] := by decide +kernel
example : (exSN.cur, exSN.off) = (53, 1030) := by decide +kernel
/-- slot 7 still holds the leftover, slot 9 unit 52, slot 3 unit 53: the start takes the largest END OFFSET -/
example : (scanLatest 16 exSN.latest).map (fun r => (r.slot, r.seq, r.endOff))
    = [(2, 3, 5000), (3, 53, 1030), (7, 50, 1000), (9, 52, 1020)] := by decide +kernel
example : startLatestN 16 (some exSN.root) exSN.latest exIds = .point 0 [114] 1030 53 := by decide +kernel
/-- before the first commit: the leftover is not older than the root, it is taken (same offset) -/
example : startLatestN 16 (some ([114], 1000, 0)) exLeft exIds = .point 0 [114] 1000 50 := by decide +kernel

theorem exLeft_le : ∀ t r, exLeft t = some r → matchRun r.runId exIds = true → r.endOff ≤ 1000 := by
  intro t r hr hm
  simp only [exLeft, latestOfList] at hr
  by_cases h7 : t = 7
  · subst h7; simp at hr; subst hr; decide
  · by_cases h2 : t = 2
    · subst h2; simp at hr; subst hr; exact absurd hm (by decide)
    · simp [List.find?, Ne.symm h7, Ne.symm h2] at hr

example : ∃ n : Nat, exSN.applied = unitStarts exNext 1000 n ∧ exSN.off = iterOff exNext 1000 n ∧
    ∃ db' rid' seq, startLatestN 16 (some ([114], 1000, 0)) exSN.latest exIds = .point db' rid' (iterOff exNext 1000 n) seq ∧
      matchRun rid' exIds = true ∧ (0 < n → seq = exSN.cur ∧ rid' = [114]) :=
  sync_mode_exact_slots exNext [114] exIds 16 1000 0 exLeft _ (by intro o; simp only [exNext]; omega) (by decide) exLeft_le

/-- strictly older leftovers: units numbered from 1 -/
def exLeft2 : Nat → Option Rec := latestOfList [(7, { seq := 50, endOff := 900, mtime := 9, runId := [114], slot := 7 })]
def exSN2 : SyncNSys := syncNRun exNext [114] exIds 16 { root := ([114], 1000, 0), latest := exLeft2, cur := 0, off := 1000 }
  [SyncNStep.restart, .commitNext 3 5, .commitNext 7 6, .restart]
example : startLatestN 16 (some ([114], 1000, 0)) exLeft2 exIds = .point 0 [114] 1000 0 := by decide +kernel
example : startLatestN 16 (some exSN2.root) exSN2.latest exIds = .point 0 [114] 1020 2 := by decide +kernel
example : ∃ n : Nat, exSN2.applied = unitStarts exNext 1000 n ∧
    ∃ db', startLatestN 16 (some ([114], 1000, 0)) exSN2.latest exIds = .point db' [114] (iterOff exNext 1000 n) n :=
  sync_mode_exact_slots_numbered exNext [114] exIds 16 1000 0 exLeft2 _ (by intro o; simp only [exNext]; omega) (by decide)
    (by
      intro t r hr hm
      simp only [exLeft2, latestOfList] at hr
      by_cases h7 : t = 7
      · subst h7; simp at hr; subst hr; decide
      · simp [List.find?, Ne.symm h7] at hr)
    (by
      intro t r hr hm
      simp only [exLeft2, latestOfList] at hr
      by_cases h7 : t = 7
      · subst h7; simp at hr; subst hr; decide
      · simp [List.find?, Ne.symm h7] at hr)
example : SyncNInv exNext [114] exIds 16 1000 { root := ([114], 1000, 0), latest := fun _ => none, cur := 0, off := 1000 } 0 :=
  syncN_init_inv exNext [114] exIds 16 1000 0 _ 0 (by intro t r hr; cases hr)
example : (bestLatest [⟨9, 1020, 1, [114], 0⟩, ⟨2, 1030, 1, [114], 5⟩, ⟨7, 1030, 0, [114], 9⟩] [[114]]).1
    = some ⟨2, 1030, 1, [114], 5⟩ := by decide +kernel

end GunYu.Props.C14
