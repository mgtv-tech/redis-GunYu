/-
  C19 — a flush is acknowledged only when EVERY command put into it sits in a node batch
  (multi-key commands over different nodes, refused by the router at Put, alone in a flush or not).

  Model: Model/ClusterFlush.lean over ClusterSender.put / puts; the guard order of Batch.Exec,
  batch2.Dispatch, batch2.Receive is regenerated from the Go source (Gen/C19Guards.lean).
-/
import GunYu.Model.ClusterFlush

namespace GunYu.Props.C19
open GunYu.ClusterSender GunYu.ClusterFlush

theorem put_spec (txn : Bool) (s : PutSt) (e : PutEv) :
    (s.err = true → (put txn s e).err = true) ∧ (∀ nd ∈ s.nodes, nd ∈ (put txn s e).nodes) ∧
    ∀ nd, e = .routed nd → (put txn s e).err = false → nd ∈ (put txn s e).nodes := by
  cases e with
  | refused => exact ⟨fun _ => rfl, fun _ h => h, nofun⟩
  | routed n =>
    simp only [put]
    by_cases h1 : n ∈ s.nodes
    · rw [if_pos h1]
      exact ⟨id, fun _ h => h, fun nd he _ => PutEv.routed.inj he ▸ h1⟩
    · by_cases h2 : txn = true ∧ s.nodes.length = 1
      · rw [if_neg h1, if_pos h2]
        exact ⟨fun _ => rfl, fun _ h => h, fun _ _ h => nomatch h⟩
      · rw [if_neg h1, if_neg h2]
        exact ⟨id, fun _ h => List.mem_append_left _ h,
          fun nd he _ => PutEv.routed.inj he ▸ List.mem_append_right _ (List.mem_singleton_self _)⟩

theorem puts_mono (txn : Bool) (es : List PutEv) : ∀ s : PutSt,
    (s.err = true → (puts txn s es).err = true) ∧ ∀ nd ∈ s.nodes, nd ∈ (puts txn s es).nodes := by
  induction es with
  | nil => exact fun s => ⟨id, fun _ h => h⟩
  | cons e es ih =>
    intro s
    obtain ⟨h1, h2, _⟩ := put_spec txn s e
    exact ⟨fun h => (ih _).1 (h1 h), fun nd h => (ih _).2 nd (h2 nd h)⟩

theorem puts_err_of_refused (txn : Bool) (es : List PutEv) :
    ∀ s : PutSt, PutEv.refused ∈ es → (puts txn s es).err = true := by
  induction es with
  | nil => exact fun s h => nomatch h
  | cons e es ih =>
    intro s h
    rcases List.mem_cons.mp h with h | h
    · subst h; exact (puts_mono txn es _).1 rfl
    · exact ih _ h

theorem puts_routed_mem (txn : Bool) (es : List PutEv) (nd : Nat) :
    ∀ s : PutSt, (puts txn s es).err = false → PutEv.routed nd ∈ es → nd ∈ (puts txn s es).nodes := by
  induction es with
  | nil => exact fun s _ h => nomatch h
  | cons e es ih =>
    intro s herr h
    rcases List.mem_cons.mp h with h | h
    · subst h
      refine (puts_mono txn es _).2 nd ((put_spec txn s _).2.2 nd rfl ?_)
      cases hh : (put txn s (.routed nd)).err with
      | false => rfl
      | true => exact nomatch ((puts_mono txn es _).1 hh).symm.trans herr
    · exact ih _ herr h

theorem ack_good_no_err (pipe : Bool) (s : PutSt) (h : ack goodGuards pipe s = true) : s.err = false := by
  cases he : s.err with
  | false => rfl
  | true =>
    cases pipe <;> simp [ack, goodGuards, entry, he] at h

/-- ACKNOWLEDGED ⇒ EVERYTHING ROUTED. With the guard `bat.err != nil` first in Exec, Dispatch and Receive, a
    flush that the batcher acknowledges (blocking or pipelined, plain or sender-transactional) has every
    command of the queue in a node batch of the node the router chose for it: no command refused at Put -
    a multi-key command over different nodes, alone in its flush or not - is acknowledged unexecuted. -/
theorem flush_ack_all_routed (txn pipe : Bool) (evs : List PutEv)
    (h : flushAck goodGuards txn pipe evs = true) :
    ∀ e ∈ evs, ∃ nd, e = .routed nd ∧ nd ∈ (puts txn {} evs).nodes := by
  have herr := ack_good_no_err pipe _ h
  intro e he
  cases e with
  | refused => rw [puts_err_of_refused txn evs {} he] at herr; cases herr
  | routed nd => exact ⟨nd, rfl, puts_routed_mem txn evs nd {} herr he⟩

/-- the guard order read off the Go source on this run IS the good one -/
theorem code_guards_good : codeGuards = goodGuards := by decide +kernel

/-- `flush_ack_all_routed` for the code's guard order (regenerated) -/
theorem flush_ack_all_routed_code (txn pipe : Bool) (evs : List PutEv)
    (h : flushAck codeGuards txn pipe evs = true) :
    ∀ e ∈ evs, ∃ nd, e = .routed nd ∧ nd ∈ (puts txn {} evs).nodes := by
  rw [code_guards_good] at h
  exact flush_ack_all_routed txn pipe evs h

/-- a flush with a refused command is reported -/
theorem flush_refused_reported (txn pipe : Bool) (evs : List PutEv) (h : PutEv.refused ∈ evs) :
    flushAck codeGuards txn pipe evs = false := by
  cases hh : flushAck codeGuards txn pipe evs with
  | false => rfl
  | true =>
    obtain ⟨nd, hnd, _⟩ := flush_ack_all_routed_code txn pipe evs hh _ h
    cases hnd

/-- every flush of a replay before the first reported one had everything routed -/
theorem verdicts_acked_all_routed (txn pipe : Bool) :
    ∀ (fs : List (List PutEv)) (i : Nat) (f : List PutEv),
      fs[i]? = some f → (verdicts codeGuards txn pipe fs)[i]? = some true →
      ∀ e ∈ f, ∃ nd, e = .routed nd ∧ nd ∈ (puts txn {} f).nodes := by
  intro fs
  induction fs with
  | nil => intro i f h; simp at h
  | cons g gs ih =>
    intro i f hf hv
    unfold verdicts at hv
    by_cases hg : flushAck codeGuards txn pipe g = true
    · simp only [hg, if_true] at hv
      cases i with
      | zero =>
        simp at hf
        subst hf
        exact flush_ack_all_routed_code txn pipe _ hg
      | succ j =>
        simp at hf hv
        exact ih j f hf hv
    · simp only [hg] at hv
      cases i with
      | zero => simp at hv
      | succ j => simp at hv

/-- NECESSITY of the order (the round-7 seeded change, and batch2 before its repair): with the
    "no node batch" guard first, a flush whose only command is refused is acknowledged - blocking … -/
theorem lone_refused_acknowledged_when_empty_first :
    flushAck ⟨false, true, true⟩ false false [.refused] = true
    ∧ flushAck ⟨true, false, false⟩ false true [.refused] = true
    ∧ flushAck ⟨true, false, false⟩ true true [.refused, .refused] = true := by decide +kernel

/-- … while a flush with one routable command beside the refused one is reported under either order
    (why ordinary traffic and the existing tests never noticed) -/
theorem mixed_refused_reported_either_order (g : Guards) (txn pipe : Bool) (nd : Nat) (evs : List PutEv)
    (h : PutEv.refused ∈ evs) : flushAck g txn pipe (.routed nd :: evs) = false := by
  have herr : (puts txn {} (.routed nd :: evs)).err = true :=
    puts_err_of_refused txn _ {} (List.mem_cons_of_mem _ h)
  have hn : (puts txn {} (.routed nd :: evs)).nodes ≠ [] := by
    have : nd ∈ (puts txn {} (.routed nd :: evs)).nodes := by
      exact (puts_mono txn evs _).2 nd (by simp [put])
    intro h0; rw [h0] at this; cases this
  -- an error is recorded and there is a node batch: either guard order reports the error
  have he : ∀ b, entry b (puts txn {} (.routed nd :: evs)) = some false := fun b => by
    cases b <;> simp [entry, herr, hn]
  cases pipe <;> simp [flushAck, ack, he]

/-! ### sendFuncOnce around the batcher: `if batcher.Len() == 0 { … return nil }` -/

/-- the sender's shortcut (nil, queue kept, in-memory position moved) is taken only for an EMPTY queue of
    routable-or-refused commands once it reports a recorded Put error: a lone refused command is reported -/
theorem once_shortcut_only_empty (g : Guards) (txn pipe : Bool) (evs : List PutEv)
    (h : once true g txn pipe evs = none) : evs = [] := by
  unfold once at h
  simp only at h
  split at h
  · rename_i hn
    split at h
    · cases h
    · rename_i hc
      cases evs with
      | nil => rfl
      | cons e es =>
        exfalso
        cases e with
        | refused =>
          exact hc ⟨trivial, puts_err_of_refused txn _ {} (List.mem_cons_self ..)⟩
        | routed nd =>
          have hm : nd ∈ (puts txn {} (.routed nd :: es)).nodes := by
            exact (puts_mono txn es _).2 nd (by simp [put])
          rw [hn] at hm; cases hm
  · cases h

/-- sendFuncOnce acknowledges (drops the queue, moves the position) only when everything was routed -/
theorem once_ack_all_routed (chk txn pipe : Bool) (evs : List PutEv)
    (h : once chk codeGuards txn pipe evs = some true) :
    ∀ e ∈ evs, ∃ nd, e = .routed nd ∧ nd ∈ (puts txn {} evs).nodes := by
  unfold once at h
  simp only at h
  split at h
  · split at h <;> cases h
  · exact flush_ack_all_routed_code txn pipe evs (by simpa [flushAck] using h)

/-- before the repair of the shortcut: a lone refused command is "nothing to send" - nil, never reported
    while it stays alone -/
theorem once_unchecked_lone_refused_silent (g : Guards) (txn pipe : Bool) :
    once false g txn pipe [.refused] = none := by
  cases txn <;> cases pipe <;> rfl

/-! ### the shape of the code the models rely on, regenerated from the Go source -/

/-- Read off the Go source on this run (harness/extract/c19.go c19ExecShape / c19DispatchShape / c19OnceChecksPutErr):
    Exec and Receive wait for EVERY node batch before they read results, return a node batch's error, and return
    the error of an error reply (ClusterExec `ack`: nil only after a good reply to everything); Dispatch submits the
    node batches in order and stops at the first failing Submit (ClusterSender.dispatch: a prefix); sendFuncOnce's
    empty-batcher shortcut reports a remembered Put error (`once` with chk = true). -/
theorem code_shapes_good :
    Gen.C19Guards.execWaitsAll = true ∧ Gen.C19Guards.execReportsBatchErr = true ∧ Gen.C19Guards.execChecksReplies = true
    ∧ Gen.C19Guards.receiveWaitsAll = true ∧ Gen.C19Guards.receiveReportsBatchErr = true
    ∧ Gen.C19Guards.receiveChecksReplies = true ∧ Gen.C19Guards.dispatchStopsAtFirstSubmitError = true
    ∧ Gen.C19Guards.onceChecksPutErr = true := by decide +kernel

/-- `sendFuncOnce` with the shortcut as it is in the code -/
def codeOnce (txn pipe : Bool) (evs : List PutEv) : Option Bool :=
  once Gen.C19Guards.onceChecksPutErr codeGuards txn pipe evs

/-- the code's sendFuncOnce says "nothing to send" (nil, queue kept) only for an empty queue, and acknowledges
    only when every command was routed -/
theorem code_once_sound (txn pipe : Bool) (evs : List PutEv) :
    (codeOnce txn pipe evs = none → evs = []) ∧
    (codeOnce txn pipe evs = some true → ∀ e ∈ evs, ∃ nd, e = .routed nd ∧ nd ∈ (puts txn {} evs).nodes) := by
  unfold codeOnce
  rw [code_shapes_good.2.2.2.2.2.2.2]
  exact ⟨once_shortcut_only_empty _ txn pipe evs, once_ack_all_routed true txn pipe evs⟩

/-! non-vacuity -/
example : flushAck goodGuards false false [.routed 0, .routed 1, .routed 0] = true := by decide +kernel
example : flushAck goodGuards true true [.routed 2, .routed 2] = true := by decide +kernel
example : flushAck goodGuards false false [.refused] = false := by decide +kernel
example : flushAck goodGuards true true [.routed 0, .routed 1] = false := by decide +kernel   -- second node in a transactional batch
example : verdicts goodGuards false true [[.routed 0], [.refused], [.routed 1]] = [true, false] := by decide +kernel
example : once true goodGuards false false [.refused] = some false := by decide +kernel
example : once true goodGuards false false [.routed 1] = some true := by decide +kernel
example : once true goodGuards true true [] = none := by decide +kernel

end GunYu.Props.C19
