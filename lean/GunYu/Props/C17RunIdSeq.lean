/-
  C17 — `RedisOutput.SetRunId` over the life of ONE RedisOutput when the source fails over AGAIN between two
  calls (Model/BookRunIdSeq.lean `srRun`): calls with different ids in sequence, every attempt with any fate,
  including the fate `rfail` (the attempt reports an error although all its writes were applied: dial error, error
  reply to a read request - the only way an attempt with nothing left to write can fail).

  `setRunIdSeq_partial`: when every failover is learnt while the in-memory field `cfg.RunId` equals the master id
  (the call before it returned nil, `setRunIdF_nil_field`), the SAME position stays readable under the reported ids
  after any number of failovers and calls, whatever the attempts did.
  `setRunIdSeq_stmt`: the statement one wants - a failover whenever the HASH maps the master id, i.e. whenever the
  position is readable under the ids reported after it (`Reach.failover`'s own side condition) - is FALSE for the
  code as it is (`setRunIdSeq_stmt_refuted`): a call that failed after it had repointed the hash and deleted the
  old records leaves the field behind the label; the next call, `UpdateCheckpoint(key, [new id, stale field])`,
  finds no record of either id, writes the placeholder offset −1 under the new id into database 0 and repoints the
  hash to it; when the position lives in database 0 the fields of the two ids are merged by `fetchCheckpoint`
  (last field wins) and the next start reads −1: the position is lost (finding C17-F1, executed on the real code
  by op c17sq).
-/
import GunYu.Props.C17RunId
import GunYu.Model.BookRunIdSeq

namespace GunYu.Props.C17
open GunYu GunYu.Checkpoint GunYu.BookSys

/-- one call of `SetRunId(master id)`, attempts with any fate incl. `rfail` -/
theorem setRunIdF_good (ver : Bytes) {t : Checkpoint.Target} {c : Ctl} {X : Int} {d : Nat} (G : Good t c X d)
    (hp : c.pend = none) (runId : Bytes) (hf : FieldOK c runId) (as : List AttemptF)
    (has : ∀ a ∈ as, d ∈ a.a.o1 ∧ (-(2^63 : Int) ≤ a.a.now ∧ a.a.now < 2^63)) :
    ∃ c', Good (setRunIdF ver c.key ⟨t, runId⟩ c.mas as).1.t c' X d ∧ SameIds c c' ∧ c'.ids = c.ids ∧
      FieldOK c' (setRunIdF ver c.key ⟨t, runId⟩ c.mas as).1.runId ∧
      ((setRunIdF ver c.key ⟨t, runId⟩ c.mas as).2 = true →
        (setRunIdF ver c.key ⟨t, runId⟩ c.mas as).1.runId = c.mas ∧ c'.lab = c.mas) := by
  unfold setRunIdF
  by_cases hr : runId = c.mas
  · rw [if_pos hr]
    exact ⟨c, G, ⟨rfl, rfl, rfl, hp⟩, rfl, hf, fun _ => ⟨hr, hf.lab_eq hr⟩⟩
  · rw [if_neg hr]
    obtain ⟨lab', G', hf', hT⟩ :=
      retryLoopF_good ver (as.take 3) G hp runId hf hr (fun a ha => has a (List.mem_of_mem_take ha))
    exact ⟨_, G', ⟨rfl, rfl, rfl, hp⟩, rfl, hf', hT⟩

/-- a call that returned nil left the field equal to the master id: the side condition of the next failover in
    `StepsOK` holds after it -/
theorem setRunIdF_nil_field (ver loc : Bytes) (s : RunIdSt) (id : Bytes) (as : List AttemptF)
    (h : (setRunIdF ver loc s id as).2 = true) : (setRunIdF ver loc s id as).1.runId = id := by
  unfold setRunIdF at h ⊢
  by_cases hr : s.runId = id
  · rw [if_pos hr]; exact hr
  · rw [if_neg hr] at h ⊢
    generalize as.take 3 = l at h ⊢
    induction l generalizing s with
    | nil => simp [retryLoopF] at h
    | cons a rest ih =>
      unfold retryLoopF at h ⊢
      by_cases hd : (attemptOnceF ver loc s id a).2 = true
      · simp only [hd, if_true]
      · simp only [hd] at h ⊢
        exact ih _ hr h

/-- the steps the partial theorem covers: a failover is learnt while the in-memory field equals the master id
    (e.g. the call before returned nil), its id was never used on this target -/
def StepsOK (ver loc : Bytes) (d : Nat) : RunIdSt → Bytes → List Bytes → List SrStep → Prop
  | _, _, _, [] => True
  | s, m, ids, .call as :: r =>
    (∀ a ∈ as, d ∈ a.a.o1 ∧ (-(2^63 : Int) ≤ a.a.now ∧ a.a.now < 2^63)) ∧
      StepsOK ver loc d (setRunIdF ver loc s m as).1 m ids r
  | s, m, ids, .failover N :: r =>
    s.runId = m ∧ N ∉ ids ∧ N ≠ [] ∧ N ≠ qmark ∧ StepsOK ver loc d s N (N :: ids) r

/-- **calls with different ids in sequence**: any number of failovers and `SetRunId` calls of one RedisOutput,
    every attempt with any fate, each failover learnt while the field equals the master id: `Good` for the SAME
    position, for a control state that reports the ids the source reports after the steps -/
theorem setRunIdSeq_partial (ver : Bytes) (steps : List SrStep) :
    ∀ {t : Checkpoint.Target} {c : Ctl} {X : Int} {d : Nat} (G : Good t c X d) (hp : c.pend = none)
      (runId : Bytes) (hf : FieldOK c runId) (hok : StepsOK ver c.key d ⟨t, runId⟩ c.mas c.ids steps),
      ∃ c', Good (srRun ver c.key ⟨t, runId⟩ c.mas steps).1.t c' X d ∧ c'.key = c.key ∧ c'.pend = none ∧
        c'.mas = (srRun ver c.key ⟨t, runId⟩ c.mas steps).2 ∧ c'.sec = srSec c.mas c.sec steps ∧
        FieldOK c' (srRun ver c.key ⟨t, runId⟩ c.mas steps).1.runId := by
  induction steps with
  | nil => intro t c X d G hp runId hf _; exact ⟨c, G, rfl, hp, rfl, rfl, hf⟩
  | cons st rest ih =>
    intro t c X d G hp runId hf hok
    cases st with
    | call as =>
      obtain ⟨has, hok'⟩ := hok
      obtain ⟨c1, G1, ⟨k1, m1, s1, p1⟩, i1, hf1, _⟩ := setRunIdF_good ver G hp runId hf as has
      simp only [srRun, srSec]
      have := ih G1 p1 _ hf1 (by rw [k1, m1, i1]; exact hok')
      rw [k1, m1, s1] at this
      exact this
    | failover N =>
      obtain ⟨hfm, hN, hN0, hNq, hok'⟩ := hok
      have hl : c.lab = c.mas := hf.lab_eq hfm
      have G1 := good_failover G hl N hN hN0 hNq
      simp only [srRun, srSec]
      exact ih G1 hp runId (Or.inl (Eq.trans hfm hl.symm)) hok'

/-- … hence the next start reads the SAME position under the ids the source reports after the steps -/
theorem setRunIdSeq_position (ver : Bytes) {t : Checkpoint.Target} {c : Ctl} (h : Reach ver true t c)
    (hp : c.pend = none) (runId : Bytes) (hf : FieldOK c runId) (steps : List SrStep) (o : List Nat)
    (ho : Lists o t c.key)
    (hok : ∀ X d, startPoint ver [c.mas, c.sec] o t = some (some (X, d)) →
      StepsOK ver c.key d ⟨t, runId⟩ c.mas c.ids steps) :
    ∃ X d, startPoint ver [c.mas, c.sec] o t = some (some (X, d)) ∧
      startPoint ver [(srRun ver c.key ⟨t, runId⟩ c.mas steps).2, srSec c.mas c.sec steps] o
        (srRun ver c.key ⟨t, runId⟩ c.mas steps).1.t = some (some (X, d)) := by
  obtain ⟨X, d, G⟩ := reach_good ver h
  have hd := ho d G.nonempty
  have h0 := good_startPoint ver G o hd
  obtain ⟨c', G', _, _, m, s, _⟩ := setRunIdSeq_partial ver steps G hp runId hf (hok X d h0)
  have := good_startPoint ver G' o hd
  rw [m, s] at this
  exact ⟨X, d, h0, this⟩

/-! ### the statement one wants, and why it fails on the code as it is -/

/-- a failover whenever the HASH maps the master id to the key (the position is then readable under the ids
    reported after the failover: `Reach.failover`'s side condition `lab = mas`) -/
def StepsOKH (ver loc : Bytes) (d : Nat) : RunIdSt → Bytes → List Bytes → List SrStep → Prop
  | _, _, _, [] => True
  | s, m, ids, .call as :: r =>
    (∀ a ∈ as, d ∈ a.a.o1 ∧ (-(2^63 : Int) ≤ a.a.now ∧ a.a.now < 2^63)) ∧
      StepsOKH ver loc d (setRunIdF ver loc s m as).1 m ids r
  | s, m, ids, .failover N :: r =>
    hlookup s.t.hash m = some loc ∧ N ∉ ids ∧ N ≠ [] ∧ N ≠ qmark ∧ StepsOKH ver loc d s N (N :: ids) r

def setRunIdSeq_stmt : Prop :=
  ∀ (ver : Bytes) (steps : List SrStep) (t : Checkpoint.Target) (c : Ctl) (X : Int) (d : Nat), Good t c X d →
    c.pend = none → ∀ runId, FieldOK c runId → StepsOKH ver c.key d ⟨t, runId⟩ c.mas c.ids steps →
    ∀ o, d ∈ o →
      startPoint ver [(srRun ver c.key ⟨t, runId⟩ c.mas steps).2, srSec c.mas c.sec steps] o
        (srRun ver c.key ⟨t, runId⟩ c.mas steps).1.t = some (some (X, d))

/-! the witness (finding C17-F1): position 7@0 labelled "a" (`rx_reach0s`), failover to "b"; `SetRunId("b")`: its
    only attempt applies 3 of its 4 requests (entry of "b", hash repointed, the record of "a" deleted) and fails at
    the hash clean-up - the field stays "a"; failover to "e"; `SetRunId("e")` = `UpdateCheckpoint(c, [e, a])`
    completes: placeholder −1 under "e" beside the 7 of "b" in database 0; the start with [e, b] reads −1. -/

def rxE : Bytes := [101]
def rxCtlB : Ctl := { seedCtl rxLoc rxA rxZ with mas := rxB, sec := rxA, ids := rxB :: [rxA, rxZ] }
def rxSeq : List SrStep :=
  [.call [⟨⟨3, 9, [0], [0]⟩, false⟩], .failover rxE, .call [⟨⟨9, 10, [0], [0]⟩, false⟩]]

theorem rx_reachB : Reach rxVer true rxT0s rxCtlB := Reach.failover rx_reach0s rfl rxB (by decide) (by decide) (by decide)

theorem rx_start7 : startPoint rxVer [rxB, rxA] [0] rxT0s = some (some (7, 0)) := by decide +kernel

theorem rx_seq_lost : startPoint rxVer [(srRun rxVer rxLoc ⟨rxT0s, rxA⟩ rxB rxSeq).2, srSec rxB rxA rxSeq] [0]
    (srRun rxVer rxLoc ⟨rxT0s, rxA⟩ rxB rxSeq).1.t = some (some (-1, 0)) := by decide +kernel

theorem setRunIdSeq_stmt_refuted : ¬ setRunIdSeq_stmt := by
  intro H
  obtain ⟨X, d, G0⟩ := reach_good rxVer rx_reachB
  have G : Good rxT0s rxCtlB 7 0 := good_of_startPoint rxVer G0 (rx_lists0s [0] (by decide)) rx_start7
  have := H rxVer rxSeq rxT0s rxCtlB 7 0 G rfl rxA (Or.inl rfl)
    (by
      refine ⟨?_, ?_, by decide, by decide, by decide, ?_, trivial⟩
      · intro a ha
        simp only [List.mem_cons, List.not_mem_nil, or_false] at ha
        subst ha; exact ⟨by decide, by decide⟩
      · show hlookup (setRunIdF rxVer rxLoc ⟨rxT0s, rxA⟩ rxB [⟨⟨3, 9, [0], [0]⟩, false⟩]).1.t.hash rxB = some rxLoc
        decide +kernel
      · intro a ha
        simp only [List.mem_cons, List.not_mem_nil, or_false] at ha
        subst ha; exact ⟨by decide, by decide⟩)
    [0] (by decide)
  rw [show rxCtlB.key = rxLoc from rfl, show rxCtlB.mas = rxB from rfl, show rxCtlB.sec = rxA from rfl, rx_seq_lost] at this
  exact absurd this (by decide)

/-! non-vacuity of `setRunIdSeq_partial` / `setRunIdSeq_position`: on the same reachable state the first call
    fails after one request, the second finds the entry rewritten and completes (`rfail` on an attempt in
    between: a dial error), then the failover to "e" and a call that completes: the position 7@0 stays. -/

def rxSeqOk : List SrStep :=
  [.call [⟨⟨1, 9, [0], [0]⟩, false⟩, ⟨⟨0, 10, [0], [0]⟩, true⟩], .call [⟨⟨9, 11, [0], [0]⟩, false⟩], .failover rxE,
   .call [⟨⟨9, 12, [0], [0]⟩, true⟩, ⟨⟨9, 13, [0], [0]⟩, false⟩]]

theorem rx_seq_ok (X : Int) (d : Nat) (hsp : startPoint rxVer [rxB, rxA] [0] rxT0s = some (some (X, d))) :
    StepsOK rxVer rxLoc d ⟨rxT0s, rxA⟩ rxB (rxB :: [rxA, rxZ]) rxSeqOk := by
  rw [rx_start7] at hsp
  injection hsp with hsp; injection hsp with hsp; injection hsp with _ hd
  subst hd
  refine ⟨?_, ?_, ?_, by decide, by decide, by decide, ?_, trivial⟩
  · intro a ha
    simp only [List.mem_cons, List.not_mem_nil, or_false] at ha
    rcases ha with rfl | rfl <;> exact ⟨by decide, by decide⟩
  · intro a ha
    simp only [List.mem_cons, List.not_mem_nil, or_false] at ha
    subst ha; exact ⟨by decide, by decide⟩
  · decide +kernel
  · intro a ha
    simp only [List.mem_cons, List.not_mem_nil, or_false] at ha
    rcases ha with rfl | rfl <;> exact ⟨by decide, by decide⟩

example := setRunIdSeq_position rxVer rx_reachB rfl rxA (Or.inl rfl) rxSeqOk [0] (rx_lists0s [0] (by decide)) rx_seq_ok

example : startPoint rxVer [(srRun rxVer rxLoc ⟨rxT0s, rxA⟩ rxB rxSeqOk).2, srSec rxB rxA rxSeqOk] [0]
    (srRun rxVer rxLoc ⟨rxT0s, rxA⟩ rxB rxSeqOk).1.t = some (some (7, 0)) := by decide +kernel

end GunYu.Props.C17
