/-
  C01 / C02 / C07 / C09 — the DECISIONS of the `sendCmdsBatch` loop, REGENERATED from
  syncer/output.go on every run (harness/extract/c01guards.go → Gen/SenderGuards.lean),
  are the ones the hand model `Model/Sender.lean` / `Model/SenderMem.lean` uses. An edit
  of one of these conditions in /repo (`>` for `>=` in the batch-limit test, a dropped
  `!inTransaction`, `lastOffset <= 0` in the D4 guard, `shouldUpdateCP || …` in setMemCP)
  changes the generated definition and breaks the equivalence proof below.
-/
import GunYu.Gen.SenderGuards
import GunYu.Proofs.SenderMem

namespace GunYu.Props.C01
open GunYu GunYu.Sender

/-- the batch-limit test at the end of every iteration (`tail`; `Proofs/SenderMem.lean`
    `tail_hit` / `tail_flag` / `tail_none` state `tail` through `sizeHit`) -/
theorem gen_sgSize_eq_model (c : SCfg) (s : SState) :
    Gen.sgSize s.needFlush s.inTxn s.queue.length c.batchCount s.qbytes c.batchBytes = sizeHit c s := by
  simp only [Gen.sgSize, sizeHit, ge_iff_le, Int.ofNat_le]

theorem isEmpty_eq_length (q : List Item) : q.isEmpty = decide ((q.length : Int) = 0) := by
  cases q with
  | nil => simp
  | cons a r =>
    simp only [List.isEmpty_cons, List.length_cons]
    symm
    simp only [decide_eq_false_iff_not]
    omega

/-- case `<-batchTicker.C` -/
theorem gen_sgBatchTick_eq_model (s : SState) :
    Gen.sgBatchTick s.needFlush s.inTxn s.queue.length = (!s.needFlush && !s.inTxn && !s.queue.isEmpty) := by
  cases h : s.queue <;> simp [Gen.sgBatchTick]

theorem gen_step_batchTick (c : SCfg) (s : SState) :
    step c s .batchTick =
      tail c (if Gen.sgBatchTick s.needFlush s.inTxn s.queue.length then { s with needFlush := true } else s)
        c.txnMode (c.resume && c.txnMode) [] := by
  rw [gen_sgBatchTick_eq_model]; rfl

/-- case `<-keepaliveTicker.C` -/
theorem gen_sgKeepalive_eq_model (s : SState) :
    Gen.sgKeepalive s.inTxn s.needFlush = (!s.inTxn && !s.needFlush) := rfl

theorem gen_sgKeepaliveEmpty_eq_model (s : SState) :
    Gen.sgKeepaliveEmpty s.queue.length = s.queue.isEmpty := by
  rw [isEmpty_eq_length]; rfl

theorem gen_step_keepaliveTick (c : SCfg) (s : SState) :
    step c s .keepaliveTick =
      if Gen.sgKeepalive s.inTxn s.needFlush then
        (if Gen.sgKeepaliveEmpty s.queue.length then
          tail c { s with queue := [pingItem s.lastOffset], needFlush := true } false (c.resume && c.txnMode) []
        else tail c { s with needFlush := true } c.txnMode (c.resume && c.txnMode) [])
      else tail c s c.txnMode (c.resume && c.txnMode) [] := by
  rw [gen_sgKeepalive_eq_model, gen_sgKeepaliveEmpty_eq_model]; rfl

/-- cases `<-updateCpTicker.C` and `<-replayWait.Done()` -/
theorem gen_step_cpTick (c : SCfg) (s : SState) :
    step c s .cpTick =
      if Gen.sgCpTick s.inTxn c.txnMode then tail c { s with needFlush := true } c.txnMode true []
      else tail c s c.txnMode (c.resume && c.txnMode) [] := rfl

theorem gen_step_done (c : SCfg) (s : SState) :
    step c s .done =
      if Gen.sgDone s.inTxn c.txnMode then tail c { s with needFlush := true } c.txnMode true []
      else tail c s c.txnMode (c.resume && c.txnMode) [] := rfl

/-- the D4 guard `lastOffset < 0` clears `shouldUpdateCP`; the model tests `0 ≤ off` -/
theorem gen_sgD4_eq_model (off : Int) : (!Gen.sgD4 off) = decide (0 ≤ off) := by
  unfold Gen.sgD4
  by_cases h : off < 0 <;> simp [h] <;> omega

/-- `setMemCP` behind the D4 guard: the condition of `memOnce` (`upG` = Go's shouldUpdateCP at the call) -/
theorem gen_memOnce_eq_model (c : SCfg) (s : SState) (upG : Bool) (off : Int) (m : Mem) :
    memOnce c s upG off m =
      if Gen.sgMem (upG && !Gen.sgD4 off) c.resume then { off := off, db := dbAfter s.connDb s.queue } else m := by
  rw [gen_sgD4_eq_model]
  rfl

/-- the early return of `sendFuncOnce` on an empty queue: the first test of `sendOnce`
    (the model folds `EnableResumeFromBreakPoint` into the flag it passes: `upG && c.resume`) -/
theorem gen_sgEarly_eq_model (c : SCfg) (s : SState) (tb upG : Bool) (off : Int) :
    Gen.sgEarly s.queue.length tb (upG && !Gen.sgD4 off) c.resume =
      (s.queue.isEmpty && tb && !((upG && c.resume) && decide (0 ≤ off))) := by
  rw [isEmpty_eq_length, gen_sgD4_eq_model]
  unfold Gen.sgEarly
  cases upG <;> cases c.resume <;> cases tb <;> simp

/-! non-vacuity: the generated batch-limit test on concrete values -/
example : Gen.sgSize false false 2 2 0 1000 = true := by decide
example : Gen.sgSize false true 5 2 0 1000 = false := by decide
example : Gen.sgD4 (-1) = true ∧ Gen.sgD4 0 = false := by decide

end GunYu.Props.C01
