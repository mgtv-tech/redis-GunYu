/-
  C02, THE TWO RUNS AS ONE THEOREM. `Props/C02.lean` proves, per run, what a
  stored position covers, and, at the parser level, what a resumed parser does.
  Here the halves are joined across the crash:

    source stream `raws` --parser--> items --sender loop (any schedule)--> wire
      --target, dies after ANY number `k` of requests--> crashed target
      --StartPoint--> (position `o`, database `d`) --fresh parser on the rest of
      the stream, sender loop (any schedule), new connection--> target

  The source stream, cut at `o`, and the executed wire prefix, cut at its last
  position write, are the same cut (`crash_cut`); the specification splits there,
  so nothing is lost (`crash_then_resume`) and in transactional resumable mode
  nothing is repeated (`crash_then_resume_txn`).
-/
import GunYu.Props.C01
import GunYu.Props.C02
import GunYu.Proofs.TwoRuns

namespace GunYu.Props.C02
open GunYu GunYu.Sender GunYu.Target

theorem cut_of_noDone (evs : List Ev) (h : C01.NoDone evs) : cut evs = evs := by
  induction evs with
  | nil => rfl
  | cons ev rest ih =>
    have hne : ev ≠ .done := h ev (List.mem_cons_self ..)
    simp only [cut, hne, ↓reduceIte]
    rw [ih (fun e he => h e (List.mem_cons_of_mem _ he))]

theorem fwdO_items (t : Txn) (evs : List Ev) (h : C01.NoDone evs) :
    fwdO t evs = fwdItemsO t (itemsOf evs) := by
  have := fwdO_cut_items t evs
  rwa [cut_of_noDone evs h] at this

theorem dataBO_key {l : List Req} {x : CmdO} (h : x ∈ dataBO l) : 2 * x.2.2 ∈ keysB l := by
  obtain ⟨r, hr, hx⟩ := List.mem_filterMap.mp h
  refine List.mem_filterMap.mpr ⟨r, hr, ?_⟩
  cases r with
  | cmd n a off =>
    simp only [cmdOfReqO] at hx
    simp only [keyOfReq]
    split at hx
    · cases hx
    · rename_i hp; injection hx with hx; rw [← hx]; simp [hp]
  | _ => cases hx

theorem dataB_key {l : List Req} {x : Cmd} (h : x ∈ dataB l) : ∃ y, 2 * y ∈ keysB l := by
  rw [dataB_eq] at h
  obtain ⟨xo, hxo, _⟩ := List.mem_map.mp h
  exact ⟨_, dataBO_key hxo⟩

theorem dataBO_cons_cp (o : Int) (l : List Req) : dataBO (Req.cpOffset o :: l) = dataBO l := rfl

theorem dataB_split_cp (E1 E2 : List Req) (o : Int) :
    dataB (E1 ++ Req.cpOffset o :: E2) = dataB E1 ++ dataB E2 := by
  rw [dataB_append]; rfl

theorem dataB_prefix_of_dataBO {E : List Req} {items : List Item}
    (h : dataBO E <+: itemCmdsO items) : dataB E <+: itemCmds items := by
  rw [dataB_eq, ← itemCmdsO_proj]; exact h.map noOff

theorem itemsNoNested_parserItems (pc : PCfg) (start : Int) (raws : List Raw)
    (h : ItemsNoNested false (parseAll pc { lastSent := start } raws)) :
    ItemsNoNested false (parserItems pc start raws) := by
  unfold parserItems
  split
  · have h1 : bSelect ≠ bMulti := by decide
    have h2 : bSelect ≠ bExec := by decide
    simpa [ItemsNoNested, selectItem, h1, h2] using h
  · simpa using h

theorem cp_of_executed {out : List Batch} (hwf : AllWF out) {E E1 E2 : List Req} {o : Int}
    (hE : E <+: bodies out) (hsplit : E = E1 ++ Req.cpOffset o :: E2) : o ∈ cpOffsets out := by
  obtain ⟨R, hR⟩ := hE
  rw [← cpOffsetsB_bodies _ hwf, ← hR, hsplit, cpOffsetsB_append, cpOffsetsB_append]
  exact List.mem_append_left _ (List.mem_append_right _ (List.mem_cons_self ..))

/-- `crash_cut` for a run resumed from `(start0, pc.startDbId)`, the initial select
    included. The wire's data commands followed by the queue are the forwarded commands
    of all items (`run_dataO`); both sides split into a part at or below `o` and a part
    above it -- the wire by the order of its keys, the items by the order of the source
    -- and such a split is unique. -/
theorem cut_at_position (pc : PCfg) (sc : SCfg) (raws : List Raw) (start0 : Int) (evs : List Ev)
    (hitems : itemsOf evs = parserItems pc start0 raws)
    (hraw : (raws.map (·.off)).Pairwise (· < ·)) (hlo : ∀ r ∈ raws, start0 < r.off)
    (hstart : 0 ≤ start0) (hnd : C01.NoDone evs)
    (hnn : ItemsNoNested false (parseAll pc { lastSent := start0 } raws))
    (hnf : parseFails pc { lastSent := start0 } raws = false)
    (E E1 E2 : List Req) (o : Int) (hE : E <+: bodies (run sc initS evs).2)
    (hsplit : E = E1 ++ Req.cpOffset o :: E2) :
    raws = raws.filter (fun r => decide (r.off ≤ o)) ++ raws.filter (fun r => decide (o < r.off)) ∧
    parseFails pc { lastSent := start0 } (raws.filter (fun r => decide (r.off ≤ o))) = false ∧
    (parseState pc { lastSent := start0 } (raws.filter (fun r => decide (r.off ≤ o)))).bypass = false ∧
    start0 ≤ o ∧
    dataBO E1 = itemCmdsO (parserItems pc start0 (raws.filter (fun r => decide (r.off ≤ o)))) ∧
    dataBO E2 <+: itemCmdsO (parseAll pc
      (parseState pc { lastSent := start0 } (raws.filter (fun r => decide (r.off ≤ o))))
      (raws.filter (fun r => decide (o < r.off)))) := by
  have hwf := run_wf sc initS evs
  have hm := resumed_parser_feeds_smono pc raws start0 evs hitems hraw hlo hstart
  have hocp := cp_of_executed hwf hE hsplit
  have hso : start0 ≤ o := by
    have := (resumed_wire sc pc raws start0 evs hitems hraw hlo hstart).2.1
    rw [cpOffsetsB_bodies _ hwf] at this
    exact this o hocp
  -- the cut is safe: the position is the start offset or an offset the parser handed over
  have hbyp : (parseState pc { lastSent := start0 } (raws.filter (fun r => decide (r.off ≤ o)))).bypass
      = false := by
    have hnil : o = start0 →
        (parseState pc { lastSent := start0 } (raws.filter (fun r => decide (r.off ≤ o)))).bypass
          = false := by
      intro h
      rw [filter_le_nil (fun x hx => by have := hlo x hx; omega)]; rfl
    rcases run_cp_origin sc initS evs o hocp with ⟨he, hp⟩ | ⟨i, hi, he⟩
    · simp only [initS] at he; omega
    · rcases mem_parserItems (hitems ▸ hi) with rfl | hi
      · exact hnil he
      · rcases cut_unbypassed pc raws { lastSent := start0 } hraw hlo i hi with h | h
        · exact hnil (he.trans h)
        · rw [he]; exact h
  have hAB := sorted_split raws o hraw
  generalize hA : raws.filter (fun r => decide (r.off ≤ o)) = A at hAB hbyp ⊢
  generalize hB : raws.filter (fun r => decide (o < r.off)) = B at hAB ⊢
  have hnfA : parseFails pc { lastSent := start0 } A = false := by
    rw [hAB] at hnf; exact parseFails_append_left pc _ A B hnf
  -- wire ++ queue = the forwarded commands of the items for A, then for B
  obtain ⟨R, hR⟩ := hE
  have hcons : _ = [] ++ fwdO Txn.no evs := run_dataO sc initS evs
  rw [List.nil_append, fwdO_items _ evs hnd, hitems,
    fwdItemsO_eq Txn.no _ (itemsNoNested_parserItems pc start0 raws hnn), ← dataBO_bodies _ hwf, ← hR,
    hsplit, hAB, parserItems_append pc start0 A B hnfA, itemCmdsO_append] at hcons
  simp only [dataBO_append, dataBO_cons_cp, List.append_assoc] at hcons
  obtain ⟨hbefore, hafter⟩ := keys_around_cp (E1 := E1) (E2 := E2 ++ R) (o := o) (by
    have := wire_ordered sc evs hm
    rwa [← keys_bodies _ hwf, ← hR, hsplit, List.append_assoc, List.cons_append] at this)
  have hcut := split_unique (fun x : CmdO => x.2.2 ≤ o) hcons
    (fun x hx => by have := hbefore _ (dataBO_key hx); omega)
    (fun x hx => by
      rw [← List.append_assoc, ← dataBO_append] at hx
      rcases List.mem_append.mp hx with h | h
      · have := hafter _ (dataBO_key h); omega
      · obtain ⟨i, hi, hio⟩ := qdO_mem_offset h
        have := pending_not_covered sc evs hm o hocp i hi
        omega)
    (itemCmdsO_parserItems_le pc start0 o A hso (fun r hr => by
      rw [← hA] at hr; simpa using (List.mem_filter.mp hr).2))
    (fun x hx => by
      obtain ⟨r, hr, hxr⟩ := itemCmdsO_own pc _ B x hx
      rw [← hB] at hr
      have : o < r.off := by simpa using (List.mem_filter.mp hr).2
      omega)
  exact ⟨hAB, hnfA, hbyp, hso, hcut.1, ⟨_, hcut.2⟩⟩

/-- **What a crashed target has executed, relative to the position it stored.**
    Any configuration, any source stream, any schedule; the target has executed the
    request prefix `E = E1 ++ [<rid>_offset o] ++ E2` of the wire. Split the SOURCE
    stream at `o` (`A`: commands ending at or before `o`, `B`: after). Then the
    commands executed before the position write are exactly the forwarded commands
    of `A`, those executed after it are a prefix of the forwarded commands of `B`,
    and the parser is outside every filtered database after `A`. -/
theorem crash_cut (pc : PCfg) (sc : SCfg) (raws : List Raw) (start0 : Int) (evs : List Ev)
    (hitems : itemsOf evs = parseAll pc { lastSent := start0 } raws)
    (hraw : (raws.map (·.off)).Pairwise (· < ·)) (hlo : ∀ r ∈ raws, start0 < r.off)
    (hstart : 0 ≤ start0) (hnd : C01.NoDone evs)
    (hnn : ItemsNoNested false (parseAll pc { lastSent := start0 } raws))
    (hnf : parseFails pc { lastSent := start0 } raws = false)
    (E E1 E2 : List Req) (o : Int) (hE : E <+: bodies (run sc initS evs).2)
    (hsplit : E = E1 ++ Req.cpOffset o :: E2) :
    raws = raws.filter (fun r => decide (r.off ≤ o)) ++ raws.filter (fun r => decide (o < r.off)) ∧
    parseFails pc { lastSent := start0 } (raws.filter (fun r => decide (r.off ≤ o))) = false ∧
    (parseState pc { lastSent := start0 } (raws.filter (fun r => decide (r.off ≤ o)))).bypass = false ∧
    dataBO E1 = itemCmdsO (parseAll pc { lastSent := start0 } (raws.filter (fun r => decide (r.off ≤ o)))) ∧
    dataBO E2 <+: itemCmdsO (parseAll pc
      (parseState pc { lastSent := start0 } (raws.filter (fun r => decide (r.off ≤ o))))
      (raws.filter (fun r => decide (o < r.off)))) := by
  -- a run without a database to re-select
  have h := cut_at_position { pc with startDbId := 0 } sc raws start0 evs
    (by rw [parserItems_zero]; exact hitems) hraw hlo hstart hnd (by rw [parseAll_setDb]; exact hnn)
    (by rw [parseFails_setDb]; exact hnf) E E1 E2 o hE hsplit
  simp only [parseFails_setDb, parseState_setDb, parserItems_zero, parseAll_setDb] at h
  exact ⟨h.1, h.2.1, h.2.2.1, h.2.2.2.2⟩

/-! ### The resumed run on the target (C01's end-to-end chain for `parserItems`) -/

/-- resumed run, any mode, any moment: what the target has executed since the
    restart is a prefix of what the resumed parser's items execute -/
theorem resumed_executed_prefix (pc : PCfg) (sc : SCfg) (raws : List Raw) (evs : List Ev) (start : Int)
    (hitems : itemsOf evs = parserItems pc start raws) (hnd : C01.NoDone evs)
    (hnn : ItemsNoNested false (parseAll pc { lastSent := start } raws))
    (t : TState) (hq : t.queued = none) :
    ∃ rest, t.applied ++ (seqApplied t.cur (itemCmds (parserItems pc start raws))).2 =
      (applyLog t (run sc initS evs).2.flatten).applied ++ rest := by
  have h1 := (C01.executed_in_order sc evs t hq).2
  obtain ⟨pend, hp⟩ := C01.wire_prefix sc evs
  have hnn' : C01.NoNested (inT .no) evs :=
    C01.noNested_of_items _ evs (by rw [hitems]; exact itemsNoNested_parserItems pc start raws hnn)
  rw [h1, ← hitems, ← C01.plainItems_eq_itemCmds, ← C01.fwd_eq_plainItems .no evs hnd hnn', ← hp,
    seqApplied_append]
  exact ⟨(seqApplied (seqApplied t.cur (dataOut (run sc initS evs).2)).1 pend).2,
    by simp [List.append_assoc]⟩

/-- resumed run, ticker mode, finished: the target has executed exactly what the
    resumed parser's items execute -/
theorem resumed_executed_all (pc : PCfg) (sc : SCfg) (hsc : sc.txnMode = false)
    (raws : List Raw) (evs : List Ev) (start : Int)
    (hitems : itemsOf evs = parserItems pc start raws) (hnd : C01.NoDone evs)
    (hnn : ItemsNoNested false (parseAll pc { lastSent := start } raws))
    (t : TState) (hq : t.queued = none) :
    (applyLog t (run sc initS (evs ++ [.done])).2.flatten).applied =
      t.applied ++ (seqApplied t.cur (itemCmds (parserItems pc start raws))).2 := by
  have h1 := (C01.executed_in_order sc (evs ++ [.done]) t hq).2
  have hnn' : C01.NoNested (inT .no) evs :=
    C01.noNested_of_items _ evs (by rw [hitems]; exact itemsNoNested_parserItems pc start raws hnn)
  rw [h1, C01.done_flushes_all sc hsc evs hnd, C01.fwd_append_done _ _ hnd,
    C01.fwd_eq_plainItems .no evs hnd hnn', C01.plainItems_eq_itemCmds, hitems]

theorem seqApplied_prefix (cur : Int) {x y : List Cmd} (h : x <+: y) :
    (seqApplied cur x).2 <+: (seqApplied cur y).2 := by
  obtain ⟨z, rfl⟩ := h
  rw [seqApplied_append]
  exact List.prefix_append _ _

/-- what a target that dies after the wire prefix `E = E1 ++ [<rid>_offset o] ++ E2` of a run resumed
    in database `d0` has executed; `d` is the database the connection is in at the position write -/
theorem cut_executed (pc : PCfg) (d0 : Int) (sc : SCfg) (raws : List Raw) (start0 : Int) (evs : List Ev)
    (hitems : itemsOf evs = parserItems { pc with startDbId := d0 } start0 raws)
    (hraw : (raws.map (·.off)).Pairwise (· < ·)) (hlo : ∀ r ∈ raws, start0 < r.off)
    (hstart : 0 ≤ start0) (hnd : C01.NoDone evs)
    (hnn : ItemsNoNested false (parseAll pc { lastSent := start0 } raws))
    (hnf : parseFails pc { lastSent := start0 } raws = false)
    (hsel : ∀ x ∈ raws, x.cmd = bSelect → ∀ a n, x.args = [a] → atoi? a = some n → 0 ≤ n)
    (hmap : ∀ n : Int, 0 ≤ n → mapDb pc n ≠ -1)
    (t : TState) (hcur : t.cur = 0) (hd0 : 0 ≤ d0)
    (E E1 E2 : List Req) (o : Int) (hE : E <+: bodies (run sc initS evs).2)
    (hsplit : E = E1 ++ Req.cpOffset o :: E2)
    (d : Int) (hd : d = (E1.foldl execReq t).cur) :
    let A := raws.filter (fun r => decide (r.off ≤ o))
    let B := raws.filter (fun r => decide (o < r.off))
    let S1 := (seqApplied d0 (itemCmds (parseAll pc { lastSent := start0 } A))).2
    d = (seqApplied d0 (itemCmds (parseAll pc { lastSent := start0 } A))).1 ∧ start0 ≤ o ∧
    specStream pc false d0 raws = S1 ++ specStream pc false d B ∧
    (E.foldl execReq t).applied = t.applied ++ S1 ++ (seqApplied d (dataB E2)).2 ∧
    (seqApplied d (dataB E2)).2 <+: specStream pc false d B := by
  simp only
  obtain ⟨hAB, hnfA, hbyp, hso, hd1, hd2⟩ := cut_at_position { pc with startDbId := d0 } sc raws start0 evs
    hitems hraw hlo hstart hnd (by rw [parseAll_setDb]; exact hnn) (by rw [parseFails_setDb]; exact hnf)
    E E1 E2 o hE hsplit
  rw [parseFails_setDb] at hnfA
  rw [parseState_setDb] at hbyp
  rw [parseState_setDb, parseAll_setDb] at hd2
  generalize hA : raws.filter (fun r => decide (r.off ≤ o)) = A at hAB hnfA hbyp hd1 hd2 ⊢
  generalize hB : raws.filter (fun r => decide (o < r.off)) = B at hAB hd2 ⊢
  have hplainE : ∀ r ∈ E, Plain r = true := fun r hr => bodies_plain _ (run_wf sc initS evs) r (hE.subset hr)
  have hplain1 : ∀ r ∈ E1, Plain r = true := fun r hr => hplainE r (by rw [hsplit]; exact List.mem_append_left _ hr)
  have hdb1 : dataB E1 = itemCmds (parserItems { pc with startDbId := d0 } start0 A) := by
    rw [dataB_eq, hd1, itemCmdsO_proj]
  have hdb : d = (seqApplied d0 (itemCmds (parseAll pc { lastSent := start0 } A))).1 := by
    rw [hd, (foldl_execReq_seq E1 hplain1 t).1, hcur, hdb1, seq_parserItems pc d0 start0 hd0 A]
  have hselAB : ∀ x ∈ A ++ B, x.cmd = bSelect → ∀ a n, x.args = [a] → atoi? a = some n → 0 ≤ n := by
    rw [← hAB]; exact hsel
  obtain ⟨hspec, hres⟩ := spec_at_cut pc { lastSent := start0 } d0 A B hnfA hbyp (Or.inr rfl) hselAB hmap hdb
  rw [← parser_refines_spec pc A { lastSent := start0 } d0 (Or.inr rfl)
    (fun x hx => hselAB x (List.mem_append_left _ hx)) hmap, ← hAB] at hspec
  refine ⟨hdb, hso, hspec, ?_, ?_⟩
  · rw [(foldl_execReq_seq E hplainE t).2, hcur, hsplit, dataB_split_cp, seqApplied_append, hdb1,
      seq_parserItems pc d0 start0 hd0 A, ← hdb, List.append_assoc]
  · rw [← hres]
    exact seqApplied_prefix _ (dataB_prefix_of_dataBO hd2)

/-- **A crash at any instant loses no source write, and the restart completes the
    stream -- the two runs as one theorem.**

    RUN 1: any filter/mapping configuration `pc`, any batching configuration `sc1`
    (either mode), any source stream `raws` above the start offset, any schedule
    `evs1` of the parser's items and ticks; the target (no position stored yet, new
    connection) dies after ANY number `k` of requests, having executed the wire
    prefix `E` whose last position write is `<rid>_offset o` (`E = E1 ++ [o] ++ E2`).
    Let `A`/`B` be the source commands ending at or before / after `o`, let the
    configuration's `startDbId` be the database the connection was in at that write.
    Then, with `S1` = what the parser's items for `A` execute and `S2` = what a FRESH
    parser started at `(o, startDbId)` on `B` executes (`parserItems`):

     1. `(startDbId, o)` is what `StartPoint` finds: the unique largest offset;
     2. `S1 ++ S2` is the one-pass specification `specStream` of the whole stream;
     3. the crashed target has executed `S1 ++ X` with `X` a prefix of `S2`: every
        write up to the stored position is there, in order, in its database --
        NOTHING IS LOST; `X` (executed but not covered) is what may be repeated;

    RUN 2, any batching configuration `sc2`, any schedule `evs2` of the resumed
    parser's items on the crashed target with a new connection:

     4. at any moment it has executed a prefix of `S2` (nothing beyond, nothing out
        of order), and
     5. in ticker mode, once done, exactly `S2`: the target then holds
        `S1 ++ X ++ S2` -- the whole specification, with only `X` twice. -/
theorem crash_then_resume (pc : PCfg) (sc1 : SCfg) (raws : List Raw) (start0 : Int) (evs1 : List Ev)
    (hitems : itemsOf evs1 = parseAll pc { lastSent := start0 } raws)
    (hraw : (raws.map (·.off)).Pairwise (· < ·)) (hlo : ∀ r ∈ raws, start0 < r.off)
    (hstart : 0 ≤ start0) (hnd : C01.NoDone evs1)
    (hnn : ItemsNoNested false (parseAll pc { lastSent := start0 } raws))
    (hnf : parseFails pc { lastSent := start0 } raws = false)
    (hsel : ∀ x ∈ raws, x.cmd = bSelect → ∀ a n, x.args = [a] → atoi? a = some n → 0 ≤ n)
    (hmap : ∀ n : Int, 0 ≤ n → mapDb pc n ≠ -1)
    (t : TState) (hcur : t.cur = 0) (hfresh : t.cps = []) (k : Nat)
    (E E1 E2 : List Req) (o : Int) (hE : E <+: bodies (run sc1 initS evs1).2)
    (hsame : SameData (applyLog t ((run sc1 initS evs1).2.flatten.take k)) (E.foldl execReq t))
    (hsplit : E = E1 ++ Req.cpOffset o :: E2) (hlast : cpOffsetsB E2 = [])
    (hd : pc.startDbId = (E1.foldl execReq t).cur) (hd0 : 0 ≤ pc.startDbId) :
    let T1 := applyLog t ((run sc1 initS evs1).2.flatten.take k)
    let A := raws.filter (fun r => decide (r.off ≤ o))
    let B := raws.filter (fun r => decide (o < r.off))
    let S1 := (seqApplied 0 (itemCmds (parseAll pc { lastSent := start0 } A))).2
    let S2 := (seqApplied 0 (itemCmds (parserItems pc o B))).2
    UniqueMax T1.cps pc.startDbId o ∧
    specStream pc false 0 raws = S1 ++ S2 ∧
    (∃ X, T1.applied = t.applied ++ S1 ++ X ∧ X <+: S2 ∧
      X = (seqApplied pc.startDbId (dataB E2)).2) ∧
    (∀ (sc2 : SCfg) (evs2 : List Ev), itemsOf evs2 = parserItems pc o B → C01.NoDone evs2 →
      ItemsNoNested false (parseAll pc { lastSent := o } B) →
      (∃ rest, T1.applied ++ S2 = (applyLog (crash T1) (run sc2 initS evs2).2.flatten).applied ++ rest) ∧
      (sc2.txnMode = false →
        (applyLog (crash T1) (run sc2 initS (evs2 ++ [.done])).2.flatten).applied = T1.applied ++ S2)) := by
  simp only
  obtain ⟨_, _, hspec, happ, hX⟩ := cut_executed pc 0 sc1 raws start0 evs1 (by rw [parserItems_zero]; exact hitems)
    hraw hlo hstart hnd hnn hnf hsel hmap t hcur (Int.le_refl 0) E E1 E2 o hE hsplit pc.startDbId hd
  have hS2 := restart_at_start_is_spec pc (raws.filter (fun r => decide (o < r.off))) o
    (fun x hx => hsel x (List.mem_filter.mp hx).1) hmap hd0
  rw [← hS2] at hspec hX
  refine ⟨?_, hspec, ⟨_, by rw [hsame.1, happ], hX, rfl⟩, ?_⟩
  · have := crash_resume_db sc1 evs1 (parser_feeds_smono pc raws start0 evs1 hitems hraw hlo hstart) t hfresh k
      E hE hsame E1 E2 o hsplit hlast
    simp only at this
    rw [← hd] at this
    exact this
  · intro sc2 evs2 hitems2 hnd2 hnn2
    have hq1 : (crash (applyLog t ((run sc1 initS evs1).2.flatten.take k))).queued = none := rfl
    constructor
    · have := resumed_executed_prefix pc sc2 _ evs2 o hitems2 hnd2 hnn2 _ hq1
      simpa [crash] using this
    · intro hsc2
      have := resumed_executed_all pc sc2 hsc2 _ evs2 o hitems2 hnd2 hnn2 _ hq1
      simpa [crash] using this

/-- when every command the target executed is covered by a position write it executed, it
    executed nothing after the last one: such a command's key would lie above the last
    write's, and the keys of the earlier writes below it -/
theorem no_data_after_last_cp {E1 E2 : List Req} {o : Int}
    (hsorted : (keysB (E1 ++ Req.cpOffset o :: E2)).Pairwise (· ≤ ·))
    (hcov : ∀ y, 2 * y ∈ keysB (E1 ++ Req.cpOffset o :: E2) →
      ∃ o' ∈ cpOffsetsB (E1 ++ Req.cpOffset o :: E2), y ≤ o')
    (hlast : cpOffsetsB E2 = []) : dataB E2 = [] := by
  obtain ⟨hbefore, hafter⟩ := keys_around_cp hsorted
  apply List.eq_nil_iff_forall_not_mem.mpr
  intro x hx
  rw [dataB_eq] at hx
  obtain ⟨xo, hxo, _⟩ := List.mem_map.mp hx
  have hkey := dataBO_key hxo
  have h1 := hafter _ hkey
  obtain ⟨o', ho', hle⟩ := hcov xo.2.2 (by
    rw [keysB_append, keysB_cons]
    exact List.mem_append_right _ (List.mem_append_right _ hkey))
  rw [cpOffsetsB_append] at ho'
  rcases List.mem_append.mp ho' with h | h
  · have := hbefore _ (cp_mem_keysB h); omega
  · rw [show cpOffsetsB (Req.cpOffset o :: E2) = o :: cpOffsetsB E2 from rfl, hlast,
      List.mem_singleton] at h
    omega

/-- **Transactional, resumable mode: the crash repeats nothing** -- the executed
    wire prefix can be chosen as whole MULTI/EXEC blocks, and then nothing the
    target executed lies after the last position write: `X = []` in
    `crash_then_resume`, the two runs together execute EXACTLY the specification.
    (The witness `E` of this theorem is the one to instantiate `crash_then_resume`
    with.) -/
theorem crash_then_resume_txn (pc : PCfg) (sc1 : SCfg) (htx : sc1.txnMode = true) (hres : sc1.resume = true)
    (raws : List Raw) (start0 : Int) (evs1 : List Ev)
    (hitems : itemsOf evs1 = parseAll pc { lastSent := start0 } raws)
    (hraw : (raws.map (·.off)).Pairwise (· < ·)) (hlo : ∀ r ∈ raws, start0 < r.off)
    (hstart : 0 ≤ start0) (hnneg : NonNeg evs1)
    (t : TState) (hq : t.queued = none) (k : Nat) :
    ∃ E, E <+: bodies (run sc1 initS evs1).2 ∧
      SameData (applyLog t ((run sc1 initS evs1).2.flatten.take k)) (E.foldl execReq t) ∧
      ∀ E1 o E2, E = E1 ++ Req.cpOffset o :: E2 → cpOffsetsB E2 = [] → dataB E2 = [] := by
  have hm : SMono initS.txn initS.lastOffset evs1 :=
    parser_feeds_smono pc raws start0 evs1 hitems hraw hlo hstart
  obtain ⟨E, hE, hsame, hcov⟩ := txn_crash_repeats_nothing_prefix sc1 htx hres evs1 hm hnneg t hq k
  refine ⟨E, hE, hsame, ?_⟩
  intro E1 o E2 hsplit hlast
  subst hsplit
  exact no_data_after_last_cp (keysB_prefix_ordered sc1 evs1 hm hE) hcov hlast


/-- **Transactional, resumable first run: the two runs execute EXACTLY the
    specification.** For the whole-block witness `E` of `crash_then_resume_txn`:
    the crashed target holds exactly `S1` (every write up to the stored position,
    none after it), at any moment of the resumed run the target holds a prefix of
    the specification, and once the resumed run is done (ticker mode) it holds the
    specification of the whole stream -- nothing lost, nothing twice. -/
theorem crash_then_resume_txn_exact (pc : PCfg) (sc1 : SCfg) (htx : sc1.txnMode = true)
    (hres : sc1.resume = true) (raws : List Raw) (start0 : Int) (evs1 : List Ev)
    (hitems : itemsOf evs1 = parseAll pc { lastSent := start0 } raws)
    (hraw : (raws.map (·.off)).Pairwise (· < ·)) (hlo : ∀ r ∈ raws, start0 < r.off)
    (hstart : 0 ≤ start0) (hnd : C01.NoDone evs1) (hnneg : NonNeg evs1)
    (hnn : ItemsNoNested false (parseAll pc { lastSent := start0 } raws))
    (hnf : parseFails pc { lastSent := start0 } raws = false)
    (hsel : ∀ x ∈ raws, x.cmd = bSelect → ∀ a n, x.args = [a] → atoi? a = some n → 0 ≤ n)
    (hmap : ∀ n : Int, 0 ≤ n → mapDb pc n ≠ -1)
    (t : TState) (hq : t.queued = none) (hcur : t.cur = 0) (hfresh : t.cps = []) (k : Nat) :
    ∃ E, E <+: bodies (run sc1 initS evs1).2 ∧
      SameData (applyLog t ((run sc1 initS evs1).2.flatten.take k)) (E.foldl execReq t) ∧
      ∀ E1 o E2, E = E1 ++ Req.cpOffset o :: E2 → cpOffsetsB E2 = [] →
        pc.startDbId = (E1.foldl execReq t).cur → 0 ≤ pc.startDbId →
        let T1 := applyLog t ((run sc1 initS evs1).2.flatten.take k)
        let A := raws.filter (fun r => decide (r.off ≤ o))
        let B := raws.filter (fun r => decide (o < r.off))
        UniqueMax T1.cps pc.startDbId o ∧
        T1.applied = t.applied ++ (seqApplied 0 (itemCmds (parseAll pc { lastSent := start0 } A))).2 ∧
        (∀ (sc2 : SCfg) (evs2 : List Ev), itemsOf evs2 = parserItems pc o B → C01.NoDone evs2 →
          ItemsNoNested false (parseAll pc { lastSent := o } B) →
          (∃ rest, t.applied ++ specStream pc false 0 raws =
            (applyLog (crash T1) (run sc2 initS evs2).2.flatten).applied ++ rest) ∧
          (sc2.txnMode = false →
            (applyLog (crash T1) (run sc2 initS (evs2 ++ [.done])).2.flatten).applied =
              t.applied ++ specStream pc false 0 raws)) := by
  obtain ⟨E, hE, hsame, hnox⟩ := crash_then_resume_txn pc sc1 htx hres raws start0 evs1 hitems hraw hlo
    hstart hnneg t hq k
  refine ⟨E, hE, hsame, ?_⟩
  intro E1 o E2 hsplit hlast hd hd0
  obtain ⟨h1, h2, ⟨X, h3, _, hX⟩, h4⟩ := crash_then_resume pc sc1 raws start0 evs1 hitems hraw hlo hstart hnd
    hnn hnf hsel hmap t hcur hfresh k E E1 E2 o hE hsame hsplit hlast hd hd0
  have hXnil : X = [] := by rw [hX, hnox E1 o E2 hsplit hlast]; rfl
  rw [hXnil, List.append_nil] at h3
  simp only
  refine ⟨h1, h3, ?_⟩
  intro sc2 evs2 hi2 hnd2 hnn2
  obtain ⟨h5, h6⟩ := h4 sc2 evs2 hi2 hnd2 hnn2
  rw [h3, List.append_assoc, ← h2] at h5 h6
  exact ⟨h5, h6⟩


/-! ### The well-bracketing hypotheses, from the source stream -/

theorem rawNoNested_weaken (b : Bool) (l : List Raw) (h : RawNoNested b l) : RawNoNested false l := by
  induction l generalizing b with
  | nil => trivial
  | cons r rest ih =>
    simp only [RawNoNested] at h ⊢
    split
    · rename_i hm; rw [if_pos hm] at h; exact ⟨trivial, h.2⟩
    · rename_i hm
      rw [if_neg hm] at h
      split
      · rename_i he; rw [if_pos he] at h; exact h
      · rename_i he; rw [if_neg he] at h; exact ih b h

theorem rawNoNested_suffix (b : Bool) (x y : List Raw) (h : RawNoNested b (x ++ y)) :
    RawNoNested false y := by
  induction x generalizing b with
  | nil => exact rawNoNested_weaken b y h
  | cons r rest ih =>
    simp only [List.cons_append, RawNoNested] at h
    split at h
    · exact ih true h.2
    · split at h
      · exact ih false h
      · exact ih b h

/-- hypothesis `hnn` of `crash_then_resume` for a source stream whose MULTI/EXEC
    are not nested and not removed by the user's command / key filters -/
theorem run1_items_noNested_src (pc : PCfg) (raws : List Raw) (start0 : Int)
    (hnest : RawNoNested false raws)
    (hpass : ∀ r ∈ raws, (r.cmd = bMulti ∨ r.cmd = bExec) →
      pc.filterCmd r.cmd = false ∧ (pc.filterCmdKey r.cmd r.args).isSome) :
    ItemsNoNested false (parseAll pc { lastSent := start0 } raws) :=
  parseAll_noNested pc raws { lastSent := start0 } false rfl hnest hpass

/-- hypothesis `hnn2` of the resumed run, from the same facts about the source:
    the rest of a well-bracketed stream is well bracketed for a fresh parser (a
    cut inside a transaction leaves an EXEC without MULTI, which is not nesting) -/
theorem run2_items_noNested_src (pc : PCfg) (raws : List Raw) (o : Int)
    (hraw : (raws.map (·.off)).Pairwise (· < ·))
    (hnest : RawNoNested false raws)
    (hpass : ∀ r ∈ raws, (r.cmd = bMulti ∨ r.cmd = bExec) →
      pc.filterCmd r.cmd = false ∧ (pc.filterCmdKey r.cmd r.args).isSome) :
    ItemsNoNested false (parseAll pc { lastSent := o } (raws.filter (fun r => decide (o < r.off)))) := by
  have hAB := sorted_split raws o hraw
  apply parseAll_noNested pc _ { lastSent := o } false rfl
  · rw [hAB] at hnest
    exact rawNoNested_suffix false _ _ hnest
  · intro r hr
    exact hpass r (List.mem_filter.mp hr).1

/-! Non-vacuity of `crash_then_resume`: database 1 filtered, 2 → 5, 3 → 7; ticker
    mode; the target dies after 5 requests, one command beyond the stored position
    50 (found in database 5). All hypotheses are discharged for this instance, and
    the values the theorem speaks about are computed: `S1`, `S2`, `X`, `specStream`. -/
def trPc : PCfg :=
  { filterDb := fun d => d == 1, filterCmd := fun _ => false, filterCmdKey := fun _ a => some a,
    targetDb := -1, dbMap := [(2, 5), (3, 7)], startDbId := 5 }
def trRaws : List Raw :=
  [ { cmd := bSelect, args := [[50]], off := 23 },                 -- SELECT 2 (→ 5)
    { cmd := [115,101,116], args := [[97],[49]], off := 50 },      -- set a 1   (db 5)
    { cmd := [115,101,116], args := [[98],[50]], off := 77 },      -- set b 2   (db 5)
    { cmd := bSelect, args := [[49]], off := 96 },                  -- SELECT 1 (filtered)
    { cmd := [115,101,116], args := [[120],[50]], off := 119 },    -- set x 2   (bypassed)
    { cmd := bSelect, args := [[51]], off := 140 },                 -- SELECT 3 (→ 7)
    { cmd := [100,101,108], args := [[98]], off := 160 } ]          -- del b     (db 7)
def trCfg : SCfg := { txnMode := false, resume := true, batchCount := 100, batchBytes := 100000 }
def trItems := parseAll trPc { lastSent := 0 } trRaws
def trEvs1 : List Ev := (trItems.take 2).map Ev.item ++ [.cpTick] ++ (trItems.drop 2).map Ev.item ++ [.batchTick]
def trT : TState := {}
def trE : List Req := (bodies (run trCfg initS trEvs1).2).take 5
def trE1 : List Req := trE.take 3
def trE2 : List Req := trE.drop 4
/-! the hypotheses of the theorems about streams, for the example (used again by the instances
    in `Props/C02Lives.lean`) -/
theorem trEvs1_items : itemsOf trEvs1 = parseAll trPc { lastSent := 0 } trRaws := by decide +kernel
theorem trRaws_sorted : (trRaws.map (·.off)).Pairwise (· < ·) := by decide +kernel
theorem trRaws_above : ∀ r ∈ trRaws, (0:Int) < r.off := by decide +kernel
theorem trEvs1_noDone : C01.NoDone trEvs1 := by unfold C01.NoDone; decide +kernel
theorem trRaws_noNested : RawNoNested false trRaws := by
  simp [RawNoNested, trRaws, bSelect, bMulti, bExec]
theorem trItems_noNested : ItemsNoNested false (parseAll trPc { lastSent := 0 } trRaws) :=
  run1_items_noNested_src trPc trRaws 0 trRaws_noNested (fun _ _ _ => ⟨rfl, rfl⟩)
theorem trRaws_parses : parseFails trPc { lastSent := 0 } trRaws = false := by decide +kernel
theorem trRaws_selOK : ∀ x ∈ trRaws, x.cmd = bSelect → ∀ a n, x.args = [a] → atoi? a = some n → 0 ≤ n :=
  selOK_spec trRaws (by decide +kernel)
example : itemsOf trEvs1 = parseAll trPc { lastSent := 0 } trRaws := trEvs1_items
example : (trRaws.map (·.off)).Pairwise (· < ·) := trRaws_sorted
example : ∀ r ∈ trRaws, (0:Int) < r.off := trRaws_above
example : ∀ e ∈ trEvs1, e ≠ Ev.done := trEvs1_noDone
example : ItemsNoNested false (parseAll trPc { lastSent := 0 } trRaws) := trItems_noNested
example : parseFails trPc { lastSent := 0 } trRaws = false := trRaws_parses
example : selOK trRaws = true := by decide +kernel
example : trE <+: bodies (run trCfg initS trEvs1).2 := List.take_prefix _ _
theorem trE_same :
    SameData (applyLog trT ((run trCfg initS trEvs1).2.flatten.take 5)) (trE.foldl execReq trT) := by
  constructor <;> decide +kernel
theorem trE_split : trE = trE1 ++ Req.cpOffset 50 :: trE2 := by decide +kernel
theorem trE2_noCp : cpOffsetsB trE2 = [] := by decide +kernel
theorem trE1_db : trPc.startDbId = (trE1.foldl execReq trT).cur := by decide +kernel
example : SameData (applyLog trT ((run trCfg initS trEvs1).2.flatten.take 5)) (trE.foldl execReq trT) :=
  trE_same
example : trE = trE1 ++ Req.cpOffset 50 :: trE2 := trE_split
example : cpOffsetsB trE2 = [] := trE2_noCp
example : trPc.startDbId = (trE1.foldl execReq trT).cur := trE1_db
example : dataB trE2 = [([115,101,116], [[98],[50]])] := by decide +kernel

example : True := by
  have h := crash_then_resume trPc trCfg trRaws 0 trEvs1 trEvs1_items trRaws_sorted trRaws_above
    (by omega) trEvs1_noDone trItems_noNested trRaws_parses trRaws_selOK
    (mapDb_ok trPc rfl (by decide +kernel))
    trT rfl rfl 5 trE trE1 trE2 50 (List.take_prefix _ _)
    trE_same trE_split trE2_noCp trE1_db (by decide +kernel)
  trivial
-- the values the theorem speaks about
example : (seqApplied 0 (itemCmds (parseAll trPc { lastSent := 0 } (trRaws.filter (fun r => decide (r.off ≤ 50)))))).2
    = [ { db := 5, name := [115,101,116], args := [[97],[49]] } ] := by decide +kernel
example : (seqApplied 0 (itemCmds (parserItems trPc 50 (trRaws.filter (fun r => decide (50 < r.off)))))).2
    = [ { db := 5, name := [115,101,116], args := [[98],[50]] },
        { db := 7, name := [100,101,108], args := [[98]] } ] := by decide +kernel
example : (seqApplied trPc.startDbId (dataB trE2)).2 = [ { db := 5, name := [115,101,116], args := [[98],[50]] } ] := by
  decide +kernel
example : specStream trPc false 0 trRaws =
    [ { db := 5, name := [115,101,116], args := [[97],[49]] },
      { db := 5, name := [115,101,116], args := [[98],[50]] },
      { db := 7, name := [100,101,108], args := [[98]] } ] := by decide +kernel

/-- the resumed run of the example: the fresh parser's items for the rest of the
    stream and a keep-alive tick; once done the target holds `S1 ++ X ++ S2` -/
def trEvs2 : List Ev :=
  (parserItems trPc 50 (trRaws.filter (fun r => decide (50 < r.off)))).map Ev.item ++ [.keepaliveTick]
example : itemsOf trEvs2 = parserItems trPc 50 (trRaws.filter (fun r => decide (50 < r.off))) := by
  decide +kernel
example : (applyLog (crash (applyLog trT ((run trCfg initS trEvs1).2.flatten.take 5)))
      (run trCfg initS (trEvs2 ++ [.done])).2.flatten).applied =
    [ { db := 5, name := [115,101,116], args := [[97],[49]] },
      { db := 5, name := [115,101,116], args := [[98],[50]] },      -- X: executed before the crash ...
      { db := 5, name := [115,101,116], args := [[98],[50]] },      -- ... and again by the resumed run
      { db := 7, name := [100,101,108], args := [[98]] } ] := by decide +kernel

/-- transactional resumable mode, same stream: the target dies inside the second
    block; the hypotheses of `crash_then_resume_txn` hold -/
def trCfgTx : SCfg := { txnMode := true, resume := true, batchCount := 100, batchBytes := 100000 }
example : True := by
  have h := crash_then_resume_txn trPc trCfgTx rfl rfl trRaws 0 trEvs1 trEvs1_items
    trRaws_sorted trRaws_above (by omega)
    (nonNegB_spec trEvs1 (by decide +kernel)) trT rfl 10
  trivial
/-- ten requests = the first block and three requests of the second: the target
    holds the first block only, and the position stored with it -/
example : (applyLog trT ((run trCfgTx initS trEvs1).2.flatten.take 10)).applied =
    [ { db := 5, name := [115,101,116], args := [[97],[49]] },
      { db := 5, name := [115,101,116], args := [[98],[50]] } ] ∧
    (applyLog trT ((run trCfgTx initS trEvs1).2.flatten.take 10)).cps =
      [(5, { offset := some 77, hasRunId := true })] := by decide +kernel

end GunYu.Props.C02
