/-
  C10 — Filters pass exactly the configured set of commands, keys, slots and
  databases.

  Property theorems only (helper lemmas: Proofs/FilterRange.lean,
  FilterTrie.lean, FilterKeys.lean, FilterCmdKey.lean, FilterParse.lean). Quantifier: all filter
  configurations (any number of slot entries in any order — overlapping,
  nested, adjacent, single-slot, reversed, malformed; any prefix white/black
  lists of arbitrary byte strings; any database list; any command blacklist)
  and all commands / keys (arbitrary byte strings).

  Vocabulary (defined in Proofs/, repeated here):
    entryRange? e      what a configured slot entry denotes: [x] ↦ (x,x),
                       [l,r] with l ≤ r ↦ (l,r), anything else ↦ nothing
    slotIn es s        ∃ e ∈ es, entryRange? e = some (l,r) ∧ l ≤ s ≤ r
    prefixHit ps k     ∃ p ∈ ps, p ≠ [] ∧ p <+: k        (byte-wise prefix)
    cmdListed l c      ∃ b ∈ l, c = lower b ∨ c = upper b (ASCII case)
    keptIdx f args idx the key positions whose key `f` accepts, in order
  `build c` is a bare RedisKeyFilter built from `c`; `buildOutput c` is the
  filter NewRedisOutput builds (NoRouteCmds and the two reserved prefixes,
  regenerated from source, always inserted). The empty-string prefix is "no
  rule" for code and specification alike (`p ≠ []`).
-/
import GunYu.Model.Filter
import GunYu.Proofs.FilterRange
import GunYu.Proofs.FilterTrie
import GunYu.Proofs.FilterKeys
import GunYu.Proofs.FilterCmdKey
import GunYu.Proofs.FilterParse
import GunYu.Props.C11

namespace GunYu.Props.C10
open GunYu GunYu.Filter

/-- After ANY sequence of `InsertSlotInList` calls (any number, order, overlap,
    nesting, adjacency; calls with `left > right` are ignored) the lookup
    answers exactly "the slot lies in the union of the valid ranges". -/
theorem rangeLookup_iff (rs : List (Nat × Nat)) (s : Nat) :
    (RangeList.insertAll rs).contains s = true ↔ ∃ p ∈ rs, p.1 ≤ p.2 ∧ p.1 ≤ s ∧ s ≤ p.2 := by
  unfold RangeList.insertAll
  rw [RangeList.contains_iff _ _ (RangeList.wf_foldl rs _ RangeList.wf_empty)]
  constructor
  · rintro ⟨p, hp, h1, h2⟩
    rcases (RangeList.mem_foldl rs _ p).mp hp with ⟨hp, hle⟩ | hp
    · exact ⟨p, hp, hle, h1, h2⟩
    · simp [RangeList.empty] at hp
  · rintro ⟨p, hp, hle, h1, h2⟩
    exact ⟨p, (RangeList.mem_foldl rs _ p).mpr (Or.inl ⟨hp, hle⟩), h1, h2⟩

-- nested + overlapping + reversed: the D2 witness configuration
example : (RangeList.insertAll [(0, 16383), (10, 20), (30, 40), (9, 3)]).contains 21 = true := by decide
example : (RangeList.insertAll [(10, 20), (30, 40), (15, 35), (9, 3)]).contains 41 = false := by decide
example : ∃ p ∈ [(0, 16383), (10, 20), (30, 40)], p.1 ≤ p.2 ∧ p.1 ≤ 21 ∧ 21 ≤ p.2 :=
  ⟨(0, 16383), by simp, by decide, by decide, by decide⟩

private theorem filterSlot_of (f : KeyFilter) (sw sb : List (List Nat)) (k : Bytes)
    (hw : f.slotWhite = insertSlotList none sw) (hb : f.slotBlack = insertSlotList none sb) :
    f.filterSlot k = true ↔
      slotIn sb (Slot.hashSlotSpec k) ∨ (sw ≠ [] ∧ ¬ slotIn sw (Slot.hashSlotSpec k)) := by
  rw [filterSlot_eq, hw, hb, C11.keyToSlot_eq_spec, Bool.or_eq_true, Bool.and_eq_true,
    optContains_insertSlotList, isSome_insertSlotList, Bool.not_eq_true', ← optContains_insertSlotList sw]
  simp

/-- The slot rule of the tool's output filter rejects a key exactly when its
    cluster slot (Redis HASH_SLOT, by C11) lies in the union of the black
    entries, or a white list is configured and the slot is outside the union
    of the white entries. -/
theorem filterSlot_iff (c : FilterCfg) (k : Bytes) :
    (buildOutput c).filterSlot k = true ↔
      slotIn c.slotBlack (Slot.hashSlotSpec k) ∨
      (c.slotWhite ≠ [] ∧ ¬ slotIn c.slotWhite (Slot.hashSlotSpec k)) :=
  filterSlot_of _ _ _ k (out_slotWhite c) (out_slotBlack c)

/-- the same for a bare filter -/
theorem filterSlot_iff_bare (c : FilterCfg) (k : Bytes) :
    (build c).filterSlot k = true ↔
      slotIn c.slotBlack (Slot.hashSlotSpec k) ∨
      (c.slotWhite ≠ [] ∧ ¬ slotIn c.slotWhite (Slot.hashSlotSpec k)) :=
  filterSlot_of _ _ _ k (build_slotWhite c) (build_slotBlack c)

-- "{a}{b}" has slot 15495: inside white [0,16383],[10,20],[30,40] ⇒ accepted;
-- with black [15000,16000] nested in white ⇒ rejected
example : (buildOutput { slotWhite := [[0, 16383], [10, 20], [30, 40]] }).filterSlot
    [123,97,125,123,98,125] = false := by decide +kernel
example : (buildOutput { slotWhite := [[0, 16383], [10, 20]], slotBlack := [[15000, 16000], [7]] }).filterSlot
    [123,97,125,123,98,125] = true := by decide +kernel
example : slotIn [[15000, 16000], [7], [9, 3], []] 15495 :=
  ⟨[15000, 16000], by simp, 15000, 16000, by decide, by decide, by decide⟩

/-- The byte-indexed trie built from any list of prefixes matches a key exactly
    when some non-empty configured prefix is a byte-wise prefix of the key. -/
theorem prefixMatch_iff (ps : List Bytes) (k : Bytes) :
    (ps.foldl (fun t p => t.insert p) Trie.empty).isPrefixMatch k = true ↔
      ∃ p ∈ ps, p ≠ [] ∧ p <+: k := by
  rw [Trie.isPrefixMatch_iff]
  constructor
  · rintro ⟨p, h1, h2, h3⟩
    rcases (Trie.search_foldl_insert ps _ p).mp h2 with h2 | h2
    · exact ⟨p, h2, h1, h3⟩
    · rw [Trie.search_empty] at h2; cases h2
  · rintro ⟨p, h1, h2, h3⟩
    exact ⟨p, h2, (Trie.search_foldl_insert ps _ p).mpr (Or.inl h1), h3⟩

-- D3 witnesses: prefix \xff does not match \xfe…; prefix \xc3 matches \xc3\xa9;
-- shared prefixes; the empty prefix is no rule
example : ([[0xff]].foldl (fun t p => t.insert p) Trie.empty).isPrefixMatch [0xfe, 97, 98] = false := by decide
example : ([[0xc3]].foldl (fun t p => t.insert p) Trie.empty).isPrefixMatch [0xc3, 0xa9] = true := by decide
example : ([[97, 98, 99], [97, 98], []].foldl (fun t p => t.insert p) Trie.empty).isPrefixMatch [97, 98, 100] = true := by
  decide
example : ([[]].foldl (fun t p => t.insert p) Trie.empty).isPrefixMatch [97] = false := by decide

/-- The prefix rule of the tool's output filter: black hit (the two reserved
    prefixes are always part of the black list), or a white list is configured
    and no white prefix hits. -/
theorem filterKey_iff (c : FilterCfg) (k : Bytes) :
    (buildOutput c).filterKey k = true ↔
      prefixHit (reservedPrefixes ++ c.prefBlack) k ∨ (c.prefWhite ≠ [] ∧ ¬ prefixHit c.prefWhite k) := by
  rw [filterKey_eq, out_prefBlack, out_prefWhite, Bool.or_eq_true, Bool.and_eq_true,
    optMatch_prefixes2, isSome_insertPrefixes, Bool.not_eq_true', ← optMatch_prefixes c.prefWhite]
  simp

/-- the same for a bare filter -/
theorem filterKey_iff_bare (c : FilterCfg) (k : Bytes) :
    (build c).filterKey k = true ↔
      prefixHit c.prefBlack k ∨ (c.prefWhite ≠ [] ∧ ¬ prefixHit c.prefWhite k) := by
  rw [filterKey_eq, build_prefBlack, build_prefWhite, Bool.or_eq_true, Bool.and_eq_true,
    optMatch_prefixes, isSome_insertPrefixes, Bool.not_eq_true', ← optMatch_prefixes c.prefWhite]
  simp

/-- The tool's own bookkeeping keys are never forwarded: a key that starts with
    `config.CheckpointKey` or `config.NamespacePrefixKey` (constants
    regenerated from source) is rejected under EVERY configuration. -/
theorem bookkeeping_never_forwarded (c : FilterCfg) (k : Bytes)
    (h : Gen.checkpointKey <+: k ∨ Gen.namespacePrefixKey <+: k) :
    (buildOutput c).filterKey k = true ∧ (buildOutput c).keyRejected k = true := by
  have hk : (buildOutput c).filterKey k = true := by
    rw [filterKey_iff]
    left
    rcases h with h | h
    · exact ⟨Gen.checkpointKey, by simp [reservedPrefixes], by decide, h⟩
    · exact ⟨Gen.namespacePrefixKey, by simp [reservedPrefixes], by decide, h⟩
  exact ⟨hk, by simp [KeyFilter.keyRejected, hk]⟩

-- "redis-gunyu-checkpoint:x" and "/redis-gunyu/a" under an empty and under a permissive configuration
example : Gen.checkpointKey <+: Gen.checkpointKey ++ [58, 120] := List.prefix_append _ _
example : (buildOutput {}).filterKey (Gen.checkpointKey ++ [58, 120]) = true := by decide +kernel
example : (buildOutput { prefWhite := [Gen.namespacePrefixKey] }).filterKey (Gen.namespacePrefixKey ++ [47, 97]) = true := by
  decide +kernel
example : (buildOutput {}).filterKey [117, 115, 101, 114] = false := by decide +kernel

/-- Every key position the command table resolves is a position of an actual
    argument (so the "index out of range ⇒ reject" guard never fires), and a
    resolved command has at least one key. -/
theorem keyPositions_inRange (cmd : Bytes) (args : List Bytes) (idx : List Nat)
    (h : keyIndexes cmd args = some idx) : idx ≠ [] ∧ ∀ i ∈ idx, i < args.length :=
  keyIndexes_inRange h

/-- A command is forwarded untouched when no key rule is configured or when
    the (regenerated) command table does not resolve its key positions. -/
theorem filterCmdKey_passthrough (f : KeyFilter) (cmd : Bytes) (args : List Bytes)
    (h : f.hasKeyRules = false ∨ keyIndexes cmd args = none) :
    f.filterCmdKey cmd args = some args := by
  unfold KeyFilter.filterCmdKey
  rcases h with h | h
  · simp [h]
  · simp [h]

/-- For every filter with a key rule and every command whose key positions the
    table resolves to `idx` (with `kept` the positions of accepted keys):
    * all keys accepted ⇒ forwarded unchanged;
    * no key accepted ⇒ withheld;
    * otherwise DEL / UNLINK ⇒ exactly the accepted keys, in order;
      MSET ⇒ exactly the accepted key/value pairs, in order (withheld if an
      accepted key has no value); any other command ⇒ withheld entirely. -/
theorem filterCmdKey_spec (f : KeyFilter) (cmd : Bytes) (args : List Bytes) (idx : List Nat)
    (hr : f.hasKeyRules = true) (hidx : keyIndexes cmd args = some idx) :
    (keptIdx f args idx = idx → f.filterCmdKey cmd args = some args) ∧
    (keptIdx f args idx = [] → f.filterCmdKey cmd args = none) ∧
    (keptIdx f args idx ≠ idx → keptIdx f args idx ≠ [] →
      ((lower cmd = wDel ∨ lower cmd = wUnlink) →
        f.filterCmdKey cmd args = some ((keptIdx f args idx).map (fun i => args.getD i []))) ∧
      (lower cmd = wMset → (∀ i ∈ keptIdx f args idx, i + 1 < args.length) →
        f.filterCmdKey cmd args =
          some ((keptIdx f args idx).flatMap (fun i => [args.getD i [], args.getD (i + 1) []]))) ∧
      (lower cmd = wMset → (∃ i ∈ keptIdx f args idx, args.length ≤ i + 1) →
        f.filterCmdKey cmd args = none) ∧
      (lower cmd ≠ wDel → lower cmd ≠ wUnlink → lower cmd ≠ wMset →
        f.filterCmdKey cmd args = none)) := by
  refine ⟨filterCmdKey_all f cmd args idx hr hidx, filterCmdKey_none f cmd args idx hr hidx, ?_⟩
  intro hk1 hk2
  have hs := filterCmdKey_some f cmd args idx hr hidx hk1 hk2
  refine ⟨?_, ?_, ?_, ?_⟩
  · intro hd
    rw [hs, if_pos hd]
  · intro hm hall
    have hnd : ¬ (lower cmd = wDel ∨ lower cmd = wUnlink) := by
      rw [hm]; decide
    have hne : ¬ ∃ i ∈ keptIdx f args idx, args.length ≤ i + 1 := by
      rintro ⟨i, hi, hle⟩
      have := hall i hi
      omega
    rw [hs, if_neg hnd, if_pos hm, if_neg hne]
  · intro hm hex
    have hnd : ¬ (lower cmd = wDel ∨ lower cmd = wUnlink) := by
      rw [hm]; decide
    rw [hs, if_neg hnd, if_pos hm, if_pos hex]
  · intro h1 h2 h3
    have hnd : ¬ (lower cmd = wDel ∨ lower cmd = wUnlink) := fun h => h.elim h1 h2
    rw [hs, if_neg hnd, if_neg h3]

/-- A resolved key position holding a bookkeeping key is never among the
    forwarded positions, under every configuration: the filter has a key rule,
    the position is not in `keptIdx`, hence `keptIdx ≠ idx` and by
    `filterCmdKey_spec` the command is withheld or projected (DEL / UNLINK /
    MSET) to positions that exclude it. -/
theorem bookkeeping_cmd (c : FilterCfg) (args : List Bytes) (idx : List Nat) (i : Nat)
    (hi : i ∈ idx)
    (h : Gen.checkpointKey <+: args.getD i [] ∨ Gen.namespacePrefixKey <+: args.getD i []) :
    (buildOutput c).hasKeyRules = true ∧
    i ∉ keptIdx (buildOutput c) args idx ∧
    keptIdx (buildOutput c) args idx ≠ idx := by
  have hrej := (bookkeeping_never_forwarded c _ h).2
  have hnot : i ∉ keptIdx (buildOutput c) args idx := by
    unfold keptIdx
    rw [List.mem_filter]
    rintro ⟨_, h2⟩
    rw [hrej] at h2
    exact absurd h2 (by decide)
  exact ⟨buildOutput_hasKeyRules c, hnot, fun he => hnot (by rw [he]; exact hi)⟩

-- DEL a b {reserved}: projected to the accepted keys; SET {reserved} v: withheld;
-- MSET with a rejected pair: accepted pairs kept; RENAME with one rejected key: withheld
example : (buildOutput {}).filterCmdKey wDel [[97], Gen.checkpointKey ++ [58, 49], [98]] = some [[97], [98]] := by
  decide +kernel
example : (buildOutput {}).filterCmdKey [115,101,116] [Gen.namespacePrefixKey ++ [47, 120], [118]] = none := by
  decide +kernel
example : (build { prefBlack := [[120]] }).filterCmdKey [77,83,69,84] [[97], [49], [120, 49], [50], [98], [51]] =
    some [[97], [49], [98], [51]] := by decide +kernel
example : (build { prefBlack := [[120]] }).filterCmdKey [114,101,110,97,109,101] [[97], [120, 49]] = none := by
  decide +kernel
example : keyIndexes [77,83,69,84] [[97], [49], [120, 49], [50], [98], [51]] = some [0, 2, 4] := by decide +kernel
example : keptIdx (build { prefBlack := [[120]] }) [[97], [49], [120, 49], [50], [98], [51]] [0, 2, 4] = [0, 4] := by
  decide +kernel

/-- The command rule of the tool's output filter: a name is withheld exactly
    when it equals the lower- or upper-case form of an entry of `NoRouteCmds`
    (regenerated) or of the configured blacklist. -/
theorem cmd_blacklist_iff (c : FilterCfg) (cmd : Bytes) :
    (buildOutput c).filterCmd cmd = true ↔ cmdListed (Gen.noRouteCmds ++ c.cmdBlack) cmd := by
  rw [filterCmd_eq, out_cmdBlack, out_cmdWhite]
  simp only [Option.isSome_none, Bool.false_and, Bool.or_false]
  rw [optSearch_insertCmds, optSearch_insertCmds]
  unfold cmdListed
  constructor
  · rintro (⟨b, hb, h⟩ | ⟨b, hb, h⟩ | h)
    · exact ⟨b, List.mem_append.mpr (Or.inr hb), h⟩
    · exact ⟨b, List.mem_append.mpr (Or.inl hb), h⟩
    · simp [optSearch] at h
  · rintro ⟨b, hb, h⟩
    rcases List.mem_append.mp hb with hb | hb
    · exact Or.inr (Or.inl ⟨b, hb, h⟩)
    · exact Or.inl ⟨b, hb, h⟩

/-- As the parser uses it (names arrive lower-cased): the name `n` is withheld
    exactly when it equals a listed name up to ASCII case. -/
theorem cmd_blacklist_folded (c : FilterCfg) (n : Bytes) :
    (buildOutput c).filterCmd (lower n) = true ↔ ∃ b ∈ Gen.noRouteCmds ++ c.cmdBlack, lower b = lower n := by
  rw [cmd_blacklist_iff]
  unfold cmdListed
  constructor
  · rintro ⟨b, hb, h | h⟩
    · exact ⟨b, hb, h.symm⟩
    · refine ⟨b, hb, ?_⟩
      have := congrArg lower h
      rw [lower_lower, lower_upper] at this
      exact this.symm
  · rintro ⟨b, hb, h⟩
    exact ⟨b, hb, Or.inl h.symm⟩

/-- bare filter with black and white command lists -/
theorem cmd_filter_iff_bare (c : FilterCfg) (cmd : Bytes) :
    (build c).filterCmd cmd = true ↔
      cmdListed c.cmdBlack cmd ∨ (c.cmdWhite ≠ [] ∧ ¬ cmdListed c.cmdWhite cmd) := by
  have hs : ∀ l : List Bytes, optSearch (insertCmds none l true) cmd = true ↔ cmdListed l cmd := by
    intro l
    rw [optSearch_insertCmds]
    unfold cmdListed
    simp [optSearch]
  rw [filterCmd_eq, build_cmdBlack, build_cmdWhite, Bool.or_eq_true, Bool.and_eq_true, hs,
    isSome_insertCmds, Bool.not_eq_true', ← hs c.cmdWhite]
  simp

-- "flushall" (NoRouteCmds has FLUSHALL), configured "Del" catches "del" and "DEL" but not "Del"
example : (buildOutput {}).filterCmd [102,108,117,115,104,97,108,108] = true := by decide +kernel
example : (buildOutput { cmdBlack := [[68,101,108]] }).filterCmd [100,101,108] = true := by decide +kernel
example : (buildOutput { cmdBlack := [[68,101,108]] }).filterCmd [115,101,116] = false := by decide +kernel
example : cmdListed (Gen.noRouteCmds ++ [[68,101,108]]) [100,101,108] :=
  ⟨[68,101,108], by simp, Or.inl (by decide)⟩

/-- A database is bypassed exactly when it is listed (−1 = "no database" never is). -/
theorem db_iff (c : FilterCfg) (db : Int) :
    (buildOutput c).filterDb db = true ↔ db ≠ -1 ∧ db ∈ c.dbBlack := by
  unfold KeyFilter.filterDb
  rw [out_dbBlack]
  by_cases h : db = -1 <;> simp [h]

theorem db_iff_bare (c : FilterCfg) (db : Int) :
    (build c).filterDb db = true ↔ db ≠ -1 ∧ db ∈ c.dbBlack := by
  unfold KeyFilter.filterDb
  rw [build_dbBlack]
  by_cases h : db = -1 <;> simp [h]

example : (buildOutput { dbBlack := [1, 3, -1] }).filterDb 3 = true := by decide
example : (buildOutput { dbBlack := [1, 3, -1] }).filterDb (-1) = false := by decide
example : (buildOutput { dbBlack := [1, 3, -1] }).filterDb 2 = false := by decide

/-- Soundness and shape of the forwarded argument list, stated on the OUTPUT:
    whenever a command with resolved key positions is forwarded,
    * the table resolves the key positions of what is forwarded, and every key
      at these positions is accepted by the rules;
    * the forwarded keys are exactly the accepted keys of the command, in
      order (`(idx.map args[·]).filter accepted`);
    * either nothing was removed (`out = args`), or the command is DEL / UNLINK
      and `out` is that key list, or it is MSET and `out` is the accepted keys
      each followed by its own value. -/
theorem forwarded_keys_accepted (f : KeyFilter) (cmd : Bytes) (args out : List Bytes) (idx : List Nat)
    (hr : f.hasKeyRules = true) (hidx : keyIndexes cmd args = some idx)
    (h : f.filterCmdKey cmd args = some out) :
    (∃ idx', keyIndexes cmd out = some idx' ∧
        (∀ i ∈ idx', f.keyRejected (out.getD i []) = false) ∧
        idx'.map (fun i => out.getD i []) =
          (idx.map (fun i => args.getD i [])).filter (fun k => !f.keyRejected k)) ∧
    (out = args ∨
     ((lower cmd = wDel ∨ lower cmd = wUnlink) ∧
        out = (idx.map (fun i => args.getD i [])).filter (fun k => !f.keyRejected k)) ∨
     (lower cmd = wMset ∧
        out = (keptIdx f args idx).flatMap (fun i => [args.getD i [], args.getD (i + 1) []]))) := by
  -- the keys at the resolved positions of `out` are the accepted keys, hence each of them is accepted
  suffices h' : (∃ idx', keyIndexes cmd out = some idx' ∧ idx'.map (fun i => out.getD i []) =
        (idx.map (fun i => args.getD i [])).filter (fun k => !f.keyRejected k)) ∧
      (out = args ∨
       ((lower cmd = wDel ∨ lower cmd = wUnlink) ∧
          out = (idx.map (fun i => args.getD i [])).filter (fun k => !f.keyRejected k)) ∨
       (lower cmd = wMset ∧
          out = (keptIdx f args idx).flatMap (fun i => [args.getD i [], args.getD (i + 1) []]))) by
    obtain ⟨⟨idx', h1, h2⟩, h3⟩ := h'
    refine ⟨⟨idx', h1, fun i hi => ?_, h2⟩, h3⟩
    have hm : out.getD i [] ∈ idx'.map (fun i => out.getD i []) := List.mem_map.mpr ⟨i, hi, rfl⟩
    rw [h2] at hm
    simpa using (List.mem_filter.mp hm).2
  have hkm : (keptIdx f args idx).map (fun i => args.getD i []) =
      (idx.map (fun i => args.getD i [])).filter (fun k => !f.keyRejected k) := by
    unfold keptIdx
    rw [List.filter_map]
    rfl
  by_cases hk1 : keptIdx f args idx = idx
  · -- nothing removed
    have hout : out = args := by
      rw [filterCmdKey_all f cmd args idx hr hidx hk1] at h; exact (Option.some.inj h).symm
    rw [hout]
    exact ⟨⟨idx, hidx, by rw [← hkm, hk1]⟩, Or.inl rfl⟩
  · by_cases hk2 : keptIdx f args idx = []
    · rw [filterCmdKey_none f cmd args idx hr hidx hk2] at h; cases h
    · rw [filterCmdKey_some f cmd args idx hr hidx hk1 hk2] at h
      by_cases hd : lower cmd = wDel ∨ lower cmd = wUnlink
      · rw [if_pos hd] at h
        have hout := (Option.some.inj h).symm
        have hne : out ≠ [] := by
          rw [hout]; intro hc; exact hk2 (List.map_eq_nil_iff.mp hc)
        refine ⟨⟨List.range out.length, keyIndexes_del cmd hd out hne, ?_⟩, Or.inr (Or.inl ⟨hd, by rw [hout, hkm]⟩)⟩
        have : (List.range out.length).map (fun i => out.getD i []) = out := by
          apply List.ext_getElem
          · simp
          · intro n h1 h2
            simp [List.getD_eq_getElem?_getD, List.getElem?_eq_getElem (by simpa using h1 : n < out.length)]
        rw [this, hout, hkm]
      · rw [if_neg hd] at h
        by_cases hm : lower cmd = wMset
        · rw [if_pos hm] at h
          split at h
          · cases h
          · have hout := (Option.some.inj h).symm
            refine ⟨⟨_, by rw [hout]; exact keyIndexes_mset cmd hm (keptIdx f args idx) _ _ hk2, ?_⟩,
              Or.inr (Or.inr ⟨hm, hout⟩)⟩
            rw [← hkm, hout]
            apply List.ext_getElem
            · simp
            · intro n h1 h2
              have hn : n < (keptIdx f args idx).length := by simpa using h2
              simp only [List.getElem_map, List.getElem_range]
              exact getD_flatMap_pairs _ _ _ n hn
        · rw [if_neg hm] at h; cases h

/-- No bookkeeping key is ever forwarded at a key position, under every
    configuration: in whatever the tool's filter lets through of a command with
    resolved key positions, no key position holds a key with a reserved prefix. -/
theorem forwarded_keys_not_reserved (c : FilterCfg) (cmd : Bytes) (args out : List Bytes) (idx : List Nat)
    (hidx : keyIndexes cmd args = some idx)
    (h : (buildOutput c).filterCmdKey cmd args = some out) :
    ∃ idx', keyIndexes cmd out = some idx' ∧
      ∀ i ∈ idx', ¬ (Gen.checkpointKey <+: out.getD i [] ∨ Gen.namespacePrefixKey <+: out.getD i []) := by
  obtain ⟨⟨idx', h1, h2, _⟩, _⟩ := forwarded_keys_accepted _ cmd args out idx (buildOutput_hasKeyRules c) hidx h
  refine ⟨idx', h1, ?_⟩
  intro i hi hres
  have := (bookkeeping_never_forwarded c _ hres).2
  rw [h2 i hi] at this
  cases this

/-! ### the bisync control namespace (plain links and both snapshot loops) -/

/-- the namespace filter rejects exactly the keys under "redis-gunyu-bisync:" -/
theorem nsFilter_iff (k : Bytes) : nsFilter.filterKey k = true ↔ bisyncNamespace <+: k := by
  have h1 : nsFilter.prefBlack = insertPrefixes none [bisyncNamespace] := rfl
  have h2 : nsFilter.prefWhite = none := rfl
  rw [filterKey_eq, h1, h2]
  simp only [Option.isSome_none, Bool.false_and, Bool.or_false]
  rw [optMatch_prefixes]
  unfold prefixHit
  constructor
  · rintro ⟨p, hp, _, hpre⟩
    simp only [List.mem_singleton] at hp
    rw [← hp]; exact hpre
  · intro h
    exact ⟨bisyncNamespace, by simp, by decide, h⟩

/-- the three bookkeeping namespaces the tool documents (docs/bisync.md §4.1):
    `redis-gunyu-checkpoint…`, `/redis-gunyu…`, `redis-gunyu-bisync:…` -/
def Bookkeeping (k : Bytes) : Prop :=
  Gen.checkpointKey <+: k ∨ Gen.namespacePrefixKey <+: k ∨ bisyncNamespace <+: k

/-- On a plain link every key of the three bookkeeping namespaces is withheld,
    under every configuration. -/
theorem bookkeeping_never_forwarded_plain (c : FilterCfg) (k : Bytes) (h : Bookkeeping k) :
    plainKeyRejected (buildOutput c) k = true := by
  unfold plainKeyRejected
  rcases h with h | h | h
  · rw [(bookkeeping_never_forwarded c k (Or.inl h)).2]; rfl
  · rw [(bookkeeping_never_forwarded c k (Or.inr h)).2]; rfl
  · rw [(nsFilter_iff k).mpr h]; simp

/-- every key constructor of pkg/redis/checkpoint/bisync.go (regenerated:
    marker, commit index, latest, commit record, rdb record) builds a key of
    the bisync namespace, for every checkpoint name, slot tag and sequence -/
theorem bisync_keys_in_namespace (cp tag : Bytes) (seq : Nat) :
    Bookkeeping (Gen.markerKey cp tag) ∧ Bookkeeping (Gen.commitIndexKey cp tag) ∧
    Bookkeeping (Gen.latestKey cp tag) ∧ Bookkeeping (Gen.commitRecordKey cp tag seq) ∧
    Bookkeeping (Gen.rdbRecordKey cp tag seq) := by
  refine ⟨?_, ?_, ?_, ?_, ?_⟩ <;>
  · right; right
    simp only [Gen.markerKey, Gen.commitIndexKey, Gen.latestKey, Gen.commitRecordKey, Gen.rdbRecordKey,
      bisyncNamespace, List.append_assoc]
    exact List.prefix_append _ _

/-- What a plain link forwards of a table-resolved command (`outFilter`, then
    the namespace filter): the key positions of the result resolve, and no key
    at them is rejected by either filter — in particular none lies in a
    bookkeeping namespace. -/
theorem plain_forwarded_keys_accepted (c : FilterCfg) (cmd : Bytes) (args out : List Bytes) (idx : List Nat)
    (hidx : keyIndexes cmd args = some idx)
    (h : plainFilterCmdKey (buildOutput c) cmd args = some out) :
    ∃ idx', keyIndexes cmd out = some idx' ∧
      ∀ i ∈ idx', plainKeyRejected (buildOutput c) (out.getD i []) = false ∧ ¬ Bookkeeping (out.getD i []) := by
  unfold plainFilterCmdKey at h
  cases h1 : (buildOutput c).filterCmdKey cmd args with
  | none => rw [h1] at h; cases h
  | some o1 =>
    rw [h1] at h
    simp only [Option.bind_some] at h
    have hrn : nsFilter.hasKeyRules = true := by decide
    obtain ⟨⟨idx1, hi1, hacc1, _⟩, _⟩ := forwarded_keys_accepted _ cmd args o1 idx (buildOutput_hasKeyRules c) hidx h1
    obtain ⟨⟨idx2, hi2, hacc2, hkeys2⟩, _⟩ := forwarded_keys_accepted _ cmd o1 out idx1 hrn hi1 h
    refine ⟨idx2, hi2, ?_⟩
    intro i hi
    have hmem : out.getD i [] ∈ idx2.map (fun i => out.getD i []) := List.mem_map.mpr ⟨i, hi, rfl⟩
    rw [hkeys2] at hmem
    obtain ⟨hm1, _⟩ := List.mem_filter.mp hmem
    obtain ⟨j, hj, hjeq⟩ := List.mem_map.mp hm1
    have hA : (buildOutput c).keyRejected (out.getD i []) = false := by rw [← hjeq]; exact hacc1 j hj
    have hB : nsFilter.filterKey (out.getD i []) = false := by
      have := hacc2 i hi
      unfold KeyFilter.keyRejected at this
      simp only [Bool.or_eq_false_iff] at this
      exact this.1
    have hrej : plainKeyRejected (buildOutput c) (out.getD i []) = false := by
      unfold plainKeyRejected; rw [hA, hB]; rfl
    refine ⟨hrej, ?_⟩
    intro hbk
    rw [bookkeeping_never_forwarded_plain c _ hbk] at hrej
    cases hrej

-- DEL a <latest record> b on a plain link: projected; SET <marker> v: withheld
example : plainFilterCmdKey (buildOutput {}) wDel [[97], Gen.latestKey [99,112] [116], [98]] = some [[97], [98]] := by
  decide +kernel
example : plainFilterCmdKey (buildOutput {}) [115,101,116] [Gen.markerKey [99,112] [116], [118]] = none := by
  decide +kernel
example : Bookkeeping (Gen.commitRecordKey [99,112] [116] 7) := (bisync_keys_in_namespace [99,112] [116] 7).2.2.2.1

/-- A snapshot key of database `db` is replayed by `rdbReplay` exactly when the
    database is not listed, no black prefix hits and — if a white list is
    configured — a white prefix hits, the slot rule accepts its cluster slot,
    and it is not a bisync control key. -/
theorem rdbKeep_iff (c : FilterCfg) (db : Int) (k : Bytes) :
    rdbKeep (buildOutput c) db k = true ↔
      ¬ (db ≠ -1 ∧ db ∈ c.dbBlack) ∧
      ¬ (prefixHit (reservedPrefixes ++ c.prefBlack) k ∨ (c.prefWhite ≠ [] ∧ ¬ prefixHit c.prefWhite k)) ∧
      ¬ (slotIn c.slotBlack (Slot.hashSlotSpec k) ∨
          (c.slotWhite ≠ [] ∧ ¬ slotIn c.slotWhite (Slot.hashSlotSpec k))) ∧
      ¬ bisyncNamespace <+: k := by
  unfold rdbKeep
  rw [Bool.and_eq_true, Bool.not_eq_true', Bool.not_eq_true', Bool.or_eq_false_iff, Bool.or_eq_false_iff,
    ← db_iff, ← filterKey_iff, ← filterSlot_iff, ← nsFilter_iff]
  simp only [Bool.not_eq_true, and_assoc]

/-- the same for `rdbReplayBisync` (whose namespace test also names the
    checkpoint prefix, already reserved) -/
theorem rdbKeepBisync_iff (c : FilterCfg) (db : Int) (k : Bytes) :
    rdbKeepBisync (buildOutput c) db k = rdbKeep (buildOutput c) db k := by
  unfold rdbKeepBisync rdbKeep isBisyncNamespaceKey
  cases hn : nsFilter.filterKey k
  · have hnot : ¬ bisyncNamespace <+: k := fun h => by rw [(nsFilter_iff k).mpr h] at hn; cases hn
    have h1 : bisyncNamespace.isPrefixOf k = false := by
      cases hb : bisyncNamespace.isPrefixOf k
      · rfl
      · exact absurd (List.isPrefixOf_iff_prefix.mp hb) hnot
    cases hc : Gen.checkpointKey.isPrefixOf k
    · simp [h1]
    · have hk := (bookkeeping_never_forwarded c k (Or.inl (List.isPrefixOf_iff_prefix.mp hc))).1
      simp [hk]
  · have hp : bisyncNamespace.isPrefixOf k = true := List.isPrefixOf_iff_prefix.mpr ((nsFilter_iff k).mp hn)
    simp [hp]

/-- no bookkeeping key found in a snapshot is replayed, under every configuration -/
theorem snapshot_never_replays_bookkeeping (c : FilterCfg) (db : Int) (k : Bytes) (h : Bookkeeping k) :
    rdbKeep (buildOutput c) db k = false ∧ rdbKeepBisync (buildOutput c) db k = false := by
  have h1 : rdbKeep (buildOutput c) db k = false := by
    have := bookkeeping_never_forwarded_plain c k h
    unfold plainKeyRejected KeyFilter.keyRejected at this
    unfold rdbKeep
    cases hk : (buildOutput c).filterKey k <;> cases hs : (buildOutput c).filterSlot k <;>
      cases hn : nsFilter.filterKey k <;> simp [hk, hs, hn] at this ⊢
  exact ⟨h1, by rw [rdbKeepBisync_iff]; exact h1⟩

example : rdbKeep (buildOutput { dbBlack := [2], prefBlack := [[120]] }) 1 [97] = true := by decide +kernel
example : rdbKeep (buildOutput { dbBlack := [2], prefBlack := [[120]] }) 2 [97] = false := by decide +kernel
example : rdbKeep (buildOutput { dbBlack := [2], prefBlack := [[120]] }) 1 [120, 97] = false := by decide +kernel
example : rdbKeep (buildOutput {}) 0 (Gen.checkpointKey ++ [58]) = false := by decide +kernel
example : rdbKeep (buildOutput {}) 0 (Gen.latestKey [99,112] [116]) = false := by decide +kernel
example : rdbKeepBisync (buildOutput {}) 0 (Gen.latestKey [99,112] [116]) = false := by decide +kernel

/-! ### the parser's use of the filter (stream level)

  `pcfgOf f …` is the parser configuration of a RedisOutput whose filter is `f`
  (Model/FilterParse.lean); `Sender.parseStep` / `Sender.parseAll` are the
  parser-loop model shared with C01 (Model/Sender.lean). -/

/-- An ordinary command (not PING / SELECT) outside a bypassed database is
    handed to the sender exactly when its name is not withheld, it is not the
    sentinel hello, and the key rules (`outFilter`, then the bisync namespace
    filter) let it through — with the arguments the key rules produce, its own
    end offset and the current target database. -/
theorem parse_forward_iff (f : KeyFilter) (tdb : Int) (m : List (Int × Int)) (sdb : Int)
    (s : Sender.PState) (r : Sender.Raw) (i : Sender.Item)
    (hp : r.cmd ≠ Sender.bPing) (hs : r.cmd ≠ Sender.bSelect) (hb : s.bypass = false) :
    (∃ s', Sender.parseStep (pcfgOf f tdb m sdb) s r = (s', .emit i)) ↔
      f.filterCmd r.cmd = false ∧
      ¬ (r.cmd = Sender.bPublish ∧ (r.args.head?.map lower) = some Sender.bSentinelHello) ∧
      ∃ out, plainFilterCmdKey f r.cmd r.args = some out ∧
        i = { cmd := r.cmd, args := out, offset := r.off, db := s.currentDB } := by
  unfold Sender.parseStep pcfgOf
  simp only [hp, hs, if_false]
  have hct : Sender.passBracket s r.cmd = false := by simp [Sender.passBracket, hb]
  by_cases hfc : f.filterCmd r.cmd = true
  · simp [hfc]
  · have hfc' : f.filterCmd r.cmd = false := by simpa using hfc
    simp only [hfc', Bool.false_eq_true, if_false, true_and]
    by_cases hsen : r.cmd = Sender.bPublish ∧ Option.map lower r.args.head? = some Sender.bSentinelHello
    · simp [hsen]
    · simp only [hsen, if_false, not_false_eq_true, true_and, hb, hct, Bool.false_eq_true, false_and]
      cases hk : plainFilterCmdKey f r.cmd r.args with
      | none => simp
      | some out =>
        simp only [Option.some.injEq, exists_eq_left', Prod.mk.injEq, Sender.POut.emit.injEq]
        exact eq_comm

/-- The database rule over a command STREAM. After a well-formed `SELECT n` of
    a listed database, until the next SELECT (`mid` holds no SELECT):
    * the SELECT itself is withheld and the state only gains the bypass flag;
    * everything of `mid` that is handed to the sender is a transaction bracket
      (MULTI / EXEC, which the sender absorbs: a withheld bracket would let a
      transaction that enters or leaves the database run half inside, half
      outside a transaction), carrying the offset of the last command handed
      over before the switch — no data command of a listed database is ever
      forwarded, whatever else the stream contains, and the resume position
      does not move into the region. -/
theorem no_forward_in_listed_db (c : FilterCfg) (tdb : Int) (m : List (Int × Int)) (sdb : Int)
    (s : Sender.PState) (a : Bytes) (n : Int) (off : Int) (mid : List Sender.Raw)
    (ha : Sender.atoi? a = some n) (hn : n ≠ -1) (hdb : n ∈ c.dbBlack)
    (hmid : ∀ p ∈ mid, p.cmd ≠ Sender.bSelect) :
    let pc := pcfgOf (buildOutput c) tdb m sdb
    Sender.parseAll pc s ({ cmd := Sender.bSelect, args := [a], off := off } :: mid) =
      Sender.parseAll pc { s with bypass := true } mid ∧
    ∀ i ∈ Sender.parseAll pc { s with bypass := true } mid,
      (i.cmd = Sender.bMulti ∨ i.cmd = Sender.bExec) ∧ i.offset = s.lastSent := by
  intro pc
  have hf : pc.filterDb n = true := (db_iff c n).mpr ⟨hn, hdb⟩
  have hstep := parseStep_select_listed pc s a n off ha hf
  refine ⟨by rw [Sender.parseAll, hstep], ?_⟩
  exact parseAll_bypass pc { s with bypass := true } mid rfl hmid

/-- The converse over a command STREAM: after a well-formed `SELECT n` of an
    UNLISTED database and any commands but SELECT (`mid`), the parser is not in
    bypass, so an ordinary command is handed to the sender exactly when the
    name and key rules accept it (with `no_forward_in_listed_db`: "exactly"). -/
theorem unlisted_db_forwards_exactly (c : FilterCfg) (tdb : Int) (m : List (Int × Int)) (sdb : Int)
    (s : Sender.PState) (a : Bytes) (n : Int) (off : Int) (mid : List Sender.Raw)
    (r : Sender.Raw) (i : Sender.Item)
    (ha : Sender.atoi? a = some n) (hdb : ¬ (n ≠ -1 ∧ n ∈ c.dbBlack))
    (hmid : ∀ p ∈ mid, p.cmd ≠ Sender.bSelect)
    (hp : r.cmd ≠ Sender.bPing) (hs : r.cmd ≠ Sender.bSelect) :
    let pc := pcfgOf (buildOutput c) tdb m sdb
    let s2 := stateAfter pc s ({ cmd := Sender.bSelect, args := [a], off := off } :: mid)
    s2.bypass = false ∧
    ((∃ s', Sender.parseStep pc s2 r = (s', .emit i)) ↔
      (buildOutput c).filterCmd r.cmd = false ∧
      ¬ (r.cmd = Sender.bPublish ∧ (r.args.head?.map lower) = some Sender.bSentinelHello) ∧
      ∃ out, plainFilterCmdKey (buildOutput c) r.cmd r.args = some out ∧
        i = { cmd := r.cmd, args := out, offset := r.off, db := s2.currentDB }) := by
  intro pc s2
  have hf : pc.filterDb n = false := by
    cases hfd : pc.filterDb n
    · rfl
    · exact absurd ((db_iff c n).mp hfd) hdb
  have hb : s2.bypass = false := by
    show (stateAfter pc s (_ :: mid)).bypass = false
    unfold stateAfter
    rw [List.foldl_cons]
    have := stateAfter_keeps_bypass pc (Sender.parseStep pc s { cmd := Sender.bSelect, args := [a], off := off }).1 mid hmid
    unfold stateAfter at this
    rw [this]
    exact parseStep_select_unlisted pc s a n off ha hf
  exact ⟨hb, parse_forward_iff (buildOutput c) tdb m sdb s2 r i hp hs hb⟩

-- db 1 listed: SET in db 1 withheld, the EXEC of the transaction opened in db 0 passes with
-- the offset of the last command handed over (20), SET after SELECT 0 is forwarded again
example :
    (Sender.parseAll (pcfgOf (buildOutput { dbBlack := [1] })) { lastSent := 0 }
      [ { cmd := Sender.bMulti, args := [], off := 10 },
        { cmd := [115,101,116], args := [[97],[49]], off := 20 },
        { cmd := Sender.bSelect, args := [[49]], off := 30 },
        { cmd := [115,101,116], args := [[98],[50]], off := 40 },
        { cmd := Sender.bExec, args := [], off := 50 },
        { cmd := [115,101,116], args := [[99],[51]], off := 60 },
        { cmd := Sender.bSelect, args := [[48]], off := 70 },
        { cmd := [115,101,116], args := [[100],[52]], off := 80 } ]).map (fun i => (i.cmd, i.offset)) =
    [(Sender.bMulti, 10), ([115,101,116], 20), (Sender.bExec, 20), (Sender.bSelect, 70), ([115,101,116], 80)] := by
  decide +kernel

-- a transaction wholly inside the listed database: both brackets handed over (empty), at offset 0;
-- a transaction that starts inside and leaves it: MULTI(0), select 0, the SET, EXEC
example :
    (Sender.parseAll (pcfgOf (buildOutput { dbBlack := [1] })) { lastSent := 0 }
      [ { cmd := Sender.bSelect, args := [[49]], off := 10 },
        { cmd := Sender.bMulti, args := [], off := 20 },
        { cmd := [115,101,116], args := [[107],[118]], off := 30 },
        { cmd := Sender.bExec, args := [], off := 40 },
        { cmd := Sender.bMulti, args := [], off := 50 },
        { cmd := Sender.bSelect, args := [[48]], off := 60 },
        { cmd := [115,101,116], args := [[107],[118]], off := 70 },
        { cmd := Sender.bExec, args := [], off := 80 } ]).map (fun i => (i.cmd, i.offset)) =
    [(Sender.bMulti, 0), (Sender.bExec, 0), (Sender.bMulti, 0), (Sender.bSelect, 60), ([115,101,116], 70),
     (Sender.bExec, 80)] := by
  decide +kernel

end GunYu.Props.C10
