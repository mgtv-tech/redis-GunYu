/-
  C20 — pre-existing target keys are handled as the configured policy says, on
  any path (RESTORE payload, native commands, several chunks), plain and
  bidirectional replay.

  Setting. One replay worker (`runPlain` = RdbReplay.Replay per entry,
  `runBisync` = buildBisyncRdbReplayUnit + execBisyncRdbUnit per entry) receives
  the chunks `e0 :: rest` of ONE snapshot key in order (`Group`: `e0` is the
  first bin; every later bin has the same key and is a non-first bin of a split
  value — any number of them). The target `t` is arbitrary (any prior content:
  same or other type, with or without expiry — a pre-existing value is an opaque
  `Val.old`), the worker's remembered state `st` is arbitrary, the configuration
  (restore on/off, bulk limit, target version, clock) is arbitrary; which path
  is taken is decided by `useRestore cfg e0`, and both cases are covered by each
  theorem.

  The models are of the REPAIRED code (D7: `ignore` on the expansion path).
-/
import GunYu.Proofs.RestoreRun

namespace GunYu.Props.C20
open GunYu GunYu.Restore

/-- the chunks of one snapshot key as a worker receives them -/
structure Group (e0 : Entry) (rest : List Entry) : Prop where
  data  : e0.otype = .data
  first : e0.first = true
  later : ∀ e ∈ rest, Later e0.key e
  split : rest ≠ [] → e0.splited = true

theorem Group.chunk {e0 : Entry} {rest : List Entry} (g : Group e0 rest) {e : Entry} (he : e ∈ e0 :: rest) :
    e.key = e0.key ∧ e.otype = .data := by
  rcases List.mem_cons.mp he with rfl | he
  · exact ⟨rfl, g.data⟩
  · exact ⟨(g.later e he).key, (g.later e he).data⟩

/-- the expansion of every chunk consists of commands on the key itself, and
    later chunks carry the key's expiry or none (loader before/after D8) -/
structure Value (e0 : Entry) (rest : List Entry) : Prop where
  c0  : ∀ c ∈ e0.cmds, cmdKey c = e0.key
  ne  : e0.cmds ≠ []
  cr  : ∀ e ∈ rest, ∀ c ∈ e.cmds, cmdKey c = e0.key
  exp : ∀ e ∈ rest, e.expireAt = 0 ∨ e.expireAt = e0.expireAt

/-- exactly the snapshot's value and expiry, as an object on target `t`: the
    RESTOREd payload when the RESTORE path is taken and the target can load it,
    otherwise the value built by the native commands of all chunks -/
def snapshotObj (cfg : Cfg) (t : Target) (e0 : Entry) (rest : List Entry) : Obj :=
  if useRestore cfg e0 = true ∧ t.bad e0.key = false then
    { val := .restored e0.dump, exp := expAbs cfg t.now e0.expireAt }
  else { val := .native (e0.cmds ++ rest.flatMap (·.cmds)), exp := expAbs cfg t.now e0.expireAt }

/-- the single request allowed on an existing key under `ignore` / `error`:
    the probe (EXISTS on the expansion path; on the RESTORE path the RESTORE
    without REPLACE, which the target refuses with BUSYKEY) -/
def probe (cfg : Cfg) (e0 : Entry) : Req :=
  if useRestore cfg e0 then Req.restore e0.key (ttlMs cfg.now e0.expireAt) e0.dump (restoreOpts cfg e0) false
  else Req.exists e0.key

private theorem rest_nil_of_restore {cfg : Cfg} {e0 : Entry} {rest : List Entry} (g : Group e0 rest)
    (hu : useRestore cfg e0 = true) : rest = [] := by
  by_cases h : rest = []
  · exact h
  · have := useRestore_split (cfg := cfg) (g.split h)
    rw [this] at hu; cases hu

private theorem view_some {t : Target} {e : Entry} {o : Obj} (h : t.get e.key = some o) :
    viewOf t e = { keyExists := true, badData := t.bad e.key } := by simp [viewOf, h]

private theorem view_none {t : Target} {e : Entry} (h : t.get e.key = none) :
    viewOf t e = { keyExists := false, badData := t.bad e.key } := by simp [viewOf, h]

private theorem probe_ks (cfg : Cfg) (t : Target) (e0 : Entry) (o : Obj) (hex : t.get e0.key = some o) :
    ∀ d k, (applyReqs t [probe cfg e0]).ks d k = t.ks d k := by
  intro d k
  simp only [applyReqs, List.foldl_cons, List.foldl_nil]
  unfold probe
  split
  · rw [applyReq_ks _ _ (by simp [noSel])]
    by_cases hd : d = t.cur
    · subst hd
      simp only [if_true, objStep, reqKey]
      by_cases hk : e0.key = k
      · subst hk
        have : t.ks t.cur e0.key = some o := hex
        simp [objEffect, this]
      · simp [hk]
    · simp [hd]
  · rfl

/-! ## plain replay (pkg/rdbrestore RdbReplay.Replay) -/

/-- **ignore**: an existing key is left exactly as it is — value, type, expiry —
    and after the probe no request at all is issued, for EVERY chunk of it, on
    either path. -/
theorem ignore_untouched (cfg : Cfg) (st : RState) (t : Target) (e0 : Entry) (rest : List Entry) (o : Obj)
    (g : Group e0 rest) (hex : t.get e0.key = some o) :
    (runPlain .ignore cfg st t (e0 :: rest)).out = .ok ∧
    (runPlain .ignore cfg st t (e0 :: rest)).reqs = [probe cfg e0] ∧
    (∀ d k, (runPlain .ignore cfg st t (e0 :: rest)).tgt.ks d k = t.ks d k) ∧
    (runPlain .ignore cfg st t (e0 :: rest)).tgt.cur = t.cur := by
  have h : ∃ st', replay .ignore cfg st (viewOf t e0) e0 = ([probe cfg e0], .ok, st') ∧ (rest = [] ∨ st' = some e0.key) := by
    rw [view_some hex]
    by_cases hu : useRestore cfg e0 = true
    · exact ⟨st, by simp [replay, g.data, hu, probe], .inl (rest_nil_of_restore g hu)⟩
    · have hu' : useRestore cfg e0 = false := by simpa using hu
      exact ⟨some e0.key, by simp [replay, g.data, hu', g.first, probe], .inr rfl⟩
  obtain ⟨st', h, hst⟩ := h
  obtain ⟨h1, h2, _, h4⟩ := runPlain_cons_ok _ _ _ _ _ rest _ _ h
  have hrest : runPlain .ignore cfg st' (applyReqs t [probe cfg e0]) rest = { st := st', tgt := applyReqs t [probe cfg e0] } := by
    rcases hst with rfl | rfl
    · rfl
    · rw [runPlain_later .ignore cfg e0.key (some e0.key) rest (applyReqs t [probe cfg e0]) g.later, if_pos rfl]
  rw [hrest] at h1 h2 h4
  exact ⟨h2, by simpa using h1, by rw [h4]; exact probe_ks cfg t e0 o hex, (runPlain_inv .ignore cfg _ st t).1⟩

/-- **error**: the replay stops with the key-exists error, having sent only the
    probe; the key (and everything else) is unmodified. -/
theorem error_before_modify (cfg : Cfg) (st : RState) (t : Target) (e0 : Entry) (rest : List Entry) (o : Obj)
    (g : Group e0 rest) (hex : t.get e0.key = some o) :
    (runPlain .error cfg st t (e0 :: rest)).out = .errExists ∧
    (runPlain .error cfg st t (e0 :: rest)).reqs = [probe cfg e0] ∧
    (∀ d k, (runPlain .error cfg st t (e0 :: rest)).tgt.ks d k = t.ks d k) := by
  have h : ∃ st', replay .error cfg st (viewOf t e0) e0 = ([probe cfg e0], .errExists, st') := by
    rw [view_some hex]
    by_cases hu : useRestore cfg e0 = true
    · exact ⟨st, by simp [replay, g.data, hu, probe]⟩
    · have hu' : useRestore cfg e0 = false := by simpa using hu
      exact ⟨none, by simp [replay, g.data, hu', g.first, probe]⟩
  obtain ⟨st', h⟩ := h
  obtain ⟨h1, h2, h3⟩ := runPlain_cons_err _ _ _ _ _ rest _ _ _ (by simp) h
  refine ⟨h2, h1, ?_⟩
  rw [h3]; exact probe_ks cfg t e0 o hex

private theorem restore_exp (cfg : Cfg) (tnow E : Nat) :
    (if ttlMs cfg.now E = 0 then 0 else tnow + ttlMs cfg.now E) = expAbs cfg tnow E := by
  unfold expAbs
  by_cases h : E = 0
  · simp [h, ttlMs]
  · simp [h, ttlMs_pos h]

private theorem group_keys {e0 : Entry} {rest : List Entry} (g : Group e0 rest) (v : Value e0 rest) :
    ∀ e ∈ e0 :: rest, e.key = e0.key ∧ ∀ c ∈ e.cmds, cmdKey c = e0.key := by
  intro e he
  rcases List.mem_cons.mp he with rfl | he
  · exact ⟨rfl, v.c0⟩
  · exact ⟨(g.later e he).key, v.cr e he⟩

private theorem later_ok {e0 : Entry} {rest : List Entry} (g : Group e0 rest) (v : Value e0 rest) :
    ∀ e ∈ rest, e.key = e0.key ∧ (∀ c ∈ e.cmds, cmdKey c = e0.key) ∧ (e.expireAt = 0 ∨ e.expireAt = e0.expireAt) :=
  fun e he => ⟨(g.later e he).key, v.cr e he, v.exp e he⟩

private theorem expansions_obj (cfg : Cfg) (t : Target) {e0 : Entry} {rest : List Entry} (g : Group e0 rest) (v : Value e0 rest) :
    objSteps e0.key t.now none (expand cfg e0 ++ rest.flatMap (expand cfg)) =
      some { val := .native (e0.cmds ++ rest.flatMap (·.cmds)), exp := expAbs cfg t.now e0.expireAt } := by
  rw [objSteps_append, objSteps_expand_none cfg e0.key t.now e0 rfl v.c0 v.ne,
    objSteps_later cfg e0.key t.now e0.expireAt rest e0.cmds (later_ok g v)]

private theorem plain_group {pol : Policy} {cfg : Cfg} {st : RState} {t : Target} {e0 : Entry} {rest : List Entry}
    (g : Group e0 rest) (v : Value e0 rest) {L : List Req} {st' : RState} {o : Obj}
    (h1 : replay pol cfg st (viewOf t e0) e0 = (L, .ok, st')) (h2 : rest = [] ∨ st' = none)
    (h3 : objSteps e0.key t.now (t.get e0.key) (L ++ rest.flatMap (expand cfg)) = some o) :
    (runPlain pol cfg st t (e0 :: rest)).out = .ok ∧
    (runPlain pol cfg st t (e0 :: rest)).tgt.get e0.key = some o ∧
    (∀ d k, ¬ (d = t.cur ∧ k = e0.key) → (runPlain pol cfg st t (e0 :: rest)).tgt.ks d k = t.ks d k) ∧
    (runPlain pol cfg st t (e0 :: rest)).tgt.cur = t.cur := by
  obtain ⟨hget, hframe⟩ := runOf_oneKey (plainStep_ok pol cfg) e0.key (e0 :: rest) st t (group_keys g v)
  simp only [← runPlain_eq] at hget hframe
  obtain ⟨r1, r2, _, _⟩ := runPlain_cons_ok pol cfg st t e0 rest L st' h1
  have hrest : (runPlain pol cfg st' (applyReqs t L) rest).reqs = rest.flatMap (expand cfg) ∧
      (runPlain pol cfg st' (applyReqs t L) rest).out = .ok := by
    rcases h2 with rfl | rfl
    · exact ⟨rfl, rfl⟩
    · rw [runPlain_later pol cfg e0.key none rest (applyReqs t L) g.later, if_neg nofun]; exact ⟨rfl, rfl⟩
  rw [hrest.1] at r1
  exact ⟨r2.trans hrest.2, by rw [hget, r1, h3], hframe, (runPlain_inv pol cfg _ st t).1⟩

/-- plain replay under **replace**, or under any policy when the target does not hold the key: the target ends with
    exactly the snapshot's value and expiry under the key, and nothing else changes -/
theorem written (pol : Policy) (cfg : Cfg) (st : RState) (t : Target) (e0 : Entry) (rest : List Entry)
    (g : Group e0 rest) (v : Value e0 rest) (h : pol = .replace ∨ t.get e0.key = none) :
    (runPlain pol cfg st t (e0 :: rest)).out = .ok ∧
    (runPlain pol cfg st t (e0 :: rest)).tgt.get e0.key = some (snapshotObj cfg t e0 rest) ∧
    (∀ d k, ¬ (d = t.cur ∧ k = e0.key) → (runPlain pol cfg st t (e0 :: rest)).tgt.ks d k = t.ks d k) ∧
    (runPlain pol cfg st t (e0 :: rest)).tgt.cur = t.cur := by
  have hx := expansions_obj cfg t g v
  let r (b : Bool) := Req.restore e0.key (ttlMs cfg.now e0.expireAt) e0.dump (restoreOpts cfg e0) b
  let bad (b : Bool) := Req.restoreBad e0.key (ttlMs cfg.now e0.expireAt) e0.dump (restoreOpts cfg e0) b
  by_cases hu : useRestore cfg e0 = true
  · obtain rfl : rest = [] := rest_nil_of_restore g hu
    cases hbad : t.bad e0.key <;> cases hex : t.get e0.key
    · -- the payload goes in with the first RESTORE
      refine plain_group g v (L := [r false]) (st' := st)
        (by rw [view_none hex]; simp [replay, g.data, hu, hbad, r]) (.inl rfl) ?_
      simp [objSteps, objStep, reqKey, objEffect, hex, snapshotObj, hu, hbad, restore_exp, r]
    · -- BUSYKEY, then RESTORE … REPLACE
      obtain rfl : pol = .replace := h.resolve_right (by simp [hex])
      refine plain_group g v (L := [r false, r true]) (st' := st)
        (by rw [view_some hex]; simp [replay, g.data, hu, hbad, r]) (.inl rfl) ?_
      simp [objSteps, objStep, reqKey, objEffect, hex, snapshotObj, hu, hbad, restore_exp, r]
    · -- "Bad data format": the expansion branch (D24)
      refine plain_group g v (L := bad false :: Req.exists e0.key :: expand cfg e0) (st' := none)
        (by rw [view_none hex]; simp [replay, g.data, hu, hbad, bad]) (.inl rfl) ?_
      simpa [objSteps_cons, objStep, reqKey, hex, snapshotObj, hu, hbad, bad] using hx
    · obtain rfl : pol = .replace := h.resolve_right (by simp [hex])
      refine plain_group g v (L := r false :: bad true :: Req.exists e0.key :: Req.del e0.key :: expand cfg e0) (st' := none)
        (by rw [view_some hex]; simp [replay, g.data, hu, hbad, r, bad]) (.inl rfl) ?_
      simpa [objSteps_cons, objStep, reqKey, objEffect, hex, snapshotObj, hu, hbad, r, bad] using hx
  · have hu' : useRestore cfg e0 = false := by simpa using hu
    cases hex : t.get e0.key
    · refine plain_group g v (L := Req.exists e0.key :: expand cfg e0) (st' := none)
        (by rw [view_none hex]; simp [replay, g.data, hu', g.first]) (.inr rfl) ?_
      simpa [objSteps_cons, objStep, reqKey, hex, snapshotObj, hu'] using hx
    · obtain rfl : pol = .replace := h.resolve_right (by simp [hex])
      refine plain_group g v (L := Req.exists e0.key :: Req.del e0.key :: expand cfg e0) (st' := none)
        (by rw [view_some hex]; simp [replay, g.data, hu', g.first]) (.inr rfl) ?_
      simpa [objSteps_cons, objStep, reqKey, objEffect, hex, snapshotObj, hu'] using hx

/-- **replace**: whatever the key held before (any type, any expiry, or
    nothing), the old value is removed and the target ends with exactly the
    snapshot's value and expiry; nothing else on the target changes. -/
theorem replace_final (cfg : Cfg) (st : RState) (t : Target) (e0 : Entry) (rest : List Entry)
    (g : Group e0 rest) (v : Value e0 rest) :
    (runPlain .replace cfg st t (e0 :: rest)).out = .ok ∧
    (runPlain .replace cfg st t (e0 :: rest)).tgt.get e0.key = some (snapshotObj cfg t e0 rest) ∧
    (∀ d k, ¬ (d = t.cur ∧ k = e0.key) → (runPlain .replace cfg st t (e0 :: rest)).tgt.ks d k = t.ks d k) ∧
    (runPlain .replace cfg st t (e0 :: rest)).tgt.cur = t.cur :=
  written .replace cfg st t e0 rest g v (.inl rfl)

/-! ## bidirectional replay (buildBisyncRdbReplayUnit with `skippedKey` + execBisyncRdbUnit)
 -/

/-- **ignore** (bidirectional): only the EXISTS probe is sent; no unit is built
    for the first nor for ANY later chunk of the key; the target is unchanged. -/
theorem ignore_untouched_bisync (cfg : Cfg) (st : RState) (t : Target) (e0 : Entry) (rest : List Entry) (o : Obj)
    (g : Group e0 rest) (hex : t.get e0.key = some o) :
    (runBisync .ignore cfg st t (e0 :: rest)).out = .ok ∧
    (runBisync .ignore cfg st t (e0 :: rest)).reqs = [Req.exists e0.key] ∧
    (runBisync .ignore cfg st t (e0 :: rest)).tgt = t := by
  have h : buildUnit .ignore cfg st (viewOf t e0) e0 =
      ([Req.exists e0.key], [], .skip, if e0.splited then some e0.key else none) := by
    rw [view_some hex]; simp [buildUnit, g.data, g.first]
  obtain ⟨h1, h2, h4⟩ := runBisync_cons_ok _ _ _ _ _ rest _ _ _ _ rfl h
  simp only [reduceCtorEq, if_false, List.append_nil] at h1 h2 h4
  have hrest : runBisync .ignore cfg (if e0.splited then some e0.key else none) (applyReqs t [Req.exists e0.key]) rest =
      { st := if e0.splited then some e0.key else none, tgt := applyReqs t [Req.exists e0.key] } := by
    by_cases hr : rest = []
    · subst hr; rfl
    · rw [g.split hr, if_pos rfl,
        runBisync_later .ignore cfg e0.key (some e0.key) rest (applyReqs t [Req.exists e0.key]) g.later, if_pos rfl]
  rw [hrest] at h1 h2 h4
  exact ⟨h2, by simpa using h1, by rw [h4]; rfl⟩

/-- **error** (bidirectional): the builder fails with the key-exists error after
    the EXISTS probe; nothing is written. -/
theorem error_before_modify_bisync (cfg : Cfg) (st : RState) (t : Target) (e0 : Entry) (rest : List Entry) (o : Obj)
    (g : Group e0 rest) (hex : t.get e0.key = some o) :
    (runBisync .error cfg st t (e0 :: rest)).out = .errExists ∧
    (runBisync .error cfg st t (e0 :: rest)).reqs = [Req.exists e0.key] ∧
    (runBisync .error cfg st t (e0 :: rest)).tgt = t := by
  have h : buildUnit .error cfg st (viewOf t e0) e0 = ([Req.exists e0.key], [], .errExists, none) := by
    rw [view_some hex]; simp [buildUnit, g.data, g.first]
  obtain ⟨h1, h2, h3⟩ := runBisync_cons_err _ _ _ _ _ rest _ _ _ _ (by simp [bOut]) h
  simp only [reduceCtorEq, if_false, List.append_nil] at h1 h2 h3
  exact ⟨h2, h1, by rw [h3]; rfl⟩

private theorem bisync_group {pol : Policy} {cfg : Cfg} {st : RState} {t : Target} {e0 : Entry} {rest : List Entry}
    (g : Group e0 rest) (v : Value e0 rest) {direct cmds : List Req} {st' : RState} {o : Obj}
    (h1 : buildUnit pol cfg st (viewOf t e0) e0 = (direct, cmds, .unit, st')) (h2 : rest = [] ∨ st' = none)
    (h3 : objSteps e0.key t.now (t.get e0.key)
      (direct ++ execUnit cmds ++ rest.flatMap (fun e => wrapUnit (expand cfg e))) = some o) :
    (runBisync pol cfg st t (e0 :: rest)).out = .ok ∧
    (runBisync pol cfg st t (e0 :: rest)).tgt.get e0.key = some o ∧
    (∀ d k, ¬ (d = t.cur ∧ k = e0.key) → (runBisync pol cfg st t (e0 :: rest)).tgt.ks d k = t.ks d k) ∧
    (runBisync pol cfg st t (e0 :: rest)).tgt.cur = t.cur := by
  obtain ⟨hget, hframe⟩ := runOf_oneKey (bisyncStep_ok pol cfg) e0.key (e0 :: rest) st t (group_keys g v)
  simp only [← runBisync_eq] at hget hframe
  obtain ⟨r1, r2, _⟩ := runBisync_cons_ok pol cfg st t e0 rest direct cmds .unit st' rfl h1
  simp only [if_true] at r1 r2
  have hrest : (runBisync pol cfg st' (applyReqs t (direct ++ execUnit cmds)) rest).reqs
        = rest.flatMap (fun e => wrapUnit (expand cfg e)) ∧
      (runBisync pol cfg st' (applyReqs t (direct ++ execUnit cmds)) rest).out = .ok := by
    rcases h2 with rfl | rfl
    · exact ⟨rfl, rfl⟩
    · rw [runBisync_later pol cfg e0.key none rest (applyReqs t (direct ++ execUnit cmds)) g.later, if_neg nofun]; exact ⟨rfl, rfl⟩
  rw [hrest.1] at r1
  exact ⟨r2.trans hrest.2, by rw [hget, r1, h3], hframe, (runBisync_inv pol cfg _ st t).1⟩

/-- the same for the bidirectional replay (`hb` as in `replace_final_bisync`) -/
theorem written_bisync (pol : Policy) (cfg : Cfg) (st : RState) (t : Target) (e0 : Entry) (rest : List Entry)
    (g : Group e0 rest) (v : Value e0 rest) (hb : useRestore cfg e0 = true → t.bad e0.key = false)
    (h : pol = .replace ∨ t.get e0.key = none) :
    (runBisync pol cfg st t (e0 :: rest)).out = .ok ∧
    (runBisync pol cfg st t (e0 :: rest)).tgt.get e0.key = some (snapshotObj cfg t e0 rest) ∧
    (∀ d k, ¬ (d = t.cur ∧ k = e0.key) → (runBisync pol cfg st t (e0 :: rest)).tgt.ks d k = t.ks d k) ∧
    (runBisync pol cfg st t (e0 :: rest)).tgt.cur = t.cur := by
  let direct : List Req := if pol = .replace then [] else [Req.exists e0.key]
  have hdirect : ∀ o L, objSteps e0.key t.now o (direct ++ L) = objSteps e0.key t.now o L := by
    intro o L; simp only [direct]; split <;> simp [objSteps, objStep, reqKey]
  by_cases hu : useRestore cfg e0 = true
  · obtain rfl : rest = [] := rest_nil_of_restore g hu
    have hb := hb hu
    refine bisync_group g v (direct := direct) (st' := none)
      (cmds := [Req.restore e0.key (ttlMs cfg.now e0.expireAt) e0.dump (restoreOpts cfg e0) (pol = .replace)]) ?_ (.inl rfl) ?_
    · rcases h with rfl | hex
      · simp [buildUnit, g.data, g.first, hu, viewOf, hb, direct]
      · rw [view_none hex]; cases pol <;> simp [buildUnit, g.data, g.first, hu, direct, hb]
    · rw [List.flatMap_nil, List.append_nil, hdirect, objSteps_execUnit]
      rcases h with rfl | hex
      · cases hex : t.get e0.key <;> simp [objSteps, objStep, reqKey, objEffect, snapshotObj, hu, hb, restore_exp]
      · simp [objSteps, objStep, reqKey, objEffect, hex, snapshotObj, hu, hb, restore_exp]
  · have hu' : useRestore cfg e0 = false := by simpa using hu
    have hne : expand cfg e0 ≠ [] := by
      unfold expand
      cases hc : e0.cmds with
      | nil => exact absurd hc v.ne
      | cons c cs => simp
    let cmds : List Req := if pol = .replace then Req.del e0.key :: expand cfg e0 else expand cfg e0
    have hcmds : objSteps e0.key t.now (t.get e0.key) cmds = objSteps e0.key t.now none (expand cfg e0) := by
      rcases h with rfl | hex
      · simp [cmds, objSteps_cons, objStep, reqKey, objEffect]
      · rw [hex]; simp only [cmds]; split <;> simp [objSteps_cons, objStep, reqKey, objEffect]
    refine bisync_group g v (direct := direct) (cmds := cmds) (st' := none) ?_ (.inr rfl) ?_
    · rcases h with rfl | hex
      · simp [buildUnit, g.data, g.first, hu', expandB_eq cfg e0, cmds, direct]
      · rw [view_none hex]
        cases pol <;> simp [buildUnit, g.data, g.first, hu', expandB_eq cfg e0, hne, cmds, direct]
    · rw [List.append_assoc, hdirect, objSteps_append, objSteps_execUnit, hcmds,
        objSteps_expand_none cfg e0.key t.now e0 rfl v.c0 v.ne,
        objSteps_flatMap_wrapUnit, objSteps_later cfg e0.key t.now e0.expireAt rest e0.cmds (later_ok g v)]
      simp [snapshotObj, hu']

/-- **replace** (bidirectional): RESTORE … REPLACE, or DEL + native commands in
    the first unit and native commands in the later units — the target ends
    with exactly the snapshot's value and expiry, whatever it held before.
    (`hb`: if the RESTORE path is taken, the target can load the payload; the
    other case is `bad_data_bisync_fails`.) -/
theorem replace_final_bisync (cfg : Cfg) (st : RState) (t : Target) (e0 : Entry) (rest : List Entry)
    (g : Group e0 rest) (v : Value e0 rest) (hb : useRestore cfg e0 = true → t.bad e0.key = false) :
    (runBisync .replace cfg st t (e0 :: rest)).out = .ok ∧
    (runBisync .replace cfg st t (e0 :: rest)).tgt.get e0.key = some (snapshotObj cfg t e0 rest) ∧
    (∀ d k, ¬ (d = t.cur ∧ k = e0.key) → (runBisync .replace cfg st t (e0 :: rest)).tgt.ks d k = t.ks d k) ∧
    (runBisync .replace cfg st t (e0 :: rest)).tgt.cur = t.cur :=
  written_bisync .replace cfg st t e0 rest g v hb (.inl rfl)

/-! ## keys that are NOT on the target ("any subset of the snapshot's keys present") -/

/-- plain replay, any policy: a key the target does not hold ends with exactly
    the snapshot's value and expiry -/
theorem absent_final (pol : Policy) (cfg : Cfg) (st : RState) (t : Target) (e0 : Entry) (rest : List Entry)
    (g : Group e0 rest) (v : Value e0 rest) (hex : t.get e0.key = none) :
    (runPlain pol cfg st t (e0 :: rest)).out = .ok ∧
    (runPlain pol cfg st t (e0 :: rest)).tgt.get e0.key = some (snapshotObj cfg t e0 rest) ∧
    (∀ d k, ¬ (d = t.cur ∧ k = e0.key) → (runPlain pol cfg st t (e0 :: rest)).tgt.ks d k = t.ks d k) :=
  have ⟨h1, h2, h3, _⟩ := written pol cfg st t e0 rest g v (.inr hex)
  ⟨h1, h2, h3⟩

/-- bidirectional replay, any policy: a key the target does not hold ends with
    exactly the snapshot's value and expiry (EXISTS probe under ignore/error,
    then RESTORE [REPLACE only under replace] or [DEL +] native commands) -/
theorem absent_final_bisync (pol : Policy) (cfg : Cfg) (st : RState) (t : Target) (e0 : Entry) (rest : List Entry)
    (g : Group e0 rest) (v : Value e0 rest) (hb : useRestore cfg e0 = true → t.bad e0.key = false)
    (hex : t.get e0.key = none) :
    (runBisync pol cfg st t (e0 :: rest)).out = .ok ∧
    (runBisync pol cfg st t (e0 :: rest)).tgt.get e0.key = some (snapshotObj cfg t e0 rest) ∧
    (∀ d k, ¬ (d = t.cur ∧ k = e0.key) → (runBisync pol cfg st t (e0 :: rest)).tgt.ks d k = t.ks d k) :=
  have ⟨h1, h2, h3, _⟩ := written_bisync pol cfg st t e0 rest g v hb (.inr hex)
  ⟨h1, h2, h3⟩

/-- bidirectional replay, a payload the target cannot load ("Bad data format"
    inside the unit's EXEC) where no probe stops the entry first (key absent, or
    policy replace): the replay FAILS and the keyspace is unchanged — nothing of
    the snapshot value is merged, the old value is not removed. -/
theorem bad_data_bisync_fails (pol : Policy) (cfg : Cfg) (st : RState) (t : Target) (e0 : Entry) (rest : List Entry)
    (g : Group e0 rest) (hu : useRestore cfg e0 = true) (hb : t.bad e0.key = true)
    (hreach : t.get e0.key = none ∨ pol = .replace) :
    (runBisync pol cfg st t (e0 :: rest)).out = .errBad ∧
    (∀ d k, (runBisync pol cfg st t (e0 :: rest)).tgt.ks d k = t.ks d k) := by
  -- the unit is sent (after the probe, if there is one): its RESTORE is refused, nothing else in it touches a key
  let sent : List Req := (if pol = .replace then [] else [Req.exists e0.key]) ++
    execUnit [Req.restoreBad e0.key (ttlMs cfg.now e0.expireAt) e0.dump (restoreOpts cfg e0) (pol = .replace)]
  have hbu : buildUnit pol cfg st (viewOf t e0) e0 = (sent, [], .errBad, none) := by
    rcases hreach with hex | rfl
    · rw [view_none hex]; cases pol <;> simp [buildUnit, g.data, g.first, hu, hb, sent]
    · simp [buildUnit, viewOf, g.data, g.first, hu, hb, sent]
  have hsent : ∀ r ∈ sent, reqKey r = none ∧ noSel r := by
    refine List.forall_mem_append.2 ⟨?_, forall_mem_execUnit.2
      ⟨⟨rfl, trivial⟩, ⟨rfl, trivial⟩, List.forall_mem_singleton.2 ⟨rfl, trivial⟩, ⟨rfl, trivial⟩⟩⟩
    split
    · exact List.forall_mem_nil _
    · exact List.forall_mem_singleton.2 ⟨rfl, trivial⟩
  obtain ⟨_, h2, h3⟩ := runBisync_cons_err _ _ _ _ _ rest _ _ _ _ (by simp [bOut]) hbu
  simp only [reduceCtorEq, if_false, List.append_nil] at h2 h3
  refine ⟨by rw [h2]; rfl, fun d k => ?_⟩
  rw [h3, applyReqs_id t sent hsent]

/-- with the tool's and the target's clocks equal and the snapshot expiry in the
    future, the expiry the key ends with IS the snapshot's absolute expiry -/
theorem snapshot_exp_abs (cfg : Cfg) (t : Target) (e0 : Entry) (rest : List Entry)
    (hnow : t.now = cfg.now) (hfut : cfg.now < e0.expireAt) :
    (snapshotObj cfg t e0 rest).exp = e0.expireAt := by
  have hexp : expAbs cfg t.now e0.expireAt = e0.expireAt := by
    simp only [expAbs, ttlMs]; rw [hnow]
    split
    · omega
    · split <;> omega
  unfold snapshotObj
  split <;> exact hexp

/-! ## replaceHashTag: the worker replays `retag e`; the per-group theorems apply to retagged groups -/

theorem rewriteCmd_cmdKey (src tgt : Bytes) (c : Cmd) (h : cmdKey c = src) (hne : c.args ≠ [] ) (hx : c.name = sXGROUP → 2 ≤ c.args.length) :
    cmdKey (rewriteCmd src tgt c) = tgt := by
  unfold cmdKey rewriteCmd at *
  by_cases hn : c.name = sXGROUP
  · simp only [hn, if_true] at h ⊢
    have := hx hn
    match hargs : c.args with
    | [] => rw [hargs] at this; simp at this
    | [_] => rw [hargs] at this; simp at this
    | sub :: k :: rest =>
      rw [hargs] at h
      simp only [List.drop_succ_cons, List.drop_zero, List.headD_cons] at h
      simp [h]
  · simp only [hn, if_false] at h ⊢
    match hargs : c.args with
    | [] => exact absurd hargs hne
    | k :: rest =>
      rw [hargs] at h
      simp only [List.headD_cons] at h
      simp [h, hn]

/-- a key group stays a key group under `retag`, on the rewritten key -/
theorem retag_group (b : Bool) (e0 : Entry) (rest : List Entry) (g : Group e0 rest) :
    Group (retag b e0) (rest.map (retag b)) := by
  obtain ⟨o0, f0, s0, _⟩ := retag_fields b e0
  refine ⟨o0.trans g.data, f0.trans g.first, fun e he => ?_, fun hne => s0.trans (g.split fun h => hne (by simp [h]))⟩
  obtain ⟨e', he', rfl⟩ := List.mem_map.mp he
  have hl := g.later e' he'
  obtain ⟨o1, f1, s1, _⟩ := retag_fields b e'
  exact ⟨by rw [retag_key_data b e' hl.data, retag_key_data b e0 g.data, hl.key], f1.trans hl.notFirst, o1.trans hl.data,
    s1.trans hl.split⟩

/-! ## the function tied to the real code is the function of the theorems

  The correspondence harness compares the real worker loops with `runWorker`
  (which also issues SELECT when the entry's DB differs from the connection's);
  on entries of the connection's DB it is `runPlain` / `runBisync`. -/

theorem worker_is_runPlain (pol : Policy) (cfg : Cfg) (cur : Nat) (es : List Entry) (st : RState) (t : Target)
    (h : ∀ e ∈ es, e.db = Int.ofNat cur) :
    (runWorker false pol cfg cur st t es).flatMap (·.1) = (runPlain pol cfg st t es).reqs ∧
    workerTarget t (runWorker false pol cfg cur st t es) = (runPlain pol cfg st t es).tgt := by
  have hw := runWorker_is_runWG_plain pol cfg es cur st t
  rw [runWG_sameDb (runPlain_nil pol cfg) (runPlain_split pol cfg) cur es st t h] at hw
  exact ⟨hw.1, hw.2.1⟩

theorem worker_is_runBisync (pol : Policy) (cfg : Cfg) (cur : Nat) (es : List Entry) (st : RState) (t : Target)
    (h : ∀ e ∈ es, e.db = Int.ofNat cur) :
    (runWorker true pol cfg cur st t es).flatMap (·.1) = (runBisync pol cfg st t es).reqs ∧
    workerTarget t (runWorker true pol cfg cur st t es) = (runBisync pol cfg st t es).tgt := by
  have hw := runWorker_is_runWG_bisync pol cfg es cur st t
  rw [runWG_sameDb (runBisync_nil pol cfg) (runBisync_split pol cfg) cur es st t h] at hw
  exact ⟨hw.1, hw.2.1⟩

/-- **composition over key groups** (towards whole snapshots): a worker's run
    over `a ++ b` is its run over `a`, then its run over `b` from the remembered
    state and the target `a` left. Together with the per-group theorems — which
    hold for EVERY remembered state `st` and every target — this carries the
    three policy statements from one key group to any sequence of groups, and,
    through the frame clauses, to keys of other groups. -/
theorem runPlain_append (pol : Policy) (cfg : Cfg) (a b : List Entry) (st : RState) (t : Target)
    (h : (runPlain pol cfg st t a).out = .ok) :
    (runPlain pol cfg st t (a ++ b)).tgt =
      (runPlain pol cfg (runPlain pol cfg st t a).st (runPlain pol cfg st t a).tgt b).tgt ∧
    (runPlain pol cfg st t (a ++ b)).out =
      (runPlain pol cfg (runPlain pol cfg st t a).st (runPlain pol cfg st t a).tgt b).out := by
  rw [runPlain_split, Run.resume, if_pos h]
  exact ⟨rfl, rfl⟩

/-! ## non-vacuity: a split hash `h` (three chunks, expiry) meeting an old value with a TTL -/

def exCmd (f v : UInt8) : Cmd := { name := [104, 115, 101, 116], args := [[104], [102, f], [118, v]] }
def exE0 : Entry :=
  { db := 0, key := [104], otype := .data, first := true, splited := true, canRestore := true,
    dumpSize := 30, expireAt := 5000, idle := 0, freq := 0, dump := [4, 3], cmds := [exCmd 49 49] }
def exE1 : Entry := { exE0 with first := false, cmds := [exCmd 50 50] }
def exE2 : Entry := { exE0 with first := false, expireAt := 0, cmds := [exCmd 51 51] }
/-- the same value small enough for RESTORE -/
def exR : Entry := { exE0 with splited := false, cmds := [exCmd 49 49, exCmd 50 50] }
def exCfg : Cfg := { enableRestore := true, maxBulk := 1000, ver5 := true, now := 1000 }
def exT : Target := { cur := 0, now := 1000, ks := fun d k => if d = 0 ∧ k = [104] then some { val := .old 0, exp := 777 } else none }

example : Group exE0 [exE1, exE2] :=
  ⟨rfl, rfl, by intro e he; simp at he; rcases he with rfl | rfl <;> exact ⟨rfl, rfl, rfl, rfl⟩, fun _ => rfl⟩
example : Value exE0 [exE1, exE2] :=
  ⟨by intro c hc; simp [exE0] at hc; subst hc; rfl, by simp [exE0],
   by intro e he c hc; simp at he; rcases he with rfl | rfl <;> (simp [exE1, exE2, exE0] at hc; subst hc; rfl),
   by intro e he; simp at he; rcases he with rfl | rfl <;> simp [exE1, exE2, exE0]⟩
example : Group exR [] := ⟨rfl, rfl, by simp, by simp⟩
example : exT.get exE0.key = some { val := .old 0, exp := 777 } := rfl
example : useRestore exCfg exE0 = false ∧ useRestore exCfg exR = true := by decide
-- ignore: one EXISTS for three chunks; one refused RESTORE on the payload path
example : (runPlain .ignore exCfg none exT [exE0, exE1, exE2]).reqs = [Req.exists [104]] := by decide
example : (runPlain .ignore exCfg none exT [exR]).reqs = [Req.restore [104] 4000 [4, 3] [] false] := by decide
example : (runBisync .ignore exCfg none exT [exE0, exE1, exE2]).reqs = [Req.exists [104]] := by decide
-- error
example : (runPlain .error exCfg none exT [exE0, exE1, exE2]).out = .errExists := by decide
example : (runBisync .error exCfg none exT [exE0, exE1, exE2]).out = .errExists := by decide
-- replace: DEL, then the three chunks; the object is exactly the snapshot's (expiry 1000 + 4000)
example : (runPlain .replace exCfg none exT [exE0, exE1, exE2]).reqs =
    [Req.exists [104], Req.del [104], Req.data (exCmd 49 49), Req.pexpire [104] 4000,
     Req.data (exCmd 50 50), Req.pexpire [104] 4000, Req.data (exCmd 51 51)] := by decide
example : (runPlain .replace exCfg none exT [exE0, exE1, exE2]).tgt.get [104] =
    some { val := .native [exCmd 49 49, exCmd 50 50, exCmd 51 51], exp := 5000 } := by decide
example : (runBisync .replace exCfg none exT [exE0, exE1, exE2]).tgt.get [104] =
    some { val := .native [exCmd 49 49, exCmd 50 50, exCmd 51 51], exp := 5000 } := by decide
example : (runPlain .replace exCfg none exT [exR]).tgt.get [104] = some { val := .restored [4, 3], exp := 5000 } := by decide

-- the target refuses the payload ("Bad data format"): RESTORE, RESTORE…REPLACE, then the expansion branch with DEL and PEXPIRE
def exTBad : Target := { exT with bad := fun k => k == [104] }
example : (runPlain .replace exCfg none exTBad [exR]).reqs =
    [Req.restore [104] 4000 [4, 3] [] false, Req.restoreBad [104] 4000 [4, 3] [] true,
     Req.exists [104], Req.del [104], Req.data (exCmd 49 49), Req.data (exCmd 50 50), Req.pexpire [104] 4000] := by decide
example : (runPlain .replace exCfg none exTBad [exR]).tgt.get [104] =
    some { val := .native [exCmd 49 49, exCmd 50 50], exp := 5000 } := by decide
-- a stream with a consumer group: `XGROUP CREATE key …` is a command on the key
example : cmdKey { name := sXGROUP, args := [[67, 82, 69, 65, 84, 69], [115], [103], [48, 45, 48]] } = [115] := by decide
-- a fresh key under the bidirectional `error` policy: probe, then RESTORE without REPLACE
example : (runBisync .error exCfg none { exT with ks := fun _ _ => none } [exR]).reqs =
    [Req.exists [104], Req.multi, Req.marker, Req.restore [104] 4000 [4, 3] [] false, Req.exec] := by decide
example : snapshotObj exCfg exT exE0 [exE1, exE2] = { val := .native [exCmd 49 49, exCmd 50 50, exCmd 51 51], exp := 5000 } := by decide

-- bidirectional replay against a target that refuses the payload: the unit is sent, the replay fails, the old value stays
example : (runBisync .replace exCfg none exTBad [exR]).out = .errBad := by decide
example : (runBisync .replace exCfg none exTBad [exR]).tgt.get [104] = some { val := .old 0, exp := 777 } := by decide
-- two key groups in one run (the remembered `ignore` decision of the first does not reach the second)
def exK : Entry := { exR with key := [105], cmds := [{ name := [115, 101, 116], args := [[105], [120]] }] }
example : (runPlain .ignore exCfg none exT ([exE0, exE1, exE2] ++ [exK])).reqs =
    [Req.exists [104], Req.restore [105] 4000 [4, 3] [] false] := by decide
example : (runPlain .ignore exCfg none exT ([exE0, exE1, exE2] ++ [exK])).tgt.get [104] = some { val := .old 0, exp := 777 } := by decide
example : (runBisync .ignore exCfg none exT ([exE0, exE1, exE2] ++ [exK])).tgt.get [105] = some { val := .restored [4, 3], exp := 5000 } := by decide
-- replaceHashTag: `{}` is rewritten to the empty key (a valid key), commands follow
example : (retag true { exR with key := [123, 125], cmds := [{ name := [115, 101, 116], args := [[123, 125], [120]] }] }).key = [] := by decide
example : (retag true { exR with key := [123, 125], cmds := [{ name := [115, 101, 116], args := [[123, 125], [120]] }] }).cmds =
    [{ name := [115, 101, 116], args := [[], [120]] }] := by decide

end GunYu.Props.C20
