/-
  C20 — the RESTART of an interrupted full sync.

  A full sync that ends early (target error, cancel, crash) leaves no checkpoint
  (C04); the next start builds a FRESH replay worker (no remembered state,
  connection in DB 0) and replays the snapshot from entry 0 — on the target the
  first attempt left. That is `runPlain pol cfg none t1 (flat gs)` with
  `t1 = (runPlain pol cfg none t (first k entries)).tgt`; NOT `Run.resume` (which
  is the same loop going on and exists only as the induction step of the
  whole-run theorems).

  What the property's sentence says about the rerun: the leftovers of the first
  attempt are "prior target contents" like any other — the rerun handles them
  as the policy says. Per policy that means (theorems below):
    replace  the rerun converges: every snapshot key ends with the snapshot's
             value and expiry, whatever the first attempt left;
    ignore   a key the first attempt wrote COMPLETELY is kept (it has the
             snapshot's value); a key whose chunks it wrote only partly is kept
             TRUNCATED — the rerun ends ok;
    error    once the first attempt has written anything, every rerun stops
             with the key-exists error at the first key, changing nothing.
-/
import GunYu.Props.C20Whole

namespace GunYu.Props.C20
open GunYu GunYu.Restore

/-- the first `k` entries of the stream `flat gs`, as key groups: whole groups,
    then possibly the first chunks of the next one -/
def cutGroups : List KGroup → Nat → List KGroup
  | [], _ => []
  | _ :: _, 0 => []
  | g :: gs, k+1 => if k ≤ g.2.length then [(g.1, g.2.take k)] else g :: cutGroups gs (k - g.2.length)

/-- every entry boundary of the stream is such a cut -/
theorem flat_cutGroups : ∀ (gs : List KGroup) (k : Nat), flat (cutGroups gs k) = (flat gs).take k
  | [], k => by simp [cutGroups, flat]
  | g :: gs, 0 => by simp [cutGroups, flat]
  | g :: gs, k+1 => by
    simp only [cutGroups, flat_cons, KGroup.entries]
    split
    · rename_i h
      simp [flat, KGroup.entries, List.take_append_of_le_length h]
    · rename_i h
      simp [flat_cons, KGroup.entries, flat_cutGroups gs, List.take_append,
        List.take_of_length_le (Nat.le_of_lt (Nat.lt_of_not_le h))]

theorem truncGroup_good (g : KGroup) (j : Nat) (h : GoodGroup g) : GoodGroup (g.1, g.2.take j) := by
  obtain ⟨hg, hv⟩ := h
  refine ⟨⟨hg.data, hg.first, fun e he => hg.later e (List.mem_of_mem_take he), fun hne => hg.split ?_⟩,
    ⟨hv.c0, hv.ne, fun e he => hv.cr e (List.mem_of_mem_take he), fun e he => hv.exp e (List.mem_of_mem_take he)⟩⟩
  intro h0; apply hne; simp [h0]

theorem cutGroups_good : ∀ (gs : List KGroup) (k : Nat), (∀ g ∈ gs, GoodGroup g) → ∀ g ∈ cutGroups gs k, GoodGroup g
  | [], k, _ => by simp [cutGroups]
  | g :: gs, 0, _ => by simp [cutGroups]
  | g :: gs, k+1, h => by
    simp only [cutGroups]
    split
    · exact List.forall_mem_singleton.mpr (truncGroup_good g k (h g (List.mem_cons_self ..)))
    · exact List.forall_mem_cons.mpr
        ⟨h g (List.mem_cons_self ..), cutGroups_good gs _ (fun y hy => h y (List.mem_cons_of_mem _ hy))⟩

theorem cutGroups_keys : ∀ (gs : List KGroup) (k : Nat), ((cutGroups gs k).map KGroup.key).Sublist (gs.map KGroup.key)
  | [], k => by simp [cutGroups]
  | g :: gs, 0 => by simp [cutGroups]
  | g :: gs, k+1 => by
    simp only [cutGroups]
    split
    · simp only [List.map_cons, List.map_nil, KGroup.key]
      exact List.Sublist.cons_cons _ (List.nil_sublist _)
    · simp only [List.map_cons]
      exact List.Sublist.cons_cons _ (cutGroups_keys gs _)

theorem cutGroups_nodup (gs : List KGroup) (k : Nat) (h : (gs.map KGroup.key).Nodup) :
    ((cutGroups gs k).map KGroup.key).Nodup := List.Pairwise.sublist (cutGroups_keys gs k) h

/-- the first attempt, whatever it was cut at and however it ended, writes only keys of the snapshot -/
theorem attempt_frame {run : RState → Target → List Entry → Run} {eff : Target → KGroup → Eff} (R : Runner run eff GoodGroup)
    (st : RState) (t : Target) (gs : List KGroup) (k : Nat)
    (hg : ∀ g ∈ gs, GoodGroup g) (hk : (gs.map KGroup.key).Nodup) :
    ∀ d k', ¬ (d = t.cur ∧ k' ∈ gs.map KGroup.key) → (run st t ((flat gs).take k)).tgt.ks d k' = t.ks d k' := by
  intro d k' hdk
  rw [← flat_cutGroups]
  exact (R.whole (cutGroups gs k) st t (cutGroups_good gs k hg) (cutGroups_nodup gs k hk)).1 d k'
    (fun h => hdk ⟨h.1, (cutGroups_keys gs k).subset h.2⟩)

private theorem snap_eq (cfg : Cfg) (t t1 : Target) (h1 : t1.now = t.now) (h2 : t1.bad = t.bad) (e0 : Entry) (rest : List Entry) :
    snapshotObj cfg t1 e0 rest = snapshotObj cfg t e0 rest := by simp only [snapshotObj, h1, h2]

/-- **replace: the rerun converges.** The first attempt is cut after ANY number `k`
    of entries (also between the chunks of a key), under any remembered state; the
    restarted full sync (fresh state, entry 0, the target the first attempt left)
    ends ok, every key of the snapshot holds exactly the snapshot's value and expiry,
    and no cell outside the snapshot's keys differs from the ORIGINAL target. -/
theorem rerun_replace_converges (cfg : Cfg) (st : RState) (t : Target) (gs : List KGroup) (k : Nat)
    (hg : ∀ g ∈ gs, GoodGroup g) (hk : (gs.map KGroup.key).Nodup) :
    let t1 := (runPlain .replace cfg st t ((flat gs).take k)).tgt
    (runPlain .replace cfg none t1 (flat gs)).out = .ok ∧
    (∀ g ∈ gs, (runPlain .replace cfg none t1 (flat gs)).tgt.get g.key = some (snapshotObj cfg t g.1 g.2)) ∧
    (∀ d k', ¬ (d = t.cur ∧ k' ∈ gs.map KGroup.key) → (runPlain .replace cfg none t1 (flat gs)).tgt.ks d k' = t.ks d k') := by
  intro t1
  obtain ⟨i1, i2, i3⟩ := runPlain_inv .replace cfg ((flat gs).take k) st t
  obtain ⟨h1, h2, h3⟩ := replace_whole cfg none t1 gs hg hk
  refine ⟨h1, fun g hg' => by rw [h2 g hg', snap_eq cfg t t1 i2 i3], ?_⟩
  intro d k' hdk
  rw [h3 d k' (fun h => hdk ⟨h.1.trans i1, h.2⟩)]
  exact attempt_frame (plain_runner .replace cfg) st t gs k hg hk d k' hdk

/-- the same for the bidirectional worker (where the RESTORE path is taken the target can load the payload) -/
theorem rerun_replace_converges_bisync (cfg : Cfg) (st : RState) (t : Target) (gs : List KGroup) (k : Nat)
    (hg : ∀ g ∈ gs, GoodGroup g) (hk : (gs.map KGroup.key).Nodup)
    (hb : ∀ g ∈ gs, useRestore cfg g.1 = true → t.bad g.key = false) :
    let t1 := (runBisync .replace cfg st t ((flat gs).take k)).tgt
    (runBisync .replace cfg none t1 (flat gs)).out = .ok ∧
    (∀ g ∈ gs, (runBisync .replace cfg none t1 (flat gs)).tgt.get g.key = some (snapshotObj cfg t g.1 g.2)) ∧
    (∀ d k', ¬ (d = t.cur ∧ k' ∈ gs.map KGroup.key) → (runBisync .replace cfg none t1 (flat gs)).tgt.ks d k' = t.ks d k') := by
  intro t1
  obtain ⟨i1, i2, i3⟩ := runBisync_inv .replace cfg ((flat gs).take k) st t
  obtain ⟨h1, h2, h3⟩ := replace_whole_bisync cfg none t1 gs hg hk (fun g hg' hu => by rw [i3]; exact hb g hg' hu)
  refine ⟨h1, fun g hg' => by rw [h2 g hg', snap_eq cfg t t1 i2 i3], ?_⟩
  intro d k' hdk
  rw [h3 d k' (fun h => hdk ⟨h.1.trans i1, h.2⟩)]
  exact attempt_frame (bisync_runner .replace cfg) st t gs k hg hk d k' hdk

/-- **ignore: what the rerun does to a key that was written only partly.**
    The snapshot is `pre ++ g :: post`; the first attempt replayed the groups of
    `pre` and the first chunk plus `j` later chunks of `g` (absent on the original
    target), then died. The rerun ends **ok**; `g`'s key is KEPT as the first attempt
    left it — the value built from its first `1 + j` chunks only (`snapshotObj … (g.2.take j)`);
    every other key: kept if the original target held it, else the snapshot's value. -/
theorem rerun_ignore_keeps_partial (cfg : Cfg) (st : RState) (t : Target) (pre post : List KGroup) (g : KGroup) (j : Nat)
    (hg : ∀ x ∈ pre ++ g :: post, GoodGroup x) (hk : ((pre ++ g :: post).map KGroup.key).Nodup)
    (habs : t.get g.key = none) :
    let t1 := (runPlain .ignore cfg st t (flat (pre ++ [(g.1, g.2.take j)]))).tgt
    (runPlain .ignore cfg none t1 (flat (pre ++ g :: post))).out = .ok ∧
    (runPlain .ignore cfg none t1 (flat (pre ++ g :: post))).tgt.get g.key = some (snapshotObj cfg t g.1 (g.2.take j)) ∧
    (∀ p ∈ pre ++ post, ∀ o, t.get p.key = some o →
      (runPlain .ignore cfg none t1 (flat (pre ++ g :: post))).tgt.get p.key = some o) ∧
    (∀ p ∈ pre ++ post, t.get p.key = none →
      (runPlain .ignore cfg none t1 (flat (pre ++ g :: post))).tgt.get p.key = some (snapshotObj cfg t p.1 p.2)) := by
  intro t1
  -- the first attempt, as a whole run over `pre ++ [truncated g]`
  have hg1 : ∀ x ∈ pre ++ [(g.1, g.2.take j)], GoodGroup x :=
    List.forall_mem_append.mpr ⟨fun x hx => hg x (List.mem_append_left _ hx),
      List.forall_mem_singleton.mpr (truncGroup_good g j (hg g (by simp)))⟩
  -- the keys of the first attempt are distinct, and none of them is a key of `post`
  have hnd : ((pre ++ [(g.1, g.2.take j)]).map KGroup.key ++ post.map KGroup.key).Nodup := by
    simpa [KGroup.key] using hk
  obtain ⟨hk1, _, hdisj⟩ := List.nodup_append.mp hnd
  obtain ⟨_, a2, a3, a4⟩ := ignore_whole cfg st t (pre ++ [(g.1, g.2.take j)]) hg1 hk1
  obtain ⟨i1, i2, i3⟩ := runPlain_inv .ignore cfg (flat (pre ++ [(g.1, g.2.take j)])) st t
  have hg_t1 : t1.get g.key = some (snapshotObj cfg t g.1 (g.2.take j)) :=
    a3 (g.1, g.2.take j) (by simp) habs
  have hpost_t1 : ∀ p ∈ post, t1.get p.key = t.get p.key := by
    intro p hp
    unfold Target.get
    rw [i1]
    exact a4 t.cur p.key fun h => hdisj _ h.2 _ (List.mem_map_of_mem (f := KGroup.key) hp) rfl
  obtain ⟨b1, b2, b3, _⟩ := ignore_whole cfg none t1 (pre ++ g :: post) hg hk
  refine ⟨b1, b2 g (by simp) _ hg_t1, ?_, ?_⟩
  · intro p hp o ho
    rcases List.mem_append.mp hp with hp | hp
    · exact b2 p (by simp [hp]) o (a2 p (by simp [hp]) o ho)
    · exact b2 p (by simp [hp]) o (by rw [hpost_t1 p hp]; exact ho)
  · intro p hp ho
    rcases List.mem_append.mp hp with hp | hp
    · exact b2 p (by simp [hp]) _ (a3 p (by simp [hp]) ho)
    · rw [b3 p (by simp [hp]) (by rw [hpost_t1 p hp]; exact ho), snap_eq cfg t t1 i2 i3]

/-- **error: once the first attempt has written anything, the rerun is stuck.**
    No key of the snapshot is on the original target; the first attempt replayed at
    least the first entry (`k + 1` entries) and died. Every rerun stops with the
    key-exists error at the FIRST key of the snapshot and changes nothing. -/
theorem rerun_error_stuck (cfg : Cfg) (st : RState) (t : Target) (g : KGroup) (gs : List KGroup) (k : Nat)
    (hg : ∀ x ∈ g :: gs, GoodGroup x) (hk : ((g :: gs).map KGroup.key).Nodup)
    (hnone : ∀ x ∈ g :: gs, t.get x.key = none) :
    let t1 := (runPlain .error cfg st t ((flat (g :: gs)).take (k + 1))).tgt
    (runPlain .error cfg none t1 (flat (g :: gs))).out = .errExists ∧
    (∀ d k', (runPlain .error cfg none t1 (flat (g :: gs))).tgt.ks d k' = t1.ks d k') := by
  intro t1
  have hcg := cutGroups_good (g :: gs) (k + 1) hg
  have hcn := cutGroups_nodup (g :: gs) (k + 1) hk
  have hsub := cutGroups_keys (g :: gs) (k + 1)
  obtain ⟨_, a2, _⟩ := error_whole_clean cfg st t (cutGroups (g :: gs) (k + 1)) hcg hcn (by
    intro x hx
    have : x.key ∈ (g :: gs).map KGroup.key := hsub.subset (List.mem_map_of_mem (f := KGroup.key) hx)
    obtain ⟨y, hy, hye⟩ := List.mem_map.mp this
    rw [← hye]; exact hnone y hy)
  rw [flat_cutGroups] at a2
  -- the first cut group has g's key
  have hfirst : ∃ x ∈ cutGroups (g :: gs) (k + 1), x.key = g.key := by
    simp only [cutGroups]
    split
    · exact ⟨(g.1, g.2.take k), by simp, rfl⟩
    · exact ⟨g, by simp, rfl⟩
  obtain ⟨x, hx, hxk⟩ := hfirst
  have hex : t1.get g.key = some (snapshotObj cfg t x.1 x.2) := by rw [← hxk]; exact a2 x hx
  obtain ⟨b1, _, b3⟩ := (whole_plain .error cfg none t1 (g :: gs) hg hk).2.2 [] g gs .errExists rfl (by simp)
    (plainEff_error_held cfg hex)
  exact ⟨b1, fun d k' => b3 d k' (by simp)⟩

/-! non-vacuity, on the example snapshot (`h` in three chunks, absent here; `i` in one) -/
def exTEmpty : Target := { exT with ks := fun _ _ => none }

example : ((runPlain .ignore exCfg none exTEmpty (flat ([] ++ [(exG1.1, exG1.2.take 0)]))).tgt.get [104])
    = some { val := .native [exCmd 49 49], exp := 5000 } := by decide
/-- `ignore`: the rerun after a first attempt that died between chunk 1 and chunk 2 of `h` ends ok with 1 of 3 chunks -/
example : (runPlain .ignore exCfg none (runPlain .ignore exCfg none exTEmpty (flat ([] ++ [(exG1.1, exG1.2.take 0)]))).tgt
      (flat ([] ++ exG1 :: [exG2]))).tgt.get [104] = some (snapshotObj exCfg exTEmpty exE0 []) :=
  (rerun_ignore_keeps_partial exCfg none exTEmpty [] [exG2] exG1 0 ex_good ex_nodup rfl).2.1
example : snapshotObj exCfg exTEmpty exE0 [] = { val := .native [exCmd 49 49], exp := 5000 } := by decide
example : snapshotObj exCfg exTEmpty exE0 [exE1, exE2] = { val := .native [exCmd 49 49, exCmd 50 50, exCmd 51 51], exp := 5000 } := by
  decide
example : (runPlain .ignore exCfg none (runPlain .ignore exCfg none exTEmpty [exE0]).tgt [exE0, exE1, exE2, exK]).out = .ok := by
  decide
/-- `replace`: the same interruption, the rerun restores the whole value -/
example : (runPlain .replace exCfg none (runPlain .replace exCfg none exTEmpty ((flat [exG1, exG2]).take 1)).tgt
      (flat [exG1, exG2])).tgt.get [104] = some (snapshotObj exCfg exTEmpty exE0 [exE1, exE2]) :=
  (rerun_replace_converges exCfg none exTEmpty [exG1, exG2] 1 ex_good ex_nodup).2.1 exG1 (List.mem_cons_self ..)
example : (runBisync .replace exCfg none (runBisync .replace exCfg none exTEmpty ((flat [exG1, exG2]).take 2)).tgt
      (flat [exG1, exG2])).tgt.get [104] = some (snapshotObj exCfg exTEmpty exE0 [exE1, exE2]) :=
  (rerun_replace_converges_bisync exCfg none exTEmpty [exG1, exG2] 2 ex_good ex_nodup (fun _ _ _ => rfl)).2.1 exG1 (List.mem_cons_self ..)
/-- `error`: the rerun fails on the key the first attempt wrote -/
example : (runPlain .error exCfg none (runPlain .error exCfg none exTEmpty ((flat (exG1 :: [exG2])).take (0 + 1))).tgt
      (flat (exG1 :: [exG2]))).out = .errExists :=
  (rerun_error_stuck exCfg none exTEmpty exG1 [exG2] 0 ex_good ex_nodup (by intro x _; rfl)).1

end GunYu.Props.C20
