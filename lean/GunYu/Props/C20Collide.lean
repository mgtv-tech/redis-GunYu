/-
  C20 — TWO SOURCE CELLS REPLAYED TO ONE TARGET CELL, decided.

  How it happens: `TargetDb ≥ 0` (every source DB goes into one: a cluster target forces TargetDb = 0) or a
  non-injective `TargetDbMap` with one key NAME in two source DBs; `replaceHashTag` with `{a}b` and `ab`.

  What the policy text demands. The configuration documents keyExists as "behaviour when the key already exists in
  the output"; the property says "a snapshot key that already exists on the target is handled according to the
  configured policy". Neither the tool nor the target records who created a key: when the second entry is replayed,
  the key the first entry of THIS run created exists on the target, so it IS an existing key for the second entry,
  and the policy applies to it literally — `replace`: the later entry replaces the earlier one (the cell ends with
  exactly the LATER snapshot value, nothing merged); `ignore`: the earlier value is kept untouched, the later entry is
  dropped; `error`: the run stops with the key-exists error before the cell is modified again. That is the only
  reading under which the three sentences of the property stay true at every entry; it is what ONE worker does
  (theorems below, from `seq_workerF_*`), and — with `sendRdb` routing every entry by the key it is replayed to
  (REPAIRED, /repo 630424b: before, `{a}b` and `ab` could go to two workers whose request sequences interleaved on
  the one key: merged values, D32) — what N workers do (Props/C20Conc.lean).

  STATUS of these theorems: they describe what the code does on inputs the property text does not speak about (it
  quantifies over snapshots whose keys are distinct and over keys the target held BEFORE the run); the reading above is the
  verifier's, chosen because the code implements it. The harness therefore treats the behaviour on a collision cell as a
  PIN (a difference shows as a broken tie naming it: request diff, ops c20pin / c20route), not as a violation of C20 — except
  a MERGED value (none of the snapshot values, monitor collide-merged) and a change of a cell the target held under
  ignore / error, which no reading allows.

  Consequence worth knowing (reported, not a finding): under `error` a configuration that maps two source cells to
  one target cell can never complete a full sync, even on an empty target (`collide_error_stops`).
-/
import GunYu.Props.C20Worker

namespace GunYu.Props.C20
open GunYu GunYu.Restore

/-- both worker loops at once (`hb`: bidirectional — where the RESTORE path is taken the target can load the payload) -/
theorem seq_workerF (w : WCfg) (b : Bool) (pol : Policy) (cfg : Cfg) (c : Nat) (st : RState) (t : Target) (gs : List KGroup)
    (es : List Entry) (hs : StreamOf es gs) (hc : t.cur = c) (hg : ∀ g ∈ gs, GoodGroup g ∧ g.oneDb)
    (ha : w.rht = true → ∀ g ∈ gs, ArgsOK g)
    (hb : b = true → ∀ g ∈ targetGroups w gs, useRestore cfg g.1 = true → t.bad g.key = false) :
    lastOut (runWorkerF w b pol cfg c st t es) = (polSeq pol (snapObj cfg t) t.ks (targetGroups w gs)).1 ∧
    (workerTarget t (runWorkerF w b pol cfg c st t es)).ks = (polSeq pol (snapObj cfg t) t.ks (targetGroups w gs)).2 := by
  cases b
  · exact seq_workerF_plain w pol cfg c st t gs es hs hc hg ha
  · exact seq_workerF_bisync w pol cfg c st t gs es hs hc hg ha (hb rfl)

/-- **replace**: a target cell that several groups are replayed to ends with exactly the value and expiry of the LAST
    of them (whatever the target held, whatever the earlier ones wrote); the run succeeds -/
theorem collide_replace_last_wins (w : WCfg) (b : Bool) (cfg : Cfg) (c : Nat) (st : RState) (t : Target) (gs : List KGroup)
    (es : List Entry) (hs : StreamOf es gs) (hc : t.cur = c) (hg : ∀ g ∈ gs, GoodGroup g ∧ g.oneDb)
    (ha : w.rht = true → ∀ g ∈ gs, ArgsOK g)
    (hb : b = true → ∀ g ∈ targetGroups w gs, useRestore cfg g.1 = true → t.bad g.key = false)
    (pre post : List KGroup) (g : KGroup) (hsplit : targetGroups w gs = pre ++ g :: post)
    (hlast : g.cell ∉ post.map KGroup.cell) :
    lastOut (runWorkerF w b .replace cfg c st t es) = .ok ∧
    (workerTarget t (runWorkerF w b .replace cfg c st t es)).ks g.dbn g.key = some (snapshotObj cfg t g.1 g.2) := by
  obtain ⟨h1, h2⟩ := seq_workerF w b .replace cfg c st t gs es hs hc hg ha hb
  rw [h1, h2, hsplit]
  exact ⟨polSeq_ok .replace _ (by simp) _ _, polSeq_replace_last (snapObj cfg t) pre post g t.ks hlast⟩

/-- **ignore**: whatever the target held at the start is exactly as it was, however many groups are replayed to it;
    the run succeeds -/
theorem collide_ignore_keeps (w : WCfg) (b : Bool) (cfg : Cfg) (c : Nat) (st : RState) (t : Target) (gs : List KGroup)
    (es : List Entry) (hs : StreamOf es gs) (hc : t.cur = c) (hg : ∀ g ∈ gs, GoodGroup g ∧ g.oneDb)
    (ha : w.rht = true → ∀ g ∈ gs, ArgsOK g)
    (hb : b = true → ∀ g ∈ targetGroups w gs, useRestore cfg g.1 = true → t.bad g.key = false) :
    lastOut (runWorkerF w b .ignore cfg c st t es) = .ok ∧
    ∀ d k o, t.ks d k = some o → (workerTarget t (runWorkerF w b .ignore cfg c st t es)).ks d k = some o := by
  obtain ⟨h1, h2⟩ := seq_workerF w b .ignore cfg c st t gs es hs hc hg ha hb
  rw [h1, h2]
  exact ⟨polSeq_ok .ignore _ (by simp) _ _, fun d k o ho => polSeq_ignore_keeps _ _ _ d k o ho⟩

/-- **ignore**: a target cell the target did not hold ends with exactly the value of the FIRST group replayed to it;
    the later groups of that cell are dropped (the first one's key is an existing key for them) -/
theorem collide_ignore_first_wins (w : WCfg) (b : Bool) (cfg : Cfg) (c : Nat) (st : RState) (t : Target) (gs : List KGroup)
    (es : List Entry) (hs : StreamOf es gs) (hc : t.cur = c) (hg : ∀ g ∈ gs, GoodGroup g ∧ g.oneDb)
    (ha : w.rht = true → ∀ g ∈ gs, ArgsOK g)
    (hb : b = true → ∀ g ∈ targetGroups w gs, useRestore cfg g.1 = true → t.bad g.key = false)
    (pre post : List KGroup) (g : KGroup) (hsplit : targetGroups w gs = pre ++ g :: post)
    (hfirst : g.cell ∉ pre.map KGroup.cell) (hnone : t.ks g.dbn g.key = none) :
    (workerTarget t (runWorkerF w b .ignore cfg c st t es)).ks g.dbn g.key = some (snapshotObj cfg t g.1 g.2) := by
  obtain ⟨_, h2⟩ := seq_workerF w b .ignore cfg c st t gs es hs hc hg ha hb
  rw [h2, hsplit]
  exact polSeq_ignore_first (snapObj cfg t) pre post g t.ks hfirst hnone

/-- **error**: the run stops with the key-exists error at the first group whose target cell the target held at the
    start OR an earlier group of this run wrote; the groups before it have been written, every other cell — that
    cell's current content included — is untouched. With two source cells on one target cell the full sync cannot
    succeed, even on an empty target. -/
theorem collide_error_stops (w : WCfg) (b : Bool) (cfg : Cfg) (c : Nat) (st : RState) (t : Target) (gs : List KGroup)
    (es : List Entry) (hs : StreamOf es gs) (hc : t.cur = c) (hg : ∀ g ∈ gs, GoodGroup g ∧ g.oneDb)
    (ha : w.rht = true → ∀ g ∈ gs, ArgsOK g)
    (hb : b = true → ∀ g ∈ targetGroups w gs, useRestore cfg g.1 = true → t.bad g.key = false)
    (pre post : List KGroup) (g : KGroup) (hsplit : targetGroups w gs = pre ++ g :: post)
    (hnd : (pre.map KGroup.cell).Nodup) (hnone : ∀ p ∈ pre, t.ks p.dbn p.key = none)
    (hheld : t.ks g.dbn g.key ≠ none ∨ g.cell ∈ pre.map KGroup.cell) :
    lastOut (runWorkerF w b .error cfg c st t es) = .errExists ∧
    (∀ p ∈ pre, (workerTarget t (runWorkerF w b .error cfg c st t es)).ks p.dbn p.key = some (snapshotObj cfg t p.1 p.2)) ∧
    (∀ d k, (d, k) ∉ pre.map KGroup.cell → (workerTarget t (runWorkerF w b .error cfg c st t es)).ks d k = t.ks d k) := by
  obtain ⟨h1, h2⟩ := seq_workerF w b .error cfg c st t gs es hs hc hg ha hb
  rw [h1, h2, hsplit]
  exact polSeq_error_stops (snapObj cfg t) pre post g t.ks hnd hnone hheld

/-! ## non-vacuity

  `h` (three chunks) in source DB 0 and `h` (RESTORE-sized) in source DB 1, `TargetDb = 0`: both are replayed to the
  cell (0, h). `exT` holds (0, h); `exTE` is empty. -/

def exWT : WCfg := { targetDb := 0 }

theorem exWT_groups : targetGroups exWT [exG1, exG3] = [] ++ mapG exWT exG1 :: [mapG exWT exG3] := rfl
theorem exWT_groups' : targetGroups exWT [exG1, exG3] = [mapG exWT exG1] ++ mapG exWT exG3 :: [] := rfl
theorem exWT_args : exWT.rht = true → ∀ g ∈ [exG1, exG3], ArgsOK g := nofun
theorem ex_streamC : StreamOf [exAux, exE0, exE1, exE2, exFn, exAux1, exR1] [exG1, exG3] := ex_streamW

example : (mapG exWT exG1).cell = (0, [104]) ∧ (mapG exWT exG3).cell = (0, [104]) := by decide
-- replace: the LATER value (DB 1's `h`, RESTOREd) is what the cell ends with — plain and bidirectional
example : (workerTarget exT (runWorkerF exWT false .replace exCfg 0 none exT [exAux, exE0, exE1, exE2, exFn, exAux1, exR1])).ks 0 [104]
    = some (snapshotObj exCfg exT (mapG exWT exG3).1 (mapG exWT exG3).2) :=
  (collide_replace_last_wins exWT false exCfg 0 none exT [exG1, exG3] _ ex_streamC rfl ex_goodW exWT_args nofun
    [mapG exWT exG1] [] (mapG exWT exG3) exWT_groups' List.not_mem_nil).2
example : (workerTarget exT (runWorkerF exWT true .replace exCfg 0 none exT [exAux, exE0, exE1, exE2, exFn, exAux1, exR1])).ks 0 [104]
    = some { val := .restored [4, 3], exp := 5000 } := by decide
-- ignore on the empty target: the FIRST value (DB 0's `h`, three chunks) stays, DB 1's `h` is dropped
example : (workerTarget exTE (runWorkerF exWT false .ignore exCfg 0 none exTE [exAux, exE0, exE1, exE2, exFn, exAux1, exR1])).ks 0 [104]
    = some (snapshotObj exCfg exTE (mapG exWT exG1).1 (mapG exWT exG1).2) :=
  collide_ignore_first_wins exWT false exCfg 0 none exTE [exG1, exG3] _ ex_streamC rfl ex_goodW exWT_args nofun
    [] [mapG exWT exG3] (mapG exWT exG1) exWT_groups List.not_mem_nil rfl
example : (workerTarget exTE (runWorkerF exWT false .ignore exCfg 0 none exTE [exAux, exE0, exE1, exE2, exFn, exAux1, exR1])).ks 0 [104]
    = some { val := .native [exCmd 49 49, exCmd 50 50, exCmd 51 51], exp := 5000 } := by decide
-- ignore on the target that holds `h`: its own value stays
example : (workerTarget exT (runWorkerF exWT false .ignore exCfg 0 none exT [exAux, exE0, exE1, exE2, exFn, exAux1, exR1])).ks 0 [104]
    = some { val := .old 0, exp := 777 } :=
  (collide_ignore_keeps exWT false exCfg 0 none exT [exG1, exG3] _ ex_streamC rfl ex_goodW exWT_args nofun).2 0 [104] _ rfl
-- error on the EMPTY target: the run fails on the key its own first group wrote; that value stays
example : lastOut (runWorkerF exWT false .error exCfg 0 none exTE [exAux, exE0, exE1, exE2, exFn, exAux1, exR1]) = .errExists :=
  (collide_error_stops exWT false exCfg 0 none exTE [exG1, exG3] _ ex_streamC rfl ex_goodW exWT_args nofun
    [mapG exWT exG1] [] (mapG exWT exG3) exWT_groups' (by decide) (by intro p hp; simp at hp; subst hp; rfl)
    (Or.inr (by decide))).1
example : (workerTarget exTE (runWorkerF exWT true .error exCfg 0 none exTE [exAux, exE0, exE1, exE2, exFn, exAux1, exR1])).ks 0 [104]
    = some { val := .native [exCmd 49 49, exCmd 50 50, exCmd 51 51], exp := 5000 } := by decide
-- the requests of the colliding run under `error` (plain): with TargetDb = 0 the connection never leaves DB 0 (no SELECT);
-- the second `h` is probed by its RESTORE and refused
example : (runWorkerF exWT false .error exCfg 0 none exTE [exE0, exE1, exE2, exAux1, exR1]).flatMap (·.1)
    = [Req.exists [104], Req.data (exCmd 49 49), Req.pexpire [104] 4000, Req.data (exCmd 50 50), Req.pexpire [104] 4000,
       Req.data (exCmd 51 51), Req.restore [104] 4000 [4, 3] [] false] := by decide

/-! `{h}` and `h` under replaceHashTag: both are replayed to `h` -/
def exWH : WCfg := { rht := true }
def exPlainH : KGroup := ({ exR with cmds := [exCmd 49 49] }, [])
theorem exTag_goodW : ∀ g ∈ [exTagG, exPlainH], GoodGroup g ∧ g.oneDb :=
  forall_mem_pair ⟨exTagG_good, by unfold KGroup.oneDb; decide⟩ ⟨goodGroup_of_checks (by decide), by unfold KGroup.oneDb; decide⟩
theorem exTag_args : exWH.rht = true → ∀ g ∈ [exTagG, exPlainH], ArgsOK g :=
  fun _ => forall_mem_pair exTagG_args (by unfold ArgsOK; decide)
example : ((targetGroups exWH [exTagG, exPlainH]).map KGroup.cell) = [(0, [104]), (0, [104])] := by decide
theorem exTag_stream : StreamOf (flat [exTagG, exPlainH]) [exTagG, exPlainH] := by unfold StreamOf; decide
example : (workerTarget exTE (runWorkerF exWH false .replace exCfg 0 none exTE (flat [exTagG, exPlainH]))).ks 0 [104]
    = some (snapshotObj exCfg exTE (mapG exWH exPlainH).1 (mapG exWH exPlainH).2) :=
  (collide_replace_last_wins exWH false exCfg 0 none exTE [exTagG, exPlainH] _ exTag_stream rfl exTag_goodW exTag_args nofun
    [mapG exWH exTagG] [] (mapG exWH exPlainH) rfl List.not_mem_nil).2

/-! instances of the theorems of Props/C20Worker.lean: a black-listed DB and a filtered key -/
def exWF : WCfg := { filterDb := fun d => d == 1, dbMap := [(0, 2)] }
theorem exWF_args : exWF.rht = true → ∀ g ∈ [exG1, exG3], ArgsOK g := nofun
example : targetGroups exWF [exG1, exG3] = [mapG exWF exG1] := rfl
example : (mapG exWF exG1).cell = (2, [104]) := by decide
-- DB 1 is black-listed: its `h` is not replayed, DB 0's `h` goes to DB 2; the target's (0, h) and DB 1 are untouched
example : (workerTarget exT (runWorkerF exWF false .replace exCfg 0 none exT [exAux, exE0, exE1, exE2, exFn, exAux1, exR1])).ks 0 [104]
    = exT.ks 0 [104] :=
  filtered_untouched exWF false .replace exCfg 0 none exT [exG1, exG3] _ ex_streamC rfl ex_goodW exWF_args
    0 [104] (by decide)
example : (workerTarget exT (runWorkerF exWF true .replace exCfg 0 none exT [exAux, exE0, exE1, exE2, exFn, exAux1, exR1])).ks 1 [104]
    = none :=
  filtered_untouched exWF true .replace exCfg 0 none exT [exG1, exG3] _ ex_streamC rfl ex_goodW exWF_args
    1 [104] (by decide)
-- … also when the kept groups collide (TargetDb 0: both `h` on one cell): DB 1 stays empty
example : (workerTarget exT (runWorkerF exWT true .ignore exCfg 0 none exT [exAux, exE0, exE1, exE2, exFn, exAux1, exR1])).ks 1 [104]
    = none :=
  filtered_untouched exWT true .ignore exCfg 0 none exT [exG1, exG3] _ ex_streamC rfl ex_goodW exWT_args 1 [104] (by decide)
-- the bidirectional loop with a DB black list and a map
example : lastOut (runWorkerF exWF true .replace exCfg 0 none exT [exAux, exE0, exE1, exE2, exFn, exAux1, exR1]) = .ok :=
  (replace_whole_workerF_bisync exWF exCfg 0 none exT [exG1, exG3] _ ex_streamC rfl ex_goodW exWF_args (by decide)
    (fun _ _ _ => rfl)).1
example : (workerTarget exT (runWorkerF exWF true .ignore exCfg 0 none exT [exAux, exE0, exE1, exE2, exFn, exAux1, exR1])).ks 2 [104]
    = some (snapshotObj exCfg exT (mapG exWF exG1).1 (mapG exWF exG1).2) :=
  (ignore_whole_workerF_bisync exWF exCfg 0 none exT [exG1, exG3] _ ex_streamC rfl ex_goodW exWF_args (by decide)
    (fun _ _ _ => rfl)).2.2 (mapG exWF exG1) (List.mem_cons_self ..) rfl
example : (workerTarget exT (runWorkerF exWF false .replace exCfg 0 none exT [exAux, exE0, exE1, exE2, exFn, exAux1, exR1])).ks 2 [104]
    = some (snapshotObj exCfg exT (mapG exWF exG1).1 (mapG exWF exG1).2) :=
  (replace_whole_workerF exWF exCfg 0 none exT [exG1, exG3] _ ex_streamC rfl ex_goodW exWF_args (by decide)).2
    (mapG exWF exG1) (List.mem_cons_self ..)
-- a filtered KEY in a new DB still costs the SELECT (and nothing else)
def exWK : WCfg := { filterKey := fun k => k == [104] }
example : (runWorkerF exWK false .replace exCfg 0 none exT [exE0, exE1, exE2, exR1]).flatMap (·.1) = [Req.select 1] := by decide
example : (runWorkerF exWF false .replace exCfg 0 none exT [exR1, exE0]).flatMap (·.1)
    = [Req.select 2, Req.exists [104], Req.data (exCmd 49 49), Req.pexpire [104] 4000] := by decide
example : lastOut (runWorkerF exWF false .ignore exCfg 0 none exT [exAux, exE0, exE1, exE2, exFn, exAux1, exR1]) = .ok :=
  (ignore_whole_workerF exWF exCfg 0 none exT [exG1, exG3] _ ex_streamC rfl ex_goodW exWF_args (by decide)).1
example : ∀ d k, (d, k) ∉ (targetGroups exWF [exG1, exG3]).map KGroup.cell →
    (workerTarget exT (runWorkerF exWF true .error exCfg 0 none exT [exAux, exE0, exE1, exE2, exFn, exAux1, exR1])).ks d k = exT.ks d k :=
  (whole_workerF_bisync exWF .error exCfg 0 none exT [exG1, exG3] _ ex_streamC rfl ex_goodW exWF_args (by decide)).1
example : lastOut (runWorkerF exWF false .error exCfg 0 none exT [exAux, exE0, exE1, exE2, exFn, exAux1, exR1])
    = (polSeq .error (snapObj exCfg exT) exT.ks (targetGroups exWF [exG1, exG3])).1 :=
  (seq_workerF_plain exWF .error exCfg 0 none exT [exG1, exG3] _ ex_streamC rfl ex_goodW exWF_args).1
example : (workerTarget exT (runWorkerF exWT true .replace exCfg 0 none exT [exAux, exE0, exE1, exE2, exFn, exAux1, exR1])).ks
    = (polSeq .replace (snapObj exCfg exT) exT.ks (targetGroups exWT [exG1, exG3])).2 :=
  (seq_workerF_bisync exWT .replace exCfg 0 none exT [exG1, exG3] _ ex_streamC rfl ex_goodW exWT_args (fun _ _ _ => rfl)).2

end GunYu.Props.C20
