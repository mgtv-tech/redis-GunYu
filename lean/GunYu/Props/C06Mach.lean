/-
  C06 — the whole loop as ONE machine (Model/PsyncMach.lean): every constructor of `Loop` is an event.

  A. which source can grant what: the request carries INFO's ids, so a source sharing none of them answers
     FULLRESYNC (the premise of `Loop.fullBy`); a source sharing only INFO's PREVIOUS id (a sibling promoted
     from the same parent) is the one combination left outside the model - a server's replid2 is its own
     former replid, so it cannot arise on one connection.
  B. every event list stays inside `Loop`: `loop_safe` / `loop_safe_stale` hold for the next attempt.
  C. collector passes between the readings of `syncMeta` (`GcSched`): proved under every schedule - the
     request is the writer's start + 1, a log reader starts at the stored offset under a served id, never
     after FULLRESYNC or in branch 4; NOT proved - the full outcome `gc_schedule_safe_stmt`.
-/
import GunYu.Props.C06Att
import GunYu.Model.PsyncMach

namespace GunYu.Props.C06
open GunYu GunYu.Psync

/-! ## A. which source can grant what -/

/-- **the request carries INFO's ids**: one of the two ids INFO reported, or "?" -/
theorem request_id_of_info (sI : Source) (sp : SP) (c : Cache) :
    (reqOf sI sp c).1 = sI.id1 ∨ (reqOf sI sp c).1 = sI.id2 ∨ (reqOf sI sp c).1 = qId :=
  (decisionL_row sI sp c (c.startPoint [sI.id1, sI.id2])).reqId

theorem admit_foreign (sP : Source) (id : Id) (off : Int) (h1 : id ≠ sP.id1) (h2 : id ≠ sP.id2) :
    admitPsync sP id off = .full sP.id1 sP.masterOff := by
  unfold admitPsync
  rw [if_pos ⟨h1, Or.inl h2⟩]

/-- **any other source answers FULLRESYNC**: PSYNC answered by a source that has none of INFO's ids
    (unrelated, or two and more fail-overs away) - whatever the stored position and the cache, the
    request is refused and the reply is `+FULLRESYNC <its id> <its offset>` -/
theorem other_source_answers_full (sI sP : Source) (hP : SourceWF sP) (sp : SP) (c : Cache)
    (h11 : sP.id1 ≠ sI.id1) (h12 : sP.id1 ≠ sI.id2) (h21 : sP.id2 ≠ sI.id1) (h22 : sP.id2 ≠ sI.id2) :
    admitPsync sP (reqOf sI sp c).1 (reqOf sI sp c).2 = .full sP.id1 sP.masterOff := by
  apply admit_foreign
  · rcases request_id_of_info sI sp c with e | e | e <;> rw [e]
    · exact Ne.symm h11
    · exact Ne.symm h12
    · exact Ne.symm hP.id1_nq
  · rcases request_id_of_info sI sp c with e | e | e <;> rw [e]
    · exact Ne.symm h21
    · exact Ne.symm h22
    · exact Ne.symm hP.id2_nq

/-- **the one combination outside the model**: a source sharing only INFO's previous id refuses
    every request that is not made under that previous id -/
theorem sibling_only_under_prev (sI sP : Source) (hP : SourceWF sP) (sp : SP) (c : Cache)
    (h11 : sP.id1 ≠ sI.id1) (h21 : sP.id2 ≠ sI.id1)
    (hreq : (reqOf sI sp c).1 ≠ sI.id2) :
    admitPsync sP (reqOf sI sp c).1 (reqOf sI sp c).2 = .full sP.id1 sP.masterOff := by
  apply admit_foreign
  · rcases request_id_of_info sI sp c with e | e | e
    · rw [e]; exact Ne.symm h11
    · exact absurd e hreq
    · rw [e]; exact Ne.symm hP.id1_nq
  · rcases request_id_of_info sI sp c with e | e | e
    · rw [e]; exact Ne.symm h21
    · exact absurd e hreq
    · rw [e]; exact Ne.symm hP.id2_nq

/-- non-vacuity: the cache of `cC` under id [1], stored position (1,150): the request is `[1] 181`;
    a source with ids [7],[8] refuses it -/
example : reqOf s0 ⟨[1], 150⟩ cC = ([1], 181) ∧
    admitPsync ⟨[7], [8], 100, true, 50, 151, 200, 10, true⟩ (reqOf s0 ⟨[1], 150⟩ cC).1 (reqOf s0 ⟨[1], 150⟩ cC).2
      = .full [7] 200 := by decide

/-! ## B. the machine stays inside `Loop` -/

theorem stepX_loop (w : World) (r : RunSt) (ev : EvX) (h : Loop w r.sys) (hok : ev.ok w r.sys) :
    Loop w (stepX w r ev).sys := by
  cases ev with
  | att resume p st fin => exact runStep_loop w r _ h hok
  | stale sP resume p st fin =>
    obtain ⟨hP, hag, h2, h3, h4, h5, h6, hfit⟩ := hok
    simp only [stepX]
    split
    · exact h
    · split
      · exact finish_loop (fun c => Loop.stale r.sys sP resume .early c h hP hag h2 h3 h4 h5 h6 trivial) _ _ _
      · exact finish_loop (fun c => Loop.stale r.sys sP resume st c h hP hag h2 h3 h4 h5 h6 hfit) _ _ _
  | «foreign» s' resume p st fin =>
    obtain ⟨hs', hag, h1, h2, h3, h4, hfit⟩ := hok
    simp only [stepX]
    split
    · exact h
    · split
      · exact finish_loop (fun c => Loop.fullBy r.sys s' resume .early c h hs' hag h1 h2 h3 h4 trivial) _ _ _
      · exact finish_loop (fun c => Loop.fullBy r.sys s' resume st c h hs' hag h1 h2 h3 h4 hfit) _ _ _
  | same s' =>
    obtain ⟨hs', hag, h1, h2⟩ := hok
    exact Loop.same r.sys s' h hs' hag h1 h2
  | change s' =>
    obtain ⟨hs', hag, h1, h2, h3, h4⟩ := hok
    exact Loop.change r.sys s' h hs' hag h1 h2 h3 h4
  | gc c' => exact Loop.gc r.sys c' h hok
  | cacheLost c' d' =>
    obtain ⟨hc, hk, hn⟩ := hok
    exact Loop.cache r.sys c' d' h hc hk hn
  | forget sp' => exact Loop.forget r.sys sp' h hok
  | sleep => exact h
  | stop => exact h

/-- **the machine stays inside `Loop`** for every event list whose events meet the premises of the
    corresponding `Loop` constructor in the state they happen in -/
theorem runX_in_loop (w : World) (r : RunSt) (h : Loop w r.sys) (evs : List EvX) (hok : okPath w r evs) :
    Loop w (runLoopX w r evs).sys := by
  induction evs generalizing r with
  | nil => exact h
  | cons ev rest ih =>
    show Loop w (runLoopX w (stepX w r ev) rest).sys
    exact ih _ (stepX_loop w r ev h hok.1) hok.2

/-- hence the invariant, and the property for the NEXT attempt against the source the machine ended with -/
theorem runX_safe (w : World) (r : RunSt) (h : Loop w r.sys) (evs : List EvX) (hok : okPath w r evs)
    (start : Int) (byte : Int → UInt8)
    (hd : (run w (runLoopX w r evs).sys.s (runLoopX w r evs).sys.t.stored (runLoopX w r evs).sys.c (runLoopX w r evs).sys.d).delivery
      = .stream start byte) :
    start = (runLoopX w r evs).sys.t.stored.offset ∧
      ∃ tid, (runLoopX w r evs).sys.t.truth = .at tid start ∧ AgreeBelow w tid (runLoopX w r evs).sys.s.id1 start ∧
        ∀ n, start ≤ n → byte n = w.hist (runLoopX w r evs).sys.s.id1 n :=
  loop_safe w _ (runX_in_loop w r h evs hok) start byte hd

/-- … and when that next attempt's PSYNC is answered by a successor `sP` of the source that answers INFO -/
theorem runX_safe_stale (w : World) (r : RunSt) (h : Loop w r.sys) (evs : List EvX) (hok : okPath w r evs)
    (sP : Source) (hP : SourceWF sP) (hagP : Agree w sP) (hS : Successor (runLoopX w r evs).sys sP)
    (hnf : (run (viewWorld w (runLoopX w r evs).sys.s sP) (mix (runLoopX w r evs).sys.s sP) (runLoopX w r evs).sys.t.stored
      (runLoopX w r evs).sys.c (runLoopX w r evs).sys.d).mt.ps.full = false)
    (start : Int) (byte : Int → UInt8)
    (hd : (run (viewWorld w (runLoopX w r evs).sys.s sP) (mix (runLoopX w r evs).sys.s sP) (runLoopX w r evs).sys.t.stored
      (runLoopX w r evs).sys.c (runLoopX w r evs).sys.d).delivery = .stream start byte) :
    start = (runLoopX w r evs).sys.t.stored.offset ∧ start ≤ sP.switchOff ∧
      ∃ tid, (runLoopX w r evs).sys.t.truth = .at tid start ∧ AgreeBelow w tid sP.id1 start ∧
        ∀ n, start ≤ n → byte n = w.hist sP.id1 n :=
  (loop_safe_stale w _ (runX_in_loop w r h evs hok) sP hP hagP hS hnf).1 start byte hd

theorem stepX_stopped (w : World) (r : RunSt) (hr : r.stopped = true) (ev : EvX) :
    (stepX w r ev).stopped = true ∧ (stepX w r ev).attempts = r.attempts := by
  cases ev <;> simp [stepX, runStep, hr]

/-- **no attempt after the loop was left**: the world goes on, the number of attempts does not -/
theorem runX_stopped_attempts (w : World) (r : RunSt) (hr : r.stopped = true) (evs : List EvX) :
    (runLoopX w r evs).stopped = true ∧ (runLoopX w r evs).attempts = r.attempts := by
  induction evs generalizing r with
  | nil => exact ⟨hr, rfl⟩
  | cons ev rest ih =>
    obtain ⟨h1, h2⟩ := stepX_stopped w r hr ev
    have := ih _ h1
    show (runLoopX w (stepX w r ev) rest).stopped = true ∧ (runLoopX w (stepX w r ev) rest).attempts = r.attempts
    rw [← h2]
    exact this

/-- non-vacuity: from `l2` (C06Loop: first full sync done, source at 230): a collector pass, a stale
    attempt answered by the successor `sP0` (+CONTINUE [3], replay up to 235), the back-off, then an
    attempt against `sP0` whose Send ends fatally: two attempts, loop left, position (1,235) -/
def evsX : List EvX :=
  [.gc ⟨.memory, [1], some (200, 10), some (200, 230)⟩, .stale sP0 true {} (.delivered false 235 10) .plain, .sleep,
   .att true { dial := false } .early .fatal, .att true {} (.delivered true 0 5) .plain]

theorem machine_example :
    Loop w0 (runLoopX w0 ⟨l2, false, 0⟩ evsX).sys ∧ (runLoopX w0 ⟨l2, false, 0⟩ evsX).attempts = 2 ∧
      (runLoopX w0 ⟨l2, false, 0⟩ evsX).stopped = true ∧ (runLoopX w0 ⟨l2, false, 0⟩ evsX).sys.t.stored = ⟨[1], 235⟩ := by
  have e2 : l2.c = ⟨.memory, [1], some (200, 10), some (200, 230)⟩ := by decide
  refine ⟨runX_in_loop w0 ⟨l2, false, 0⟩ loop_l2 evsX ?_, by decide, by decide, by decide⟩
  refine ⟨?_, ⟨sP0_wf, w0_agree_P, rfl, by decide, by decide, by decide, by decide, by decide, by decide⟩, trivial, trivial, ?_, trivial⟩
  · show Collected l2.c _
    rw [e2]
    exact ⟨rfl, rfl, Or.inl rfl, Or.inr ⟨200, rfl, by decide, by decide⟩, fun _ h => absurd rfl h⟩
  · exact ⟨by decide, by decide⟩

/-! ## C. collector passes between the readings of `syncMeta` -/

/-- **the request is the byte after the writer's start, under every collector schedule**: whatever
    images of the cache `IsValidOffset`, `GetRdb` and `DelRunId`/`SetRunId` see (no well-formedness, no
    relation between them is needed), a continuation that the source grants was asked for with
    `writer start + 1`: the bytes the source streams are stored at the offsets they have. -/
theorem gc_request_is_writer_start (s : Source) (hs : SourceWF s) (sp : SP) (c0 : Cache) (g : GcSched)
    (hnf : (syncMetaG s sp c0 g).ps.full = false) :
    (syncMetaG s sp c0 g).ps.wireOff = (syncMetaG s sp c0 g).locSp.offset + 1 ∧
      0 ≤ (syncMetaG s sp c0 g).locSp.offset := by
  have hrow := decisionG_row s sp c0 g
  simp only [syncMetaG] at hnf ⊢
  generalize decisionG s sp c0 g = dc at hrow hnf ⊢
  rw [hnf]
  simp only [Bool.false_eq_true, if_false]
  -- in every row the writer starts at the offset the request was made with
  cases hrow with
  | keep _ _ _ => exact ⟨(sendPSync_cont hs hnf).2.1, (sendPSync_cont hs hnf).1⟩
  | clear _ _ _ =>
    simp only at hnf ⊢
    rw [hnf]
    exact ⟨(sendPSync_cont hs hnf).2.1, (sendPSync_cont hs hnf).1⟩
  | snapFull _ _ _ hf => rw [hf] at hnf; cases hnf
  | snap _ _ _ hf => exact ⟨(sendPSync_cont hs hf).2.1, (sendPSync_cont hs hf).1⟩
  | fresh _ _ => rw [qId_not_admitted hs (-1)] at hnf; cases hnf

/-- without a pass the scheduled model is `syncMeta` (for a well-formed cache the old second reading
    of branch 4 equals the first: `branch4_writer_offset`) -/
theorem gc_none_eq (s : Source) (hs : SourceWF s) (sp : SP) (c : Cache) (hc : CacheWF c) :
    syncMetaG s sp c (GcSched.none c) = syncMeta s sp c := by
  have hd : decisionG s sp c (GcSched.none c) = decision s sp c :=
    table_loc4 s sp _ _ _ fun hL hr => by
      rw [branch4_writer_offset s hs c hc (contains_ids.mpr hL) hr]
  unfold syncMetaG syncMeta
  rw [hd]
  rfl

/-- the defect N9 in this model: the code before 23dcc75 read the cache again after the round trip
    (`GetOffsetRange` on the image `c3`); with everything collected after `GetRdb` that reading is -1
    while PSYNC was sent with `latest + 1` -/
theorem gc_old_second_read_breaks :
    let c0 : Cache := ⟨.disk, [1], some (120, 30), some (120, 180)⟩
    let c3 : Cache := ⟨.disk, [1], none, none⟩
    Collected c0 c3 ∧ (c3.getOffsetRange [1]).2 = -1 ∧
      (syncMetaG s0 SP.initial c0 ⟨c0, c0, c3⟩).ps.wireOff = 181 ∧
      (syncMetaG s0 SP.initial c0 ⟨c0, c0, c3⟩).locSp.offset = 180 ∧
      (syncMetaG s0 SP.initial c0 ⟨c0, c0, c3⟩).branch = 4 := by
  refine ⟨⟨rfl, rfl, Or.inr rfl, Or.inl rfl, fun _ _ => rfl⟩, by decide, by decide, by decide, by decide⟩

/-! ### the reader under a schedule: what is proved and what is not -/

/-- **proved part**: under every collector schedule, on whatever image `c5` of the cache the reader is
    created, a LOG reader of an attempt that was granted a continuation in branches 1-3 starts exactly
    at the stored offset (a later pass can only make `NewReader` refuse, never move the start) -/
theorem gc_reader_start_partial (s : Source) (sp : SP) (c0 : Cache) (g : GcSched)
    (hnf : (syncMetaG s sp c0 g).ps.full = false) (hb : (syncMetaG s sp c0 g).branch ≠ 4) (c5 : Cache) (o : Int)
    (h : openReader c5 (syncMetaG s sp c0 g).outSp.offset = .aof o) : o = sp.offset := by
  rw [(openReader_aof_inv h).1]
  simp only [syncMetaG] at hnf hb ⊢
  rw [hnf]
  simp only [Bool.false_eq_true, if_false]
  exact (decisionG_row s sp c0 g).outOff hb

/-- **proved part, with the id**: under every schedule a log reader handed over after a granted
    continuation outside branch 4 starts at the stored offset AND the stored id is one the source serves -/
theorem gc_log_reader_partial (s : Source) (hs : SourceWF s) (sp : SP) (c0 : Cache) (g : GcSched)
    (hnf : (syncMetaG s sp c0 g).ps.full = false) (hb : (syncMetaG s sp c0 g).branch ≠ 4) (c5 : Cache) (o : Int)
    (h : openReader c5 (syncMetaG s sp c0 g).outSp.offset = .aof o) :
    o = sp.offset ∧ (sp.runId = s.id1 ∨ sp.runId = s.id2) :=
  ⟨gc_reader_start_partial s sp c0 g hnf hb c5 o h, (decisionG_row s sp c0 g).served hs hnf hb⟩

theorem later_rdb {c c' : Cache} (h : c' = c ∨ Collected c c') {p : Int × Int} (hp : c'.rdb = some p) : c.rdb = some p := by
  rcases h with e | hcol
  · rw [← e]; exact hp
  · exact hcol.rdb_of hp

theorem later_aof {c c' : Cache} (h : c' = c ∨ Collected c c') {l' r' : Int} (hp : c'.aof = some (l', r')) :
    ∃ l, c.aof = some (l, r') ∧ l ≤ l' := by
  rcases h with e | hcol
  · exact ⟨l', by rw [← e]; exact hp, Int.le_refl _⟩
  · obtain ⟨l, e, h1, _⟩ := hcol.aof_of hp
    exact ⟨l, e, h1⟩

/-- **proved part, FULLRESYNC**: under every collector schedule (the image `c3` that DelRunId / SetRunId see
    well-formed - `collected_wf`), after a FULLRESYNC the cache the writer opens holds exactly the announced
    snapshot and no log, and on that cache or any later collector image of it `NewReader` NEVER opens a log
    reader: it hands over the snapshot just announced `(masterOff, snapLen)` or refuses -/
theorem gc_full_reader_partial (s : Source) (hs : SourceWF s) (sp : SP) (c0 : Cache) (g : GcSched) (hc3 : CacheWF g.c3)
    (hf : (syncMetaG s sp c0 g).ps.full = true) (c5 : Cache)
    (h5 : c5 = (openWriter (syncMetaG s sp c0 g)).2 ∨ Collected (openWriter (syncMetaG s sp c0 g)).2 c5) :
    (openWriter (syncMetaG s sp c0 g)).2 = ⟨g.c3.backend, s.id1, some (s.masterOff, s.snapLen), none⟩ ∧
    (∀ o, openReader c5 (syncMetaG s sp c0 g).outSp.offset ≠ .aof o) ∧
    (∀ left size, openReader c5 (syncMetaG s sp c0 g).outSp.offset = .rdb left size →
      left = s.masterOff ∧ size = s.snapLen) := by
  have hfd : (decisionG s sp c0 g).ps.full = true := hf
  obtain ⟨hrid, hoff, hsz⟩ := (decisionG_row s sp c0 g).full hfd
  have hcache : (syncMetaG s sp c0 g).cache = ⟨g.c3.backend, s.id1, none, none⟩ := by
    simp only [syncMetaG, hrid, hfd, Bool.true_or, if_true]
    exact del_set_cleared hc3 hs.id1_ne hs.id1_nq
  have hw : (openWriter (syncMetaG s sp c0 g)).2 = ⟨g.c3.backend, s.id1, some (s.masterOff, s.snapLen), none⟩ := by
    simp only [openWriter, hf, if_true, hcache]
    simp only [syncMetaG, hoff, hsz, hfd, if_true]
  refine ⟨hw, ?_⟩
  refine ⟨fun o h => ?_, fun left size h => ?_⟩
  · obtain ⟨_, l, r, e, _⟩ := openReader_aof_inv h
    obtain ⟨_, e0, _⟩ := later_aof h5 e
    rw [hw] at e0; cases e0
  · have e := later_rdb h5 (openReader_rdb_inv h).1
    rw [hw] at e; cases e
    exact ⟨rfl, rfl⟩

/-! #### branch 4 under a schedule: the cached snapshot, never a log reader -/

theorem setRunId_aof (c : Cache) (id : Id) : (c.setRunId id).aof = c.aof ∨ (c.setRunId id).aof = none := by
  obtain ⟨be, rid, rdb, aof⟩ := c
  cases be
  · simp only [Cache.setRunId]
    split
    · exact Or.inl rfl
    · split
      · exact Or.inr rfl
      · exact Or.inl rfl
  · exact Or.inl rfl

theorem openWriter_aof_left {m : Meta} (hnf : m.ps.full = false) {l r : Int} (h : (openWriter m).2.aof = some (l, r)) :
    (∃ r', m.cache.aof = some (l, r')) ∨ l = m.locSp.offset := by
  unfold openWriter at h
  rw [if_neg (by rw [hnf]; decide)] at h
  split at h
  · split at h <;> exact .inl ⟨_, h⟩
  · cases h; exact .inr rfl

/-- **proved part, branch 4**: under every schedule whose images are successive collector images of a
    well-formed cache, an attempt without stored position that was granted a continuation behind the cached
    snapshot never opens a LOG reader: on the cache the writer opened, or any later collector image of it, the
    reader at `left - size` is the cached snapshot reader or is refused - the log starts at or behind the
    snapshot's offset in every image. (Not proved: that the snapshot handed over is still followed by its log.) -/
theorem gc_branch4_reader_partial (s : Source) (hs : SourceWF s) (sp : SP) (c0 : Cache) (g : GcSched) (hc0 : CacheWF c0) (hc2 : CacheWF g.c2)
    (hok : g.ok c0) (hb : (syncMetaG s sp c0 g).branch = 4) (hnf : (syncMetaG s sp c0 g).ps.full = false) (c5 : Cache)
    (h5 : c5 = (openWriter (syncMetaG s sp c0 g)).2 ∨ Collected (openWriter (syncMetaG s sp c0 g)).2 c5) (o : Int) :
    openReader c5 (syncMetaG s sp c0 g).outSp.offset ≠ .aof o := by
  have hbd : (decisionG s sp c0 g).branch = 4 := hb
  have hfd : (decisionG s sp c0 g).ps.full = false := hnf
  obtain ⟨hrdb, hcl, hloc, hout, hcont⟩ := (decisionG_row s sp c0 g).branch4 hbd hfd
  -- the snapshot GetRdb saw
  have hr2 := getRdb_some hrdb.1
  obtain ⟨left, size, hget⟩ : ∃ left size, g.c2.getRdb (c0.startPoint [s.id1, s.id2]).runId = (left, size) := ⟨_, _, rfl⟩
  rw [hget] at hr2
  have hsz := (hc2.rdb_bounds hr2).2.1
  -- it is the snapshot of c0 too, so c0's newest offset is not before it
  have hr1 := later_rdb hok.s2 hr2
  have hr0 := later_rdb hok.s1 hr1
  have hlat : left ≤ c0.latest := hc0.left_le_latest hr0
  have hoff : (syncMetaG s sp c0 g).outSp.offset = left - size := by
    simp only [syncMetaG, hfd, Bool.false_eq_true, if_false, hout, hget]
  have hlo : (syncMetaG s sp c0 g).locSp.offset = (c0.startPoint [s.id1, s.id2]).offset := by
    simp only [syncMetaG, hfd, Bool.false_eq_true, if_false, hloc]
  -- the log of the cache the writer opened starts at or behind `left`
  have hcache : (syncMetaG s sp c0 g).cache = g.c3.setRunId s.id1 := by
    simp only [syncMetaG, hfd, hcl, Bool.or_self, Bool.false_eq_true, if_false]
  have h3 : ∀ l r, g.c3.aof = some (l, r) → left ≤ l := by
    intro l r h
    obtain ⟨l2, h2, hle⟩ := later_aof hok.s3 h
    have := hc2.left_le_log hr2 h2
    omega
  have hw : ∀ l r, (openWriter (syncMetaG s sp c0 g)).2.aof = some (l, r) →
      left ≤ l ∨ l = (c0.startPoint [s.id1, s.id2]).offset := by
    intro l r h
    rcases openWriter_aof_left hnf h with ⟨r', e⟩ | e
    · rw [hcache] at e
      rcases setRunId_aof g.c3 s.id1 with x | x <;> rw [x] at e
      · exact .inl (h3 l r' e)
      · cases e
    · exact .inr (e.trans hlo)
  have hso : left ≤ (c0.startPoint [s.id1, s.id2]).offset := by
    rw [(startPoint_in hs c0 (contains_ids.mpr hcont)).1]; exact hlat
  intro h
  rw [hoff] at h
  obtain ⟨_, l', r', h5a, h1, _⟩ := openReader_aof_inv h
  obtain ⟨l, hcw, hle⟩ := later_aof h5 h5a
  have hl := hw l r' hcw
  omega

theorem later_wf {c c' : Cache} (hc : CacheWF c) (h : c' = c ∨ Collected c c') : CacheWF c' := by
  rcases h with e | hcol
  · rw [e]; exact hc
  · exact collected_wf hc hcol

/-- **the log-reader clause of `gc_schedule_safe_stmt`, PROVED**: in every state of the loop, under every
    collector schedule (successive images at IsValidOffset, GetRdb, DelRunId/SetRunId, and any later image at the
    reader), if `NewReader` opens a LOG reader then the source granted a continuation, the reader starts exactly
    at the stored offset, and the stored id is one the source serves. (After FULLRESYNC and in branch 4 the
    reader is a snapshot reader or is refused.) THE GAP to `gc_schedule_safe_stmt`: its snapshot clause (the
    cached snapshot handed over in branch 4 is still followed by its log) and the bytes such a log reader then
    reads (`CacheOK` along the images) - judged by the monitors of session C06d. -/
theorem gc_schedule_safe_partial (w : World) (σ : Sys) (g : GcSched) (c5 : Cache) (h : Loop w σ) (hok : g.ok σ.c)
    (h5 : c5 = (openWriter (syncMetaG σ.s σ.t.stored σ.c g)).2 ∨ Collected (openWriter (syncMetaG σ.s σ.t.stored σ.c g)).2 c5)
    (o : Int) (hr : openReader c5 (syncMetaG σ.s σ.t.stored σ.c g).outSp.offset = .aof o) :
    (syncMetaG σ.s σ.t.stored σ.c g).ps.full = false ∧ o = σ.t.stored.offset ∧
      (σ.t.stored.runId = σ.s.id1 ∨ σ.t.stored.runId = σ.s.id2) := by
  have inv := loop_inv w σ h
  have hc1 := later_wf inv.cwf hok.s1
  have hc2 := later_wf hc1 hok.s2
  have hc3 := later_wf hc2 hok.s3
  cases hf : (syncMetaG σ.s σ.t.stored σ.c g).ps.full
  · by_cases hb : (syncMetaG σ.s σ.t.stored σ.c g).branch = 4
    · exact absurd hr (gc_branch4_reader_partial σ.s inv.src σ.t.stored σ.c g inv.cwf hc2 hok hb hf c5 h5 o)
    · exact ⟨rfl, gc_log_reader_partial σ.s inv.src σ.t.stored σ.c g hf hb c5 o hr⟩
  · exact absurd hr ((gc_full_reader_partial σ.s inv.src σ.t.stored σ.c g hc3 hf c5 h5).2.1 o)

/-- non-vacuity: `l3` of C06Loop (stored (1,200), memory cache with the collector having dropped the log's
    head): the schedule without a pass, the reader on the cache the writer opened: a log reader at 200 -/
example : ∃ o, openReader (openWriter (syncMetaG l3.s l3.t.stored l3.c (GcSched.none l3.c))).2
    (syncMetaG l3.s l3.t.stored l3.c (GcSched.none l3.c)).outSp.offset = .aof o := ⟨200, by decide⟩

/-- **NOT proved** (judged on the real code by the monitors of session C06d at every enumerated point):
    the full byte-level outcome under a schedule - in every state of the loop, with successive collector
    images at every call of the attempt (`g`, then `c4` at the writer, `c5` at the reader), whatever is
    handed over as log starts at the stored offset under an id the source serves, after a granted
    continuation, and a snapshot handed over in branch 4 is the cached one with its log still behind it -/
def gc_schedule_safe_stmt : Prop :=
  ∀ (w : World) (σ : Sys) (g : GcSched) (c5 : Cache), Loop w σ → g.ok σ.c →
    (c5 = (openWriter (syncMetaG σ.s σ.t.stored σ.c g)).2 ∨ Collected (openWriter (syncMetaG σ.s σ.t.stored σ.c g)).2 c5) →
    (∀ o, openReader c5 (syncMetaG σ.s σ.t.stored σ.c g).outSp.offset = .aof o →
      (syncMetaG σ.s σ.t.stored σ.c g).ps.full = false ∧ o = σ.t.stored.offset ∧
        (σ.t.stored.runId = σ.s.id1 ∨ σ.t.stored.runId = σ.s.id2)) ∧
    (∀ left size, openReader c5 (syncMetaG σ.s σ.t.stored σ.c g).outSp.offset = .rdb left size →
      c5.rdb = some (left, size) ∧ (c5.aof = none ∨ ∃ r, c5.aof = some (left, r) ∨ c5.backend = .memory))

/-! ### `output.SetRunId` failing as a whole (re-read against /repo bf252d5, C17's Model/BookRunIdSeq.lean)

  A call `SetRunId(B)` can fail after its first attempt repointed the checkpoint hash: on the target the
  position is then labelled `B` although the call returned an error (`pendingRunId` makes the next call finish
  that relabel first). For `syncMeta` the call is the last of its bookkeeping: the attempt ends at stage
  `.reset`, and the position the NEXT attempt reads is labelled either as before (`attempt … .reset`) or already
  with the new id (the target of `attempt … .metaDone`; cache and cache bytes are the same at both stages). -/

/-- both outcomes are states of `Loop`, they hold the same offset and the same truth: the partial relabel can
    change the LABEL the next attempt reads, nothing else - and `loop_safe` holds for either -/
theorem failed_setRunId_outcomes (resume : Bool) (w : World) (σ : Sys) (h : Loop w σ) :
    Loop w (attempt resume w σ .reset) ∧ Loop w (attempt resume w σ .metaDone) ∧
      (attempt resume w σ .metaDone).c = (attempt resume w σ .reset).c ∧
      (attempt resume w σ .metaDone).t.stored.offset = (attempt resume w σ .reset).t.stored.offset ∧
      (attempt resume w σ .metaDone).t.truth = (attempt resume w σ .reset).t.truth := by
  refine ⟨Loop.attempt σ resume .reset false h trivial, Loop.attempt σ resume .metaDone false h trivial, rfl, ?_, ?_⟩
  · simp only [attempt, Tgt.afterMeta, Tgt.afterReset]
    cases (syncMeta σ.s σ.t.stored σ.c).ps.full <;> cases resume <;> rfl
  · simp only [attempt, Tgt.afterMeta, Tgt.afterReset]
    cases (syncMeta σ.s σ.t.stored σ.c).ps.full <;> rfl

end GunYu.Props.C06
