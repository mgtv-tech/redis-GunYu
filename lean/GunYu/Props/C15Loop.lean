/-
  C15 — runCluster AFTER its first campaign (campaign → lead → stop → resign / lose → follow →
  campaign again).

  That loop has a model already: Model/Handover.lean (built for C16's hand-over clause, tied to
  cmd/syncer.go by C16's source facts and by its harness C16ho, which runs the REAL runCluster of
  two instances through lead / stop / resign / pause / campaign / follow on the wall clock —
  testing/synctest cannot carry that run: real loopback sockets). What C15 needs of the loop
  ("an instance stops acting as leader before it calls Resign"; "after an error its belief is
  unchanged") are theorems of that model, imported here — not re-proved, and not counted as
  C15's own content:

    loop_resign_only_after_stop     Resign is issued only in the phase entered by `stopped`
                                    (sy.Stop(); WgWait returned), which is not a sending phase
    loop_silent_until_campaign_won  a stopped instance does not send again before it WINS a campaign
    loop_campaign_outcome           a candidate's campaign: leader iff the key is free / expired / its own
    loop_no_two_senders             in every reachable state of every interleaving (crashes, restarts,
                                    failed calls included) whoever sends holds the unexpired lease

  The timing guard of that model (`timely`: a sender's lease does not run out while it sends) is
  exactly what C15 proves of the Redis lease from the ticker: Props/C15Sim.lean (ticker ⇒ TAllowed)
  ⇒ Props/C15.lean `acting_has_lease` (an instance that leads holds the unexpired lease at the
  store). The two models (TSys here, Handover.State there) are NOT connected by a Lean theorem:
  the chain is ticker ⇒ TAllowed ⇒ acting_has_lease on one side, timely ⇒ no_two_senders on the
  other, `acting_has_lease` and `timely` saying the same thing in two vocabularies.
-/
import GunYu.Props.C16Handover

namespace GunYu.Props.C15
open GunYu.Handover

theorem loop_resign_only_after_stop (c : Cfg) (g : Bool) (s : State) (i : Nat) (ok : Bool) :
    ((∀ w, (s.loc i).phase ≠ .resign w) → step c g s (.resigned i ok) = s) ∧
      (∀ w, (s.loc i).phase = .resign w → sending (s.loc i) = false) :=
  GunYu.Props.C16.resign_after_stop c g s i ok

theorem loop_silent_until_campaign_won (c : Cfg) (g : Bool) (s : State) (ev : Ev) (i : Nat)
    (hns : sending (s.loc i) = false) (hev : ev ≠ .campaign i true) :
    sending ((step c g s ev).loc i) = false :=
  GunYu.Props.C16.silent_until_campaign_won c g s ev i hns hev

theorem loop_campaign_outcome (c : Cfg) (g : Bool) (s : State) (j w : Nat)
    (hp : (s.loc j).phase = .cand w) (hw : w ≤ s.now) :
    (heldByOther s j = false →
        ((step c g s (.campaign j true)).loc j).phase = .lead ∧
        (step c g s (.campaign j true)).lease = some (j, s.now + c.ttl)) ∧
      (heldByOther s j = true → ((step c g s (.campaign j true)).loc j).phase = .foll ∧
        (step c g s (.campaign j true)).lease = s.lease) :=
  GunYu.Props.C16.campaign_outcome c g s j w hp hw

theorem loop_no_two_senders (c : Cfg) (httl : 0 < c.ttl) (evs : List Ev) (s : State)
    (hb : Bounded c s) (hw : ∀ ev ∈ evs, ev.within c) (hs : Safe s) :
    (∀ i, sending ((run c true s evs).loc i) = true →
        holdsUntil (run c true s evs) i (run c true s evs).now = true) ∧
      ∀ i j, sending ((run c true s evs).loc i) = true → sending ((run c true s evs).loc j) = true → i = j :=
  GunYu.Props.C16.no_two_senders c httl evs s hb hw hs

-- non-vacuity: C16's start state is safe (nobody sends)
example : Safe GunYu.Props.C16.s0 := GunYu.Props.C16.s0_safe

end GunYu.Props.C15
