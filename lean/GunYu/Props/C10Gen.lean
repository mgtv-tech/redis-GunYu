/-
  C10 — the REGENERATED definitions of pkg/filter/range.go `IsSlotInList` and
  `InsertSlotInList` (lean/GunYu/Gen/FnRangeList.lean, translated from /repo's Go
  source on every run) equal the hand-written model of Model/Filter.lean
  (`RangeList.contains`, `RangeList.insert`), so the range theorems of C10 hold
  of the regenerated code: the lookup after any sequence of inserts answers
  "the key's HASH_SLOT lies in the union of the valid ranges".

  Side conditions, those of the code: `len(key) < 2^63-1`, fewer than
  2^63-2 ranges; the receiver is non-nil and holds no nil range (the insert never
  stores one - part of the statement below); `InsertSlotInList` finds the
  insertion point by BINARY search (`sort.Search`), which is the model's linear
  "before the first greater Left" only on a list sorted by Left - the invariant
  the insert itself maintains (proved here as well).
-/
import GunYu.Model.Filter
import GunYu.Proofs.FilterRange
import GunYu.Props.C11Gen
import GunYu.Props.C10
import GunYu.Gen.FnRangeList

namespace GunYu.Props.C10
open GunYu GunYu.Filter GunYu.Gen
open GunYu.Props.C11 (index_nat addI_nat drop_cons loop_header)

/-- a Go `Range` as the model's pair -/
def absRange (r : Fn.Range) : Nat × Nat := (r.Left.toNat, r.Right.toNat)

/-- a Go `RangeList` without nil entries, and the model value it denotes -/
def concRL (xs : List Fn.Range) (mn mx : BitVec 16) : Fn.RangeList :=
  { list := xs.map some, minLeft := mn, maxRight := mx }

def absRL (xs : List Fn.Range) (mn mx : BitVec 16) : Filter.RangeList :=
  { list := xs.map absRange, minLeft := mn.toNat, maxRight := mx.toNat }

theorem gen_isSlot_loop (xs : List Fn.Range) (mn mx s : BitVec 16)
    (hlen : xs.length < 9223372036854775807) :
    ∀ (fuel i : Nat), i ≤ xs.length → xs.length - i < fuel →
      Fn.isSlotInList_loop1 (concRL xs mn mx) s fuel (i : Int) =
        some (if scanRanges ((xs.drop i).map absRange) s.toNat then GoSem.Ctl.ret true else GoSem.Ctl.next ()) := by
  intro fuel
  induction fuel with
  | zero => intro i _ hf; omega
  | succ fuel ih =>
    intro i hi hf
    rw [Fn.isSlotInList_loop1, loop_header, show (concRL xs mn mx).list = xs.map some from rfl, ← List.map_drop]
    cases hd : xs.drop i with
    | nil => rfl
    | cons x rest =>
      obtain ⟨hlt, _, hr⟩ := drop_cons hd
      simp only [List.map_cons, bind, Option.bind_some, scanRanges, absRange, BitVec.lt_def, BitVec.le_def,
        gt_iff_lt]
      by_cases h2 : s.toNat < x.Left.toNat
      · rw [if_pos h2, if_pos h2]; rfl
      rw [if_neg h2, if_neg h2]
      by_cases h3 : s.toNat ≤ x.Right.toNat
      · rw [if_pos h3, if_pos h3]; rfl
      rw [if_neg h3, if_neg h3, addI_nat i (by omega), ih (i + 1) (by omega) (by omega), hr]

/-- the regenerated `IsSlotInList` is the model's lookup on the key's slot -/
theorem gen_isSlotInList_eq_model (xs : List Fn.Range) (mn mx : BitVec 16) (key : Bytes)
    (hk : key.length < 9223372036854775807) (hlen : xs.length < 9223372036854775807) :
    Fn.isSlotInList (concRL xs mn mx) key = some ((absRL xs mn mx).contains (Slot.keyToSlot key)) := by
  unfold Fn.isSlotInList
  rw [C11.gen_keyToSlot_eq_bv key hk, ← C11.keyToSlotBV_toNat]
  generalize C11.keyToSlotBV key = s
  simp only [Option.bind_some, bind]
  have hl : GoSem.len (concRL xs mn mx).list = (xs.length : Int) := by simp [concRL, GoSem.len]
  unfold RangeList.contains
  by_cases he : xs = []
  · subst he
    simp [concRL, absRL, GoSem.len, pure]
  · have hne : xs.length ≠ 0 := by simpa using he
    have h0 : ¬ (GoSem.len (concRL xs mn mx).list = (0 : Int)) := by rw [hl]; omega
    have h0' : (absRL xs mn mx).list.isEmpty = false := by simp [absRL, he]
    rw [if_neg h0]
    simp only [h0', Bool.false_eq_true, ↓reduceIte]
    have hbb : (decide (s.toNat < (absRL xs mn mx).minLeft) || decide (s.toNat > (absRL xs mn mx).maxRight)) = true ↔
        (s < (concRL xs mn mx).minLeft ∨ s > (concRL xs mn mx).maxRight) := by
      simp only [concRL, absRL, BitVec.lt_def, gt_iff_lt, Bool.or_eq_true]
      exact ⟨fun h => h.imp of_decide_eq_true of_decide_eq_true, fun h => h.imp decide_eq_true decide_eq_true⟩
    by_cases hb : s < (concRL xs mn mx).minLeft ∨ s > (concRL xs mn mx).maxRight
    · rw [if_pos hb, if_pos (hbb.mpr hb)]
      rfl
    · rw [if_neg hb, if_neg (fun h => hb (hbb.mp h))]
      have hloop := gen_isSlot_loop xs mn mx s hlen ((GoSem.len (concRL xs mn mx).list).toNat + 1) 0 (by omega)
        (by rw [hl]; omega)
      simp only [Int.ofNat_zero, List.drop_zero] at hloop
      rw [hloop]
      simp only [absRL]
      cases scanRanges (xs.map absRange) s.toNat <;> rfl

theorem sortSearchLoop_spec (n : Nat) (p : Nat → Bool) (f : Int → Option Bool)
    (hf : ∀ h : Nat, h < n → f (h : Int) = some (p h))
    (mono : ∀ a b, a ≤ b → b < n → p a = true → p b = true) :
    ∀ (fuel i j : Nat), i ≤ j → j ≤ n → j - i < fuel →
      (∀ h, h < i → p h = false) → (∀ h, j ≤ h → h < n → p h = true) →
      ∃ r : Nat, r ≤ j ∧ GoSem.sortSearchLoop f fuel (i : Int) (j : Int) = some (r : Int) ∧
        (∀ h, h < r → p h = false) ∧ (∀ h, r ≤ h → h < n → p h = true) := by
  intro fuel
  induction fuel with
  | zero => intro i j _ _ hfu; omega
  | succ fuel ih =>
    intro i j hij hjn hfu hlo hhi
    rw [GoSem.sortSearchLoop]
    by_cases hlt : i < j
    · obtain ⟨m, him, hmj, hm, hf1, hf2⟩ : ∃ m : Nat, i ≤ m ∧ m < j ∧ ((i : Int) + (j : Int)) / 2 = (m : Int) ∧
          j - (m + 1) < fuel ∧ m - i < fuel := ⟨(i + j) / 2, by omega⟩
      rw [if_pos (Int.ofNat_lt.mpr hlt), hm]
      dsimp only
      rw [hf m (Nat.lt_of_lt_of_le hmj hjn)]
      simp only [bind, Option.bind_some]
      cases hp : p m with
      | false =>
        rw [if_pos rfl]
        exact ih (m + 1) j hmj hjn hf1
          (fun h hh => by
            cases hph : p h with
            | false => rfl
            | true =>
              rw [mono h m (Nat.le_of_lt_succ hh) (Nat.lt_of_lt_of_le hmj hjn) hph] at hp
              cases hp)
          hhi
      | true =>
        rw [if_neg (by decide)]
        obtain ⟨r, h2, h3, h4, h5⟩ := ih i m him (Nat.le_trans (Nat.le_of_lt hmj) hjn) hf2 hlo
          (fun h hh hn => mono m h hh hn hp)
        exact ⟨r, Nat.le_trans h2 (Nat.le_of_lt hmj), h3, h4, h5⟩
    · obtain rfl : i = j := Nat.le_antisymm hij (Nat.le_of_not_lt hlt)
      rw [if_neg (Int.lt_irrefl _)]
      exact ⟨i, Nat.le_refl _, rfl, hlo, hhi⟩

/-- the regenerated `InsertSlotInList`, on a list sorted by Left and free of nil entries,
    yields such a list again, and it denotes the model's `RangeList.insert` -/
theorem gen_insertSlotInList_eq_model (xs : List Fn.Range) (mn mx l r : BitVec 16)
    (hlen : xs.length < 9223372036854775806) (hs : SortedL (xs.map absRange)) :
    ∃ ys mn' mx', Fn.insertSlotInList (concRL xs mn mx) l r = some (concRL ys mn' mx') ∧
      absRL ys mn' mx' = (absRL xs mn mx).insert l.toNat r.toNat := by
  unfold Fn.insertSlotInList RangeList.insert
  by_cases hle : l ≤ r
  · have hle' : l.toNat ≤ r.toNat := by simpa [BitVec.le_def] using hle
    rw [if_pos hle, if_pos hle']
    -- the binary search: `p h` is its predicate at the natural-number index `h`
    let p : Nat → Bool := fun h => decide (((xs.map absRange)[h]?.getD (0, 0)).1 > l.toNat)
    generalize hF : (fun (i : Int) => (do
        let t1 ← GoSem.index (concRL xs mn mx).list i
        let t2 ← t1
        pure (decide (t2.Left > l)) : Option Bool)) = F
    have hf : ∀ h : Nat, h < xs.length → F (h : Int) = some (p h) := by
      intro h hh
      have hix : GoSem.index (concRL xs mn mx).list (h : Int) = some (some xs[h]) := by
        rw [index_nat _ h (by simp [concRL]; exact hh)]; simp [concRL]
      simp only [← hF, hix, Option.bind_some, bind, pure, p]
      congr 1
      simp [hh, absRange, BitVec.lt_def]
    have mono : ∀ a b, a ≤ b → b < xs.length → p a = true → p b = true := by
      intro a b hab hb hpa
      have := sorted_getElem_le (xs.map absRange) hs a b hab (by simpa using hb)
      simp only [p, List.getElem?_map, decide_eq_true_eq] at hpa ⊢
      rw [List.getElem?_eq_getElem (by omega)] at hpa
      rw [List.getElem?_eq_getElem hb]
      simp only [List.getElem_map] at this
      simp only [Option.map_some, Option.getD_some] at hpa ⊢
      omega
    obtain ⟨k, hk, hsrch, hlo, hhi⟩ := sortSearchLoop_spec xs.length p F hf mono (xs.length + 1) 0 xs.length
      (by omega) (by omega) (by omega) (by intro h hh; omega) (by intro h h1 h2; omega)
    have hl : GoSem.len (concRL xs mn mx).list = (xs.length : Int) := by simp [concRL, GoSem.len]
    have hsrch' : GoSem.sortSearch (GoSem.len (concRL xs mn mx).list) F = some (k : Int) := by
      unfold GoSem.sortSearch
      rw [hl]
      simpa using hsrch
    simp only [bind] at hsrch' ⊢
    simp only [hsrch', Option.bind_some]
    have hins : GoSem.insertAt (concRL xs mn mx).list (k : Int) (some ({ Left := l, Right := r } : Fn.Range)) =
        some ((xs.take k ++ ({ Left := l, Right := r } : Fn.Range) :: xs.drop k).map some) := by
      unfold GoSem.insertAt
      have h1 : (k : Int) ≤ GoSem.len (List.map some xs) := by simp [GoSem.len]; omega
      simp [concRL, h1]
    simp only [hins, Option.bind_some]
    have hpos : insertSorted l.toNat r.toNat (xs.map absRange) =
        (xs.map absRange).take k ++ (l.toNat, r.toNat) :: (xs.map absRange).drop k := by
      apply insertSorted_at _ _ _ k (by simpa using hk)
      · intro h hh
        have := hlo h hh
        simp only [p, decide_eq_false_iff_not] at this
        rw [List.getElem?_eq_getElem (by simp; omega)] at this
        simpa using this
      · intro h hkh hh
        have := hhi h hkh (by simpa using hh)
        simp only [p, decide_eq_true_eq] at this
        rw [List.getElem?_eq_getElem hh] at this
        simpa using this
    refine ⟨xs.take k ++ ({ Left := l, Right := r } : Fn.Range) :: xs.drop k,
      if l < mn then l else mn, if r > mx then r else mx, ?_, ?_⟩
    · by_cases h1 : l < mn <;> by_cases h2 : r > mx <;> simp [concRL, h1, h2, pure]
    · simp only [absRL, hpos, List.map_append, List.map_cons, List.map_take, List.map_drop, absRange]
      have e1 : (if l < mn then l else mn).toNat = (if l.toNat < mn.toNat then l.toNat else mn.toNat) := by
        rw [apply_ite BitVec.toNat]; simp only [BitVec.lt_def]
      have e2 : (if r > mx then r else mx).toNat = (if r.toNat > mx.toNat then r.toNat else mx.toNat) := by
        rw [apply_ite BitVec.toNat]; simp only [BitVec.lt_def, gt_iff_lt]
      rw [e1, e2]
      first | rfl | (congr 1 <;> simp)
  · have hle' : ¬ l.toNat ≤ r.toNat := by simpa [BitVec.le_def] using hle
    rw [if_neg hle, if_neg hle']
    exact ⟨xs, mn, mx, rfl, rfl⟩

/-- `InsertSlotInList` called for each pair in turn (Go: `rl.InsertSlotInList(l, r)` in a loop) -/
def genInsertAll (rl : Fn.RangeList) (rs : List (BitVec 16 × BitVec 16)) : Option Fn.RangeList :=
  rs.foldlM (fun rl p => Fn.insertSlotInList rl p.1 p.2) rl

def natPairs (rs : List (BitVec 16 × BitVec 16)) : List (Nat × Nat) := rs.map (fun p => (p.1.toNat, p.2.toNat))

theorem gen_insertAll_eq_model (rs : List (BitVec 16 × BitVec 16)) :
    ∀ (xs : List Fn.Range) (mn mx : BitVec 16), SortedL (xs.map absRange) →
      xs.length + rs.length < 9223372036854775806 →
      ∃ ys mn' mx', genInsertAll (concRL xs mn mx) rs = some (concRL ys mn' mx') ∧
        absRL ys mn' mx' = (natPairs rs).foldl (fun rl p => rl.insert p.1 p.2) (absRL xs mn mx) ∧
        ys.length ≤ xs.length + rs.length := by
  induction rs with
  | nil => intro xs mn mx _ _; exact ⟨xs, mn, mx, rfl, rfl, by simp⟩
  | cons p rest ih =>
    intro xs mn mx hs hlen
    obtain ⟨ys, mn', mx', h1, h2⟩ := gen_insertSlotInList_eq_model xs mn mx p.1 p.2 (by simp at hlen; omega) hs
    have hlist : ys.map absRange = ((absRL xs mn mx).insert p.1.toNat p.2.toNat).list := by
      rw [← h2]; rfl
    obtain ⟨hs', hl'⟩ : SortedL (ys.map absRange) ∧ (ys.map absRange).length ≤ xs.length + 1 := by
      rw [hlist]
      unfold RangeList.insert
      split
      · exact ⟨sorted_insertSorted _ _ _ hs, by simp [length_insertSorted, absRL]⟩
      · exact ⟨hs, by simp [absRL]⟩
    rw [List.length_map] at hl'
    obtain ⟨zs, mn'', mx'', h3, h4, h5⟩ := ih ys mn' mx' hs' (by simp at hlen; omega)
    refine ⟨zs, mn'', mx'', ?_, ?_, ?_⟩
    · unfold genInsertAll at h3 ⊢
      rw [List.foldlM_cons, h1]
      exact h3
    · rw [h4, h2]; rfl
    · simp; omega

/-- the regenerated `NewRangeList()` returns a non-nil, empty list with both bounds 0: the
    model's `RangeList.empty` -/
theorem gen_newRangeList_eq_model :
    Fn.newRangeList = some (some (concRL [] 0#16 0#16)) ∧ absRL [] 0#16 0#16 = RangeList.empty :=
  ⟨rfl, rfl⟩

/-- C10's range theorem, directly about the definitions regenerated from range.go
    (and slot.go, crc16.go): after ANY sequence of `InsertSlotInList` calls on the list the
    regenerated `NewRangeList()` returns, `IsSlotInList(key)` says exactly whether the key's Redis Cluster slot lies in
    the union of the valid ranges; neither call panics. -/
theorem gen_rangeLookup_iff (rs : List (BitVec 16 × BitVec 16)) (key : Bytes)
    (hk : key.length < 9223372036854775807) (hn : rs.length < 9223372036854775806) :
    ∃ rl0 rl b, Fn.newRangeList = some (some rl0) ∧
      genInsertAll rl0 rs = some rl ∧ Fn.isSlotInList rl key = some b ∧
      (b = true ↔ ∃ p ∈ rs, p.1.toNat ≤ p.2.toNat ∧
        p.1.toNat ≤ Slot.hashSlotSpec key ∧ Slot.hashSlotSpec key ≤ p.2.toNat) := by
  obtain ⟨ys, mn, mx, h1, h2, h3⟩ := gen_insertAll_eq_model rs [] 0#16 0#16 (by simp [SortedL]) (by simpa using hn)
  refine ⟨_, _, _, gen_newRangeList_eq_model.1, h1, gen_isSlotInList_eq_model ys mn mx key hk (by simp at h3; omega), ?_⟩
  have e : absRL ys mn mx = RangeList.insertAll (natPairs rs) := by rw [h2]; rfl
  rw [e, rangeLookup_iff, C11.keyToSlot_eq_spec]
  constructor
  · rintro ⟨q, hq, h⟩
    obtain ⟨p, hp, rfl⟩ := List.mem_map.mp hq
    exact ⟨p, hp, h⟩
  · rintro ⟨p, hp, h⟩
    exact ⟨(p.1.toNat, p.2.toNat), List.mem_map.mpr ⟨p, hp, rfl⟩, h⟩

/-! non-vacuity: nested + overlapping + reversed ranges through the regenerated code -/
example : (do
    let rl0 ← (← Fn.newRangeList)
    let rl ← genInsertAll rl0 [(10#16, 20#16), (30#16, 40#16), (15#16, 35#16), (9#16, 3#16), (15000#16, 16000#16)]
    let a ← Fn.isSlotInList rl [123,97,125,123,98,125]   -- "{a}{b}": slot 15495
    let b ← Fn.isSlotInList rl [97]                       -- "a": slot 15495
    let c ← Fn.isSlotInList rl [98]                       -- "b": slot 3300
    pure (a, b, c, rl.list.length)) = some (true, true, false, 4) := by decide +kernel

end GunYu.Props.C10
