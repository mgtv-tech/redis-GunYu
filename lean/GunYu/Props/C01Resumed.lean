/-
  C01 for a RESUMED run (the tool was started from a stored position: the parser
  begins with no database of its own and, when the position was found in a database
  other than 0, with a `select` of it): parser, sender loop and target together
  execute exactly the one-pass specification of the stream from that position, in
  the database the position was found in. The parts live in `Props/C02TwoRuns.lean`
  (`resumed_executed_all`, `resumed_executed_prefix`) and `Proofs/Restart.lean`
  (`restart_at_start_is_spec`); here they are one statement in C01's terms, and
  `end_to_end_ticker_src` is applied to C01's example with every hypothesis
  discharged.
-/
import GunYu.Props.C02TwoRuns

namespace GunYu.Props.C01
open GunYu GunYu.Sender GunYu.Target

/-- **End to end, resumed run, ticker mode, finished.** -/
theorem resumed_end_to_end (pc : PCfg) (sc : SCfg) (hsc : sc.txnMode = false)
    (raws : List Raw) (evs : List Ev) (start : Int)
    (hitems : itemsOf evs = parserItems pc start raws) (hnd : NoDone evs)
    (hsel : ∀ r ∈ raws, r.cmd = bSelect → ∀ a n, r.args = [a] → atoi? a = some n → 0 ≤ n)
    (hmap : ∀ n : Int, 0 ≤ n → mapDb pc n ≠ -1)
    (hraw : RawNoNested false raws)
    (hpass : ∀ r ∈ raws, (r.cmd = bMulti ∨ r.cmd = bExec) →
      pc.filterCmd r.cmd = false ∧ (pc.filterCmdKey r.cmd r.args).isSome)
    (hd0 : 0 ≤ pc.startDbId)
    (t : TState) (hq : t.queued = none) (hcur : t.cur = 0) :
    (applyLog t (run sc initS (evs ++ [.done])).2.flatten).applied =
      t.applied ++ specStream pc false pc.startDbId raws := by
  have hnn := parseAll_noNested pc raws { lastSent := start } false rfl hraw hpass
  rw [C02.resumed_executed_all pc sc hsc raws evs start hitems hnd hnn t hq, hcur,
    restart_at_start_is_spec pc raws start hsel hmap hd0]

/-- the same at any moment, any mode: a prefix of that specification -/
theorem resumed_prefix_of_spec (pc : PCfg) (sc : SCfg) (raws : List Raw) (evs : List Ev) (start : Int)
    (hitems : itemsOf evs = parserItems pc start raws) (hnd : NoDone evs)
    (hsel : ∀ r ∈ raws, r.cmd = bSelect → ∀ a n, r.args = [a] → atoi? a = some n → 0 ≤ n)
    (hmap : ∀ n : Int, 0 ≤ n → mapDb pc n ≠ -1)
    (hraw : RawNoNested false raws)
    (hpass : ∀ r ∈ raws, (r.cmd = bMulti ∨ r.cmd = bExec) →
      pc.filterCmd r.cmd = false ∧ (pc.filterCmdKey r.cmd r.args).isSome)
    (hd0 : 0 ≤ pc.startDbId)
    (t : TState) (hq : t.queued = none) (hcur : t.cur = 0) :
    ∃ rest, t.applied ++ specStream pc false pc.startDbId raws =
      (applyLog t (run sc initS evs).2.flatten).applied ++ rest := by
  have hnn := parseAll_noNested pc raws { lastSent := start } false rfl hraw hpass
  have h := C02.resumed_executed_prefix pc sc raws evs start hitems hnd hnn t hq
  rw [hcur, restart_at_start_is_spec pc raws start hsel hmap hd0] at h
  exact h

/-- `end_to_end_ticker_src` APPLIED to C01's example: every hypothesis discharged -/
example : (applyLog {} (run exCfg initS (e2eEvs ++ [.done])).2.flatten).applied =
    ({} : TState).applied ++ specStream e2ePc false ({} : TState).cur e2eRaws :=
  end_to_end_ticker_src e2ePc exCfg rfl e2eRaws e2eEvs 0 (by decide +kernel)
    (by unfold NoDone; decide +kernel) (selOK_spec e2eRaws (by decide +kernel))
    (mapDb_ok e2ePc rfl (by decide +kernel))
    (by simp [RawNoNested, e2eRaws, bSelect, bMulti, bExec, bPing])
    (by decide +kernel)
    {} rfl

/-- `resumed_end_to_end` applied to the example stream of `Props/C02TwoRuns.lean`
    (resumed at 50 in database 5) -/
example : True := by
  have := resumed_end_to_end C02.trPc C02.trCfg rfl
    (C02.trRaws.filter (fun r => decide (50 < r.off))) C02.trEvs2 50 (by decide +kernel)
    (by unfold NoDone; decide +kernel)
    (fun x hx => selOK_spec C02.trRaws (by decide +kernel) x (List.mem_filter.mp hx).1)
    (mapDb_ok C02.trPc rfl (by decide +kernel))
    (by simp [RawNoNested, C02.trRaws, bSelect, bMulti, bExec])
    (fun r _ _ => ⟨rfl, rfl⟩) (by decide) {} rfl rfl
  trivial

end GunYu.Props.C01
