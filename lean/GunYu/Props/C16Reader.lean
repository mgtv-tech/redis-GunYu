/-
  C16 — the reader a leader opens for a follower "serves its own run id to the end":
  DERIVED from C05's cache model instead of assumed.

  C16's model (Model/Replica.lean, Props/C16.lean) takes as hypothesis `Leader.Faithful`:
  the leader's cache AND the bytes its input appends while a follower's stream reader is
  open (`Leader.tail`) are history of the leader's run id. This file proves the reader half
  of that hypothesis on C05's step-level cache model (Model/Store.lean):

  * disk backend (`Disk`): `disk_open_reader_serves_own_id` — whatever the leader's input
    does after the reader was opened (ANY operation list respecting C05's protocol
    `Disk.wf`: appends, rotation, collection, writer replacement, replication-id switch or
    delete, new snapshot, other readers), everything the reader ever delivers is history
    `x` from its offset on, and it is open only while the channel is still labelled `x`.
    `disk_reader_output_is_hseg` is the same in C16's vocabulary (`Replica.hseg`).
  * memory backend (`Mem`): the C05 memory model does NOT close readers on `setRunId`;
    `mem_reader_follows_relabel` is the counter-witness (confirmed on the real
    MemoryChannel). The repair is an id check in `ReplicaLeader.sendData` after every read.
  * memory backend WITH that check: `mem_checked_send_serves_own_id` — the repaired send loop
    (`LOp`, `LState.step`: read from the reader's pipe, check the channel's id, send) in ANY
    interleaving with every channel operation only ever SENDS history `x` from the reader's
    offset on, provided the label never returns to `x` once it has left it.

  The only assumption about the leader's input is `LabelledOk` / `MemLabelledOk` (C06's
  subject): while the channel is labelled `x`, what it holds is `x`'s history.

  Helper lemmas: Proofs/ReplicaReader.lean (on top of C05's Proofs/StoreDisk.lean,
  Proofs/StoreMemInv.lean, Proofs/StoreMemSnap.lean).
-/
import GunYu.Model.Store
import GunYu.Proofs.StoreDisk
import GunYu.Proofs.StoreMemInv
import GunYu.Proofs.StoreMemSnap
import GunYu.Proofs.Replica
import GunYu.Proofs.ReplicaReader
import GunYu.Props.C16

namespace GunYu.Props.C16
open GunYu GunYu.Store

/-! ## Vocabulary -/

/-- bytes `[b, b+n)` of a source -/
def srcSeg (src : Nat → UInt8) (b n : Nat) : Bytes := (List.range n).map (fun i => src (b + i))

/-- standing assumption of C16 about the leader (C06's subject), stated on C05 states: in
    every state of the run in which the channel is labelled `x`, what it holds (the ghost
    `hist`, from offset `hbase`) is `x`'s history. Nothing is assumed about states labelled
    otherwise. -/
def LabelledOk (src : Nat → UInt8) (x : String) : Disk → List DOp → Prop
  | s, [] => (s.runId = x → s.hist = srcSeg src s.hbase s.hist.length)
  | s, op :: rest =>
    (s.runId = x → s.hist = srcSeg src s.hbase s.hist.length) ∧ LabelledOk src x (s.step op).1 rest

instance LabelledOk.dec (src : Nat → UInt8) (x : String) :
    (s : Disk) → (ops : List DOp) → Decidable (LabelledOk src x s ops)
  | s, [] => inferInstanceAs (Decidable (s.runId = x → s.hist = srcSeg src s.hbase s.hist.length))
  | s, op :: rest =>
    have := LabelledOk.dec src x (s.step op).1 rest
    inferInstanceAs (Decidable ((s.runId = x → s.hist = srcSeg src s.hbase s.hist.length) ∧
      LabelledOk src x (s.step op).1 rest))

/-- `srcSeg` of a history's byte function is C16's `hseg` (both are the same `List.range` map) -/
theorem srcSeg_eq_hseg (h : Replica.Hist UInt8) (x : String) (off n : Nat) :
    srcSeg (h.byte x) off n = Replica.hseg h x off n := rfl

/-- `LabelledOk` gives, in every state of the run, what the run invariant of one reader
    asks: under the label `x` every slice of the held history from `off` on is `x`'s history -/
theorem labelledOk_alongRun (src : Nat → UInt8) (x : String) (off : Nat) (s : Disk) (ops : List DOp)
    (h : LabelledOk src x s ops) :
    AlongRun (SliceOk (fun out => out = srcSeg src off out.length) x off) s ops := by
  have key : ∀ t : Disk, (t.runId = x → t.hist = srcSeg src t.hbase t.hist.length) →
      SliceOk (fun out => out = srcSeg src off out.length) x off t := by
    intro t ht hx hb m hm
    have hh := ht hx
    generalize t.hist.length = n at hh hm
    rw [hh, show srcSeg = segOf from rfl, segOf_slice _ _ _ _ _ hm, segOf_length]
    congr 1
    omega
  induction ops generalizing s with
  | nil => exact key s h
  | cons op rest ih => exact ⟨key s h.1, ih _ h.2⟩

/-! ## Disk backend: an open reader serves its own id to the end -/

/-- **disk_open_reader_serves_own_id.** The leader's disk cache is in any reachable state
    (`ops1`) labelled `x`; a STREAM reader `rid` is opened at offset `off` (the open reports
    `Out.aof off`, which also says that the id `rid` was fresh); then the leader's own input
    and everybody else do ANYTHING that respects C05's protocol (`ops2`: appends, rotation,
    collection, writer replacement, replication-id SWITCH or delete, new snapshot, other
    readers, this reader's reads / rotation steps / close). If, while the channel is labelled
    `x`, it holds `x`'s history (`LabelledOk`), then at the end

    * everything that reader ever delivered is history `x` from `off` on — contiguous, in
      order, nothing else — although the channel may meanwhile hold another id's bytes, and
    * the reader is open only if the channel is still labelled `x` (an id switch, an id
      delete, a new snapshot close it: `disk_invalidation_closes_readers`; closed, it fails
      every read and never changes: `disk_closed_reader_read_fails`, `disk_closed_reader_frozen`).

    (Side conditions of the brief that turned out unnecessary and were dropped: `x ≠ ""`,
    and the separate freshness of `rid`, which `hopen` implies.) -/
theorem disk_open_reader_serves_own_id (src : Nat → UInt8) (x : String) (l m : Nat)
    (ops1 ops2 : List DOp) (rid off : Nat) (crc : Bool)
    (hwf : (Disk.init l m).wf (ops1 ++ DOp.openReader rid off crc :: ops2))
    (hx : ((Disk.init l m).run ops1).runId = x)
    (hopen : (((Disk.init l m).run ops1).step (.openReader rid off crc)).2 = Out.aof off)
    (hlab : LabelledOk src x ((Disk.init l m).run ops1) (DOp.openReader rid off crc :: ops2)) :
    let s2 := (Disk.init l m).run (ops1 ++ DOp.openReader rid off crc :: ops2)
    ∀ r ∈ s2.readers, r.id = rid →
      r.out = srcSeg src off r.out.length ∧ (r.isOpen = true → s2.runId = x) := by
  intro s2
  obtain ⟨hwf1, hwf2⟩ := (Disk.wf_append _ _ _).mp hwf
  have hinv1 : DInv ((Disk.init l m).run ops1) := (DInv.init l m).run ops1 hwf1
  have hinv1' := hinv1.step _ hwf2.1
  have h0 : RInv (fun out => out = srcSeg src off out.length) x rid off
      (((Disk.init l m).run ops1).step (.openReader rid off crc)).1 := by
    have := RInv.open (Q := fun out => out = srcSeg src off out.length) hopen rfl
    rw [hx] at this
    exact this
  have hrun := RInv.run hinv1' ops2 hwf2.2 h0 (labelledOk_alongRun src x off _ _ hlab.2)
  have hs2 : s2 = ((((Disk.init l m).run ops1).step (.openReader rid off crc)).1).run ops2 := by
    show (Disk.init l m).run _ = _
    rw [Disk.run_append]; rfl
  rw [hs2]
  exact RInv.elim (hinv1'.run ops2 hwf2.2) hrun

/-- **disk_reader_output_is_hseg.** The same in C16's vocabulary: with `h` the histories of
    C16 (`Replica.Hist`) and the channel's content under the label `x` being `h`'s bytes of
    `x`, what the reader delivered is `hseg h x off _` — exactly the shape
    `Leader.Faithful`'s tail clause asks of the bytes served past the cache's right end — and
    the reader ends (closed) as soon as the channel is relabelled. -/
theorem disk_reader_output_is_hseg (h : Replica.Hist UInt8) (x : String) (l m : Nat)
    (ops1 ops2 : List DOp) (rid off : Nat) (crc : Bool)
    (hwf : (Disk.init l m).wf (ops1 ++ DOp.openReader rid off crc :: ops2))
    (hx : ((Disk.init l m).run ops1).runId = x)
    (hopen : (((Disk.init l m).run ops1).step (.openReader rid off crc)).2 = Out.aof off)
    (hlab : LabelledOk (h.byte x) x ((Disk.init l m).run ops1) (DOp.openReader rid off crc :: ops2)) :
    let s2 := (Disk.init l m).run (ops1 ++ DOp.openReader rid off crc :: ops2)
    ∀ r ∈ s2.readers, r.id = rid →
      r.out = Replica.hseg h x off r.out.length ∧ (r.isOpen = true → s2.runId = x) := by
  intro s2 r hr hid
  have := disk_open_reader_serves_own_id (h.byte x) x l m ops1 ops2 rid off crc hwf hx hopen hlab r hr hid
  rw [srcSeg_eq_hseg] at this
  exact this

/-- the reader exists at the end (the two theorems above are not vacuous in `r`) -/
theorem disk_opened_reader_exists (l m : Nat) (ops1 ops2 : List DOp) (rid off : Nat) (crc : Bool)
    (hwf : (Disk.init l m).wf (ops1 ++ DOp.openReader rid off crc :: ops2))
    (hopen : (((Disk.init l m).run ops1).step (.openReader rid off crc)).2 = Out.aof off) :
    ∃ r ∈ ((Disk.init l m).run (ops1 ++ DOp.openReader rid off crc :: ops2)).readers, r.id = rid := by
  obtain ⟨hwf1, hwf2⟩ := (Disk.wf_append _ _ _).mp hwf
  have hinv1 : DInv ((Disk.init l m).run ops1) := (DInv.init l m).run ops1 hwf1
  have hinv1' := hinv1.step _ hwf2.1
  have h0 := RInv.open (Q := fun _ => True) hopen trivial
  have hall : ∀ ops (s : Disk), AlongRun (SliceOk (fun _ => True) ((Disk.init l m).run ops1).runId off) s ops := by
    intro ops
    induction ops with
    | nil => intro s _ _ _ _; trivial
    | cons op rest ih => intro s; exact ⟨fun _ _ _ _ => trivial, ih _⟩
  obtain ⟨r, hr, hid, _⟩ := RInv.run hinv1' ops2 hwf2.2 h0 (hall _ _)
  rw [Disk.run_append]
  exact ⟨r, hr, hid⟩

/-! ### non-vacuity: a reader opened under "x" that reads across a rotation, then an id
    switch to "y" whose writer continues at the same offset with OTHER bytes -/

/-- the source of run id "x": byte `i - 99` at offset `i` (1 at offset 100, 2 at 101, …) -/
def exSrc : Nat → UInt8 := fun i => UInt8.ofNat (i - 99)

def exOps1 : List DOp := [.setRunId "x", .newAofWriter 100, .aofAppend [1, 2, 3, 4]]

def exOps2 : List DOp :=
  [ .read 0 10, .aofAppend [5, 6], .read 0 10, .advAcquire 0, .advRelease 0, .aofClose,
    .setRunId "y", .newAofWriter 106, .aofAppend [9, 9], .read 0 10, .advAcquire 0 ]

-- the hypotheses of `disk_open_reader_serves_own_id` hold for src = exSrc, x = "x", reader 0 at 102
example : (Disk.init 20 0).wf (exOps1 ++ DOp.openReader 0 102 false :: exOps2) := by decide +kernel
example : ((Disk.init 20 0).run exOps1).runId = "x" := by decide +kernel
example : (((Disk.init 20 0).run exOps1).step (.openReader 0 102 false)).2 = Out.aof 102 := by decide +kernel
example : LabelledOk exSrc "x" ((Disk.init 20 0).run exOps1) (DOp.openReader 0 102 false :: exOps2) := by decide +kernel
-- before the switch the reader is open and has followed the writer across the rotation
example : (((Disk.init 20 0).run (exOps1 ++ DOp.openReader 0 102 false :: exOps2.take 5)).readers.map
    (fun r => (r.id, r.isOpen, r.cur, r.out))) = [(0, true, 106, [3, 4, 5, 6])] := by decide +kernel
-- at the end the channel is labelled "y" and holds y's bytes 9,9 at 106..108 …
example : (((Disk.init 20 0).run (exOps1 ++ DOp.openReader 0 102 false :: exOps2)).runId,
    ((Disk.init 20 0).run (exOps1 ++ DOp.openReader 0 102 false :: exOps2)).hist) =
    ("y", [1, 2, 3, 4, 5, 6, 9, 9]) := by decide +kernel
-- … and the reader opened under "x" is closed, having delivered the x bytes only
example : (((Disk.init 20 0).run (exOps1 ++ DOp.openReader 0 102 false :: exOps2)).readers.map
    (fun r => (r.id, r.isOpen, r.out))) = [(0, false, [3, 4, 5, 6])] ∧
    srcSeg exSrc 102 4 = [3, 4, 5, 6] := by decide +kernel

/-! ## Memory backend: the counter-witness -/

/-- a reader opened under "x", then the channel is relabelled "y" and y's writer continues
    at the same offset -/
def memRelabelOps : List MOp :=
  [ .setRunId "x", .newAofWriter 100, .aofAppend [1, 2, 3], .openReader 0 100, .startReader 0, .copyStep 0,
    .aofClose, .setRunId "y", .newAofWriter 103, .aofAppend [9, 9], .copyStep 0, .copyStep 0, .consume 0 100 ]

/-- **mem_reader_follows_relabel.** The C05 memory model (`Mem.step (.setRunId id)` only
    relabels, as `MemoryChannel.SetRunId` does) does NOT end a reader when the channel's id is
    switched: the reader opened under "x" (label at the open: "x", reply `Out.aof 100`) is
    still running after the switch to "y" and has written to its pipe — and its consumer has
    read — the bytes 9,9 that were appended under "y". So for the memory backend
    `disk_open_reader_serves_own_id` is FALSE; the repair is a check in
    `ReplicaLeader.sendData` after every read (`channel.RunId() == requested id`, else ERROR). -/
theorem mem_reader_follows_relabel :
    ((Mem.init 0 0).run (memRelabelOps.take 3)).runId = "x" ∧
    (((Mem.init 0 0).run (memRelabelOps.take 3)).step (.openReader 0 100)).2 = Out.aof 100 ∧
    ((Mem.init 0 0).run memRelabelOps).runId = "y" ∧
    (((Mem.init 0 0).run memRelabelOps).readers.map (fun r => (r.id, r.start, r.released, r.out))) =
      [(0, 100, false, [1, 2, 3, 9, 9])] ∧
    (((Mem.init 0 0).run (memRelabelOps.take 12)).step (.consume 0 100)).2 = Out.data [1, 2, 3, 9, 9] := by
  decide

/-! ## Memory backend with the repaired send loop (the id check after every read) -/

/-- the leader's send loop over the memory channel, interleaved with everything else that
    happens to the channel -/
inductive LOp where
  /-- any channel operation (the leader's input, other readers, this reader's copy loop …);
      `ch (.consume rid n)` is the send loop's `ioReader.Read` -/
  | ch (op : MOp)
  /-- the repair: `channel.RunId() == requested id`, then `Send` of what was read; else ERROR -/
  | check
deriving Repr, DecidableEq

structure LState where
  mem : Mem
  /-- read from the pipe, not yet checked -/
  pending : Bytes
  /-- sent to the follower -/
  sent : Bytes
  /-- the loop has ended with ERROR -/
  stopped : Bool

/-- one step. `taken rid op reply` (Proofs/ReplicaReader.lean) are the bytes a `consume rid n`
    returned (`[]` for every other operation or reply): the running loop appends them to
    `pending`. The check sends `pending` if the channel is (still) labelled `x`, else it ends
    the loop; a stopped loop neither reads nor sends. -/
def LState.step (x : String) (rid : Nat) (L : LState) : LOp → LState
  | .ch op =>
    { L with mem := (L.mem.step op).1,
             pending := if L.stopped then L.pending else L.pending ++ taken rid op (L.mem.step op).2 }
  | .check =>
    if L.stopped then L
    else if L.mem.runId = x then { L with sent := L.sent ++ L.pending, pending := [] }
    else { L with stopped := true, pending := [] }

def LState.run (x : String) (rid : Nat) (L : LState) : List LOp → LState
  | [] => L
  | op :: rest => (L.step x rid op).run x rid rest

/-- a property of the channel in every state of the run -/
def LAlong (x : String) (rid : Nat) (P : Mem → Prop) : LState → List LOp → Prop
  | L, [] => P L.mem
  | L, op :: rest => P L.mem ∧ LAlong x rid P (L.step x rid op) rest

/-- `LabelledOk` for the memory channel: in every state of the run labelled `x`, the held
    history is `x`'s -/
def MemLabelledOk (src : Nat → UInt8) (x : String) (rid : Nat) : LState → List LOp → Prop :=
  LAlong x rid (fun m => m.runId = x → m.hist = srcSeg src m.hbase m.hist.length)

/-- the label never returns to `x` once it has left it -/
def NoReturn (x : String) (rid : Nat) : LState → List LOp → Prop
  | _, [] => True
  | L, op :: rest => (L.mem.runId ≠ x → (L.step x rid op).mem.runId ≠ x) ∧ NoReturn x rid (L.step x rid op) rest

instance LAlong.dec (x : String) (rid : Nat) (P : Mem → Prop) [DecidablePred P] :
    (L : LState) → (lops : List LOp) → Decidable (LAlong x rid P L lops)
  | L, [] => inferInstanceAs (Decidable (P L.mem))
  | L, op :: rest =>
    have := LAlong.dec x rid P (L.step x rid op) rest
    inferInstanceAs (Decidable (P L.mem ∧ LAlong x rid P (L.step x rid op) rest))

instance MemLabelledOk.dec (src : Nat → UInt8) (x : String) (rid : Nat) (L : LState) (lops : List LOp) :
    Decidable (MemLabelledOk src x rid L lops) :=
  LAlong.dec x rid (fun m => m.runId = x → m.hist = srcSeg src m.hbase m.hist.length) L lops

instance NoReturn.dec (x : String) (rid : Nat) : (L : LState) → (lops : List LOp) → Decidable (NoReturn x rid L lops)
  | _, [] => isTrue trivial
  | L, op :: rest =>
    have := NoReturn.dec x rid (L.step x rid op) rest
    inferInstanceAs (Decidable ((L.mem.runId ≠ x → (L.step x rid op).mem.runId ≠ x) ∧ NoReturn x rid (L.step x rid op) rest))

/-- the invariant of the checked send loop: C05's invariants; what was sent is `x`'s history;
    and while the loop runs under the label `x`: the reader's pipe protocol (`MemServes`: what
    the copy loop wrote is `x`'s history from `off` on, and `sent ++ pending ++ pipe` is what
    it wrote) and what is known of the segment it holds (`Held`, Proofs/ReplicaReader.lean) -/
private def LInv (src : Nat → UInt8) (x : String) (rid off : Nat) (L : LState) : Prop :=
  FullInv L.mem ∧ IsSrc src off L.sent ∧
    (L.stopped = false → L.mem.runId = x →
      MemServes src rid off L.mem (L.sent ++ L.pending) ∧ Held src rid L.mem)

private theorem LInv.step {src : Nat → UInt8} {x : String} {rid off : Nat} {L : LState}
    (h : LInv src x rid off L) (op : LOp)
    (hlab : L.mem.runId = x → L.mem.hist = srcSeg src L.mem.hbase L.mem.hist.length)
    (hnr : L.mem.runId ≠ x → (L.step x rid op).mem.runId ≠ x) : LInv src x rid off (L.step x rid op) := by
  obtain ⟨hi, hsent, hserv⟩ := h
  cases op with
  | check =>
    simp only [LState.step]
    by_cases hs : L.stopped = true
    · simp only [hs, if_true]; exact ⟨hi, hsent, hserv⟩
    · have hs' : L.stopped = false := by simpa using hs
      simp only [hs', Bool.false_eq_true, if_false]
      by_cases hx : L.mem.runId = x
      · simp only [hx, if_true]
        obtain ⟨⟨r, hr, ha, hout, hpos, hc⟩, hheld⟩ := hserv hs' hx
        refine ⟨hi, hout.prefix ⟨_, hc⟩, fun _ _ => ⟨⟨r, hr, ha, hout, hpos, ?_⟩, hheld⟩⟩
        show (L.sent ++ L.pending) ++ [] ++ pipe r = r.out
        rw [List.append_nil]; exact hc
      · simp only [hx, if_false]
        exact ⟨hi, hsent, fun h => by cases h⟩
  | ch mop =>
    refine ⟨hi.step mop, hsent, fun hs' hx' => ?_⟩
    have hs : L.stopped = false := hs'
    have hx : L.mem.runId = x := Classical.byContradiction fun hne => hnr hne hx'
    obtain ⟨hms, hheld⟩ := hserv hs hx
    have := hms.step hi.1 (hlab hx) hheld.staleOk mop
    obtain ⟨r, hr, _⟩ := hms
    refine ⟨?_, hheld.step hi (hlab hx) hr mop⟩
    show MemServes src rid off (L.mem.step mop).1
      (L.sent ++ (if L.stopped then L.pending else L.pending ++ taken rid mop (L.mem.step mop).2))
    rw [hs]
    simp only [Bool.false_eq_true, if_false]
    rw [← List.append_assoc]
    exact this

private theorem LInv.run {src : Nat → UInt8} {x : String} {rid off : Nat} (lops : List LOp) :
    ∀ (L : LState), LInv src x rid off L → MemLabelledOk src x rid L lops → NoReturn x rid L lops →
      LInv src x rid off (L.run x rid lops) := by
  induction lops with
  | nil => intro L h _ _; exact h
  | cons op rest ih =>
    intro L h hlab hnr
    exact ih _ (h.step op hlab.1 hnr.1) hlab.2 hnr.2

/-- **mem_checked_send_serves_own_id.** The memory backend WITH the repair. A stream reader
    `rid` is opened at `off` on any reachable channel state (the open reports `Out.aof off`);
    then ANY interleaving (`lops`) of channel operations — the leader's input appending,
    blocking and retrying, rotating, collecting, resetting for a new snapshot, being
    relabelled (`setRunId` does not end readers here: `mem_reader_follows_relabel`), other
    readers, this reader's copy loop and close, the send loop's reads — and id checks. If the
    channel holds `x`'s history whenever it is labelled `x` (`MemLabelledOk`, C06's subject)
    and the label never returns to `x` once it has left it (`NoReturn`), then everything the
    loop SENT is `x`'s history from `off` on — contiguous, in order, nothing else; in
    particular nothing appended under another label, although the reader itself goes on
    copying such bytes into its pipe.

    Covers readers left holding a segment that a reset took out of the index (the copy
    goroutine keeps reading the old segment): the heap invariant C05 does not have is proved
    in Proofs/ReplicaReader.lean (`Held`, `KeepFrame`). Not needed and dropped: that the
    channel is labelled `x` at the open (otherwise nothing is ever sent). -/
theorem mem_checked_send_serves_own_id (src : Nat → UInt8) (x : String) (l m : Nat)
    (ops1 : List MOp) (rid off : Nat) (lops : List LOp)
    (hopen : (((Mem.init l m).run ops1).step (.openReader rid off)).2 = Out.aof off)
    (hlab : MemLabelledOk src x rid ⟨(((Mem.init l m).run ops1).step (.openReader rid off)).1, [], [], false⟩ lops)
    (hnr : NoReturn x rid ⟨(((Mem.init l m).run ops1).step (.openReader rid off)).1, [], [], false⟩ lops) :
    let L0 : LState := ⟨(((Mem.init l m).run ops1).step (.openReader rid off)).1, [], [], false⟩
    (L0.run x rid lops).sent = srcSeg src off (L0.run x rid lops).sent.length := by
  intro L0
  have hi1 : FullInv ((Mem.init l m).run ops1) := (FullInv.init l m).run ops1
  have h0 : LInv src x rid off L0 :=
    ⟨hi1.step _, IsSrc.nil _ _, fun _ _ => ⟨MemServes.open hopen, Held.open hi1 hopen⟩⟩
  exact (LInv.run lops L0 h0 hlab hnr).2.1

/-- the same, as announced in the brief (a closed proposition) -/
def mem_checked_send_serves_own_id_stmt : Prop :=
  ∀ (src : Nat → UInt8) (x : String) (l m : Nat) (ops1 : List MOp) (rid off : Nat) (lops : List LOp),
    (((Mem.init l m).run ops1).step (.openReader rid off)).2 = Out.aof off →
    let L0 : LState := ⟨(((Mem.init l m).run ops1).step (.openReader rid off)).1, [], [], false⟩
    MemLabelledOk src x rid L0 lops → NoReturn x rid L0 lops →
      (L0.run x rid lops).sent = srcSeg src off (L0.run x rid lops).sent.length

theorem mem_checked_send_serves_own_id_stmt_holds : mem_checked_send_serves_own_id_stmt :=
  fun src x l m ops1 rid off lops hopen hlab hnr =>
    mem_checked_send_serves_own_id src x l m ops1 rid off lops hopen hlab hnr

/-! ### non-vacuity: the scenario of `mem_reader_follows_relabel` with the check — the loop
    sends the x bytes, reads the y bytes 9,9, and the check stops it before they are sent -/

def exMemOps1 : List MOp := [.setRunId "x", .newAofWriter 100, .aofAppend [1, 2, 3]]

def exLops : List LOp :=
  [ .ch (.startReader 0), .ch (.copyStep 0), .ch (.consume 0 2), .check, .ch (.consume 0 100),
    .ch .aofClose, .ch (.setRunId "y"), .ch (.newAofWriter 103), .ch (.aofAppend [9, 9]),
    .ch (.copyStep 0), .ch (.copyStep 0), .ch (.consume 0 100), .check, .ch (.consume 0 100), .check ]

def exL0 : LState := ⟨(((Mem.init 0 0).run exMemOps1).step (.openReader 0 100)).1, [], [], false⟩

example : (((Mem.init 0 0).run exMemOps1).step (.openReader 0 100)).2 = Out.aof 100 := by decide +kernel
example : MemLabelledOk exSrc "x" 0 exL0 exLops := by decide +kernel
example : NoReturn "x" 0 exL0 exLops := by decide +kernel
-- after the first check: two x bytes sent; the third is read (pending) when the label changes
example : ((exL0.run "x" 0 (exLops.take 5)).sent, (exL0.run "x" 0 (exLops.take 5)).pending) = ([1, 2], [3]) := by decide +kernel
-- the reader's pipe did receive y's bytes, the loop read them …
example : (exL0.run "x" 0 (exLops.take 12)).pending = [3, 9, 9] := by decide +kernel
-- … and the check stopped the loop: only x's bytes were ever sent
example : ((exL0.run "x" 0 exLops).sent, (exL0.run "x" 0 exLops).stopped, (exL0.run "x" 0 exLops).mem.runId) =
    ([1, 2], true, "y") := by decide +kernel

/-! ### back into C16's session theorems

  `Leader.Faithful h L` (the hypothesis `hL` of `follower_prefix_of_leader`) has two clauses: the
  cache the reader is opened on is a copy of history (`d.Faithful`, C05's refinement + C06/C08:
  kept as a hypothesis here), and the bytes served past its right end while the reader is open
  (`L.tail`) are history of the SAME id. The second clause is not assumed for a disk
  leader: it is what C05's model gives for whatever the leader's input does meanwhile. -/

/-- **leader_faithful_from_c05** (disk leader). `L` describes the leader as one request of a
    follower session sees it: label `x`, cache `d` (a copy of `x`'s history), and as `tail`
    whatever the stream reader `rid` — opened at `off ≤ d.right` on a reachable C05 disk state
    labelled `x` — delivered beyond `d.right`, while the leader's own input did ANYTHING
    (`ops2`, also a relabel / id switch / new snapshot). Then `L.Faithful h`: the session
    theorems apply with their hypothesis about open readers discharged. -/
theorem leader_faithful_from_c05 (h : Replica.Hist UInt8) (x : String) (l m : Nat)
    (ops1 ops2 : List DOp) (rid off : Nat) (crc : Bool)
    (hwf : (Disk.init l m).wf (ops1 ++ DOp.openReader rid off crc :: ops2))
    (hx : ((Disk.init l m).run ops1).runId = x)
    (hopen : (((Disk.init l m).run ops1).step (.openReader rid off crc)).2 = Out.aof off)
    (hlab : LabelledOk (h.byte x) x ((Disk.init l m).run ops1) (DOp.openReader rid off crc :: ops2))
    (L : Replica.Leader UInt8) (d : Replica.Data UInt8) (hc : L.cur = x) (hd : L.data = some d)
    (hdf : d.Faithful h x) (hoff : off ≤ d.right)
    (r : DReader) (hr : r ∈ ((Disk.init l m).run (ops1 ++ DOp.openReader rid off crc :: ops2)).readers)
    (hid : r.id = rid) (htail : L.tail = r.out.drop (d.right - off)) :
    L.Faithful h := by
  intro d' hd'
  rw [hd] at hd'
  cases hd'
  rw [hc]
  refine ⟨hdf, ?_⟩
  have hout := (disk_reader_output_is_hseg h x l m ops1 ops2 rid off crc hwf hx hopen hlab r hr hid).1
  have := Replica.hseg_self_drop hout (d.right - off)
  rwa [← htail, show off + (d.right - off) = d.right by omega] at this

/-- what a disk state holds, in C16's vocabulary: C05's abstraction `Disk.abs` (the contiguous
    range of the indexed segments) plus a snapshot -/
def dataOfDisk (s : Disk) (sn : Option Bytes) : Replica.Data UInt8 := ⟨s.abs.base, s.abs.bytes, sn⟩

/-- **disk_state_data_faithful.** The cache part of `Leader.Faithful`, from C05's refinement
    (`disk_refines` / `abs_bytes_eq`): in a reachable disk state labelled `x` whose written
    history is `x`'s (`LabelledOk`'s clause for that state), what the state HOLDS (`Disk.abs`) is
    a copy of history `x`. The snapshot's content has no ghost in C05's model: `hsn` says it is
    the history's snapshot at the range's base (C08 `crash_snapshot_true` / C16's own `Shape.rdb`). -/
theorem disk_state_data_faithful (h : Replica.Hist UInt8) (x : String) (l m : Nat) (ops1 : List DOp)
    (hwf1 : (Disk.init l m).wf ops1) (hne : ((Disk.init l m).run ops1).all ≠ [])
    (hlab1 : ((Disk.init l m).run ops1).hist =
      srcSeg (h.byte x) ((Disk.init l m).run ops1).hbase ((Disk.init l m).run ops1).hist.length)
    (sn : Option Bytes) (hsn : ∀ s, sn = some s → s = h.snap x ((Disk.init l m).run ops1).abs.base) :
    (dataOfDisk ((Disk.init l m).run ops1) sn).Faithful h x := by
  obtain ⟨hle, hb⟩ := abs_bytes_eq ((DInv.init l m).run ops1 hwf1) hne
  refine ⟨?_, hsn⟩
  show ((Disk.init l m).run ops1).abs.bytes =
    Replica.hseg h x ((Disk.init l m).run ops1).abs.base ((Disk.init l m).run ops1).abs.bytes.length
  generalize ((Disk.init l m).run ops1) = s at *
  generalize hn : s.hist.length = n at hlab1
  rw [hb, hlab1, srcSeg_eq_hseg, Replica.hseg_drop, Replica.hseg_length,
    show s.hbase + (s.abs.base - s.hbase) = s.abs.base by omega]

/-- **leader_faithful_of_disk** — `leader_faithful_from_c05` with the cache READ OFF the disk
    state the reader is opened on instead of assumed: `L.data` is `dataOfDisk` of that state. -/
theorem leader_faithful_of_disk (h : Replica.Hist UInt8) (x : String) (l m : Nat)
    (ops1 ops2 : List DOp) (rid off : Nat) (crc : Bool)
    (hwf : (Disk.init l m).wf (ops1 ++ DOp.openReader rid off crc :: ops2))
    (hx : ((Disk.init l m).run ops1).runId = x) (hne : ((Disk.init l m).run ops1).all ≠ [])
    (hopen : (((Disk.init l m).run ops1).step (.openReader rid off crc)).2 = Out.aof off)
    (hlab : LabelledOk (h.byte x) x ((Disk.init l m).run ops1) (DOp.openReader rid off crc :: ops2))
    (sn : Option Bytes) (hsn : ∀ s, sn = some s → s = h.snap x ((Disk.init l m).run ops1).abs.base)
    (L : Replica.Leader UInt8) (hc : L.cur = x) (hd : L.data = some (dataOfDisk ((Disk.init l m).run ops1) sn))
    (hoff : off ≤ (dataOfDisk ((Disk.init l m).run ops1) sn).right)
    (r : DReader) (hr : r ∈ ((Disk.init l m).run (ops1 ++ DOp.openReader rid off crc :: ops2)).readers)
    (hid : r.id = rid)
    (htail : L.tail = r.out.drop ((dataOfDisk ((Disk.init l m).run ops1) sn).right - off)) :
    L.Faithful h := by
  have hwf1 := ((Disk.wf_append _ _ _).mp hwf).1
  have hdf := disk_state_data_faithful h x l m ops1 hwf1 hne (hlab.1 hx) sn hsn
  exact leader_faithful_from_c05 h x l m ops1 ops2 rid off crc hwf hx hopen hlab L _ hc hd hdf hoff r hr hid htail

/-- **leader_faithful_from_mem_checked_send** (memory leader): the memory twin. `L.tail` is what
    the REPAIRED send loop (`LState.run`: every read followed by the id check) sent beyond the
    cache's right end, while the leader's input did anything to the memory channel. (The cache
    part `d.Faithful` stays a hypothesis for the memory backend.) -/
theorem leader_faithful_from_mem_checked_send (h : Replica.Hist UInt8) (x : String) (l m : Nat)
    (ops1 : List MOp) (rid off : Nat) (lops : List LOp)
    (hopen : (((Mem.init l m).run ops1).step (.openReader rid off)).2 = Out.aof off)
    (hlab : MemLabelledOk (h.byte x) x rid ⟨(((Mem.init l m).run ops1).step (.openReader rid off)).1, [], [], false⟩ lops)
    (hnr : NoReturn x rid ⟨(((Mem.init l m).run ops1).step (.openReader rid off)).1, [], [], false⟩ lops)
    (L : Replica.Leader UInt8) (d : Replica.Data UInt8) (hc : L.cur = x) (hd : L.data = some d)
    (hdf : d.Faithful h x) (hoff : off ≤ d.right)
    (htail : L.tail = ((⟨(((Mem.init l m).run ops1).step (.openReader rid off)).1, [], [], false⟩ : LState).run x rid lops).sent.drop
      (d.right - off)) :
    L.Faithful h := by
  intro d' hd'
  rw [hd] at hd'
  cases hd'
  rw [hc]
  refine ⟨hdf, ?_⟩
  have hout := mem_checked_send_serves_own_id (h.byte x) x l m ops1 rid off lops hopen hlab hnr
  simp only at hout
  rw [srcSeg_eq_hseg] at hout
  have := Replica.hseg_self_drop hout (d.right - off)
  rwa [← htail, show off + (d.right - off) = d.right by omega] at this

/-- the leader record one request reads is what a C05 run shows: nothing held; or (disk) label
    `x`, as cache what the disk state the reader is opened on HOLDS (`dataOfDisk`), as `tail`
    what the reader delivered beyond it while the input did anything; or (memory) label `x`, a
    cache that is a copy of `x`'s history, as `tail` what the repaired send loop sent beyond it -/
def LeaderFromC05 (h : Replica.Hist UInt8) (L : Replica.Leader UInt8) : Prop :=
  L.data = none ∨
  (∃ (x : String) (l m : Nat) (ops1 ops2 : List DOp) (rid off : Nat) (crc : Bool)
    (sn : Option Bytes) (r : DReader),
    (Disk.init l m).wf (ops1 ++ DOp.openReader rid off crc :: ops2) ∧
    ((Disk.init l m).run ops1).runId = x ∧ ((Disk.init l m).run ops1).all ≠ [] ∧
    (((Disk.init l m).run ops1).step (.openReader rid off crc)).2 = Out.aof off ∧
    LabelledOk (h.byte x) x ((Disk.init l m).run ops1) (DOp.openReader rid off crc :: ops2) ∧
    (∀ s, sn = some s → s = h.snap x ((Disk.init l m).run ops1).abs.base) ∧
    L.cur = x ∧ L.data = some (dataOfDisk ((Disk.init l m).run ops1) sn) ∧
    off ≤ (dataOfDisk ((Disk.init l m).run ops1) sn).right ∧
    r ∈ ((Disk.init l m).run (ops1 ++ DOp.openReader rid off crc :: ops2)).readers ∧ r.id = rid ∧
    L.tail = r.out.drop ((dataOfDisk ((Disk.init l m).run ops1) sn).right - off)) ∨
  (∃ (x : String) (l m : Nat) (ops1 : List MOp) (rid off : Nat) (lops : List LOp) (d : Replica.Data UInt8),
    (((Mem.init l m).run ops1).step (.openReader rid off)).2 = Out.aof off ∧
    MemLabelledOk (h.byte x) x rid ⟨(((Mem.init l m).run ops1).step (.openReader rid off)).1, [], [], false⟩ lops ∧
    NoReturn x rid ⟨(((Mem.init l m).run ops1).step (.openReader rid off)).1, [], [], false⟩ lops ∧
    L.cur = x ∧ L.data = some d ∧ d.Faithful h x ∧ off ≤ d.right ∧
    L.tail = ((⟨(((Mem.init l m).run ops1).step (.openReader rid off)).1, [], [], false⟩ : LState).run x rid lops).sent.drop
      (d.right - off))

/-- **follower_prefix_of_c05_leader**: the follower-side faithful-copy theorem with the
    leader's cache as a C05 state — `follower_prefix_of_leader` with `Leader.Faithful` replaced by
    C05's models: every leader record a request's `NewReader` reads (`(V n).l4`) is what a C05
    disk run (cache AND tail derived) or a C05 memory run under the repaired send loop shows. -/
theorem follower_prefix_of_c05_leader (h : Replica.Hist UInt8) (bk : Replica.Backend)
    (V : Nat → Replica.View UInt8) (F : Replica.Store UInt8) (ch : List Nat) (cut : Nat)
    (lost : Replica.Loss) (fuel : Nat) (hV : ∀ n, LeaderFromC05 h (V n).l4)
    (hq : (V 0).l2b.cur ≠ "?") (hwf : Replica.WF bk F) (id : Replica.Id)
    (hF : Replica.FaithfulAt h F.dirs id) :
    Replica.FaithfulAt h (Replica.sessionV bk V F ch cut lost fuel).store.dirs id ∧
      Replica.WF bk (Replica.sessionV bk V F ch cut lost fuel).store := by
  apply follower_prefix_of_leader h bk V F ch cut lost fuel _ hq hwf id hF
  intro n
  rcases hV n with hn | ⟨x, l, m, ops1, ops2, rid, off, crc, sn, r, hwf', hx, hne, hopen, hlab, hsn, hc, hd, hoff, hr, hid, htail⟩ |
    ⟨x, l, m, ops1, rid, off, lops, d, hopen, hlab, hnr, hc, hd, hdf, hoff, htail⟩
  · intro d hd; rw [hn] at hd; cases hd
  · exact leader_faithful_of_disk h x l m ops1 ops2 rid off crc hwf' hx hne hopen hlab sn hsn _ hc hd hoff r hr hid htail
  · exact leader_faithful_from_mem_checked_send h x l m ops1 rid off lops hopen hlab hnr _ d hc hd hdf hoff htail

/-- non-vacuity of `LeaderFromC05` (disk): the leader of the example script above as the request
    that opened reader 0 at 102 sees it — the cache is what the state holds, `[100, 104)` of "x",
    the tail the two bytes the reader delivered beyond 104 before the switch to "y" closed it -/
example : LeaderFromC05 ⟨fun _ o => exSrc o, fun _ _ => []⟩
    ⟨true, true, ["x"], "x", some ⟨100, [1, 2, 3, 4], none⟩, true, [5, 6], none⟩ := by
  refine Or.inr (Or.inl ⟨"x", 20, 0, exOps1, exOps2, 0, 102, false, none,
    ⟨0, true, 106, none, 106, false, 102, [3, 4, 5, 6]⟩, by decide, by decide, by decide, by decide, by decide,
    (fun s hs => by cases hs), rfl, by decide, by decide, by decide, rfl, by decide⟩)

/-- … and (memory): the checked send loop of the example above sent `[1, 2]` from 100 -/
example : LeaderFromC05 ⟨fun _ o => UInt8.ofNat (o - 99), fun _ _ => []⟩
    ⟨true, true, ["x"], "x", some ⟨100, [1], none⟩, true, [2], none⟩ := by
  refine Or.inr (Or.inr ⟨"x", 8, 0, exMemOps1, 0, 100, exLops, ⟨100, [1], none⟩, by decide, by decide, by decide,
    rfl, rfl, ⟨by decide, fun s hs => by cases hs⟩, by decide, by decide⟩)

end GunYu.Props.C16
