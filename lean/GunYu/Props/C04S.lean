/-
  C04 — what is LEFT BEHIND by an aborted replay, and a later replay beside it.

  After `sendRdb` returned an error (target error, cancellation) goroutines of that replay may still be alive:
  `rdb.ParseRdb` has no context and stays in `pipe <- entry` when nobody drains `rdbPipe`; a worker may still be
  inside a request. Three questions:

  (a) can such a leftover turn the aborted replay into a recorded one?          `aborted_stays_unrecorded`
      (`ret` and `checkpoint` are final once `finish` fired — whatever runs afterwards)
  (b) how much does the blocked parser hold?                                    `stale_parser_holds_at_most_pipe`
      (never more than RdbPipeSize items in the channel + the one in its hand)
  (c) can it disturb a LATER replay of the same RedisOutput?                    `later_replay_independent`
      (two replays whose goroutines interleave in any way: the later one's state is the state of its own events
       alone — the event systems share nothing. What makes the product the right model of the code is checked on
       the source by the extractor: rdbPipe / errChan / pipes / readBytes are locals of sendRdb, ParseRdb's channel
       is a local `make`, every run obtains a fresh reader (facts c04_sendRdb_locals, c04_parseRdb_pipe_local); and
       on the real code by the harness scenario `second-replay-after-abort`.)
      Consequently every theorem of Part 1 – 3 holds for the later replay: `later_replay_recorded_exactly_once`.
-/
import GunYu.Props.C04F

namespace GunYu.Props.C04
open GunYu GunYu.RdbFanout

/-- **the verdict is final**: once `sendRdb` has returned, no continuation of the schedule — the parser still
    emitting, workers still applying or failing, further cancellations, `finish` attempted again — changes the
    result or writes (or unwrites) the checkpoint -/
theorem ret_is_final {α} (c : Cfg α) (s : St α) (h : s.ret.isSome = true) (sched : List Ev) :
    (run c s sched).ret = s.ret ∧ (run c s sched).checkpoint = s.checkpoint := by
  refine run_invariant c (P := fun t => t.ret = s.ret ∧ t.checkpoint = s.checkpoint) (fun t e ht => ?_) sched s ⟨rfl, rfl⟩
  rcases step_verdict c t e with h1 | ⟨hn, _⟩
  · exact ⟨h1.1.trans ht.1, h1.2.trans ht.2⟩
  · rw [← ht.1, hn] at h; cases h

theorem run_append {α} (c : Cfg α) (s : St α) (a b : List Ev) : run c s (a ++ b) = run c (run c s a) b := by
  simp [run, List.foldl_append]

/-- the checkpoint and the result `nil` go together, for every worker count (`Inv.retOk` needs `0 < n`; `finish` is
    the only writer of either) -/
theorem verdict_coherent {α} (c : Cfg α) (sched : List Ev) : ∀ s : St α, (s.checkpoint = true ↔ s.ret = some .ok) →
    ((run c s sched).checkpoint = true ↔ (run c s sched).ret = some .ok) := by
  refine run_invariant c (P := fun s => s.checkpoint = true ↔ s.ret = some .ok) (fun s e hs => ?_) sched
  rcases step_verdict c s e with ⟨h1, h2⟩ | ⟨hn, ⟨h1, h2⟩ | ⟨h1, h2⟩⟩
  · rw [h1, h2]; exact hs
  · rw [h1, h2, hs, hn]; exact ⟨nofun, nofun⟩
  · rw [h1, h2]; exact ⟨fun _ => rfl, fun _ => rfl⟩

/-- the checkpoint exists only together with the result `nil` -/
theorem checkpoint_only_with_ok {α} (c : Cfg α) (items : List (Item α)) (sched : List Ev) :
    (run c (init items) sched).checkpoint = true → (run c (init items) sched).ret = some .ok :=
  (verdict_coherent c sched (init items) ⟨nofun, nofun⟩).mp

/-- **(a) an aborted replay stays unrecorded**: `sendRdb` returned an error after `sched`; then after ANY further
    events `rest` of its leftover goroutines (the blocked parser waking up, a worker finishing the request it was in,
    another `finish`) the checkpoint is still not written and the result is still the error -/
theorem aborted_stays_unrecorded {α} (c : Cfg α) (items : List (Item α)) (sched rest : List Ev)
    (h : (run c (init items) sched).ret = some .err) :
    (run c (init items) (sched ++ rest)).checkpoint = false ∧ (run c (init items) (sched ++ rest)).ret = some .err := by
  rw [run_append]
  have hf := ret_is_final c (run c (init items) sched) (by rw [h]; rfl) rest
  have hcp : (run c (init items) sched).checkpoint = false := by
    cases hc : (run c (init items) sched).checkpoint with
    | false => rfl
    | true => have := checkpoint_only_with_ok c items sched hc; rw [h] at this; cases this
  exact ⟨hf.2.trans hcp, hf.1.trans h⟩

/-- a recorded replay stays the recorded replay it was (nothing is applied "into" it afterwards that could matter
    for the verdict): the counterpart of (a) -/
theorem recorded_stays_recorded {α} (c : Cfg α) (items : List (Item α)) (sched rest : List Ev)
    (h : (run c (init items) sched).ret = some .ok) :
    (run c (init items) (sched ++ rest)).checkpoint = true ∧ (run c (init items) (sched ++ rest)).ret = some .ok := by
  rw [run_append]
  have hf := ret_is_final c (run c (init items) sched) (by rw [h]; rfl) rest
  exact ⟨hf.2.trans ((verdict_coherent c sched (init items) ⟨nofun, nofun⟩).mpr h), hf.1.trans h⟩

/-- **(b)** at every moment of every schedule — in particular for ever after an abort — `rdbPipe` holds at most
    `cap0` (= config.RdbPipeSize) items: the leaked parser goroutine pins at most that many parsed entries plus
    the one it is trying to send (the head of `todo`), not the rest of the snapshot -/
theorem stale_parser_holds_at_most_pipe {α} (c : Cfg α) (items : List (Item α)) (sched : List Ev) :
    (run c (init items) sched).pipe0.length ≤ c.cap0 :=
  run_invariant c (P := fun s => s.pipe0.length ≤ c.cap0) (step_pipe0_bounded c) sched (init items) (Nat.zero_le _)

/-- two replays of one RedisOutput: the events of the earlier (`inl`) and of the later (`inr`) one in any interleaving.
    The state is a pair because the code shares nothing between two `sendRdb` calls (see the file header). -/
def step2 {α} (c1 c2 : Cfg α) (s : St α × St α) : Ev ⊕ Ev → St α × St α
  | .inl e => (step c1 s.1 e, s.2)
  | .inr e => (s.1, step c2 s.2 e)

def run2 {α} (c1 c2 : Cfg α) (s : St α × St α) (sched : List (Ev ⊕ Ev)) : St α × St α := sched.foldl (step2 c1 c2) s

def rights {β γ} : List (β ⊕ γ) → List γ
  | [] => []
  | .inl _ :: t => rights t
  | .inr e :: t => e :: rights t

def lefts {β γ} : List (β ⊕ γ) → List β
  | [] => []
  | .inl e :: t => e :: lefts t
  | .inr _ :: t => lefts t

/-- **(c)** whatever the earlier replay's goroutines still do, and however they interleave with the later replay, the
    later replay's state is the state reached by its own events alone (and vice versa) -/
theorem later_replay_independent {α} (c1 c2 : Cfg α) (s1 s2 : St α) (sched : List (Ev ⊕ Ev)) :
    run2 c1 c2 (s1, s2) sched = (run c1 s1 (lefts sched), run c2 s2 (rights sched)) := by
  induction sched generalizing s1 s2 with
  | nil => rfl
  | cons e t ih =>
    cases e with
    | inl e => simp only [run2, List.foldl_cons, step2, lefts, rights, run] at ih ⊢; exact ih _ _
    | inr e => simp only [run2, List.foldl_cons, step2, lefts, rights, run] at ih ⊢; exact ih _ _

/-- **bytes → checkpoint for the later replay, exactly once, beside any leftovers**: the second replay of a
    RedisOutput — the first one aborted or not, its goroutines still running or blocked, in any interleaving — is
    recorded only if ITS input parses to `Done` and ITS entries were each applied exactly once -/
theorem later_replay_recorded_exactly_once (cfg : RdbFrameX.Cfg) (maxVer : Nat) (f2 : Bytes)
    (junk items1 items2 : List (Item Nat)) (hfeed : feedO (RdbFrameX.parseX cfg maxVer f2) junk = some items2)
    (c1 c2 : Cfg Nat) (hn : 0 < c2.n) (sched : List (Ev ⊕ Ev))
    (h : (run2 c1 c2 (init items1, init items2) sched).2.checkpoint = true ∨
         (run2 c1 c2 (init items1, init items2) sched).2.ret = some .ok) :
    ∃ n, RdbFrameX.parseX cfg maxVer f2 = .done n ∧
      (run2 c1 c2 (init items1, init items2) sched).2.applied.Perm (List.range n) := by
  rw [later_replay_independent] at h ⊢
  exact recorded_exactly_once_x cfg maxVer f2 junk items2 hfeed c2 hn (rights sched) h

/-- … and the earlier, aborted one is not recorded by anything that happens during the later one -/
theorem earlier_abort_stays_unrecorded {α} (c1 c2 : Cfg α) (items1 items2 : List (Item α)) (sched : List Ev)
    (h : (run c1 (init items1) sched).ret = some .err) (both : List (Ev ⊕ Ev)) :
    (run2 c1 c2 (run c1 (init items1) sched, init items2) both).1.checkpoint = false := by
  rw [later_replay_independent]
  have := aborted_stays_unrecorded c1 items1 sched (lefts both) h
  rw [run_append] at this
  exact this.1

section Examples
/-- one worker, rdbPipe of 1: three entries; the worker fails on the first; sendRdb returns the error while the
    parser still has entries to send -/
def exAbortCfg : Cfg Nat := { n := 1, cap0 := 1, capW := 1, route := fun _ => 0 }
def exAbortItems : List (Item Nat) := parserOutput [0, 1, 2] .done []
def exAbort : List Ev := [.parse, .dist, .parse, .workFail 0, .collectW 0, .distCancel, .collectD, .finish true]
example : (run exAbortCfg (init exAbortItems) exAbort).ret = some .err := by decide
/-- the parser is left with work: an item in the pipe nobody reads, two more to send -/
example : (run exAbortCfg (init exAbortItems) exAbort).pipe0.length = 1 ∧
    (run exAbortCfg (init exAbortItems) exAbort).todo.length = 2 := by decide
/-- it keeps trying, a late `finish` fires again: nothing is recorded -/
example : (run exAbortCfg (init exAbortItems) (exAbort ++ [.parse, .parse, .dist, .work 0, .finish true])).checkpoint = false :=
  (aborted_stays_unrecorded exAbortCfg exAbortItems exAbort _ (by decide)).1
/-- a second replay interleaved with the leftovers of the first completes and is recorded on its own events -/
def exSecond : List (Ev ⊕ Ev) :=
  [.inr .parse, .inl .parse, .inr .dist, .inr (.work 0), .inl .parse, .inr .parse, .inr .dist, .inr (.work 0), .inr .parse,
   .inl .dist, .inr .dist, .inr (.work 0), .inr .parse, .inr .dist, .inl (.finish true), .inr (.workClosed 0), .inr .collectD,
   .inr (.collectW 0), .inr (.finish true)]
example : (run2 exAbortCfg exAbortCfg (run exAbortCfg (init exAbortItems) exAbort, init exAbortItems) exSecond).2.checkpoint = true := by
  decide
example : (run2 exAbortCfg exAbortCfg (run exAbortCfg (init exAbortItems) exAbort, init exAbortItems) exSecond).1.checkpoint = false := by
  decide
example : (run2 exAbortCfg exAbortCfg (run exAbortCfg (init exAbortItems) exAbort, init exAbortItems) exSecond).2.applied = [0, 1, 2] := by
  decide
/-- `ret_is_final`, instantiated on a state that has returned -/
example (rest : List Ev) : (run exAbortCfg (run exAbortCfg (init exAbortItems) exAbort) rest).ret = some .err :=
  (ret_is_final exAbortCfg _ (by decide) rest).1.trans (by decide)
example (sched : List Ev) : (run exAbortCfg (init exAbortItems) sched).pipe0.length ≤ 1 :=
  stale_parser_holds_at_most_pipe exAbortCfg exAbortItems sched
end Examples

end GunYu.Props.C04
