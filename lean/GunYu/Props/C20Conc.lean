/-
  C20 — N concurrent replay workers on ONE keyspace (`sendRdb`: distributor + `replayRdbParallel` workers).

  Model: Model/RestoreWorker.lean — `route` / `routeAll` / `queueOf` (the distributor's routing, REPAIRED 630424b: by the
  key the entry is replayed to), `Sys` (shared keyspace, per-worker loop state), `Sys.step` (one target request, or one
  local move of one worker), `Sys.run` (ANY schedule).

  Every chunk of one key — the empty key included (b043070) — is routed to one worker, `fnv32a(target key) mod n`; in ANY
  interleaving the cells of a worker's keys hold what that worker ALONE makes of the entries it has taken, so under `replace` /
  `ignore` (they never stop) N workers = 1 worker, for every schedule.
  The schedules contain the environment's moves too (`Move.cancel`: the distributor's error, the parent context;
  `Move.close`: pipes closed after a prefix): all theorems hold for them; `conc_quiescent` / `conc_is_one_worker` say what
  they need (no pipe cut, no cancel from outside).
  NOT in the model (listed in checks/p/C20.py): a worker that dies INSIDE an entry (SELECT error, connection error after
  DEL, NewRedisConn failing), the cluster global lane (`rdbReplayBisyncGlobal`: AUX / function entries only), the bisync
  marker's own key, MULTI/EXEC atomicity (the model applies a unit's commands one by one: more intermediate states, same
  cells by locality).
-/
import GunYu.Props.C20Collide
import GunYu.Proofs.RestoreConcOk

namespace GunYu.Props.C20
open GunYu GunYu.Restore

/-- every entry except a function library is routed by the hash of the key it is replayed to, whatever was chosen before -/
theorem route_keyed (w : WCfg) (n : Nat) (e : Entry) (idx : Nat) (h : e.otype ≠ .func) :
    route w n e idx = fnv32a (routeKey w e.key) % n := by
  simp [route, h]

/-- all chunks of one snapshot key reach the same worker — also for the EMPTY key (a valid key; b043070) -/
theorem group_one_worker (w : WCfg) (n : Nat) (g : KGroup) (hg : GoodGroup g) :
    ∀ e ∈ g.entries, ∀ idx, route w n e idx = fnv32a (routeKey w g.key) % n := by
  intro e he idx
  obtain ⟨hk, hd⟩ := hg.1.chunk he
  rw [route_keyed w n e idx (by rw [hd]; simp), hk]; rfl

/-- two snapshot keys that are replayed to ONE target key (`{a}b` and `ab` under replaceHashTag) reach the same worker -/
theorem route_same_target_key (w : WCfg) (n : Nat) (e e' : Entry) (idx idx' : Nat) (h : e.otype ≠ .func) (h' : e'.otype ≠ .func)
    (hk : routeKey w e.key = routeKey w e'.key) : route w n e idx = route w n e' idx' := by
  rw [route_keyed w n e idx h, route_keyed w n e' idx' h', hk]

theorem retag_key_routeKey (w : WCfg) (e : Entry) (h : keyless e = false) : (retag w.rht e).key = routeKey w e.key := by
  have : e.otype = .data ∨ e.otype = .module := by
    cases ho : e.otype <;> simp [keyless, ho] at h ⊢
  unfold retag routeKey
  rcases this with ho | ho <;> cases w.rht <;> simp [ho]

theorem routeAll_snd (w : WCfg) (n : Nat) : ∀ (es : List Entry) (idx : Nat), (routeAll w n idx es).map (·.2) = es
  | [], _ => rfl
  | e :: es, idx => by simp [routeAll, routeAll_snd w n es]

/-- a pipe holds its entries in snapshot order -/
theorem queueOf_sublist (w : WCfg) (n : Nat) (es : List Entry) (i : Nat) : (queueOf w n es i).Sublist es := by
  unfold queueOf
  have h := (List.filter_sublist (l := routeAll w n 0 es) (p := fun p => p.1 == i)).map (·.2)
  rwa [routeAll_snd] at h

theorem mem_routeAll (w : WCfg) (n : Nat) (e : Entry) (ho : e.otype ≠ .func) : ∀ (es : List Entry) (idx : Nat), e ∈ es →
    (fnv32a (routeKey w e.key) % n, e) ∈ routeAll w n idx es
  | e0 :: es, idx, he => by
    rw [routeAll]
    rcases List.mem_cons.mp he with rfl | he
    · rw [route_keyed w n e idx ho]; exact List.mem_cons_self ..
    · exact List.mem_cons_of_mem _ (mem_routeAll w n e ho es _ he)

/-- every keyed entry is in the pipe of the worker its target key hashes to -/
theorem mem_queueOf (w : WCfg) (n : Nat) (es : List Entry) (e : Entry) (he : e ∈ es) (ho : e.otype ≠ .func) :
    e ∈ queueOf w n es (fnv32a (routeKey w e.key) % n) := by
  unfold queueOf
  exact List.mem_map.mpr ⟨_, List.mem_filter.mpr ⟨mem_routeAll w n e ho es 0 he, by simp⟩, rfl⟩

theorem routeAll_fst (w : WCfg) (n : Nat) (p : Nat × Entry) : ∀ (es : List Entry) (idx : Nat), p ∈ routeAll w n idx es →
    p.2 ∈ es ∧ (p.2.otype ≠ .func → p.1 = fnv32a (routeKey w p.2.key) % n)
  | e :: es, idx, hp => by
    rw [routeAll] at hp
    rcases List.mem_cons.mp hp with rfl | hp
    · exact ⟨List.mem_cons_self .., fun ho => route_keyed w n e idx ho⟩
    · obtain ⟨h1, h2⟩ := routeAll_fst w n p es _ hp
      exact ⟨List.mem_cons_of_mem _ h1, h2⟩

/-- … and a pipe holds nothing but entries of the stream whose target key hashes to its worker (and function libraries) -/
theorem queueOf_only (w : WCfg) (n : Nat) (es : List Entry) (i : Nat) (e : Entry) (he : e ∈ queueOf w n es i) :
    e ∈ es ∧ (e.otype ≠ .func → fnv32a (routeKey w e.key) % n = i) := by
  unfold queueOf at he
  obtain ⟨p, hp, rfl⟩ := List.mem_map.mp he
  obtain ⟨hp1, hp2⟩ := List.mem_filter.mp hp
  obtain ⟨h1, h2⟩ := routeAll_fst w n p es 0 hp1
  exact ⟨h1, fun ho => by rw [← h2 ho]; simpa using hp2⟩

/-- the keys of worker `i` among `n` -/
def keysOf (n i : Nat) (k : Bytes) : Prop := fnv32a k % n = i

theorem keysOf_disjoint (n : Nat) : ∀ i j k, keysOf n i k → keysOf n j k → i = j := by
  intro i j k h1 h2; exact h1.symm.trans h2

/-- every keyed entry's expanded commands name the key it is replayed to (`Value` of its group, after `retag`) -/
def CmdsOnTarget (w : WCfg) (es : List Entry) : Prop :=
  ∀ e ∈ es, keyless e = false → ∀ c ∈ (retag w.rht e).cmds, cmdKey c = (retag w.rht e).key

/-- the fresh worker `sendRdb` starts for pipe `i` -/
def freshW (E : Env) (n : Nat) (es : List Entry) (i : Nat) : WSt := { queue := queueOf E.w n es i }

theorem init_get (E : Env) (n : Nat) (ks : KS) (es : List Entry) (i : Nat) (W : WSt)
    (h : (Sys.init E n ks es).ws[i]? = some W) : i < n ∧ W = freshW E n es i := by
  simp only [Sys.init, List.getElem?_map] at h
  by_cases hi : i < n
  · simp [hi] at h; exact ⟨hi, h.symm⟩
  · simp [hi] at h

theorem init_fresh (E : Env) (n : Nat) (ks : KS) (es : List Entry) (i : Nat) (h : i < n) :
    (Sys.init E n ks es).ws[i]? = some (freshW E n es i) := by
  simp [Sys.init, h, freshW]

theorem run_inv (E : Env) (n : Nat) (ks0 : KS) (es : List Entry) (hc : CmdsOnTarget E.w es) (sched : List Move) :
    Inv E (keysOf n) ks0 (Sys.init E n ks0 es).ws (Sys.run E (Sys.init E n ks0 es) sched) := by
  refine Inv.run (keysOf_disjoint n) sched (Inv.init _ _ _ _ fun i W h => ?_)
  obtain ⟨_, rfl⟩ := init_get E n ks0 es i W h
  refine ⟨⟨(by intro r hr; cases hr), ?_, fun _ => rfl⟩, rfl, rfl⟩
  intro e he hk
  obtain ⟨h1, h2⟩ := queueOf_only E.w n es i e he
  have ho : e.otype ≠ .func := by intro ho; simp [keyless, ho] at hk
  refine ⟨?_, hc e h1 hk⟩
  show fnv32a (retag E.w.rht e).key % n = i
  rw [retag_key_routeKey E.w e hk]; exact h2 ho

/-- what worker `i` ALONE (fresh connection in DB 0, nothing remembered) makes of the first `m` entries of its pipe -/
def soloResult (E : Env) (n : Nat) (ks0 : KS) (es : List Entry) (i m : Nat) : KS :=
  (workerTarget (E.tgt 0 ks0) (runWorkerF E.w E.bisync E.pol E.cfg 0 none (E.tgt 0 ks0) ((queueOf E.w n es i).take m))).ks

/-- **any schedule, any moment at which worker `i` has nothing pending** (in particular: it has halted — drained its pipe,
    failed on an entry, or observed the cancel): the cells of the keys routed to `i`, in every DB, hold exactly what
    worker `i` alone makes of the `done` entries it has taken. The other workers' requests never matter. -/
theorem conc_boundary (E : Env) (n : Nat) (ks0 : KS) (es : List Entry) (hc : CmdsOnTarget E.w es) (sched : List Move)
    (i : Nat) (W : WSt) (hi : (Sys.run E (Sys.init E n ks0 es) sched).ws[i]? = some W) (hp : W.pend = []) :
    ∀ d k, fnv32a k % n = i → (Sys.run E (Sys.init E n ks0 es) sched).ks d k = soloResult E n ks0 es i W.done d k := by
  have hinv := run_inv E n ks0 es hc sched
  have hlt : i < n := by
    have h1 : i < (Sys.run E (Sys.init E n ks0 es) sched).ws.length := (List.getElem?_eq_some_iff.mp hi).1
    rw [hinv.len] at h1
    simpa [Sys.init] using h1
  exact Inv.boundary E (keysOf n) ks0 _ _ hinv i W _ hi (init_fresh E n ks0 es i hlt) hp

/-- **all workers halted, nobody cancelled** (no entry failed, no cancel from outside) **and no pipe closed early**: every
    worker took its whole pipe, and the cells of its keys are what it alone makes of the whole pipe. (With an early close or
    a cancel, `conc_boundary` still says what the cells hold: the one-worker result of what WAS taken.) -/
theorem conc_quiescent (E : Env) (n : Nat) (ks0 : KS) (es : List Entry) (hc : CmdsOnTarget E.w es) (sched : List Move)
    (hq : ∀ (i : Nat) (W : WSt), (Sys.run E (Sys.init E n ks0 es) sched).ws[i]? = some W → W.halted = true)
    (hnc : (Sys.run E (Sys.init E n ks0 es) sched).cancel = false)
    (hcut : (Sys.run E (Sys.init E n ks0 es) sched).cut = false) :
    ∀ i, i < n → ∀ d k, fnv32a k % n = i →
      (Sys.run E (Sys.init E n ks0 es) sched).ks d k = soloResult E n ks0 es i (queueOf E.w n es i).length d k := by
  intro i hlt d k hk
  have hinv := run_inv E n ks0 es hc sched
  have hlen : i < (Sys.run E (Sys.init E n ks0 es) sched).ws.length := by
    rw [hinv.len]; simpa [Sys.init] using hlt
  obtain ⟨W, hW⟩ : ∃ W, (Sys.run E (Sys.init E n ks0 es) sched).ws[i]? = some W :=
    ⟨_, List.getElem?_eq_getElem hlen⟩
  have hh := hq i W hW
  have hp := (hinv.wok i W hW).halt hh
  obtain ⟨q1, _⟩ := hinv.quiet i W hW hh hnc
  have hcnt := hinv.cnt hcut i W _ hW (init_fresh E n ks0 es i hlt)
  rw [q1] at hcnt
  have hge : (queueOf E.w n es i).length ≤ W.done := by
    have := List.drop_eq_nil_iff.mp hcnt.symm
    simpa [freshW] using this
  rw [conc_boundary E n ks0 es hc sched i W hW hp d k hk]
  unfold soloResult
  rw [List.take_of_length_le hge, List.take_of_length_le (Nat.le_refl _)]

/-- **once a worker has halted** — for instance: it has OBSERVED the cancel that another worker's key-exists error
    raised — **no cell of its keys is modified any more**, whatever the workers that are still running do, for any
    continuation of the schedule -/
theorem conc_halted_frozen (E : Env) (n : Nat) (ks0 : KS) (es : List Entry) (hc : CmdsOnTarget E.w es)
    (sched more : List Move) (i : Nat) (W : WSt)
    (hi : (Sys.run E (Sys.init E n ks0 es) sched).ws[i]? = some W) (hh : W.halted = true) :
    ∀ d k, fnv32a k % n = i →
      (Sys.run E (Sys.run E (Sys.init E n ks0 es) sched) more).ks d k = (Sys.run E (Sys.init E n ks0 es) sched).ks d k := by
  have hinv := run_inv E n ks0 es hc sched
  exact halted_frozen (keysOf_disjoint n) more hinv i W hi hh

/-- a worker that fails raises the cancel; a worker that then looks at the context halts without touching anything -/
theorem observe_halts (E : Env) (W : WSt) (ks : KS) (h : W.halted = false) (hp : W.pend = []) (ho : W.out = .ok) :
    wstep E true true W ks = ({ W with halted := true }, ks, false) :=
  wstep_observe E true true W ks h hp ho ⟨rfl, rfl⟩

/-! ## N workers = one worker (`replace`, `ignore`) -/

/-- the entries of the stream that go to worker `i`, keyed ones -/
def routedE (w : WCfg) (n i : Nat) (e : Entry) : Bool := fnv32a (routeKey w e.key) % n == i
def routedG (w : WCfg) (n i : Nat) (g : KGroup) : Bool := fnv32a (routeKey w g.key) % n == i

theorem queue_keyed (w : WCfg) (n i : Nat) : ∀ (es : List Entry) (idx : Nat),
    (((routeAll w n idx es).filter (fun p => p.1 == i)).map (·.2)).filter (fun e => !keyless e)
      = (es.filter (fun e => !keyless e)).filter (routedE w n i)
  | [], _ => rfl
  | e :: es, idx => by
    have ih := queue_keyed w n i es (route w n e idx)
    cases hk : keyless e with
    | true =>
      simp only [routeAll, List.filter_cons, hk, Bool.not_true, Bool.false_eq_true, if_false]
      by_cases hr : (route w n e idx == i) = true
      · simp only [hr, if_true, List.map_cons, List.filter_cons, hk, Bool.not_true, Bool.false_eq_true, if_false]
        exact ih
      · simp only [hr]
        exact ih
    | false =>
      have ho : e.otype ≠ .func := by intro ho; simp [keyless, ho] at hk
      have hrt := route_keyed w n e idx ho
      simp only [routeAll, List.filter_cons, hk, Bool.not_false, if_true]
      by_cases hr : (fnv32a (routeKey w e.key) % n == i) = true
      · simp only [hrt, hr, if_true, List.map_cons, List.filter_cons, hk, Bool.not_false, routedE]
        rw [← hrt, ih]
      · simp only [hrt, hr, if_false, routedE, Bool.false_eq_true]
        rw [← hrt, ih]

theorem flat_routed (w : WCfg) (n i : Nat) : ∀ (gs : List KGroup), (∀ g ∈ gs, GoodGroup g) →
    (flat gs).filter (routedE w n i) = flat (gs.filter (routedG w n i))
  | [], _ => rfl
  | g :: gs, hg => by
    have ih := flat_routed w n i gs (fun x hx => hg x (List.mem_cons_of_mem _ hx))
    have hgg := hg g (List.mem_cons_self ..)
    have hkey : ∀ e ∈ g.entries, e.key = g.key := fun e he => (hgg.1.chunk he).1
    rw [flat_cons, List.filter_append, ih, List.filter_cons]
    by_cases hr : routedG w n i g = true
    · have : g.entries.filter (routedE w n i) = g.entries := by
        apply List.filter_eq_self.mpr
        intro e he; simp only [routedE, hkey e he]; exact hr
      rw [this, if_pos hr, flat_cons]
    · have : g.entries.filter (routedE w n i) = [] := by
        apply List.filter_eq_nil_iff.mpr
        intro e he; simp only [routedE, hkey e he]; exact hr
      rw [this, if_neg hr]; rfl

/-- the pipe of worker `i` is a stream of the groups routed to `i` (keyless entries anywhere) -/
theorem stream_queueOf (w : WCfg) (n i : Nat) (gs : List KGroup) (es : List Entry) (hs : StreamOf es gs)
    (hg : ∀ g ∈ gs, GoodGroup g) : StreamOf (queueOf w n es i) (gs.filter (routedG w n i)) := by
  unfold StreamOf queueOf at *
  rw [queue_keyed, hs, flat_routed w n i gs hg]

theorem targetGroups_routed (w : WCfg) (n i : Nat) (gs : List KGroup) (hg : ∀ g ∈ gs, GoodGroup g) :
    targetGroups w (gs.filter (routedG w n i)) = (targetGroups w gs).filter (fun x => fnv32a x.key % n == i) := by
  unfold targetGroups
  rw [List.filter_map, List.filter_filter, List.filter_filter]
  congr 1
  apply List.filter_congr
  intro g hgm
  have hk := mapG_key w g (hg g hgm)
  simp only [Function.comp, routedG, routeKey, hk, Bool.and_comm]

theorem cmdsOnTarget_of_good (w : WCfg) (gs : List KGroup) (es : List Entry) (hs : StreamOf es gs)
    (hg : ∀ g ∈ gs, GoodGroup g ∧ g.oneDb) (ha : w.rht = true → ∀ g ∈ gs, ArgsOK g) : CmdsOnTarget w es := by
  intro e he hk c hc
  have : e ∈ flat gs := by rw [← hs]; exact List.mem_filter.mpr ⟨he, by simp [hk]⟩
  obtain ⟨g, hgm, heg⟩ := List.mem_flatMap.mp this
  have hgood := mapG_good w g (hg g hgm).1 (fun h => ha h g hgm)
  have hkey : ∀ x ∈ g.entries, (retag w.rht x).key = (mapG w g).key := by
    intro x hx
    rcases List.mem_cons.mp hx with rfl | hx
    · rfl
    · have := (hgood.1.later (mapE w x) (List.mem_map_of_mem (f := mapE w) hx)).key
      exact this
  rw [hkey e heg]
  rcases List.mem_cons.mp heg with rfl | hx
  · exact hgood.2.c0 c hc
  · exact hgood.2.cr (mapE w e) (List.mem_map_of_mem (f := mapE w) hx) c hc

/-- every entry of a stream of good (data) groups is one that cannot fail under `replace` / `ignore` -/
theorem entryNoFail_of_good (E : Env) (gs : List KGroup) (es : List Entry) (hs : StreamOf es gs)
    (hg : ∀ g ∈ gs, GoodGroup g ∧ g.oneDb)
    (hb : E.bisync = true → ∀ g ∈ targetGroups E.w gs, useRestore E.cfg g.1 = true → E.bad g.key = false) :
    ∀ e ∈ es, EntryNoFail E e := by
  intro e he
  cases hk : keyless e with
  | true =>
    refine ⟨?_, fun _ h => by rw [hk] at h; cases h⟩
    have : keyless (retag E.w.rht e) = true := by rw [retag_keyless]; exact hk
    intro hm; simp [keyless, hm] at this
  | false =>
    have hin : e ∈ flat gs := by rw [← hs]; exact List.mem_filter.mpr ⟨he, by simp [hk]⟩
    obtain ⟨g, hgm, heg⟩ := List.mem_flatMap.mp hin
    obtain ⟨hgood, hone⟩ := hg g hgm
    have hdata : e.otype = .data := (hgood.1.chunk heg).2
    refine ⟨by rw [Props.C20.retag_otype, hdata]; simp, ?_⟩
    intro hbi _ c1 c2 hu
    rcases List.mem_cons.mp heg with rfl | hx
    · have hkept : keptG E.w g = true := by
        have h1 : g.1.db = Int.ofNat g.dbn := hone g.1 (List.mem_cons_self ..)
        have c1' : ¬ E.w.filterDb g.dbn = true := by
          intro h; apply c1; rw [h1]; exact ⟨by simp, by simpa using h⟩
        simp only [keptG, Bool.and_eq_true, Bool.not_eq_true']
        exact ⟨by simpa using c1', by simpa [KGroup.key] using c2⟩
      have hmem : mapG E.w g ∈ targetGroups E.w gs :=
        List.mem_map_of_mem (f := mapG E.w) (List.mem_filter.mpr ⟨hgm, hkept⟩)
      exact hb hbi (mapG E.w g) hmem hu
    · have hsp : (retag E.w.rht e).splited = true := (retag_fields _ e).2.2.1.trans (hgood.1.later e hx).split
      rw [useRestore_split hsp] at hu; cases hu

/-- under `replace` / `ignore`, with data values the target can take, NO worker ever fails: unless the environment cancels,
    the cancel flag stays down in every reachable state -/
theorem no_worker_cancels (E : Env) (n : Nat) (ks0 : KS) (gs : List KGroup) (es : List Entry)
    (hs : StreamOf es gs) (hg : ∀ g ∈ gs, GoodGroup g ∧ g.oneDb) (ha : E.w.rht = true → ∀ g ∈ gs, ArgsOK g)
    (hpol : E.pol ≠ .error)
    (hb : E.bisync = true → ∀ g ∈ targetGroups E.w gs, useRestore E.cfg g.1 = true → E.bad g.key = false)
    (sched : List Move) (hext : ∀ m ∈ sched, m.isCancel = false) :
    AllOk E (Sys.run E (Sys.init E n ks0 es) sched) := by
  have _ := ha
  refine AllOk.run E hpol sched _ ⟨?_, ?_, rfl⟩ hext
  · intro i W h
    obtain ⟨_, rfl⟩ := init_get E n ks0 es i W h
    rfl
  · intro i W h e he
    obtain ⟨_, rfl⟩ := init_get E n ks0 es i W h
    exact entryNoFail_of_good E gs es hs hg hb e (queueOf_only E.w n es i e he).1

/-- **N workers, ANY interleaving, `replace` or `ignore`**: when all workers have halted, the environment did not cancel
    and closed no pipe early (that no WORKER raises the cancel is proved: `no_worker_cancels` — the policies never
    stop, the values are data values the target can take), the keyspace is — cell by cell, every DB, every key — the keyspace ONE worker makes of the
    whole snapshot. Whatever the one-worker theorems say (Props/C20Worker.lean, C20Collide.lean) holds for `sendRdb`. -/
theorem conc_is_one_worker (E : Env) (n : Nat) (hn : 0 < n) (ks0 : KS) (gs : List KGroup) (es : List Entry)
    (hs : StreamOf es gs) (hg : ∀ g ∈ gs, GoodGroup g ∧ g.oneDb) (ha : E.w.rht = true → ∀ g ∈ gs, ArgsOK g)
    (hpol : E.pol ≠ .error)
    (hb : E.bisync = true → ∀ g ∈ targetGroups E.w gs, useRestore E.cfg g.1 = true → E.bad g.key = false)
    (sched : List Move)
    (hq : ∀ (i : Nat) (W : WSt), (Sys.run E (Sys.init E n ks0 es) sched).ws[i]? = some W → W.halted = true)
    (hext : ∀ m ∈ sched, m.isCancel = false)
    (hcut : (Sys.run E (Sys.init E n ks0 es) sched).cut = false) :
    (Sys.run E (Sys.init E n ks0 es) sched).ks
      = (workerTarget (E.tgt 0 ks0) (runWorkerF E.w E.bisync E.pol E.cfg 0 none (E.tgt 0 ks0) es)).ks := by
  have hnc : (Sys.run E (Sys.init E n ks0 es) sched).cancel = false :=
    (no_worker_cancels E n ks0 gs es hs hg ha hpol hb sched hext).nc
  have hc := cmdsOnTarget_of_good E.w gs es hs hg ha
  have hg1 : ∀ g ∈ gs, GoodGroup g := fun g h => (hg g h).1
  funext d k
  have hlt : fnv32a k % n < n := Nat.mod_lt _ hn
  rw [conc_quiescent E n ks0 es hc sched hq hnc hcut (fnv32a k % n) hlt d k rfl]
  unfold soloResult
  rw [List.take_of_length_le (Nat.le_refl _)]
  -- worker i alone on its pipe: the policy sequence over the groups routed to i
  have hgi : ∀ g ∈ gs.filter (routedG E.w n (fnv32a k % n)), GoodGroup g ∧ g.oneDb :=
    fun g h => hg g (List.mem_filter.mp h).1
  have hai : E.w.rht = true → ∀ g ∈ gs.filter (routedG E.w n (fnv32a k % n)), ArgsOK g :=
    fun h g hm => ha h g (List.mem_filter.mp hm).1
  have htr := targetGroups_routed E.w n (fnv32a k % n) gs hg1
  have hbi : E.bisync = true → ∀ g ∈ targetGroups E.w (gs.filter (routedG E.w n (fnv32a k % n))),
      useRestore E.cfg g.1 = true → (E.tgt 0 ks0).bad g.key = false := by
    intro h g hm; rw [htr] at hm; exact hb h g (List.mem_filter.mp hm).1
  obtain ⟨_, s2⟩ := seq_workerF E.w E.bisync E.pol E.cfg 0 none (E.tgt 0 ks0) _ _
    (stream_queueOf E.w n (fnv32a k % n) gs es hs hg1) rfl hgi hai hbi
  obtain ⟨_, o2⟩ := seq_workerF E.w E.bisync E.pol E.cfg 0 none (E.tgt 0 ks0) gs es hs rfl hg ha hb
  rw [s2, o2, htr]
  exact (polSeq_cell_filter E.pol hpol _ (fun x => fnv32a x.key % n == fnv32a k % n) d k
    (fun g _ h2 => by simp [h2]) _ _ _ rfl).symm

/-! ## `ignore` / `error` with N workers: what the target held is never touched

  Any schedule, any moves of the environment (cancel from outside, pipes closed early). -/

theorem filter_take_prefix {α : Type} (p : α → Bool) : ∀ (l : List α) (m : Nat), ∃ j, (l.take m).filter p = (l.filter p).take j
  | [], m => ⟨0, by simp⟩
  | _ :: _, 0 => ⟨0, by simp⟩
  | a :: l, m + 1 => by
    obtain ⟨j, hj⟩ := filter_take_prefix p l m
    cases hp : p a with
    | true => exact ⟨j + 1, by simp [List.take_succ_cons, hp, hj]⟩
    | false => exact ⟨j, by simp [List.take_succ_cons, hp, hj]⟩

/-- a prefix of a snapshot's keyed entries is the entry list of a snapshot: whole groups and, last, the first chunks of one -/
theorem flat_take : ∀ (gs : List KGroup) (j : Nat),
    ∃ gs' : List KGroup, (flat gs).take j = flat gs' ∧ ∀ g' ∈ gs', ∃ g ∈ gs, ∃ r, g'.1 = g.1 ∧ g.2 = g'.2 ++ r
  | [], j => ⟨[], by simp [flat], by simp⟩
  | _ :: _, 0 => ⟨[], by simp [flat], by simp⟩
  | g :: gs, j + 1 => by
    obtain ⟨gs'', h1, h2⟩ := flat_take gs (j - g.2.length)
    refine ⟨(g.1, g.2.take j) :: gs'', ?_, ?_⟩
    · rw [flat_cons, flat_cons]
      show (g.1 :: (g.2 ++ flat gs)).take (j + 1) = g.1 :: (g.2.take j ++ flat gs'')
      rw [List.take_succ_cons, List.take_append, h1]
    · intro g' hg'
      rcases List.mem_cons.mp hg' with rfl | hg'
      · exact ⟨g, List.mem_cons_self .., g.2.drop j, rfl, (List.take_append_drop j g.2).symm⟩
      · obtain ⟨x, hx, r, e1, e2⟩ := h2 g' hg'
        exact ⟨x, List.mem_cons_of_mem _ hx, r, e1, e2⟩

theorem good_prefix (g g' : KGroup) (r : List Entry) (h1 : g'.1 = g.1) (h2 : g.2 = g'.2 ++ r) (hg : GoodGroup g ∧ g.oneDb) :
    (GoodGroup g' ∧ g'.oneDb) ∧ (ArgsOK g → ArgsOK g') := by
  obtain ⟨e0, l⟩ := g'
  obtain ⟨_, _⟩ := g
  dsimp only at h1 h2
  subst h1 h2
  obtain ⟨⟨⟨gd, gf, gl, gs⟩, ⟨vc0, vne, vcr, vexp⟩⟩, hone⟩ := hg
  have hsub : ∀ e ∈ l, e ∈ l ++ r := fun e he => List.mem_append_left _ he
  refine ⟨⟨⟨⟨gd, gf, fun e he => gl e (hsub e he), fun hne => gs fun h => hne (List.append_eq_nil_iff.mp h).1⟩,
    ⟨vc0, vne, fun e he => vcr e (hsub e he), fun e he => vexp e (hsub e he)⟩⟩, fun e he => ?_⟩, fun ha c hc => ha c ?_⟩
  · rcases List.mem_cons.mp he with rfl | he
    · exact hone _ (List.mem_cons_self ..)
    · exact hone e (List.mem_cons_of_mem _ (hsub e he))
  · rcases List.mem_append.mp hc with hc | hc
    · exact List.mem_append_left _ hc
    · obtain ⟨e, he, hce⟩ := List.mem_flatMap.mp hc
      exact List.mem_append_right _ (List.mem_flatMap.mpr ⟨e, hsub e he, hce⟩)

theorem stream_take (w : WCfg) (gs : List KGroup) (es : List Entry) (m : Nat) (hs : StreamOf es gs)
    (hg : ∀ g ∈ gs, GoodGroup g ∧ g.oneDb) (ha : w.rht = true → ∀ g ∈ gs, ArgsOK g) :
    ∃ gs', StreamOf (es.take m) gs' ∧ (∀ g ∈ gs', GoodGroup g ∧ g.oneDb) ∧ (w.rht = true → ∀ g ∈ gs', ArgsOK g) := by
  obtain ⟨j, hj⟩ := filter_take_prefix (fun e => !keyless e) es m
  obtain ⟨gs', h1, h2⟩ := flat_take gs j
  refine ⟨gs', ?_, ?_, ?_⟩
  · unfold StreamOf at hs ⊢; rw [hj, hs, h1]
  · intro g' hg'
    obtain ⟨g, hgm, r, e1, e2⟩ := h2 g' hg'
    exact (good_prefix g g' r e1 e2 (hg g hgm)).1
  · intro hr g' hg'
    obtain ⟨g, hgm, r, e1, e2⟩ := h2 g' hg'
    exact (good_prefix g g' r e1 e2 (hg g hgm)).2 (ha hr g hgm)

theorem plainEff_set_none (pol : Policy) (cfg : Cfg) (hp : pol ≠ .replace) (t : Target) (g : KGroup) (o : Obj)
    (h : plainEff pol cfg t g = .set o) : t.get g.key = none := by
  cases pol with
  | replace => exact absurd rfl hp
  | ignore => simp only [plainEff] at h; split at h <;> simp_all
  | error => simp only [plainEff] at h; split at h <;> simp_all

theorem bisyncEff_set_none (pol : Policy) (cfg : Cfg) (hp : pol ≠ .replace) (t : Target) (g : KGroup) (o : Obj)
    (h : bisyncEff pol cfg t g = .set o) : t.get g.key = none := by
  cases hx : t.get g.key with
  | none => rfl
  | some x => cases pol <;> simp [bisyncEff, hx] at h hp

/-- **`ignore` / `error`, N workers, ANY schedule, ANY moves of the environment**: whenever worker `i` has nothing pending,
    every cell of its keys that the target held at the start is exactly as it was -/
theorem conc_held_unchanged (E : Env) (n : Nat) (ks0 : KS) (gs : List KGroup) (es : List Entry)
    (hs : StreamOf es gs) (hg : ∀ g ∈ gs, GoodGroup g ∧ g.oneDb) (ha : E.w.rht = true → ∀ g ∈ gs, ArgsOK g)
    (hpol : E.pol ≠ .replace) (sched : List Move) (i : Nat) (W : WSt)
    (hi : (Sys.run E (Sys.init E n ks0 es) sched).ws[i]? = some W) (hp : W.pend = []) :
    ∀ d k v, fnv32a k % n = i → ks0 d k = some v → (Sys.run E (Sys.init E n ks0 es) sched).ks d k = some v := by
  intro d k v hk hv
  have hc := cmdsOnTarget_of_good E.w gs es hs hg ha
  have hg1 : ∀ g ∈ gs, GoodGroup g := fun g h => (hg g h).1
  rw [conc_boundary E n ks0 es hc sched i W hi hp d k hk]
  unfold soloResult
  have hsq := stream_queueOf E.w n i gs es hs hg1
  obtain ⟨gs', t1, t2, t3⟩ := stream_take E.w (gs.filter (routedG E.w n i)) (queueOf E.w n es i) W.done hsq
    (fun g h => hg g (List.mem_filter.mp h).1) (fun h g hm => ha h g (List.mem_filter.mp hm).1)
  rw [seqW_workerF E.w E.bisync E.pol E.cfg 0 none (E.tgt 0 ks0) gs' _ t1 rfl t2 t3]
  apply seqW_keeps_held
  · intro t g o h
    cases hb : E.bisync with
    | true => rw [hb] at h; exact bisyncEff_set_none E.pol E.cfg hpol t g o h
    | false => rw [hb] at h; exact plainEff_set_none E.pol E.cfg hpol t g o h
  · exact hv

/-- … **and once worker `i` has halted** — it failed on a key that exists, drained its pipe, or OBSERVED the cancel that
    another worker's key-exists error (or the environment) raised — **those cells stay as they were for ever**, whatever
    the workers still running and the environment do -/
theorem conc_held_frozen (E : Env) (n : Nat) (ks0 : KS) (gs : List KGroup) (es : List Entry)
    (hs : StreamOf es gs) (hg : ∀ g ∈ gs, GoodGroup g ∧ g.oneDb) (ha : E.w.rht = true → ∀ g ∈ gs, ArgsOK g)
    (hpol : E.pol ≠ .replace) (sched more : List Move) (i : Nat) (W : WSt)
    (hi : (Sys.run E (Sys.init E n ks0 es) sched).ws[i]? = some W) (hh : W.halted = true) :
    ∀ d k v, fnv32a k % n = i → ks0 d k = some v →
      (Sys.run E (Sys.run E (Sys.init E n ks0 es) sched) more).ks d k = some v := by
  intro d k v hk hv
  have hc := cmdsOnTarget_of_good E.w gs es hs hg ha
  have hinv := run_inv E n ks0 es hc sched
  rw [conc_halted_frozen E n ks0 es hc sched more i W hi hh d k hk]
  exact conc_held_unchanged E n ks0 gs es hs hg ha hpol sched i W hi ((hinv.wok i W hi).halt hh) d k v hk hv

/-! ## non-vacuity: two workers, `h` (three chunks, held by the target) and `i` (absent) -/

def exEnv (pol : Policy) : Env := { w := {}, bisync := false, pol := pol, cfg := exCfg, now := 1000, bad := fun _ => false }
def exEs : List Entry := [exAux, exE0, exE1, exE2, exFn, exK]

-- routing: `h` → worker 1, `i` → worker 0 (of 2); the AUX field by its name; the function library round-robin
example : (routeAll {} 2 0 exEs).map (·.1) = [1, 1, 1, 1, 0, 0] := by decide
example : queueOf {} 2 exEs 1 = [exAux, exE0, exE1, exE2] := by decide
example : queueOf {} 2 exEs 0 = [exFn, exK] := by decide
-- the EMPTY key is a key: hashed, never round-robin
example : route {} 3 { exE0 with key := [] } 0 = route {} 3 { exE1 with key := [] } 2 := by decide
example : ∀ idx, route {} 3 { exE0 with key := [] } idx = fnv32a [] % 3 := fun idx => route_keyed {} 3 _ idx (by decide)
-- `{h}` and `h` under replaceHashTag: one worker (they would part without it: 123 ⊕ 125 changes the hash)
example : route { rht := true } 7 exTagE 0 = route { rht := true } 7 exR 3 :=
  route_same_target_key { rht := true } 7 exTagE exR 0 3 (by decide) (by decide) (by decide)
example : route {} 7 exTagE 0 ≠ route {} 7 exR 3 := by decide
example : ∀ e ∈ exG1.entries, ∀ idx, route {} 2 e idx = 1 := fun e he idx => by
  rw [group_one_worker {} 2 exG1 exG1_good e he idx]; decide

theorem exEs_cmds (w : WCfg) (hw : w.rht = false) : CmdsOnTarget w exEs := by
  intro e he hk c hc
  have h0 : retag w.rht e = e := by simp [retag, hw]
  rw [h0] at hc ⊢
  simp [exEs] at he
  rcases he with rfl | rfl | rfl | rfl | rfl | rfl
  · exact absurd hk (by decide)
  · simp [exE0] at hc; subst hc; rfl
  · simp [exE1, exE0] at hc; subst hc; rfl
  · simp [exE2, exE0] at hc; subst hc; rfl
  · exact absurd hk (by decide)
  · simp [exK, exR, exE0] at hc; subst hc; rfl

-- a schedule: worker 1 takes the AUX entry, `h` chunk 1 and probes; worker 0 takes the function library and `i` and RESTOREs it
-- between the chunks of `h`; both drain. ignore: `h` untouched, `i` written — as one worker would leave them.
def exSched : List Move := works
  [(1, false), (0, false), (1, false), (0, false), (0, false), (1, false), (0, false), (1, false), (0, false), (1, false), (0, false), (1, false)]

example : (Sys.run (exEnv .ignore) (Sys.init (exEnv .ignore) 2 exT.ks exEs) exSched).ks 0 [104] = some { val := .old 0, exp := 777 } := by
  decide
example : (Sys.run (exEnv .ignore) (Sys.init (exEnv .ignore) 2 exT.ks exEs) exSched).ks 0 [105] = some { val := .restored [4, 3], exp := 5000 } := by
  decide
theorem exSched_halted : ((Sys.run (exEnv .ignore) (Sys.init (exEnv .ignore) 2 exT.ks exEs) exSched).ws.map (·.halted)) = [true, true] := by
  decide
theorem exSched_quiet : ∀ (i : Nat) (W : WSt),
    (Sys.run (exEnv .ignore) (Sys.init (exEnv .ignore) 2 exT.ks exEs) exSched).ws[i]? = some W → W.halted = true := by
  intro i W h
  have hm := List.mem_map_of_mem (f := (·.halted)) (List.mem_of_getElem? h)
  rw [exSched_halted] at hm
  simpa using hm
theorem exStreamConc : StreamOf exEs [exG1, exG2] := by unfold StreamOf; decide
theorem ex_goodConc : ∀ g ∈ [exG1, exG2], GoodGroup g ∧ g.oneDb := by
  intro g hg; simp at hg; rcases hg with rfl | rfl
  · exact ex_goodW exG1 (by simp)
  · exact ⟨exG2_good, by intro e he; simp [KGroup.entries, exG2] at he; subst he; rfl⟩
example : (Sys.run (exEnv .ignore) (Sys.init (exEnv .ignore) 2 exT.ks exEs) exSched).ks
    = (workerTarget ((exEnv .ignore).tgt 0 exT.ks) (runWorkerF {} false .ignore exCfg 0 none ((exEnv .ignore).tgt 0 exT.ks) exEs)).ks :=
  conc_is_one_worker (exEnv .ignore) 2 (by decide) exT.ks [exG1, exG2] exEs exStreamConc ex_goodConc (fun h => absurd h (by decide))
    (by decide) (fun h => absurd h (by decide)) exSched exSched_quiet (by decide) (by decide)
example : ∀ d k, fnv32a k % 2 = 1 → (Sys.run (exEnv .ignore) (Sys.init (exEnv .ignore) 2 exT.ks exEs) exSched).ks d k
    = soloResult (exEnv .ignore) 2 exT.ks exEs 1 4 d k :=
  conc_quiescent (exEnv .ignore) 2 exT.ks exEs (exEs_cmds {} rfl) exSched exSched_quiet (by decide) (by decide) 1 (by decide)

-- `error`: worker 1 fails on `h` and raises the cancel; worker 0 has replayed the function library only, OBSERVES the cancel and
-- halts: `i` stays absent, and stays so whatever is scheduled afterwards
def exSchedE : List Move := works [(0, false), (1, false), (1, false), (1, false), (1, false), (0, false), (0, true)]
example : (Sys.run (exEnv .error) (Sys.init (exEnv .error) 2 exT.ks exEs) exSchedE).cancel = true := by decide
example : ((Sys.run (exEnv .error) (Sys.init (exEnv .error) 2 exT.ks exEs) exSchedE).ws.map (fun W => (W.halted, W.done, W.out)))
    = [(true, 1, .ok), (true, 2, .errExists)] := by decide
example : (Sys.run (exEnv .error) (Sys.init (exEnv .error) 2 exT.ks exEs) exSchedE).ks 0 [105] = none := by decide
theorem exSchedE_w0 : ∃ W, (Sys.run (exEnv .error) (Sys.init (exEnv .error) 2 exT.ks exEs) exSchedE).ws[0]? = some W ∧ W.halted = true ∧ W.pend = [] ∧ W.done = 1 := by
  refine ⟨_, rfl, ?_, ?_, ?_⟩ <;> decide
example : ∀ more d k, fnv32a k % 2 = 0 →
    (Sys.run (exEnv .error) (Sys.run (exEnv .error) (Sys.init (exEnv .error) 2 exT.ks exEs) exSchedE) more).ks d k
      = (Sys.run (exEnv .error) (Sys.init (exEnv .error) 2 exT.ks exEs) exSchedE).ks d k := by
  obtain ⟨W, h1, h2, _, _⟩ := exSchedE_w0
  exact fun more => conc_halted_frozen (exEnv .error) 2 exT.ks exEs (exEs_cmds {} rfl) exSchedE more 0 W h1 h2
example : ∀ d k, fnv32a k % 2 = 0 →
    (Sys.run (exEnv .error) (Sys.init (exEnv .error) 2 exT.ks exEs) exSchedE).ks d k = soloResult (exEnv .error) 2 exT.ks exEs 0 1 d k := by
  obtain ⟨W, h1, _, h3, h4⟩ := exSchedE_w0
  rw [← h4]
  exact conc_boundary (exEnv .error) 2 exT.ks exEs (exEs_cmds {} rfl) exSchedE 0 W h1 h3
-- Go's select may as well take the next entry although the context is cancelled: `i` is written in that schedule
example : (Sys.run (exEnv .error) (Sys.init (exEnv .error) 2 exT.ks exEs)
    (works [(0, false), (1, false), (1, false), (1, false), (1, false), (0, false), (0, false), (0, false), (0, true)])).ks 0 [105]
    = some { val := .restored [4, 3], exp := 5000 } := by decide
example : wstep (exEnv .error) true true { queue := [exK] } exT.ks = ({ queue := [exK], halted := true }, exT.ks, false) :=
  observe_halts (exEnv .error) _ _ rfl rfl rfl

-- `ignore` / `error`: the cell the target held (`h`, worker 1's key) is as it was at worker 1's halt — and for ever after
theorem exSchedE_w1 : ∃ W, (Sys.run (exEnv .error) (Sys.init (exEnv .error) 2 exT.ks exEs) exSchedE).ws[1]? = some W ∧ W.halted = true ∧ W.pend = [] := by
  refine ⟨_, rfl, ?_, ?_⟩ <;> decide
example : (Sys.run (exEnv .error) (Sys.init (exEnv .error) 2 exT.ks exEs) exSchedE).ks 0 [104] = some { val := .old 0, exp := 777 } := by
  obtain ⟨W, h1, _, h3⟩ := exSchedE_w1
  exact conc_held_unchanged (exEnv .error) 2 exT.ks [exG1, exG2] exEs exStreamConc ex_goodConc (fun h => absurd h (by decide)) (by decide)
    exSchedE 1 W h1 h3 0 [104] _ (by decide) rfl
example : ∀ more, (Sys.run (exEnv .error) (Sys.run (exEnv .error) (Sys.init (exEnv .error) 2 exT.ks exEs) exSchedE) more).ks 0 [104]
    = some { val := .old 0, exp := 777 } := by
  obtain ⟨W, h1, h2, _⟩ := exSchedE_w1
  exact fun more => conc_held_frozen (exEnv .error) 2 exT.ks [exG1, exG2] exEs exStreamConc ex_goodConc (fun h => absurd h (by decide)) (by decide)
    exSchedE more 1 W h1 h2 0 [104] _ (by decide) rfl

-- moves of the environment. A cancel from OUTSIDE (the distributor's error, the parent context) under `ignore`: worker 0 has
-- replayed the function library, worker 1 nothing; both observe and halt with entries left in their pipes …
def exSchedX : List Move := [.work 0 false, .work 0 false, .cancel, .work 0 true, .work 1 true]
example : ((Sys.run (exEnv .ignore) (Sys.init (exEnv .ignore) 2 exT.ks exEs) exSchedX).ws.map (fun W => (W.halted, W.done, W.queue.length)))
    = [(true, 1, 1), (true, 0, 4)] := by decide
-- … a state no worker-only schedule reaches under `ignore`; the theorems cover it: `i` stays absent whatever follows
theorem exSchedX_w0 : ∃ W, (Sys.run (exEnv .ignore) (Sys.init (exEnv .ignore) 2 exT.ks exEs) exSchedX).ws[0]? = some W ∧ W.halted = true ∧ W.pend = [] ∧ W.done = 1 := by
  refine ⟨_, rfl, ?_, ?_, ?_⟩ <;> decide
example : ∀ more d k, fnv32a k % 2 = 0 →
    (Sys.run (exEnv .ignore) (Sys.run (exEnv .ignore) (Sys.init (exEnv .ignore) 2 exT.ks exEs) exSchedX) more).ks d k
      = soloResult (exEnv .ignore) 2 exT.ks exEs 0 1 d k := by
  obtain ⟨W, h1, h2, h3, h4⟩ := exSchedX_w0
  intro more d k hk
  rw [conc_halted_frozen (exEnv .ignore) 2 exT.ks exEs (exEs_cmds {} rfl) exSchedX more 0 W h1 h2 d k hk, ← h4]
  exact conc_boundary (exEnv .ignore) 2 exT.ks exEs (exEs_cmds {} rfl) exSchedX 0 W h1 h3 d k hk
-- the distributor stops early: pipe 0 is closed with the function library only, pipe 1 after the AUX entry and the first chunk
-- of `h`; both workers drain what they got and halt WITHOUT a cancel — `i` is never replayed, no pipe was taken whole
def exSchedC : List Move := [.close 0 1, .close 1 2] ++ works (List.replicate 6 (0, false) ++ List.replicate 6 (1, false))
example : ((Sys.run (exEnv .ignore) (Sys.init (exEnv .ignore) 2 exT.ks exEs) exSchedC).ws.map (fun W => (W.halted, W.done, W.queue.length)))
    = [(true, 1, 0), (true, 2, 0)] := by decide
example : (Sys.run (exEnv .ignore) (Sys.init (exEnv .ignore) 2 exT.ks exEs) exSchedC).cancel = false ∧
    (Sys.run (exEnv .ignore) (Sys.init (exEnv .ignore) 2 exT.ks exEs) exSchedC).cut = true ∧
    (Sys.run (exEnv .ignore) (Sys.init (exEnv .ignore) 2 exT.ks exEs) exSchedC).ks 0 [105] = none := by decide

-- the D32 configuration: BIDIRECTIONAL, replaceHashTag, TargetDb = 0, a key filter; 7 workers. `{h}` (DB 0) and `h` (DB 1) are
-- replayed to the one cell (0, h) by ONE worker (1), `i` (worker 3) is filtered
def exEnvD : Env := { w := { rht := true, targetDb := 0, filterKey := fun k => k == [105] }, bisync := true, pol := .replace,
                      cfg := exCfg, now := 1000, bad := fun _ => false }
def exD : List Entry := [exTagE, exK, exR1]
def exSchedD : List Move := works (List.replicate 14 (1, false) ++ List.replicate 4 (3, false))
example : (routeAll exEnvD.w 7 0 exD).map (·.1) = [1, 3, 1] := by decide
theorem exD_cmds : CmdsOnTarget exEnvD.w exD := by
  intro e he hk c hc
  simp [exD] at he
  rcases he with rfl | rfl | rfl <;> revert c <;> decide
theorem exD_w1 : ∃ W, (Sys.run exEnvD (Sys.init exEnvD 7 exT.ks exD) exSchedD).ws[1]? = some W ∧ W.halted = true ∧ W.pend = [] ∧ W.done = 2 := by
  refine ⟨_, rfl, ?_, ?_, ?_⟩ <;> decide
example : (Sys.run exEnvD (Sys.init exEnvD 7 exT.ks exD) exSchedD).ks 0 [104] = soloResult exEnvD 7 exT.ks exD 1 2 0 [104] := by
  obtain ⟨W, h1, _, h3, h4⟩ := exD_w1
  rw [← h4]
  exact conc_boundary exEnvD 7 exT.ks exD exD_cmds exSchedD 1 W h1 h3 0 [104] (by decide)
example : soloResult exEnvD 7 exT.ks exD 1 2 0 [104] = some { val := .restored [4, 3], exp := 5000 } := by decide
example : (Sys.run exEnvD (Sys.init exEnvD 7 exT.ks exD) exSchedD).ks 0 [105] = none := by decide

end GunYu.Props.C20
