/-
  C01 for the PIPELINED sender (`Model/SenderPipe.lean`), standalone target.

  * `pipe_wire_no_fail`: as long as no `Dispatch` failed, for EVERY window `W` and
    EVERY interleaving of the two goroutines (every latency schedule, replies ok or
    error, in any order the model allows) the connection carries exactly the first
    `next` batches of the blocking sender, each once, in order.
  * `pipe_wire_is_blocking_prefix`: hence the wire is `take k` of the blocking
    wire: every crash-prefix theorem of C01 / C02 / C07 / C09 (they are stated for
    `(run c initS evs).2.flatten.take k`) speaks about the pipelined run as well --
    what is executed is a prefix of the specification, positions cover what was
    executed; in particular NO request is on the wire twice (`C01:duplicated` cannot
    fire on a run without failed dispatches).
  * `pipe_window`: the sender is at most `W + 2` batches ahead of the receiver.
  * `pipe_after_error_reply`: an ERROR REPLY never causes a re-dispatch; after the
    receive goroutine has seen one, at most the one attempt that had already passed
    the `recvFailed` test puts a batch on the wire.
  * `pipe_wire_shape`: with failed dispatches (retry of the uncleared queue) the
    wire is the blocking wire with, before batch `i`, the partial writes
    `bs[i].take j` of its failed attempts: the ONLY requests that can be on the wire
    twice are those of a batch whose `Dispatch` failed, and they precede that
    batch's own checkpoint write (they lie above every position stored before).
-/
import GunYu.Model.SenderPipe
import GunYu.Proofs.SenderRun

namespace GunYu.Props.C01
open GunYu GunYu.Sender GunYu.SenderPipe

theorem take_succ_flatten (bs : List Batch) (n : Nat) (h : n < bs.length) :
    (bs.take (n + 1)).flatten = (bs.take n).flatten ++ bs.getD n [] := by
  rw [List.take_succ_eq_append_getElem h]
  simp only [List.flatten_append, List.flatten_cons, List.flatten_nil, List.append_nil, List.getD,
    List.getElem?_eq_getElem h, Option.getD_some]

/-- the invariant of a pipelined run -/
structure PipeInv (W : Nat) (bs : List Batch) (s : PSt) : Prop where
  wire : s.fails = 0 → s.wire = (bs.take s.next).flatten
  le1 : s.recvd ≤ s.next
  le2 : s.next ≤ bs.length
  win : s.next - s.recvd ≤ W + 2

/-- the five things an action can do (one that is not enabled changes nothing) -/
theorem pstep_cases (W : Nat) (bs : List Batch) (s : PSt) (ev : PEv) :
    (∃ b, (b = s.armed ∨ b = !s.failed) ∧ pstep W bs s ev = { s with armed := b }) ∨
    (s.armed = true ∧ s.next < bs.length ∧ s.next - s.recvd ≤ W + 1 ∧ pstep W bs s ev =
      { s with next := s.next + 1, wire := s.wire ++ bs.getD s.next [], armed := false, retries := 0 }) ∨
    (∃ j, ev = .dispatchFail j ∧ s.armed = true ∧ s.next < bs.length ∧ pstep W bs s ev =
      { s with wire := s.wire ++ (bs.getD s.next []).take j, armed := false,
               retries := s.retries + 1, fails := s.fails + 1 }) ∨
    (s.recvd < s.next ∧ pstep W bs s ev = { s with recvd := s.recvd + 1 }) ∨
    pstep W bs s ev = { s with failed := true } := by
  generalize h : pstep W bs s ev = r
  cases ev with
  | check =>
    simp only [pstep] at h
    split at h
    · rename_i hf; exact .inl ⟨false, .inr (by rw [hf]; rfl), h.symm⟩
    · rename_i hf; exact .inl ⟨true, .inr (by simp [hf]), h.symm⟩
  | dispatch =>
    simp only [pstep] at h
    split at h
    · rename_i hc
      simp only [Bool.and_eq_true, decide_eq_true_eq] at hc
      exact .inr (.inl ⟨hc.1.1.1, hc.1.1.2, hc.1.2, h.symm⟩)
    · exact .inl ⟨s.armed, .inl rfl, h.symm⟩
  | dispatchFail j =>
    simp only [pstep] at h
    split at h
    · rename_i hc
      simp only [Bool.and_eq_true, decide_eq_true_eq] at hc
      exact .inr (.inr (.inl ⟨j, rfl, hc.1.1, hc.1.2, h.symm⟩))
    · exact .inl ⟨s.armed, .inl rfl, h.symm⟩
  | recv ok =>
    simp only [pstep] at h
    split at h
    · rename_i hc
      simp only [Bool.and_eq_true, decide_eq_true_eq] at hc
      cases ok
      · exact .inr (.inr (.inr (.inr h.symm)))
      · exact .inr (.inr (.inr (.inl ⟨hc.2, h.symm⟩)))
    · exact .inl ⟨s.armed, .inl rfl, h.symm⟩

theorem prun_induction {P : PSt → Prop} (W : Nat) (bs : List Batch)
    (hstep : ∀ s ev, P s → P (pstep W bs s ev)) (evs : List PEv) : ∀ s, P s → P (prun W bs s evs) := by
  induction evs with
  | nil => intro s h; exact h
  | cons ev rest ih => intro s h; exact ih _ (hstep s ev h)

theorem pstep_inv (W : Nat) (bs : List Batch) (s : PSt) (ev : PEv) (h : PipeInv W bs s) :
    PipeInv W bs (pstep W bs s ev) := by
  obtain ⟨h1, h2, h3, h4⟩ := h
  rcases pstep_cases W bs s ev with ⟨b, -, e⟩ | ⟨-, hlt, hw, e⟩ | ⟨j, -, -, -, e⟩ | ⟨hr, e⟩ | e <;> rw [e]
  · exact ⟨h1, h2, h3, h4⟩
  · refine ⟨fun hf => ?_, Nat.le_succ_of_le h2, hlt, ?_⟩
    · show s.wire ++ bs.getD s.next [] = _
      rw [h1 hf, take_succ_flatten bs s.next hlt]
    · show s.next + 1 - s.recvd ≤ W + 2
      omega
  · exact ⟨fun hf => absurd hf (Nat.succ_ne_zero _), h2, h3, h4⟩
  · refine ⟨h1, hr, h3, ?_⟩
    show s.next - (s.recvd + 1) ≤ W + 2
    omega
  · exact ⟨h1, h2, h3, h4⟩

theorem pipeInv_init (W : Nat) (bs : List Batch) : PipeInv W bs {} :=
  ⟨fun _ => rfl, Nat.le_refl _, Nat.zero_le _, Nat.zero_le _⟩

/-- no failed dispatch in the schedule -/
def NoDispatchFail (evs : List PEv) : Prop := ∀ e ∈ evs, ∀ j, e ≠ .dispatchFail j

theorem prun_fails (W : Nat) (bs : List Batch) (evs : List PEv) (hnf : NoDispatchFail evs) :
    ∀ s, (prun W bs s evs).fails = s.fails := by
  induction evs with
  | nil => intro s; rfl
  | cons ev rest ih =>
    intro s
    refine (ih (fun e he => hnf e (List.mem_cons_of_mem _ he)) (pstep W bs s ev)).trans ?_
    rcases pstep_cases W bs s ev with ⟨b, -, e⟩ | ⟨-, -, -, e⟩ | ⟨j, hj, -⟩ | ⟨-, e⟩ | e
    · rw [e]
    · rw [e]
    · exact absurd hj (hnf ev (List.mem_cons_self ..) j)
    · rw [e]
    · rw [e]

/-- **No failed dispatch: the wire is the first `next` batches of the blocking sender**,
    for every window and every interleaving of sender, receiver and target replies. -/
theorem pipe_wire_no_fail (W : Nat) (bs : List Batch) (evs : List PEv) (hnf : NoDispatchFail evs) :
    (prun W bs {} evs).wire = (bs.take (prun W bs {} evs).next).flatten :=
  (prun_induction W bs (pstep_inv W bs) evs {} (pipeInv_init W bs)).wire (by rw [prun_fails W bs evs hnf])

/-- ... i.e. a crash prefix of the blocking wire: the theorems about
    `(run c initS evs).2.flatten.take k` hold for the pipelined run -/
theorem pipe_wire_is_blocking_prefix (W : Nat) (c : SCfg) (evs : List Ev) (pevs : List PEv)
    (hnf : NoDispatchFail pevs) :
    ∃ k, (prun W (run c initS evs).2 {} pevs).wire = (run c initS evs).2.flatten.take k := by
  refine ⟨((run c initS evs).2.take (prun W (run c initS evs).2 {} pevs).next).flatten.length, ?_⟩
  rw [pipe_wire_no_fail W _ pevs hnf]
  generalize (prun W (run c initS evs).2 {} pevs).next = n
  have h : (run c initS evs).2.flatten =
      ((run c initS evs).2.take n).flatten ++ ((run c initS evs).2.drop n).flatten := by
    rw [← List.flatten_append, List.take_append_drop]
  rw [h, List.take_left']
  rfl

/-- the sender is never more than `W + 2` batches ahead of the receive goroutine
    (`W` in the channel, one inside `Receive`, one written and waiting in the hand-off) -/
theorem pipe_window (W : Nat) (bs : List Batch) (evs : List PEv) :
    (prun W bs {} evs).next - (prun W bs {} evs).recvd ≤ W + 2 :=
  (prun_induction W bs (pstep_inv W bs) evs {} (pipeInv_init W bs)).win

/-- **An error reply never causes a re-dispatch.** Once `recvFailed` is set, at most the
    attempt that had already passed the test dispatches (one batch, never a repeated one). -/
theorem pipe_after_error_reply (W : Nat) (bs : List Batch) (evs : List PEv) :
    ∀ s, s.failed = true →
      (prun W bs s evs).failed = true ∧
      (prun W bs s evs).next ≤ s.next + (if s.armed then 1 else 0) := by
  induction evs with
  | nil => intro s h; simp only [prun, List.foldl_nil]; exact ⟨h, by split <;> omega⟩
  | cons ev rest ih =>
    intro s h
    have key : (pstep W bs s ev).failed = true ∧
        (pstep W bs s ev).next + (if (pstep W bs s ev).armed then 1 else 0) ≤ s.next + (if s.armed then 1 else 0) := by
      rcases pstep_cases W bs s ev with ⟨b, hb, e⟩ | ⟨ha, -, -, e⟩ | ⟨j, -, ha, -, e⟩ | ⟨-, e⟩ | e <;> rw [e]
      · refine ⟨h, ?_⟩
        rcases hb with rfl | rfl
        · exact Nat.le_refl _
        · simp [h]
      · exact ⟨h, by simp [ha]⟩
      · exact ⟨h, by simp [ha]⟩
      · exact ⟨h, Nat.le_refl _⟩
      · exact ⟨rfl, Nat.le_refl _⟩
    obtain ⟨i1, i2⟩ := ih (pstep W bs s ev) key.1
    refine ⟨i1, ?_⟩
    have := key.2
    simp only [prun, List.foldl_cons] at i2 ⊢
    omega

/-- the wire of ANY pipelined run: the batches in order, each preceded by the partial
    writes of its failed dispatch attempts -/
inductive WireShape (bs : List Batch) : Nat → List Req → Prop
  | nil : WireShape bs 0 []
  | full (n : Nat) (w : List Req) : WireShape bs n w → n < bs.length → WireShape bs (n + 1) (w ++ bs.getD n [])
  | part (n : Nat) (w : List Req) (j : Nat) : WireShape bs n w → n < bs.length →
      WireShape bs n (w ++ (bs.getD n []).take j)

/-- **Retry of the uncleared queue**: whatever the schedule, the only requests that can be
    on the wire twice are the partial writes `bs[i].take j` of a FAILED dispatch of batch
    `i`, directly before batch `i` itself (hence before `i`'s own checkpoint write). -/
theorem pipe_wire_shape (W : Nat) (bs : List Batch) (evs : List PEv) :
    WireShape bs (prun W bs {} evs).next (prun W bs {} evs).wire := by
  refine prun_induction (P := fun s => WireShape bs s.next s.wire) W bs (fun s ev h => ?_) evs {}
    WireShape.nil
  rcases pstep_cases W bs s ev with ⟨b, -, e⟩ | ⟨-, hlt, -, e⟩ | ⟨j, -, -, hlt, e⟩ | ⟨-, e⟩ | e <;> rw [e]
  · exact h
  · exact WireShape.full _ _ h hlt
  · exact WireShape.part _ _ j h hlt
  · exact h
  · exact h

/-! ### Non-vacuity: three batches, window 2, the target slow; an error reply; a failed dispatch -/

def pbs : List Batch := [[.multi, .cmd [115] [] 10, .exec], [.cmd [116] [] 20], [.cmd [117] [] 30], [.cmd [118] [] 40]]

/-- sender three batches ahead (W = 2 queued... one in Receive), the fourth hand-off blocks until a reply -/
example : (prun 2 pbs {} [.check, .dispatch, .check, .dispatch, .check, .dispatch, .check, .dispatch,
    .check, .dispatch]).next = 4 := by decide
example : (prun 1 pbs {} [.check, .dispatch, .check, .dispatch, .check, .dispatch, .check, .dispatch]).next = 3 := by
  decide
example : (prun 1 pbs {} [.check, .dispatch, .check, .dispatch, .check, .dispatch, .recv true, .check, .dispatch]).wire
    = pbs.flatten := by decide
/-- an error reply: the armed attempt still dispatches, nothing afterwards -/
example : (prun 2 pbs {} [.check, .dispatch, .check, .recv false, .dispatch, .check, .dispatch]).next = 2 := by decide
/-- a failed dispatch after one request: the retry writes the batch again -/
example : (prun 2 pbs {} [.check, .dispatch, .check, .dispatchFail 1, .check, .dispatch]).wire =
    [.multi, .cmd [115] [] 10, .exec, .cmd [116] [] 20, .cmd [116] [] 20] := by decide
example : NoDispatchFail [PEv.check, .dispatch, .recv true] := by
  intro e he j; simp at he; rcases he with rfl | rfl | rfl <;> simp

end GunYu.Props.C01
