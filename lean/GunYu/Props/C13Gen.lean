/-
  C13 — the recognition predicates GENERATED from /repo.

  `Gen/FnBisyncKeyPreds.lean` and `Gen/FnBisyncPreds.lean` are written on every
  run by the Go→Lean translator (harness/extract/gofn*.go + gofn_c13.go) from
  pkg/redis/checkpoint/bisync.go (`IsBisyncMarkerKey`, `…LatestKey`, `…CommitKey`,
  `…RdbRecordKey`, `…CommitIndexKey`) and syncer/bisync.go
  (`isBisyncNamespaceKey`, `touchesBisyncNamespace`, `isBisyncControlCommand`,
  `isBisyncMarkerCommand`, `isBisyncMarkerExpiryCommand`,
  `isBisyncMirroredTransaction`). The theorems below say that what the code
  says equals the hand model of Model/Bisync.lean on which every C13 theorem
  rests — for all keys, all commands with any arguments and any values of the
  fields the predicates do not look at, all command lists. An edit of one of
  these functions has to keep these proofs alive.

  Hypotheses, stated exactly:
  * `AsciiName`: every byte of the command name is < 0x80. For other names Go's
    `strings.ToLower` takes its Unicode path, which the translator's prelude does
    not model (the generated function is `none` there); the hand model lower-cases
    A-Z only. Redis command names are ASCII.
  * list lengths below 2^63 - 1 (the loop index is a 64-bit `int`).
-/
import GunYu.Model.Bisync
import GunYu.Gen.FnBisyncKeyPreds
import GunYu.Gen.FnBisyncPreds

namespace GunYu.Props.C13
open GunYu GunYu.BisyncUnit GunYu.Bisync
open GunYu.Gen

/-! ### prelude facts -/

theorem goContains_eq (s sub : Bytes) : GoSem.contains s sub = containsSub sub s := by
  induction s with
  | nil => rfl
  | cons b t ih => simp only [GoSem.contains, containsSub, ih]

theorem goToLower_ascii (s : Bytes) (h : ∀ b ∈ s, b < 128) : GoSem.toLowerAscii s = some (lower s) := by
  unfold GoSem.toLowerAscii
  have : (s.all fun b => decide (b < 128)) = true := by
    rw [List.all_eq_true]
    intro b hb
    exact decide_eq_true (h b hb)
  rw [if_pos this]
  rfl

private theorem and_dec (a b : Bool) : decide (a = true ∧ b = true) = (a && b) := by cases a <;> cases b <;> rfl
private theorem or_dec (a b : Bool) : decide (a = true ∨ b = true) = (a || b) := by cases a <;> cases b <;> rfl

private theorem addI_nat' (i : Nat) (h : i < 9223372036854775807) :
    GoSem.addI (i : Int) (1 : Int) = ((i + 1 : Nat) : Int) := by
  unfold GoSem.addI
  rw [GoSem.wrap64_eq] <;> omega

private theorem index_nat' {α : Type} (s : List α) (i : Nat) (h : i < s.length) :
    GoSem.index s (i : Int) = some s[i] := by
  unfold GoSem.index
  simp [h]

/-! ### the key predicates (pkg/redis/checkpoint/bisync.go) -/

/-- the shape the five key predicates share: `strings.HasPrefix(key, pre) && strings.Contains(key, infix)` -/
private theorem keyPred_eq (k pre inf : Bytes) :
    (pure (decide (GoSem.hasPrefix k pre = true ∧ GoSem.contains k inf = true)) : Option Bool) =
      some (hasPrefix pre k && containsSub inf k) := by
  rw [and_dec, goContains_eq]
  rfl

theorem gen_isBisyncMarkerKey_eq_model (k : Bytes) : Fn.isBisyncMarkerKey k = some (isMarkerKey k) :=
  keyPred_eq k _ _
theorem gen_isBisyncLatestKey_eq_model (k : Bytes) : Fn.isBisyncLatestKey k = some (isLatestKey k) :=
  keyPred_eq k _ _
theorem gen_isBisyncCommitKey_eq_model (k : Bytes) : Fn.isBisyncCommitKey k = some (isCommitKey k) :=
  keyPred_eq k _ _
theorem gen_isBisyncRdbRecordKey_eq_model (k : Bytes) : Fn.isBisyncRdbRecordKey k = some (isRdbRecordKey k) :=
  keyPred_eq k _ _
theorem gen_isBisyncCommitIndexKey_eq_model (k : Bytes) : Fn.isBisyncCommitIndexKey k = some (isCommitIndexKey k) :=
  keyPred_eq k _ _

/-- syncer.isBisyncNamespaceKey -/
theorem gen_isBisyncNamespaceKey_eq_model (k : Bytes) : Fn.isBisyncNamespaceKey k = some (isNamespaceKey k) := by
  unfold Fn.isBisyncNamespaceKey isNamespaceKey
  rw [or_dec]
  rfl

/-! ### the command predicates (syncer/bisync.go) -/

/-- the model's view of a `bisyncAofCommand`: name and arguments (the predicates
    read nothing else; `Db`, `EndOffset`, the delay fields are arbitrary) -/
def ofGo (g : Fn.bisyncAofCommand) : Cmd := ⟨g.Cmd, g.Args⟩

def AsciiName (g : Fn.bisyncAofCommand) : Prop := ∀ b ∈ g.Cmd, b < 128

private theorem touches_loop (g : Fn.bisyncAofCommand) (hlen : g.Args.length < 9223372036854775807) :
    ∀ (fuel i : Nat), i ≤ g.Args.length → g.Args.length - i < fuel →
      Fn.touchesBisyncNamespace_loop1 g fuel (i : Int) =
        some (if (g.Args.drop i).any isNamespaceKey then GoSem.Ctl.ret true else GoSem.Ctl.next ()) := by
  intro fuel
  induction fuel with
  | zero => intro i _ hf; omega
  | succ fuel ih =>
    intro i hi hf
    unfold Fn.touchesBisyncNamespace_loop1
    by_cases hlt : i < g.Args.length
    · have h1 : ((i : Int) < GoSem.len g.Args) := by unfold GoSem.len; omega
      simp only [h1, ↓reduceIte, index_nat' _ i hlt, gen_isBisyncNamespaceKey_eq_model, Option.bind_some, bind]
      rw [List.drop_eq_getElem_cons hlt, List.any_cons]
      cases hk : isNamespaceKey g.Args[i] with
      | true => simp [pure]
      | false =>
        simp only [Bool.false_eq_true, ↓reduceIte, Bool.false_or]
        rw [addI_nat' i (by omega), ih (i + 1) (by omega) (by omega)]
    · have h1 : ¬ ((i : Int) < GoSem.len g.Args) := by unfold GoSem.len; omega
      have h2 : g.Args.drop i = [] := List.drop_eq_nil_of_le (by omega)
      rw [if_neg h1, h2]
      simp [pure]

/-- syncer.touchesBisyncNamespace -/
theorem gen_touchesBisyncNamespace_eq_model (g : Fn.bisyncAofCommand) (ha : AsciiName g)
    (hlen : g.Args.length < 9223372036854775807) :
    Fn.touchesBisyncNamespace g = some (touchesNamespace (ofGo g)) := by
  have hloop := touches_loop g hlen ((GoSem.len g.Args).toNat + 1) 0 (by omega) (by unfold GoSem.len; omega)
  unfold Fn.touchesBisyncNamespace touchesNamespace ofGo
  simp only [Int.ofNat_zero, List.drop_zero] at hloop
  cases hargs : g.Args with
  | nil => simp [GoSem.len, pure]
  | cons a rest =>
    rw [hargs] at hloop
    have hi : GoSem.index (a :: rest) (0 : Int) = some a := by unfold GoSem.index; simp
    rw [if_neg (by unfold GoSem.len; simp; omega), goToLower_ascii _ ha]
    by_cases hn : lower g.Cmd = ([100, 101, 108] : Bytes) ∨ lower g.Cmd = ([117, 110, 108, 105, 110, 107] : Bytes)
    · simp only [hn, wDel, wUnlink, beq_iff_eq, Bool.or_eq_true, ↓reduceIte, Option.bind_some, bind, List.isEmpty_cons, Bool.false_eq_true]
      rw [hloop]
      cases (a :: rest).any isNamespaceKey <;> rfl
    · simp [hn, hi, wDel, wUnlink, gen_isBisyncNamespaceKey_eq_model]

/-- syncer.isBisyncControlCommand -/
theorem gen_isBisyncControlCommand_eq_model (g : Fn.bisyncAofCommand) (ha : AsciiName g)
    (hlen : g.Args.length < 9223372036854775807) :
    Fn.isBisyncControlCommand g = some (touchesNamespace (ofGo g)) := by
  unfold Fn.isBisyncControlCommand
  rw [gen_touchesBisyncNamespace_eq_model g ha hlen]

/-- syncer.isBisyncMarkerCommand -/
theorem gen_isBisyncMarkerCommand_eq_model (g : Fn.bisyncAofCommand) (ha : AsciiName g) :
    Fn.isBisyncMarkerCommand g = some (isMarkerCommand (ofGo g)) := by
  unfold Fn.isBisyncMarkerCommand isMarkerCommand ofGo
  rw [goToLower_ascii _ ha]
  cases hargs : g.Args with
  | nil => simp [GoSem.len, pure]
  | cons a rest =>
    have hi : GoSem.index (a :: rest) (0 : Int) = some a := by unfold GoSem.index; simp
    by_cases hn : lower g.Cmd = ([115, 101, 116] : Bytes) <;> cases rest <;>
      simp [hn, hi, GoSem.len, wSet, pure, gen_isBisyncMarkerKey_eq_model]
    omega

/-- syncer.isBisyncMarkerExpiryCommand -/
theorem gen_isBisyncMarkerExpiryCommand_eq_model (g : Fn.bisyncAofCommand) (ha : AsciiName g) :
    Fn.isBisyncMarkerExpiryCommand g = some (isMarkerExpiry (ofGo g)) := by
  unfold Fn.isBisyncMarkerExpiryCommand isMarkerExpiry ofGo
  rw [goToLower_ascii _ ha]
  cases hargs : g.Args with
  | nil => simp [GoSem.len, pure, wDel, wUnlink]
  | cons a rest =>
    have hi : GoSem.index (a :: rest) (0 : Int) = some a := by unfold GoSem.index; simp
    by_cases hn : lower g.Cmd = ([100, 101, 108] : Bytes) ∨ lower g.Cmd = ([117, 110, 108, 105, 110, 107] : Bytes) <;>
      cases rest <;> simp [hn, hi, GoSem.len, wDel, wUnlink, pure, gen_isBisyncMarkerKey_eq_model]
    intro h; omega

private theorem mirrored_loop (gs : List Fn.bisyncAofCommand) (ha : ∀ g ∈ gs, AsciiName g)
    (hlen : gs.length < 9223372036854775807) :
    ∀ (fuel i : Nat), i ≤ gs.length → gs.length - i < fuel →
      ∃ r, Fn.isBisyncMirroredTransaction_loop1 gs fuel (i : Int) = some r ∧
        (match r with | GoSem.Ctl.ret b => b | GoSem.Ctl.next () => false) = isMirroredTxn ((gs.drop i).map ofGo) := by
  intro fuel
  induction fuel with
  | zero => intro i _ hf; omega
  | succ fuel ih =>
    intro i hi hf
    unfold Fn.isBisyncMirroredTransaction_loop1
    by_cases hlt : i < gs.length
    · have h1 : ((i : Int) < GoSem.len gs) := by unfold GoSem.len; omega
      have hag : AsciiName gs[i] := ha _ (List.getElem_mem hlt)
      simp only [h1, ↓reduceIte, index_nat' _ i hlt, gen_isBisyncMarkerExpiryCommand_eq_model _ hag,
        gen_isBisyncMarkerCommand_eq_model _ hag, Option.bind_some, bind]
      rw [List.drop_eq_getElem_cons hlt, List.map_cons, isMirroredTxn]
      cases hk : isMarkerExpiry (ofGo gs[i]) with
      | true =>
        simp only [↓reduceIte]
        rw [addI_nat' i (by omega)]
        exact ih (i + 1) (by omega) (by omega)
      | false =>
        simp only [Bool.false_eq_true, ↓reduceIte]
        exact ⟨_, rfl, rfl⟩
    · have h1 : ¬ ((i : Int) < GoSem.len gs) := by unfold GoSem.len; omega
      have h2 : gs.drop i = [] := List.drop_eq_nil_of_le (by omega)
      rw [if_neg h1, h2]
      exact ⟨_, rfl, rfl⟩

/-- **syncer.isBisyncMirroredTransaction**, the test that decides whether a whole
    MULTI/EXEC block is passed over: as the code stands, on every command list,
    it is the model's `isMirroredTxn` (lazy-expiry deletions of the marker
    skipped, then "the next command writes a marker"). -/
theorem gen_isBisyncMirroredTransaction_eq_model (gs : List Fn.bisyncAofCommand) (ha : ∀ g ∈ gs, AsciiName g)
    (hlen : gs.length < 9223372036854775807) :
    Fn.isBisyncMirroredTransaction gs = some (isMirroredTxn (gs.map ofGo)) := by
  unfold Fn.isBisyncMirroredTransaction
  obtain ⟨r, h1, h2⟩ := mirrored_loop gs ha hlen ((GoSem.len gs).toNat + 1) 0 (by omega) (by unfold GoSem.len; omega)
  simp only [Int.ofNat_zero, List.drop_zero] at h1 h2
  show (Fn.isBisyncMirroredTransaction_loop1 gs ((GoSem.len gs).toNat + 1) (0 : Int)).bind _ = _
  rw [h1, ← h2]
  cases r with
  | ret b => rfl
  | next u => cases u; rfl

/-! ### non-vacuity: the generated functions evaluated -/

private def gSet (k : Bytes) : Fn.bisyncAofCommand := ⟨[83,69,84], [k, [118]], 0, 0, 0, []⟩          -- "SET" k v
private def gDel (k : Bytes) : Fn.bisyncAofCommand := ⟨[68,69,76], [k], 3, 17, 0, []⟩                -- "DEL" k (db 3)
private def mkG : Bytes := Gen.markerKey [99,112] (slotTag 0)

example : Fn.isBisyncMirroredTransaction [gDel mkG, gSet mkG, gSet [107]] = some true := by decide +kernel
example : Fn.isBisyncMirroredTransaction [gSet [107], gSet mkG] = some false := by decide +kernel
example : Fn.isBisyncMirroredTransaction [gDel [107], gSet mkG] = some false := by decide +kernel
example : Fn.touchesBisyncNamespace (gDel (Gen.latestKey [99,112] (slotTag 0))) = some true := by decide +kernel
example : Fn.isBisyncNamespaceKey ([123] ++ Gen.bisyncKeyPrefix ++ [58, 125, 120]) = some false := by decide +kernel
-- a name with a byte >= 0x80: outside what the translation models (and outside `AsciiName`)
example : Fn.isBisyncMarkerCommand ⟨[83, 0xC3, 0x89], [[107], [118]], 0, 0, 0, []⟩ = none := by decide +kernel
-- the theorem applied
example : isMirroredTxn ([gDel mkG, gSet mkG, gSet [107]].map ofGo) = true := by
  have h := gen_isBisyncMirroredTransaction_eq_model [gDel mkG, gSet mkG, gSet [107]]
    (by intro g hg b hb
        simp only [List.mem_cons, List.mem_nil_iff, or_false] at hg
        rcases hg with rfl | rfl | rfl <;> revert b hb <;> decide)
    (by decide)
  have h2 : Fn.isBisyncMirroredTransaction [gDel mkG, gSet mkG, gSet [107]] = some true := by decide +kernel
  rw [h2] at h
  exact (Option.some.inj h).symm

end GunYu.Props.C13
