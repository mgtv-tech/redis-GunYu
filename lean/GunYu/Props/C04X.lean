/-
  C04 — the frame theorems for the EXTENDED grammar
  (Model/RdbFrameX.lean: LZF strings, streams, modules, module-aux, text-float
  sorted sets, the chunk continuation of big hashes), as instances of the
  theorems of Props/C04.lean about any stateful item reader; the composition
  with the fan-out; the LZF output buffer (D33).

  For `parseX` the item reader's goodness is PROVED (`itemS_good`), not trusted:
  a snapshot with rdbcompression on, with streams and modules is inside the
  theorems. What stays a parameter is `Cfg.floatOk` (strconv.ParseFloat's verdict
  on the text score of a type-3 sorted set): the theorems hold for every such
  predicate.
-/
import GunYu.Props.C04
import GunYu.Proofs.RdbLzf

namespace GunYu.Props.C04
open GunYu

section FrameX
open GunYu.RdbFrame GunYu.RdbFrameX

/-- **the item reader of the extended grammar is good in every state** — sequential (its result depends only on the
    bytes it consumes, every proper prefix of them is an error), consumes at least one byte, answers EOF only for the
    byte 0xFF: what the theorems of Props/C04.lean ASSUME of an item reader is PROVED here for LZF
    strings, streams, modules, module-aux, text floats and the continuation of a split hash -/
theorem itemX_good (cfg : Cfg) : GoodItemS (itemS cfg) := itemS_good cfg

/-- … and it decides every input as soon as the float predicate does -/
theorem itemX_total (cfg : Cfg) (hfl : ∀ bs, cfg.floatOk bs ≠ .dunno) : TotalS (itemS cfg) := itemS_total cfg hfl

/-- `ParseRdb` over LZF strings, streams, modules, module-aux, text floats and split hashes terminates within
    |input| rounds (every threshold, both module-aux modes, every float predicate) -/
theorem parse_total_x (cfg : Cfg) (maxVer : Nat) (f : Bytes) : parseX cfg maxVer f ≠ .fuelOut :=
  parse_total_s _ (itemS_good cfg) none maxVer f

/-- every truncation of an accepted snapshot — with LZF strings, streams, modules, split hashes in it — is an error -/
theorem truncation_errors_x (cfg : Cfg) (maxVer : Nat) (f : Bytes) (n : Nat) (h : parseX cfg maxVer f = .done n) :
    ∀ k, k < f.length → ∃ m, parseX cfg maxVer (f.take k) = .err m :=
  truncation_errors_s _ (itemS_good cfg) none maxVer f n h

theorem done_ends_with_footer_x (cfg : Cfg) (maxVer : Nat) (f : Bytes) (m : Nat) (h : parseX cfg maxVer f = .done m) :
    8 ≤ f.length ∧ (Rdb.ofLE (footerOf f) = 0 ∨ (Rdb.crc64Tab (covered f)).toNat = Rdb.ofLE (footerOf f)) :=
  done_ends_with_footer_s _ (itemS_good cfg) none maxVer f m h

/-- no single-byte alteration of a covered byte of a checksummed snapshot is accepted -/
theorem alteration_detected_x (cfg : Cfg) (maxVer : Nat) (f : Bytes) (n i : Nat) (b : UInt8)
    (hf : parseX cfg maxVer f = .done n) (hnz : Rdb.ofLE (footerOf f) ≠ 0)
    (hi : i < f.length - 8) (hb : f[i]? ≠ some b) : ∀ m, parseX cfg maxVer (f.set i b) ≠ .done m :=
  alteration_detected_s _ (itemS_good cfg) none maxVer f n i b hf hnz hi hb

/-- … it is an ERROR, as soon as the float predicate decides every text (e.g. a snapshot without type-3 sorted sets
    never asks it) -/
theorem alteration_is_error_x (cfg : Cfg) (hfl : ∀ bs, cfg.floatOk bs ≠ .dunno) (maxVer : Nat) (f : Bytes) (n i : Nat) (b : UInt8)
    (hf : parseX cfg maxVer f = .done n) (hnz : Rdb.ofLE (footerOf f) ≠ 0)
    (hi : i < f.length - 8) (hb : f[i]? ≠ some b) : ∃ m, parseX cfg maxVer (f.set i b) = .err m :=
  alteration_is_error_s _ (itemS_good cfg) (itemS_total cfg hfl) none maxVer f n i b hf hnz hi hb

theorem zero_footer_exception_x (cfg : Cfg) (maxVer : Nat) (f : Bytes) (n m i : Nat) (b : UInt8)
    (hf : parseX cfg maxVer f = .done n) (hnz : Rdb.ofLE (footerOf f) ≠ 0)
    (hi : f.length - 8 ≤ i) (hi2 : i < f.length) (hb : f[i]? ≠ some b)
    (hg : parseX cfg maxVer (f.set i b) = .done m) : Rdb.ofLE (footerOf (f.set i b)) = 0 :=
  altered_footer_zero f i b (done_ends_with_footer_x cfg maxVer f n hf) hnz hi hi2 hb
    (done_ends_with_footer_x cfg maxVer _ m hg)

/-! non-vacuity: REDIS0009, SELECTDB 0, string "a" = LZF("aaaaaaaaaa"), hash "h" of three pairs, stream "s" (type 15:
    one node, one group with a pending entry and a consumer), module value "m" (type 7: uint, string, double), a
    module-aux section, sorted set "z" with the text score "1.5", EOF, CRC64. With the chunk threshold at 4 bytes the
    hash is delivered in two entries (6 entries in all), with the production threshold in one (5). -/
def exCfg4 : Cfg := { maxBuf := 4, failAux := false, floatOk := fun _ => .yes }
def exCfgProd : Cfg := { maxBuf := 16777216, failAux := false, floatOk := fun _ => .yes }

def exBodyX : Bytes :=
  [82, 69, 68, 73, 83, 48, 48, 48, 57, 0xFE, 0,
   0, 1, 97, 0xC3, 5, 10, 0, 97, 0xE0, 0, 0,
   4, 1, 104, 3, 1, 102, 1, 49, 1, 103, 1, 50, 1, 105, 1, 51,
   15, 1, 115, 1, 16, 0, 0, 0, 0, 0, 0, 0, 1, 0, 0, 0, 0, 0, 0, 0, 0, 3, 120, 121, 122, 1, 0, 1,
     1, 1, 103, 0, 0, 1, 0, 0, 0, 0, 0, 0, 0, 1, 0, 0, 0, 0, 0, 0, 0, 0, 9, 9, 9, 9, 9, 9, 9, 9, 1,
     1, 1, 99, 8, 8, 8, 8, 8, 8, 8, 8, 1, 0, 0, 0, 0, 0, 0, 0, 1, 0, 0, 0, 0, 0, 0, 0, 0,
   7, 1, 109, 0, 2, 5, 5, 1, 120, 4, 1, 2, 3, 4, 5, 6, 7, 8, 0,
   0xF7, 0, 0,
   3, 1, 122, 1, 1, 109, 3, 49, 46, 53,
   0xFF]
def exFileX : Bytes := exBodyX ++ Rdb.le64 (Rdb.crc64Tab exBodyX).toNat

/- Each of these needs the CRC64 of `exBodyX`, which is nearly all of its evaluation; stated together, the kernel
   computes it once. The last is the transcript behind `chanFeedS` below: the file with a footer that does not match. -/
theorem exFileX_eval :
    parseX exCfg4 13 exFileX = .done 6 ∧ parseX exCfgProd 13 exFileX = .done 5 ∧ Rdb.ofLE (footerOf exFileX) ≠ 0 ∧
    chanS (itemS exCfg4) none 13 (exFileX.set (exFileX.length - 1) 0) = some (6, [.err, .done]) := by
  decide +kernel

theorem exFileX_done : parseX exCfg4 13 exFileX = .done 6 := exFileX_eval.1
theorem exFileX_checksummed : Rdb.ofLE (footerOf exFileX) ≠ 0 := exFileX_eval.2.2.1

example : parseX exCfg4 13 exFileX = .done 6 := exFileX_done
example : parseX exCfgProd 13 exFileX = .done 5 := exFileX_eval.2.1
example : Rdb.ofLE (footerOf exFileX) ≠ 0 := exFileX_checksummed
-- the grammar of Model/RdbFrame.lean does not decide this file (LZF on the path)
example : parse 13 exFileX = .unsup := by decide +kernel
-- cut inside the LZF payload / inside the second chunk of the hash / inside the stream's PEL / inside the module value
example : parseX exCfg4 13 (exFileX.take 20) = .err 0 := by decide +kernel
example : parseX exCfg4 13 (exFileX.take 33) = .err 2 := by decide +kernel
example : parseX exCfg4 13 (exFileX.take 90) = .err 3 := by decide +kernel
example : parseX exCfg4 13 (exFileX.take 140) = .err 4 := by decide +kernel
-- the declared LZF length altered (10 → 11): the decompressor refuses, one entry earlier than the checksum would
example : parseX exCfg4 13 (exFileX.set 16 11) = .err 0 := by decide +kernel
-- the stream key length altered (16 → 17): "key length is not 16B"
example : parseX exCfg4 13 (exFileX.set 42 17) = .err 3 := by decide +kernel
-- failOnModuleAux: the module-aux section is an error
example : parseX { exCfg4 with failAux := true } 13 exFileX = .err 5 := by decide +kernel
-- a float text the predicate refuses / does not decide
example : parseX { exCfg4 with floatOk := fun _ => .no } 13 exFileX = .err 5 := by decide +kernel
example : parseX { exCfg4 with floatOk := fun _ => .dunno } 13 exFileX = .unsup := by decide +kernel
/-- the theorems, instantiated: every cut and every altered covered byte of `exFileX` is an error -/
example (k : Nat) (hk : k < exFileX.length) : ∃ m, parseX exCfg4 13 (exFileX.take k) = .err m :=
  truncation_errors_x exCfg4 13 exFileX 6 exFileX_done k hk
example (i : Nat) (b : UInt8) (hi : i < exFileX.length - 8) (hb : exFileX[i]? ≠ some b) :
    ∃ m, parseX exCfg4 13 (exFileX.set i b) = .err m :=
  alteration_is_error_x exCfg4 (fun _ => nofun) 13 exFileX 6 i b exFileX_done exFileX_checksummed hi hb

end FrameX

section EndToEndX
open GunYu.RdbFanout

/-- **from bytes to checkpoint, extended grammar**: for every snapshot (LZF, streams, modules, split hashes …),
    worker count, pipe size, routing and EVERY schedule, the checkpoint is written / nil returned only if the input
    parses to `Done` and every entry (every chunk) was applied -/
theorem recorded_only_if_parsed_and_applied_x (cfg : RdbFrameX.Cfg) (maxVer : Nat) (f : Bytes)
    (junk items : List (Item Nat)) (hfeed : feedO (RdbFrameX.parseX cfg maxVer f) junk = some items)
    (c : Cfg Nat) (hn : 0 < c.n) (sched : List Ev)
    (h : (run c (init items) sched).checkpoint = true ∨ (run c (init items) sched).ret = some .ok) :
    ∃ n, RdbFrameX.parseX cfg maxVer f = .done n ∧ ∀ a, a < n → a ∈ (run c (init items) sched).applied :=
  recorded_only_if_done_o _ junk items hfeed c hn sched h

theorem truncated_never_recorded_x (cfg : RdbFrameX.Cfg) (maxVer : Nat) (f : Bytes) (n : Nat)
    (hf : RdbFrameX.parseX cfg maxVer f = .done n) (k : Nat) (hk : k < f.length) (junk : List (Item Nat)) :
    ∃ items, feedO (RdbFrameX.parseX cfg maxVer (f.take k)) junk = some items ∧
      ∀ (c : Cfg Nat), 0 < c.n → ∀ sched : List Ev,
        (run c (init items) sched).checkpoint = false ∧ (run c (init items) sched).ret ≠ some .ok := by
  obtain ⟨m, hm⟩ := truncation_errors_x cfg maxVer f n hf k hk
  exact ⟨parserOutput (List.range m) .err junk, by simp [feedO, hm], not_done_never_recorded (o := .err m) rfl nofun⟩

theorem altered_never_recorded_x (cfg : RdbFrameX.Cfg) (hfl : ∀ bs, cfg.floatOk bs ≠ .dunno) (maxVer : Nat) (f : Bytes)
    (n i : Nat) (b : UInt8) (hf : RdbFrameX.parseX cfg maxVer f = .done n) (hnz : Rdb.ofLE (footerOf f) ≠ 0)
    (hi : i < f.length - 8) (hb : f[i]? ≠ some b) (junk : List (Item Nat)) :
    ∃ items, feedO (RdbFrameX.parseX cfg maxVer (f.set i b)) junk = some items ∧
      ∀ (c : Cfg Nat), 0 < c.n → ∀ sched : List Ev,
        (run c (init items) sched).checkpoint = false ∧ (run c (init items) sched).ret ≠ some .ok := by
  obtain ⟨m, hm⟩ := alteration_is_error_x cfg hfl maxVer f n i b hf hnz hi hb
  exact ⟨parserOutput (List.range m) .err junk, by simp [feedO, hm], not_done_never_recorded (o := .err m) rfl nofun⟩

/-- with the goroutine's transcript (Err-then-Done after a bad footer) spelled out, extended grammar -/
theorem recorded_only_if_parsed_and_applied_chan_x (cfg : RdbFrameX.Cfg) (maxVer : Nat) (f : Bytes)
    (items : List (Item Nat)) (hfeed : chanFeedS (RdbFrameX.itemS cfg) none maxVer f = some items)
    (c : Cfg Nat) (hn : 0 < c.n) (sched : List Ev)
    (h : (run c (init items) sched).checkpoint = true ∨ (run c (init items) sched).ret = some .ok) :
    ∃ n, RdbFrameX.parseX cfg maxVer f = .done n ∧ ∀ a, a < n → a ∈ (run c (init items) sched).applied := by
  obtain ⟨junk, hj⟩ := chanFeedS_is_feed _ none maxVer f items hfeed
  exact recorded_only_if_done_o _ junk items hj c hn sched h

example : feedO (RdbFrameX.parseX exCfg4 13 exFileX) [] = some (parserOutput [0, 1, 2, 3, 4, 5] .done []) := by
  rw [exFileX_done]; rfl
example : chanFeedS (RdbFrameX.itemS exCfg4) none 13 (exFileX.set (exFileX.length - 1) 0) =
    some ((List.range 6).map Item.entry ++ [Item.term .err, Item.term .done]) := by
  rw [chanFeedS, exFileX_eval.2.2.2]; rfl
example (k : Nat) (hk : k < exFileX.length) : ∃ items, feedO (RdbFrameX.parseX exCfg4 13 (exFileX.take k)) [] = some items ∧
    ∀ (c : Cfg Nat), 0 < c.n → ∀ sched : List Ev,
      (run c (init items) sched).checkpoint = false ∧ (run c (init items) sched).ret ≠ some .ok :=
  truncated_never_recorded_x exCfg4 13 exFileX 6 exFileX_done k hk []
example (i : Nat) (b : UInt8) (hi : i < exFileX.length - 8) (hb : exFileX[i]? ≠ some b) :
    ∃ items, feedO (RdbFrameX.parseX exCfg4 13 (exFileX.set i b)) [] = some items ∧
    ∀ (c : Cfg Nat), 0 < c.n → ∀ sched : List Ev,
      (run c (init items) sched).checkpoint = false ∧ (run c (init items) sched).ret ≠ some .ok :=
  altered_never_recorded_x exCfg4 (fun _ => nofun) 13 exFileX 6 i b exFileX_done exFileX_checksummed hi hb []

end EndToEndX

section Lzf
open GunYu.RdbLzf

/-- **the LZF output buffer is never sized by the declared length alone** (fix f4eb5a7, transcribed in
    Model/RdbLzf.lean): when `lzfDecompress` stops, by success or by ANY error,
    `len(out) ≤ produced + 264 + step` and `produced ≤ 264 · len(in)`; the declared length only caps the buffer.
    With an `append` that at most doubles no single request of the allocator exceeds twice that. -/
theorem lzf_buffer_follows_output (g : Nat → Nat → Nat) (hg : RdbAlloc.GrowOK g) (step : Nat) (inp : Bytes) (outlen : Nat) :
    (run step inp outlen).blen ≤ (run step inp outlen).o + 264 + step ∧
    (run step inp outlen).o ≤ 264 * inp.length ∧
    (run step inp outlen).blen ≤ outlen ∧
    (requests g step inp outlen).1 ≤ 2 * ((run step inp outlen).o + 264 + step) :=
  ⟨(run_buffer_bounded step inp outlen).1, (run_buffer_bounded step inp outlen).2.1,
   (run_buffer_bounded step inp outlen).2.2.1, (requests_bounded g hg step inp outlen).1⟩

/-- in bytes of the INPUT alone. NOTE: this bound is a consequence of the GUARD `outlen ≤ 264·len(in)` together with
    `len(out) ≤ outlen` — it held before the D33 fix as well (then with len(out) = outlen). What the fix adds is
    `lzf_buffer_follows_output`: the buffer is bounded by the bytes PRODUCED, which for a damaged length is far below
    264·len(in). This is the coarse, input-only corollary. -/
theorem lzf_buffer_linear_in_input (step : Nat) (inp : Bytes) (outlen : Nat) :
    (run step inp outlen).blen ≤ 264 * inp.length + 264 + step := by
  have := run_buffer_bounded step inp outlen
  omega

theorem lzf_ok_length (step : Nat) (inp : Bytes) (outlen : Nat) (h : (run step inp outlen).ok = true) :
    (run step inp outlen).o = outlen ∧ (run step inp outlen).blen = outlen :=
  ⟨(run_ok step inp outlen h).1, (run_ok step inp outlen h).2.1⟩

/-! non-vacuity (step = 8 to see the growth): "a" + a back reference of 9, declared 10 → ok, buffer 10;
    the same input declared 4294967295: refused by the guard, nothing allocated; 30 literals declared 4000:
    the buffer stops at produced + step, not at 4000 -/
example : run 8 [0, 97, 0xE0, 0, 0] 10 = ⟨true, 10, 10, [(8, 10)]⟩ := by decide
example : run 8 [0, 97, 0xE0, 0, 0] 4294967295 = ⟨false, 0, 0, []⟩ := by decide
def exLits : Bytes := (List.range 30).flatMap (fun _ => [0, 120])
example : (run 8 exLits 4000).ok = false ∧ (run 8 exLits 4000).o = 30 ∧ (run 8 exLits 4000).blen = 35 := by decide +kernel
-- the D33 shape: 16.3 MB of compressed zeros (every pair "00 00" is one literal byte) declaring 4 GiB − 1. Whatever the
-- input, the buffer is at most produced + 264 + step; for THIS kind of input produced ≤ len(in)/2 would give ≈ 72 MB
-- (the walk on the concrete 16 MB list is left to the driver: op c04lzfseg "0000*524288" at 1 MiB scale, 64 MiB measured)
example (inp : Bytes) : (run stepBytes inp 4294967295).blen ≤ (run stepBytes inp 4294967295).o + 264 + 67108864 :=
  (lzf_buffer_follows_output growDouble growDouble_ok stepBytes inp 4294967295).1
example : (requests growDouble 8 exLits 4000).1 ≤ 2 * (30 + 264 + 8) := by
  have h := (requests_bounded growDouble growDouble_ok 8 exLits 4000).1
  have ho : (run 8 exLits 4000).o = 30 := by decide +kernel
  rw [ho] at h; exact h

end Lzf

end GunYu.Props.C04
