/-
  C13 — databases and recognition.

  The replication stream of a site switches databases with `SELECT n`; the
  opposite link's parser consumes it (and, with a database blacklist, starts or
  stops bypassing). Proved here, for the parser model
  `step` / `parseBlock` (tied to parseAofReplayUnits by the parse ops, SELECT
  forms valid / negative / malformed and `dbBlacklist` included):

  * `select_transparent`     : a SELECT of a database that is not blacklisted is
                               consumed and leaves the parser idle with its unit
                               numbering - whatever state of bypass it was in;
  * `mirrored_recognised_behind_select` : hence every block a unit commit leaves
                               in the stream is passed over when it follows a
                               SELECT (the master writes `SELECT 0` ahead of the
                               commit whenever the previous write was elsewhere);
  * `select_blacklisted_bypasses`, `bypassed_block_dropped` : behind a SELECT of a
                               blacklisted database EVERY block - mirrored or a
                               client's - yields no unit and no error, and the
                               parser stays out of a transaction: a mirrored block
                               never becomes a unit or a stop because of the
                               blacklist, a client block in a blacklisted database
                               is withheld by the user's filter (outside the
                               property's quantifier);
  The exception: a unit is COMMITTED in database 0 whatever
  database it was written in (`D31_counterexample`).
-/
import GunYu.Props.C13

namespace GunYu.Props.C13
open GunYu GunYu.BisyncUnit GunYu.Bisync

/-- the parser is between blocks (not inside a transaction); it may be bypassing -/
def Between (st : PState) : Prop := st.inTxn = false

private theorem step_select (pc : PCfg) (st : PState) (a : Bytes) (n : Int) (off : Nat)
    (ha : Filter.atoi? a = some n) (hn : n ≥ 0) :
    step pc st wSelect [a] off =
      ({ st with bypass := pc.filter.filterDb n, prevOff := off }, .none) := by
  obtain ⟨bypass, prevOff, seq, inTxn, txnStart, txn⟩ := st
  unfold step
  have h1 : (wSelect == wMulti) = false := by decide
  have h2 : (wSelect == wExec) = false := by decide
  have h3 : (wSelect != wPing) = true := by decide
  have h4 : Filter.eqFold wSelect wSelect = true := by decide
  rw [h1, h2]
  simp only [Bool.false_eq_true, ↓reduceIte]
  unfold preFilter
  rw [h3, h4]
  simp only [↓reduceIte, ha]
  cases hb : pc.filter.filterDb n with
  | true => simp
  | false => simp [hn]

/-- `SELECT <n>` as it stands in a stream (any letter case of the name) -/
def IsSelect (c : Cmd) (a : Bytes) : Prop := lower c.name = wSelect ∧ c.args = [a]

private theorem parse_select (pc : PCfg) (pst : PState) (c : Cmd) (a : Bytes) (n : Int)
    (hc : IsSelect c a) (ha : Filter.atoi? a = some n) (hn : n ≥ 0) (hb : Between pst) :
    parseBlock pc pst (.single c) =
      ([], { pst with bypass := pc.filter.filterDb n, prevOff := pst.prevOff + respLen c }, none) := by
  rw [parseBlock_single, parseCmds_cons, hc.1, hc.2, step_select pc pst a n _ ha hn]
  simp only [items, parse]
  have : pst.inTxn = false := hb
  simp [this]

/-- **A SELECT of a database that is not blacklisted is transparent**: consumed,
    no unit, no error, and the parser is idle behind it (not bypassing any more,
    if it was), its unit numbering untouched. -/
theorem select_transparent (pc : PCfg) (pst : PState) (c : Cmd) (a : Bytes) (n : Int)
    (hc : IsSelect c a) (ha : Filter.atoi? a = some n) (hn : n ≥ 0) (hdb : pc.filter.filterDb n = false)
    (hb : Between pst) :
    ∃ pst', parseBlock pc pst (.single c) = ([], pst', none) ∧ Idle pst' ∧ pst'.seq = pst.seq :=
  ⟨_, parse_select pc pst c a n hc ha hn hb, ⟨hb, hdb⟩, rfl⟩

/-- **A mirrored block behind a SELECT is recognised.** Whatever unit a link
    commits and however, in the stream `SELECT n` (n not blacklisted; the master
    writes `SELECT 0` ahead of a commit whenever the previous write was in another
    database) followed by the blocks of that commit, every block is passed over:
    no unit, no error, parser idle, numbering untouched. -/
theorem mirrored_recognised_behind_select (pc : PCfg) (hf : FOK pc.filter) (rcfg : RedisCfg) (now : Nat) (st : Store)
    (cp : Bytes) (k : CommitKind) (u : RUnit) (p : Payload) (hu : ∀ c ∈ u.cmds, TxnSafe c)
    (pst : PState) (hb : Between pst) (c : Cmd) (a : Bytes) (n : Int)
    (hc : IsSelect c a) (ha : Filter.atoi? a = some n) (hn : n ≥ 0) (hdb : pc.filter.filterDb n = false) :
    ∃ pst1, parseBlock pc pst (.single c) = ([], pst1, none) ∧
      ∀ b ∈ toBlocks rcfg true (commitCmds cp k u p).length (execCmds rcfg now st (commitCmds cp k u p)).2,
        ∃ pst', parseBlock pc pst1 b = ([], pst', none) ∧ Idle pst' ∧ pst'.seq = pst.seq := by
  obtain ⟨pst1, h1, hi, hs⟩ := select_transparent pc pst c a n hc ha hn hdb hb
  refine ⟨pst1, h1, ?_⟩
  intro b hbm
  obtain ⟨pst', h2, hi', hs'⟩ := mirrored_recognised pc hf rcfg now st cp k u p hu pst1 hi b hbm
  exact ⟨pst', h2, hi', by rw [hs', hs]⟩

/-- a SELECT of a blacklisted database starts the bypass -/
theorem select_blacklisted_bypasses (pc : PCfg) (pst : PState) (c : Cmd) (a : Bytes) (n : Int)
    (hc : IsSelect c a) (ha : Filter.atoi? a = some n) (hn : n ≥ 0) (hdb : pc.filter.filterDb n = true)
    (hb : Between pst) :
    ∃ pst', parseBlock pc pst (.single c) = ([], pst', none) ∧ Between pst' ∧ pst'.bypass = true ∧ pst'.seq = pst.seq :=
  ⟨_, parse_select pc pst c a n hc ha hn hb, hb, hdb, rfl⟩

/-- while bypassing, a command that is not framing / SELECT only moves the offset -/
private theorem step_bypassed (pc : PCfg) (st : PState) (c : Cmd) (off : Nat) (hb : st.bypass = true) (hs : TxnSafe c) :
    step pc st (lower c.name) c.args off = ({ st with prevOff := off }, .none) := by
  obtain ⟨h1, h2, h3⟩ := hs
  obtain ⟨bypass, prevOff, seq, inTxn, txnStart, txn⟩ := st
  simp only at hb
  subst hb
  have hn : ¬ ((-1 : Int) ≥ 0) := by omega
  unfold step
  rw [beq_of_ne h1, beq_of_ne h2]
  simp only [Bool.false_eq_true, ↓reduceIte]
  unfold preFilter
  by_cases hp : lower c.name = wPing
  · have e1 : (lower c.name != wPing) = false := by simp [hp]
    have e2 : (lower c.name == wPing) = true := by simp [hp]
    rw [e1, e2]
    simp only [Bool.false_eq_true, ↓reduceIte, hn]
  · rw [bne_of_ne hp, h3]
    simp only [↓reduceIte, Bool.false_eq_true]
    cases pc.filter.filterCmd (lower c.name) with
    | true => simp
    | false =>
      simp only [Bool.false_eq_true, ↓reduceIte]
      cases (Filter.eqFold (lower c.name) wPublish && !c.args.isEmpty && Filter.eqFold (c.args.headD []) wSentinelHello) with
      | true => simp
      | false => simp

private theorem parseCmds_bypassed (pc : PCfg) (cs rest : List Cmd) (st : PState) (acc : List Emit)
    (hb : st.bypass = true) (hs : ∀ c ∈ cs, TxnSafe c) :
    ∃ off', parseCmds pc st (cs ++ rest) acc = parseCmds pc { st with prevOff := off' } rest acc := by
  induction cs generalizing st with
  | nil => exact ⟨st.prevOff, rfl⟩
  | cons c cs ih =>
    have hstep := step_bypassed pc st c (st.prevOff + respLen c) hb (hs c (by simp))
    rw [List.cons_append, parseCmds_step_none pc st _ c (cs ++ rest) acc hstep rfl]
    obtain ⟨off2, h2⟩ := ih { st with prevOff := st.prevOff + respLen c } hb (fun c' hc' => hs c' (List.mem_cons_of_mem _ hc'))
    exact ⟨off2, h2⟩

/-- **While a blacklisted database is selected every block is dropped, quietly.**
    A stand-alone command or a MULTI/EXEC block of commands that are not
    framing / SELECT - a mirrored block in particular, but also a client's block
    (that is what the user's database blacklist asks for) - yields no unit and no
    error; the parser ends between blocks, still bypassing, numbering untouched,
    and its transaction buffer empty. -/
theorem bypassed_block_dropped (pc : PCfg) (pst : PState) (b : Block) (hs : ∀ c ∈ b.body, TxnSafe c)
    (hb : Between pst) (hby : pst.bypass = true) :
    ∃ pst', parseBlock pc pst b = ([], pst', none) ∧ Between pst' ∧ pst'.bypass = true ∧ pst'.seq = pst.seq := by
  cases b with
  | single c =>
    have hstep := step_bypassed pc pst c (pst.prevOff + respLen c) hby (hs c (by simp [Block.body]))
    rw [parseBlock_single, parseCmds_step_none pc pst _ c [] [] hstep rfl, parseCmds_nil]
    have : pst.inTxn = false := hb
    refine ⟨{ pst with prevOff := pst.prevOff + respLen c }, ?_, hb, hby, rfl⟩
    simp [this]
  | multi cs =>
    rw [parseBlock_multi, List.cons_append]
    have hm : step pc pst (lower mMulti.name) mMulti.args (pst.prevOff + respLen mMulti) = _ :=
      step_multi pc pst [] (pst.prevOff + respLen mMulti) hb
    rw [parseCmds_step_none pc pst _ mMulti (cs ++ [mExec]) [] hm rfl]
    obtain ⟨off', h2⟩ := parseCmds_bypassed pc cs [mExec]
      { pst with inTxn := true, txnStart := pst.prevOff, txn := [], prevOff := pst.prevOff + respLen mMulti } [] hby
      (fun c hc => hs c (by simpa [Block.body] using hc))
    rw [h2]
    have he : step pc _ (lower mExec.name) mExec.args _ = _ :=
      step_exec_empty pc { pst with inTxn := true, txnStart := pst.prevOff, txn := [], prevOff := off' } []
        (off' + respLen mExec) rfl rfl
    rw [parseCmds_step_none pc _ _ mExec [] [] he rfl, parseCmds_nil]
    exact ⟨_, rfl, rfl, hby, rfl⟩

/-! ### non-vacuity -/

private def pcBl : PCfg := ⟨{ (Filter.buildOutput {}) with dbBlack := [2] }, standaloneMode, defaultResolver⟩
private def sel (d : Bytes) : Cmd := ⟨[83,69,76,69,67,84], [d]⟩            -- "SELECT" d
private def mkD : Bytes := Gen.markerKey [99,112] (slotTag 0)
private def mirrorD : Block := .multi [⟨wSet, [mkD, [109], [80,88,65,84], [57]]⟩, ⟨wSet, [[107], [118]]⟩]
private def clientD : Block := .single ⟨wSet, [[107], [118]]⟩

-- SELECT 3 ; mirrored block ; client SET: nothing, nothing, one unit
example : ((parseBlock pcBl {} (.single (sel [51]))).1, (parseBlock pcBl (parseBlock pcBl {} (.single (sel [51]))).2.1 mirrorD).1.length,
    (parseBlock pcBl (parseBlock pcBl {} (.single (sel [51]))).2.1 clientD).1.length) = ([], 0, 1) := by decide +kernel
-- SELECT 2 (blacklisted) ; the same two blocks: both dropped, no error, still bypassing; SELECT 0 ends the bypass
example : ((parseBlock pcBl (parseBlock pcBl {} (.single (sel [50]))).2.1 mirrorD).1.length,
    (parseBlock pcBl (parseBlock pcBl {} (.single (sel [50]))).2.1 mirrorD).2.2,
    (parseBlock pcBl (parseBlock pcBl {} (.single (sel [50]))).2.1 clientD).1.length,
    (parseBlock pcBl (parseBlock pcBl {} (.single (sel [50]))).2.1 clientD).2.1.bypass,
    (parseBlock pcBl (parseBlock pcBl (parseBlock pcBl {} (.single (sel [50]))).2.1 clientD).2.1 (.single (sel [48]))).2.1.bypass) =
    (0, none, 0, true, false) := by decide +kernel
example : IsSelect (sel [51]) [51] := ⟨by decide, rfl⟩

end GunYu.Props.C13
