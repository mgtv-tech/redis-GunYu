/-
  C09 — the REGENERATED definition of syncer/transaction.go `transactionStatus`
  (lean/GunYu/Gen/FnTxnStatus.lean, translated from /repo's Go source on every
  run, together with the `transactionCmdMap` literal) equals the hand-written
  model `Sender.txnStatus` the transaction theorems of C09 are about, for every
  command name and every previous status. `txnStatus` values are the Go
  constants (iota): no=0, barrier=1, begin=2, in=3, commit=4.
-/
import GunYu.Model.Sender
import GunYu.Props.C09
import GunYu.Gen.FnTxnStatus

namespace GunYu.Props.C09
open GunYu GunYu.Sender GunYu.Gen

/-- the Go constant of a model status -/
def txnCode : Txn → Int
  | .no => 0
  | .barrier => 1
  | .begin_ => 2
  | .in_ => 3
  | .commit => 4

theorem txnCode_injective (a b : Txn) (h : txnCode a = txnCode b) : a = b := by
  cases a <;> cases b <;> first | rfl | (simp [txnCode] at h)

/-- the regenerated map literal is the model's command classification -/
theorem gen_cmdMap_eq_model (cmd : Bytes) :
    GoSem.mapLookup Fn.transactionCmdMap cmd = (cmdClass cmd).map txnCode := by
  unfold Fn.transactionCmdMap cmdClass GoSem.mapLookup GoSem.mapLookup GoSem.mapLookup GoSem.mapLookup
  by_cases h1 : cmd = bSelect
  · subst h1; rfl
  · by_cases h2 : cmd = bMulti
    · subst h2; rfl
    · by_cases h3 : cmd = bExec
      · subst h3; rfl
      · have e1 : ¬ (([115, 101, 108, 101, 99, 116] : List UInt8) = cmd) := fun h => h1 h.symm
        have e2 : ¬ (([109, 117, 108, 116, 105] : List UInt8) = cmd) := fun h => h2 h.symm
        have e3 : ¬ (([101, 120, 101, 99] : List UInt8) = cmd) := fun h => h3 h.symm
        simp only [h1, h2, h3, e1, e2, e3, ↓reduceIte, Option.map_none]

/-- the regenerated `transactionStatus` is the model, for every command and status -/
theorem gen_transactionStatus_eq_model (cmd : Bytes) (prev : Txn) :
    Fn.transactionStatus cmd (txnCode prev) =
      some (txnCode (txnStatus cmd prev).1, (txnStatus cmd prev).2) := by
  unfold Fn.transactionStatus txnStatus
  simp only [gen_cmdMap_eq_model]
  -- a finite table over the status and the class of the command
  generalize cmdClass cmd = k
  cases prev <;> rcases k with _ | r <;> first | rfl | (cases r <;> rfl)

/-- a status value that is none of the five constants (unreachable: the sender only
    stores results of this function) falls through the switch -/
theorem gen_transactionStatus_other (cmd : Bytes) (v : Int) (h : v < 0 ∨ 4 < v) :
    Fn.transactionStatus cmd v = some (0, true) := by
  unfold Fn.transactionStatus
  have h0 : ¬ (v = 0 ∨ v = 1 ∨ v = 4) := by omega
  have h1 : ¬ (v = 2 ∨ v = 3) := by omega
  simp [h0, h1, pure]


/-! ### the facts the transaction theorems of C09 use, directly about the regenerated function -/

/-- what the regenerated function returns determines the model's status: every
    theorem stated with a hypothesis `txnStatus cmd prev = (t, nf)` (the sender step:
    `stepItem_txn_eq`, hence `multi_opens`, `exec_flushes_one_block`,
    `no_flush_inside_txn`, `source_txn_is_one_block`) can be fed from the translation -/
theorem gen_transactionStatus_determines (cmd : Bytes) (prev t : Txn) (nf : Bool)
    (h : Fn.transactionStatus cmd (txnCode prev) = some (txnCode t, nf)) :
    txnStatus cmd prev = (t, nf) := by
  rw [gen_transactionStatus_eq_model] at h
  simp only [Option.some.injEq, Prod.mk.injEq] at h
  exact Prod.ext (txnCode_injective _ _ h.1) h.2

/-- the sender's item step follows the status the REGENERATED function computes -/
theorem gen_stepItem_txn_eq (c : SCfg) (hc : c.txnMode = true) (s : SState) (it : Item) (prev : Int)
    (t : Txn) (nf : Bool) (hst : Fn.transactionStatus it.cmd (txnCode s.txn) = some (txnCode t, nf)) :
    stepItem c s it prev = stepItemTxn c { s with txn := t, needFlush := nf } t nf it prev :=
  stepItem_txn_eq c hc s it prev t nf (gen_transactionStatus_determines _ _ _ _ hst)

/-- MULTI outside a transaction opens one and forces a flush -/
theorem gen_multi_opens (prev : Txn) (h : prev = .no ∨ prev = .barrier ∨ prev = .commit) :
    Fn.transactionStatus bMulti (txnCode prev) = some (2, true) := by
  rcases h with h | h | h <;> subst h <;> decide +kernel

/-- EXEC inside a transaction commits it and forces a flush -/
theorem gen_exec_commits (prev : Txn) (h : prev = .begin_ ∨ prev = .in_) :
    Fn.transactionStatus bExec (txnCode prev) = some (4, true) := by
  rcases h with h | h <;> subst h <;> decide +kernel

/-- inside a transaction nothing but EXEC forces a flush or leaves the transaction -/
theorem gen_inside_txn_no_flush (cmd : Bytes) (hne : cmd ≠ bExec) (prev : Txn) (h : prev = .begin_ ∨ prev = .in_) :
    Fn.transactionStatus cmd (txnCode prev) = some (3, false) := by
  rw [gen_transactionStatus_eq_model]
  have : cmdClass cmd ≠ some .commit := by
    unfold cmdClass
    split
    · simp
    · split
      · simp
      · simp
  rcases h with h | h <;> subst h <;> simp [txnStatus, this, txnCode]

/-- EXEC outside a transaction (a stray EXEC) is a commit status with a forced flush -/
theorem gen_exec_outside (prev : Txn) (h : prev = .no ∨ prev = .barrier ∨ prev = .commit) :
    Fn.transactionStatus bExec (txnCode prev) = some (4, true) := by
  rcases h with h | h | h <;> subst h <;> decide +kernel

/-! non-vacuity -/
example : Fn.transactionStatus [115, 101, 116] (txnCode .in_) = some (3, false) := by decide +kernel     -- "set" inside
example : Fn.transactionStatus [115, 101, 116] (txnCode .commit) = some (0, false) := by decide +kernel  -- "set" outside
example : Fn.transactionStatus bSelect (txnCode .no) = some (1, true) := by decide +kernel

end GunYu.Props.C09
