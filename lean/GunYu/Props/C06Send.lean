/-
  C06 — the truth of the target after a `Send`, derived from the sender's theorems.

  `Tgt.afterSend` (Model/Psync.lean §7) sets, for a log delivery from `start`, the stored position to `e`
  and the truth of the target to `.at id1 e` ("history id1 applied up to e") for a free parameter `e`.
  That the two coincide follows from the sender's own theorems over the sender's own models
  (Model/Sender.lean, Model/Target.lean): `AppliedUpTo` says what `.at id1 o` means on the sender's
  target; the offset `StartPoint` reads after any number of lives satisfies it (`send_position_is_truth`,
  from `C02.lives_lose_nothing`); one resumed life keeps C06's bookkeeping and the sender's target
  `Coupled` through the position (`afterSend_coupled`, from C02 `life_step`).

  What stays a parameter: that `raws` IS the decoding of the bytes the reader delivers
  (C12's decoder: offsets = bytes consumed) - the theorems hold for every `raws` above `start`.
-/
import GunYu.Props.C06Loop
import GunYu.Props.C02Lives
import GunYu.Props.C07Source

namespace GunYu.Props.C06
open GunYu GunYu.Psync

/-- what "the target holds the stream up to `o`" means for the sender's target `T` (started
    as `t0`), `d` the database the position is found in -/
def AppliedUpTo (pc : Sender.PCfg) (raws : List Sender.Raw) (t0 T : Target.TState) (o d : Int) : Prop :=
  ∃ P Q, T.applied = t0.applied ++ Q ∧ List.Sublist P Q ∧
    Sender.specStream pc false 0 raws = P ++ Sender.specStream pc false d (raws.filter (fun r => decide (o < r.off))) ∧
    C02.Replayed (Sender.specStream pc false 0 raws) P Q

/-- the hypotheses of the sender's theorems: on the decoded source stream and the configuration only -/
structure StreamOK (pc : Sender.PCfg) (raws : List Sender.Raw) (start : Int) : Prop where
  sorted : (raws.map (·.off)).Pairwise (· < ·)
  above : ∀ r ∈ raws, start < r.off
  nonneg : 0 ≤ start
  nest : Sender.RawNoNested false raws
  pass : ∀ r ∈ raws, (r.cmd = Sender.bMulti ∨ r.cmd = Sender.bExec) →
    pc.filterCmd r.cmd = false ∧ (pc.filterCmdKey r.cmd r.args).isSome
  parses : Sender.parseFails pc { lastSent := start } raws = false
  sel : ∀ x ∈ raws, x.cmd = Sender.bSelect → ∀ a n, x.args = [a] → Sender.atoi? a = some n → 0 ≤ n
  map : ∀ n : Int, 0 ≤ n → 0 ≤ Sender.mapDb pc n

/-- **the position the sender leaves is what its target holds** - after any number of lives -/
theorem send_position_is_truth (pc : Sender.PCfg) (raws : List Sender.Raw) (start : Int) (t0 : Target.TState) (txn : Bool)
    (hok : StreamOK pc raws start) (hno : C02.NoOffsets t0.cps)
    (T : Target.TState) (o d : Int) (h : C02.Lives pc raws start t0 txn T o d) :
    C02.StartsAt T.cps start o d ∧ start ≤ o ∧ AppliedUpTo pc raws t0 T o d := by
  obtain ⟨h1, h2, _, P, Q, h4, h5, h6, _, h8⟩ :=
    C02.lives_lose_nothing pc raws start t0 txn hok.sorted hok.above hok.nonneg hok.nest hok.pass hok.parses hok.sel hok.map
      hno T o d h
  exact ⟨h1, h2, P, Q, h4, h5, h6, h8⟩

/-- within one run every stored offset is the start or the end of a delivered command -/
theorem stored_is_boundary (pc : Sender.PCfg) (sc : Sender.SCfg) (raws : List Sender.Raw) (start : Int)
    (evs : List Sender.Ev) (hitems : Sender.itemsOf evs = Sender.parserItems pc start raws)
    (hraw : (raws.map (·.off)).Pairwise (· < ·)) (hlo : ∀ r ∈ raws, start < r.off) :
    ∀ o ∈ Sender.cpOffsets (Sender.run sc Sender.initS evs).2, o = start ∨ ∃ r ∈ raws, r.off = o :=
  C07.stored_position_is_command_end pc sc raws start evs hitems hraw hlo

/-- what `afterSend` does for a log delivery, spelled out -/
theorem attempt_delivered_stream (resume : Bool) (w : World) (σ : Sys) (start : Int) (byte : Int → UInt8)
    (hd : (run w σ.s σ.t.stored σ.c σ.d).delivery = .stream start byte) (o k : Int) :
    (start < o → (attempt resume w σ (.delivered true o k)).t.stored.offset = o ∧
      (attempt resume w σ (.delivered true o k)).t.truth = .at σ.s.id1 o) ∧
    (o ≤ start → (attempt resume w σ (.delivered true o k)).t = σ.t.afterMeta resume (run w σ.s σ.t.stored σ.c σ.d).mt) := by
  simp only [attempt, step, Tgt.afterSend, hd]
  constructor
  · intro h
    rw [if_pos (by omega)]
    exact ⟨rfl, rfl⟩
  · intro h
    rw [if_neg (by omega)]

/-- **the attempt and the sender's lives, side by side** (NOT a derivation: the C06 conjuncts hold for
    every `o`; the sender's half starts from a target without any position, `hno`, which in resume mode
    is not the target of a continued stream - see `afterSend_coupled` for the coupled, resumed statement).
    In every state of the retry loop, a log delivery starts at
    `start` = the stored offset = what the target holds (`loop_safe`); the sender then runs - any
    number of lives, any configuration, schedule and crash point - on the stream decoded from there
    and leaves `StartPoint` reading `o`. Then: `start ≤ o`; the attempt `.delivered true o k` stores
    `o` with truth `.at id1 o` (nothing new when `o = start`); the state keeps the loop invariant,
    `Truthful` included; and `.at id1 o` holds of the sender's target in the sender's own terms. -/
theorem sender_lives_beside_attempt (resume : Bool) (w : World) (σ : Sys) (hσ : Loop w σ) (start : Int) (byte : Int → UInt8)
    (hd : (run w σ.s σ.t.stored σ.c σ.d).delivery = .stream start byte)
    (pc : Sender.PCfg) (raws : List Sender.Raw) (t0 : Target.TState) (txn : Bool)
    (hok : StreamOK pc raws start) (hno : C02.NoOffsets t0.cps)
    (T : Target.TState) (o d : Int) (hl : C02.Lives pc raws start t0 txn T o d)
    (k : Int) (hk : 0 ≤ k) (hm : σ.s.masterOff + k ≤ maxInt64) :
    start = σ.t.stored.offset ∧ start ≤ o ∧
    Inv w (attempt resume w σ (.delivered true o k)) ∧
    (start < o → (attempt resume w σ (.delivered true o k)).t.stored.offset = o ∧
      (attempt resume w σ (.delivered true o k)).t.truth = .at σ.s.id1 o) ∧
    AppliedUpTo pc raws t0 T o d ∧ C02.StartsAt T.cps start o d := by
  obtain ⟨hs1, hs2, hs3⟩ := send_position_is_truth pc raws start t0 txn hok hno T o d hl
  refine ⟨(loop_safe w σ hσ start byte hd).1, hs2, ?_, (attempt_delivered_stream resume w σ start byte hd o k).1, hs3, hs1⟩
  exact attempt_inv resume w σ _ (loop_inv w σ hσ) ⟨hk, hm⟩

/-! ### one resumed life, the two models coupled through the position -/

section CoupledSend
open GunYu.Sender GunYu.Target GunYu.Props.C02

/-- C06's bookkeeping and the sender's target describe the same position: what the sender's target
    would answer `StartPoint` with (its unique largest record, in database `d`) IS the offset C06
    holds as stored, and C06 calls exactly that offset the truth. (Resume mode: the record is on the
    target; this is `life_step`'s `UniqueMax` hypothesis, dischargeable where `NoOffsets` is not.) -/
structure Coupled (t : Tgt) (T : TState) (d : Int) : Prop where
  pos : UniqueMax T.cps d t.stored.offset
  truth : ∃ tid, t.truth = .at tid t.stored.offset

/-- **the coupling survives a Send.** In every state of the retry loop whose bookkeeping is coupled with
    a sender's target `T`, let the attempt deliver the log from `start` and the sender run ONE resumed
    life on the stream decoded from there (any configuration, any schedule, the real parser's items, a
    new connection), the target having executed ANY wire prefix `E` whose last position write is `o`
    (database `d`). Then C06's attempt `.delivered true o k` and the sender's target `E.foldl execReq T`
    are coupled again - C06 stores `o` and calls `.at id1 o` the truth, the sender's target answers
    `o` as its unique largest record - the loop invariant (`Truthful` included) holds, and what
    `.at id1 o` means is proved on the sender's side: the specification of the stream splits at `o`
    into what the target gained (plus an overshoot `X` the next run repeats) and what a run resumed
    from `(o, d)` executes. -/
theorem afterSend_coupled (resume : Bool) (w : World) (σ : Sys) (hσ : Loop w σ) (start : Int) (byte : Int → UInt8)
    (hdel : (Psync.run w σ.s σ.t.stored σ.c σ.d).delivery = .stream start byte)
    (pc : PCfg) (d0 : Int) (sc : SCfg) (raws : List Raw) (evs : List Ev)
    (hitems : itemsOf evs = parserItems { pc with startDbId := d0 } start raws)
    (hraw : (raws.map (·.off)).Pairwise (· < ·)) (hlo : ∀ r ∈ raws, start < r.off)
    (hnd : C01.NoDone evs)
    (hnn : ItemsNoNested false (parseAll pc { lastSent := start } raws))
    (hnf : parseFails pc { lastSent := start } raws = false)
    (hsel : ∀ x ∈ raws, x.cmd = bSelect → ∀ a n, x.args = [a] → atoi? a = some n → 0 ≤ n)
    (hmap : ∀ n : Int, 0 ≤ n → mapDb pc n ≠ -1)
    (T : TState) (hcur : T.cur = 0) (hd0 : 0 ≤ d0) (hc : Coupled σ.t T d0)
    (E E1 E2 : List Req) (o : Int) (hE : E <+: bodies (Sender.run sc initS evs).2)
    (hsplit : E = E1 ++ Req.cpOffset o :: E2) (hlast : cpOffsetsB E2 = [])
    (d : Int) (hdd : d = (E1.foldl execReq T).cur) (hdpos : 0 ≤ d)
    (k : Int) (hk : 0 ≤ k) (hm : σ.s.masterOff + k ≤ maxInt64) :
    Coupled (attempt resume w σ (.delivered true o k)).t (E.foldl execReq T) d ∧
    Inv w (attempt resume w σ (.delivered true o k)) ∧ start ≤ o ∧
    specStream pc false d0 raws =
      (seqApplied d0 (itemCmds (parseAll pc { lastSent := start } (raws.filter (fun r => decide (r.off ≤ o)))))).2 ++
        specStream pc false d (raws.filter (fun r => decide (o < r.off))) ∧
    (E.foldl execReq T).applied = T.applied ++
      (seqApplied d0 (itemCmds (parseAll pc { lastSent := start } (raws.filter (fun r => decide (r.off ≤ o)))))).2 ++
        (seqApplied d (dataB E2)).2 ∧
    (seqApplied d (dataB E2)).2 <+: specStream pc false d (raws.filter (fun r => decide (o < r.off))) := by
  have hinv := loop_inv w σ hσ
  obtain ⟨hs, hag, hcw, hok, _, _⟩ := hinv
  obtain ⟨hst, h0, hfull, _, _, _⟩ := stream_facts hs hcw (keep_holds hcw hok hag) hdel
  have hpos : UniqueMax T.cps d0 start := by rw [hst]; exact hc.pos
  have hL := life_step pc d0 sc raws start evs hitems hraw hlo (by omega) hnd hnn hnf hsel hmap T hcur hd0
    (Or.inr hpos) E E1 E2 o hE hsplit hlast d hdd hdpos
  simp only at hL
  obtain ⟨hU, hle, hspec, happ, hX⟩ := hL
  obtain ⟨hA, hB⟩ := attempt_delivered_stream resume w σ start byte hdel o k
  refine ⟨?_, attempt_inv resume w σ _ (loop_inv w σ hσ) ⟨hk, hm⟩, hle, hspec, happ, hX⟩
  by_cases hlt : start < o
  · obtain ⟨ho, htr⟩ := hA hlt
    exact ⟨by rw [ho]; exact hU, ⟨σ.s.id1, by rw [htr, ho]⟩⟩
  · have heq : o = start := by omega
    have ht := hB (by omega)
    rw [ht, afterMeta_cont resume σ.t hfull]
    refine ⟨?_, hc.truth⟩
    show UniqueMax _ d σ.t.stored.offset
    rw [← hst, ← heq]; exact hU

end CoupledSend

/-! ### non-vacuity -/

/-- the sender's side: C02's two lives (life 1 dies one command beyond the position it stored, life 2
    resumes there) satisfy the hypotheses; the position read is 160 and `AppliedUpTo … 160` holds -/
example : AppliedUpTo C02.trPc C02.trRaws C02.trT C02.lvT2 160 7 :=
  (send_position_is_truth C02.trPc C02.trRaws 0 C02.trT false
    ⟨by decide +kernel, by decide +kernel, by omega,
     by simp [Sender.RawNoNested, C02.trRaws, Sender.bSelect, Sender.bMulti, Sender.bExec], fun r _ _ => ⟨rfl, rfl⟩,
     by decide +kernel, Sender.selOK_spec C02.trRaws (by decide +kernel),
     Sender.mapDb_nonneg C02.trPc rfl (by decide +kernel)⟩
    (fun d => rfl) C02.lvT2 160 7 C02.lvLives).2.2

/-- C06's side: the loop state `l2` (target at 200 after a completed snapshot, the source at 230)
    delivers the log from 200; a sender that stored nothing yet (`Lives.init`) leaves `o = 200` -/
example : ∃ byte, (run w0 l2.s l2.t.stored l2.c l2.d).delivery = .stream 200 byte ∧
    StreamOK C02.trPc [] 200 ∧ C02.Lives C02.trPc [] 200 C02.trT false C02.trT 200 0 := by
  refine ⟨_, rfl, ⟨by simp, by simp, by omega, by simp [Sender.RawNoNested], by simp, by decide +kernel, by simp,
    Sender.mapDb_nonneg C02.trPc rfl (by decide +kernel)⟩, C02.Lives.init⟩

/-- the coupling is satisfiable on a target holding a position (C02's target after its first life:
    position 50, in database 5, unique largest record) - the hypothesis `NoOffsets` could not be met
    there. (A full instance of `afterSend_coupled` - a C06 loop state streaming from 50 together with
    C02's second life - is not spelled out; see `partial`.) -/
example : Coupled ⟨⟨[1], 50⟩, .at [1] 50⟩ C02.lvT1 5 :=
  ⟨C02.uniqueMaxB_spec _ _ _ (by decide +kernel), ⟨[1], rfl⟩⟩

end GunYu.Props.C06
