/-
  C16, last clause — "a follower that already holds more than the leader is offered
  leadership rather than being overwritten" — from the offer to the new leader.

  Props/C16.lean ends where the follower's `Run` returns the take-over error
  (`ahead_gets_handover`) and `SyncerCmd.Sync` stops the leader's syncer
  (`handover_leader_steps_down`). Here: what cmd/syncer.go `runCluster` does next on every
  instance (model: Model/Handover.lean, tied to the source by the facts `c16_cmd`,
  `c16_runcluster` and by the harness C16ho which runs the real `runCluster` of both sides).

  Quantifiers: any number `n` of instances, any event list (every interleaving of campaigns,
  renewals, offers, stops, resigns — each succeeding or failing —, follower sessions, crashes,
  restarts and the passing of time), any lease TTL.

  Timing facts are hypotheses, not theorems, and each has its `decide`d counter-witness:
   * `timely` (the guard of `tick`): a sender's lease does not run out while it is still
     sending — the leader renews in time (C15) and `sy.Stop()` completes before the lease
     ends. Without it: `two_senders_if_stop_outlives_lease`.
   * `c.ttl ≤ c.pauseHandover` (the configured lease is not longer than the fixed 10 s pause):
     needed only when Resign FAILS. Without it the old leader re-acquires its own unexpired
     key after the pause, leads again and offers again: `old_leader_back_if_lease_longer_than_pause`.
     For the same statement over whole traces (`old_leader_silent_under_old_lease`) also: the
     old leader's process is not restarted during the pause (`old_leader_back_if_restarted`),
     and — built into the model — a Renew that was in flight when the syncer was stopped
     reaches the store before the Resign is answered, or not at all.
  What is proved with no timing hypothesis at all: Resign only after the stop, silence until a
  campaign is won, the outcome of every campaign, the cache of a disk follower.
-/
import GunYu.Model.Handover
import GunYu.Proofs.Handover

namespace GunYu.Props.C16
open GunYu.Handover

/-! ### (3) no interval has two senders -/

/-- **no_two_senders**: in every reachable state, whoever is sending (leader syncer running,
    or told to stop but not yet stopped) holds the unexpired lease — for every interleaving
    and every failure of campaign / renew / resign, crashes and restarts included; hence at
    no time two instances send. (States change only at events, so this covers intervals.) -/
theorem no_two_senders (c : Cfg) (httl : 0 < c.ttl) (evs : List Ev) (s : State)
    (hb : Bounded c s) (hw : ∀ ev ∈ evs, ev.within c) (hs : Safe s) :
    (∀ i, sending ((run c true s evs).loc i) = true → holdsUntil (run c true s evs) i (run c true s evs).now = true) ∧
      ∀ i j, sending ((run c true s evs).loc i) = true → sending ((run c true s evs).loc j) = true → i = j := by
  have h := (run_safe c httl evs s hb hw hs).1
  exact ⟨h, fun i j hi hj => h.unique hi hj⟩

/-! ### (1) the old leader stops sending before it resigns -/

/-- **resign_after_stop**: `elect.Resign` is only ever issued by an instance whose leader
    syncer has been stopped (`sy.Stop()` and `WgWait` returned): a `resigned` event changes
    nothing unless the instance is in phase `resign`, which is not a sending phase, and that
    phase is entered only by `stopped`. -/
theorem resign_after_stop (c : Cfg) (g : Bool) (s : State) (i : Nat) (ok : Bool) :
    ((∀ w, (s.loc i).phase ≠ .resign w) → step c g s (.resigned i ok) = s) ∧
      (∀ w, (s.loc i).phase = .resign w → sending (s.loc i) = false) := by
  constructor
  · intro h
    cases hp : (s.loc i).phase with
    | resign w => exact absurd hp (h w)
    | _ => simp [step, hp]
  · intro w hp
    simp [sending, hp]

/-- … and once stopped it stays silent until it WINS a campaign again: every event other
    than a successful `campaign i` leaves a non-sending instance non-sending. -/
theorem silent_until_campaign_won (c : Cfg) (g : Bool) (s : State) (ev : Ev) (i : Nat)
    (hns : sending (s.loc i) = false) (hev : ev ≠ .campaign i true) :
    sending ((step c g s ev).loc i) = false := by
  have keep {s' : State} (h : ∀ k, sending (s'.loc k) = true → sending (s.loc k) = true) :
      sending (s'.loc i) = false :=
    Bool.eq_false_iff.2 fun h' => Bool.eq_false_iff.1 hns (h i h')
  revert hev
  apply step_cases c g s (motive := fun ev s' => ev ≠ .campaign i true → sending (s'.loc i) = false)
  case same | tick | relet => intros; exact hns
  case move => intro ev k p _ hp _ _ _; exact keep (sending_upd hp)
  case acquire =>
    intro ev k p _ _ _ hp _ _ hev
    by_cases hik : i = k
    · subst hik
      cases h : sending (({ s.set i p with lease := some (i, s.now + c.ttl) } : State).loc i) with
      | false => rfl
      | true => exact absurd (hp (by simpa [State.set] using h)) hev
    · exact (set_other s p hik).symm ▸ hns
  case offer =>
    intro a b _ ha _ _
    exact keep fun k hk =>
      sending_upd (fun _ => by simp [sending, ha]) k (sending_upd (fun h => by simp [sending] at h) k hk)
  case ended => intro ev k p _ hp _ _; exact keep (sending_upd fun h => by rw [hp] at h; cases h)
  case released => intro k ok w _ _ _; exact keep (sending_upd fun h => by simp [sending] at h)
  case fsync => intro k v _ _; exact keep (sending_upd fun h => h)

/-- **old_leader_waits_out_its_lease**: Resign FAILED (the key stays in the store). If the
    lease is not longer than the hand-over pause, the old leader's next campaign comes only
    after its old key has expired: it never sends again under the old lease, and competes
    without any priority. -/
theorem old_leader_waits_out_its_lease (c : Cfg) (g : Bool) (s : State) (i : Nat)
    (hf : LeaseFresh c s) (hp : (s.loc i).phase = .resign .handover) (hbound : c.ttl ≤ c.pauseHandover) :
    ∃ wake, ((step c g s (.resigned i false)).loc i).phase = .cand wake ∧
      (step c g s (.resigned i false)).lease = s.lease ∧
      ∀ h e, s.lease = some (h, e) → e ≤ wake := by
  refine ⟨s.now + c.pauseHandover, ?_, ?_, ?_⟩
  · simp [step, hp, pauseResign]
  · simp [step, hp]
  · intro h e he
    have := hf h e he
    omega

/-- **old_leader_silent_under_old_lease**: from the answer to its Resign (successful or not) on,
    for EVERY continuation — campaigns, ticker calls and calls landing late, of anybody, in any
    order, succeeding or failing, crashes of anybody, restarts of the others —: whenever the old
    leader sends again, the key it held when it stopped has expired (or was deleted and has
    expired as a date): it never sends again under the old lease. Hypotheses: the lease is not
    longer than the hand-over pause, and the old leader's process is not restarted before (a
    restarted process campaigns at once and re-acquires its own key:
    `old_leader_back_if_restarted`). -/
theorem old_leader_silent_under_old_lease (c : Cfg) (g : Bool) (s : State) (i : Nat) (ok : Bool)
    (evs : List Ev) (hf : LeaseFresh c s) (hp : (s.loc i).phase = .resign .handover)
    (hbound : c.ttl ≤ c.pauseHandover) (hev : ∀ ev ∈ evs, ev ≠ .restart i) :
    sending ((run c g (step c g s (.resigned i ok)) evs).loc i) = true →
      ∀ h e, s.lease = some (h, e) → e ≤ (run c g (step c g s (.resigned i ok)) evs).now := by
  intro hsend h e hl
  have hq : Quiet e i (step c g s (.resigned i ok)) := by
    right; left
    refine ⟨s.now + c.pauseHandover, ?_, ?_⟩
    · simp only [step, hp, pauseResign]
      split <;> simp
    · have := hf h e hl
      omega
  exact (run_quiet c g evs _ e i hq hev).not_sending_before hsend

/-! ### (2) the offered follower becomes leader unless another instance wins -/

/-- a successful Resign of the stopped leader frees the key -/
theorem resign_frees (c : Cfg) (g : Bool) (s : State) (i e : Nat) (w : Why)
    (hp : (s.loc i).phase = .resign w) (hl : s.lease = some (i, e)) :
    (step c g s (.resigned i true)).lease = none := by
  simp [step, hp, hl, ownsLease]

/-- **campaign_outcome**: a candidate whose pause is over and whose Campaign call succeeds
    becomes leader exactly when the key is free, expired or its own; otherwise follower. -/
theorem campaign_outcome (c : Cfg) (g : Bool) (s : State) (j w : Nat)
    (hp : (s.loc j).phase = .cand w) (hw : w ≤ s.now) :
    (heldByOther s j = false →
        ((step c g s (.campaign j true)).loc j).phase = .lead ∧
        (step c g s (.campaign j true)).lease = some (j, s.now + c.ttl)) ∧
      (heldByOther s j = true → ((step c g s (.campaign j true)).loc j).phase = .foll ∧
        (step c g s (.campaign j true)).lease = s.lease) := by
  have hnot : ¬ s.now < w := by omega
  constructor
  · intro h
    simp [step, hp, hnot, h]
  · intro h
    simp [step, hp, hnot, h]

/-- **offered_becomes_leader**: the follower `j` was offered leadership, the old leader has
    stopped and resigned successfully (the key is free), `j`'s 1 s pause is over. Its campaign
    makes it leader with a fresh lease — unless another instance's campaign got there first,
    in which case that instance holds the key and `j` follows it; either way at most one
    instance leads (`no_two_senders`), and while the winner's lease lasts every other
    campaign loses. -/
theorem offered_becomes_leader (c : Cfg) (g : Bool) (httl : 0 < c.ttl) (s : State) (j w : Nat)
    (hp : (s.loc j).phase = .cand w) (hw : w ≤ s.now) (hfree : s.lease = none) :
    ((step c g s (.campaign j true)).loc j).phase = .lead ∧
      ∀ k, k ≠ j → heldByOther (step c g s (.campaign j true)) k = true := by
  have hnot : ¬ s.now < w := by omega
  have hh : heldByOther s j = false := by simp [heldByOther, hfree]
  constructor
  · exact ((campaign_outcome c g s j w hp hw).1 hh).1
  · intro k hk
    have hl := ((campaign_outcome c g s j w hp hw).1 hh).2
    have hn : (step c g s (.campaign j true)).now = s.now := by simp [step, hp, hnot, hh]
    simp only [heldByOther, hl, hn]
    simp [Ne.symm hk]; omega

/-- **handover_completes**: from ANY safe state in which `i` leads and the follower `j` (disk
    backend) holds more: the offer, the old leader's stop and successful Resign, `Run`'s pause,
    the end of the follower's syncer, the loop's pause and its campaign are all enabled in this
    order under the guarded clock (nobody sends after the stop, so time may pass), and at the
    end `j` leads on a fresh lease with exactly the cache it held when it was offered
    leadership, while `i` is a candidate that will not campaign before its 10 s are over. -/
theorem handover_completes (c : Cfg) (s : State) (i j : Nat) (hs : Safe s)
    (hij : i ≠ j) (hpi : (s.loc i).phase = .lead) (hpj : (s.loc j).phase = .foll)
    (hah : ahead (s.loc j).cache (s.loc i).cache = true) (hd : (s.loc j).disk = true) :
    ((run c true s [.offer i j, .stopped i, .resigned i true, .tick c.takeoverDelay, .stopped j,
        .tick c.pauseOther, .campaign j true]).loc j).phase = .lead ∧
      ((run c true s [.offer i j, .stopped i, .resigned i true, .tick c.takeoverDelay, .stopped j,
        .tick c.pauseOther, .campaign j true]).loc j).cache = (s.loc j).cache ∧
      (run c true s [.offer i j, .stopped i, .resigned i true, .tick c.takeoverDelay, .stopped j,
        .tick c.pauseOther, .campaign j true]).lease = some (j, s.now + c.takeoverDelay + c.pauseOther + c.ttl) ∧
      ((run c true s [.offer i j, .stopped i, .resigned i true, .tick c.takeoverDelay, .stopped j,
        .tick c.pauseOther, .campaign j true]).loc i).phase = .cand (s.now + c.pauseHandover) := by
  have hsi : sending (s.loc i) = true := by simp [sending, hpi]
  obtain ⟨e, hl, _⟩ := (holdsUntil_iff s i s.now).mp (hs i hsi)
  have hothers : ∀ k, k ≠ i → sending (s.loc k) = false := by
    intro k hk
    cases hsk : sending (s.loc k) with
    | false => rfl
    | true => exact absurd (hs.unique hsk hsi) hk
  -- offer
  let s1 := (s.set i (.stopL .handover)).set j (.follOffered (s.now + c.takeoverDelay))
  have h1 : step c true s (.offer i j) = s1 := by
    simp [step, hij, hpi, hpj, hah, s1]
  have hji : j ≠ i := Ne.symm hij
  -- the old leader's syncer stops
  let s2 : State := { s1 with loc := upd s1.loc i (endSyncer (s1.loc i) (.resign .handover)) }
  have hp1i : (s1.loc i).phase = .stopL .handover := by
    simp [s1, State.set, upd, hij]
  have h2 : step c true s1 (.stopped i) = s2 := by
    simp only [step, hp1i, s2]
  -- it resigns
  let s3 : State := { s2.set i (.cand (s2.now + c.pauseHandover)) with lease := none }
  have hp2i : (s2.loc i).phase = .resign .handover := by simp [s2, endSyncer]
  have h3 : step c true s2 (.resigned i true) = s3 := by
    have hl2 : s2.lease = some (i, e) := hl
    have hown : ownsLease s2 i = true := by simp [ownsLease, hl2]
    simp only [step, hp2i, hown, pauseResign, Bool.true_and, if_true, s3]
  have hs3 : ∀ k, sending (s3.loc k) = false := by
    intro k
    by_cases hki : k = i
    · subst hki; simp [s3, State.set, sending]
    · by_cases hkj : k = j
      · subst hkj; simp [s3, s2, s1, State.set, upd, hki, sending]
      · have := hothers k hki
        simpa [s3, s2, s1, State.set, upd, hki, hkj] using this
  -- Run's 2 s
  let s4 : State := { s3 with now := s.now + c.takeoverDelay }
  have h4 : step c true s3 (.tick c.takeoverDelay) = s4 := by
    have ht := timely_of_silent c s3 c.takeoverDelay hs3
    simp only [step, ht, Bool.true_and, Bool.not_true, Bool.false_eq_true, if_false]
    rfl
  have hp4j : (s4.loc j).phase = .follOffered (s.now + c.takeoverDelay) := by
    simp [s4, s3, s2, s1, State.set, upd, hji]
  let s5 : State := { s4 with loc := upd s4.loc j (endSyncer (s4.loc j) (.cand (s.now + c.takeoverDelay + c.pauseOther))) }
  have h5 : step c true s4 (.stopped j) = s5 := by
    have : ¬ s4.now < s.now + c.takeoverDelay := by simp [s4]
    simp only [step, hp4j, this, if_false, s5]
  have hs5 : ∀ k, sending (s5.loc k) = false := by
    intro k
    by_cases hkj : k = j
    · subst hkj; simp [s5, endSyncer, sending]
    · have := hs3 k
      simpa [s5, s4, upd, hkj] using this
  let s6 : State := { s5 with now := s.now + c.takeoverDelay + c.pauseOther }
  have h6 : step c true s5 (.tick c.pauseOther) = s6 := by
    have ht := timely_of_silent c s5 c.pauseOther hs5
    simp only [step, ht, Bool.true_and, Bool.not_true, Bool.false_eq_true, if_false]
    rfl
  have hp6j : (s6.loc j).phase = .cand (s.now + c.takeoverDelay + c.pauseOther) := by
    simp [s6, s5, endSyncer]
  have hfree6 : heldByOther s6 j = false := by simp [heldByOther, s6, s5, s4, s3]
  have h7 := (campaign_outcome c true s6 j _ hp6j (by simp [s6])).1 hfree6
  have hrun : run c true s [.offer i j, .stopped i, .resigned i true, .tick c.takeoverDelay, .stopped j,
        .tick c.pauseOther, .campaign j true] = step c true s6 (.campaign j true) := by
    simp only [run, List.foldl_cons, List.foldl_nil, h1, h2, h3, h4, h5, h6]
  rw [hrun]
  refine ⟨h7.1, ?_, ?_, ?_⟩
  · have hc6 : (s6.loc j).cache = (s.loc j).cache := by
      simp [s6, s5, s4, s3, s2, s1, endSyncer, State.set, upd, hji, hd]
    have := (step_cache c true s6 (.campaign j true) j (by simp [s6, s5, s4, s3, s2, s1, endSyncer, State.set, upd, hji, hd]) (by intro v; simp)).1
    rw [this, hc6]
  · rw [h7.2]
  · have hother : i ∉ (Ev.campaign j true).targets := by simp [Ev.targets, hij]
    rw [step_loc_other c true s6 _ i hother]
    simp [s6, s5, s4, s3, State.set, upd, hij]
    rfl

/-- **follower_promoted_by_ticker**: the Resign failed and the old key has run out (or it
    succeeded and the offered follower is still inside `Run`'s 2 s): the follower's ticker
    campaign wins, its syncer is stopped without an error, the loop campaigns at once — on its
    own key — and it leads. Nobody else can win in between (`campaign_outcome`: the key is its). -/
theorem follower_promoted_by_ticker (c : Cfg) (g : Bool) (s : State) (j : Nat)
    (hfo : isFollowing (s.loc j).phase = true) (hfree : heldByOther s j = false) :
    ((run c g s [.tcampaign j true, .stopped j, .campaign j true]).loc j).phase = .lead ∧
      (run c g s [.tcampaign j true, .stopped j, .campaign j true]).lease = some (j, s.now + c.ttl) ∧
      (∀ k, k ≠ j → heldByOther (step c g s (.tcampaign j true)) k = true ∨ c.ttl = 0) := by
  have h1 : step c g s (.tcampaign j true) = { s.set j (.stopF .changed) with lease := some (j, s.now + c.ttl) } := by
    simp [step, hfo, hfree]
  let s1 : State := { s.set j (.stopF .changed) with lease := some (j, s.now + c.ttl) }
  let s2 := step c g s1 (.stopped j)
  have hp2 : (s2.loc j).phase = .cand (s.now + 0) := by simp [s2, step, pauseOf, endSyncer, s1]
  have hl2 : s2.lease = some (j, s.now + c.ttl) := by simp [s2, step, s1]
  have hn2 : s2.now = s.now := by simp [s2, step, s1]
  have hh2 : heldByOther s2 j = false := by simp [heldByOther, hl2]
  have h3 := (campaign_outcome c g s2 j (s.now + 0) hp2 (by omega)).1 hh2
  have hrun : run c g s [.tcampaign j true, .stopped j, .campaign j true] = step c g s2 (.campaign j true) := by
    simp [run, h1, s2, s1]
  rw [hrun]
  refine ⟨h3.1, ?_, ?_⟩
  · rw [h3.2, hn2]
  · intro k hk
    by_cases h0 : c.ttl = 0
    · exact Or.inr h0
    · left
      rw [h1]
      have hlt : s.now < s.now + c.ttl := by omega
      have hjk : j ≠ k := Ne.symm hk
      simp [heldByOther, hlt, hjk]

/-! ### (4) the cache the new leader serves from -/

/-- **promoted_cache_intact** (disk backend): from the moment leadership is offered to the
    moment the follower leads — whatever happens in between: lost campaigns, the old leader's
    failed resign, crashes of others, its own syncer being stopped and re-created — the end of
    its cache does not move unless it runs a follower session against some leader (and what a
    session does to it is `follower_prefix_of_leader`). The hand-over session itself leaves it
    untouched (`ahead_gets_handover`). -/
theorem promoted_cache_intact (c : Cfg) (g : Bool) (evs : List Ev) (s : State) (j : Nat)
    (hd : (s.loc j).disk = true) (hno : ∀ ev ∈ evs, ∀ v, ev ≠ .fsync j v) :
    ((run c g s evs).loc j).cache = (s.loc j).cache :=
  run_cache c g evs s j hd hno

/-! ### non-vacuity and counter-witnesses (`decide`) -/

section examples

def cfgEx : Cfg := { n := 3, ttl := 8000 }

/-- instance 0 leads (cache ends at 100, lease until 8000), 1 follows and holds more (150),
    2 follows and holds less; all on disk -/
def s0 : State where
  now := 0
  lease := some (0, 8000)
  loc := fun i => if i = 0 then ⟨.lead, some 100, true⟩ else if i = 1 then ⟨.foll, some 150, true⟩
    else ⟨.foll, some 90, true⟩

theorem s0_safe : Safe s0 := by
  intro i hi
  by_cases h0 : i = 0
  · subst h0; decide
  · by_cases h1 : i = 1
    · subst h1; simp [s0, sending] at hi
    · simp [s0, sending, h0, h1] at hi

/-- `handover_completes` applies to `s0` -/
example : ((run cfgEx true s0 [.offer 0 1, .stopped 0, .resigned 0 true, .tick cfgEx.takeoverDelay, .stopped 1,
    .tick cfgEx.pauseOther, .campaign 1 true]).loc 1).phase = .lead :=
  (handover_completes cfgEx s0 0 1 s0_safe (by decide) (by decide) (by decide) (by decide) (by decide)).1

/-- a complete hand-over in which the Resign FAILS: offer; the old leader's syncer stops, its
    Resign fails (the key stays until 8000); the offered follower's `Run` returns two seconds
    after the offer, one second later its first campaign loses and it follows again; the key
    expires; its ticker campaign wins; its syncer is re-created and it leads with its cache
    (150) intact; the old leader wakes after its 10 s pause, loses and follows. -/
def handoverFailedResign : List Ev :=
  [.offer 0 1, .stopped 0, .resigned 0 false, .tick 2000, .stopped 1, .tick 1000, .campaign 1 true,
   .tick 5000, .tcampaign 2 false, .tcampaign 1 true, .stopped 1, .campaign 1 true, .tick 2000,
   .campaign 0 true, .stopped 2, .campaign 2 true]

example : ((run cfgEx true s0 handoverFailedResign).loc 1).phase = .lead ∧
    ((run cfgEx true s0 handoverFailedResign).loc 1).cache = some 150 ∧
    ((run cfgEx true s0 handoverFailedResign).loc 0).phase = .foll ∧
    ((run cfgEx true s0 handoverFailedResign).loc 2).phase = .foll ∧
    (run cfgEx true s0 handoverFailedResign).lease = some (1, 16000) ∧
    (run cfgEx true s0 handoverFailedResign).now = 10000 := by decide +kernel

/-- after the first two events: the old leader is silent BEFORE its resign is attempted and the
    key is still its own; one second after its `Run` returned the offered follower's first
    campaign loses against the unexpired key -/
example : sending ((run cfgEx true s0 [.offer 0 1, .stopped 0]).loc 0) = false ∧
    ((run cfgEx true s0 [.offer 0 1, .stopped 0]).loc 0).phase = .resign .handover ∧
    ((run cfgEx true s0 [.offer 0 1, .stopped 0, .resigned 0 false, .tick 2000, .stopped 1, .tick 1000, .campaign 1 true]).loc 1).phase = .foll := by
  decide +kernel

/-- the ordinary hand-over (Resign succeeds): the offered follower leads three seconds after the
    offer (2 s in `Run`, 1 s in the loop) — or earlier through its ticker, which keeps campaigning
    while `Run` pauses -/
example : ((run cfgEx true s0 [.offer 0 1, .stopped 0, .resigned 0 true, .tick 2000, .stopped 1, .tick 1000, .campaign 1 true]).loc 1).phase = .lead ∧
    (run cfgEx true s0 [.offer 0 1, .stopped 0, .resigned 0 true, .tick 2000, .stopped 1, .tick 1000, .campaign 1 true]).lease = some (1, 11000) ∧
    ((run cfgEx true s0 [.offer 0 1, .stopped 0, .resigned 0 true, .tick 900, .tcampaign 1 true, .stopped 1, .campaign 1 true]).loc 1).phase = .lead := by
  decide +kernel

/-- … unless another instance wins the campaign: then exactly that one leads -/
example : ((run cfgEx true s0 [.offer 0 1, .stopped 0, .resigned 0 true, .tcampaign 2 true, .stopped 2,
      .campaign 2 true, .tick 2000, .stopped 1, .tick 1000, .campaign 1 true]).loc 2).phase = .lead ∧
    ((run cfgEx true s0 [.offer 0 1, .stopped 0, .resigned 0 true, .tcampaign 2 true, .stopped 2,
      .campaign 2 true, .tick 2000, .stopped 1, .tick 1000, .campaign 1 true]).loc 1).phase = .foll := by
  decide +kernel

/-- the guard at work: while the old leader is still stopping, time cannot pass beyond its lease -/
example : (run cfgEx true s0 [.offer 0 1, .tick 9000]).now = 0 := by decide +kernel

/-- **counter-witness to (3) without `timely`**: `sy.Stop()` takes longer than what is left of
    the lease (no renewals any more): the key expires, the offered follower wins the campaign
    and sends while the old leader's output is still open. -/
theorem two_senders_if_stop_outlives_lease :
    sending ((run cfgEx false s0 [.offer 0 1, .tick 9000, .stopped 1, .campaign 1 true]).loc 0) = true ∧
      sending ((run cfgEx false s0 [.offer 0 1, .tick 9000, .stopped 1, .campaign 1 true]).loc 1) = true := by
  decide +kernel

/-- **counter-witness to the bound `ttl ≤ pauseHandover`**: lease 30 s, Resign fails. After its
    10 s pause the old leader finds its own unexpired key, leads again (under the old lease,
    extended) and the offered follower is a follower again — the offer is repeated instead of
    honoured, for as long as Resign keeps failing. -/
theorem old_leader_back_if_lease_longer_than_pause :
    let c : Cfg := { n := 3, ttl := 30000 }
    let s : State := { s0 with lease := some (0, 30000) }
    let evs : List Ev := [.offer 0 1, .stopped 0, .resigned 0 false, .tick 2000, .stopped 1, .tick 1000, .campaign 1 true,
      .tick 7000, .campaign 0 true]
    ((run c true s evs).loc 0).phase = .lead ∧ ((run c true s evs).loc 1).phase = .foll ∧
      (run c true s evs).lease = some (0, 40000) := by
  decide +kernel

/-- **counter-witness to "no restart of the old leader"**: its process is restarted during the
    10 s pause after a failed Resign: it campaigns at once, finds its own unexpired key and leads
    under the old lease (the election key carries the instance's address, not the process). -/
theorem old_leader_back_if_restarted :
    let evs : List Ev := [.offer 0 1, .stopped 0, .resigned 0 false, .crash 0, .tick 500, .restart 0, .campaign 0 true]
    ((run cfgEx true s0 evs).loc 0).phase = .lead ∧ (run cfgEx true s0 evs).now = 500 ∧
      (run cfgEx true s0 evs).lease = some (0, 8500) := by
  decide +kernel

/-- **counter-witness to (4) for the memory backend**: the follower's syncer ends (`syncer.run`
    closes its channel), the new leader syncer gets a new, empty memory channel: what the
    follower held more than the leader is gone at its promotion. -/
theorem memory_cache_lost_at_promotion :
    let s : State := { s0 with loc := fun i => if i = 1 then ⟨.foll, some 150, false⟩ else s0.loc i }
    ((run cfgEx true s [.offer 0 1, .stopped 0, .resigned 0 true, .tick 2000, .stopped 1, .tick 1000, .campaign 1 true]).loc 1).phase = .lead ∧
      ((run cfgEx true s [.offer 0 1, .stopped 0, .resigned 0 true, .tick 2000, .stopped 1, .tick 1000, .campaign 1 true]).loc 1).cache = none := by
  decide +kernel

end examples

end GunYu.Props.C16
