/-
  C15 — what the `deadline` of the ticker model IS: the instant the campaign
  that made the instance leader was sent + hold, or the send instant of one
  of the election calls the ticker made + hold (the call that started the
  renewal which succeeded; with two attempts per tick the first attempt's
  send, i.e. never later than the send of the attempt that succeeded).
  Together with `tickd_leads_within_hold` (returned ≤ deadline): whenever the
  leader's clusterTicker returns, a campaign / renewal SENT at most `hold`
  earlier exists — the reading of `okSent + hold` in the schedule condition
  `TAllowed` of the timed system model (Model/LeaseTimed.lean).
-/
import GunYu.Props.C15Ticker


namespace GunYu.Props.C15
open GunYu GunYu.Lease

/-- `dl` is the initial deadline or some recorded call + hold -/
def DlOk (H d0 dl : Nat) (calls : List Nat) : Prop := dl = d0 ∨ ∃ c ∈ calls, dl = c + H

theorem DlOk.mono {H d0 dl : Nat} {calls calls' : List Nat} (h : DlOk H d0 dl calls)
    (hs : ∀ c ∈ calls, c ∈ calls') : DlOk H d0 dl calls' := by
  rcases h with h | ⟨c, hc, h⟩
  · exact Or.inl h
  · exact Or.inr ⟨c, hs c hc, h⟩

def triesCalls : Tries → List Nat
  | .ok _ _ c => c
  | .failed _ _ _ c => c
  | .stuck c => c

/-- `util.Retry`: the calls recorded before stay recorded; when it reports success the send instant of
    its first attempt is among them -/
theorem tries_calls (stop : Nat) : ∀ (k cur : Nat) (e : ErrClass) (script : List TAns) (calls : List Nat),
    (∀ c ∈ calls, c ∈ triesCalls (tries stop k cur e script calls)) ∧
    (∀ ret rest calls', tries stop k cur e script calls = .ok ret rest calls' → cur ∈ calls') := by
  intro k
  induction k with
  | zero =>
    intro cur e script calls
    simp only [tries, triesCalls]
    exact ⟨fun c hc => hc, fun ret rest calls' h => by simp at h⟩
  | succ k ih =>
    intro cur e script calls
    simp only [tries]
    by_cases h1 : (script.headD { res := .ok, dur := 0 }).res = .blk
    · simp only [h1, ↓reduceIte, triesCalls]
      exact ⟨fun c hc => List.mem_cons_of_mem _ hc, fun ret rest calls' h => by simp at h⟩
    · simp only [h1, ↓reduceIte]
      by_cases h2 : stop < cur + (script.headD { res := .ok, dur := 0 }).dur
      · simp only [h2, ↓reduceIte, triesCalls]
        exact ⟨fun c hc => List.mem_cons_of_mem _ hc, fun ret rest calls' h => by simp at h⟩
      · simp only [h2, ↓reduceIte]
        by_cases h3 : renewErr (script.headD { res := .ok, dur := 0 }).res = .ok
        · simp only [h3, ↓reduceIte, triesCalls]
          refine ⟨fun c hc => List.mem_cons_of_mem _ hc, fun ret rest calls' h => ?_⟩
          simp only [Tries.ok.injEq] at h
          rw [← h.2.2]; exact List.mem_cons_self
        · simp only [h3, ↓reduceIte]
          obtain ⟨i1, i2⟩ := ih (cur + (script.headD { res := .ok, dur := 0 }).dur)
            (renewErr (script.headD { res := .ok, dur := 0 }).res) script.tail (cur :: calls)
          refine ⟨fun c hc => i1 c (List.mem_cons_of_mem _ hc), fun ret rest calls' h => ?_⟩
          have := i1 cur List.mem_cons_self
          rw [h] at this
          exact this

/-- the leader loop keeps `deadline = initial deadline ∨ a recorded call + hold` -/
theorem leaderLoop_deadline (P : TParams) (hP : P.rearmFromSend = true) (R H hor d0 : Nat) (ext : Option Nat) :
    ∀ (fuel t next : Nat) (buf : Bool) (dl : Nat) (script : List TAns) (calls : List Nat),
      DlOk H d0 dl calls →
      DlOk H d0 (leaderLoop P R H hor ext fuel t next buf dl script calls).deadline
        (leaderLoop P R H hor ext fuel t next buf dl script calls).calls := by
  intro fuel
  induction fuel with
  | zero =>
    intro t next buf dl script calls h
    simp only [leaderLoop]
    exact h.mono (fun c hc => List.mem_reverse.2 hc)
  | succ fuel ih =>
    intro t next buf dl script calls h
    simp only [leaderLoop]
    generalize (if buf = true then t else next) = tt
    generalize (if buf = true then next else next + R) = next1
    by_cases c1 : stopAt dl ext < tt
    · simp only [c1, ↓reduceIte]
      obtain ⟨e2, e1, _⟩ := stopOut_fields calls dl ext hor
      rw [e1, e2]; exact h.mono (fun c hc => List.mem_reverse.2 hc)
    · simp only [c1, ↓reduceIte]
      by_cases c2 : hor < tt
      · simp only [c2, ↓reduceIte]
        exact h.mono (fun c hc => List.mem_reverse.2 hc)
      · simp only [c2, ↓reduceIte]
        have hc := tries_calls (stopAt dl ext) P.retry tt .other script calls
        cases heq : tries (stopAt dl ext) P.retry tt .other script calls with
        | stuck calls' =>
          dsimp only
          obtain ⟨e2, e1, _⟩ := stopOut_fields calls' dl ext hor
          rw [e1, e2]
          have h1 := hc.1
          rw [heq] at h1
          exact h.mono (fun c hc' => List.mem_reverse.2 (h1 c hc'))
        | failed ret e rest calls' =>
          dsimp only
          have h1 := hc.1
          rw [heq] at h1
          exact h.mono (fun c hc' => List.mem_reverse.2 (h1 c hc'))
        | ok ret rest calls' =>
          dsimp only
          simp only [hP, ↓reduceIte]
          apply ih
          exact Or.inr ⟨_, hc.2 ret rest calls' heq, rfl⟩

/-- the whole ticker as cmd/syncer.go stands: its deadline is the send of the campaign + hold, or the send
    instant of one of ITS calls + hold -/
theorem tickd_deadline_is_send_plus_hold (R H ago hor : Nat) (ext : Option Nat) (pre : Bool)
    (script : List TAns) :
    (tickerRunD srcParams true R H ago hor ext pre script).deadline = H - ago ∨
    ∃ c ∈ (tickerRunD srcParams true R H ago hor ext pre script).calls,
      (tickerRunD srcParams true R H ago hor ext pre script).deadline = c + H := by
  unfold tickerRunD
  cases pre with
  | true => simp only [↓reduceIte]; exact Or.inl trivial
  | false =>
    simp only [Bool.false_eq_true, ↓reduceIte]
    exact leaderLoop_deadline srcParams rfl R H hor (H - ago) ext _ 0 R false (H - ago) script [] (Or.inl rfl)

-- non-vacuity: the scenario of Props/C15Ticker.lean: deadline 6500 = call sent at 3000 + hold 3500
example : (tickerRunD srcParams true 1500 3500 200 9750 none false [⟨.ok, 0⟩, ⟨.ok, 1637⟩, ⟨.blk, 0⟩]).deadline
    = 3000 + 3500 ∧
    3000 ∈ (tickerRunD srcParams true 1500 3500 200 9750 none false [⟨.ok, 0⟩, ⟨.ok, 1637⟩, ⟨.blk, 0⟩]).calls := by
  decide +kernel
-- no renewal answered: the deadline is still the campaign's
example : (tickerRunD srcParams true 1500 3500 200 9750 none false [⟨.blk, 0⟩]).deadline = 3500 - 200 := by decide +kernel

end GunYu.Props.C15
