/-
  C06 — `SendPSync`'s offset arithmetic and reply shapes REGENERATED from /repo (Gen/C06Psync.lean, written by
  harness/extract/c06psync.go on every run) and proved equal to the hand model for all inputs.
-/
import GunYu.Gen.C06Psync
import GunYu.Props.C06Att

namespace GunYu.Props.C06
open GunYu GunYu.Psync

theorem gen_wireOf_eq_model (off : Int) : Gen.C06Psync.wireOf off = wireOf off := rfl

theorem gen_wireOf64_eq_model (off : Int) :
    (if off ≥ Gen.C06Psync.wireGuard then wrap64 (off + Gen.C06Psync.wireAdd) else off) = wireOf64 off := rfl

/-- on `+CONTINUE` the code returns what the model returns, in both arithmetics -/
theorem gen_contOff_eq_model (s : Source) (id : Id) (off : Int) (nid : Id)
    (h : admitPsync s id (wireOf off) = .cont nid) :
    (sendPSync s id off).off = Gen.C06Psync.contOff (Gen.C06Psync.wireOf off) := by
  unfold sendPSync
  rw [h]
  rfl

theorem gen_contOff64_eq_model (s : Source) (id : Id) (off : Int) (nid : Id)
    (h : admitPsync s id (wireOf64 off) = .cont nid) :
    (sendPSync64 s id off).off = wrap64 (Gen.C06Psync.contOff (wireOf64 off)) := by
  unfold sendPSync64
  rw [h]
  rfl

theorem gen_reply_shape :
    Gen.C06Psync.contIdField = 1 ∧ Gen.C06Psync.fullMinFields = 3 ∧ Gen.C06Psync.fullIdField = 1 ∧
      Gen.C06Psync.fullOffField = 2 ∧ Gen.C06Psync.parseBase = 10 ∧ Gen.C06Psync.parseBits = 64 := by decide

/-- non-vacuity: a stored offset 180 is asked for as 181 and a granted continuation returns 180; "?" -1 goes out as -1 -/
example : Gen.C06Psync.wireOf 180 = 181 ∧ Gen.C06Psync.contOff (Gen.C06Psync.wireOf 180) = 180 ∧ Gen.C06Psync.wireOf (-1) = -1 := by decide

end GunYu.Props.C06
