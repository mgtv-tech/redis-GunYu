/-
  C17 — the REPAIRED `RedisOutput.SetRunId` (`pendingRunId`, Model/BookRunIdSeq.lean `setRunIdP` / `srRunP`; /repo fix of
  finding C17-F1): the statement that is false for the state machine before the repair (`setRunIdSeq_stmt_refuted`) is a
  theorem for the repaired one.

  `setRunIdSeq_fixed`: one RedisOutput, any number of failovers and `SetRunId` calls, every attempt with any fate (dial
  error; the finishing step and the relabel proper each stopped after any number of their requests or failing with all of
  them applied), a failover whenever the HASH maps the master id (the position is readable under the ids reported after
  it): the SAME position stays readable under the reported ids.

  Invariant `InvP` (in-memory fields vs the label of the position):
    I1  cfg.RunId is the label; pendingRunId is "" or (label ≠ master id) the master id,
    I2  the hash maps the master id, cfg.RunId is the second id, pendingRunId the master id   (a call failed after it
        had repointed the hash),
    I3  the label is the second id and pendingRunId names it; cfg.RunId is some older id       (I2 + a failover): the
        finishing step `UpdateCheckpoint(key, [pending, cfg.RunId])` finds the hash on `pending` - nothing to do - and
        sets cfg.RunId to the label; the relabel proper then starts from the label, never from the stale id.
-/
import GunYu.Props.C17RunIdSeq

namespace GunYu.Props.C17
open GunYu GunYu.Checkpoint GunYu.BookSys

def InvP (c : Ctl) (s : RunIdStP) : Prop :=
  (s.runId = c.lab ∧ (s.pend = [] ∨ (s.pend = c.mas ∧ c.lab ≠ c.mas))) ∨
  (c.lab = c.mas ∧ s.runId = c.sec ∧ s.pend = c.mas) ∨
  (c.lab = c.sec ∧ s.pend = c.sec ∧ s.runId ≠ c.mas)

def FateOK (d : Nat) (f : AttemptF) : Prop := d ∈ f.a.o1 ∧ (-(2^63 : Int) ≤ f.a.now ∧ f.a.now < 2^63)

theorem finStep_skip (ver loc : Bytes) (s : RunIdStP) (id : Bytes) (f : AttemptF) (h : s.pend = [] ∨ s.pend = id) :
    finStep ver loc s id f = (s, true) := by
  unfold finStep
  rw [if_neg (fun hc => h.elim hc.1 hc.2)]

/-- the relabel proper of an attempt, from a field that is `FieldOK` (the label, or the second id when the hash is
    already repointed), any fate: what `attemptP` does after the finishing step -/
theorem relabelP_good (ver : Bytes) {t : Checkpoint.Target} {c : Ctl} {X : Int} {d : Nat} (G : Good t c X d)
    (hp : c.pend = none) {runId : Bytes} (hf : FieldOK c runId) (hr : runId ≠ c.mas) (f : AttemptF) (hfo : FateOK d f)
    (res : RunIdStP × Bool)
    (hres : res = if (attemptOnceF ver c.key ⟨t, runId⟩ c.mas f).2
      then (⟨(attemptOnceF ver c.key ⟨t, runId⟩ c.mas f).1, c.mas, []⟩, true)
      else (⟨(attemptOnceF ver c.key ⟨t, runId⟩ c.mas f).1, runId, c.mas⟩, false)) :
    ∃ lab', Good res.1.t { c with lab := lab' } X d ∧ InvP { c with lab := lab' } res.1 ∧
      (res.2 = true → res.1.runId = c.mas ∧ lab' = c.mas) ∧ (res.2 = false → res.1.runId ≠ c.mas) := by
  obtain ⟨lab', G', hf', hT⟩ := attemptOnce_good ver G hp hf hr f.a hfo
  subst hres
  split
  · rename_i hok
    have hl : lab' = c.mas := hT (Bool.and_eq_true_iff.mp hok).1
    exact ⟨lab', G', Or.inl ⟨hl.symm, Or.inl rfl⟩, fun _ => ⟨rfl, hl⟩, fun h => (Bool.false_ne_true h.symm).elim⟩
  · refine ⟨lab', G', ?_, fun h => (Bool.false_ne_true h).elim, fun _ => hr⟩
    rcases hf' with h | h
    · exact Or.inl ⟨h, Or.inr ⟨rfl, fun e => hr (h.trans e)⟩⟩
    · exact Or.inr (Or.inl ⟨h.1, h.2, rfl⟩)

/-- **one attempt of the repaired `SetRunId(master id)`**: dial error, finishing step, relabel proper -/
theorem attemptP_good (ver : Bytes) {c : Ctl} {X : Int} {d : Nat} {s : RunIdStP} (G : Good s.t c X d)
    (hp : c.pend = none) (hi : InvP c s) (hr : s.runId ≠ c.mas) (ap : AttemptP) (h1 : FateOK d ap.fin)
    (h2 : FateOK d ap.a) :
    ∃ lab', Good (attemptP ver c.key s c.mas ap).1.t { c with lab := lab' } X d ∧
      InvP { c with lab := lab' } (attemptP ver c.key s c.mas ap).1 ∧
      ((attemptP ver c.key s c.mas ap).2 = true → (attemptP ver c.key s c.mas ap).1.runId = c.mas ∧ lab' = c.mas) ∧
      ((attemptP ver c.key s c.mas ap).2 = false → (attemptP ver c.key s c.mas ap).1.runId ≠ c.mas) := by
  obtain ⟨t, runId, pend⟩ := s
  simp only at G hr
  unfold attemptP
  by_cases hdial : ap.dial = true
  · rw [if_pos hdial]
    exact ⟨c.lab, G, hi, fun h => (Bool.false_ne_true h).elim, fun _ => hr⟩
  rw [if_neg hdial]
  rcases hi with ⟨h1', h2'⟩ | ⟨hl, hrs, hpd⟩ | ⟨hls, hpd, hrm⟩
  · -- I1: the finishing step does not run
    rw [finStep_skip ver c.key _ c.mas ap.fin (h2'.imp id And.left)]
    exact relabelP_good ver G hp (Or.inl h1') hr ap.a h2 _ rfl
  · -- I2: nor here
    rw [finStep_skip ver c.key _ c.mas ap.fin (Or.inr hpd)]
    exact relabelP_good ver G hp (Or.inr ⟨hl, hrs⟩) hr ap.a h2 _ rfl
  · -- I3: the finishing step finds the hash on `pending` - nothing to write - and, unless it fails all the
    -- same, moves the field to the label
    simp only at hpd hrm
    subst hpd
    have hnoop : updateReqs ver t c.key [c.sec, runId] ap.fin.a.o1 ap.fin.a.o2 ap.fin.a.now = [] :=
      updateReqs_noop ver _ _ _ (getHash_of_first (hls ▸ G.fr.hashL) G.ctl.key0)
    have ht : (attemptOnceF ver c.key ⟨t, runId⟩ c.sec ap.fin).1 = t := by
      show applyAll t ((updateReqs ver t c.key [c.sec, runId] ap.fin.a.o1 ap.fin.a.o2 ap.fin.a.now).take _) = t
      rw [hnoop, List.take_nil]; rfl
    unfold finStep
    rw [if_pos (show c.sec ≠ [] ∧ c.sec ≠ c.mas from ⟨G.ctl.s0, fun e => G.ctl.hne e.symm⟩)]
    simp only [ht]
    by_cases hfin : (attemptOnceF ver c.key ⟨t, runId⟩ c.sec ap.fin).2 = true
    · rw [if_pos hfin]
      exact relabelP_good ver G hp (Or.inl hls.symm) (fun e => G.ctl.hne e.symm) ap.a h2 _ rfl
    · rw [if_neg hfin]
      exact ⟨c.lab, G, Or.inr (Or.inr ⟨hls, rfl, hrm⟩), fun h => (Bool.false_ne_true h).elim, fun _ => hr⟩

theorem retryLoopP_good (ver : Bytes) (as : List AttemptP) :
    ∀ {c : Ctl} {X : Int} {d : Nat} {s : RunIdStP} (G : Good s.t c X d) (hp : c.pend = none) (hi : InvP c s)
      (hr : s.runId ≠ c.mas) (has : ∀ a ∈ as, FateOK d a.fin ∧ FateOK d a.a),
      ∃ lab', Good (retryLoopP ver c.key c.mas s as).1.t { c with lab := lab' } X d ∧
        InvP { c with lab := lab' } (retryLoopP ver c.key c.mas s as).1 ∧
        ((retryLoopP ver c.key c.mas s as).2 = true →
          (retryLoopP ver c.key c.mas s as).1.runId = c.mas ∧ lab' = c.mas) := by
  induction as with
  | nil => intro c X d s G hp hi hr _; exact ⟨c.lab, G, hi, fun h => by cases h⟩
  | cons a rest ih =>
    intro c X d s G hp hi hr has
    obtain ⟨hf1, hf2⟩ := has a (List.mem_cons_self ..)
    obtain ⟨l1, G1, hI, hT, hF⟩ := attemptP_good ver G hp hi hr a hf1 hf2
    unfold retryLoopP
    by_cases hok : (attemptP ver c.key s c.mas a).2 = true
    · rw [if_pos hok]
      exact ⟨l1, G1, hI, fun _ => hT hok⟩
    · rw [if_neg hok]
      exact ih (c := { c with lab := l1 }) G1 hp hI (hF (Bool.not_eq_true _ ▸ hok)) (fun a' ha' => has a' (List.mem_cons_of_mem _ ha'))

/-- one call of the repaired `SetRunId(master id)` -/
theorem setRunIdP_good (ver : Bytes) {c : Ctl} {X : Int} {d : Nat} {s : RunIdStP} (G : Good s.t c X d)
    (hp : c.pend = none) (hi : InvP c s) (as : List AttemptP) (has : ∀ a ∈ as, FateOK d a.fin ∧ FateOK d a.a) :
    ∃ c', Good (setRunIdP ver c.key s c.mas as).1.t c' X d ∧ SameIds c c' ∧ c'.ids = c.ids ∧
      InvP c' (setRunIdP ver c.key s c.mas as).1 ∧
      ((setRunIdP ver c.key s c.mas as).2 = true → (setRunIdP ver c.key s c.mas as).1.runId = c.mas ∧ c'.lab = c.mas) := by
  unfold setRunIdP
  by_cases hr : s.runId = c.mas
  · rw [if_pos hr]
    refine ⟨c, G, ⟨rfl, rfl, rfl, hp⟩, rfl, hi, fun _ => ⟨hr, ?_⟩⟩
    rcases hi with ⟨h1, _⟩ | ⟨_, h2, _⟩ | ⟨_, _, h3⟩
    · exact h1.symm.trans hr
    · exact absurd (h2.symm.trans hr) (fun e => G.ctl.hne e.symm)
    · exact absurd hr h3
  · rw [if_neg hr, if_neg G.ctl.key0]
    obtain ⟨lab', G', hI, hT⟩ :=
      retryLoopP_good ver (as.take 3) G hp hi hr (fun a ha => has a (List.mem_of_mem_take ha))
    exact ⟨_, G', ⟨rfl, rfl, rfl, hp⟩, rfl, hI, hT⟩

/-- an output without bookkeeping (`CheckpointName == ""`) issues NO request: the target is untouched, the field follows -/
theorem setRunIdP_no_name (ver : Bytes) (s : RunIdStP) (id : Bytes) (as : List AttemptP) :
    (setRunIdP ver [] s id as).1.t = s.t ∧ (setRunIdP ver [] s id as).2 = true ∧ (setRunIdP ver [] s id as).1.runId = id := by
  unfold setRunIdP
  by_cases h : s.runId = id
  · rw [if_pos h]; exact ⟨rfl, rfl, h⟩
  · rw [if_neg h, if_pos rfl]; exact ⟨rfl, rfl, rfl⟩

/-- the steps: a failover whenever the HASH maps the master id to the key (the position is readable under the ids
    reported after it), its id never used on this target; attempts with any fate -/
def StepsOKP (ver loc : Bytes) (d : Nat) : RunIdStP → Bytes → List Bytes → List SrStepP → Prop
  | _, _, _, [] => True
  | s, m, ids, .call as :: r =>
    (∀ a ∈ as, FateOK d a.fin ∧ FateOK d a.a) ∧ StepsOKP ver loc d (setRunIdP ver loc s m as).1 m ids r
  | s, m, ids, .failover N :: r =>
    hlookup s.t.hash m = some loc ∧ N ∉ ids ∧ N ≠ [] ∧ N ≠ qmark ∧ StepsOKP ver loc d s N (N :: ids) r

theorem setRunIdSeq_fixed_good (ver : Bytes) (steps : List SrStepP) :
    ∀ {c : Ctl} {X : Int} {d : Nat} {s : RunIdStP} (G : Good s.t c X d) (hp : c.pend = none) (hi : InvP c s)
      (hok : StepsOKP ver c.key d s c.mas c.ids steps),
      ∃ c', Good (srRunP ver c.key s c.mas steps).1.t c' X d ∧ c'.key = c.key ∧ c'.pend = none ∧
        c'.mas = (srRunP ver c.key s c.mas steps).2 ∧ c'.sec = srSecP c.mas c.sec steps ∧
        InvP c' (srRunP ver c.key s c.mas steps).1 := by
  induction steps with
  | nil => intro c X d s G hp hi _; exact ⟨c, G, rfl, hp, rfl, rfl, hi⟩
  | cons st rest ih =>
    intro c X d s G hp hi hok
    cases st with
    | call as =>
      obtain ⟨has, hok'⟩ := hok
      obtain ⟨c1, G1, ⟨k1, m1, s1, p1⟩, i1, hI, _⟩ := setRunIdP_good ver G hp hi as has
      simp only [srRunP, srSecP]
      have := ih G1 p1 hI (by rw [k1, m1, i1]; exact hok')
      rw [k1, m1, s1] at this
      exact this
    | failover N =>
      obtain ⟨hh, hN, hN0, hNq, hok'⟩ := hok
      have hl : c.lab = c.mas := by
        have h1 := G.hashEq
        rw [getHash_of_first hh G.ctl.key0] at h1
        injection h1 with h1; injection h1 with _ h1
        exact h1.symm
      have G1 := good_failover G hl N hN hN0 hNq
      simp only [srRunP, srSecP]
      refine ih G1 hp ?_ hok'
      rcases hi with ⟨h1, h2⟩ | ⟨_, h2, h3⟩ | ⟨h1, _, _⟩
      · refine Or.inl ⟨h1, Or.inl ?_⟩
        rcases h2 with h | ⟨_, h⟩
        · exact h
        · exact absurd hl h
      · refine Or.inr (Or.inr ⟨hl, h3, ?_⟩)
        show s.runId ≠ N
        rw [h2]
        exact fun e => hN (e ▸ G.ctl.secIn)
      · exact absurd (hl.symm.trans h1) G.ctl.hne

/-- **the statement that was false before the repair** (`setRunIdSeq_stmt`), for the repaired `SetRunId`: a fresh
    RedisOutput on a reachable state (cfg.RunId = the label, as `newOutput` sets it; pendingRunId ""), any failovers and
    calls, attempts with any fate: the next start reads the SAME position under the ids reported at the end. -/
theorem setRunIdSeq_fixed (ver : Bytes) {t : Checkpoint.Target} {c : Ctl} (h : Reach ver true t c) (hp : c.pend = none)
    (steps : List SrStepP) (o : List Nat) (ho : Lists o t c.key)
    (hok : ∀ X d, startPoint ver [c.mas, c.sec] o t = some (some (X, d)) →
      StepsOKP ver c.key d ⟨t, c.lab, []⟩ c.mas c.ids steps) :
    ∃ X d, startPoint ver [c.mas, c.sec] o t = some (some (X, d)) ∧
      startPoint ver [(srRunP ver c.key ⟨t, c.lab, []⟩ c.mas steps).2, srSecP c.mas c.sec steps] o
        (srRunP ver c.key ⟨t, c.lab, []⟩ c.mas steps).1.t = some (some (X, d)) := by
  obtain ⟨X, d, G⟩ := reach_good ver h
  have hd := ho d G.nonempty
  have h0 := good_startPoint ver G o hd
  obtain ⟨c', G', _, _, m, s, _⟩ :=
    setRunIdSeq_fixed_good ver steps (s := ⟨t, c.lab, []⟩) G hp (Or.inl ⟨rfl, Or.inl rfl⟩) (hok X d h0)
  have := good_startPoint ver G' o hd
  rw [m, s] at this
  exact ⟨X, d, h0, this⟩

/-! non-vacuity = the witness of C17-F1 on the repaired state machine: `SetRunId("b")` applies 3 of its 4 requests and
    fails, failover to "e", `SetRunId("e")`: the finishing step finds the hash on "b", the relabel starts from "b":
    the position 7@0 stays. -/

def rxSeqP : List SrStepP :=
  [.call [⟨false, ⟨⟨0, 0, [0], [0]⟩, false⟩, ⟨⟨3, 9, [0], [0]⟩, false⟩⟩], .failover rxE,
   .call [⟨true, ⟨⟨0, 0, [0], [0]⟩, false⟩, ⟨⟨9, 10, [0], [0]⟩, false⟩⟩,
          ⟨false, ⟨⟨0, 0, [0], [0]⟩, true⟩, ⟨⟨9, 10, [0], [0]⟩, false⟩⟩,
          ⟨false, ⟨⟨0, 0, [0], [0]⟩, false⟩, ⟨⟨9, 11, [0], [0]⟩, false⟩⟩]]

theorem rx_seqP_ok (X : Int) (d : Nat) (hsp : startPoint rxVer [rxB, rxA] [0] rxT0s = some (some (X, d))) :
    StepsOKP rxVer rxLoc d ⟨rxT0s, rxA, []⟩ rxB (rxB :: [rxA, rxZ]) rxSeqP := by
  rw [rx_start7] at hsp
  injection hsp with hsp; injection hsp with hsp; injection hsp with _ hd
  subst hd
  refine ⟨?_, ?_, by decide, by decide, by decide, ?_, trivial⟩
  · intro a ha
    simp only [List.mem_cons, List.not_mem_nil, or_false] at ha
    subst ha; exact ⟨⟨by decide, by decide⟩, ⟨by decide, by decide⟩⟩
  · decide +kernel
  · intro a ha
    simp only [List.mem_cons, List.not_mem_nil, or_false] at ha
    rcases ha with rfl | rfl | rfl <;> exact ⟨⟨by decide, by decide⟩, ⟨by decide, by decide⟩⟩

example := setRunIdSeq_fixed rxVer rx_reachB rfl rxSeqP [0] (rx_lists0s [0] (by decide)) rx_seqP_ok

example : startPoint rxVer [(srRunP rxVer rxLoc ⟨rxT0s, rxA, []⟩ rxB rxSeqP).2, srSecP rxB rxA rxSeqP] [0]
    (srRunP rxVer rxLoc ⟨rxT0s, rxA, []⟩ rxB rxSeqP).1.t = some (some (7, 0)) := by decide +kernel

end GunYu.Props.C17
