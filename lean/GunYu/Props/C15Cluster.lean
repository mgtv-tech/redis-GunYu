/-
  C15 — a cluster-type lease store refines the single-store specification
  (Model/LeaseCluster.lean).
-/
import GunYu.Model.LeaseCluster
import GunYu.Proofs.Lease


namespace GunYu.Props.C15
open GunYu GunYu.Lease

theorem lookup_congr {st st' : Store} {k : Bytes} (now : Nat) (h : st k = st' k) :
    lookup st now k = lookup st' now k := by
  unfold lookup; rw [h]

theorem lookup_set_same (st : Store) (now : Nat) (k : Bytes) (e : Entry) :
    lookup (st.set k e) now k = if now ≤ e.exp then some e else none := by
  simp [lookup, Store.set]

theorem lookup_del_same (st : Store) (now : Nat) (k : Bytes) : lookup (st.del k) now k = none := by
  simp [lookup, Store.del]

/-- a request touches no other key -/
theorem exec_other (r : Req) (st : Store) (now : Nat) (k k' : Bytes) (h : k' ≠ k) :
    (r.exec st now k).1 k' = st k' := by
  cases r with
  | campaign id ttl =>
    rcases campaignCall_store st now k id ttl with e | e | e <;> simp only [Req.exec, e]
    · exact set_other _ _ _ _ h
    · exact del_other _ _ _ h
  | resign id ttl =>
    rcases resignCall_store st now k id ttl with e | e <;> simp only [Req.exec, e]
    exact del_other _ _ _ h
  | get => rfl

/-- reply and the key's new live state depend on the store only through the key's live state -/
theorem exec_congr (r : Req) (st st' : Store) (now : Nat) (k : Bytes)
    (h : lookup st now k = lookup st' now k) :
    (r.exec st now k).2 = (r.exec st' now k).2 ∧
    lookup (r.exec st now k).1 now k = lookup (r.exec st' now k).1 now k := by
  cases r with
  | campaign id ttl =>
    have h0 := h
    simp only [Req.exec, campaignCall_eq_spec, campaignSpec, h]
    cases h' : lookup st' now k with
    | none =>
      dsimp only
      split
      · exact ⟨rfl, h0⟩
      · exact ⟨rfl, by rw [lookup_set_same, lookup_set_same]⟩
    | some e =>
      dsimp only
      split
      · split
        · exact ⟨rfl, by rw [lookup_del_same, lookup_del_same]⟩
        · exact ⟨rfl, by rw [lookup_set_same, lookup_set_same]⟩
      · exact ⟨rfl, h0⟩
  | resign id ttl =>
    have h0 := h
    simp only [Req.exec, resignCall_eq_spec, resignSpec, h]
    cases h' : lookup st' now k with
    | none => exact ⟨rfl, h0⟩
    | some e =>
      dsimp only
      split
      · exact ⟨rfl, by rw [lookup_del_same, lookup_del_same]⟩
      · exact ⟨rfl, h0⟩
  | get =>
    refine ⟨?_, h⟩
    simp only [Req.exec, h]

/-! ### the cluster against the single store -/

/-- pointwise: the key's slot, its owner, its migration state and the key's entries agree -/
theorem absStore_congr (c c' : CState) (now : Nat) (k : Bytes)
    (hs : c'.slot k = c.slot k) (ho : c'.owner (c.slot k) = c.owner (c.slot k))
    (hm : c'.mig (c.slot k) = c.mig (c.slot k))
    (hn : ∀ x, c'.node x k = c.node x k) : absStore c' now k = absStore c now k := by
  unfold absStore
  rw [hs, ho, hm]
  cases c.mig (c.slot k) with
  | none => exact hn _
  | some m =>
    dsimp only
    rw [lookup_congr now (hn (c.owner (c.slot k)))]
    cases lookup (c.node (c.owner (c.slot k))) now k with
    | none => exact hn m
    | some _ => exact hn _

/-- the second half of `CWf` at a key whose entries and whose slot's owner a resharding step leaves alone -/
theorem cwf_key_of_same {c c' : CState} {now : Nat} (hwf : CWf c now) {k : Bytes} {m' : Nat}
    (ho : c'.owner (c.slot k) = c.owner (c.slot k)) (hn : ∀ x, c'.node x k = c.node x k)
    (e : c.mig (c.slot k) = some m') (hl : (lookup (c'.node (c'.owner (c.slot k))) now k).isSome = true) :
    lookup (c'.node m') now k = none := by
  rw [ho, lookup_congr now (hn _)] at hl
  rw [lookup_congr now (hn m')]
  exact hwf.2 k m' e hl

theorem setNode_other_keys (c : CState) (now n : Nat) (k k' : Bytes) (r : Req) (h : k' ≠ k) (x : Nat) :
    (setNode c n (r.exec (c.node n) now k).1).node x k' = c.node x k' := by
  unfold setNode
  dsimp only
  by_cases hx : x = n
  · simp only [hx, ↓reduceIte]; exact exec_other r _ now k k' h
  · simp only [hx, ↓reduceIte]

theorem setNode_same (c : CState) (n : Nat) (st : Store) : (setNode c n st).node n = st := by
  simp [setNode]

theorem setNode_ne (c : CState) (n x : Nat) (st : Store) (h : x ≠ n) : (setNode c n st).node x = c.node x := by
  simp [setNode, h]

/-- the situations in which a node executes a request (Model/LeaseCluster.lean `serve`) -/
def Serves (c : CState) (now n : Nat) (k : Bytes) : Prop :=
  (c.owner (c.slot k) = n ∧ c.mig (c.slot k) = none) ∨
  (c.owner (c.slot k) = n ∧ (∃ m, c.mig (c.slot k) = some m) ∧ (lookup (c.node n) now k).isSome = true) ∨
  (c.mig (c.slot k) = some n ∧ lookup (c.node (c.owner (c.slot k))) now k = none)

theorem absStore_at_server (c : CState) (now n : Nat) (k : Bytes) (h : Serves c now n k) :
    absStore c now k = c.node n k := by
  unfold absStore
  rcases h with ⟨ho, hm⟩ | ⟨ho, ⟨m, hm⟩, hl⟩ | ⟨hm, hl⟩
  · rw [hm, ho]
  · rw [hm, ho]; dsimp only
    cases hx : lookup (c.node n) now k with
    | none => rw [hx] at hl; simp at hl
    | some e => rfl
  · rw [hm]; dsimp only; rw [hl]

/-- a request executed by the node that serves its key: answered as the single store answers it, the
    single store it leaves behind is the specification's, well-formedness is kept -/
theorem execAt_refines (c : CState) (now n : Nat) (k : Bytes) (r : Req) (hwf : CWf c now)
    (hsv : Serves c now n k) :
    (r.exec (c.node n) now k).2 = (r.exec (absStore c now) now k).2 ∧
    (∀ k', lookup (absStore (setNode c n (r.exec (c.node n) now k).1) now) now k'
        = lookup (r.exec (absStore c now) now k).1 now k') ∧
    CWf (setNode c n (r.exec (c.node n) now k).1) now := by
  have habs := absStore_at_server c now n k hsv
  have hl : lookup (c.node n) now k = lookup (absStore c now) now k := lookup_congr now habs.symm
  have hc := exec_congr r (c.node n) (absStore c now) now k hl
  refine ⟨hc.1, ?_, ?_⟩
  · intro k'
    by_cases hk : k' = k
    · subst hk
      rw [← hc.2]
      have hsame := setNode_same c n (r.exec (c.node n) now k').1
      rcases hsv with ⟨ho, hm⟩ | ⟨ho, ⟨m, hm⟩, hlive⟩ | ⟨hm, hnone⟩
      · exact lookup_congr now
          ((absStore_at_server (setNode c n _) now n k' (.inl ⟨ho, hm⟩)).trans (congrFun hsame k'))
      · have hmn : m ≠ n := by have := hwf.1 _ _ hm; rw [ho] at this; exact this
        have hdead := hwf.2 k' m hm (by rw [ho]; exact hlive)
        cases hx : lookup (r.exec (c.node n) now k').1 now k' with
        | none =>
          -- the key is gone at its owner: the importing node answers, where the key is dead
          have hA := absStore_at_server (setNode c n (r.exec (c.node n) now k').1) now m k' (.inr (.inr ⟨hm, by
            show lookup ((setNode c n _).node (c.owner (c.slot k'))) now k' = none
            rw [ho, hsame]; exact hx⟩))
          rw [lookup_congr now hA]
          show lookup ((setNode c n _).node m) now k' = none
          rw [setNode_ne c n m _ hmn]; exact hdead
        | some e =>
          have hA := absStore_at_server (setNode c n (r.exec (c.node n) now k').1) now n k'
            (.inr (.inl ⟨ho, ⟨m, hm⟩, by rw [hsame, hx]; rfl⟩))
          rw [lookup_congr now (hA.trans (congrFun hsame k'))]; exact hx
      · have hon : c.owner (c.slot k') ≠ n := fun h => (hwf.1 _ _ hm) h.symm
        exact lookup_congr now ((absStore_at_server (setNode c n _) now n k' (.inr (.inr ⟨hm, by
          show lookup ((setNode c n _).node (c.owner (c.slot k'))) now k' = none
          rw [setNode_ne c n _ _ hon]; exact hnone⟩))).trans (congrFun hsame k'))
    · rw [lookup_congr now (absStore_congr c (setNode c n (r.exec (c.node n) now k).1) now k' rfl rfl rfl
        (setNode_other_keys c now n k k' r hk))]
      exact lookup_congr now (exec_other r _ now k k' hk).symm
  · refine ⟨hwf.1, ?_⟩
    intro k' m' hm' hlive'
    by_cases hk : k' = k
    · subst hk
      rcases hsv with ⟨ho, hm⟩ | ⟨ho, ⟨m, hm⟩, hlive⟩ | ⟨hm, hnone⟩
      · have : c.mig (c.slot k') = some m' := hm'
        rw [hm] at this; simp at this
      · have e : c.mig (c.slot k') = some m' := hm'
        rw [hm] at e
        have e' : m = m' := by simpa using e
        subst e'
        have hmn : m ≠ n := by have := hwf.1 _ _ hm; rw [ho] at this; exact this
        show lookup ((setNode c n _).node m) now k' = none
        rw [setNode_ne c n m _ hmn]
        exact hwf.2 k' m hm (by rw [ho]; exact hlive)
      · have hon : c.owner (c.slot k') ≠ n := fun h => (hwf.1 _ _ hm) h.symm
        have : (lookup ((setNode c n (r.exec (c.node n) now k').1).node (c.owner (c.slot k'))) now k').isSome
            = true := hlive'
        rw [setNode_ne c n _ _ hon, hnone] at this
        simp at this
    · exact cwf_key_of_same hwf rfl (setNode_other_keys c now n k k' r hk) hm' hlive'

/-- what a client call has to deliver -/
def Refines (c : CState) (now : Nat) (k : Bytes) (r : Req) (res : Option (CState × Reply)) : Prop :=
  ∃ c', res = some (c', (r.exec (absStore c now) now k).2) ∧
    (∀ k', lookup (absStore c' now) now k' = lookup (r.exec (absStore c now) now k).1 now k') ∧
    CWf c' now ∧ c'.slot = c.slot ∧ c'.owner = c.owner ∧ c'.mig = c.mig

theorem refines_of_serves (c : CState) (now n : Nat) (k : Bytes) (r : Req) (hwf : CWf c now)
    (hsv : Serves c now n k) :
    Refines c now k r (some (setNode c n (r.exec (c.node n) now k).1, (r.exec (c.node n) now k).2)) := by
  obtain ⟨h1, h2, h3⟩ := execAt_refines c now n k r hwf hsv
  exact ⟨_, by rw [h1], h2, h3, rfl, rfl, rfl⟩

/-- a request that reaches the slot's owner (with at least one redirection left) -/
theorem clientDo_from_owner (c : CState) (now fuel : Nat) (asking : Bool) (k : Bytes) (r : Req)
    (hwf : CWf c now) :
    Refines c now k r (clientDo c now (fuel + 2) (c.owner (c.slot k)) asking k r) := by
  simp only [clientDo, serve, ↓reduceIte]
  cases hm : c.mig (c.slot k) with
  | none =>
    dsimp only [execAt]
    exact refines_of_serves c now _ k r hwf (Or.inl ⟨rfl, hm⟩)
  | some m =>
    dsimp only
    by_cases hl : (lookup (c.node (c.owner (c.slot k))) now k).isSome = true
    · simp only [hl, ↓reduceIte, execAt]
      exact refines_of_serves c now _ k r hwf (Or.inr (Or.inl ⟨rfl, ⟨m, hm⟩, hl⟩))
    · simp only [hl, Bool.false_eq_true, ↓reduceIte]
      have hmo : m ≠ c.owner (c.slot k) := hwf.1 _ _ hm
      have hne : ¬ c.owner (c.slot k) = m := fun h => hmo h.symm
      simp only [hne, ↓reduceIte, and_self, execAt]
      have hnone : lookup (c.node (c.owner (c.slot k))) now k = none := by
        cases hx : lookup (c.node (c.owner (c.slot k))) now k with
        | none => rfl
        | some e => rw [hx] at hl; simp at hl
      exact refines_of_serves c now m k r hwf (Or.inr (Or.inr ⟨hm, hnone⟩))

/-- THE refinement, one request: for EVERY slot table, migration state, stale client view `v`, key and
    request, the cluster client gets an answer within three requests, it is the answer the single store
    `absStore` gives, the cluster then stands for the single store the specification leaves behind, and
    resharding state and well-formedness are untouched. -/
theorem clientDo_refines (c : CState) (now v : Nat) (k : Bytes) (r : Req) (hwf : CWf c now) :
    Refines c now k r (clientDo c now 3 v false k r) := by
  by_cases hv : v = c.owner (c.slot k)
  · subst hv; exact clientDo_from_owner c now 1 false k r hwf
  · have hne : ¬ c.owner (c.slot k) = v := fun h => hv h.symm
    have : clientDo c now 3 v false k r = clientDo c now 2 (c.owner (c.slot k)) false k r := by
      simp only [clientDo, serve, hne, ↓reduceIte, Bool.false_eq_true, and_false]
    rw [this]
    exact clientDo_from_owner c now 0 false k r hwf

/-- the request step of the cluster refinement under the name the evidence lists (whole runs: cluster_run_refines) -/
theorem cluster_request_refines_partial (c : CState) (now v : Nat) (k : Bytes) (r : Req) (hwf : CWf c now) :
    Refines c now k r (clientDo c now 3 v false k r) := clientDo_refines c now v k r hwf

/-- STATEMENT for whole runs (PROVED: `cluster_run_refines` in Props/C15ClusterRun.lean). For every list of
    requests (each first sent to any node), ticks and resharding events (begin / MIGRATE of a key / finish /
    completed move) from a well-formed cluster, the replies are those of the single store `absStore c now`
    under the same requests and ticks. -/
def cluster_run_refines_stmt : Prop :=
  ∀ (c : CState) (now : Nat) (evs : List CEv), CWf c now →
    (crun { c := c, now := now } evs).2 = srun (absStore c now) now evs

-- non-vacuity: three nodes, the key's slot owned by node 0 and MIGRATING to node 1, every key space empty
section clusterExamples
def exC : CState :=
  { node := fun _ => Store.empty, slot := fun _ => 0, owner := fun _ => 0, mig := fun _ => some 1 }
def exK : Bytes := [107]
-- the client's table is stale (node 2): -MOVED 0, there the key is absent: -ASK 1, executed at node 1 → leader
example : (clientDo exC 7 3 2 false exK (.campaign [97] 3)).map (·.2) = some (.int 1) := by decide +kernel
-- two requests are not enough from a stale node
example : (clientDo exC 7 2 2 false exK (.campaign [97] 3)).map (·.2) = none := by decide +kernel
-- the lease now lives on the importing node; another instance asking the owner is redirected there and refused
example : ((clientDo exC 7 3 0 false exK (.campaign [97] 3)).bind fun x =>
    (clientDo x.1 8 3 0 false exK (.campaign [98] 3)).map (·.2)) = some (.int 0) := by decide +kernel
-- the importing node without ASKING answers -MOVED to the owner
example : (match serve exC 7 1 false exK .get with | .moved n => n | _ => 99) = 0 := by decide +kernel
-- the events: request, tick past the lease, slot finished at node 1, takeover there
example : (crun { c := exC, now := 7 } [.req 2 exK (.campaign [97] 3), .tick 3001, .finish 0,
    .req 0 exK (.campaign [98] 3), .req 2 exK .get]).2
    = [some (.int 1), none, none, some (.int 1), some (.bulk [98])] := by decide +kernel
example : srun Store.empty 7 [.req 2 exK (.campaign [97] 3), .tick 3001, .finish 0,
    .req 0 exK (.campaign [98] 3), .req 2 exK .get]
    = [some (.int 1), none, none, some (.int 1), some (.bulk [98])] := by decide +kernel
end clusterExamples

end GunYu.Props.C15
