/-
  C05, several run-id directories — no shadowing: the ids of the current index and of
  the parked directories are pairwise different in every reachable state, so
  `dirLookup` (first match) finds THE directory of an id. (A file system cannot hold two
  directories of one name; the model's `dirs` is a list — this theorem says the list
  never uses that freedom.)
-/
import GunYu.Proofs.StoreDirsDistinct

namespace GunYu.Props.C05
open GunYu GunYu.Store

/-- **diskd_parked_ids_distinct.** After ANY operation list (no protocol hypothesis): the
    ids of the parked directories are pairwise different, none of them is a placeholder
    (`""`, `"?"`) and none is the current id. -/
theorem diskd_parked_ids_distinct (l m : Nat) (ops : List XOp) :
    let x := (DiskD.init l m).run ops
    (x.dirs.map (·.1)).Nodup ∧ ∀ e ∈ x.dirs, e.1 ≠ "" ∧ e.1 ≠ "?" ∧ e.1 ≠ x.cur.runId := by
  intro x
  obtain ⟨hk, hd⟩ := DistinctIds.run ops (KeysInv.init l m) (DistinctIds.init l m)
  exact ⟨hd, hk.keys⟩

/-- **diskd_lookup_unshadowed.** Every parked directory is the one `SetRunId` / `VerifyRunId`
    / `DelRunId` find under its id: no directory is shadowed by another of the same id. -/
theorem diskd_lookup_unshadowed (l m : Nat) (ops : List XOp) :
    let x := (DiskD.init l m).run ops
    ∀ e ∈ x.dirs, dirLookup x.dirs e.1 = some e.2 := by
  intro x e he
  exact dirLookup_of_mem (DistinctIds.run ops (KeysInv.init l m) (DistinctIds.init l m)).2 he

/-- parking the current directory (switch to an existing directory, delete of a foreign
    id, restart) keeps the ids distinct — the step the shadowing question is about -/
theorem diskd_park_keeps_distinct (l m : Nat) (ops : List XOp) :
    let x := (DiskD.init l m).run ops
    (x.parkCur.map (·.1)).Nodup := by
  intro x
  obtain ⟨hk, hd⟩ := DistinctIds.run ops (KeysInv.init l m) (DistinctIds.init l m)
  exact parkCur_nodup hk hd

/-! ### non-vacuity: three ids; "a" is parked by a restart, "b" by a switch to the existing
    "a", "a" again by the delete of the foreign id "b", then "c" is created and the store
    switches back to "a": at every point the parked ids are distinct -/

def exDistinctOps : List XOp :=
  [ .setRunId "a", .base (.newAofWriter 100), .base (.aofAppend [1,2,3]), .base .aofClose, .restart,
    .setRunId "b", .base (.newAofWriter 500), .base (.aofAppend [51,52,53]), .base .aofClose,
    .setRunId "a", .setRunId "b", .restart, .setRunId "c", .base (.newAofWriter 900), .base (.aofAppend [9]),
    .base .aofClose, .setRunId "a" ]

example : (DiskD.init 24 0).wf exDistinctOps := by decide +kernel
example : ((DiskD.init 24 0).run (exDistinctOps.take 10)).dirs.map (·.1) = ["b"] ∧
    ((DiskD.init 24 0).run (exDistinctOps.take 12)).dirs.map (·.1) = ["b", "a"] ∧
    ((DiskD.init 24 0).run exDistinctOps).dirs.map (·.1) = ["c", "b"] ∧
    ((DiskD.init 24 0).run exDistinctOps).cur.runId = "a" ∧
    ((DiskD.init 24 0).run exDistinctOps).cur.abs.bytes = [1,2,3] := by decide +kernel
/-- what shadowing WOULD look like (not reachable): with a duplicate key the lookup
    returns the first entry only -/
example : dirLookup [("a", Disk.init 1 0), ("a", Disk.init 2 0)] "a" = some (Disk.init 1 0) := rfl

end GunYu.Props.C05
