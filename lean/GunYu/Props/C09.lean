/-
  C09 — A source transaction reaches the target as one atomic transaction
  (transactional replay mode, standalone target).

  Sender model: GunYu/Model/Sender.lean; target model: GunYu/Model/Target.lean.
-/
import GunYu.Proofs.SenderRun
import GunYu.Proofs.TargetSeq
import GunYu.Proofs.Parser
import GunYu.Props.C01

namespace GunYu.Props.C09
open GunYu GunYu.Sender GunYu.Target

/-- the loop is between a consumed MULTI and its EXEC -/
def InsideTxn (s : SState) : Prop :=
  s.inTxn = true ∧ s.needFlush = false ∧ (s.txn = .begin_ ∨ s.txn = .in_)

/-- **Nothing is sent while inside a source transaction**: no tick of any kind,
    no size or byte limit, no keep-alive and no command other than the closing
    EXEC makes the loop put anything on the wire (hence no checkpoint either),
    and the loop stays inside the transaction. -/
theorem no_flush_inside_txn (c : SCfg) (hc : c.txnMode = true) (s : SState) (hs : InsideTxn s)
    (ev : Ev) (hev : ∀ it, ev = .item it → it.cmd ≠ bExec) :
    (step c s ev).2 = [] ∧ InsideTxn (step c s ev).1 := by
  obtain ⟨hin, hnf, htx⟩ := hs
  cases ev with
  | item it =>
    have hne := hev it rfl
    simp only [step]
    split
    · exact ⟨rfl, hin, hnf, htx⟩
    · have hst : txnStatus it.cmd s.txn = (Txn.in_, false) := by
        have hcl : cmdClass it.cmd ≠ some Txn.commit := by
          unfold cmdClass
          by_cases h1 : it.cmd = bSelect
          · simp [h1]
          · by_cases h2 : it.cmd = bMulti
            · have : bMulti ≠ bSelect := by decide
              simp [h2, this]
            · simp [h1, h2, hne]
        rcases htx with h | h <;> simp [txnStatus, h, hcl]
      unfold stepItem
      simp only [hc, ↓reduceIte, hst]
      unfold stepItemTxn preFlush absorb
      simp only [Bool.false_eq_true, ↓reduceIte, ne_eq, reduceCtorEq, not_false_eq_true, and_self]
      rw [tail_quiet _ _ _ _ _ (by simpa [enqueue] using hin) (by simp [enqueue])]
      exact ⟨rfl, by simpa [enqueue] using hin, by simp [enqueue], Or.inr (by simp [enqueue])⟩
  | _ =>
    simp only [step, hin, hnf, Bool.not_true, Bool.and_false, Bool.false_and, Bool.false_eq_true, ↓reduceIte]
    rw [tail_quiet _ _ _ _ _ hin hnf]; exact ⟨rfl, hin, hnf, htx⟩

/-- the same over any stretch of events without EXEC -/
theorem no_flush_inside_txn_run (c : SCfg) (hc : c.txnMode = true) (s : SState) (hs : InsideTxn s)
    (evs : List Ev) (hev : ∀ ev ∈ evs, ∀ it, ev = .item it → it.cmd ≠ bExec) :
    (run c s evs).2 = [] ∧ InsideTxn (run c s evs).1 := by
  induction evs generalizing s with
  | nil => exact ⟨rfl, hs⟩
  | cons ev rest ih =>
    obtain ⟨h1, h2⟩ := no_flush_inside_txn c hc s hs ev (hev ev (List.mem_cons_self ..))
    simp only [run]
    split
    · exact ⟨h1, h2⟩
    · obtain ⟨h3, h4⟩ := ih _ h2 (fun e he => hev e (List.mem_cons_of_mem _ he))
      exact ⟨by rw [h1, h3]; rfl, h4⟩

theorem exec_status (t : Txn) : txnStatus bExec t = (Txn.commit, true) := by
  cases t <;> simp [txnStatus, cmdClass, bMulti, bSelect, bExec]

theorem multi_status {t : Txn} (h : t = .no ∨ t = .barrier ∨ t = .commit) :
    txnStatus bMulti t = (Txn.begin_, true) := by
  rcases h with h | h | h <;> simp [txnStatus, h, cmdClass, bMulti, bSelect]

theorem stepItem_txn_eq (c : SCfg) (hc : c.txnMode = true) (s : SState) (it : Item) (prev : Int)
    (t : Txn) (nf : Bool) (hst : txnStatus it.cmd s.txn = (t, nf)) :
    stepItem c s it prev = stepItemTxn c { s with txn := t, needFlush := nf } t nf it prev := by
  unfold stepItem
  simp only [hc, ↓reduceIte, hst]

/-- **MULTI opens a transaction with an empty queue**: whatever was pending is
    flushed first — with the position BEFORE the MULTI (`s.lastOffset`), never
    the MULTI's own end offset — and the loop is inside the transaction. -/
theorem multi_opens (c : SCfg) (hc : c.txnMode = true) (s : SState)
    (htx : s.txn = .no ∨ s.txn = .barrier ∨ s.txn = .commit) (it : Item) (hm : it.cmd = bMulti) :
    InsideTxn (step c s (.item it)).1 ∧ (step c s (.item it)).1.queue = [] ∧
    (∀ o ∈ cpOffsets (step c s (.item it)).2, o = s.lastOffset) := by
  have hpm : bMulti ≠ bPing := by decide
  have hst' : txnStatus it.cmd ({ s with lastOffset := it.offset } : SState).txn = (Txn.begin_, true) := by
    rw [hm]; exact multi_status htx
  simp only [step, hm, hpm, ↓reduceIte]
  rw [stepItem_txn_eq c hc _ it s.lastOffset _ _ hst']
  unfold stepItemTxn
  simp only
  generalize hs1 : ({ s with lastOffset := it.offset, txn := Txn.begin_, needFlush := true } : SState) = s1
  obtain ⟨hq, hnf, _, htxn, _⟩ := preFlush_forced c s1 .begin_ s.lastOffset
  generalize hpf : preFlush c s1 .begin_ true s.lastOffset = pf at hq hnf htxn
  have hab : absorb pf.1 .begin_ it = { pf.1 with inTxn := true } := by simp [absorb]
  have htq := tail_quiet c { pf.1 with inTxn := true } c.txnMode (c.resume && c.txnMode) pf.2 rfl hnf
  rw [hab, htq]
  refine ⟨⟨rfl, hnf, Or.inl ?_⟩, hq, ?_⟩
  · show pf.1.txn = .begin_
    rw [htxn, ← hs1]
  · intro o ho
    simp only at ho
    have h := (preFlush_cp c s1 .begin_ true s.lastOffset).2
    rw [hpf] at h
    rcases h with h | ⟨h, _⟩ | ⟨h, _⟩
    · rw [h] at ho; cases ho
    · rw [h] at ho; simpa using ho
    · -- would be the commit case: impossible, the status is `begin_`
      rw [← hpf] at h ho
      unfold preFlush at h ho
      simp only [↓reduceIte, reduceCtorEq] at h ho
      rcases (sendOnce_cp c s1 c.txnMode (c.resume && c.txnMode) s.lastOffset).2 with h0 | ⟨h1, _⟩
      · rw [h0] at ho; cases ho
      · rw [h1] at ho; simpa using ho

/-- the end-of-iteration step on an empty queue sends no data -/
theorem tail_on_empty (c : SCfg) (s : SState) (tb up : Bool) (out : List Batch)
    (hq : s.queue = []) (hin : s.inTxn = false) :
    ∃ extra, (tail c s tb up out).2 = out ++ extra ∧ dataOut extra = [] ∧
      (tail c s tb up out).1.queue = [] ∧ (tail c s tb up out).1.inTxn = false := by
  have hd : dataOut (optToList (sendOnce c s tb up s.lastOffset).2) = [] := by
    have h := (sendOnce_data c s tb up s.lastOffset).1
    rw [show qd s = [] by simp [qd, hq]] at h
    exact (List.append_eq_nil_iff.mp h).1
  rw [tail_eq]
  split
  · exact ⟨_, rfl, hd, sendOnce_queue_nil _ _ _ _ _, rfl⟩
  · exact ⟨[], by simp, rfl, hq, hin⟩

/-- **EXEC sends the whole transaction as ONE MULTI/EXEC block** carrying every
    queued command of it and — when resumable — the checkpoint offset of the
    EXEC itself, all inside the same MULTI/EXEC; whatever else the iteration
    sends carries no data; afterwards the queue is empty and the loop is
    outside the transaction. -/
theorem exec_flushes_one_block (c : SCfg) (hc : c.txnMode = true) (s : SState) (hs : InsideTxn s)
    (it : Item) (he : it.cmd = bExec) (hq : s.queue ≠ []) :
    ∃ s1 extra, s1.queue = s.queue ∧
      (step c s (.item it)).2 =
        ([Req.multi] ++ s.queue.map (fun i => Req.cmd i.cmd i.args i.offset) ++
          cpPart c s1 (c.resume && decide (0 ≤ it.offset)) it.offset ++ [Req.exec]) :: extra ∧
      dataOut extra = [] ∧
      (step c s (.item it)).1.queue = [] ∧ (step c s (.item it)).1.inTxn = false := by
  have hpe : bExec ≠ bPing := by decide
  have hst' : txnStatus it.cmd ({ s with lastOffset := it.offset } : SState).txn = (Txn.commit, true) := by
    rw [he]; exact exec_status _
  simp only [step, he, hpe, ↓reduceIte]
  rw [stepItem_txn_eq c hc _ it s.lastOffset _ _ hst']
  unfold stepItemTxn
  simp only [hc, Bool.and_true]
  generalize hs1 : ({ s with lastOffset := it.offset, txn := Txn.commit, needFlush := true } : SState) = s1
  have hq1 : s1.queue = s.queue := by rw [← hs1]
  have hl1 : s1.lastOffset = it.offset := by rw [← hs1]
  have hso : sendOnce c s1 true c.resume it.offset =
      ({ s1 with queue := [], qbytes := 0,
                 cpInDbs := cpInAfter c s1 (c.resume && decide (0 ≤ it.offset)),
                 connDb := dbAfter s1.connDb s1.queue },
       some (sendReqs c s1 true (c.resume && decide (0 ≤ it.offset)) it.offset)) := by
    rcases sendOnce_cases c s1 true c.resume it.offset with ⟨h0, _⟩ | h
    · exact absurd (hq1 ▸ h0) hq
    · exact h
  have hpf : preFlush c s1 .commit true s.lastOffset =
      ({ (sendOnce c s1 true c.resume it.offset).1 with needFlush := false, inTxn := false },
       optToList (sendOnce c s1 true c.resume it.offset).2) := by
    unfold preFlush; simp only [↓reduceIte, hl1, hc, Bool.and_true]
  rw [hpf, hso]
  simp only [optToList]
  have hab : ∀ x : SState, absorb x .commit it = x := by intro x; simp [absorb]
  rw [hab]
  have hbody : sendReqs c s1 true (c.resume && decide (0 ≤ it.offset)) it.offset =
      [Req.multi] ++ s.queue.map (fun i => Req.cmd i.cmd i.args i.offset) ++
        cpPart c s1 (c.resume && decide (0 ≤ it.offset)) it.offset ++ [Req.exec] := by
    unfold sendReqs; simp [hq1]
  obtain ⟨extra, hx1, hx2, hx3, hx4⟩ := tail_on_empty c
    { s1 with queue := [], qbytes := 0,
              cpInDbs := cpInAfter c s1 (c.resume && decide (0 ≤ it.offset)),
              connDb := dbAfter s1.connDb s1.queue, needFlush := false, inTxn := false }
    true c.resume [sendReqs c s1 true (c.resume && decide (0 ≤ it.offset)) it.offset] rfl rfl
  refine ⟨s1, extra, hq1, ?_, hx2, hx3, hx4⟩
  rw [hx1, hbody]
  rfl

/-! ### Target: a MULTI/EXEC block is all-or-nothing at every crash point -/

/-- every strict prefix of a block `MULTI body EXEC` leaves the data, the stored
    checkpoint and the selected DB untouched -/
theorem block_prefix_applies_nothing (body : List Req) (hb : ∀ r ∈ body, Plain r = true)
    (t : TState) (hq : t.queued = none) (k : Nat) (hk : k ≤ body.length) :
    (applyLog t (([Req.multi] ++ body ++ [Req.exec]).take (k + 1))).applied = t.applied ∧
    (applyLog t (([Req.multi] ++ body ++ [Req.exec]).take (k + 1))).cps = t.cps := by
  have htake : ([Req.multi] ++ body ++ [Req.exec]).take (k + 1) = Req.multi :: body.take k := by
    simp only [List.cons_append, List.take_succ_cons, List.nil_append]
    rw [List.take_append_of_le_length hk]
  rw [htake, applyLog_open_block _ (fun r hr => hb r (List.mem_of_mem_take hr)) t hq]
  exact ⟨rfl, rfl⟩

/-- the complete block applies its whole body, in order -/
theorem block_complete_applies_all (body : List Req) (hb : ∀ r ∈ body, Plain r = true)
    (t : TState) (hq : t.queued = none) :
    applyLog t ([Req.multi] ++ body ++ [Req.exec]) = body.foldl execReq t :=
  applyLog_block body hb t hq

/-! Non-vacuity: a state inside a transaction; EXEC flushes one block -/
def exCfg : SCfg := { txnMode := true, resume := true, batchCount := 1, batchBytes := 1 }
def exS : SState :=
  { queue := [{ cmd := [115,101,116], args := [[97],[49]], offset := 1040, db := 0 },
              { cmd := [100,101,108], args := [[98]], offset := 1060, db := 0 }],
    txn := .in_, inTxn := true, needFlush := false, lastOffset := 1060 }
example : InsideTxn exS := ⟨rfl, rfl, Or.inr rfl⟩
example : (step exCfg exS .batchTick).2 = [] ∧ (step exCfg exS .keepaliveTick).2 = [] := by decide
example : (step exCfg exS (.item { cmd := bExec, args := [], offset := 1074, db := 0 })).2 =
    [[Req.multi, Req.cmd [115,101,116] [[97],[49]] 1040, Req.cmd [100,101,108] [[98]] 1060,
      Req.cpMeta, Req.cpOffset 1074, Req.exec]] := by decide

def NoDone (evs : List Ev) : Prop := ∀ e ∈ evs, e ≠ .done

theorem noDone_append {a b : List Ev} (ha : NoDone a) (hb : NoDone b) : NoDone (a ++ b) :=
  fun x hx => (List.mem_append.mp hx).elim (ha x) (hb x)

theorem noDone_item (it : Item) : NoDone [Ev.item it] := by
  intro x hx; rw [List.mem_singleton.mp hx]; nofun

theorem run_append (c : SCfg) (s : SState) (a b : List Ev) (hnd : NoDone a) :
    run c s (a ++ b) = ((run c (run c s a).1 b).1, (run c s a).2 ++ (run c (run c s a).1 b).2) := by
  induction a generalizing s with
  | nil => simp [run]
  | cons ev rest ih =>
    have hne : ev ≠ .done := hnd ev (List.mem_cons_self ..)
    have hrest : NoDone rest := fun e he => hnd e (List.mem_cons_of_mem _ he)
    simp only [List.cons_append, run, hne, ↓reduceIte]
    rw [ih _ hrest]
    simp [List.append_assoc]

theorem run_single (c : SCfg) (s : SState) (ev : Ev) : run c s [ev] = step c s ev := by
  simp only [run]
  split <;> simp

/-- **A source transaction is one target block, in every stream.** Take ANY
    events `pre` after which the source is outside a transaction, a `MULTI`, ANY
    body without `EXEC` (any number of commands, database switches, keep-alives,
    ticks of every kind in any interleaving), and the `EXEC`. In transactional
    mode, whatever the batch limits:
    * everything forwarded before the transaction is on the wire before it
      starts, nothing of the transaction is sent before its `EXEC`;
    * the `EXEC` sends ONE block `MULTI … EXEC` whose data commands are exactly
      the transaction's forwarded commands, in order, and which carries the
      checkpoint write for the `EXEC`'s offset when resumable;
    * nothing else sent in that iteration carries data. -/
theorem source_txn_is_one_block (c : SCfg) (hc : c.txnMode = true)
    (pre : List Ev) (m : Item) (body : List Ev) (e : Item)
    (hndp : NoDone pre) (hndb : NoDone body)
    (hpre : (run c initS pre).1.txn = .no ∨ (run c initS pre).1.txn = .barrier ∨
            (run c initS pre).1.txn = .commit)
    (hm : m.cmd = bMulti) (he : e.cmd = bExec)
    (hbody : ∀ ev ∈ body, ∀ it, ev = .item it → it.cmd ≠ bExec)
    (hne : fwd .begin_ body ≠ []) :
    ∃ outPre s1 block extra,
      (run c initS (pre ++ [Ev.item m] ++ body ++ [Ev.item e])).2 = outPre ++ block :: extra ∧
      dataOut outPre = fwd .no pre ∧
      block = [Req.multi] ++ s1.queue.map (fun i => Req.cmd i.cmd i.args i.offset) ++
                cpPart c s1 (c.resume && decide (0 ≤ e.offset)) e.offset ++ [Req.exec] ∧
      dataB block = fwd .begin_ body ∧
      dataOut extra = [] := by
  -- split the run
  have hnd1 : NoDone (pre ++ [Ev.item m]) := noDone_append hndp (noDone_item m)
  rw [run_append c initS (pre ++ [Ev.item m] ++ body) [Ev.item e] (noDone_append hnd1 hndb),
    run_append c initS (pre ++ [Ev.item m]) body hnd1,
    run_append c initS pre [Ev.item m] hndp]
  simp only [run_single]
  generalize hs0 : (run c initS pre).1 = s0 at hpre
  -- MULTI
  obtain ⟨hin1, hq1, _⟩ := multi_opens c hc s0 hpre m hm
  generalize hsm : (step c s0 (Ev.item m)).1 = sm at hin1 hq1
  -- body: nothing sent
  obtain ⟨hout2, hin2⟩ := no_flush_inside_txn_run c hc sm hin1 body hbody
  generalize hsb : (run c sm body).1 = sb at hin2
  -- what is queued after the body: exactly the body's forwarded commands
  have hdata2 := run_data c sm body
  rw [hout2, hsb] at hdata2
  have hqd_sm : qd sm = [] := by simp [qd, hq1]
  have htxm : sm.txn = .begin_ := by
    have := (step_data c s0 (Ev.item m)).2
    rw [hsm] at this
    have hpm : bMulti ≠ bPing := by decide
    simp only [fwd1, hm, hpm, ↓reduceIte] at this
    rw [this, multi_status hpre]
  simp only [dataOut, List.flatMap_nil, List.nil_append, hqd_sm, htxm] at hdata2
  have hqne : sb.queue ≠ [] := by
    intro h
    have : qd sb = [] := by simp [qd, h]
    rw [this] at hdata2
    exact hne hdata2.symm
  -- EXEC
  obtain ⟨s1, extra, hs1q, hblk, hx, _, _⟩ := exec_flushes_one_block c hc sb hin2 e he hqne
  refine ⟨(run c initS pre).2 ++ (step c s0 (Ev.item m)).2, s1,
    [Req.multi] ++ s1.queue.map (fun i => Req.cmd i.cmd i.args i.offset) ++
      cpPart c s1 (c.resume && decide (0 ≤ e.offset)) e.offset ++ [Req.exec], extra, ?_, ?_, rfl, ?_, hx⟩
  · rw [hout2, hblk, hs1q]; simp [List.append_assoc]
  · -- everything before the transaction is on the wire
    have h1 := run_data c initS pre
    have h2 := (step_data c s0 (Ev.item m)).1
    rw [hs0] at h1
    rw [hsm, hqd_sm, List.append_nil] at h2
    have hpm : bMulti ≠ bPing := by decide
    have hfm : (fwd1 s0.txn (Ev.item m)).1 = [] := by
      simp only [fwd1, hm, hpm, ↓reduceIte]
      simp [multi_status hpre, forwards]
    rw [hfm, List.append_nil] at h2
    have hi : qd initS = [] := by simp [qd, initS]
    have hit : initS.txn = .no := rfl
    rw [hi, List.nil_append, hit] at h1
    rw [dataOut_append, ← h1, h2]
  · rw [hs1q]
    have hmq : dataB [Req.multi] = [] := rfl
    have heq : dataB [Req.exec] = [] := rfl
    rw [dataB_append, dataB_append, dataB_append, dataB_cpPart, hmq, heq, dataB_cmds sb.queue,
      List.nil_append, List.append_nil, List.append_nil]
    exact hdata2

/-- the sender's transaction status follows the brackets of a non-nested schedule -/
theorem noNested_run (c : SCfg) (s : SState) (pre rest : List Ev) (hnd : NoDone pre)
    (h : C01.NoNested (inT s.txn) (pre ++ rest)) :
    C01.NoNested (inT (run c s pre).1.txn) rest := by
  induction pre generalizing s with
  | nil => simpa [run] using h
  | cons ev pre' ih =>
    have hne : ev ≠ .done := hnd ev (List.mem_cons_self ..)
    have hrest : NoDone pre' := fun e he => hnd e (List.mem_cons_of_mem _ he)
    simp only [run, hne, ↓reduceIte]
    apply ih _ hrest
    rw [(step_data c s ev).2]
    cases ev with
    | item it =>
      simp only [List.cons_append, C01.NoNested] at h
      simp only [fwd1]
      by_cases hp : it.cmd = bPing
      · have hpm : bPing ≠ bMulti := by decide
        have hpe : bPing ≠ bExec := by decide
        simp only [hp, ↓reduceIte, hpm, hpe] at h ⊢
        exact h
      · simp only [hp, ↓reduceIte]
        rw [inT_txnStatus]
        by_cases hm : it.cmd = bMulti
        · simp only [hm, ↓reduceIte] at h ⊢; exact h.2
        · simp only [hm, ↓reduceIte] at h ⊢
          by_cases he : it.cmd = bExec
          · simp only [he, ↓reduceIte] at h ⊢; exact h
          · simp only [he, ↓reduceIte] at h ⊢; exact h
    | done => exact absurd rfl hne
    | _ => simpa [C01.NoNested, fwd1] using h

/-- **The same with a hypothesis on the schedule only**: if the brackets of the
    whole schedule are not nested (Redis never propagates a nested MULTI; for the
    parser's output this follows from the source stream: `C01.noNested_of_items`,
    `parseAll_noNested`), every source transaction that forwards a command is one
    target block. -/
theorem source_txn_is_one_block_src (c : SCfg) (hc : c.txnMode = true)
    (pre : List Ev) (m : Item) (body : List Ev) (e : Item)
    (hndp : NoDone pre) (hndb : NoDone body)
    (hnn : C01.NoNested false (pre ++ ([Ev.item m] ++ body ++ [Ev.item e])))
    (hm : m.cmd = bMulti) (he : e.cmd = bExec)
    (hbody : ∀ ev ∈ body, ∀ it, ev = .item it → it.cmd ≠ bExec)
    (hne : fwd .begin_ body ≠ []) :
    ∃ outPre s1 block extra,
      (run c initS (pre ++ [Ev.item m] ++ body ++ [Ev.item e])).2 = outPre ++ block :: extra ∧
      dataOut outPre = fwd .no pre ∧
      block = [Req.multi] ++ s1.queue.map (fun i => Req.cmd i.cmd i.args i.offset) ++
                cpPart c s1 (c.resume && decide (0 ≤ e.offset)) e.offset ++ [Req.exec] ∧
      dataB block = fwd .begin_ body ∧
      dataOut extra = [] := by
  have h1 := noNested_run c initS pre ([Ev.item m] ++ body ++ [Ev.item e]) hndp (by simpa [initS, inT] using hnn)
  simp only [List.cons_append, C01.NoNested, hm, ↓reduceIte] at h1
  have hout : inT (run c initS pre).1.txn = false := h1.1
  have hpre : (run c initS pre).1.txn = .no ∨ (run c initS pre).1.txn = .barrier ∨
      (run c initS pre).1.txn = .commit := by
    cases hx : (run c initS pre).1.txn <;> simp [hx, inT] at hout ⊢
  exact source_txn_is_one_block c hc pre m body e hndp hndb hpre hm he hbody hne

/-! Non-vacuity of `source_txn_is_one_block`: batch count 2 (smaller than the
    transaction), a batch tick and a keep-alive tick inside the transaction. -/
def wCfg : SCfg := { txnMode := true, resume := true, batchCount := 2, batchBytes := 1000 }
def wSet (k : UInt8) (off : Int) : Ev :=
  .item { cmd := [115,101,116], args := [[k],[118]], offset := off, db := 0 }
def wPre : List Ev := [wSet 97 30, .batchTick]
def wM : Item := { cmd := bMulti, args := [], offset := 45, db := 0 }
def wBody : List Ev := [wSet 98 70, .batchTick, wSet 99 95, .keepaliveTick, wSet 100 120]
def wE : Item := { cmd := bExec, args := [], offset := 134, db := 0 }
example : (run wCfg initS wPre).1.txn = .no := by decide +kernel
example : fwd .begin_ wBody = [([115,101,116], [[98],[118]]), ([115,101,116], [[99],[118]]),
    ([115,101,116], [[100],[118]])] := by decide +kernel
example : (run wCfg initS (wPre ++ [Ev.item wM] ++ wBody ++ [Ev.item wE])).2.map (·.length) = [5, 3, 6] := by decide +kernel

end GunYu.Props.C09
