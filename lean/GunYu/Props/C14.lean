/-
  C14 — Bidirectional replay resumes from the contiguous committed prefix.

  Property theorems only (helper lemmas: Proofs/Frontier.lean, Proofs/FrontierSys.lean,
  Proofs/FrontierRestart.lean, Proofs/FrontierTraffic.lean).

  Quantifiers: all snapshots and ALL record lists (hence every subset of
  surviving journal records, duplicates, seq <= 0); all unit numberings `W.e`;
  all step lists of the replay system (Model/FrontierSys.lean) — any completion
  order across lanes, any flush timing, every crash point of the target's request
  sequence including each single recovery / clean-up request; any number of
  stop/start cycles, each stopped after any number of its recovery requests.
-/
import GunYu.Model.Frontier
import GunYu.Model.FrontierSys
import GunYu.Proofs.Frontier
import GunYu.Proofs.FrontierSys
import GunYu.Proofs.FrontierRestart
import GunYu.Proofs.FrontierTraffic

namespace GunYu.Props.C14
open GunYu GunYu.Frontier

/-- `RebuildBisyncFrontier` never passes a missing sequence number: the rebuilt
    frontier is not before the snapshot, EVERY sequence number between the
    snapshot and the result is carried by a record of the list, and the offset /
    run id are those of a record carrying the resulting number. `recs` is any list
    (any subset of the journal that survived, in any order, with duplicates). -/
theorem rebuild_contiguous (ver : Bytes) (snap : Option Snap) (recs : List Rec) (res : Snap)
    (h : rebuild ver snap recs = .ok (some res)) :
    baseSeq snap ≤ res.seq ∧
    (∀ m, baseSeq snap < m → m ≤ res.seq → ∃ r ∈ recs, r.seq = m ∧ 0 < r.seq) ∧
    (baseSeq snap < res.seq → ∃ r ∈ recs, r.seq = res.seq ∧ r.endOff = res.offset ∧ r.runId = res.runId) ∧
    (res.seq = baseSeq snap → snap = some res ∨ (snap = none ∧ res.seq = 0)) :=
  rebuild_spec ver snap recs res h

/-- … in particular for any subset `sub` of a journal `recs`: what is rebuilt from the
    survivors only passes numbers the journal really contained. -/
theorem rebuild_survivors (ver : Bytes) (snap : Option Snap) (recs sub : List Rec) (res : Snap)
    (hsub : ∀ r ∈ sub, r ∈ recs) (h : rebuild ver snap sub = .ok (some res)) :
    ∀ m, baseSeq snap < m → m ≤ res.seq → ∃ r ∈ recs, r.seq = m := by
  intro m h1 h2
  obtain ⟨r, hr, hs, _⟩ := (rebuild_spec ver snap sub res h).2.1 m h1 h2
  exact ⟨r, hsub r hr, hs⟩

/-- a journal that does not start at 1 right after an absent OR seq-0 snapshot is reported as
    ErrBisyncJournalGap by `RebuildBisyncFrontier`, never guessed over (what `bisyncStartPoint`
    does with that error: see `startFrontier`) -/
theorem rebuild_gap_is_error (ver : Bytes) (snap : Option Snap) (recs : List Rec) (hne : recs.isEmpty = false)
    (h0 : baseSeq snap = 0) (hgap : minSeq recs ≠ 1) : rebuild ver snap recs = .error (minSeq recs) := by
  rw [rebuild_eq, if_neg (by rw [hne]; exact Bool.false_ne_true), if_pos ⟨(baseOf_seq ver snap).trans h0, hgap⟩]

/-- the invariant holds in a fresh namespace (only the root checkpoint exists) -/
theorem init_inv (W : World) (db : Nat) :
    SysInv W { ns := { root := some (W.rid, W.e 0, db) } } :=
  ⟨by intro x hx; simp only [Option.some.injEq] at hx; rw [← hx], by simp, by simp, by simp, by simp⟩

/-- every single step — a unit's transaction, a completion report, a flush tick, ONE
    request reaching the target (frontier save, each journal DEL, each ZREM, each
    recovery request), a start, a crash — preserves the invariant -/
theorem each_request_preserves (W : World) (s : Sys) (hi : SysInv W s) (st : Step) :
    SysInv W (step W s st) := step_inv hi st

/-- After a stop at ANY moment (any step list, i.e. any crash point), the point a start
    selects ends a unit the target has committed, and every unit before it has been
    committed (`off = e seq`, units `1..seq` all in `committed`): later units may repeat,
    none is skipped. -/
theorem resume_is_committed_prefix (W : World) (s₀ : Sys) (hi : SysInv W s₀) (steps : List Step)
    (db : Nat) (rid : Bytes) (off seq : Int)
    (h : (startFrontier W.ver (runSteps W s₀ steps).ns W.ids).1 = .point db rid off seq) :
    0 ≤ seq ∧ off = W.e seq ∧ ∀ j, 0 < j → j ≤ seq → j ∈ (runSteps W s₀ steps).committed := by
  have hinv := runSteps_inv (W := W) steps hi
  cases hst : startFrontier W.ver (runSteps W s₀ steps).ns W.ids with
  | mk st reqs =>
    rw [hst] at h
    simp only at h
    subst h
    exact (start_sound hinv db rid off seq reqs hst).1

/-- the frontier the coordinator holds in memory (handed to the next send loop as
    bisyncSeq / bisyncOffset) is a committed prefix as well, at every moment -/
theorem coordinator_frontier_is_committed_prefix (W : World) (s₀ : Sys) (hi : SysInv W s₀)
    (steps : List Step) (r : Run) (h : (runSteps W s₀ steps).run = some r) :
    r.coord.frontier.offset = W.e r.coord.frontier.seq ∧
    ∀ j, 0 < j → j ≤ r.coord.frontier.seq → j ∈ (runSteps W s₀ steps).committed :=
  let hc := ((runSteps_inv (W := W) steps hi).co r h).1
  ⟨hc.2.1, hc.2.2⟩

/-- Sync mode, with restarts that really re-read the target: a process sends unit
    `bisyncSeq+1` next, a restart sets `bisyncSeq` from what `bisyncStartPoint` (latest record,
    root fall-back) returns. For EVERY interleaving of commits and restarts the units the target
    applied are exactly 1, 2, …, n in order — none twice, none skipped — and a start resumes
    at the end of unit n. -/
theorem sync_mode_exact (W : World) (db : Nat) (steps : List SyncStep)
    (hmono : ∀ i, 0 ≤ i → W.e 0 ≤ W.e i) (hrid : matchRun W.rid W.ids = true) :
    ∃ n : Nat,
      (syncRun W { ns := { root := some (W.rid, W.e 0, db) }, cur := 0 } steps).applied = upTo n ∧
      ∃ db', startLatest (syncRun W { ns := { root := some (W.rid, W.e 0, db) }, cur := 0 } steps).ns W.ids
        = .point db' W.rid (W.e n) n := by
  have h0 : SyncInv W { ns := { root := some (W.rid, W.e 0, db) }, cur := 0 } 0 :=
    ⟨⟨db, rfl⟩, rfl, rfl, fun _ => rfl, by intro r hr; simp at hr⟩
  obtain ⟨n, hi⟩ := syncRun_inv hmono hrid steps h0
  exact ⟨n, hi.applied, startLatest_of_inv hi hmono hrid⟩

/-- no step touches the root checkpoint -/
theorem root_unchanged (W : World) (steps : List Step) (s : Sys) : (runSteps W s steps).ns.root = s.ns.root :=
  foldl_inv (f := step W) (I := fun s' => s'.ns.root = s.ns.root) (fun s' st h => (step_root W s' st).trans h) steps rfl

/-- After a stop at ANY moment a start succeeds: with the root checkpoint in place
    `bisyncStartPoint` always returns a position (a journal gap behind an absent snapshot is a
    fall-back to the root, D26) — there is no reachable state from which every start fails. -/
theorem start_always_resumes (W : World) (s₀ : Sys) (steps : List Step) (root : Bytes × Int × Nat)
    (hroot : s₀.ns.root = some root) :
    IsPoint (startFrontier W.ver (runSteps W s₀ steps).ns W.ids).1 := by
  have hr : (runSteps W s₀ steps).ns.root = some root := by rw [root_unchanged]; exact hroot
  rcases startFrontier_cases W.ver (runSteps W s₀ steps).ns W.ids with ⟨h, _⟩ | ⟨r', reqs, _, hst, _⟩ |
      ⟨r', f, _, _, _, _, hst⟩
  · rw [hr] at h; exact absurd h (by simp)
  · rw [hst]; trivial
  · rw [hst]; trivial

/-- the stored offsets of every reachable state follow the one numbering (bridge from the
    system invariant to the hypothesis of `resume_monotone`) -/
theorem consistent_of_inv (W : World) (s : Sys) (hi : SysInv W s)
    (hm : ∀ i j, i ≤ j → W.e i ≤ W.e j) : Consistent W s.ns :=
  consistent_of_sysInv hm hi

/-- Stopping and starting again — any number of times, each process stopped after any
    number `ks[i]` of its recovery requests, no traffic in between — never moves the resume
    point backwards (neither the offset nor the sequence number), from EVERY state the replay
    system can reach (any step list: any crash point of a run with traffic). -/
theorem resume_monotone (W : World) (s₀ : Sys) (hi : SysInv W s₀) (steps : List Step)
    (hm : ∀ i j, i ≤ j → W.e i ≤ W.e j)
    (hp : IsPoint (startFrontier W.ver (runSteps W s₀ steps).ns W.ids).1) (ks : List Nat) :
    Ascending (restarts W.ver W.ids (runSteps W s₀ steps).ns ks) :=
  restarts_ascending ks (consistent_of_inv W _ (runSteps_inv steps hi) hm) hp

/-- ... and with a root checkpoint no hypothesis on the start is left: from every reachable state
    every chain of restarts resumes, and never earlier than the restart before it. -/
theorem resume_monotone_rooted (W : World) (s₀ : Sys) (hi : SysInv W s₀) (steps : List Step)
    (hm : ∀ i j, i ≤ j → W.e i ≤ W.e j) (root : Bytes × Int × Nat) (hroot : s₀.ns.root = some root)
    (ks : List Nat) :
    Ascending (restarts W.ver W.ids (runSteps W s₀ steps).ns ks) :=
  resume_monotone W s₀ hi steps hm (start_always_resumes W s₀ steps root hroot) ks

/-- the same for any namespace state whose stored offsets follow one monotone numbering -/
theorem resume_monotone_of_consistent (W : World) (ns : NS) (hc : Consistent W ns)
    (hp : IsPoint (startFrontier W.ver ns W.ids).1) (ks : List Nat) :
    Ascending (restarts W.ver W.ids ns ks) :=
  restarts_ascending ks hc hp

/-! ### executions WITH traffic (Model/FrontierTraffic.lean: the recovery requests of a start are
    applied before the first unit of that process commits, as in the code)

    `TInv` = the invariant of `SysInv` plus: index members are scored with their key's number; a root
    checkpoint exists; an idle system has nothing queued; while a process runs, either a purge
    (deletes, then the snapshot) is outstanding and a start would still return the root, or every
    queued save is visible and not below the snapshot / the save before it, every queued delete
    names numbers the snapshot in force covers, and the coordinator's frontier is not below any of
    them. -/

/-- the invariant holds in a fresh namespace (only the root checkpoint exists) -/
theorem traffic_init_inv (W : World) (db : Nat) :
    TInv W { ns := { root := some (W.rid, W.e 0, db) } } :=
  ⟨init_inv W db, by simp, ⟨_, rfl⟩, fun _ => ⟨rfl, rfl⟩, fun r hr => by simp at hr⟩

/-- every single step preserves it -/
theorem traffic_each_step_preserves (W : World) (hm : ∀ i j, i ≤ j → W.e i ≤ W.e j)
    (hvis : matchRun W.rid W.ids = true) (s : TSys) (h : TInv W s) (st : Step) :
    TInv W (tstep W s st) := (tstep_tinv hm hvis h st).1

/-- Along EVERY execution — units committing on any lanes in any order, completion reports in any
    order, flush ticks at any time under any flush policy, every coordinator / recovery request
    applied on its own, crashes after any request, restarts — the point a fresh start would resume
    from never moves backwards: for any two moments (`steps`, then `more`) the later one resumes at
    a sequence number and a source offset not smaller; and at both it names a committed prefix
    (`resume_is_committed_prefix`, restated here for the split-queue system).
    `hm`: end offsets grow with the unit number; `hvis`: the source still reports the run id the
    units are recorded under. -/
theorem resume_monotone_traffic (W : World) (hm : ∀ i j, i ≤ j → W.e i ≤ W.e j)
    (hvis : matchRun W.rid W.ids = true) (s₀ : TSys) (h₀ : TInv W s₀) (steps more : List Step) :
    startSeqOf W.ver (trunSteps W s₀ steps).ns W.ids
        ≤ startSeqOf W.ver (trunSteps W s₀ (steps ++ more)).ns W.ids ∧
    startOffOf W.ver (trunSteps W s₀ steps).ns W.ids
        ≤ startOffOf W.ver (trunSteps W s₀ (steps ++ more)).ns W.ids ∧
    (∀ j, 0 < j → j ≤ startSeqOf W.ver (trunSteps W s₀ (steps ++ more)).ns W.ids →
        j ∈ (trunSteps W s₀ (steps ++ more)).committed) := by
  obtain ⟨h1, _⟩ := trunSteps_tinv hm hvis steps h₀
  obtain ⟨h2, hle⟩ := trunSteps_tinv hm hvis more h1
  rw [← trunSteps_append] at h2 hle
  refine ⟨hle, ?_, (h2.start_prefix hm).2⟩
  rw [(h1.start_prefix hm).1, (h2.start_prefix hm).1]
  exact hm _ _ hle

/-! ### non-vacuity -/

def exW : World := { e := fun i => 1000 + 10 * i, rid := [114], ids := [[114], [112]], ver := [49] }
def exR (i m : Int) : Rec := { seq := i, endOff := 1000 + 10 * i, mtime := m, runId := [114] }

/-- rebuild: snapshot seq 2, journal {3, 4, 6} in any order → stops at 4 (5 is missing) -/
example : (rebuild [49] (some ⟨[114], 2, 1020, 5, [49]⟩) [exR 6 1, exR 4 2, exR 3 3]).toOption
    = some (some ⟨[114], 4, 1040, 5, [49]⟩) := by decide +kernel
example : (match rebuild [49] none [exR 3 1, exR 2 1] with | .error m => m | .ok _ => 0) = 2 := by decide +kernel

/-- a run with out-of-order completion, a flush, and a crash in the middle of the journal
    clean-up: start; units 2 and 1 commit (lane order 2, 1); both are reported (2 first);
    the flush at t=2·10⁸ saves frontier 2 and queues DEL 1, DEL 2, ZREM; only the save and
    the first DEL reach the target before the crash. -/
def exSteps : List Step :=
  [.start, .commit 2 7, .commit 1 8, .commit 3 9, .report 2 7 10, .report 1 8 200000000, .apply, .apply, .crash]
def exS : Sys := runSteps exW { ns := { root := some ([114], 1000, 0) } } exSteps
example : exS.ns.frontier = some ⟨[114], 2, 1020, 7, [49]⟩ := by decide +kernel
example : exS.ns.journal.map (·.kseq) = [2, 3] := by decide +kernel
example : exS.committed = [3, 1, 2] := by decide +kernel
/-- a fresh start there resumes after unit 3 (units 1..3 committed) and re-saves first -/
example : startFrontier exW.ver exS.ns exW.ids
    = (.point 0 [114] 1030 3, [.saveFrontier ⟨[114], 3, 1030, 9, [49]⟩, .delRec 3, .zrem [3]]) := by decide +kernel
example : SysInv exW { ns := { root := some ([114], 1000, 0) } } := init_inv exW 0

/-- stop/start cycles from that state: stopped after 1, then 0, then 3 recovery requests -/
example : restarts exW.ver exW.ids exS.ns [1, 0, 3]
    = [.point 0 [114] 1030 3, .point 0 [114] 1030 3, .point 0 [114] 1030 3, .point 0 [114] 1030 3] := by decide +kernel
example : Consistent exW exS.ns :=
  ⟨fun i j h => by simp only [exW]; omega,
   by decide,
   by intro f hf; have : exS.ns.frontier = some ⟨[114], 2, 1020, 7, [49]⟩ := by decide +kernel
      rw [this] at hf; simp only [Option.some.injEq] at hf; subst hf; decide,
   by intro x hx; have : exS.ns.root = some ([114], 1000, 0) := by decide +kernel
      rw [this] at hx; simp only [Option.some.injEq] at hx; subst hx; decide⟩

/-- the state behind D26: fresh namespace, the lane of unit 1 is slow, unit 2 commits,
    crash. `RebuildBisyncFrontier` reports a gap (journal {2}, no snapshot); the start falls back
    to the root checkpoint and purges that journal instead of failing for ever. -/
def exGap : Sys := runSteps exW { ns := { root := some ([114], 1000, 0) } } [.start, .commit 2 7, .crash]
example : exGap.ns.journal.map (·.kseq) = [2] := by decide +kernel
example : startFrontier exW.ver exGap.ns exW.ids
    = (.point 0 [114] 1000 0, [.delRec 2, .zrem [2], .delFrontier]) := by decide +kernel

/-- executions with traffic in the split-queue system: the same run as `exSteps`, then a restart
    (whose three recovery requests are applied before anything else), units 5 and 4, a report, a crash
    in the middle: the resume number at successive moments is 0, 0 (unit 2 alone: a gap), 3, 3, 3, 5 —
    never smaller than before -/
def exT0 : TSys := { ns := { root := some ([114], 1000, 0) } }
def exTSteps : List Step := exSteps ++ [.start, .commit 4 1, .apply, .apply, .apply, .commit 5 2, .commit 4 3, .report 4 3 11, .crash]
example : TInv exW exT0 := traffic_init_inv exW 0
example : [2, 4, 9, 10, 13, 18].map (fun k => startSeqOf exW.ver (trunSteps exW exT0 (exTSteps.take k)).ns exW.ids)
    = [0, 3, 3, 3, 3, 5] := by decide +kernel
/-- the unit committed while the recovery requests of the restart were outstanding was not accepted
    (step 11, `.commit 4 1`): the send loop has not started yet -/
example : (trunSteps exW exT0 (exTSteps.take 11)).committed = [3, 1, 2] := by decide +kernel
example : (trunSteps exW exT0 exTSteps).committed = [4, 5, 3, 1, 2] := by decide +kernel
example : startOffOf exW.ver (trunSteps exW exT0 (exTSteps.take 4)).ns exW.ids
      ≤ startOffOf exW.ver (trunSteps exW exT0 (exTSteps.take 4 ++ exTSteps.drop 4)).ns exW.ids :=
  (resume_monotone_traffic exW (fun i j h => by simp only [exW]; omega) (by decide) exT0
    (traffic_init_inv exW 0) (exTSteps.take 4) (exTSteps.drop 4)).2.1

/-- sync mode: units committed one after the other with restarts in between -/
def exSync : SyncSys := syncRun exW { ns := { root := some ([114], 1000, 0) }, cur := 0 }
  [.restart, .commitNext 5, .commitNext 6, .restart, .commitNext 7, .restart]
example : exSync.applied = [1, 2, 3] := by decide +kernel
example : startLatest exSync.ns exW.ids = .point 0 [114] 1030 3 := by decide +kernel

end GunYu.Props.C14
