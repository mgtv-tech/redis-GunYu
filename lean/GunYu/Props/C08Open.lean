/-
  C08 — a stream writer left OPEN across an id-level operation.

  The callers' protocol closes the writers before an id switch (`Disk.okOp`), but the code does
  not depend on it: `newRunId` scans the new directory FIRST and closes the old index — hence the
  writer still attached to it — afterwards (`old.Close()`), `DelRunId` removes the directory and
  then resets the index. The writer's `closeAof` then runs AFTER the directory-level syscalls:

    * the header rewrite goes through the open DESCRIPTOR: it lands in the file wherever the
      rename moved it (`<base>/<new>/<left>.aof`), or in an unlinked inode (DelRunId: no effect);
    * the removal of an EMPTY live segment goes by the OLD PATH: after a rename it fails (ENOENT,
      the 16-byte file stays in the new directory, where the scan ignores it), after DelRunId too.

  `lateCloseRoot` is that effect on the base directory; `open_writer_switch_crash_true` /
  `open_writer_del_crash_true`: cut at every syscall of the switch and with the late header rewrite
  torn at every length, every id still serves only its own bytes.
-/
import GunYu.Props.C08Root

namespace GunYu.Props.C08
open GunYu GunYu.Store GunYu.StoreFs GunYu.StoreFsX

theorem dirOk_lateClose {src : Nat → UInt8} {fs : FS} (h : DirOk src fs) (g : DSeg) (k : Nat)
    (hlen : ∀ c, fs.get (aofName g.left) = some c → headerSize ≤ c.length) :
    DirOk src (fs.apply (lateCloseOp g k)) := by
  obtain ⟨h1, h2, h3⟩ := h
  unfold lateCloseOp
  split
  · exact ⟨FsTrue_applyX h1 _ trivial, nodup_apply h2 _, RdbOkP_apply h3 _ trivial⟩
  · refine ⟨FsTrue_applyX h1 _ ⟨?_, hlen⟩, nodup_apply h2 _, RdbOkP_apply h3 _ rfl⟩
    rw [List.length_take, closedHeader_length]; omega

theorem rootOk_lateClose {srcOf : String → Nat → UInt8} {r : Root} (h : RootOk srcOf r) (tgt : Option String)
    (g : DSeg) (k : Nat)
    (hlen : ∀ id fs c, tgt = some id → r.get id = some fs → fs.get (aofName g.left) = some c → headerSize ≤ c.length) :
    RootOk srcOf (lateCloseRoot r tgt g k) := by
  unfold lateCloseRoot
  cases tgt with
  | none => exact h
  | some id =>
    simp only []
    cases hg : r.get id with
    | none => exact h
    | some fs => exact h.set id _ (dirOk_lateClose (h.get hg) g k (fun c hc => hlen id fs c rfl hg hc))

/-- **open_writer_switch_crash_true.** `SetRunId(new)` while a stream writer of the current id is
    still open on live segment `g`: the directory-level syscalls cut anywhere (`n`), and — when all
    of them were issued — the writer's late close, its header rewrite torn after any `k` bytes:
    every id serves only its own bytes. Hypotheses: the base directory was truthful; the rename
    hypothesis of `set_run_id_crash_true` (asked only if the operation renames); the live segment's
    file, where the late close finds it, has its 16-byte header (written when the writer was
    created; the driver checks it on every scripted instance). -/
theorem open_writer_switch_crash_true (srcOf : String → Nat → UInt8) (r : Root) (h : RootOk srcOf r) (cur new : String)
    (hcont : setRunIdRenames r cur new = true → ∀ fs, r.get cur = some fs → FsTrue (srcOf new) fs)
    (g : DSeg) (n k : Nat)
    (hlen : ∀ id fs c, lateCloseTarget r cur new g = some id →
      (r.applyAllSys ((setRunIdSys r cur new).take n)).get id = some fs →
      fs.get (aofName g.left) = some c → headerSize ≤ c.length)
    (id' : String) (verify : Bool) (off : Nat) (bs : Bytes) (e : ServeEnd)
    (hs : serveRoot (lateCloseRoot (r.applyAllSys ((setRunIdSys r cur new).take n))
      (lateCloseTarget r cur new g) g k) id' verify off = some (bs, e)) :
    ∀ j b, bs[j]? = some b → b = srcOf id' (off + j) :=
  rootOk_bytes_true srcOf _ (rootOk_lateClose (setRunId_crash_ok r h cur new hcont n) _ g k hlen) id' verify off bs e hs

/-- **open_writer_del_crash_true.** `DelRunId` with a writer still open: `os.RemoveAll` first (any
    order, cut anywhere), then the reset closes the writer — its header rewrite goes to an unlinked
    inode, the removal of an empty segment finds nothing: NO directory effect (`lateCloseRoot … none`),
    whatever was deleted stays deleted and every id serves only its own bytes. -/
theorem open_writer_del_crash_true (srcOf : String → Nat → UInt8) (r : Root) (h : RootOk srcOf r) (id : String)
    (order : List FName) (g : DSeg) (n k : Nat)
    (id' : String) (verify : Bool) (off : Nat) (bs : Bytes) (e : ServeEnd)
    (hs : serveRoot (lateCloseRoot (r.applyAllSys ((delRunIdSys r id order).take n)) none g k) id' verify off = some (bs, e)) :
    ∀ j b, bs[j]? = some b → b = srcOf id' (off + j) :=
  rootOk_bytes_true srcOf _ (delRunId_crash_ok r h id order n) id' verify off bs e hs

/-! ### non-vacuity -/

def exOpenRoot : Root := [("A", [(.aof 100, fixHeader ++ [1, 2, 3])])]
def exOpenSeg : DSeg := { left := 100, data := [1, 2, 3] }

-- the rename, then the late header rewrite lands in the NEW directory
example : setRunIdSys exOpenRoot "A" "C" = [.renameDir "A" "C"] := by decide +kernel
example : lateCloseTarget exOpenRoot "A" "C" exOpenSeg = some "C" := by decide +kernel
example : (lateCloseRoot (exOpenRoot.applyAllSys (setRunIdSys exOpenRoot "A" "C")) (some "C") exOpenSeg 16).get "C" =
    some [(.aof 100, closedHeader [1, 2, 3] ++ [1, 2, 3])] := by decide +kernel
-- … and the segment then passes verification under the new id
example : serveRoot (lateCloseRoot (exOpenRoot.applyAllSys (setRunIdSys exOpenRoot "A" "C")) (some "C") exOpenSeg 16)
    "C" true 101 = some ([2, 3], ServeEnd.eof) := by decide +kernel
-- torn after 5 bytes: served without verification, refused with it
example : serveRoot (lateCloseRoot (exOpenRoot.applyAllSys (setRunIdSys exOpenRoot "A" "C")) (some "C") exOpenSeg 5)
    "C" true 101 = some ([], ServeEnd.corrupt) := by decide +kernel
-- an EMPTY live segment after a rename: the removal by the old path hits nothing
example : lateCloseTarget [("A", [(.aof 100, fixHeader)])] "A" "C" { left := 100, data := [] } = none := by decide +kernel

end GunYu.Props.C08
