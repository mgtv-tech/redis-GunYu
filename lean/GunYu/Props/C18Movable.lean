/-
  C18 (extension) — the key positions the tool's static tables name for the
  commands Redis flags `movablekeys`, compared with Redis 7.0's OWN key
  extraction (Model/RedisKeys.lean, a trusted transcription of the getkeys
  procs of src/db.c).

  * numkeys family (EVAL EVALSHA FCALL FCALL_RO ZUNIONSTORE ZINTERSTORE
    ZDIFFSTORE ZMPOP BZMPOP LMPOP BLMPOP): the regenerated rows are Redis's
    procs, the positions agree for ALL argument lists, in both directions —
    so the single-slot theorem of C18 speaks about the keys REDIS sees
    (`movable_unit_keys_redis_single_slot`).
  * SORT, GEORADIUS / GEORADIUSBYMEMBER: whenever the tool's extractor names keys
    they are exactly Redis's (the LAST store destination); where it declines the
    command is resolved by the target.
  * XREADGROUP: a concrete DISAGREEMENT — the tool takes the first "streams"
    word anywhere, Redis the STREAMS behind the options.
-/
import GunYu.Model.RedisKeys
import GunYu.Proofs.FilterKeys
import GunYu.Props.C18

namespace GunYu.Props.C18
open GunYu GunYu.Slot GunYu.BisyncUnit GunYu.Filter

/-! ### short words for the concrete instances -/

private def bK : Bytes := [107]                             -- "k"
private def bD1 : Bytes := [100,49]                         -- "d1"
private def bD2 : Bytes := [100,50]                         -- "d2"
private def bSTORE : Bytes := [83,84,79,82,69]              -- "STORE"
private def bStore : Bytes := [115,116,111,114,101]         -- "store"
private def bSTOREDIST : Bytes := [83,84,79,82,69,68,73,83,84]  -- "STOREDIST"
private def bKm : Bytes := [107,109]                        -- "km"
private def b1 : Bytes := [49]
private def b2 : Bytes := [50]
private def b3 : Bytes := [51]
private def bGROUP : Bytes := [71,82,79,85,80]              -- "GROUP"
private def bStreams : Bytes := [115,116,114,101,97,109,115]  -- "streams"
private def bSTREAMS : Bytes := [83,84,82,69,65,77,83]      -- "STREAMS"
private def bC : Bytes := [99]                              -- "c"
private def bGt : Bytes := [62]                             -- ">"

/-! ### 1–3, 7. the numkeys family -/

/-- the tool's `fixedKeys` list for an optional destination position -/
def fixedOf : Option Nat → List Int
  | none => []
  | some s => [(s : Int)]

/-- Redis's `storeKeyOfs` (argv offset, 0 = none) for the same -/
def storeOfs : Option Nat → Nat
  | none => 0
  | some s => s + 1

/-- a positive `parseCommandInt` is Redis's `atoi` of a well-formed count -/
theorem atoi_of_parse {x : Bytes} (h : 0 < parseCommandInt x) :
    RedisKeys.atoiDigits x = some (parseCommandInt x).toNat := by
  unfold parseCommandInt at *
  unfold RedisKeys.atoiDigits
  cases x with
  | nil => simp at h
  | cons c cs => cases hd : (c :: cs).all isDigit <;> simp [hd] at h ⊢

theorem parse_of_atoi {x : Bytes} {v : Nat} (h : RedisKeys.atoiDigits x = some v) :
    parseCommandInt x = (v : Int) := by
  unfold RedisKeys.atoiDigits at h
  unfold parseCommandInt
  cases x with
  | nil => simp at h
  | cons c cs =>
    cases hd : (c :: cs).all isDigit
    · simp [hd] at h
    · simp [hd] at h ⊢
      rw [h]

theorem mem_keys_iff (b num : Nat) (st : Option Nat) (i : Nat) :
    i ∈ (fixedOf st).map Int.toNat ++
        (List.range num).map (fun (j : Nat) => ((b : Int) + (j : Int) * 1).toNat) ↔
    i ∈ (List.range num).map (fun i => b + 1 + i * 1 - 1) ++
        (if storeOfs st = 0 then [] else [storeOfs st - 1]) := by
  have e1 : (fun (j : Nat) => ((b : Int) + (j : Int) * 1).toNat) = fun j => b + j := by
    funext j; omega
  have e2 : (fun i => b + 1 + i * 1 - 1) = fun j => b + j := by
    funext j; omega
  rw [e1, e2]
  cases st with
  | none => simp [fixedOf, storeOfs]
  | some s => simp [fixedOf, storeOfs, or_comm]

/-- **2. The generic lemma, forward (ALL argument lists).** Whenever the tool's
    `numkeysStepExtractor(a, b, 1, fixed…)` (fixed = none or one destination
    position) names positions, Redis's `genericGetKeys(store, a+1, b+1, 1)` names
    the same SET of positions (Redis lists the destination last, the tool first). -/
theorem numkeys_extractor_exact (a b : Nat) (st : Option Nat) (args : List Bytes) (idx : List Nat)
    (h : numkeysStepIdx a b 1 (fixedOf st) args = some idx) :
    ∃ idx', RedisKeys.genericGetKeys (storeOfs st) (a + 1) (b + 1) 1 args = some idx' ∧
      ∀ i, i ∈ idx ↔ i ∈ idx' := by
  simp only [numkeysStepIdx, Option.ite_none_left_eq_some, Option.some.injEq, Int.toNat_natCast] at h
  obtain ⟨ha, -, hnk, hlast, -, rfl⟩ := h
  have ha : a < args.length := by omega
  have hat := atoi_of_parse (x := args.getD a []) (by omega)
  generalize parseCommandInt (args.getD a []) = nk at *
  refine ⟨_, ?_, mem_keys_iff b nk.toNat st⟩
  have hget : args[a]? = some (args.getD a []) := by
    rw [List.getD_eq_getElem?_getD, List.getElem?_eq_getElem ha]; rfl
  simp only [RedisKeys.genericGetKeys, Nat.add_sub_cancel, hget, hat, Nat.div_one]
  rw [if_neg (by omega)]

-- ZUNIONSTORE {a}d 2 {a}x {a}y: tool [0,2,3], Redis [2,3,0]
example : numkeysStepIdx 1 2 1 (fixedOf (some 0)) [[123,97,125,100], [50], [123,97,125,120], [123,97,125,121]] = some [0, 2, 3] ∧
    RedisKeys.genericGetKeys (storeOfs (some 0)) 2 3 1 [[123,97,125,100], [50], [123,97,125,120], [123,97,125,121]] = some [2, 3, 0] := by
  decide +kernel

/-- **2. The generic lemma, converse.** Whenever Redis's proc names positions
    (a digits-only count; the model's `parseCommandInt` is unbounded, the Go
    accumulator is an int64: counts below 2^63) and the destination position
    is an argument position, the tool's extractor answers too, non-empty, with
    the same set of positions. -/
theorem numkeys_extractor_complete (a b : Nat) (st : Option Nat) (args : List Bytes) (idx' : List Nat)
    (hst : ∀ s, st = some s → s < args.length)
    (h : RedisKeys.genericGetKeys (storeOfs st) (a + 1) (b + 1) 1 args = some idx') :
    ∃ idx, numkeysStepIdx a b 1 (fixedOf st) args = some idx ∧ idx ≠ [] ∧ ∀ i, i ∈ idx ↔ i ∈ idx' := by
  simp only [RedisKeys.genericGetKeys, Nat.add_sub_cancel, Nat.div_one] at h
  cases hx : args[a]? with
  | none => rw [hx] at h; cases h
  | some x =>
    obtain ⟨ha, rfl⟩ := List.getElem?_eq_some_iff.mp hx
    cases hnum : RedisKeys.atoiDigits args[a] with
    | none => simp only [hx, hnum] at h; cases h
    | some num =>
      simp only [hx, hnum] at h
      obtain ⟨hc, ⟨⟩⟩ := Option.ite_none_left_eq_some.mp h
      have hp : parseCommandInt (args.getD a []) = num := by
        rw [List.getD_eq_getElem?_getD, hx]; exact parse_of_atoi hnum
      refine ⟨_, ?_, ?_, mem_keys_iff b num st⟩
      · simp only [numkeysStepIdx, Int.toNat_natCast, hp]
        rw [if_neg (by omega), if_neg (by omega), if_neg (by omega), if_neg (by omega), if_neg]
        cases st with
        | none => simp [fixedOf]
        | some s => have := hst s rfl; simp [fixedOf]; omega
      · cases num with
        | zero => omega
        | succ n => simp [List.range_succ]

/-- the numkeys family of the tool's extractor table: lower-case name, the
    destination position (`args` coordinates) if Redis's proc has one, the
    positions of the count and of the first key: Redis's proc for the name is
    `genericGetKeys (storeOfs st) (a+1) (b+1) 1` -/
def numkeysRows : List (Bytes × Option Nat × Nat × Nat) := [
  ([101,118,97,108], none, 1, 2),                                   -- eval         evalGetKeys (0,2,3,1)
  ([101,118,97,108,115,104,97], none, 1, 2),                        -- evalsha
  ([102,99,97,108,108], none, 1, 2),                                -- fcall        functionGetKeys (0,2,3,1)
  ([102,99,97,108,108,95,114,111], none, 1, 2),                     -- fcall_ro
  ([122,117,110,105,111,110,115,116,111,114,101], some 0, 1, 2),    -- zunionstore  zunionInterDiffStoreGetKeys (1,2,3,1)
  ([122,105,110,116,101,114,115,116,111,114,101], some 0, 1, 2),    -- zinterstore
  ([122,100,105,102,102,115,116,111,114,101], some 0, 1, 2),        -- zdiffstore
  ([122,109,112,111,112], none, 0, 1),                              -- zmpop        zmpopGetKeys (0,1,2,1)
  ([98,122,109,112,111,112], none, 1, 2),                           -- bzmpop       bzmpopGetKeys (0,2,3,1)
  ([108,109,112,111,112], none, 0, 1),                              -- lmpop        lmpopGetKeys (0,1,2,1)
  ([98,108,109,112,111,112], none, 1, 2)]                           -- blmpop       blmpopGetKeys (0,2,3,1)

def numkeysNames : List Bytes := numkeysRows.map (·.1)

/-- **1. The regenerated rows are Redis's procs.** For each of the 11 names the
    tool's `commandKeyExtractors` row is `numkeysStepExtractor(a, b, 1, fixed)`
    with a = keyCountOfs-1, b = firstKeyOfs-1, fixed = [storeKeyOfs-1] / none of
    the `genericGetKeys` instance Redis's command table gives the name (second
    conjunct: the transcribed `procTable`); names are lower-case; the only
    destination position is args[0]. -/
theorem movable_numkeys_rows_match_redis :
    ∀ r ∈ numkeysRows,
      Gen.commandKeyExtractors.lookup r.1 = some (.numkeysStep (r.2.2.1 : Nat) (r.2.2.2 : Nat) 1 (fixedOf r.2.1)) ∧
      RedisKeys.procTable.lookup r.1 = some (.generic (storeOfs r.2.1) (r.2.2.1 + 1) (r.2.2.2 + 1) 1) ∧
      lower r.1 = r.1 ∧ (r.2.1 = none ∨ r.2.1 = some 0) := by
  decide +kernel

theorem keyIndexes_lower (name : Bytes) (args : List Bytes) :
    keyIndexes (lower name) args = keyIndexes name args := by
  unfold keyIndexes
  rw [lower_lower]

theorem getKeys_lower (name : Bytes) (args : List Bytes) :
    RedisKeys.getKeys (lower name) args = RedisKeys.getKeys name args := by
  unfold RedisKeys.getKeys
  rw [lower_lower]

theorem keyIndexes_row {name : Bytes} {ex : Gen.KeyExtractor}
    (hl : Gen.commandKeyExtractors.lookup (lower name) = some ex) (args : List Bytes) (idx : List Nat) :
    keyIndexes name args = some idx ↔ args ≠ [] ∧ idx ≠ [] ∧ runExtractor ex args = some idx := by
  unfold keyIndexes
  simp only [hl]
  cases args with
  | nil => simp
  | cons x xs =>
    cases runExtractor ex (x :: xs) with
    | none => simp
    | some j =>
      cases j with
      | nil => simp [eq_comm]
      | cons i is => simp [eq_comm]; rintro rfl; exact List.cons_ne_nil _ _

example : numkeysNames.length = 11 ∧ [122,117,110,105,111,110,115,116,111,114,101] ∈ numkeysNames := by decide

/-- **3. Exact, forward.** For the 11 numkeys names and ALL argument lists:
    the positions the tool's `CommandKeyIndexes` names are, as a set, the
    positions Redis's getkeys proc names. -/
theorem movable_numkeys_keys_exact (name : Bytes) (hn : name ∈ numkeysNames) (args : List Bytes)
    (idx : List Nat) (h : keyIndexes name args = some idx) :
    ∃ idx', RedisKeys.getKeys name args = some idx' ∧ ∀ i, i ∈ idx ↔ i ∈ idx' := by
  obtain ⟨r, hr, rfl⟩ := List.mem_map.mp hn
  obtain ⟨h1, h2, h3, _⟩ := movable_numkeys_rows_match_redis r hr
  have hex := ((keyIndexes_row (by rw [h3]; exact h1) ..).mp h).2.2
  unfold RedisKeys.getKeys
  rw [h3, h2]
  exact numkeys_extractor_exact _ _ _ _ _ hex

/-- **3. Exact, converse.** … and whenever Redis names keys the tool's static
    table resolves the command (no fall-back to COMMAND GETKEYS), to the same set. -/
theorem movable_numkeys_keys_complete (name : Bytes) (hn : name ∈ numkeysNames) (args : List Bytes)
    (idx' : List Nat) (h : RedisKeys.getKeys name args = some idx') :
    ∃ idx, keyIndexes name args = some idx ∧ ∀ i, i ∈ idx ↔ i ∈ idx' := by
  obtain ⟨r, hr, rfl⟩ := List.mem_map.mp hn
  obtain ⟨h1, h2, h3, h4⟩ := movable_numkeys_rows_match_redis r hr
  unfold RedisKeys.getKeys at h
  rw [h3, h2] at h
  have hargs : args ≠ [] := by
    rintro rfl
    simp [RedisKeys.runProc, RedisKeys.genericGetKeys] at h
  have hst : ∀ s, r.2.1 = some s → s < args.length := by
    intro s hs
    have : 0 < args.length := List.length_pos_iff.mpr hargs
    rcases h4 with e | e
    · rw [e] at hs; cases hs
    · rw [e] at hs; injection hs with hs; omega
  obtain ⟨idx, hi, hne, hm⟩ := numkeys_extractor_complete _ _ _ _ _ hst h
  exact ⟨idx, (keyIndexes_row (ex := .numkeysStep _ _ 1 _) (by rw [h3]; exact h1) ..).mpr ⟨hargs, hne, hi⟩, hm⟩

/-- the same for names in any letter case -/
theorem movable_numkeys_keys_exact_anycase (name : Bytes) (hn : lower name ∈ numkeysNames) (args : List Bytes) :
    (∀ idx, keyIndexes name args = some idx →
      ∃ idx', RedisKeys.getKeys name args = some idx' ∧ ∀ i, i ∈ idx ↔ i ∈ idx') ∧
    (∀ idx', RedisKeys.getKeys name args = some idx' →
      ∃ idx, keyIndexes name args = some idx ∧ ∀ i, i ∈ idx ↔ i ∈ idx') := by
  rw [← keyIndexes_lower, ← getKeys_lower]
  exact ⟨movable_numkeys_keys_exact _ hn args, movable_numkeys_keys_complete _ hn args⟩

-- "ZUNIONSTORE" (upper case) {a}d 2 {a}x {a}y, and a count exceeding the keys present (both refuse)
example : keyIndexes [90,85,78,73,79,78,83,84,79,82,69] [[123,97,125,100], [50], [123,97,125,120], [123,97,125,121]] = some [0, 2, 3] ∧
    RedisKeys.getKeys [90,85,78,73,79,78,83,84,79,82,69] [[123,97,125,100], [50], [123,97,125,120], [123,97,125,121]] = some [2, 3, 0] ∧
    keyIndexes [90,85,78,73,79,78,83,84,79,82,69] [[123,97,125,100], [51], [123,97,125,120], [123,97,125,121]] = none ∧
    RedisKeys.getKeys [90,85,78,73,79,78,83,84,79,82,69] [[123,97,125,100], [51], [123,97,125,120], [123,97,125,121]] = none := by
  decide +kernel

/-- **7. The bridge.** In a unit the builder accepts in cluster mode (the tool's
    resolver: static tables, then any COMMAND GETKEYS fall-back `fb`), every
    command of the numkeys family (any letter case) has EVERY position REDIS's
    own getkeys proc names on the unit's slot (HASH_SLOT specification). No
    hypothesis that the static table resolved the command is needed: by the
    converse of 3, whenever Redis names keys the table does (the fall-back is
    never consulted for these commands). -/
theorem movable_unit_keys_redis_single_slot (fb : Bytes → List Bytes → Fb) (cmds : List Cmd) (u : RUnit)
    (h : buildUnit clusterMode (resolverWith fb) cmds = .ok u) :
    ∀ c ∈ u.cmds, lower c.name ∈ numkeysNames →
      ∀ idx', RedisKeys.getKeys c.name c.args = some idx' →
        ∀ i ∈ idx', hashSlotSpec (c.args.getD i []) = u.slot := by
  intro c hc hn idx' hr i hi
  obtain ⟨idx, hk, hm⟩ := (movable_numkeys_keys_exact_anycase c.name hn c.args).2 idx' hr
  have hres : resolverWith fb c.name c.args = .ok (idx.map (fun i => c.args.getD i [])) :=
    resolverWith_some (by rw [commandKeys_eq, hk]; rfl)
  exact unit_cmd_keys_slot h hc hres _ (List.mem_map.mpr ⟨i, (hm i).mpr hi, rfl⟩)

private def cZus : Cmd := ⟨[90,85,78,73,79,78,83,84,79,82,69], [[123,97,125,100], [50], [123,97,125,120], [123,97,125,121]]⟩

-- non-vacuity: the unit of `ZUNIONSTORE {a}d 2 {a}x {a}y` is accepted, Redis names [2,3,0], all on slot 15495
example : buildUnit clusterMode (resolverWith (fun _ _ => .none)) [cZus] = .ok ⟨15495, slotTag 15495, [cZus]⟩ ∧
    lower cZus.name ∈ numkeysNames ∧ RedisKeys.getKeys cZus.name cZus.args = some [2, 3, 0] := by decide +kernel
example : hashSlotSpec [123,97,125,121] = 15495 :=
  movable_unit_keys_redis_single_slot (fun _ _ => .none) [cZus] ⟨15495, slotTag 15495, [cZus]⟩ (by decide +kernel)
    cZus (by simp) (by decide +kernel) [2, 3, 0] (by decide +kernel) 3 (by simp)

/-! ### 5. GEORADIUS / GEORADIUSBYMEMBER (finding C18-F1, fixed in /repo 975110c: the tool's extractor
    names the keys Redis's georadiusGetKeys names) -/

/-- the loop of `geoRadiusStoreExtractor` IS Redis's loop -/
theorem geoScan_eq_geoLoop (l : List Bytes) :
    ∀ (s i : Nat) (st : Option Nat), RedisKeys.geoScan s i l st = Filter.geoLoop s i l st := by
  induction l with
  | nil => intro s i st; simp [RedisKeys.geoScan, Filter.geoLoop]
  | cons a rest ih =>
    intro s i st
    cases s with
    | succ s => simp only [RedisKeys.geoScan, Filter.geoLoop]; exact ih s (i + 1) st
    | zero =>
      simp only [RedisKeys.geoScan, Filter.geoLoop]
      split
      · exact ih 1 (i + 1) (some (i + 1))
      · exact ih 0 (i + 1) st

/-- **GEORADIUS / GEORADIUSBYMEMBER, exact.** Whenever the tool's extractor names keys, they are
    exactly (same list) the keys Redis's `georadiusGetKeys` names — for ALL argument lists: store
    option given twice, a member spelling an option word, any letter case. -/
theorem geo_keys_exact (args : List Bytes) (idx : List Nat)
    (h : Filter.geoIdx args = some idx) : RedisKeys.geoKeys args = some idx := by
  unfold Filter.geoIdx at h
  unfold RedisKeys.geoKeys
  cases args with
  | nil => cases h
  | cons a rest =>
    simp only at h ⊢
    rw [geoScan_eq_geoLoop]
    split at h
    · rename_i d hd
      rw [hd]; exact h
    · cases h

/-- … and conversely: whenever Redis names a destination, the tool names the same two keys
    (Redis alone answers `[0]` for the read-only form without a store option; the tool then
    declines and the command is resolved dynamically). -/
theorem geo_keys_complete (args : List Bytes) (d : Nat)
    (h : RedisKeys.geoKeys args = some [0, d]) : Filter.geoIdx args = some [0, d] := by
  unfold RedisKeys.geoKeys at h
  unfold Filter.geoIdx
  cases args with
  | nil => cases h
  | cons a rest =>
    simp only at h ⊢
    rw [geoScan_eq_geoLoop] at h
    split at h
    · cases h
    · rename_i p hp
      rw [hp]
      injection h with h
      injection h with _ h
      injection h with h
      subst h; rfl

/-- `GEORADIUS k 1 2 3 km STORE d1 STOREDIST d2`: both name the LAST destination -/
theorem geo_last_store_wins :
    Filter.geoIdx [bK, b1, b2, b3, bKm, bSTORE, bD1, bSTOREDIST, bD2] = some [0, 8] ∧
    RedisKeys.geoKeys [bK, b1, b2, b3, bKm, bSTORE, bD1, bSTOREDIST, bD2] = some [0, 8] := by
  decide +kernel

/-- `GEORADIUSBYMEMBER k store 3 km STORE d1`: a member spelling an option word is none -/
theorem geo_member_named_store_ok :
    Filter.geoIdx [bK, bStore, b3, bKm, bSTORE, bD1] = some [0, 5] ∧
    RedisKeys.geoKeys [bK, bStore, b3, bKm, bSTORE, bD1] = some [0, 5] := by
  decide +kernel

example : RedisKeys.geoKeys [bK, b1, b2, b3, bKm, bSTORE, bD1, bSTOREDIST, bD2] = some [0, 8] :=
  geo_keys_exact _ _ geo_last_store_wins.1
example : Filter.geoIdx [bK, bStore, b3, bKm, bSTORE, bD1] = some [0, 5] :=
  geo_keys_complete _ _ geo_member_named_store_ok.2
-- no store option: Redis names the source alone, the tool declines
example : Filter.geoIdx [bK, b1, b2, b3, bKm] = none ∧ RedisKeys.geoKeys [bK, b1, b2, b3, bKm] = some [0] := by
  decide +kernel

/-! ### 4. SORT (finding C18-F1, fixed in /repo 975110c: the LAST STORE destination; LIMIT's arguments
    stepped over; a destination that spells an option word is left to the target) -/

theorem eqFold_excl {a w1 w2 : Bytes} (h : eqFold a w1 = true) (hne : (lower w1 == lower w2) = false) :
    eqFold a w2 = false := by
  unfold eqFold at h ⊢
  rw [eq_of_beq h]; exact hne

/-- Redis's scan reads a word that is no option word as the tool's loop steps over it -/
theorem sortScan_nonoption {d : Bytes} (hd : Filter.isSortOptionWord d = false) (i : Nat) (rest : List Bytes)
    (st : Option Nat) : RedisKeys.sortScan 0 i (d :: rest) st = RedisKeys.sortScan 1 i (d :: rest) st := by
  simp only [Filter.isSortOptionWord, Bool.or_eq_false_iff] at hd
  obtain ⟨⟨⟨hl, hs⟩, hb⟩, hg⟩ := hd
  simp only [RedisKeys.sortScan, hl, hs, hb, hg, Bool.false_and, Bool.false_eq_true, if_false]

/-- whatever the `sortExtractor` loop computes, Redis's `sortGetKeys` loop computes too -/
theorem sortScan_of_sortLoop (l : List Bytes) :
    ∀ (s i : Nat) (st r : Option Nat), Filter.sortLoop s i l st = some r → RedisKeys.sortScan s i l st = r := by
  induction l with
  | nil =>
    intro s i st r h
    cases s <;> exact Option.some.inj h
  | cons a rest ih =>
    intro s i st r h
    cases s with
    | succ s => exact ih s (i + 1) st r h
    | zero =>
      simp only [Filter.sortLoop] at h
      simp only [RedisKeys.sortScan]
      by_cases hl : eqFold a wLimit = true
      · rw [if_pos hl] at h ⊢
        exact ih _ _ _ _ h
      rw [if_neg hl] at h ⊢
      by_cases hs : eqFold a wStore = true
      · rw [if_pos hs] at h
        cases rest with
        | nil => cases h
        | cons d rest =>
          obtain ⟨hd, h⟩ := Option.ite_none_left_eq_some.mp h
          rw [if_pos (by rw [hs]; rfl), sortScan_nonoption (by simpa using hd)]
          exact ih _ _ _ _ h
      rw [if_neg hs] at h
      rw [if_neg (by simp [hs])]
      by_cases hb : eqFold a wBy = true
      · rw [if_pos hb] at h
        rw [if_neg (by rw [eqFold_excl hb (by decide)]; exact Bool.false_ne_true), if_pos hb]
        cases rest with
        | nil => cases h
        | cons p rest => exact ih _ _ _ _ (Option.ite_none_left_eq_some.mp h).2
      rw [if_neg hb] at h
      by_cases hg : eqFold a wGet = true
      · rw [if_pos hg] at h ⊢
        cases rest with
        | nil => cases h
        | cons p rest => exact ih _ _ _ _ (Option.ite_none_left_eq_some.mp h).2
      rw [if_neg hg] at h
      rw [if_neg hg, if_neg hb]
      exact ih _ _ _ _ h

/-- **SORT, exact.** Whenever the tool's extractor names keys, they are exactly the keys Redis's
    `sortGetKeys` names — for ALL argument lists (STORE given several times, LIMIT / BY nosort /
    GET # anywhere, any letter case). Where the tool declines (a BY / GET pattern that brings in
    other keys, a destination spelling an option word, no STORE) the command is resolved
    dynamically, i.e. by Redis itself. -/
theorem sort_keys_exact (args : List Bytes) (idx : List Nat)
    (h : Filter.sortIdx args = some idx) : RedisKeys.sortKeys args = some idx := by
  unfold Filter.sortIdx at h
  unfold RedisKeys.sortKeys
  cases args with
  | nil => cases h
  | cons a rest =>
    simp only at h ⊢
    split at h
    · rename_i d hd
      rw [sortScan_of_sortLoop rest 0 1 none (some d) hd]
      exact h
    · cases h

/-- `SORT k STORE d1 STORE d2`: both name the LAST destination (the earlier one is not written) -/
theorem sort_last_store_wins :
    Filter.sortIdx [bK, bSTORE, bD1, bSTORE, bD2] = some [0, 4] ∧
    RedisKeys.sortKeys [bK, bSTORE, bD1, bSTORE, bD2] = some [0, 4] := by
  decide +kernel

/-- a destination that spells an option word (`SORT k STORE store d1`: Redis's scan reads it as a
    second STORE) is not answered from the table: the target is asked -/
theorem sort_dest_spelling_option_deferred :
    Filter.sortIdx [bK, bSTORE, bStore, bD1] = none ∧ RedisKeys.sortKeys [bK, bSTORE, bStore, bD1] = some [0, 3] := by
  decide +kernel

example : RedisKeys.sortKeys [bK, bSTORE, bD1, bSTORE, bD2] = some [0, 4] :=
  sort_keys_exact _ _ sort_last_store_wins.1
-- SORT k BY nosort LIMIT 0 10 GET # STORE d1: both [0, 9]
example : Filter.sortIdx [bK, [66,89], [110,111,115,111,114,116], [76,73,77,73,84], [48], [49,48], [71,69,84], [35], bSTORE, bD1] = some [0, 9] ∧
    RedisKeys.sortKeys [bK, [66,89], [110,111,115,111,114,116], [76,73,77,73,84], [48], [49,48], [71,69,84], [35], bSTORE, bD1] = some [0, 9] := by
  decide +kernel

/-! ### 6. XREADGROUP: a group named "streams" -/

/-- `XREADGROUP GROUP streams c STREAMS k >`: the tool takes the first argument
    equal to "streams" (case-insensitively) — the GROUP NAME at args[1] — as the
    marker and names args[2], args[3] (the consumer `c` and the word STREAMS) as
    keys; Redis steps over GROUP's two arguments and names args[4], the stream
    `k`. The real key is not among the tool's positions. -/
theorem xread_group_named_streams :
    Filter.streamsIdx [bGROUP, bStreams, bC, bSTREAMS, bK, bGt] = some [2, 3] ∧
    RedisKeys.xreadKeys [bGROUP, bStreams, bC, bSTREAMS, bK, bGt] = some [4] ∧
    Filter.keyIndexes [120,114,101,97,100,103,114,111,117,112] [bGROUP, bStreams, bC, bSTREAMS, bK, bGt] = some [2, 3] ∧
    RedisKeys.getKeys [120,114,101,97,100,103,114,111,117,112] [bGROUP, bStreams, bC, bSTREAMS, bK, bGt] = some [4] := by
  decide +kernel

-- the ordinary form agrees: XREADGROUP GROUP g c STREAMS k >
example : Filter.streamsIdx [bGROUP, bD1, bC, bSTREAMS, bK, bGt] = some [4] ∧
    RedisKeys.xreadKeys [bGROUP, bD1, bC, bSTREAMS, bK, bGt] = some [4] := by decide +kernel

/-! ### 8. movablekeys commands WITHOUT a row in the tool's tables: resolved by the target, or refused -/

/-- Redis 7 `movablekeys` commands the tool's tables have no row for (all read-only, or - MIGRATE -
    never propagated): the `_ro` script forms, the non-storing set / sorted-set combinations, the
    cardinality forms, XREAD, MIGRATE, SORT_RO -/
def unlistedMovable : List Bytes :=
  [[101,118,97,108,95,114,111], [101,118,97,108,115,104,97,95,114,111],            -- eval_ro evalsha_ro
   [122,117,110,105,111,110], [122,105,110,116,101,114], [122,100,105,102,102],    -- zunion zinter zdiff
   [115,105,110,116,101,114,99,97,114,100], [122,105,110,116,101,114,99,97,114,100], -- sintercard zintercard
   [120,114,101,97,100], [109,105,103,114,97,116,101], [115,111,114,116,95,114,111]] -- xread migrate sort_ro

/-- over the REGENERATED tables: none of these names has a row, in either table -/
theorem unlisted_movable_no_row :
    ∀ n ∈ unlistedMovable, Gen.commandKeyExtractors.lookup n = none ∧ Gen.commandKeyPositions.lookup n = none := by
  decide +kernel

/-- … so the static tables never answer for them, whatever the arguments and the letter case -/
theorem unlisted_movable_static_none (name : Bytes) (hn : lower name ∈ unlistedMovable) (args : List Bytes) :
    Filter.keyIndexes name args = none ∧ commandKeys name args = none := by
  obtain ⟨h1, h2⟩ := unlisted_movable_no_row _ hn
  have hk : Filter.keyIndexes name args = none := by
    unfold Filter.keyIndexes
    simp only [h1, h2]
    split <;> rfl
  refine ⟨hk, ?_⟩
  rw [commandKeys_eq, hk]; rfl

/-- the tool's resolver hands such a command to the target: its verdict IS the target's COMMAND GETKEYS
    answer (keys ⇒ those keys; nothing / an empty answer ⇒ not routable; an error ⇒ error) -/
theorem unlisted_movable_resolved_by_target (fb : Bytes → List Bytes → Fb) (name : Bytes)
    (hn : lower name ∈ unlistedMovable) (args : List Bytes) :
    resolverWith fb name args =
      (match fb name args with
       | .keys ks => if ks.isEmpty then .notOk else .ok ks
       | .none => .notOk
       | .err => .err) := by
  unfold resolverWith
  simp only [(unlisted_movable_static_none name hn args).2]
  cases fb name args <;> rfl

/-- **single-slot or refused.** In a unit the builder accepts in cluster mode every command of this
    family was answered by the target with a non-empty key list, and EVERY key the target named is on
    the unit's slot; if the target names no key or answers with an error the unit is refused
    (`unlisted_movable_refused_without_answer`). With a target that answers like Redis
    (`RedisKeys.getKeys`), these are Redis's keys. -/
theorem unlisted_movable_keys_on_slot (fb : Bytes → List Bytes → Fb) (cmds : List Cmd) (u : RUnit)
    (h : buildUnit clusterMode (resolverWith fb) cmds = .ok u) :
    ∀ c ∈ u.cmds, lower c.name ∈ unlistedMovable →
      ∃ ks, fb c.name c.args = .keys ks ∧ ks ≠ [] ∧ ∀ k ∈ ks, hashSlotSpec k = u.slot := by
  intro c hc hn
  obtain ⟨_, hrt, _, _, hcmds⟩ := (buildUnit_cluster_iff (resolverWith fb) cmds u).mp h
  obtain ⟨ks, hks, hne⟩ := hrt c (hcmds ▸ hc)
  exact ⟨ks, resolverWith_none_ok (unlisted_movable_static_none c.name hn c.args).2 hks, hne,
    unit_cmd_keys_slot h hc hks⟩

/-- a transaction holding such a command for which the target names no key (or answers with an
    error) is refused as a whole -/
theorem unlisted_movable_refused_without_answer (fb : Bytes → List Bytes → Fb) (cmds : List Cmd)
    (c : Cmd) (hc : c ∈ cmds) (hn : lower c.name ∈ unlistedMovable)
    (hfb : ∀ ks, fb c.name c.args = .keys ks → ks = []) :
    ∃ e, buildUnit clusterMode (resolverWith fb) cmds = .error e := by
  cases hb : buildUnit clusterMode (resolverWith fb) cmds with
  | error e => exact ⟨e, rfl⟩
  | ok u =>
    obtain ⟨_, _, _, _, hcmds⟩ := (buildUnit_cluster_iff (resolverWith fb) cmds u).mp hb
    obtain ⟨ks, hks, hne, _⟩ := unlisted_movable_keys_on_slot fb cmds u hb c (hcmds ▸ hc) hn
    exact absurd (hfb ks hks) hne

/-- a target that answers COMMAND GETKEYS as Redis's own procs do (for the movablekeys commands) -/
def redisFb : Bytes → List Bytes → Fb := fun name args =>
  match RedisKeys.getKeys name args with
  | some idx => .keys (idx.map (fun i => args.getD i []))
  | none => .none

private def cZunion (k1 k2 : Bytes) : Cmd := ⟨[90,85,78,73,79,78], [[50], k1, k2, [87,73,84,72,83,67,79,82,69,83]]⟩

-- non-vacuity: ZUNION 2 {a}x {a}y WITHSCORES is resolved by the target and accepted; with a key on another slot refused;
-- with a target that does not know the command refused
example : buildUnit clusterMode (resolverWith redisFb) [cZunion [123,97,125,120] [123,97,125,121]] =
    .ok ⟨15495, slotTag 15495, [cZunion [123,97,125,120] [123,97,125,121]]⟩ := by decide +kernel
example : buildUnit clusterMode (resolverWith redisFb) [cZunion [123,97,125,120] [123,98,125,121]] = .error .crossSlot := by
  decide +kernel
example : buildUnit clusterMode (resolverWith (fun _ _ => .none)) [cZunion [123,97,125,120] [123,97,125,121]] = .error .notRoutable := by
  decide +kernel
example : lower (cZunion [] []).name ∈ unlistedMovable := by decide
example : ∃ e, buildUnit clusterMode (resolverWith (fun _ _ => .err)) [cZunion [123,97,125,120] [123,97,125,121]] = .error e :=
  unlisted_movable_refused_without_answer _ _ (cZunion [123,97,125,120] [123,97,125,121]) (by simp) (by decide) (by intro ks h; cases h)

end GunYu.Props.C18
