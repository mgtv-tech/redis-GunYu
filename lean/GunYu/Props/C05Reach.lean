/-
  C05, disk backend — the reader REACHES the writer's end (bounded progress as safety).

  `disk_reader_delivers_next` is the catch-up STEP. Here the steps are
  composed over ANY schedule of the reader's own moves (`AofRotateReader.read`, with or
  without a collector pass inside its rotation step), collector passes, appends of the
  stream writer, snapshot chunks and every move of OTHER readers: the reader's distance
  to the writer's end obeys a counted bound. The fairness assumption of the liveness
  reading ("the reader is scheduled k times after the last append") is a hypothesis of
  a proved safety theorem; no interleaving of collector passes can stall the reader.
-/
import GunYu.Proofs.StoreReach

namespace GunYu.Props.C05
open GunYu GunYu.Store

/-- the two statements over any state satisfying the disk invariant -/
theorem disk_reach_core {s : Disk} (hi : DInv s) (rid : Nat) (sch : List PMove) (r : DReader)
    (hF : Follows s rid r) (hok : s.schedOk rid sch) :
    ∃ r', Follows (s.sched rid sch) rid r' ∧ r'.start = r.start ∧ r.pos ≤ r'.pos ∧
      (s.sched rid sch).endOff - r'.pos ≤ lagBound (s.endOff - r.pos) sch ∧
      r'.pos ≤ (s.sched rid sch).endOff ∧ (s.sched rid sch).hbase ≤ r'.start ∧ r'.start ≤ r'.pos ∧
      r'.out = ((s.sched rid sch).hist.drop (r'.start - (s.sched rid sch).hbase)).take (r'.pos - r'.start) := by
  obtain ⟨r', hi', hF', hst, hle, _, hlag⟩ := sched_lag sch hi hF hok
  obtain ⟨hs, hsp, hpe, hout⟩ := stream_delivered hi' (findReader_some hF'.found).1 hF'.isOpen hF'.isAof
  exact ⟨r', hF', hst, hle, hlag, hpe, hs, hsp, hout⟩

/-- **disk_reader_lag_bounded.** In every state reachable by the callers' protocol, for
    an open stream reader between two moves and ANY schedule (own moves with buffers of
    any positive size, collector passes — also inside the rotation step —, appends,
    snapshot chunks, opens / reads / rotation halves / closes of other readers): the
    reader is still a valid stream reader opened at the same offset, never moved back,
    its distance to the writer's end is at most `lagBound` (−1 per own move while
    positive, + length per append, unchanged by everything else), and what it delivered
    are exactly the history's bytes from its start to its position. -/
theorem disk_reader_lag_bounded (l m : Nat) (ops : List DOp) (hwf : (Disk.init l m).wf ops) (rid : Nat)
    (sch : List PMove) :
    let s := (Disk.init l m).run ops
    ∀ r, Follows s rid r → s.schedOk rid sch →
      ∃ r', Follows (s.sched rid sch) rid r' ∧ r'.start = r.start ∧ r.pos ≤ r'.pos ∧
        (s.sched rid sch).endOff - r'.pos ≤ lagBound (s.endOff - r.pos) sch ∧
        r'.pos ≤ (s.sched rid sch).endOff ∧
        r'.out = ((s.sched rid sch).hist.drop (r'.start - (s.sched rid sch).hbase)).take (r'.pos - r'.start) := by
  intro s r hF hok
  obtain ⟨r', h1, h2, h3, h4, h5, _, _, h8⟩ := disk_reach_core ((DInv.init l m).run ops hwf) rid sch r hF hok
  exact ⟨r', h1, h2, h3, h4, h5, h8⟩

/-- the same with the fairness hypothesis: no append in the schedule, at least as many own
    moves as the reader is behind -/
theorem disk_reach_end_core {s : Disk} (hi : DInv s) (rid : Nat) (sch : List PMove) (r : DReader)
    (hF : Follows s rid r) (hok : s.schedOk rid sch) (hna : noAppend sch = true)
    (hk : s.endOff - r.pos ≤ ownMoves sch) :
    ∃ r', Follows (s.sched rid sch) rid r' ∧ r'.start = r.start ∧
      r'.pos = (s.sched rid sch).endOff ∧
      r'.out = (s.sched rid sch).hist.drop (r'.start - (s.sched rid sch).hbase) := by
  obtain ⟨r', hF', hst, _, hlag, hpe, hs, hsp, hout⟩ := disk_reach_core hi rid sch r hF hok
  rw [lagBound_noAppend sch _ hna, Nat.sub_eq_zero_of_le hk] at hlag
  have hpos : r'.pos = (s.sched rid sch).endOff := Nat.le_antisymm hpe (Nat.le_of_sub_eq_zero (Nat.le_zero.mp hlag))
  refine ⟨r', hF', hst, hpos, ?_⟩
  -- the reader stands at the end: what it delivered is the whole rest of the history
  rw [hout, hpos]
  apply List.take_of_length_le
  rw [List.length_drop, Disk.endOff, Nat.add_comm, Nat.sub_sub_right _ hs]
  exact Nat.le_refl _

/-- **disk_reader_reaches_end.** No append in the schedule and at least as many own moves
    as the reader was behind (one byte per move is the worst case; a move delivers up to a
    buffer or the rest of its file): after the schedule the reader STANDS AT THE WRITER'S
    END and has delivered every byte of the history from its start — whatever collector
    passes and moves of other readers the schedule interleaves. -/
theorem disk_reader_reaches_end (l m : Nat) (ops : List DOp) (hwf : (Disk.init l m).wf ops) (rid : Nat)
    (sch : List PMove) :
    let s := (Disk.init l m).run ops
    ∀ r, Follows s rid r → s.schedOk rid sch → noAppend sch = true → s.endOff - r.pos ≤ ownMoves sch →
      ∃ r', Follows (s.sched rid sch) rid r' ∧ r'.start = r.start ∧
        r'.pos = (s.sched rid sch).endOff ∧
        r'.out = (s.sched rid sch).hist.drop (r'.start - (s.sched rid sch).hbase) := by
  intro s r hF hok hna hk
  exact disk_reach_end_core ((DInv.init l m).run ops hwf) rid sch r hF hok hna hk

/-- the bound is tight in the worst case and generous otherwise: with buffers at least as
    large as a segment ONE move per segment suffices — stated as the general monotone
    fact that a larger bound never hurts -/
theorem disk_lag_bound_mono (sch : List PMove) {a b : Nat} (h : a ≤ b) : lagBound a sch ≤ lagBound b sch :=
  lagBound_mono sch h

/-- a collector pass inside or between the reader's moves never adds to the distance:
    the bound of a schedule does not change when collector passes are inserted -/
theorem disk_gc_never_adds_lag (d : Nat) (pre post : List PMove) :
    lagBound d (pre ++ .other .gc :: post) = lagBound d (pre ++ post) := by
  induction pre generalizing d with
  | nil => rfl
  | cons m t ih =>
    cases m with
    | follow n => exact ih (d - 1)
    | followGc n => exact ih (d - 1)
    | other op =>
      cases op <;> first | exact ih _ | exact ih d

/-! ### non-vacuity: three segments, collector passes between and inside the moves, a
    second reader moving and closing; the first reader ends at the writer's end -/

def exReachOps : List DOp :=
  [ .setRunId "id1", .newAofWriter 100, .aofAppend [1,2,3,4,5,6,7,8,9],
    .openReader 1 100 true, .aofAppend [10,11,12,13,14,15,16,17,18], .aofAppend [19,20], .openReader 0 105 true ]

def exReachSched : List PMove :=
  [ .other .gc, .follow 2, .other (.read 1 100), .followGc 100, .other .gc, .other (.closeReader 1),
    .followGc 100, .other .gc, .follow 100, .follow 1, .follow 1, .follow 1, .follow 1, .follow 1,
    .follow 1, .follow 1, .follow 1, .follow 1, .follow 1, .follow 1 ]

example : (Disk.init 24 10).wf exReachOps := by decide +kernel
example : ((Disk.init 24 10).run exReachOps).schedOk 0 exReachSched := by decide +kernel
example : noAppend exReachSched = true := by decide +kernel
example : ((Disk.init 24 10).run exReachOps).endOff = 120 ∧ ownMoves exReachSched = 15 := by decide +kernel
example : (findReader ((Disk.init 24 10).run exReachOps).readers 0).map (fun r => (r.isOpen, r.isAof, r.prev, r.pos)) =
    some (true, true, none, 105) := by decide +kernel
/-- the collector really removes a segment on the way -/
example : ((Disk.init 24 10).run exReachOps).all.map (·.left) = [100, 109, 118] ∧
    (((Disk.init 24 10).run exReachOps).sched 0 exReachSched).all.map (·.left) = [109, 118] := by decide +kernel
set_option maxRecDepth 8000 in
example : (findReader (((Disk.init 24 10).run exReachOps).sched 0 exReachSched).readers 0).map (fun r => (r.pos, r.out)) =
    some (120, [6,7,8,9,10,11,12,13,14,15,16,17,18,19,20]) := by decide +kernel
/-- with an append in the schedule the bound grows by its length -/
example : lagBound 3 [.follow 1, .other (.aofAppend [1,2]), .other .gc, .followGc 4] = 3 := by decide +kernel

end GunYu.Props.C05
