/-
  C03 — A full sync reproduces the source snapshot's dataset on the target.

  Property theorems only (helper lemmas: Proofs/Rdb/*.lean).
-/
import GunYu.Model.Rdb.Crc64
import GunYu.Model.Rdb.Value
import GunYu.Model.Rdb.Replay
import GunYu.Proofs.Rdb.Crc64
import GunYu.Proofs.Rdb.Read
import GunYu.Proofs.Rdb.Sem
import GunYu.Proofs.Rdb.Chunk
import GunYu.Proofs.Rdb.StreamNode
import GunYu.Proofs.Rdb.Frame
import GunYu.Proofs.Rdb.FanOut
import GunYu.Proofs.Rdb.Sync
import GunYu.Proofs.Rdb.Parallel
import GunYu.Proofs.Rdb.Commute
import GunYu.Proofs.Rdb.Interleave
import GunYu.Proofs.Rdb.SyncS
import GunYu.Proofs.Rdb.Fallback
import GunYu.Proofs.Rdb.StreamPel

namespace GunYu.Props.C03
open GunYu GunYu.Rdb GunYu.RedisSem

/-! ## CRC64 and the RESTORE payload footer -/

/-- The table-driven CRC64 of pkg/digest (over the table regenerated from the Go
    source on every run) is CRC-64/Jones (reflected polynomial
    0xad93d23594c935a9), for every byte string. -/
theorem crc64_tab_eq_jones (bs : Bytes) : crc64Tab bs = crc64Spec bs :=
  crc64Tab_eq_spec_from bs 0#64

/-- the reflected polynomial is the bit reversal of the one Redis writes down -/
theorem jones_reflected : jonesPolyRev = 0x95ac9329ac4bc9b5#64 := jonesPolyRev_val

/-- `CreateValueDump` is type byte, the value's serialization, the 2-byte
    little-endian RDB version 6 and the little-endian CRC64 of all that. -/
theorem dump_payload (t : UInt8) (raw : Bytes) :
    createValueDump t raw =
      [t] ++ raw ++ [6, 0] ++ le64 (crc64Spec ([t] ++ raw ++ [6, 0])).toNat := by
  unfold createValueDump
  simp only [← crc64TabFrom_append]
  have : le16 dumpVersion = [6, 0] := by decide
  rw [this]
  show _ ++ le64 (crc64Tab ([t] ++ raw ++ [6, 0])).toNat = _
  rw [crc64_tab_eq_jones]

/-- Redis' `verifyDumpPayload` accepts every payload `CreateValueDump` builds
    (any server whose RDB version is at least 6). -/
theorem dump_verifies (rdbVersion : Nat) (h : 6 ≤ rdbVersion) (t : UInt8) (raw : Bytes) :
    verifyDumpPayload rdbVersion (createValueDump t raw) = true := by
  rw [dump_payload, le64, verifyDumpPayload_parts rdbVersion ([t] ++ raw) [6, 0] _ rfl (leN_length 8 _), ofLE_leN,
    Nat.mod_eq_of_lt (crc64Spec _).isLt]
  simpa [show ofLE [6, 0] = 6 by decide] using h

/-! ## Encodings: strings -/

/-- Every string encoding Redis writes (raw with any length form, 8/16/32-bit
    integer, LZF-compressed given as any well-formed literal/back-reference
    list) is read back by `ReadString` as exactly the string it denotes, and
    exactly its bytes are consumed. -/
theorem string_roundtrip (s : SE) (rest : Bytes) (h : s.wf) :
    readString (s.enc ++ rest) = some (s.val, rest) :=
  readString_enc s rest h

/-- the LZF decompressor inverts the LZF wire format (overlapping back
    references included) -/
theorem lzf_roundtrip (ops : List LzfOp) (h : lzfWfFrom 0 ops) :
    lzfDecompress (lzfEmit ops) (lzfExpand ops).length = some (lzfExpand ops) :=
  lzfDecompress_emit ops h

/-! ## Encodings: containers -/

/-- a ziplist blob (any entry encodings and integer widths/signs, 1- or 5-byte
    prevlen, known or unknown (0xFFFF) length) iterates to its entries' values -/
theorem ziplist_roundtrip (z : ZL) (h : z.wf) : zlAll z.blob = some z.vals := zlAll_blob z h

/-- a listpack blob (every string and integer encoding, ANY number of elements: from
    65535 on the count field says "unknown" and the elements are walked to the end
    marker) yields its entries' values -/
theorem listpack_roundtrip (es : List LPEntry) (h : lpWf es) :
    lpAll (lpBlob es) = some (es.map LPEntry.val) := lpAll_blob es h

/-- an intset blob of width 2, 4 or 8 yields its integers in decimal -/
theorem intset_roundtrip (width : Nat) (vs : List Int) (hw : width = 2 ∨ width = 4 ∨ width = 8)
    (hl : vs.length < 2 ^ 32) (h : ∀ v ∈ vs, inSigned (8 * width) v) :
    intsetAll (intsetBlob width vs) = some (vs.map intToDec) := intsetAll_blob width vs hw hl h

/-! ## Expansion round trip

For every value `o` of every string / list / set / sorted-set / hash encoding
(`ObjE`: raw, integer and LZF strings; linked list, ziplist, quicklist,
quicklist v2 plain + packed; hash-table set, intset 16/32/64, listpack set;
skiplist v1/v2, ziplist and listpack sorted sets; hash table, zipmap, ziplist
and listpack hashes — containers saved raw or LZF-compressed), the commands the
tool expands the serialization into rebuild exactly the source value when
replayed into an empty key. Hypotheses are what Redis guarantees of its own
data: the description is well-formed, the value is not empty, members / fields
are distinct. -/

theorem expand_roundtrip (x : XCfg) (k : Bytes) (o : ObjE)
    (hwf : o.wf) (hk : o.kind ≠ .other) (hne : o.nonempty) (hd : o.members.Nodup) :
    ∃ cmds, execCmd x (pobjOf k o) = some cmds ∧ applyCmds [] cmds = some [(k, o.value, 0)] :=
  ⟨o.cmds k, execCmd_pobjOf x k o hwf hk, by simpa using cmds_frame [] k o hk hne hd rfl⟩

/-- frame rule: the same expansion replayed into ANY keyspace that does not hold
    the key (other keys, whatever their types) adds exactly the source value and
    leaves everything else as it was -/
theorem expand_roundtrip_frame (x : XCfg) (k : Bytes) (o : ObjE) (ks : Keyspace)
    (hwf : o.wf) (hk : o.kind ≠ .other) (hne : o.nonempty) (hd : o.members.Nodup) (hfresh : get ks k = none) :
    ∃ cmds, execCmd x (pobjOf k o) = some cmds ∧ applyCmds ks cmds = some (ks ++ [(k, o.value, 0)]) :=
  ⟨o.cmds k, execCmd_pobjOf x k o hwf hk, cmds_frame ks k o hk hne hd hfresh⟩

/-- The bytes teed while parsing are exactly the value's serialization
    (`ReadBuffer` after the key consumes `o.ser`, nothing more, nothing less, and
    stores it as the parser's buffer), so a RESTORE payload is byte for byte type +
    serialization + footer. (The chunkable hash table is covered by
    `hash_unsplit_raw_is_encode` / `chunked_roundtrip`.) -/
theorem raw_is_encode (cfg : DCfg) (key : SE) (o : ObjE) (rest : Bytes)
    (hkey : key.wf) (hwf : o.wf) (hk : o.kind ≠ .other) (hh : o.rtype ≠ 4) :
    readBuffer cfg {} o.rtype (key.enc ++ (o.ser ++ rest)) = some (pobjOf key.val o, {}, rest) ∧
      (pobjOf key.val o).buf = o.ser ∧ (pobjOf key.val o).key = key.val ∧
      (pobjOf key.val o).dump = createValueDump o.rtype o.ser :=
  ⟨readBuffer_plain cfg key o rest hkey hwf hk hh, rfl, rfl, rfl⟩

/-- `Loader.Next` on a key item (expiry / idle / freq opcodes, type byte, key,
    value) of any string / list / set / sorted-set / hash encoding that is never
    split: exactly ONE entry, with the key, the loader's DB, the absolute expiry,
    idle time, freq and the parser object `pobjOf` (buffer = serialization) that
    `expand_roundtrip`, `restore_path` and `expand_path` start from; the loader
    is ready for the next item, the input is positioned behind the value. -/
theorem next_key_entry (cfg : DCfg) (ls : LState) (k : KeyE) (rest : Bytes)
    (hls : ls.total = 0 ∧ ls.read = 0) (hwf : k.wf) (hk : k.obj.kind ≠ .other) (hh : k.obj.rtype ≠ 4) :
    ∃ e ls', next cfg ls (k.enc ++ rest) = some (some e, ls', rest) ∧
      e.key = k.key.val ∧ e.db = (ls.db : Int) ∧ e.expireAt = k.exp.at ∧
      e.idle = (match k.idle with | none => 0 | some (_, n) => n) ∧
      e.freq = (match k.freq with | none => 0 | some n => n) ∧
      e.type = k.obj.rtype ∧ e.obj = pobjOf k.key.val k.obj ∧
      ls'.db = ls.db ∧ ls'.total = 0 ∧ ls'.read = 0 :=
  next_plain cfg ls k rest hls hwf hk hh

/-! ## Values split into several chunks

Only the hash table (`RdbTypeHash`) is ever split (`maxBinEntryBuffer`). -/

/-- `chunked_roundtrip` — for ANY chunking threshold: repeated `Next` over a
    hash-table key item returns chunks which (1) all carry the key, the DB, the
    absolute expiry, idle time and freq of the value (D8 repaired), (2) are a
    first chunk exactly for the first one (so the key-exists probe / DEL happens
    once), (3) each expand without error, and whose expansions, replayed in
    order into an empty key, rebuild exactly the source hash; afterwards the
    loader is ready for the next item and the input is positioned behind the
    value. Chunks of one key reach one worker in this order (`fanOut_same_key`). -/
theorem chunked_roundtrip (cfg : DCfg) (x : XCfg) (ls : LState) (k : KeyE) (f : LenForm)
    (items : List (SE × SE)) (rest : Bytes)
    (hobj : k.obj = .hashTable f items) (hls : ls.total = 0 ∧ ls.read = 0) (hwf : k.wf)
    (hne : items ≠ []) (hd : ((pairVals items).map (·.1)).Nodup) :
    ∃ es ls', nextValue cfg (items.length + 1) ls (k.enc ++ rest) = some (es, ls', rest) ∧
      ls'.total - ls'.read = 0 ∧ ls'.db = ls.db ∧
      (∀ e ∈ es, ChunkOf ls k e) ∧
      (∃ e0 tl, es = e0 :: tl ∧ e0.obj.firstBin = true ∧ ∀ e ∈ tl, e.obj.firstBin = false) ∧
      (∀ e ∈ es, (execCmd x e.obj).isSome) ∧
      applyCmds [] (es.flatMap (fun e => (execCmd x e.obj).getD [])) =
        some [(k.key.val, .hash (pairVals items), 0)] := by
  obtain ⟨es, ls', h1, h2, h3, h4, h5, h6, h7, _⟩ := nextValue_hash cfg ls k f items rest hobj hls hwf hne
  refine ⟨es, ls', h1, h2, h3, h4, h5, ?_, ?_⟩
  · intro e he
    rw [execCmd_hash_chunk x e.obj (h4 e he).2.2.2.2.2.2.2]
    have := h6 e he
    cases hp : hashPairs e.obj with
    | none => simp [hp] at this
    | some ps => simp
  · have hcmds : es.flatMap (fun e => (execCmd x e.obj).getD []) =
        (es.flatMap (fun e => (hashPairs e.obj).getD [])).map (fun q => cmdB b!"HSET" [k.key.val, q.1, q.2]) := by
      rw [List.map_flatMap]
      apply flatMap_congr_mem
      intro e he
      rw [execCmd_hash_chunk x e.obj (h4 e he).2.2.2.2.2.2.2, (h4 e he).2.2.2.2.2.2.1]
      cases hp : hashPairs e.obj with
      | none => simp
      | some ps => simp
    rw [hcmds, h7]
    have hne' : pairVals items ≠ [] := by
      intro h0
      apply hne
      unfold pairVals at h0
      exact List.map_eq_nil_iff.mp h0
    exact hset_all k.key.val (pairVals items) hne' hd

/-- when the whole table fits under the threshold there is a single chunk whose
    buffer is the serialization: the teed bytes are the encoding -/
theorem hash_unsplit_raw_is_encode (cfg : DCfg) (key : SE) (f : LenForm) (items : List (SE × SE)) (rest : Bytes)
    (hkey : key.wf) (hwf : (ObjE.hashTable f items).wf)
    (hthr : (ObjE.hashTable f items).ser.length ≤ cfg.thr) :
    ∃ p ls, readBuffer cfg {} 4 (key.enc ++ ((ObjE.hashTable f items).ser ++ rest)) = some (p, ls, rest) ∧
      p.buf = (ObjE.hashTable f items).ser ∧ p.key = key.val ∧ p.isSplited = false := by
  obtain ⟨hf, h32, hitems⟩ := hwf
  have hser : (ObjE.hashTable f items).ser = encLen f items.length ++ encPairs items := rfl
  rw [hser] at hthr ⊢
  have hloop := hashChunkLoop_nobreak cfg.thr (encLen f items.length ++ (encPairs items ++ rest)).length
    items rest 0 (encLen f items.length).length hitems (by simp) (by simpa using hthr)
  have hrb := readBuffer_hash_first' cfg {} key f items rest items.length ⟨rfl, rfl⟩ hkey hf h32
    (by rw [hloop]; simp [encPairs])
  simp only [List.append_assoc]
  rw [hrb]
  refine ⟨{ rtype := 4, key := key.val, buf := encLen f items.length ++ encPairs (items.take items.length),
            total := items.length, read := items.length, history := 0 }, {}, ?_, ?_, rfl, ?_⟩
  · simp [encPairs]
  · simp
  · simp [PObj.isSplited]

/-- the keyed fan-out sends all entries that are REPLAYED TO one key — in particular
    all chunks of one value, and under `ReplaceHashTag` two snapshot keys that rewrite to
    one target key (`{a}b`, `ab`; /repo 630424b) — to the same worker, whatever was
    distributed in between; a worker consumes its pipe in FIFO order (Go channel
    semantics, trusted), so they are applied in snapshot order -/
theorem fanOut_same_key (cfg : RCfg) (n : Nat) (e1 e2 : Entry) (i1 i2 : Nat)
    (h : dstKey cfg e1.key = dstKey cfg e2.key)
    (h1 : otypeOf e1.obj.rtype ≠ some .function) (h2 : otypeOf e2.obj.rtype ≠ some .function) :
    workerOf cfg n e1 i1 = workerOf cfg n e2 i2 := by
  simp [workerOf, h1, h2, h]

/-- order is kept per worker: after the fan-out, the request log of EVERY worker
    is its log before, followed by the request blocks of exactly the entries
    routed to it (`fanOutTrace`: worker `workerOf …` and requests of each entry,
    in snapshot order) — entries of other workers never interleave into a
    worker's sequence, so the chunks of one key (same worker by
    `fanOut_same_key`) are applied in snapshot order. (That a worker consumes its
    pipe in FIFO order is Go channel semantics, trusted.) -/
theorem fanOut_keeps_order (cfg : RCfg) (es : List Entry) (idx : Nat) (ws : List Worker) (ex : Exists)
    (hn : 0 < ws.length) (j : Nat) (hj : j < ws.length) :
    ((fanOut cfg es idx ws ex).1.getD j {}).log =
      (ws.getD j {}).log ++ ((fanOutTrace cfg es idx ws ex).filter (fun p => p.1 == j)).flatMap (·.2) :=
  fanOut_logs cfg es idx ws ex hn j hj

/-! ## Streams

`stream_roundtrip_partial` is the listpack-node level (entries); `stream_roundtrip`
the whole value through the oracle. -/

/-- `stream_roundtrip_partial` — the entries: every listpack node of a stream
    (any listpack integer width for counters, flags and id deltas, elements as
    strings or integers, SAMEFIELDS entries interleaved with entries that carry
    their own fields, deleted entries, blob saved raw or LZF) expands into
    exactly one `XADD key id field value …` per live entry, in order, with
    id = master id + stored deltas and the entry's own field/value list — the
    master entry's field count is never disturbed (D11 repaired), ids are exact
    up to 2^64-1. -/
theorem stream_roundtrip_partial (key : Bytes) (nodes : List SNodeE) (rest : Bytes)
    (hwf : ∀ n ∈ nodes, n.wf ∧ ∀ e ∈ n.entries, e.idWf n.masterMs n.masterSeq) :
    streamNodes key nodes.length (nodes.flatMap SNodeE.enc ++ rest) =
      some (nodes.flatMap (fun n => n.live.map (fun p => cmdB b!"XADD" (key :: p.1 :: p.2))), rest) :=
  streamNodes_spec key nodes rest hwf

/-- **`stream_roundtrip`** — for every stream
    description `s` of RDB type 15 / 19 / 21 / 26 that is well-formed (`StreamE.wf`) and
    `sound` (what a Redis server guarantees: ids without 64-bit wrap-around, above 0-0 and
    strictly increasing, none above the last id; `length` = number of live entries; every
    entry has a field; entries-added a long long ≥ length; max-deleted id ≤ last id;
    entries-read ≥ -1; delivery times long longs; distinct group names, distinct consumer
    names; a pending id owned by one consumer), every target version and whatever follows:
    (1) `StreamParser.ExecCmd` expands the serialization into EXACTLY `s.cmds` — one
        `XADD key id f v …` per live entry, `XADD key MAXLEN 0 0-1 x y` iff the stream is
        empty, `XSETID key last [ENTRIESADDED n MAXDELETEDID id]` (counters iff target ≥ 7;
        for type 15: n = length, id = 0-0), and per group `XGROUP CREATE key g last
        [ENTRIESREAD r]` (target ≥ 7; `r` signed, -1 = unknown; for type 15 the tool's
        estimate), then per consumer one `XCLAIM key g consumer 0 id TIME t RETRYCOUNT c JUSTID
        FORCE` per entry of its PEL, `t`, `c` from the group's PEL; for a consumer with an EMPTY
        PEL `XGROUP CREATECONSUMER key g consumer` when the target is 6.2+ (repair of
        known finding C03-F1, /repo fix commit), nothing on an older target;
    (2) replayed through the oracle — which follows t_stream.c: XSETID's range checks,
        XGROUP CREATE's ENTRIESREAD check, XCLAIM FORCE creating a pending entry ONLY for an
        id that is an entry of the stream — into any keyspace that does not hold the key,
        these commands leave exactly the logical value `s.xval`: entries with ids and field
        lists in order, last id, entries-added, max-deleted id, every group with its
        last-delivered id, entries-read, its consumers (`consumersIdeal`) and its pending entries
        with owner, delivery time and count RESTRICTED TO THE IDS THAT ARE STILL ENTRIES OF
        THE STREAM (`pelX`); no time to live, every other key untouched.
    LOST on the expansion path (kept by the RESTORE path; stated by the shape of `xval`):
    pending ids whose entry was deleted or trimmed — ordinary production data, but no
    command recreates them (Redis' own AOF rewrite loses them the same way); a consumer all
    of whose pending ids are such; a consumer with an EMPTY PEL on a target OLDER THAN 6.2 (no
    command exists there; on 6.2+ it is recreated since the repair of C03-F1); seen-time /
    active-time; the IDMP state of type 26. The first-id field is recomputed by the target. -/
theorem stream_roundtrip (x : XCfg) (k : Bytes) (s : StreamE) (rest : Bytes) (ks : Keyspace)
    (hwf : s.wf) (hs : s.sound) (hfresh : get ks k = none) :
    execStream x s.rtype k (s.ser ++ rest) = some (s.cmds x k) ∧
    applyCmds ks (s.cmds x k) = some (ks ++ [(k, .stream (s.xval x), 0)]) :=
  ⟨execStream_ser x k s rest hwf hs, stream_cmds_apply ks k x s hwf hs hfresh⟩

/-- the pending entries in `StreamE.xval` — listed consumer by consumer, the order the
    XCLAIMs are issued in — are, as a set, EXACTLY the group's PEL as a server holds it
    (`pelLogical`: every record of the group's PEL whose id is still an entry of the stream,
    with its delivery time, delivery count and the one consumer whose PEL lists it), given
    what Redis guarantees of it
    (`pelPartition`: one record per id, the consumers' PELs partition the group's) -/
theorem stream_pel_logical (x : XCfg) (s : StreamE) (g : SGroupE) (hp : g.pelPartition) :
    (g.xgroup x s).pel.Perm (g.pelLogical s) := pelX_perm_logical s g hp

/-- the test the driver applies to every generated stream before the harness compares
    `StreamE.cmds` / `StreamE.xval` with the real code (`soundB`, computable) implies the
    hypothesis `sound` of `stream_roundtrip` and `full_sync_streams` -/
theorem sound_test_sound (s : StreamE) (h : s.soundB = true) : s.sound := soundB_sound s h

/-- `stream_roundtrip` in the shape of `expand_roundtrip`: `ExecCmd` on the parser object
    `ReadBuffer` built, replayed into an empty keyspace -/
theorem stream_expand_roundtrip (x : XCfg) (k : Bytes) (s : StreamE) (hwf : s.wf) (hs : s.sound) :
    ∃ cmds, execCmd x (pobjOf k (.stream s)) = some cmds ∧
      applyCmds [] cmds = some [(k, .stream (s.xval x), 0)] := by
  obtain ⟨_, h2⟩ := stream_roundtrip x k s [] [] hwf hs rfl
  exact ⟨s.cmds x k, execCmd_streamObj x k s hwf hs, by simpa using h2⟩

/-- `raw_is_encode` for streams and module values (type 7): `ReadBuffer` after the key
    consumes exactly the serialization — every listpack node, the counters, all groups
    with PELs and consumers, the IDMP state of type 26; module id, items and EOF opcode
    of a module payload — and stores it as the parser's buffer, so their RESTORE payload
    is byte for byte type + serialization + footer -/
theorem raw_is_encode_opaque (cfg : DCfg) (key : SE) (o : ObjE) (rest : Bytes)
    (hkey : key.wf) (ho : o.opaque) :
    readBuffer cfg {} o.rtype (key.enc ++ (o.ser ++ rest)) = some (pobjOf key.val o, {}, rest) ∧
      (pobjOf key.val o).buf = o.ser ∧ (pobjOf key.val o).key = key.val ∧
      (pobjOf key.val o).dump = createValueDump o.rtype o.ser :=
  ⟨readBuffer_opaque cfg {} key o rest ⟨rfl, rfl⟩ hkey ho, rfl, rfl, rfl⟩

/-- `Loader.Next` on a key item holding a stream or a module value: ONE entry, never
    split, with key, DB, absolute expiry and the parser object of the whole value -/
theorem next_opaque_entry (cfg : DCfg) (ls : LState) (k : KeyE) (rest : Bytes)
    (hls : ls.total = 0 ∧ ls.read = 0) (hwf : k.wf) (ho : k.obj.opaque) :
    ∃ e ls', next cfg ls (k.enc ++ rest) = some (some e, ls', rest) ∧
      e.key = k.key.val ∧ e.db = (ls.db : Int) ∧ e.expireAt = k.exp.at ∧
      e.type = k.obj.rtype ∧ e.obj = pobjOf k.key.val k.obj ∧
      ls'.db = ls.db ∧ ls'.total = 0 ∧ ls'.read = 0 :=
  next_opaque cfg ls k rest hls hwf ho

/-- module aux data under the `skip` policy leaves no entry: `Next` steps over module
    id, items and EOF opcode and goes on with the following item (under the `fail`
    policy — the default — the model, like the code, refuses the snapshot) -/
theorem next_skips_module_aux (cfg : DCfg) (F : Nat) (ls : LState) (e : Entry) (id : Nat) (ops : List ModOp) (X : Bytes)
    (hls : ls.total - ls.read = 0) (hid : id < 2 ^ 64) (hw : ∀ o ∈ ops, o.wf) (hpol : cfg.failModAux = false) :
    nextLoop cfg (F + 1) ls e ((Item.moduleAux id ops).enc ++ X) = nextLoop cfg F ls e X :=
  nextLoop_modaux cfg F ls e id ops X hls hid hw hpol

/-! ## The file frame -/

/-- magic and version: every file the specification writes for RDB versions
    1 … 13 passes `Loader.Header`, which returns that version -/
theorem header_roundtrip (f : FileE) (h1 : 1 ≤ f.version) (h13 : f.version ≤ 13) (rest : Bytes) :
    header (b!"REDIS" ++ verDigits f.version ++ rest) = some (f.version, rest) :=
  header_file f h1 h13 rest

/-- EOF and checksum: the 8 bytes after the EOF opcode — the little-endian
    CRC-64/Jones of everything before them, or eight zero bytes — pass `Loader.Footer`,
    and the input ends there (`Loader.End`) -/
theorem footer_roundtrip (f : FileE) (hnb : f.footer ≠ .bad) :
    footer (rdbFile f) ((rdbFile f).drop f.body.length) = true ∧
    inputEnds ((rdbFile f).drop f.body.length) = true :=
  ⟨footer_file f hnb, inputEnds_file f⟩

/-! ## The two replay paths -/

/-- RESTORE path: an unsplit value whose payload fits `MaxProtoBulkLen` is sent
    as ONE request `restore key ttl payload [IDLETIME n] [FREQ n]` (and once
    more with REPLACE if the key exists) whose payload is byte for byte the type
    byte, the value's serialization, RDB version 6 and the CRC-64/Jones of all
    that, and whose TTL realises the absolute expiry. -/
theorem restore_path (cfg : RCfg) (db : Int) (ex : Exists) (e : Entry) (k : Bytes) (o : ObjE)
    (hobj : e.obj = pobjOf k o) (hkey : e.key = k) (hk : o.kind ≠ .other)
    (hon : cfg.enableRestore = true) (hsz : 1 + o.ser.length + 2 + 8 ≤ cfg.maxBulk)
    (hload : typeLoadable cfg.x.tgtMajor o.rtype = true) (hrht : cfg.replaceHashTag = false) :
    let payload := [o.rtype] ++ o.ser ++ [6, 0] ++ le64 (crc64Spec ([o.rtype] ++ o.ser ++ [6, 0])).toNat
    let params := [k, natToDec (ttlOf cfg.now e.expireAt), payload] ++
      (if cfg.x.tgtMajor ≥ 5 then
        (if e.idle ≠ 0 then [b!"IDLETIME", natToDec e.idle] else []) ++
        (if e.freq ≠ 0 then [b!"FREQ", natToDec e.freq] else []) else [])
    (replayEntry cfg db ex e).1 =
        (if ex.has db k then [cmdB b!"restore" params, cmdB b!"restore" (params ++ [b!"REPLACE"])]
         else [cmdB b!"restore" params]) ∧ (replayEntry cfg db ex e).2.2 = true := by
  intro payload params
  obtain ⟨hot, hkeyed, _⟩ := pobjOf_facts o hk
  have hr : sendsRestore cfg e.obj = true := by rw [hobj]; exact (sendsRestore_pobjOf cfg k o).mpr ⟨hon, hsz⟩
  have hdump : e.obj.dump = payload := by rw [hobj]; exact dump_payload o.rtype o.ser
  rw [replayEntry_restore cfg db ex e _ (by rw [hobj]; exact hot) hkeyed hr (by rw [hobj]; exact hload),
    entry_key_off cfg e hrht]
  refine ⟨?_, rfl⟩
  show restoreCmds cfg db ex e = _
  simp only [restoreCmds, hkey, hdump]
  rfl

/-- expansion path onto a key that does not exist on the target: the probe,
    the expansion (which rebuilds the value by `expand_roundtrip`), and — iff the
    key has an expiry — `pexpire key ttl`. -/
theorem expand_path (cfg : RCfg) (db : Int) (ex : Exists) (e : Entry) (k : Bytes) (o : ObjE)
    (hobj : e.obj = pobjOf k o) (hkey : e.key = k) (hwf : o.wf) (hk : o.kind ≠ .other)
    (hoff : cfg.enableRestore = false) (hfresh : ex.has db k = false) (hrht : cfg.replaceHashTag = false) :
    (replayEntry cfg db ex e).1 =
      [cmdB b!"exists" [k]] ++ o.cmds k ++
        (if e.expireAt ≠ 0 then [cmdB b!"pexpire" [k, natToDec (ttlOf cfg.now e.expireAt)]] else []) ∧
    (replayEntry cfg db ex e).2.2 = true := by
  obtain ⟨hot, hkeyed, hnm⟩ := pobjOf_facts o hk
  obtain ⟨h1, h2⟩ := replay_expand_whole cfg db ex e k o _ (o.cmds k) hobj hkey hot hkeyed hnm
    (execCmd_pobjOf cfg.x k o hwf hk) (fun hv => by rw [hv.1] at hoff; cases hoff) hrht
  simp only [hfresh, Bool.false_eq_true, if_false, List.append_nil] at h1
  exact ⟨h1, h2⟩

/-- expansion path end to end for one entry (fresh key): ALL requests `Replay`
    issues — probe, expansion, PEXPIRE — replayed through the oracle leave the key
    with the source value AND the time to live that realises its absolute expiry
    (`ttlOf`: remaining ms, 1 = expires at once, 0 = none) -/
theorem expand_path_final (cfg : RCfg) (db : Int) (e : Entry) (k : Bytes) (o : ObjE)
    (hobj : e.obj = pobjOf k o) (hkey : e.key = k) (hwf : o.wf) (hk : o.kind ≠ .other)
    (hne : o.nonempty) (hd : o.members.Nodup) (hoff : cfg.enableRestore = false)
    (hrht : cfg.replaceHashTag = false) :
    applyCmds [] (replayEntry cfg db [] e).1 = some [(k, o.value, ttlOf cfg.now e.expireAt)] := by
  obtain ⟨hreq, _⟩ := expand_path cfg db [] e k o hobj hkey hwf hk hoff rfl hrht
  rw [hreq]
  exact apply_expand [] k (o.cmds k) o.value e.expireAt _ rfl (cmds_frame [] k o hk hne hd rfl)
    (fun h0 => by rw [h0]; exact ttlOf_zero _)

/-! ## TTL and database -/

/-- The TTL handed to RESTORE / PEXPIRE realises the source's absolute expiry:
    `now + ttl = expireAt` while it lies ahead, `1` ms (expires at once) when it
    is already past, `0` (no expiry) only for keys without one. -/
theorem ttl_absolute (now expireAt : Nat) :
    (expireAt = 0 → ttlOf now expireAt = 0) ∧
    (expireAt ≠ 0 → now < expireAt → now + ttlOf now expireAt = expireAt) ∧
    (expireAt ≠ 0 → expireAt ≤ now → ttlOf now expireAt = 1) := by
  unfold ttlOf
  refine ⟨fun h => by simp [h], fun h0 hlt => ?_, fun h0 hle => ?_⟩
  · have : ¬ now ≥ expireAt := by omega
    simp [h0, this]; omega
  · have : now ≥ expireAt := hle
    simp [h0, this]

/-- The database an entry is replayed into: the configured target DB if set,
    else the mapped DB, else the source DB. -/
theorem replay_db (cfg : RCfg) (origin : Int) :
    (cfg.targetDb ≠ -1 → mapDb cfg origin = cfg.targetDb) ∧
    (cfg.targetDb = -1 → ∀ t, cfg.dbMap.find? (fun p => p.1 == origin) = some (origin, t) → mapDb cfg origin = t) ∧
    (cfg.targetDb = -1 → cfg.dbMap.find? (fun p => p.1 == origin) = none → mapDb cfg origin = origin) := by
  unfold mapDb
  refine ⟨fun h => by simp [h], fun h t hf => by simp [h, hf], fun h hf => by simp [h, hf]⟩

/-! ## The whole dataset

`full_sync_partial` composes everything above over a WHOLE snapshot file: header,
every item of the frame, every key with its metadata and value, EOF and checksum —
parsed by the loader model with any chunk threshold, fanned out to ONE worker,
replayed by the replay model under any DB mapping / filter / RESTORE setting, and
the requests of that worker applied to the oracle target (`applyReqs`: numbered
databases, SELECT, keyspace commands) starting from empty databases. -/

/-- **`full_sync_partial`** — for every well-formed dataset `f` (`FileE`: any RDB version
    1…13, any number of databases, AUX fields, SELECTDB / RESIZEDB / slot-info items
    and function libraries between the keys, keys with EXPIRETIME(_MS) / IDLE / FREQ,
    values of EVERY string / list / set / sorted-set / hash encoding, containers raw or
    LZF-compressed, checksum present or disabled), every chunk threshold and module-aux
    policy (`d`), every target version, `fnExists`, RESTORE on/off, `MaxProtoBulkLen`,
    target DB / DB map, clock reading and every DB / key / slot filter (`cfg`):
    `sendRdb` with one worker succeeds (`true`: every entry applied, `Done` reached),
    and its request log applied to a target with empty databases yields, in EVERY
    database `D`, exactly the keys of `f` that are not filtered out and are mapped to
    `D` — in file order, nothing else — each with its value (`Holds`: the logical
    value rebuilt by the expansion, or the object RESTORE creates from the byte-exact
    payload) and the time to live that realises its absolute expiry.

    Hypotheses. `hcar`: no module aux item; values are not streams / module values;
    collections are not empty and their members / fields distinct (what Redis
    stores). `hload`: when RESTORE is enabled the target can load the value types
    (the `Bad data format` fall-back needs an oracle with error replies). `htick`:
    the harness clock stands still during the replay (`ttl_absolute` holds for every
    reading). `hrht`: `ReplaceHashTag` off. `hdb`: the DB mapping yields valid
    (non-negative) indices. `hdistinct`: the replayed keys are distinct per target
    database (true of any snapshot unless a DB map merges databases). -/
theorem full_sync_partial (d : DCfg) (cfg : RCfg) (f : FileE)
    (hwf : f.wf) (hfoot : f.footer ≠ .bad) (hcar : ∀ i ∈ f.items, i.carried)
    (hpar : cfg.parallel = 1) (htick : cfg.tick = 0) (hrht : cfg.replaceHashTag = false)
    (hload : ∀ p ∈ f.keys, cfg.enableRestore = true → typeLoadable cfg.x.tgtMajor p.2.obj.rtype = true)
    (hdb : ∀ n : Nat, cfg.filterDb (n : Int) = false → 0 ≤ mapDb cfg (n : Int))
    (hdistinct : ((f.keys.filter (replayed cfg)).map (fun p => (mapDb cfg (p.1 : Int), p.2.key.val))).Nodup) :
    ∃ log T, sendRdb d cfg [] (rdbFile f) = ([log], true) ∧ applyReqs {} log = some T ∧
      ∀ D, Pointwise (Holds cfg) (expectedKeys cfg D f.keys) (T.dbs D) := by
  obtain ⟨es, w', ex', T', hparse, _, hrun, hfin⟩ := replay_fileS (d := d) (f := f)
    ⟨hwf, hfoot, fun i hi => carriedS_of_carried d cfg i (hcar i hi), htick, hrht, hload, hdb, hdistinct⟩
  obtain ⟨log, hsend, happ⟩ := sendRdb_one d cfg _ es w' ex' {} T' hpar hparse hrun
  exact ⟨log, T', hsend, happ, fun D => holds_of_carried cfg f hcar D _ (hfin D)⟩

/-- what `full_sync_partial` says of a single key: a key of `f` that is not filtered out is
    present in its target database after the sync, with the time to live of its absolute expiry -/
theorem full_sync_key (d : DCfg) (cfg : RCfg) (f : FileE)
    (hwf : f.wf) (hfoot : f.footer ≠ .bad) (hcar : ∀ i ∈ f.items, i.carried)
    (hpar : cfg.parallel = 1) (htick : cfg.tick = 0) (hrht : cfg.replaceHashTag = false)
    (hload : ∀ p ∈ f.keys, cfg.enableRestore = true → typeLoadable cfg.x.tgtMajor p.2.obj.rtype = true)
    (hdb : ∀ n : Nat, cfg.filterDb (n : Int) = false → 0 ≤ mapDb cfg (n : Int))
    (hdistinct : ((f.keys.filter (replayed cfg)).map (fun p => (mapDb cfg (p.1 : Int), p.2.key.val))).Nodup)
    (p : Nat × KeyE) (hp : p ∈ f.keys) (hrep : replayed cfg p = true) :
    ∃ log T, sendRdb d cfg [] (rdbFile f) = ([log], true) ∧ applyReqs {} log = some T ∧
      ∃ x ∈ T.dbs (mapDb cfg (p.1 : Int)), Holds cfg p x := by
  obtain ⟨log, T, h1, h2, h3⟩ := full_sync_partial d cfg f hwf hfoot hcar hpar htick hrht hload hdb hdistinct
  refine ⟨log, T, h1, h2, ?_⟩
  have hmem : p ∈ expectedKeys cfg (mapDb cfg (p.1 : Int)) f.keys := by
    simp [expectedKeys, hp, hrep]
  have key : ∀ (as : List (Nat × KeyE)) (bs : List (Bytes × Val × Nat)), Pointwise (Holds cfg) as bs →
      p ∈ as → ∃ x ∈ bs, Holds cfg p x := by
    intro as bs h
    induction h with
    | nil => intro h; cases h
    | cons hab _ ih =>
      intro h
      rcases List.mem_cons.mp h with rfl | h
      · exact ⟨_, List.mem_cons_self .., hab⟩
      · obtain ⟨x, hx, hh⟩ := ih h
        exact ⟨x, List.mem_cons_of_mem _ hx, hh⟩
  exact key _ _ (h3 _) hmem

/-! ## Any number of workers

The target with one connection per worker is `MState` (`applySched`: a schedule of
requests tagged with their connection; every connection has its own selected
database, the keyspaces are shared; requests are atomic). -/

/-- the number of workers is irrelevant — for ANY entries the loader can produce
    (an entry without database is a function library; values of every kind, stream values
    included: whatever buffer `ExecCmd` of a stream runs on, it emits
    XADD / XSETID / XGROUP / XCLAIM only, `execStream_names`), any
    existence table and any two numbers of workers: replaying the entries in
    snapshot order, each on the connection of the worker the fan-out routes it to,
    leaves the same keyspaces in every database (or fails on both), and the tool
    reports the same success. (Each worker switches ITS connection to the entry's
    database before it issues the entry's requests, and what it issues does not
    depend on the worker: `step_M`, `fanOut_dbs`.) -/
theorem fanout_workers_irrelevant (cfg : RCfg) (es : List Entry) (ex : Exists) (n1 n2 : Nat)
    (h1 : 0 < n1) (h2 : 0 < n2) (htick : cfg.tick = 0)
    (hdb : ∀ n : Nat, cfg.filterDb (n : Int) = false → 0 ≤ mapDb cfg (n : Int))
    (hes : ∀ e ∈ es, (e.db = -1 ∧ e.obj.rtype = 0xF5) ∨ ∃ n : Nat, e.db = (n : Int)) :
    (applySched {} (schedOf (fanOutTrace cfg es 0 (List.replicate n1 {}) ex))).map (·.dbs) =
      (applySched {} (schedOf (fanOutTrace cfg es 0 (List.replicate n2 {}) ex))).map (·.dbs) ∧
    (fanOut cfg es 0 (List.replicate n1 {}) ex).2.2 = (fanOut cfg es 0 (List.replicate n2 {}) ex).2.2 := by
  have a := fanOut_dbs cfg htick hdb es hes 0 (List.replicate n1 {}) ex {} (by simpa using h1)
    (fun j _ => getD_replicate_cur n1 j)
  have b := fanOut_dbs cfg htick hdb es hes 0 (List.replicate n2 {}) ex {} (by simpa using h2)
    (fun j _ => getD_replicate_cur n2 j)
  exact ⟨a.1.trans b.1.symm, a.2.trans b.2.symm⟩

/-- requests on different keys commute on the oracle: for any two commands of the plain
    kinds (SET, DEL, EXISTS, PEXPIRE, RPUSH, SADD, ZADD, HSET, RESTORE — everything the
    replay of strings, lists, sets, sorted sets and hashes issues) that name different
    keys, from ANY keyspace: either order fails, or both orders succeed with the same
    value and time to live under every key (`KEq`; only the order of the key list may
    differ). Every such command is LOCAL to its key (`local_applyXCmd`: reply and
    update are a function of the key's own state). -/
theorem oracle_keys_commute (c1 c2 : Cmd) (k1 k2 : Bytes) (r1 r2 : List Arg) (ks : Keyspace)
    (h1 : c1.args = .b k1 :: r1) (h2 : c2.args = .b k2 :: r2)
    (n1 : lower c1.name ∈ plainNames) (n2 : lower c2.name ∈ plainNames) (hne : k1 ≠ k2) :
    ORel KEq ((applyXCmd ks c1).bind (fun ks' => applyXCmd ks' c2))
             ((applyXCmd ks c2).bind (fun ks' => applyXCmd ks' c1)) :=
  local_commute (local_applyXCmd c1 k1 r1 h1 n1) (local_applyXCmd c2 k2 r2 h2 n2) hne ks

/-- **`fanout_parallel_partial`** — `full_sync_partial` for ANY number of workers
    (`parallel = n ≥ 1`): `sendRdb` succeeds with `n` request logs, and there is a
    schedule of all requests — snapshot order, `schedOf (fanOutTrace …)` — whose
    projection to every connection `j` is exactly worker `j`'s log and which leaves on
    the target, in every database, exactly the keys `full_sync_partial` names, with
    their values and times to live. (`fanout_parallel` extends this to EVERY
    interleaving of the `n` logs.) -/
theorem fanout_parallel_partial (d : DCfg) (cfg : RCfg) (f : FileE)
    (hwf : f.wf) (hfoot : f.footer ≠ .bad) (hcar : ∀ i ∈ f.items, i.carried)
    (htick : cfg.tick = 0) (hrht : cfg.replaceHashTag = false)
    (hload : ∀ p ∈ f.keys, cfg.enableRestore = true → typeLoadable cfg.x.tgtMajor p.2.obj.rtype = true)
    (hdb : ∀ n : Nat, cfg.filterDb (n : Int) = false → 0 ≤ mapDb cfg (n : Int))
    (hdistinct : ((f.keys.filter (replayed cfg)).map (fun p => (mapDb cfg (p.1 : Int), p.2.key.val))).Nodup)
    (n : Nat) (hn : 1 ≤ n) (hpar : cfg.parallel = n) :
    ∃ logs sched M, sendRdb d cfg [] (rdbFile f) = (logs, true) ∧ logs.length = n ∧
      (∀ j, j < n → (sched.filter (fun p => p.1 == j)).map (·.2) = logs.getD j []) ∧
      applySched {} sched = some M ∧
      ∀ D, Pointwise (Holds cfg) (expectedKeys cfg D f.keys) (M.dbs D) := by
  obtain ⟨es, w', ex', T', hparse, htr, hrun, hfin⟩ := replay_fileS (d := d) (f := f)
    ⟨hwf, hfoot, fun i hi => carriedS_of_carried d cfg i (hcar i hi), htick, hrht, hload, hdb, hdistinct⟩
  obtain ⟨logs, M, h1, h2, h3, h4, h5⟩ :=
    fanout_of_single d cfg _ es w' ex' T' htick hdb hparse (trace_ok htr) hrun n hn hpar
  exact ⟨logs, _, M, h1, h2, h3, h4, fun D => by rw [h5]; exact holds_of_carried cfg f hcar D _ (hfin D)⟩

/-- **`fanout_parallel`** — the final keyspace does not depend on the number of workers NOR
    on how their requests interleave: for `parallel = n ≥ 1`, `sendRdb` succeeds with `n`
    request logs, and EVERY schedule of all requests (requests are atomic; any order
    that keeps each connection's own order, i.e. whose projection to connection `j` is
    worker `j`'s log) succeeds on the target with one connection per worker and leaves,
    under every key of every database, the value and time to live of the snapshot-order
    result `M0` (`KEq`: the same keys with the same contents; only the order in which the
    key list enumerates them may differ) — and `M0` holds exactly the keys
    `full_sync_partial` names. Proof: a worker's log consists of SELECT, SCRIPT/FUNCTION
    and plain commands local to one key (`local_applyXCmd`); every key is routed to one
    worker (`fnv(key) mod n`), so requests of different workers never name the same
    key and commute (`oracle_keys_commute`, `tagged_comm`); two schedules with the same
    per-connection projections are then connected by swaps of adjacent independent
    requests (`sched_indep`). Same hypotheses as `full_sync_partial` (without `hpar`). -/
theorem fanout_parallel (d : DCfg) (cfg : RCfg) (f : FileE)
    (hwf : f.wf) (hfoot : f.footer ≠ .bad) (hcar : ∀ i ∈ f.items, i.carried)
    (htick : cfg.tick = 0) (hrht : cfg.replaceHashTag = false)
    (hload : ∀ p ∈ f.keys, cfg.enableRestore = true → typeLoadable cfg.x.tgtMajor p.2.obj.rtype = true)
    (hdb : ∀ n : Nat, cfg.filterDb (n : Int) = false → 0 ≤ mapDb cfg (n : Int))
    (hdistinct : ((f.keys.filter (replayed cfg)).map (fun p => (mapDb cfg (p.1 : Int), p.2.key.val))).Nodup)
    (n : Nat) (hn : 1 ≤ n) (hpar : cfg.parallel = n) :
    ∃ (logs : List (List Cmd)) (M0 : MState), sendRdb d cfg [] (rdbFile f) = (logs, true) ∧ logs.length = n ∧
      (∀ D, Pointwise (Holds cfg) (expectedKeys cfg D f.keys) (M0.dbs D)) ∧
      ∀ sched : List (Nat × Cmd),
        (∀ j, (sched.filter (fun p => p.1 == j)).map (·.2) = logs.getD j []) →
        ∃ M, applySched {} sched = some M ∧ ∀ D, KEq (M.dbs D) (M0.dbs D) := by
  obtain ⟨es, w', ex', T', hparse, htr, hrun, hfin⟩ := replay_fileS (d := d) (f := f)
    ⟨hwf, hfoot, fun i hi => carriedS_of_carried d cfg i (hcar i hi), htick, hrht, hload, hdb, hdistinct⟩
  obtain ⟨logs, M0, h1, h2, h3, h4, h5⟩ :=
    fanout_of_single d cfg _ es w' ex' T' htick hdb hparse (trace_ok htr) hrun n hn hpar
  rw [stripAux_carried f.items hcar] at htr
  refine ⟨logs, M0, h1, h2, fun D => by rw [h5]; exact holds_of_carried cfg f hcar D _ (hfin D), fun sched hsched => ?_⟩
  have hrel := interleavings_agree cfg htick hrht es (trace_keyed htr hcar) n hn logs h2 h3 sched hsched
  rw [h4] at hrel
  cases hs : applySched {} sched with
  | none => rw [hs] at hrel; exact hrel.elim
  | some M => rw [hs] at hrel; exact ⟨M, rfl, fun D k => (hrel.2 D k).symm⟩

/-! ## The whole dataset, with streams, module values and module aux items -/

/-- **`full_sync_streams`** — `full_sync_partial` lifted to datasets WITH stream values
    (RDB types 15 / 19 / 21 / 26: entries, last id, counters, consumer groups, PELs),
    module values (type 7) and module aux items. For every well-formed dataset `f` whose
    items are `carriedS` — as before for strings / lists / sets / sorted sets / hashes;
    streams `sound` (what Redis guarantees, see `stream_roundtrip`); module values only
    where they can travel by RESTORE (otherwise the tool refuses the sync, by design);
    module aux items only under the `skip` policy (`d.failModAux = false`; under `fail`
    the tool refuses the snapshot, by design) — and every configuration as in
    `full_sync_partial`: `sendRdb` with one worker succeeds and its request log applied
    to a target with empty databases leaves, in EVERY database, exactly the unfiltered
    keys of `f` mapped there, in file order, each with the time to live of its absolute
    expiry and its value (`HoldsS`): for a stream either the object RESTORE creates from
    the byte-exact payload (type + serialization + version + CRC64; `raw_is_encode_opaque`)
    or — RESTORE off / payload above `MaxProtoBulkLen` — the logical stream `StreamE.xval`
    rebuilt by XADD / XSETID / XGROUP CREATE / XCLAIM; for a module value the restored
    object. Module aux items leave no request. Remaining hypotheses: `hload`, `htick`,
    `hrht`, `hdb`, `hdistinct`, `hpar` as in `full_sync_partial`. -/
theorem full_sync_streams (d : DCfg) (cfg : RCfg) (f : FileE)
    (hwf : f.wf) (hfoot : f.footer ≠ .bad) (hcar : ∀ i ∈ f.items, i.carriedS d cfg)
    (hpar : cfg.parallel = 1) (htick : cfg.tick = 0) (hrht : cfg.replaceHashTag = false)
    (hload : ∀ p ∈ f.keys, cfg.enableRestore = true → typeLoadable cfg.x.tgtMajor p.2.obj.rtype = true)
    (hdb : ∀ n : Nat, cfg.filterDb (n : Int) = false → 0 ≤ mapDb cfg (n : Int))
    (hdistinct : ((f.keys.filter (replayed cfg)).map (fun p => (mapDb cfg (p.1 : Int), p.2.key.val))).Nodup) :
    ∃ log T, sendRdb d cfg [] (rdbFile f) = ([log], true) ∧ applyReqs {} log = some T ∧
      ∀ D, Pointwise (HoldsS cfg) (expectedKeys cfg D f.keys) (T.dbs D) := by
  obtain ⟨es, w', ex', T', hparse, _, hrun, hfin⟩ := replay_fileS (d := d) (f := f)
    ⟨hwf, hfoot, hcar, htick, hrht, hload, hdb, hdistinct⟩
  obtain ⟨log, hsend, happ⟩ := sendRdb_one d cfg _ es w' ex' {} T' hpar hparse hrun
  exact ⟨log, T', hsend, happ, hfin⟩

/-- **`fanout_parallel_streams`** — `full_sync_streams` for ANY number of workers
    (`parallel = n ≥ 1`), snapshot-order schedule: `sendRdb` succeeds with `n` request logs,
    and the schedule of all requests in snapshot order — whose projection to every
    connection `j` is exactly worker `j`'s log — leaves on the target with one connection
    per worker, in every database, exactly the keys `full_sync_streams` names, with their
    values (streams, module values included) and times to live. The number of workers is
    irrelevant for entries of every kind (`fanout_workers_irrelevant`). Open for streams:
    OTHER interleavings of the workers' requests (`fanout_parallel` proves them for the
    other kinds; XGROUP / XCLAIM are not in `plainNames`). -/
theorem fanout_parallel_streams (d : DCfg) (cfg : RCfg) (f : FileE)
    (hwf : f.wf) (hfoot : f.footer ≠ .bad) (hcar : ∀ i ∈ f.items, i.carriedS d cfg)
    (htick : cfg.tick = 0) (hrht : cfg.replaceHashTag = false)
    (hload : ∀ p ∈ f.keys, cfg.enableRestore = true → typeLoadable cfg.x.tgtMajor p.2.obj.rtype = true)
    (hdb : ∀ n : Nat, cfg.filterDb (n : Int) = false → 0 ≤ mapDb cfg (n : Int))
    (hdistinct : ((f.keys.filter (replayed cfg)).map (fun p => (mapDb cfg (p.1 : Int), p.2.key.val))).Nodup)
    (n : Nat) (hn : 1 ≤ n) (hpar : cfg.parallel = n) :
    ∃ logs sched M, sendRdb d cfg [] (rdbFile f) = (logs, true) ∧ logs.length = n ∧
      (∀ j, j < n → (sched.filter (fun p => p.1 == j)).map (·.2) = logs.getD j []) ∧
      applySched {} sched = some M ∧
      ∀ D, Pointwise (HoldsS cfg) (expectedKeys cfg D f.keys) (M.dbs D) := by
  obtain ⟨es, w', ex', T', hparse, htr, hrun, hfin⟩ := replay_fileS (d := d) (f := f)
    ⟨hwf, hfoot, hcar, htick, hrht, hload, hdb, hdistinct⟩
  obtain ⟨logs, M, h1, h2, h3, h4, h5⟩ :=
    fanout_of_single d cfg _ es w' ex' T' htick hdb hparse (trace_ok htr) hrun n hn hpar
  exact ⟨logs, _, M, h1, h2, h3, h4, fun D => by rw [h5]; exact hfin D⟩

/-- every dataset `full_sync_partial` carries is carried by `full_sync_streams`
    (`carried → carriedS`), with the same per-key result (`HoldsS` = `Holds` off streams) -/
theorem carried_carriedS (d : DCfg) (cfg : RCfg) (i : Item) (h : i.carried) : i.carriedS d cfg :=
  carriedS_of_carried d cfg i h

/-! ## Onto a key that EXISTS on the target (re-sync), expansion path -/

/-- **`expand_path_existing`** — an unsplit value (any string / list / set / sorted-set / hash
    encoding, or a stream) that does not travel by RESTORE, replayed onto a key the target
    ALREADY HOLDS (policy `replace`): `Replay` issues the probe, `DEL key`, the expansion, and
    PEXPIRE iff the key has an expiry; it succeeds, and whatever the key held before — another
    type, a stream with a higher last id, other groups and pending entries, a time to live —
    is gone: the keyspace is the old one without the key, plus the key with exactly its
    logical value and the time to live of its absolute expiry (for a stream: XADD would be
    refused "equal or smaller" and XGROUP CREATE "BUSYGROUP" had the DEL been missed). -/
theorem expand_path_existing (cfg : RCfg) (db : Int) (ex : Exists) (e : Entry) (k : Bytes) (o : ObjE) (ks : Keyspace)
    (hobj : e.obj = pobjOf k o) (hkey : e.key = k)
    (hcar : (o.kind ≠ .other ∧ o.wf ∧ o.nonempty ∧ o.members.Nodup) ∨ (∃ s, o = .stream s ∧ s.wf ∧ s.sound))
    (hnv : ¬ viaRestore cfg o) (hrht : cfg.replaceHashTag = false) (hex : ex.has db k = true) :
    (replayEntry cfg db ex e).1 =
      [cmdB b!"exists" [k], cmdB b!"del" [k]] ++ o.cmdsS cfg.x k ++
        (if e.expireAt ≠ 0 then [cmdB b!"pexpire" [k, natToDec (ttlOf cfg.now e.expireAt)]] else []) ∧
    (replayEntry cfg db ex e).2.2 = true ∧
    applyCmds ks (replayEntry cfg db ex e).1 =
      some (del ks k ++ [(k, o.valueS cfg.x, ttlOf cfg.now e.expireAt)]) := by
  obtain ⟨ot, hot, hk, hnm, hexec, _, happ⟩ := expansion_spec cfg.x k o hcar
  obtain ⟨h1, h2⟩ := replay_expand_whole cfg db ex e k o ot _ hobj hkey hot hk hnm hexec hnv hrht
  simp only [hex, if_true] at h1
  refine ⟨h1, h2, ?_⟩
  rw [h1]
  exact apply_expand_existing ks k _ _ e.expireAt _ happ (fun h0 => by rw [h0]; exact ttlOf_zero _)

/-! ## The `Bad data format` fall-back (hypothesis `hload`), entry level

`RedisSem.applyCmdsV v` is the oracle of a target of major version `v`: RESTORE of a value
type it cannot load is answered with an error and has no effect. -/

/-- **`restore_fallback_path`** — an unsplit value (any string / list / set / sorted-set /
    hash encoding, or a stream) whose RESTORE payload fits but whose type the target
    cannot load (e.g. a listpack hash or a type-21 stream into Redis 6): `Replay` issues
    `restore key ttl payload …` — refused: `Bad data format` — and then, for a key that
    does not exist, the SAME requests as with RESTORE off: probe, the expansion, PEXPIRE
    iff the key has an expiry (defect G1 repaired: it had skipped probe and PEXPIRE);
    it succeeds, and on a target of that version the requests leave the key with its
    logical value and the time to live of its absolute expiry, everything else untouched. -/
theorem restore_fallback_path (cfg : RCfg) (db : Int) (ex : Exists) (e : Entry) (k : Bytes) (o : ObjE) (ks : Keyspace)
    (hobj : e.obj = pobjOf k o) (hkey : e.key = k)
    (hcar : (o.kind ≠ .other ∧ o.wf ∧ o.nonempty ∧ o.members.Nodup) ∨ (∃ s, o = .stream s ∧ s.wf ∧ s.sound))
    (hv : viaRestore cfg o) (hnl : typeLoadable cfg.x.tgtMajor o.rtype = false)
    (hrht : cfg.replaceHashTag = false) (hex : ex.has db k = false) (hfresh : get ks k = none) :
    (∃ opts, (replayEntry cfg db ex e).1 =
      cmdB b!"restore" (k :: natToDec (ttlOf cfg.now e.expireAt) :: createValueDump o.rtype o.ser :: opts) ::
        ([cmdB b!"exists" [k]] ++ o.cmdsS cfg.x k ++
          (if e.expireAt ≠ 0 then [cmdB b!"pexpire" [k, natToDec (ttlOf cfg.now e.expireAt)]] else []))) ∧
    (replayEntry cfg db ex e).2.2 = true ∧
    applyCmdsV cfg.x.tgtMajor ks (replayEntry cfg db ex e).1 =
      some (ks ++ [(k, o.valueS cfg.x, ttlOf cfg.now e.expireAt)]) := by
  obtain ⟨ot, hot, hk, hnm, hexec, hnames, happ⟩ := expansion_spec cfg.x k o hcar
  exact restore_fallback_core cfg db ex e k o ks ot _ _ hobj hkey hot hk hnm hexec (fun c hc => (hnames c hc).2)
    (happ ks hfresh) hv hnl hrht hex hfresh

/-- what is STILL open of the whole-file statement (listed `partial`): `full_sync_streams`
    WITHOUT the hypothesis `hload`, on the version-aware target `applyReqsV` — a value whose
    RESTORE the target refuses arrives expanded (`HoldsV`; `restore_fallback_path` is the
    single-entry step of it). Also open, not in this statement: `ReplaceHashTag`, a clock
    that advances during the replay, streams under more than one worker. -/
def full_sync_stmt : Prop :=
  ∀ (d : DCfg) (cfg : RCfg) (f : FileE),
    f.wf → f.footer ≠ .bad → (∀ i ∈ f.items, i.carriedS d cfg) →
    cfg.parallel = 1 → cfg.tick = 0 → cfg.replaceHashTag = false →
    (∀ n : Nat, cfg.filterDb (n : Int) = false → 0 ≤ mapDb cfg (n : Int)) →
    ((f.keys.filter (replayed cfg)).map (fun p => (mapDb cfg (p.1 : Int), p.2.key.val))).Nodup →
    ∃ log T, sendRdb d cfg [] (rdbFile f) = ([log], true) ∧ applyReqsV cfg.x.tgtMajor {} log = some T ∧
      ∀ D, Pointwise (HoldsV cfg) (expectedKeys cfg D f.keys) (T.dbs D)

/-! Non-vacuity / check values -/

-- CRC-64/Jones("123456789") = 0xe9c6d914c4b8d9ca (Redis crc64.c test vector)
example : (crc64Spec [49,50,51,52,53,54,55,56,57]).toNat = 0xe9c6d914c4b8d9ca := by decide +kernel
example : (crc64Tab [49,50,51,52,53,54,55,56,57]).toNat = 0xe9c6d914c4b8d9ca := by decide +kernel
-- DUMP of the string "a" (type 0, raw 01 61): 13 bytes, accepted by a Redis 7 (RDB 10) server
example : (createValueDump 0 [1, 97]).length = 13 := by decide +kernel
example : verifyDumpPayload 10 (createValueDump 0 [1, 97]) = true := by decide +kernel
-- a flipped payload byte is rejected
example : verifyDumpPayload 10 ((createValueDump 0 [1, 97]).set 2 98) = false := by decide +kernel

/-! Non-vacuity of the encoding theorems: concrete descriptions meeting every hypothesis -/

-- an LZF string with an overlapping back reference: "ab" + 10 bytes copied from 2 back
example : (SE.lzf .b6 .b6 [.lit [97, 98], .ref 2 10]).wf := by decide
example : (SE.lzf .b6 .b6 [.lit [97, 98], .ref 2 10]).val = [97,98,97,98,97,98,97,98,97,98,97,98] := by decide
-- a ziplist with unknown length, a 5-byte prevlen and the negative 24-bit integer -2 (D9, D10)
def exZl : ZL := { entries := [(false, .i24 (-2)), (true, .s6 [97]), (false, .i4 12)], unknown := true }
example : exZl.wf := by decide
example : exZl.vals = [[45, 50], [97], [49, 50]] := by decide
example : zlAll exZl.blob = some [[45, 50], [97], [49, 50]] := ziplist_roundtrip exZl (by decide)
-- a hash saved as that ziplist would need an even entry count; a list takes it as it is
def exList : ObjE := .listZiplist (SE.plain exZl.blob) exZl
example : exList.wf ∧ exList.kind ≠ .other ∧ exList.nonempty ∧ exList.members.Nodup := by decide
-- a sorted set in a listpack: member "m" ↦ score token "-3" (13-bit integer), member 7 ↦ "1.5"
def exZsetLp : List LPEntry := [.s6 [109], .i13 (-3), .u7 7, .s6 [49, 46, 53]]
def exZset : ObjE := .zsetListpack (SE.plain (lpBlob exZsetLp)) exZsetLp
example : exZset.wf ∧ exZset.kind ≠ .other ∧ exZset.nonempty ∧ exZset.members.Nodup := by decide
example : exZset.value = .zset [([109], .b [45, 51]), ([55], .b [49, 46, 53])] := by decide
-- an intset of width 2 and a quicklist v2 with a plain and a packed node
def exSet : ObjE := .setIntset (SE.plain (intsetBlob 2 [-32768, 5])) 2 [-32768, 5]
example : exSet.wf ∧ exSet.kind ≠ .other ∧ exSet.nonempty ∧ exSet.members.Nodup := by decide
def exQl2 : ObjE := .listQuick2 .b6 [.plain (.int8 (-5)), .packed (SE.plain (lpBlob [.i64 (-1), .s12 [120]])) [.i64 (-1), .s12 [120]]]
example : exQl2.wf ∧ exQl2.kind ≠ .other ∧ exQl2.nonempty ∧ exQl2.members.Nodup := by decide
example : exQl2.value = .list [[45, 53], [45, 49], [120]] := by decide
-- a stream node: master 1-1 with fields a b; entries 1-1 {a 1 b 2} (same fields), 1-2 {c 3}, deleted 1-3, 1-4 {a 4 b 5}
def exEntries : List SEntryE :=
  [{ deleted := false, same := true, msDelta := .u7 0, seqDelta := .u7 0, items := [.u7 1, .u7 2] },
   { deleted := false, same := false, msDelta := .u7 0, seqDelta := .u7 1, items := [.s6 [99], .u7 3] },
   { deleted := true, same := true, msDelta := .u7 0, seqDelta := .i13 2, items := [.u7 7, .u7 7] },
   { deleted := false, same := true, msDelta := .u7 0, seqDelta := .i16 3, items := [.u7 4, .u7 5] }]
def exNode0 : SNodeE :=
  { w := SE.plain [], masterMs := 1, masterSeq := 1, masterFields := [.s6 [97], .s6 [98]], entries := exEntries }
def exNode : SNodeE := { exNode0 with w := SE.plain exNode0.blob }
example : exNode.wf := by decide +kernel
theorem exNode_idWf : ∀ e ∈ exNode.entries, e.idWf exNode.masterMs exNode.masterSeq := by
  intro e he
  have he' : e ∈ exEntries := he
  simp only [exEntries, List.mem_cons, List.mem_nil_iff, or_false] at he'
  rcases he' with rfl | rfl | rfl | rfl <;>
    exact ⟨_, _, rfl, rfl, by decide, by decide, by decide, by decide⟩
example : exNode.live = [([49,45,49], [[97],[49],[98],[50]]), ([49,45,50], [[99],[51]]), ([49,45,52], [[97],[52],[98],[53]])] := by
  decide +kernel
-- a hash table of three pairs with threshold 1 byte is read as THREE chunks
def exHashKey : KeyE :=
  { exp := .ms 5000, key := SE.plain [104],
    obj := .hashTable .b6 [(SE.plain [97], SE.plain [49]), (SE.plain [98], SE.plain [50]), (SE.plain [99], SE.plain [51])] }
example : exHashKey.wf := by decide
example : (nextValue { thr := 1 } 4 {} (exHashKey.enc ++ [0xFF])).map (fun r => (r.1.length, r.1.map (·.expireAt), r.2.2)) =
    some (3, [5000, 5000, 5000], [0xFF]) := by decide +kernel
-- restore_path / expand_path / expand_path_final on the list of `exList`, key "l", expiry 6000 at clock 5000
def exEntry : Entry := { db := 0, key := [108], type := 10, expireAt := 6000, obj := pobjOf [108] exList }
example : (replayEntry { enableRestore := true, now := 5000 } 0 [] exEntry).2.2 = true :=
  (restore_path { enableRestore := true, now := 5000 } 0 [] exEntry [108] exList rfl rfl (by decide) rfl
    (by decide) (by decide) rfl).2
example : applyCmds [] (replayEntry { enableRestore := false, now := 5000 } 0 [] exEntry).1 =
    some [([108], exList.value, 1000)] :=
  expand_path_final { enableRestore := false, now := 5000 } 0 exEntry [108] exList rfl rfl (by decide) (by decide)
    (by decide) (by decide) rfl rfl
-- TTL: expiry 1000 ms ahead / already past
example : ttlOf 5000 6000 = 1000 ∧ ttlOf 5000 4000 = 1 ∧ ttlOf 5000 0 = 0 := by decide

-- full_sync_partial on a file with an AUX field, three databases, RESIZEDB, a function library, a string
-- with expiry, the three-pair hash table of `exHashKey` (threshold 1: three chunks) and the list `exList`
def exFile : FileE :=
  { version := 9,
    items := [.aux (SE.plain [118]) (SE.plain [55]), .selectDb .b6 1, .resizeDb .b6 2 .b6 1,
              .key { exp := .ms 6000, key := SE.plain [115], obj := .str (SE.plain [118]) },
              .key exHashKey, .function (SE.plain [1, 2, 3]), .selectDb .b6 2,
              .key { key := SE.plain [108], obj := exList }] }
theorem exFile_ok : exFile.wf ∧ (∀ i ∈ exFile.items, i.carried) := by decide
example : exFile.wf ∧ (∀ i ∈ exFile.items, i.carried) := exFile_ok
example : (exFile.keys.map (fun p => (p.1, p.2.key.val))) = [(1, [115]), (1, [104]), (2, [108])] := by decide
example : ∃ log T, sendRdb { thr := 1 } { enableRestore := false, now := 5000 } [] (rdbFile exFile) = ([log], true) ∧
    applyReqs {} log = some T ∧
    ∀ D, Pointwise (Holds { enableRestore := false, now := 5000 })
      (expectedKeys { enableRestore := false, now := 5000 } D exFile.keys) (T.dbs D) :=
  full_sync_partial { thr := 1 } { enableRestore := false, now := 5000 } exFile exFile_ok.1 (by decide) exFile_ok.2
    rfl rfl rfl (fun _ _ h => by cases h) (fun n _ => by simp [mapDb]) (by decide)
-- … and with RESTORE on (target 8.x), the whole hash under the default threshold, DB 1 mapped to 7, key "s" filtered out
def exCfg : RCfg := { x := { tgtMajor := 8 }, now := 5000, dbMap := [(1, 7)], filterKey := fun k => k == [115] }
example : ∃ log T, sendRdb {} exCfg [] (rdbFile exFile) = ([log], true) ∧ applyReqs {} log = some T ∧
    ∃ x ∈ T.dbs 7, Holds exCfg (1, exHashKey) x :=
  full_sync_key {} exCfg exFile exFile_ok.1 (by decide) exFile_ok.2 rfl rfl rfl
    (fun _ _ _ => by simp [typeLoadable, exCfg])
    (fun n _ => by
      unfold mapDb
      simp only [exCfg, ne_eq, not_true_eq_false, if_false, List.find?]
      cases h : ((1 : Int) == (n : Int)) <;> simp <;> omega)
    (by decide) (1, exHashKey) (by simp [FileE.keys, exFile, keysFrom, dbAfter]) (by decide)
-- the same file with three workers
example : ∃ logs sched M, sendRdb { thr := 1 } { enableRestore := false, now := 5000, parallel := 3 } []
      (rdbFile exFile) = (logs, true) ∧ logs.length = 3 ∧
    (∀ j, j < 3 → (sched.filter (fun p => p.1 == j)).map (·.2) = logs.getD j []) ∧
    applySched {} sched = some M ∧
    ∀ D, Pointwise (Holds { enableRestore := false, now := 5000, parallel := 3 })
      (expectedKeys { enableRestore := false, now := 5000, parallel := 3 } D exFile.keys) (M.dbs D) :=
  fanout_parallel_partial { thr := 1 } { enableRestore := false, now := 5000, parallel := 3 } exFile exFile_ok.1
    (by decide) exFile_ok.2 rfl rfl (fun _ _ h => by cases h) (fun n _ => by simp [mapDb]) (by decide) 3 (by decide) rfl
-- … and every interleaving of the three workers' requests
example : ∃ (logs : List (List Cmd)) (M0 : MState),
    sendRdb { thr := 1 } { enableRestore := false, now := 5000, parallel := 3 } [] (rdbFile exFile) = (logs, true) ∧
    logs.length = 3 ∧
    (∀ D, Pointwise (Holds { enableRestore := false, now := 5000, parallel := 3 })
      (expectedKeys { enableRestore := false, now := 5000, parallel := 3 } D exFile.keys) (M0.dbs D)) ∧
    ∀ sched : List (Nat × Cmd), (∀ j, (sched.filter (fun p => p.1 == j)).map (·.2) = logs.getD j []) →
      ∃ M, applySched {} sched = some M ∧ ∀ D, KEq (M.dbs D) (M0.dbs D) :=
  fanout_parallel { thr := 1 } { enableRestore := false, now := 5000, parallel := 3 } exFile exFile_ok.1
    (by decide) exFile_ok.2 rfl rfl (fun _ _ h => by cases h) (fun n _ => by simp [mapDb]) (by decide) 3 (by decide) rfl


/-! Non-vacuity of the stream / module / fall-back theorems -/

-- a type-21 stream over `exNode` (live 1-1, 1-2, 1-4; 1-3 deleted): last id 1-4, 4 entries added,
-- max deleted 1-3; one group "g" (last delivered 1-2, 2 entries read) whose PEL holds 1-1 (consumer
-- "a", delivered twice at 1000), 1-2 (consumer "b", once at 1001) and 1-3 - the DELETED entry - (consumer
-- "d"); consumer "c" has nothing pending
def exStream : StreamE :=
  { ver := 3, nodes := [exNode], length := 3, lastMs := 1, lastSeq := 4, firstMs := 1, firstSeq := 1,
    maxDelMs := 1, maxDelSeq := 3, entriesAdded := 4,
    groups := [{ name := SE.plain [103], lastMs := 1, lastSeq := 2, entriesRead := 2,
                 pel := [⟨1, 1, 1000, 2⟩, ⟨1, 2, 1001, 1⟩, ⟨1, 3, 1002, 1⟩],
                 consumers := [⟨SE.plain [97], 5, 6, [(1, 1)]⟩, ⟨SE.plain [98], 5, 6, [(1, 2)]⟩,
                               ⟨SE.plain [99], 7, 7, []⟩, ⟨SE.plain [100], 8, 8, [(1, 3)]⟩] }] }
theorem exStream_wf : exStream.wf := by decide +kernel
theorem exStream_sound : exStream.sound := by
  refine ⟨by decide, by decide, by decide, ?_, by decide +kernel, by decide +kernel, by decide +kernel,
    by decide, by decide, by unfold SIdmpE.sizes; decide, by unfold StreamE.counters; decide +kernel⟩
  intro n hn
  have : n = exNode := by simpa [exStream] using hn
  subst this
  exact exNode_idWf
-- its logical value on a Redis 7 target …
example : exStream.xval { tgtMajor := 7 } =
    { entries := [⟨b!"1-1", [[97],[49],[98],[50]]⟩, ⟨b!"1-2", [[99],[51]]⟩, ⟨b!"1-4", [[97],[52],[98],[53]]⟩],
      lastId := b!"1-4", entriesAdded := some b!"4", maxDeleted := some b!"1-3",
      groups := [⟨[103], b!"1-2", some b!"2",
        [⟨b!"1-1", [97], b!"1000", b!"2"⟩, ⟨b!"1-2", [98], b!"1001", b!"1"⟩], [[97], [98], [99]]⟩] } := by decide +kernel
-- (the pending id 1-3 of the deleted entry, and with it consumer "d", cannot be recreated by commands;
--  the idle consumer "c" is created by XGROUP CREATECONSUMER on a 6.2+ target: repair of C03-F1)
-- … and on a Redis 6 target (no counters); the consumers that are recreated
example : (exStream.xval { tgtMajor := 6 }).entriesAdded = none ∧
    ((exStream.xval { tgtMajor := 6 }).groups.map (·.entriesRead)) = [none] := by decide +kernel
example : exStream.groups.map (SGroupE.consumersX exStream) = [[[97], [98]]] ∧
    exStream.groups.map (SGroupE.consumersIdeal { tgtMajor := 6 } exStream) = [[[97], [98]]] ∧
    exStream.groups.map (SGroupE.consumersIdeal { tgtMajor := 6, tgtMinor := 2 } exStream) = [[[97], [98], [99]]] := by
  decide +kernel
example : ∀ g ∈ exStream.groups, g.pelPartition := by
  intro g hg
  simp only [exStream, List.mem_singleton] at hg
  subst hg
  exact ⟨by decide, by decide⟩
-- the expansion: 3 XADD, XSETID, XGROUP CREATE, XCLAIM (a), XCLAIM (b), XGROUP CREATECONSUMER (c; nothing for it on a
-- target older than 6.2), XCLAIM (d: ignored by the target)
example : (exStream.cmds { tgtMajor := 7 } [115]).map (·.name) =
    [b!"XADD", b!"XADD", b!"XADD", b!"XSETID", b!"XGROUP", b!"XCLAIM", b!"XCLAIM", b!"XGROUP", b!"XCLAIM"] ∧
    (exStream.cmds { tgtMajor := 6, tgtMinor := 0 } [115]).map (·.name) =
    [b!"XADD", b!"XADD", b!"XADD", b!"XSETID", b!"XGROUP", b!"XCLAIM", b!"XCLAIM", b!"XCLAIM"] := by
  decide +kernel
example : exStream.rtype = 21 := by decide
example : execStream { tgtMajor := 7 } exStream.rtype [115] exStream.ser = some (exStream.cmds { tgtMajor := 7 } [115]) ∧
    applyCmds [] (exStream.cmds { tgtMajor := 7 } [115]) = some [([115], .stream (exStream.xval { tgtMajor := 7 }), 0)] := by
  have := stream_roundtrip { tgtMajor := 7 } [115] exStream [] [] exStream_wf exStream_sound rfl
  simpa using this
-- an empty stream (all entries deleted) with a group: the MAXLEN 0 trick
def exEmptyStream : StreamE :=
  { ver := 1, nodes := [], length := 0, lastMs := 9, lastSeq := 0,
    groups := [{ name := SE.plain [103], lastMs := 9, lastSeq := 0, entriesRead := 0, pel := [], consumers := [] }] }
example : exEmptyStream.wf ∧ exEmptyStream.sound := by
  refine ⟨by decide, by decide, by decide, by decide, ?_, by decide, by decide, ?_, by decide, by decide,
    by unfold SIdmpE.sizes; decide, by unfold StreamE.counters; decide⟩
  · intro n hn; cases hn
  · intro n hn; cases hn
example : (exEmptyStream.cmds { tgtMajor := 7 } [115]).map (·.name) = [b!"XADD", b!"XSETID", b!"XGROUP"] := by decide
-- a module aux item is skipped, a module value travels by RESTORE, the stream (payload above
-- MaxProtoBulkLen = 30) is expanded: full_sync_streams on such a file
def exFileS : FileE :=
  { version := 11,
    items := [.moduleAux 5 [.uint 7, .str (SE.plain [1, 2])], .selectDb .b6 3,
              .key { exp := .ms 9000, key := SE.plain [120], obj := .stream exStream },
              .key { key := SE.plain [109], obj := .module2 9 [.str (SE.plain [1])] }] }
def exCfgS : RCfg := { x := { tgtMajor := 8 }, now := 5000, maxBulk := 30 }
theorem exFileS_wf : exFileS.wf := by decide +kernel
theorem exFileS_carried : ∀ i ∈ exFileS.items, i.carriedS { failModAux := false } exCfgS := by
  intro i hi
  simp only [exFileS, List.mem_cons, List.mem_nil_iff, or_false] at hi
  rcases hi with rfl | rfl | rfl | rfl
  · rfl
  · trivial
  · exact exStream_sound
  · show viaRestore exCfgS _
    unfold viaRestore; decide
example : ¬ viaRestore exCfgS (.stream exStream) := by unfold viaRestore; decide +kernel
example : ∃ log T, sendRdb { failModAux := false } exCfgS [] (rdbFile exFileS) = ([log], true) ∧
    applyReqs {} log = some T ∧
    ∀ D, Pointwise (HoldsS exCfgS) (expectedKeys exCfgS D exFileS.keys) (T.dbs D) :=
  full_sync_streams { failModAux := false } exCfgS exFileS exFileS_wf (by decide) exFileS_carried rfl rfl rfl
    (fun _ _ _ => by simp [typeLoadable, exCfgS]) (fun n _ => by simp [mapDb, exCfgS]) (by decide)
-- … and with three workers
example : ∃ logs sched M, sendRdb { failModAux := false } { exCfgS with parallel := 3 } [] (rdbFile exFileS) = (logs, true) ∧
    logs.length = 3 ∧ (∀ j, j < 3 → (sched.filter (fun p => p.1 == j)).map (·.2) = logs.getD j []) ∧
    applySched {} sched = some M ∧
    ∀ D, Pointwise (HoldsS { exCfgS with parallel := 3 }) (expectedKeys { exCfgS with parallel := 3 } D exFileS.keys) (M.dbs D) :=
  fanout_parallel_streams { failModAux := false } { exCfgS with parallel := 3 } exFileS exFileS_wf (by decide)
    (fun i hi => exFileS_carried i hi) rfl rfl
    (fun _ _ _ => by simp [typeLoadable, exCfgS]) (fun n _ => by simp [mapDb, exCfgS]) (by decide) 3 (by decide) rfl
-- the Bad-data-format fall-back: the listpack sorted set `exZset` (type 17) into a Redis 6 target
def exEntryZ : Entry := { db := 0, key := [122], type := 17, expireAt := 6000, obj := pobjOf [122] exZset }
example : applyCmdsV 6 [] (replayEntry { x := { tgtMajor := 6 }, now := 5000 } 0 [] exEntryZ).1 =
    some [([122], exZset.value, 1000)] := by
  have := (restore_fallback_path { x := { tgtMajor := 6 }, now := 5000 } 0 [] exEntryZ [122] exZset [] rfl rfl
    (Or.inl (by decide)) (by unfold viaRestore; decide) (by decide) rfl rfl rfl).2.2
  simpa [ObjE.valueS, exZset, ttlOf, exEntryZ] using this
-- … the stream branch: the type-21 stream `exStream` into a Redis 6.2 target, next to another key
def exEntryS : Entry := { db := 0, key := [115], type := 21, expireAt := 0, obj := pobjOf [115] (.stream exStream) }
def exCfg6 : RCfg := { x := { tgtMajor := 6, tgtMinor := 2 }, now := 5000 }
example : applyCmdsV exCfg6.x.tgtMajor [([111], .str [1], 0)] (replayEntry exCfg6 0 [] exEntryS).1 =
    some [([111], .str [1], 0), ([115], .stream (exStream.xval exCfg6.x), 0)] := by
  have := (restore_fallback_path exCfg6 0 [] exEntryS [115] (.stream exStream) [([111], .str [1], 0)] rfl rfl
    (Or.inr ⟨exStream, rfl, exStream_wf, exStream_sound⟩) (by unfold viaRestore; decide +kernel) (by decide) rfl rfl rfl).2.2
  simpa [ObjE.valueS, ttlOf, exEntryS] using this
-- stream_roundtrip with a non-empty keyspace
example : applyCmds [([111], .str [1], 7)] (exStream.cmds { tgtMajor := 7 } [115]) =
    some [([111], .str [1], 7), ([115], .stream (exStream.xval { tgtMajor := 7 }), 0)] :=
  (stream_roundtrip { tgtMajor := 7 } [115] exStream [] [([111], .str [1], 7)] exStream_wf exStream_sound rfl).2
-- expand_path_existing: `exStream` onto a key that holds ANOTHER stream (last id 9-9, a group) with a TTL
def exOldGroup : XGroup := ⟨[103], b!"9-9", none, [⟨b!"9-9", [122], b!"1", b!"1"⟩], [[122]]⟩
def exOldStream : Val := .stream { entries := [⟨b!"9-9", [[111], [108]]⟩], lastId := b!"9-9", groups := [exOldGroup] }
example : applyCmds [([115], exOldStream, 77)]
      (replayEntry { enableRestore := false, now := 5000 } 0 [(0, [115])] { exEntryS with expireAt := 6000 }).1 =
    some [([115], .stream (exStream.xval { tgtMajor := 7 }), 1000)] := by
  have := (expand_path_existing { enableRestore := false, now := 5000 } 0 [(0, [115])] { exEntryS with expireAt := 6000 }
    [115] (.stream exStream) [([115], exOldStream, 77)] rfl rfl
    (Or.inr ⟨exStream, rfl, exStream_wf, exStream_sound⟩) (by unfold viaRestore; decide) rfl (by decide)).2.2
  simpa [ObjE.valueS, ttlOf, exEntryS, del] using this

end GunYu.Props.C03
