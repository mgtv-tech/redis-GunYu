/-
  C16 × C08 — a kill in a SECOND (third, …) process life.

  Props/C16Restart.lean's `crash_image_step_ok` speaks of crash images of scripts that START FROM
  THE EMPTY DIRECTORY (`Disk.init`, `crashImage []`). For a follower that was killed, re-opened its
  directory, went on receiving and is killed AGAIN, the image hypothesis (`ImageOk` of
  `reopened_data_faithful`) is an INVARIANT of process lives, over C08's model of life after the restart
  (Model/StoreRoot.lean `XDisk.reopened`, Props/C08Root.lean `resume_*`: re-open ANY directory,
  run ANY script of the writers WITH FAULTS — failed header rewrites, failed opens, SHORT
  WRITES, failed removals —, die at ANY instant with the last write torn). The invariant is `DirOk`
  (stream files truthful for history `id`, names unique, committed snapshots complete and holding
  history `id`'s snapshot at the offset in their name); it implies `ImageOk`, and a life whose stream
  chunks are history's (`SrcOkX`) and whose snapshot writers are handed history's snapshot
  (`SnapSrcOkFrom`) keeps it (`second_life_dir_ok`), hence any number of lives. Those two hypotheses
  are discharged for both kinds of transfer a re-opened follower makes: the stream continued at the
  END of what it re-opened, the last chunk possibly SHORT-written (`resume_stream_life_ok`), and a new
  snapshot followed by the stream (`snapshot_life_ok`).

  Quantifier: all directories, all scripts with faults, all crash instants, any number of lives.
-/
import GunYu.Props.C16Snap
import GunYu.Props.C08Root

namespace GunYu.Props.C16
open GunYu GunYu.Replica GunYu.Store GunYu.StoreFs GunYu.StoreFsX

/-- a directory a process may find under run id `id` -/
def DirOk (h : Hist UInt8) (id : Replica.Id) (fs : FS) : Prop :=
  FsTrue (fun o => h.byte id o) fs ∧ NodupNames fs ∧ SnapOk fs ∧
    RdbOkP (fun L _ c => c = h.snap id L) fs

/-- the empty directory (`NewStorer` on a new id) -/
theorem dirOk_empty (h : Hist UInt8) (id : Replica.Id) : DirOk h id [] := by
  refine ⟨?_, ?_, ?_, ?_⟩
  · intro e he; cases he
  · simp [NodupNames]
  · intro e he; cases he
  · intro e he; cases he

/-- **dirOk_imageOk.** such a directory satisfies the hypothesis of the crash step -/
theorem dirOk_imageOk {h : Hist UInt8} {id : Replica.Id} {fs : FS} (hd : DirOk h id fs) : ImageOk h id fs := by
  refine ⟨hd.1, ?_⟩
  intro L S c _ hg
  exact hd.2.2.2 _ (get_some_mem hg) L S rfl

/-- the ghost a restart begins with (the snapshot the re-opened index offers counts as received
    completely) satisfies the ghost invariant -/
theorem ghostOk_reopened {h : Hist UInt8} {id : Replica.Id} {fs : FS} (hd : DirOk h id fs) :
    GhostOk h id (reopenGhost fs id) := by
  intro x hx
  unfold reopenGhost at hx
  cases hr : (reopen fs).rdb with
  | none => rw [hr] at hx; cases hx
  | some p =>
    obtain ⟨l, s⟩ := p
    rw [hr] at hx
    simp only [Option.some.injEq] at hx
    subst hx
    obtain ⟨c, hg, _, hl⟩ := reopened_rdb hd.2.2.1 hr
    have hc : c = h.snap id l := hd.2.2.2 _ (get_some_mem hg) l s rfl
    simp only [hg, Option.getD_some]
    subst hc
    exact ⟨List.prefix_refl _, hl.symm⟩

/-- **second_life_dir_ok.** A NEW process on ANY directory that is `DirOk` for `id` — whatever
    crash, fault or interrupted removal produced it — re-opens it (`initDataSet` + `TruncateGap`),
    the writers run ANY script with faults from the re-built index (stream chunks history's:
    `SrcOkX`; snapshot writers handed history's snapshot: `SnapSrcOkFrom` from the restart's
    ghost), the process dies at ANY instant with the last write torn: the directory it leaves is
    `DirOk` again. (C08 `resume_closed` + `resume_received` with C16's snapshot-content predicate.) -/
theorem second_life_dir_ok (h : Hist UInt8) (id : Replica.Id) (fs : FS) (hd : DirOk h id fs)
    (l m : Nat) (xs : List XOp) (hwf : wfX (XDisk.reopened fs l m id) xs)
    (hsrc : SrcOkX (fun o => h.byte id o) (XDisk.reopened fs l m id) xs)
    (hsn : SnapSrcOkFrom h id (reopenGhost fs id) (xs.map recvOp)) (n k : Nat) :
    DirOk h id (crashImageX (reopenFs fs) (xScriptOps (XDisk.reopened fs l m id) xs) n k) := by
  obtain ⟨ht, hn, hs, h0⟩ := hd
  obtain ⟨c1, c2, c3⟩ := resume_closed fs ht hn hs l m id xs hwf hsrc n k
  refine ⟨c1, c2, c3, ?_⟩
  have hr := resume_received (P0 := fun L _ c => c = h.snap id L) fs hs h0 l m id xs hwf n k
  intro e he L S hp
  rcases hr e he L S hp with h1 | h1
  · exact h1
  · obtain ⟨_, hl, j, _, hj⟩ := h1
    have hg : GhostOk h id (recvFrom (reopenGhost fs id) ((xs.map recvOp).take j)) :=
      ghostOk_run _ _ (ghostOk_reopened ⟨ht, hn, hs, h0⟩) (snapSrcOkFrom_take _ _ j hsn)
    exact ghostOk_complete hg hj hl

/-- one process life on a directory: sizes of the store's configuration, the writers' script with
    faults, the instant of death (`n` file operations issued, the last write torn after `k` bytes) -/
structure Life where
  logSize : Nat
  maxSize : Nat
  xs : List XOp
  n : Nat
  k : Nat

/-- the directory the life leaves -/
def Life.next (id : String) (fs : FS) (lf : Life) : FS :=
  crashImageX (reopenFs fs) (xScriptOps (XDisk.reopened fs lf.logSize lf.maxSize id) lf.xs) lf.n lf.k

/-- the life respects the callers' protocol and writes what the sessions received -/
def Life.Ok (h : Hist UInt8) (id : Replica.Id) (fs : FS) (lf : Life) : Prop :=
  wfX (XDisk.reopened fs lf.logSize lf.maxSize id) lf.xs ∧
    SrcOkX (fun o => h.byte id o) (XDisk.reopened fs lf.logSize lf.maxSize id) lf.xs ∧
    SnapSrcOkFrom h id (reopenGhost fs id) (lf.xs.map recvOp)

def LivesOk (h : Hist UInt8) (id : Replica.Id) : FS → List Life → Prop
  | _, [] => True
  | fs, lf :: rest => lf.Ok h id fs ∧ LivesOk h id (lf.next id fs) rest

/-- **lives_dir_ok.** any number of lives, each killed anywhere -/
theorem lives_dir_ok (h : Hist UInt8) (id : Replica.Id) : ∀ (lives : List Life) (fs : FS),
    DirOk h id fs → LivesOk h id fs lives → DirOk h id (lives.foldl (Life.next id) fs)
  | [], _, hd, _ => hd
  | lf :: rest, fs, hd, hl =>
    lives_dir_ok h id rest _
      (second_life_dir_ok h id fs hd lf.logSize lf.maxSize lf.xs hl.1.1 hl.1.2.1 hl.1.2.2 lf.n lf.k) hl.2

/-- **lives_reopened_faithful.** A follower's directory of run id `id` through ANY number of
    process lives — each: re-open, any script with faults, killed at any instant —, starting from
    the empty directory or from any `DirOk` one: what the NEXT process re-opens is a faithful copy
    of history `id` (stream bytes at their offsets, the snapshot history's at its base). -/
theorem lives_reopened_faithful (h : Hist UInt8) (id : Replica.Id) (lives : List Life) (fs : FS)
    (hd : DirOk h id fs) (hl : LivesOk h id fs lives) :
    ∀ d, dataOfReopened (lives.foldl (Life.next id) fs) = some d → d.Faithful h id :=
  let ok := dirOk_imageOk (lives_dir_ok h id lives fs hd hl)
  reopened_data_faithful h id _ ok.1 ok.2

/-- one run-id directory of a follower killed in its n-th life -/
structure LivedDir where
  id : Replica.Id
  lives : List Life

def LivedDir.image (c : LivedDir) : FS := c.lives.foldl (Life.next c.id) []

/-- **crash_step_ok_lives.** A crash step whose images are what ANY number of lives left — not
    only the first life from the empty directory — satisfies `StepC.Ok`: so
    `follower_prefix_of_leader_crash_runs` covers a kill in a second (any) process life with no
    hypothesis about the image. -/
theorem crash_step_ok_lives (h : Hist UInt8) (F : Replica.Store UInt8) (cs : List LivedDir)
    (hcs : ∀ c ∈ cs, LivesOk h c.id [] c.lives) :
    (StepC.crash (cs.map (fun c => (c.id, c.image))) : StepC UInt8).Ok h F := by
  intro p hp
  obtain ⟨c, hc, rfl⟩ := List.mem_map.mp hp
  exact dirOk_imageOk (lives_dir_ok h c.id c.lives [] (dirOk_empty h c.id) (hcs c hc))

/-! ### the hypotheses discharged for a re-opened follower's stream transfer -/

/-- where a re-opened follower's stream writer may be opened: at the end of the segments it
    re-opened; with no segment, at the snapshot's offset; anywhere when nothing is held
    (C08's `okOp` for `NewAofWritter`, read on the re-built index) -/
def ResumeAt (fs : FS) (a : Nat) : Prop :=
  match lastRight (reopen fs).segs, (reopen fs).rdb with
  | some r, _ => a = r
  | none, some (l, _) => a = l
  | none, none => True

/-- … which is the end of what C16 says the follower holds (`dataOfReopened`): the position
    `aofWrite` insists on (`d.right = left`, theorem `follower_contiguous`) -/
theorem resumeAt_of_data (fs : FS) (a : Nat) (ha : ∀ d, dataOfReopened fs = some d → a = d.right) :
    ResumeAt fs a := by
  unfold ResumeAt
  cases hsegs : (reopen fs).segs with
  | nil =>
    cases hr : (reopen fs).rdb with
    | none => trivial
    | some p =>
      obtain ⟨L, S⟩ := p
      exact ha _ (by rw [dataOfReopened_eq, hsegs, hr])
  | cons g rest =>
    rw [contig_right rest g (hsegs ▸ reopen_contig fs)]
    cases hr : (reopen fs).rdb with
    | none => exact ha _ (by rw [dataOfReopened_eq, hsegs, hr])
    | some p => obtain ⟨L, S⟩ := p; exact ha _ (by rw [dataOfReopened_eq, hsegs, hr])

/-- the script: `NewAofWritter(a)`, the chunks, optionally a last chunk SHORT-written (`k` of its
    bytes reach the file, the write returns an error, the writer ends) -/
def shortOps : Option (Bytes × Nat) → List XOp
  | some (c, k) => [XOp.aofAppendShort c k]
  | none => []

def shortBytes : Option (Bytes × Nat) → Bytes
  | some (c, _) => c
  | none => []

def resumeScript (a : Nat) (chunks : List Bytes) (short : Option (Bytes × Nat)) : List XOp :=
  XOp.op (.newAofWriter a) :: (chunks.map (fun c => XOp.op (.aofAppend c)) ++ shortOps short)

theorem xstep_op_d (s : XDisk) (o : DOp) (hng : o ≠ .gc) : (xstep s (.op o)).1.d = (s.d.step o).1 := by
  cases o <;> first | rfl | exact absurd rfl hng

/-- calls without faults and without collector passes, then `tail`: C08's extended protocol / source
    conditions are the plain ones on the index, and `tail`'s from the index the calls lead to -/
theorem wfX_srcOkX_ops (src : Nat → UInt8) : ∀ (ops : List DOp) (tail : List XOp) (s : XDisk),
    (∀ o ∈ ops, o ≠ .gc) → s.d.wf ops → SrcOk src s.d ops →
    (∀ s' : XDisk, s'.d = s.d.run ops → wfX s' tail ∧ SrcOkX src s' tail) →
    wfX s (ops.map XOp.op ++ tail) ∧ SrcOkX src s (ops.map XOp.op ++ tail)
  | [], _, s, _, _, _, ht => ht s rfl
  | o :: rest, tail, s, hng, hwf, hsrc, ht => by
    have hd := xstep_op_d s o (hng o (by simp))
    have ih := wfX_srcOkX_ops src rest tail (xstep s (.op o)).1 (fun o' ho' => hng o' (List.mem_cons_of_mem _ ho'))
      (by rw [hd]; exact hwf.2) (by rw [hd]; exact hsrc.2) (fun s' hs' => ht s' (by rw [hs', hd]; rfl))
    exact ⟨⟨hwf.1, ih.1⟩, ⟨hsrc.1, ih.2⟩⟩

/-- **resume_stream_life_ok.** The life of a re-opened follower that continues the stream: the
    writer opened at the end of what was re-opened (`ResumeAt`), the payload — all chunks and the
    short-written one — history `id` from `a` on (C16's `session_stream_payload_is_history`),
    every chunk non-empty. C08's `wfX`, `SrcOkX` and C16's `SnapSrcOkFrom` hold for it: nothing is
    left to assume about the second life's script, for EVERY chunking and every short write. -/
theorem resume_stream_life_ok (h : Hist UInt8) (id : Replica.Id) (fs : FS) (l m : Nat) (a : Nat)
    (ha : ResumeAt fs a) (chunks : List Bytes) (short : Option (Bytes × Nat))
    (hne : ∀ c ∈ chunks, c ≠ [])
    (hshort : ∀ c k, short = some (c, k) → 0 < k ∧ k < c.length)
    (hp : ∀ i b, (chunks.flatten ++ shortBytes short)[i]? = some b → b = h.byte id (a + i)) (n k : Nat) :
    (⟨l, m, resumeScript a chunks short, n, k⟩ : Life).Ok h id fs := by
  show wfX (XDisk.reopened fs l m id) (resumeScript a chunks short) ∧
    SrcOkX (fun o => h.byte id o) (XDisk.reopened fs l m id) (resumeScript a chunks short) ∧
    SnapSrcOkFrom h id (reopenGhost fs id) ((resumeScript a chunks short).map recvOp)
  -- the index the life begins with
  have hlive : (reopenDisk fs l m id).live = none := rfl
  have hsegs : (reopenDisk fs l m id).segs = (reopen fs).segs := rfl
  have hcl : (reopenDisk fs l m id).closeLive = reopenDisk fs l m id := by simp [Disk.closeLive, hlive]
  -- the state after `NewAofWritter(a)`
  have hpos : ((reopenDisk fs l m id).step (.newAofWriter a)).1.live.isSome = true ∧
      ((reopenDisk fs l m id).step (.newAofWriter a)).1.hbase +
        ((reopenDisk fs l m id).step (.newAofWriter a)).1.hist.length = a := by
    simp only [Disk.step, hcl]
    refine ⟨rfl, ?_⟩
    unfold ResumeAt at ha
    cases hlr : lastRight (reopen fs).segs with
    | none =>
      simp [hsegs, hlr]
    | some r =>
      rw [hlr] at ha
      simp only at ha
      subst ha
      simp only [hsegs, hlr, beq_self_eq_true, if_true]
      cases hfl : firstLeft (reopen fs).segs with
      | none =>
        cases hs : (reopen fs).segs with
        | nil => rw [hs] at hlr; simp [lastRight] at hlr
        | cons g rest => rw [hs] at hfl; simp [firstLeft] at hfl
      | some f =>
        have := contig_lastRight _ f a (reopen_contig fs) hfl hlr
        simp only [reopenDisk, hfl, Option.getD_some]
        omega
  have hxd : (xstep (XDisk.reopened fs l m id) (.op (.newAofWriter a))).1.d =
      ((reopenDisk fs l m id).step (.newAofWriter a)).1 := rfl
  have hrun := appends_run chunks _ hpos.1
  have hmain := wfX_srcOkX_ops (fun o => h.byte id o) (chunks.map DOp.aofAppend) (shortOps short)
    (xstep (XDisk.reopened fs l m id) (.op (.newAofWriter a))).1
    (by intro o ho; obtain ⟨c, _, rfl⟩ := List.mem_map.mp ho; exact fun hh => DOp.noConfusion hh)
    (by rw [hxd]; exact appends_wf chunks hne _)
    (by
      rw [hxd]
      apply appends_srcOk _ _ _ hpos.1
      intro i b hb
      rw [hpos.2]
      apply hp i b
      have hi : i < chunks.flatten.length := (List.getElem?_eq_some_iff.mp hb).1
      rw [List.getElem?_append_left hi]; exact hb)
    (by
      intro s' he
      cases short with
      | none => exact ⟨trivial, trivial⟩
      | some p =>
        obtain ⟨c, k'⟩ := p
        refine ⟨⟨hshort c k' rfl, trivial⟩, ?_, trivial⟩
        intro i b hb
        show b = h.byte id (s'.d.hbase + s'.d.hist.length + i)
        rw [he, hxd, hrun.2.1, hrun.2.2, List.length_append, ← Nat.add_assoc, hpos.2]
        have := hp (chunks.flatten.length + i) b (by
          rw [List.getElem?_append_right (by omega)]
          simpa [shortBytes] using hb)
        rw [this]; congr 1; omega)
  rw [List.map_map] at hmain
  refine ⟨⟨?_, hmain.1⟩, ⟨trivial, hmain.2⟩, ?_⟩
  · -- C08's `okOp` of `NewAofWritter(a)` on the re-built index
    show (reopenDisk fs l m id).okOp (.newAofWriter a)
    simp only [Disk.okOp, hcl, hsegs]
    unfold ResumeAt at ha
    cases hlr : lastRight (reopen fs).segs with
    | some r => rw [hlr] at ha; exact ha
    | none =>
      rw [hlr] at ha
      cases hr : (reopen fs).rdb with
      | none => simp [reopenDisk, hr]
      | some p =>
        obtain ⟨L, S⟩ := p
        rw [hr] at ha
        simp only [reopenDisk, hr]
        exact ha
  · -- no snapshot writer occurs in the script
    apply snapSrcOk_noSnap
    intro op ho
    simp only [resumeScript, List.map_cons, List.map_append, List.map_map, List.mem_cons, List.mem_append,
      List.mem_map, Function.comp] at ho
    rcases ho with rfl | ⟨c, _, rfl⟩ | ho
    · exact ⟨fun _ _ hh => DOp.noConfusion hh, fun _ hh => DOp.noConfusion hh⟩
    · exact ⟨fun _ _ hh => DOp.noConfusion hh, fun _ hh => DOp.noConfusion hh⟩
    · cases short with
      | none => simp [shortOps] at ho
      | some p =>
        obtain ⟨c, k'⟩ := p
        simp only [shortOps, List.mem_singleton, recvOp] at ho
        obtain ⟨_, rfl, rfl⟩ := ho
        exact ⟨fun _ _ hh => DOp.noConfusion hh, fun _ hh => DOp.noConfusion hh⟩

/-! ### the hypotheses discharged for a life that takes a NEW snapshot (on ANY directory) -/

/-- the writers' calls of a session that takes the snapshot and then the stream, in a process
    that already holds the directory open under `id` (any life but the first contact):
    `NewRdbWriter(left, size)` — which resets the data set itself (`resetDataSet`: rdbSync's
    `DelRunId; SetRunId` before it either removed the whole directory, then this is a life on the
    empty one, or is redundant) —, the chunks, `Close`, `SetRunId(id)` again (StartPoint →
    VerifyRunId), `NewAofWritter(a)`, the chunks -/
def snapLifeOps (id : String) (left size : Nat) (rchunks : List Bytes) (a : Nat) (achunks : List Bytes) : List DOp :=
  [.newRdbWriter left size] ++ rchunks.map DOp.rdbAppend ++
    ([.rdbClose, .setRunId id, .newAofWriter a] ++ achunks.map DOp.aofAppend)

theorem snapLifeOps_no_gc (id : String) (left size : Nat) (rchunks : List Bytes) (a : Nat) (achunks : List Bytes) :
    ∀ o ∈ snapLifeOps id left size rchunks a achunks, o ≠ .gc := by
  intro o ho
  simp only [snapLifeOps, List.cons_append, List.nil_append, List.mem_cons, List.mem_append, List.mem_map] at ho
  rcases ho with rfl | ⟨c, _, rfl⟩ | rfl | rfl | rfl | ⟨c, _, rfl⟩ <;> exact fun hh => DOp.noConfusion hh

/-- **snapshot_life_ok.** A life — the second, the n-th, on ANY directory, whatever earlier lives
    left in it — in which the follower takes history `id`'s snapshot at `left` (any chunking of any
    prefix of it) and then the stream from `a` (the snapshot's offset; anywhere when the snapshot did
    not complete) satisfies `Life.Ok`: C08's `wfX`, `SrcOkX` and C16's `SnapSrcOkFrom` are PROVED
    for its script. With `resume_stream_life_ok` every kind of transfer a re-opened follower makes
    is covered; `lives_reopened_faithful` then needs no hypothesis about such lives. -/
theorem snapshot_life_ok (h : Hist UInt8) (id : Replica.Id) (hx : id ≠ "") (fs : FS) (l m : Nat) (left : Nat)
    (hsz : 0 < (h.snap id left).length) (rchunks : List Bytes) (hrne : ∀ c ∈ rchunks, c ≠ [])
    (hpre : rchunks.flatten <+: h.snap id left) (a : Nat)
    (ha : a = left ∨ rchunks.flatten.length < (h.snap id left).length)
    (achunks : List Bytes) (hane : ∀ c ∈ achunks, c ≠ [])
    (hp : achunks.flatten = hseg h id a achunks.flatten.length) (n k : Nat) :
    (⟨l, m, (snapLifeOps id left (h.snap id left).length rchunks a achunks).map XOp.op, n, k⟩ : Life).Ok h id fs := by
  show wfX (XDisk.reopened fs l m id) ((snapLifeOps id left _ rchunks a achunks).map XOp.op) ∧
    SrcOkX (fun o => h.byte id o) (XDisk.reopened fs l m id) ((snapLifeOps id left _ rchunks a achunks).map XOp.op) ∧
    SnapSrcOkFrom h id (reopenGhost fs id) (((snapLifeOps id left _ rchunks a achunks).map XOp.op).map recvOp)
  have hd := snapOps_wf_srcOk h (reopenDisk fs l m id) id rfl hx left _ hsz rchunks hrne hpre.length_le a ha achunks hane hp
  have hxo := wfX_srcOkX_ops (fun o => h.byte id o) (snapLifeOps id left _ rchunks a achunks) []
    (XDisk.reopened fs l m id) (snapLifeOps_no_gc id left _ rchunks a achunks) hd.1 hd.2
    (fun _ _ => ⟨trivial, trivial⟩)
  rw [List.append_nil] at hxo
  refine ⟨hxo.1, hxo.2, ?_⟩
  rw [List.map_map, show recvOp ∘ XOp.op = _root_.id from rfl, List.map_id]
  exact snapOps_snapSrcOk h id _ left _ rfl rchunks hpre a achunks

/-! ### non-vacuity: a follower killed in its FIRST life, re-opened, killed again in its SECOND -/

section examples
/-- stream byte at `o` is `o`, every snapshot `[7, 8, 9]` -/
def hLv : Hist UInt8 := ⟨fun _ o => UInt8.ofNat o, fun _ _ => [7, 8, 9]⟩

/-- first life: snapshot at 100 (3 bytes, two chunks), then the stream 100, 101 | 102; killed while
    the last append had written nothing -/
def life1 : Life :=
  ⟨20, 0, [.op (.newRdbWriter 100 3), .op (.rdbAppend [7]), .op (.rdbAppend [8, 9]), .op (.newAofWriter 100),
           .op (.aofAppend [100, 101]), .op (.aofAppend [102])], 99, 0⟩
/-- second life: the stream continued at 102 with `103 104` SHORT-written after 1 byte; killed at the end -/
def life2 : Life := ⟨20, 0, resumeScript 102 [[102]] (some ([103, 104], 1)), 99, 9⟩

example : life1.next "idA" [] = [(.rdb 100 3, [7, 8, 9]), (.aof 100, fixHeader ++ [100, 101])] := by decide +kernel
example : dataOfReopened (life1.next "idA" []) = some ⟨100, [100, 101], some [7, 8, 9]⟩ := by decide +kernel
example : dataOfReopened ([life1, life2].foldl (Life.next "idA") []) =
    some ⟨100, [100, 101, 102, 103], some [7, 8, 9]⟩ := by decide +kernel

theorem life1_ok : life1.Ok hLv "idA" [] := by
  refine ⟨by decide, srcOkXB_sound _ _ _ (by decide), ?_⟩
  have he : life1.xs.map recvOp = [DOp.newRdbWriter 100 3] ++ (([[7], [8, 9]] : List Bytes).map DOp.rdbAppend ++
      [.newAofWriter 100, .aofAppend [100, 101], .aofAppend [102]]) := by decide +kernel
  rw [he, snapSrcOkFrom_append, snapSrcOkFrom_append]
  refine ⟨⟨(by show 3 = (hLv.snap "idA" 100).length; decide), trivial⟩,
    rdbAppends_snapSrcOk _ _ ?_, snapSrcOk_noSnap _ _ ?_⟩
  · intro y hy _
    simp only [List.foldl_cons, List.foldl_nil, recvStep, Option.some.injEq] at hy
    subst hy
    decide
  · intro op ho
    simp only [List.mem_cons, List.not_mem_nil, or_false] at ho
    rcases ho with rfl | rfl | rfl <;>
      exact ⟨fun _ _ hh => DOp.noConfusion hh, fun _ hh => DOp.noConfusion hh⟩

theorem life2_ok : life2.Ok hLv "idA" (life1.next "idA" []) :=
  resume_stream_life_ok hLv "idA" _ 20 0 102
    (resumeAt_of_data _ _ (by
      intro d hd
      have : dataOfReopened (life1.next "idA" []) = some ⟨100, [100, 101], some [7, 8, 9]⟩ := by decide +kernel
      rw [this] at hd; cases hd; rfl))
    [[102]] (some ([103, 104], 1)) (by decide) (by intro c k hh; cases hh; decide)
    (by
      intro i b hb
      match i, hb with
      | 0, hb => simp [shortBytes] at hb; subst hb; decide
      | 1, hb => simp [shortBytes] at hb; subst hb; decide
      | 2, hb => simp [shortBytes] at hb; subst hb; decide
      | _ + 3, hb => simp [shortBytes] at hb) 99 9

/-- the theorem applied: what the third process re-opens is faithful -/
example : ∀ d, dataOfReopened ([life1, life2].foldl (Life.next "idA") []) = some d → d.Faithful hLv "idA" :=
  lives_reopened_faithful hLv "idA" [life1, life2] [] (dirOk_empty _ _) ⟨life1_ok, life2_ok, trivial⟩

/-- third life: the leader has collected the follower's position — a NEW snapshot at 200 (cut after 2 of
    its 3 bytes is also covered: see `snapshot_life_ok`'s `ha`), then the stream from 200; killed during
    the last append -/
def life3 : Life := ⟨20, 0, (snapLifeOps "idA" 200 3 [[7, 8], [9]] 200 [[200], [201, 202]]).map XOp.op, 99, 1⟩

theorem life3_ok (fs : FS) : life3.Ok hLv "idA" fs :=
  snapshot_life_ok hLv "idA" (by decide) fs 20 0 200 (by decide) [[7, 8], [9]] (by decide) (by decide) 200
    (Or.inl rfl) [[200], [201, 202]] (by decide) (by decide) 99 1

example : dataOfReopened ([life1, life2, life3].foldl (Life.next "idA") []) =
    some ⟨200, [200, 201], some [7, 8, 9]⟩ := by decide +kernel

example : ∀ d, dataOfReopened ([life1, life2, life3].foldl (Life.next "idA") []) = some d → d.Faithful hLv "idA" :=
  lives_reopened_faithful hLv "idA" [life1, life2, life3] [] (dirOk_empty _ _) ⟨life1_ok, life2_ok, life3_ok _, trivial⟩

-- a second life that appends ANOTHER history's bytes is rejected by `SrcOkX`
example : srcOkXB (fun o => hLv.byte "idA" o) (XDisk.reopened (life1.next "idA" []) 20 0 "idA")
    (resumeScript 102 [[55]] none) = false := by decide +kernel
end examples

end GunYu.Props.C16
