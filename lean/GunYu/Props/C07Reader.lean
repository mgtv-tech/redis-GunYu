/-
  C07 / C02 — the READER side of the checkpoint field names (checkpoint.go
  `fetchCheckpoint`): a hash field belongs to a run id when
  `strings.HasPrefix(field, runId)`. `Props/C07Gen.lean` shows that the WRITERS'
  names are injective; this file decides when the reader's prefix test is exact.

  * `prefix_match_equal_length`: for ids of EQUAL length the prefix test accepts a
    field `<rid'><suffix>` only for `rid' = rid` -- replication ids are 40 characters
    (`redis.GetRunIds` reads `master_replid` / `master_replid2`, both always 40 hex
    characters on Redis >= 4), so records of other ids are invisible.
  * `prefix_match_longer_id`: for ids of different length the test is NOT exact: every
    field of an id that extends `rid` is read as `rid`'s (the real `StartPoint` does
    read it: harness counter `prefix_id_reads_longer_id`). Unreachable with
    replication ids; stated, not assumed away silently.
  * `empty_id_matches_all`: the empty id matches every field (a source without
    `master_replid`, i.e. Redis < 4, reports two empty ids): outside the supported
    sources, stated for the same reason.
-/
import GunYu.Props.C07Gen

namespace GunYu.Props.C07
open GunYu GunYu.Checkpoint

theorem prefix_match_equal_length (rid rid' : Bytes) (k : Kind) (hlen : rid.length = rid'.length)
    (h : rid <+: fieldName rid' k) : rid = rid' := by
  obtain ⟨sfx, hs⟩ := fieldName_suffix k
  have h1 := List.prefix_iff_eq_take.mp h
  rw [hlen, hs, List.take_left' rfl] at h1
  exact h1

/-- so the reader's view of one id's position is exactly the field the writers named:
    a field of another equal-length id is never taken for `<rid>_offset` -/
theorem reader_sees_only_own_fields (rid rid' : Bytes) (k : Kind) (hlen : rid.length = rid'.length)
    (hne : rid ≠ rid') : ¬ (rid <+: fieldName rid' k) :=
  fun h => hne (prefix_match_equal_length rid rid' k hlen h)

theorem prefix_match_longer_id (rid ext : Bytes) (k : Kind) : rid <+: fieldName (rid ++ ext) k := by
  obtain ⟨sfx, hs⟩ := fieldName_suffix k
  rw [hs, List.append_assoc]
  exact List.prefix_append _ _

theorem empty_id_matches_all (field : Bytes) : ([] : Bytes) <+: field := List.nil_prefix

/-! non-vacuity -/
example : ¬ (([114, 49] : Bytes) <+: fieldName [114, 50] .offset) :=
  reader_sees_only_own_fields _ _ _ rfl (by decide)
example : ([114, 49] : Bytes) <+: fieldName [114, 49, 120] .offset := prefix_match_longer_id [114, 49] [120] .offset

end GunYu.Props.C07
