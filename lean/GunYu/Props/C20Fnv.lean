/-
  C20 — `util.FnvHash` is `hash/fnv.New32a` + `Write` + `Sum32`: the public 32-bit FNV-1a
  (offset basis 2166136261 = 0x811c9dc5, prime 16777619 = 0x01000193; for every byte: hash ^= byte, hash *= prime,
  arithmetic modulo 2^32). `fnv1a32` is that algorithm written on machine words (`UInt32`: xor and wrapping multiplication
  are the hardware's); the model's `fnv32a` (natural numbers with an explicit `% 2^32`) is PROVED equal to it. The tie to
  the library call itself is the correspondence op c20fnv (the real util.FnvHash on random keys, the empty key included).
-/
import GunYu.Model.RestoreWorker

namespace GunYu.Props.C20
open GunYu GunYu.Restore

def fnvOffset32 : UInt32 := 2166136261
def fnvPrime32 : UInt32 := 16777619

/-- 32-bit FNV-1a on machine words -/
def fnv1a32 (bs : Bytes) : UInt32 := bs.foldl (fun h b => (h ^^^ b.toUInt32) * fnvPrime32) fnvOffset32

private theorem fnv_step (h : UInt32) (b : UInt8) :
    ((h ^^^ b.toUInt32) * fnvPrime32).toNat = ((h.toNat ^^^ b.toNat) * 16777619) % 4294967296 := by
  rw [UInt32.toNat_mul, UInt32.toNat_xor]
  simp [fnvPrime32]

private theorem fnv_fold (bs : Bytes) (h : UInt32) :
    (bs.foldl (fun h b => (h ^^^ b.toUInt32) * fnvPrime32) h).toNat =
      bs.foldl (fun h b => ((h ^^^ b.toNat) * 16777619) % 4294967296) h.toNat := by
  induction bs generalizing h with
  | nil => rfl
  | cons b bs ih => simp only [List.foldl_cons]; rw [ih, fnv_step]

/-- the model's hash IS FNV-1a/32 -/
theorem fnv32a_is_fnv1a32 (bs : Bytes) : fnv32a bs = (fnv1a32 bs).toNat := by
  unfold fnv32a fnv1a32
  rw [fnv_fold]; rfl

theorem fnv32a_lt (bs : Bytes) : fnv32a bs < 2 ^ 32 := by
  rw [fnv32a_is_fnv1a32]; exact (fnv1a32 bs).toNat_lt

/-- the published test vectors of FNV-1a/32: "" → 0x811c9dc5, "a" → 0xe40c292c, "foobar" → 0xbf9cf968 -/
example : fnv1a32 [] = 0x811c9dc5 := by decide
example : fnv1a32 [97] = 0xe40c292c := by decide
example : fnv1a32 [102, 111, 111, 98, 97, 114] = 0xbf9cf968 := by decide
example : fnv32a [102, 111, 111, 98, 97, 114] = 0xbf9cf968 := by decide

end GunYu.Props.C20
