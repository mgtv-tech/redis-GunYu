/-
  C15 (etcd election) — the key space need not start empty.

  Props/C15Etcd.lean states its theorems from `Sys.init` (empty key space). The
  invariant they rest on asks of the store only that it is well formed
  (`Wf`: create revisions positive, ≤ the store revision and pairwise
  different; keys pairwise different, not empty, not "\x00" — what an etcd
  server guarantees of ANY key space) — so the same theorems hold from every
  well-formed key space: foreign junk under an election prefix, election
  keys of earlier incarnations whose lease is still alive or that carry no
  lease at all, any lease table, any revision and clock.
-/
import GunYu.Props.C15Etcd

namespace GunYu.Props.C15
open GunYu GunYu.Etcd

/-- any key space, lease table, revision and clock; fresh election objects, nobody told anything -/
def etcdInitWith (kvs : List KV) (rev : Nat) (leases : Nat → Option LeaseRec) (now : Nat) : Etcd.Sys :=
  { st := { kvs := kvs, rev := rev, leases := leases, now := now },
    el := fun _ _ => El.init, told := fun _ _ => false }

theorem etcd_inv_initWith (kvs : List KV) (rev : Nat) (leases : Nat → Option LeaseRec) (now : Nat)
    (h : Wf kvs rev) : Etcd.Inv (etcdInitWith kvs rev leases now) := by
  refine ⟨h, fun L p => Or.inl rfl, fun L p r hr => ?_, fun p L ht => ?_⟩
  · simp [etcdInitWith, El.init] at hr; omega
  · simp [etcdInitWith] at ht

/-- at most one holder per prefix, from EVERY well-formed key space (junk included) -/
theorem etcd_at_most_one_holder_any_keyspace (idOf : Nat → Bytes) (kvs : List KV) (rev : Nat)
    (leases : Nat → Option LeaseRec) (now : Nat) (hwf : Wf kvs rev) (evs : List Etcd.Ev) (p : Bytes)
    (L1 L2 : Nat)
    (h1 : Etcd.holder (Etcd.run idOf (etcdInitWith kvs rev leases now) evs) p L1)
    (h2 : Etcd.holder (Etcd.run idOf (etcdInitWith kvs rev leases now) evs) p L2) : L1 = L2 :=
  Etcd.holder_unique_of_inv (Etcd.inv_run idOf evs (etcd_inv_initWith kvs rev leases now hwf)) h1 h2

-- non-vacuity: a foreign key `k/zzz` (create revision 4, no lease) under the election prefix `k/`
section junkExamples
def junkKV : KV := { key := [107, 47, 122, 122, 122], val := [120], create := 4, lease := 0 }
def jRun (evs : List Etcd.Ev) : Etcd.Sys := Etcd.run eId (etcdInitWith [junkKV] 10 (fun _ => none) 5) evs
example : Wf [junkKV] 10 :=
  ⟨by simp [junkKV], by simp, by simp, by simp [junkKV, nulKey]⟩
-- it is the first-created key under the prefix for ever: every campaign loses, nobody holds (a liveness
-- loss of the deployment, not a second leader) …
example : (Etcd.step eId (jRun [.grant 1 3]) (.campaign eP 1 0)).2 = .role .follower .ok := by decide +kernel
example : Etcd.isHolder (jRun [.grant 1 3, .campaign eP 1 0, .grant 2 3, .campaign eP 2 0]) eP 1 = false ∧
    Etcd.isHolder (jRun [.grant 1 3, .campaign eP 1 0, .grant 2 3, .campaign eP 2 0]) eP 2 = false := by decide +kernel
-- … and `Leader` names the junk value
example : (Etcd.step eId (jRun [.grant 1 3]) (.leader eP)).2 = .leader [120] .ok := by decide +kernel
end junkExamples

end GunYu.Props.C15
