/-
  C14 — the recovery computations REGENERATED from the Go source on every run
  (Gen/FnC14Frontier.lean, translator harness/extract/gofn_c14.go: RebuildBisyncFrontier as a whole,
  BisyncFrontierSnapshot.Clone, the selection of LoadBisyncLatestStartRecord) are equal to the
  hand-written model the theorems of Props/C14*.lean are about - for all inputs in the int64 range.
  An edit of the Go functions has to keep these proofs alive.
-/
import GunYu.Gen.FnC14Frontier
import GunYu.Proofs.FrontierGen
import GunYu.Props.C14

namespace GunYu.Props.C14
open GunYu GunYu.Frontier GunYu.Gen.C14

/-- `Clone` copies every field the model has (and panics on nil) -/
theorem gen_clone_eq (s : Option Snap) : clone s = s.map some := by
  cases s <;> rfl

/-- more fuel than the fixed point of `advance` needs changes nothing -/
theorem advance_stable (recs : List Rec) :
    ∀ (F : Nat) (cur : Snap), pick recs ((advance F recs cur).seq + 1) = none →
      ∀ d, advance (F + d) recs cur = advance F recs cur := by
  intro F
  induction F with
  | zero =>
    intro cur h d
    simp only [advance] at h
    cases d with
    | zero => rfl
    | succ d => simp only [advance, h]
  | succ F ih =>
    intro cur h d
    have e : F + 1 + d = (F + d) + 1 := by omega
    rw [e]
    unfold advance at h ⊢
    cases hp : pick recs (cur.seq + 1) with
    | none => rfl
    | some r =>
      rw [hp] at h
      simp only at h ⊢
      exact ih (stepSnap cur r) h d

/-- RebuildBisyncFrontier as translated = the model on the non-nil records, for EVERY record slice (nil
    entries anywhere) with at least one non-nil entry or none at all, and every fuel from len+1 on.
    (A slice of nil entries ONLY is the one input where the code and `rebuild` of the non-nil records differ:
    `len(records) != 0`, no record is filed, minSeq stays 0 and an absent / seq-0 snapshot gives
    ErrBisyncJournalGap where `rebuild _ []` returns the snapshot; LoadBisyncCommitRecords never produces a nil entry.) -/
theorem gen_rebuild_eq_model_nil (ver : Bytes) (snap : Option Snap) (records : List (Option Rec)) (fuel : Nat)
    (hf : (records.filterMap id).length + 1 ≤ fuel)
    (hne : records = [] ∨ records.filterMap id ≠ [])
    (hs : ∀ s, snap = some s → I64 s.seq) (hr : ∀ r ∈ records.filterMap id, I64 r.seq) :
    rebuildFrontier ver fuel snap records =
      some (match rebuild ver snap (records.filterMap id) with
        | .ok s => (s, false)
        | .error _ => (none, true)) := by
  rcases hne with rfl | hne
  · cases snap <;> rfl
  · generalize hrecs : records.filterMap id = recs at hf hne hr
    obtain ⟨d, rfl⟩ : ∃ d, fuel = recs.length + d + 1 := ⟨fuel - (recs.length + 1), by omega⟩
    have hlen : decide ((records.length : Int) = 0) = false := by
      cases records with
      | nil => exact absurd hrecs.symm hne
      | cons x xs => exact decide_eq_false (by rw [List.length_cons]; omega)
    -- the fill loop leaves the model's `seqMap` and `minSeq`
    obtain ⟨M, h1, hM⟩ := loop1_eq ver (recs.length + d + 1) records [] (fun _ => none) 0 (fun _ => rfl)
    rw [hrecs] at h1 hM
    -- the `for {}` from the frontier the rebuild starts from ends where the model's `advance` does
    have hb : I64 (baseOf ver snap).seq := by
      cases snap with
      | none => exact (show I64 0 from ⟨by decide, by decide⟩)
      | some s => exact hs s rfl
    have hfix := advance_fix recs recs.length (baseOf ver snap) (above_le_length _ _)
    have hst := advance_stable recs recs.length _ hfix d
    have h2 := loop2_eq ver (recs.length + d + 1) hr hM (recs.length + d) (baseOf ver snap) hb (by rw [hst]; exact hfix)
    rw [hst] at h2
    rw [rebuild_eq, if_neg (by cases recs with | nil => exact absurd rfl hne | cons _ _ => exact Bool.false_ne_true)]
    have hpre : (if snap.isNone = true then
          some (some ({ mtime := 0, offset := 0, runId := [], seq := 0, version := ver } : Snap))
        else clone snap) = some (some (baseOf ver snap)) := by
      cases snap <;> rfl
    simp only [rebuildFrontier, hlen, Option.pure_def, Option.bind_eq_bind, Option.bind_some, Bool.false_eq_true,
      if_false, hpre, Option.isNone_some, h1, ← minSeq_eq_fold, h2, lazyAnd', ← Bool.decide_and]
    by_cases hg : (baseOf ver snap).seq = 0 ∧ minSeq recs ≠ 1
    · rw [decide_eq_true hg, if_pos hg]; rfl
    · rw [decide_eq_false hg, if_neg hg]; rfl

/-- RebuildBisyncFrontier as translated from the Go source = the model's `rebuild`, for EVERY snapshot and
    record list whose sequence numbers are int64 values (`nextSeq++` wraps; the map, the `for {}` loop, the
    clone, the lazy `||` are the code's). `len(records)+1` iterations of the `for {}` suffice (the fuel
    argument of the translation; with less the translation says `none`). The error VALUE is `true`
    = ErrBisyncJournalGap (the only error the function returns). -/
theorem gen_rebuild_eq_model (ver : Bytes) (snap : Option Snap) (recs : List Rec)
    (hs : ∀ s, snap = some s → I64 s.seq) (hr : ∀ r ∈ recs, I64 r.seq) :
    rebuildFrontier ver (recs.length + 1) snap (recs.map some) =
      some (match rebuild ver snap recs with
        | .ok s => (s, false)
        | .error _ => (none, true)) := by
  have e : (recs.map some).filterMap id = recs := by
    rw [List.filterMap_map]; exact List.filterMap_some
  have := gen_rebuild_eq_model_nil ver snap (recs.map some) (recs.length + 1) (by rw [e]; exact Nat.le_refl _)
    (by cases recs with
        | nil => exact Or.inl rfl
        | cons r rest => rw [e]; exact Or.inr (List.cons_ne_nil _ _))
    hs (by rw [e]; exact hr)
  rw [e] at this
  exact this

/-- the one input where they differ -/
example : rebuildFrontier [49] 3 none [none] = some (none, true) := by decide +kernel
example : (rebuild [49] none ([none].filterMap id)).toOption = some none := by decide +kernel


/-- LoadBisyncLatestStartRecord's loop over the parsed records with the REGENERATED selection step
    = the model's `bestLatest` (record and count) -/
theorem gen_bestLatest_eq_model (ids : List Bytes) (recs : List Rec) (hlen : (recs.length : Int) < 9223372036854775807) :
    genBestLatest ids recs (none, 0) = some ((bestLatest recs ids).1, ((bestLatest recs ids).2 : Int)) := by
  rw [genBestLatest_eq ids recs (none, 0) (Int.le_refl _) (by rw [Int.zero_add]; exact hlen), bestLatest_eq,
    Int.zero_add]

/-- what `rebuild_contiguous` proves about the model holds for the function as translated from the Go source -/
theorem gen_rebuild_contiguous (ver : Bytes) (snap : Option Snap) (recs : List Rec) (res : Snap)
    (hs : ∀ s, snap = some s → I64 s.seq) (hr : ∀ r ∈ recs, I64 r.seq)
    (h : rebuildFrontier ver (recs.length + 1) snap (recs.map some) = some (some res, false)) :
    baseSeq snap ≤ res.seq ∧
    (∀ m, baseSeq snap < m → m ≤ res.seq → ∃ r ∈ recs, r.seq = m ∧ 0 < r.seq) := by
  rw [gen_rebuild_eq_model ver snap recs hs hr] at h
  cases hm : rebuild ver snap recs with
  | error e => rw [hm] at h; simp at h
  | ok s =>
    rw [hm] at h
    simp only [Option.some.injEq, Prod.mk.injEq, and_true] at h
    subst h
    obtain ⟨a, b, _, _⟩ := rebuild_contiguous ver snap recs res hm
    exact ⟨a, b⟩

/-! ### non-vacuity -/

example : rebuildFrontier [49] 4 (some ⟨[114], 2, 1020, 5, [49]⟩) [some (exR 6 1), some (exR 4 2), some (exR 3 3)]
    = some (some ⟨[114], 4, 1040, 5, [49]⟩, false) := by decide +kernel
example : rebuildFrontier [49] 3 none [some (exR 3 1), some (exR 2 1)] = some (none, true) := by decide +kernel
/-- too little fuel: the translation says so (`none`), it does not invent a result -/
example : rebuildFrontier [49] 1 (some ⟨[114], 2, 1020, 5, [49]⟩) [some (exR 4 2), some (exR 3 3)] = none := by decide +kernel
/-- a nil snapshot pointer handed to Clone panics -/
example : clone none = none := rfl
example : rebuildFrontier [49] 4 (some ⟨[114], 2, 1020, 5, [49]⟩) ([exR 6 1, exR 4 2, exR 3 3].map some)
    = some (match rebuild [49] (some ⟨[114], 2, 1020, 5, [49]⟩) [exR 6 1, exR 4 2, exR 3 3] with
        | .ok s => (s, false) | .error _ => (none, true)) :=
  gen_rebuild_eq_model [49] _ [exR 6 1, exR 4 2, exR 3 3]
    (by intro s h; cases h; exact ⟨by decide, by decide⟩)
    (by intro r h; simp at h; rcases h with h | h | h <;> subst h <;> exact ⟨by decide, by decide⟩)
example : genBestLatest [[114]] [⟨9, 1020, 1, [114], 0⟩, ⟨2, 1030, 1, [114], 5⟩, ⟨7, 1030, 0, [99], 9⟩] (none, 0)
    = some (some ⟨2, 1030, 1, [114], 5⟩, 2) := by decide +kernel

end GunYu.Props.C14
