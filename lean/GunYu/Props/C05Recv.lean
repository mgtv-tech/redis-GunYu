/-
  C05, memory backend — the snapshot offered for replay holds, and its readers
  deliver, exactly the bytes RECEIVED for that snapshot announcement, complete and
  in order (the memory counterpart of C08's `crash_snapshot_true`).

  `mReceived l m ops` (Model/StoreMemRecv.lean) is the ghost: the announcement
  `(left, size)` of the last `NewRdbWriter` of the operation list and the bytes of
  the chunks handed to the snapshot writer that `appendRdb` reported as written —
  computed from the operations' chunks and the count the append returns, never
  from the snapshot's segments. All theorems: ANY operation list, NO hypothesis.
-/
import GunYu.Proofs.StoreMemRecv

namespace GunYu.Props.C05
open GunYu GunYu.Store

/-- the ghost invariant after any operation list -/
theorem mem_recv_invariant (l m : Nat) (ops : List MOp) :
    RecvInv ((Mem.init l m).run ops) (mReceived l m ops) :=
  (RecvInv.init l m).run (MemInv.init l m) ops

/-- … kept by the driver's settling (the states the correspondence harness compares) -/
theorem mem_recv_invariant_settled (s : Mem) (g : Option MRecv) (hi : MemInv s) (h : RecvInv s g) :
    (s.settleG g).1 = s.settle ∧ RecvInv (s.settleG g).1 (s.settleG g).2 :=
  ⟨settleG_fst s g, h.settle hi⟩

/-- **mem_snapshot_holds_received.** After ANY operation list, a snapshot that is
    offered is the LAST announcement made (`left`, `size`) and holds exactly the
    bytes received for it, in order — nothing of an earlier announcement, nothing
    lost, nothing reordered. -/
theorem mem_snapshot_holds_received (l m : Nat) (ops : List MOp) :
    let s := (Mem.init l m).run ops
    ∀ rd, s.rdbOffered = some rd → mReceived l m ops = some ⟨rd.left, rd.size, mflat rd.segs⟩ := by
  intro s rd hro
  obtain ⟨hr, hrep⟩ := rdbOffered_replayable _ _ hro
  exact mem_recv_invariant l m ops rd hr hrep

/-- **mem_offered_snapshot_complete.** … and once its writer is gone it is COMPLETE:
    at least `size` bytes were received (all of them held). -/
theorem mem_offered_snapshot_complete (l m : Nat) (ops : List MOp) :
    let s := (Mem.init l m).run ops
    ∀ rd, s.rdbOffered = some rd → rd.writing = false →
      ∃ rc, mReceived l m ops = some rc ∧ rc.left = rd.left ∧ rc.size = rd.size ∧ rc.size ≤ rc.bytes.length := by
  intro s rd hro hw
  refine ⟨_, mem_snapshot_holds_received l m ops rd hro, rfl, rfl, ?_⟩
  have hfull : FullInv s := (FullInv.init l m).run ops
  obtain ⟨hcl, _, _⟩ := offered_complete_or_live s hfull.1 rd hro
  obtain ⟨_, _, _, hlen⟩ := snapshot_shape hfull rd hro
  rcases hcl with h | h
  · rw [hw] at h; cases h
  · show rd.size ≤ (mflat rd.segs).length
    omega

/-- **mem_snapshot_reader_delivers_received.** After ANY operation list, a copy loop
    replaying the offered snapshot has written to its pipe exactly the first `pos`
    bytes RECEIVED for that announcement, in order. -/
theorem mem_snapshot_reader_delivers_received (l m : Nat) (ops : List MOp) :
    let s := (Mem.init l m).run ops
    ∀ rd, s.rdbOffered = some rd →
      ∀ r ∈ s.readers, r.isAof = false → r.released = false → ∀ g ∈ rd.segs, g.sid = r.seg →
        ∃ rc, mReceived l m ops = some rc ∧ rc.left = rd.left ∧ rc.size = rd.size ∧
          r.pos ≤ rc.bytes.length ∧ r.out = rc.bytes.take r.pos := by
  intro s rd hro r hr ha hrel g hg hs
  have hfull : FullInv s := (FullInv.init l m).run ops
  obtain ⟨_, h2, h3⟩ := snapshot_reader_delivers hfull rd hro r hr ha hrel g hg hs
  refine ⟨_, mem_snapshot_holds_received l m ops rd hro, rfl, rfl, ?_, h3⟩
  -- pos ≤ g.right ≤ the bytes held
  have hflat : (mflat rd.segs).length = rd.written := (snapshot_shape hfull rd hro).2.2.2
  obtain ⟨hr', hrep⟩ := rdbOffered_replayable _ _ hro
  have hsn := hfull.2.snap rd hr' hrep
  have hso := hsn.segOk g hg
  have := hso.hi
  show r.pos ≤ (mflat rd.segs).length
  omega

/-- **the count is the operation's output.** A snapshot append that reports
    `.blocked n` was accepted for exactly its first `n` bytes; the rest waits in the
    writer (`pendR`) — it enters the record only when a retry appends it. -/
theorem mem_received_blocked_prefix (s : Mem) (chunk : Bytes) (n : Nat)
    (h : (s.step (.rdbAppend chunk)).2 = .blocked n) :
    s.rdbAccepted (.rdbAppend chunk) = chunk.take n ∧ (s.step (.rdbAppend chunk)).1.pendR = some (chunk.drop n) := by
  simp only [Mem.step, Mem.rdbAccepted] at h ⊢
  by_cases hp : s.pendR.isSome = true
  · simp [hp] at h
  · simp only [hp, if_false, Bool.false_eq_true] at h ⊢
    by_cases hb : (Mem.appendRdbLoop (chunk.length + 1) s chunk 0).2.2 = true
    · simp only [hb, if_true] at h ⊢
      cases h; exact ⟨rfl, rfl⟩
    · simp only [hb, if_false, Bool.false_eq_true] at h
      split at h
      · split at h <;> cases h
      · cases h

/-- … and an append on a live writer that was not already blocked and does not report
    `.blocked` was accepted as a WHOLE (`.ok` / `.done`: the count is the chunk's length),
    after any operation list. -/
theorem mem_received_whole_chunk (l m : Nat) (ops : List MOp) (chunk : Bytes) :
    let s := (Mem.init l m).run ops
    s.pendR = none → (∃ r, s.rdb = some r ∧ r.writing = true) → (∀ n, (s.step (.rdbAppend chunk)).2 ≠ .blocked n) →
      s.rdbAccepted (.rdbAppend chunk) = chunk := by
  intro s hp hlive hnb
  have hi : MemInv s := run_inv _ ops (MemInv.init l m)
  simp only [Mem.rdbAccepted, hp, Option.isSome_none, Bool.false_eq_true, if_false]
  have hb : (Mem.appendRdbLoop (chunk.length + 1) s chunk 0).2.2 = false := by
    cases hx : (Mem.appendRdbLoop (chunk.length + 1) s chunk 0).2.2 with
    | false => rfl
    | true =>
      exfalso
      apply hnb (Mem.appendRdbLoop (chunk.length + 1) s chunk 0).2.1
      simp only [Mem.step, hp, Option.isSome_none, Bool.false_eq_true, if_false, hx, if_true]
  have := appendRdbLoop_complete (chunk.length + 1) s chunk 0 hi hlive (by omega) hb
  rw [this]
  simp

/-- only snapshot appends and retries are ever accepted bytes of -/
theorem mem_received_only_from_appends (s : Mem) (op : MOp) (h : s.rdbAccepted op ≠ []) :
    (∃ chunk, op = .rdbAppend chunk) ∨ op = .retryAppend := by
  cases op <;> first | exact Or.inl ⟨_, rfl⟩ | exact Or.inr rfl | exact absurd rfl h

/-! ### non-vacuity -/

/-- a snapshot received in two chunks across a rotation, replayed by a reader -/
def exRecvOps : List MOp :=
  [ .setRunId "id1", .newRdbWriter 500 6, .rdbAppend [7,8,9], .openReader 0 400, .startReader 0, .copyStep 0,
    .rdbAppend [10,11,12], .copyStep 0, .copyStep 0, .copyStep 0 ]

example : mReceived 4 0 exRecvOps = some ⟨500, 6, [7,8,9,10,11,12]⟩ := by decide
example : (((Mem.init 4 0).run (exRecvOps.take 2)).step (.rdbAppend [7,8,9])).2 = Out.ok ∧
    ((Mem.init 4 0).run (exRecvOps.take 2)).rdbAccepted (.rdbAppend [7,8,9]) = [7,8,9] := by decide
example : ((Mem.init 4 0).run exRecvOps).rdbOffered.map (fun rd => (rd.left, rd.size, rd.writing, mflat rd.segs)) =
    some (500, 6, false, [7,8,9,10,11,12]) := by decide
example : ((Mem.init 4 0).run exRecvOps).readers.map (fun r => (r.isAof, r.released, r.pos, r.out)) =
    [(false, false, 6, [7,8,9,10,11,12])] := by decide

/-- a second announcement replaces the first: the record starts again -/
example : mReceived 4 0 (exRecvOps ++ [.newRdbWriter 900 3, .rdbAppend [1, 2]]) = some ⟨900, 3, [1, 2]⟩ := by decide

/-- a snapshot append blocked on capacity (the snapshot's first segment is pinned by a
    reader that never ran): nothing is accepted, the chunk waits in the writer; after
    the reader is closed the retry collects that segment (the snapshot is then no
    longer offered) and appends the chunk, which enters the record only now -/
def exRecvBlocked : List MOp :=
  [ .setRunId "id1", .newRdbWriter 100 8, .rdbAppend [1,2,3,4], .openReader 0 50, .rdbAppend [5,6,7,8] ]

example : (((Mem.init 4 7).run (exRecvBlocked.take 4)).step (.rdbAppend [5,6,7,8])).2 = Out.blocked 0 := by decide
example : mReceived 4 7 exRecvBlocked = some ⟨100, 8, [1,2,3,4]⟩ ∧
    ((Mem.init 4 7).run exRecvBlocked).pendR = some [5,6,7,8] ∧
    ((Mem.init 4 7).run exRecvBlocked).getRdb = (100, 8) := by decide
example : mReceived 4 7 (exRecvBlocked ++ [.closeReader 0, .retryAppend]) = some ⟨100, 8, [1,2,3,4,5,6,7,8]⟩ ∧
    ((Mem.init 4 7).run (exRecvBlocked ++ [.closeReader 0, .retryAppend])).getRdb = (-1, -1) := by decide

end GunYu.Props.C05
