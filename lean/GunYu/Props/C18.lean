/-
  C18 — Cluster-mode bidirectional units are single-slot or refused, never
  best-effort.

  Property theorems only (helpers: Proofs/BisyncTags.lean, Proofs/BisyncUnit.lean,
  Proofs/BisyncTxn.lean). Quantifier: all source commands and transactions
  (any command names, any argument bytes, any brace arrangement in keys), any
  key resolver (the regenerated static key tables, with or without the
  COMMAND GETKEYS fall-back — `r` is universally quantified), all three ways a
  unit is committed (sync `latest`, pipeline/parallel `journal`, snapshot
  `rdb`). Filter-reduced transactions are command lists like any other.

  Slots are stated with the HASH_SLOT specification `hashSlotSpec` (C11), not
  with the functions under test.
-/
import GunYu.Model.BisyncUnit
import GunYu.Proofs.BisyncTags
import GunYu.Proofs.BisyncUnit
import GunYu.Proofs.BisyncTxn
import GunYu.Proofs.BisyncCommit
import GunYu.Proofs.BisyncRdb
import GunYu.Props.C11
import GunYu.Proofs.BisyncBlocks

namespace GunYu.Props.C18
open GunYu GunYu.Slot GunYu.BisyncUnit

/-- For every slot, the tag the (regenerated) table holds makes `{tag}` hash to
    that slot as Redis Cluster computes it; tags are non-empty and brace-free
    (16384 entries checked by kernel evaluation). -/
theorem slotTag_hits_slot (s : Nat) (hs : s < 16384) :
    hashSlotSpec (braced (slotTag s)) = s ∧
    lbrace ∉ slotTag s ∧ rbrace ∉ slotTag s ∧ slotTag s ≠ [] :=
  slotTag_spec s hs

-- slot 0 ↦ "slot-59e4", slot 15495 (the slot of "a")
example : slotTag 0 = [115,108,111,116,45,53,57,101,52] := by decide +kernel
example : hashSlotSpec (braced (slotTag 15495)) = 15495 := (slotTag_hits_slot 15495 (by decide)).1

/-- **Single slot.** Whenever the builder returns a unit in cluster mode, every
    business key (as the resolver names them) and every control key of the
    transaction it is committed with — marker, latest / commit record, index —
    hashes to the unit's slot under HASH_SLOT. `cp` is the checkpoint name
    (`redis-gunyu-checkpoint-bisync:<hex>`, brace-free). -/
theorem unit_single_slot (r : Resolver) (cmds : List Cmd) (u : RUnit) (cp : Bytes) (k : CommitKind)
    (p : Payload) (hcp : lbrace ∉ cp) (h : buildUnit clusterMode r cmds = .ok u) :
    u.slot < 16384 ∧ ∀ key ∈ unitKeys r u ++ controlKeys cp k u p, hashSlotSpec key = u.slot := by
  obtain ⟨hne, hrt, hkeys, htag, hcmds⟩ := (buildUnit_cluster_iff r cmds u).mp h
  have hslot : u.slot < 16384 := by
    obtain ⟨k0, hm⟩ := List.exists_mem_of_ne_nil _ (allKeys_ne_nil hne hrt)
    rw [← hkeys k0 hm, C11.keyToSlot_eq_spec]
    exact hashSlotSpec_lt k0
  refine ⟨hslot, ?_⟩
  intro key hkey
  rcases List.mem_append.mp hkey with e | e
  · rw [unitKeys_eq, hcmds] at e
    rw [← C11.keyToSlot_eq_spec]
    exact hkeys key e
  · exact controlKeys_slot cp k u p hcp hslot htag key e

/-- **Refused before anything is sent.** A command list that is empty, contains
    a command whose key positions cannot be determined (resolver error, "not
    found", or an empty key list), or whose keys span two HASH_SLOT values makes
    the builder return an error, and the replay of that unit issues no request
    at all (`replayUnit = none`: not even MULTI). -/
theorem unroutable_refused_before_send (r : Resolver) (cv : ClusterView) (anyNode : Option Nat)
    (cp : Bytes) (k : CommitKind) (p : Payload) (cmds : List Cmd)
    (h : cmds = [] ∨ (∃ c ∈ cmds, ¬ Routable r c) ∨
      (∃ k1 ∈ allKeys r cmds, ∃ k2 ∈ allKeys r cmds, hashSlotSpec k1 ≠ hashSlotSpec k2)) :
    (∃ e, buildUnit clusterMode r cmds = .error e) ∧ replayUnit r cv anyNode cp k p cmds = none := by
  have hno : ∀ u, buildUnit clusterMode r cmds ≠ .ok u := by
    intro u hu
    obtain ⟨hne, hrt, hkeys, _, _⟩ := (buildUnit_cluster_iff r cmds u).mp hu
    rcases h with h | ⟨c, hc, hn⟩ | ⟨k1, hk1, k2, hk2, hd⟩
    · exact hne h
    · exact hn (hrt c hc)
    · apply hd
      rw [← C11.keyToSlot_eq_spec, ← C11.keyToSlot_eq_spec, hkeys k1 hk1, hkeys k2 hk2]
  cases hb : buildUnit clusterMode r cmds with
  | ok u => exact absurd hb (hno u)
  | error e =>
    refine ⟨⟨e, rfl⟩, ?_⟩
    unfold replayUnit
    rw [hb]

/-- also at the client: when the transaction batcher refuses a command, nothing
    of the transaction goes on the wire -/
theorem client_refusal_sends_nothing (cv : ClusterView) (anyNode : Option Nat) (cmds : List Cmd)
    (e : PutErr) (h : txnPutAll cv anyNode {} cmds = .error e) : wire cv anyNode cmds = .error e := by
  unfold wire; rw [h]

/-- **Never refused when routable and single-slot.** A non-empty command list
    whose commands all resolve to at least one key and whose keys share one
    HASH_SLOT value is accepted by the builder, unchanged. -/
theorem same_slot_never_refused (r : Resolver) (cmds : List Cmd) (hne : cmds ≠ [])
    (hrt : ∀ c ∈ cmds, Routable r c)
    (hs : ∀ k1 ∈ allKeys r cmds, ∀ k2 ∈ allKeys r cmds, hashSlotSpec k1 = hashSlotSpec k2) :
    ∃ u, buildUnit clusterMode r cmds = .ok u ∧ u.cmds = cmds ∧
      ∀ key ∈ allKeys r cmds, hashSlotSpec key = u.slot := by
  obtain ⟨k0, hm⟩ := List.exists_mem_of_ne_nil _ (allKeys_ne_nil hne hrt)
  refine ⟨⟨keyToSlot k0, slotTag (keyToSlot k0), cmds⟩, ?_, rfl, ?_⟩
  · rw [buildUnit_cluster_iff]
    refine ⟨hne, hrt, ?_, rfl, rfl⟩
    intro k hkm
    show keyToSlot k = keyToSlot k0
    rw [C11.keyToSlot_eq_spec, C11.keyToSlot_eq_spec]
    exact hs k hkm k0 hm
  · intro key hkm
    show hashSlotSpec key = keyToSlot k0
    rw [C11.keyToSlot_eq_spec]
    exact hs key hkm k0 hm

/-- **The client's re-validation agrees with the builder.** With the resolver
    the tool uses (static tables, then the same COMMAND GETKEYS fall-back the
    cluster client uses) and a slot map that covers all slots, the transaction
    batcher accepts a list of plain commands (not PING/CLUSTER/INFO/SELECT/
    MGET/MSET/MSETNX/MULTI/EXEC, at least one argument) exactly when the builder
    accepts it. -/
theorem client_revalidation_agrees (cv : ClusterView) (hcov : Covered cv) (anyNode : Option Nat)
    (cmds : List Cmd) (hne : cmds ≠ []) (hp : ∀ c ∈ cmds, Plain c) :
    (∃ u, buildUnit clusterMode (resolverWith cv.getKeys) cmds = .ok u) ↔
      (∃ t, txnPutAll cv anyNode {} cmds = .ok t ∧ t.cmds = cmds) := by
  cases cmds with
  | nil => exact absurd rfl hne
  | cons c cs =>
    constructor
    · rintro ⟨u, hu⟩
      obtain ⟨_, hrt, hkeys, _, _⟩ := (buildUnit_cluster_iff _ _ u).mp hu
      refine ⟨{ node := cv.owner u.slot, slot := some u.slot, cmds := c :: cs }, ?_, rfl⟩
      rw [txnPutAll_fresh cv hcov anyNode c cs hp]
      refine ⟨hrt, u.slot, ?_, rfl⟩
      intro k hk
      rw [← C11.keyToSlot_eq_clusterHash]
      exact hkeys k hk
    · rintro ⟨t, ht, _⟩
      obtain ⟨hrt, s, hkeys, _⟩ := (txnPutAll_fresh cv hcov anyNode c cs hp t).mp ht
      refine ⟨⟨s, slotTag s, c :: cs⟩, ?_⟩
      rw [buildUnit_cluster_iff]
      refine ⟨by simp, hrt, ?_, rfl, rfl⟩
      intro k hk
      show keyToSlot k = s
      rw [C11.keyToSlot_eq_clusterHash]
      exact hkeys k hk

/-- The cluster client's batcher accepts the whole transaction a built unit is committed
    with, and sends it to the owner of the unit's slot. -/
theorem committed_txn_node (cv : ClusterView) (hcov : Covered cv) (anyNode : Option Nat) (cp : Bytes)
    (k : CommitKind) (p : Payload) (cmds : List Cmd) (u : RUnit) (hcp : lbrace ∉ cp)
    (hp : ∀ c ∈ cmds, Plain c)
    (h : buildUnit clusterMode (resolverWith cv.getKeys) cmds = .ok u) :
    txnPutAll cv anyNode {} (commitCmds cp k u p) =
      .ok { node := cv.owner u.slot, slot := some u.slot, cmds := commitCmds cp k u p } := by
  obtain ⟨hne, hrt, hkeys, htag, hcmds⟩ := (buildUnit_cluster_iff _ cmds u).mp h
  obtain ⟨hslot, hall⟩ := unit_single_slot _ cmds u cp k p hcp h
  have hshape := commit_cmds_shape cp k u p cv.getKeys
  obtain ⟨c0, cs0, hcc⟩ := commitCmds_ne_nil cp k u p
  have hplain : ∀ c ∈ c0 :: cs0, Plain c := by
    intro c hc
    rw [← hcc] at hc
    rcases hshape c hc with e | ⟨e, _⟩
    · rw [hcmds] at e; exact hp c e
    · exact e
  rw [hcc, txnPutAll_fresh cv hcov anyNode c0 cs0 hplain]
  refine ⟨?_, u.slot, ?_, rfl⟩
  · intro c hc
    rw [← hcc] at hc
    rcases hshape c hc with e | ⟨_, key, _, hr⟩
    · rw [hcmds] at e; exact hrt c e
    · exact ⟨[key], hr, by simp⟩
  · intro key hkey
    unfold allKeys at hkey
    obtain ⟨c, hc, hkc⟩ := List.mem_flatMap.mp hkey
    rw [← hcc] at hc
    rw [C11.clusterHash_eq_spec]
    rcases hshape c hc with e | ⟨_, ck, hck, hr⟩
    · exact hall key (List.mem_append.mpr (Or.inl (List.mem_flatMap.mpr ⟨c, e, hkc⟩)))
    · rw [resolvedKeys_of_ok hr] at hkc
      have : key = ck := by simpa using hkc
      rw [this]
      exact hall ck (List.mem_append.mpr (Or.inr hck))

/-- **End to end.** A unit the builder accepts is committed as exactly one
    MULTI … EXEC block holding the marker, the business commands and the
    records, and the cluster client's batcher accepts all of it (so the target
    node receives a block it can execute atomically: by `unit_single_slot` all
    its keys are in one slot). -/
theorem committed_txn_accepted (cv : ClusterView) (hcov : Covered cv) (anyNode : Option Nat) (cp : Bytes)
    (k : CommitKind) (p : Payload) (cmds : List Cmd) (u : RUnit) (hcp : lbrace ∉ cp)
    (hp : ∀ c ∈ cmds, Plain c)
    (h : buildUnit clusterMode (resolverWith cv.getKeys) cmds = .ok u) :
    replayUnit (resolverWith cv.getKeys) cv anyNode cp k p cmds =
      some (⟨wMulti, []⟩ :: commitCmds cp k u p ++ [⟨wExec, []⟩]) := by
  unfold replayUnit wire
  rw [h]
  simp only
  rw [committed_txn_node cv hcov anyNode cp k p cmds u hcp hp h]
  obtain ⟨c0, cs0, hcc⟩ := commitCmds_ne_nil cp k u p
  simp [hcc]

/-- **Routable and single-slot ⇒ replayed whole.** The positive direction end
    to end: such a command list is built into a unit AND committed as exactly
    one MULTI … EXEC block (marker, the commands, records) by the cluster client. -/
theorem same_slot_replayed (cv : ClusterView) (hcov : Covered cv) (anyNode : Option Nat) (cp : Bytes)
    (k : CommitKind) (p : Payload) (cmds : List Cmd) (hcp : lbrace ∉ cp) (hne : cmds ≠ [])
    (hp : ∀ c ∈ cmds, Plain c) (hrt : ∀ c ∈ cmds, Routable (resolverWith cv.getKeys) c)
    (hs : ∀ k1 ∈ allKeys (resolverWith cv.getKeys) cmds, ∀ k2 ∈ allKeys (resolverWith cv.getKeys) cmds,
      hashSlotSpec k1 = hashSlotSpec k2) :
    ∃ u, buildUnit clusterMode (resolverWith cv.getKeys) cmds = .ok u ∧
      replayUnit (resolverWith cv.getKeys) cv anyNode cp k p cmds =
        some (⟨wMulti, []⟩ :: commitCmds cp k u p ++ [⟨wExec, []⟩]) := by
  obtain ⟨u, hu, _, _⟩ := same_slot_never_refused _ cmds hne hrt hs
  exact ⟨u, hu, committed_txn_accepted cv hcov anyNode cp k p cmds u hcp hp hu⟩

/-- The builder's COMMAND GETKEYS fall-back (asked of every node, first answer
    wins) and the cluster client's (one node) are separate calls in the code.
    The agreement theorems hold for ANY builder fall-back `fbB` that answers
    like the client's wherever the static tables do not resolve a command of
    the list; where the two disagree a unit the builder accepts can be refused
    by the client (the replay then stops, nothing of the unit is sent). -/
theorem client_revalidation_agrees' (cv : ClusterView) (hcov : Covered cv) (anyNode : Option Nat)
    (fbB : Bytes → List Bytes → Fb) (cmds : List Cmd) (hne : cmds ≠ []) (hp : ∀ c ∈ cmds, Plain c)
    (hfb : ∀ c ∈ cmds, commandKeys c.name c.args = none → fbB c.name c.args = cv.getKeys c.name c.args) :
    (∃ u, buildUnit clusterMode (resolverWith fbB) cmds = .ok u) ↔
      (∃ t, txnPutAll cv anyNode {} cmds = .ok t ∧ t.cmds = cmds) := by
  rw [buildUnit_congr clusterMode (resolverWith fbB) (resolverWith cv.getKeys) cmds
    (fun c hc => resolverWith_congr fbB cv.getKeys c (hfb c hc))]
  exact client_revalidation_agrees cv hcov anyNode cmds hne hp

-- the two fall-backs disagreeing: the builder accepts `foo x`, the client refuses it
example : buildUnit clusterMode (resolverWith (fun _ args => .keys (args.take 1))) [⟨[102,111,111], [[120]]⟩] =
    .ok ⟨keyToSlot [120], slotTag (keyToSlot [120]), [⟨[102,111,111], [[120]]⟩]⟩ := by decide +kernel
example : replayUnit (resolverWith (fun _ args => .keys (args.take 1)))
    { owner := fun s => some (s / 5462), getKeys := fun _ _ => .err } (some 0) [99,112] .latest ⟨[], [], 1⟩
    [⟨[102,111,111], [[120]]⟩] = none := by decide +kernel

/-- **A refused source transaction emits nothing.** In the parser
    (`parseAofReplayUnits`, Model/Bisync.lean): a source command or MULTI/EXEC
    block of forwardable commands whose unit the builder refuses makes the
    parser stop with that error having emitted NO unit for the block — the
    transaction is buffered until EXEC and built once, never split or replayed
    in part. -/
theorem refused_txn_emits_nothing (pc : Bisync.PCfg) (hf : Bisync.FOK pc.filter) (b : Bisync.Block)
    (hb : ∀ c ∈ b.body, Bisync.Fgn pc c) (hne : b.body ≠ []) (pst : Bisync.PState) (hi : Bisync.Idle pst)
    (e : BuildErr) (herr : buildUnit pc.mode pc.resolver (b.body.map Bisync.norm) = .error e) :
    ∃ pst', Bisync.parseBlock pc pst b = ([], pst', some (.build e)) := by
  rcases Bisync.foreign_block pc hf b hb hne pst hi with ⟨_, _, _, _, _, _, _, hok⟩ | ⟨pst', e', h, he'⟩
  · rw [herr] at hok; cases hok
  · rw [herr] at he'
    injection he' with he'
    exact ⟨pst', by rw [he']; exact h⟩

/-- **Snapshot phase.** The unit `buildBisyncRdbReplayUnit` makes for an entry
    in cluster mode carries the slot of the TARGET key (the key after an
    optional hash-tag replacement); when the entry's commands are all on the
    target key, every business and control key of the committed transaction is
    on that slot. -/
theorem rdb_unit_single_slot (r : Resolver) (replaceHashTag : Bool) (key : Bytes) (cmds : List Cmd)
    (cp : Bytes) (k : CommitKind) (p : Payload) (hcp : lbrace ∉ cp)
    (hk : ∀ c ∈ cmds, ∀ x ∈ resolvedKeys r c, x = rdbTargetKey replaceHashTag key) :
    let u := buildRdbUnit true replaceHashTag key cmds
    u.slot = hashSlotSpec (rdbTargetKey replaceHashTag key) ∧
    ∀ x ∈ unitKeys r u ++ controlKeys cp k u p, hashSlotSpec x = u.slot := by
  intro u
  have hslot : u.slot = hashSlotSpec (rdbTargetKey replaceHashTag key) := C11.keyToSlot_eq_spec _
  refine ⟨hslot, ?_⟩
  intro x hx
  rcases List.mem_append.mp hx with e | e
  · rw [unitKeys_eq] at e
    obtain ⟨c, hc, hxc⟩ := List.mem_flatMap.mp e
    rw [hk c hc x hxc, hslot]
  · exact controlKeys_slot cp k u p hcp (by rw [hslot]; exact hashSlotSpec_lt _) rfl x e

/-- **Snapshot phase, the command list included** (closes the hypothesis `hk`
    of `rdb_unit_single_slot`). The unit `buildBisyncRdbReplayUnit` assembles for
    a keyed entry — RESTORE form, or the expanded form: what the object parser
    hands over with names lower-cased and the source key rewritten to the
    target key at the key positions of the static tables, behind `del <target>`
    (first bin, keyExists = replace) and followed by `pexpire <target> <ttl>` —
    has, in cluster mode, the slot of the target key, and EVERY business key
    and every control key of its commit transaction hashes to that slot.
    "Business key" = the key positions of the shared static tables, which is
    what the cluster client's re-validation (`txnBatcher.Put`) and a cluster
    node see; `buildBisyncRdbReplayUnit` itself consults NO resolver — it takes
    the slot of the target key and trusts the expansion, so this theorem is
    what makes that trust sound (`resolverWith fb` reads the tables first, so
    the fall-back never matters here). The only hypothesis left is about the object parser's output
    (`RawOn`: its commands name, by the static tables, key positions that all
    hold the entry's key and do not move under the rewriting). -/
theorem rdb_unit_single_slot_built (fb : Bytes → List Bytes → Fb) (useRestore firstBin replaceExisting replaceHashTag : Bool)
    (key : Bytes) (raw : List Cmd) (ttl : Option Bytes) (ttlArg dump : Bytes) (v5 : Bool) (idle freq : Nat)
    (cp : Bytes) (k : CommitKind) (p : Payload) (hcp : lbrace ∉ cp)
    (hraw : ∀ c ∈ raw, RawOn key (rdbTargetKey replaceHashTag key) c) :
    let tgt := rdbTargetKey replaceHashTag key
    let u := buildRdbUnit true replaceHashTag key (rdbCommands useRestore firstBin replaceExisting key tgt raw ttl ttlArg dump v5 idle freq)
    u.slot = hashSlotSpec tgt ∧
    ∀ x ∈ unitKeys (resolverWith fb) u ++ controlKeys cp k u p, hashSlotSpec x = u.slot := by
  intro tgt u
  apply rdb_unit_single_slot (resolverWith fb) replaceHashTag key _ cp k p hcp
  intro c hc x hx
  have hemp : key.isEmpty = true → tgt = key := by
    intro h
    have hk : key = [] := List.isEmpty_iff.mp h
    show rdbTargetKey replaceHashTag key = key
    rw [hk]; rfl
  have hon : OnKey tgt c := by
    unfold rdbCommands at hc
    split at hc
    · exact rdbRestore_onKey tgt ttlArg dump _ c hc
    · exact rdbExpanded_onKey key tgt raw _ ttl hemp hraw c hc
  exact resolved_of_onKey fb tgt c hon x hx

/-- the commands pkg/rdb's object parsers emit for a stream, as they emit them
    (upper case): `XADD key …`, `XSETID key …`, `XCLAIM key …` are of the tables'
    first-key class, `XGROUP CREATE key …` has the key as its SECOND argument
    (extractor): all satisfy `RawOn` on the entry's key -/
theorem raw_stream_commands (src tgt : Bytes) (rest : List Bytes) :
    RawOn src tgt ⟨[88,65,68,68], src :: rest⟩ ∧ RawOn src tgt ⟨[88,83,69,84,73,68], src :: rest⟩ ∧        -- XADD, XSETID
    RawOn src tgt ⟨[88,67,76,65,73,77], src :: rest⟩ ∧                                                        -- XCLAIM
    RawOn src tgt ⟨[88,71,82,79,85,80], [67,82,69,65,84,69] :: src :: rest⟩ ∧                                 -- XGROUP CREATE
    RawOn src tgt ⟨[120,103,114,111,117,112], [99,114,101,97,116,101] :: src :: rest⟩ :=                      -- xgroup create
  ⟨rawOn_generic _ _ _ _ (by decide +kernel) (by decide +kernel), rawOn_generic _ _ _ _ (by decide +kernel) (by decide +kernel),
   rawOn_generic _ _ _ _ (by decide +kernel) (by decide +kernel),
   rawOn_xgroup _ _ _ _ _ (by decide +kernel) (by decide), rawOn_xgroup _ _ _ _ _ (by decide +kernel) (by decide)⟩

/-- the commands the object parsers emit for strings, hashes, lists, sets,
    sorted sets and stream entries are of the tables' first-key class: on the
    entry's key they satisfy `RawOn`, whatever else they carry -/
theorem raw_first_key_commands (src tgt : Bytes) (rest : List Bytes) :
    RawOn src tgt ⟨[115,101,116], src :: rest⟩ ∧ RawOn src tgt ⟨[104,115,101,116], src :: rest⟩ ∧          -- set, hset
    RawOn src tgt ⟨[114,112,117,115,104], src :: rest⟩ ∧ RawOn src tgt ⟨[115,97,100,100], src :: rest⟩ ∧    -- rpush, sadd
    RawOn src tgt ⟨[122,97,100,100], src :: rest⟩ ∧ RawOn src tgt ⟨[120,97,100,100], src :: rest⟩ ∧         -- zadd, xadd
    RawOn src tgt ⟨[83,69,84], src :: rest⟩ ∧ RawOn src tgt ⟨[72,83,69,84], src :: rest⟩ :=                   -- SET, HSET (as emitted)
  ⟨rawOn_generic _ _ _ _ (by decide +kernel) (by decide +kernel), rawOn_generic _ _ _ _ (by decide +kernel) (by decide +kernel),
   rawOn_generic _ _ _ _ (by decide +kernel) (by decide +kernel), rawOn_generic _ _ _ _ (by decide +kernel) (by decide +kernel),
   rawOn_generic _ _ _ _ (by decide +kernel) (by decide +kernel), rawOn_generic _ _ _ _ (by decide +kernel) (by decide +kernel),
   rawOn_generic _ _ _ _ (by decide +kernel) (by decide +kernel), rawOn_generic _ _ _ _ (by decide +kernel) (by decide +kernel)⟩

-- an instance of the theorem: key "u{a}{b}" under replace-hashtag (the slot moves from "a" to "b"), first bin,
-- keyExists = replace, a hash field and a stream group: every key of the unit on the slot of "ua{b}"
example (fb : Bytes → List Bytes → Fb) (cp : Bytes) (hcp : lbrace ∉ cp) (p : Payload) :
    ∀ x ∈ unitKeys (resolverWith fb) (buildRdbUnit true true [117,123,97,125,123,98,125]
        (rdbCommands false true true [117,123,97,125,123,98,125] (rdbTargetKey true [117,123,97,125,123,98,125])
          [⟨[72,83,69,84], [[117,123,97,125,123,98,125], [102], [118]]⟩,
           ⟨[88,71,82,79,85,80], [[67,82,69,65,84,69], [117,123,97,125,123,98,125], [103], [36]]⟩] (some [84]) [84] [68]))
      ++ controlKeys cp .rdb (buildRdbUnit true true [117,123,97,125,123,98,125]
        (rdbCommands false true true [117,123,97,125,123,98,125] (rdbTargetKey true [117,123,97,125,123,98,125])
          [⟨[72,83,69,84], [[117,123,97,125,123,98,125], [102], [118]]⟩,
           ⟨[88,71,82,79,85,80], [[67,82,69,65,84,69], [117,123,97,125,123,98,125], [103], [36]]⟩] (some [84]) [84] [68])) p,
      hashSlotSpec x = hashSlotSpec [117,97,123,98,125] := by
  have h := rdb_unit_single_slot_built fb false true true true [117,123,97,125,123,98,125]
    [⟨[72,83,69,84], [[117,123,97,125,123,98,125], [102], [118]]⟩,
     ⟨[88,71,82,79,85,80], [[67,82,69,65,84,69], [117,123,97,125,123,98,125], [103], [36]]⟩] (some [84]) [84] [68] false 0 0
    cp .rdb p hcp (by
      intro c hc
      simp only [List.mem_cons, List.not_mem_nil, or_false] at hc
      rcases hc with rfl | rfl
      · exact (raw_first_key_commands _ _ _).2.2.2.2.2.2.2
      · exact (raw_stream_commands _ _ _).2.2.2.1)
  intro x hx
  rw [h.2 x hx, h.1]
  rfl

-- a hash of two fields under replace-hashtag, first bin, keyExists = replace, with an expiry:
-- del / hset / hset / pexpire, every key rewritten to the target key "ua{b}"
example : (rdbCommands false true true [117,123,97,125,123,98,125] (rdbTargetKey true [117,123,97,125,123,98,125])
    [⟨[72,83,69,84], [[117,123,97,125,123,98,125], [102], [117,123,97,125,123,98,125]]⟩, ⟨[72,83,69,84], [[117,123,97,125,123,98,125], [103], [118]]⟩]
    (some [84]) [84] [68]).map (fun c => (c.name, c.args.headD [])) =
    [(rDel, [117,97,123,98,125]), ([104,115,101,116], [117,97,123,98,125]), ([104,115,101,116], [117,97,123,98,125]),
     (rPexpire, [117,97,123,98,125])] := by decide +kernel
-- … and the VALUE equal to the source key is left alone (only key positions are rewritten)
example : ((rdbCommands false false false [117,123,97,125,123,98,125] (rdbTargetKey true [117,123,97,125,123,98,125])
    [⟨[72,83,69,84], [[117,123,97,125,123,98,125], [102], [117,123,97,125,123,98,125]]⟩] none [84] [68]).map (·.args)) =
    [[[117,97,123,98,125], [102], [117,123,97,125,123,98,125]]] := by decide +kernel

-- replace-hashtag moves the key to another slot; the unit follows the target key
example : rdbTargetKey true [117,123,97,125,123,98,125] = [117,97,123,98,125] := by decide   -- "u{a}{b}" ↦ "ua{b}"
example : (buildRdbUnit true true [117,123,97,125,123,98,125] []).slot = hashSlotSpec [98] := by decide +kernel
example : (buildRdbUnit true false [117,123,97,125,123,98,125] []).slot = hashSlotSpec [97] := by decide +kernel

/-! ### non-vacuity: concrete transactions over the regenerated tables -/

private def kA : Bytes := [123,97,125,123,98,125]        -- "{a}{b}"  (slot of "a" = 15495)
private def kA2 : Bytes := [120,123,97,125,121]          -- "x{a}y"   (same tag)
private def kB : Bytes := [123,125,123,98,125]           -- "{}{b}"   (whole key hashed)
private def cSet (k : Bytes) : Cmd := ⟨[115,101,116], [k, [118]]⟩          -- set k v
private def cDel (ks : List Bytes) : Cmd := ⟨[100,101,108], ks⟩            -- del ks…
private def cFoo : Cmd := ⟨[102,111,111], [[120]]⟩                         -- foo x (not in the tables)

-- accepted: two commands, three keys, one tag
example : buildUnit clusterMode defaultResolver [cSet kA, cDel [kA2, kA]] =
    .ok ⟨15495, slotTag 15495, [cSet kA, cDel [kA2, kA]]⟩ := by decide +kernel
-- refused: the second key hashes elsewhere although it shares a later tag
example : buildUnit clusterMode defaultResolver [cSet kA, cSet kB] = .error .crossSlot := by decide +kernel
-- refused: unknown key positions
example : buildUnit clusterMode defaultResolver [cSet kA, cFoo] = .error .notRoutable := by decide +kernel
-- hypotheses of `same_slot_never_refused` / `unroutable_refused_before_send` are inhabited
example : Routable defaultResolver (cSet kA) := ⟨[kA], by decide +kernel, by simp⟩
example : ¬ Routable defaultResolver cFoo := by
  rintro ⟨ks, h, _⟩
  have : defaultResolver cFoo.name cFoo.args = .notOk := by decide +kernel
  rw [this] at h; cases h
example : hashSlotSpec kA ≠ hashSlotSpec kB := by decide +kernel
-- standalone mode: slot forced to 0, cross-slot allowed
example : buildUnit standaloneMode defaultResolver [cSet kA, cSet kB] =
    .ok ⟨0, slotTag 0, [cSet kA, cSet kB]⟩ := by decide +kernel
-- the cluster client on the same lists (3 nodes by slot range)
private def cv3 : ClusterView := { owner := fun s => if s < 16384 then some (s / 5462) else none, getKeys := fun _ _ => .none }
example : Covered cv3 := fun s hs => ⟨s / 5462, by simp [cv3, hs]⟩
example : (txnPutAll cv3 (some 0) {} [cSet kA, cDel [kA2, kA]]).toBool = true := by decide +kernel
example : txnPutAll cv3 (some 0) {} [cSet kA, cSet kB] = .error .cross := by decide +kernel
example : txnPutAll cv3 (some 0) {} [cSet kA, cFoo] = .error .other := by decide +kernel
example : Plain (cSet kA) := ⟨by decide +kernel, by simp [cSet]⟩

end GunYu.Props.C18
