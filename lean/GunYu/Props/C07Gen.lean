/-
  C07 — the REGENERATED definitions of the checkpoint field-name helpers
  (pkg/redis/checkpoint/checkpoint_info.go RunIdKey / VersionKey / OffsetKey /
  MTimeKey; lean/GunYu/Gen/FnCheckpointKeys.lean, translated from /repo's Go
  source on every run) are `<run id> ++ suffix` with the regenerated suffix
  constants, and the naming is INJECTIVE: the field a WRITER names for the position
  (`<rid>_offset`, what C07's theorems are about) is never the name it uses for
  another kind of field or for another run id's field, so a write of `_runid` /
  `_version` / `_mtime`, or of another id's `_offset`, cannot overwrite it.

  What this does NOT give: a correct PARSE of the stored hash. The reader
  (checkpoint.go fetchCheckpoint) does not match names exactly; it uses
  `strings.HasPrefix(field, runId)` and `strings.Contains(field, suffix)`. That the
  parsed form `(rid, kind) ↦ value` of the models (Model/Checkpoint.lean `Entry`,
  `matchId`) is what the reader sees needs the separate ASSUMPTION listed in the
  property configs: run ids are equal-length hex strings (no `_`, none a prefix of
  another) - a run id `x_offset`, or one id that is a prefix of another, would be
  mis-parsed although the names are distinct.
-/
import GunYu.Model.Checkpoint
import GunYu.Gen.CheckpointConsts
import GunYu.Gen.FnCheckpointKeys

namespace GunYu.Props.C07
open GunYu GunYu.Checkpoint GunYu.Gen

/-- the wire name of a parsed field (hand model: rid ++ suffix of the kind) -/
def fieldName (rid : Bytes) : Kind → Bytes
  | .runid => rid ++ Gen.cpSuffixRunId
  | .version => rid ++ Gen.cpSuffixVersion
  | .offset => rid ++ Gen.cpSuffixOffset
  | .mtime => rid ++ Gen.cpSuffixMtime
  | .other => rid

/-- the regenerated helper of a kind -/
def genFieldName (cp : Fn.CheckpointInfo) : Kind → Option Bytes
  | .runid => Fn.runIdKey cp
  | .version => Fn.versionKey cp
  | .offset => Fn.offsetKey cp
  | .mtime => Fn.mtimeKey cp
  | .other => some cp.RunId

theorem gen_runIdKey_eq_model (cp : Fn.CheckpointInfo) : Fn.runIdKey cp = some (fieldName cp.RunId .runid) := rfl
theorem gen_versionKey_eq_model (cp : Fn.CheckpointInfo) : Fn.versionKey cp = some (fieldName cp.RunId .version) := rfl
theorem gen_offsetKey_eq_model (cp : Fn.CheckpointInfo) : Fn.offsetKey cp = some (fieldName cp.RunId .offset) := rfl
theorem gen_mtimeKey_eq_model (cp : Fn.CheckpointInfo) : Fn.mtimeKey cp = some (fieldName cp.RunId .mtime) := rfl

theorem gen_fieldName_eq_model (cp : Fn.CheckpointInfo) (k : Kind) :
    genFieldName cp k = some (fieldName cp.RunId k) := by
  cases k <;> rfl

theorem fieldName_suffix (k : Kind) : ∃ sfx, ∀ rid, fieldName rid k = rid ++ sfx := by
  cases k
  case other => exact ⟨[], fun rid => (List.append_nil rid).symm⟩
  all_goals exact ⟨_, fun _ => rfl⟩

theorem getLast_append_of_ne_nil {α : Type} (a b : List α) (hb : b ≠ []) :
    (a ++ b).getLast? = b.getLast? := by
  simp [List.getLast?_append]
  cases h : b.getLast? with
  | none => simp [List.getLast?_eq_none_iff] at h; exact absurd h hb
  | some x => simp

theorem fieldName_last (r : Bytes) (k : Kind) :
    (fieldName r k).getLast? = match k with
      | .runid => Gen.cpSuffixRunId.getLast?
      | .version => Gen.cpSuffixVersion.getLast?
      | .offset => Gen.cpSuffixOffset.getLast?
      | .mtime => Gen.cpSuffixMtime.getLast?
      | .other => r.getLast? := by
  cases k <;> first | rfl | exact getLast_append_of_ne_nil _ _ (by decide)

/-- the four suffixes end in four different bytes (d, n, t, e): names of different kinds differ -/
theorem fieldName_kind_injective (r1 r2 : Bytes) (k1 k2 : Kind) (h1 : k1 ≠ .other) (h2 : k2 ≠ .other)
    (h : fieldName r1 k1 = fieldName r2 k2) : k1 = k2 := by
  have hl := congrArg List.getLast? h
  rw [fieldName_last, fieldName_last] at hl
  cases k1 <;> cases k2 <;>
    first | rfl | exact absurd rfl h1 | exact absurd rfl h2 | exact absurd (by simpa only using hl) (by decide)

/-- **the naming is injective**: the field `<rid>_offset` of one run id is never another
    kind of field nor any field of another run id -/
theorem fieldName_injective (r1 r2 : Bytes) (k1 k2 : Kind) (h1 : k1 ≠ .other) (h2 : k2 ≠ .other)
    (h : fieldName r1 k1 = fieldName r2 k2) : r1 = r2 ∧ k1 = k2 := by
  have hk := fieldName_kind_injective r1 r2 k1 k2 h1 h2 h
  subst hk
  obtain ⟨sfx, hs⟩ := fieldName_suffix k1
  rw [hs, hs] at h
  exact ⟨List.append_cancel_right h, rfl⟩

/-- C07's position field, about the regenerated helpers: whatever two checkpoint records and
    kinds, the regenerated names coincide only for the same run id and the same kind - a write
    of `<rid>_runid` / `_version` / `_mtime`, or of another id's `_offset`, never touches
    the stored position `<rid>_offset` -/
theorem gen_fieldName_injective (c1 c2 : Fn.CheckpointInfo) (k1 k2 : Kind) (h1 : k1 ≠ .other) (h2 : k2 ≠ .other)
    (h : genFieldName c1 k1 = genFieldName c2 k2) : c1.RunId = c2.RunId ∧ k1 = k2 := by
  rw [gen_fieldName_eq_model, gen_fieldName_eq_model] at h
  exact fieldName_injective _ _ _ _ h1 h2 (Option.some.inj h)

/-! non-vacuity -/
example : Fn.offsetKey { Key := [], RunId := [97, 98], Version := [], Offset := 7, Mtime := 0 } =
    some [97, 98, 95, 111, 102, 102, 115, 101, 116] := by decide
example : genFieldName { Key := [], RunId := [97], Version := [], Offset := 0, Mtime := 0 } .mtime ≠
    genFieldName { Key := [], RunId := [97], Version := [], Offset := 0, Mtime := 0 } .offset := by decide

end GunYu.Props.C07
