/-
  C18 — "refused or single-slot, never sent cross-slot" on a target whose nodes
  answer COMMAND GETKEYS DIFFERENTLY or with errors, and the cluster client's
  transaction flag.

  The agreement theorems of Props/C18.lean assume that the builder's
  COMMAND GETKEYS (every node asked, first non-empty answer wins) and the
  cluster client's (one random node per Put) answer alike. Here nothing is
  assumed: `ans : node → cmd → args → answer` is arbitrary, the order in which
  the builder visits the nodes is arbitrary (`nodes`), the node each Put's
  query hits is arbitrary (`picks`).
-/
import GunYu.Props.C18
import GunYu.Proofs.ClusterNodes
import GunYu.Proofs.BisyncNames

namespace GunYu.Props.C18
open GunYu GunYu.Slot GunYu.BisyncUnit

/-- **Single slot, with the checkpoint name as the tool makes it.** `unit_single_slot`
    without the hypothesis on the name: for every generated name —
    `NewBisyncCheckpointName` for any random bytes, `redis-gunyu-checkpoint`, the
    slot-fitted `redis-gunyu-checkpoint-<letters>`, and hence (C13
    `resolved_names_generated`) every name a start reads back from the checkpoint
    hash — the control keys hash to the unit's slot by their `{tag}`. -/
theorem unit_single_slot_generated (r : Resolver) (cmds : List Cmd) (u : RUnit) (cp : Bytes) (k : CommitKind)
    (p : Payload) (hg : Bisync.GenCp cp) (h : buildUnit clusterMode r cmds = .ok u) :
    u.slot < 16384 ∧ ∀ key ∈ unitKeys r u ++ controlKeys cp k u p, hashSlotSpec key = u.slot :=
  unit_single_slot r cmds u cp k p (Bisync.genCp_nobrace cp hg) h

example (buf : Bytes) : Bisync.GenCp (Bisync.newCpName buf) := Or.inl ⟨buf, rfl⟩

/-- the marker SET is the first Put; accepted, it fixes the batcher's slot to
    the slot of the marker key, for which the client's slot map names an owner, whatever
    the nodes answer (SET is in the static tables: no COMMAND GETKEYS is consulted for it) -/
theorem markerPut_ok (cv : ClusterView) (anyNode : Option Nat) (cp : Bytes) (u : RUnit) (p : Payload) (t1 : Txn)
    (h : txnPut cv anyNode {} (markerCmd cp u p) = .ok t1) :
    t1.slot = some (clusterHash (Gen.markerKey cp u.slotTag)) ∧
    ∃ n, cv.owner (clusterHash (Gen.markerKey cp u.slotTag)) = some n := by
  have hset : upperName wSet ∉ specialRouted := by decide +kernel
  have hplain : Plain (markerCmd cp u p) := ctl_plain _ _ _ hset
  have hres : resolverWith cv.getKeys (markerCmd cp u p).name (markerCmd cp u p).args = .ok [Gen.markerKey cp u.slotTag] :=
    ctl_routable cv.getKeys _ _ _ (set_keys _ _)
  rw [txnPut_eq_route, chooseNode_plain cv anyNode _ hplain, hres] at h
  simp only at h
  cases hn : nodeOfKey cv (Gen.markerKey cp u.slotTag) with
  | none => rw [hn] at h; cases h
  | some n =>
    rw [hn] at h
    obtain ⟨-, -, -, rfl⟩ := (txnPutRoute_ok_iff ..).mp h
    exact ⟨rfl, n, hn⟩

theorem replayUnitN_sent {ans : NodeAns} {nodes picks : List Nat} {owner : Nat → Option Nat}
    {anyNode : Option Nat} {cp : Bytes} {k : CommitKind} {p : Payload} {cmds w : List Cmd}
    (h : replayUnitN ans nodes picks owner anyNode cp k p cmds = some w) :
    ∃ u n0 tl t1 t, buildUnit clusterMode (resolverWith (builderFb ans nodes)) cmds = .ok u ∧
      assignPicks (commitCmds cp k u p) picks = (markerCmd cp u p, n0) :: tl ∧
      txnPut ⟨owner, ans n0⟩ anyNode {} (markerCmd cp u p) = .ok t1 ∧
      txnPutAllN owner ans anyNode t1 tl = .ok t ∧
      (if t.cmds.isEmpty then [] else ⟨wMulti, []⟩ :: t.cmds ++ [⟨wExec, []⟩]) = w := by
  unfold replayUnitN at h
  cases hb : buildUnit clusterMode (resolverWith (builderFb ans nodes)) cmds with
  | error e => rw [hb] at h; cases h
  | ok u =>
    obtain ⟨n0, tl, hap⟩ : ∃ n0 tl, assignPicks (commitCmds cp k u p) picks = (markerCmd cp u p, n0) :: tl := by
      obtain ⟨rest, hcc⟩ : ∃ rest, commitCmds cp k u p = markerCmd cp u p :: rest := by
        cases k <;> exact ⟨_, rfl⟩
      rw [hcc]
      unfold assignPicks
      split <;> exact ⟨_, _, rfl⟩
    rw [hb] at h
    simp only [wireN, hap, txnPutAllN] at h
    cases h1 : txnPut ⟨owner, ans n0⟩ anyNode {} (markerCmd cp u p) with
    | error e => rw [h1] at h; cases h
    | ok t1 =>
      simp only [h1] at h
      cases ht : txnPutAllN owner ans anyNode t1 tl with
      | error e => rw [ht] at h; cases h
      | ok t =>
        simp only [ht] at h
        refine ⟨u, n0, tl, t1, t, rfl, hap, h1, ht, ?_⟩
        cases he : t.cmds.isEmpty <;> rw [he] at h <;> exact Option.some.inj h

/-- **Diverging COMMAND GETKEYS answers: sent ⇒ single-slot in every view that
    was consulted.** Whatever each node answers (keys, nothing, an error), in
    whatever order the builder visits the nodes and whichever node each Put of
    the cluster client happens to ask: if the replay of a source transaction
    puts anything on the wire, then
    * the builder accepted it, and every business key AS THE BUILDER'S
      ITERATION NAMED THEM and every control key hashes to the unit's slot;
    * every command's keys AS THE NODE ASKED AT ITS PUT NAMED THEM (the static
      tables where they resolve the command) hash to that same slot;
    * what is sent is one MULTI … EXEC block of commands of the commit
      transaction, the marker SET first.
    Hence a transaction that is cross-slot in the builder's view OR in the view
    of any node the client consults is never sent — not in part, not
    approximately. -/
theorem divergent_getkeys_single_slot (ans : NodeAns) (nodes picks : List Nat) (owner : Nat → Option Nat)
    (anyNode : Option Nat) (cp : Bytes) (k : CommitKind) (p : Payload) (cmds w : List Cmd) (hcp : lbrace ∉ cp)
    (h : replayUnitN ans nodes picks owner anyNode cp k p cmds = some w) :
    ∃ u, buildUnit clusterMode (resolverWith (builderFb ans nodes)) cmds = .ok u ∧ u.slot < 16384 ∧
      (∀ key ∈ unitKeys (resolverWith (builderFb ans nodes)) u ++ controlKeys cp k u p, hashSlotSpec key = u.slot) ∧
      (∀ q ∈ assignPicks (commitCmds cp k u p) picks, ∀ key ∈ putKeys ⟨owner, ans q.2⟩ anyNode q.1,
        hashSlotSpec key = u.slot) ∧
      ∃ body, w = ⟨wMulti, []⟩ :: body ++ [⟨wExec, []⟩] ∧ body.head? = some (markerCmd cp u p) ∧
        ∀ c ∈ body, c ∈ commitCmds cp k u p := by
  obtain ⟨u, n0, tl, t1, t, hb, hap, h1, ht, hw⟩ := replayUnitN_sent h
  obtain ⟨hslot, hall⟩ := unit_single_slot _ cmds u cp k p hcp hb
  refine ⟨u, hb, hslot, hall, ?_⟩
  have hmk : hashSlotSpec (Gen.markerKey cp u.slotTag) = u.slot :=
    hall _ (List.mem_append.mpr (Or.inr (by cases k <;> simp [controlKeys])))
  have hs1 := (markerPut_ok ⟨owner, ans n0⟩ anyNode cp u p t1 h1).1
  obtain ⟨a1, a2, a3⟩ := txnPut_inv _ anyNode {} t1 _ h1
  obtain ⟨b1, b2, ext, hext, b3⟩ := txnPutAllN_inv owner ans anyNode tl t1 t ht
  have hts : t.slot = some u.slot := by
    rw [b1 _ hs1, C11.clusterHash_eq_spec, hmk]
  have hcm : t1.cmds = [markerCmd cp u p] := by
    rcases a3 with ⟨e, _⟩ | ⟨e, _⟩
    · rw [e] at hs1; cases hs1
    · simpa using e
  refine ⟨?_, t.cmds, ?_, by rw [hext, hcm]; rfl, ?_⟩
  · intro q hq key hk
    rw [hap] at hq
    rw [← C11.clusterHash_eq_spec]
    rcases List.mem_cons.mp hq with rfl | hq
    · rw [a2 _ hs1 key hk, C11.clusterHash_eq_spec, hmk]
    · exact b2 _ hts q hq key hk
  · rw [← hw, if_neg (by rw [hext, hcm]; simp)]
  · intro c hc
    rw [← assignPicks_map_fst (commitCmds cp k u p) picks, hap, List.map_cons, List.mem_cons]
    rw [hext, hcm] at hc
    exact (List.mem_cons.mp hc).imp id (b3 c)

/-- **Sent ⇒ the RECEIVING node sees one slot, or it applies nothing.** The block
    goes to the owner of the unit's slot — in general a node that neither the
    builder's iteration settled on nor any Put consulted, and which may name
    other keys for a command outside the tables. That node checks the block
    itself (`nodeBlockOk`: trusted transcription of Redis Cluster's
    getNodeByQuery over MULTI … EXEC): either every key IT extracts from every
    queued command hashes to the unit's slot and it applies the whole block, or
    it refuses at queue time, EXEC aborts and NOTHING is applied (the commit
    then fails: `validateBisyncExecReplies`, the replay stops — loop monitors).
    Never a part of the unit, never a key on another slot. -/
theorem sent_receiver_single_slot_or_nothing_applied (ans : NodeAns) (nodes picks : List Nat)
    (owner : Nat → Option Nat) (anyNode : Option Nat) (cp : Bytes) (k : CommitKind) (p : Payload) (cmds w : List Cmd)
    (hcp : lbrace ∉ cp) (h : replayUnitN ans nodes picks owner anyNode cp k p cmds = some w) :
    ∃ u body n, buildUnit clusterMode (resolverWith (builderFb ans nodes)) cmds = .ok u ∧
      w = ⟨wMulti, []⟩ :: body ++ [⟨wExec, []⟩] ∧ owner u.slot = some n ∧
      (nodeApplies ans owner n body = [] ∨
        (nodeApplies ans owner n body = body ∧ ∀ key ∈ nodeKeys ans n body, hashSlotSpec key = u.slot)) := by
  obtain ⟨u, hu, hslot, hall, _, body, hw, hhead, _⟩ :=
    divergent_getkeys_single_slot ans nodes picks owner anyNode cp k p cmds w hcp h
  have hmk : hashSlotSpec (Gen.markerKey cp u.slotTag) = u.slot :=
    hall _ (List.mem_append.mpr (Or.inr (by cases k <;> simp [controlKeys])))
  obtain ⟨n, hn⟩ : ∃ n, owner u.slot = some n := by
    obtain ⟨u', n0, _, t1, _, hu', _, h1, _⟩ := replayUnitN_sent h
    obtain rfl : u' = u := Except.ok.inj (hu'.symm.trans hu)
    obtain ⟨n, hn⟩ := (markerPut_ok ⟨owner, ans n0⟩ anyNode cp u' p t1 h1).2
    exact ⟨n, by rw [← hmk, ← C11.clusterHash_eq_spec]; exact hn⟩
  refine ⟨u, body, n, hu, hw, hn, ?_⟩
  unfold nodeApplies
  cases hok : nodeBlockOk ans owner n body with
  | false => left; rfl
  | true =>
    right
    refine ⟨rfl, ?_⟩
    -- the marker is in the block and the node reads its key from the static tables
    have hmem : markerCmd cp u p ∈ body := List.mem_of_mem_head? hhead
    have hsees : nodeSees ans n (markerCmd cp u p) = .keys [Gen.markerKey cp u.slotTag] := by
      unfold nodeSees
      have : commandKeys (markerCmd cp u p).name (markerCmd cp u p).args = some [Gen.markerKey cp u.slotTag] := set_keys _ _
      rw [this]
    have hmkk : Gen.markerKey cp u.slotTag ∈ nodeKeys ans n body := by
      unfold nodeKeys
      exact List.mem_flatMap.mpr ⟨_, hmem, by rw [hsees]; simp⟩
    intro key hkey
    rw [← C11.clusterHash_eq_spec, nodeBlockOk_one_slot hok hmkk key hkey, C11.clusterHash_eq_spec, hmk]

private def twoViewsR : NodeAns := fun n _ args => if n = 0 then .keys (args.take 1) else .keys args
private def cFooABR : Cmd := ⟨[102,111,111], [[120,123,97,125], [121,123,98,125]]⟩
private def own3R : Nat → Option Nat := fun s => if s < 16384 then some (s / 5462) else none

-- `foo x{a} y{b}`: builder and client consult node 0 (first argument only); the
-- block goes to node 2, which names BOTH arguments (slots 15495 and 3300): it applies nothing
example : (replayUnitN twoViewsR [0, 1, 2] [0] own3R (some 0) [99,112] .latest ⟨[], [], 1⟩ [cFooABR]).map
    (fun w => nodeApplies twoViewsR own3R 2 (w.drop 1).dropLast) = some [] := by decide +kernel
-- … and when node 2 too names the first argument only, it applies the whole block of three commands
example : (replayUnitN (fun _ _ args => .keys (args.take 1)) [0, 1, 2] [0] own3R (some 0) [99,112] .latest ⟨[], [], 1⟩ [cFooABR]).map
    (fun w => (nodeApplies (fun _ _ args => .keys (args.take 1)) own3R 2 (w.drop 1).dropLast).length) = some 3 := by decide +kernel

/-- **Refusal comes before anything is on the wire**, diverging nodes included:
    the builder refusing (its iteration found no keys for a command, met only
    errors, or the keys it was told span slots) or the client refusing a Put
    (the node it asked named no keys, failed, or named keys on another slot)
    each make the replay of the unit send nothing at all. -/
theorem divergent_refusal_sends_nothing (ans : NodeAns) (nodes picks : List Nat) (owner : Nat → Option Nat)
    (anyNode : Option Nat) (cp : Bytes) (k : CommitKind) (p : Payload) (cmds : List Cmd)
    (h : (∃ e, buildUnit clusterMode (resolverWith (builderFb ans nodes)) cmds = .error e) ∨
      (∃ u e, buildUnit clusterMode (resolverWith (builderFb ans nodes)) cmds = .ok u ∧
        txnPutAllN owner ans anyNode {} (assignPicks (commitCmds cp k u p) picks) = .error e)) :
    replayUnitN ans nodes picks owner anyNode cp k p cmds = none := by
  unfold replayUnitN
  rcases h with ⟨e, he⟩ | ⟨u, e, hu, he⟩
  · rw [he]
  · rw [hu]
    simp only
    unfold wireN
    rw [he]

/-- the key list a node names for a command the static tables do not resolve -/
def Names (ans : NodeAns) (n : Nat) (c : Cmd) (ks : List Bytes) : Prop :=
  commandKeys c.name c.args = none ∧ ans n c.name c.args = .keys ks ∧ ks ≠ []

/-- nodes that name keys for a command name THE SAME keys (a healthy cluster of
    one Redis version: errors and silence may differ from node to node — a node
    down, loading, an empty reply — key positions do not) -/
def Consistent (ans : NodeAns) : Prop :=
  ∀ n m c ks ks', Names ans n c ks → Names ans m c ks' → ks = ks'

/-- **With consistent nodes, sent ⇒ single-slot as EVERY answering node sees
    it** — in particular the node that receives the block. For each business
    command of a unit that went on the wire and every node `m` that names keys
    for it, those keys hash to the unit's slot. -/
theorem consistent_nodes_every_view_single_slot (ans : NodeAns) (hcons : Consistent ans) (nodes picks : List Nat)
    (owner : Nat → Option Nat) (anyNode : Option Nat) (cp : Bytes) (k : CommitKind) (p : Payload) (cmds w : List Cmd)
    (hcp : lbrace ∉ cp) (h : replayUnitN ans nodes picks owner anyNode cp k p cmds = some w) :
    ∃ u, buildUnit clusterMode (resolverWith (builderFb ans nodes)) cmds = .ok u ∧
      ∀ c ∈ u.cmds, ∀ m ks, Names ans m c ks → ∀ key ∈ ks, hashSlotSpec key = u.slot := by
  obtain ⟨u, hu, _⟩ := divergent_getkeys_single_slot ans nodes picks owner anyNode cp k p cmds w hcp h
  refine ⟨u, hu, ?_⟩
  intro c hc m ks ⟨hnone, hans, hne⟩ key hkey
  obtain ⟨_, hrt, _, _, hcmds⟩ := (buildUnit_cluster_iff _ cmds u).mp hu
  -- the builder resolved `c` through its iteration: some visited node named keys, the same ones
  obtain ⟨bks, hb, hbne⟩ := hrt c (by rw [← hcmds]; exact hc)
  obtain ⟨n, _, hn, hnne⟩ := builderFb_keys ans nodes c.name c.args bks (resolverWith_none_ok hnone hb)
  have heq : bks = ks := hcons n m c bks ks ⟨hnone, hn, hnne⟩ ⟨hnone, hans, hne⟩
  exact unit_cmd_keys_slot hu hc hb key (heq ▸ hkey)

/-- **Uniform nodes: nothing changes.** When every node of a non-empty node list
    answers like `f`, the builder's iteration resolves exactly like the single
    fall-back `f` of the agreement theorems (`client_revalidation_agrees'`,
    `committed_txn_accepted`, `same_slot_replayed` then apply): diverging
    answers can only add refusals, a healthy cluster is never refused more. -/
theorem uniform_nodes_same_as_single (ans : NodeAns) (nodes : List Nat) (hne : nodes ≠ [])
    (f : Bytes → List Bytes → Fb) (hu : ∀ n ∈ nodes, ∀ cmd args, ans n cmd args = f cmd args) (cmds : List Cmd) :
    buildUnit clusterMode (resolverWith (builderFb ans nodes)) cmds = buildUnit clusterMode (resolverWith f) cmds := by
  apply buildUnit_congr
  intro c _
  unfold resolverWith
  cases commandKeys c.name c.args with
  | some ks => rfl
  | none =>
    simp only
    rw [builderFb_uniform ans nodes hne c.name c.args (f c.name c.args) (fun n hn => hu n hn c.name c.args)]
    cases f c.name c.args with
    | err => rfl
    | none => rfl
    | keys ks =>
      unfold normFb
      cases hk : ks.isEmpty <;> simp [hk]

/-- errors do not stop the builder while another node answers: a node that
    fails (down, LOADING) BEFORE a node that names keys is passed over -/
example : builderFb (fun n _ args => if n = 0 then .err else .keys (args.take 1)) [0, 1] [102] [[120]] = .keys [[120]] := by
  decide
/-- … only when no node names keys is the error reported (and the unit refused) -/
example : builderFb (fun n _ _ => if n = 0 then .err else .none) [1, 0] [102] [[120]] = .err := by decide

-- two nodes disagreeing about `foo x{a} y{b}`: node 0 names the first argument, node 1 both. Builder visiting
-- node 0 first accepts; the client asking node 1 refuses (cross-slot): nothing is sent. Asking node 0 it is sent,
-- and the keys it named are on the unit's slot.
private def twoViews : NodeAns := fun n _ args => if n = 0 then .keys (args.take 1) else .keys args
private def cFooAB : Cmd := ⟨[102,111,111], [[120,123,97,125], [121,123,98,125]]⟩
private def own3 : Nat → Option Nat := fun s => if s < 16384 then some (s / 5462) else none
example : replayUnitN twoViews [0, 1] [1] own3 (some 0) [99,112] .latest ⟨[], [], 1⟩ [cFooAB] = none := by decide +kernel
example : (replayUnitN twoViews [0, 1] [0] own3 (some 0) [99,112] .latest ⟨[], [], 1⟩ [cFooAB]).isSome = true := by
  decide +kernel
example : (replayUnitN twoViews [1, 0] [0] own3 (some 0) [99,112] .latest ⟨[], [], 1⟩ [cFooAB]) = none := by
  decide +kernel
example : ¬ Consistent twoViews := by
  intro h
  have := h 0 1 cFooAB [[120,123,97,125]] [[120,123,97,125], [121,123,98,125]]
    ⟨by decide +kernel, by decide, by decide⟩ ⟨by decide +kernel, by decide, by decide⟩
  revert this; decide

-- uniform nodes: the iteration equals the single fall-back on a concrete transaction
example : buildUnit clusterMode (resolverWith (builderFb (fun _ _ args => .keys (args.take 1)) [2, 0, 1])) [cFooAB] =
    buildUnit clusterMode (resolverWith (fun _ args => .keys (args.take 1))) [cFooAB] :=
  uniform_nodes_same_as_single (fun _ _ args => .keys (args.take 1)) [2, 0, 1] (by simp)
    (fun _ args => .keys (args.take 1)) (fun _ _ _ _ => rfl) [cFooAB]

-- `consistent_nodes_every_view_single_slot` on a unit that WAS sent and whose command needs COMMAND GETKEYS: nodes 0 and
-- 1 name the first argument, node 2 fails; `foo x{a}` is built (node 2 visited first, passed over), put (node 0 asked),
-- sent; every answering node's view of it is on the unit's slot
private def consAns : NodeAns := fun n _ args => if n = 2 then .err else .keys (args.take 1)
private theorem consAns_consistent : Consistent consAns := by
  intro n m c ks ks' ⟨_, h1, _⟩ ⟨_, h2, _⟩
  unfold consAns at h1 h2
  by_cases hn : n = 2
  · simp [hn] at h1
  · by_cases hm : m = 2
    · simp [hm] at h2
    · simp only [hn, hm, ↓reduceIte] at h1 h2
      injection h1 with h1
      injection h2 with h2
      rw [← h1, ← h2]
-- nodes that all name the first argument, one of them failing: consistent (errors and silence may differ)
example : Consistent (fun n _ args => if n = 2 then .err else .keys (args.take 1)) :=
  consAns_consistent
private def cFooA : Cmd := ⟨[102,111,111], [[120,123,97,125]]⟩
example : (replayUnitN consAns [2, 0, 1] [0] own3R (some 0) [99,112] .latest ⟨[], [], 1⟩ [cFooA]).isSome = true := by decide +kernel
example (w : List Cmd) (h : replayUnitN consAns [2, 0, 1] [0] own3R (some 0) [99,112] .latest ⟨[], [], 1⟩ [cFooA] = some w) :
    ∃ u, buildUnit clusterMode (resolverWith (builderFb consAns [2, 0, 1])) [cFooA] = .ok u ∧
      ∀ c ∈ u.cmds, ∀ m ks, Names consAns m c ks → ∀ key ∈ ks, hashSlotSpec key = u.slot :=
  consistent_nodes_every_view_single_slot consAns consAns_consistent [2, 0, 1] [0] own3R (some 0) [99,112] .latest ⟨[], [], 1⟩
    [cFooA] w (by decide) h

/-! ### `Cluster.transactionEnable` -/

/-- **The bidirectional path never sets the cluster's transaction flag.** The
    flag is set only by putting a literal MULTI (source fact
    `c18_txn_enable_sites`). The commit transaction of a unit whose business
    commands are neither MULTI nor EXEC — units come from the parser, which
    consumes both (`GunYu.Props.C13.emitted_units_safe`), or from the snapshot
    object parsers — consists of such commands only (SET marker, the business
    commands, HSET record, ZADD index: source fact `c18_unit_put_names`); put
    through the batcher WITH the flag modelled, starting clear, the sequence
    behaves exactly like the flag-less model the other theorems use, and the
    flag is clear afterwards. -/
theorem txn_flag_never_set (cv : ClusterView) (anyNode : Option Nat) (cp : Bytes) (k : CommitKind) (u : RUnit)
    (p : Payload) (hu : ∀ c ∈ u.cmds, NotBracket c) :
    (∀ c ∈ commitCmds cp k u p, NotBracket c) ∧
    txnPutAllF cv anyNode {} {} (commitCmds cp k u p) = (txnPutAll cv anyNode {} (commitCmds cp k u p), {}) := by
  have hall : ∀ c ∈ commitCmds cp k u p, NotBracket c := by
    intro c hc
    have hs : NotBracket ⟨wSet, [Gen.markerKey cp u.slotTag, p.markerValue, wPx, natToDec Gen.bisyncMarkerTTLms]⟩ :=
      ⟨by show upperName wSet ≠ uMulti; decide +kernel, by show upperName wSet ≠ uExec; decide +kernel⟩
    have hh : ∀ args, NotBracket ⟨wHset, args⟩ :=
      fun _ => ⟨by show upperName wHset ≠ uMulti; decide +kernel, by show upperName wHset ≠ uExec; decide +kernel⟩
    have hz : ∀ args, NotBracket ⟨wZadd, args⟩ :=
      fun _ => ⟨by show upperName wZadd ≠ uMulti; decide +kernel, by show upperName wZadd ≠ uExec; decide +kernel⟩
    cases k <;>
      simp only [commitCmds, markerCmd, List.mem_cons, List.mem_append, List.not_mem_nil, or_false] at hc
    · rcases hc with (rfl | hc) | rfl
      · exact hs
      · exact hu c hc
      · exact hh _
    · rcases hc with (rfl | hc) | rfl | rfl
      · exact hs
      · exact hu c hc
      · exact hh _
      · exact hz _
    · rcases hc with rfl | hc
      · exact hs
      · exact hu c hc
  exact ⟨hall, txnPutAllF_clear cv anyNode _ {} hall⟩

-- the flag matters only for a literal MULTI: with it set, a second key on another NODE is refused by the
-- cluster-level pin (the batcher's own slot check refuses it as well)
example : ((txnPutAllF { owner := own3, getKeys := fun _ _ => .none } (some 0) {} {}
    [⟨[77,85,76,84,73], []⟩, ⟨[115,101,116], [[97], [118]]⟩]).2.enable,
    (txnPutAllF { owner := own3, getKeys := fun _ _ => .none } (some 0) {} {}
    [⟨[77,85,76,84,73], []⟩, ⟨[115,101,116], [[97], [118]]⟩]).2.node) = (true, some 2) := by decide +kernel
example : NotBracket ⟨[115,101,116], [[97], [118]]⟩ := ⟨by decide +kernel, by decide +kernel⟩
-- `txn_flag_never_set` on a concrete unit (`set a v`, journal commit): the flagged Put sequence ends with the flag clear
example : (txnPutAllF { owner := own3, getKeys := fun _ _ => .none } (some 0) {} {}
    (commitCmds [99,112] .journal ⟨15495, slotTag 15495, [⟨[115,101,116], [[97], [118]]⟩]⟩ ⟨[], [], 1⟩)).2 = {} := by
  rw [(txn_flag_never_set _ (some 0) [99,112] .journal ⟨15495, slotTag 15495, [⟨[115,101,116], [[97], [118]]⟩]⟩ ⟨[], [], 1⟩
    (by intro c hc; rw [List.mem_singleton.mp hc]; exact ⟨by decide +kernel, by decide +kernel⟩)).2]

end GunYu.Props.C18
