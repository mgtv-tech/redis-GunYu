/-
  C05 — the local cache returns exactly the bytes written, at the offsets written.

  Property theorems only (models: Model/Store.lean; helper lemmas:
  Proofs/StoreDisk.lean, Proofs/StoreMem.lean, Proofs/StoreMemInv.lean).

  Quantifier: all sequences of cache operations — snapshot write, appends of
  arbitrary chunk sizes, rotation at any size limit, collector passes, reader
  open / read / rotation steps / close at any offset, writer replacement,
  replication-id switch and delete — in any interleaving of the steps of
  writers, readers and the collector (`List DOp` / `List MOp`; a reader's move to
  the next segment is two separate steps so that the collector can run in
  between). The only hypothesis on the list is the callers' protocol
  `Disk.wf`: a stream writer continues where the held stream ends, snapshot
  chunks stay within the announced size, and the replication id is SWITCHED only
  between two runs of the input (no writer open — readers may be open; the same
  id again, as at every source reconnect, is always allowed).
-/
import GunYu.Model.Store
import GunYu.Proofs.StoreProgress
import GunYu.Proofs.StoreMem
import GunYu.Proofs.StoreMemInv
import GunYu.Proofs.StoreMemSnap

namespace GunYu.Props.C05
open GunYu GunYu.Store

/-! ## Disk backend -/

/-- **reader_delivers (disk).** After any sequence of operations, every stream
    reader that is still open has delivered exactly the bytes that were appended
    at the offsets `[start, pos)` — contiguous, in order, nothing else — and its
    position is within what was written. (`hist`/`hbase` record the appended
    bytes: `disk_history_records_appends`.) -/
theorem disk_reader_delivers (l m : Nat) (ops : List DOp) (hwf : (Disk.init l m).wf ops) :
    let s := (Disk.init l m).run ops
    ∀ r ∈ s.readers, r.isOpen = true → r.isAof = true →
      s.hbase ≤ r.start ∧ r.start ≤ r.pos ∧ r.pos ≤ s.hbase + s.hist.length ∧
      r.out = (s.hist.drop (r.start - s.hbase)).take (r.pos - r.start) := by
  exact fun r hr ho ha => stream_delivered ((DInv.init l m).run ops hwf) hr ho ha

/-- the ghost history is exactly what the writer appended: an accepted append
    extends it by the chunk, nothing else touches it except the start of a new
    history (reset, or a writer that does not continue), which empties it -/
theorem disk_history_records_appends (s : Disk) (op : DOp) :
    ((s.step op).1.hbase = s.hbase ∧ (s.step op).1.hist = s.hist) ∨
    (∃ chunk, op = .aofAppend chunk ∧ (s.step op).2 = .ok ∧
        (s.step op).1.hbase = s.hbase ∧ (s.step op).1.hist = s.hist ++ chunk) ∨
    (s.step op).1.hist = [] :=
  hist_step s op

/-- snapshot readers deliver exactly the snapshot bytes written so far, in order -/
theorem disk_snapshot_reader_delivers (l m : Nat) (ops : List DOp) (hwf : (Disk.init l m).wf ops) :
    let s := (Disk.init l m).run ops
    ∀ r ∈ s.readers, r.isOpen = true → r.isAof = false →
      ∃ rd, s.rdb = some rd ∧ r.pos ≤ rd.data.length ∧ r.out = rd.data.take r.pos := by
  intro s r hr ho ha
  have hinv : DInv s := (DInv.init l m).run ops hwf
  exact (hinv.readersOk r hr ho).2 ha

/-- **gc_keeps_contiguous_suffix (disk).** A collector pass removes a prefix of
    the closed segments, every removed segment is unreferenced, and the live
    segment is never touched — for every state, no hypothesis. -/
theorem disk_gc_keeps_contiguous_suffix (s : Disk) :
    ∃ pre, s.segs = pre ++ s.gc.segs ∧ (∀ g ∈ pre, readerRefs s.readers g.left = 0) ∧
      s.gc.live = s.live := by
  obtain ⟨pre, hp, hz, _⟩ := gc_cases s
  exact ⟨pre, hp, hz, (gc_ghost s).2.2.2.2.1⟩

/-- **refinement.** `abs` maps the concrete index to the abstract `Log`; in every
    reachable state that holds stream segments, the abstract bytes are exactly the
    suffix of the written history that starts at the abstract base. Together with
    `disk_history_records_appends` (an append extends the history by the chunk,
    nothing else changes it except the start of a new history) this is the
    commuting diagram: appends extend `abs.bytes` at the end, the collector and
    nothing else moves `abs.base` forward, reads leave `abs` unchanged. -/
theorem disk_refines (l m : Nat) (ops : List DOp) (hwf : (Disk.init l m).wf ops) :
    let s := (Disk.init l m).run ops
    s.all ≠ [] → s.hbase ≤ s.abs.base ∧ s.abs.bytes = s.hist.drop (s.abs.base - s.hbase) :=
  fun hne => abs_bytes_eq ((DInv.init l m).run ops hwf) hne

/-- what is held stays one contiguous range through every operation (in
    particular through collection and rotation) -/
theorem disk_range_contiguous (l m : Nat) (ops : List DOp) (hwf : (Disk.init l m).wf ops) :
    Contig ((Disk.init l m).run ops).all :=
  ((DInv.init l m).run ops hwf).contig

/-- **invalidated_reader_ends (disk).** A closed reader — closed by its user, by
    a cache reset (new snapshot, id delete), by writer replacement, or with the
    empty segment it was tailing — fails every further read without changing
    anything … -/
theorem disk_closed_reader_read_fails (s : Disk) (rid n : Nat) (r : DReader)
    (hf : findReader s.readers rid = some r) (hc : r.isOpen = false) :
    s.step (.read rid n) = (s, Out.err) := by
  simp [Disk.step, Disk.read, hf, hc]

/-- … and no operation ever re-opens it or changes what it delivered: an
    invalidated reader never delivers other bytes. -/
theorem disk_closed_reader_frozen (l m : Nat) (ops : List DOp) (hwf : (Disk.init l m).wf ops)
    (op : DOp) (r : DReader) (hr : r ∈ ((Disk.init l m).run ops).readers) (hc : r.isOpen = false) :
    ∃ r' ∈ (((Disk.init l m).run ops).step op).1.readers,
      r'.id = r.id ∧ r'.isOpen = false ∧ r'.out = r.out :=
  closed_reader_frozen ((DInv.init l m).run ops hwf) op hr hc

/-- **invalidation events close the readers.** A reset (new snapshot, id delete)
    and a replication-id switch leave no reader open; a new stream writer leaves
    no stream reader open. -/
theorem disk_invalidation_closes_readers (s : Disk) :
    (∀ off size, ∀ r ∈ (s.step (.newRdbWriter off size)).1.readers, r.isOpen = false) ∧
    (s.runId ≠ "" → ∀ r ∈ (s.step .delRunId).1.readers, r.isOpen = false) ∧
    (∀ id, s.runId ≠ "" → id ≠ s.runId → ∀ r ∈ (s.step (.setRunId id)).1.readers, r.isOpen = false) ∧
    (∀ off, ∀ r ∈ (s.step (.newAofWriter off)).1.readers, r.isAof = true → r.isOpen = false) := by
  have hreset : ∀ r ∈ s.reset.readers, r.isOpen = false := closeAllReaders_closed _
  refine ⟨fun _ _ => hreset, fun hne r hr => ?_, fun id hne hid r hr => ?_, fun off r hr ha => ?_⟩
  · simp only [Disk.step, hne, if_false] at hr; exact hreset r hr
  · simp only [Disk.step, hne, hid, if_false] at hr
    have hr' : r ∈ s.closeAllForSwitch.rescan.readers := hr
    rw [(rescan_hist _).2.2] at hr'
    exact closeAllForSwitch_readers s r hr'
  · simp only [Disk.step, closeAofReaders] at hr
    obtain ⟨y, _, rfl⟩ := List.mem_map.mp hr
    by_cases hy : y.isAof = true
    · simp [hy, DReader.close]
    · simp [hy] at ha

/-- **nothing else closes a reader.** Appends, rotation, collector passes, reads,
    rotation steps of any reader, opening other readers and snapshot appends never
    close a reader: after any such step an open reader is still open. (The closing
    operations are exactly `closesReaders`: reset, id switch, writer replacement,
    the end of a writer, the reader's own close.) -/
theorem disk_reader_stays_open (l m : Nat) (ops : List DOp) (hwf : (Disk.init l m).wf ops) (op : DOp)
    (hop : closesReaders op = false) :
    let s := (Disk.init l m).run ops
    ∀ r ∈ s.readers, r.isOpen = true → ∃ r' ∈ (s.step op).1.readers, r'.id = r.id ∧ r'.isOpen = true :=
  fun _ hr ho => reader_stays_open ((DInv.init l m).run ops hwf) op hr ho hop

/-- **keeps following (disk).** A valid stream reader that has not yet read
    everything that was appended can always take a step: either a read delivers
    at least one byte, or its rotation step is enabled (the next segment exists,
    and by `disk_gc_keeps_contiguous_suffix` + the reference it then holds it
    stays). -/
theorem disk_reader_progress (l m : Nat) (ops : List DOp) (hwf : (Disk.init l m).wf ops) :
    let s := (Disk.init l m).run ops
    ∀ r ∈ s.readers, r.isOpen = true → r.isAof = true → r.prev = none →
      r.pos < s.hbase + s.hist.length → ∀ n, 0 < n →
      (∃ bs, (s.read r.id n).2 = Out.data bs ∧ bs ≠ []) ∨ s.canAdvance r = true := by
  intro s r hr ho ha hp hlt n hn
  exact reader_progress ((DInv.init l m).run ops hwf) hr ho ha hp hlt n hn

/-- **valid_iff_readable (disk).** In every reachable state `IsValidOffset(off)`
    holds exactly when `GetReader(off)` finds something to read from (a stream
    segment covering `off`, or the snapshot for `off ≤ snapshot.left`). -/
theorem disk_valid_iff_readable (l m : Nat) (ops : List DOp) (hwf : (Disk.init l m).wf ops)
    (rid off : Nat) (hfresh : findReader ((Disk.init l m).run ops).readers rid = none) :
    ((Disk.init l m).run ops).inRange off = true ↔
      (((Disk.init l m).run ops).open rid off true).2 ≠ Out.notExist :=
  inRange_iff_open ((DInv.init l m).run ops hwf) rid off hfresh

/-- **snapshot_offered_iff_complete (disk).** `GetRdb` offers a snapshot exactly
    when one is indexed, and an indexed snapshot is either completely written and
    committed (all `size` bytes present) or still being written by a live writer
    (a writer that ends early takes the snapshot out of the index). -/
theorem disk_snapshot_offered_iff_complete (l m : Nat) (ops : List DOp) (hwf : (Disk.init l m).wf ops) :
    let s := (Disk.init l m).run ops
    s.getRdb ≠ (-1, -1) ↔
      ∃ r, s.rdb = some r ∧ ((r.final = true ∧ r.data.length = r.size) ∨ r.writing = true) :=
  getRdb_iff ((DInv.init l m).run ops hwf)

/-- **snapshot hands over to the stream.** Whenever a snapshot is indexed and
    stream segments are held, the snapshot's offset lies in an indexed segment: a
    consumer that replayed the snapshot can continue at `snapshot.left` without a hole. -/
theorem disk_snapshot_hands_over (l m : Nat) (ops : List DOp) (hwf : (Disk.init l m).wf ops) :
    let s := (Disk.init l m).run ops
    ∀ r, s.rdb = some r → s.all ≠ [] → s.inRange r.left = true ∧ (indexAof s.all r.left).isSome = true := by
  intro s r hr hne
  have hinv : DInv s := (DInv.init l m).run ops hwf
  have hidx := snapshot_hands_over hinv r hr hne
  refine ⟨?_, hidx⟩
  obtain ⟨g, hg⟩ := Option.isSome_iff_exists.mp hidx
  obtain ⟨_, hl, hrr⟩ := indexAof_some hg
  -- the range contains `r.left`: it is where the first segment starts
  unfold Disk.inRange Disk.range
  cases hfl : firstLeft s.all with
  | none =>
    cases hall : s.all with
    | nil => exact absurd hall hne
    | cons a t => rw [hall] at hfl; simp [firstLeft] at hfl
  | some f =>
    cases hlr : lastRight s.all with
    | none => exact absurd (lastRight_eq_none.mp hlr) hne
    | some rr =>
      have hal := hinv.rdbAlign r f hr hfl
      have hgr : g.right ≤ rr := contig_right_le_last hinv.contig (indexAof_some hg).1 hlr
      simp only [hr]
      simp
      omega

/-- the collector drops the snapshot only when nothing references it (no reader
    is replaying it, no writer is writing it) -/
theorem disk_gc_drops_only_unreferenced_snapshot (s : Disk) (r : DRdb) (hr : s.rdb = some r)
    (hg : s.gc.rdb = none) : rdbRef s.readers r = 0 :=
  gc_snapshot_branch s r hr hg

/-! ### non-vacuity: a concrete history with rotation, collection and a reader
    that follows across segments -/

def exOps : List DOp :=
  [ .setRunId "id1", .newAofWriter 100,
    .aofAppend [1,2,3,4,5,6,7,8,9,10], .aofAppend [11,12,13,14,15,16,17,18,19,20],
    .openReader 0 103 false, .read 0 4,
    .aofAppend [21,22,23,24,25,26,27,28,29,30],
    .read 0 100, .advAcquire 0, .gc, .advRelease 0, .read 0 100, .gc, .read 0 5 ]

example : (Disk.init 24 12).wf exOps := by decide +kernel
example : (((Disk.init 24 12).run exOps).readers.map (fun r => (r.start, r.pos, r.out))) =
    [(103, 120, [4,5,6,7,8,9,10,11,12,13,14,15,16,17,18,19,20])] := by decide +kernel
example : ((Disk.init 24 12).run exOps).segs.map (·.left) = [110, 120] := by decide +kernel
example : ((Disk.init 24 12).run exOps).abs.base = 110 ∧
    ((Disk.init 24 12).run exOps).abs.bytes = [11,12,13,14,15,16,17,18,19,20,21,22,23,24,25,26,27,28,29,30] := by decide +kernel
-- the same id again (a source reconnect) leaves the open reader untouched; an id switch closes it
example : (((Disk.init 24 12).run (exOps ++ [.setRunId "id1"])).readers.map (·.isOpen)) = [true] := by decide +kernel
example : (((Disk.init 24 12).run (exOps ++ [.aofClose, .setRunId "id2"])).readers.map (·.isOpen)) = [false] ∧
    (Disk.init 24 12).wf (exOps ++ [.aofClose, .setRunId "id2"]) := by decide +kernel
example : ((Disk.init 24 12).run exOps).inRange 105 = false ∧ ((Disk.init 24 12).run exOps).inRange 125 = true := by decide +kernel

/-- non-vacuity of the snapshot theorems: a script with a snapshot (written in two
    chunks), a snapshot reader that replays it, the stream that follows at the
    snapshot's offset, rotation and a collector pass -/
def exSnapOps : List DOp :=
  [.setRunId "id1", .newRdbWriter 100 4, .rdbAppend [1, 2], .openReader 0 100 true, .read 0 2, .rdbAppend [3, 4],
   .read 0 8, .newAofWriter 100, .aofAppend [11, 12, 13, 14, 15, 16, 17, 18, 19], .aofAppend [20, 21], .gc]

example : (Disk.init 24 0).wf exSnapOps := by decide +kernel
example : ((Disk.init 24 0).run exSnapOps).getRdb = (100, 4) := by decide +kernel
example : (((Disk.init 24 0).run exSnapOps).readers.map (fun r => (r.isAof, r.isOpen, r.pos, r.out))) =
    [(false, true, 4, [1, 2, 3, 4])] := by decide +kernel
example : ((Disk.init 24 0).run exSnapOps).inRange 100 = true ∧ ((Disk.init 24 0).run exSnapOps).all ≠ [] := by decide +kernel


/-! ## Memory backend

    Two layers. (1) GLOBAL theorems over ARBITRARY operation lists (`List MOp`:
    writer appends of any size with rotation at any limit, capacity-blocked
    appends and their retries, writer close / replacement, snapshot writer,
    collector passes inside the appends, resets / id delete, reader open / start /
    every single iteration of a copy loop / consume / close, in any interleaving —
    NO hypothesis on the list), proved from the invariant `MemInv`
    (Proofs/StoreMemInv.lean: indexed segments contiguous and in written-history
    order, identities fresh and distinct, the writer's segment is the last one,
    every copy loop that holds an indexed segment is inside it and has written
    exactly the history's bytes `[start, pos)`, snapshot flags) and its
    preservation by every operation. (2) step-level facts that hold for every
    state. -/

/-- **mem_invariant.** The invariant holds after any operation list … -/
theorem mem_invariant (l m : Nat) (ops : List MOp) : MemInv ((Mem.init l m).run ops) :=
  run_inv _ ops (MemInv.init l m)

/-- … and is kept by the driver's settling (all copy loops run until blocked, blocked
    writers retry), i.e. in every state the correspondence harness compares. -/
theorem mem_invariant_settled (s : Mem) (h : MemInv s) : MemInv s.settle := settle_inv s h

/-- **mem_history_records_appends.** The ghost history is tied to the operations'
    INPUT and OUTPUT: one operation leaves it alone; or it is an `aofAppend chunk` that
    reports `.ok` and recorded the WHOLE chunk, or reports `.blocked n` and recorded
    exactly the first `n` bytes with the rest waiting in `pendA`; or it is the retry of
    such a blocked append and records a prefix of what was waiting (the rest keeps
    waiting, or nothing waits any more); or it is one of the three operations that
    start a new, empty history (`newRdbWriter`, `delRunId`, the first `newAofWriter`
    of a history). A writer that is closed or replaced while it is blocked loses the
    waiting bytes (`finishAof` clears `pendA`, as the code's `io.EOF`): they never
    enter the history. -/
theorem mem_history_records_appends (l m : Nat) (ops : List MOp) (op : MOp) :
    let s := (Mem.init l m).run ops
    ((s.step op).1.hbase = s.hbase ∧ (s.step op).1.hist = s.hist) ∨
    (∃ chunk, op = .aofAppend chunk ∧ (s.step op).1.hbase = s.hbase ∧
        (((s.step op).2 = .ok ∧ (s.step op).1.hist = s.hist ++ chunk) ∨
         (∃ n, (s.step op).2 = .blocked n ∧ (s.step op).1.hist = s.hist ++ chunk.take n ∧
            (s.step op).1.pendA = some (chunk.drop n)))) ∨
    (∃ buf k, op = .retryAppend ∧ s.pendA = some buf ∧ (s.step op).1.hbase = s.hbase ∧
        (s.step op).1.hist = s.hist ++ buf.take k ∧
        ((s.step op).1.pendA = some (buf.drop k) ∨ (s.step op).1.pendA = none)) ∨
    ((s.step op).1.hist = [] ∧ op.resetsHistory = true) :=
  step_hist _ op (mem_invariant l m ops)

/-- a writer that goes takes its blocked append with it (`finishAof`, reached from
    `aofClose` and from the replacement inside `newAofWriter`) -/
theorem mem_closed_writer_drops_pending (l m : Nat) (ops : List MOp) (cur : Nat) (isCurrent : Bool) :
    let s := (Mem.init l m).run ops
    (isCurrent = false → s.aofW ≠ some cur) → (s.finishAof cur isCurrent).pendA = none :=
  fun hw => (finishAof_inv _ cur isCurrent (mem_invariant l m ops) hw).2.2.2

/-- **mem_refines.** After ANY operation list, what the memory cache holds under
    its run id (`Mem.abs`: the newest contiguous run of indexed segments) is the
    suffix of the written history from its base — contiguous, in order, up to the
    last byte written. -/
theorem mem_refines (l m : Nat) (ops : List MOp) :
    let s := (Mem.init l m).run ops
    s.segs ≠ [] →
      s.abs.id = s.runId ∧ s.hbase ≤ s.abs.base ∧ s.abs.bytes = s.hist.drop (s.abs.base - s.hbase) ∧
      s.abs.base + s.abs.bytes.length = s.hbase + s.hist.length := by
  intro s hne
  exact ⟨rfl, mem_abs_bytes_eq s (mem_invariant l m ops) hne⟩

/-- the indexed segments are contiguous (the contiguous run IS the index) and carry distinct identities -/
theorem mem_index_contiguous (l m : Nat) (ops : List MOp) :
    let s := (Mem.init l m).run ops
    MContig s.segs ∧ s.runRev = s.segs.reverse ∧ (s.segs.map (·.sid)).Nodup :=
  let h := mem_invariant l m ops
  ⟨h.stream.contig, runRev_eq _ h, h.stream.nodup⟩

/-- **mem_reader_delivers.** After ANY operation list, every copy loop that still
    holds an indexed stream segment (it was not invalidated by a reset and has not
    returned) is inside that segment and has written to its pipe exactly the bytes
    appended at the offsets `[start, pos)` — contiguous, in order, nothing else. -/
theorem mem_reader_delivers (l m : Nat) (ops : List MOp) :
    let s := (Mem.init l m).run ops
    ∀ r ∈ s.readers, r.isAof = true → r.released = false → ∀ g ∈ s.segs, g.sid = r.seg →
      g.left ≤ r.pos ∧ r.pos ≤ g.right ∧ s.hbase ≤ r.start ∧ r.start ≤ r.pos ∧
      r.out = (s.hist.drop (r.start - s.hbase)).take (r.pos - r.start) := by
  intro s r hr ha hrel g hg hs
  have := ((mem_invariant l m ops).stream.readers r hr ha).2 hrel g hg hs
  exact ⟨this.inl, this.inr, this.base, this.ord, this.out⟩

/-- **mem_valid_iff_readable.** After ANY operation list: an offset is reported
    valid (`inRangeLocked`) exactly if a reader CAN BE OPENED there (fresh reader id).
    What kind of reader: a stream reader exactly at that offset when the log covers it
    (`mem_open_stream_reader`; what it then delivers is `mem_reader_delivers`), else a
    REPLAY OF THE OFFERED SNAPSHOT for an offset up to the snapshot's
    (`mem_valid_uncovered_is_snapshot_replay`). NOT claimed: that the log from the
    snapshot's offset on is held — after a replay the consumer stands at the snapshot's
    own offset, which is valid only while the log starts there or nothing is held
    (`mem_snapshot_offset_needs_handover`, a3509d3); otherwise the source is asked. -/
theorem mem_valid_iff_readable (l m : Nat) (ops : List MOp) (rid off : Nat) :
    let s := (Mem.init l m).run ops
    mFindReader s.readers rid = none →
      (s.inRange (off : Int) = true ↔ (s.open rid off).2 ≠ Out.notExist) :=
  fun hf => mem_inRange_iff_open _ (mem_invariant l m ops) rid off hf

/-- (named corollary of `Mem.open` + the index invariant) a stream reader opened there
    starts inside an indexed segment at exactly that offset with nothing delivered … -/
theorem mem_open_stream_reader (l m : Nat) (ops : List MOp) (rid off : Nat) :
    let s := (Mem.init l m).run ops
    (s.open rid off).2 = Out.aof off →
      ∃ r ∈ (s.open rid off).1.readers, r.id = rid ∧ r.isAof = true ∧ r.start = off ∧ r.pos = off ∧ r.out = [] ∧
        ∃ g ∈ s.segs, g.sid = r.seg ∧ g.left ≤ off ∧ off ≤ g.right := by
  intro s h
  have hinv := mem_invariant l m ops
  unfold Mem.open at h ⊢
  by_cases h1 : (mFindReader s.readers rid).isSome = true
  · rw [if_pos h1] at h; cases h
  rw [if_neg h1] at h ⊢
  by_cases h2 : (!s.inRange (off : Int)) = true
  · rw [if_pos h2] at h; cases h
  rw [if_neg h2] at h ⊢
  cases hidx : s.indexAof off with
  | some g =>
    obtain ⟨hg, hl, hr⟩ := mem_indexAof_some hinv.stream.contig hidx
    exact ⟨_, List.mem_append_right _ (List.mem_singleton.mpr rfl), rfl, rfl, rfl, rfl, rfl, g, hg, rfl, hl, hr⟩
  | none =>
    -- not covered by the log: whatever is opened is not a stream reader
    rw [hidx] at h
    dsimp only at h
    cases hro : s.rdbOffered with
    | none => rw [hro] at h; cases h
    | some rd =>
      rw [hro] at h
      dsimp only at h
      by_cases h3 : off ≤ rd.left
      · rw [if_pos h3] at h
        cases hs : rd.segs <;> rw [hs] at h <;> cases h
      · rw [if_neg h3] at h; cases h

/-- (named corollary: unfolds the a3509d3 clause of `Mem.inRange`, any state) the
    snapshot's own offset — the position a completed replay leaves — is valid only while
    the log starts there or nothing is held. -/
theorem mem_snapshot_offset_needs_handover (s : Mem) (rd : MRdb) (hro : s.rdbOffered = some rd)
    (hv : s.inRange (rd.left : Int) = true) : (s.indexAof rd.left).isSome = true ∨ s.segs = [] :=
  snapshot_offset_valid s rd hro hv

/-- (named corollary) a valid offset the log does not cover is served by a replay of the
    offered snapshot, and lies at or before the snapshot's offset -/
theorem mem_valid_uncovered_is_snapshot_replay (l m : Nat) (ops : List MOp) (rid off : Nat) :
    let s := (Mem.init l m).run ops
    mFindReader s.readers rid = none → s.inRange (off : Int) = true → s.indexAof off = none →
      ∃ rd, s.rdbOffered = some rd ∧ off ≤ rd.left ∧ (s.open rid off).2 = Out.rdb rd.left rd.size := by
  intro s hf hin hidx
  have hinv := mem_invariant l m ops
  have hne := (mem_inRange_iff_open s hinv rid off hf).mp hin
  unfold Mem.open at hne ⊢
  simp only [hf, Option.isSome_none, Bool.false_eq_true, if_false, hin, Bool.not_true, hidx] at hne ⊢
  cases hro : s.rdbOffered with
  | none => rw [hro] at hne; simp at hne
  | some rd =>
    rw [hro] at hne
    dsimp only at hne ⊢
    by_cases hle : off ≤ rd.left
    · simp only [hle, if_true] at hne ⊢
      cases hsg : rd.segs with
      | nil => rw [hsg] at hne; simp at hne
      | cons first rest => exact ⟨rd, rfl, hle, rfl⟩
    · simp [hle] at hne

/-- **mem_snapshot_offered_complete_or_live.** After ANY operation list, a snapshot
    that is offered (`GetRdb` ≠ (-1,-1)) is being received or was received
    completely, every byte received so far is held (nothing was collected), and it
    has a first segment to replay from. -/
theorem mem_snapshot_offered_complete_or_live (l m : Nat) (ops : List MOp) :
    let s := (Mem.init l m).run ops
    ∀ rd, s.rdbOffered = some rd →
      (rd.writing = true ∨ rd.size ≤ rd.written) ∧ mBuffered rd.segs = rd.written ∧ rd.segs ≠ [] :=
  fun rd h => offered_complete_or_live _ (mem_invariant l m ops) rd h

/-- **mem_snapshot_reader_delivers.** After ANY operation list, a copy loop that
    replays the OFFERED snapshot (it holds one of its segments and has not returned)
    is inside that segment and has written to its pipe exactly the first `pos` bytes
    the snapshot holds, in order. (The model has no ghost for the snapshot's SOURCE
    bytes: that the bytes held are the bytes received is the append step's
    definition + correspondence.) -/
theorem mem_snapshot_reader_delivers (l m : Nat) (ops : List MOp) :
    let s := (Mem.init l m).run ops
    ∀ rd, s.rdbOffered = some rd →
      ∀ r ∈ s.readers, r.isAof = false → r.released = false → ∀ g ∈ rd.segs, g.sid = r.seg →
        g.left ≤ r.pos ∧ r.pos ≤ g.right ∧ r.out = (mflat rd.segs).take r.pos :=
  fun rd hro => snapshot_reader_delivers ((FullInv.init l m).run ops) rd hro

/-- the offered snapshot's segments are contiguous from offset 0, chained by their
    `next` pointers, and hold exactly `written` bytes -/
theorem mem_snapshot_shape (l m : Nat) (ops : List MOp) :
    let s := (Mem.init l m).run ops
    ∀ rd, s.rdbOffered = some rd →
      MContig rd.segs ∧ Linked rd.segs ∧ (∀ first rest, rd.segs = first :: rest → first.left = 0) ∧
        (mflat rd.segs).length = rd.written :=
  fun rd hro => snapshot_shape ((FullInv.init l m).run ops) rd hro

/-- both invariants are kept by the driver's settling -/
theorem mem_full_invariant_settled (s : Mem) (h : FullInv s) : FullInv s.settle := h.settle

/-- **mem_refuses_discontinuous.** A stream writer that does not continue exactly
    where the held stream ends is refused and changes nothing … -/
theorem mem_refuses_discontinuous (s : Mem) (off r : Nat) (h : mLastRight s.segs = some r) (hne : r ≠ off) :
    s.step (.newAofWriter off) = (s, Out.refused) :=
  newAofWriter_refuses s off r h hne

/-- … and an accepted one continues at the end of what is held. -/
theorem mem_accepted_writer_is_continuous (s : Mem) (off r : Nat) (h : mLastRight s.segs = some r)
    (hok : (s.step (.newAofWriter off)).2 = Out.ok) : off = r :=
  newAofWriter_accepted s off r h hok

/-- **gc_keeps_contiguous_suffix (memory).** The collector removes a prefix of the
    stream segments only, and every removed segment is closed, unreferenced by any
    reader and not the writer's current segment. -/
theorem mem_gc_keeps_contiguous_suffix (s : Mem) (need : Nat) :
    ∃ pre, s.segs = pre ++ (s.gc need).segs ∧
      ∀ g ∈ pre, g.closed = true ∧ mRefs s.readers g.sid = 0 ∧ s.aofW ≠ some g.sid :=
  gc_prefix s need

/-- **snapshot_offered_iff_complete (memory), mechanism.** `GetRdb` offers a
    snapshot exactly while it is indexed and replayable; -/
theorem mem_snapshot_offered_iff_replayable (s : Mem) :
    s.getRdb ≠ (-1, -1) ↔ ∃ r, s.rdb = some r ∧ r.replayable = true :=
  getRdb_iff_offered s

/-- a snapshot whose writer ends is kept only if every announced byte was
    appended and the writer did not fail (repaired, D14); -/
theorem mem_finish_keeps_only_complete (s : Mem) (failed : Bool) (r : MRdb) (hr : s.rdb = some r)
    (hw : r.writing = true) :
    (s.finishRdb failed).rdb = none ∨
    (failed = false ∧ r.size ≤ r.written ∧
      ∃ r', (s.finishRdb failed).rdb = some r' ∧ r'.writing = false ∧ r'.written = r.written ∧ r'.size = r.size) :=
  finishRdb_keeps_only_complete s failed r hr hw

/-- and a snapshot that loses a segment to the collector stops being replayable
    (or disappears) in the same step. -/
theorem mem_collected_snapshot_not_offered (s s' : Mem) (h : s.gcRdb = some s') :
    s'.rdb = none ∨ ∃ r', s'.rdb = some r' ∧ r'.replayable = false := by
  obtain ⟨_, _, _, _, r, first, rest, _, _, _, _, hcase⟩ := gcRdb_spec h
  rcases hcase with h1 | ⟨r', h1, _, h2⟩
  · exact Or.inl h1
  · exact Or.inr ⟨r', h1, h2⟩

/-- **reader steps are faithful.** An iteration of a stream reader's copy loop
    that delivers bytes delivers exactly the rest of the segment it holds from
    its position on, and advances the position by that many bytes. -/
theorem mem_copy_step_faithful (s : Mem) (rid : Nat) (r : MReader) (g : MSeg)
    (hf : mFindReader s.readers rid = some r) (hrun : r.released = false) (hst : r.started = true)
    (hu : r.closedByUser = false) (ha : r.isAof = true) (hl : s.lookup r.seg = some g)
    (hpos : g.left ≤ r.pos) (hne : (g.data.drop (r.pos - g.left)) ≠ []) :
    (s.copyStep rid).1.readers = mSetReader s.readers
      { r with pos := r.pos + (g.data.drop (r.pos - g.left)).length,
               buf := r.buf ++ g.data.drop (r.pos - g.left),
               out := r.out ++ g.data.drop (r.pos - g.left) } :=
  copyStep_aof_faithful s rid r g hf hrun hst hu ha hl hpos hne

/-- **invalidated_reader_ends (memory).** A reset empties the index (every
    segment of the old history is closed and only reachable by the readers that
    hold it), and the successor of a segment is looked up by identity: a reader
    holding a segment that is not in the index finds no successor — it ends, it
    does not continue into a new history (repaired, D25). -/
theorem mem_reset_empties_index (s : Mem) : s.reset.segs = [] ∧ s.reset.rdb = none ∧ s.reset.aofW = none ∧
    ∀ g ∈ s.segs, ∃ g' ∈ s.reset.heap, g'.sid = g.sid ∧ g'.closed = true ∧ g'.data = g.data :=
  reset_index_empty s

theorem mem_stale_reader_has_no_successor (segs : List MSeg) (sid : Nat) (h : ∀ g ∈ segs, g.sid ≠ sid) :
    mNextOf segs sid = none :=
  mNextOf_none_of_not_mem segs sid h

/-- the statement for the memory backend in the form of `disk_reader_delivers`
    (`mem_reader_delivers` is the stronger form) -/
def mem_reader_delivers_stmt : Prop :=
  ∀ (l m : Nat) (ops : List MOp),
    let s := (Mem.init l m).run ops
    ∀ r ∈ s.readers, r.isAof = true → r.released = false → (∃ g ∈ s.segs, g.sid = r.seg) →
      s.hbase ≤ r.start ∧ r.start ≤ r.pos ∧
      r.out = (s.hist.drop (r.start - s.hbase)).take (r.pos - r.start)

theorem mem_reader_delivers_stmt_holds : mem_reader_delivers_stmt := by
  intro l m ops s r hr ha hrel hg
  obtain ⟨g, hg, hs⟩ := hg
  obtain ⟨_, _, h3, h4, h5⟩ := mem_reader_delivers l m ops r hr ha hrel g hg hs
  exact ⟨h3, h4, h5⟩

/-! ### non-vacuity (memory): rotation, collection with a segment a reader holds, a
    refused writer, a reader that follows across segments -/

def exMemOps : List MOp :=
  [ .setRunId "id1", .newAofWriter 100, .aofAppend [1,2,3,4,5,6,7,8],
    .openReader 0 102, .startReader 0, .copyStep 0,
    .aofAppend [9,10,11,12], .copyStep 0, .copyStep 0, .copyStep 0,
    .newAofWriter 999, .aofAppend [13,14,15,16,17,18,19,20], .copyStep 0, .consume 0 100 ]

example : (((Mem.init 8 16).run exMemOps).segs.map (fun g => (g.left, g.data.length, g.closed))) =
    [(108, 8, true), (116, 4, false)] := by decide +kernel
example : (((Mem.init 8 16).run exMemOps).readers.map (fun r => (r.start, r.pos, r.out))) =
    [(102, 116, [3,4,5,6,7,8,9,10,11,12,13,14,15,16])] := by decide +kernel
-- the discontinuous writer (offset 999, held stream ends at 112) is refused
example : (((Mem.init 8 16).run (exMemOps.take 10)).step (.newAofWriter 999)).2 = Out.refused := by decide +kernel

/-! ### non-vacuity of the global memory theorems: rotation, an append blocked on
    capacity by a LAGGING reader that pins the oldest segment, the collector, a
    reset (new snapshot) that invalidates both readers, a new history with an
    offered snapshot and a reader on it -/

def exMemOps2 : List MOp :=
  [ .setRunId "id1", .newAofWriter 100, .aofAppend [1,2,3,4,5,6,7,8],
    .openReader 0 100, .startReader 0, .copyStep 0,
    .aofAppend [9,10,11,12,13,14,15,16],
    .openReader 1 104, .startReader 1,
    .copyStep 0, .copyStep 0,
    .aofAppend [17,18,19,20,21,22,23,24],
    .copyStep 1, .copyStep 1, .copyStep 1, .retryAppend,
    .copyStep 0, .copyStep 0,
    .newRdbWriter 500 4, .copyStep 0, .copyStep 1,
    .rdbAppend [7,7,7,7], .newAofWriter 500, .aofAppend [31,32,33], .openReader 2 500, .startReader 2, .copyStep 2 ]

-- the third append is blocked: reader 1 never ran and pins the first segment
example : (((Mem.init 8 16).run (exMemOps2.take 12)).segs.map (fun g => (g.sid, g.left, g.data.length, g.closed)),
    ((Mem.init 8 16).run (exMemOps2.take 12)).pendA) =
    ([(0, 100, 8, true), (1, 108, 8, true), (2, 116, 0, false)], some [17,18,19,20,21,22,23,24]) := by decide +kernel
-- reader 1 moves on, the retry collects the first segment and appends
example : (((Mem.init 8 16).run (exMemOps2.take 16)).segs.map (fun g => (g.sid, g.left, g.data.length, g.closed)),
    ((Mem.init 8 16).run (exMemOps2.take 16)).pendA, ((Mem.init 8 16).run (exMemOps2.take 16)).hbase) =
    ([(1, 108, 8, true), (2, 116, 8, false)], none, 100) := by decide +kernel
-- both readers hold indexed segments and have delivered exactly the history's bytes
example : (((Mem.init 8 16).run (exMemOps2.take 18)).readers.map (fun r => (r.id, r.start, r.pos, r.out, r.released))) =
    [(0, 100, 124, [1,2,3,4,5,6,7,8,9,10,11,12,13,14,15,16,17,18,19,20,21,22,23,24], false),
     (1, 104, 116, [5,6,7,8,9,10,11,12,13,14,15,16], false)] := by decide +kernel
-- after the reset: the old readers have ended, the new history has its own base, the snapshot is offered
example : (((Mem.init 8 16).run exMemOps2).readers.map (fun r => (r.id, r.start, r.pos, r.out, r.released))) =
    [(0, 100, 124, [1,2,3,4,5,6,7,8,9,10,11,12,13,14,15,16,17,18,19,20,21,22,23,24], true),
     (1, 104, 116, [5,6,7,8,9,10,11,12,13,14,15,16], true),
     (2, 500, 503, [31,32,33], false)] := by decide +kernel
example : (((Mem.init 8 16).run exMemOps2).hbase, ((Mem.init 8 16).run exMemOps2).hist,
    ((Mem.init 8 16).run exMemOps2).getRdb) = (500, [31,32,33], (500, 4)) := by decide +kernel

-- a snapshot reader that follows the snapshot WHILE it is received, across a rotation
def exMemSnapOps : List MOp :=
  [ .setRunId "id1", .newRdbWriter 500 6, .rdbAppend [7,8,9], .openReader 0 400, .startReader 0, .copyStep 0,
    .rdbAppend [10,11,12], .copyStep 0, .copyStep 0, .copyStep 0 ]

example : ((Mem.init 4 0).run exMemSnapOps).readers.map (fun r => (r.isAof, r.seg, r.pos, r.out, r.released)) =
    [(false, 1, 6, [7,8,9,10,11,12], false)] := by decide +kernel
example : ((Mem.init 4 0).run exMemSnapOps).getRdb = (500, 6) := by decide +kernel
example : (((Mem.init 4 0).run exMemSnapOps).rdb.map (fun rd => rd.segs.map (fun g => (g.sid, g.left, g.data, g.next)))) =
    some [(0, 0, [7,8,9,10], some 1), (1, 4, [11,12], none)] := by decide +kernel

end GunYu.Props.C05
