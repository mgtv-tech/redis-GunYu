/-
  C16 — failing file writes of the FOLLOWER's own store (disk full, I/O error, a commit that
  fails): the follower never holds, announces or resumes beyond what its writers got onto their
  files.

  Model: `Loss` in Model/Replica.lean (`wfault = some K`: every writer of the session gets `K`
  payload bytes onto its file, the write of the next byte fails; `nocommit`: the rename of a
  completely written snapshot fails), threaded through `aofRecv` / the snapshot branch of
  `syncLoopV`. The faithfulness, contiguity and others-untouched theorems of Props/C16.lean
  quantify over ALL `lost : Loss`, so they already cover every fault point; the theorems here
  say what is kept:

  * `write_fault_stream`     : a stream writer that fails after `K` bytes leaves exactly the first
                               `K` received bytes appended — nothing of what followed
  * `write_fault_snapshot`   : a snapshot writer that fails (anywhere, also inside the LAST piece
                               of a completely received snapshot), or whose commit fails, leaves NO
                               snapshot and no stream byte under the id, and the session ends there
  * `resumes_at_durable_end` : the next session asks exactly at the end of what is held
                               (the position `preSync` answers is the stored copy's right end)
  Tie: the harness closes the real writer's file descriptor between two writes (pkg/store shim
  `VerifBreakFile`) / unlinks the temporary snapshot file (`VerifLoseRdbTmp`) under the real
  `ReplicaFollower.Run`, compares messages / outcome / store with this model, and checks the
  request offset of the following session on the wire.
-/
import GunYu.Model.Replica
import GunYu.Proofs.Replica
import GunYu.Props.C16

namespace GunYu.Props.C16
open GunYu GunYu.Replica

/-- **write_fault_stream.** The follower's stream writer was opened at the end `left` of its
    copy `d` and fails after `K` payload bytes, more than `K` bytes having reached it (`recv` =
    what the delivered messages carried, minus what was lost in the pipe): the session ends as
    `wfail` and the copy is `d` extended by exactly the first `K` of those bytes. -/
theorem write_fault_stream {β : Type} (F1 : Store β) (left : Nat) (ms : List (Msg β)) (fin : Fin)
    (budget pipe K : Nat) (nc : Bool) (d : Data β) (hcd : F1.curData = some d) (hr : d.right = left)
    (hK : K < ((aofLoop fin budget ms).2.1.take ((aofLoop fin budget ms).2.1.length - pipe)).length) :
    (aofRecv F1 left ms fin budget ⟨pipe, some K, nc⟩).cls = .wfail ∧
    (aofRecv F1 left ms fin budget ⟨pipe, some K, nc⟩).store.curData =
      some { d with bytes := d.bytes ++
        ((aofLoop fin budget ms).2.1.take ((aofLoop fin budget ms).2.1.length - pipe)).take K } := by
  unfold aofRecv
  simp only [Loss.written, hK, decide_true]
  unfold aofWrite
  simp only [hcd, hr, if_true, setCur_curData]
  exact ⟨trivial, trivial⟩

/-- … and on an empty cache: exactly the first `K` bytes, from the announced offset -/
theorem write_fault_stream_fresh {β : Type} (F1 : Store β) (left : Nat) (ms : List (Msg β)) (fin : Fin)
    (budget pipe K : Nat) (nc : Bool) (hcd : F1.curData = none) (hK0 : 0 < K)
    (hK : K < ((aofLoop fin budget ms).2.1.take ((aofLoop fin budget ms).2.1.length - pipe)).length) :
    (aofRecv F1 left ms fin budget ⟨pipe, some K, nc⟩).cls = .wfail ∧
    (aofRecv F1 left ms fin budget ⟨pipe, some K, nc⟩).store.curData =
      some ⟨left, ((aofLoop fin budget ms).2.1.take ((aofLoop fin budget ms).2.1.length - pipe)).take K, none⟩ := by
  unfold aofRecv
  simp only [Loss.written, hK, decide_true]
  unfold aofWrite
  simp only [hcd]
  generalize hp : ((aofLoop fin budget ms).2.1.take ((aofLoop fin budget ms).2.1.length - pipe)) = p at hK ⊢
  cases hq : p.take K with
  | nil =>
    exfalso
    have := congrArg List.length hq
    simp only [List.length_take, List.length_nil] at this
    omega
  | cons a as =>
    simp only [setCur_curData]
    exact ⟨by simp, trivial⟩

/-- **write_fault_snapshot.** The leader answers a request with a snapshot (`META`, not `aof`).
    If the follower's snapshot writer fails after `K` bytes and more than `K` bytes reach it —
    whether the transfer is then cut or COMPLETES (a fault inside the last piece) — or the
    commit of the completely written snapshot fails, the session ends in the snapshot stage as
    `wfail`, the follower holds nothing under the id: no snapshot is kept or announced. -/
theorem write_fault_snapshot {β : Type} (bk : Backend) (V : Nat → View β) (lost : Loss) (x : Id)
    (fuel n b : Nat) (ch : List Nat) (F : Store β) (fsp : Id × Int)
    (m : Msg β) (ms : List (Msg β)) (fin : Fin) (rest : List Nat)
    (hrp : (V n).handle fsp.1 fsp.2 ch = ⟨m :: ms, fin, rest⟩)
    (hm : m.code = .info) (ha : m.aof = false)
    (hfault : (∃ K, lost.wfault = some K ∧
        K < ((rdbLoop fin b m.size.toNat ms).2.1.take m.size.toNat).length) ∨
      ((rdbLoop fin b m.size.toNat ms).2.2 = none ∧ lost.nocommit = true)) :
    (syncLoopV bk V lost x (fuel + 1) n (b + 1) ch F fsp).cls = .wfail ∧
    (syncLoopV bk V lost x (fuel + 1) n (b + 1) ch F fsp).stage = .rdb ∧
    (syncLoopV bk V lost x (fuel + 1) n (b + 1) ch F fsp).store.curData = none := by
  unfold syncLoopV
  simp only [hrp, hm, ha, respErr, Out.pre, reduceCtorEq, if_false, Bool.false_eq_true]
  cases hq : (rdbLoop fin b m.size.toNat ms).2.2 with
  | some c =>
    simp only
    rcases hfault with ⟨K, hK, hlt⟩ | ⟨hc, _⟩
    · have hlt' : K < (rdbLoop fin b m.size.toNat ms).2.1.length := by
        simp only [List.length_take] at hlt
        omega
      simp only [Loss.written, hK, hlt', decide_true, if_true, setCur_curData]
      exact ⟨trivial, trivial, trivial⟩
    · rw [hq] at hc; cases hc
  | none =>
    simp only
    have hw : ((lost.written ((rdbLoop fin b m.size.toNat ms).2.1.take m.size.toNat)).2 || lost.nocommit) = true := by
      rcases hfault with ⟨K, hK, hlt⟩ | ⟨_, hn⟩
      · simp only [List.length_take] at hlt
        simp [Loss.written, hK, hlt]
      · simp [hn]
    simp only [hw, if_true, setCur_curData]
    exact ⟨trivial, trivial, trivial⟩

/-- **resumes_at_durable_end.** Whatever a session left (after a write fault, a cut, a crash
    restart …): the position the next session's `preSync` asks for under the leader's id is the
    leader's announced offset (the copy was dropped or nothing is held) or exactly the right end
    of the copy the follower holds — never a position beyond its stored bytes. -/
theorem resumes_at_durable_end {β : Type} (bk : Backend) (F : Store β) (x : Id) (loff : Int)
    (hx1 : x ≠ "") (hx2 : x ≠ "?") (hwf : WF bk F) :
    ∀ d, (preSync bk F x loff).1.curData = some d → (preSync bk F x loff).2.2 = (d.right : Int) :=
  fun d hd => preSync_pos bk F x loff hx1 hx2 hwf d hd

/-! ### non-vacuity -/

section examples

/-- leader: snapshot `[10,10]` at 10 and the stream 10..14 -/
def lF : Leader Nat := ⟨true, true, ["idA"], "idA", some ⟨10, [10, 11, 12, 13, 14], some [10, 10]⟩, true, [], none⟩
def fP : Store Nat := ⟨"idA", [("idA", some ⟨9, [9, 10, 11], none⟩)]⟩
def fO : Store Nat := ⟨"idA", [("idA", some ⟨2, [2, 3], none⟩)]⟩

-- the stream writer fails after 2 bytes: exactly two more bytes are held, the session ends `wfail`
example : (session .disk lF fP [1, 1, 1] 10 ⟨0, some 2, false⟩ 3).store.dirs = [("idA", some ⟨9, [9, 10, 11, 12, 13], none⟩)] ∧
    (session .disk lF fP [1, 1, 1] 10 ⟨0, some 2, false⟩ 3).cls = .wfail := by decide +kernel
-- the fault point is not reached: an ordinary session
example : (session .disk lF fP [1, 1, 1] 10 ⟨0, some 3, false⟩ 3).store.dirs = [("idA", some ⟨9, [9, 10, 11, 12, 13, 14], none⟩)] ∧
    (session .disk lF fP [1, 1, 1] 10 ⟨0, some 3, false⟩ 3).cls = .cut := by decide +kernel
-- the snapshot writer fails inside the LAST piece of a completely received snapshot: nothing is kept
example : (session .disk lF fO [1] 10 ⟨0, some 1, false⟩ 3).store.dirs = [("idA", none)] ∧
    (session .disk lF fO [1] 10 ⟨0, some 1, false⟩ 3).cls = .wfail ∧
    (session .disk lF fO [1] 10 ⟨0, some 1, false⟩ 3).stage = .rdb := by decide +kernel
-- the commit of the snapshot fails: nothing is kept either (without the fault: snapshot + stream)
example : (session .disk lF fO [] 10 ⟨0, none, true⟩ 3).store.dirs = [("idA", none)] ∧
    (session .disk lF fO [] 10 ⟨0, none, true⟩ 3).cls = .wfail := by decide +kernel
example : (session .disk lF fO [] 10 0 3).store.dirs = [("idA", some ⟨10, [10, 11, 12, 13, 14], some [10, 10]⟩)] := by decide +kernel
-- … and the next session asks at the end of what is held: after the stream fault at 9+3+2 = 14
example : (preSync .disk (session .disk lF fP [1, 1, 1] 10 ⟨0, some 2, false⟩ 3).store "idA" 15).2 = ("idA", 14) := by decide +kernel

-- `write_fault_snapshot` applied (its hypotheses `hrp`, `hfault` discharged): the data request of `fO`
-- (copy ends at 4, below the leader's range) is answered with the snapshot announcement + two chunks;
-- the snapshot writer fails after 1 byte, both bytes having arrived
example : (syncLoopV .disk (fun _ => View.const lF) ⟨0, some 1, false⟩ "idA" 3 1 9 [1] fO ("idA", 4)).cls = .wfail ∧
    (syncLoopV .disk (fun _ => View.const lF) ⟨0, some 1, false⟩ "idA" 3 1 9 [1] fO ("idA", 4)).stage = .rdb ∧
    (syncLoopV .disk (fun _ => View.const lF) ⟨0, some 1, false⟩ "idA" 3 1 9 [1] fO ("idA", 4)).store.curData = none :=
  write_fault_snapshot .disk (fun _ => View.const lF) ⟨0, some 1, false⟩ "idA" 2 1 8 [1] fO ("idA", 4)
    ⟨.info, "", false, 10, 2, []⟩ [⟨.cont, "", false, 5, 1, [10]⟩, ⟨.cont, "", false, 6, 1, [10]⟩] .eof []
    (by rfl) rfl rfl (Or.inl ⟨1, rfl, by decide⟩)
-- … and with a failing commit of the completely written snapshot
example : (syncLoopV .disk (fun _ => View.const lF) ⟨0, none, true⟩ "idA" 3 1 9 [1] fO ("idA", 4)).cls = .wfail :=
  (write_fault_snapshot .disk (fun _ => View.const lF) ⟨0, none, true⟩ "idA" 2 1 8 [1] fO ("idA", 4)
    ⟨.info, "", false, 10, 2, []⟩ [⟨.cont, "", false, 5, 1, [10]⟩, ⟨.cont, "", false, 6, 1, [10]⟩] .eof []
    (by rfl) rfl rfl (Or.inr ⟨by decide, rfl⟩)).1

end examples

end GunYu.Props.C16
