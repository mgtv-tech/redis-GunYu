/-
  C20 — the whole run: a snapshot is a sequence of key groups with pairwise
  distinct keys (one DB; "distinct" AFTER TargetDb / TargetDbMap and replaceHashTag
  rewriting); the worker's entry stream is their concatenation — with keyless
  entries (AUX fields, functions) anywhere between, see `StreamOf` — and may be cut
  ANYWHERE into a first part and a CONTINUED part (the same loop going on, also
  between the chunks of one key: `Run.resume`; that is the induction step of the
  whole-run theorems, NOT what a restarted replay does — for the restart see
  Props/C20Rerun.lean). Every key of the snapshot, every pre-existing key of the target and
  every other cell of the keyspace is accounted for, for each policy, for the
  plain and for the bidirectional worker.
-/
import GunYu.Props.C20
import GunYu.Proofs.RestoreRun

namespace GunYu.Props.C20
open GunYu GunYu.Restore

/-- a key group whose entries have the shape the loader delivers -/
def GoodGroup (g : KGroup) : Prop := Group g.1 g.2 ∧ Value g.1 g.2

/-- what the plain worker (`RdbReplay.Replay` per entry) does with a key group -/
def plainEff (pol : Policy) (cfg : Cfg) (t : Target) (g : KGroup) : Eff :=
  match pol with
  | .replace => .set (snapshotObj cfg t g.1 g.2)
  | .ignore => if (t.get g.key).isSome then .keep else .set (snapshotObj cfg t g.1 g.2)
  | .error => if (t.get g.key).isSome then .stop .errExists else .set (snapshotObj cfg t g.1 g.2)

/-- what the bidirectional worker does with a key group: the probe of `ignore` /
    `error` comes first; a payload the target cannot load fails the unit -/
def bisyncEff (pol : Policy) (cfg : Cfg) (t : Target) (g : KGroup) : Eff :=
  if (t.get g.key).isSome = true ∧ pol = .ignore then .keep
  else if (t.get g.key).isSome = true ∧ pol = .error then .stop .errExists
  else if useRestore cfg g.1 = true ∧ t.bad g.key = true then .stop .errBad
  else .set (snapshotObj cfg t g.1 g.2)

theorem plainEff_absent (pol : Policy) (cfg : Cfg) {t : Target} {g : KGroup} (h : t.get g.key = none) :
    plainEff pol cfg t g = .set (snapshotObj cfg t g.1 g.2) := by
  cases pol <;> simp [plainEff, h]

theorem plainEff_ignore_held (cfg : Cfg) {t : Target} {g : KGroup} {o : Obj} (h : t.get g.key = some o) :
    plainEff .ignore cfg t g = .keep := by
  simp [plainEff, h]

theorem plainEff_error_held (cfg : Cfg) {t : Target} {g : KGroup} {o : Obj} (h : t.get g.key = some o) :
    plainEff .error cfg t g = .stop .errExists := by
  simp [plainEff, h]

theorem bisyncEff_ignore_held (cfg : Cfg) {t : Target} {g : KGroup} {o : Obj} (h : t.get g.key = some o) :
    bisyncEff .ignore cfg t g = .keep := by
  simp [bisyncEff, h]

theorem bisyncEff_error_held (cfg : Cfg) {t : Target} {g : KGroup} {o : Obj} (h : t.get g.key = some o) :
    bisyncEff .error cfg t g = .stop .errExists := by
  simp [bisyncEff, h]

theorem bisyncEff_bad {pol : Policy} {cfg : Cfg} {t : Target} {g : KGroup} (hreach : t.get g.key = none ∨ pol = .replace)
    (hu : useRestore cfg g.1 = true) (hbad : t.bad g.key = true) : bisyncEff pol cfg t g = .stop .errBad := by
  rcases hreach with h | rfl <;> simp [bisyncEff, *]

theorem bisyncEff_set {pol : Policy} {cfg : Cfg} {t : Target} {g : KGroup} (hreach : t.get g.key = none ∨ pol = .replace)
    (hb : useRestore cfg g.1 = true → t.bad g.key = false) :
    bisyncEff pol cfg t g = .set (snapshotObj cfg t g.1 g.2) := by
  have : ¬ (useRestore cfg g.1 = true ∧ t.bad g.key = true) := fun h => by simp [hb h.1] at h
  rcases hreach with h | rfl <;> simp [bisyncEff, *]

/-- the run `r` from target `t` has had the effect on key `k` (what `Runner` asks of a run over one group) -/
def EffDone (t : Target) (k : Bytes) (r : Run) : Eff → Prop
  | .keep => r.out = .ok ∧ ∀ d k', r.tgt.ks d k' = t.ks d k'
  | .set o => r.out = .ok ∧ r.tgt.get k = some o ∧ ∀ d k', ¬ (d = t.cur ∧ k' = k) → r.tgt.ks d k' = t.ks d k'
  | .stop out => out ≠ .ok ∧ r.out = out ∧ ∀ d k', r.tgt.ks d k' = t.ks d k'

theorem plain_group (pol : Policy) (cfg : Cfg) (st : RState) (t : Target) (g : KGroup) (hg : GoodGroup g) :
    EffDone t g.key (runPlain pol cfg st t g.entries) (plainEff pol cfg t g) := by
  cases hx : t.get g.key with
  | none => rw [plainEff_absent pol cfg hx]; exact absent_final pol cfg st t g.1 g.2 hg.1 hg.2 hx
  | some o =>
    cases pol with
    | replace =>
      obtain ⟨h1, h2, h3, _⟩ := replace_final cfg st t g.1 g.2 hg.1 hg.2
      exact ⟨h1, h2, h3⟩
    | ignore =>
      rw [plainEff_ignore_held cfg hx]
      obtain ⟨h1, _, h3, _⟩ := ignore_untouched cfg st t g.1 g.2 o hg.1 hx
      exact ⟨h1, h3⟩
    | error =>
      rw [plainEff_error_held cfg hx]
      obtain ⟨h1, _, h3⟩ := error_before_modify cfg st t g.1 g.2 o hg.1 hx
      exact ⟨nofun, h1, h3⟩

theorem plain_runner (pol : Policy) (cfg : Cfg) : Runner (runPlain pol cfg) (plainEff pol cfg) GoodGroup where
  nil := runPlain_nil pol cfg
  split := runPlain_split pol cfg
  inv := runPlain_inv pol cfg
  loc := by
    intro t t' g h1 h2 h3
    simp only [plainEff, snapshotObj, h1, h2, h3]
  keep := fun st t g hg he => (congrArg (EffDone t g.key _) he).mp (plain_group pol cfg st t g hg)
  set := fun st t g _ hg he => (congrArg (EffDone t g.key _) he).mp (plain_group pol cfg st t g hg)
  stop := fun st t g _ hg he => (congrArg (EffDone t g.key _) he).mp (plain_group pol cfg st t g hg)

theorem bisync_group (pol : Policy) (cfg : Cfg) (st : RState) (t : Target) (g : KGroup) (hg : GoodGroup g) :
    EffDone t g.key (runBisync pol cfg st t g.entries) (bisyncEff pol cfg t g) := by
  by_cases hreach : t.get g.key = none ∨ pol = .replace
  · -- no probe stands in the way: the unit is built
    by_cases hbad : useRestore cfg g.1 = true ∧ t.bad g.key = true
    · rw [bisyncEff_bad hreach hbad.1 hbad.2]
      obtain ⟨h1, h2⟩ := bad_data_bisync_fails pol cfg st t g.1 g.2 hg.1 hbad.1 hbad.2 hreach
      exact ⟨nofun, h1, h2⟩
    · have hb : useRestore cfg g.1 = true → t.bad g.key = false := fun hu =>
        Bool.eq_false_iff.mpr fun hbd => hbad ⟨hu, hbd⟩
      rw [bisyncEff_set hreach hb]
      rcases hreach with hx | rfl
      · exact absent_final_bisync pol cfg st t g.1 g.2 hg.1 hg.2 hb hx
      · obtain ⟨h1, h2, h3, _⟩ := replace_final_bisync cfg st t g.1 g.2 hg.1 hg.2 hb
        exact ⟨h1, h2, h3⟩
  · cases hx : t.get g.key with
    | none => exact absurd (Or.inl hx) hreach
    | some o =>
      cases pol with
      | replace => exact absurd (Or.inr rfl) hreach
      | ignore =>
        rw [bisyncEff_ignore_held cfg hx]
        obtain ⟨h1, _, h3⟩ := ignore_untouched_bisync cfg st t g.1 g.2 o hg.1 hx
        exact ⟨h1, fun d k => by rw [show (runBisync .ignore cfg st t g.entries).tgt = t from h3]⟩
      | error =>
        rw [bisyncEff_error_held cfg hx]
        obtain ⟨h1, _, h3⟩ := error_before_modify_bisync cfg st t g.1 g.2 o hg.1 hx
        exact ⟨nofun, h1, fun d k => by rw [show (runBisync .error cfg st t g.entries).tgt = t from h3]⟩

theorem bisync_runner (pol : Policy) (cfg : Cfg) : Runner (runBisync pol cfg) (bisyncEff pol cfg) GoodGroup where
  nil := runBisync_nil pol cfg
  split := runBisync_split pol cfg
  inv := runBisync_inv pol cfg
  loc := by
    intro t t' g h1 h2 h3
    simp only [bisyncEff, snapshotObj, h1, h2, h3]
  keep := fun st t g hg he => (congrArg (EffDone t g.key _) he).mp (bisync_group pol cfg st t g hg)
  set := fun st t g _ hg he => (congrArg (EffDone t g.key _) he).mp (bisync_group pol cfg st t g hg)
  stop := fun st t g _ hg he => (congrArg (EffDone t g.key _) he).mp (bisync_group pol cfg st t g hg)

/-- the run over a stream cut at ANY point — first part, then CONTINUED by the same
    loop from the remembered state and the target the first part left, unless it
    failed — IS the run over the whole stream (requests, outcome, state, target).
    (`resume` = the loop going on. A RESTART after an interruption has a fresh
    state and begins at entry 0: Props/C20Rerun.lean.) -/
theorem resumed_is_whole (pol : Policy) (cfg : Cfg) (st : RState) (t : Target) (a b es : List Entry) (h : a ++ b = es) :
    (runPlain pol cfg st t a).resume (fun st' t' => runPlain pol cfg st' t' b) = runPlain pol cfg st t es := by
  rw [← h, runPlain_split]

theorem resumed_is_whole_bisync (pol : Policy) (cfg : Cfg) (st : RState) (t : Target) (a b es : List Entry)
    (h : a ++ b = es) :
    (runBisync pol cfg st t a).resume (fun st' t' => runBisync pol cfg st' t' b) = runBisync pol cfg st t es := by
  rw [← h, runBisync_split]

/-- plain worker over a whole snapshot `gs` (key groups, pairwise distinct keys),
    from ANY remembered state and ANY target:
    (1) cells outside the snapshot's keys are untouched;
    (2) if no group stops the run, it ends ok and every key holds the result of its
        group's effect on what the key held at the START;
    (3) otherwise, at the first stopping group the run ends with that outcome, the
        keys before it hold their results and every other cell is untouched. -/
theorem whole_plain (pol : Policy) (cfg : Cfg) (st : RState) (t : Target) (gs : List KGroup)
    (hg : ∀ g ∈ gs, GoodGroup g) (hk : (gs.map KGroup.key).Nodup) :
    (∀ d k, ¬ (d = t.cur ∧ k ∈ gs.map KGroup.key) → (runPlain pol cfg st t (flat gs)).tgt.ks d k = t.ks d k) ∧
    ((∀ g ∈ gs, (plainEff pol cfg t g).isStop = false) →
      (runPlain pol cfg st t (flat gs)).out = .ok ∧
      ∀ g ∈ gs, (runPlain pol cfg st t (flat gs)).tgt.get g.key = (plainEff pol cfg t g).result (t.get g.key)) ∧
    (∀ pre g post out, gs = pre ++ g :: post → (∀ p ∈ pre, (plainEff pol cfg t p).isStop = false) →
      plainEff pol cfg t g = .stop out →
      (runPlain pol cfg st t (flat gs)).out = out ∧
      (∀ p ∈ pre, (runPlain pol cfg st t (flat gs)).tgt.get p.key = (plainEff pol cfg t p).result (t.get p.key)) ∧
      (∀ d k, ¬ (d = t.cur ∧ k ∈ pre.map KGroup.key) → (runPlain pol cfg st t (flat gs)).tgt.ks d k = t.ks d k)) :=
  (plain_runner pol cfg).whole gs st t hg hk

/-- the same for the bidirectional worker (`bisyncEff`: a payload the target cannot load stops the run) -/
theorem whole_bisync (pol : Policy) (cfg : Cfg) (st : RState) (t : Target) (gs : List KGroup)
    (hg : ∀ g ∈ gs, GoodGroup g) (hk : (gs.map KGroup.key).Nodup) :
    (∀ d k, ¬ (d = t.cur ∧ k ∈ gs.map KGroup.key) → (runBisync pol cfg st t (flat gs)).tgt.ks d k = t.ks d k) ∧
    ((∀ g ∈ gs, (bisyncEff pol cfg t g).isStop = false) →
      (runBisync pol cfg st t (flat gs)).out = .ok ∧
      ∀ g ∈ gs, (runBisync pol cfg st t (flat gs)).tgt.get g.key = (bisyncEff pol cfg t g).result (t.get g.key)) ∧
    (∀ pre g post out, gs = pre ++ g :: post → (∀ p ∈ pre, (bisyncEff pol cfg t p).isStop = false) →
      bisyncEff pol cfg t g = .stop out →
      (runBisync pol cfg st t (flat gs)).out = out ∧
      (∀ p ∈ pre, (runBisync pol cfg st t (flat gs)).tgt.get p.key = (bisyncEff pol cfg t p).result (t.get p.key)) ∧
      (∀ d k, ¬ (d = t.cur ∧ k ∈ pre.map KGroup.key) → (runBisync pol cfg st t (flat gs)).tgt.ks d k = t.ks d k)) :=
  (bisync_runner pol cfg).whole gs st t hg hk

/-- every group of the snapshot is written (`f g`: what its key ends with): the run succeeds, every key holds its
    group's object, every other cell is untouched -/
theorem whole_all_set {run : RState → Target → List Entry → Run} {eff : Target → KGroup → Eff} (R : Runner run eff GoodGroup)
    (st : RState) (t : Target) (gs : List KGroup) (hg : ∀ g ∈ gs, GoodGroup g) (hk : (gs.map KGroup.key).Nodup)
    (f : KGroup → Obj) (he : ∀ g ∈ gs, eff t g = .set (f g)) :
    (run st t (flat gs)).out = .ok ∧
    (∀ g ∈ gs, (run st t (flat gs)).tgt.get g.key = some (f g)) ∧
    (∀ d k, ¬ (d = t.cur ∧ k ∈ gs.map KGroup.key) → (run st t (flat gs)).tgt.ks d k = t.ks d k) := by
  obtain ⟨h1, h2, _⟩ := R.whole gs st t hg hk
  obtain ⟨o1, o2⟩ := h2 (fun g hg' => by rw [he g hg']; rfl)
  exact ⟨o1, fun g hg' => by rw [o2 g hg', he g hg']; rfl, h1⟩

/-- **replace**: every key of the snapshot ends with exactly the snapshot's value
    and expiry, whatever the target held; nothing else changes. -/
theorem replace_whole (cfg : Cfg) (st : RState) (t : Target) (gs : List KGroup)
    (hg : ∀ g ∈ gs, GoodGroup g) (hk : (gs.map KGroup.key).Nodup) :
    (runPlain .replace cfg st t (flat gs)).out = .ok ∧
    (∀ g ∈ gs, (runPlain .replace cfg st t (flat gs)).tgt.get g.key = some (snapshotObj cfg t g.1 g.2)) ∧
    (∀ d k, ¬ (d = t.cur ∧ k ∈ gs.map KGroup.key) → (runPlain .replace cfg st t (flat gs)).tgt.ks d k = t.ks d k) :=
  whole_all_set (plain_runner .replace cfg) st t gs hg hk _ fun _ _ => rfl

/-- **ignore**: every key the target held at the start is exactly as it was;
    every other key of the snapshot ends with the snapshot's value and expiry;
    nothing else changes; the run succeeds. -/
theorem ignore_whole (cfg : Cfg) (st : RState) (t : Target) (gs : List KGroup)
    (hg : ∀ g ∈ gs, GoodGroup g) (hk : (gs.map KGroup.key).Nodup) :
    (runPlain .ignore cfg st t (flat gs)).out = .ok ∧
    (∀ g ∈ gs, ∀ o, t.get g.key = some o → (runPlain .ignore cfg st t (flat gs)).tgt.get g.key = some o) ∧
    (∀ g ∈ gs, t.get g.key = none →
      (runPlain .ignore cfg st t (flat gs)).tgt.get g.key = some (snapshotObj cfg t g.1 g.2)) ∧
    (∀ d k, ¬ (d = t.cur ∧ k ∈ gs.map KGroup.key) → (runPlain .ignore cfg st t (flat gs)).tgt.ks d k = t.ks d k) := by
  obtain ⟨h1, h2, _⟩ := whole_plain .ignore cfg st t gs hg hk
  obtain ⟨o1, o2⟩ := h2 (fun g _ => by simp only [plainEff]; split <;> rfl)
  refine ⟨o1, ?_, ?_, h1⟩
  · intro g hg' o ho
    rw [o2 g hg', plainEff_ignore_held cfg ho, ho]; rfl
  · intro g hg' ho
    rw [o2 g hg', plainEff_absent _ cfg ho]; rfl

/-- **error**, no key of the snapshot on the target: as `replace` -/
theorem error_whole_clean (cfg : Cfg) (st : RState) (t : Target) (gs : List KGroup)
    (hg : ∀ g ∈ gs, GoodGroup g) (hk : (gs.map KGroup.key).Nodup) (hnone : ∀ g ∈ gs, t.get g.key = none) :
    (runPlain .error cfg st t (flat gs)).out = .ok ∧
    (∀ g ∈ gs, (runPlain .error cfg st t (flat gs)).tgt.get g.key = some (snapshotObj cfg t g.1 g.2)) ∧
    (∀ d k, ¬ (d = t.cur ∧ k ∈ gs.map KGroup.key) → (runPlain .error cfg st t (flat gs)).tgt.ks d k = t.ks d k) :=
  whole_all_set (plain_runner .error cfg) st t gs hg hk _ fun g hg' => plainEff_absent _ cfg (hnone g hg')

/-- **error**, some key of the snapshot on the target: the run stops with the
    key-exists error at the FIRST such key; the keys before it hold the snapshot's
    values; that key, every later key, every other pre-existing key and every
    other cell are exactly as they were. -/
theorem error_whole_stop (cfg : Cfg) (st : RState) (t : Target) (pre post : List KGroup) (g : KGroup) (o : Obj)
    (hg : ∀ x ∈ pre ++ g :: post, GoodGroup x) (hk : ((pre ++ g :: post).map KGroup.key).Nodup)
    (hnone : ∀ p ∈ pre, t.get p.key = none) (hex : t.get g.key = some o) :
    (runPlain .error cfg st t (flat (pre ++ g :: post))).out = .errExists ∧
    (∀ p ∈ pre, (runPlain .error cfg st t (flat (pre ++ g :: post))).tgt.get p.key = some (snapshotObj cfg t p.1 p.2)) ∧
    (∀ d k, ¬ (d = t.cur ∧ k ∈ pre.map KGroup.key) →
      (runPlain .error cfg st t (flat (pre ++ g :: post))).tgt.ks d k = t.ks d k) := by
  obtain ⟨_, _, h3⟩ := whole_plain .error cfg st t (pre ++ g :: post) hg hk
  obtain ⟨o1, o2, o3⟩ := h3 pre g post .errExists rfl
    (fun p hp => by rw [plainEff_absent _ cfg (hnone p hp)]; rfl) (plainEff_error_held cfg hex)
  exact ⟨o1, fun p hp => by rw [o2 p hp, plainEff_absent _ cfg (hnone p hp)]; rfl, o3⟩

/-! ## the three policies, whole snapshot, bidirectional worker

  `hb`: where the RESTORE path is taken the target can load the payload; the
  other case is `bad_data_whole_bisync`. -/

theorem replace_whole_bisync (cfg : Cfg) (st : RState) (t : Target) (gs : List KGroup)
    (hg : ∀ g ∈ gs, GoodGroup g) (hk : (gs.map KGroup.key).Nodup)
    (hb : ∀ g ∈ gs, useRestore cfg g.1 = true → t.bad g.key = false) :
    (runBisync .replace cfg st t (flat gs)).out = .ok ∧
    (∀ g ∈ gs, (runBisync .replace cfg st t (flat gs)).tgt.get g.key = some (snapshotObj cfg t g.1 g.2)) ∧
    (∀ d k, ¬ (d = t.cur ∧ k ∈ gs.map KGroup.key) → (runBisync .replace cfg st t (flat gs)).tgt.ks d k = t.ks d k) :=
  whole_all_set (bisync_runner .replace cfg) st t gs hg hk _ fun g hg' => bisyncEff_set (Or.inr rfl) (hb g hg')

theorem ignore_whole_bisync (cfg : Cfg) (st : RState) (t : Target) (gs : List KGroup)
    (hg : ∀ g ∈ gs, GoodGroup g) (hk : (gs.map KGroup.key).Nodup)
    (hb : ∀ g ∈ gs, t.get g.key = none → useRestore cfg g.1 = true → t.bad g.key = false) :
    (runBisync .ignore cfg st t (flat gs)).out = .ok ∧
    (∀ g ∈ gs, ∀ o, t.get g.key = some o → (runBisync .ignore cfg st t (flat gs)).tgt.get g.key = some o) ∧
    (∀ g ∈ gs, t.get g.key = none →
      (runBisync .ignore cfg st t (flat gs)).tgt.get g.key = some (snapshotObj cfg t g.1 g.2)) ∧
    (∀ d k, ¬ (d = t.cur ∧ k ∈ gs.map KGroup.key) → (runBisync .ignore cfg st t (flat gs)).tgt.ks d k = t.ks d k) := by
  obtain ⟨h1, h2, _⟩ := whole_bisync .ignore cfg st t gs hg hk
  have he : ∀ g ∈ gs, t.get g.key = none → bisyncEff .ignore cfg t g = .set (snapshotObj cfg t g.1 g.2) :=
    fun g hg' ho => bisyncEff_set (Or.inl ho) (hb g hg' ho)
  obtain ⟨o1, o2⟩ := h2 (fun g hg' => by
    cases ho : t.get g.key with
    | none => rw [he g hg' ho]; rfl
    | some o => rw [bisyncEff_ignore_held cfg ho]; rfl)
  refine ⟨o1, ?_, ?_, h1⟩
  · intro g hg' o ho; rw [o2 g hg', bisyncEff_ignore_held cfg ho, ho]; rfl
  · intro g hg' ho; rw [o2 g hg', he g hg' ho]; rfl

theorem error_whole_clean_bisync (cfg : Cfg) (st : RState) (t : Target) (gs : List KGroup)
    (hg : ∀ g ∈ gs, GoodGroup g) (hk : (gs.map KGroup.key).Nodup) (hnone : ∀ g ∈ gs, t.get g.key = none)
    (hb : ∀ g ∈ gs, useRestore cfg g.1 = true → t.bad g.key = false) :
    (runBisync .error cfg st t (flat gs)).out = .ok ∧
    (∀ g ∈ gs, (runBisync .error cfg st t (flat gs)).tgt.get g.key = some (snapshotObj cfg t g.1 g.2)) ∧
    (∀ d k, ¬ (d = t.cur ∧ k ∈ gs.map KGroup.key) → (runBisync .error cfg st t (flat gs)).tgt.ks d k = t.ks d k) :=
  whole_all_set (bisync_runner .error cfg) st t gs hg hk _ fun g hg' => bisyncEff_set (Or.inl (hnone g hg')) (hb g hg')

theorem error_whole_stop_bisync (cfg : Cfg) (st : RState) (t : Target) (pre post : List KGroup) (g : KGroup) (o : Obj)
    (hg : ∀ x ∈ pre ++ g :: post, GoodGroup x) (hk : ((pre ++ g :: post).map KGroup.key).Nodup)
    (hnone : ∀ p ∈ pre, t.get p.key = none) (hb : ∀ p ∈ pre, useRestore cfg p.1 = true → t.bad p.key = false)
    (hex : t.get g.key = some o) :
    (runBisync .error cfg st t (flat (pre ++ g :: post))).out = .errExists ∧
    (∀ p ∈ pre, (runBisync .error cfg st t (flat (pre ++ g :: post))).tgt.get p.key = some (snapshotObj cfg t p.1 p.2)) ∧
    (∀ d k, ¬ (d = t.cur ∧ k ∈ pre.map KGroup.key) →
      (runBisync .error cfg st t (flat (pre ++ g :: post))).tgt.ks d k = t.ks d k) := by
  obtain ⟨_, _, h3⟩ := whole_bisync .error cfg st t (pre ++ g :: post) hg hk
  have he : ∀ p ∈ pre, bisyncEff .error cfg t p = .set (snapshotObj cfg t p.1 p.2) :=
    fun p hp => bisyncEff_set (Or.inl (hnone p hp)) (hb p hp)
  obtain ⟨o1, o2, o3⟩ := h3 pre g post .errExists rfl (fun p hp => by rw [he p hp]; rfl) (bisyncEff_error_held cfg hex)
  exact ⟨o1, fun p hp => by rw [o2 p hp, he p hp]; rfl, o3⟩

/-- a payload the target cannot load, reached by the bidirectional worker (its key
    is absent, or the policy is replace): the run stops THERE with the bad-data
    error; the groups before it have had their effects; that key, every later key
    and every other cell are exactly as they were — nothing of the value is merged. -/
theorem bad_data_whole_bisync (pol : Policy) (cfg : Cfg) (st : RState) (t : Target) (pre post : List KGroup) (g : KGroup)
    (hg : ∀ x ∈ pre ++ g :: post, GoodGroup x) (hk : ((pre ++ g :: post).map KGroup.key).Nodup)
    (hpre : ∀ p ∈ pre, (bisyncEff pol cfg t p).isStop = false)
    (hu : useRestore cfg g.1 = true) (hbad : t.bad g.key = true) (hreach : t.get g.key = none ∨ pol = .replace) :
    (runBisync pol cfg st t (flat (pre ++ g :: post))).out = .errBad ∧
    (∀ p ∈ pre, (runBisync pol cfg st t (flat (pre ++ g :: post))).tgt.get p.key
      = (bisyncEff pol cfg t p).result (t.get p.key)) ∧
    (∀ d k, ¬ (d = t.cur ∧ k ∈ pre.map KGroup.key) →
      (runBisync pol cfg st t (flat (pre ++ g :: post))).tgt.ks d k = t.ks d k) := by
  obtain ⟨_, _, h3⟩ := whole_bisync pol cfg st t (pre ++ g :: post) hg hk
  exact h3 pre g post .errBad rfl hpre (bisyncEff_bad hreach hu hbad)

/-! ## … and for every split of the stream (the statements above are about `run (flat gs)`;
    a run cut anywhere and continued by the same loop is that run: `resumed_is_whole`; these four only restate
    the theorems above through that equality) -/

theorem replace_whole_resumed (cfg : Cfg) (st : RState) (t : Target) (gs : List KGroup) (a b : List Entry)
    (hab : a ++ b = flat gs) (hg : ∀ g ∈ gs, GoodGroup g) (hk : (gs.map KGroup.key).Nodup) :
    ((runPlain .replace cfg st t a).resume fun st' t' => runPlain .replace cfg st' t' b).out = .ok ∧
    (∀ g ∈ gs, ((runPlain .replace cfg st t a).resume fun st' t' => runPlain .replace cfg st' t' b).tgt.get g.key
      = some (snapshotObj cfg t g.1 g.2)) ∧
    (∀ d k, ¬ (d = t.cur ∧ k ∈ gs.map KGroup.key) →
      ((runPlain .replace cfg st t a).resume fun st' t' => runPlain .replace cfg st' t' b).tgt.ks d k = t.ks d k) := by
  rw [resumed_is_whole _ _ _ _ _ _ _ hab]; exact replace_whole cfg st t gs hg hk

theorem ignore_whole_resumed (cfg : Cfg) (st : RState) (t : Target) (gs : List KGroup) (a b : List Entry)
    (hab : a ++ b = flat gs) (hg : ∀ g ∈ gs, GoodGroup g) (hk : (gs.map KGroup.key).Nodup) :
    ((runPlain .ignore cfg st t a).resume fun st' t' => runPlain .ignore cfg st' t' b).out = .ok ∧
    (∀ g ∈ gs, ∀ o, t.get g.key = some o →
      ((runPlain .ignore cfg st t a).resume fun st' t' => runPlain .ignore cfg st' t' b).tgt.get g.key = some o) ∧
    (∀ g ∈ gs, t.get g.key = none →
      ((runPlain .ignore cfg st t a).resume fun st' t' => runPlain .ignore cfg st' t' b).tgt.get g.key
        = some (snapshotObj cfg t g.1 g.2)) ∧
    (∀ d k, ¬ (d = t.cur ∧ k ∈ gs.map KGroup.key) →
      ((runPlain .ignore cfg st t a).resume fun st' t' => runPlain .ignore cfg st' t' b).tgt.ks d k = t.ks d k) := by
  rw [resumed_is_whole _ _ _ _ _ _ _ hab]; exact ignore_whole cfg st t gs hg hk

theorem error_whole_stop_resumed (cfg : Cfg) (st : RState) (t : Target) (pre post : List KGroup) (g : KGroup) (o : Obj)
    (a b : List Entry) (hab : a ++ b = flat (pre ++ g :: post))
    (hg : ∀ x ∈ pre ++ g :: post, GoodGroup x) (hk : ((pre ++ g :: post).map KGroup.key).Nodup)
    (hnone : ∀ p ∈ pre, t.get p.key = none) (hex : t.get g.key = some o) :
    ((runPlain .error cfg st t a).resume fun st' t' => runPlain .error cfg st' t' b).out = .errExists ∧
    (∀ p ∈ pre, ((runPlain .error cfg st t a).resume fun st' t' => runPlain .error cfg st' t' b).tgt.get p.key
      = some (snapshotObj cfg t p.1 p.2)) ∧
    (∀ d k, ¬ (d = t.cur ∧ k ∈ pre.map KGroup.key) →
      ((runPlain .error cfg st t a).resume fun st' t' => runPlain .error cfg st' t' b).tgt.ks d k = t.ks d k) := by
  rw [resumed_is_whole _ _ _ _ _ _ _ hab]; exact error_whole_stop cfg st t pre post g o hg hk hnone hex

theorem whole_bisync_resumed (pol : Policy) (cfg : Cfg) (st : RState) (t : Target) (gs : List KGroup) (a b : List Entry)
    (hab : a ++ b = flat gs) (hg : ∀ g ∈ gs, GoodGroup g) (hk : (gs.map KGroup.key).Nodup) :
    let r := (runBisync pol cfg st t a).resume fun st' t' => runBisync pol cfg st' t' b
    (∀ d k, ¬ (d = t.cur ∧ k ∈ gs.map KGroup.key) → r.tgt.ks d k = t.ks d k) ∧
    ((∀ g ∈ gs, (bisyncEff pol cfg t g).isStop = false) →
      r.out = .ok ∧ ∀ g ∈ gs, r.tgt.get g.key = (bisyncEff pol cfg t g).result (t.get g.key)) ∧
    (∀ pre g post out, gs = pre ++ g :: post → (∀ p ∈ pre, (bisyncEff pol cfg t p).isStop = false) →
      bisyncEff pol cfg t g = .stop out →
      r.out = out ∧ (∀ p ∈ pre, r.tgt.get p.key = (bisyncEff pol cfg t p).result (t.get p.key)) ∧
      (∀ d k, ¬ (d = t.cur ∧ k ∈ pre.map KGroup.key) → r.tgt.ks d k = t.ks d k)) := by
  intro r
  have : r = runBisync pol cfg st t (flat gs) := resumed_is_whole_bisync _ _ _ _ _ _ _ hab
  rw [this]; exact whole_bisync pol cfg st t gs hg hk

/-! ## the worker loops with DB selection (`runWorker` = rdbReplay / rdbReplayBisync): a snapshot over SEVERAL DBs

  A key is a cell (db, key); the groups' cells are pairwise distinct; all chunks of
  a key carry its DB (`oneDb`); the connection starts in DB `c` (= what the worker
  believes). The worker issues SELECT whenever the next key's DB differs. The
  effect of a group is evaluated on the target as seen from the key's DB. -/

theorem whole_worker_plain (pol : Policy) (cfg : Cfg) (c : Nat) (st : RState) (t : Target) (gs : List KGroup)
    (hc : t.cur = c) (hg : ∀ g ∈ gs, GoodGroup g ∧ g.oneDb) (hk : (gs.map KGroup.cell).Nodup) :
    (∀ d k, (d, k) ∉ gs.map KGroup.cell →
      (workerTarget t (runWorker false pol cfg c st t (flat gs))).ks d k = t.ks d k) ∧
    ((∀ g ∈ gs, (plainEff pol cfg (t.inDb g.dbn) g).isStop = false) →
      lastOut (runWorker false pol cfg c st t (flat gs)) = .ok ∧
      ∀ g ∈ gs, (workerTarget t (runWorker false pol cfg c st t (flat gs))).ks g.dbn g.key
        = (plainEff pol cfg (t.inDb g.dbn) g).result (t.ks g.dbn g.key)) ∧
    (∀ pre g post out, gs = pre ++ g :: post → (∀ p ∈ pre, (plainEff pol cfg (t.inDb p.dbn) p).isStop = false) →
      plainEff pol cfg (t.inDb g.dbn) g = .stop out →
      lastOut (runWorker false pol cfg c st t (flat gs)) = out ∧
      (∀ p ∈ pre, (workerTarget t (runWorker false pol cfg c st t (flat gs))).ks p.dbn p.key
        = (plainEff pol cfg (t.inDb p.dbn) p).result (t.ks p.dbn p.key)) ∧
      (∀ d k, (d, k) ∉ pre.map KGroup.cell →
        (workerTarget t (runWorker false pol cfg c st t (flat gs))).ks d k = t.ks d k)) := by
  obtain ⟨_, b2, b3⟩ := runWorker_is_runWG_plain pol cfg (flat gs) c st t
  rw [b2, b3]
  exact (plain_runner pol cfg).wholeW gs c st t hc hg hk

theorem whole_worker_bisync (pol : Policy) (cfg : Cfg) (c : Nat) (st : RState) (t : Target) (gs : List KGroup)
    (hc : t.cur = c) (hg : ∀ g ∈ gs, GoodGroup g ∧ g.oneDb) (hk : (gs.map KGroup.cell).Nodup) :
    (∀ d k, (d, k) ∉ gs.map KGroup.cell →
      (workerTarget t (runWorker true pol cfg c st t (flat gs))).ks d k = t.ks d k) ∧
    ((∀ g ∈ gs, (bisyncEff pol cfg (t.inDb g.dbn) g).isStop = false) →
      lastOut (runWorker true pol cfg c st t (flat gs)) = .ok ∧
      ∀ g ∈ gs, (workerTarget t (runWorker true pol cfg c st t (flat gs))).ks g.dbn g.key
        = (bisyncEff pol cfg (t.inDb g.dbn) g).result (t.ks g.dbn g.key)) ∧
    (∀ pre g post out, gs = pre ++ g :: post → (∀ p ∈ pre, (bisyncEff pol cfg (t.inDb p.dbn) p).isStop = false) →
      bisyncEff pol cfg (t.inDb g.dbn) g = .stop out →
      lastOut (runWorker true pol cfg c st t (flat gs)) = out ∧
      (∀ p ∈ pre, (workerTarget t (runWorker true pol cfg c st t (flat gs))).ks p.dbn p.key
        = (bisyncEff pol cfg (t.inDb p.dbn) p).result (t.ks p.dbn p.key)) ∧
      (∀ d k, (d, k) ∉ pre.map KGroup.cell →
        (workerTarget t (runWorker true pol cfg c st t (flat gs))).ks d k = t.ks d k)) := by
  obtain ⟨_, b2, b3⟩ := runWorker_is_runWG_bisync pol cfg (flat gs) c st t
  rw [b2, b3]
  exact (bisync_runner pol cfg).wholeW gs c st t hc hg hk

/-- **replace**, worker with DB selection, any number of DBs: every (db, key) of the
    snapshot ends with the snapshot's value and expiry, every other cell is untouched -/
theorem replace_whole_worker (cfg : Cfg) (c : Nat) (st : RState) (t : Target) (gs : List KGroup)
    (hc : t.cur = c) (hg : ∀ g ∈ gs, GoodGroup g ∧ g.oneDb) (hk : (gs.map KGroup.cell).Nodup) :
    lastOut (runWorker false .replace cfg c st t (flat gs)) = .ok ∧
    (∀ g ∈ gs, (workerTarget t (runWorker false .replace cfg c st t (flat gs))).ks g.dbn g.key
      = some (snapshotObj cfg t g.1 g.2)) ∧
    (∀ d k, (d, k) ∉ gs.map KGroup.cell →
      (workerTarget t (runWorker false .replace cfg c st t (flat gs))).ks d k = t.ks d k) := by
  obtain ⟨h1, h2, _⟩ := whole_worker_plain .replace cfg c st t gs hc hg hk
  obtain ⟨o1, o2⟩ := h2 (fun g _ => rfl)
  exact ⟨o1, fun g hg' => o2 g hg', h1⟩

/-- **ignore**, worker with DB selection: a cell the target held is exactly as it was, the others get the snapshot's value -/
theorem ignore_whole_worker (cfg : Cfg) (c : Nat) (st : RState) (t : Target) (gs : List KGroup)
    (hc : t.cur = c) (hg : ∀ g ∈ gs, GoodGroup g ∧ g.oneDb) (hk : (gs.map KGroup.cell).Nodup) :
    lastOut (runWorker false .ignore cfg c st t (flat gs)) = .ok ∧
    (∀ g ∈ gs, ∀ o, t.ks g.dbn g.key = some o →
      (workerTarget t (runWorker false .ignore cfg c st t (flat gs))).ks g.dbn g.key = some o) ∧
    (∀ g ∈ gs, t.ks g.dbn g.key = none →
      (workerTarget t (runWorker false .ignore cfg c st t (flat gs))).ks g.dbn g.key = some (snapshotObj cfg t g.1 g.2)) ∧
    (∀ d k, (d, k) ∉ gs.map KGroup.cell →
      (workerTarget t (runWorker false .ignore cfg c st t (flat gs))).ks d k = t.ks d k) := by
  obtain ⟨h1, h2, _⟩ := whole_worker_plain .ignore cfg c st t gs hc hg hk
  obtain ⟨o1, o2⟩ := h2 (fun g _ => by simp only [plainEff]; split <;> rfl)
  refine ⟨o1, ?_, ?_, h1⟩
  · intro g hg' o ho
    rw [o2 g hg', plainEff_ignore_held (t := t.inDb g.dbn) cfg ho, ho]; rfl
  · intro g hg' ho
    rw [o2 g hg', plainEff_absent (t := t.inDb g.dbn) _ cfg ho]; rfl

/-- **error**, worker with DB selection: stops at the first cell the target holds; nothing but the cells before it changed -/
theorem error_whole_stop_worker (cfg : Cfg) (c : Nat) (st : RState) (t : Target) (pre post : List KGroup) (g : KGroup) (o : Obj)
    (hc : t.cur = c) (hg : ∀ x ∈ pre ++ g :: post, GoodGroup x ∧ x.oneDb)
    (hk : ((pre ++ g :: post).map KGroup.cell).Nodup)
    (hnone : ∀ p ∈ pre, t.ks p.dbn p.key = none) (hex : t.ks g.dbn g.key = some o) :
    lastOut (runWorker false .error cfg c st t (flat (pre ++ g :: post))) = .errExists ∧
    (∀ p ∈ pre, (workerTarget t (runWorker false .error cfg c st t (flat (pre ++ g :: post)))).ks p.dbn p.key
      = some (snapshotObj cfg t p.1 p.2)) ∧
    (∀ d k, (d, k) ∉ pre.map KGroup.cell →
      (workerTarget t (runWorker false .error cfg c st t (flat (pre ++ g :: post)))).ks d k = t.ks d k) := by
  obtain ⟨_, _, h3⟩ := whole_worker_plain .error cfg c st t (pre ++ g :: post) hc hg hk
  have he : ∀ p ∈ pre, plainEff .error cfg (t.inDb p.dbn) p = .set (snapshotObj cfg t p.1 p.2) :=
    fun p hp => plainEff_absent (t := t.inDb p.dbn) _ cfg (hnone p hp)
  obtain ⟨o1, o2, o3⟩ := h3 pre g post .errExists rfl (fun p hp => by rw [he p hp]; rfl)
    (plainEff_error_held (t := t.inDb g.dbn) cfg hex)
  exact ⟨o1, fun p hp => by rw [o2 p hp, he p hp]; rfl, o3⟩

/-! ## the stream a worker really gets: AUX fields and function libraries between the key groups

  `es` is ANY entry list whose keyed entries, in order, are the chunks of the groups `gs`
  (`StreamOf`); the keyless entries (`otype` func / aux — `redis-ver`, `redis-bits`, lua, function
  libraries) may stand anywhere, also between the chunks of a key. -/

def StreamOf (es : List Entry) (gs : List KGroup) : Prop := es.filter (fun e => !keyless e) = flat gs

theorem whole_plain_stream (pol : Policy) (cfg : Cfg) (st : RState) (t : Target) (gs : List KGroup) (es : List Entry)
    (hs : StreamOf es gs) (hg : ∀ g ∈ gs, GoodGroup g) (hk : (gs.map KGroup.key).Nodup) :
    (∀ d k, ¬ (d = t.cur ∧ k ∈ gs.map KGroup.key) → (runPlain pol cfg st t es).tgt.ks d k = t.ks d k) ∧
    ((∀ g ∈ gs, (plainEff pol cfg t g).isStop = false) →
      (runPlain pol cfg st t es).out = .ok ∧
      ∀ g ∈ gs, (runPlain pol cfg st t es).tgt.get g.key = (plainEff pol cfg t g).result (t.get g.key)) ∧
    (∀ pre g post out, gs = pre ++ g :: post → (∀ p ∈ pre, (plainEff pol cfg t p).isStop = false) →
      plainEff pol cfg t g = .stop out →
      (runPlain pol cfg st t es).out = out ∧
      (∀ p ∈ pre, (runPlain pol cfg st t es).tgt.get p.key = (plainEff pol cfg t p).result (t.get p.key)) ∧
      (∀ d k, ¬ (d = t.cur ∧ k ∈ pre.map KGroup.key) → (runPlain pol cfg st t es).tgt.ks d k = t.ks d k)) := by
  obtain ⟨h1, _, h3⟩ := runPlain_strip pol cfg es st t
  rw [h1, h3, hs]
  exact whole_plain pol cfg st t gs hg hk

theorem whole_bisync_stream (pol : Policy) (cfg : Cfg) (st : RState) (t : Target) (gs : List KGroup) (es : List Entry)
    (hs : StreamOf es gs) (hg : ∀ g ∈ gs, GoodGroup g) (hk : (gs.map KGroup.key).Nodup) :
    (∀ d k, ¬ (d = t.cur ∧ k ∈ gs.map KGroup.key) → (runBisync pol cfg st t es).tgt.ks d k = t.ks d k) ∧
    ((∀ g ∈ gs, (bisyncEff pol cfg t g).isStop = false) →
      (runBisync pol cfg st t es).out = .ok ∧
      ∀ g ∈ gs, (runBisync pol cfg st t es).tgt.get g.key = (bisyncEff pol cfg t g).result (t.get g.key)) ∧
    (∀ pre g post out, gs = pre ++ g :: post → (∀ p ∈ pre, (bisyncEff pol cfg t p).isStop = false) →
      bisyncEff pol cfg t g = .stop out →
      (runBisync pol cfg st t es).out = out ∧
      (∀ p ∈ pre, (runBisync pol cfg st t es).tgt.get p.key = (bisyncEff pol cfg t p).result (t.get p.key)) ∧
      (∀ d k, ¬ (d = t.cur ∧ k ∈ pre.map KGroup.key) → (runBisync pol cfg st t es).tgt.ks d k = t.ks d k)) := by
  obtain ⟨h1, _, h3⟩ := runBisync_strip pol cfg es st t
  rw [h1, h3, hs]
  exact whole_bisync pol cfg st t gs hg hk

theorem replace_whole_stream (cfg : Cfg) (st : RState) (t : Target) (gs : List KGroup) (es : List Entry)
    (hs : StreamOf es gs) (hg : ∀ g ∈ gs, GoodGroup g) (hk : (gs.map KGroup.key).Nodup) :
    (runPlain .replace cfg st t es).out = .ok ∧
    (∀ g ∈ gs, (runPlain .replace cfg st t es).tgt.get g.key = some (snapshotObj cfg t g.1 g.2)) ∧
    (∀ d k, ¬ (d = t.cur ∧ k ∈ gs.map KGroup.key) → (runPlain .replace cfg st t es).tgt.ks d k = t.ks d k) := by
  obtain ⟨h1, _, h3⟩ := runPlain_strip .replace cfg es st t
  rw [h1, h3, hs]
  exact replace_whole cfg st t gs hg hk

theorem ignore_whole_stream (cfg : Cfg) (st : RState) (t : Target) (gs : List KGroup) (es : List Entry)
    (hs : StreamOf es gs) (hg : ∀ g ∈ gs, GoodGroup g) (hk : (gs.map KGroup.key).Nodup) :
    (runPlain .ignore cfg st t es).out = .ok ∧
    (∀ g ∈ gs, ∀ o, t.get g.key = some o → (runPlain .ignore cfg st t es).tgt.get g.key = some o) ∧
    (∀ g ∈ gs, t.get g.key = none → (runPlain .ignore cfg st t es).tgt.get g.key = some (snapshotObj cfg t g.1 g.2)) ∧
    (∀ d k, ¬ (d = t.cur ∧ k ∈ gs.map KGroup.key) → (runPlain .ignore cfg st t es).tgt.ks d k = t.ks d k) := by
  obtain ⟨h1, _, h3⟩ := runPlain_strip .ignore cfg es st t
  rw [h1, h3, hs]
  exact ignore_whole cfg st t gs hg hk

/-- keyed entries of a stream of good one-DB groups carry a non-negative DB -/
theorem stream_keyed_db (gs : List KGroup) (es : List Entry) (hs : StreamOf es gs) (hg : ∀ g ∈ gs, GoodGroup g ∧ g.oneDb) :
    ∀ e ∈ es, keyless e = false → ∃ d : Nat, e.db = Int.ofNat d := by
  intro e he hk'
  have : e ∈ flat gs := by rw [← hs]; exact List.mem_filter.mpr ⟨he, by simp [hk']⟩
  obtain ⟨g, hg', heg⟩ := List.mem_flatMap.mp this
  exact ⟨g.dbn, (hg g hg').2 e heg⟩

/-- the worker with DB selection over a real stream (AUX entries carry the DB of their place in the file and make the
    worker SELECT; functions carry −1): the keyspace and the outcome are those of the worker over the keyed entries -/
theorem whole_worker_plain_stream (pol : Policy) (cfg : Cfg) (c : Nat) (st : RState) (t : Target) (gs : List KGroup)
    (es : List Entry) (hs : StreamOf es gs)
    (hc : t.cur = c) (hg : ∀ g ∈ gs, GoodGroup g ∧ g.oneDb) (hk : (gs.map KGroup.cell).Nodup) :
    (∀ d k, (d, k) ∉ gs.map KGroup.cell →
      (workerTarget t (runWorker false pol cfg c st t es)).ks d k = t.ks d k) ∧
    ((∀ g ∈ gs, (plainEff pol cfg (t.inDb g.dbn) g).isStop = false) →
      lastOut (runWorker false pol cfg c st t es) = .ok ∧
      ∀ g ∈ gs, (workerTarget t (runWorker false pol cfg c st t es)).ks g.dbn g.key
        = (plainEff pol cfg (t.inDb g.dbn) g).result (t.ks g.dbn g.key)) ∧
    (∀ pre g post out, gs = pre ++ g :: post → (∀ p ∈ pre, (plainEff pol cfg (t.inDb p.dbn) p).isStop = false) →
      plainEff pol cfg (t.inDb g.dbn) g = .stop out →
      lastOut (runWorker false pol cfg c st t es) = out ∧
      (∀ p ∈ pre, (workerTarget t (runWorker false pol cfg c st t es)).ks p.dbn p.key
        = (plainEff pol cfg (t.inDb p.dbn) p).result (t.ks p.dbn p.key)) ∧
      (∀ d k, (d, k) ∉ pre.map KGroup.cell → (workerTarget t (runWorker false pol cfg c st t es)).ks d k = t.ks d k)) := by
  obtain ⟨_, b2, b3⟩ := runWorker_is_runWG_plain pol cfg es c st t
  obtain ⟨s1, _, s3⟩ := runWG_strip (runPlain pol cfg)
    (fun st t e h => by
      obtain ⟨a, b, c'⟩ := runPlain_keyless pol cfg st t e [] h
      exact ⟨by rw [a]; rfl, by rw [b]; rfl, by rw [c']; rfl⟩)
    (fun st t e => (runPlain_inv pol cfg [e] st t).1)
    es c c st t t hc hc rfl rfl rfl (stream_keyed_db gs es hs hg)
  rw [b2, b3, s1, s3, hs]
  exact (plain_runner pol cfg).wholeW gs c st t hc hg hk

/-- the BIDIRECTIONAL worker with DB selection over a real stream (keyless entries anywhere, AUX entries make the
    worker SELECT): keyspace and outcome are those of the worker over the keyed entries -/
theorem whole_worker_bisync_stream (pol : Policy) (cfg : Cfg) (c : Nat) (st : RState) (t : Target) (gs : List KGroup)
    (es : List Entry) (hs : StreamOf es gs)
    (hc : t.cur = c) (hg : ∀ g ∈ gs, GoodGroup g ∧ g.oneDb) (hk : (gs.map KGroup.cell).Nodup) :
    (∀ d k, (d, k) ∉ gs.map KGroup.cell →
      (workerTarget t (runWorker true pol cfg c st t es)).ks d k = t.ks d k) ∧
    ((∀ g ∈ gs, (bisyncEff pol cfg (t.inDb g.dbn) g).isStop = false) →
      lastOut (runWorker true pol cfg c st t es) = .ok ∧
      ∀ g ∈ gs, (workerTarget t (runWorker true pol cfg c st t es)).ks g.dbn g.key
        = (bisyncEff pol cfg (t.inDb g.dbn) g).result (t.ks g.dbn g.key)) ∧
    (∀ pre g post out, gs = pre ++ g :: post → (∀ p ∈ pre, (bisyncEff pol cfg (t.inDb p.dbn) p).isStop = false) →
      bisyncEff pol cfg (t.inDb g.dbn) g = .stop out →
      lastOut (runWorker true pol cfg c st t es) = out ∧
      (∀ p ∈ pre, (workerTarget t (runWorker true pol cfg c st t es)).ks p.dbn p.key
        = (bisyncEff pol cfg (t.inDb p.dbn) p).result (t.ks p.dbn p.key)) ∧
      (∀ d k, (d, k) ∉ pre.map KGroup.cell → (workerTarget t (runWorker true pol cfg c st t es)).ks d k = t.ks d k)) := by
  obtain ⟨_, b2, b3⟩ := runWorker_is_runWG_bisync pol cfg es c st t
  obtain ⟨s1, _, s3⟩ := runWG_strip (runBisync pol cfg)
    (fun st t e h => by
      obtain ⟨a, b, c'⟩ := runBisync_keyless pol cfg st t e [] h
      exact ⟨by rw [a]; rfl, by rw [b]; rfl, by rw [c']; rfl⟩)
    (fun st t e => (runBisync_inv pol cfg [e] st t).1)
    es c c st t t hc hc rfl rfl rfl (stream_keyed_db gs es hs hg)
  rw [b2, b3, s1, s3, hs]
  exact (bisync_runner pol cfg).wholeW gs c st t hc hg hk

/-! ## replaceHashTag: a good key group stays good under `retag` (so the whole-run theorems apply to what the worker
    really replays — with `Nodup` of the REWRITTEN keys) -/

theorem retag_value (b : Bool) (e0 : Entry) (rest : List Entry) (g : Group e0 rest) (v : Value e0 rest)
    (ha : ∀ c ∈ e0.cmds ++ rest.flatMap (·.cmds), c.args ≠ [] ∧ (c.name = sXGROUP → 2 ≤ c.args.length)) :
    Value (retag b e0) (rest.map (retag b)) := by
  cases b with
  | false =>
    have h0 : retag false = id := funext fun e => by simp [retag]
    rw [h0, List.map_id]; exact v
  | true =>
    have hr : ∀ e : Entry, e.otype = .data →
        retag true e = { e with key := stripTag e.key, cmds := e.cmds.map (rewriteCmd e.key (stripTag e.key)) } :=
      fun e h => by simp [retag, h]
    have key_of : ∀ c ∈ e0.cmds ++ rest.flatMap (·.cmds), cmdKey c = e0.key →
        cmdKey (rewriteCmd e0.key (stripTag e0.key) c) = stripTag e0.key :=
      fun c hc hk => rewriteCmd_cmdKey _ _ c hk (ha c hc).1 (ha c hc).2
    rw [hr e0 g.data]
    refine ⟨?_, ?_, ?_, ?_⟩
    · intro c hc
      obtain ⟨c', hc', rfl⟩ := List.mem_map.mp hc
      exact key_of c' (List.mem_append_left _ hc') (v.c0 c' hc')
    · exact fun h => v.ne (List.map_eq_nil_iff.mp h)
    · intro e he c hc
      obtain ⟨e', he', rfl⟩ := List.mem_map.mp he
      rw [hr e' (g.later e' he').data, (g.later e' he').key] at hc
      obtain ⟨c', hc', rfl⟩ := List.mem_map.mp hc
      exact key_of c' (List.mem_append_right _ (List.mem_flatMap.mpr ⟨e', he', hc'⟩)) (v.cr e' he' c' hc')
    · intro e he
      obtain ⟨e', he', rfl⟩ := List.mem_map.mp he
      rw [hr e' (g.later e' he').data]; exact v.exp e' he'

/-- the group as the worker replays it under replaceHashTag -/
def retagG (b : Bool) (g : KGroup) : KGroup := (retag b g.1, g.2.map (retag b))

theorem retagG_good (b : Bool) (g : KGroup) (h : GoodGroup g)
    (ha : ∀ c ∈ g.1.cmds ++ g.2.flatMap (·.cmds), c.args ≠ [] ∧ (c.name = sXGROUP → 2 ≤ c.args.length)) :
    GoodGroup (retagG b g) := ⟨retag_group b g.1 g.2 h.1, retag_value b g.1 g.2 h.1 h.2 ha⟩

/-- **replace under replaceHashTag, whole snapshot**: every REWRITTEN key ends with the (rewritten) snapshot value -/
theorem replace_whole_retag (b : Bool) (cfg : Cfg) (st : RState) (t : Target) (gs : List KGroup)
    (hg : ∀ g ∈ gs, GoodGroup g)
    (ha : ∀ g ∈ gs, ∀ c ∈ g.1.cmds ++ g.2.flatMap (·.cmds), c.args ≠ [] ∧ (c.name = sXGROUP → 2 ≤ c.args.length))
    (hk : ((gs.map (retagG b)).map KGroup.key).Nodup) :
    (runPlain .replace cfg st t (flat (gs.map (retagG b)))).out = .ok ∧
    (∀ g ∈ gs, (runPlain .replace cfg st t (flat (gs.map (retagG b)))).tgt.get (retagG b g).key
      = some (snapshotObj cfg t (retagG b g).1 (retagG b g).2)) := by
  obtain ⟨h1, h2, _⟩ := replace_whole cfg st t (gs.map (retagG b)) (by
    intro x hx; obtain ⟨g, hg', rfl⟩ := List.mem_map.mp hx; exact retagG_good b g (hg g hg') (ha g hg')) hk
  exact ⟨h1, fun g hg' => h2 _ (List.mem_map_of_mem (f := retagG b) hg')⟩

/-! ## non-vacuity: a snapshot of two keys — `h` in three chunks (held by the target), `i` small enough for RESTORE (absent) -/

def exG1 : KGroup := (exE0, [exE1, exE2])
def exG2 : KGroup := (exK, [])

theorem goodGroup_of_checks {g : KGroup}
    (h : g.1.otype = .data ∧ g.1.first = true ∧ (g.2 ≠ [] → g.1.splited = true) ∧ g.1.cmds ≠ [] ∧
      (∀ c ∈ g.1.cmds, cmdKey c = g.1.key) ∧
      ∀ e ∈ g.2, (e.key = g.1.key ∧ e.first = false ∧ e.otype = .data ∧ e.splited = true) ∧
        (∀ c ∈ e.cmds, cmdKey c = g.1.key) ∧ (e.expireAt = 0 ∨ e.expireAt = g.1.expireAt)) : GoodGroup g := by
  obtain ⟨hd, hf, hs, hne, hc, hl⟩ := h
  exact ⟨⟨hd, hf, fun e he => ⟨(hl e he).1.1, (hl e he).1.2.1, (hl e he).1.2.2.1, (hl e he).1.2.2.2⟩, hs⟩,
    ⟨hc, hne, fun e he => (hl e he).2.1, fun e he => (hl e he).2.2⟩⟩

theorem forall_mem_pair {α : Type} {P : α → Prop} {a b : α} (ha : P a) (hb : P b) : ∀ x ∈ [a, b], P x :=
  List.forall_mem_cons.mpr ⟨ha, List.forall_mem_cons.mpr ⟨hb, List.forall_mem_nil _⟩⟩

theorem exG1_good : GoodGroup exG1 := goodGroup_of_checks (by decide)

theorem exG2_good : GoodGroup exG2 := goodGroup_of_checks (by decide)

theorem ex_good : ∀ g ∈ [exG1, exG2], GoodGroup g := forall_mem_pair exG1_good exG2_good

theorem ex_nodup : ([exG1, exG2].map KGroup.key).Nodup := by decide

theorem ex_good2 : ∀ g ∈ [exG2] ++ exG1 :: [], GoodGroup g := forall_mem_pair exG2_good exG1_good

theorem ex_good'' : ∀ g ∈ [exG1] ++ exG2 :: [], GoodGroup g := ex_good

example : flat [exG1, exG2] = [exE0, exE1, exE2, exK] := rfl
-- the theorems, instantiated (their hypotheses are satisfiable) …
example : (runPlain .ignore exCfg none exT (flat [exG1, exG2])).tgt.get [104] = some { val := .old 0, exp := 777 } :=
  (ignore_whole exCfg none exT [exG1, exG2] ex_good ex_nodup).2.1 exG1 (List.mem_cons_self ..) _ rfl
example : (runPlain .ignore exCfg none exT (flat [exG1, exG2])).tgt.get [105] = some (snapshotObj exCfg exT exK []) :=
  (ignore_whole exCfg none exT [exG1, exG2] ex_good ex_nodup).2.2.1 exG2 (by simp) rfl
example : (runPlain .replace exCfg (some [9]) exT (flat [exG1, exG2])).tgt.get [104]
    = some { val := .native [exCmd 49 49, exCmd 50 50, exCmd 51 51], exp := 5000 } :=
  (replace_whole exCfg (some [9]) exT [exG1, exG2] ex_good ex_nodup).2.1 exG1 (List.mem_cons_self ..)
-- `error`: the snapshot lists the absent key first, then the key the target holds
example : (runPlain .error exCfg none exT (flat ([exG2] ++ exG1 :: []))).out = .errExists :=
  (error_whole_stop exCfg none exT [exG2] [] exG1 _ ex_good2 (by decide) (by decide) rfl).1
example : (runPlain .error exCfg none exT (flat ([exG2] ++ exG1 :: []))).tgt.get [105] = some (snapshotObj exCfg exT exK []) :=
  (error_whole_stop exCfg none exT [exG2] [] exG1 _ ex_good2 (by decide) (by decide) rfl).2.1 exG2 (List.mem_cons_self ..)
-- … and checked by evaluation, cut in the MIDDLE of the three chunks of `h` and resumed
example : ((runPlain .ignore exCfg none exT [exE0, exE1]).resume fun st' t' => runPlain .ignore exCfg st' t' [exE2, exK]).reqs
    = [Req.exists [104], Req.restore [105] 4000 [4, 3] [] false] := by decide
example : (runPlain .ignore exCfg none exT [exE0, exE1]).st = some [104] := by decide
example : ((runBisync .replace exCfg none exT [exE0]).resume fun st' t' => runBisync .replace exCfg st' t' [exE1, exE2, exK]).tgt.get [104]
    = some { val := .native [exCmd 49 49, exCmd 50 50, exCmd 51 51], exp := 5000 } := by decide
example : ((runBisync .replace exCfg none exT [exE0]).resume fun st' t' => runBisync .replace exCfg st' t' [exE1, exE2, exK]).reqs
    = (runBisync .replace exCfg none exT [exE0, exE1, exE2, exK]).reqs := by decide
-- bidirectional, the target cannot load the payload of `i`: the run stops there, `h` (before it) is replaced, `i` stays absent
def exTBadK : Target := { exT with bad := fun k => k == [105] }
example : (runBisync .replace exCfg none exTBadK (flat ([exG1] ++ exG2 :: []))).out = .errBad :=
  (bad_data_whole_bisync .replace exCfg none exTBadK [exG1] [] exG2 ex_good'' (by decide) (by decide) (by decide) (by decide) (Or.inr rfl)).1
example : (runBisync .replace exCfg none exTBadK [exE0, exE1, exE2, exK]).tgt.get [105] = none := by decide

def exTE : Target := { exT with ks := fun _ _ => none }
example : (runPlain .error exCfg none exTE (flat [exG1, exG2])).out = .ok :=
  (error_whole_clean exCfg none exTE [exG1, exG2] ex_good ex_nodup (by intro g _; rfl)).1
example : (runBisync .replace exCfg none exT (flat [exG1, exG2])).tgt.get [105] = some (snapshotObj exCfg exT exK []) :=
  (replace_whole_bisync exCfg none exT [exG1, exG2] ex_good ex_nodup (fun _ _ _ => rfl)).2.1 exG2 (by simp)
example : (runBisync .ignore exCfg none exT (flat [exG1, exG2])).tgt.get [104] = some { val := .old 0, exp := 777 } :=
  (ignore_whole_bisync exCfg none exT [exG1, exG2] ex_good ex_nodup (fun _ _ _ _ => rfl)).2.1 exG1 (List.mem_cons_self ..) _ rfl
example : (runBisync .error exCfg none exTE (flat [exG1, exG2])).out = .ok :=
  (error_whole_clean_bisync exCfg none exTE [exG1, exG2] ex_good ex_nodup (by intro g _; rfl) (fun _ _ _ => rfl)).1
example : (runBisync .error exCfg none exT (flat ([exG2] ++ exG1 :: []))).out = .errExists :=
  (error_whole_stop_bisync exCfg none exT [exG2] [] exG1 _ ex_good2 (by decide) (by decide)
    (fun _ _ _ => rfl) rfl).1
-- the same loop, cut after two of the three chunks of `h` and continued
example : ((runPlain .replace exCfg none exT [exE0, exE1]).resume fun st' t' => runPlain .replace exCfg st' t' [exE2, exK]).out = .ok :=
  (replace_whole_resumed exCfg none exT [exG1, exG2] [exE0, exE1] [exE2, exK] rfl ex_good ex_nodup).1
example : ((runPlain .ignore exCfg none exT [exE0]).resume fun st' t' => runPlain .ignore exCfg st' t' [exE1, exE2, exK]).out = .ok :=
  (ignore_whole_resumed exCfg none exT [exG1, exG2] [exE0] [exE1, exE2, exK] rfl ex_good ex_nodup).1
example : ((runPlain .error exCfg none exT [exK, exE0]).resume fun st' t' => runPlain .error exCfg st' t' [exE1, exE2]).out = .errExists :=
  (error_whole_stop_resumed exCfg none exT [exG2] [] exG1 _ [exK, exE0] [exE1, exE2] rfl ex_good2 (by decide)
    (by decide) rfl).1
example : ∀ d k, ¬ (d = exT.cur ∧ k ∈ [exG1, exG2].map KGroup.key) →
    ((runBisync .replace exCfg none exT [exE0]).resume fun st' t' => runBisync .replace exCfg st' t' [exE1, exE2, exK]).tgt.ks d k
      = exT.ks d k :=
  (whole_bisync_resumed .replace exCfg none exT [exG1, exG2] [exE0] [exE1, exE2, exK] rfl ex_good ex_nodup).1
-- keyless entries in the stream: an AUX field before, between the chunks of `h`, and a function library behind
def exAux : Entry := { exE0 with key := [114], otype := .aux, first := true, splited := false, cmds := [] }
def exFn : Entry := { exE0 with db := -1, key := [], otype := .func, splited := false, cmds := [{ name := [102], args := [[120]] }] }
theorem ex_stream : StreamOf [exAux, exE0, exAux, exE1, exE2, exFn, exK] [exG1, exG2] := by unfold StreamOf; decide
example : (runPlain .replace exCfg none exT [exAux, exE0, exAux, exE1, exE2, exFn, exK]).tgt.get [104]
    = some (snapshotObj exCfg exT exE0 [exE1, exE2]) :=
  (replace_whole_stream exCfg none exT [exG1, exG2] _ ex_stream ex_good ex_nodup).2.1 exG1 (List.mem_cons_self ..)
example : (runPlain .ignore exCfg none exT [exAux, exE0, exAux, exE1, exE2, exFn, exK]).out = .ok :=
  (ignore_whole_stream exCfg none exT [exG1, exG2] _ ex_stream ex_good ex_nodup).1
example : ∀ d k, ¬ (d = exT.cur ∧ k ∈ [exG1, exG2].map KGroup.key) →
    (runBisync .error exCfg none exT [exAux, exE0, exAux, exE1, exE2, exFn, exK]).tgt.ks d k = exT.ks d k :=
  (whole_bisync_stream .error exCfg none exT [exG1, exG2] _ ex_stream ex_good ex_nodup).1
example : (runPlain .replace exCfg none exT [exAux, exE0, exAux, exE1, exE2, exFn, exK]).reqs.contains (Req.raw { name := [102], args := [[120]] }) = true := by decide
-- replaceHashTag: the group of `{h}` is good after `retag`, on the key `h`
def exTagE : Entry := { exR with key := [123, 104, 125], cmds := [{ name := [104, 115, 101, 116], args := [[123, 104, 125], [102], [118]] }] }
def exTagG : KGroup := (exTagE, [])
theorem exTagG_good : GoodGroup exTagG := goodGroup_of_checks (by decide)
theorem exTagG_args : ∀ c ∈ exTagG.1.cmds ++ exTagG.2.flatMap (·.cmds), c.args ≠ [] ∧ (c.name = sXGROUP → 2 ≤ c.args.length) := by
  decide
example : GoodGroup (retagG true exTagG) := retagG_good true exTagG exTagG_good exTagG_args
example : Group (retag true exTagE) ([].map (retag true)) := retag_group true exTagE [] exTagG_good.1
example : (retagG true exTagG).key = [104] := by decide
example : (runPlain .replace exCfg none exT (flat ([exTagG].map (retagG true)))).tgt.get [104]
    = some (snapshotObj exCfg exT (retag true exTagE) []) :=
  (replace_whole_retag true exCfg none exT [exTagG] (List.forall_mem_singleton.mpr exTagG_good)
    (List.forall_mem_singleton.mpr exTagG_args) (by decide)).2 exTagG (List.mem_cons_self ..)
example : cmdKey (rewriteCmd [123, 104, 125] [104] { name := sXGROUP, args := [[67], [123, 104, 125], [103]] }) = [104] :=
  rewriteCmd_cmdKey _ _ _ (by decide) (by simp) (by intro _; decide)

-- several DBs: the key NAME `h` also in DB 1 (absent there); the connection starts in DB 0
def exR1 : Entry := { exR with db := 1 }
def exG3 : KGroup := (exR1, [])
theorem exG3_good : GoodGroup exG3 := goodGroup_of_checks (by decide)
theorem ex_goodW : ∀ g ∈ [exG1, exG3], GoodGroup g ∧ g.oneDb :=
  forall_mem_pair ⟨exG1_good, by unfold KGroup.oneDb; decide⟩ ⟨exG3_good, by unfold KGroup.oneDb; decide⟩
example : ([exG1, exG3].map KGroup.cell).Nodup := by decide
example : (workerTarget exT (runWorker false .ignore exCfg 0 none exT (flat [exG1, exG3]))).ks 0 [104]
    = some { val := .old 0, exp := 777 } :=
  (ignore_whole_worker exCfg 0 none exT [exG1, exG3] rfl ex_goodW (by decide)).2.1 exG1 (List.mem_cons_self ..) _ rfl
example : (workerTarget exT (runWorker false .ignore exCfg 0 none exT (flat [exG1, exG3]))).ks 1 [104]
    = some (snapshotObj exCfg exT exR1 []) :=
  (ignore_whole_worker exCfg 0 none exT [exG1, exG3] rfl ex_goodW (by decide)).2.2.1 exG3 (by simp) rfl
example : (runWorker false .ignore exCfg 0 none exT [exE0, exE1, exE2, exR1]).flatMap (·.1)
    = [Req.exists [104], Req.select 1, Req.restore [104] 4000 [4, 3] [] false] := by decide

example : lastOut (runWorker false .replace exCfg 0 none exT (flat [exG1, exG3])) = .ok :=
  (replace_whole_worker exCfg 0 none exT [exG1, exG3] rfl ex_goodW (by decide)).1
theorem ex_goodW' : ∀ g ∈ [exG3] ++ exG1 :: [], GoodGroup g ∧ g.oneDb :=
  forall_mem_pair (ex_goodW exG3 (by simp)) (ex_goodW exG1 (List.mem_cons_self ..))
example : lastOut (runWorker false .error exCfg 0 none exT (flat ([exG3] ++ exG1 :: []))) = .errExists :=
  (error_whole_stop_worker exCfg 0 none exT [exG3] [] exG1 _ rfl ex_goodW' (by decide)
    (by decide) rfl).1
example : ∀ d k, (d, k) ∉ [exG1, exG3].map KGroup.cell →
    (workerTarget exT (runWorker true .ignore exCfg 0 none exT (flat [exG1, exG3]))).ks d k = exT.ks d k :=
  (whole_worker_bisync .ignore exCfg 0 none exT [exG1, exG3] rfl ex_goodW (by decide)).1
-- the worker over a stream with AUX entries (DB 0, then DB 1) and a function (DB −1)
def exAux1 : Entry := { exAux with db := 1 }
theorem ex_streamW : StreamOf [exAux, exE0, exE1, exE2, exFn, exAux1, exR1] [exG1, exG3] := by unfold StreamOf; decide
example : (workerTarget exT (runWorker false .replace exCfg 0 none exT [exAux, exE0, exE1, exE2, exFn, exAux1, exR1])).ks 1 [104]
    = some (snapshotObj exCfg exT exR1 []) := by
  have h := (whole_worker_plain_stream .replace exCfg 0 none exT [exG1, exG3] _ ex_streamW rfl ex_goodW (by decide)).2.1
    (fun g _ => rfl)
  exact h.2 exG3 (by simp)
-- the same stream through the bidirectional worker
example : (workerTarget exT (runWorker true .replace exCfg 0 none exT [exAux, exE0, exE1, exE2, exFn, exAux1, exR1])).ks 1 [104]
    = some (snapshotObj exCfg exT exR1 []) := by
  have h := (whole_worker_bisync_stream .replace exCfg 0 none exT [exG1, exG3] _ ex_streamW rfl ex_goodW (by decide)).2.1
    (forall_mem_pair (by decide) (by decide))
  exact h.2 exG3 (by simp)

end GunYu.Props.C20
