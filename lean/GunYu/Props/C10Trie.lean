/-
  C10 — pkg/filter/trie.go (NewTrie / Insert / IsPrefixMatch / Search) and the decision
  functions RedisKeyFilter.FilterCmd / FilterKey of filter.go, TRANSLATED from /repo's Go
  source on every run (lean/GunYu/Gen/FnTrie.lean, harness/extract/gofn_c10.go: the heap of
  `map[byte]*TrieNode` nodes as a tree, `*TrieNode` variables as cursors), refine the hand
  model `Filter.Trie` of Model/Filter.lean that the property theorems are about.

  The tie is a REFINEMENT: `TRep n m` relates a generated node to a model trie (same end
  flag, children defined on the same bytes and related). `NewTrie` is related to `Trie.empty`,
  `Insert` preserves the relation (and never panics), `Search` / `IsPrefixMatch` of related
  tries give the same answer - for EVERY word, every trie reachable by any sequence of
  inserts in ANY order (a word that is a proper prefix of an earlier or later one included):
  a trie holds both the exact command lists (`Search`) and the prefix lists (`IsPrefixMatch`),
  and both readings are proved about the one generated `Insert`.
  Side condition, that of the code: words shorter than 2^63-1 bytes.
-/
import GunYu.Model.Filter
import GunYu.Proofs.FilterTrie
import GunYu.Props.C11Gen
import GunYu.Gen.FnTrie
import GunYu.Gen.FnKeySpec

namespace GunYu.Props.C10
open GunYu GunYu.Filter GunYu.Gen
open GunYu.Props.C11 (index_nat lt_len_iff addI_nat drop_cons loop_header)

/-- a fresh `&TrieNode{children: make(...), isEnd: false}` -/
def gFresh : Fn.TrieNode := Fn.TrieNode.mk (fun _ => none) false

theorem children_setChild (n : Fn.TrieNode) (k : UInt8) (c : Fn.TrieNode) (b : UInt8) :
    (n.setChild k c).children b = if b = k then some c else n.children b := by
  cases n; rfl

theorem isEnd_setChild (n : Fn.TrieNode) (k : UInt8) (c : Fn.TrieNode) :
    (n.setChild k c).isEnd = n.isEnd := by
  cases n; rfl

theorem setChild_setChild (n : Fn.TrieNode) (k : UInt8) (c c' : Fn.TrieNode) :
    (n.setChild k c).setChild k c' = n.setChild k c' := by
  cases n with
  | mk ch e =>
    simp only [Fn.TrieNode.setChild]
    congr 1
    funext b
    by_cases h : b = k <;> simp [h]

theorem nodeAt_append (r : Fn.TrieNode) (p q : List UInt8) :
    r.nodeAt (p ++ q) = (r.nodeAt p).bind (fun n => n.nodeAt q) := by
  induction p generalizing r with
  | nil => simp [Fn.TrieNode.nodeAt]
  | cons b p ih =>
    simp only [List.cons_append, Fn.TrieNode.nodeAt]
    cases r.children b with
    | none => rfl
    | some c => exact ih c

theorem childCur_of (r n : Fn.TrieNode) (p : List UInt8) (k : UInt8) (h : r.nodeAt p = some n) :
    Fn.Trie.childCur { root := some r } p k =
      some (match n.children k with | none => none | some _ => some (p ++ [k])) := by
  simp only [Fn.Trie.childCur, Fn.Trie.nodeAt, h, bind, pure, Option.bind_some]
  cases n.children k <;> rfl

theorem gen_search_loop (t : Fn.TrieNode) (word : List UInt8) (hw : word.length < 9223372036854775807) :
    ∀ (fuel i : Nat) (p : List UInt8) (n : Fn.TrieNode), i ≤ word.length → word.length - i < fuel →
      t.nodeAt p = some n →
      Fn.search_loop1 { root := some t } word fuel (some p) (i : Int) =
        some (match n.nodeAt (word.drop i) with
              | none => GoSem.Ctl.ret false
              | some _ => GoSem.Ctl.next (some (p ++ word.drop i), (word.length : Int))) := by
  intro fuel
  induction fuel with
  | zero => intro i p n _ hf; omega
  | succ fuel ih =>
    intro i p n hi hf hp
    rw [Fn.search_loop1, loop_header]
    cases hd : word.drop i with
    | nil =>
      have h3 : i = word.length := by have := List.drop_eq_nil_iff.mp hd; omega
      simp [Fn.TrieNode.nodeAt, pure, h3]
    | cons b rest =>
      obtain ⟨hlt, _, hr⟩ := drop_cons hd
      simp only [bind, childCur_of t n p b hp, Option.bind_some, Fn.TrieNode.nodeAt]
      cases hc : n.children b with
      | none => simp [pure]
      | some c =>
        simp only [Option.isNone_some, Bool.false_eq_true, ↓reduceIte]
        have hp' : t.nodeAt (p ++ [b]) = some c := by
          rw [nodeAt_append, hp]; simp [Fn.TrieNode.nodeAt, hc]
        rw [addI_nat i (by omega), ih (i + 1) (p ++ [b]) c (by omega) (by omega) hp', hr]
        simp [List.append_assoc]

/-- the end flag of the node the word leads to (false when it leaves the tree) -/
def gSearch (t : Fn.TrieNode) (w : List UInt8) : Bool :=
  match t.nodeAt w with
  | none => false
  | some n => n.isEnd

theorem gen_search_eq (t : Fn.TrieNode) (word : List UInt8) (hw : word.length < 9223372036854775807) :
    Fn.search { root := some t } word = some (gSearch t word) := by
  unfold Fn.search
  have h := gen_search_loop t word hw ((GoSem.len word).toNat + 1) 0 [] t (by omega)
    (by unfold GoSem.len; omega) rfl
  simp only [Int.ofNat_zero, List.drop_zero, List.nil_append] at h
  simp only [Fn.Trie.rootCur, bind, Option.bind]
  rw [h]
  unfold gSearch
  cases hn : t.nodeAt word with
  | none => rfl
  | some n =>
    simp only [Fn.Trie.nodeAt, hn]
    cases n.isEnd <;> rfl

/-- `IsPrefixMatch` read off the generated tree -/
def gPrefix : Fn.TrieNode → List UInt8 → Bool
  | _, [] => false
  | n, b :: w =>
    match n.children b with
    | none => false
    | some c => if c.isEnd then true else gPrefix c w

/-- the outcome of the loop of `IsPrefixMatch` from a node on the rest of the word -/
def pmRes (len : Int) : Fn.TrieNode → List UInt8 → List UInt8 → GoSem.Ctl (Option (List UInt8) × Int) Bool
  | _, p, [] => GoSem.Ctl.next (some p, len)
  | n, p, b :: w =>
    match n.children b with
    | none => GoSem.Ctl.ret false
    | some c => if c.isEnd then GoSem.Ctl.ret true else pmRes len c (p ++ [b]) w

theorem pmRes_gPrefix (len : Int) (n : Fn.TrieNode) (p w : List UInt8) :
    (match pmRes len n p w with
     | GoSem.Ctl.ret r => r
     | GoSem.Ctl.next _ => false) = gPrefix n w := by
  induction w generalizing n p with
  | nil => rfl
  | cons b w ih =>
    simp only [pmRes, gPrefix]
    cases n.children b with
    | none => rfl
    | some c =>
      by_cases he : c.isEnd = true
      · simp [he]
      · simp only [he, Bool.false_eq_true, ↓reduceIte]
        exact ih c (p ++ [b])

theorem gen_prefix_loop (t : Fn.TrieNode) (word : List UInt8) (hw : word.length < 9223372036854775807) :
    ∀ (fuel i : Nat) (p : List UInt8) (n : Fn.TrieNode), i ≤ word.length → word.length - i < fuel →
      t.nodeAt p = some n →
      Fn.isPrefixMatch_loop1 { root := some t } word fuel (some p) (i : Int) =
        some (pmRes (word.length : Int) n p (word.drop i)) := by
  intro fuel
  induction fuel with
  | zero => intro i p n _ hf; omega
  | succ fuel ih =>
    intro i p n hi hf hp
    rw [Fn.isPrefixMatch_loop1, loop_header]
    cases hd : word.drop i with
    | nil =>
      have h3 : i = word.length := by have := List.drop_eq_nil_iff.mp hd; omega
      simp [pmRes, pure, h3]
    | cons b rest =>
      obtain ⟨hlt, _, hr⟩ := drop_cons hd
      simp only [bind, childCur_of t n p b hp, Option.bind_some, pmRes]
      cases hc : n.children b with
      | none => simp [pure]
      | some c =>
        have hp' : t.nodeAt (p ++ [b]) = some c := by
          rw [nodeAt_append, hp]; simp [Fn.TrieNode.nodeAt, hc]
        simp only [Option.isNone_some, Bool.false_eq_true, ↓reduceIte, Fn.Trie.nodeAt, hp', Option.bind_some]
        by_cases he : c.isEnd = true
        · simp [he, pure]
        · simp only [he, Bool.false_eq_true, ↓reduceIte]
          rw [addI_nat i (by omega), hr.symm]
          exact ih (i + 1) (p ++ [b]) c (by omega) (by omega) hp'

theorem gen_isPrefixMatch_eq (t : Fn.TrieNode) (word : List UInt8) (hw : word.length < 9223372036854775807) :
    Fn.isPrefixMatch { root := some t } word = some (gPrefix t word) := by
  unfold Fn.isPrefixMatch
  have h := gen_prefix_loop t word hw ((GoSem.len word).toNat + 1) 0 [] t (by omega)
    (by unfold GoSem.len; omega) rfl
  simp only [Int.ofNat_zero, List.drop_zero] at h
  simp only [Fn.Trie.rootCur, bind, Option.bind]
  rw [h, ← pmRes_gPrefix (word.length : Int) t [] word]
  cases pmRes (word.length : Int) t [] word <;> rfl

/-- the nodes `Insert` links in on the way down (end flag not yet set) -/
def gExt : Fn.TrieNode → List UInt8 → Fn.TrieNode
  | n, [] => n
  | n, b :: w => n.setChild b (gExt ((n.children b).getD gFresh) w)

/-- `Insert` read off the generated tree -/
def gIns : Fn.TrieNode → List UInt8 → Fn.TrieNode
  | n, [] => n.set_isEnd true
  | n, b :: w => n.setChild b (gIns ((n.children b).getD gFresh) w)

theorem setChild_self (r c : Fn.TrieNode) (b : UInt8) (h : r.children b = some c) : r.setChild b c = r := by
  cases r with
  | mk ch e =>
    simp only [Fn.TrieNode.setChild]
    congr 1
    funext k
    by_cases hk : k = b
    · subst hk; simp only [↓reduceIte]; exact h.symm
    · simp [hk]

abbrev ILoopSt := Fn.Trie × Option (List UInt8) × Int

/-- an outcome of the insert loop run on the subtree under key `b` of `r`, seen from `r` -/
def liftCtl (r : Fn.TrieNode) (b : UInt8) : GoSem.Ctl ILoopSt Fn.Trie → GoSem.Ctl ILoopSt Fn.Trie
  | .next (t, node, j) => .next ({ root := t.root.map (r.setChild b) }, node.map (b :: ·), j)
  | .ret t => .ret { root := t.root.map (r.setChild b) }

theorem liftCtl_setChild (r c : Fn.TrieNode) (b : UInt8) : liftCtl (r.setChild b c) b = liftCtl r b := by
  have hfe : (r.setChild b c).setChild b = r.setChild b := by
    funext x; exact setChild_setChild r b c x
  funext x
  cases x with
  | next s => obtain ⟨t, node, j⟩ := s; simp [liftCtl, hfe]
  | ret t => simp [liftCtl, hfe]

theorem childCur_cons (r c : Fn.TrieNode) (b : UInt8) (q : List UInt8) (k : UInt8) (h : r.children b = some c) :
    Fn.Trie.childCur { root := some r } (b :: q) k =
      (Fn.Trie.childCur { root := some c } q k).map (Option.map (b :: ·)) := by
  simp only [Fn.Trie.childCur, Fn.Trie.nodeAt, Fn.TrieNode.nodeAt, h, bind, pure]
  cases c.nodeAt q with
  | none => rfl
  | some n =>
    simp only [Option.bind_some, Option.map_some]
    cases n.children k <;> rfl

theorem storeFresh_cons (r c : Fn.TrieNode) (b : UInt8) (q : List UInt8) (k : UInt8) (f : Fn.TrieNode)
    (h : r.children b = some c) :
    Fn.Trie.storeFresh { root := some r } (b :: q) k f =
      (Fn.Trie.storeFresh { root := some c } q k f).map (fun t' => { root := t'.root.map (r.setChild b) }) := by
  simp only [Fn.Trie.storeFresh, Fn.Trie.nodeAt, Fn.TrieNode.nodeAt, h, bind]
  cases c.nodeAt q with
  | none => rfl
  | some n =>
    simp only [Option.bind_some]
    cases n.children k with
    | some _ => rfl
    | none =>
      simp only [Fn.Trie.modifyAt, Fn.TrieNode.modifyAt, h]
      cases Fn.TrieNode.modifyAt (fun n => n.setChild k f) c q <;> rfl

theorem insert_frame (word : List UInt8) :
    ∀ (fuel : Nat) (r c : Fn.TrieNode) (b : UInt8) (node : Option (List UInt8)) (i : Int),
      r.children b = some c →
      Fn.insert_loop1 word fuel { root := some r } (node.map (b :: ·)) i =
        (Fn.insert_loop1 word fuel { root := some c } node i).map (liftCtl r b) := by
  intro fuel
  induction fuel with
  | zero => intro r c b node i _; rfl
  | succ fuel ih =>
    intro r c b node i h
    unfold Fn.insert_loop1
    by_cases hlt : i < GoSem.len word
    · simp only [hlt, ↓reduceIte, bind]
      cases GoSem.index word i with
      | none => rfl
      | some ch =>
        simp only [Option.bind_some]
        cases node with
        | none => rfl
        | some q =>
          simp only [Option.map_some, Option.bind_some, childCur_cons r c b q ch h]
          cases hcc : Fn.Trie.childCur { root := some c } q ch with
          | none => rfl
          | some t3 =>
            simp only [Option.map_some, Option.bind_some]
            cases t3 with
            | some q' =>
              simp only [Option.map_some, Option.isNone_some, Bool.false_eq_true, ↓reduceIte]
              exact ih r c b (some q') _ h
            | none =>
              simp only [Option.map_none, Option.isNone_none, ↓reduceIte, storeFresh_cons r c b q ch _ h]
              cases hsf : Fn.Trie.storeFresh { root := some c } q ch (Fn.TrieNode.mk (fun _ => none) false) with
              | none => rfl
              | some t1 =>
                simp only [Option.map_some, Option.bind_some]
                cases t1 with
                | mk root1 =>
                  cases root1 with
                  | none =>
                    simp [Fn.Trie.childCur, Fn.Trie.nodeAt, bind]
                  | some c1 =>
                    simp only [Option.map_some]
                    have h1 : (r.setChild b c1).children b = some c1 := by
                      rw [children_setChild]; simp
                    rw [childCur_cons (r.setChild b c1) c1 b q ch h1]
                    cases Fn.Trie.childCur { root := some c1 } q ch with
                    | none => rfl
                    | some t6 =>
                      simp only [Option.map_some, Option.bind_some]
                      rw [ih (r.setChild b c1) c1 b t6 _ h1, liftCtl_setChild]
    · simp only [hlt, ↓reduceIte, pure, Option.map_some, liftCtl, setChild_self r c b h]

theorem gen_insert_loop (word : List UInt8) (hw : word.length < 9223372036854775807) :
    ∀ (fuel i : Nat) (n : Fn.TrieNode), i ≤ word.length → word.length - i < fuel →
      Fn.insert_loop1 word fuel { root := some n } (some []) (i : Int) =
        some (GoSem.Ctl.next ({ root := some (gExt n (word.drop i)) }, some (word.drop i), (word.length : Int))) := by
  intro fuel
  induction fuel with
  | zero => intro i n _ hf; omega
  | succ fuel ih =>
    intro i n hi hf
    by_cases hlt : i < word.length
    · have h1 : ((i : Int) < GoSem.len word) := (lt_len_iff word i).2 hlt
      unfold Fn.insert_loop1
      simp only [h1, ↓reduceIte, index_nat word i hlt, Option.bind_some, bind,
        childCur_of n n [] word[i] rfl, List.nil_append]
      rw [List.drop_eq_getElem_cons hlt, addI_nat i (by omega)]
      simp only [gExt]
      cases hc : n.children word[i] with
      | some c =>
        simp only [Option.isNone_some, Bool.false_eq_true, ↓reduceIte, Option.getD_some]
        have hf := insert_frame word fuel n c word[i] (some []) ((i + 1 : Nat) : Int) hc
        simp only [Option.map_some] at hf
        rw [hf, ih (i + 1) c (by omega) (by omega)]
        simp [liftCtl]
      | none =>
        simp only [Option.isNone_none, ↓reduceIte, Option.getD_none]
        have hs : Fn.Trie.storeFresh { root := some n } [] word[i] (Fn.TrieNode.mk (fun _ => none) false) =
            some { root := some (n.setChild word[i] gFresh) } := by
          simp [Fn.Trie.storeFresh, Fn.Trie.nodeAt, Fn.TrieNode.nodeAt, hc, Fn.Trie.modifyAt, Fn.TrieNode.modifyAt, bind, gFresh]
        have h2 : (n.setChild word[i] gFresh).children word[i] = some gFresh := by
          rw [children_setChild]; simp
        rw [hs]
        simp only [Option.bind_some, childCur_of (n.setChild word[i] gFresh) _ [] word[i] rfl, h2, List.nil_append]
        have hf := insert_frame word fuel (n.setChild word[i] gFresh) gFresh word[i] (some []) ((i + 1 : Nat) : Int) h2
        simp only [Option.map_some] at hf
        rw [hf, ih (i + 1) gFresh (by omega) (by omega)]
        simp [liftCtl, setChild_setChild]
    · have h1 : ¬ ((i : Int) < GoSem.len word) := fun h => hlt ((lt_len_iff word i).1 h)
      have h2 : word.drop i = [] := List.drop_eq_nil_of_le (by omega)
      have h3 : i = word.length := by omega
      unfold Fn.insert_loop1
      rw [if_neg h1, h2]
      simp [gExt, pure, h3]

theorem modifyAt_gExt (n : Fn.TrieNode) (w : List UInt8) :
    (gExt n w).modifyAt (fun n => n.set_isEnd true) w = some (gIns n w) := by
  induction w generalizing n with
  | nil => rfl
  | cons b w ih =>
    simp only [gExt, gIns, Fn.TrieNode.modifyAt, children_setChild, ↓reduceIte, ih, setChild_setChild]

theorem gen_insert_eq (n : Fn.TrieNode) (word : List UInt8) (hw : word.length < 9223372036854775807) :
    Fn.insert { root := some n } word = some { root := some (gIns n word) } := by
  unfold Fn.insert
  have h := gen_insert_loop word hw ((GoSem.len word).toNat + 1) 0 n (by omega) (by unfold GoSem.len; omega)
  simp only [Int.ofNat_zero, List.drop_zero] at h
  simp only [Fn.Trie.rootCur, bind, Option.bind]
  rw [h]
  simp [Fn.Trie.modifyAt, modifyAt_gExt]

/-- a generated node denotes a model trie: same end flag, children on the same bytes, related -/
inductive TRep : Fn.TrieNode → Filter.Trie → Prop
  | mk (ch : UInt8 → Option Fn.TrieNode) (ch' : UInt8 → Option Trie) (e : Bool)
      (hd : ∀ b, (ch b).isSome = (ch' b).isSome)
      (hs : ∀ b c c', ch b = some c → ch' b = some c' → TRep c c') :
      TRep (Fn.TrieNode.mk ch e) (Trie.node e ch')

theorem TRep_fresh : TRep gFresh Trie.empty :=
  TRep.mk _ _ false (fun _ => rfl) (fun _ _ _ h _ => by cases h)

theorem TRep_isEnd {n : Fn.TrieNode} {m : Trie} (h : TRep n m) : n.isEnd = m.isEnd := by
  cases h; rfl

theorem TRep_child {ch : UInt8 → Option Fn.TrieNode} {ch' : UInt8 → Option Trie}
    (hd : ∀ b, (ch b).isSome = (ch' b).isSome)
    (hs : ∀ b c c', ch b = some c → ch' b = some c' → TRep c c') (b : UInt8) :
    (ch b = none ∧ ch' b = none) ∨ ∃ c c', ch b = some c ∧ ch' b = some c' ∧ TRep c c' := by
  have h := hd b
  cases h1 : ch b <;> cases h2 : ch' b <;> rw [h1, h2] at h
  · exact Or.inl ⟨rfl, rfl⟩
  · cases h
  · cases h
  · exact Or.inr ⟨_, _, rfl, rfl, hs b _ _ h1 h2⟩

theorem TRep_getD {ch : UInt8 → Option Fn.TrieNode} {ch' : UInt8 → Option Trie}
    (hd : ∀ b, (ch b).isSome = (ch' b).isSome)
    (hs : ∀ b c c', ch b = some c → ch' b = some c' → TRep c c') (b : UInt8) :
    TRep ((ch b).getD gFresh) ((ch' b).getD Trie.empty) := by
  rcases TRep_child hd hs b with ⟨h1, h2⟩ | ⟨c, c', h1, h2, hr⟩ <;> rw [h1, h2]
  · exact TRep_fresh
  · exact hr

theorem gSearch_eq_model {n : Fn.TrieNode} {m : Trie} (h : TRep n m) (w : Bytes) :
    gSearch n w = m.search w := by
  induction w generalizing n m with
  | nil => cases h; rfl
  | cons b w ih =>
    cases h with
    | mk ch ch' e hd hs =>
      simp only [gSearch, Fn.TrieNode.nodeAt, Fn.TrieNode.children, Trie.search]
      rcases TRep_child hd hs b with ⟨h1, h2⟩ | ⟨c, c', h1, h2, hr⟩ <;> rw [h1, h2]
      exact ih hr

theorem gPrefix_eq_model {n : Fn.TrieNode} {m : Trie} (h : TRep n m) (w : Bytes) :
    gPrefix n w = m.isPrefixMatch w := by
  induction w generalizing n m with
  | nil => cases h; rfl
  | cons b w ih =>
    cases h with
    | mk ch ch' e hd hs =>
      simp only [gPrefix, Fn.TrieNode.children, Trie.isPrefixMatch]
      rcases TRep_child hd hs b with ⟨h1, h2⟩ | ⟨c, c', h1, h2, hr⟩ <;> rw [h1, h2]
      simp only [TRep_isEnd hr, ih hr]

theorem gIns_rep {n : Fn.TrieNode} {m : Trie} (h : TRep n m) (w : Bytes) :
    TRep (gIns n w) (m.insert w) := by
  induction w generalizing n m with
  | nil =>
    cases h with
    | mk ch ch' e hd hs => exact TRep.mk ch ch' true hd hs
  | cons b w ih =>
    cases h with
    | mk ch ch' e hd hs =>
      simp only [gIns, Fn.TrieNode.setChild, Fn.TrieNode.children, Trie.insert]
      refine TRep.mk _ _ e ?_ ?_
      · intro k
        by_cases hk : k = b
        · simp [hk]
        · simp [hk, hd k]
      · intro k c c' h1 h2
        by_cases hk : k = b
        · simp only [hk, ↓reduceIte, Option.some.injEq] at h1 h2
          rw [← h1, ← h2]
          exact ih (TRep_getD hd hs b)
        · simp only [hk, ↓reduceIte] at h1 h2
          exact hs k c c' h1 h2

/-- a generated `*Trie` (non-nil root) denotes a model trie -/
def HRep (t : Fn.Trie) (m : Trie) : Prop := ∃ r, t = { root := some r } ∧ TRep r m

/-- `NewTrie()` returns a non-nil handle that denotes the empty model trie -/
theorem gen_newTrie_refines : ∃ t, Fn.newTrie = some (some t) ∧ HRep t Trie.empty :=
  ⟨_, rfl, _, rfl, TRep_fresh⟩

/-- `Insert(word)` never panics and refines the model's insert -/
theorem gen_trieInsert_refines {t : Fn.Trie} {m : Trie} (h : HRep t m) (w : Bytes)
    (hw : w.length < 9223372036854775807) :
    ∃ t', Fn.insert t w = some t' ∧ HRep t' (m.insert w) := by
  obtain ⟨r, rfl, hr⟩ := h
  exact ⟨_, gen_insert_eq r w hw, _, rfl, gIns_rep hr w⟩

/-- `Search(word)` of the translated code is the model's search -/
theorem gen_trieSearch_eq_model {t : Fn.Trie} {m : Trie} (h : HRep t m) (w : Bytes)
    (hw : w.length < 9223372036854775807) :
    Fn.search t w = some (m.search w) := by
  obtain ⟨r, rfl, hr⟩ := h
  rw [gen_search_eq r w hw, gSearch_eq_model hr]

/-- `IsPrefixMatch(word)` of the translated code is the model's prefix match -/
theorem gen_trieIsPrefixMatch_eq_model {t : Fn.Trie} {m : Trie} (h : HRep t m) (w : Bytes)
    (hw : w.length < 9223372036854775807) :
    Fn.isPrefixMatch t w = some (m.isPrefixMatch w) := by
  obtain ⟨r, rfl, hr⟩ := h
  rw [gen_isPrefixMatch_eq r w hw, gPrefix_eq_model hr]

/-- any sequence of translated `Insert` calls on a translated trie -/
def genTrieInsertAll : Fn.Trie → List Bytes → Option Fn.Trie
  | t, [] => some t
  | t, w :: ws => (Fn.insert t w).bind (fun t' => genTrieInsertAll t' ws)

theorem gen_trieInsertAll_refines {t : Fn.Trie} {m : Trie} (h : HRep t m) (ws : List Bytes)
    (hws : ∀ w ∈ ws, w.length < 9223372036854775807) :
    ∃ t', genTrieInsertAll t ws = some t' ∧ HRep t' (ws.foldl (fun t k => t.insert k) m) := by
  induction ws generalizing t m with
  | nil => exact ⟨t, rfl, h⟩
  | cons w ws ih =>
    obtain ⟨t1, h1, hr1⟩ := gen_trieInsert_refines h w (hws w (by simp))
    obtain ⟨t2, h2, hr2⟩ := ih hr1 (fun x hx => hws x (by simp [hx]))
    exact ⟨t2, by simp [genTrieInsertAll, h1, h2], hr2⟩

/-- EXACT-list use (command lists): after `NewTrie()` and the translated `Insert` of the words `ws` in ANY order,
    the translated `Search` accepts exactly the inserted words -/
theorem gen_trie_search_iff (ws : List Bytes) (hws : ∀ w ∈ ws, w.length < 9223372036854775807) :
    ∃ t0 t, Fn.newTrie = some (some t0) ∧ genTrieInsertAll t0 ws = some t ∧
      ∀ w : Bytes, w.length < 9223372036854775807 → (Fn.search t w = some true ↔ w ∈ ws) := by
  obtain ⟨t0, h0, hr0⟩ := gen_newTrie_refines
  obtain ⟨t, ht, hr⟩ := gen_trieInsertAll_refines hr0 ws hws
  refine ⟨t0, t, h0, ht, fun w hw => ?_⟩
  rw [gen_trieSearch_eq_model hr w hw]
  simp [Trie.search_foldl_insert, Trie.search_empty]

/-- PREFIX-list use (key prefixes): on the same trie the translated `IsPrefixMatch` accepts a key exactly when a
    non-empty inserted word is a byte prefix of it -/
theorem gen_trie_prefix_iff (ws : List Bytes) (hws : ∀ w ∈ ws, w.length < 9223372036854775807) :
    ∃ t0 t, Fn.newTrie = some (some t0) ∧ genTrieInsertAll t0 ws = some t ∧
      ∀ k : Bytes, k.length < 9223372036854775807 →
        (Fn.isPrefixMatch t k = some true ↔ ∃ p ∈ ws, p ≠ [] ∧ p <+: k) := by
  obtain ⟨t0, h0, hr0⟩ := gen_newTrie_refines
  obtain ⟨t, ht, hr⟩ := gen_trieInsertAll_refines hr0 ws hws
  refine ⟨t0, t, h0, ht, fun k hk => ?_⟩
  rw [gen_trieIsPrefixMatch_eq_model hr k hk]
  simp only [Option.some.injEq, Trie.isPrefixMatch_iff, Trie.search_foldl_insert, Trie.search_empty,
    Bool.false_eq_true, or_false]
  constructor
  · rintro ⟨p, h1, h2, h3⟩; exact ⟨p, h2, h1, h3⟩
  · rintro ⟨p, h2, h1, h3⟩; exact ⟨p, h1, h2, h3⟩

/-- the four tries of a generated `RedisKeyFilter` denote those of a model `KeyFilter` (nil = not configured) -/
def ORep (o : Option Fn.Trie) (o' : Option Trie) : Prop :=
  match o, o' with
  | none, none => True
  | some t, some m => HRep t m
  | _, _ => False

structure FRep (f : Fn.RedisKeyFilter) (m : KeyFilter) : Prop where
  cw : ORep f.cmdWhiteTrie m.cmdWhite
  cb : ORep f.cmdBlackTrie m.cmdBlack
  pw : ORep f.prefixKeyWhiteTrie m.prefWhite
  pb : ORep f.prefixKeyBlackTrie m.prefBlack

theorem ORep.cases {o : Option Fn.Trie} {o' : Option Trie} (h : ORep o o') :
    (o = none ∧ o' = none) ∨ ∃ t m, o = some t ∧ o' = some m ∧ HRep t m := by
  cases o <;> cases o'
  · exact Or.inl ⟨rfl, rfl⟩
  · exact h.elim
  · exact h.elim
  · exact Or.inr ⟨_, _, rfl, rfl, h⟩

set_option linter.unusedSimpArgs false

/- The two proofs below do not follow the ORDER of the tests in the Go functions: every case of "which lists are configured"
   is normalised by one simp set and the remaining booleans are split, so `white first`, `black first` and
   `return a || b` all go through unchanged. -/
macro "filter_tail" "[" ls:Lean.Parser.Tactic.simpLemma,* "]" : tactic => `(tactic|
  (simp only [Option.isNone_some, Option.isNone_none, Bool.not_false, Bool.not_true, Bool.false_eq_true, ↓reduceIte,
     bind, Option.bind_some, Option.bind_none, pure, Bool.false_or, Bool.or_false, Bool.not_eq_true, $ls,*] <;>
   try rfl))

/-- the translated `FilterCmd` is the model's (black listed, or a white list is configured and does not list it) -/
theorem gen_filterCmd_eq_model {f : Fn.RedisKeyFilter} {m : KeyFilter} (h : FRep f m) (cmd : Bytes)
    (hc : cmd.length < 9223372036854775807) :
    Fn.filterCmd f cmd = some (m.filterCmd cmd) := by
  unfold Fn.filterCmd KeyFilter.filterCmd
  rcases h.cb.cases with ⟨hb, hb'⟩ | ⟨tb, mb, hb, hb', hrb⟩ <;>
    rcases h.cw.cases with ⟨hw, hw'⟩ | ⟨tw, mw, hw, hw', hrw⟩ <;> rw [hb, hb', hw, hw']
  · filter_tail []
  · filter_tail [gen_trieSearch_eq_model hrw cmd hc]
    cases mw.search cmd <;> filter_tail []
  · filter_tail [gen_trieSearch_eq_model hrb cmd hc]
    cases mb.search cmd <;> filter_tail []
  · filter_tail [gen_trieSearch_eq_model hrb cmd hc, gen_trieSearch_eq_model hrw cmd hc]
    cases mb.search cmd <;> cases mw.search cmd <;> filter_tail []

/-- the translated `FilterKey` is the model's -/
theorem gen_filterKey_eq_model {f : Fn.RedisKeyFilter} {m : KeyFilter} (h : FRep f m) (key : Bytes)
    (hk : key.length < 9223372036854775807) :
    Fn.filterKey f key = some (m.filterKey key) := by
  unfold Fn.filterKey KeyFilter.filterKey
  rcases h.pb.cases with ⟨hb, hb'⟩ | ⟨tb, mb, hb, hb', hrb⟩ <;>
    rcases h.pw.cases with ⟨hw, hw'⟩ | ⟨tw, mw, hw, hw', hrw⟩ <;> rw [hb, hb', hw, hw']
  · filter_tail []
  · filter_tail [gen_trieIsPrefixMatch_eq_model hrw key hk]
    cases mw.isPrefixMatch key <;> filter_tail []
  · filter_tail [gen_trieIsPrefixMatch_eq_model hrb key hk]
    cases mb.isPrefixMatch key <;> filter_tail []
  · filter_tail [gen_trieIsPrefixMatch_eq_model hrb key hk, gen_trieIsPrefixMatch_eq_model hrw key hk]
    cases mb.isPrefixMatch key <;> cases mw.isPrefixMatch key <;> filter_tail []

/-! ### non-vacuity: the translated code run on concrete words, a word and its proper prefix in BOTH orders -/

/-- build by the translated code, then ask it -/
def genAsk (ws : List Bytes) (ask : Fn.Trie → Option Bool) : Option Bool :=
  match Fn.newTrie with
  | some (some t0) => (genTrieInsertAll t0 ws).bind ask
  | _ => none

-- "set", then "setex" (longer after shorter) and the other way round: both words found, no other
example : genAsk [[115,101,116], [115,101,116,101,120]] (Fn.search · [115,101,116]) = some true := by decide +kernel
example : genAsk [[115,101,116], [115,101,116,101,120]] (Fn.search · [115,101,116,101,120]) = some true := by decide +kernel
example : genAsk [[115,101,116,101,120], [115,101,116]] (Fn.search · [115,101,116]) = some true := by decide +kernel
example : genAsk [[115,101,116,101,120], [115,101,116]] (Fn.search · [115,101,116,101,120]) = some true := by decide +kernel
example : genAsk [[115,101,116,101,120], [115,101,116]] (Fn.search · [115,101,116,101]) = some false := by decide +kernel
example : genAsk [[115,101,116,101,120]] (Fn.search · [115,101,116]) = some false := by decide +kernel
-- prefix use: "ab" and "abcd" in both orders match "abc" (through "ab"); "abcd" alone does not
example : genAsk [[97,98], [97,98,99,100]] (Fn.isPrefixMatch · [97,98,99]) = some true := by decide +kernel
example : genAsk [[97,98,99,100], [97,98]] (Fn.isPrefixMatch · [97,98,99]) = some true := by decide +kernel
example : genAsk [[97,98,99,100]] (Fn.isPrefixMatch · [97,98,99]) = some false := by decide +kernel
example : genAsk [[97,98,99,100], [97,98]] (Fn.isPrefixMatch · [97]) = some false := by decide +kernel
-- the empty word marks the root, which IsPrefixMatch never looks at; bytes >= 0x80 are bytes
example : genAsk [[]] (Fn.isPrefixMatch · [97]) = some false := by decide +kernel
example : genAsk [[0xc3]] (Fn.isPrefixMatch · [0xc3, 0xa9]) = some true := by decide +kernel
example : genAsk [[0xff]] (Fn.isPrefixMatch · [0xfe, 97]) = some false := by decide +kernel

/-! ### keyspec.parseCommandInt (translated each run, Gen/FnKeySpec.lean) -/

/-! proved for every argument of at most 18 bytes: 18 digits stay below 2^63; beyond that the Go accumulator (an int64)
    wraps and the unbounded model does not (the declared assumption "numkeys below 2^63") -/

/-- the digits of `l` appended to the decimal value `v` -/
def digitsVal (v : Nat) (l : Bytes) : Nat := l.foldl (fun v b => v * 10 + (b.toNat - 48)) v

theorem gen_pci_loop (arg : Bytes) (hl : arg.length ≤ 18) :
    ∀ (fuel i v : Nat), i ≤ arg.length → arg.length - i < fuel → v < 10 ^ i →
      Fn.parseCommandInt_loop1 arg fuel (v : Int) (i : Int) =
        some (if (arg.drop i).all isDigit then GoSem.Ctl.next ((digitsVal v (arg.drop i) : Nat) : Int)
              else GoSem.Ctl.ret (-1 : Int)) := by
  intro fuel
  induction fuel with
  | zero => intro i v _ hf; omega
  | succ fuel ih =>
    intro i v hi hf hv
    unfold Fn.parseCommandInt_loop1
    by_cases hlt : i < arg.length
    · have h1 : ((i : Int) < GoSem.len arg) := (lt_len_iff arg i).2 hlt
      simp only [h1, ↓reduceIte, index_nat arg i hlt, Option.bind_some, bind]
      rw [List.drop_eq_getElem_cons hlt]
      simp only [List.all_cons, isDigit]
      generalize hb : arg[i] = b
      by_cases h48 : b < 48
      · have : ¬ (48 ≤ b) := by
          intro h; exact absurd h48 (UInt8.not_lt.mpr h)
        simp [h48, this, pure]
      · have h48' : 48 ≤ b := UInt8.not_lt.mp h48
        simp only [h48, ↓reduceIte, pure, Option.bind_some, h48', decide_true, Bool.true_and]
        by_cases h57 : b > 57
        · have : ¬ (b ≤ 57) := by
            intro h; exact absurd h57 (UInt8.not_lt.mpr h)
          simp [h57, this]
        · have h57' : b ≤ 57 := UInt8.not_lt.mp h57
          simp only [h57, decide_false, Bool.false_eq_true, ↓reduceIte, h57', decide_true, Bool.true_and]
          obtain ⟨hmul, hadd, hnew⟩ := C11.decimal_step v i b hv (by omega) h48' h57'
          rw [hmul, hadd, addI_nat i (by omega), ih (i + 1) _ (by omega) (by omega) hnew]
          simp [digitsVal]
    · have h1 : ¬ ((i : Int) < GoSem.len arg) := fun h => hlt ((lt_len_iff arg i).1 h)
      have h2 : arg.drop i = [] := List.drop_eq_nil_of_le (by omega)
      rw [if_neg h1, h2]
      simp [digitsVal, pure]

theorem gen_parseCommandInt_eq_model (arg : Bytes) (hl : arg.length ≤ 18) :
    Fn.parseCommandInt arg = some (Filter.parseCommandInt arg) := by
  unfold Fn.parseCommandInt Filter.parseCommandInt
  have h := gen_pci_loop arg hl ((GoSem.len arg - 0).toNat + 1) 0 0 (by omega) (by unfold GoSem.len; omega) (by simp)
  simp only [Int.ofNat_zero, List.drop_zero] at h
  simp only [bind, Option.bind]
  rw [h]
  by_cases hd : arg.all isDigit = true
  · simp [hd, digitsVal, pure]
  · simp [hd, pure]

example : Fn.parseCommandInt [49, 50, 51] = some 123 := by decide +kernel
example : Fn.parseCommandInt [49, 97] = some (-1) := by decide +kernel
example : Fn.parseCommandInt [] = some 0 := by decide +kernel
example : Filter.parseCommandInt [49, 50, 51] = 123 := by decide +kernel

end GunYu.Props.C10
