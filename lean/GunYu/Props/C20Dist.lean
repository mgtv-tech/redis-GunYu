/-
  C20 — the distributor of `sendRdb` with BOUNDED pipes (back-pressure), and a failed worker.

  `Sys` (Model/RestoreWorker.lean) starts with PRE-FILLED pipes (`queueOf`), on the argument that a worker can never take
  an entry earlier in the real system than there. Here the distributor is a process of its own:

      for { e <- rdbPipe ; idx = route(e, idx) ;
            select { case pipes[idx] <- e:            -- only when pipe idx holds fewer than `cap` entries
                     case <-ctx.Done(): return ctx.Err() } }          (syncer/output.go distributeTask)

  `BSt` = the entries not yet distributed, `idx`, the content of every pipe (FIFO), what every worker has taken so far
  (ghost), "the distributor has returned" and the cancel flag. Moves, in ANY order (`BSt.run`): the distributor sends
  the next entry (BLOCKED - no change - while the pipe of its worker is full), the distributor takes the cancelled
  branch, a worker takes the head of its pipe, somebody cancels (a failed worker through sendRdb's errChan loop, the
  parent context). What a worker does with an entry is `Sys`'s business.

    * `dist_conserves`      for every capacity and every schedule: taken_i ++ pipe_i ++ (what is still to be routed to i)
                            = `queueOf … i` - nothing is lost, duplicated, reordered or handed to another worker,
                            however full the pipes are;
    * `taken_prefix`        hence what worker i has consumed is a PREFIX of the pre-filled pipe of `Sys`, in order: the
                            bounded system's workers see exactly what `Sys` with `Move.close` lets them see;
    * `pipes_bounded`       no pipe ever holds more than `cap` entries;
    * `blocked_send_full`   the distributor is blocked only on a FULL pipe - whose worker can take (`take_enabled`) …
    * `abort_after_cancel`  … and when that worker has FAILED (it takes nothing any more) the cancel that sendRdb raises
                            for its error un-blocks the distributor: it returns with an error, whatever the pipes hold -
                            it does not block for ever (`no_deadlock`: in every state the distributor has returned, or
                            can move, or the worker it waits for can take, or - after a cancel - it can return);
    * `error_surfaces`      once the distributor returned through the cancelled branch it reports an error (sendRdb then
                            joins it with the worker's: the run is not reported as complete).
  Tie: source facts c20_distribute (the whole closure incl. both selects) and c20_workers; the real SendRdb under
  back-pressure (scopes send-backpressure, send-backpressure-fail: a worker fails while the pipes are full - SendRdb
  returns the worker's error) with c20route / key-on-two-connections as monitors of the conservation.
-/
import GunYu.Model.RestoreWorker

namespace GunYu.Props.C20
open GunYu GunYu.Restore

/-- what is routed to worker `i` from the stream `src` when the previous choice was `idx` -/
def queueFrom (w : WCfg) (n : Nat) (idx : Nat) (src : List Entry) (i : Nat) : List Entry :=
  ((routeAll w n idx src).filter (fun p => p.1 == i)).map (·.2)

theorem queueOf_eq_queueFrom (w : WCfg) (n : Nat) (es : List Entry) (i : Nat) : queueOf w n es i = queueFrom w n 0 es i := rfl

theorem queueFrom_cons (w : WCfg) (n idx : Nat) (e : Entry) (r : List Entry) (i : Nat) :
    queueFrom w n idx (e :: r) i =
      (if i = route w n e idx then [e] else []) ++ queueFrom w n (route w n e idx) r i := by
  by_cases h : i = route w n e idx
  · simp [queueFrom, routeAll, h]
  · simp [queueFrom, routeAll, h, Ne.symm h]

structure BSt where
  src    : List Entry
  idx    : Nat := 0
  pipes  : Nat → List Entry := fun _ => []
  taken  : Nat → List Entry := fun _ => []
  ddone  : Bool := false
  derr   : Bool := false
  cancel : Bool := false

inductive BMove
  | send                 -- the distributor's next iteration
  | abort                -- the distributor's `case <-ctx.Done(): return ctx.Err()`
  | take (i : Nat)       -- worker i receives from its pipe
  | cancel               -- cancel() (sendRdb on any error of errChan; the parent context)

def upd (f : Nat → List Entry) (i : Nat) (v : List Entry) : Nat → List Entry := fun j => if j = i then v else f j

def BSt.move (w : WCfg) (n cap : Nat) (S : BSt) : BMove → BSt
  | .send =>
    if S.ddone then S else
    match S.src with
    | [] => { S with ddone := true }                       -- rdbPipe closed / Done: return nil, pipes closed
    | e :: r =>
      let i := route w n e S.idx
      if (S.pipes i).length < cap then { S with src := r, idx := i, pipes := upd S.pipes i (S.pipes i ++ [e]) }
      else S                                                -- pipe full: the send blocks
  | .abort => if S.cancel ∧ ¬ S.ddone then { S with ddone := true, derr := true } else S
  | .take i =>
    match S.pipes i with
    | [] => S
    | e :: r => { S with pipes := upd S.pipes i r, taken := upd S.taken i (S.taken i ++ [e]) }
  | .cancel => { S with cancel := true }

def BSt.run (w : WCfg) (n cap : Nat) (S : BSt) : List BMove → BSt
  | [] => S
  | m :: ms => BSt.run w n cap (S.move w n cap m) ms

def BSt.init (es : List Entry) : BSt := { src := es }

/-- conservation, per worker -/
def BInv (w : WCfg) (n : Nat) (es : List Entry) (S : BSt) : Prop :=
  ∀ i, S.taken i ++ S.pipes i ++ queueFrom w n S.idx S.src i = queueOf w n es i

theorem BSt.run_inv {w : WCfg} {n cap : Nat} {P : BSt → Prop} (step : ∀ S m, P S → P (S.move w n cap m)) :
    ∀ (ms : List BMove) (S : BSt), P S → P (S.run w n cap ms)
  | [], _, h => h
  | m :: ms, S, h => BSt.run_inv step ms _ (step S m h)

/-- to show `P` of the state after a move: a move changes flags only (and never takes the distributor's error back), or
    sends the next entry into a pipe with room, or takes the head of a pipe -/
theorem BSt.move_cases {w : WCfg} {n cap : Nat} {S : BSt} {P : BSt → Prop}
    (flags : ∀ d e c, (S.derr = true → e = true) → P { S with ddone := d, derr := e, cancel := c })
    (send : ∀ e r, S.src = e :: r → (S.pipes (route w n e S.idx)).length < cap →
      P { S with src := r, idx := route w n e S.idx,
                 pipes := upd S.pipes (route w n e S.idx) (S.pipes (route w n e S.idx) ++ [e]) })
    (take : ∀ i e r, S.pipes i = e :: r → P { S with pipes := upd S.pipes i r, taken := upd S.taken i (S.taken i ++ [e]) })
    (m : BMove) : P (S.move w n cap m) := by
  have same : P S := flags S.ddone S.derr S.cancel id
  cases m with
  | send =>
    simp only [BSt.move]
    split
    · exact same
    · split
      · exact flags true _ _ id
      · rename_i e r hsrc
        split
        · rename_i hlt; exact send e r hsrc hlt
        · exact same
  | abort =>
    simp only [BSt.move]
    split
    · exact flags true true _ fun _ => rfl
    · exact same
  | take i =>
    simp only [BSt.move]
    split
    · exact same
    · rename_i e r hp; exact take i e r hp
  | cancel => exact flags _ _ true id

/-- **conservation**: for every pipe capacity and every schedule -/
theorem dist_conserves (w : WCfg) (n cap : Nat) (es : List Entry) (ms : List BMove) :
    BInv w n es ((BSt.init es).run w n cap ms) := by
  refine BSt.run_inv (fun S m h => ?_) ms _ (fun i => by simp [BSt.init, queueOf_eq_queueFrom])
  refine BSt.move_cases (P := BInv w n es) (fun _ _ _ _ => h) ?_ ?_ m
  · -- `e` moves from the head of what is still to be routed to the end of its worker's pipe
    intro e r hsrc _ i
    rw [← h i, hsrc, queueFrom_cons]
    by_cases hr : i = route w n e S.idx <;> simp [upd, hr]
  · -- `e` moves from the head of pipe `j` to the end of what worker `j` has taken
    intro j e r hp i
    rw [← h i]
    by_cases hr : i = j <;> simp [upd, hr, hp]

/-- what a worker has consumed is a prefix of the pre-filled pipe `Sys` gives it, in order -/
theorem taken_prefix (w : WCfg) (n cap : Nat) (es : List Entry) (ms : List BMove) (i : Nat) :
    ((BSt.init es).run w n cap ms).taken i <+: queueOf w n es i := by
  have := dist_conserves w n cap es ms i
  exact ⟨_, by rw [← this, List.append_assoc]⟩

/-- … and when the distributor has sent everything and the pipe is drained, it is the WHOLE of it -/
theorem taken_all (w : WCfg) (n cap : Nat) (es : List Entry) (ms : List BMove) (i : Nat)
    (hsrc : ((BSt.init es).run w n cap ms).src = []) (hp : ((BSt.init es).run w n cap ms).pipes i = []) :
    ((BSt.init es).run w n cap ms).taken i = queueOf w n es i := by
  have := dist_conserves w n cap es ms i
  rw [hsrc, hp] at this
  simpa [queueFrom, routeAll] using this

def BBound (cap : Nat) (S : BSt) : Prop := ∀ i, (S.pipes i).length ≤ cap

theorem pipes_bounded (w : WCfg) (n cap : Nat) (es : List Entry) (ms : List BMove) :
    BBound cap ((BSt.init es).run w n cap ms) := by
  refine BSt.run_inv (fun S m h => ?_) ms _ (fun _ => Nat.zero_le _)
  refine BSt.move_cases (P := BBound cap) (fun _ _ _ _ => h) ?_ ?_ m
  · intro e r _ hlt i
    by_cases hr : i = route w n e S.idx
    · subst hr; simpa [upd] using Nat.succ_le_of_lt hlt
    · simpa [upd, hr] using h i
  · intro j e r hp i
    have hi := h i
    by_cases hr : i = j
    · subst hr; rw [hp] at hi; simpa [upd] using Nat.le_of_succ_le hi
    · simpa [upd, hr] using hi

/-- the distributor's send leaves the state unchanged only when the pipe of the entry's worker is FULL -/
theorem blocked_send_full (w : WCfg) (n cap : Nat) (S : BSt) (e : Entry) (r : List Entry)
    (hd : S.ddone = false) (hsrc : S.src = e :: r) (hblk : (S.move w n cap .send).src = S.src) :
    cap ≤ (S.pipes (route w n e S.idx)).length := by
  simp only [BSt.move, hd, hsrc] at hblk
  by_cases h : (S.pipes (route w n e S.idx)).length < cap
  · simp [h] at hblk
  · exact Nat.le_of_not_lt h

/-- … and then (cap ≥ 1) that worker can take -/
theorem take_enabled (w : WCfg) (n cap : Nat) (S : BSt) (i : Nat) (hc : 0 < cap) (hfull : cap ≤ (S.pipes i).length) :
    ((S.move w n cap (.take i)).taken i).length = (S.taken i).length + 1 := by
  simp only [BSt.move]
  cases hp : S.pipes i with
  | nil => rw [hp] at hfull; exact absurd (Nat.lt_of_lt_of_le hc hfull) (Nat.lt_irrefl 0)
  | cons e r => simp [upd]

/-- a cancelled context un-blocks the distributor whatever the pipes hold: it returns, with an error -/
theorem abort_after_cancel (w : WCfg) (n cap : Nat) (S : BSt) (hc : S.cancel = true) (hd : S.ddone = false) :
    (S.move w n cap .abort).ddone = true ∧ (S.move w n cap .abort).derr = true := by
  simp [BSt.move, hc, hd]

/-- **no deadlock around the distributor** (cap ≥ 1): it has returned, or its send goes through, or the worker it waits
    for can take an entry; and if that worker is dead (it failed: sendRdb cancelled) the cancelled branch is enabled -/
theorem no_deadlock (w : WCfg) (n cap : Nat) (S : BSt) (hc : 0 < cap) :
    S.ddone = true ∨ (S.move w n cap .send).src ≠ S.src ∨ (S.move w n cap .send).ddone = true ∨
    (∃ i, ((S.move w n cap (.take i)).taken i).length = (S.taken i).length + 1 ∧
      (S.cancel = true → (S.move w n cap .abort).ddone = true ∧ (S.move w n cap .abort).derr = true)) := by
  cases hd : S.ddone with
  | true => exact Or.inl rfl
  | false =>
    right
    cases hsrc : S.src with
    | nil => right; left; simp [BSt.move, hd, hsrc]
    | cons e r =>
      by_cases hblk : (S.move w n cap .send).src = S.src
      · right; right
        have hfull := blocked_send_full w n cap S e r hd hsrc hblk
        exact ⟨_, take_enabled w n cap S _ hc hfull, fun hcn => abort_after_cancel w n cap S hcn hd⟩
      · left; rw [← hsrc]; exact hblk

/-- the cancel flag and the distributor's error are never taken back: once it returned through the cancelled branch
    the run reports an error -/
theorem error_surfaces (w : WCfg) (n cap : Nat) (S : BSt) (ms : List BMove) (h : S.derr = true) :
    (S.run w n cap ms).derr = true :=
  BSt.run_inv (P := fun S => S.derr = true)
    (fun _ m h => BSt.move_cases (P := fun S => S.derr = true) (fun _ _ _ h5 => h5 h) (fun _ _ _ _ => h) (fun _ _ _ _ => h) m) ms S h

/-! ## non-vacuity: three workers, pipes of ONE entry, 5 keys; worker of "h" never takes (it failed) -/

def exBD (k : UInt8) : Entry :=
  { db := 0, key := [k], otype := .data, first := true, splited := false, canRestore := true,
    dumpSize := 3, expireAt := 0, idle := 0, freq := 0, dump := [1], cmds := [] }
def exBDs : List Entry := [exBD 104, exBD 105, exBD 104, exBD 106, exBD 107]
def exBDW : WCfg := {}
-- both "h" entries go to one worker; with cap = 1 the second send to it blocks until the worker takes
example : (routeAll exBDW 3 0 exBDs).map (·.1) = [1, 2, 1, 2, 0] := by decide
example : (((BSt.init exBDs).run exBDW 3 1 [.send, .send, .send, .send]).src).length = 3 := by decide   -- 3rd send blocked, 4th too
example : (((BSt.init exBDs).run exBDW 3 1 [.send, .send, .send, .take 1, .send, .send]).src).length = 2 := by decide
example : ((BSt.init exBDs).run exBDW 3 1 [.send, .send, .send, .take 1, .send, .send]).taken 1 = [exBD 104] := by decide
-- worker 1 failed and takes nothing: cancel, then the blocked distributor returns with an error
example : let S := (BSt.init exBDs).run exBDW 3 1 [.send, .send, .send, .cancel, .send, .abort]
    S.ddone = true ∧ S.derr = true ∧ S.src.length = 3 := by decide
example : ((BSt.init exBDs).run exBDW 3 1 [.send, .take 1, .send, .take 2, .send, .take 1, .send, .take 0, .send, .take 1, .send]).taken 1
    = queueOf exBDW 3 exBDs 1 := by decide

end GunYu.Props.C20
