/-
  C02 with TWO run ids on the target. After a fail-over of the source `StartPoint`
  is asked with `[master_replid, master_replid2]`; a checkpoint hash can hold the
  fields of both ids and `fetchCheckpoint` merges them (`Model/Checkpoint.lean`
  `fetch`: the last matching field wins), `GetCheckpoint` then takes the largest
  offset, newest mtime on a tie (`bestStep`; `Props.C17.gen_cpBetter_eq_model` /
  `gen_bestStep_eq_model`: the comparison is REGENERATED from checkpoint.go).

  C02's restart theorems (`crash_resume_db_resumed`, `life_step`, `lives_startPoint`,
  `crash_then_resume`) speak of `Target.UniqueMax cps d o` on the sender model's
  target, one record per database. This file is the bridge: whatever ids are
  consulted and whatever fields of other ids the hashes hold, if database `d`'s
  MERGED record carries offset `o >= 0` with a run id and every other database's
  merged record a smaller offset, the modelled `GetCheckpoint` answers `(o, d)` for
  every iteration order of the database map and whatever the mtimes
  (`getCheckpoint_two_ids`), and the merged per-database view IS a sender-model
  target with `UniqueMax d o` (`view_uniqueMax`).
-/
import GunYu.Props.C17Gen
import GunYu.Proofs.ResumedDb

namespace GunYu.Props.C02
open GunYu GunYu.Checkpoint

/-- the merged record of one database as the sender model's target sees it -/
def viewRec (ids : List Bytes) (fs : Cp) : Target.CpRec :=
  match fetch ids fs with
  | some c => { offset := if 0 ≤ c.offset then some c.offset else none, hasRunId := decide (c.runId ≠ qmark) }
  | none => {}

/-- the sender model's checkpoint records for the databases `order` -/
def view (ids : List Bytes) (t : Checkpoint.Target) (name : Bytes) (order : List Nat) : List (Int × Target.CpRec) :=
  order.map (fun (db : Nat) => ((db : Int), viewRec ids (t.cps db name)))

theorem fold_best (ids : List Bytes) (t : Checkpoint.Target) (name : Bytes) (d : Nat) (cd : CpInfo) (o : Int)
    (hfd : fetch ids (t.cps d name) = some cd) (hoff : cd.offset = o) (l : List Nat)
    (hothers : ∀ db ∈ l, db ≠ d → ∃ c, fetch ids (t.cps db name) = some c ∧ c.offset < o) :
    ∀ (cpi : CpInfo) (rec : Int), ((cpi.offset < o ∧ d ∈ l) ∨ (cpi = cd ∧ rec = (d : Int))) →
      l.foldl (bestStep ids t name) (some (cpi, rec)) = some (cd, (d : Int)) := by
  induction l with
  | nil =>
    intro cpi rec h
    rcases h with ⟨_, hm⟩ | ⟨h1, h2⟩
    · cases hm
    · rw [h1, h2]; rfl
  | cons db rest ih =>
    intro cpi rec h
    have hrest : ∀ x ∈ rest, x ≠ d → ∃ c, fetch ids (t.cps x name) = some c ∧ c.offset < o :=
      fun x hx => hothers x (List.mem_cons_of_mem _ hx)
    simp only [List.foldl_cons]
    by_cases hdb : db = d
    · subst hdb
      have hstep : bestStep ids t name (some (cpi, rec)) db = some (cd, (db : Int)) := by
        unfold bestStep
        simp only [hfd]
        rcases h with ⟨hlt, _⟩ | ⟨h1, h2⟩
        · rw [if_pos (Or.inl (by rw [hoff]; exact hlt))]
        · rw [h1, h2, if_neg (by intro hx; rcases hx with hx | ⟨_, hx⟩ <;> omega)]
      rw [hstep]
      exact ih hrest cd db (Or.inr ⟨rfl, rfl⟩)
    · obtain ⟨c, hc, hlt⟩ := hothers db (List.mem_cons_self ..) hdb
      unfold bestStep
      simp only [hc]
      rcases h with ⟨hlt0, hm⟩ | ⟨h1, h2⟩
      · have hm' : d ∈ rest := by
          rcases List.mem_cons.mp hm with h' | h'
          · exact absurd h'.symm hdb
          · exact h'
        split
        · exact ih hrest c db (Or.inl ⟨hlt, hm'⟩)
        · exact ih hrest cpi rec (Or.inl ⟨hlt0, hm'⟩)
      · rw [h1, h2, if_neg (by intro hx; rcases hx with hx | ⟨hx, _⟩ <;> omega)]
        exact ih hrest cd d (Or.inr ⟨rfl, rfl⟩)

/-- **GetCheckpoint with two ids reads the unique largest merged record.** -/
theorem getCheckpoint_two_ids (ver name : Bytes) (ids : List Bytes) (t : Checkpoint.Target) (order : List Nat)
    (d : Nat) (cd : CpInfo) (o : Int)
    (hd : d ∈ order) (hfd : fetch ids (t.cps d name) = some cd) (hoff : cd.offset = o) (ho : 0 ≤ o)
    (hrid : cd.runId ≠ qmark)
    (hothers : ∀ db ∈ order, db ≠ d → ∃ c, fetch ids (t.cps db name) = some c ∧ c.offset < o) :
    getCheckpoint ver t name ids order = some (cd, (d : Int)) := by
  unfold getCheckpoint
  rw [fold_best ids t name d cd o hfd hoff order hothers { version := ver } 0
    (Or.inl ⟨by show (-1 : Int) < o; omega, hd⟩)]
  simp only [hrid, ↓reduceIte]

/-- the step of the loop above is the decision regenerated from checkpoint.go -/
theorem gen_getCheckpoint_step (ids : List Bytes) (t : Checkpoint.Target) (name : Bytes) (cpi : CpInfo) (rec : Int) (db : Nat) :
    bestStep ids t name (some (cpi, rec)) db =
      match fetch ids (t.cps db name) with
      | none => none
      | some tc => if Gen.cpBetter tc.offset tc.mtime cpi.offset cpi.mtime then some (tc, (db : Int)) else some (cpi, rec) :=
  C17.gen_bestStep_eq_model ids t name cpi rec db

theorem getCp_view (ids : List Bytes) (t : Checkpoint.Target) (name : Bytes) (order : List Nat) (db : Nat)
    (h : db ∈ order) : Target.getCp (view ids t name order) (db : Int) = viewRec ids (t.cps db name) := by
  induction order with
  | nil => cases h
  | cons x rest ih =>
    unfold Target.getCp view
    simp only [List.map_cons, List.lookup_cons]
    by_cases hx : db = x
    · subst hx; simp
    · have : ((db : Int) == (x : Int)) = false := by simp; omega
      rw [this]
      have hm : db ∈ rest := by
        rcases List.mem_cons.mp h with h' | h'
        · exact absurd h' hx
        · exact h'
      exact ih hm

theorem getCp_view_absent (ids : List Bytes) (t : Checkpoint.Target) (name : Bytes) (order : List Nat) (d' : Int)
    (h : ∀ db ∈ order, (db : Int) ≠ d') : Target.getCp (view ids t name order) d' = {} := by
  induction order with
  | nil => simp [Target.getCp, view]
  | cons x rest ih =>
    unfold Target.getCp view
    simp only [List.map_cons, List.lookup_cons]
    have : (d' == (x : Int)) = false := by
      have := h x (List.mem_cons_self ..)
      simp; exact fun e => this e.symm
    rw [this]
    exact ih (fun db hdb => h db (List.mem_cons_of_mem _ hdb))

/-- **... and the merged view is a sender-model target with `UniqueMax d o`**: the premise of
    `crash_resume_db_resumed` / `life_step` / `crash_then_resume`. -/
theorem view_uniqueMax (name : Bytes) (ids : List Bytes) (t : Checkpoint.Target) (order : List Nat)
    (d : Nat) (cd : CpInfo) (o : Int)
    (hd : d ∈ order) (hfd : fetch ids (t.cps d name) = some cd) (hoff : cd.offset = o) (ho : 0 ≤ o)
    (hothers : ∀ db ∈ order, db ≠ d → ∃ c, fetch ids (t.cps db name) = some c ∧ c.offset < o) :
    Target.UniqueMax (view ids t name order) (d : Int) o := by
  constructor
  · rw [getCp_view ids t name order d hd]
    simp [viewRec, hfd, hoff, ho]
  · intro d' hne o' ho'
    by_cases hin : ∃ db ∈ order, (db : Int) = d'
    · obtain ⟨db, hdb, rfl⟩ := hin
      have hdbne : db ≠ d := fun e => hne (by rw [e])
      obtain ⟨c, hc, hlt⟩ := hothers db hdb hdbne
      rw [getCp_view ids t name order db hdb] at ho'
      simp only [viewRec, hc] at ho'
      split at ho'
      · injection ho' with ho'; omega
      · cases ho'
    · have : Target.getCp (view ids t name order) d' = {} :=
        getCp_view_absent ids t name order d' (fun db hdb e => hin ⟨db, hdb, e⟩)
      rw [this] at ho'
      cases ho'

/-! ### Non-vacuity: the position under the PREVIOUS id in database 1, a stale lower record of the current
    id in database 0 and fields of a third id that must stay invisible -/
def tiCur : Bytes := [99]
def tiPrev : Bytes := [112]
def tiOther : Bytes := [120]
def tiT : Checkpoint.Target :=
  { hash := [],
    cps := fun db _ =>
      if db = 1 then [⟨tiPrev, .runid, tiPrev⟩, ⟨tiPrev, .offset, [55, 48, 48]⟩, ⟨tiOther, .offset, [57, 57, 57]⟩]
      else if db = 0 then [⟨tiCur, .runid, tiCur⟩, ⟨tiCur, .offset, [54, 48, 48]⟩]
      else [] }

example : getCheckpoint [] tiT [] [tiCur, tiPrev] [0, 1, 2] =
    some ({ runId := tiPrev, offset := 700, version := [], mtime := 0 }, 1) := by decide +kernel
example : getCheckpoint [] tiT [] [tiCur, tiPrev] [2, 1, 0] =
    some ({ runId := tiPrev, offset := 700, version := [], mtime := 0 }, 1) := by decide +kernel

end GunYu.Props.C02
