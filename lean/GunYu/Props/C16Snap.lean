/-
  C16 × C08 — `SnapRecvOk` discharged for SNAPSHOT transfers.

  Props/C16Restart.lean's `crash_image_step_ok` needs, besides C08's `wf` and `SrcOk`, the link
  `SnapRecvOk`: every snapshot the follower's snapshot writer RECEIVED completely along the
  writers' script is the history's snapshot. It follows, for EVERY script, from the snapshot twin
  of C08's `SrcOk` (`SnapSrcOk`: a snapshot writer is created with the size of history's snapshot at
  the announced offset, and every chunk handed to an attached writer keeps what it has been handed
  a prefix of that snapshot — per CALL, threaded through C08's ghost `recvStep`; ghost invariant
  `GhostOk`). `SnapSrcOk` in turn is what `rdbSync`'s receive loop does under any cut and any write
  fault (`session_snapshot_payload_is_history`, from `Shape.rdb`). For the calls of a session that
  takes the snapshot and then the stream, C08's hypotheses and `SnapSrcOkFrom` hold on ANY index that
  carries the id, from any ghost, for EVERY chunking, complete or interrupted snapshot
  (`snapOps_wf_srcOk`, `snapOps_snapSrcOk`); `transferScript` is the case of the fresh follower.

  Quantifier: all histories, offsets, chunkings, interruption points, crash instants.
-/
import GunYu.Props.C16Script
import GunYu.Proofs.ReplicaReader

namespace GunYu.Props.C16
open GunYu GunYu.Replica GunYu.Store GunYu.StoreFs

/-! ### the snapshot twin of `SrcOk` -/

/-- per call of the snapshot writer: created with the size of history `id`'s snapshot at the
    announced offset; a chunk handed to an attached writer keeps the received bytes a prefix of
    that snapshot -/
def SnapChunkOk (h : Hist UInt8) (id : Replica.Id) (g : RecvG) : DOp → Prop
  | .newRdbWriter off size => size = (h.snap id off).length
  | .rdbAppend chunk =>
    match g.cur with
    | some x => x.receiving = true → (x.bytes ++ chunk) <+: h.snap id x.left
    | none => True
  | _ => True

/-- … for every call of a script, the ghost threaded through -/
def SnapSrcOkFrom (h : Hist UInt8) (id : Replica.Id) : RecvG → List DOp → Prop
  | _, [] => True
  | g, op :: rest => SnapChunkOk h id g op ∧ SnapSrcOkFrom h id (recvStep g op) rest

def SnapSrcOk (h : Hist UInt8) (id : Replica.Id) (ops : List DOp) : Prop :=
  SnapSrcOkFrom h id ⟨"", none⟩ ops

/-- ghost invariant: what has been received so far is a prefix of history's snapshot at the
    announced offset, announced with that snapshot's size -/
def GhostOk (h : Hist UInt8) (id : Replica.Id) (g : RecvG) : Prop :=
  ∀ x, g.cur = some x → x.bytes <+: h.snap id x.left ∧ x.size = (h.snap id x.left).length

theorem ghostOk_stop {h : Hist UInt8} {id : Replica.Id} {r : String} {c : Option SnapRecv}
    (hg : GhostOk h id ⟨r, c⟩) (r' : String) : GhostOk h id ⟨r', stopRecv c⟩ := by
  intro x hx
  cases c with
  | none => cases hx
  | some y =>
    simp only [stopRecv, Option.some.injEq] at hx
    subst hx
    exact hg y rfl

theorem ghostOk_step {h : Hist UInt8} {id : Replica.Id} (g : RecvG) (op : DOp)
    (hg : GhostOk h id g) (hc : SnapChunkOk h id g op) : GhostOk h id (recvStep g op) := by
  obtain ⟨r, c⟩ := g
  cases op with
  | setRunId i =>
    simp only [recvStep]
    split
    · exact ghostOk_stop hg _
    · split
      · exact hg
      · exact ghostOk_stop hg _
  | delRunId =>
    simp only [recvStep]
    split
    · exact hg
    · exact ghostOk_stop hg _
  | newRdbWriter off size =>
    intro x hx
    simp only [recvStep, Option.some.injEq] at hx
    subst hx
    exact ⟨List.nil_prefix, hc⟩
  | rdbAppend chunk =>
    cases c with
    | none => exact hg
    | some y =>
      simp only [recvStep]
      by_cases hr : y.receiving = true
      · simp only [hr, if_true]
        intro x hx
        simp only [Option.some.injEq] at hx
        subst hx
        exact ⟨hc hr, (hg y rfl).2⟩
      · simp only [hr]
        exact hg
  | rdbClose => exact ghostOk_stop hg _
  | _ => exact hg

theorem ghostOk_run {h : Hist UInt8} {id : Replica.Id} :
    ∀ (ops : List DOp) (g : RecvG), GhostOk h id g → SnapSrcOkFrom h id g ops →
      GhostOk h id (ops.foldl recvStep g)
  | [], _, hg, _ => hg
  | op :: rest, g, hg, hs => ghostOk_run rest _ (ghostOk_step g op hg hs.1) hs.2

theorem snapSrcOkFrom_take {h : Hist UInt8} {id : Replica.Id} :
    ∀ (ops : List DOp) (g : RecvG) (j : Nat), SnapSrcOkFrom h id g ops → SnapSrcOkFrom h id g (ops.take j)
  | [], _, j, _ => by simp [SnapSrcOkFrom]
  | _ :: _, _, 0, _ => trivial
  | op :: rest, g, j + 1, hs => ⟨hs.1, snapSrcOkFrom_take rest _ j hs.2⟩

theorem snapSrcOkFrom_append {h : Hist UInt8} {id : Replica.Id} :
    ∀ (a b : List DOp) (g : RecvG),
      SnapSrcOkFrom h id g (a ++ b) ↔ SnapSrcOkFrom h id g a ∧ SnapSrcOkFrom h id (a.foldl recvStep g) b
  | [], b, g => by simp [SnapSrcOkFrom]
  | op :: a, b, g => by
    simp only [List.cons_append, SnapSrcOkFrom, List.foldl_cons]
    rw [snapSrcOkFrom_append a b]
    exact and_assoc.symm

/-- a complete reception from a ghost that satisfies the invariant is history's snapshot -/
theorem ghostOk_complete {h : Hist UInt8} {id : Replica.Id} {g : RecvG} (hg : GhostOk h id g)
    {L S : Nat} {c : Bytes} {r : Bool} (hc : g.cur = some ⟨L, S, c, r⟩) (hl : c.length = S) :
    c = h.snap id L := by
  obtain ⟨hp, hs⟩ := hg _ hc
  exact hp.eq_of_length (by simp only at hs hl ⊢; omega)

/-- **snapRecvOk_of_snapSrcOk.** For EVERY script of the disk writers: when every snapshot writer
    is created with history's snapshot size and is handed prefixes of history's snapshot
    (`SnapSrcOk`, per call), every snapshot the script has received COMPLETELY at any of its points
    is history's snapshot (`SnapRecvOk`, the hypothesis of `crash_image_step_ok`). -/
theorem snapRecvOk_of_snapSrcOk (h : Hist UInt8) (id : Replica.Id) (ops : List DOp)
    (hs : SnapSrcOk h id ops) : SnapRecvOk h id ops := by
  intro j L S c _ hr hl
  have hg : GhostOk h id (recvRun (ops.take j)) :=
    ghostOk_run (ops.take j) ⟨"", none⟩ (fun x hx => by cases hx) (snapSrcOkFrom_take ops _ j hs)
  exact ghostOk_complete hg hr hl

/-! ### what the session hands to the snapshot writer -/

/-- **session_snapshot_payload_is_history.** The leader's reply to a data request is a snapshot
    (`Shape.rdb`: `META{offset = base, size = |s|}`, then `conts off cs ++ tl` with `cs.flatten` a
    prefix of `s = h.snap x base`). Whatever the cut (`budget`), the way the stream ends (`fin`)
    and the write fault, the bytes `rdbSync`'s loop hands to the follower's snapshot writer — and
    those that reach its file — are a prefix of history `x`'s snapshot at the announced offset. -/
theorem session_snapshot_payload_is_history {β : Type} (h : Hist β) (x : Id) (off : Int) (base : Nat)
    (s : List β) (cs : List (List β)) (tl ms : List (Msg β)) (fin : Fin) (budget : Nat) (lost : Loss)
    (hms : ms = conts off cs ++ tl) (htl : Tail tl) (hs : s = h.snap x base) (hb : cs.flatten <+: s) :
    (rdbLoop fin budget s.length ms).2.1 <+: h.snap x base ∧
      (lost.written (rdbLoop fin budget s.length ms).2.1).1 <+: h.snap x base := by
  have h1 : (rdbLoop fin budget s.length ms).2.1 <+: h.snap x base := by
    have := rdbLoop_prefix fin budget s.length ms
    rw [hms, pay_conts_tail _ _ htl] at this
    rw [hms]
    exact hs ▸ this.trans hb
  refine ⟨h1, ?_⟩
  obtain ⟨n, hn⟩ := lost.written_take (rdbLoop fin budget s.length ms).2.1
    (rdbLoop fin budget s.length ms).2.1.length
  rw [List.take_length] at hn
  rw [hn]
  exact (List.take_prefix _ _).trans h1

/-! ### the writers' script of a snapshot (+ stream) transfer -/

/-- one follower session that takes the snapshot and then the stream, on the directory a fresh
    follower has: `rdbSync` = `DelRunId(x); SetRunId(x); NewRdbWriter(left, size)`, the chunks,
    `writer.Close()`; `Run` state 4 → `StartPoint` (`VerifyRunId`: `SetRunId(x)` again);
    `aofSync` = `NewAofWritter(a)`, the chunks. -/
def transferScript (x : String) (left size : Nat) (rchunks : List Bytes) (a : Nat) (achunks : List Bytes) :
    List DOp :=
  [.delRunId, .setRunId x, .newRdbWriter left size] ++ rchunks.map DOp.rdbAppend ++
    ([.rdbClose, .setRunId x, .newAofWriter a] ++ achunks.map DOp.aofAppend)

/-- the directory state while / after the snapshot chunks are written: nothing but the snapshot,
    `n` bytes of the `total` still to come -/
structure SnapSt (x : String) (left size total : Nat) (s : Disk) (n : Nat) : Prop where
  segs : s.segs = []
  live : s.live = none
  rid : s.runId = x
  rdb : ∃ r, s.rdb = some r ∧ r.left = left ∧ r.size = size ∧
    (r.writing = true → r.data.length + n = total ∧ total ≤ size) ∧ (r.writing = false → size ≤ total)

theorem snapSt_step {x : String} {left size total : Nat} {s : Disk} {n : Nat} (c : Bytes) (hc : c ≠ [])
    (hs : SnapSt x left size total s (c.length + n)) :
    s.okOp (.rdbAppend c) ∧ SnapSt x left size total (s.step (.rdbAppend c)).1 n := by
  obtain ⟨hsegs, hlive, hrid, r, hr, hl, hsz, hw, hnw⟩ := hs
  refine ⟨⟨hc, ?_⟩, ?_⟩
  · rw [hr]; intro hwr; have := hw hwr; omega
  · simp only [Disk.step, hr]
    by_cases hwr : r.writing = true
    · simp only [hwr, if_true]
      have hh := hw hwr
      split
      · next hfull =>
        refine ⟨hsegs, hlive, hrid, _, rfl, hl, hsz, by simp, ?_⟩
        intro _
        simp only [List.length_append] at hfull
        omega
      · refine ⟨hsegs, hlive, hrid, _, rfl, hl, hsz, ?_, ?_⟩
        · intro _; simp only [List.length_append]; omega
        · intro hf; simp at hf
    · simp only [hwr]
      refine ⟨hsegs, hlive, hrid, r, hr, hl, hsz, fun hf => absurd hf hwr, ?_⟩
      intro _
      exact hnw (by simpa using hwr)

theorem snapSt_run {x : String} {left size total : Nat} :
    ∀ (chunks : List Bytes) (s : Disk), (∀ c ∈ chunks, c ≠ []) →
      SnapSt x left size total s chunks.flatten.length →
      s.wf (chunks.map DOp.rdbAppend) ∧ SnapSt x left size total (s.run (chunks.map DOp.rdbAppend)) 0
  | [], s, _, hs => ⟨trivial, by simpa [Disk.run] using hs⟩
  | c :: rest, s, hne, hs => by
    have h1 := snapSt_step (n := rest.flatten.length) c (hne c (by simp))
      (by simpa [List.flatten_cons, List.length_append] using hs)
    have h2 := snapSt_run rest _ (fun c' hc' => hne c' (List.mem_cons_of_mem _ hc')) h1.2
    exact ⟨⟨h1.1, h2.1⟩, h2.2⟩

theorem srcOk_append (src : Nat → UInt8) : ∀ (a b : List DOp) (s : Disk),
    SrcOk src s (a ++ b) ↔ SrcOk src s a ∧ SrcOk src (s.run a) b
  | [], b, s => by simp [SrcOk, Disk.run]
  | op :: a, b, s => by
    simp only [List.cons_append, SrcOk, Disk.run]
    rw [srcOk_append src a b]
    exact and_assoc.symm

theorem rdbAppends_srcOk (src : Nat → UInt8) : ∀ (chunks : List Bytes) (s : Disk),
    SrcOk src s (chunks.map DOp.rdbAppend)
  | [], _ => trivial
  | _ :: rest, _ => ⟨trivial, rdbAppends_srcOk src rest _⟩

/-- the part of the script after the snapshot chunks: `Close; SetRunId x; NewAofWritter(a)`, the
    stream chunks — from any state `SnapSt … 0` -/
theorem streamPart_ok (h : Hist UInt8) {x : String} (hx : x ≠ "") {left size total : Nat} {s : Disk}
    (hs : SnapSt x left size total s 0) (a : Nat) (ha : a = left ∨ total < size)
    (achunks : List Bytes) (hne : ∀ c ∈ achunks, c ≠ [])
    (hp : achunks.flatten = hseg h x a achunks.flatten.length) :
    s.wf ([.rdbClose, .setRunId x, .newAofWriter a] ++ achunks.map DOp.aofAppend) ∧
      SrcOk (fun o => h.byte x o) s ([.rdbClose, .setRunId x, .newAofWriter a] ++ achunks.map DOp.aofAppend) := by
  obtain ⟨hsegs, hlive, hrid, r, hr, hl, hsz, hw, hnw⟩ := hs
  -- the state after `rdbClose`
  have hc : ∃ s1 : Disk, (s.step .rdbClose).1 = s1 ∧ s1.segs = [] ∧ s1.live = none ∧ s1.runId = x ∧
      (∀ r1, s1.rdb = some r1 → a = r1.left) := by
    refine ⟨_, rfl, ?_⟩
    simp only [Disk.step, hr]
    by_cases hwr : r.writing = true
    · simp [hwr, hsegs, hlive, hrid]
    · simp only [hwr]
      refine ⟨hsegs, hlive, hrid, ?_⟩
      intro r1 hr1
      simp only [Bool.false_eq_true, if_false] at hr1
      rw [hr] at hr1
      cases hr1
      rcases ha with ha | ha
      · rw [ha, hl]
      · have := hnw (by simpa using hwr); omega
  obtain ⟨s1, hs1, hsegs1, hlive1, hrid1, hrdb1⟩ := hc
  have hs2 : (s1.step (.setRunId x)).1 = s1 := by
    simp [Disk.step, hrid1, hx]
  have hlr : lastRight s1.closeLive.segs = none := by
    simp [Disk.closeLive, hlive1, hsegs1, lastRight]
  have hs3 : ((s1.step (.newAofWriter a)).1.live.isSome = true) ∧ (s1.step (.newAofWriter a)).1.hbase = a ∧
      (s1.step (.newAofWriter a)).1.hist = [] := by
    simp [Disk.step, Disk.closeLive, hlive1, hsegs1, lastRight]
  refine ⟨⟨trivial, ?_, ?_, ?_⟩, trivial, trivial, trivial, ?_⟩
  · rw [hs1]; intro _ hne'; exact absurd hrid1.symm hne'
  · rw [hs1, hs2]
    show match lastRight s1.closeLive.segs, s1.rdb with
      | some r, _ => a = r | none, some rd => a = rd.left | none, none => True
    rw [hlr]
    cases hrd : s1.rdb with
    | none => trivial
    | some r1 => exact hrdb1 r1 hrd
  · rw [hs1, hs2]; exact appends_wf achunks hne _
  · rw [hs1, hs2]
    exact appends_srcOk_hseg h x achunks _ hs3.1 (by rw [hs3.2.1, hs3.2.2]; exact hp)

/-- The writers' calls of a session that takes the snapshot and then the stream, in a process whose
    index carries the id `x`: `NewRdbWriter(left, size)` (which resets the data set), the chunks,
    `Close`, `SetRunId(x)` again, `NewAofWritter(a)`, the chunks. C08's callers' protocol and `SrcOk`
    hold for them on ANY such index, for EVERY chunking of a prefix of the snapshot (complete or not)
    and of the stream. `a` is where the stream writer is opened: the snapshot's offset — or anywhere
    when the snapshot did not complete (nothing is held then). -/
theorem snapOps_wf_srcOk (h : Hist UInt8) (d0 : Disk) (x : String) (hid : d0.runId = x) (hx : x ≠ "")
    (left size : Nat) (hsz : 0 < size) (rchunks : List Bytes) (hrne : ∀ c ∈ rchunks, c ≠ [])
    (hfit : rchunks.flatten.length ≤ size) (a : Nat) (ha : a = left ∨ rchunks.flatten.length < size)
    (achunks : List Bytes) (hane : ∀ c ∈ achunks, c ≠ [])
    (hp : achunks.flatten = hseg h x a achunks.flatten.length) :
    d0.wf ([.newRdbWriter left size] ++ rchunks.map DOp.rdbAppend ++
        ([.rdbClose, .setRunId x, .newAofWriter a] ++ achunks.map DOp.aofAppend)) ∧
      SrcOk (fun o => h.byte x o) d0 ([.newRdbWriter left size] ++ rchunks.map DOp.rdbAppend ++
        ([.rdbClose, .setRunId x, .newAofWriter a] ++ achunks.map DOp.aofAppend)) := by
  have h0 : SnapSt x left size rchunks.flatten.length (d0.run [.newRdbWriter left size])
      rchunks.flatten.length := by
    refine ⟨?_, ?_, ?_, _, rfl, rfl, rfl, fun _ => ⟨by simp, hfit⟩, fun hf => by simp at hf⟩ <;>
      simp [Disk.run, Disk.step, Disk.reset, hid]
  have h1 := snapSt_run rchunks _ hrne h0
  have h2 := streamPart_ok h hx h1.2 a ha achunks hane hp
  refine ⟨?_, ?_⟩
  · rw [Disk.wf_append, Disk.wf_append, Disk.run_append]
    exact ⟨⟨⟨hsz, trivial⟩, h1.1⟩, h2.1⟩
  · rw [srcOk_append, srcOk_append, Disk.run_append]
    exact ⟨⟨⟨trivial, trivial⟩, rdbAppends_srcOk _ _ _⟩, h2.2⟩

/-- **transfer_script_wf / transfer_script_srcOk.** C08's callers' protocol and `SrcOk` hold for
    the script of a snapshot (+ stream) transfer into the empty directory of a fresh follower:
    `DelRunId; SetRunId x`, then `snapOps_wf_srcOk`. -/
theorem transfer_script_wf_srcOk (h : Hist UInt8) (l m : Nat) (x : String) (hx : x ≠ "") (left size : Nat)
    (hsz : 0 < size) (rchunks : List Bytes) (hrne : ∀ c ∈ rchunks, c ≠ [])
    (hfit : rchunks.flatten.length ≤ size) (a : Nat) (ha : a = left ∨ rchunks.flatten.length < size)
    (achunks : List Bytes) (hane : ∀ c ∈ achunks, c ≠ [])
    (hp : achunks.flatten = hseg h x a achunks.flatten.length) :
    (Disk.init l m).wf (transferScript x left size rchunks a achunks) ∧
      SrcOk (fun o => h.byte x o) (Disk.init l m) (transferScript x left size rchunks a achunks) := by
  have hd := snapOps_wf_srcOk h ((Disk.init l m).run [.delRunId, .setRunId x]) x
    (by simp [Disk.run, Disk.step, Disk.init, Disk.reset]) hx left size hsz rchunks hrne hfit a ha achunks hane hp
  exact ⟨⟨trivial, by simp [Disk.okOp, Disk.step, Disk.init], hd.1⟩, trivial, trivial, hd.2⟩

theorem snapSrcOk_noSnap {h : Hist UInt8} {id : Replica.Id} : ∀ (ops : List DOp) (g : RecvG),
    (∀ op ∈ ops, (∀ o s, op ≠ .newRdbWriter o s) ∧ (∀ c, op ≠ .rdbAppend c)) → SnapSrcOkFrom h id g ops
  | [], _, _ => trivial
  | op :: rest, g, hno => by
    refine ⟨?_, snapSrcOk_noSnap rest _ (fun o ho => hno o (List.mem_cons_of_mem _ ho))⟩
    have := hno op (by simp)
    cases op with
    | newRdbWriter o s => exact absurd rfl (this.1 o s)
    | rdbAppend c => exact absurd rfl (this.2 c)
    | _ => trivial

theorem rdbAppends_snapSrcOk {h : Hist UInt8} {id : Replica.Id} : ∀ (chunks : List Bytes) (g : RecvG),
    (∀ y, g.cur = some y → y.receiving = true → (y.bytes ++ chunks.flatten) <+: h.snap id y.left) →
      SnapSrcOkFrom h id g (chunks.map DOp.rdbAppend)
  | [], _, _ => trivial
  | c :: rest, g, hg => by
    obtain ⟨r, cur⟩ := g
    refine ⟨?_, rdbAppends_snapSrcOk rest _ ?_⟩
    · cases cur with
      | none => trivial
      | some y =>
        intro hr
        have := hg y rfl hr
        simp only [List.flatten_cons, ← List.append_assoc] at this
        exact (List.prefix_append _ _).trans this
    · cases cur with
      | none => intro y hy; simp [recvStep] at hy
      | some y0 =>
        intro y hy hry
        by_cases hr : y0.receiving = true
        · simp only [recvStep, hr, if_true, Option.some.injEq] at hy
          subst hy
          have := hg y0 rfl hr
          simpa [List.flatten_cons, List.append_assoc] using this
        · simp only [recvStep, hr] at hy
          simp only [Option.some.injEq, Bool.false_eq_true, if_false] at hy
          subst hy
          exact absurd hry hr

/-- `SnapSrcOkFrom` for those calls from ANY ghost (a new snapshot writer forgets what was received
    before): the writer is created with the snapshot's size and is handed a prefix of it (what
    `session_snapshot_payload_is_history` says of every session against a faithful leader). -/
theorem snapOps_snapSrcOk (h : Hist UInt8) (x : String) (g0 : RecvG) (left size : Nat)
    (hsz : size = (h.snap x left).length) (rchunks : List Bytes) (hpre : rchunks.flatten <+: h.snap x left)
    (a : Nat) (achunks : List Bytes) :
    SnapSrcOkFrom h x g0 ([.newRdbWriter left size] ++ rchunks.map DOp.rdbAppend ++
      ([.rdbClose, .setRunId x, .newAofWriter a] ++ achunks.map DOp.aofAppend)) := by
  rw [snapSrcOkFrom_append, snapSrcOkFrom_append]
  refine ⟨⟨⟨hsz, trivial⟩, ?_⟩, ?_⟩
  · apply rdbAppends_snapSrcOk
    intro y hy _
    simp only [List.foldl_cons, List.foldl_nil, recvStep, Option.some.injEq] at hy
    subst hy
    simpa using hpre
  · apply snapSrcOk_noSnap
    intro op ho
    simp only [List.cons_append, List.nil_append, List.mem_cons, List.mem_map] at ho
    rcases ho with rfl | rfl | rfl | ⟨c, _, rfl⟩ <;>
      exact ⟨fun _ _ hh => DOp.noConfusion hh, fun _ hh => DOp.noConfusion hh⟩

/-- **transfer_script_snapSrcOk.** … and `SnapSrcOk`. -/
theorem transfer_script_snapSrcOk (h : Hist UInt8) (x : String) (left size : Nat)
    (hsz : size = (h.snap x left).length) (rchunks : List Bytes) (hpre : rchunks.flatten <+: h.snap x left)
    (a : Nat) (achunks : List Bytes) : SnapSrcOk h x (transferScript x left size rchunks a achunks) :=
  ⟨trivial, trivial, snapOps_snapSrcOk h x _ left size hsz rchunks hpre a achunks⟩

/-- **snapshot_transfer_crash_image_faithful.** A fresh follower takes history `x`'s snapshot at
    `left` (any chunking of any prefix of it: the transfer may be cut anywhere) and then the stream
    from `a` (the snapshot's offset; anywhere when the snapshot did not complete), and is KILLED
    at any instant: `n` file operations issued, the last append torn after `k` bytes — the
    temporary snapshot half written, all of it written but not yet renamed, committed, the stream
    segment torn, a rotation half done. What the next process re-opens is a faithful copy of
    history `x`: stream bytes at their offsets, and a snapshot only when it is the complete
    history's snapshot. C08's theorems applied with C16's own conclusions as `SrcOk` AND
    `SnapRecvOk`: nothing is assumed about the script. -/
theorem snapshot_transfer_crash_image_faithful (h : Hist UInt8) (l m : Nat) (x : String) (hx : x ≠ "")
    (left : Nat) (hsz : 0 < (h.snap x left).length) (rchunks : List Bytes) (hrne : ∀ c ∈ rchunks, c ≠ [])
    (hpre : rchunks.flatten <+: h.snap x left) (a : Nat)
    (ha : a = left ∨ rchunks.flatten.length < (h.snap x left).length)
    (achunks : List Bytes) (hane : ∀ c ∈ achunks, c ≠ [])
    (hp : achunks.flatten = hseg h x a achunks.flatten.length) (n k : Nat) :
    ∀ d, dataOfReopened (crashImage [] (scriptOps (Disk.init l m)
        (transferScript x left (h.snap x left).length rchunks a achunks)) n k) = some d →
      d.Faithful h x :=
  let w := transfer_script_wf_srcOk h l m x hx left _ hsz rchunks hrne hpre.length_le a ha achunks hane hp
  crash_image_data_faithful h x l m _ w.1 w.2
    (snapRecvOk_of_snapSrcOk h x _ (transfer_script_snapSrcOk h x left _ rfl rchunks hpre a achunks)) n k

/-! ### non-vacuity -/

section examples
/-- stream byte at `o` is `o`, every snapshot is `[7, 8, 9]` -/
def hSn : Hist UInt8 := ⟨fun _ o => UInt8.ofNat o, fun _ _ => [7, 8, 9]⟩

def exT : List DOp := transferScript "idA" 100 3 [[7], [8, 9]] 100 [[100, 101], [102]]

example : SnapSrcOk hSn "idA" exT :=
  transfer_script_snapSrcOk hSn "idA" 100 3 (by decide) [[7], [8, 9]] (by decide) 100 _
example : (Disk.init 20 0).wf exT := by decide +kernel
-- a chunk that is not the snapshot's is rejected by `SnapSrcOk`
example : ¬ SnapSrcOk hSn "idA" (transferScript "idA" 100 3 [[7], [9, 9]] 100 []) := by
  intro hs
  have := snapRecvOk_of_snapSrcOk _ _ _ hs 5 100 3 [7, 9, 9] (by decide) (by decide) (by decide)
  revert this; decide
-- killed when 2 of the 3 snapshot bytes are in the temporary file: nothing is re-opened
example : dataOfReopened (crashImage [] (scriptOps (Disk.init 20 0) exT) 3 1) = none := by decide +kernel
-- killed after the last snapshot byte but BEFORE the rename: nothing either
example : dataOfReopened (crashImage [] (scriptOps (Disk.init 20 0) exT) 3 2) = none := by decide +kernel
-- killed after the rename: the snapshot; at the end: snapshot + stream
example : dataOfReopened (crashImage [] (scriptOps (Disk.init 20 0) exT) 4 0) = some ⟨100, [], some [7, 8, 9]⟩ := by decide +kernel
example : dataOfReopened (crashImage [] (scriptOps (Disk.init 20 0) exT) 99 9) =
    some ⟨100, [100, 101, 102], some [7, 8, 9]⟩ := by decide +kernel
-- the theorem applied: every crash instant of the script re-opens faithfully
example (n k : Nat) : ∀ d, dataOfReopened (crashImage [] (scriptOps (Disk.init 20 0) exT) n k) = some d →
    d.Faithful hSn "idA" :=
  snapshot_transfer_crash_image_faithful hSn 20 0 "idA" (by decide) 100 (by decide) [[7], [8, 9]] (by decide)
    (by decide) 100 (Or.inl rfl) [[100, 101], [102]] (by decide) (by decide) n k
-- an interrupted snapshot (1 of 3 bytes), then the stream from the leader's newest offset 500
example (n k : Nat) : ∀ d, dataOfReopened (crashImage [] (scriptOps (Disk.init 20 0)
    (transferScript "idA" 100 3 [[7]] 500 [[244, 245]])) n k) = some d → d.Faithful hSn "idA" :=
  snapshot_transfer_crash_image_faithful hSn 20 0 "idA" (by decide) 100 (by decide) [[7]] (by decide)
    (by decide) 500 (Or.inr (by decide)) [[244, 245]] (by decide) (by decide) n k
end examples

end GunYu.Props.C16
