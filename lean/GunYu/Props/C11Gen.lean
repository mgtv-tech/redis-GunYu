/-
  C11 — the REGENERATED definitions of digest.Crc16, redis.KeyToSlot and the
  cluster client's `hash` (lean/GunYu/Gen/Fn{Crc16,KeyToSlot,ClusterHash}.lean,
  translated from /repo's Go source on every run by harness/extract/gofn*.go)
  equal the hand-written models of Model/Slot.lean for every key, hence
  HASH_SLOT. Side condition: `len(key) < 2^63-1` (Go's `int` index arithmetic
  then never wraps; a Go string is at most one byte longer).
  When the Go source changes, the generated file changes and these proofs must
  still go through.
-/
import GunYu.Model.Slot
import GunYu.Proofs.Crc16
import GunYu.Proofs.SlotScan
import GunYu.Props.C11
import GunYu.Gen.FnCrc16
import GunYu.Gen.FnKeyToSlot
import GunYu.Gen.FnClusterHash

namespace GunYu.Props.C11
open GunYu GunYu.Slot GunYu.Gen

theorem addI_nat (i : Nat) (h : i < 9223372036854775807) :
    GoSem.addI (i : Int) (1 : Int) = ((i + 1 : Nat) : Int) := by
  unfold GoSem.addI
  rw [GoSem.wrap64_eq] <;> omega

theorem index_nat {α : Type} (s : List α) (i : Nat) (h : i < s.length) :
    GoSem.index s (i : Int) = some s[i] := by
  unfold GoSem.index
  simp [h]

theorem lt_len_iff {α : Type} (s : List α) (i : Nat) : ((i : Int) < GoSem.len s) ↔ i < s.length := by
  unfold GoSem.len; omega

theorem drop_cons {α : Type} {s : List α} {i : Nat} {a : α} {rest : List α} (h : s.drop i = a :: rest) :
    ∃ hlt : i < s.length, s[i] = a ∧ s.drop (i + 1) = rest := by
  have hlt : i < s.length := by
    apply Decidable.by_contra; intro hc
    rw [List.drop_eq_nil_of_le (by omega)] at h; cases h
  rw [List.drop_eq_getElem_cons hlt] at h
  exact ⟨hlt, List.cons.inj h⟩

/-- the header `if i < len(s) { x := s[i]; … } else { … }` of a translated loop, read on what is left of `s` -/
theorem loop_header {α β : Type} (s : List α) (i : Nat) (body : α → Option β) (done : Option β) :
    (if (i : Int) < GoSem.len s then GoSem.index s (i : Int) >>= body else done) =
      match s.drop i with
      | [] => done
      | a :: _ => body a := by
  by_cases hlt : i < s.length
  · rw [if_pos ((lt_len_iff s i).2 hlt), index_nat s i hlt, List.drop_eq_getElem_cons hlt]; rfl
  · rw [if_neg (fun h => hlt ((lt_len_iff s i).1 h)), List.drop_eq_nil_of_le (by omega)]

/-- one more decimal digit in 64-bit `int` arithmetic: nothing wraps while at most 18 digits are read -/
theorem decimal_step (v i : Nat) (b : UInt8) (hv : v < 10 ^ i) (hi : i < 18) (h48 : 48 ≤ b) (h57 : b ≤ 57) :
    GoSem.mulI (v : Int) 10 = ((v * 10 : Nat) : Int) ∧
    GoSem.addI ((v * 10 : Nat) : Int) (GoSem.u8toI (b - 48)) = ((v * 10 + (b.toNat - 48) : Nat) : Int) ∧
    v * 10 + (b.toNat - 48) < 10 ^ (i + 1) := by
  have hp : 10 ^ (i + 1) ≤ 10 ^ 18 := Nat.pow_le_pow_right (by decide) hi
  have h18 : (10 : Nat) ^ 18 = 1000000000000000000 := by decide +kernel
  have hbn : 48 ≤ b.toNat := UInt8.le_iff_toNat_le.mp h48
  have hbm : b.toNat ≤ 57 := UInt8.le_iff_toNat_le.mp h57
  have hsub : (b - 48).toNat = b.toNat - 48 := UInt8.toNat_sub_of_le _ _ h48
  rw [Nat.pow_succ] at hp ⊢
  unfold GoSem.addI GoSem.mulI GoSem.u8toI GoSem.wrap64
  rw [hsub]
  omega

theorem table_size : Gen.crc16Table.size = 256 := by decide +kernel

theorem arrIdx_table (n : Nat) (h : n < 256) :
    GoSem.arrIdx Gen.crc16Table n = some (Gen.crc16Table.getD n 0#16) := by
  unfold GoSem.arrIdx
  have : n < Gen.crc16Table.size := by rw [table_size]; exact h
  simp [Array.getD, this]

theorem gen_crc16_loop (buf : Bytes) (hlen : buf.length < 9223372036854775807) :
    ∀ (fuel i : Nat) (crc : BitVec 16), i ≤ buf.length → buf.length - i < fuel →
      Fn.crc16_loop1 buf fuel crc (i : Int) = some ((buf.drop i).foldl tabStep crc) := by
  intro fuel
  induction fuel with
  | zero => intro i crc _ h; omega
  | succ fuel ih =>
    intro i crc hi hf
    rw [Fn.crc16_loop1, loop_header]
    cases hd : buf.drop i with
    | nil => rfl
    | cons b rest =>
      obtain ⟨hlt, _, hr⟩ := drop_cons hd
      simp only [bind, arrIdx_table _ (and_mask_toNat_lt _), Option.bind_some]
      rw [addI_nat i (by omega), ih (i + 1) _ (by omega) (by omega), hr]
      rfl

/-- the regenerated `digest.Crc16` is the table-driven model, for every string -/
theorem gen_crc16_eq_model (buf : Bytes) (hlen : buf.length < 9223372036854775807) :
    Fn.crc16 buf = some (crc16Tab buf) := by
  unfold Fn.crc16
  have h := gen_crc16_loop buf hlen ((GoSem.len buf - (0 : Int)).toNat + 1) 0 0#16 (by omega)
    (by unfold GoSem.len; omega)
  simp only [Int.ofNat_zero, Int.sub_zero, List.drop_zero] at h
  simp [h, crc16Tab]

theorem slice_nat {α : Type} (s : List α) (a b : Nat) (h : a ≤ b) (hb : b ≤ s.length) :
    GoSem.slice s (a : Int) (b : Int) = some ((s.drop a).take (b - a)) := by
  unfold GoSem.slice GoSem.len
  have h1 : (0 : Int) ≤ (a : Int) ∧ (a : Int) ≤ (b : Int) ∧ (b : Int) ≤ (s.length : Int) := by omega
  have h2 : ((b : Int) - (a : Int)).toNat = b - a := by omega
  simp only [h1, and_self, ↓reduceIte, Int.toNat_natCast, h2]

/-- inner loop (scan for the first `}` from k > i): the tag is key[i+1:k] followed by the
    bytes before the first `}` at or after k; untouched when there is none -/
theorem gen_kts_loop2 (key : Bytes) (hlen : key.length < 9223372036854775807) (i : Nat) :
    ∀ (fuel k : Nat) (h : Bytes), i + 1 ≤ k → k ≤ key.length → key.length - k < fuel →
      Fn.keyToSlot_loop2 key (i : Int) fuel h (k : Int) =
        some (match splitFirst rbrace (key.drop k) with
              | none => h
              | some p => (key.drop (i + 1)).take (k - (i + 1)) ++ p.1) := by
  intro fuel
  induction fuel with
  | zero => intro k h _ _ hf; omega
  | succ fuel ih =>
    intro k h hik hk hf
    rw [Fn.keyToSlot_loop2, loop_header]
    cases hd : key.drop k with
    | nil => rfl
    | cons b rest =>
      obtain ⟨hlt, hbk, hr⟩ := drop_cons hd
      dsimp only
      by_cases hb : b = (125 : UInt8)
      · rw [if_pos hb, addI_nat i (by omega), slice_nat key (i + 1) k hik (by omega),
          splitFirst_cons_eq rbrace _ _ hb]
        simp [pure]
      · rw [if_neg hb, addI_nat k (by omega), ih (k + 1) h (by omega) (by omega) (by omega), hr,
          splitFirst_cons_ne rbrace _ _ hb]
        cases splitFirst rbrace rest with
        | none => rfl
        | some p =>
          have e1 : k + 1 - (i + 1) = (k - (i + 1)) + 1 := by omega
          have e2 : k - (i + 1) < (key.drop (i + 1)).length := by simp; omega
          have e3 : (key.drop (i + 1))[k - (i + 1)] = b := by
            rw [← hbk, List.getElem_drop]
            congr 1; omega
          rw [Option.map_some, e1, List.take_succ_eq_append_getElem e2, e3]
          simp

/-- the inner loop starts ON the `{` (k = i), which is not a `}` -/
theorem gen_kts_loop2_first (key : Bytes) (hlen : key.length < 9223372036854775807) (i : Nat)
    (hlt : i < key.length) (hb : key[i] = (123 : UInt8)) (fuel : Nat) (h : Bytes)
    (hf : key.length - (i + 1) < fuel) :
    Fn.keyToSlot_loop2 key (i : Int) (fuel + 1) h (i : Int) =
      some (match splitFirst rbrace (key.drop (i + 1)) with
            | none => h
            | some p => p.1) := by
  rw [Fn.keyToSlot_loop2, loop_header, List.drop_eq_getElem_cons hlt, hb]
  dsimp only
  rw [if_neg (by decide), addI_nat i (by omega), gen_kts_loop2 key hlen i fuel (i + 1) h (by omega) (by omega) hf]
  simp only [Nat.sub_self, List.take_zero, List.nil_append]

theorem gen_kts_loop1 (key : Bytes) (hlen : key.length < 9223372036854775807) :
    ∀ (fuel i : Nat) (h : Bytes), i ≤ key.length → key.length - i < fuel →
      Fn.keyToSlot_loop1 key fuel h (i : Int) = some (ktsTagFrom h (key.drop i)) := by
  intro fuel
  induction fuel with
  | zero => intro i h _ hf; omega
  | succ fuel ih =>
    intro i h hi hf
    rw [Fn.keyToSlot_loop1, loop_header]
    cases hd : key.drop i with
    | nil => rfl
    | cons b rest =>
      obtain ⟨hlt, hbi, hr⟩ := drop_cons hd
      dsimp only
      unfold ktsTagFrom
      by_cases hb : b = (123 : UInt8)
      · -- the first iteration of the inner loop sits on the `{` itself
        rw [if_pos hb, gen_kts_loop2_first key hlen i hlt (hbi.trans hb) _ h (by unfold GoSem.len; omega), hr,
          splitFirst_cons_eq lbrace _ _ hb]
        rfl
      · rw [if_neg hb, addI_nat i (by omega), ih (i + 1) h (by omega) (by omega), hr,
          splitFirst_cons_ne lbrace _ _ hb]
        unfold ktsTagFrom
        cases splitFirst lbrace rest <;> rfl

/-- the slot as a 16-bit value, as the model computes it -/
def keyToSlotBV (k : Bytes) : BitVec 16 :=
  if (ktsOuter k).length > 0 then crc16Tab (ktsOuter k) &&& 0x3fff#16 else crc16Tab k &&& 0x3fff#16

theorem keyToSlotBV_toNat (k : Bytes) : (keyToSlotBV k).toNat = keyToSlot k := by
  unfold keyToSlotBV keyToSlot
  simp only
  split <;> rfl

theorem take_length_le {α : Type} (n : Nat) (l : List α) : (l.take n).length ≤ l.length := by
  simp [List.length_take]; omega

theorem gen_keyToSlot_eq_bv (k : Bytes) (hlen : k.length < 9223372036854775807) :
    Fn.keyToSlot k = some (keyToSlotBV k) := by
  unfold Fn.keyToSlot
  have h := gen_kts_loop1 k hlen ((GoSem.len k).toNat + 1) 0 [] (by omega) (by unfold GoSem.len; omega)
  simp only [Int.ofNat_zero, List.drop_zero, ← ktsOuter_spec] at h
  simp only [bind, h, Option.bind_some]
  unfold keyToSlotBV
  have hl : (GoSem.len (ktsOuter k) > (0 : Int)) ↔ (ktsOuter k).length > 0 := by unfold GoSem.len; omega
  by_cases hp : (ktsOuter k).length > 0
  · have hp' := hl.2 hp
    have := ktsOuter_length_le k
    simp only [hp, hp', ↓reduceIte]
    rw [gen_crc16_eq_model _ (by omega)]
    rfl
  · have hp' : ¬ (GoSem.len (ktsOuter k) > (0 : Int)) := fun h => hp (hl.1 h)
    simp only [hp, hp', ↓reduceIte]
    rw [gen_crc16_eq_model _ hlen]
    rfl

theorem gen_keyToSlot_eq_model (k : Bytes) (hlen : k.length < 9223372036854775807) :
    (Fn.keyToSlot k).map BitVec.toNat = some (keyToSlot k) := by
  rw [gen_keyToSlot_eq_bv k hlen, Option.map_some, keyToSlotBV_toNat]

/-- C11's main theorem, directly about the definition regenerated from slot.go -/
theorem gen_keyToSlot_eq_hashSlotSpec (k : Bytes) (hlen : k.length < 9223372036854775807) :
    (Fn.keyToSlot k).map BitVec.toNat = some (hashSlotSpec k) := by
  rw [gen_keyToSlot_eq_model k hlen, keyToSlot_eq_spec]

/-- a translated loop `L` that moves `e` forward to the first byte `c` of `key`, or to its end -/
theorem gen_scan_loop (key : Bytes) (hlen : key.length < 9223372036854775807) (c : UInt8)
    (L : Nat → Int → Option Int)
    (hL : ∀ (fuel : Nat) (e : Int), L (fuel + 1) e =
      if e < GoSem.len key then GoSem.index key e >>= fun b => if b = c then some e else L fuel (GoSem.addI e 1)
      else some e) :
    ∀ (fuel e : Nat), e ≤ key.length → key.length - e < fuel →
      L fuel (e : Int) = some (((e + scanFor c (key.drop e) : Nat)) : Int) := by
  intro fuel
  induction fuel with
  | zero => intro e _ hf; omega
  | succ fuel ih =>
    intro e he hf
    rw [hL, loop_header]
    cases hd : key.drop e with
    | nil => rfl
    | cons b rest =>
      obtain ⟨hlt, _, hr⟩ := drop_cons hd
      dsimp only
      by_cases hb : b = c
      · rw [if_pos hb, scanFor_cons_eq c _ _ hb]; rfl
      · rw [if_neg hb, addI_nat e (by omega), ih (e + 1) (by omega) (by omega), hr,
          scanFor_cons_ne c _ _ hb]
        congr 2; omega

/-- the slot as a 16-bit value, as the model of `hash` computes it -/
def clusterHashBV (k : Bytes) : BitVec 16 :=
  let s := scanFor lbrace k
  if s = k.length then crc16Tab k &&& 16383#16
  else
    let e := s + 1 + scanFor rbrace (k.drop (s + 1))
    if e = k.length ∨ e = s + 1 then crc16Tab k &&& 16383#16
    else crc16Tab ((k.drop (s + 1)).take (e - (s + 1))) &&& 16383#16

theorem clusterHashBV_toNat (k : Bytes) : (clusterHashBV k).toNat = clusterHash k := by
  unfold clusterHashBV clusterHash
  simp only
  split
  · rfl
  · split <;> rfl

theorem gen_clusterHash_eq_bv (k : Bytes) (hlen : k.length < 9223372036854775807) :
    Fn.clusterHash k = some (clusterHashBV k) := by
  unfold Fn.clusterHash
  have h1 := gen_scan_loop k hlen lbrace (Fn.clusterHash_loop1 k) (fun _ _ => rfl)
    ((GoSem.len k - (0 : Int)).toNat + 1) 0 (by omega) (by unfold GoSem.len; omega)
  simp only [Int.ofNat_zero, List.drop_zero, Nat.zero_add] at h1
  simp only [bind, h1, Option.bind_some]
  unfold clusterHashBV
  have hs := scanFor_le lbrace k
  generalize scanFor lbrace k = s at hs ⊢
  have hc : (((s : Nat) : Int) = GoSem.len k) ↔ s = k.length := by unfold GoSem.len; omega
  by_cases hsl : s = k.length
  · rw [if_pos (hc.2 hsl), if_pos hsl, gen_crc16_eq_model _ hlen]
    rfl
  · rw [if_neg (fun h => hsl (hc.1 h)), if_neg hsl]
    rw [addI_nat s (by omega)]
    have h2 := gen_scan_loop k hlen rbrace (Fn.clusterHash_loop2 k (s : Int)) (fun _ _ => rfl)
      ((GoSem.len k - ((s + 1 : Nat) : Int)).toNat + 1) (s + 1)
      (by omega) (by unfold GoSem.len; omega)
    simp only [h2, Option.bind_some]
    have he := scanFor_le rbrace (k.drop (s + 1))
    simp only [List.length_drop] at he
    generalize scanFor rbrace (k.drop (s + 1)) = d at he ⊢
    have hc2 : ((((s + 1 + d : Nat)) : Int) = GoSem.len k ∨ (((s + 1 + d : Nat)) : Int) = ((s + 1 : Nat) : Int)) ↔
        (s + 1 + d = k.length ∨ s + 1 + d = s + 1) := by unfold GoSem.len; omega
    by_cases hcase : s + 1 + d = k.length ∨ s + 1 + d = s + 1
    · rw [if_pos (hc2.2 hcase), if_pos hcase, gen_crc16_eq_model _ hlen]
      rfl
    · rw [if_neg (fun h => hcase (hc2.1 h)), if_neg hcase]
      rw [slice_nat k (s + 1) (s + 1 + d) (by omega) (by omega)]
      simp only [Option.bind_some]
      rw [gen_crc16_eq_model _ (by simp [List.length_take]; omega)]
      rfl

theorem gen_clusterHash_eq_model (k : Bytes) (hlen : k.length < 9223372036854775807) :
    (Fn.clusterHash k).map BitVec.toNat = some (clusterHash k) := by
  rw [gen_clusterHash_eq_bv k hlen, Option.map_some, clusterHashBV_toNat]

/-- C11's main theorem, directly about the definition regenerated from cluster.go -/
theorem gen_clusterHash_eq_hashSlotSpec (k : Bytes) (hlen : k.length < 9223372036854775807) :
    (Fn.clusterHash k).map BitVec.toNat = some (hashSlotSpec k) := by
  rw [gen_clusterHash_eq_model k hlen, clusterHash_eq_spec]

/-- the regenerated CRC is CRC16/XMODEM -/
theorem gen_crc16_eq_xmodem (buf : Bytes) (hlen : buf.length < 9223372036854775807) :
    Fn.crc16 buf = some (crc16Spec buf) := by
  rw [gen_crc16_eq_model buf hlen, crc16Tab_eq_xmodem]

/-- the two regenerated implementations agree on every key -/
theorem gen_keyToSlot_eq_gen_clusterHash (k : Bytes) (hlen : k.length < 9223372036854775807) :
    (Fn.keyToSlot k).map BitVec.toNat = (Fn.clusterHash k).map BitVec.toNat := by
  rw [gen_keyToSlot_eq_hashSlotSpec k hlen, gen_clusterHash_eq_hashSlotSpec k hlen]

/-! non-vacuity: the regenerated definitions evaluate (no panic, fuel suffices) -/
example : Fn.crc16 [49,50,51,52,53,54,55,56,57] = some 0x31C3#16 := by decide +kernel
example : (Fn.keyToSlot [123,97,125,123,98,125]).map BitVec.toNat = some 15495 := by decide +kernel
example : (Fn.clusterHash [123,97,125,123,98,125]).map BitVec.toNat = some 15495 := by decide +kernel
example : (Fn.keyToSlot [0xff, 0x7b, 0x7d]).map BitVec.toNat = some (hashSlotSpec [0xff, 0x7b, 0x7d]) := by decide +kernel

end GunYu.Props.C11
