/-
  C16 — discharging `hq` ("the leader's channel run id is never the literal `?`"), the
  hypothesis of `follower_prefix_of_leader`, `follower_contiguous`, `others_untouched`.

  Model: Model/ReplicaIdSrc.lean (where the id comes from: `GetRunIds`, `SendPSync`,
  `syncMeta`'s "correct run id"; what the input does to the channel: `ChanOp`).

  * DISK backend (`StoreChannel`): unconditional — `newRunId` ignores ""/"?" and `DelRunId`
    leaves "", so whatever the source reports, the storer's run id is never "?"
    (`leader_channel_id_never_q`, backend `.disk`, no hypothesis on the ids).
  * MEMORY backend: `SetRunId` stores what it is given, so the channel's id is "?" exactly if
    the source said so (`mem_channel_takes_any_id`); it is not under the hypothesis that the
    source's `master_replid` lines and the id field of its PSYNC reply are not "?" — in
    particular when they are 40 hexadecimal digits, as Redis generates them
    (`input_sets_no_q`, `replid_ne_q`). A source that answers `+FULLRESYNC ? 5` is outside the
    property (`q_source_is_adopted` shows what then happens: the leader announces "?").
-/
import GunYu.Model.ReplicaIdSrc
import GunYu.Proofs.Replica
import GunYu.Props.C16

namespace GunYu.Props.C16
open GunYu GunYu.Replica

theorem cutPrefix_some {p l r : Txt} (h : cutPrefix p l = some r) : l = p ++ r := by
  induction p generalizing l with
  | nil => simp [cutPrefix] at h; simp [h]
  | cons a p ih =>
    cases l with
    | nil => simp [cutPrefix] at h
    | cons c cs =>
      simp only [cutPrefix] at h
      split at h
      · next hac => rw [hac, ih h]; rfl
      · cases h

theorem pick_spec (key line id : Txt) : pick key line id = id ∨ line = key ++ pick key line id := by
  unfold pick
  cases hc : cutPrefix key line with
  | none => exact Or.inl rfl
  | some af => exact Or.inr (cutPrefix_some hc)

/-- **ids come verbatim from the INFO text**: each id `GetRunIds` returns is empty (no such
    line) or the text after the key on one of the lines of the reply -/
theorem runIdsOfLines_from_line (lines : List Txt) (acc : Txt × Txt) :
    ((runIdsOfLines lines acc).1 = acc.1 ∨ ∃ l ∈ lines, l = kReplid ++ (runIdsOfLines lines acc).1) ∧
    ((runIdsOfLines lines acc).2 = acc.2 ∨ ∃ l ∈ lines, l = kReplid2 ++ (runIdsOfLines lines acc).2) := by
  induction lines generalizing acc with
  | nil => exact ⟨Or.inl rfl, Or.inl rfl⟩
  | cons l rest ih =>
    obtain ⟨a1, a2⟩ := acc
    simp only [runIdsOfLines]
    have h := ih (pick kReplid l a1, pick kReplid2 l a2)
    constructor
    · rcases h.1 with h1 | ⟨l', hl', e⟩
      · rcases pick_spec kReplid l a1 with hp | hp
        · exact Or.inl (h1.trans hp)
        · exact Or.inr ⟨l, by simp, by rw [h1]; exact hp⟩
      · exact Or.inr ⟨l', List.mem_cons_of_mem _ hl', e⟩
    · rcases h.2 with h1 | ⟨l', hl', e⟩
      · rcases pick_spec kReplid2 l a2 with hp | hp
        · exact Or.inl (h1.trans hp)
        · exact Or.inr ⟨l, by simp, by rw [h1]; exact hp⟩
      · exact Or.inr ⟨l', List.mem_cons_of_mem _ hl', e⟩

theorem getRunIds_from_line (info : Txt) :
    ((getRunIds info).1 = [] ∨ ∃ l ∈ splitCRLF [] info, l = kReplid ++ (getRunIds info).1) ∧
    ((getRunIds info).2 = [] ∨ ∃ l ∈ splitCRLF [] info, l = kReplid2 ++ (getRunIds info).2) :=
  runIdsOfLines_from_line _ _

/-- **the PSYNC answer's id**: the id asked with (a bare `+CONTINUE`), or one of the
    space-separated fields of the reply line, verbatim -/
theorem parsePsync_id (reply asked : Txt) (off : Int) (a : PsyncAns)
    (h : parsePsync reply asked off = some a) : (a.full = false ∧ a.id = asked) ∨ a.id ∈ splitSp [] reply := by
  unfold parsePsync at h
  cases hs : splitSp [] reply with
  | nil => rw [hs] at h; cases h
  | cons x0 rest =>
    rw [hs] at h
    simp only at h
    split at h
    · cases rest with
      | nil => simp at h; subst h; exact Or.inl ⟨rfl, rfl⟩
      | cons x1 r =>
        simp only [Option.some.injEq] at h
        subst h
        by_cases hx : x1 = []
        · simp [hx]
        · simp [hx]
    · cases rest with
      | nil => cases h
      | cons x1 r =>
        cases r with
        | nil => cases h
        | cons x2 r2 =>
          simp only at h
          split at h
          · split at h
            · simp only [Option.some.injEq] at h; subst h; simp
            · cases h
          · cases h

/-- a replication id as Redis generates it: 40 hexadecimal digits -/
def IsReplId (v : Txt) : Prop := v.length = 40 ∧ ∀ c ∈ v, c.isDigit = true ∨ ('a' ≤ c ∧ c ≤ 'f')

theorem replid_ne_q {v : Txt} (h : IsReplId v) : v ≠ ['?'] ∧ v ≠ [] := by
  constructor <;> (intro e; have := h.1; rw [e] at this; simp at this)

/-- **the id the input hands to `channel.SetRunId` is not "?"** when the source's
    `master_replid` lines and the fields of its PSYNC reply are not — e.g. are `IsReplId`. (A
    missing `master_replid` line gives "", which `hq` allows: the follower refuses an empty id.) -/
theorem input_sets_no_q (info reply asked : Txt) (off : Int) (a : PsyncAns)
    (hinfo : ∀ l ∈ splitCRLF [] info, ∀ v, l = kReplid ++ v → v ≠ ['?'])
    (hrep : ['?'] ∉ splitSp [] reply)
    (hp : parsePsync reply asked off = some a) :
    chanIdOf (getRunIds info).1 a ≠ ['?'] := by
  unfold chanIdOf
  split
  · next hf =>
    rcases parsePsync_id reply asked off a hp with ⟨hnf, _⟩ | hm
    · rw [hf] at hnf; cases hnf
    · intro e; exact hrep (e ▸ hm)
  · rcases (getRunIds_from_line info).1 with h0 | ⟨l, hl, e⟩
    · rw [h0]; simp
    · exact hinfo l hl _ e

theorem txt_id_ne_q {t : Txt} (h : t ≠ ['?']) : String.ofList t ≠ "?" := by
  intro e
  apply h
  have := congrArg String.toList e
  simpa using this

/-! ### the channel under its input -/

theorem newRunIdDisk_cur_ne_q {β : Type} (F : Store β) (id : Id) (h : F.cur ≠ "?") :
    (newRunIdDisk F id).cur ≠ "?" := by
  unfold newRunIdDisk
  split
  · exact h
  · next hsp =>
    have : id ≠ "?" := by
      intro e; apply hsp; simp [special, e]
    split <;> exact this

theorem setRunId_disk_cur_ne_q {β : Type} (F : Store β) (id : Id) (h : F.cur ≠ "?") :
    (setRunId .disk F id).cur ≠ "?" := by
  simp only [setRunId]
  split
  · exact h
  · split
    · exact newRunIdDisk_cur_ne_q _ _ h
    · split
      · exact newRunIdDisk_cur_ne_q _ _ h
      · exact newRunIdDisk_cur_ne_q _ _ h

theorem delRunId_cur_ne_q {β : Type} (bk : Backend) (F : Store β) (id : Id) (h : F.cur ≠ "?") :
    (delRunId bk F id).cur ≠ "?" := by
  cases bk with
  | disk =>
    simp only [delRunId]
    split
    · exact h
    · split
      · simp
      · exact h
  | mem =>
    simp only [delRunId]
    split
    · exact h
    · simp

/-- `VerifyRunId` changes no directory; the id it leaves current is the one it found or one of
    the listed ids (not ""/"?") whose directory exists -/
theorem verifyRunId_spec {β : Type} (ids : List Id) (F : Store β) :
    (verifyRunId F ids).dirs = F.dirs ∧ ((verifyRunId F ids).cur = F.cur ∨
      ((verifyRunId F ids).cur ∈ ids ∧ special (verifyRunId F ids).cur = false ∧
        F.has (verifyRunId F ids).cur = true)) := by
  induction ids generalizing F with
  | nil => exact ⟨rfl, Or.inl rfl⟩
  | cons id rest ih =>
    -- `id` is passed over: the search goes on with the same store
    have skip : (verifyRunId F rest).dirs = F.dirs ∧ ((verifyRunId F rest).cur = F.cur ∨
        ((verifyRunId F rest).cur ∈ id :: rest ∧ special (verifyRunId F rest).cur = false ∧
          F.has (verifyRunId F rest).cur = true)) :=
      ⟨(ih F).1, (ih F).2.imp_right fun h => ⟨List.mem_cons_of_mem _ h.1, h.2⟩⟩
    simp only [verifyRunId]
    split
    · exact skip
    · next hsp =>
      split
      · exact skip
      · next v hv =>
        have hsp' : special id = false := by simpa using hsp
        have hh : F.has id = true := by simp [Store.has, hv]
        rw [setRunId_disk_has hsp' hh]
        split
        · obtain ⟨hd, hc⟩ := ih { F with cur := id }
          refine ⟨hd, Or.inr ?_⟩
          rcases hc with h | h
          · rw [h]; exact ⟨by simp, hsp', hh⟩
          · exact ⟨List.mem_cons_of_mem _ h.1, h.2⟩
        · exact ⟨rfl, Or.inr ⟨by simp, hsp', hh⟩⟩

theorem verifyRunId_cur_ne_q {β : Type} (ids : List Id) (F : Store β) (h : F.cur ≠ "?") :
    (verifyRunId F ids).cur ≠ "?" := by
  rcases (verifyRunId_spec ids F).2 with e | ⟨_, hs, _⟩
  · rw [e]; exact h
  · intro e; rw [e] at hs; exact absurd hs (by decide)

/-- the memory channel stores whatever id it is given (`mc.runId = runId`) -/
theorem mem_channel_takes_any_id {β : Type} (F : Store β) (id : Id) : (setRunId .mem F id).cur = id := rfl

/-- **leader_channel_id_never_q.** Whatever the leader's own input does to its channel —
    any list of `StartPoint(ids)`, `DelRunId(RunId())`, `SetRunId(id)` — the channel's run id
    is never "?": on the DISK backend for ANY ids (also "?": `newRunId` ignores it), on the
    MEMORY backend when no `SetRunId` is given "?". -/
theorem leader_channel_id_never_q {β : Type} (bk : Backend) (ops : List ChanOp) (F0 : Store β)
    (h0 : F0.cur ≠ "?") (hsrc : bk = .mem → ∀ id, ChanOp.set id ∈ ops → id ≠ "?") :
    (ops.foldl (chanStep bk) F0).cur ≠ "?" := by
  induction ops generalizing F0 with
  | nil => exact h0
  | cons op rest ih =>
    simp only [List.foldl_cons]
    apply ih
    · cases op with
      | startPoint ids =>
        cases bk with
        | disk => exact verifyRunId_cur_ne_q ids F0 h0
        | mem => exact h0
      | delOwn => exact delRunId_cur_ne_q bk F0 _ h0
      | set id =>
        cases bk with
        | disk => exact setRunId_disk_cur_ne_q F0 id h0
        | mem => exact hsrc rfl id (by simp)
    · intro hb id hid
      exact hsrc hb id (List.mem_cons_of_mem _ hid)

/-- **follower_prefix_of_leader with `hq` discharged**: the leader's channel run id, as the
    handshake reads it, is what a list of its input's channel operations left (`lops` on the
    leader's backend `lbk`, from a state whose id is not "?" — a new channel's is ""). On a
    disk leader nothing else is asked; on a memory leader, that the source never reported "?"
    (`input_sets_no_q`). -/
theorem follower_prefix_of_leader_src {β : Type} (h : Hist β) (bk : Backend) (V : Nat → View β)
    (F : Store β) (ch : List Nat) (cut : Nat) (lost : Loss) (fuel : Nat)
    (lbk : Backend) (lops : List ChanOp) (L0 : Store β) (h0 : L0.cur ≠ "?")
    (hcur : (V 0).l2b.cur = (lops.foldl (chanStep lbk) L0).cur)
    (hsrc : lbk = .mem → ∀ id, ChanOp.set id ∈ lops → id ≠ "?")
    (hL : ∀ n, (V n).l4.Faithful h) (hwf : WF bk F) (id : Id) (hF : FaithfulAt h F.dirs id) :
    FaithfulAt h (sessionV bk V F ch cut lost fuel).store.dirs id ∧
      WF bk (sessionV bk V F ch cut lost fuel).store :=
  follower_prefix_of_leader h bk V F ch cut lost fuel hL
    (hcur ▸ leader_channel_id_never_q lbk lops L0 h0 hsrc) hwf id hF

/-! ### non-vacuity -/

section examples

def infoEx : Txt := ("role:master\r\nmaster_replid:8f3a0c1d2e4b5a69788796a5b4c3d2e1f0a1b2c3\r\n" ++
  "master_replid2:0000000000000000000000000000000000000000\r\nx:1\r\n").toList

/-- what the examples use of `infoEx`: the ids `GetRunIds` finds in it, and that none of its
    `master_replid` lines says "?". One statement, because turning the text into characters
    is by far the slowest step of the evaluation and is shared this way. -/
theorem infoEx_ids : ((getRunIds infoEx).1 = "8f3a0c1d2e4b5a69788796a5b4c3d2e1f0a1b2c3".toList ∧
      (getRunIds infoEx).2 = "0000000000000000000000000000000000000000".toList) ∧
    ∀ l ∈ splitCRLF [] infoEx, cutPrefix kReplid l ≠ some ['?'] := by decide +kernel

example : (getRunIds infoEx).1 = "8f3a0c1d2e4b5a69788796a5b4c3d2e1f0a1b2c3".toList ∧
    (getRunIds infoEx).2 = "0000000000000000000000000000000000000000".toList := infoEx_ids.1
example : IsReplId "8f3a0c1d2e4b5a69788796a5b4c3d2e1f0a1b2c3".toList := by
  unfold IsReplId
  decide +kernel
example : parsePsync "CONTINUE".toList "idA".toList 41 = some ⟨"idA".toList, 41, false⟩ := by decide +kernel
example : parsePsync "continue idB".toList "idA".toList 41 = some ⟨"idB".toList, 41, false⟩ := by decide +kernel
example : parsePsync "FULLRESYNC idB 100".toList "?".toList (-1) = some ⟨"idB".toList, 100, true⟩ := by decide +kernel
example : parsePsync "FULLRESYNC idB x".toList "?".toList (-1) = none := by decide +kernel
example : parsePsync "NOMASTERLINK".toList "?".toList (-1) = none := by decide +kernel
-- what the input hands to SetRunId: the reply's id on a full resynchronisation, INFO's otherwise
example : chanIdOf (getRunIds infoEx).1 ⟨"idB".toList, 100, true⟩ = "idB".toList := by decide +kernel
-- a disk channel: even `SetRunId("?")` leaves the id alone
example : ([ChanOp.set "idA", .delOwn, .set "?"].foldl (chanStep .disk) (⟨"", []⟩ : Store Nat)).cur = "" := by decide
-- a source that says `+FULLRESYNC ? 5` is adopted by a MEMORY channel …
theorem q_source_is_adopted :
    parsePsync "FULLRESYNC ? 5".toList "?".toList (-1) = some ⟨['?'], 5, true⟩ ∧
    ([ChanOp.delOwn, .set "?"].foldl (chanStep .mem) (⟨"idA", []⟩ : Store Nat)).cur = "?" := by decide +kernel
-- … and such a leader announces "?" in its handshake (outside the property: `hq` fails)
example : ((View.const (⟨true, true, ["?"], "?", some ⟨5, [], some [1]⟩, true, [], none⟩ : Leader Nat)).handle "" 0 []).msgs.map (·.runId) = ["?"] := by decide

/-! instances that discharge the hypotheses of `input_sets_no_q` and `follower_prefix_of_leader_src` -/

theorem cutPrefix_append (p v : Txt) : cutPrefix p (p ++ v) = some v := by
  induction p with
  | nil => rfl
  | cons a p ih => simp [cutPrefix, ih]

/-- the hypothesis of `input_sets_no_q` about the INFO text in checkable form -/
theorem info_ok_of_check (info : Txt) (hchk : ∀ l ∈ splitCRLF [] info, cutPrefix kReplid l ≠ some ['?']) :
    ∀ l ∈ splitCRLF [] info, ∀ v, l = kReplid ++ v → v ≠ ['?'] := by
  intro l hl v e hv
  apply hchk l hl
  rw [e, cutPrefix_append, hv]

-- `input_sets_no_q` applied: INFO `infoEx`, reply `+FULLRESYNC <40 hex> 100` to `PSYNC ? -1`
example : chanIdOf (getRunIds infoEx).1 ⟨"8f3a0c1d2e4b5a69788796a5b4c3d2e1f0a1b2c3".toList, 100, true⟩ ≠ ['?'] :=
  input_sets_no_q infoEx "FULLRESYNC 8f3a0c1d2e4b5a69788796a5b4c3d2e1f0a1b2c3 100".toList ['?'] (-1) _
    (info_ok_of_check infoEx infoEx_ids.2) (by decide +kernel) (by decide +kernel)
-- … and on a continuation the INFO's id is taken
example : chanIdOf (getRunIds infoEx).1 ⟨"8f3a0c1d2e4b5a69788796a5b4c3d2e1f0a1b2c3".toList, 41, false⟩ ≠ ['?'] :=
  input_sets_no_q infoEx "CONTINUE".toList "8f3a0c1d2e4b5a69788796a5b4c3d2e1f0a1b2c3".toList 41 _
    (info_ok_of_check infoEx infoEx_ids.2) (by decide +kernel) (by decide +kernel)

-- `follower_prefix_of_leader_src` applied: a MEMORY leader whose input did DelRunId, SetRunId("idA")
-- on a new channel; the follower `fPrefix` of Props/C16.lean; any cut, any loss
example (cut : Nat) (lost : Loss) :
    FaithfulAt hEx (sessionV .disk (fun _ => View.const lEx) fPrefix [1, 2] cut lost 3).store.dirs "idA" ∧
      WF .disk (sessionV .disk (fun _ => View.const lEx) fPrefix [1, 2] cut lost 3).store := by
  refine follower_prefix_of_leader_src hEx .disk (fun _ => View.const lEx) fPrefix [1, 2] cut lost 3
    .mem [ChanOp.delOwn, .set "idA"] ⟨"", []⟩ (by decide) (by decide) ?_ ?_ ⟨Or.inr (by decide), by decide⟩ "idA" ?_
  · intro _ id hid
    simp at hid
    subst hid; decide
  · intro n d hd
    cases hd
    exact ⟨⟨by decide, fun s hs => by cases hs; decide⟩, by decide⟩
  · intro d hd
    simp only [fPrefix, List.mem_singleton, Prod.mk.injEq, Option.some.injEq, true_and] at hd
    subst hd
    exact ⟨by decide, fun s hs => by cases hs⟩

end examples

end GunYu.Props.C16
