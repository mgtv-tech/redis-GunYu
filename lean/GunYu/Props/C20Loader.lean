/-
  C20 — the hypotheses `Group` / `Value` DISCHARGED from C03's model of `rdb.Loader`.

  The shape of what the loader hands to the replay code (first bin first; later bins carry the same key, are
  not first bins and are marked split; every expanded command is a command on the key; later bins carry the key's expiry)
  is a hypothesis of the C20 theorems (`Group`, `Value`). C03 owns a byte-level model of `Loader.Next`
  (Model/Rdb/Dec.lean) and theorems about its output for a well-formed key item
  (`nextValue_hash`: a hash table under ANY chunk threshold; `next_plain`: every other string / list / set / zset /
  hash encoding). This file maps C03's entry to C20's (`entryOf`: exactly the observations `RdbReplay.Replay` makes —
  `FirstBin()`, `IsSplited()`, `ValueDumpSize()`, `DumpValue()`, `ObjectParser.Type()`, the `ExecCmd` expansion) and
  PROVES `Group` and `Value` of the loader's output:

    * `loader_hash_group_value`   a hash table of ≥ 1 pairs, any threshold (1 … many chunks): Group ∧ Value, no hypothesis
                                  left but C03's well-formedness of the file's key item;
    * `loader_plain_group`        every non-split value kind: Group (one entry, first bin, not split);
    * `loader_plain_value`        … and Value, given that the expansion is not empty (Redis never saves an empty
                                  collection; the loader model accepts one: then the expansion path writes nothing and
                                  the key is absent afterwards — `Value.ne` is exactly that premise);
    * `replace_final_loader`      instance: `replace_final` for what the loader delivers for a hash-table key item,
                                  without ANY shape hypothesis.

  Also the three places where C03's and C20's models transcribe the same code separately are proved equal
  (`fnv32a_eq`, `ttl_eq`, `stripTag_eq`), so a theorem of one property about them holds for the other's definition.

  Streams (C03: `execStream`) and module values are not covered here: `Value` for a stream needs "every XADD / XGROUP /
  XSETID / XCLAIM names the key": stated here as `loader_stream_stmt`, proved from C03's lemma in Props/C20StreamS5.lean.
-/
import GunYu.Proofs.Rdb.Chunk
import GunYu.Model.Rdb.Replay
import GunYu.Props.C20
import GunYu.Model.RestoreWorker

namespace GunYu.Props.C20
open GunYu

/-- C03's object kind as `Replay` distinguishes it (`ot == Function || ot == Aux`, `ot == Module`) -/
def otypeOfRdb : Option Rdb.OType → Restore.OType
  | some .module => .module
  | some .function => .func
  | some .aux => .aux
  | _ => .data

/-- an argument as bytes; `fmt` renders a float score (ZADD) — irrelevant for the key argument -/
def argBytes (fmt : Nat → Bytes) : Rdb.Arg → Bytes
  | .b bs => bs
  | .f bits => fmt bits

def cmdOfRdb (fmt : Nat → Bytes) (c : Rdb.Cmd) : Restore.Cmd :=
  { name := lower c.name, args := c.args.map (argBytes fmt) }

/-- what `RdbReplay.Replay` / `buildBisyncRdbReplayUnit` observe of a loader entry -/
def entryOf (x : Rdb.XCfg) (fmt : Nat → Bytes) (e : Rdb.Entry) : Restore.Entry :=
  { db := e.db, key := e.key, otype := otypeOfRdb (Rdb.otypeOf e.obj.rtype),
    first := e.obj.firstBin, splited := e.obj.isSplited, canRestore := true,
    dumpSize := e.obj.valueDumpSize, expireAt := e.expireAt, idle := e.idle, freq := e.freq,
    dump := e.obj.dump, cmds := ((Rdb.execCmd x e.obj).getD []).map (cmdOfRdb fmt) }

/-! ### the separately transcribed pieces are the same functions -/

theorem fnv32a_eq (bs : Bytes) : Rdb.fnv32a bs = Restore.fnv32a bs := rfl

theorem ttl_eq (now expireAt : Nat) : Rdb.ttlOf now expireAt = Restore.ttlMs now expireAt := rfl

theorem removeFirst_eq (c : UInt8) (k : Bytes) : Rdb.removeFirst c k = Restore.removeFirst c k := by
  induction k with
  | nil => rfl
  | cons b r ih => simp [Rdb.removeFirst, Restore.removeFirst, ih]

theorem stripTag_eq (cfg : Rdb.RCfg) (w : Restore.WCfg) (h : cfg.replaceHashTag = w.rht) (k : Bytes) :
    Rdb.dstKey cfg k = Restore.routeKey w k := by
  simp [Rdb.dstKey, Restore.routeKey, Restore.stripTag, h, removeFirst_eq]

theorem cmdKey_cmdOfRdb (fmt : Nat → Bytes) (name key : Bytes) (as : List Rdb.Arg) (hn : lower name ≠ Restore.sXGROUP) :
    Restore.cmdKey (cmdOfRdb fmt ⟨name, Rdb.Arg.b key :: as⟩) = key := by
  simp [Restore.cmdKey, cmdOfRdb, hn, argBytes]

private theorem mem_getD_map {α β : Type} {o : Option (List α)} {f : α → β} {c : β}
    (h : c ∈ (o.map (fun es => es.map f)).getD []) : ∃ a, c = f a := by
  cases o with
  | none => cases h
  | some es => obtain ⟨a, _, rfl⟩ := List.mem_map.mp h; exact ⟨a, rfl⟩

/-- a chunk of a hash table expands into HSETs on its key -/
theorem hash_cmds_onKey (x : Rdb.XCfg) (fmt : Nat → Bytes) (p : Rdb.PObj) (hr : p.rtype = 4) :
    ∀ c ∈ ((Rdb.execCmd x p).getD []).map (cmdOfRdb fmt), Restore.cmdKey c = p.key := by
  intro c hc
  obtain ⟨c0, hc0, rfl⟩ := List.mem_map.mp hc
  rw [Rdb.execCmd_hash_chunk x p hr] at hc0
  obtain ⟨a, rfl⟩ := mem_getD_map hc0
  exact cmdKey_cmdOfRdb fmt _ _ _ (by decide)

/-- the first chunk of a non-empty hash table carries at least one pair (the chunk loop reads a pair before it
    looks at the threshold): what `Value.ne` needs. Re-derived from C03's `readBuffer_hash_first` (the statement of
    `nextValue_hash` does not export it). -/
private theorem first_chunk (cfg : Rdb.DCfg) (ls : Rdb.LState) (k : Rdb.KeyE) (f : Rdb.LenForm) (items : List (Rdb.SE × Rdb.SE))
    (rest : Bytes) (hobj : k.obj = .hashTable f items) (hls : ls.total = 0 ∧ ls.read = 0) (hwf : k.wf) (hne : items ≠ []) :
    ∃ ent ls1 r, Rdb.next cfg ls (k.enc ++ rest) = some (some ent, ls1, r) ∧
      ∃ ps, Rdb.hashPairs ent.obj = some ps ∧ ps ≠ [] := by
  have hwf' := hwf
  obtain ⟨hkey, hobjwf, _, _, _⟩ := hwf
  rw [hobj] at hobjwf
  obtain ⟨hf, h32, hitems⟩ := hobjwf
  have hls0 : ls.total - ls.read = 0 := by rw [hls.1, Nat.zero_sub]
  obtain ⟨fuel, hnext0⟩ := Rdb.next_at_key cfg ls k rest hls0 hwf'
  obtain ⟨j, hj1, hj2, hrb⟩ := Rdb.readBuffer_hash_first cfg ls k.key f items rest hls hkey hf h32 hitems
  have hj1 := hj1 hne
  refine ⟨?ent, ?ls1, ?r, ?hnext, ?ps, ?hps, ?hne⟩
  case hnext =>
    rw [hnext0, hobj]
    have hn : ¬ (ls.total - ls.read ≠ 0) := fun h => h hls0
    simp +decide only [Rdb.ObjE.rtype, Rdb.ObjE.ser, Rdb.nextLoop, hn, if_false, List.append_assoc]
    unfold Rdb.encPairs at hrb
    rw [hrb]
  case hps =>
    have := Rdb.hashPairs_first k.key.val f items.length (items.take j) items.length hf h32
      (fun p hp => hitems p (List.mem_of_mem_take hp))
    rw [List.length_take, Nat.min_eq_left hj2] at this
    exact this
  case hne =>
    intro h0
    have hlen := congrArg List.length h0
    simp only [Rdb.pairVals, List.length_map, List.length_nil, List.length_take, Nat.min_eq_left hj2] at hlen
    exact absurd (hlen ▸ hj1) (by decide)

/-- **the loader's output for a hash-table key item IS a key group with a value** — for every chunk threshold
    (`cfg.thr`: one chunk … one chunk per pair), every loader state between two values, every expiry / idle / freq
    prefix: `Group` and `Value` hold of `entryOf` of the entries `Next` returns. -/
theorem loader_hash_group_value (cfg : Rdb.DCfg) (x : Rdb.XCfg) (fmt : Nat → Bytes) (ls : Rdb.LState) (k : Rdb.KeyE)
    (f : Rdb.LenForm) (items : List (Rdb.SE × Rdb.SE)) (rest : Bytes)
    (hobj : k.obj = .hashTable f items) (hls : ls.total = 0 ∧ ls.read = 0) (hwf : k.wf) (hne : items ≠ []) :
    ∃ e0 tl ls', Rdb.nextValue cfg (items.length + 1) ls (k.enc ++ rest) = some (e0 :: tl, ls', rest) ∧
      (entryOf x fmt e0).key = k.key.val ∧ (entryOf x fmt e0).expireAt = k.exp.at ∧ (entryOf x fmt e0).db = (ls.db : Int) ∧
      Group (entryOf x fmt e0) (tl.map (entryOf x fmt)) ∧ Value (entryOf x fmt e0) (tl.map (entryOf x fmt)) := by
  obtain ⟨es, ls', hnv, _, _, hall, ⟨e0, tl, hes, hfb0, hfbt⟩, _, _, _, _, hsplit⟩ :=
    Rdb.nextValue_hash cfg ls k f items rest hobj hls hwf hne
  subst hes
  have hc0 := hall e0 (List.mem_cons_self ..)
  have hdata : ∀ e ∈ e0 :: tl, (entryOf x fmt e).otype = .data := by
    intro e he
    have := (hall e he).2.2.2.2.2.2.2
    simp [entryOf, this, otypeOfRdb, show Rdb.otypeOf 4 = some .hash by decide]
  have hkeys : ∀ e ∈ e0 :: tl, (entryOf x fmt e).key = k.key.val := fun e he => (hall e he).1
  have hcmds : ∀ e ∈ e0 :: tl, ∀ c ∈ (entryOf x fmt e).cmds, Restore.cmdKey c = k.key.val := by
    intro e he c hc
    have hch := hall e he
    rw [← hch.2.2.2.2.2.2.1]
    exact hash_cmds_onKey x fmt e.obj hch.2.2.2.2.2.2.2 c hc
  -- the head of the list IS the entry the first `Next` returns: its chunk is not empty
  have hne0 : (entryOf x fmt e0).cmds ≠ [] := by
    obtain ⟨ent, ls1, r, hnext, ps, hps, hpsne⟩ := first_chunk cfg ls k f items rest hobj hls hwf hne
    have : e0 = ent := by
      simp only [Rdb.nextValue, hnext] at hnv
      split at hnv
      · simp at hnv; exact hnv.1.1.symm
      · split at hnv
        · simp at hnv; exact hnv.1.1.symm
        · simp at hnv
    subst this
    simp only [entryOf]
    rw [Rdb.execCmd_hash_chunk x e0.obj hc0.2.2.2.2.2.2.2, hps]
    cases ps with
    | nil => exact absurd rfl hpsne
    | cons q qs => simp
  -- more than one entry: every one of them is marked split
  have hsp : tl ≠ [] → ∀ e ∈ e0 :: tl, e.obj.isSplited = true := fun hnil =>
    hsplit.resolve_left fun ⟨_, h1, _⟩ => hnil (List.cons.inj h1).2
  refine ⟨e0, tl, ls', hnv, hc0.1, hc0.2.2.1, hc0.2.1, ⟨hdata e0 (List.mem_cons_self ..), hfb0, ?_, ?_⟩, ⟨?_, hne0, ?_, ?_⟩⟩
  · intro e he
    obtain ⟨e', he', rfl⟩ := List.mem_map.mp he
    have hm : e' ∈ e0 :: tl := List.mem_cons_of_mem _ he'
    exact ⟨(hkeys e' hm).trans (hkeys e0 (List.mem_cons_self ..)).symm, hfbt e' he', hdata e' hm,
      hsp (List.ne_nil_of_mem he') e' hm⟩
  · exact fun hnil => hsp (fun h => hnil (by rw [h]; rfl)) e0 (List.mem_cons_self ..)
  · intro c hc; rw [hkeys e0 (List.mem_cons_self ..)]; exact hcmds e0 (List.mem_cons_self ..) c hc
  · intro e he c hc
    obtain ⟨e', he', rfl⟩ := List.mem_map.mp he
    rw [hkeys e0 (List.mem_cons_self ..)]
    exact hcmds e' (List.mem_cons_of_mem _ he') c hc
  · intro e he
    obtain ⟨e', he', rfl⟩ := List.mem_map.mp he
    right
    show e'.expireAt = e0.expireAt
    rw [(hall e' (List.mem_cons_of_mem _ he')).2.2.1, hc0.2.2.1]

/-- one entry, a first bin, not split: `Group` with no later bins -/
theorem loader_plain_group (cfg : Rdb.DCfg) (x : Rdb.XCfg) (fmt : Nat → Bytes) (ls : Rdb.LState) (k : Rdb.KeyE) (rest : Bytes)
    (hls : ls.total = 0 ∧ ls.read = 0) (hwf : k.wf) (hk : k.obj.kind ≠ .other) (hh : k.obj.rtype ≠ 4) :
    ∃ e ls', Rdb.next cfg ls (k.enc ++ rest) = some (some e, ls', rest) ∧
      (entryOf x fmt e).key = k.key.val ∧ (entryOf x fmt e).expireAt = k.exp.at ∧
      (entryOf x fmt e).splited = false ∧ Group (entryOf x fmt e) [] := by
  obtain ⟨e, ls', hn, hkey, _, hexp, _, _, _, hobj, _⟩ := Rdb.next_plain cfg ls k rest hls hwf hk hh
  refine ⟨e, ls', hn, hkey, hexp, ?_, ⟨?_, ?_, by simp, by simp⟩⟩
  · simp [entryOf, hobj, Rdb.PObj.isSplited, Rdb.pobjOf]
  · have hot := Rdb.otypeOf_rtype k.obj hk
    simp only [entryOf, hobj, Rdb.pobjOf, hot, otypeOfRdb]
    unfold Rdb.otOf
    cases hkk : k.obj.kind <;> first | rfl | exact absurd hkk hk
  · simp [entryOf, hobj, Rdb.pobjOf, Rdb.PObj.firstBin]

/-- the expansion of a string / list / set / zset / hash value names the key in every command -/
theorem plain_cmds_onKey (x : Rdb.XCfg) (fmt : Nat → Bytes) (p : Rdb.PObj) (ot : Rdb.OType)
    (hot : Rdb.otypeOf p.rtype = some ot) (hk : ot = .string ∨ ot = .list ∨ ot = .set ∨ ot = .zset ∨ ot = .hash) :
    ∀ c ∈ ((Rdb.execCmd x p).getD []).map (cmdOfRdb fmt), Restore.cmdKey c = p.key := by
  intro c hc
  obtain ⟨c0, hc0, rfl⟩ := List.mem_map.mp hc
  have key_of := cmdKey_cmdOfRdb fmt (key := p.key)
  unfold Rdb.execCmd at hc0
  rw [hot] at hc0
  -- every branch maps a constructor with the key in front over the elements read from the buffer
  rcases hk with rfl | rfl | rfl | rfl | rfl
  · simp at hc0; subst hc0; exact key_of _ _ (by decide)
  · obtain ⟨a, rfl⟩ := mem_getD_map hc0; exact key_of _ _ (by decide)
  · obtain ⟨a, rfl⟩ := mem_getD_map hc0; exact key_of _ _ (by decide)
  · simp only at hc0
    split at hc0
    · cases h : Rdb.readLength p.buf with
      | none => simp [h] at hc0
      | some nr => rw [h] at hc0; obtain ⟨a, rfl⟩ := mem_getD_map hc0; exact key_of _ _ (by decide)
    · cases h : Rdb.readString p.buf with
      | none => simp [h] at hc0
      | some br => rw [h] at hc0; obtain ⟨a, rfl⟩ := mem_getD_map hc0; exact key_of _ _ (by decide)
  · obtain ⟨a, rfl⟩ := mem_getD_map hc0; exact key_of _ _ (by decide)

/-- `Value` of a non-split entry whose expansion is not empty -/
theorem loader_plain_value (cfg : Rdb.DCfg) (x : Rdb.XCfg) (fmt : Nat → Bytes) (ls : Rdb.LState) (k : Rdb.KeyE) (rest : Bytes)
    (hls : ls.total = 0 ∧ ls.read = 0) (hwf : k.wf) (hk : k.obj.kind ≠ .other) (hh : k.obj.rtype ≠ 4)
    (hne : (Rdb.execCmd x (Rdb.pobjOf k.key.val k.obj)).getD [] ≠ []) :
    ∃ e ls', Rdb.next cfg ls (k.enc ++ rest) = some (some e, ls', rest) ∧
      Group (entryOf x fmt e) [] ∧ Value (entryOf x fmt e) [] := by
  obtain ⟨e, ls', hn, _, _, _, hg⟩ := loader_plain_group cfg x fmt ls k rest hls hwf hk hh
  obtain ⟨e', ls'', hn', hkey, _, _, _, _, _, hobj, _⟩ := Rdb.next_plain cfg ls k rest hls hwf hk hh
  have : e = e' := by rw [hn] at hn'; simp at hn'; exact hn'.1
  subst this
  refine ⟨e, ls', hn, hg, ⟨?_, ?_, by simp, by simp⟩⟩
  · intro c hc
    have hot := Rdb.otypeOf_rtype k.obj hk
    have hkind : Rdb.otOf k.obj = .string ∨ Rdb.otOf k.obj = .list ∨ Rdb.otOf k.obj = .set ∨ Rdb.otOf k.obj = .zset ∨ Rdb.otOf k.obj = .hash := by
      unfold Rdb.otOf
      cases hkk : k.obj.kind <;> first | exact absurd hkk hk | simp
    have := plain_cmds_onKey x fmt e.obj (Rdb.otOf k.obj) (by rw [hobj]; exact hot) hkind c hc
    rw [this, hobj]; simp [entryOf, Rdb.pobjOf, hkey]
  · simp only [entryOf, hobj]
    intro h0
    exact hne (List.map_eq_nil_iff.mp h0)

/-- a string value always expands into one SET: `Value` without any premise -/
theorem loader_string_value (x : Rdb.XCfg) (key : Bytes) (s : Rdb.SE) :
    (Rdb.execCmd x (Rdb.pobjOf key (.str s))).getD [] ≠ [] := by
  simp [Rdb.execCmd, Rdb.pobjOf, Rdb.ObjE.rtype, show Rdb.otypeOf 0 = some .string by decide]

/-- INSTANCE: `replace_final` for what the loader delivers for a hash-table key item of the file — no hypothesis
    about the shape of the entries is left; whatever the target held under the key, it ends with the value built
    from ALL chunks (or the RESTOREd payload when there is one chunk and RESTORE applies) and the snapshot's expiry. -/
theorem replace_final_loader (cfg : Rdb.DCfg) (x : Rdb.XCfg) (fmt : Nat → Bytes) (ls : Rdb.LState) (k : Rdb.KeyE)
    (f : Rdb.LenForm) (items : List (Rdb.SE × Rdb.SE)) (rest : Bytes)
    (hobj : k.obj = .hashTable f items) (hls : ls.total = 0 ∧ ls.read = 0) (hwf : k.wf) (hne : items ≠ [])
    (rc : Restore.Cfg) (st : Restore.RState) (t : Restore.Target) :
    ∃ e0 tl ls', Rdb.nextValue cfg (items.length + 1) ls (k.enc ++ rest) = some (e0 :: tl, ls', rest) ∧
      let es := (e0 :: tl).map (entryOf x fmt)
      (Restore.runPlain .replace rc st t es).out = .ok ∧
      (Restore.runPlain .replace rc st t es).tgt.get k.key.val =
        some (snapshotObj rc t (entryOf x fmt e0) (tl.map (entryOf x fmt))) ∧
      (∀ d k', ¬ (d = t.cur ∧ k' = k.key.val) → (Restore.runPlain .replace rc st t es).tgt.ks d k' = t.ks d k') := by
  obtain ⟨e0, tl, ls', hnv, hkey, _, _, g, v⟩ := loader_hash_group_value cfg x fmt ls k f items rest hobj hls hwf hne
  refine ⟨e0, tl, ls', hnv, ?_⟩
  have := replace_final rc st t _ _ g v
  rw [hkey] at this
  exact ⟨this.1, this.2.1, this.2.2.1⟩

/-- streams: what is NOT proved here — every command `execStream` emits names the key (XADD / XSETID / XGROUP CREATE /
    XCLAIM …), so that `Value` holds of a stream entry as well -/
def loader_stream_stmt : Prop :=
  ∀ (x : Rdb.XCfg) (fmt : Nat → Bytes) (p : Rdb.PObj), Rdb.otypeOf p.rtype = some .stream →
    ∀ c ∈ ((Rdb.execCmd x p).getD []).map (cmdOfRdb fmt), Restore.cmdKey c = p.key

/-! ## non-vacuity: C03's three-pair hash table under key "h", expiry 5000, threshold 1 byte → THREE chunks -/

def exLKey : Rdb.KeyE :=
  { exp := .ms 5000, key := Rdb.SE.plain [104],
    obj := .hashTable .b6 [(Rdb.SE.plain [97], Rdb.SE.plain [49]), (Rdb.SE.plain [98], Rdb.SE.plain [50]), (Rdb.SE.plain [99], Rdb.SE.plain [51])] }
example : exLKey.wf := by decide
/-- the entries the loader model returns, as the replay code sees them -/
def exLEntries : List Restore.Entry :=
  ((Rdb.nextValue { thr := 1 } 4 {} (exLKey.enc ++ [0xFF])).map (fun r => r.1.map (entryOf {} natToDec))).getD []
example : exLEntries.map (fun e => (e.key, e.first, e.splited, e.expireAt, e.cmds.length)) =
    [([104], true, true, 5000, 1), ([104], false, true, 5000, 1), ([104], false, true, 5000, 1)] := by decide +kernel
example : (exLEntries.flatMap (·.cmds)).map (·.name) = [[104, 115, 101, 116], [104, 115, 101, 116], [104, 115, 101, 116]] := by decide +kernel
-- the hypotheses of `loader_hash_group_value` hold of it
example : ∃ e0 tl ls', Rdb.nextValue { thr := 1 } (3 + 1) {} (exLKey.enc ++ [0xFF]) = some (e0 :: tl, ls', [0xFF]) ∧
    (entryOf {} natToDec e0).key = [104] ∧ (entryOf {} natToDec e0).expireAt = 5000 ∧ (entryOf {} natToDec e0).db = 0 ∧
    Group (entryOf {} natToDec e0) (tl.map (entryOf {} natToDec)) ∧ Value (entryOf {} natToDec e0) (tl.map (entryOf {} natToDec)) :=
  loader_hash_group_value { thr := 1 } {} natToDec {} exLKey .b6 _ [0xFF] rfl ⟨rfl, rfl⟩ (by decide) (by simp)
-- replayed under `ignore` onto a target that holds "h": one EXISTS for the three chunks the loader made
example : (Restore.runPlain .ignore exCfg none exT exLEntries).reqs = [Restore.Req.exists [104]] := by decide +kernel
-- a string: one SET
example : (Rdb.execCmd {} (Rdb.pobjOf [107] (.str (Rdb.SE.plain [118])))).getD [] ≠ [] := loader_string_value {} _ _

end GunYu.Props.C20
