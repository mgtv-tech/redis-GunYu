/-
  C06 — the attempts of `RedisInput.Run`, call by call (Model/PsyncAtt.lean): the int64 arithmetic of
  `SendPSync`; a failure before `syncMeta`'s bookkeeping changes nothing; whichever later call fails, the
  state left keeps the loop invariant; `channel.StartPoint` answering with an error never lets the cache
  be reused; the loop machine of `Run` (`runLoop`: attempts, ErrCorrupted, ErrBreak, back-off, Stop) stays
  inside `Loop` for every event list; the order in which a label's position records are deleted.
-/
import GunYu.Props.C06Loop
import GunYu.Model.PsyncAtt

namespace GunYu.Props.C06
open GunYu GunYu.Psync

/-! ## A. int64 -/

theorem wrap64_id {n : Int} (h1 : -two63 ≤ n) (h2 : n < two63) : wrap64 n = n := by
  unfold wrap64 two63 two64 at *
  omega

theorem wrap64_top : wrap64 (maxInt64 + 1) = -two63 := by decide

/-- **the wrap of `offset+1` is harmless**: for every well-formed source below the top of int64
    and every stored int64 offset, `SendPSync` computed in int64 differs from the unbounded model in
    the number sent only - and they differ only at `2^63-1`, where both are refused. -/
theorem sendPSync64_eq (s : Source) (hs : SourceWF s) (hm : s.masterOff < maxInt64) (id : Id) (off : Int)
    (h1 : -two63 ≤ off) (h2 : off ≤ maxInt64) :
    sendPSync64 s id off = { sendPSync s id off with wireOff := wireOf64 off } ∧
      (off < maxInt64 → wireOf64 off = wireOf off) ∧
      (off = maxInt64 → (sendPSync s id off).full = true) := by
  have hf := hs.first_pos
  have hl := hs.len_nonneg
  have h63 : two63 = maxInt64 + 1 := rfl
  by_cases hlt : off < maxInt64
  · -- no wrap: the two computations coincide
    have hw : wireOf64 off = wireOf off := by
      unfold wireOf64 wireOf
      split
      · exact wrap64_id (by omega) (by omega)
      · rfl
    refine ⟨?_, fun _ => hw, fun e => by omega⟩
    unfold sendPSync64 sendPSync
    rw [hw]
    cases hadm : admitPsync s id (wireOf off) with
    | full fid o => rfl
    | cont nid =>
      -- a granted request lies in the backlog: `offset - 1` does not wrap either
      have hb := (admit_cont hadm).2.2.1
      have : wrap64 (wireOf off - 1) = wireOf off - 1 := by
        unfold wireOf at hb ⊢
        split at hb <;> exact wrap64_id (by omega) (by omega)
      simp only [this]
  · have he : off = maxInt64 := by omega
    subst he
    -- both -2^63 and 2^63 lie outside every backlog
    have hfull : ∀ x, (x = -two63 ∨ x = two63) → admitPsync s id x = .full s.id1 s.masterOff := by
      intro x hx
      cases hadm : admitPsync s id x with
      | full fid o => obtain ⟨e1, e2⟩ := admit_full hadm; rw [e1, e2]
      | cont nid =>
        obtain ⟨_, hb, h3, h4⟩ := admit_cont hadm
        have ht := hs.tail hb
        rcases hx with hx | hx <;> omega
    refine ⟨?_, fun h => absurd h (by omega), fun _ => ?_⟩
    · unfold sendPSync64 sendPSync
      rw [show wireOf64 maxInt64 = -two63 from rfl, show wireOf maxInt64 = two63 from rfl,
        hfull _ (Or.inl rfl), hfull _ (Or.inr rfl)]
    · unfold sendPSync
      rw [show wireOf maxInt64 = two63 from rfl, hfull _ (Or.inr rfl)]

/-- non-vacuity: a stored offset of 2^63-1 is sent as -2^63 and refused -/
example : (sendPSync64 s0 [1] maxInt64).wireOff = -two63 ∧ (sendPSync64 s0 [1] maxInt64).full = true := by decide

/-! ## B. attempts that fail before the bookkeeping -/

theorem spTries_none : spTries [false, false, false] = false := rfl
theorem spTries_third (l : List Bool) : spTries (false :: false :: true :: l) = true := rfl
theorem spTries_fourth_too_late (l : List Bool) : spTries (false :: false :: false :: l) = false := rfl

/-- the attempt itself ends with an error that wraps ErrBreak iff the connection was refused
    (ErrRestart) or the source could be asked and `output.StartPoint` failed at every try. (`Run` is
    also left after ErrCorrupted and after a fatal error of `Send`: `runStep`, `run_leaves_iff`.) -/
theorem attemptP_stop_iff (resume : Bool) (w : World) (σ : Sys) (p : Peer) (st : Stage) :
    (attemptP resume w σ p st).2 = .stop ↔
      p.conn = false ∨ (p.dial = true ∧ spTries p.spAnswers = false) := by
  unfold attemptP
  cases p.conn; · simp
  cases p.dial; · simp
  cases spTries p.spAnswers; · simp
  cases p.psyncOk; · simp
  cases (syncMeta σ.s σ.t.stored σ.c).ps.full && !hdrOk p.hdr σ.s <;> simp

/-- **a failure before the bookkeeping changes nothing**: no dial / INFO, ErrBreak, a bad PSYNC reply,
    or - after `+FULLRESYNC` - a header that is not a positive size (`$EOF:…`, `$0`, `$-n`, junk) -/
theorem attemptP_unchanged (resume : Bool) (w : World) (σ : Sys) (p : Peer) (st : Stage)
    (h : p.conn = false ∨ p.dial = false ∨ spTries p.spAnswers = false ∨ p.psyncOk = false ∨
      ((syncMeta σ.s σ.t.stored σ.c).ps.full = true ∧ hdrOk p.hdr σ.s = false)) :
    (attemptP resume w σ p st).1 = σ := by
  unfold attemptP
  cases hc : p.conn; · rfl
  cases hd : p.dial; · rfl
  cases hs : spTries p.spAnswers; · rfl
  cases hp : p.psyncOk; · rfl
  -- every peer answered: it is the header that stops the attempt
  simp only [hc, hd, hs, hp, reduceCtorEq, false_or] at h
  simp only [h.1, h.2, Bool.not_true, Bool.not_false, Bool.and_self, Bool.false_eq_true, if_false, if_true]

/-- in particular a snapshot whose announced size is not positive is never recorded: cache, cache
    bytes and stored position are what they were -/
theorem bad_header_records_nothing (resume : Bool) (w : World) (σ : Sys) (p : Peer) (st : Stage)
    (hf : (syncMeta σ.s σ.t.stored σ.c).ps.full = true) (hh : p.hdr ≠ .len ∨ σ.s.snapLen ≤ 0) :
    (attemptP resume w σ p st).1 = σ := by
  apply attemptP_unchanged
  right; right; right; right
  refine ⟨hf, ?_⟩
  unfold hdrOk
  rcases hh with hh | hh
  · cases hp : p.hdr <;> simp_all
  · cases p.hdr <;> simp; omega

/-- otherwise the attempt is `attempt … st` -/
theorem attemptP_ok (resume : Bool) (w : World) (σ : Sys) (p : Peer) (st : Stage)
    (h0 : p.conn = true) (h1 : p.dial = true) (h2 : spTries p.spAnswers = true) (h3 : p.psyncOk = true)
    (h4 : (syncMeta σ.s σ.t.stored σ.c).ps.full = true → hdrOk p.hdr σ.s = true) :
    attemptP resume w σ p st = (attempt resume w σ st, .again) := by
  unfold attemptP
  cases hf : (syncMeta σ.s σ.t.stored σ.c).ps.full
  · simp [h0, h1, h2, h3]
  · simp [h0, h1, h2, h3, h4 hf]

theorem attemptP_cases (resume : Bool) (w : World) (σ : Sys) (p : Peer) (st : Stage) :
    (attemptP resume w σ p st).1 = σ ∨ (attemptP resume w σ p st).1 = attempt resume w σ st := by
  unfold attemptP
  cases p.conn; · exact .inl rfl
  cases p.dial; · exact .inl rfl
  cases spTries p.spAnswers; · exact .inl rfl
  cases p.psyncOk; · exact .inl rfl
  cases (syncMeta σ.s σ.t.stored σ.c).ps.full && !hdrOk p.hdr σ.s
  · exact .inr rfl
  · exact .inl rfl

/-- the invariant of the loop survives every attempt against every peer -/
theorem attemptP_inv (resume : Bool) (w : World) (σ : Sys) (p : Peer) (st : Stage) (h : Inv w σ) (hfit : st.fits σ.s) :
    Inv w (attemptP resume w σ p st).1 := by
  rcases attemptP_cases resume w σ p st with e | e <;> rw [e]
  · exact h
  · exact attempt_inv resume w σ st h hfit

/-- non-vacuity: the diskless header on a FULLRESYNC; ErrBreak -/
example : (attemptP true w0 σA { hdr := .eof } (.delivered true 0 30)).1.c = σA.c ∧
    (attemptP true w0 σA { spAnswers := [false, false, false] } (.delivered true 0 30)).2 = .stop ∧
    (attemptP true w0 σA {} (.delivered true 0 30)).1.t.stored = ⟨[1], 200⟩ := by
  refine ⟨by decide, by decide, by decide⟩

/-! ## C. one failing call -/

theorem stageOf_fits (call : Call) (r : Result) (e k : Int) (s : Source) (hk : 0 ≤ k) (hm : s.masterOff + k ≤ maxInt64) :
    (stageOf call r e k).fits s := by
  -- every stage `stageOf` answers with carries the same `k`
  have ite : ∀ (b : Bool) {x y : Stage}, x.fits s → y.fits s → (if b then x else y).fits s :=
    fun b _ _ hx hy => by cases b; exact hy; exact hx
  have hw : (Stage.written k).fits s := ⟨hk, hm⟩
  have hd : ∀ b, (Stage.delivered b e k).fits s := fun _ => ⟨hk, hm⟩
  cases call with
  | dial | chanSet | outSetRunId | writer => trivial
  | reader => exact hw
  | none => exact hd _
  | chanDel => exact ite _ trivial (hd _)
  | outReset => exact ite _ trivial (ite _ hw (hd _))
  | outReset2 => exact ite _ hw (hd _)
  | send => exact ite _ (hd _) (hd _)

/-- **whichever call fails, the state left keeps the invariant** - so `loop_safe` /
    `loop_next_outcomes` hold for the next attempt -/
theorem failing_call_inv (resume : Bool) (w : World) (σ : Sys) (call : Call) (e k : Int) (h : Inv w σ)
    (hk : 0 ≤ k) (hm : σ.s.masterOff + k ≤ maxInt64) :
    Inv w (attempt resume w σ (stageOf call (run w σ.s σ.t.stored σ.c σ.d) e k)) :=
  attempt_inv resume w σ _ h (stageOf_fits call _ e k σ.s hk hm)

/-- an attempt that does not reach `Send` leaves the target's data as it was -/
theorem truth_unchanged_before_send (resume : Bool) (w : World) (σ : Sys) (st : Stage) (h : st.reachedSend = false) :
    (attempt resume w σ st).t.truth = σ.t.truth := by
  cases st with
  | early => rfl
  | cleared => simp only [attempt]; split <;> rfl
  | relabelled => rfl
  | reset => simp only [attempt]; split <;> rfl
  | metaDone => simp only [attempt, Tgt.afterMeta]; split <;> rfl
  | written k => simp only [attempt, Tgt.afterMeta]; split <;> rfl
  | delivered d e k => simp [Stage.reachedSend] at h

/-- a failing bookkeeping call (`DelRunId` when due, `SetRunId`, `ResetStartPoint` of a FULLRESYNC,
    `output.SetRunId`, writer or reader creation) never reaches `Send` -/
theorem failed_call_delivers_nothing (resume : Bool) (w : World) (σ : Sys) (call : Call) (e k : Int)
    (hc : call = .dial ∨ (call = .chanDel ∧ (run w σ.s σ.t.stored σ.c σ.d).mt.deleted = true) ∨ call = .chanSet ∨
      (call = .outReset ∧ (run w σ.s σ.t.stored σ.c σ.d).mt.ps.full = true) ∨ call = .outSetRunId ∨
      call = .writer ∨ call = .reader) :
    (attempt resume w σ (stageOf call (run w σ.s σ.t.stored σ.c σ.d) e k)).t.truth = σ.t.truth := by
  apply truth_unchanged_before_send
  rcases hc with h | ⟨h, hd⟩ | h | ⟨h, hf⟩ | h | h | h <;> subst h <;> simp [stageOf, Stage.reachedSend, *]

/-- non-vacuity: `output.SetRunId` failing during the first FULLRESYNC leaves the cache relabelled and
    empty, the position reset, the target untouched -/
example : (attempt true w0 σA (stageOf .outSetRunId (run w0 s0 σA.t.stored σA.c σA.d) 0 30)).c = ⟨.memory, [1], none, none⟩ := by
  decide

/-! ## D. `channel.StartPoint` answers with an error -/

theorem syncMetaL_eq (s : Source) (sp : SP) (c : Cache) :
    syncMetaL s sp c (c.startPoint [s.id1, s.id2]) = syncMeta s sp c := rfl

/-- **an error of `channel.StartPoint` never lets the cache be reused**: `syncMeta` goes on with
    `StartPoint{}` (no run id), which is none of the source's ids - branch 3 (the stored position is
    asked for) or 6 (`? -1`), the cache is deleted (`DelRunId`) and relabelled empty. -/
theorem locErr_clears (s : Source) (hs : SourceWF s) (sp : SP) (c : Cache) (hc : CacheWF c) :
    let m := syncMetaL s sp c errLoc
    m.deleted = true ∧ (m.branch = 3 ∨ m.branch = 6) ∧
      (m.branch = 3 → (sp.runId = s.id1 ∨ sp.runId = s.id2) ∧ m.ps = sendPSync s sp.runId sp.offset) ∧
      (m.branch = 6 → m.ps = sendPSync s qId (-1) ∧ m.ps.full = true) ∧
      m.cache = ⟨c.backend, m.runId, none, none⟩ := by
  have hrow := decisionL_row s sp c errLoc
  have hL : ¬(errLoc.runId = s.id1 ∨ errLoc.runId = s.id2) := fun e => (served_real hs e).1 rfl
  have hfull := qId_not_admitted hs (-1)
  simp only [syncMetaL]
  -- the cache is deleted and relabelled with the source's current id
  have hcache : ∀ dc : Decision, Row s sp errLoc (c.isValidOffset errLoc.runId sp.offset) (c.getRdb errLoc.runId)
        ⟨errLoc.runId, (c.getOffsetRange errLoc.runId).2⟩ dc → (dc.ps.full || dc.clearLocal) = true →
      (if (dc.ps.full || dc.clearLocal) = true then c.delRunId c.runId else c).setRunId
          (if dc.ps.full = true then dc.ps.runId else s.id1) =
        ⟨c.backend, if dc.ps.full = true then dc.ps.runId else s.id1, none, none⟩ := by
    intro dc hr hd
    rw [hd, hr.runId]
    exact del_set_cleared hc hs.id1_ne hs.id1_nq
  generalize decisionL s sp c errLoc = dc at hrow
  cases hrow with
  | keep _ h _ => exact absurd h hL
  | snapFull h _ _ _ => exact absurd h hL
  | snap h _ _ _ => exact absurd h hL
  | clear br hS hb =>
    have : br = 3 := hb.elim (fun h => absurd h.2 hL) id
    subst this
    have hd : ((sendPSync s sp.runId sp.offset).full || true) = true := Bool.or_true _
    exact ⟨hd, .inl rfl, fun _ => ⟨hS, rfl⟩, (fun h => by cases h), hcache _ (.clear 3 hS hb) hd⟩
  | fresh br hb =>
    have : br = 6 := hb.elim (fun h => absurd h.2 hL) id
    subst this
    have hd : ((sendPSync s qId (-1)).full || false) = true := by rw [hfull]; rfl
    exact ⟨hd, .inr rfl, (fun h => by cases h), fun _ => ⟨rfl, hfull⟩, hcache _ (.fresh 6 hb) hd⟩

/-- non-vacuity: a well-filled cache under the current id whose `StartPoint` fails is dropped -/
example : (syncMetaL s0 ⟨[1], 150⟩ cC errLoc).branch = 3 ∧ (syncMetaL s0 ⟨[1], 150⟩ cC errLoc).cache = ⟨.disk, [1], none, none⟩ ∧
    (syncMeta s0 ⟨[1], 150⟩ cC).branch = 1 := by decide

/-! ## D'. branch 4: the writer's offset

  `syncMeta` does not read the cache again after the PSYNC round trip (`GetOffsetRange`; the repair of N9,
  23dcc75): the writer starts at the offset `StartPoint` answered and PSYNC was sent with. The model
  (`decision`, branch 4) writes `(c.getOffsetRange loc0.runId).2`; for every well-formed cache that IS
  `loc0.offset` - without a concurrent collector pass the two readings cannot differ, and with one the code
  keeps the earlier answer (the request offset, `decisionG`), which is what the source streams from. -/
theorem branch4_writer_offset (s : Source) (hs : SourceWF s) (c : Cache) (hc : CacheWF c)
    (hin : [s.id1, s.id2].contains (c.startPoint [s.id1, s.id2]).runId = true)
    (hr : (c.getRdb (c.startPoint [s.id1, s.id2]).runId).1 ≠ -1) :
    (c.getOffsetRange (c.startPoint [s.id1, s.id2]).runId).2 = (c.startPoint [s.id1, s.id2]).offset := by
  obtain ⟨hsp, _⟩ := startPoint_in hs c hin
  rw [hsp] at hr ⊢
  exact range_own hc hr

example : (cC.getOffsetRange (cC.startPoint [s0.id1, s0.id2]).runId).2 = 180 ∧ (cC.startPoint [s0.id1, s0.id2]).offset = 180 := by decide

/-! ## E. the loop of `RedisInput.Run` -/

theorem attempt_src (resume : Bool) (w : World) (σ : Sys) (st : Stage) : (attempt resume w σ st).s = σ.s := by
  cases st <;> simp only [attempt] <;> (try split) <;> rfl

theorem attemptP_src (resume : Bool) (w : World) (σ : Sys) (p : Peer) (st : Stage) : (attemptP resume w σ p st).1.s = σ.s := by
  rcases attemptP_cases resume w σ p st with e | e <;> rw [e]
  exact attempt_src resume w σ st

theorem runStep_src (w : World) (r : RunSt) (ev : RunEv) : (runStep w r ev).sys.s = r.sys.s := by
  cases ev with
  | sleep => rfl
  | stop => rfl
  | att resume p st fin =>
    simp only [runStep]
    split
    · rfl
    · split
      · exact attemptP_src resume w r.sys p st
      · cases fin <;> simp only [Sys.corrupted] <;> exact attemptP_src resume w r.sys p st

/-- **a back-off changes nothing** -/
theorem run_sleep_unchanged (w : World) (r : RunSt) : runStep w r .sleep = r := rfl

/-- **no attempt after ErrBreak / Stop**: once the loop is left, whatever follows changes neither the
    state nor the number of attempts -/
theorem run_stopped_fixed (w : World) (r : RunSt) (hr : r.stopped = true) (evs : List RunEv) :
    runLoop w r evs = r := by
  induction evs generalizing r with
  | nil => rfl
  | cons ev rest ih =>
    have h1 : runStep w r ev = r := by
      cases ev with
      | sleep => rfl
      | stop => cases r; simp_all [runStep]
      | att resume p st fin => simp [runStep, hr]
    show runLoop w (runStep w r ev) rest = r
    rw [h1]
    exact ih r hr

/-- an attempt whose `output.StartPoint` fails three times stops the loop, the state unchanged -/
theorem run_break_stops (w : World) (r : RunSt) (hr : r.stopped = false) (resume : Bool) (p : Peer) (st : Stage) (fin : AttEnd)
    (hc : p.conn = true) (hd : p.dial = true) (hsp : spTries p.spAnswers = false) :
    runStep w r (.att resume p st fin) = ⟨r.sys, true, r.attempts + 1⟩ := by
  have hv := (attemptP_stop_iff resume w r.sys p st).mpr (Or.inr ⟨hd, hsp⟩)
  have hu := attemptP_unchanged resume w r.sys p st (Or.inr (Or.inr (Or.inl hsp)))
  simp only [runStep, hr, Bool.false_eq_true, if_false, hv, hu]

/-- **when the loop is left** (the error lattice of syncer.go:32-51): after one attempt of a running
    loop, `Run` has stopped iff the connection was refused (ErrRestart), `output.StartPoint` failed at
    every try (ErrBreak), the attempt ended with ErrCorrupted, or `Send` ended with a fatal error. -/
theorem run_leaves_iff (w : World) (r : RunSt) (hr : r.stopped = false) (resume : Bool) (p : Peer) (st : Stage) (fin : AttEnd) :
    (runStep w r (.att resume p st fin)).stopped = true ↔
      p.conn = false ∨ (p.dial = true ∧ spTries p.spAnswers = false) ∨ fin = .corrupted ∨ fin = .fatal := by
  have hiff := attemptP_stop_iff resume w r.sys p st
  simp only [runStep, hr, Bool.false_eq_true, if_false]
  cases hv : (attemptP resume w r.sys p st).2
  · have hn : ¬(p.conn = false ∨ (p.dial = true ∧ spTries p.spAnswers = false)) := fun h => by
      have := hiff.mpr h; rw [hv] at this; cases this
    cases fin <;> simp_all
  · have := hiff.mp hv
    simp only [true_iff]
    rcases this with h | h
    · exact Or.inl h
    · exact Or.inr (Or.inl h)

/-- a corrupted attempt: `channel.DelRunId(channel.RunId())`, then the loop is left (ErrCorrupted wraps
    ErrBreak) - the cache the next process finds holds nothing -/
theorem run_corrupted_stops (w : World) (r : RunSt) (hr : r.stopped = false) (resume : Bool) (p : Peer) (st : Stage)
    (hv : (attemptP resume w r.sys p st).2 = .again) :
    runStep w r (.att resume p st .corrupted) = ⟨(attemptP resume w r.sys p st).1.corrupted, true, r.attempts + 1⟩ := by
  simp only [runStep, hr, Bool.false_eq_true, if_false, hv]

theorem finish_loop {w : World} {σ' : Sys} (h : ∀ c : Bool, Loop w (if c then σ'.corrupted else σ')) (v : Verdict) (fin : AttEnd) (n : Nat) :
    Loop w (finish σ' v fin n).sys := by
  unfold finish
  cases v
  · cases fin
    · exact h false
    · exact h true
    · exact h false
  · exact h false

theorem runStep_loop (w : World) (r : RunSt) (ev : RunEv) (h : Loop w r.sys) (hf : ev.fits r.sys.s) :
    Loop w (runStep w r ev).sys := by
  cases ev with
  | sleep => exact h
  | stop => exact h
  | att resume p st fin =>
    simp only [runStep]
    split
    · exact h
    · show Loop w (finish (attemptP resume w r.sys p st).1 (attemptP resume w r.sys p st).2 fin r.attempts).sys
      refine finish_loop (fun c => ?_) _ fin _
      rcases attemptP_cases resume w r.sys p st with e | e <;> rw [e]
      · exact Loop.attempt r.sys resume .early c h trivial
      · exact Loop.attempt r.sys resume st c h hf

/-- **the loop machine stays inside `Loop`**: for every event list (attempts against any peers that
    get as far as any stage, with or without ErrCorrupted, back-offs, Stop) the state `Run` is in is a
    state of the inductive `Loop` - so `loop_inv`, `loop_safe`, `loop_next_outcomes` apply to it. -/
theorem run_in_loop (w : World) (r : RunSt) (h : Loop w r.sys) (evs : List RunEv)
    (hfit : ∀ ev ∈ evs, ev.fits r.sys.s) : Loop w (runLoop w r evs).sys := by
  induction evs generalizing r with
  | nil => exact h
  | cons ev rest ih =>
    refine ih _ (runStep_loop w r ev h (hfit ev (List.mem_cons_self ..))) fun ev' hev' => ?_
    rw [runStep_src]
    exact hfit ev' (List.mem_cons_of_mem _ hev')

/-- hence every log delivery of the next attempt, in every state `Run` reaches, starts exactly on
    what the target holds, in a prefix of the current history -/
theorem run_safe (w : World) (r : RunSt) (h : Loop w r.sys) (evs : List RunEv)
    (hfit : ∀ ev ∈ evs, ev.fits r.sys.s) (start : Int) (byte : Int → UInt8)
    (hd : (run w (runLoop w r evs).sys.s (runLoop w r evs).sys.t.stored (runLoop w r evs).sys.c (runLoop w r evs).sys.d).delivery
      = .stream start byte) :
    start = (runLoop w r evs).sys.t.stored.offset ∧
      ∃ tid, (runLoop w r evs).sys.t.truth = .at tid start ∧ AgreeBelow w tid (runLoop w r evs).sys.s.id1 start ∧
        ∀ n, start ≤ n → byte n = w.hist (runLoop w r evs).sys.s.id1 n :=
  loop_safe w _ (run_in_loop w r h evs hfit) start byte hd

/-- non-vacuity: a failed attempt, the back-off, a completed attempt, ErrBreak, then two more events -/
example : (runLoop w0 ⟨σA, false, 0⟩
      [.att true { dial := false } .early .plain, .sleep, .att true {} (.delivered true 0 30) .plain,
       .att true { spAnswers := [false, false, false] } .early .plain, .sleep, .att true {} (.delivered true 0 9) .plain]).attempts = 3 := by
  decide

/-- non-vacuity: a completed full sync whose reader then meets a damaged segment - the cache is
    dropped and the loop is left; a refused connection leaves it at once -/
example : (runLoop w0 ⟨σA, false, 0⟩ [.att true {} (.delivered false 0 30) .corrupted, .att true {} (.delivered true 0 9) .plain]).stopped = true ∧
    (runLoop w0 ⟨σA, false, 0⟩ [.att true {} (.delivered false 0 30) .corrupted]).sys.c = ⟨.memory, [], none, none⟩ ∧
    (runLoop w0 ⟨σA, false, 0⟩ [.att true { conn := false } .early .plain, .att true {} (.delivered true 0 9) .plain]).attempts = 1 := by
  decide

/-! ## F. deleting a label's records: every request prefix -/

theorem readPos_sorted_last : ∀ (l : List CpRec), l.Pairwise cpLe → ∀ (h : l ≠ []), readPos l = some (l.getLast h)
  | [], _, h => absurd rfl h
  | [r], _, _ => rfl
  | r :: r2 :: rs, hp, _ => by
    have hp' := List.pairwise_cons.mp hp
    have ih := readPos_sorted_last (r2 :: rs) hp'.2 (by simp)
    have hle : cpLe r ((r2 :: rs).getLast (by simp)) := hp'.1 _ (List.getLast_mem _)
    rw [List.getLast_cons (by simp : r2 :: rs ≠ [])]
    generalize (r2 :: rs).getLast (by simp) = m at ih hle
    show (match readPos (r2 :: rs) with
      | none => some r
      | some m => if m.1 > r.1 ∨ (m.1 = r.1 ∧ m.2 > r.2) then some m else some r) = some m
    rw [ih]
    simp only
    split
    · rfl
    · rename_i hn
      unfold cpLe at hle
      have h1 : m.1 = r.1 := by omega
      have h2 : m.2 = r.2 := by omega
      congr 1
      exact Prod.ext h1.symm h2.symm

/-- **a stop between two HDELs never uncovers a stale position**: deleted in ascending (offset, mtime)
    order - as `DelCheckpoints` does for the records of ALL labels and databases together (837e4af,
    6d4dd34; `l` = every record `GetCheckpoint` would merge) - every request prefix leaves either no
    record at all or exactly the position that was read before (the largest goes last). -/
theorem del_prefix_safe (l : List CpRec) (hs : l.Pairwise cpLe) (k : Nat) :
    readPos (l.drop k) = none ∨ readPos (l.drop k) = readPos l := by
  by_cases hd : l.drop k = []
  · left; rw [hd]; rfl
  · right
    have hl : l ≠ [] := fun e => hd (by rw [e]; simp)
    have hsd : (l.drop k).Pairwise cpLe := hs.sublist (List.drop_sublist k l)
    rw [readPos_sorted_last _ hsd hd, readPos_sorted_last _ hs hl, List.getLast_drop]

/-- the order matters (the defect N7): the largest record deleted first, a stop, and the stale lower
    record of the other database is what the next start reads -/
theorem del_order_needed : readPos ([((397 : Int), (1 : Int)), (205, 0)].drop 1) = some (205, 0) ∧
    readPos [((397 : Int), (1 : Int)), (205, 0)] = some (397, 1) := by decide

example : ([((205 : Int), (0 : Int)), (397, 1)] : List CpRec).Pairwise cpLe := by
  simp [cpLe]

end GunYu.Props.C06
