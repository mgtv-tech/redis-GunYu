/-
  C14 — a numbering RESTART inside an execution: one theorem spanning two numberings of replay
  units over the same namespace (Model/FrontierRenumber.lean; where D25 / D26 lived).

  Property theorems only (helper lemmas: Proofs/FrontierScrub.lean, Proofs/FrontierRenumber.lean).

  Quantifiers: all numberings W₁, W₂ with the root of W₂ beyond every unit of W₁ (the snapshot of a
  full resynchronisation is taken after everything replayed before); all step lists of the
  split-queue system under W₁, then ANY list of delete requests applied to what it left (a complete
  purge by ResetStartPoint, one that stopped half-way, none at all — older versions, D25), then all
  step lists under W₂ (crashes inside the purge of the first starts included).
-/
import GunYu.Model.FrontierRenumber
import GunYu.Proofs.FrontierRenumber
import GunYu.Props.C14

namespace GunYu.Props.C14
open GunYu GunYu.Frontier

/-- Whatever a namespace stores — a frontier snapshot, a journal with or without gaps, index members,
    leftovers of a purge that stopped half-way, records nothing can read — if all of it ends before the
    offset of a root checkpoint the source still vouches for, a start returns THAT ROOT with sequence 0:
    bookkeeping of an older numbering is never resumed from. For ALL such namespaces (no invariant
    needed). -/
theorem restart_returns_root (ver : Bytes) (ns : NS) (ids : List Bytes) (root : Bytes × Int × Nat)
    (hroot : ns.root = some root) (hr1 : root.1 ≠ []) (hr2 : matchRun root.1 ids = true)
    (hst : StaleBelow root.2.1 ns) :
    (startFrontier ver ns ids).1 = .point root.2.2 root.1 root.2.1 0 ∧
    (∀ q ∈ (startFrontier ver ns ids).2, isDelete q = true) := by
  rw [stale_start ver ns ids root hroot hr1 hr2 hst]
  refine ⟨rfl, ?_⟩
  intro q hq
  obtain ⟨reqs, he, hform⟩ := restartFromRoot_form ns ids root
  rw [he] at hq
  exact hform q hq

/-- deletes never make anything newer: what an interrupted purge leaves is still older than the root -/
theorem stale_after_deletes (R : Int) (ns : NS) (dels : List Req) (hd : ∀ q ∈ dels, isDelete q = true)
    (hst : StaleBelow R ns) : StaleBelow R (applyAll ns dels) := by
  obtain ⟨_, b, a, _⟩ := applyAll_deletes ns dels hd
  refine ⟨fun f hf => ?_, fun j hj => hst.2 j (a j hj)⟩
  rcases b with e | e
  · exact hst.1 f (e ▸ hf)
  · rw [e] at hf; cases hf

/-- the invariant of the restart holds right after it, whatever the execution under the old numbering
    left and whatever part of it was deleted -/
theorem renumber_init_inv (W₁ W₂ : World) (hvis₂ : matchRun W₂.rid W₂.ids = true)
    (s : TSys) (hnew : ∀ i, (i = 0 ∨ i ∈ s.committed) → W₁.e i < W₂.e 0) (h : TInv W₁ s) (hu : UniqueKeys s.ns) (db : Nat)
    (dels : List Req) (hd : ∀ q ∈ dels, isDelete q = true) : RInv W₂ (resync W₂ db dels s) :=
  rinv_resync hvis₂ hnew h hu db dels hd

/-- every single step under the new numbering preserves it -/
theorem renumber_each_step_preserves (W : World) (hm : ∀ i j, i ≤ j → W.e i ≤ W.e j)
    (hvis : matchRun W.rid W.ids = true) (s : TSys) (h : RInv W s) (st : Step) :
    RInv W (tstep W s st) := (rinv_step hm hvis h st).1

/-- ONE THEOREM OVER BOTH NUMBERINGS. An execution under numbering W₁ (any steps), a restart of the
    numbering (the root of W₂ written over whatever W₁ left, minus any deletes), an execution under
    W₂ (any steps, then any more):
    * across the restart the resume offset does not decrease: what a start would resume from before
      lies before the new root, every start after it resumes at or after the new root;
    * within the new numbering neither the sequence number nor the offset a fresh start would resume
      from ever decreases;
    * the sequence number a start resumes after counts units of the NEW numbering only: every unit up
      to it is in `committed`, the ghost list that is EMPTY at the restart (conjunct 3 merely restates
      that part of the DEFINITION of `resync`: it is `rfl`; the content is the last conjunct - whatever
      the old numbering left in the namespace, no start ever counts it) — a snapshot or journal
      record of the old numbering is never combined with records of the new one (D25), a journal
      gap never blocks the start (D26: it resumes at the root). -/
theorem renumber_spans (W₁ W₂ : World)
    (hm₁ : ∀ i j, i ≤ j → W₁.e i ≤ W₁.e j) (hvis₁ : matchRun W₁.rid W₁.ids = true)
    (hm₂ : ∀ i j, i ≤ j → W₂.e i ≤ W₂.e j) (hvis₂ : matchRun W₂.rid W₂.ids = true)
    (s₀ : TSys) (h₀ : TInv W₁ s₀) (hu : UniqueKeys s₀.ns) (steps₁ : List Step)
    (hnew : ∀ i, (i = 0 ∨ i ∈ (trunSteps W₁ s₀ steps₁).committed) → W₁.e i < W₂.e 0)
    (db : Nat) (dels : List Req) (hd : ∀ q ∈ dels, isDelete q = true) (steps₂ more : List Step) :
    startOffOf W₁.ver (trunSteps W₁ s₀ steps₁).ns W₁.ids < W₂.e 0 ∧
    W₂.e 0 ≤ startOffOf W₂.ver (twoNumberings W₁ W₂ db dels s₀ steps₁ steps₂).ns W₂.ids ∧
    (resync W₂ db dels (trunSteps W₁ s₀ steps₁)).committed = [] ∧
    startSeqOf W₂.ver (twoNumberings W₁ W₂ db dels s₀ steps₁ steps₂).ns W₂.ids
      ≤ startSeqOf W₂.ver (twoNumberings W₁ W₂ db dels s₀ steps₁ (steps₂ ++ more)).ns W₂.ids ∧
    startOffOf W₂.ver (twoNumberings W₁ W₂ db dels s₀ steps₁ steps₂).ns W₂.ids
      ≤ startOffOf W₂.ver (twoNumberings W₁ W₂ db dels s₀ steps₁ (steps₂ ++ more)).ns W₂.ids ∧
    (∀ j, 0 < j → j ≤ startSeqOf W₂.ver (twoNumberings W₁ W₂ db dels s₀ steps₁ (steps₂ ++ more)).ns W₂.ids →
      j ∈ (twoNumberings W₁ W₂ db dels s₀ steps₁ (steps₂ ++ more)).committed) := by
  obtain ⟨h1, _⟩ := trunSteps_tinv hm₁ hvis₁ steps₁ h₀
  have hu1 := trunSteps_uniqueKeys W₁ steps₁ hu
  have hr0 := rinv_resync hvis₂ (s := trunSteps W₁ s₀ steps₁) hnew h1 hu1 db dels hd
  obtain ⟨hra, _⟩ := rinv_steps hm₂ hvis₂ steps₂ hr0
  obtain ⟨hrb, hle⟩ := rinv_steps hm₂ hvis₂ more hra
  have eb : twoNumberings W₁ W₂ db dels s₀ steps₁ (steps₂ ++ more) =
      trunSteps W₂ (twoNumberings W₁ W₂ db dels s₀ steps₁ steps₂) more := by
    unfold twoNumberings; rw [trunSteps_append]
  rw [eb]
  obtain ⟨oa, na, _⟩ := rinv_facts hm₂ hra
  obtain ⟨ob, _, cb⟩ := rinv_facts hm₂ hrb
  refine ⟨?_, ?_, rfl, hle, ?_, cb⟩
  · rw [(h1.start_prefix hm₁).1]
    apply hnew
    have hn := startSeqOf_nonneg W₁.ver (trunSteps W₁ s₀ steps₁).ns W₁.ids
    by_cases hz : startSeqOf W₁.ver (trunSteps W₁ s₀ steps₁).ns W₁.ids = 0
    · exact Or.inl hz
    · exact Or.inr ((h1.start_prefix hm₁).2 _ (by omega) (Int.le_refl _))
  · have := hm₂ _ _ na
    rw [← oa] at this; exact this
  · have := hm₂ _ _ hle
    rw [← oa, ← ob] at this; exact this

/-- a fresh namespace has unique journal keys (it has none) -/
theorem fresh_unique (W : World) (db : Nat) : UniqueKeys ({ root := some (W.rid, W.e 0, db) } : NS) := by
  intro j hj; exact absurd hj (List.not_mem_nil)

/-! ### non-vacuity -/

/-- the numbering after a full resynchronisation at offset 5000 (the units of `exW` end at 1010, 1020, …) -/
def exW2 : World := { e := fun i => 5000 + 10 * i, rid := [114], ids := [[114], [112]], ver := [49] }

/-- what the run `exTSteps` under the old numbering leaves: snapshot at sequence 3, journal {2, 4, 5} -/
example : ((trunSteps exW exT0 exTSteps).ns.frontier.map (·.seq), (trunSteps exW exT0 exTSteps).ns.journal.map (·.kseq))
    = (some 3, [2, 5, 4]) := by decide +kernel

/-- the D25 situation: NOTHING was purged (`dels = []`), the new root 5000 is written over it. The first start
    returns the root with sequence 0 and queues the purge [DEL 2, DEL 4, DEL 5, ZREM, DEL frontier]; the
    process dies after one request; the next start purges the rest; new unit 4 commits (its predecessors are in
    flight) and the process dies: the stale snapshot (sequence 3) is gone, a start still resumes at the root (a
    journal gap: purged again); then units 1, 2 of the new numbering. -/
def exRSteps : List Step :=
  [.start, .apply, .crash, .start, .commit 4 1, .apply, .apply, .apply, .apply, .commit 4 1, .crash, .start,
   .apply, .apply, .apply, .commit 1 2, .commit 2 3, .crash]
example : (twoNumberings exW exW2 0 [] exT0 exTSteps (exRSteps.take 1)).rq
    = [.delRec 2, .delRec 4, .delRec 5, .zrem [2, 4, 5], .delFrontier] := by decide +kernel
example : (startFrontier exW2.ver (resync exW2 0 [] (trunSteps exW exT0 exTSteps)).ns exW2.ids).1 = .point 0 [114] 5000 0 :=
  (restart_returns_root exW2.ver (resync exW2 0 [] (trunSteps exW exT0 exTSteps)).ns exW2.ids ([114], 5000, 0) rfl
    (by decide) (by decide) ⟨by decide, by decide⟩).1
/-- the unit committed while the purge was outstanding (step 5) was refused, the one after it accepted -/
example : [5, 10].map (fun k => (twoNumberings exW exW2 0 [] exT0 exTSteps (exRSteps.take k)).committed) = [[], [4]] := by decide +kernel
example : [0, 1, 4, 9, 10, 15, 16, 17].map (fun k =>
      (startSeqOf exW2.ver (twoNumberings exW exW2 0 [] exT0 exTSteps (exRSteps.take k)).ns exW2.ids,
       startOffOf exW2.ver (twoNumberings exW exW2 0 [] exT0 exTSteps (exRSteps.take k)).ns exW2.ids))
    = [(0, 5000), (0, 5000), (0, 5000), (0, 5000), (0, 5000), (0, 5000), (1, 5010), (2, 5020)] := by decide +kernel
example : startOffOf exW.ver (trunSteps exW exT0 exTSteps).ns exW.ids < exW2.e 0 :=
  (renumber_spans exW exW2 (fun i j h => by simp only [exW]; omega) (by decide)
    (fun i j h => by simp only [exW2]; omega) (by decide)
    exT0 (traffic_init_inv exW 0) (fresh_unique exW 0) exTSteps
    (by intro i hi
        have hc : (trunSteps exW exT0 exTSteps).committed = [4, 5, 3, 1, 2] := by decide +kernel
        rw [hc] at hi
        simp only [List.mem_cons, List.not_mem_nil, or_false] at hi
        simp only [exW, exW2]; omega)
    0 [] (by intro q hq; exact absurd hq (List.not_mem_nil))
    exRSteps []).1

/-- the same with a purge that stopped HALF-WAY as `dels` (record 2 and its index member gone, records 4, 5 and
    the snapshot at sequence 3 left): the first start purges the rest, nothing of the old numbering is ever counted -/
def exDels : List Req := [.delRec 2, .zrem [2]]
example : (twoNumberings exW exW2 0 exDels exT0 exTSteps [.start]).rq
    = [.delRec 4, .delRec 5, .zrem [4, 5], .delFrontier] := by decide +kernel
example : ∀ j, 0 < j → j ≤ startSeqOf exW2.ver (twoNumberings exW exW2 0 exDels exT0 exTSteps ([.start] ++ exRSteps)).ns exW2.ids →
    j ∈ (twoNumberings exW exW2 0 exDels exT0 exTSteps ([.start] ++ exRSteps)).committed :=
  (renumber_spans exW exW2 (fun i j h => by simp only [exW]; omega) (by decide)
    (fun i j h => by simp only [exW2]; omega) (by decide)
    exT0 (traffic_init_inv exW 0) (fresh_unique exW 0) exTSteps
    (by intro i hi
        have hc : (trunSteps exW exT0 exTSteps).committed = [4, 5, 3, 1, 2] := by decide +kernel
        rw [hc] at hi
        simp only [List.mem_cons, List.not_mem_nil, or_false] at hi
        simp only [exW, exW2]; omega)
    0 exDels (by intro q hq; simp only [exDels, List.mem_cons, List.not_mem_nil, or_false] at hq
                 rcases hq with rfl | rfl <;> rfl)
    [.start] exRSteps).2.2.2.2.2

end GunYu.Props.C14
