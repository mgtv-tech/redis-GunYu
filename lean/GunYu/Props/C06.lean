/-
  C06 — Each source (re)connection continues the stream gap-free or takes a
  snapshot.

  Quantifier: ALL source states `s` (same id, failover with previous id and
  switch offset, brand-new id, any backlog window or none), ALL stored resume
  positions `sp` (any id, any offset, or "?"), ALL cache descriptions `c` (either
  backend; empty / snapshot / log / both; any label; any position relative to
  `sp`) and ALL worlds of histories `w` — one theorem with hypotheses, never an
  enumeration.  Hypotheses:
    SourceWF     Redis's own invariants on (replid, backlog window, offsets)
    CacheWF      the cache description is one the backends can report
                 (log starts at the snapshot's offset; data only under a real id)
    CacheOK      what C05/C08 provide: bytes held under `runId` are `hist runId`
    Agree        PSYNC2: history id2 equals history id1 below the switch offset
    StoredCompat (only for `outcome_continue_or_full`, which takes the stored
                 label at face value) a position stored under the previous id
                 while the cache is already labelled with the current id lies in
                 the shared prefix. NOT an invariant (`storedCompat_not_invariant`:
                 in in-memory mode `SetRunId` does not relabel the position) and
                 necessary for the label-based conclusion (`storedCompat_needed`).
                 The label-free statements are `continues_what_the_target_holds`,
                 `reach_inv`, `reach_safe`: they assume nothing about labels, only
                 the invariant `Truthful`, proved over every sequence.
-/
import GunYu.Model.Psync
import GunYu.Proofs.Psync
import GunYu.Proofs.PsyncRun

namespace GunYu.Props.C06
open GunYu GunYu.Psync

/-- **continue or full.** What the reader hands to the output after a
    (re)connection is
    * either log bytes starting exactly at the stored offset — then the source
      granted CONTINUE, the stored id is one the source serves, the prefix the
      target already consumed belongs to the current history, and every byte
      delivered from there on (cached or freshly written, without a gap between
      them) is the current history's byte at that offset;
    * or one complete snapshot at some offset `left` of a history that agrees
      with the current one below `left` — the one the source just sent when it
      answered FULLRESYNC, a cached one only when the source granted CONTINUE and
      the cache was not cleared — and the cache then holds exactly that snapshot
      (the log from `left` on follows by `cache_consistent_after` and this same
      theorem applied to the next connection).
    Nothing else can happen (in particular the run does not abort). -/
theorem outcome_continue_or_full (w : World) (s : Source) (sp : SP) (c : Cache) (d : CData)
    (hs : SourceWF s) (hc : CacheWF c) (hok : CacheOK w s c d) (hag : Agree w s)
    (hcompat : StoredCompat s sp c) (r : Result) (hr : r = run w s sp c d) :
    (∃ byte, r.delivery = .stream sp.offset byte ∧ r.mt.ps.full = false ∧
        (sp.runId = s.id1 ∨ sp.runId = s.id2) ∧
        (∀ n, 0 ≤ n → n < sp.offset → w.hist sp.runId n = w.hist s.id1 n) ∧
        (∀ n, sp.offset ≤ n → byte n = w.hist s.id1 n))
    ∨
    (∃ tok left size, r.delivery = .snapshot tok left size ∧ 0 < size ∧ 0 ≤ left ∧ tok.2 = left ∧
        (∀ n, 0 ≤ n → n < left → w.hist tok.1 n = w.hist s.id1 n) ∧
        (r.mt.ps.full = true → tok = (s.id1, s.masterOff) ∧ left = s.masterOff ∧ size = s.snapLen) ∧
        (r.mt.ps.full = false → r.mt.deleted = false ∧ c.rdb = some (left, size) ∧ tok = d.rdbTok) ∧
        (∀ k, (cacheAfter r.mt k).rdb = some (left, size)) ∧ r.data.rdbTok = tok) := by
  subst hr
  -- the cache's label was accepted by the source: what it holds is the current history
  have hh : KeepSpec w s sp c d (run w s sp c d) → _ := keep_holds hc hok hag
  have stream : ∀ byte, (run w s sp c d).delivery = .stream sp.offset byte →
      (run w s sp c d).mt.ps.full = false ∧ (sp.runId = s.id1 ∨ sp.runId = s.id2) ∧
      (∀ n, 0 ≤ n → n < sp.offset → w.hist sp.runId n = w.hist s.id1 n) ∧
      (∀ n, sp.offset ≤ n → byte n = w.hist s.id1 n) := by
    intro byte hdel
    obtain ⟨_, _, hfull, hin, hb, hsw⟩ := stream_facts hs hc hh hdel
    refine ⟨hfull, hin, fun n h0 hn => ?_, hb⟩
    by_cases e1 : sp.runId = s.id1
    · rw [e1]
    · have e2 := hin.resolve_left e1
      rw [e2]
      apply hag n h0
      -- a position under the previous id lies in the shared prefix: the source checked it,
      -- unless the cache is already labelled with the current id (`StoredCompat`)
      by_cases ec : c.runId = s.id1
      · have := hcompat e2 e1 ec; omega
      · have := hsw e1 (.inl ec); omega
  rcases run_spec w sp d hs hc with hF | hK | hC
  · -- full resynchronisation
    right
    refine ⟨(s.id1, s.masterOff), s.masterOff, s.snapLen, hF.delivery, hs.snap_pos, hs.master_nonneg, rfl,
      fun _ _ _ => rfl, fun _ => ⟨rfl, rfl, rfl⟩, fun h => ?_, fun k => ?_, ?_⟩
    · rw [hF.full] at h; cases h
    · rw [hF.after k]
    · rw [hF.data]
  · -- continuation, cache kept
    rcases hK.read with ⟨_, hdel, _⟩ | ⟨left, size, hrdb, _, _, hdel⟩
    · exact .inl ⟨_, hdel, stream _ hdel⟩
    · right
      have h1 := (hh hK).rdb_tok; rw [hrdb] at h1
      have h2 := hc.rdb_bounds hrdb
      refine ⟨d.rdbTok, left, size, hdel, h2.2.1, h2.1, h1.1, h1.2, fun h => ?_, fun _ => ⟨hK.deleted, hrdb, rfl⟩,
        fun k => ?_, ?_⟩
      · rw [hK.full] at h; cases h
      · rw [hK.after k]; exact hrdb
      · rw [hK.data]
  · -- continuation, cache cleared
    exact .inl ⟨_, hC.delivery, stream _ hC.delivery⟩

/-- **offset convention.** A continuation is asked for with the stored/cached
    offset + 1 (Redis numbers the next byte wanted), and the writer stores the
    bytes the source then sends from exactly that offset: `request = writer
    start + 1`. When the cache was cleared the request is the stored position's
    (`outSp.offset + 1`) and reader and writer both start there. On FULLRESYNC
    the snapshot writer is placed at the announced offset and the reader
    `size` bytes before it. -/
theorem psync_offset_convention (w : World) (s : Source) (sp : SP) (c : Cache) (d : CData)
    (hs : SourceWF s) (hc : CacheWF c) (r : Result) (hr : r = run w s sp c d) :
    (r.mt.ps.full = false →
        r.mt.ps.wireOff = r.mt.locSp.offset + 1 ∧ r.writer = .aof r.mt.locSp.offset ∧
        0 ≤ r.mt.locSp.offset ∧
        (r.mt.clearLocal = true → r.mt.ps.wireOff = sp.offset + 1 ∧ r.mt.outSp.offset = sp.offset ∧
            r.mt.locSp.offset = sp.offset)) ∧
    (r.mt.ps.full = true →
        r.writer = .rdb s.masterOff s.snapLen ∧ r.mt.locSp.offset = s.masterOff ∧
        r.mt.outSp.offset = s.masterOff - s.snapLen) := by
  subst hr
  rcases run_spec w sp d hs hc with hF | hK | hC
  · refine ⟨fun h => ?_, fun _ => ⟨hF.writer, ?_, ?_⟩⟩
    · rw [hF.full] at h; cases h
    · rw [hF.locSp]
    · rw [hF.outSp]
  · refine ⟨fun _ => ⟨?_, ?_, ?_, fun h => ?_⟩, fun h => ?_⟩
    · rw [hK.wire, hK.locSp]
    · rw [hK.writer, hK.locSp]
    · rw [hK.locSp]; exact hK.lat_nonneg
    · rw [hK.clear] at h; cases h
    · rw [hK.full] at h; cases h
  · refine ⟨fun _ => ⟨?_, ?_, ?_, fun _ => ⟨hC.wire, ?_, ?_⟩⟩, fun h => ?_⟩
    · rw [hC.wire, hC.locSp]
    · rw [hC.writer, hC.locSp]
    · rw [hC.locSp]; exact hC.off_nonneg
    · rw [hC.outSp]
    · rw [hC.locSp]
    · rw [hC.full] at h; cases h

/-- **never a later start.** Whatever the cache and the source say, a log
    reader never starts anywhere but at the stored offset (pure decision logic:
    no assumption on the cached bytes or the histories). -/
theorem never_beyond_stored (w : World) (s : Source) (sp : SP) (c : Cache) (d : CData)
    (hs : SourceWF s) (hc : CacheWF c) (start : Int) (byte : Int → UInt8)
    (h : (run w s sp c d).delivery = .stream start byte) : start = sp.offset :=
  (stream_start hs hc h).1

/-- **only the source's ids.** The run id the cache and the target are
    (re)labelled with is the source's current id; a continuation is only ever
    relied on for a request under one of the two ids the source serves; the cache
    after the round is labelled with the current id. -/
theorem ids_within_source (w : World) (s : Source) (sp : SP) (c : Cache) (d : CData)
    (hs : SourceWF s) (hc : CacheWF c) (r : Result) (hr : r = run w s sp c d) :
    r.mt.runId = s.id1 ∧ (∀ k, (cacheAfter r.mt k).runId = s.id1) ∧
    (r.mt.ps.full = false → r.mt.ps.reqId = s.id1 ∨ r.mt.ps.reqId = s.id2) := by
  subst hr
  rcases run_spec w sp d hs hc with hF | hK | hC
  · refine ⟨hF.runId, fun k => by rw [hF.after k], fun h => ?_⟩
    rw [hF.full] at h; cases h
  · refine ⟨hK.runId, fun k => by rw [hK.after k], fun _ => ?_⟩
    rw [hK.reqId]; exact hK.cid.imp id And.left
  · refine ⟨hC.runId, fun k => by rw [hC.after k], fun _ => ?_⟩
    rw [hC.reqId]; exact hC.sid.imp id And.left

/-- **no cache reuse after clearing.** Once the cache was dropped (clearLocal or
    FULLRESYNC) neither what is delivered nor what the cache holds afterwards
    depends on the bytes the cache held before. -/
theorem no_cache_reuse_when_cleared (w : World) (s : Source) (sp : SP) (c : Cache) (d d' : CData)
    (hs : SourceWF s) (hc : CacheWF c)
    (h : (run w s sp c d).mt.clearLocal = true ∨ (run w s sp c d).mt.ps.full = true) :
    (run w s sp c d').delivery = (run w s sp c d).delivery ∧ (run w s sp c d').data = (run w s sp c d).data := by
  -- the old bytes enter `run` only through `if deleted then CData.empty else d`
  have hdel : (syncMeta s sp c).deleted = true := by
    rw [run_mt] at h
    simp only [syncMeta] at h ⊢
    rcases h with h | h <;> simp [h]
  simp only [run, hdel, if_true, and_self]

/-- **the invariant is re-established.** After the writer stored `k` further
    bytes of what the source sent, the cache is again one the backends can
    report, labelled with the current id, holding only bytes of the current
    history — so the next connection starts from the hypotheses of
    `outcome_continue_or_full` again (no bytes of an id outside {id1,id2} ever
    enter or stay in the cache). -/
theorem cache_consistent_after (w : World) (s : Source) (sp : SP) (c : Cache) (d : CData)
    (hs : SourceWF s) (hc : CacheWF c) (hok : CacheOK w s c d) (hag : Agree w s)
    (k : Int) (hk : 0 ≤ k) (hbound : s.masterOff + k ≤ maxInt64) (r : Result) (hr : r = run w s sp c d) :
    CacheWF (cacheAfter r.mt k) ∧ CacheOK w s (cacheAfter r.mt k) r.data ∧ (cacheAfter r.mt k).runId = s.id1 := by
  subst hr
  obtain ⟨a, b, e⟩ := after_holds (w := w) (sp := sp) (d := d) hs hc (keep_holds hc hok hag) hk hbound
  exact ⟨a, ok_of_cur b, e⟩

/-- the run never aborts for lack of a writer or reader -/
theorem delivers_something (w : World) (s : Source) (sp : SP) (c : Cache) (d : CData)
    (hs : SourceWF s) (hc : CacheWF c) :
    (run w s sp c d).writer ≠ .err ∧ (run w s sp c d).reader ≠ .notExist := by
  rcases run_spec w sp d hs hc with hF | hK | hC
  · rw [hF.writer, hF.reader]; exact ⟨nofun, nofun⟩
  · rw [hK.writer]
    rcases hK.read with ⟨h, _⟩ | ⟨_, _, _, _, h, _⟩ <;> rw [h] <;> exact ⟨nofun, nofun⟩
  · rw [hC.writer, hC.reader]; exact ⟨nofun, nofun⟩

/-! ## Non-vacuity: concrete worlds meeting the hypotheses, one per outcome -/

/-- id [2] is the previous history: equal to [1] below 100, different from 100 on -/
def w0 : World :=
  ⟨fun id n => if id = [2] ∧ 100 ≤ n then 7 else UInt8.ofNat n.toNat, fun _ _ i => UInt8.ofNat i⟩

/-- failover: current id [1], previous id [2] valid up to 100, backlog [50,201), master at 200 -/
def s0 : Source := ⟨[1], [2], 100, true, 50, 151, 200, 10, true⟩

theorem s0_wf : SourceWF s0 := by
  refine ⟨?_, ?_, ?_, ?_, ?_, ?_, ?_, ?_, ?_⟩ <;> decide

/-- below 100 all histories of `w0` are the same -/
theorem w0_agree_le (s : Source) (h : s.switchOff ≤ 100) : Agree w0 s := by
  intro n _ hn
  have : ¬ (100 ≤ n) := by omega
  simp [w0, this]

theorem w0_agree : Agree w0 s0 := w0_agree_le s0 (by decide)

def dOf (id : Id) (left : Int) : CData := ⟨fun n => w0.hist id n, (id, left)⟩

theorem dOf_holds (be : Backend) (id : Id) (rdb : Option (Int × Int)) (aof : Option (Int × Int)) (left : Int)
    (h : ∀ p, rdb = some p → p.1 = left) : Holds w0 id ⟨be, id, rdb, aof⟩ (dOf id left) := by
  constructor
  · cases aof with
    | none => trivial
    | some p => obtain ⟨l, r⟩ := p; intro n _ _; rfl
  · cases rdb with
    | none => trivial
    | some p => obtain ⟨l, sz⟩ := p; exact ⟨(h _ rfl).symm, fun n _ _ => rfl⟩

theorem dOf_ok (be : Backend) (id : Id) (rdb : Option (Int × Int)) (aof : Option (Int × Int)) (left : Int)
    (h : ∀ p, rdb = some p → p.1 = left) : CacheOK w0 s0 ⟨be, id, rdb, aof⟩ (dOf id left) := by
  have hh := dOf_holds be id rdb aof left h
  exact ⟨fun e => by obtain rfl : id = _ := e; exact hh, fun e => .inl (by obtain rfl : id = _ := e; exact hh)⟩

-- A. stored under the previous id inside the cached log, cache under the previous
--    id and short of the switch offset: PSYNC [2] 91 is granted, the reader
--    starts at the stored offset 80, the cache is relabelled [1].
def spA : SP := ⟨[2], 80⟩
def cA : Cache := ⟨.memory, [2], none, some (60, 90)⟩
example : CacheWF cA := by refine ⟨?_, ?_, ?_, ?_⟩ <;> simp [cA, maxInt64, qId]
example : StoredCompat s0 spA cA := by unfold StoredCompat; decide
example : CacheOK w0 s0 cA (dOf [2] 0) := dOf_ok _ _ _ _ _ (by intro p h; cases h)
example : (run w0 s0 spA cA (dOf [2] 0)).reader = .aof 80 ∧
    (run w0 s0 spA cA (dOf [2] 0)).mt.ps.reqId = [2] ∧ (run w0 s0 spA cA (dOf [2] 0)).mt.ps.wireOff = 91 ∧
    (run w0 s0 spA cA (dOf [2] 0)).mt.ps.full = false ∧ (run w0 s0 spA cA (dOf [2] 0)).mt.runId = [1] ∧
    (cacheAfter (run w0 s0 spA cA (dOf [2] 0)).mt 5) = ⟨.memory, [1], none, some (60, 95)⟩ := by decide

-- B. same, but the cache under the previous id reaches beyond the switch offset
--    (bytes the old master wrote and the new one never had): PSYNC [2] 161 is
--    refused, the source's snapshot at 200 is taken and the cache dropped.
def spB : SP := ⟨[2], 150⟩
def cB : Cache := ⟨.disk, [2], some (100, 20), some (100, 160)⟩
example : CacheWF cB := by refine ⟨?_, ?_, ?_, ?_⟩ <;> simp [cB, maxInt64, qId]
example : StoredCompat s0 spB cB := by unfold StoredCompat; decide
example : (run w0 s0 spB cB (dOf [2] 100)).reader = .rdb 200 10 ∧
    (run w0 s0 spB cB (dOf [2] 100)).mt.ps.wireOff = 161 ∧ (run w0 s0 spB cB (dOf [2] 100)).mt.ps.full = true ∧
    (run w0 s0 spB cB (dOf [2] 100)).mt.deleted = true ∧
    (cacheAfter (run w0 s0 spB cB (dOf [2] 100)).mt 3) = ⟨.disk, [1], some (200, 10), some (200, 203)⟩ := by decide

-- C. nothing stored on the target, cache holds snapshot + log of the current id:
--    PSYNC [1] 181 is granted and the cached snapshot (120,30) is replayed.
def cC : Cache := ⟨.disk, [1], some (120, 30), some (120, 180)⟩
example : CacheWF cC := by refine ⟨?_, ?_, ?_, ?_⟩ <;> simp [cC, maxInt64, qId]
example : (run w0 s0 SP.initial cC (dOf [1] 120)).reader = .rdb 120 30 ∧
    (run w0 s0 SP.initial cC (dOf [1] 120)).mt.ps.wireOff = 181 ∧
    (run w0 s0 SP.initial cC (dOf [1] 120)).mt.outSp.offset = 90 ∧
    (run w0 s0 SP.initial cC (dOf [1] 120)).writer = .aof 180 := by decide

-- D. cache of an unknown id: cleared, continuation asked for the stored position.
def spD : SP := ⟨[1], 170⟩
def cD : Cache := ⟨.memory, [9], none, some (10, 20)⟩
example : CacheWF cD := by refine ⟨?_, ?_, ?_, ?_⟩ <;> simp [cD, maxInt64, qId]
example : (run w0 s0 spD cD (dOf [9] 0)).reader = .aof 170 ∧ (run w0 s0 spD cD (dOf [9] 0)).writer = .aof 170 ∧
    (run w0 s0 spD cD (dOf [9] 0)).mt.ps.wireOff = 171 ∧ (run w0 s0 spD cD (dOf [9] 0)).mt.clearLocal = true ∧
    (run w0 s0 spD cD (dOf [9] 0)).mt.deleted = true := by decide

/-- `StoredCompat` cannot be dropped: with every other hypothesis in place, a
    position stored under the previous id *beyond* the switch offset while the
    cache is labelled with the current id is continued from — although the
    prefix the target consumed is not the current history's (`syncMeta` compares
    the stored id only with the set of source ids, not with the cache's). The
    state itself is reachable (`storedCompat_not_invariant`), but then with a
    stale label on a target that holds the current history; what is never
    reachable is the combination with a target that really holds the previous
    history beyond the switch offset (`reach_safe`). -/
theorem storedCompat_needed :
    ∃ (sp : SP) (c : Cache) (d : CData), SourceWF s0 ∧ CacheWF c ∧ CacheOK w0 s0 c d ∧ Agree w0 s0 ∧
      ¬ StoredCompat s0 sp c ∧ (run w0 s0 sp c d).reader = .aof sp.offset ∧
      (run w0 s0 sp c d).mt.ps.full = false ∧
      ∃ n, 0 ≤ n ∧ n < sp.offset ∧ w0.hist sp.runId n ≠ w0.hist s0.id1 n := by
  refine ⟨⟨[2], 150⟩, ⟨.memory, [1], none, some (120, 180)⟩, dOf [1] 0, s0_wf, ?_, ?_, w0_agree, ?_, ?_, ?_, ?_⟩
  · refine ⟨?_, ?_, ?_, ?_⟩ <;> simp [maxInt64, qId]
  · exact dOf_ok _ _ _ _ _ (by intro p h; cases h)
  · unfold StoredCompat; decide
  · decide
  · decide
  · exact ⟨120, by decide, by decide, by decide⟩

/-! ## The stored position across connections (restart-in-window schedules)

  The theorems above take the stored position at face value. The following ones
  follow the target's bookkeeping itself (`Tgt`, `step`: `SetRunId`,
  `ResetStartPoint`, what `Send` stores; both the checkpoint on the target and
  the in-memory position) together with what the target's data really is, over
  ANY sequence of connections, interrupted replays, restarts and source changes.
  `Truthful` replaces `StoredCompat`: it is an invariant of the (repaired) code,
  not an assumption on the state. -/

/-- under the previous id's label too, once the source has checked the offset against its switch offset -/
theorem truthful_prefix {w : World} {s : Source} {t : Tgt} {c : Cache} (hag : Agree w s) (htr : Truthful w s t c)
    (hin : t.stored.runId = s.id1 ∨ t.stored.runId = s.id2) (h0 : 0 ≤ t.stored.offset)
    (hsw : t.stored.runId ≠ s.id1 → NotYetCurrent s c → t.stored.offset ≤ s.switchOff) :
    ∃ tid, t.truth = .at tid t.stored.offset ∧ AgreeBelow w tid s.id1 t.stored.offset := by
  obtain ⟨tid, ht, hd⟩ := htr hin h0
  refine ⟨tid, ht, ?_⟩
  rcases hd with d1 | ⟨_, ln1, ag, hcn⟩
  · exact d1
  · have := hsw ln1 hcn
    exact fun n h0 hn => (ag n h0 hn).trans (hag n h0 (by omega))

/-- **a log is only ever continued on top of what the target really holds.** If
    the stored position is truthful, a log delivery starts exactly where the
    target's data ends, that data is a prefix of the current history, and the
    bytes delivered are the current history's from there on. -/
theorem continues_what_the_target_holds (w : World) (s : Source) (t : Tgt) (c : Cache) (d : CData)
    (hs : SourceWF s) (hc : CacheWF c) (hok : CacheOK w s c d) (hag : Agree w s)
    (htr : Truthful w s t c) (start : Int) (byte : Int → UInt8)
    (h : (run w s t.stored c d).delivery = .stream start byte) :
    start = t.stored.offset ∧
    ∃ tid, t.truth = .at tid start ∧ AgreeBelow w tid s.id1 start ∧
      ∀ n, start ≤ n → byte n = w.hist s.id1 n := by
  obtain ⟨e1, h0, _, hin, hb, hsw⟩ := stream_facts hs hc (keep_holds hc hok hag) h
  obtain ⟨tid, ht, hd⟩ := truthful_prefix hag htr hin h0 hsw
  subst e1
  exact ⟨rfl, tid, ht, hd, hb⟩

theorem truthful_afterSend (resume : Bool) {w : World} {s : Source} (hs : SourceWF s) {t : Tgt} {c' : Cache}
    (r : Result) (done : Bool) (e : Int)
    (htr : (∀ tok left size, r.delivery ≠ .snapshot tok left size) → Truthful w s t c') :
    Truthful w s (t.afterSend resume s r done e) c' := by
  have hat : ∀ (l : Id) (x : Int), Truthful w s ⟨⟨l, x⟩, .at s.id1 x⟩ c' :=
    fun _ _ _ _ => ⟨s.id1, rfl, Or.inl (fun _ _ _ => rfl)⟩
  unfold Tgt.afterSend
  split
  · rename_i hd
    split
    · exact hat _ _
    · exact htr fun _ _ _ h => by rw [hd] at h; cases h
  · cases done
    · exact fun hin _ => absurd rfl (served_real hs hin).2
    · exact hat _ _
  · rename_i hd
    exact htr fun _ _ _ h => by rw [hd] at h; cases h

/-- CONTINUE: the position keeps its offset and the truth about it; in resume mode it is re-keyed -/
theorem afterMeta_cont (resume : Bool) (t : Tgt) {m : Meta} (hnf : m.ps.full = false) :
    t.afterMeta resume m = ⟨⟨if resume then m.runId else t.stored.runId, t.stored.offset⟩, t.truth⟩ := by
  unfold Tgt.afterMeta
  rw [hnf]
  cases resume <;> rfl

/-- **the invariant is kept by every connection**, however it ends: the log
    replayed up to any offset `e`, a snapshot replay completed or interrupted
    (`done`), in resume and in in-memory mode, for any number `k` of bytes the
    cache went on storing. In particular after FULLRESYNC and after an
    interrupted snapshot replay no position is left that could be continued. -/
theorem truthful_preserved (resume : Bool) (w : World) (s : Source) (t : Tgt) (c : Cache) (d : CData)
    (hs : SourceWF s) (hc : CacheWF c) (hok : CacheOK w s c d) (hag : Agree w s)
    (htr : Truthful w s t c) (done : Bool) (e k : Int) :
    Truthful w s (step resume w s t c d done e) (cacheAfter (run w s t.stored c d).mt k) := by
  refine truthful_afterSend resume hs _ done e fun hns => ?_
  cases hdel : (run w s t.stored c d).delivery with
  | snapshot tok left size => exact absurd hdel (hns _ _ _)
  | none =>
    exfalso
    rcases run_spec w t.stored d hs hc with hF | hK | hC
    · rw [hF.delivery] at hdel; cases hdel
    · rcases hK.read with ⟨_, h, _⟩ | ⟨_, _, _, _, _, h⟩ <;> rw [h] at hdel <;> cases hdel
    · rw [hC.delivery] at hdel; cases hdel
  | stream start byte =>
    -- the position is left as it was (or relabelled): still exactly what the target holds
    obtain ⟨e1, h0, hfull, hin, _, hsw⟩ := stream_facts hs hc (keep_holds hc hok hag) hdel
    obtain ⟨tid, ht, hd1⟩ := truthful_prefix hag htr hin h0 hsw
    rw [afterMeta_cont resume t hfull]
    exact fun _ _ => ⟨tid, ht, Or.inl hd1⟩

/-- **and by a change of the source** — a failover that exposes the current id as
    the previous one, or an unrelated new history: provided the new current id is
    new (no position and no cache is labelled with it yet). What belongs to the
    new history is then decided by the source's answer to PSYNC, not by a label. -/
theorem truthful_source_change (w : World) (s s' : Source) (t : Tgt) (c : Cache)
    (htr : Truthful w s t c) (h1 : s'.id1 ≠ t.stored.runId) (h2 : s'.id1 ≠ c.runId)
    (h3 : s'.id2 = t.stored.runId → t.stored.runId = s.id1) :
    Truthful w s' t c := by
  intro hin h0
  rcases hin with x | x
  · exact absurd x.symm h1
  · have hL := h3 x.symm
    obtain ⟨tid, ht, hd⟩ := htr (Or.inl hL) h0
    rcases hd with d1 | ⟨_, ln1, _, _⟩
    · refine ⟨tid, ht, Or.inr ⟨x, fun y => h1 y.symm, ?_, Or.inl (fun y => h2 y.symm)⟩⟩
      rw [← x, hL]; exact d1
    · exact absurd hL ln1

/-- the source may change anything but its ids (backlog window, offsets) -/
theorem truthful_same_ids (w : World) (s s' : Source) (t : Tgt) (c : Cache)
    (htr : Truthful w s t c) (h1 : s'.id1 = s.id1) (h2 : s'.id2 = s.id2) : Truthful w s' t c := by
  unfold Truthful NotYetCurrent at htr ⊢
  rw [h1, h2]; exact htr

/-- a target that holds nothing, with nothing stored, is truthful -/
theorem truthful_initially (w : World) (s : Source) (hs : SourceWF s) (c : Cache) :
    Truthful w s ⟨SP.initial, .none⟩ c := by
  intro hin _
  rcases hin with x | x
  · exact absurd x.symm hs.id1_nq
  · exact absurd x.symm hs.id2_nq

/-- a stored position `(rid, off)` that tells the truth by construction -/
def tgtAt (rid : Id) (off : Int) : Tgt := ⟨⟨rid, off⟩, .at rid off⟩

theorem tgtAt_truthful (w : World) (s : Source) (c : Cache) (rid : Id) (off : Int)
    (hlab : rid = s.id2 → rid ≠ s.id1 → NotYetCurrent s c) : Truthful w s (tgtAt rid off) c := by
  intro hin _
  refine ⟨rid, rfl, ?_⟩
  by_cases e1 : rid = s.id1
  · left; intro n _ _; rw [e1]
  · right
    have e2 : rid = s.id2 := by
      rcases hin with h | h
      · exact absurd h e1
      · exact h
    exact ⟨e2, e1, fun n _ _ => by rw [e2], hlab e2 e1⟩

/-! ## Sequences of connections -/

/-- replacing the cache (lost, trimmed, collected, another instance's, cleared and
    relabelled by a `syncMeta` that then failed) keeps the invariant unless the new
    cache newly holds data under the current id -/
theorem truthful_cache_change (w : World) (s : Source) (t : Tgt) (c c' : Cache)
    (htr : Truthful w s t c) (h : NotYetCurrent s c → NotYetCurrent s c') : Truthful w s t c' := by
  intro hin h0
  obtain ⟨tid, ht, hd⟩ := htr hin h0
  refine ⟨tid, ht, ?_⟩
  rcases hd with d1 | ⟨a, b, ag, hc⟩
  · exact Or.inl d1
  · exact Or.inr ⟨a, b, ag, h hc⟩

/-- a position that cannot be continued (foreign id or negative offset) is truthful -/
theorem truthful_forget (w : World) (s : Source) (sp' : SP) (tr : Truth) (c : Cache)
    (h : (sp'.runId ≠ s.id1 ∧ sp'.runId ≠ s.id2) ∨ sp'.offset < 0) : Truthful w s ⟨sp', tr⟩ c := by
  intro hin h0
  rcases h with ⟨a, b⟩ | a
  · rcases hin with x | x
    · exact absurd x a
    · exact absurd x b
  · simp only at h0; omega

theorem ok_same {w : World} {s s' : Source} {c : Cache} {d : CData} (hok : CacheOK w s c d)
    (h1 : s'.id1 = s.id1) (h2 : s'.id2 = s.id2) : CacheOK w s' c d :=
  ⟨fun e => by rw [h1] at e ⊢; exact hok.cur e, fun e => by rw [h1, h2] at *; exact hok.prev e⟩

/-- a cache under the old current id is read by the new source as its previous id's -/
theorem ok_change {w : World} {s s' : Source} {c : Cache} {d : CData} (hok : CacheOK w s c d)
    (h2 : s'.id1 ≠ c.runId) (h4 : s'.id2 = c.runId → c.runId = s.id1) : CacheOK w s' c d :=
  ⟨fun e => absurd e.symm h2, fun e => by have e1 := h4 e.symm; left; rw [← e, e1]; exact hok.cur e1⟩

/-- **invariant over every sequence** of connections (any ending, either mode),
    source changes, cache losses / replacements and lost positions: the
    hypotheses of the single-connection theorems hold in every reachable state. -/
theorem reach_inv (w : World) (σ : Sys) (h : Reach w σ) :
    SourceWF σ.s ∧ Agree w σ.s ∧ CacheWF σ.c ∧ CacheOK w σ.s σ.c σ.d ∧ Truthful w σ.s σ.t σ.c := by
  induction h with
  | init s be hs hag =>
    exact ⟨hs, hag, wf_empty _ _, ok_empty w s _ rfl rfl, truthful_initially w s hs _⟩
  | conn σ resume done e k _ hk hb ih =>
    obtain ⟨hs, hag, hc, hok, htr⟩ := ih
    obtain ⟨a, b, _⟩ := cache_consistent_after w σ.s σ.t.stored σ.c σ.d hs hc hok hag k hk hb _ rfl
    exact ⟨hs, hag, a, b, truthful_preserved resume w σ.s σ.t σ.c σ.d hs hc hok hag htr done e k⟩
  | same σ s' _ hs' hag' h1 h2 ih =>
    obtain ⟨_, _, hc, hok, htr⟩ := ih
    exact ⟨hs', hag', hc, ok_same hok h1 h2, truthful_same_ids w σ.s s' σ.t σ.c htr h1 h2⟩
  | change σ s' _ hs' hag' h1 h2 h3 h4 ih =>
    obtain ⟨_, _, hc, hok, htr⟩ := ih
    exact ⟨hs', hag', hc, ok_change hok h2 h4, truthful_source_change w σ.s s' σ.t σ.c htr h1 h2 h3⟩
  | cache σ c' d' _ hc' hok' hl ih =>
    obtain ⟨hs, hag, _, _, htr⟩ := ih
    exact ⟨hs, hag, hc', hok', truthful_cache_change w σ.s σ.t σ.c c' htr hl⟩
  | forget σ sp' _ hf ih =>
    obtain ⟨hs, hag, hc, hok, _⟩ := ih
    exact ⟨hs, hag, hc, hok, truthful_forget w σ.s sp' σ.t.truth σ.c hf⟩

/-- **end to end, over every sequence**: in every reachable state, whatever the
    next connection delivers as log starts exactly where the target's data ends,
    that data is a prefix of the source's current history, and the bytes are the
    current history's from there on; anything else it delivers is a complete
    snapshot (`outcome_continue_or_full`). -/
theorem reach_safe (w : World) (σ : Sys) (h : Reach w σ) (start : Int) (byte : Int → UInt8)
    (hd : (run w σ.s σ.t.stored σ.c σ.d).delivery = .stream start byte) :
    start = σ.t.stored.offset ∧ ∃ tid, σ.t.truth = .at tid start ∧ AgreeBelow w tid σ.s.id1 start ∧
      ∀ n, start ≤ n → byte n = w.hist σ.s.id1 n := by
  obtain ⟨hs, hag, hc, hok, htr⟩ := reach_inv w σ h
  exact continues_what_the_target_holds w σ.s σ.t σ.c σ.d hs hc hok hag htr start byte hd

/-- `syncMeta` failing after it cleared and relabelled the cache (`channel.DelRunId`,
    `channel.SetRunId`) and before the output was told anything leaves a reachable
    state: an empty cache already labelled with the current id, bookkeeping untouched. -/
theorem reach_after_failed_meta (w : World) (σ : Sys) (h : Reach w σ) :
    Reach w ⟨σ.s, σ.t, ⟨σ.c.backend, σ.s.id1, none, none⟩, CData.empty⟩ :=
  Reach.cache σ _ _ h (wf_empty _ _) (ok_empty w σ.s _ rfl rfl) (fun _ => Or.inr ⟨rfl, rfl⟩)

/-! ### non-vacuity of `Reach` / `reach_safe`: empty target and cache, FULLRESYNC at
    200 replayed to the end (the cache stores 30 more bytes), the source moves on to
    230, and the next connection streams from 200 -/

def s0b : Source := { s0 with backlogLen := 181, masterOff := 230 }
def σA : Sys := ⟨s0, ⟨SP.initial, .none⟩, ⟨.memory, [], none, none⟩, CData.empty⟩
def σB : Sys := ⟨s0, step true w0 s0 σA.t σA.c σA.d true 0,
  cacheAfter (run w0 s0 σA.t.stored σA.c σA.d).mt 30, (run w0 s0 σA.t.stored σA.c σA.d).data⟩
def σC : Sys := ⟨s0b, σB.t, σB.c, σB.d⟩

theorem s0b_wf : SourceWF s0b := by refine ⟨?_, ?_, ?_, ?_, ?_, ?_, ?_, ?_, ?_⟩ <;> decide
theorem w0_agree_b : Agree w0 s0b := w0_agree_le s0b (by decide)

theorem reach_example :
    Reach w0 σC ∧ σC.t.stored = ⟨[1], 200⟩ ∧ σC.c = ⟨.memory, [1], some (200, 10), some (200, 230)⟩ ∧
    ∃ byte, (run w0 s0b σC.t.stored σC.c σC.d).delivery = .stream 200 byte := by
  refine ⟨?_, by decide, by decide, ⟨_, rfl⟩⟩
  exact Reach.same σB s0b
    (Reach.conn σA true true 0 30 (Reach.init s0 .memory s0_wf w0_agree) (by decide) (by decide))
    s0b_wf w0_agree_b rfl rfl

/-- a log is never continued on a target whose last snapshot replay did not complete, nor on an empty one -/
theorem reach_never_streams_onto_dirty (w : World) (σ : Sys) (h : Reach w σ) (start : Int) (byte : Int → UInt8)
    (hd : (run w σ.s σ.t.stored σ.c σ.d).delivery = .stream start byte) :
    σ.t.truth ≠ .dirty ∧ σ.t.truth ≠ .none := by
  obtain ⟨_, tid, ht, _⟩ := reach_safe w σ h start byte hd
  rw [ht]; exact ⟨nofun, nofun⟩

/-- **a replayed snapshot is never behind the stored position**: when the source
    granted CONTINUE and a cached snapshot is replayed, either nothing was stored
    or the stored offset lies strictly before the snapshot's (the log, when it
    covers the stored offset, is always preferred). -/
theorem snapshot_not_behind (w : World) (s : Source) (sp : SP) (c : Cache) (d : CData)
    (hs : SourceWF s) (hc : CacheWF c) (tok : Id × Int) (left size : Int)
    (hf : (run w s sp c d).mt.ps.full = false)
    (h : (run w s sp c d).delivery = .snapshot tok left size) :
    sp.isInitial = true ∨ sp.offset < left := by
  rcases run_spec w sp d hs hc with hF | hK | hC
  · rw [hF.full] at hf; cases hf
  · rcases hK.read with ⟨_, hdel, _⟩ | ⟨l', s', _, hlt, _, hdel⟩
    · rw [hdel] at h; cases h
    · rw [hdel] at h; cases h; exact hlt.imp id And.right
  · rw [hC.delivery] at h; cases h

/-- `StoredCompat` is NOT an invariant: in in-memory mode a granted continuation
    after a failover relabels the cache but not the stored position, and the log
    then carries the position beyond the switch offset (example A continued to
    150). `Truthful` survives (the target really holds the current history), so
    `continues_what_the_target_holds` / `reach_safe` apply where
    `outcome_continue_or_full` does not. -/
theorem storedCompat_not_invariant :
    Truthful w0 s0 ⟨⟨[2], 80⟩, .at [2] 80⟩ cA ∧ StoredCompat s0 ⟨[2], 80⟩ cA ∧
    ¬ StoredCompat s0 (step false w0 s0 ⟨⟨[2], 80⟩, .at [2] 80⟩ cA (dOf [2] 0) true 150).stored
        (cacheAfter (run w0 s0 ⟨[2], 80⟩ cA (dOf [2] 0)).mt 70) := by
  exact ⟨tgtAt_truthful w0 s0 cA [2] 80 fun _ _ => .inl (by decide), by unfold StoredCompat; decide,
    by unfold StoredCompat; decide⟩

/-! ### what the three repairs are needed for (behaviour before 07a0622, 23cb23d, 58997e8) -/

/-- before the repair a FULLRESYNC kept the stored position: `SetRunId` re-keyed it
    to the new id with the old offset (on the target) or left it (in memory), and
    an interrupted snapshot replay left it there -/
def stepOld (resume : Bool) (w : World) (s : Source) (t : Tgt) (c : Cache) (d : CData) (done : Bool) (e : Int) : Tgt :=
  let r := run w s t.stored c d
  let t1 : Tgt := { t with stored := if resume then ⟨r.mt.runId, t.stored.offset⟩ else t.stored }
  match r.delivery with
  | .snapshot _ left _ => if done then ⟨⟨r.mt.runId, left⟩, .at s.id1 left⟩ else ⟨t1.stored, .dirty⟩
  | _ => t1.afterSend resume s r done e

/-- N1/N3: target at [2]:150 (beyond the switch offset 100), cache of [2] up to 160:
    PSYNC [2] 161 is refused, FULLRESYNC at 200; the snapshot replay is interrupted.
    Unrepaired, the position [1]:150 (resp. [2]:150 in memory) survives on a
    half-replaced data set; repaired, nothing is left to continue from. -/
theorem reset_on_full_needed :
    Truthful w0 s0 ⟨⟨[2], 150⟩, .at [2] 150⟩ cB ∧
    ¬ Truthful w0 s0 (stepOld true w0 s0 ⟨⟨[2], 150⟩, .at [2] 150⟩ cB (dOf [2] 100) false 0)
        (cacheAfter (run w0 s0 ⟨[2], 150⟩ cB (dOf [2] 100)).mt 60) ∧
    ¬ Truthful w0 s0 (stepOld false w0 s0 ⟨⟨[2], 150⟩, .at [2] 150⟩ cB (dOf [2] 100) false 0)
        (cacheAfter (run w0 s0 ⟨[2], 150⟩ cB (dOf [2] 100)).mt 60) ∧
    (step true w0 s0 ⟨⟨[2], 150⟩, .at [2] 150⟩ cB (dOf [2] 100) false 0).stored = SP.initial ∧
    (step false w0 s0 ⟨⟨[2], 150⟩, .at [2] 150⟩ cB (dOf [2] 100) false 0).stored = SP.initial := by
  refine ⟨?_, ?_, ?_, by decide, by decide⟩
  · exact tgtAt_truthful w0 s0 cB [2] 150 fun _ _ => .inl (by decide)
  · intro h
    have hst : (stepOld true w0 s0 ⟨⟨[2], 150⟩, .at [2] 150⟩ cB (dOf [2] 100) false 0) = ⟨⟨[1], 150⟩, .dirty⟩ := by
      simp only [stepOld]
      rfl
    rw [hst] at h
    obtain ⟨tid, ht, _⟩ := h (Or.inl rfl) (by decide)
    cases ht
  · intro h
    have hst : (stepOld false w0 s0 ⟨⟨[2], 150⟩, .at [2] 150⟩ cB (dOf [2] 100) false 0) = ⟨⟨[2], 150⟩, .dirty⟩ := by
      simp only [stepOld]
      rfl
    rw [hst] at h
    obtain ⟨tid, ht, _⟩ := h (Or.inr rfl) (by decide)
    cases ht

/-- N2: relabelling a truthful position of the previous id with the current id
    (what `newOutput` did at every start) breaks the invariant when the position
    lies beyond the switch offset — and the source then grants what it would have
    refused: PSYNC [1] 151 against PSYNC [2] 151. -/
theorem no_relabel_at_start_needed :
    Truthful w0 s0 ⟨⟨[2], 150⟩, .at [2] 150⟩ ⟨.memory, [], none, none⟩ ∧
    ¬ Truthful w0 s0 ⟨⟨[1], 150⟩, .at [2] 150⟩ ⟨.memory, [], none, none⟩ ∧
    (run w0 s0 ⟨[1], 150⟩ ⟨.memory, [], none, none⟩ CData.empty).reader = .aof 150 ∧
    (run w0 s0 ⟨[2], 150⟩ ⟨.memory, [], none, none⟩ CData.empty).mt.ps.full = true := by
  refine ⟨?_, ?_, by decide, by decide⟩
  · exact tgtAt_truthful w0 s0 _ [2] 150 fun _ _ => .inl (by decide)
  · intro h
    obtain ⟨tid, ht, hd⟩ := h (Or.inl rfl) (by decide)
    cases ht
    rcases hd with d1 | ⟨x, _⟩
    · have := d1 120 (by decide) (by decide)
      revert this; decide
    · revert x; decide

end GunYu.Props.C06
