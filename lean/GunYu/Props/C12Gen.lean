/-
  The REGENERATED definition of the cluster client's reply-length parser
  (pkg/redis/client/cluster/conn.go `parseLen`; lean/GunYu/Gen/FnParseLen.lean,
  translated from /repo's Go source on every run) against the decimal functions of
  Basic/Bytes.lean.

  NOT part of C12's check: the decoder C12 is about (pkg/redis/client/decoder.go
  decodeInt) parses lengths with the standard library's strconv.ParseInt on a line
  read through bufio - there is no repository function to translate there (the model
  `Resp.parseInt64` stays a trusted reading of strconv). `parseLen` is the OTHER
  RESP reader of the repository (replies of cluster nodes). What is proved:
  * a non-empty all-digit text of at most 18 digits parses to its decimal value, no error;
  * "-1" is the null length; any other text with a non-digit is an error (-1, non-nil);
  * (by evaluation) from 19 digits on the accumulation in a 64-bit `int` can wrap
    silently: 99999999999999999999 parses to 7766279631452241919 without an error.
-/
import GunYu.Basic.Bytes
import GunYu.Props.C11Gen
import GunYu.Gen.FnParseLen

namespace GunYu.Props.C12
open GunYu GunYu.Gen
open GunYu.Props.C11 (index_nat addI_nat decimal_step drop_cons loop_header)

def decStep (acc : Nat) (b : UInt8) : Nat := acc * 10 + (b.toNat - 48)

theorem isDigit_iff (b : UInt8) : isDigit b = true ↔ ¬ (b < (48 : UInt8) ∨ b > (57 : UInt8)) := by
  unfold isDigit
  simp only [Bool.and_eq_true, decide_eq_true_eq, UInt8.le_iff_toNat_le, UInt8.lt_iff_toNat_lt, gt_iff_lt]
  have h1 : (48 : UInt8).toNat = 48 := rfl
  have h2 : (57 : UInt8).toNat = 57 := rfl
  omega

theorem gen_parseLen_loop_digits (p : Bytes) (hl : p.length ≤ 18) (hd : ∀ b ∈ p, isDigit b = true) :
    ∀ (fuel idx n : Nat), idx ≤ p.length → p.length - idx < fuel → n < 10 ^ idx →
      Fn.parseLen_loop1 p fuel (n : Int) (idx : Int) =
        some (GoSem.Ctl.next ((((p.drop idx).foldl decStep n : Nat)) : Int)) := by
  intro fuel
  induction fuel with
  | zero => intro idx n _ hf; omega
  | succ fuel ih =>
    intro idx n hi hf hn
    rw [Fn.parseLen_loop1, loop_header]
    cases hdr : p.drop idx with
    | nil => rfl
    | cons b rest =>
      obtain ⟨hlt, hbi, hr⟩ := drop_cons hdr
      have hnb := (isDigit_iff _).1 (hd b (hbi ▸ List.getElem_mem hlt))
      obtain ⟨hmul, hadd, hn'⟩ := decimal_step n idx b hn (by omega)
        (UInt8.not_lt.mp fun h => hnb (Or.inl h)) (UInt8.not_lt.mp fun h => hnb (Or.inr h))
      dsimp only
      rw [if_neg hnb, hmul, hadd, addI_nat idx (by omega), ih (idx + 1) _ (by omega) (by omega) hn', hr]
      rfl

/-- a non-digit anywhere at or after idx: an error, whatever was accumulated -/
theorem gen_parseLen_loop_bad (p : Bytes) (hl : p.length < 9223372036854775807) :
    ∀ (fuel idx : Nat) (n : Int), idx ≤ p.length → p.length - idx < fuel →
      (∃ b ∈ p.drop idx, isDigit b = false) →
      Fn.parseLen_loop1 p fuel n (idx : Int) = some (GoSem.Ctl.ret ((-1 : Int), true)) := by
  intro fuel
  induction fuel with
  | zero => intro idx n _ hf; omega
  | succ fuel ih =>
    intro idx n hi hf hbad
    rw [Fn.parseLen_loop1, loop_header]
    obtain ⟨b', hb', hbd⟩ := hbad
    cases hdr : p.drop idx with
    | nil => rw [hdr] at hb'; cases hb'
    | cons b rest =>
      obtain ⟨hlt, _, hr⟩ := drop_cons hdr
      dsimp only
      by_cases hdig : isDigit b = true
      · rw [if_neg ((isDigit_iff _).1 hdig), addI_nat idx (by omega)]
        apply ih (idx + 1) _ (by omega) (by omega)
        rw [hdr] at hb'
        rcases List.mem_cons.mp hb' with rfl | hb'
        · rw [hdig] at hbd; cases hbd
        · exact ⟨b', hr ▸ hb', hbd⟩
      · rw [if_pos (Decidable.by_contra fun h => hdig ((isDigit_iff _).2 h))]
        rfl

/-- decimal texts of up to 18 digits parse to their value (`decToNat?` of Basic/Bytes) -/
theorem gen_parseLen_digits (p : Bytes) (hne : p ≠ []) (hl : p.length ≤ 18) (hd : p.all isDigit = true) :
    ∃ n, decToNat? p = some n ∧ Fn.parseLen p = some ((n : Int), false) := by
  have hd' : ∀ b ∈ p, isDigit b = true := by simpa using hd
  refine ⟨p.foldl decStep 0, ?_, ?_⟩
  · unfold decToNat?
    have : p.isEmpty = false := by simpa using hne
    simp only [this, Bool.false_eq_true, ↓reduceIte, hd]
    rfl
  · unfold Fn.parseLen
    have hlen : ¬ (GoSem.len p = (0 : Int)) := by
      unfold GoSem.len
      have : p.length ≠ 0 := by simpa using hne
      omega
    rw [if_neg hlen]
    obtain ⟨b0, rest, rfl⟩ := List.exists_cons_of_ne_nil hne
    have h0 : GoSem.index (b0 :: rest) (0 : Int) = some b0 := by
      have := index_nat (b0 :: rest) 0 (by simp)
      simpa using this
    have hb0 : ¬ (b0 = (45 : UInt8)) := by
      intro h
      have := hd' b0 (by simp)
      rw [h] at this
      revert this; decide
    simp only [h0, Option.bind_some, bind, hb0, false_and, ↓reduceIte, pure]
    have hloop := gen_parseLen_loop_digits (b0 :: rest) hl hd' ((GoSem.len (b0 :: rest)).toNat + 1) 0 0
      (by omega) (by unfold GoSem.len; omega) (by simp)
    simp only [Int.ofNat_zero, List.drop_zero] at hloop
    simp [hloop]

/-- the null length -/
theorem gen_parseLen_null : Fn.parseLen [45, 49] = some ((-1 : Int), false) := by decide +kernel

/-- 20 nines: silent wrap-around of the 64-bit accumulator, no error -/
theorem gen_parseLen_wraps :
    Fn.parseLen [57,57,57,57,57,57,57,57,57,57,57,57,57,57,57,57,57,57,57,57] = some ((7766279631452241919 : Int), false) := by
  decide +kernel

example : Fn.parseLen [49, 50, 51] = some ((123 : Int), false) := by decide +kernel
example : Fn.parseLen [49, 120] = some ((-1 : Int), true) := by decide +kernel
example : Fn.parseLen [] = some ((-1 : Int), true) := by decide +kernel

end GunYu.Props.C12
