/-
  C03 — the formats of old Redis versions and the stream key premise (helper lemmas in Proofs/Rdb/*.lean).

  * zipmaps (RDB type 9) of ANY item length below 2^32 and ANY number of pairs
    (`zipmap_roundtrip`, `zipmap_expand_roundtrip`); maps of 254 pairs or more and items of
    253 bytes or more are where the reader had two defects (/repo 5c537f6).
  * sorted sets of the format before Redis 4.0 (RDB type 3) with every decimal score text
    (`zset_v1_score_roundtrip`, `zset_v1_expand_roundtrip`).
  * module values of version 1 (RDB type 6) are REFUSED by the parser, as a theorem
    about the parser model (`module_v1_refused`, `module_v1_ends_parse`).
  * every command of a stream expansion names the entry's key (`stream_cmds_name_key`).
-/
import GunYu.Props.C03
import GunYu.Proofs.Rdb.StreamKey

namespace GunYu.Props.C03
open GunYu GunYu.Rdb GunYu.RedisSem

/-- A zipmap blob as zipmap.c lays it out — `<zmlen>` exact below 254 pairs, 254 above; item
    lengths in one byte up to 253, `254` + 4 bytes little endian above; `free` slack bytes
    behind a value — decodes to its field/value pairs, for EVERY number of pairs and every
    item length below 2^32. -/
theorem zipmap_roundtrip (items : List (Bytes × Bytes × Nat))
    (h : ∀ i ∈ items, i.1.length < 2 ^ 32 ∧ i.2.1.length < 2 ^ 32 ∧ i.2.2 < 256) :
    zipmapAll (zipmapBlob items) = some (items.map (fun i => (i.1, i.2.1))) :=
  zipmapAll_blob items h

/-- the same through the whole expansion: a type-9 hash (blob saved raw or LZF-compressed)
    replayed into an empty key rebuilds the hash — an instance of `expand_roundtrip`; the
    well-formedness of a zipmap does not bound the map -/
theorem zipmap_expand_roundtrip (x : XCfg) (k : Bytes) (w : SE) (items : List (Bytes × Bytes × Nat))
    (hw : w.wf) (hv : w.val = zipmapBlob items)
    (h : ∀ i ∈ items, i.1.length < 2 ^ 32 ∧ i.2.1.length < 2 ^ 32 ∧ i.2.2 < 256)
    (hne : (ObjE.hashZipmap w items).nonempty) (hd : (ObjE.hashZipmap w items).members.Nodup) :
    ∃ cmds, execCmd x (pobjOf k (.hashZipmap w items)) = some cmds ∧
      applyCmds [] cmds = some [(k, (ObjE.hashZipmap w items).value, 0)] :=
  expand_roundtrip x k (.hashZipmap w items) ⟨hw, hv, h⟩ (by simp [ObjE.kind]) hne hd

/-- non-vacuity: a value of 254 bytes (five-byte length form) and a field of 253 bytes (the
    largest one-byte form), evaluated -/
example :
    zipmapAll (zipmapBlob [(List.replicate 253 97, List.replicate 254 98, 2), ([99], [], 0)]) =
      some [(List.replicate 253 97, List.replicate 254 98), ([99], [])] := by
  apply zipmap_roundtrip
  intro i hi
  simp only [List.mem_cons, List.not_mem_nil, or_false] at hi
  rcases hi with rfl | rfl
  · refine ⟨?_, ?_, by decide⟩ <;> (show (List.replicate _ _).length < _; rw [List.length_replicate]; omega)
  · exact ⟨by decide, by decide, by decide⟩

/-- non-vacuity of the counting path: 254 pairs (`<zmlen>` = 254) -/
example : (zipmapAll (zipmapBlob ((List.range 254).map (fun i => ([UInt8.ofNat i], [7], 0))))).map List.length
    = some 254 := by
  rw [zipmap_roundtrip]
  · simp
  · intro i hi
    simp only [List.mem_map] at hi
    obtain ⟨n, _, rfl⟩ := hi
    simp

/-- A score as `rdbSaveDoubleValue` (Redis < 4.0) writes it — the markers 253 / 254 / 255, or a
    length byte and a text of at most 252 bytes that strconv.ParseFloat accepts (`parseF64`: any
    decimal text `[+-]digits[.digits][e[+-]digits]` with a finite value, correctly rounded to the
    nearest binary64, ties to even; `inf` / `infinity` / `nan`) — is read back by `ReadFloat` to
    exactly the bit pattern the description denotes. What is trusted of strconv is stated in
    Model/Rdb/Float.lean. -/
theorem zset_v1_score_roundtrip (sc : Score1) (h : sc.wf) : floatStrBits sc.enc = some sc.bits :=
  floatStrBits_enc sc h

/-- a whole type-3 sorted set with arbitrary decimal scores expands to the ZADDs of its members
    with those scores (instance of `expand_roundtrip`) -/
theorem zset_v1_expand_roundtrip (x : XCfg) (k : Bytes) (f : LenForm) (items : List (SE × Score1))
    (hwf : (ObjE.zset1 f items).wf) (hne : (ObjE.zset1 f items).nonempty) (hd : (ObjE.zset1 f items).members.Nodup) :
    ∃ cmds, execCmd x (pobjOf k (.zset1 f items)) = some cmds ∧
      applyCmds [] cmds = some [(k, (ObjE.zset1 f items).value, 0)] :=
  expand_roundtrip x k (.zset1 f items) hwf (by simp [ObjE.kind]) hne hd

/-- non-vacuity, evaluated by the kernel: `%.17g` of 0.1 and of 3.14, the smallest subnormal, a tie
    (2^53 + 1 rounds to even), the largest finite double; overflow is refused -/
example : parseF64 b!"0.10000000000000001" = some 0x3FB999999999999A := by decide
example : parseF64 b!"-3.1400000000000001" = some 0xC0091EB851EB851F := by decide
set_option exponentiation.threshold 2000 in
example : parseF64 b!"4.9406564584124654e-324" = some 1 := by decide +kernel
example : parseF64 b!"9007199254740993" = some 0x4340000000000000 := by decide
set_option exponentiation.threshold 2000 in
example : parseF64 b!"1.7976931348623157e+308" = some 0x7FEFFFFFFFFFFFFF := by decide +kernel
set_option exponentiation.threshold 2000 in
example : parseF64 b!"1.7976931348623159e+308" = none := by decide +kernel
example : (Score1.ascii b!"2.5e-3").wf ∧ (Score1.ascii b!"2.5e-3").bits = 0x3F647AE147AE147B := by decide

/-- `ReadBuffer` has no branch for type 6: `NewParser` builds a ModuleParser, its
    `ReadBuffer` panics with "does not support module type 1" -/
theorem skipValue_module_v1 (bs : Bytes) : skipValue 6 bs = none := by
  unfold skipValue
  simp (decide := true)

theorem readBuffer_module_v1 (cfg : DCfg) (ls : LState) (bs : Bytes) : readBuffer cfg ls 6 bs = none := by
  unfold readBuffer
  have ho : otypeOf 6 = some .module := by decide
  simp only [ho, show ((6 : UInt8) = 4) = False by decide, if_false, skipValue_module_v1]
  split <;> rfl

/-- **`Loader.Next` positioned at a key item whose value is a version-1 module value fails**
    (whatever bytes follow the type byte), for every expiry / idle / freq prefix -/
theorem module_v1_refused (cfg : DCfg) (ls : LState) (k : KeyE) (rest : Bytes)
    (hls : ls.total - ls.read = 0) (hwf : k.wf) (h6 : k.obj.rtype = 6) :
    next cfg ls (k.enc ++ rest) = none := by
  obtain ⟨fuel, hn⟩ := next_at_key cfg ls k rest hls hwf
  rw [hn, h6, nextLoop_key cfg _ ls _ 6 _ hls (by decide), readBuffer_module_v1]
  rfl

/-- … and the parse ends there with an error: no entry for that key, none for any later key,
    `Done` is not reached (the sync fails; by design — the tool cannot re-create a module value
    of the old format) -/
theorem module_v1_ends_parse (cfg : DCfg) (whole : Bytes) (fuel : Nat) (ls : LState) (k : KeyE) (rest : Bytes)
    (hls : ls.total - ls.read = 0) (hwf : k.wf) (h6 : k.obj.rtype = 6) :
    parseLoop cfg whole (fuel + 1) ls (k.enc ++ rest) = ([], false) := by
  simp only [parseLoop, module_v1_refused cfg ls k rest hls hwf h6]

/-- non-vacuity: a key with expiry whose value is declared type 6 -/
example : next {} {} (({ exp := .ms 5, key := .raw .b6 [107], obj := .raw 6 [1, 2, 3] } : KeyE).enc ++ [0xFF]) = none :=
  module_v1_refused {} {} _ _ rfl (by decide) rfl

/-- Whatever buffer `StreamParser.ExecCmd` runs on (no well-formedness), each command it emits is
    XADD / XSETID / XGROUP / XCLAIM AND carries the entry's key at its key position (first argument;
    second for `XGROUP CREATE key …`). This is the premise C20's `Value` (every expanded command is a
    command on the key: probe + DEL + expansion + PEXPIRE onto an EXISTING key, policies replace /
    ignore / error) needs of a stream entry: Props/C20StreamS5.lean proves C20's `loader_stream_stmt`
    from it, so the existing-key branch for streams is C20's whole-run theorems applied to C03's
    loader model - imported, not restated. -/
theorem stream_cmds_name_key (x : XCfg) (p : PObj) (hot : otypeOf p.rtype = some .stream) :
    ∀ c ∈ (execCmd x p).getD [], streamOnKey p.key c := by
  intro c hc
  unfold execCmd at hc
  rw [hot] at hc
  simp only at hc
  cases h : execStream x p.rtype p.key p.buf with
  | none => simp [h] at hc
  | some cs =>
    simp only [h, Option.getD_some] at hc
    exact execStream_onKey x p.rtype p.key p.buf cs h c hc

/-- non-vacuity: the example stream's expansion (XADD, XSETID, XGROUP CREATE, XCLAIM) under key "s" -/
example : ((execCmd {} (pobjOf [115] (.stream exStream))).getD []).length ≠ 0 ∧
    ∀ c ∈ (execCmd {} (pobjOf [115] (.stream exStream))).getD [], streamOnKey [115] c :=
  ⟨by decide +kernel, stream_cmds_name_key {} _ (by decide)⟩

end GunYu.Props.C03
