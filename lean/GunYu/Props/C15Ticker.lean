/-
  C15 — cmd/syncer.go clusterTicker with election calls of any duration
  (Model/LeaseTicker.lean; parameters regenerated into Gen/TickerParams.lean).

  The schedule condition `TAllowed` of the timed system model (real time does
  not pass `okSent + hold` while an instance leads) is what these theorems
  establish for the ticker: whenever the leader's clusterTicker returns, and as
  long as it has not, the send instant of its last successful campaign /
  renewal is at most `hold` back — for EVERY script of answers with EVERY
  duration (incl. calls that never return), every renew period, hold, horizon
  and every instant at which somebody else closes the wait.
-/
import GunYu.Model.LeaseTicker


namespace GunYu.Props.C15
open GunYu GunYu.Lease

theorem stopAt_le (dl : Nat) (ext : Option Nat) : stopAt dl ext ≤ dl := by
  unfold stopAt
  cases ext with
  | none => exact Nat.le_refl _
  | some e => dsimp only; split <;> omega

theorem stopOut_fields (calls : List Nat) (dl : Nat) (ext : Option Nat) (hor : Nat) :
    (stopOut calls dl ext hor).calls = calls.reverse ∧ (stopOut calls dl ext hor).deadline = dl ∧
    (stopOut calls dl ext hor).returned = (if stopAt dl ext ≤ hor then some (stopAt dl ext) else none) ∧
    (stopOut calls dl ext hor).upto = (if stopAt dl ext ≤ hor then stopAt dl ext else hor) := by
  unfold stopOut stopAt
  cases ext with
  | none => dsimp only; split <;> exact ⟨rfl, rfl, rfl, rfl⟩
  | some e =>
    dsimp only
    by_cases h1 : e < dl
    · simp only [h1, ↓reduceIte]; split <;> exact ⟨rfl, rfl, rfl, rfl⟩
    · simp only [h1, ↓reduceIte]; split <;> exact ⟨rfl, rfl, rfl, rfl⟩

theorem stopOut_spec (calls : List Nat) (dl : Nat) (ext : Option Nat) (hor : Nat) :
    (stopOut calls dl ext hor).deadline = dl ∧
    (∀ r, (stopOut calls dl ext hor).returned = some r → r ≤ dl) ∧
    ((stopOut calls dl ext hor).returned = none → (stopOut calls dl ext hor).upto ≤ dl) := by
  obtain ⟨_, hd, hr, hu⟩ := stopOut_fields calls dl ext hor
  have hs := stopAt_le dl ext
  rw [hd, hr, hu]
  refine ⟨rfl, fun r h => ?_, fun h => ?_⟩
  · split at h
    · cases h; exact hs
    · cases h
  · split at h
    · cases h
    · next hn => rw [if_neg hn]; exact Nat.le_trans (Nat.le_of_lt (Nat.lt_of_not_le hn)) hs

/-- `util.Retry`: whatever it reports has returned by the instant the wait is
    closed from outside, and not before it was started -/
theorem tries_spec (stop : Nat) : ∀ (k cur : Nat) (e : ErrClass) (script : List TAns) (calls : List Nat),
    cur ≤ stop →
    match tries stop k cur e script calls with
    | .ok ret _ _ => cur ≤ ret ∧ ret ≤ stop
    | .failed ret _ _ _ => cur ≤ ret ∧ ret ≤ stop
    | .stuck _ => True := by
  intro k
  induction k with
  | zero => intro cur e script calls h; simp only [tries]; exact ⟨Nat.le_refl _, h⟩
  | succ k ih =>
    intro cur e script calls h
    simp only [tries]
    by_cases h1 : (script.headD { res := .ok, dur := 0 }).res = .blk
    · simp only [h1, ↓reduceIte]
    · simp only [h1, ↓reduceIte]
      by_cases h2 : stop < cur + (script.headD { res := .ok, dur := 0 }).dur
      · simp only [h2, ↓reduceIte]
      · simp only [h2, ↓reduceIte]
        by_cases h3 : renewErr (script.headD { res := .ok, dur := 0 }).res = .ok
        · simp only [h3, ↓reduceIte]; omega
        · simp only [h3, ↓reduceIte]
          have := ih (cur + (script.headD { res := .ok, dur := 0 }).dur)
            (renewErr (script.headD { res := .ok, dur := 0 }).res) script.tail (cur :: calls) (by omega)
          generalize tries stop k (cur + (script.headD { res := .ok, dur := 0 }).dur)
            (renewErr (script.headD { res := .ok, dur := 0 }).res) script.tail (cur :: calls) = T at this ⊢
          cases T with
          | ok ret rest calls' => dsimp only at this ⊢; omega
          | failed ret e' rest calls' => dsimp only at this ⊢; omega
          | stuck calls' => trivial

theorem ticksDuring_gt (R next : Nat) (buf : Bool) (b : Nat) (hR : 0 < R) :
    b < (ticksDuring R next buf b).1 := by
  unfold ticksDuring
  by_cases hn : next ≤ b
  · simp only [hn, ↓reduceIte]
    have h1 : (b - next) % R < R := Nat.mod_lt _ hR
    have h2 := Nat.div_add_mod (b - next) R
    have : R * ((b - next) / R + 1) = R * ((b - next) / R) + R := by rw [Nat.mul_add, Nat.mul_one]
    omega
  · simp only [hn, ↓reduceIte]; omega

/-- THE ticker theorem, calls of any duration. For the re-arm expression of
    the source (`sentAt`-based): for EVERY script, renew period, hold, horizon,
    outside close and loop state with `t ≤ dl ≤ t + H`, `t ≤ next`:
    when clusterTicker returns it does so no later than the lease-timer
    deadline (= send instant of the last successful call + hold), and while it
    has not returned the observation is still inside that window. -/
theorem tickd_leader_within_hold (P : TParams) (hP : P.rearmFromSend = true) (R H hor : Nat) (hR : 0 < R)
    (ext : Option Nat) :
    ∀ (fuel t next : Nat) (buf : Bool) (dl : Nat) (script : List TAns) (calls : List Nat),
      t ≤ dl → dl ≤ t + H → t ≤ next →
      (∀ r, (leaderLoop P R H hor ext fuel t next buf dl script calls).returned = some r →
          r ≤ (leaderLoop P R H hor ext fuel t next buf dl script calls).deadline) ∧
      ((leaderLoop P R H hor ext fuel t next buf dl script calls).returned = none →
          (leaderLoop P R H hor ext fuel t next buf dl script calls).upto ≤
            (leaderLoop P R H hor ext fuel t next buf dl script calls).deadline) := by
  intro fuel
  induction fuel with
  | zero =>
    intro t next buf dl script calls h1 h2 h3
    simp only [leaderLoop]
    exact ⟨fun r hr => by simp at hr, fun _ => h1⟩
  | succ fuel ih =>
    intro t next buf dl script calls h1 h2 h3
    simp only [leaderLoop]
    have hsl := stopAt_le dl ext
    have htt : t ≤ (if buf = true then t else next) := by split; exact Nat.le_refl _; exact h3
    generalize (if buf = true then t else next) = tt at htt ⊢
    generalize (if buf = true then next else next + R) = next1
    by_cases c1 : stopAt dl ext < tt
    · simp only [c1, ↓reduceIte]
      obtain ⟨hd, hr, hn⟩ := stopOut_spec calls dl ext hor
      rw [hd]; exact ⟨hr, hn⟩
    · simp only [c1, ↓reduceIte]
      have hle : tt ≤ stopAt dl ext := Nat.le_of_not_lt c1
      by_cases c2 : hor < tt
      · simp only [c2, ↓reduceIte]
        exact ⟨fun r hr => by simp at hr, fun _ => Nat.le_trans (Nat.le_of_lt c2) (Nat.le_trans hle hsl)⟩
      · simp only [c2, ↓reduceIte]
        have hts := tries_spec (stopAt dl ext) P.retry tt .other script calls hle
        cases heq : tries (stopAt dl ext) P.retry tt .other script calls with
        | stuck calls' =>
          obtain ⟨hd, hr, hn⟩ := stopOut_spec calls' dl ext hor
          dsimp only; rw [hd]; exact ⟨hr, hn⟩
        | failed ret e rest calls' =>
          rw [heq] at hts
          refine ⟨fun r hr => ?_, fun hr => by simp at hr⟩
          cases hr
          exact Nat.le_trans hts.2 hsl
        | ok ret rest calls' =>
          rw [heq] at hts
          simp only [hP, ↓reduceIte]
          refine ih ret _ _ (tt + H) rest calls' ?_ (Nat.add_le_add_right hts.1 H)
            (Nat.le_of_lt (ticksDuring_gt R next1 false ret hR))
          calc ret ≤ stopAt dl ext := hts.2
            _ ≤ dl := hsl
            _ ≤ t + H := h2
            _ ≤ tt + H := Nat.add_le_add_right htt H

/-- the same for the whole ticker as cmd/syncer.go stands (parameters from
    the source), campaign sent `ago ≤ hold` before the ticker started -/
theorem tickd_leads_within_hold (R H ago hor : Nat) (hR : 0 < R) (hago : ago ≤ H) (ext : Option Nat)
    (pre : Bool) (script : List TAns) :
    (∀ r, (tickerRunD srcParams true R H ago hor ext pre script).returned = some r →
        r ≤ (tickerRunD srcParams true R H ago hor ext pre script).deadline) ∧
    ((tickerRunD srcParams true R H ago hor ext pre script).returned = none →
        (tickerRunD srcParams true R H ago hor ext pre script).upto ≤
          (tickerRunD srcParams true R H ago hor ext pre script).deadline) := by
  unfold tickerRunD
  cases pre with
  | true =>
    simp only [↓reduceIte]
    exact ⟨fun r hr => by simp only [Option.some.injEq] at hr; omega, fun hr => by simp at hr⟩
  | false =>
    simp only [Bool.false_eq_true, ↓reduceIte]
    exact tickd_leader_within_hold srcParams rfl R H hor hR ext _ 0 R false (H - ago) script []
      (Nat.zero_le _) (by omega) (Nat.zero_le _)

/-- the hand-written `tickerRun` (Model/Lease.lean: two attempts per tick, the theorems
    `ticker_failed_renewal_stops_leader` … are about it) uses the retry count of the source; the driver
    additionally compares `tickerRun` with `tickerRunD` (durations 0) on every ticker scenario it is given -/
theorem ticker_retry_is_two : srcParams.retry = 2 := rfl

-- non-vacuity (R = 1.5 s, hold 3.5 s = lease 5 s − R, campaign sent 200 ms before the ticker started)
-- a renewal sent at 3000 that takes 1637 ms: the tick of 4500 waits in the channel and is taken at 4637;
-- that call never returns: the lease timer, armed from the SEND at 3000, ends the ticker at 6500
example : tickerRunD srcParams true 1500 3500 200 9750 none false [⟨.ok, 0⟩, ⟨.ok, 1637⟩, ⟨.blk, 0⟩]
    = { calls := [1500, 3000, 4637], closed := some (6500, .notLeader), returned := some 6500,
        deadline := 6500, upto := 6500 } := by decide +kernel
-- COUNTER-WITNESS for the parameter: were the timer re-armed from the instant the answer ARRIVED,
-- the same script keeps the instance leading until 8137 — the lease written at 3000 ends at 8000
example : (tickerRunD { retry := 2, rearmFromSend := false } true 1500 3500 200 9750 none false
    [⟨.ok, 0⟩, ⟨.ok, 1637⟩, ⟨.blk, 0⟩]).returned = some 8137 := by decide +kernel
-- a renewal slower than the whole hold: the lease timer does not wait for it
example : (tickerRunD srcParams true 1500 3500 200 9750 none false [⟨.ok, 4037⟩]).returned = some 3300 := by decide +kernel
-- a first attempt that fails at once, a slow second attempt that succeeds: the leader goes on; the tick of 4500
-- waited in the channel, the renewal it starts at 4837 is refused twice: closed with ErrNotLeader there
example : tickerRunD srcParams true 1500 3500 200 7000 none false
      [⟨.ok, 0⟩, ⟨.err, 0⟩, ⟨.ok, 1837⟩, ⟨.notLeader, 0⟩, ⟨.notLeader, 0⟩]
    = { calls := [1500, 3000, 3000, 4837, 4837], closed := some (4837, .notLeader), returned := some 4837,
        deadline := 6500, upto := 4837 } := by decide +kernel
-- the syncer ends on its own at 2000: the ticker returns then
example : (tickerRunD srcParams true 1500 3500 200 9750 (some 2000) false []).returned = some 2000 := by decide +kernel
-- the wait is closed before the ticker starts: it returns at once, no call
example : (tickerRunD srcParams true 1500 3500 200 9750 none true [⟨.ok, 0⟩]).calls = [] := by decide +kernel
-- a follower whose slow campaign loses goes on; the next one wins
example : (tickerRunD srcParams false 1500 3500 200 9750 none false [⟨.follower, 2037⟩, ⟨.leader, 0⟩]).closed
    = some (3537, .ok) := by decide +kernel

end GunYu.Props.C15
