/-
  `Props/C02Lives.lean` speaks of `StartsAt` (nothing stored, or the unique largest
  offset and its database). What the tool calls is `GetCheckpoint`, modelled by
  `Target.startPoint` (the function the driver compares with the real `StartPoint`
  after every crash prefix): the largest offset over all hashes, and the databases
  attaining it THAT ALSO HOLD THE RUN ID. With one record per database (`KeysNodup`)
  and every stored offset with its run id (`RunIdInv`, C07 `cp_offset_has_runid`),
  both invariants of `Lives`, `StartsAt` is what `startPoint` returns: exactly one
  database, never a tie, never "?".
-/
import GunYu.Props.C02Lives
import GunYu.Props.C07

namespace GunYu.Props.C02
open GunYu GunYu.Sender GunYu.Target

theorem getCp_of_mem (cps : List (Int × CpRec)) (hn : KeysNodup cps) (p : Int × CpRec) (hp : p ∈ cps) :
    getCp cps p.1 = p.2 := by
  unfold getCp; rw [lookup_of_mem_nodup cps hn p hp]; rfl

theorem mem_of_getCp_offset (cps : List (Int × CpRec)) (d o : Int)
    (h : (getCp cps d).offset = some o) : ∃ r, (d, r) ∈ cps ∧ getCp cps d = r := by
  cases hl : cps.lookup d with
  | none => simp [getCp, hl] at h
  | some r => exact ⟨r, lookup_mem cps d r hl, by simp [getCp, hl]⟩

theorem maxOffset_of_uniqueMax (cps : List (Int × CpRec)) (hn : KeysNodup cps) (d o : Int)
    (hu : UniqueMax cps d o) (ho : 0 ≤ o) : maxOffset cps = o := by
  obtain ⟨r, hr, hg⟩ := mem_of_getCp_offset cps d o hu.1
  have h1 : o ≤ maxOffset cps :=
    (le_maxOffset_iff cps o).mpr (Or.inr ⟨(d, r), hr, o, by rw [← hg]; exact hu.1, Int.le_refl _⟩)
  have h2 : ¬ (o + 1 ≤ maxOffset cps) := by
    intro h
    rcases (le_maxOffset_iff cps (o + 1)).mp h with h | ⟨p, hp, o', ho', hle⟩
    · omega
    · have hgp := getCp_of_mem cps hn p hp
      by_cases hpd : p.1 = d
      · have : (getCp cps d).offset = some o' := by rw [← hpd, hgp]; exact ho'
        rw [hu.1] at this; injection this with this; omega
      · have := hu.2 p.1 hpd o' (by rw [hgp]; exact ho')
        omega
  omega

/-- with one record per database, keeping exactly the records of database `d`
    (one of which exists) leaves `[d]` -/
theorem filter_unique (cps : List (Int × CpRec)) (hn : KeysNodup cps) (P : Int × CpRec → Bool)
    (d : Int) (hP : ∀ p ∈ cps, P p = true ↔ p.1 = d) (hd : ∃ r, (d, r) ∈ cps) :
    (cps.filter P).map (·.1) = [d] := by
  induction cps with
  | nil => obtain ⟨r, hr⟩ := hd; cases hr
  | cons q rest ih =>
    unfold KeysNodup at hn
    simp only [List.map_cons, List.nodup_cons] at hn
    by_cases hq : q.1 = d
    · -- q is the record of d; no other record has key d
      have hPq : P q = true := (hP q (List.mem_cons_self ..)).mpr hq
      have hrest : rest.filter P = [] := by
        apply List.filter_eq_nil_iff.mpr
        intro x hx hPx
        have hxd := (hP x (List.mem_cons_of_mem _ hx)).mp hPx
        exact hn.1 (List.mem_map.mpr ⟨x, hx, by rw [hxd, hq]⟩)
      simp [hPq, hrest, hq]
    · have hPq : P q = false := by
        cases h : P q with
        | false => rfl
        | true => exact absurd ((hP q (List.mem_cons_self ..)).mp h) hq
      simp only [List.filter_cons, hPq, Bool.false_eq_true, ↓reduceIte]
      apply ih hn.2 (fun p hp => hP p (List.mem_cons_of_mem _ hp))
      obtain ⟨r, hr⟩ := hd
      rcases List.mem_cons.mp hr with h | h
      · exact absurd (by rw [← h]) hq
      · exact ⟨r, h⟩

/-- **`StartsAt`'s unique maximum is what the modelled `GetCheckpoint` returns.** -/
theorem startPoint_of_uniqueMax (t : TState) (hn : KeysNodup t.cps) (hr : RunIdInv t) (d o : Int)
    (hu : UniqueMax t.cps d o) (ho : 0 ≤ o) : startPoint t = (o, [d]) := by
  have hm := maxOffset_of_uniqueMax t.cps hn d o hu ho
  unfold startPoint
  simp only [hm, show ¬ o < 0 by omega, ↓reduceIte, Prod.mk.injEq, true_and]
  obtain ⟨r, hrm, hg⟩ := mem_of_getCp_offset t.cps d o hu.1
  apply filter_unique t.cps hn _ d _ ⟨r, hrm⟩
  intro p hp
  have hgp := getCp_of_mem t.cps hn p hp
  simp only [Bool.decide_and, Bool.decide_eq_true, Bool.and_eq_true, decide_eq_true_eq]
  constructor
  · intro ⟨hoff, _⟩
    by_cases hpd : p.1 = d
    · exact hpd
    · have := hu.2 p.1 hpd o (by rw [hgp]; exact hoff)
      omega
  · intro hpd
    have hoff : p.2.offset = some o := by rw [← hgp, hpd]; exact hu.1
    refine ⟨hoff, ?_⟩
    have := hr p.1 o (by rw [hgp]; exact hoff)
    rw [hgp] at this; exact this

/-- a target without any stored offset: `GetCheckpoint` finds nothing -/
theorem startPoint_of_noOffsets (t : TState) (hn : KeysNodup t.cps) (hno : NoOffsets t.cps) :
    startPoint t = (-1, []) := by
  have hm : maxOffset t.cps < 0 := by
    have h2 : ¬ (0 ≤ maxOffset t.cps) := by
      intro h
      rcases (le_maxOffset_iff t.cps 0).mp h with h | ⟨p, hp, o', ho', _⟩
      · omega
      · have hgp := getCp_of_mem t.cps hn p hp
        have := hno p.1
        rw [hgp, ho'] at this; cases this
    omega
  unfold startPoint
  simp [hm]

/-- **In every state reachable by lives, what `StartsAt` says is what the modelled
    `GetCheckpoint` returns**: one record per database and every offset with its
    run id are invariants of `Lives` (from a target `t0` where they hold, e.g. an
    empty one), hence `startPoint T` is `(-1, [])` when nothing is stored and
    `(o, [d])` -- one database, with its run id -- otherwise. -/
theorem lives_startPoint (pc : PCfg) (raws : List Raw) (start : Int) (t0 : TState) (txn : Bool)
    (hraw : (raws.map (·.off)).Pairwise (· < ·)) (hlo : ∀ r ∈ raws, start < r.off)
    (hstart : 0 ≤ start)
    (hnest : RawNoNested false raws)
    (hpass : ∀ r ∈ raws, (r.cmd = bMulti ∨ r.cmd = bExec) →
      pc.filterCmd r.cmd = false ∧ (pc.filterCmdKey r.cmd r.args).isSome)
    (hnf : parseFails pc { lastSent := start } raws = false)
    (hsel : ∀ x ∈ raws, x.cmd = bSelect → ∀ a n, x.args = [a] → atoi? a = some n → 0 ≤ n)
    (hmapnn : ∀ n : Int, 0 ≤ n → 0 ≤ mapDb pc n)
    (hno : NoOffsets t0.cps) (hn0 : KeysNodup t0.cps) (hr0 : RunIdInv t0)
    (T : TState) (o d : Int) (h : Lives pc raws start t0 txn T o d) :
    KeysNodup T.cps ∧ RunIdInv T ∧
    ((NoOffsets T.cps ∧ startPoint T = (-1, [])) ∨ (UniqueMax T.cps d o ∧ startPoint T = (o, [d]))) := by
  have hinv : KeysNodup T.cps ∧ RunIdInv T := by
    induction h with
    | init => exact ⟨hn0, hr0⟩
    | @life T o d hL sc evs k o' d' hitems hnd htx hpos ih =>
      obtain ⟨hnT, hrT⟩ := ih
      obtain ⟨_, hso, _, _⟩ := lives_lose_nothing pc raws start t0 txn hraw hlo hstart hnest hpass hnf hsel hmapnn
        hno T o d hL
      obtain ⟨hrawB, hloB, _, _, hselB, _⟩ := rest_of_stream pc raws start o hraw hnest hpass hnf hsel
      have ho0 : 0 ≤ o := Int.le_trans hstart hso
      constructor
      · -- one record per database
        have hcp := (resumed_wire sc _ _ o evs hitems hrawB hloB ho0).2.1
        rw [cpOffsetsB_bodies _ (run_wf sc initS evs)] at hcp
        have := applyLog_keeps ((run sc initS evs).2.flatten.take k) (crash T) (-1)
          (by simpa [crash] using hnT)
          ((le_maxOffset_iff _ _).mpr (Or.inl (Int.le_refl _)))
          (by intro q hq; simp [crash] at hq)
          (by
            intro x hx
            have h1 := cpReqs_take_sub _ k x hx
            rw [cpReqs_flatten] at h1
            have := hcp x h1
            omega)
        exact this.1
      · -- every stored offset has its run id
        have hev := C07.parser_items_selOK _ o _ evs hitems hselB
        exact C07.cp_offset_has_runid sc evs hev (crash T) rfl rfl (by simpa [crash, RunIdInv] using hrT) k
  obtain ⟨hsa, hso, _, _⟩ := lives_lose_nothing pc raws start t0 txn hraw hlo hstart hnest hpass hnf hsel hmapnn
    hno T o d h
  refine ⟨hinv.1, hinv.2, ?_⟩
  rcases hsa with ⟨hnoT, _, _⟩ | hu
  · exact Or.inl ⟨hnoT, startPoint_of_noOffsets T hinv.1 hnoT⟩
  · exact Or.inr ⟨hu, startPoint_of_uniqueMax T hinv.1 hinv.2 d o hu (by omega)⟩

end GunYu.Props.C02
