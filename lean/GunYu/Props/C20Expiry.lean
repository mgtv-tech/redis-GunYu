/-
  C20 — the EXPIRY a replayed key ends with, in full, and MODULE values across the policies.

  `snapshot_exp_abs` (Props/C20.lean) covers "tool clock = target clock, expiry in the future" only. Here:

  * the two clocks are PARAMETERS (`cfg.now` = `time.Now()` of the tool when it computes the TTL, `t.now` = the
    target's clock when it executes PEXPIRE / RESTORE): the code sends RELATIVE lifetimes on both paths (RESTORE key
    <ttl> without ABSTTL, PEXPIRE — never PEXPIREAT), so a skew between the clocks shifts the absolute expiry by exactly
    the skew and keeps the REMAINING LIFETIME as the tool measured it (`exp_skew`, `exp_eq_iff_clocks_agree`);
  * an expiry that is already PAST when the entry is replayed — at load time or at replay time, the code does not tell
    them apart: `ttlms` is computed in `Replay` / `bisyncRdbTTLms`, the loader drops nothing — and the boundary
    `expireAt = now`: the documented policy ("return 1ms for already expired objects so replay does not resurrect a
    historical key as a persistent one") — the key is written and dies 1 ms later on the target's clock
    (`exp_past`, `exp_boundary`, `exp_never_persistent`, `exp_alive_on_arrival`);
  * a lock-step advance of both clocks between the chunks of a value (every chunk computes its own TTL) does not move
    the absolute expiry (`exp_lockstep`) until the expiry is crossed, from where on the chunk's PEXPIRE is "1 ms"
    (`exp_lockstep_crossed`);
  * both paths give the same expiry (`exp_path_independent`: RESTORE's ttl argument and the expansion's PEXPIRE);
  * under `replace` a pre-existing key with ANY expiry (or none) ends with the snapshot's, also when that is past
    (`replace_past_expiry`, `replace_no_expiry_clears_ttl`).

  MODULE values (type 6/7) cannot be expanded into native commands: when the RESTORE path is not available (restore
  off, dump above the bulk limit) or the target refuses the payload, the replay FAILS with `errModule` whatever the
  policy — and the key is unchanged in every case (`module_no_restore_plain`, `module_no_restore_bisync`,
  `module_bad_plain`); on the RESTORE path a module value is a value like any other (the policy theorems of
  Props/C20.lean need `otype = data` only through `Group.data`; `module_restore_plain` states the table directly).
-/
import GunYu.Props.C20

namespace GunYu.Props.C20
open GunYu GunYu.Restore

/-- both paths (RESTORE ttl, expansion + PEXPIRE) end with the same expiry -/
theorem exp_path_independent (cfg : Cfg) (t : Target) (e0 : Entry) (rest : List Entry) :
    (snapshotObj cfg t e0 rest).exp = expAbs cfg t.now e0.expireAt := by
  unfold snapshotObj; split <;> rfl

/-- no expiry in the snapshot: none on the target -/
theorem exp_none (cfg : Cfg) (t : Target) (e0 : Entry) (rest : List Entry) (h : e0.expireAt = 0) :
    (snapshotObj cfg t e0 rest).exp = 0 := by
  rw [exp_path_independent]; exact if_pos h

theorem exp_eq (cfg : Cfg) (t : Target) (e0 : Entry) (rest : List Entry) (h0 : e0.expireAt ≠ 0) :
    (snapshotObj cfg t e0 rest).exp = t.now + ttlMs cfg.now e0.expireAt := by
  rw [exp_path_independent]; exact if_neg h0

theorem ttlMs_future {now E : Nat} (h : now < E) : ttlMs now E + now = E := by
  unfold ttlMs
  rw [if_neg (Nat.ne_zero_of_lt h), if_neg (Nat.not_le_of_lt h)]
  exact Nat.sub_add_cancel (Nat.le_of_lt h)

theorem ttlMs_past {now E : Nat} (h0 : E ≠ 0) (h : E ≤ now) : ttlMs now E = 1 := by
  unfold ttlMs; rw [if_neg h0, if_pos h]

/-- **clock skew as a parameter**: future expiry `E`, tool clock `cfg.now`, target clock `t.now` — the key's
    remaining lifetime on the target is what the tool measured, `E − cfg.now`; the absolute expiry is shifted by
    the skew (`exp + cfg.now = E + t.now`) -/
theorem exp_skew (cfg : Cfg) (t : Target) (e0 : Entry) (rest : List Entry) (hfut : cfg.now < e0.expireAt) :
    (snapshotObj cfg t e0 rest).exp + cfg.now = e0.expireAt + t.now ∧
    (snapshotObj cfg t e0 rest).exp - t.now = e0.expireAt - cfg.now := by
  have := ttlMs_future hfut
  rw [exp_eq cfg t e0 rest (Nat.ne_zero_of_lt hfut), Nat.add_sub_cancel_left, Nat.add_assoc, this]
  exact ⟨Nat.add_comm _ _, Nat.eq_sub_of_add_eq this⟩

/-- for a future expiry the key ends with EXACTLY the snapshot's absolute expiry iff the two clocks agree
    (the hypothesis of `snapshot_exp_abs` is necessary, not only sufficient) -/
theorem exp_eq_iff_clocks_agree (cfg : Cfg) (t : Target) (e0 : Entry) (rest : List Entry) (hfut : cfg.now < e0.expireAt) :
    (snapshotObj cfg t e0 rest).exp = e0.expireAt ↔ t.now = cfg.now := by
  have := ttlMs_future hfut
  rw [exp_eq cfg t e0 rest (Nat.ne_zero_of_lt hfut)]
  exact ⟨fun h => Nat.add_right_cancel ((h.trans this.symm).trans (Nat.add_comm _ _)), fun h => by rw [h, Nat.add_comm]; exact this⟩

/-- **past expiry and the boundary `expireAt = now`** (`now >= e.ExpireAt → ttlms = 1`): the key is written with a
    lifetime of 1 ms on the target's clock — whatever the skew -/
theorem exp_past (cfg : Cfg) (t : Target) (e0 : Entry) (rest : List Entry)
    (h0 : e0.expireAt ≠ 0) (hpast : e0.expireAt ≤ cfg.now) :
    (snapshotObj cfg t e0 rest).exp = t.now + 1 := by
  rw [exp_eq cfg t e0 rest h0, ttlMs_past h0 hpast]

/-- the boundary, both sides: `expireAt = now` and `expireAt = now + 1` give the same 1 ms -/
theorem exp_boundary (cfg : Cfg) (t : Target) (e0 : Entry) (rest : List Entry) (h0 : cfg.now ≠ 0)
    (hb : e0.expireAt = cfg.now ∨ e0.expireAt = cfg.now + 1) :
    (snapshotObj cfg t e0 rest).exp = t.now + 1 := by
  rcases hb with hb | hb
  · exact exp_past cfg t e0 rest (hb ▸ h0) (Nat.le_of_eq hb)
  · -- the lifetime `l` satisfies `l + now = now + 1`
    have : ttlMs cfg.now e0.expireAt + cfg.now = 1 + cfg.now :=
      (ttlMs_future (hb ▸ Nat.lt_succ_self _)).trans (hb.trans (Nat.add_comm _ _))
    rw [exp_eq cfg t e0 rest (hb ▸ Nat.succ_ne_zero _), Nat.add_right_cancel this]

/-- a snapshot key with an expiry is NEVER made persistent, and is alive when it arrives (lifetime ≥ 1 ms on the
    target's clock): the policy documented at `bisyncRdbTTLms` -/
theorem exp_never_persistent (cfg : Cfg) (t : Target) (e0 : Entry) (rest : List Entry) (h0 : e0.expireAt ≠ 0) :
    (snapshotObj cfg t e0 rest).exp ≠ 0 ∧ t.now < (snapshotObj cfg t e0 rest).exp := by
  have := Nat.pos_of_ne_zero (ttlMs_pos (now := cfg.now) h0)
  rw [exp_eq cfg t e0 rest h0]
  exact ⟨Nat.ne_of_gt (Nat.add_pos_right _ this), Nat.lt_add_of_pos_right this⟩

/-- the remaining lifetime never exceeds what the snapshot grants as seen by the tool (+ the 1 ms floor) -/
theorem exp_alive_on_arrival (cfg : Cfg) (t : Target) (e0 : Entry) (rest : List Entry) (h0 : e0.expireAt ≠ 0) :
    (snapshotObj cfg t e0 rest).exp - t.now = max 1 (e0.expireAt - cfg.now) := by
  rw [exp_eq cfg t e0 rest h0, Nat.add_sub_cancel_left]
  rcases Nat.lt_or_ge cfg.now e0.expireAt with h | h
  · rw [Nat.max_eq_right (Nat.sub_pos_of_lt h)]; exact Nat.eq_sub_of_add_eq (ttlMs_future h)
  · rw [ttlMs_past h0 h, Nat.sub_eq_zero_of_le h]; rfl

/-- every chunk computes its own TTL: when both clocks have advanced by the same `d` since the first chunk and
    the expiry is still ahead, the chunk's PEXPIRE sets the SAME absolute expiry -/
theorem exp_lockstep (cfg : Cfg) (tnow E d : Nat) (h : cfg.now + d < E) :
    expAbs { cfg with now := cfg.now + d } (tnow + d) E = expAbs cfg tnow E := by
  have h1 := ttlMs_future h
  have h2 := ttlMs_future (Nat.lt_of_le_of_lt (Nat.le_add_right _ d) h)
  -- the later lifetime is shorter by `d`
  have : ttlMs (cfg.now + d) E + d = ttlMs cfg.now E :=
    Nat.add_right_cancel (m := cfg.now) (by rw [Nat.add_assoc, Nat.add_comm d, h1, h2])
  simp only [expAbs, Nat.ne_zero_of_lt h, if_false]
  rw [← this, Nat.add_assoc, Nat.add_comm d]

/-- … and once the expiry has been crossed while the value was being replayed, the chunk's PEXPIRE is "1 ms from now" -/
theorem exp_lockstep_crossed (cfg : Cfg) (tnow E d : Nat) (h0 : E ≠ 0) (h : E ≤ cfg.now + d) :
    expAbs { cfg with now := cfg.now + d } (tnow + d) E = tnow + d + 1 := by
  simp only [expAbs, h0, if_false, ttlMs_past h0 h]

/-- **replace, past expiry**: whatever the key held and whatever TTL it had, it ends with the snapshot's value and
    dies 1 ms later — the old value is not kept alive, the snapshot's is not resurrected as persistent -/
theorem replace_past_expiry (cfg : Cfg) (st : RState) (t : Target) (e0 : Entry) (rest : List Entry)
    (g : Group e0 rest) (v : Value e0 rest) (h0 : e0.expireAt ≠ 0) (hpast : e0.expireAt ≤ cfg.now) :
    ∃ o, (runPlain .replace cfg st t (e0 :: rest)).tgt.get e0.key = some o ∧ o.exp = t.now + 1 ∧
      o.val = (snapshotObj cfg t e0 rest).val :=
  ⟨_, (replace_final cfg st t e0 rest g v).2.1, exp_past cfg t e0 rest h0 hpast, rfl⟩

/-- **replace, no expiry in the snapshot**: a TTL the old key had is gone -/
theorem replace_no_expiry_clears_ttl (cfg : Cfg) (st : RState) (t : Target) (e0 : Entry) (rest : List Entry)
    (g : Group e0 rest) (v : Value e0 rest) (h0 : e0.expireAt = 0) :
    ∃ o, (runPlain .replace cfg st t (e0 :: rest)).tgt.get e0.key = some o ∧ o.exp = 0 :=
  ⟨_, (replace_final cfg st t e0 rest g v).2.1, exp_none cfg t e0 rest h0⟩

/-- the same two on the bidirectional path -/
theorem replace_past_expiry_bisync (cfg : Cfg) (st : RState) (t : Target) (e0 : Entry) (rest : List Entry)
    (g : Group e0 rest) (v : Value e0 rest) (hb : useRestore cfg e0 = true → t.bad e0.key = false)
    (h0 : e0.expireAt ≠ 0) (hpast : e0.expireAt ≤ cfg.now) :
    ∃ o, (runBisync .replace cfg st t (e0 :: rest)).tgt.get e0.key = some o ∧ o.exp = t.now + 1 :=
  ⟨_, (replace_final_bisync cfg st t e0 rest g v hb).2.1, exp_past cfg t e0 rest h0 hpast⟩

/-- RESTORE without REPLACE on a key that exists: BUSYKEY, nothing changes -/
private theorem applyReq_busy (t : Target) (k : Bytes) (ttl p o) (x : Obj) (hex : t.get k = some x) :
    applyReq t (Req.restore k ttl p o false) = t := by
  have : t.ks.set t.cur k (some x) = t.ks := by
    funext d k'
    by_cases h : d = t.cur ∧ k' = k
    · simp only [KS.set, h, and_self, if_true]; exact hex.symm
    · simp only [KS.set, h, if_false]
  simp [applyReq, reqKey, objEffect, hex, Target.put, this]

/-- **module value, RESTORE path not available** (restore off / dump above the bulk limit): the plain replay fails
    with `errModule` BEFORE any request — no probe, no DEL — under every policy, whether or not the key exists -/
theorem module_no_restore_plain (pol : Policy) (cfg : Cfg) (st : RState) (t : Target) (e : Entry) (rest : List Entry)
    (hm : e.otype = .module) (hu : useRestore cfg e = false) :
    (runPlain pol cfg st t (e :: rest)).out = .errModule ∧
    (runPlain pol cfg st t (e :: rest)).reqs = [] ∧
    (∀ d k, (runPlain pol cfg st t (e :: rest)).tgt.ks d k = t.ks d k) := by
  have h : replay pol cfg st (viewOf t e) e = ([], .errModule, st) := by simp [replay, hm, hu]
  obtain ⟨h1, h2, h3⟩ := runPlain_cons_err _ _ _ _ _ rest _ _ _ (by simp) h
  exact ⟨h2, h1, by rw [h3]; intro d k; rfl⟩

/-- **module value, bidirectional path, RESTORE not available**: the key-exists handling comes first (`ignore` skips
    an existing key, `error` stops on it), every other case fails with `errModule`; at most the EXISTS probe is sent
    and the keyspace is unchanged in EVERY case -/
theorem module_no_restore_bisync (pol : Policy) (cfg : Cfg) (st : RState) (t : Target) (e : Entry)
    (hm : e.otype = .module) (hf : e.first = true) (hu : useRestore cfg e = false) :
    (∀ d k, (runBisync pol cfg st t [e]).tgt.ks d k = t.ks d k) ∧
    (runBisync pol cfg st t [e]).out =
      (match t.get e.key, pol with
        | some _, .ignore => .ok
        | some _, .error => .errExists
        | _, _ => .errModule) ∧
    (∀ r ∈ (runBisync pol cfg st t [e]).reqs, r = Req.exists e.key) := by
  -- every case but the two where the policy ends the entry at the probe; `direct` is the probe or nothing
  have herr : ∀ (direct : List Req) (st' : RState), (∀ r ∈ direct, r = Req.exists e.key) → applyReqs t direct = t →
      buildUnit pol cfg st (viewOf t e) e = (direct, [], .errModule, st') →
      (∀ d k, (runBisync pol cfg st t [e]).tgt.ks d k = t.ks d k) ∧ (runBisync pol cfg st t [e]).out = .errModule ∧
      (∀ r ∈ (runBisync pol cfg st t [e]).reqs, r = Req.exists e.key) := by
    intro direct st' hd ht hbu
    obtain ⟨h1, h2, h3⟩ := runBisync_cons_err _ _ _ _ _ [] _ _ _ _ (by simp [bOut]) hbu
    simp only [reduceCtorEq, if_false, List.append_nil] at h1 h2 h3
    exact ⟨by rw [h3, ht]; exact fun _ _ => rfl, h2, by rw [h1]; exact hd⟩
  cases hex : t.get e.key with
  | none =>
    have hv : viewOf t e = { keyExists := false, badData := t.bad e.key } := by simp [viewOf, hex]
    cases pol with
    | replace => exact herr [] none (by simp) rfl (by rw [hv]; simp [buildUnit, hm, hf, hu])
    | ignore | error => exact herr [Req.exists e.key] none (by simp) rfl (by rw [hv]; simp [buildUnit, hm, hf, hu])
  | some x =>
    have hv : viewOf t e = { keyExists := true, badData := t.bad e.key } := by simp [viewOf, hex]
    cases pol with
    | replace => exact herr [] none (by simp) rfl (by rw [hv]; simp [buildUnit, hm, hf, hu])
    | ignore =>
      obtain ⟨st', hbu⟩ : ∃ st', buildUnit .ignore cfg st (viewOf t e) e = ([Req.exists e.key], [], .skip, st') := by
        rw [hv]; exact ⟨_, by simp [buildUnit, hm, hf]; rfl⟩
      obtain ⟨h1, h2, h4⟩ := runBisync_cons_ok _ _ _ _ _ [] _ _ _ _ rfl hbu
      simp only [runBisync_nil, reduceCtorEq, if_false, List.append_nil] at h1 h2 h4
      exact ⟨by rw [h4]; intro d k; rfl, h2, by rw [h1]; simp⟩
    | error =>
      have hbu : buildUnit .error cfg st (viewOf t e) e = ([Req.exists e.key], [], .errExists, none) := by
        rw [hv]; simp [buildUnit, hm, hf]
      obtain ⟨h1, h2, h3⟩ := runBisync_cons_err _ _ _ _ _ [] _ _ _ _ (by simp [bOut]) hbu
      simp only [reduceCtorEq, if_false, List.append_nil] at h1 h2 h3
      exact ⟨by rw [h3]; intro d k; rfl, h2, by rw [h1]; simp⟩

/-- a run over one entry is what `replay` makes of it -/
private theorem runPlain_one {pol : Policy} {cfg : Cfg} {st st' : RState} {t : Target} {e : Entry} {rs : List Req} {o : Outcome}
    (h : replay pol cfg st (viewOf t e) e = (rs, o, st')) :
    (runPlain pol cfg st t [e]).out = o ∧ (runPlain pol cfg st t [e]).tgt = applyReqs t rs := by
  by_cases ho : o = .ok
  · subst ho
    obtain ⟨_, h2, _, h4⟩ := runPlain_cons_ok pol cfg st t e [] rs st' h
    exact ⟨h2, h4⟩
  · obtain ⟨_, h2, h3⟩ := runPlain_cons_err pol cfg st t e [] rs o st' ho h
    exact ⟨h2, h3⟩

/-- **module value, payload refused by the target** ("Bad data format" — a module the target has not loaded): no
    fallback to native commands exists; the plain replay sends the RESTORE (and, under `replace` on an existing key,
    the RESTORE … REPLACE), both without effect, and the key is unchanged under EVERY policy; the outcome is
    `errModule` except where the policy itself ends the entry first (`ignore`: ok, `error`: key-exists) -/
theorem module_bad_plain (pol : Policy) (cfg : Cfg) (st : RState) (t : Target) (e : Entry) (rest : List Entry)
    (hm : e.otype = .module) (hu : useRestore cfg e = true) (hb : t.bad e.key = true) (hrest : rest = []) :
    (∀ d k, (runPlain pol cfg st t (e :: rest)).tgt.ks d k = t.ks d k) ∧
    (runPlain pol cfg st t (e :: rest)).out =
      (match t.get e.key, pol with
        | some _, .ignore => .ok
        | some _, .error => .errExists
        | _, _ => .errModule) := by
  subst hrest
  let r0 := Req.restore e.key (ttlMs cfg.now e.expireAt) e.dump (restoreOpts cfg e) false
  let rb := Req.restoreBad e.key (ttlMs cfg.now e.expireAt) e.dump (restoreOpts cfg e)
  cases hex : t.get e.key with
  | none =>
    have h : replay pol cfg st (viewOf t e) e = ([rb false], .errModule, st) := by
      simp [replay, viewOf, hex, hb, hm, hu, rb]
    obtain ⟨h2, h3⟩ := runPlain_one h
    exact ⟨fun d k => by rw [h3]; rfl, h2⟩
  | some x =>
    -- the RESTORE is answered BUSYKEY, the RESTORE … REPLACE "Bad data format"
    have hbusy : applyReqs t [r0] = t := applyReq_busy t _ _ _ _ x hex
    cases pol with
    | replace =>
      have h : replay .replace cfg st (viewOf t e) e = ([r0, rb true], .errModule, st) := by
        simp [replay, viewOf, hex, hb, hm, hu, r0, rb]
      obtain ⟨h2, h3⟩ := runPlain_one h
      exact ⟨fun d k => by rw [h3]; show (applyReqs (applyReqs t [r0]) [rb true]).ks d k = _; rw [hbusy]; rfl, h2⟩
    | ignore =>
      have h : replay .ignore cfg st (viewOf t e) e = ([r0], .ok, st) := by
        simp [replay, viewOf, hex, hb, hm, hu, r0]
      obtain ⟨h2, h4⟩ := runPlain_one h
      exact ⟨fun d k => by rw [h4, hbusy], h2⟩
    | error =>
      have h : replay .error cfg st (viewOf t e) e = ([r0], .errExists, st) := by
        simp [replay, viewOf, hex, hb, hm, hu, r0]
      obtain ⟨h2, h3⟩ := runPlain_one h
      exact ⟨fun d k => by rw [h3, hbusy], h2⟩

/-- **module value on the RESTORE path, payload loadable**: the policy table of a value like any other — absent key:
    RESTOREd; existing key: replace → RESTORE … REPLACE gives the snapshot's payload and expiry, ignore → untouched,
    error → key-exists, untouched -/
theorem module_restore_plain (pol : Policy) (cfg : Cfg) (st : RState) (t : Target) (e : Entry)
    (hm : e.otype = .module) (hu : useRestore cfg e = true) (hb : t.bad e.key = false) :
    (runPlain pol cfg st t [e]).tgt.get e.key =
      (match t.get e.key, pol with
        | some x, .ignore => some x
        | some x, .error => some x
        | _, _ => some { val := .restored e.dump, exp := expAbs cfg t.now e.expireAt }) ∧
    (runPlain pol cfg st t [e]).out = (if (t.get e.key).isSome ∧ pol = .error then .errExists else .ok) := by
  let r0 := Req.restore e.key (ttlMs cfg.now e.expireAt) e.dump (restoreOpts cfg e) false
  let r1 := Req.restore e.key (ttlMs cfg.now e.expireAt) e.dump (restoreOpts cfg e) true
  have hexpE : (if ttlMs cfg.now e.expireAt = 0 then 0 else t.now + ttlMs cfg.now e.expireAt) = expAbs cfg t.now e.expireAt := by
    unfold expAbs
    by_cases h : e.expireAt = 0
    · simp [h, ttlMs]
    · simp [h, ttlMs_pos h]
  cases hex : t.get e.key with
  | none =>
    have h : replay pol cfg st (viewOf t e) e = ([r0], .ok, st) := by
      simp [viewOf, hex, hb, replay, hm, hu, r0]
    obtain ⟨h2, h4⟩ := runPlain_one h
    rw [h2, h4, applyReqs_get t [r0] (by intro r hr; simp at hr; subst hr; trivial)]
    refine ⟨?_, by simp⟩
    simp [objSteps, objStep, reqKey, objEffect, hex, r0, hexpE]
  | some x =>
    have hbusy : applyReqs t [r0] = t := applyReq_busy t _ _ _ _ x hex
    cases pol with
    | replace =>
      have h : replay .replace cfg st (viewOf t e) e = ([r0, r1], .ok, st) := by
        simp [viewOf, hex, hb, replay, hm, hu, r0, r1]
      obtain ⟨h2, h4⟩ := runPlain_one h
      rw [h2, h4, applyReqs_get t [r0, r1] (by intro r hr; simp at hr; rcases hr with rfl | rfl <;> trivial)]
      refine ⟨?_, by simp⟩
      simp [objSteps, objStep, reqKey, objEffect, hex, r0, r1, hexpE]
    | ignore =>
      have h : replay .ignore cfg st (viewOf t e) e = ([r0], .ok, st) := by
        simp [viewOf, hex, hb, replay, hm, hu, r0]
      obtain ⟨h2, h4⟩ := runPlain_one h
      rw [h2, h4, hbusy]
      exact ⟨hex, by simp⟩
    | error =>
      have h : replay .error cfg st (viewOf t e) e = ([r0], .errExists, st) := by
        simp [viewOf, hex, hb, replay, hm, hu, r0]
      obtain ⟨h2, h3⟩ := runPlain_one h
      rw [h2, h3, hbusy]
      exact ⟨hex, by simp⟩

/-- tool clock 1000, target clock 1250 (skew +250): future expiry 5000, past expiry 900, boundary 1000 -/
def exTSkew : Target := { exT with now := 1250 }
def exPast : Entry := { exR with expireAt := 900 }
def exEdge : Entry := { exR with expireAt := 1000 }

example : Group exPast [] := ⟨rfl, rfl, by simp, by simp⟩
example : Value exPast [] := ⟨by intro c hc; simp [exPast, exR, exE0] at hc; rcases hc with rfl | rfl <;> rfl, by simp [exPast, exR], by simp, by simp⟩
example : exCfg.now < exR.expireAt := by decide
example : (snapshotObj exCfg exTSkew exR []).exp = 5250 := by decide          -- shifted by the skew
example : (snapshotObj exCfg exTSkew exR []).exp - exTSkew.now = 4000 := by decide   -- lifetime as the tool measured it
example : (snapshotObj exCfg exTSkew exPast []).exp = 1251 := by decide       -- past: 1 ms on the target's clock
example : (snapshotObj exCfg exTSkew exEdge []).exp = 1251 := by decide       -- expireAt = now
example : (runPlain .replace exCfg none exTSkew [exPast]).tgt.get [104] = some { val := .restored [4, 3], exp := 1251 } := by decide
example : (runPlain .replace { exCfg with enableRestore := false } none exTSkew [exPast]).reqs =
    [Req.exists [104], Req.del [104], Req.data (exCmd 49 49), Req.data (exCmd 50 50), Req.pexpire [104] 1] := by decide
example : (runPlain .ignore exCfg none exTSkew [exPast]).tgt.get [104] = some { val := .old 0, exp := 777 } := by decide
example : expAbs { exCfg with now := exCfg.now + 300 } (1250 + 300) 5000 = expAbs exCfg 1250 5000 := by decide

/-- a module value: RESTORE only -/
def exMod : Entry := { exR with otype := .module, cmds := [] }
def exCfgOff : Cfg := { exCfg with enableRestore := false }
example : exMod.otype = .module ∧ useRestore exCfgOff exMod = false ∧ useRestore exCfg exMod = true := by decide
example : (runPlain .replace exCfgOff none exT [exMod]).out = .errModule ∧ (runPlain .replace exCfgOff none exT [exMod]).reqs = [] := by decide
example : (runBisync .ignore exCfgOff none exT [exMod]).out = .ok ∧ (runBisync .ignore exCfgOff none exT [exMod]).reqs = [Req.exists [104]] := by decide
example : (runBisync .replace exCfgOff none exT [exMod]).out = .errModule := by decide
example : (runPlain .replace exCfg none exTBad [exMod]).out = .errModule ∧
    (runPlain .replace exCfg none exTBad [exMod]).tgt.get [104] = some { val := .old 0, exp := 777 } := by decide
example : (runPlain .replace exCfg none exT [exMod]).tgt.get [104] = some { val := .restored [4, 3], exp := 5000 } := by decide

/-! ## the clocks threaded through the chunks: every chunk has its own tool clock and target clock

  `chunksAt` replays the chunks of one key's value, chunk j with the tool's clock `c.1` (its `time.Now()` when it computes
  the TTL) and the target's clock `c.2` when it executes the chunk's requests; BEFORE each chunk the target drops the key if
  its expiry has been reached (`expireIf`: Redis's lazy expiry; the target double with a running clock). -/

def expireIf (tnow : Nat) (o : Option Obj) : Option Obj :=
  match o with
  | some x => if x.exp ≠ 0 ∧ x.exp ≤ tnow then none else some x
  | none => none

def chunksAt (cfg : Cfg) (k : Bytes) : Option Obj → List (Entry × Nat × Nat) → Option Obj
  | o, [] => o
  | o, (e, cnow, tnow) :: rest =>
    chunksAt cfg k (objSteps k tnow (expireIf tnow o) (expand { cfg with now := cnow } e)) rest

private theorem objSteps_data_isSome (k : Bytes) (tnow : Nat) :
    ∀ (cs : List Cmd) (o : Option Obj), (∀ c ∈ cs, cmdKey c = k) → cs ≠ [] ∨ o.isSome →
      (objSteps k tnow o (cs.map Req.data)).isSome
  | [], _, _, h => h.resolve_left (· rfl)
  | c :: cs, o, hc, _ => by
    have hstep : (objStep k tnow o (.data c)).isSome := by
      simp only [objStep, reqKey, hc c (List.mem_cons_self ..), if_true, objEffect, dataStep]
      cases o with
      | none => rfl
      | some x => cases hv : x.val <;> simp [hv]
    exact objSteps_data_isSome k tnow cs _ (fun c' h' => hc c' (List.mem_cons_of_mem _ h')) (Or.inr hstep)

/-- ONE chunk with an expiry, whatever it finds (the key as earlier chunks left it, or NOTHING because the key expired
    in between) and whatever the two clocks say: afterwards the key exists and carries an expiry in the target's future.
    This is the invariant that "PEXPIRE only on the first bin" breaks: a later chunk then re-creates an expired key
    WITHOUT expiry. -/
theorem chunk_never_persistent (cfg : Cfg) (k : Bytes) (o : Option Obj) (e : Entry) (cnow tnow : Nat)
    (hk : e.key = k) (hc : ∀ c ∈ e.cmds, cmdKey c = k) (hne : e.cmds ≠ []) (h0 : e.expireAt ≠ 0) :
    ∃ x, objSteps k tnow o (expand { cfg with now := cnow } e) = some x ∧ x.exp ≠ 0 ∧ tnow < x.exp := by
  unfold expand
  rw [objSteps_append]
  obtain ⟨y, hy⟩ := Option.isSome_iff_exists.mp (objSteps_data_isSome k tnow e.cmds o hc (Or.inl hne))
  -- the PEXPIRE finds the key and gives it the lifetime `ttlMs`, which is not 0
  have := Nat.pos_of_ne_zero (ttlMs_pos (now := cnow) h0)
  rw [hy, if_pos h0]
  refine ⟨{ y with exp := tnow + ttlMs cnow e.expireAt }, ?_, Nat.ne_of_gt (Nat.add_pos_right _ this), Nat.lt_add_of_pos_right this⟩
  simp [objSteps, objStep, reqKey, hk, objEffect]

/-- the chunks of a value whose every chunk carries the expiry (the loader after D8: `Value.exp` with the right
    disjunct), each at its own pair of clocks, with the key possibly EXPIRING on the target between any two of them:
    the key is never left persistent -/
theorem chunks_never_persistent (cfg : Cfg) (k : Bytes) (o : Option Obj) (cs : List (Entry × Nat × Nat))
    (hne : cs ≠ []) (h : ∀ c ∈ cs, c.1.key = k ∧ (∀ x ∈ c.1.cmds, cmdKey x = k) ∧ c.1.cmds ≠ [] ∧ c.1.expireAt ≠ 0) :
    ∃ x, chunksAt cfg k o cs = some x ∧ x.exp ≠ 0 := by
  induction cs generalizing o with
  | nil => exact absurd rfl hne
  | cons c rest ih =>
    obtain ⟨e, cnow, tnow⟩ := c
    have hc := h (e, cnow, tnow) (List.mem_cons_self ..)
    obtain ⟨x, hx, hx0, _⟩ := chunk_never_persistent cfg k (expireIf tnow o) e cnow tnow hc.1 hc.2.1 hc.2.2.1 hc.2.2.2
    simp only [chunksAt, hx]
    cases rest with
    | nil => exact ⟨x, rfl, hx0⟩
    | cons c2 r2 => exact ih (some x) (by simp) (fun c' h' => h c' (List.mem_cons_of_mem _ h'))

-- the key expires between chunk 1 (tool 1000 / target 1000, expiry 1002) and chunk 2 (1003 / 1003): chunk 2 finds nothing,
-- re-creates the key and gives it "1 ms"
def exTickE (first : Bool) (f : UInt8) : Entry := { exE0 with first := first, expireAt := 1002, cmds := [exCmd f f] }
example : chunksAt exCfg [104] none [(exTickE true 49, 1000, 1000), (exTickE false 50, 1003, 1003)] =
    some { val := .native [exCmd 50 50], exp := 1004 } := by decide
-- with the expiry on the first chunk only (C03's round-8 seed) the re-created key would be persistent
example : chunksAt exCfg [104] none [(exTickE true 49, 1000, 1000), ({ exTickE false 50 with expireAt := 0 }, 1003, 1003)] =
    some { val := .native [exCmd 50 50], exp := 0 } := by decide

end GunYu.Props.C20
