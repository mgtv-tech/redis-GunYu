/-
  C17 — the freshness hypotheses of `goodChecks_decide_good` / `bareChecks_decide_bare` (`hnames`, `hids`: a name / id
  never used does not occur on the target) are DECIDED by the Bool the driver evaluates on the dumped state (op
  `c17fresh`, Drive/C17Fresh.lean `namesOk` / `idsOk`) for the target the driver builds from the dump (`mkTarget`).
-/
import GunYu.Drive.C17Fresh

namespace GunYu.Props.C17
open GunYu GunYu.Checkpoint GunYu.Drive.C17 GunYu.Drive.C17Fresh

theorem mem_mkTarget_cps {h : List (Bytes × Bytes)} {items : List (Nat × Bytes × Cp)} {db : Nat} {n : Bytes}
    {e : Entry} (he : e ∈ (mkTarget h items).cps db n) : ∃ it ∈ items, it.2.1 = n ∧ e ∈ it.2.2 := by
  replace he : e ∈ (match items.find? (fun it => it.1 = db ∧ it.2.1 = n) with
    | some it => it.2.2 | none => []) := he
  cases hf : items.find? (fun it => it.1 = db ∧ it.2.1 = n) with
  | none => rw [hf] at he; cases he
  | some it =>
    rw [hf] at he
    have hp : it.1 = db ∧ it.2.1 = n := by simpa using List.find?_some hf
    exact ⟨it, List.mem_of_find?_eq_some hf, hp.2, he⟩

theorem namesOk_decides (names : List Bytes) (h : List (Bytes × Bytes)) (items : List (Nat × Bytes × Cp))
    (hok : namesOk names h items = true) :
    ∀ n, n ∉ names → (∀ db, (mkTarget h items).cps db n = []) ∧ ∀ p ∈ (mkTarget h items).hash, p.2 ≠ n := by
  simp only [namesOk, Bool.and_eq_true, List.all_eq_true, List.contains_iff_mem] at hok
  intro n hn
  refine ⟨fun db => List.eq_nil_iff_forall_not_mem.mpr fun e he => ?_, fun p hp e => hn (e ▸ hok.2 p hp)⟩
  obtain ⟨it, hit, hitn, _⟩ := mem_mkTarget_cps he
  exact hn (hitn ▸ hok.1 it hit)

theorem idsOk_decides (ids : List Bytes) (h : List (Bytes × Bytes)) (items : List (Nat × Bytes × Cp))
    (hok : idsOk ids h items = true) :
    ∀ ρ, ρ ∉ ids → (∀ db n, ∀ e ∈ (mkTarget h items).cps db n, e.rid ≠ ρ) ∧ hlookup (mkTarget h items).hash ρ = none := by
  simp only [idsOk, Bool.and_eq_true, List.all_eq_true, List.contains_iff_mem] at hok
  intro ρ hρ
  refine ⟨fun db n e he er => ?_, List.lookup_eq_none_iff.mpr fun p hp => bne_iff_ne.mpr fun e => hρ (e ▸ hok.2 p hp)⟩
  obtain ⟨it, hit, _, he'⟩ := mem_mkTarget_cps he
  exact hρ (er ▸ hok.1 it hit e he')

/-- non-vacuity -/
example : namesOk [[99]] [([97], [99])] [(0, [99], [⟨[97], .offset, [49]⟩])] = true ∧
    idsOk [[97]] [([97], [99])] [(0, [99], [⟨[97], .offset, [49]⟩])] = true ∧
    idsOk [[98]] [([97], [99])] [(0, [99], [⟨[97], .offset, [49]⟩])] = false := by decide

end GunYu.Props.C17
