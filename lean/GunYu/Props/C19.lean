/-
  C19 — Cluster replay reaches each key's slot owner and keeps per-key order.

  Property theorems only (helper lemmas: Proofs/ClusterRoute.lean; model:
  Model/ClusterRoute.lean). Quantifier: all slot layouts (`sv`, `slots`
  arbitrary), all command streams and batches (`put`/`dispatch` events), all
  interleavings of the per-node pipelines and all migration schedules
  (MOVED, ASK, importing/migrating, between or during batches) = all event
  lists `evs` accepted by the transition system, by induction on `evs`.
-/
import GunYu.Model.ClusterRoute
import GunYu.Model.ClusterSender
import GunYu.Model.ClusterSegments
import GunYu.Proofs.ClusterSegments
import GunYu.Proofs.ClusterRoute

namespace GunYu.Props.C19
open GunYu GunYu.ClusterRoute

/-- Full statement: in every segment (run between two reported restarts) the
    executed commands of each key are in strictly increasing source order — no
    inversion and no command twice; a retry (new segment) may repeat. -/
def per_key_order_stmt : Prop :=
  ∀ (slotOf : Key → Slot) (sv : Srv) (slots : Slot → Node) (evs : List Ev) (s : St),
    run slotOf (init sv slots) evs = .ok s →
    ∀ seg ∈ s.hist ++ [s.log], ∀ k, (keyLog seg k).Pairwise (· < ·)

/-- Proved part: the statement for every schedule in which no node queue that
    still holds an unfollowed redirect of a key starts serving that key again
    (`QuietRun`: no A→B→A ping-pong of a slot inside one batch). -/
theorem per_key_order_partial (slotOf : Key → Slot) (sv : Srv) (slots : Slot → Node)
    (evs : List Ev) (s : St)
    (hrun : run slotOf (init sv slots) evs = .ok s)
    (hq : QuietRun slotOf (init sv slots) evs) :
    ∀ seg ∈ s.hist ++ [s.log], ∀ k, (keyLog seg k).Pairwise (· < ·) := by
  have hi := Inv_run evs _ s (Inv_init sv slots) hq hrun
  intro seg hseg k
  simp only [List.mem_append, List.mem_singleton] at hseg
  cases hseg with
  | inl h => exact hi.histOk seg h k
  | inr h => subst h; exact keyLog_sorted_of_seq hi k

/-- stronger form used for the next step: whatever of a key is still queued or
    awaiting a redirect is later in source order than everything executed, and
    is itself queued in source order ("one key ↦ one node queue at a time"). -/
theorem per_key_pending_after_executed (slotOf : Key → Slot) (sv : Srv) (slots : Slot → Node)
    (evs : List Ev) (s : St)
    (hrun : run slotOf (init sv slots) evs = .ok s)
    (hq : QuietRun slotOf (init sv slots) evs) (k : Key) :
    (keyLog s.log k ++ outIds s k).Pairwise (· < ·) :=
  (Inv_run evs _ s (Inv_init sv slots) hq hrun).sorted k

/-- every command of an acknowledged batch was executed — by the owner of its
    slot at that moment, or by the importing node under ASKING -/
theorem redirect_never_loses (slotOf : Key → Slot) (sv : Srv) (slots : Slot → Node)
    (evs : List Ev) (s : St)
    (hrun : run slotOf (init sv slots) evs = .ok s) :
    ∀ b ∈ s.acked, ∀ cs, (b, cs) ∈ s.batches → ∀ c ∈ cs,
      ∃ e ∈ s.log, e.cmd = c ∧ OwnedExec e := by
  have hi := Inv2_run evs _ s (Inv2_init sv slots) hrun
  intro b hb cs hm c hc
  obtain ⟨e, he, h1⟩ := hi.acked b hb cs hm c hc
  exact ⟨e, he, h1, hi.owned e he⟩

/-- … or the batch returns an error: a dispatched command that has not been
    executed is still queued, still awaiting its redirect, or its batch carries
    an error answer — and in each of these cases `recv bid ok` is not a step. -/
theorem unexecuted_blocks_ok (slotOf : Key → Slot) (sv : Srv) (slots : Slot → Node)
    (evs : List Ev) (s : St)
    (hrun : run slotOf (init sv slots) evs = .ok s)
    (b : Nat) (cs : List Cmd) (hm : (b, cs) ∈ s.batches) (c : Cmd) (hc : c ∈ cs)
    (hne : ¬ ∃ e ∈ s.log, e.cmd = c) :
    ∀ s', step slotOf s (.recv b true) ≠ .ok s' := by
  have hi := Inv2_run evs _ s (Inv2_init sv slots) hrun
  intro s' h
  rcases stepRecv_ok h with ⟨_, _, h2, h3, h4, _⟩ | ⟨h, _⟩
  · rcases hi.comp b cs hm c hc with h0 | ⟨x, hx, _, hxb⟩ | ⟨r, hr, _, hrb⟩ | hbad
    · exact hne h0
    · exact h2 x hx hxb
    · exact h3 r hr hrb
    · exact h4 hbad
  · exact nomatch h

/-- each execution, in every segment, happened at the slot's owner or at the
    importing node under ASKING (protocol level "owner at that time") -/
theorem executed_at_owner (slotOf : Key → Slot) (sv : Srv) (slots : Slot → Node)
    (evs : List Ev) (s : St)
    (hrun : run slotOf (init sv slots) evs = .ok s) :
    ∀ seg ∈ s.hist ++ [s.log], ∀ e ∈ seg, OwnedExec e := by
  have hi := Inv2_run evs _ s (Inv2_init sv slots) hrun
  intro seg hseg e he
  simp only [List.mem_append, List.mem_singleton] at hseg
  cases hseg with
  | inl h => exact hi.ownedH seg h e he
  | inr h => subst h; exact hi.owned e he

/-- in transactional mode no transaction (hence none of its commands) is
    executed twice within one run, whatever redirects and migrations happen -/
theorem txn_mode_no_double_execution (slotOf : Key → Slot) (sv : Srv) (slots : Slot → Node)
    (evs : List TEv) (s : TSt)
    (hrun : trun slotOf (tinit sv slots) evs = .ok s) :
    (s.log.map (·.tid)).Nodup ∧
    ∀ e ∈ s.log, ∃ t ∈ s.txns, t.tid = e.tid ∧ t.cmds = e.cmds := by
  have hi := TInv_run evs _ s (TInv_init sv slots) hrun
  refine ⟨hi.nodup, ?_⟩
  intro e he
  obtain ⟨t, ht, h1, _, h3⟩ := hi.logged e he
  exact ⟨t, ht, h1, h3⟩

/-- an acknowledged transaction was executed (as a whole, once) by the owner
    of its slot or by the importing node under ASKING -/
theorem txn_redirect_never_loses (slotOf : Key → Slot) (sv : Srv) (slots : Slot → Node)
    (evs : List TEv) (s : TSt)
    (hrun : trun slotOf (tinit sv slots) evs = .ok s) :
    ∀ tid ∈ s.acked, ∃ e ∈ s.log, e.tid = tid ∧ OwnedTExec e := by
  have hi := TInv_run evs _ s (TInv_init sv slots) hrun
  intro tid h
  obtain ⟨e, he, h1⟩ := hi.acked tid h
  exact ⟨e, he, h1, hi.owned e he⟩

/-- sequential use (Exec: one transaction at a time): transactions take effect
    in source order -/
theorem txn_sequential_order (slotOf : Key → Slot) (sv : Srv) (slots : Slot → Node)
    (evs : List TEv) (s : TSt)
    (hrun : trun slotOf (tinit sv slots) evs = .ok s)
    (hseq : TSeqRun slotOf (tinit sv slots) evs) :
    (s.log.map (·.tid)).Pairwise (· < ·) :=
  (TSeq_run evs _ s (TInv_init sv slots) (TSeq_init sv slots) hseq hrun).sorted

/-! ### non-vacuity: concrete runs (slotOf = id, three nodes) -/

def sv0 : Srv := ⟨fun _ => 0, fun _ => none, fun _ => false⟩

/-- a multi-node batch with a stale map, MOVED, ASK(+ASKING), a migration
    finishing *during* the batch, redirects followed while the node keeps
    answering: accepted, quiet, per-key order kept, batch acknowledged -/
def evsA : List Ev := [
  .mig (.assign 5 1), .mig (.setMigrating 6 2), .mig (.migrateKey 6),
  .put 0 ⟨1, 5⟩ 0, .put 0 ⟨2, 6⟩ 0, .put 0 ⟨3, 5⟩ 0, .put 0 ⟨4, 6⟩ 0, .dispatch 0,
  .srv 0 ⟨1, 5⟩ false (.moved 1),
  .srv 0 ⟨2, 6⟩ false (.ask 2),
  .srv 1 ⟨1, 5⟩ false .exec,
  .srv 0 ⟨3, 5⟩ false (.moved 1),
  .mig (.finish 6),
  .srv 0 ⟨4, 6⟩ false (.moved 2),
  .srv 2 ⟨2, 6⟩ true .exec,
  .srv 1 ⟨3, 5⟩ false .exec,
  .srv 2 ⟨4, 6⟩ false .exec,
  .recv 0 true]

example : (run id (init sv0 (fun _ => 0)) evsA).toOption.map
    (fun s => (keyLog s.log 5, keyLog s.log 6, s.acked)) = some ([1, 3], [2, 4], [0]) := by decide +kernel
example : QuietRun id (init sv0 (fun _ => 0)) evsA := quietRun_of_B _ _ _ (by decide +kernel)

/-- an error answer (TRYAGAIN), the batch fails, the sender retries: the
    executed suffix is repeated in a new segment -/
def evsR : List Ev := [
  .put 0 ⟨1, 5⟩ 0, .put 0 ⟨2, 5⟩ 0, .dispatch 0,
  .srv 0 ⟨1, 5⟩ false .err, .srv 0 ⟨2, 5⟩ false .exec, .recv 0 false, .restart,
  .put 0 ⟨1, 5⟩ 0, .put 0 ⟨2, 5⟩ 0, .dispatch 0,
  .srv 0 ⟨1, 5⟩ false .exec, .srv 0 ⟨2, 5⟩ false .exec, .recv 0 true]

example : (run id (init sv0 (fun _ => 0)) evsR).toOption.map
    (fun s => ((s.hist ++ [s.log]).map (fun seg => keyLog seg 5), s.acked)) = some ([[2], [1, 2]], [0]) := by
  decide +kernel
example : QuietRun id (init sv0 (fun _ => 0)) evsR := quietRun_of_B _ _ _ (by decide +kernel)

/-- acknowledging a batch whose redirect was not followed is not a step -/
example : (run id (init sv0 (fun _ => 0))
    [.mig (.assign 5 1), .put 0 ⟨1, 5⟩ 0, .dispatch 0, .srv 0 ⟨1, 5⟩ false (.moved 1), .recv 0 true]).toOption.isNone := by
  decide +kernel

/-- the repaired client never routes two unfinished commands of a slot to
    different node queues: a put that would (map refreshed in between) is not a
    step of the model (D21 same batch, D22 batch still in flight) -/
example : (run id (init sv0 (fun _ => 0))
    [.mig (.assign 5 1), .put 0 ⟨1, 5⟩ 0, .refreshNow, .put 0 ⟨2, 5⟩ 1]).toOption.isNone := by decide +kernel
example : (run id (init sv0 (fun _ => 0))
    [.mig (.assign 5 1), .put 0 ⟨1, 5⟩ 0, .dispatch 0, .refreshNow, .put 1 ⟨2, 5⟩ 1]).toOption.isNone := by
  decide +kernel

/-- the `QuietRun` hypothesis is needed: slot 0 is owned by node 1, the stale
    client routes to node 0, node 0 answers MOVED, the slot comes back to node
    0 before node 0 reads the second command: 2 takes effect before 1. -/
def evsPingPong : List Ev := [
  .put 0 ⟨1, 0⟩ 0, .put 0 ⟨2, 0⟩ 0, .dispatch 0,
  .srv 0 ⟨1, 0⟩ false (.moved 1),
  .mig (.assign 0 0),
  .srv 0 ⟨2, 0⟩ false .exec,
  .srv 1 ⟨1, 0⟩ false (.moved 0),
  .srv 0 ⟨1, 0⟩ false .exec,
  .recv 0 true]

def svB : Srv := ⟨fun _ => 1, fun _ => none, fun _ => false⟩

theorem pingpong_inverts :
    (run id (init svB (fun _ => 0)) evsPingPong).toOption.map (fun s => keyLog s.log 0) = some [2, 1] := by
  decide +kernel

theorem pingpong_unsorted :
    ∃ s, run id (init svB (fun _ => 0)) evsPingPong = .ok s ∧ ¬ (keyLog s.log 0).Pairwise (· < ·) := by
  have h1 := pingpong_inverts
  cases hr : run id (init svB (fun _ => 0)) evsPingPong with
  | error m => rw [hr] at h1; exact nomatch h1
  | ok s =>
    rw [hr] at h1
    have h2 : keyLog s.log 0 = [2, 1] := Option.some.inj h1
    exact ⟨s, rfl, by rw [h2]; decide⟩

/-- the full statement (without `QuietRun`) is false in the model: this is a
    limit of any pipelining cluster client, not of this one -/
theorem per_key_order_stmt_false : ¬ per_key_order_stmt := by
  intro h
  obtain ⟨s, hr, hk⟩ := pingpong_unsorted
  exact hk (h id svB (fun _ => 0) evsPingPong s hr s.log (by simp) 0)

example : ¬ QuietRun id (init svB (fun _ => 0)) evsPingPong := by
  intro hq
  obtain ⟨s, hr, hk⟩ := pingpong_unsorted
  exact hk (per_key_order_partial id svB (fun _ => 0) evsPingPong s hr hq s.log (by simp) 0)

/-! transactions: ASK on a fully transferred slot, retried with ASKING, executed once -/

def svT : Srv := ⟨fun _ => 0, fun s => if s = 5 then some 2 else none, fun k => k == 5⟩

def tevsA : List TEv := [
  .begin 1 [⟨1, 5⟩, ⟨2, 5⟩] 0,
  .srv 0 1 false (.ask 2),
  .srv 2 1 true .exec,
  .recv 1 true,
  .mig (.finish 5),
  .begin 3 [⟨3, 5⟩] 0,          -- stale map
  .srv 0 3 false (.moved 2),
  .srv 2 3 false .exec,
  .recv 3 true]

example : (trun id (tinit svT (fun _ => 0)) tevsA).toOption.map
    (fun s => (s.log.map (fun e => (e.tid, e.node, e.asking)), s.acked)) =
    some ([(1, 2, true), (3, 2, false)], [3, 1]) := by decide +kernel

/-- a committed transaction is never answered again: a second dispatch of it
    (what D20 did with another transaction's MOVED) is not a step -/
example : (trun id (tinit svT (fun _ => 0))
    [.begin 1 [⟨1, 6⟩] 0, .srv 0 1 false .exec, .srv 1 1 false (.moved 0)]).toOption.isNone := by decide +kernel

example : TSeqRun id (tinit svT (fun _ => 0)) tevsA := tseqRun_of_B _ _ _ (by decide +kernel)

/-! ### sender-level retry / escalation (syncer/output.go sendFunc) -/

open GunYu.ClusterSender in
/-- transactional mode with a cluster target: a batch that came back with
    MOVED/ASK/CROSSSLOT is reported at once (restart / break) and is NOT sent
    again — whatever the nodes accepted of it executed exactly once in this run -/
theorem txn_cluster_redirect_sent_once (p : Bool) (e : SErr) (he : e ≠ .other)
    (rest : List (Option SErr)) (r : Nat) :
    sendFunc ⟨true, p⟩ (some e :: rest) r = (1, direct e) := by
  cases e with
  | other => exact absurd rfl he
  | redirect => simp [sendFunc]
  | crossslot => simp [sendFunc]

open GunYu.ClusterSender in
/-- transactional cluster target, BLOCKING mode: whatever the error class
    (redirect, cross-slot, connection error, error reply), a batch is sent at
    most once — no command of it can execute twice within the run -/
theorem txn_blocking_sent_once (outs : List (Option SErr)) : (sendFunc ⟨true, false⟩ outs 0).1 ≤ 1 := by
  cases outs with
  | nil => simp [sendFunc]
  | cons o rest =>
    cases o with
    | none => simp [sendFunc]
    | some e => cases e <;> simp [sendFunc]

open GunYu.ClusterSender in
/-- NOT true for transactional + PIPELINED mode and a non-redirect error returned
    by Dispatch itself: `sendFunc` dispatches the batch again. That no command reaches a
    node twice all the same is Props/C19Exec.lean `one_node_batch_submitted_once`
    (with `txn_batch_one_node`): a failed Dispatch of a one-node batch has submitted nothing -/
example : sendFunc ⟨true, true⟩ [some .other, none] 0 = (2, .ok) := by decide +kernel

open GunYu.ClusterSender in
/-- errors read by the pipelined receiver close the run without any re-send;
    a transactional cluster run reports redirects as restart, cross-slot as break -/
theorem recv_path_reports (p : Bool) : recvFinal ⟨true, p⟩ .redirect = .typology ∧
    recvFinal ⟨true, p⟩ .crossslot = .brk ∧ ∀ m, recvFinal m .other = .other := by
  refine ⟨rfl, rfl, fun m => rfl⟩

open GunYu.ClusterSender in
/-- once the pipelined receiver has seen a failed batch nothing more is sent (in particular no
    resume position covering the commands of the failed batch) and the run reports the receiver's
    error class, not a generic one -/
theorem recv_failed_sends_nothing (m : SMode) (e : SErr) (outs : List (Option SErr)) :
    sendFuncR m (some e) outs = (0, recvFinal m e) ∧ sendFuncR m none outs = sendFunc m outs 0 := ⟨rfl, rfl⟩

open GunYu.ClusterSender in
/-- in every mode a failing batch is sent at most three times before the error
    is reported (each re-send is a repeated suffix, a new segment of C19's log) -/
theorem sender_sends_at_most_three (m : SMode) (outs : List (Option SErr)) :
    (sendFunc m outs 0).1 ≤ 3 := by
  have := sendFunc_bound m outs 0
  omega

open GunYu.ClusterSender in
example : sendFunc ⟨false, false⟩ [some .redirect, some .redirect, some .redirect, none] 0 = (3, .typology) := by
  decide +kernel
open GunYu.ClusterSender in
example : sendFunc ⟨false, false⟩ [some .redirect, none] 0 = (2, .ok) := by decide +kernel
open GunYu.ClusterSender in
example : sendFunc ⟨true, true⟩ [some .crossslot, none] 0 = (1, .brk) := by decide +kernel

/-- bridge to the composition below: in a quiet run the commands of an ACKNOWLEDGED batch
    appear, for every key, in the segment's execution log of that key in their put (source)
    order — complete and in order (`Complete` of Model/ClusterSegments), while that log itself is
    strictly increasing (`per_key_order_partial`: nothing twice, `AppOK`) -/
theorem acked_batch_executed_in_order (slotOf : Key → Slot) (sv : Srv) (slots : Slot → Node)
    (evs : List Ev) (s : St)
    (hrun : run slotOf (init sv slots) evs = .ok s)
    (hq : QuietRun slotOf (init sv slots) evs) :
    ∀ b ∈ s.acked, ∀ cs, (b, cs) ∈ s.batches → ∀ k, (idsC cs k).Sublist (keyLog s.log k) := by
  have hi := Inv_run evs _ s (Inv_init sv slots) hq hrun
  have hb := BatchesSorted_run evs _ s (Inv_init sv slots)
    (fun b cs hm => by simp [init] at hm) hq hrun
  intro b hba cs hm k
  apply sorted_subset_sublist _ _ (hb b cs hm k) (keyLog_sorted_of_seq hi k)
  intro a ha
  simp only [idsC, List.mem_map, List.mem_filter] at ha
  obtain ⟨c, ⟨hc, hk⟩, rfl⟩ := ha
  obtain ⟨e, he, hec, _⟩ := redirect_never_loses slotOf sv slots evs s hrun b hba cs hm c hc
  simp only [keyLog, List.mem_map, List.mem_filter]
  exact ⟨e, ⟨he, by rw [hec]; exact hk⟩, by rw [hec]⟩

/-! ### composition over sender segments (blocking modes): reconnects, hand-overs, restarts

    Model/ClusterSegments.lean. An execution = any list of segments (each: the stored position
    is read from the target, batches are sent from there, each batch is acknowledged completely
    or cut at any point, the segment ends cleanly / on a receiver error / by a close / by a
    hand-over). (Props/C19Exec.lean DERIVES the guards and both named assumptions below from an
    operational model of the batch attempt and restates (1)-(2) for its runs with the cluster
    hypothesis only.) What the theorems HERE assume of every event (the guards of `step`, i.e. the
    hypothesis `run … = some s`) is the content of the per-segment theorems above — `AppOK`:
    within its range, nothing twice (`per_key_order_partial`); `Complete`: an acknowledged batch
    executed everything, per group in order (`acked_batch_executed_in_order`,
    `unexecuted_blocks_ok`) — plus two NAMED assumptions: `Disciplined` (the blocking discipline:
    a batch that was not acknowledged stores no position) and, where stated, `PrefixRun` (fault
    model: a cut batch executes per group a prefix of its part). What is DERIVED is the
    composition: restart-from-stored, the position arithmetic, no skip across replays, the
    effective stream. Quantifier: every stream length `n`, every grouping `grp`, every list of
    segments / events, any number, any cut inside a batch, position-only flushes (`q = cur`). -/

open GunYu.ClusterSegments in
/-- (1) the per-group log on the target — the real one, every execution, in order — NEVER SKIPS:
    directly after a command `x` of a group comes either an earlier-or-equal one (a replay jumps
    back) or the group's next command; no command of the group lies strictly between. A replay
    may repeat a suffix, it never leaves a gap. -/
theorem segments_never_skip (n : Nat) (grp : Nat → Nat) (evs : List ClusterSegments.Ev) (s : Tgt)
    (h : ClusterSegments.run n grp {} evs = some s) (hd : Disciplined evs)
    (hp : PrefixRun n grp {} evs) (g : Nat) :
    Adj (NoSkipRel grp g) (projG grp g s.log) :=
  (KInv_run n grp evs _ s (SInv_init n grp) (DownClosed_nil grp) (KInv_init grp) hd hp h).2.adj g

open GunYu.ClusterSegments in
/-- (1) whatever happened before — any number of segments, cuts, replays — the target's
    EFFECTIVE stream (the last execution of every command: the final state for overwriting
    commands) below the sender's position, and below the stored position, is per group exactly
    the specification prefix, in order -/
theorem segments_effective_prefix (n : Nat) (grp : Nat → Nat) (sgs : List Segment) (s : Tgt)
    (h : runSegments n grp {} sgs = some s) (hd : Disciplined (sgs.flatMap Segment.events)) (g : Nat) :
    effBelow grp s.log s.cur g = specBelow grp s.cur g ∧
    effBelow grp s.log s.stored g = specBelow grp s.stored g := by
  have hi := (SInv_run n grp _ _ s (SInv_init n grp) hd h).1
  exact ⟨hi.eff g, effBelow_mono grp s.log s.cur s.stored g hi.le1 (hi.eff g)⟩

open GunYu.ClusterSegments in
/-- (1) under the fault model the SET of executed commands is per group a prefix of the
    specification stream at every moment -/
theorem segments_executed_downward_closed (n : Nat) (grp : Nat → Nat) (evs : List ClusterSegments.Ev)
    (s : Tgt) (h : ClusterSegments.run n grp {} evs = some s) (hd : Disciplined evs)
    (hp : PrefixRun n grp {} evs) : DownClosed grp s.log :=
  (KInv_run n grp evs _ s (SInv_init n grp) (DownClosed_nil grp) (KInv_init grp) hd hp h).1

open GunYu.ClusterSegments in
/-- (1) replay only re-executes what was not yet acknowledged-and-stored: every batch, in
    every segment, executes commands at or above the position stored at that moment -/
theorem segments_replay_only_unstored (n : Nat) (grp : Nat → Nat) (evs : List ClusterSegments.Ev)
    (s1 s2 : Tgt) (q : Nat) (o : Outcome) (hd : Disciplined evs)
    (h1 : ClusterSegments.run n grp {} evs = some s1)
    (h2 : ClusterSegments.step n grp s1 (.batch q o) = some s2) :
    ∃ app, s2.log = s1.log ++ app ∧ ∀ i ∈ app, s1.stored ≤ i :=
  batch_above_stored n grp (SInv_run n grp _ _ s1 (SInv_init n grp) hd h1).1 h2

open GunYu.ClusterSegments in
/-- (1) without a replay (one segment, every batch acknowledged) nothing is executed twice -/
theorem segments_no_replay_no_duplicate (n : Nat) (grp : Nat → Nat) (evs : List ClusterSegments.Ev)
    (s : Tgt) (ho : OnlyAcked evs) (h : ClusterSegments.run n grp {} evs = some s) : s.log.Nodup :=
  (no_replay_nodup n grp evs _ s List.nodup_nil (fun _ hi => absurd hi List.not_mem_nil) ho h).1

open GunYu.ClusterSegments in
/-- (2) the stored position never moves backwards across events and segments, never exceeds
    what was acknowledged, and everything below what was acknowledged has been executed -/
theorem segments_position_sound (n : Nat) (grp : Nat → Nat) (evs1 evs2 : List ClusterSegments.Ev)
    (s1 s2 : Tgt) (hd1 : Disciplined evs1) (hd2 : Disciplined evs2)
    (h1 : ClusterSegments.run n grp {} evs1 = some s1) (h2 : ClusterSegments.run n grp s1 evs2 = some s2) :
    s1.stored ≤ s2.stored ∧ s2.stored ≤ s2.acked ∧ s2.acked ≤ n ∧ ∀ i, i < s2.acked → i ∈ s2.log := by
  obtain ⟨hi2, hmono⟩ := SInv_run n grp _ _ s2 (SInv_run n grp _ _ s1 (SInv_init n grp) hd1 h1).1 hd2 h2
  exact ⟨hmono, Nat.le_trans hi2.le1 hi2.le2, hi2.le3, hi2.inlog⟩

open GunYu.ClusterSegments in
/-- (3) after a final CLEAN segment (every batch acknowledged, the last one ending at the end of
    the stream) the target's effective stream is, per group, exactly the specification -/
theorem segments_clean_final_equals_spec (n : Nat) (grp : Nat → Nat) (sgs : List Segment)
    (last : Segment) (s : Tgt)
    (h : runSegments n grp {} (sgs ++ [last]) = some s)
    (hd : Disciplined ((sgs ++ [last]).flatMap Segment.events))
    (hc : last.ending = .clean) (hw : last.wellFormed)
    (hn : last.batches.getLast?.map (·.1) = some n) (g : Nat) :
    (keepLast s.log).filter (fun i => grp i == g) = (List.range n).filter (fun i => grp i == g) := by
  have hi := (SInv_run n grp _ _ s (SInv_init n grp) hd h).1
  -- the last segment brought the sender to n
  have hend : s.cur = n := by
    unfold runSegments at h
    rw [List.flatMap_append, run_append] at h
    cases h1 : ClusterSegments.run n grp {} (sgs.flatMap Segment.events) with
    | none => rw [h1] at h; exact nomatch h
    | some s1 =>
      rw [h1] at h
      simp only [Option.bind_some, List.flatMap_cons, List.flatMap_nil, List.append_nil,
        Segment.events, ClusterSegments.run, ClusterSegments.step] at h
      have := run_ok_batches_cur n grp last.batches _ s (hw.1 hc) h
      rw [this, hn]; rfl
  have he := hi.eff g
  rw [hend] at he
  unfold effBelow specBelow at he
  rw [← he]
  apply List.filter_congr
  intro i hik
  have : i < n := hi.bound i ((mem_keepLast i s.log).mp hik)
  simp [this]

open GunYu.ClusterSegments in
/-- full statement, for ANY sender (no discipline assumed): the stored position is covered by
    executed commands -/
def stored_position_covered_stmt : Prop :=
  ∀ (n : Nat) (grp : Nat → Nat) (evs : List ClusterSegments.Ev) (s : Tgt),
    ClusterSegments.run n grp {} evs = some s → ∀ i, i < s.stored → i ∈ s.log

open GunYu.ClusterSegments in
theorem stored_position_covered_blocking (n : Nat) (grp : Nat → Nat) (evs : List ClusterSegments.Ev)
    (s : Tgt) (hd : Disciplined evs) (h : ClusterSegments.run n grp {} evs = some s) :
    ∀ i, i < s.stored → i ∈ s.log := by
  have hi := (SInv_run n grp _ _ s (SInv_init n grp) hd h).1
  intro i hlt
  exact hi.inlog i (Nat.lt_of_lt_of_le hlt (Nat.le_trans hi.le1 hi.le2))

open GunYu.ClusterSegments in
/-- without it (pipelined modes, C19-F2; transactional cluster mode before 5c65a57): a
    cut batch that stores its position all the same — the stored position covers a command that
    never executed -/
theorem stored_position_covered_pipelined_false : ¬ stored_position_covered_stmt := by
  intro h
  have := h 2 (fun _ => 0) [.start, .batch 2 (.cut [1] true)]
    { log := [1], stored := 2, acked := 0, cur := 0 } (by decide +kernel) 0 (by decide +kernel)
  revert this
  decide +kernel

/-! non-vacuity: three segments — a receiver error in the middle of a batch, a hand-over, a
    clean one with a position-only flush — over two groups (even / odd positions), with an
    interleaved acknowledged batch -/

open GunYu.ClusterSegments in
def segsEx : List Segment := [
  { batches := [(2, .ok [0, 1] true), (5, .cut [2, 4] false)], ending := .receiverError },
  { batches := [(4, .ok [3, 2] false)], ending := .handOver },
  { batches := [(6, .ok [2, 3, 4, 5] false), (6, .ok [] true)], ending := .clean }]

open GunYu.ClusterSegments in
example : (runSegments 6 (· % 2) {} segsEx).map (fun s => (s.log, s.stored, s.acked, s.cur, keepLast s.log)) =
    some ([0, 1, 2, 4, 3, 2, 2, 3, 4, 5], 6, 6, 6, [0, 1, 2, 3, 4, 5]) := by decide +kernel
open GunYu.ClusterSegments in
example : ∀ sg ∈ segsEx, sg.wellFormed := by decide +kernel
open GunYu.ClusterSegments in
example : Disciplined (segsEx.flatMap Segment.events) := by
  intro e he
  simp [segsEx, Segment.events] at he
  rcases he with rfl | rfl | rfl | rfl | rfl | rfl | rfl | rfl <;> simp [cutStoresNothing]
open GunYu.ClusterSegments in
example : PrefixRun 6 (· % 2) {} (segsEx.flatMap Segment.events) := prefixRun_of_B _ _ _ _ (by decide +kernel)
open GunYu.ClusterSegments in
/-- the per-group logs of the example: group 0 = 0,2,4 | 2 | 2,4 — jumps back, never skips -/
example : (runSegments 6 (· % 2) {} segsEx).map (fun s => (projG (· % 2) 0 s.log, projG (· % 2) 1 s.log)) =
    some ([0, 2, 4, 2, 2, 4], [1, 3, 3, 5]) := by decide +kernel
open GunYu.ClusterSegments in
/-- a batch whose acknowledged part is not complete is not a step -/
example : (ClusterSegments.run 4 (· % 2) {} [.start, .batch 4 (.ok [0, 1, 3] true)]).isNone := by decide +kernel
open GunYu.ClusterSegments in
/-- a cut batch that executes out of order / with a gap inside a group (2 before 1, 0 missing)
    is a run of the bookkeeping model but NOT of the fault model: `PrefixRun` excludes it, and
    without it the log does skip — the hypothesis is needed -/
example : (ClusterSegments.run 3 (fun _ => 0) {} [.start, .batch 3 (.cut [2, 1] false), .batch 3 (.ok [0, 1, 2] true)]).isSome ∧
    ¬ PrefixCut (fun _ => 0) 0 3 [2, 1] := by decide +kernel

end GunYu.Props.C19
