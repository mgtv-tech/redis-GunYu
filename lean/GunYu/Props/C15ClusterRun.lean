/-
  C15 — the cluster-type lease store refines the single store over WHOLE RUNS
  (requests from any node of a stale client table, ticks, begin of a slot
  migration, MIGRATE of single keys, end of the migration, completed moves).
-/
import GunYu.Props.C15Cluster


namespace GunYu.Props.C15
open GunYu GunYu.Lease

/-! ### time -/

theorem lookup_later (st : Store) (now d : Nat) (k : Bytes) :
    lookup st (now + d) k = match lookup st now k with
      | some e => if now + d ≤ e.exp then some e else none
      | none => none := by
  unfold lookup
  cases st k with
  | none => rfl
  | some e =>
    dsimp only
    by_cases h1 : now ≤ e.exp
    · simp only [h1, ↓reduceIte]
    · have h2 : ¬ now + d ≤ e.exp := by omega
      simp only [h1, h2, ↓reduceIte]

theorem lookup_later_congr {A B : Store} {now : Nat} {k : Bytes} (d : Nat)
    (h : lookup A now k = lookup B now k) : lookup A (now + d) k = lookup B (now + d) k := by
  rw [lookup_later, lookup_later, h]

theorem lookup_later_none {A : Store} {now : Nat} {k : Bytes} (d : Nat)
    (h : lookup A now k = none) : lookup A (now + d) k = none := by
  rw [lookup_later, h]

theorem lookup_later_isSome {A : Store} {now : Nat} {k : Bytes} (d : Nat)
    (h : (lookup A (now + d) k).isSome = true) : (lookup A now k).isSome = true := by
  rw [lookup_later] at h
  cases hx : lookup A now k with
  | none => rw [hx] at h; simp at h
  | some e => rfl

/-- the cluster stands for the single store `st` (as far as anything can observe) -/
def View (c : CState) (now : Nat) (st : Store) : Prop :=
  ∀ k, lookup (absStore c now) now k = lookup st now k

theorem absStore_tick (c : CState) (now d : Nat) (k : Bytes) (hwf : CWf c now) :
    lookup (absStore c (now + d)) (now + d) k = lookup (absStore c now) (now + d) k := by
  cases hm : c.mig (c.slot k) with
  | none =>
    exact lookup_congr _ ((absStore_at_server c (now + d) _ k (.inl ⟨rfl, hm⟩)).trans
      (absStore_at_server c now _ k (.inl ⟨rfl, hm⟩)).symm)
  | some m =>
    cases h1 : lookup (c.node (c.owner (c.slot k))) now k with
    | none =>
      exact lookup_congr _ ((absStore_at_server c (now + d) m k (.inr (.inr ⟨hm, lookup_later_none d h1⟩))).trans
        (absStore_at_server c now m k (.inr (.inr ⟨hm, h1⟩))).symm)
    | some e =>
      have hA := absStore_at_server c now _ k (.inr (.inl ⟨rfl, ⟨m, hm⟩, by rw [h1]; rfl⟩))
      cases h2 : lookup (c.node (c.owner (c.slot k))) (now + d) k with
      | some e' =>
        exact lookup_congr _ ((absStore_at_server c (now + d) _ k
          (.inr (.inl ⟨rfl, ⟨m, hm⟩, by rw [h2]; rfl⟩))).trans hA.symm)
      | none =>
        have hB := absStore_at_server c (now + d) m k (.inr (.inr ⟨hm, h2⟩))
        rw [lookup_congr (now + d) hB, lookup_congr (now + d) hA, h2]
        exact lookup_later_none d (hwf.2 k m hm (by rw [h1]; rfl))

theorem cwf_tick (c : CState) (now d : Nat) (hwf : CWf c now) : CWf c (now + d) :=
  ⟨hwf.1, fun k m hm hl => lookup_later_none d (hwf.2 k m hm (lookup_later_isSome d hl))⟩

/-! ### requests -/

theorem exec_view_congr (r : Req) (A B : Store) (now : Nat) (k : Bytes)
    (h : ∀ k', lookup A now k' = lookup B now k') :
    ∀ k', lookup (r.exec A now k).1 now k' = lookup (r.exec B now k).1 now k' := by
  intro k'
  by_cases hk : k' = k
  · subst hk; exact (exec_congr r A B now k' (h k')).2
  · rw [lookup_congr now (exec_other r A now k k' hk), lookup_congr now (exec_other r B now k k' hk)]
    exact h k'

/-! ### resharding events: invisible through `absStore`, well-formedness kept -/

theorem lookup_of_none {st : Store} {k : Bytes} (now : Nat) (h : st k = none) : lookup st now k = none := by
  unfold lookup; rw [h]

/-- a node table patched at node `m` on the keys of slot `sl` is the old one at every other key -/
theorem patch_out (c : CState) (sl m : Nat) (g : Store) {k : Bytes} (hk : c.slot k ≠ sl) (x : Nat) :
    (if x = m then (fun k => if c.slot k = sl then g k else c.node m k) else c.node x) k = c.node x k := by
  by_cases hx : x = m
  · subst hx; simp only [↓reduceIte, hk]
  · simp only [hx, ↓reduceIte]

def beginState (c : CState) (sl m : Nat) : CState :=
  { c with
    mig := fun x => if x = sl then some m else c.mig x,
    node := fun n => if n = m then (fun k => if c.slot k = sl then none else c.node m k) else c.node n }

theorem begin_ok (c : CState) (now sl m : Nat) (hwf : CWf c now) (h1 : c.mig sl = none) (h2 : m ≠ c.owner sl) :
    (∀ k, lookup (absStore (beginState c sl m) now) now k = lookup (absStore c now) now k) ∧
    CWf (beginState c sl m) now := by
  have hom : ¬ c.owner sl = m := fun h => h2 h.symm
  -- entries of keys outside the slot are untouched
  have hout : ∀ k, c.slot k ≠ sl → ∀ x, (beginState c sl m).node x k = c.node x k :=
    fun k hk x => patch_out c sl m (fun _ => none) hk x
  have hown : (beginState c sl m).node (c.owner sl) = c.node (c.owner sl) := by
    show (if c.owner sl = m then _ else c.node (c.owner sl)) = _
    simp only [hom, ↓reduceIte]
  have hclr : ∀ k, c.slot k = sl → (beginState c sl m).node m k = none := by
    intro k hk
    show (if m = m then (fun k => if c.slot k = sl then none else c.node m k) else c.node m) k = none
    simp only [↓reduceIte, hk]
  have hmig_in : (beginState c sl m).mig sl = some m := by
    show (if sl = sl then some m else c.mig sl) = some m
    simp only [↓reduceIte]
  have hmig_out : ∀ s, s ≠ sl → (beginState c sl m).mig s = c.mig s := by
    intro s hs
    show (if s = sl then some m else c.mig s) = c.mig s
    simp only [hs, ↓reduceIte]
  refine ⟨?_, ?_, ?_⟩
  · intro k
    by_cases hk : c.slot k = sl
    · have hB : absStore c now k = c.node (c.owner sl) k :=
        absStore_at_server c now _ k (.inl ⟨congrArg c.owner hk, (congrArg c.mig hk).trans h1⟩)
      have hmk : (beginState c sl m).mig (c.slot k) = some m := (congrArg _ hk).trans hmig_in
      cases hl : lookup (c.node (c.owner sl)) now k with
      | some e =>
        have hA := absStore_at_server (beginState c sl m) now (c.owner sl) k
          (.inr (.inl ⟨congrArg c.owner hk, ⟨m, hmk⟩, by rw [hown, hl]; rfl⟩))
        exact lookup_congr now (hA.trans ((congrFun hown k).trans hB.symm))
      | none =>
        have hA := absStore_at_server (beginState c sl m) now m k (.inr (.inr ⟨hmk, by
          show lookup ((beginState c sl m).node (c.owner (c.slot k))) now k = none
          rw [hk, hown]; exact hl⟩))
        rw [lookup_of_none now (hA.trans (hclr k hk)), lookup_congr now hB, hl]
    · exact lookup_congr now (absStore_congr c (beginState c sl m) now k rfl rfl (hmig_out _ hk) (hout k hk))
  · intro s m' hm'
    by_cases hs : s = sl
    · subst hs
      rw [hmig_in] at hm'
      have : m = m' := by simpa using hm'
      subst this; exact h2
    · rw [hmig_out s hs] at hm'; exact hwf.1 s m' hm'
  · intro k m' hm' hlive
    by_cases hk : c.slot k = sl
    · have e : (beginState c sl m).mig (c.slot k) = some m' := hm'
      rw [hk, hmig_in] at e
      have : m = m' := by simpa using e
      subst this
      exact lookup_of_none now (hclr k hk)
    · have e : (beginState c sl m).mig (c.slot k) = some m' := hm'
      rw [hmig_out _ hk] at e
      exact cwf_key_of_same hwf rfl (hout k hk) e hlive

def migrateKeyState (c : CState) (k : Bytes) (m : Nat) (e : Entry) : CState :=
  { c with node := fun n =>
      if n = m then (c.node m).set k e
      else if n = c.owner (c.slot k) then (c.node n).del k
      else c.node n }

theorem migrateKey_ok (c : CState) (now : Nat) (k : Bytes) (m : Nat) (e : Entry) (hwf : CWf c now)
    (hm : c.mig (c.slot k) = some m) (hl : lookup (c.node (c.owner (c.slot k))) now k = some e) :
    (∀ k', lookup (absStore (migrateKeyState c k m e) now) now k' = lookup (absStore c now) now k') ∧
    CWf (migrateKeyState c k m e) now := by
  have hmo : m ≠ c.owner (c.slot k) := hwf.1 _ _ hm
  have hom : ¬ c.owner (c.slot k) = m := fun h => hmo h.symm
  have hnm : (migrateKeyState c k m e).node m = (c.node m).set k e := by
    show (if m = m then (c.node m).set k e else _) = _
    simp only [↓reduceIte]
  have hno : (migrateKeyState c k m e).node (c.owner (c.slot k)) = (c.node (c.owner (c.slot k))).del k := by
    show (if c.owner (c.slot k) = m then _ else if c.owner (c.slot k) = c.owner (c.slot k) then _ else _) = _
    simp only [hom, ↓reduceIte]
  have hother : ∀ k', k' ≠ k → ∀ x, (migrateKeyState c k m e).node x k' = c.node x k' := by
    intro k' hk x
    show (if x = m then (c.node m).set k e
      else if x = c.owner (c.slot k) then (c.node x).del k else c.node x) k' = c.node x k'
    by_cases hx : x = m
    · subst hx; simp only [↓reduceIte]; exact set_other _ k k' e hk
    · by_cases hx2 : x = c.owner (c.slot k)
      · subst hx2; simp only [hx, ↓reduceIte]; exact del_other _ k k' hk
      · simp only [hx, hx2, ↓reduceIte]
  have hdel : lookup ((migrateKeyState c k m e).node (c.owner (c.slot k))) now k = none := by
    rw [hno]; exact lookup_del_same _ now k
  refine ⟨?_, hwf.1, ?_⟩
  · intro k'
    by_cases hk : k' = k
    · subst hk
      have hA : absStore (migrateKeyState c k' m e) now k' = some e :=
        (absStore_at_server (migrateKeyState c k' m e) now m k' (.inr (.inr ⟨hm, hdel⟩))).trans
          ((congrFun hnm k').trans (set_same _ k' e))
      have hB := absStore_at_server c now _ k' (.inr (.inl ⟨rfl, ⟨m, hm⟩, by rw [hl]; rfl⟩))
      rw [lookup_of_live hA (lookup_some hl).2, lookup_congr now hB, hl]
    · exact lookup_congr now (absStore_congr c (migrateKeyState c k m e) now k' rfl rfl rfl (hother k' hk))
  · intro k' m' hm' hlive
    by_cases hk : k' = k
    · subst hk
      have hl' : (lookup ((migrateKeyState c k' m e).node (c.owner (c.slot k'))) now k').isSome = true := hlive
      rw [hdel] at hl'; simp at hl'
    · exact cwf_key_of_same hwf rfl (hother k' hk) hm' hlive

def finishState (c : CState) (now sl m : Nat) : CState :=
  { c with
    node := fun n => if n = m then (fun k => if c.slot k = sl then absStore c now k else c.node m k) else c.node n,
    owner := fun x => if x = sl then m else c.owner x,
    mig := fun x => if x = sl then none else c.mig x }

theorem finish_ok (c : CState) (now sl m : Nat) (hwf : CWf c now) :
    (∀ k, lookup (absStore (finishState c now sl m) now) now k = lookup (absStore c now) now k) ∧
    CWf (finishState c now sl m) now := by
  have hout : ∀ k, c.slot k ≠ sl → ∀ x, (finishState c now sl m).node x k = c.node x k :=
    fun k hk x => patch_out c sl m (absStore c now) hk x
  have hmig_in : (finishState c now sl m).mig sl = none := by
    show (if sl = sl then none else c.mig sl) = none
    simp only [↓reduceIte]
  have hmig_out : ∀ s, s ≠ sl → (finishState c now sl m).mig s = c.mig s := by
    intro s hs
    show (if s = sl then none else c.mig s) = c.mig s
    simp only [hs, ↓reduceIte]
  have hown_out : ∀ s, s ≠ sl → (finishState c now sl m).owner s = c.owner s := by
    intro s hs
    show (if s = sl then m else c.owner s) = c.owner s
    simp only [hs, ↓reduceIte]
  refine ⟨?_, ?_, ?_⟩
  · intro k
    by_cases hk : c.slot k = sl
    · have hown_in : (finishState c now sl m).owner (c.slot k) = m := by
        show (if c.slot k = sl then m else _) = m
        simp only [hk, ↓reduceIte]
      refine lookup_congr now
        ((absStore_at_server _ now m k (.inl ⟨hown_in, (congrArg _ hk).trans hmig_in⟩)).trans ?_)
      show (if m = m then (fun k => if c.slot k = sl then absStore c now k else c.node m k) else c.node m) k = _
      simp only [↓reduceIte, hk]
    · exact lookup_congr now (absStore_congr c (finishState c now sl m) now k rfl (hown_out _ hk)
        (hmig_out _ hk) (hout k hk))
  · intro s m' hm'
    by_cases hs : s = sl
    · subst hs; rw [hmig_in] at hm'; simp at hm'
    · rw [hmig_out s hs] at hm'; rw [hown_out s hs]; exact hwf.1 s m' hm'
  · intro k m' hm' hlive
    by_cases hk : c.slot k = sl
    · have e : (finishState c now sl m).mig (c.slot k) = some m' := hm'
      rw [hk, hmig_in] at e; simp at e
    · have e : (finishState c now sl m).mig (c.slot k) = some m' := hm'
      rw [hmig_out _ hk] at e
      exact cwf_key_of_same hwf (hown_out _ hk) (hout k hk) e hlive

def moveState (c : CState) (sl n : Nat) : CState :=
  { c with
    node := fun x => if x = n then (fun k => if c.slot k = sl then c.node (c.owner sl) k else c.node n k)
                     else c.node x,
    owner := fun x => if x = sl then n else c.owner x }

theorem move_ok (c : CState) (now sl n : Nat) (hwf : CWf c now) (h1 : c.mig sl = none) :
    (∀ k, lookup (absStore (moveState c sl n) now) now k = lookup (absStore c now) now k) ∧
    CWf (moveState c sl n) now := by
  have hout : ∀ k, c.slot k ≠ sl → ∀ x, (moveState c sl n).node x k = c.node x k :=
    fun k hk x => patch_out c sl n (c.node (c.owner sl)) hk x
  have hown_out : ∀ s, s ≠ sl → (moveState c sl n).owner s = c.owner s := by
    intro s hs
    show (if s = sl then n else c.owner s) = c.owner s
    simp only [hs, ↓reduceIte]
  refine ⟨?_, ?_, ?_⟩
  · intro k
    by_cases hk : c.slot k = sl
    · have hown_in : (moveState c sl n).owner (c.slot k) = n := by
        show (if c.slot k = sl then n else _) = n
        simp only [hk, ↓reduceIte]
      have hmk : c.mig (c.slot k) = none := (congrArg c.mig hk).trans h1
      refine lookup_congr now ((absStore_at_server _ now n k (.inl ⟨hown_in, hmk⟩)).trans
        (Eq.trans ?_ (absStore_at_server c now _ k (.inl ⟨congrArg c.owner hk, hmk⟩)).symm))
      show (if n = n then (fun k => if c.slot k = sl then c.node (c.owner sl) k else c.node n k) else c.node n) k = _
      simp only [↓reduceIte, hk]
    · exact lookup_congr now (absStore_congr c (moveState c sl n) now k rfl (hown_out _ hk) rfl (hout k hk))
  · intro s m' hm'
    have e : c.mig s = some m' := hm'
    by_cases hs : s = sl
    · subst hs; rw [h1] at e; simp at e
    · rw [hown_out s hs]; exact hwf.1 s m' e
  · intro k m' hm' hlive
    have e : c.mig (c.slot k) = some m' := hm'
    by_cases hk : c.slot k = sl
    · rw [hk, h1] at e; simp at e
    · exact cwf_key_of_same hwf (hown_out _ hk) (hout k hk) e hlive

/-! ### one event, whole runs -/

theorem cstep_refines (s : CSys) (st : Store) (ev : CEv) (hwf : CWf s.c s.now) (hv : View s.c s.now st) :
    (cstep s ev).2 = (sstep st s.now ev).2.2 ∧
    CWf (cstep s ev).1.c (cstep s ev).1.now ∧
    (cstep s ev).1.now = (sstep st s.now ev).2.1 ∧
    View (cstep s ev).1.c (cstep s ev).1.now (sstep st s.now ev).1 := by
  cases ev with
  | req v k r =>
    obtain ⟨c', hc, hview, hwf', _, _, _⟩ := clientDo_refines s.c s.now v k r hwf
    simp only [cstep, hc, sstep]
    refine ⟨?_, hwf', trivial, ?_⟩
    · rw [(exec_congr r _ _ s.now k (hv k)).1]
    · intro k'
      show lookup (absStore c' s.now) s.now k' = _
      rw [hview k']; exact exec_view_congr r _ _ s.now k hv k'
  | tick d =>
    simp only [cstep, sstep]
    refine ⟨trivial, cwf_tick _ _ d hwf, trivial, fun k => ?_⟩
    show lookup (absStore s.c (s.now + d)) (s.now + d) k = _
    rw [absStore_tick _ _ d k hwf]; exact lookup_later_congr d (hv k)
  | begin sl m =>
    simp only [cstep, sstep]
    split
    · rename_i h
      obtain ⟨ha, hw⟩ := begin_ok s.c s.now sl m hwf h.1 h.2
      exact ⟨rfl, hw, rfl, fun k => (ha k).trans (hv k)⟩
    · exact ⟨rfl, hwf, rfl, hv⟩
  | migrateKey k =>
    simp only [cstep, sstep]
    split
    · rename_i m hm
      split
      · rename_i e hl
        obtain ⟨ha, hw⟩ := migrateKey_ok s.c s.now k m e hwf hm hl
        exact ⟨rfl, hw, rfl, fun k' => (ha k').trans (hv k')⟩
      · exact ⟨rfl, hwf, rfl, hv⟩
    · exact ⟨rfl, hwf, rfl, hv⟩
  | finish sl =>
    simp only [cstep, sstep]
    split
    · rename_i m hm
      obtain ⟨ha, hw⟩ := finish_ok s.c s.now sl m hwf
      exact ⟨rfl, hw, rfl, fun k => (ha k).trans (hv k)⟩
    · exact ⟨rfl, hwf, rfl, hv⟩
  | move sl n =>
    simp only [cstep, sstep]
    split
    · rename_i h
      obtain ⟨ha, hw⟩ := move_ok s.c s.now sl n hwf h
      exact ⟨rfl, hw, rfl, fun k => (ha k).trans (hv k)⟩
    · exact ⟨rfl, hwf, rfl, hv⟩

theorem crun_refines : ∀ (evs : List CEv) (s : CSys) (st : Store), CWf s.c s.now → View s.c s.now st →
    (crun s evs).2 = srun st s.now evs := by
  intro evs
  induction evs with
  | nil => intro s st _ _; rfl
  | cons ev rest ih =>
    intro s st hwf hv
    obtain ⟨h1, h2, h3, h4⟩ := cstep_refines s st ev hwf hv
    simp only [crun, srun]
    have := ih (cstep s ev).1 (sstep st s.now ev).1 h2 h4
    rw [h1, this, h3]

/-- THE refinement, whole runs. For EVERY well-formed cluster (any number of nodes, any slot table and
    migration state, any key spaces), every instant and EVERY list of events — election requests first sent
    to any node (a stale client table), ticks, begin of a slot migration, MIGRATE of single keys, end of a
    migration, completed moves — the replies the cluster client gets are exactly those of the ONE store
    `absStore c now` under the same requests and ticks: every theorem of C15 about the single store (at most
    one holder, expiry bound, takeover, …) is a theorem about the election on a cluster-type lease store. -/
theorem cluster_run_refines : cluster_run_refines_stmt := by
  intro c now evs hwf
  exact crun_refines evs { c := c, now := now } (absStore c now) hwf (fun _ => rfl)

/-- a cluster that is not resharding is well-formed whatever its nodes hold -/
theorem cwf_of_no_migration (c : CState) (now : Nat) (h : ∀ s, c.mig s = none) : CWf c now :=
  ⟨fun s m hm => by rw [h s] at hm; simp at hm, fun k m hm => by rw [h _] at hm; simp at hm⟩

example : CWf exC 7 :=
  ⟨fun s m h => by simp only [exC, Option.some.injEq] at h; subst h; simp [exC], fun _ _ _ _ => rfl⟩

end GunYu.Props.C15
