/-
  C05, disk backend — several run-id directories in one store (`DiskD`,
  Model/StoreDirs.lean): the disk theorems hold PER ID across `SetRunId` (fresh
  directory, rename, switch to an EXISTING directory), `DelRunId` (current or
  FOREIGN id), `VerifyRunId` and restarts, for all operation lists respecting the
  callers' protocol `DiskD.wf`.
-/
import GunYu.Proofs.StoreReach
import GunYu.Proofs.StoreDirsCaller

namespace GunYu.Props.C05
open GunYu GunYu.Store

/-- the invariant of the current index and of every parked directory -/
theorem diskd_invariant (l m : Nat) (ops : List XOp) (hwf : (DiskD.init l m).wf ops) :
    DInvD ((DiskD.init l m).run ops) :=
  (DInvD.init l m).run ops hwf

/-- **diskd_refines_per_id.** In every reachable state, what EACH directory holds —
    the current one and every other id's — is the suffix of the history written UNDER
    THAT directory from its base: bytes never move between ids, nothing of another
    id's history shows up, whatever sequence of switches, deletes and restarts came
    before. (A rename relabels directory and history together.) -/
theorem diskd_refines_per_id (l m : Nat) (ops : List XOp) (hwf : (DiskD.init l m).wf ops) :
    let x := (DiskD.init l m).run ops
    ∀ d, (d = x.cur ∨ ∃ id, (id, d) ∈ x.dirs) → d.all ≠ [] →
      Contig d.all ∧ d.hbase ≤ d.abs.base ∧ d.abs.bytes = d.hist.drop (d.abs.base - d.hbase) := by
  intro x d hd hne
  have hinv := diskd_invariant l m ops hwf
  have hdi : DInv d := by
    rcases hd with rfl | ⟨id, hm⟩
    · exact hinv.cur
    · exact (hinv.parked _ hm).1
  exact ⟨hdi.contig, abs_bytes_eq hdi hne⟩

/-- a directory that is not the current one has no writer and no reader, and its
    snapshot, if any, is committed and complete -/
theorem diskd_parked_is_closed (l m : Nat) (ops : List XOp) (hwf : (DiskD.init l m).wf ops) :
    let x := (DiskD.init l m).run ops
    ∀ id d, (id, d) ∈ x.dirs → d.live = none ∧ d.readers = [] ∧
      ∀ r, d.rdb = some r → r.final = true ∧ r.data.length = r.size := by
  intro x id d hm
  obtain ⟨hdi, hw, hr⟩ := (diskd_invariant l m ops hwf).parked _ hm
  obtain ⟨hl, hrw⟩ := (noWriter_iff d).mp hw
  exact ⟨hl, hr, fun r hrd => (hdi.rdbShape r hrd).2.2 (hrw r hrd)⟩

/-- **diskd_reader_delivers.** every open stream reader of the current index has
    delivered exactly the bytes appended (under the current directory) at `[start, pos)` -/
theorem diskd_reader_delivers (l m : Nat) (ops : List XOp) (hwf : (DiskD.init l m).wf ops) :
    let s := ((DiskD.init l m).run ops).cur
    ∀ r ∈ s.readers, r.isOpen = true → r.isAof = true →
      s.hbase ≤ r.start ∧ r.start ≤ r.pos ∧ r.pos ≤ s.hbase + s.hist.length ∧
      r.out = (s.hist.drop (r.start - s.hbase)).take (r.pos - r.start) := by
  exact fun r hr ho ha => stream_delivered (diskd_invariant l m ops hwf).cur hr ho ha

theorem diskd_snapshot_reader_delivers (l m : Nat) (ops : List XOp) (hwf : (DiskD.init l m).wf ops) :
    let s := ((DiskD.init l m).run ops).cur
    ∀ r ∈ s.readers, r.isOpen = true → r.isAof = false →
      ∃ rd, s.rdb = some rd ∧ r.pos ≤ rd.data.length ∧ r.out = rd.data.take r.pos := by
  intro s r hr ho ha
  exact ((diskd_invariant l m ops hwf).cur.readersOk r hr ho).2 ha

theorem diskd_valid_iff_readable (l m : Nat) (ops : List XOp) (hwf : (DiskD.init l m).wf ops) (rid off : Nat) :
    let s := ((DiskD.init l m).run ops).cur
    findReader s.readers rid = none → (s.inRange off = true ↔ (s.open rid off true).2 ≠ Out.notExist) :=
  fun hf => inRange_iff_open (diskd_invariant l m ops hwf).cur rid off hf

theorem diskd_snapshot_offered_iff_complete (l m : Nat) (ops : List XOp) (hwf : (DiskD.init l m).wf ops) :
    let s := ((DiskD.init l m).run ops).cur
    s.getRdb ≠ (-1, -1) ↔ ∃ r, s.rdb = some r ∧ ((r.final = true ∧ r.data.length = r.size) ∨ r.writing = true) :=
  getRdb_iff (diskd_invariant l m ops hwf).cur

theorem diskd_reader_delivers_next (l m : Nat) (ops : List XOp) (hwf : (DiskD.init l m).wf ops) (withGc : Bool) :
    let s := ((DiskD.init l m).run ops).cur
    ∀ r ∈ s.readers, r.isOpen = true → r.isAof = true → r.prev = none →
      r.pos < s.hbase + s.hist.length → ∀ n, 0 < n →
      ∃ bs, (if withGc then s.followGc r.id n else s.follow r.id n).2 = Out.data bs ∧ bs ≠ [] ∧
        bs = (s.hist.drop (r.pos - s.hbase)).take bs.length := by
  intro s r hr ho ha hp hlt n hn
  exact follow_delivers (diskd_invariant l m ops hwf).cur hr ho ha hp hlt n hn withGc

/-- **work on the current id never touches another id's directory** -/
theorem diskd_other_dirs_untouched (x : DiskD) (o : DOp) (h1 : ∀ id, o ≠ .setRunId id) (h2 : o ≠ .delRunId) :
    (x.step (.base o)).1.dirs = x.dirs := by
  rw [step_base x h1 h2]

/-- **diskd_switch_back_restores.** Leaving the current id `a` for an existing
    directory `b` and coming back finds `a` as it was left: the same segments, the same
    snapshot, the same written history (in every reachable state, no writer open). -/
theorem diskd_switch_back_restores (l m : Nat) (ops : List XOp) (hwf : (DiskD.init l m).wf ops) (a b : String) :
    let x := (DiskD.init l m).run ops
    x.cur.runId = a → a ≠ "" → a ≠ "?" → b ≠ "" → b ≠ "?" → a ≠ b → x.cur.noWriter →
      (dirLookup x.dirs b).isSome = true →
      let y := (x.setRunId b).setRunId a
      y.cur.runId = a ∧ y.cur.segs = x.cur.segs ∧ y.cur.rdb = x.cur.rdb ∧ y.cur.live = none ∧
        y.cur.hbase = x.cur.hbase ∧ y.cur.hist = x.cur.hist := by
  intro x ha ha0 ha1 hb0 hb1 hab hw hl
  obtain ⟨img, himg⟩ := Option.isSome_iff_exists.mp hl
  exact switch_back (diskd_invariant l m ops hwf) ha ha0 ha1 hb0 hb1 hab hw himg

/-- **invalidation (several directories).** A switch to ANOTHER id — to a fresh
    directory, by rename, or to an existing directory —, the delete of a foreign id
    whose directory exists, and a restart leave no reader open. -/
theorem diskd_invalidation_closes_readers (x : DiskD) :
    (∀ new, new ≠ "" → new ≠ "?" → new ≠ x.cur.runId → ∀ r ∈ (x.setRunId new).cur.readers, r.isOpen = false) ∧
    (∀ id, id ≠ "" → id ≠ "?" → (id = x.cur.runId ∨ (dirLookup x.dirs id).isSome = true) →
        ∀ r ∈ (x.delRunId id).cur.readers, r.isOpen = false) ∧
    (∀ r ∈ x.restart.cur.readers, r.isOpen = false) := by
  have hreset : ∀ r ∈ x.cur.reset.readers, r.isOpen = false := closeAllReaders_closed _
  refine ⟨fun new h0 h1 hne => ?_, fun id h0 h1 hex => ?_, closeAllReaders_closed _⟩
  · rcases setRunId_cases x new with ⟨hc, _⟩ | ⟨_, _, _, ⟨img, _, e⟩ | ⟨_, ⟨_, e⟩ | ⟨_, e⟩⟩⟩
    · exact absurd hc (fun e => e.elim h0 (fun e => e.elim h1 hne))
    · rw [e]; exact closeAllReaders_closed _
    · rw [e]; exact hreset
    · rw [e]
      show ∀ r ∈ x.cur.closeAllForSwitch.rescan.readers, r.isOpen = false
      rw [(rescan_hist _).2.2]
      exact closeAllForSwitch_readers x.cur
  · rcases delRunId_cases x id with ⟨hc, _⟩ | ⟨_, _, ⟨_, e⟩ | ⟨_, _, e⟩⟩
    · rcases hc with e | e | ⟨hne, hl⟩
      · exact absurd e h0
      · exact absurd e h1
      · rcases hex with e | e
        · exact absurd e hne
        · rw [hl] at e; cases e
    · rw [e]; exact hreset
    · rw [e]; exact hreset

/-- with no other directory the model is the single-directory one (Model/Store.lean) -/
theorem diskd_extends_single (x : DiskD) (hd : x.dirs = []) (id : String) (h0 : id ≠ "") (h1 : id ≠ "?") :
    (x.setRunId id).cur = (x.cur.step (.setRunId id)).1 ∧ (x.setRunId id).dirs = [] := by
  rcases setRunId_cases x id with ⟨hc, e⟩ | ⟨_, _, h2, ⟨img, hl, _⟩ | ⟨_, ⟨hr, e⟩ | ⟨hr, e⟩⟩⟩
  · have h2 : id = x.cur.runId := (hc.resolve_left h0).resolve_left h1
    have hr : ¬ x.cur.runId = "" := h2 ▸ h0
    rw [e]
    exact ⟨by simp [Disk.step, hr, h2], hd⟩
  · rw [hd] at hl; cases hl
  · rw [e]; exact ⟨by simp only [Disk.step, hr, if_true], hd⟩
  · rw [e]; exact ⟨by simp only [Disk.step, hr, h2, if_false], hd⟩

/-! ## The callers' protocol over several directories -/

/-- **diskd_verify_head_current_or_absent.** In a store in which every writer was created
    at a positive offset: after `VerifyRunId(rid :: …)` the FIRST id of the list is the
    current one, or it has no directory. (`VerifyRunId` goes on to the next id when the one
    it has just switched to answers `LatestOffset() == 0`; with positive offsets no
    directory does, so the first existing id is taken.) This is why the id the callers
    then pass to `SetRunId` (`sOffset.RunId = id1`, `leaderSp.RunId`: the first id they asked
    with) never loads ANOTHER directory's bytes under the run's feet. -/
theorem diskd_verify_head_current_or_absent (x : DiskD) (hd : DInvD x) (hk : KeysInv x) (hp : PosD x)
    (rid : String) (rest : List String) :
    let x' := (x.verifyRunId (rid :: rest)).1
    rid = x'.cur.runId ∨ dirLookup x'.dirs rid = none :=
  verify_head_free rid rest hd hk hp

/-- **diskd_callers_respect_protocol.** The callers' runs over several directories
    (`callerOkD`): `ask ids` is `StoreChannel.StartPoint(ids)` — `VerifyRunId(ids)`, which
    may SWITCH the current directory, then the answer —; a stream writer is created at the
    offset answered, or after the run has cleared the cache (`DelRunId` of the current id,
    then `SetRunId` of the first id asked for: a fresh directory), or at the offset of the
    snapshot it announced; readers, collector, snapshot chunks, `SetRunId` of the same id
    or of the first id asked for (rename), anywhere in between; every writer at an offset
    > 0. Every such run satisfies `DiskD.wf`. `SetRunId` of any other id, `DelRunId` of a
    foreign id, `VerifyRunId` as a bare operation and a restart make the run forget what
    it knew (no writer may follow without a new `ask` / clear / announcement). -/
theorem diskd_callers_respect_protocol (l m : Nat) (cops : List COpD)
    (h : callerOkD ⟨.none, ""⟩ (DiskD.init l m) cops) : (DiskD.init l m).wf (COpD.erase cops) :=
  callerD_wf cops ⟨.none, ""⟩ _ (DInvD.init l m) (KeysInv.init l m) (PosD.init l m)
    (KnowsD.mk (c := ⟨.none, ""⟩) trivial (headFree_empty (KeysInv.init l m))) h

/-- the two invariants the derivation adds, for every run respecting `DiskD.wf` with
    positive writer offsets: no directory is filed under a placeholder id or under the
    current id; every segment and snapshot of every directory starts at an offset > 0 -/
theorem diskd_keys_and_positive (l m : Nat) : ∀ (ops : List XOp), (DiskD.init l m).wf ops → (∀ o ∈ ops, PosXOp o) →
    KeysInv ((DiskD.init l m).run ops) ∧ PosD ((DiskD.init l m).run ops) := by
  have key : ∀ (ops : List XOp) (x : DiskD), DInvD x → KeysInv x → PosD x → x.wf ops → (∀ o ∈ ops, PosXOp o) →
      KeysInv (x.run ops) ∧ PosD (x.run ops) := by
    intro ops
    induction ops with
    | nil => intro x _ hk hp _ _; exact ⟨hk, hp⟩
    | cons o rest ih =>
      intro x hd hk hp hwf hpos
      exact ih _ (hd.step o hwf.1) (hk.step o) (hp.step hd o (hpos o (by simp))) hwf.2
        (fun o' ho' => hpos o' (List.mem_cons_of_mem _ ho'))
  intro ops hwf hpos
  exact key ops _ (DInvD.init l m) (KeysInv.init l m) (PosD.init l m) hwf hpos

/-- four runs of the input: first full sync on an empty store; a reconnect that continues;
    a fail-over (the source's ids are now c, a: the directory is RENAMED, the answer stays
    the writer's offset through the rename and a collector pass); a gap (DelRunId, SetRunId:
    fresh directory, writer at the output's offset); then a restart and a continuation. -/
def exCallerRunD : List COpD :=
  [ .ask ["a", "b"], .op (.delRunId ""), .op (.setRunId "a"), .op (.base (.newRdbWriter 100 4)),
    .op (.base (.rdbAppend [1,2,3,4])), .op (.base (.newAofWriter 100)), .op (.base (.aofAppend [11,12,13,14,15,16,17,18,19,20])),
    .op (.base .aofClose),
    .ask ["a", "b"], .op (.setRunId "a"), .op (.base .gc), .op (.base (.newAofWriter 110)), .op (.base (.aofAppend [21,22])),
    .op (.base .aofClose),
    .ask ["c", "a"], .op (.base (.openReader 0 105 false)), .op (.setRunId "c"), .op (.base .gc), .op (.base (.read 0 4)),
    .op (.base (.newAofWriter 112)), .op (.base (.aofAppend [23])), .op (.base .aofClose),
    .ask ["c", "a"], .op (.delRunId "c"), .op (.setRunId "c"), .op (.base (.newAofWriter 5000)), .op (.base (.aofAppend [99])),
    .op (.base .aofClose),
    .op .restart, .ask ["c"], .op (.setRunId "c"), .op (.base (.newAofWriter 5001)) ]

example : callerOkD ⟨.none, ""⟩ (DiskD.init 64 0) exCallerRunD := by decide +kernel
example : ((DiskD.init 64 0).run ((COpD.erase exCallerRunD).take 22)).cur.runId = "c" ∧
    ((DiskD.init 64 0).run ((COpD.erase exCallerRunD).take 22)).cur.abs.bytes = [11,12,13,14,15,16,17,18,19,20,21,22,23] ∧
    ((DiskD.init 64 0).run ((COpD.erase exCallerRunD).take 22)).dirs.map (·.1) = [] := by decide +kernel

/-- NOT a run of the callers: after `SetRunId` of an id that is not the first one asked for
    (here: an existing other directory) the answer is forgotten — and rightly so: the
    directory loaded ends at 103, a writer at the answered 112 would leave a gap. -/
example : ¬ callerOkD ⟨.none, ""⟩ (DiskD.init 64 0)
    [ .op (.setRunId "b"), .op (.base (.newAofWriter 100)), .op (.base (.aofAppend [1,2,3])), .op (.base .aofClose), .op .restart,
      .op (.setRunId "a"), .op (.base (.newAofWriter 100)), .op (.base (.aofAppend [1,2,3,4,5,6,7,8,9,10,11,12])), .op (.base .aofClose),
      .ask ["a"], .op (.setRunId "b"), .op (.base (.newAofWriter 112)) ] := by decide +kernel

/-- the proviso is needed: a directory holding ONLY A SNAPSHOT AT OFFSET 0 is skipped by
    `VerifyRunId` after it has switched to it (`newest == 0 → continue`); the callers' clearing
    sequence `DelRunId(current); SetRunId(first id)` then LOADS it instead of starting on an
    empty cache (seen on the real Storer, review r4 / session 4: a writer at the output's
    offset then leaves a gap reported valid). No real source produces it: a history that
    was snapshotted at offset 0 has no predecessor id with data. -/
example :
    let x := (DiskD.init 64 0).run [ .setRunId "id1", .base (.newRdbWriter 0 4), .base (.rdbAppend [1,2,3,4]), .restart,
      .setRunId "id2", .base (.newAofWriter 500), .base (.aofAppend [1,2,3]), .base .aofClose, .restart ]
    (x.verifyRunId ["id1", "id2"]).1.cur.runId = "id2" ∧ (x.verifyRunId ["id1", "id2"]).2 = 503 ∧
    ((((x.verifyRunId ["id1", "id2"]).1.delRunId "id2").setRunId "id1").cur.rdb.map (fun r => (r.left, r.size))) = some (0, 4) := by
  decide +kernel

/-! ### non-vacuity: two ids, a restart, a switch to an existing directory and back,
    the delete of a foreign id -/

def exDirOps : List XOp :=
  [ .setRunId "a", .base (.newAofWriter 100), .base (.aofAppend [1,2,3,4,5,6,7,8,9,10]), .base (.aofAppend [11,12]),
    .base .aofClose, .restart,                       -- a new process: directory "a" stays, no current id
    .setRunId "b", .base (.newAofWriter 500), .base (.aofAppend [51,52,53]), .base .aofClose,
    .base (.openReader 0 501 false), .base (.read 0 1),
    .setRunId "a" ]                                  -- switch to the EXISTING directory of "a"

example : (DiskD.init 24 0).wf exDirOps := by decide +kernel
example : ((DiskD.init 24 0).run exDirOps).cur.runId = "a" ∧
    ((DiskD.init 24 0).run exDirOps).cur.abs.base = 100 ∧
    ((DiskD.init 24 0).run exDirOps).cur.abs.bytes = [1,2,3,4,5,6,7,8,9,10,11,12] ∧
    ((DiskD.init 24 0).run exDirOps).dirs.map (fun e => (e.1, e.2.abs.base, e.2.abs.bytes)) = [("b", 500, [51,52,53])] ∧
    ((DiskD.init 24 0).run exDirOps).cur.readers.map (fun r => (r.id, r.isOpen, r.out)) = [(0, false, [52])] := by decide +kernel
-- an instance of diskd_switch_back_restores: from "a" to the existing directory "b" and back
example : (DiskD.init 24 0).wf exDirOps ∧ (dirLookup ((DiskD.init 24 0).run exDirOps).dirs "b").isSome = true ∧
    ((((DiskD.init 24 0).run exDirOps).setRunId "b").setRunId "a").cur.abs.bytes = [1,2,3,4,5,6,7,8,9,10,11,12] ∧
    ((((DiskD.init 24 0).run exDirOps).setRunId "b").setRunId "a").cur.segs = ((DiskD.init 24 0).run exDirOps).cur.segs := by decide +kernel
-- VerifyRunId skips a missing id and an id whose directory holds nothing, and lands on "b"
example : (((DiskD.init 24 0).run exDirOps).verifyRunId ["zz", "?", "b", "a"]).2 = 503 ∧
    (((DiskD.init 24 0).run exDirOps).verifyRunId ["zz", "?", "b", "a"]).1.cur.runId = "b" := by decide +kernel
-- DelRunId of the FOREIGN id "b": its directory goes, the store forgets its current id "a", whose directory stays
example : (((DiskD.init 24 0).run exDirOps).delRunId "b").cur.runId = "" ∧
    (((DiskD.init 24 0).run exDirOps).delRunId "b").cur.all = [] ∧
    (((DiskD.init 24 0).run exDirOps).delRunId "b").dirs.map (fun e => (e.1, e.2.abs.bytes)) =
      [("a", [1,2,3,4,5,6,7,8,9,10,11,12])] := by decide +kernel

end GunYu.Props.C05
