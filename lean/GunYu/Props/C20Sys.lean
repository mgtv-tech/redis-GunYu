/-
  C20 — ONE system: the distributor of `sendRdb` with BOUNDED pipes TOGETHER WITH the n replay workers on one
  keyspace, and the refinement  Dist × Workers ⊑ Sys.

  `Sys` (Model/RestoreWorker.lean) gives every worker its whole pipe at the start (`queueOf`). `CSys` is the system as it
  runs: a worker's `queue` is the CONTENT of its pipe (at most `cap` entries); the distributor appends the next entry
  of the stream to the pipe of `route` (blocked while that pipe is full) or leaves through the cancelled branch of its
  `select`; a worker whose pipe is empty and not yet closed is BLOCKED on its receive (it neither takes nor drains),
  everything else a worker does is `Sys.step` - the same `wstep`, the same keyspace.

    * `csys_refines`   every schedule of `CSys` (any capacity) is matched by a schedule of `Sys` from `Sys.init`: the
                       abstraction `absC` (every pipe completed by what the distributor still holds for it; after the
                       distributor left through the cancelled branch: nothing - `Move.close`) of the state reached IS a
                       state `Sys` reaches. Keyspace, cancel flag and every worker's cur / st / pend / out / halted /
                       done are the SAME in both (`absC` changes `queue` only).
    * `csys_boundary`, `csys_held_unchanged`   `conc_boundary` / `conc_held_unchanged` re-stated over the composed
                       system: at every entry boundary of worker i the cells of its keys are what it ALONE makes of the
                       entries it has taken; under ignore / error a held cell is as it was - here for the system with the
                       distributor inside and pipes of any capacity ≥ 0.
-/
import GunYu.Props.C20Conc
import GunYu.Props.C20Dist

namespace GunYu.Props.C20
open GunYu GunYu.Restore

structure CSys where
  sys   : Sys
  src   : List Entry
  idx   : Nat := 0
  ddone : Bool := false
  derr  : Bool := false

inductive CMove
  | send
  | abort
  | work (i : Nat) (obs : Bool)
  | cancel

/-- worker `W` is blocked on `<-pipe`: nothing pending, last entry fine, it does not look at (or there is no) cancel,
    its pipe is empty and the distributor has not closed it -/
def recvBlocked (cancel obs : Bool) (ddone : Bool) (W : WSt) : Prop :=
  W.halted = false ∧ W.pend = [] ∧ W.out = .ok ∧ ¬ (cancel = true ∧ obs = true) ∧ W.queue = [] ∧ ddone = false

instance (c o d : Bool) (W : WSt) : Decidable (recvBlocked c o d W) := by unfold recvBlocked; infer_instance

def CSys.move (E : Env) (n cap : Nat) (C : CSys) : CMove → CSys
  | .send =>
    if C.ddone then C else
    match C.src with
    | [] => { C with ddone := true }
    | e :: r =>
      match C.sys.ws[route E.w n e C.idx]? with
      | none => C
      | some W =>
        if W.queue.length < cap then
          { C with src := r, idx := route E.w n e C.idx,
                   sys := { C.sys with ws := C.sys.ws.set (route E.w n e C.idx) { W with queue := W.queue ++ [e] } } }
        else C
  | .abort => if C.sys.cancel = true ∧ C.ddone = false then { C with ddone := true, derr := true } else C
  | .work i obs =>
    match C.sys.ws[i]? with
    | none => C
    | some W => if recvBlocked C.sys.cancel obs C.ddone W then C else { C with sys := Sys.step E C.sys i obs }
  | .cancel => { C with sys := { C.sys with cancel := true } }

def CSys.run (E : Env) (n cap : Nat) (C : CSys) : List CMove → CSys
  | [] => C
  | m :: ms => CSys.run E n cap (C.move E n cap m) ms

def CSys.init (n : Nat) (ks : KS) (es : List Entry) : CSys :=
  { sys := { ks := ks, ws := (List.range n).map (fun _ => { queue := [] }) }, src := es }

def addQ (W : WSt) (R : List Entry) : WSt := { W with queue := W.queue ++ R }

def addRem (rem : Nat → List Entry) : Nat → List WSt → List WSt
  | _, [] => []
  | k, W :: ws => addQ W (rem k) :: addRem rem (k + 1) ws

theorem addRem_eq (rem : Nat → List Entry) (k : Nat) (ws : List WSt) :
    addRem rem k ws = ws.mapIdx (fun i W => addQ W (rem (k + i))) := by
  induction ws generalizing k with
  | nil => rfl
  | cons W ws ih => simp [addRem, List.mapIdx_cons, ih, Nat.add_assoc, Nat.add_comm 1]

theorem addRem_length (rem) (k) (ws : List WSt) : (addRem rem k ws).length = ws.length := by
  simp [addRem_eq]

theorem addRem_get (rem) (k) (ws : List WSt) (i : Nat) :
    (addRem rem k ws)[i]? = (ws[i]?).map (fun W => addQ W (rem (k + i))) := by
  simp [addRem_eq]

theorem addRem_set (rem) (k) (ws : List WSt) (i : Nat) (W' : WSt) :
    addRem rem k (ws.set i W') = (addRem rem k ws).set i (addQ W' (rem (k + i))) := by
  simp [addRem_eq, List.mapIdx_set]

theorem addRem_congr {rem rem' : Nat → List Entry} {k : Nat} {ws : List WSt} (h : ∀ i < ws.length, rem (k + i) = rem' (k + i)) :
    addRem rem k ws = addRem rem' k ws := by
  rw [addRem_eq, addRem_eq, List.mapIdx_eq_mapIdx_iff]
  intro i hi; rw [h i hi]

theorem addQ_nil (W : WSt) : addQ W [] = W := by simp [addQ]

theorem addRem_nil (k : Nat) (ws : List WSt) : addRem (fun _ => []) k ws = ws := by
  rw [addRem_eq, List.mapIdx_eq_iff]
  intro i; cases ws[i]? <;> simp [addQ_nil]

theorem addRem_set_rem (rem : Nat → List Entry) (ws : List WSt) (j : Nat) (W : WSt) (R : List Entry) (h : ws[j]? = some W) :
    (addRem rem 0 ws).set j (addQ W R) = addRem (fun i => if i = j then R else rem i) 0 ws := by
  apply List.ext_getElem?
  intro m
  rw [List.getElem?_set, addRem_length, addRem_get, addRem_get, Nat.zero_add]
  obtain ⟨hj, rfl⟩ := List.getElem?_eq_some_iff.mp h
  by_cases hm : j = m
  · subst hm; simp [hj]
  · have : ¬ m = j := fun x => hm x.symm
    simp [hm, this]

/-- what the distributor still holds for worker `i` -/
def remOf (E : Env) (n : Nat) (C : CSys) (i : Nat) : List Entry :=
  if C.derr then [] else queueFrom E.w n C.idx C.src i

def absC (E : Env) (n : Nat) (C : CSys) : Sys :=
  { ks := C.sys.ks, cancel := C.sys.cancel, ws := addRem (remOf E n C) 0 C.sys.ws, cut := C.derr }

theorem absC_get (E : Env) (n : Nat) (C : CSys) (i : Nat) (W : WSt) (h : C.sys.ws[i]? = some W) :
    (absC E n C).ws[i]? = some (addQ W (remOf E n C i)) := by
  simp [absC, addRem_get, h]

structure CInv (n : Nat) (C : CSys) : Prop where
  len  : C.sys.ws.length = n
  done : C.ddone = true → C.derr = true ∨ C.src = []
  err  : C.derr = true → C.ddone = true

theorem run_append (E : Env) (S : Sys) (a b : List Move) : Sys.run E S (a ++ b) = Sys.run E (Sys.run E S a) b := by
  induction a generalizing S with
  | nil => rfl
  | cons m a ih => simp [Sys.run, ih]

/-! ### a worker's step does not care what is BEHIND the head of its pipe -/

theorem wstep_addQ (E : Env) (c obs : Bool) (W : WSt) (ks : KS) (R : List Entry)
    (h : W.queue = [] → R = [] ∨ W.halted = true ∨ W.pend ≠ [] ∨ W.out ≠ .ok ∨ (c = true ∧ obs = true)) :
    wstep E c obs (addQ W R) ks =
      (addQ (wstep E c obs W ks).1 R, (wstep E c obs W ks).2.1, (wstep E c obs W ks).2.2) := by
  unfold wstep addQ
  cases hh : W.halted with
  | true => simp [hh]
  | false =>
    cases hp : W.pend with
    | cons q qs => simp
    | nil =>
      by_cases ho : W.out = .ok
      · by_cases hc : c = true ∧ obs = true
        · simp [ho, hc]
        · cases hq : W.queue with
          | cons e rest => simp [ho, hc]
          | nil =>
            obtain rfl : R = [] := (h hq).resolve_right (by simp [hh, hp, ho, hc])
            simp [ho, hc]
      · simp [ho]

/-- a step of worker `i` on the composed state, seen through the abstraction -/
theorem step_abs (E : Env) (n : Nat) (C : CSys) (i : Nat) (obs : Bool) (W : WSt) (hW : C.sys.ws[i]? = some W)
    (hnb : ¬ recvBlocked C.sys.cancel obs C.ddone W) (hinv : CInv n C) :
    absC E n { C with sys := Sys.step E C.sys i obs } = Sys.step E (absC E n C) i obs := by
  have hrem : W.queue = [] → remOf E n C i = [] ∨ W.halted = true ∨ W.pend ≠ [] ∨ W.out ≠ .ok ∨
      (C.sys.cancel = true ∧ obs = true) := by
    intro hq
    by_cases hd : C.ddone = true
    · -- the distributor has returned: nothing is left for any worker
      left; unfold remOf
      rcases hinv.done hd with he | hs
      · simp [he]
      · simp [hs, queueFrom, routeAll]
    · -- the pipe is open and empty, yet the worker is not blocked on it
      right
      refine Classical.byContradiction fun hcon => hnb ⟨?_, ?_, ?_, fun h => hcon (Or.inr (Or.inr (Or.inr h))), hq, ?_⟩
      · exact Bool.eq_false_iff.mpr fun h => hcon (Or.inl h)
      · exact Classical.not_not.mp fun h => hcon (Or.inr (Or.inl h))
      · exact Classical.not_not.mp fun h => hcon (Or.inr (Or.inr (Or.inl h)))
      · exact Bool.eq_false_iff.mpr hd
  have hget := absC_get E n C i W hW
  have hws := wstep_addQ E C.sys.cancel obs W C.sys.ks (remOf E n C i) hrem
  simp only [Sys.step, hW, hget]
  have e1 : (absC E n C).cancel = C.sys.cancel := rfl
  have e2 : (absC E n C).ks = C.sys.ks := rfl
  rw [e1, e2, hws]
  simp only [absC]
  congr 1
  rw [addRem_set, Nat.zero_add]
  rfl

/-! ### the distributor leaving through the cancelled branch = `Move.close` on every pipe -/

def closes (ws : List WSt) : List Move := (List.range ws.length).map (fun i => Move.close i ((ws[i]?).map (·.queue.length) |>.getD 0))

theorem close_all (E : Env) (S : Sys) (ws : List WSt) (rem : Nat → List Entry) (hws : S.ws = addRem rem 0 ws)
    (hn : 0 < ws.length) :
    Sys.run E S (closes ws) = { S with ws := ws, cut := true } := by
  -- closing the pipes 0 … j-1 leaves the others as they are
  have key : ∀ j, j ≤ ws.length →
      Sys.run E S ((List.range j).map (fun i => Move.close i ((ws[i]?).map (·.queue.length) |>.getD 0))) =
        { S with ws := addRem (fun i => if i < j then [] else rem i) 0 ws, cut := (S.cut || decide (0 < j)) } := by
    intro j
    induction j with
    | zero => intro _; simp [Sys.run, ← hws]
    | succ j ih =>
      intro hj
      have hW : ws[j]? = some ws[j] := List.getElem?_eq_getElem hj
      rw [List.range_succ, List.map_append, run_append, ih (Nat.le_of_lt hj)]
      simp only [List.map_cons, List.map_nil, Sys.run, Sys.move, addRem_get, hW, Option.map_some, Option.getD_some,
        Nat.zero_add, Nat.lt_irrefl, if_false]
      have hcut : ({ addQ ws[j] (rem j) with queue := (addQ ws[j] (rem j)).queue.take ws[j].queue.length } : WSt) =
          addQ ws[j] [] := by simp [addQ]
      rw [hcut, addRem_set_rem _ _ _ _ _ hW]
      congr 1
      · exact addRem_congr fun i _ => by
          by_cases h1 : i = j
          · simp [h1]
          · by_cases h2 : i < j
            · simp [h1, h2, Nat.lt_succ_of_lt h2]
            · simp [h1, h2, show ¬ i < j + 1 from fun h => (Nat.lt_succ_iff_lt_or_eq.mp h).elim h2 h1]
      · simp
  unfold closes
  rw [key ws.length (Nat.le_refl _), addRem_congr (rem' := fun _ => []) (fun i hi => by simp [hi]), addRem_nil]
  simp [hn]

/-! ### one move of the composed system = some moves of `Sys` -/

theorem move_refines (E : Env) (n cap : Nat) (hn : 0 < n) (C : CSys) (m : CMove) (hinv : CInv n C) :
    CInv n (C.move E n cap m) ∧ ∃ ms', absC E n (C.move E n cap m) = Sys.run E (absC E n C) ms' := by
  -- the cases of `CSys.move` are taken on the new state alone
  have same : CInv n C ∧ ∃ ms', absC E n C = Sys.run E (absC E n C) ms' := ⟨hinv, [], rfl⟩
  generalize hC' : C.move E n cap m = C'
  cases m with
  | cancel => subst hC'; exact ⟨⟨hinv.len, hinv.done, hinv.err⟩, [Move.cancel], rfl⟩
  | abort =>
    simp only [CSys.move] at hC'
    split at hC' <;> subst hC'
    · refine ⟨⟨hinv.len, fun _ => Or.inl rfl, fun _ => rfl⟩, closes C.sys.ws, ?_⟩
      rw [close_all E (absC E n C) C.sys.ws (remOf E n C) rfl (by rw [hinv.len]; exact hn)]
      have : remOf E n { C with ddone := true, derr := true } = fun _ => [] := rfl
      simp only [absC, this, addRem_nil]
    · exact same
  | work i obs =>
    cases hW : C.sys.ws[i]? with
    | none => simp only [CSys.move, hW] at hC'; subst hC'; exact same
    | some W =>
      simp only [CSys.move, hW] at hC'
      split at hC' <;> subst hC'
      · exact same
      · rename_i hnb
        refine ⟨⟨?_, hinv.done, hinv.err⟩, [Move.work i obs], ?_⟩
        · simp [Sys.step, hW, hinv.len]
        · rw [step_abs E n C i obs W hW hnb hinv]; rfl
  | send =>
    simp only [CSys.move] at hC'
    split at hC'
    · subst hC'; exact same
    · rename_i hdd
      split at hC'
      · rename_i hsrc
        subst hC'
        exact ⟨⟨hinv.len, fun _ => Or.inr hsrc, fun _ => rfl⟩, [], by simp only [Sys.run, absC]; congr 2⟩
      · rename_i e r hsrc
        split at hC'
        · subst hC'; exact same
        · rename_i W hW
          split at hC' <;> subst hC'
          · refine ⟨⟨by simp [hinv.len], fun h => absurd h hdd, hinv.err⟩, [], ?_⟩
            -- the entry moves from what the distributor holds for its worker to the end of that worker's pipe
            have hde : C.derr = false := Bool.eq_false_iff.mpr fun hd => hdd (hinv.err hd)
            have hq : addQ { W with queue := W.queue ++ [e] } (queueFrom E.w n (route E.w n e C.idx) r (route E.w n e C.idx)) =
                addQ W ([e] ++ queueFrom E.w n (route E.w n e C.idx) r (route E.w n e C.idx)) := by simp [addQ]
            simp only [Sys.run, absC]
            delta remOf
            simp only [hde, Bool.false_eq_true, if_false, addRem_set, Nat.zero_add, hq, addRem_set_rem _ _ _ _ _ hW, hsrc]
            congr 1
            exact addRem_congr fun i _ => by
              rw [queueFrom_cons]
              by_cases hi : i = route E.w n e C.idx <;> simp [hi]
          · exact same

theorem absC_init (E : Env) (n : Nat) (ks : KS) (es : List Entry) : absC E n (CSys.init n ks es) = Sys.init E n ks es := by
  simp only [absC, CSys.init, Sys.init]
  congr 1
  apply List.ext_getElem?
  intro m
  simp only [addRem_get, Nat.zero_add, List.getElem?_map]
  by_cases hm : m < n
  · simp [hm, addQ, remOf, queueOf_eq_queueFrom]
  · simp [hm]

/-- **Dist × Workers ⊑ Sys**: whatever the capacity of the pipes and whatever the schedule of distributor, workers and
    cancel, the abstraction of the state reached is a state the pre-filled system reaches -/
theorem csys_refines (E : Env) (n cap : Nat) (hn : 0 < n) (ks : KS) (es : List Entry) (ms : List CMove) :
    CInv n ((CSys.init n ks es).run E n cap ms) ∧
    ∃ ms', absC E n ((CSys.init n ks es).run E n cap ms) = Sys.run E (Sys.init E n ks es) ms' := by
  suffices ∀ C, CInv n C → (∃ m0, absC E n C = Sys.run E (Sys.init E n ks es) m0) →
      CInv n (C.run E n cap ms) ∧ ∃ ms', absC E n (C.run E n cap ms) = Sys.run E (Sys.init E n ks es) ms' from
    this _ ⟨by simp [CSys.init], nofun, nofun⟩ ⟨[], by rw [absC_init]; rfl⟩
  induction ms with
  | nil => intro C hi h; exact ⟨hi, h⟩
  | cons m ms ih =>
    intro C hi ⟨m0, h0⟩
    obtain ⟨hi', m1, h1⟩ := move_refines E n cap hn C m hi
    exact ih _ hi' ⟨m0 ++ m1, by rw [h1, h0, run_append]⟩

/-- `conc_boundary` over the composed system: at every entry boundary of worker `i` the cells of its keys are what it
    ALONE makes of the entries it has taken - with the distributor inside the system and pipes of any capacity -/
theorem csys_boundary (E : Env) (n cap : Nat) (hn : 0 < n) (ks0 : KS) (es : List Entry) (hc : CmdsOnTarget E.w es)
    (ms : List CMove) (i : Nat) (W : WSt) (hi : ((CSys.init n ks0 es).run E n cap ms).sys.ws[i]? = some W) (hp : W.pend = []) :
    ∀ d k, fnv32a k % n = i → ((CSys.init n ks0 es).run E n cap ms).sys.ks d k = soloResult E n ks0 es i W.done d k := by
  obtain ⟨_, ms', h⟩ := csys_refines E n cap hn ks0 es ms
  have hget := absC_get E n _ i W hi
  rw [h] at hget
  have := conc_boundary E n ks0 es hc ms' i _ hget hp
  rw [← h] at this
  exact this

/-- `conc_held_unchanged` over the composed system (ignore / error: a held cell is as it was at every entry boundary) -/
theorem csys_held_unchanged (E : Env) (n cap : Nat) (hn : 0 < n) (ks0 : KS) (gs : List KGroup) (es : List Entry)
    (hs : StreamOf es gs) (hg : ∀ g ∈ gs, GoodGroup g ∧ g.oneDb) (ha : E.w.rht = true → ∀ g ∈ gs, ArgsOK g)
    (hpol : E.pol ≠ .replace) (ms : List CMove) (i : Nat) (W : WSt)
    (hi : ((CSys.init n ks0 es).run E n cap ms).sys.ws[i]? = some W) (hp : W.pend = []) :
    ∀ d k v, fnv32a k % n = i → ks0 d k = some v → ((CSys.init n ks0 es).run E n cap ms).sys.ks d k = some v := by
  obtain ⟨_, ms', h⟩ := csys_refines E n cap hn ks0 es ms
  have hget := absC_get E n _ i W hi
  rw [h] at hget
  have := conc_held_unchanged E n ks0 gs es hs hg ha hpol ms' i _ hget hp
  rw [← h] at this
  exact this

/-- the composed system never holds more than `cap` entries in a pipe it has filled itself -/
theorem csys_send_respects_cap (E : Env) (n cap : Nat) (C : CSys) (e : Entry) (r : List Entry) (W : WSt)
    (hd : C.ddone = false) (hsrc : C.src = e :: r) (hW : C.sys.ws[route E.w n e C.idx]? = some W) (hfull : cap ≤ W.queue.length) :
    C.move E n cap .send = C := by
  simp only [CSys.move, hd, hsrc, hW]
  have : ¬ W.queue.length < cap := Nat.not_lt.mpr hfull
  simp [this]

/-! ## non-vacuity: the stream `exEs` of Props/C20Conc.lean, 2 workers, pipes of ONE entry -/

def exCSched : List CMove :=
  [.send, .send, .work 1 false, .send, .work 1 false, .work 1 false, .send, .work 0 false, .send, .send, .send, .work 1 false, .work 1 false]
-- the second send meets a full pipe and blocks
example : ((CSys.init 2 exT.ks exEs).run (exEnv .ignore) 2 1 [.send, .send]).src.length = 5 := by decide
-- worker 0 on an empty OPEN pipe is blocked (neither takes nor drains); worker 1 has taken three entries
example : ((CSys.init 2 exT.ks exEs).run (exEnv .ignore) 2 1 exCSched).sys.ws.map (fun W => (W.done, W.queue.length, W.halted)) =
    [(0, 0, false), (3, 0, false)] := by decide
-- policy error: worker 1 fails on the held key "h", the environment (sendRdb) cancels, the distributor - blocked on
-- worker 1's full pipe - leaves through the cancelled branch with 3 entries undistributed; worker 0 drains its closed pipe
def exCSchedE : List CMove :=
  [.send, .work 1 false, .send, .work 1 false, .work 1 false, .send, .work 1 false, .cancel, .send, .abort, .work 0 false]
example : let C := (CSys.init 2 exT.ks exEs).run (exEnv .error) 2 1 exCSchedE
    (C.ddone, C.derr, C.src.length) = (true, true, 3) ∧
    C.sys.ws.map (fun W => (W.done, W.queue.length, W.halted)) = [(0, 0, true), (2, 1, true)] := by decide
-- … and the held key is as it was (an instance of what `csys_held_unchanged` says for every schedule)
example : ((CSys.init 2 exT.ks exEs).run (exEnv .error) 2 1 exCSchedE).sys.ks 0 [104] = some { val := .old 0, exp := 777 } := by decide
example : ∃ ms', absC (exEnv .error) 2 ((CSys.init 2 exT.ks exEs).run (exEnv .error) 2 1 exCSchedE) =
    Sys.run (exEnv .error) (Sys.init (exEnv .error) 2 exT.ks exEs) ms' :=
  (csys_refines (exEnv .error) 2 1 (by decide) exT.ks exEs exCSchedE).2

end GunYu.Props.C20
