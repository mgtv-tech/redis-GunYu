/-
  C17 — the stale-checkpoint gc BESIDE a failover relabel.

  `gcStaleCheckpoint` polls the sources for their ids first and reads the checkpoint hash afterwards: a relabel that
  lands in between (`SetRunId` → `UpdateCheckpoint` → `SetCheckpoint`) leaves a hash entry of an id that is NOT in the
  gc's live set. What protects that record is its `_mtime`:
    `update_stamps_now`         every checkpoint HSET of `UpdateCheckpoint` is `cpEntries c now`: it carries
                                `<id1>_mtime = now`, the time of the WRITE (source fact c17_setcheckpoint_mtime fixes
                                `time.Now().UnixNano()` in SetCheckpoint; harness C17gr executes the interleaving),
    `delStale_only_old`         `DelStaleCheckpoint` deletes only records whose mtime is ≤ `before` (= gc time − stale duration),
    `delStale_fresh_not_all`    a record with mtime > `before` makes `total ≠ deleted`,
    `gcLoop_head_fresh`         hence for an id outside the live set with such a record the pass issues only those
                                HDELs of OLD records and does NOT delete the id's hash entry.
-/
import GunYu.Props.C17Reach

namespace GunYu.Props.C17
open GunYu GunYu.Checkpoint GunYu.BookSys

/-- **the relabel / rename stores the time of the write**: every HSET of a checkpoint key that `UpdateCheckpoint` issues
    is `SetCheckpoint` of a record labelled with the first id, stamped `now` -/
theorem update_stamps_now (ver : Bytes) (t : Checkpoint.Target) (loc : Bytes) (ids : List Bytes) (o1 o2 : List Nat) (now : Int)
    (db : Nat) (n : Bytes) (es : List Entry) (hq : Req.hsetCp db n es ∈ updateReqs ver t loc ids o1 o2 now) :
    ∃ id1 c, ids.head? = some id1 ∧ c.runId = id1 ∧ es = cpEntries c now ∧ (⟨id1, .mtime, intToDec now⟩ : Entry) ∈ es := by
  cases ids with
  | nil => cases hq
  | cons id1 rest =>
    simp only [updateReqs] at hq
    cases hg : getHash t.hash (id1 :: rest) with
    | none => rw [hg] at hq; cases hq
    | some p =>
      obtain ⟨cpName, cpRunId⟩ := p
      simp only [hg] at hq
      by_cases hc : cpName ≠ loc ∨ id1 ≠ cpRunId
      case neg => rw [if_neg hc] at hq; cases hq
      rw [if_pos hc] at hq
      generalize (if cpName ≠ [] then getCheckpoint ver t cpName (id1 :: rest) o1
        else some ({ version := ver }, 0)) = got at hq
      cases got with
      | none => cases hq
      | some g =>
        -- the first request is the HSET; the others are the hash entry and deletions
        simp only [List.cons_append, List.nil_append, List.mem_cons] at hq
        rcases hq with hq | hq | hq
        · injection hq with _ _ h3
          exact ⟨id1, _, rfl, rfl, h3, h3 ▸ List.mem_cons_self ..⟩
        · cases hq
        · -- they are `SafeReq`s, which no HSET is
          exact False.elim (safe_updRest (id2 := id1) (d := 0) (n := cpName) (oldId := g.1.runId) o2 _ hq)

/-- `DelStaleCheckpoint` deletes only records whose mtime is not younger than the threshold -/
theorem delStale_only_old (t : Checkpoint.Target) (name rid : Bytes) (before : Int) (ex : Bool) (order : List Nat)
    (s : StaleScan) (hs : staleScan t name rid order = some s) :
    ∀ q ∈ (delStale t name rid before ex order).2.2,
      ∃ p ∈ s.found, p.2.mtime ≤ before ∧ q = Req.hdelCp p.1 name (staleKeys p.2.runId ex) := by
  intro q hq
  obtain ⟨s', p, hs', hp, _, hm, rfl⟩ := mem_delStale hq
  cases hs.symm.trans hs'
  exact ⟨p, hp, hm, rfl⟩

/-- a record younger than the threshold makes `total ≠ deleted`: `gcStaleCp` keeps the hash entry -/
theorem delStale_fresh_not_all (t : Checkpoint.Target) (name rid : Bytes) (before : Int) (ex : Bool) (order : List Nat)
    (s : StaleScan) (hs : staleScan t name rid order = some s) (p : Nat × CpInfo) (hp : p ∈ s.found)
    (hf : p.2.mtime > before) :
    (delStale t name rid before ex order).1 ≠ (delStale t name rid before ex order).2.1 := by
  simp only [delStale, hs, staleVictims]
  have : (s.found.filter (fun p => decide ¬ ((p.1 = s.newestDb ∧ ex = true) ∨ p.2.mtime > before))).length < s.found.length := by
    apply List.length_filter_lt_length_iff_exists.2
    exact ⟨p, hp, by simp [hf]⟩
  omega

/-- **a gc pass whose live-id snapshot predates a relabel spares the relabelled record**: for a hash pair whose id is NOT
    in the live set but which holds a record stamped after `before` (the relabel happened less than the stale duration
    before the pass), the pass issues for that pair only HDELs of records with mtime ≤ `before`, and no HDEL of the
    id's hash entry -/
theorem gcLoop_head_fresh (live : List Bytes) (before : Int) (t : Checkpoint.Target) (rid cpn : Bytes)
    (rest : List (Bytes × Bytes)) (orders : List (List Nat)) (s : StaleScan)
    (hs : staleScan t cpn rid (orders.headD []) = some s) (p : Nat × CpInfo) (hp : p ∈ s.found) (hf : p.2.mtime > before) :
    ∃ rs, gcLoop live before t ((rid, cpn) :: rest) orders = rs ++ gcLoop live before (applyAll t rs) rest orders.tail ∧
      Req.hdelHash rid ∉ rs ∧
      ∀ q ∈ rs, ∃ p' ∈ s.found, p'.2.mtime ≤ before ∧ q = Req.hdelCp p'.1 cpn (staleKeys p'.2.runId (live.contains rid)) := by
  have hne := delStale_fresh_not_all t cpn rid before (live.contains rid) (orders.headD []) s hs p hp hf
  have hold := delStale_only_old t cpn rid before (live.contains rid) (orders.headD []) s hs
  refine ⟨(delStale t cpn rid before (live.contains rid) (orders.headD [])).2.2, ?_, ?_, hold⟩
  · rw [gcLoop_cons, gcRound, if_neg (fun h => hne h.2), List.append_nil]
  · intro h
    obtain ⟨p', _, _, e⟩ := hold _ h
    cases e

/-! non-vacuity: position 50@5 labelled "a" (`rxT1`), the source fails over to "b", the relabel completes at time 9
    (`updateReqs … 9`); a gc pass with the live set polled BEFORE the failover ([a, 0]):
    threshold 8 (< 9: the relabel is younger than the stale duration) → the pass issues nothing and the start reads 50@5;
    threshold 100 (the record looks stale - what a relabel that kept an OLD mtime would look like) → the pass deletes the
    record and the hash entry: the position is gone. -/

def rxT1b : Checkpoint.Target := applyAll rxT1 (updateReqs rxVer rxT1 rxLoc [rxB, rxA] [0, 5] [0, 5] 9)

example : gcReqs rxT1b [rxA, rxZ] 8 [[0, 5]] = [] ∧
    startPoint rxVer [rxB, rxA] [0, 5] (applyAll rxT1b (gcReqs rxT1b [rxA, rxZ] 8 [[0, 5]])) = some (some (50, 5)) := by
  unfold rxT1b rxT1 lifeReqs; rw [rx_trace]; decide +kernel

example : startPoint rxVer [rxB, rxA] [0, 5] (applyAll rxT1b (gcReqs rxT1b [rxA, rxZ] 100 [[0, 5]])) = some none := by
  unfold rxT1b rxT1 lifeReqs; rw [rx_trace]; decide +kernel

example := update_stamps_now rxVer rxT1 rxLoc [rxB, rxA] [0, 5] [0, 5] 9

end GunYu.Props.C17
