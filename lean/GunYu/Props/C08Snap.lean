/-
  C08 — verification of a cached SNAPSHOT file (seeded round 8): `RdbReader.checkHeader`,
  run when a snapshot reader is opened with `channel.verifyCrc` on a snapshot nobody is writing.
  Model: `StoreFs.rdbFooterOk` (files of at most 8 bytes pass; otherwise the last 8 bytes, little
  endian, are the CRC64 of everything before them AND are not zero — /repo 98e548e: the CRC64 of an
  all-zero payload is zero, so a right-length file reading back as zeros passed the check).
  The CRC64 is the regenerated one: `gen_crc64_eq_model` (Props/C08GenS5.lean) ties `StoreFs.crc64`
  to `digest.update` as translated from pkg/digest/crc64.go on every run.

  `serveSnap` is what a verifying / non-verifying snapshot reader of the re-opened cache delivers.
-/
import GunYu.Props.C08Commit

namespace GunYu.Props.C08
open GunYu GunYu.Store GunYu.StoreFs GunYu.StoreFsX

/-- `GetReader(off ≤ snapshot left, verify)` on the re-opened cache, read to the announced size:
    `none` = nothing offered or the reader refused (`ErrCorrupted`) -/
def serveSnap (fs : FS) (verify : Bool) : Option (Nat × Nat × Bytes) :=
  match (reopen fs).rdb with
  | none => none
  | some (l, s) =>
    let file := (fs.get (rdbName l s)).getD []
    if verify && !rdbFooterOk file then none else some (l, s, file.take s)

/-- a snapshot file as the writer commits it when the source appends the checksum -/
def footered (payload : Bytes) : Bytes := payload ++ leBytes 8 (crc64 payload)

theorem rdbFooterOk_split (payload trailer : Bytes) (ht : trailer.length = 8) (hp : payload ≠ []) :
    rdbFooterOk (payload ++ trailer) = (ofLE trailer != 0 && ofLE trailer == crc64 payload) := by
  have hl : ¬ (payload ++ trailer).length ≤ 8 := by
    have : 0 < payload.length := List.length_pos_iff.mpr hp
    simp [ht]; omega
  have e1 : (payload ++ trailer).length - 8 = payload.length := by simp [ht]
  simp only [rdbFooterOk, hl, if_false, e1, List.drop_left, List.take_left]

/-- **altered_snapshot_accepted_iff.** Whatever a committed snapshot file has become (same or
    other length): a verifying reader accepts `payload' ++ trailer'` iff the trailer is NOT zero and
    is the CRC64 of the payload before it. -/
theorem altered_snapshot_accepted_iff (payload' trailer' : Bytes) (ht : trailer'.length = 8) (hp : payload' ≠ []) :
    rdbFooterOk (payload' ++ trailer') = true ↔ ofLE trailer' ≠ 0 ∧ ofLE trailer' = crc64 payload' := by
  rw [rdbFooterOk_split payload' trailer' ht hp]
  simp

/-- **zero_trailer_refused.** A snapshot file whose last 8 bytes read as zero — the tail lost by a
    power loss, a zero-filled copy, a source running `rdbchecksum no` — is refused by a verifying
    reader WHATEVER the payload is (also an all-zero payload, whose CRC64 is zero). -/
theorem zero_trailer_refused (payload' : Bytes) (hp : payload' ≠ []) :
    rdbFooterOk (payload' ++ List.replicate 8 0) = false := by
  rw [rdbFooterOk_split payload' _ (by simp) hp]
  have h0 : ofLE (List.replicate 8 (0 : UInt8)) = 0 := by decide
  rw [h0]
  rfl

/-- the trailer kept, the payload altered: accepted only on a CRC64 collision -/
theorem altered_payload_accepted_iff (payload payload' : Bytes) (hp : payload' ≠ []) :
    rdbFooterOk (payload' ++ leBytes 8 (crc64 payload)) = true ↔
      crc64 payload ≠ 0 ∧ crc64 payload' = crc64 payload := by
  rw [altered_snapshot_accepted_iff payload' _ (leBytes_length 8 _) hp, ofLE_leBytes]
  have hlt : crc64 payload < 256 ^ 8 := by
    unfold crc64
    exact (UInt64.toNat_lt _)
  rw [Nat.mod_eq_of_lt hlt]
  constructor
  · rintro ⟨h1, h2⟩; exact ⟨h1, h2.symm⟩
  · rintro ⟨h1, h2⟩; exact ⟨h1, h2.symm⟩

/-- no false refusal: what the writer committed verifies, unless its CRC64 is zero (2^-64 for a
    real RDB; an all-zero payload) -/
theorem footered_verifies (payload : Bytes) (hp : payload ≠ []) (h0 : crc64 payload ≠ 0) :
    rdbFooterOk (footered payload) = true :=
  (altered_payload_accepted_iff payload payload hp).mpr ⟨h0, rfl⟩

/-- **altered_snapshot_never_served.** With verification on, for ANY directory image: whatever a
    snapshot reader of the re-opened cache delivers comes from a file of exactly the announced
    length (`reopen_snapshot_sized`) that PASSES the footer check — a file that fails it is refused,
    none of it is served. Together with `altered_snapshot_accepted_iff`: an altered snapshot is
    served only if its trailer is non-zero and is the CRC64 of the (altered) payload. -/
theorem altered_snapshot_never_served (fs : FS) (l s : Nat) (bs : Bytes)
    (h : serveSnap fs true = some (l, s, bs)) :
    ∃ file, fs.get (rdbName l s) = some file ∧ file.length = s ∧ rdbFooterOk file = true ∧ bs = file := by
  unfold serveSnap at h
  cases hr : (reopen fs).rdb with
  | none => simp [hr] at h
  | some p =>
    obtain ⟨l', s'⟩ := p
    simp only [hr] at h
    split at h
    · cases h
    · rename_i hv
      simp only [Option.some.injEq, Prod.mk.injEq] at h
      obtain ⟨rfl, rfl, hb⟩ := h
      obtain ⟨c, hget, hlen⟩ := reopen_snapshot_sized fs l' s' hr
      refine ⟨c, hget, hlen, ?_, ?_⟩
      · simpa [hget] using hv
      · rw [← hb, hget]; simp [← hlen]

/-! ### non-vacuity (the witness of 98e548e and of seeded mutation C08-r8-m1) -/

-- an all-zero file of the right length: refused (its CRC64 is zero = its trailer)
example : crc64 (List.replicate 20 0) = 0 := by decide +kernel
example : serveSnap [(rdbName 305 28, List.replicate 28 0)] true = none := by decide +kernel
example : (serveSnap [(rdbName 305 28, List.replicate 28 0)] false).isSome = true := by decide +kernel
-- payload intact, trailer zeroed (r8-m1's torn tail): refused
example : serveSnap [(rdbName 7 11, [82, 69, 68] ++ List.replicate 8 0)] true = none := by decide +kernel
-- the committed file verifies and is served in full
example : serveSnap [(rdbName 7 11, footered [82, 69, 68])] true = some (7, 11, footered [82, 69, 68]) := by
  decide +kernel

end GunYu.Props.C08
