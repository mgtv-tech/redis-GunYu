/-
  C14 — restarts INSIDE one process (the frontier-miss fast path of bisyncStartPoint), send loops
  that stop while the process lives on, clean-ups that give up: steps of the transition system
  (Model/FrontierProc.lean: `PSys` = the split-queue system `TSys` + the memory of the RedisOutput).

  Property theorems only (helper lemmas: Proofs/FrontierProc.lean).

  Quantifiers: all unit numberings `W.e` with strictly growing end offsets, all step lists of `PSys`
  (everything `TSys` does, plus: the loop returns at any moment and the same process calls StartPoint
  again — answered from memory or by the root without purge once a start has missed; a start whose
  purge failed half-way returns an error and is retried by the same process; a clean-up that gives
  up after any of its requests).
-/
import GunYu.Model.FrontierProc
import GunYu.Proofs.FrontierProc
import GunYu.Props.C14

namespace GunYu.Props.C14
open GunYu GunYu.Frontier

/-- the invariant holds before the first process starts on a fresh namespace -/
theorem proc_init_inv (W : World) (db : Nat) :
    PInv W { t := { ns := { root := some (W.rid, W.e 0, db) } } } :=
  ⟨traffic_init_inv W db, fun hn => absurd rfl hn, (fun _ hr => nomatch hr), (fun _ hr => nomatch hr),
   (fun _ hr => nomatch hr), (fun _ hm => nomatch hm), (fun _ hm => nomatch hm), fun _ => rfl, Int.le_refl _,
   (fun _ hr => nomatch hr), (fun _ hm => nomatch hm), fun _ => startSeqOf_nonneg _ _ _⟩

/-- every single step — those of the split-queue system, a loop that stops with the process alive, a
    start of the SAME process (answered by the fast path once armed), a clean-up that gives up —
    preserves the invariant -/
theorem proc_each_step_preserves (W : World) (hs : ∀ i j, i < j → W.e i < W.e j)
    (hvis : matchRun W.rid W.ids = true) (s : PSys) (h : PInv W s) (st : PStep) :
    PInv W (pstep W s st) := (pstep_pinv hs hvis h st).1

/-- `resume_monotone_traffic` for executions that INCLUDE restarts inside a process: whatever the
    live process does — its loop stops at any moment, it starts again and is answered from memory
    (behind units already committed) or by the root without purge, its purge fails half-way and the
    start is retried, its clean-up gives up — the point a FRESH start would resume from (what the
    next process gets after a crash at that moment) never moves backwards, neither the sequence
    number nor the offset, and names a committed prefix. -/
theorem resume_monotone_process (W : World) (hs : ∀ i j, i < j → W.e i < W.e j)
    (hvis : matchRun W.rid W.ids = true) (s₀ : PSys) (h₀ : PInv W s₀) (steps more : List PStep) :
    startSeqOf W.ver (prunSteps W s₀ steps).t.ns W.ids
        ≤ startSeqOf W.ver (prunSteps W s₀ (steps ++ more)).t.ns W.ids ∧
    startOffOf W.ver (prunSteps W s₀ steps).t.ns W.ids
        ≤ startOffOf W.ver (prunSteps W s₀ (steps ++ more)).t.ns W.ids ∧
    (∀ j, 0 < j → j ≤ startSeqOf W.ver (prunSteps W s₀ (steps ++ more)).t.ns W.ids →
        j ∈ (prunSteps W s₀ (steps ++ more)).t.committed) := by
  have hm := mono_of_strict hs
  obtain ⟨h1, _⟩ := prunSteps_pinv hs hvis steps h₀
  obtain ⟨h2, hle, _⟩ := prunSteps_pinv hs hvis more h1
  rw [← prunSteps_append] at h2 hle
  refine ⟨hle, ?_, (h2.ti.start_prefix hm).2⟩
  rw [(h1.ti.start_prefix hm).1, (h2.ti.start_prefix hm).1]
  exact hm _ _ hle

/-- what a start of the live process hands to the send loop — read from the target or answered from
    memory by the fast path — is a committed prefix: the sequence number names units that are all
    committed, the offset is the end of the unit with that number; at every later moment of that run
    the coordinator's frontier (the memory the NEXT in-process start answers from) is one too and is
    not below the start. The in-memory answer never exceeds the contiguous committed prefix. -/
theorem inprocess_answer_is_committed_prefix (W : World) (hs : ∀ i j, i < j → W.e i < W.e j)
    (hvis : matchRun W.rid W.ids = true) (s₀ : PSys) (h₀ : PInv W s₀) (steps : List PStep) (r : Run)
    (hr : (prunSteps W s₀ steps).t.run = some r) :
    (∀ j, 0 < j → j ≤ r.startSeq → j ∈ (prunSteps W s₀ steps).t.committed) ∧
    r.startSeq ≤ r.coord.frontier.seq ∧
    r.coord.frontier.offset = W.e r.coord.frontier.seq ∧
    (∀ j, 0 < j → j ≤ r.coord.frontier.seq → j ∈ (prunSteps W s₀ steps).t.committed) := by
  obtain ⟨h1, _⟩ := prunSteps_pinv hs hvis steps h₀
  obtain ⟨hco, _, _⟩ := h1.ti.hi.co r (by simp [TSys.toSys, hr])
  have hadv := h1.adv r hr
  exact ⟨fun j h0 hj => hco.2.2 j h0 (by omega), hadv, hco.2.1, hco.2.2⟩

/-- the ghost `floor` is the number the latest start of the live process returned -/
theorem floor_is_latest_answer (W : World) (hs : ∀ i j, i < j → W.e i < W.e j)
    (hvis : matchRun W.rid W.ids = true) (s₀ : PSys) (h₀ : PInv W s₀) (steps : List PStep) (r : Run)
    (hr : (prunSteps W s₀ steps).t.run = some r) : (prunSteps W s₀ steps).floor = r.startSeq :=
  (prunSteps_pinv hs hvis steps h₀).1.flRun r hr

/-- what a start of the process answers: the run it creates begins at (offset, sequence number) with the
    offset the end of that unit (`W.e` of the number), and `floor` is that number. With
    `inprocess_start_never_below` and the monotone numbering: the OFFSET a start of the live process
    returns never goes below that of an earlier start either (`inprocess_start_offset_never_below`). -/
theorem start_answer_is_unit_end (W : World) (hs : ∀ i j, i < j → W.e i < W.e j)
    (hvis : matchRun W.rid W.ids = true) (s : PSys) (h : PInv W s) (hn : s.t.run = none) (r : Run)
    (hr : (pstep W s (.sys .start)).t.run = some r) :
    r.coord.frontier.seq = r.startSeq ∧ r.coord.frontier.offset = W.e r.startSeq ∧
    (pstep W s (.sys .start)).floor = r.startSeq := by
  obtain ⟨h1, _⟩ := pstep_pinv hs hvis h (.sys .start)
  have e0 : pstep W s (.sys .start) = pstart W s := by simp [pstep, hn]
  have hseq := pstart_run_seq W s hn r (by rw [← e0]; exact hr)
  obtain ⟨hco, _, _⟩ := h1.ti.hi.co r (by simp [TSys.toSys, hr])
  exact ⟨hseq, by rw [hco.2.1, hseq], h1.flRun r hr⟩

/-- As long as the process lives (no crash among `more`), what its starts return never goes below
    what an earlier start of the same process returned — whether the answer is read from the target or
    comes from memory (the contiguous reported prefix of the loop that just stopped), and also when a
    start failed in its purge and was retried. With `inprocess_answer_is_committed_prefix`: the
    in-memory answer lies between the previous answer and the committed prefix. This is about the
    SEQUENCE NUMBER (`floor`, `floor_is_latest_answer`); the offset: `inprocess_start_offset_never_below`. -/
theorem inprocess_start_never_below (W : World) (hs : ∀ i j, i < j → W.e i < W.e j)
    (hvis : matchRun W.rid W.ids = true) (s₀ : PSys) (h₀ : PInv W s₀) (steps more : List PStep)
    (hlive : ∀ st ∈ more, st ≠ PStep.sys .crash) :
    (prunSteps W s₀ steps).floor ≤ (prunSteps W s₀ (steps ++ more)).floor := by
  obtain ⟨h1, _⟩ := prunSteps_pinv hs hvis steps h₀
  obtain ⟨_, _, hfl⟩ := prunSteps_pinv hs hvis more h1
  rw [← prunSteps_append] at hfl
  exact hfl hlive

/-- … and neither does the offset: the offset a start answers is the end of the unit with the number it
    answers (`start_answer_is_unit_end`), and end offsets grow with the number -/
theorem inprocess_start_offset_never_below (W : World) (hs : ∀ i j, i < j → W.e i < W.e j)
    (hvis : matchRun W.rid W.ids = true) (s₀ : PSys) (h₀ : PInv W s₀) (steps more : List PStep)
    (hlive : ∀ st ∈ more, st ≠ PStep.sys .crash) :
    W.e (prunSteps W s₀ steps).floor ≤ W.e (prunSteps W s₀ (steps ++ more)).floor :=
  mono_of_strict hs _ _ (inprocess_start_never_below W hs hvis s₀ h₀ steps more hlive)

/-! ### non-vacuity -/

def exP0 : PSys := { t := exT0 }
theorem exW_strict : ∀ i j : Int, i < j → exW.e i < exW.e j := fun i j h => by simp only [exW]; omega

/-- a process on a fresh namespace: its first start misses (nothing stored) and arms the fast path;
    units 2, 1, 3 commit, 2 and 1 are reported, the loop stops (no flush yet); the SAME process starts
    again and is answered from memory: after unit 2 (offset 1020), without a request — a fresh start
    would resume after unit 3; unit 3 is sent again, reported, a tick saves frontier 3; crash. -/
def exPSteps : List PStep :=
  [.sys .start, .sys (.commit 2 7), .sys (.commit 1 8), .sys (.commit 3 9), .sys (.report 2 7 10), .sys (.report 1 8 20),
   .stop, .sys .start, .sys (.commit 3 11), .sys (.report 3 11 30), .sys (.tick 200000000), .sys .apply, .sys .crash]
example : PInv exW exP0 := proc_init_inv exW 0
example : (prunSteps exW exP0 (exPSteps.take 1)).mem = some { miss := [114], seq := 0, off := -1 } := by decide +kernel
example : (prunSteps exW exP0 (exPSteps.take 7)).mem = some { miss := [114], seq := 2, off := 1020 } := by decide +kernel
example : ((prunSteps exW exP0 (exPSteps.take 8)).t.run.map (fun r => (r.startSeq, r.coord.frontier.offset)),
           (prunSteps exW exP0 (exPSteps.take 8)).t.rq, (prunSteps exW exP0 (exPSteps.take 8)).floor)
    = (some (2, 1020), [], 2) := by decide +kernel
example : startSeqOf exW.ver (prunSteps exW exP0 (exPSteps.take 8)).t.ns exW.ids = 3 := by decide +kernel
example : [1, 4, 7, 8, 12, 13].map (fun k => startSeqOf exW.ver (prunSteps exW exP0 (exPSteps.take k)).t.ns exW.ids)
    = [0, 3, 3, 3, 3, 3] := by decide +kernel
example : (prunSteps exW exP0 exPSteps).t.ns.frontier = some ⟨[114], 3, 1030, 11, [49]⟩ := by decide +kernel
example : (prunSteps exW exP0 (exPSteps.take 1)).floor ≤ (prunSteps exW exP0 (exPSteps.take 1 ++ (exPSteps.drop 1).take 7)).floor :=
  inprocess_start_never_below exW exW_strict (by decide) exP0 (proc_init_inv exW 0) (exPSteps.take 1) ((exPSteps.drop 1).take 7)
    (by intro st hst
        simp only [exPSteps, List.drop, List.take, List.mem_cons, List.not_mem_nil, or_false] at hst
        rcases hst with rfl | rfl | rfl | rfl | rfl | rfl | rfl <;> simp)

/-- the theorems about the live process applied to that run: after its second start (step 8, answered from
    memory) a run exists (shown above: start 2 @ 1020), it is a committed prefix, `floor` is its number, and the
    start itself answered the end of unit 2 -/
example : ∀ r, (prunSteps exW exP0 (exPSteps.take 8)).t.run = some r →
    (∀ j, 0 < j → j ≤ r.startSeq → j ∈ (prunSteps exW exP0 (exPSteps.take 8)).t.committed) ∧
    (prunSteps exW exP0 (exPSteps.take 8)).floor = r.startSeq :=
  fun r hr => ⟨(inprocess_answer_is_committed_prefix exW exW_strict (by decide) exP0 (proc_init_inv exW 0) _ r hr).1,
    floor_is_latest_answer exW exW_strict (by decide) exP0 (proc_init_inv exW 0) _ r hr⟩
example : ∀ r, (pstep exW (prunSteps exW exP0 (exPSteps.take 7)) (.sys .start)).t.run = some r →
    r.coord.frontier.offset = exW.e r.startSeq :=
  fun r hr => (start_answer_is_unit_end exW exW_strict (by decide) _
    (prunSteps_pinv exW_strict (by decide) (exPSteps.take 7) (proc_init_inv exW 0)).1 (by decide) r hr).2.1
example : exW.e (prunSteps exW exP0 (exPSteps.take 1)).floor ≤ exW.e (prunSteps exW exP0 (exPSteps.take 1 ++ (exPSteps.drop 1).take 7)).floor :=
  inprocess_start_offset_never_below exW exW_strict (by decide) exP0 (proc_init_inv exW 0) (exPSteps.take 1) ((exPSteps.drop 1).take 7)
    (by intro st hst
        simp only [exPSteps, List.drop, List.take, List.mem_cons, List.not_mem_nil, or_false] at hst
        rcases hst with rfl | rfl | rfl | rfl | rfl | rfl | rfl <;> simp)

/-- a start whose purge fails half-way, retried by the same process: journal {2} (unit 1 never
    committed), a new process: the start reports a gap, arms the fast path and queues the purge
    [DEL 2, ZREM, DEL frontier]; the DEL is applied, the ZREM fails: StartPoint returns the error
    (`stop`), nothing is stored; the retry is answered by the fast path: the root, sequence 0, no
    request — the index member of unit 2 stays; units 1 and 2 are replayed. -/
def exPRetry : List PStep :=
  [.sys .start, .sys (.commit 2 7), .sys .crash, .sys .start, .sys .apply, .stop, .sys .start,
   .sys (.commit 1 8), .sys (.commit 2 9), .sys .crash]
example : (prunSteps exW exP0 (exPRetry.take 4)).t.rq = [.delRec 2, .zrem [2], .delFrontier] := by decide +kernel
example : (prunSteps exW exP0 (exPRetry.take 6)).mem = some { miss := [114], seq := 0, off := -1 } := by decide +kernel
example : ((prunSteps exW exP0 (exPRetry.take 7)).t.run.map (fun r => (r.startSeq, r.coord.frontier.offset)),
           (prunSteps exW exP0 (exPRetry.take 7)).t.rq, (prunSteps exW exP0 (exPRetry.take 7)).t.ns.index)
    = (some (0, 1000), [], [(2, 2)]) := by decide +kernel
example : [3, 6, 8, 9].map (fun k => startSeqOf exW.ver (prunSteps exW exP0 (exPRetry.take k)).t.ns exW.ids)
    = [0, 0, 1, 2] := by decide +kernel
example : startOffOf exW.ver (prunSteps exW exP0 (exPRetry.take 6)).t.ns exW.ids
      ≤ startOffOf exW.ver (prunSteps exW exP0 (exPRetry.take 6 ++ exPRetry.drop 6)).t.ns exW.ids :=
  (resume_monotone_process exW exW_strict (by decide) exP0 (proc_init_inv exW 0) (exPRetry.take 6) (exPRetry.drop 6)).2.1

/-- a clean-up that gives up: snapshot-less journal {1, 2} after a crash; the next process resumes after
    unit 2 and queues [save 2, DEL 1, DEL 2, ZREM]; the save is applied, the first DEL fails: the rest is
    dropped, the loop starts (unit 3 commits) -/
def exPGiveUp : List PStep :=
  [.sys .start, .sys (.commit 1 7), .sys (.commit 2 8), .sys .crash, .sys .start, .sys .apply, .giveUp,
   .sys (.commit 3 9), .sys .crash]
example : (prunSteps exW exP0 (exPGiveUp.take 5)).t.rq.length = 4 := by decide +kernel
example : ((prunSteps exW exP0 (exPGiveUp.take 7)).t.rq, (prunSteps exW exP0 exPGiveUp).t.committed) = ([], [3, 2, 1]) := by decide +kernel
example : [4, 6, 9].map (fun k => startSeqOf exW.ver (prunSteps exW exP0 (exPGiveUp.take k)).t.ns exW.ids) = [2, 2, 3] := by decide +kernel

end GunYu.Props.C14
