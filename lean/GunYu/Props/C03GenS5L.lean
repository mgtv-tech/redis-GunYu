/-
  C03 — the listpack element decoder is REGENERATED from
  pkg/redis/types/listpack.go (`lpEncodeBacklen`, `Listpack.Next`; lean/GunYu/Gen/FnListpack.lean,
  generator `gofn_listpack`) on every run and proved equal, for EVERY listpack buffer and cursor,
  to the hand model `Rdb.lpNext` that C03's decode theorems (`lpNext_enc`, `lpAll_blob`,
  `lpPairs_blob`, the hash / zset / set / quicklist2 / stream readers) are about - including every
  way it fails (Go index / slice panic ⇔ the model's `none`; 0xF5..0xFF ⇔ "invalid element encoding").
  Side conditions: `len(data) < 2^31` (so that no uint32 cursor arithmetic of a returning call wraps;
  RDB strings are below 512 MiB) and `p ≤ len(data)`.
  This is the code of N2 (count field 65535) and D23 (cursor not advancing): an edit of any mask,
  shift, width or skip in `Next` changes the generated definition and breaks these proofs.
-/
import GunYu.Proofs.GenS5ListpackNext

namespace GunYu.Props.C03
open GunYu GunYu.Gen GunYu.Rdb

/-- `lpEncodeBacklen(len)` = `len + (size of the back-length field)` of the model, in uint32, for all 2^32 inputs -/
theorem gen_lpEncodeBacklen_eq_model (len : BitVec 32) :
    Fn.lpEncodeBacklen len = some (BitVec.ofNat 32 (lpSkip len.toNat)) :=
  Proofs.GenS5.gen_lpEncodeBacklen_eq len

/-- the regenerated `Listpack.Next` IS the model's `lpNext` on `data[p:]`: same element, same bytes left
    behind the new cursor, same failures -/
theorem gen_lpNext_eq_model (lp : Fn.Listpack) (hlen : lp.data.length < 2147483648) (hp : lp.p.toNat ≤ lp.data.length) :
    (Fn.lpNext lp).map (fun r => (r.2, r.1.data.drop r.1.p.toNat)) = lpNext (lp.data.drop lp.p.toNat) :=
  Proofs.GenS5.gen_lpNext_eq_model lp hlen hp

/-- `Next` moves the cursor and nothing else: the buffer and the header fields (`NumElements()` is what the
    callers count their reads by) are those of the listpack it was called on -/
theorem gen_lpNext_frame (lp lp' : Fn.Listpack) (e : Bytes) (hlen : lp.data.length < 2147483648)
    (hp : lp.p.toNat ≤ lp.data.length) (h : Fn.lpNext lp = some (lp', e)) :
    lp'.data = lp.data ∧ lp'.numBytes = lp.numBytes ∧ lp'.numElements = lp.numElements :=
  Proofs.GenS5.gen_lpNext_frame lp lp' e hlen hp h

/-- a first byte 0xF5..0xFF (no element encoding; 0xFF = end marker) never yields an element -/
theorem gen_lpNext_invalid_panics (lp : Fn.Listpack) (hlen : lp.data.length < 2147483648)
    (hp : lp.p.toNat < lp.data.length) (hb : 245 ≤ (lp.data[lp.p.toNat]'hp).toNat) :
    Fn.lpNext lp = none := by
  have h := gen_lpNext_eq_model lp hlen (Nat.le_of_lt hp)
  have hlt := (lp.data[lp.p.toNat]'hp).toNat_lt
  rw [List.drop_eq_getElem_cons hp, lpNext_other _ _ (by omega) (by omega) (by omega) (by omega) (by omega) (by omega)
    (by omega) (by omega) (by omega)] at h
  cases hr : Fn.lpNext lp with
  | none => rfl
  | some r => rw [hr] at h; cases h

-- non-vacuity, evaluated on the GENERATED definitions: a 16 bit integer -2 (0xF1 FE FF, back-length 3), a 6 bit
-- string "ab", the 7 bit integer 5; an end marker; a truncated 32 bit integer
example : Fn.lpNext ⟨[0xF1, 0xFE, 0xFF, 3, 0xFF], 0#32, 0#32, 0⟩ = some (⟨[0xF1, 0xFE, 0xFF, 3, 0xFF], 4#32, 0#32, 0⟩, [45, 50]) := by
  decide +kernel
example : Fn.lpNext ⟨[9, 9, 0x82, 97, 98, 3, 5, 1, 0xFF], 2#32, 0#32, 0⟩ = some (⟨[9, 9, 0x82, 97, 98, 3, 5, 1, 0xFF], 6#32, 0#32, 0⟩, [97, 98]) := by
  decide +kernel
example : Fn.lpNext ⟨[9, 9, 0x82, 97, 98, 3, 5, 1, 0xFF], 6#32, 0#32, 0⟩ = some (⟨[9, 9, 0x82, 97, 98, 3, 5, 1, 0xFF], 8#32, 0#32, 0⟩, [53]) := by
  decide +kernel
example : Fn.lpNext ⟨[9, 9, 0x82, 97, 98, 3, 5, 1, 0xFF], 8#32, 0#32, 0⟩ = none := by decide +kernel
example : Fn.lpNext ⟨[0xF3, 1, 2], 0#32, 0#32, 0⟩ = none := by decide +kernel
example : Fn.lpEncodeBacklen 127#32 = some 128#32 ∧ Fn.lpEncodeBacklen 128#32 = some 130#32 ∧
    Fn.lpEncodeBacklen 16383#32 = some 16386#32 := by decide +kernel

end GunYu.Props.C03
