/-
  C05, disk backend — ONE refinement statement against an abstract specification of the
  stream part (Proofs/StoreSpec.lean): spec state = byte history since the last reset,
  first held offset, open stream readers with start / position / output.
-/
import GunYu.Proofs.StoreSpec

namespace GunYu.Props.C05
open GunYu GunYu.Store

/-- **disk_refines_spec.** For every operation list respecting the callers' protocol, with
    `a` the abstraction of the reached state:
    (1) `a` is a well-formed spec state: the held window `[lo, end)` lies inside the
        history, every open stream reader stands inside the window's closure, started inside
        the history and has delivered exactly `hist[start, pos)`;
    (2) the bytes the concrete index holds are the spec's window `hist[lo ..]`;
    (3) ANY next operation is a history-level step of the spec — the history is kept,
        extended by exactly one appended chunk, or replaced by an empty one — and
    (4) if it respects the protocol, leads to a well-formed spec state again.
    An importer needs no concrete notion (segments, rotation, reference counts). -/
theorem disk_refines_spec (l m : Nat) (ops : List DOp) (hwf : (Disk.init l m).wf ops) :
    let s := (Disk.init l m).run ops
    SpecWF s.spec ∧ s.abs.bytes = s.spec.window ∧
      ∀ op, SpecStepH s.spec (s.step op).1.spec ∧ (s.okOp op → SpecWF (s.step op).1.spec) := by
  intro s
  have hi : DInv s := (DInv.init l m).run ops hwf
  exact ⟨spec_wf hi, spec_window hi, fun op => ⟨spec_step_hist s op, fun hok => spec_wf (hi.step op hok)⟩⟩

/-- the window never reaches beyond the history and an open reader never stands before it:
    the two facts a client uses to read `hist[pos ..]` from the window -/
theorem disk_spec_reader_in_window (l m : Nat) (ops : List DOp) (hwf : (Disk.init l m).wf ops) :
    let a := ((Disk.init l m).run ops).spec
    ∀ r ∈ a.readers, a.lo ≤ r.pos ∧ r.pos ≤ a.endOff ∧
      (a.window.drop (r.pos - a.lo)) = a.hist.drop (r.pos - a.base) := by
  intro a r hr
  have hw : SpecWF a := spec_wf ((DInv.init l m).run ops hwf)
  obtain ⟨_, _, h3, h4, _⟩ := hw.readers r hr
  refine ⟨h3, h4, ?_⟩
  unfold Spec.window
  rw [List.drop_drop, Nat.add_comm, Nat.sub_add_sub_cancel h3 hw.lo_ge]

/-! ### non-vacuity -/

def exSpecOps : List DOp :=
  [ .setRunId "id1", .newAofWriter 100, .aofAppend [1,2,3,4,5,6,7,8,9], .openReader 0 104 true,
    .aofAppend [10,11,12,13,14,15,16,17,18], .aofAppend [19,20], .read 0 3, .advAcquire 0, .gc ]

example : (Disk.init 24 10).wf exSpecOps := by decide +kernel
example : ((Disk.init 24 10).run exSpecOps).spec =
    { base := 100, hist := [1,2,3,4,5,6,7,8,9,10,11,12,13,14,15,16,17,18,19,20], lo := 100,
      readers := [{ id := 0, start := 104, pos := 107, out := [5,6,7] }] } := by decide +kernel
example : ((Disk.init 24 10).run (exSpecOps ++ [.closeReader 0, .gc])).spec.lo = 118 ∧
    ((Disk.init 24 10).run (exSpecOps ++ [.closeReader 0, .gc])).spec.window =
      [19,20] := by decide +kernel

end GunYu.Props.C05
