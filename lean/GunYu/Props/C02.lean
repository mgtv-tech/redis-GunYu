/-
  C02 — A crash at any instant loses no source write; transactional mode
  repeats none.

  The proof is about ORDER ON THE WIRE. Give each forwarded data command the key
  2·(stream offset at which it ends) and each checkpoint write `<rid>_offset o`
  the key 2·o+1 (`keys`, Proofs/SenderWire.lean). `wire_ordered` shows that for
  every configuration and every schedule the key sequence the target receives is
  non-decreasing. Everything else follows from that and from MULTI/EXEC atomicity
  on the target (Model/Target.lean):

   * a command received AFTER a checkpoint write o has offset > o, and whatever
     is still queued or not yet received has offset > o: the stored position
     never covers a write (or database switch: SELECT items are commands too)
     the target has not received — so a restart, which re-reads the stream from
     the stored position, skips nothing, at ANY crash point (any wire prefix);
   * a command received BEFORE a checkpoint write o has offset ≤ o, and in
     transactional mode a command and the checkpoint write that covers it are in
     the same MULTI/EXEC block, which a crash applies entirely or not at all: a
     restart from the stored position repeats nothing.
-/
import GunYu.Proofs.SenderWire
import GunYu.Proofs.TargetSeq
import GunYu.Proofs.Crash
import GunYu.Proofs.TxnShape
import GunYu.Proofs.ResumeDb
import GunYu.Proofs.Parser
import GunYu.Proofs.Restart
import GunYu.Proofs.ResumedDb
import GunYu.Proofs.ResumedWire
import GunYu.Proofs.RunId
import GunYu.Proofs.TwoRuns

namespace GunYu.Props.C02
open GunYu GunYu.Sender GunYu.Target

/-- item offsets increase along the schedule (every item is the end of a
    distinct source command), starting above `last`; only an item the sender
    does not queue -- a transaction bracket -- may repeat the offset of the item
    before it (the parser hands a bracket over from inside a filtered database
    with the offset of the last forwarded item, `Props.C01.parser_keeps_order`).
    `t` is the sender's transaction status before the schedule. -/
def SMono : Txn → Int → List Ev → Prop
  | _, _, [] => True
  | t, last, .item it :: rest =>
      last ≤ it.offset ∧
      (it.cmd ≠ bPing → forwards (txnStatus it.cmd t).1 = true → last < it.offset) ∧
      SMono (fwd1 t (.item it)).2 it.offset rest
  | t, last, _ :: rest => SMono t last rest

theorem smono_step (s : SState) (ev : Ev) (rest : List Ev) (h : SMono s.txn s.lastOffset (ev :: rest)) :
    (∀ it, ev = .item it → s.lastOffset ≤ it.offset ∧
      (it.cmd ≠ bPing → forwards (txnStatus it.cmd s.txn).1 = true → s.lastOffset < it.offset)) ∧
    SMono (fwd1 s.txn ev).2 (newLast s ev) rest := by
  cases ev with
  | item it =>
    refine ⟨?_, h.2.2⟩
    intro it' he; cases he; exact ⟨h.1, h.2.1⟩
  | _ => exact ⟨fun _ he => (nomatch he), h⟩

theorem smono_of_itemsMono (t : Txn) (last : Int) (evs : List Ev) (h : ItemsMono t last (itemsOf evs)) :
    SMono t last evs := by
  induction evs generalizing t last with
  | nil => trivial
  | cons ev rest ih =>
    cases ev with
    | item it =>
      refine ⟨h.1, h.2.1, ?_⟩
      have : (fwd1 t (.item it)).2 = txnAfter t it := by
        simp only [fwd1, txnAfter]; split <;> rfl
      rw [this]; exact ih _ _ h.2.2
    | _ => exact ih _ _ h

theorem smono_weaken {a b : Int} (t : Txn) (hab : a ≤ b) (evs : List Ev) (h : SMono t b evs) :
    SMono t a evs := by
  induction evs generalizing t with
  | nil => trivial
  | cons ev rest ih =>
    cases ev with
    | item it =>
      exact ⟨by have := h.1; omega, fun hp hf => by have := h.2.1 hp hf; omega, h.2.2⟩
    | _ => exact ih t h

/-- **The hypothesis of every theorem below is what the real parser delivers**:
    for ANY filter / mapping configuration, any source stream whose commands end
    at strictly increasing offsets above the start offset, and any schedule whose
    items are the parser's output for it, `SMono` holds. -/
theorem parser_feeds_smono (pc : PCfg) (raws : List Raw) (start : Int) (evs : List Ev)
    (hitems : itemsOf evs = parseAll pc { lastSent := start } raws)
    (hraw : (raws.map (·.off)).Pairwise (· < ·)) (hlo : ∀ r ∈ raws, start < r.off)
    (hstart : 0 ≤ start) :
    SMono initS.txn initS.lastOffset evs :=
  smono_weaken _ (by simp only [initS]; omega) evs (smono_of_itemsMono _ start evs (by
    rw [hitems]; exact parseAll_itemsMono pc raws { lastSent := start } initS.txn rfl hraw hlo))

/-- the same for a RESUMED run: `parserItems` = the optional initial `select
    <startDbId>` carrying the start offset, then the parser's output -/
theorem resumed_parser_feeds_smono (pc : PCfg) (raws : List Raw) (start : Int) (evs : List Ev)
    (hitems : itemsOf evs = parserItems pc start raws)
    (hraw : (raws.map (·.off)).Pairwise (· < ·)) (hlo : ∀ r ∈ raws, start < r.off)
    (hstart : 0 ≤ start) :
    SMono initS.txn initS.lastOffset evs := by
  unfold parserItems at hitems
  split at hitems
  · -- the initial select: queued, above the loop's initial offset −1, leaves status `barrier`
    apply smono_of_itemsMono
    rw [hitems]
    have hlast : initS.lastOffset < start := by simp only [initS]; omega
    exact ⟨Int.le_of_lt hlast, fun _ _ => hlast,
      parseAll_itemsMono pc raws { lastSent := start } Txn.barrier rfl hraw hlo⟩
  · exact parser_feeds_smono pc raws start evs hitems hraw hlo hstart

theorem run_ok (c : SCfg) (s : SState) (evs : List Ev) (hq : QOk s.queue s.lastOffset)
    (hm : SMono s.txn s.lastOffset evs) :
    StepOK s.queue s.lastOffset (run c s evs).1.queue (run c s evs).1.lastOffset
      (keys (run c s evs).2) := by
  induction evs generalizing s with
  | nil => exact ⟨hq, within_nil _ _, Int.le_refl _⟩
  | cons ev rest ih =>
    obtain ⟨hlt, hrest⟩ := smono_step s ev rest hm
    have h1 := step_ok c s ev hq hlt
    simp only [run]
    split
    · exact h1
    · have hl := (step_cp c s ev).1
      have h2 := ih (step c s ev).1 h1.1 (by rw [hl, (step_data c s ev).2]; exact hrest)
      rw [keys_append]
      exact stepOK_trans h1 h2

/-- **The wire is ordered**: for every configuration, every stream with
    increasing offsets and every schedule of ticks, the key sequence is
    non-decreasing. -/
theorem wire_ordered (c : SCfg) (evs : List Ev) (hm : SMono initS.txn initS.lastOffset evs) :
    (keys (run c initS evs).2).Pairwise (· ≤ ·) :=
  (run_ok c initS evs (qok_nil _) hm).2.1.1

/-- **Nothing received after a stored position is covered by it** (no write
    skipped): wherever `<rid>_offset o` sits on the wire, every data command
    after it ends at an offset > o. -/
theorem nothing_skipped (c : SCfg) (evs : List Ev) (hm : SMono initS.txn initS.lastOffset evs)
    (A B : List Int) (o : Int) (hsplit : keys (run c initS evs).2 = A ++ (2 * o + 1) :: B) :
    ∀ y, 2 * y ∈ B → o < y := by
  intro y hy
  have h := wire_ordered c evs hm
  rw [hsplit, List.pairwise_append] at h
  have := (List.pairwise_cons.mp h.2.1).1 _ hy
  omega

/-- **Everything received before a stored position is covered by it** (no write
    repeated once the position is durable): every data command before
    `<rid>_offset o` on the wire ends at an offset ≤ o. -/
theorem nothing_left_uncovered (c : SCfg) (evs : List Ev) (hm : SMono initS.txn initS.lastOffset evs)
    (A B : List Int) (o : Int) (hsplit : keys (run c initS evs).2 = A ++ (2 * o + 1) :: B) :
    ∀ y, 2 * y ∈ A → y ≤ o := by
  intro y hy
  have h := wire_ordered c evs hm
  rw [hsplit, List.pairwise_append] at h
  have := h.2.2 _ hy (2 * o + 1) (List.mem_cons_self ..)
  omega

theorem cp_mem_keysB {l : List Req} {o : Int} (h : o ∈ cpOffsetsB l) : 2 * o + 1 ∈ keysB l := by
  obtain ⟨r, hr, hro⟩ := List.mem_filterMap.mp h
  refine List.mem_filterMap.mpr ⟨r, hr, ?_⟩
  cases r with
  | cpOffset o' => cases hro; rfl
  | _ => cases hro

theorem keys_around_cp {E1 E2 : List Req} {o : Int}
    (h : (keysB (E1 ++ Req.cpOffset o :: E2)).Pairwise (· ≤ ·)) :
    (∀ k ∈ keysB E1, k ≤ 2 * o + 1) ∧ (∀ k ∈ keysB E2, 2 * o + 1 ≤ k) := by
  have e : keysB (E1 ++ Req.cpOffset o :: E2) = keysB E1 ++ (2 * o + 1) :: keysB E2 := by
    rw [keysB_append]; rfl
  rw [e, List.pairwise_append, List.pairwise_cons] at h
  exact ⟨fun k hk => h.2.2 k hk _ (List.mem_cons_self ..), h.2.1.1⟩

/-- **What is still queued is beyond every stored position**: a command the
    loop holds but has not sent (e.g. the SELECT or the commands of an open
    transaction) ends after every checkpoint offset written so far. -/
theorem pending_not_covered (c : SCfg) (evs : List Ev) (hm : SMono initS.txn initS.lastOffset evs) :
    ∀ o ∈ cpOffsets (run c initS evs).2, ∀ i ∈ (run c initS evs).1.queue, o < i.offset := by
  intro o ho i hi
  obtain ⟨hqok, hw, _⟩ := run_ok c initS evs (qok_nil _) hm
  obtain ⟨b, hb, hob⟩ := List.mem_flatMap.mp ho
  have hle := (hw.2 _ (List.mem_flatMap.mpr ⟨b, hb, cp_mem_keysB hob⟩)).2
  -- lowkey of a non-empty queue is twice its head, and the head is the smallest
  cases hq : (run c initS evs).1.queue with
  | nil => rw [hq] at hi; cases hi
  | cons j q =>
    rw [hq] at hle hi hqok
    simp only [lowkey] at hle
    rcases List.mem_cons.mp hi with rfl | hiq
    · omega
    · have : j.offset < i.offset :=
        (List.pairwise_cons.mp hqok.1).1 _ (List.mem_map.mpr ⟨i, hiq, rfl⟩)
      omega

/-! ### Atomicity on the target: the crash points of transactional mode -/

/-- A crash inside a MULTI/EXEC block (after MULTI and any `j` of its requests,
    before EXEC) leaves data, checkpoint and selected DB exactly as they were
    before the block: crash points inside a batch collapse to the batch
    boundary before it. -/
theorem crash_inside_block_is_boundary (done : List Batch) (hwf : AllWF done) (body : List Req)
    (hb : ∀ r ∈ body, Plain r = true) (t : TState) (hq : t.queued = none) (j : Nat)
    (hj : j ≤ body.length) :
    let before := applyLog t done.flatten
    let crashed := applyLog t (done.flatten ++ ([Req.multi] ++ body ++ [Req.exec]).take (j + 1))
    crashed.applied = before.applied ∧ crashed.cps = before.cps := by
  simp only
  have htake : ([Req.multi] ++ body ++ [Req.exec]).take (j + 1) = Req.multi :: body.take j := by
    simp only [List.cons_append, List.take_succ_cons, List.nil_append]
    rw [List.take_append_of_le_length hj]
  -- inside the block everything is only queued
  rw [applyLog_append, htake, applyLog_open_block _ (fun r hr => hb r (List.mem_of_mem_take hr)) _
    (applyLog_out done hwf t hq).1]
  exact ⟨rfl, rfl⟩

/-- every offset found in the checkpoint hashes after executing `E` was either
    there before or was written by a `<rid>_offset` request of `E` -/
theorem stored_comes_from (E : List Req) (t : TState) (d : Int) (o : Int)
    (h : (getCp (E.foldl execReq t).cps d).offset = some o) :
    (getCp t.cps d).offset = some o ∨ o ∈ cpOffsetsB E := by
  induction E generalizing t with
  | nil => exact Or.inl h
  | cons r E ih =>
    rw [List.foldl_cons] at h
    rcases ih (execReq t r) h with h1 | h1
    · cases r with
      | cpOffset o' =>
        simp only [execReq] at h1
        by_cases hd : d = t.cur
        · subst hd
          rw [getCp_setCp_eq] at h1
          right; simp only at h1; simp [cpOffsetsB, cpOfReq]; left; injection h1 with h1; exact h1.symm
        · left; rw [getCp_setCp_ne _ _ _ _ hd] at h1; exact h1
      | cpMeta =>
        left
        simp only [execReq] at h1
        by_cases hd : d = t.cur
        · subst hd; rw [getCp_setCp_eq] at h1; exact h1
        · rw [getCp_setCp_ne _ _ _ _ hd] at h1; exact h1
      | _ => left; rwa [execReq_cps_of_noncp t _ rfl (by simp)] at h1
    · right
      simp only [cpOffsetsB, List.filterMap_cons] at h1 ⊢
      cases cpOfReq r <;> simp_all

/-- **A crash at any instant loses no write.** Let the target die after ANY
    number `k` of the requests of ANY run. Then the requests it executed are a
    prefix `E` of the batch bodies (`R` = what it did not execute), and every
    position `o` that this run stored on it — in whichever database — lies
    strictly below every data command (SELECT items included) it did not
    execute: restarting from a stored position re-reads every such command. -/
theorem crash_loses_no_write (c : SCfg) (evs : List Ev) (hm : SMono initS.txn initS.lastOffset evs)
    (t : TState) (hq : t.queued = none) (k : Nat) :
    let out := (run c initS evs).2
    ∃ E R, bodies out = E ++ R ∧
      SameData (applyLog t (out.flatten.take k)) (E.foldl execReq t) ∧
      ∀ o ∈ cpOffsetsB E, ∀ y, 2 * y ∈ keysB R → o < y := by
  simp only
  obtain ⟨E, ⟨R, hER⟩, hsame⟩ := crash_executes_body_prefix (run c initS evs).2
    (run_wf c initS evs) t hq k
  refine ⟨E, R, hER.symm, hsame, ?_⟩
  intro o ho y hy
  have hsorted := wire_ordered c evs hm
  rw [← keys_bodies _ (run_wf c initS evs), ← hER, keysB_append, List.pairwise_append] at hsorted
  have := hsorted.2.2 _ (cp_mem_keysB ho) _ hy
  omega

/-! ### Transactional mode: nothing executed is left uncovered (nothing repeats) -/

theorem datakey_mem {l : List Req} {y : Int} (h : 2 * y ∈ keysB l) : dataB l ≠ [] := by
  unfold keysB at h
  obtain ⟨r, hr, hk⟩ := List.mem_filterMap.mp h
  cases r with
  | cmd n a off =>
    simp only [keyOfReq] at hk
    by_cases hp : n = bPing
    · simp [hp] at hk
    · intro hnil
      have : (n, a) ∈ dataB l := by
        unfold dataB
        exact List.mem_filterMap.mpr ⟨_, hr, by simp [cmdOfReq, hp]⟩
      rw [hnil] at this; cases this
  | cpOffset o => simp only [keyOfReq] at hk; injection hk with hk; omega
  | _ => cases hk

theorem cpkey_mem {l : List Req} {o : Int} (h : 2 * o + 1 ∈ keysB l) : o ∈ cpOffsetsB l := by
  unfold keysB at h
  obtain ⟨r, hr, hk⟩ := List.mem_filterMap.mp h
  unfold cpOffsetsB
  refine List.mem_filterMap.mpr ⟨r, hr, ?_⟩
  cases r with
  | cmd n a off =>
    simp only [keyOfReq] at hk
    split at hk
    · cases hk
    · injection hk with hk; omega
  | cpOffset o' => simp only [keyOfReq] at hk; injection hk with hk; simp [cpOfReq]; omega
  | _ => cases hk

theorem keysB_sublist_keys {b : Batch} {out : List Batch} (h : b ∈ out) :
    List.Sublist (keysB b) (keys out) := by
  induction out with
  | nil => cases h
  | cons x rest ih =>
    simp only [keys, List.flatMap_cons]
    rcases List.mem_cons.mp h with rfl | h'
    · exact List.sublist_append_left _ _
    · exact (ih h').trans (List.sublist_append_right _ _)

/-- **Transactional mode: a crash at any instant repeats nothing.** In
    transactional, resumable mode let the target die after ANY number `k` of the
    requests of ANY run. Every data command it executed (key `2·y`) is covered
    by a checkpoint write `o ≥ y` that it executed as well — so the position the
    next start finds is at or beyond every executed command, and nothing is
    replayed twice. (With `crash_loses_no_write`: the stored position is exactly
    the boundary between executed and not executed.) -/
theorem txn_crash_repeats_nothing_prefix (c : SCfg) (hc : c.txnMode = true) (hres : c.resume = true)
    (evs : List Ev) (hm : SMono initS.txn initS.lastOffset evs) (hnn : NonNeg evs)
    (t : TState) (hq : t.queued = none) (k : Nat) :
    let out := (run c initS evs).2
    ∃ E, E <+: bodies out ∧ SameData (applyLog t (out.flatten.take k)) (E.foldl execReq t) ∧
      ∀ y, 2 * y ∈ keysB E → ∃ o ∈ cpOffsetsB E, y ≤ o := by
  simp only
  have hwf := run_wf c initS evs
  have hshape := run_shape_txn c hc hres initS (Or.inl rfl) evs hnn
  have hsorted := wire_ordered c evs hm
  obtain ⟨m, E', hsame, hE', hpre⟩ := crash_whole_batches_prefix (run c initS evs).2 hwf t hq k
  refine ⟨_, hpre, hsame, ?_⟩
  intro y hy
  rw [keysB_append] at hy
  have hwfm : AllWF ((run c initS evs).2.take m) := fun b hb => hwf b (List.mem_of_mem_take hb)
  rcases List.mem_append.mp hy with hy1 | hy2
  · -- the command sits in one of the completely executed batches
    rw [keys_bodies _ hwfm] at hy1
    obtain ⟨b, hbm, hyb⟩ := List.mem_flatMap.mp hy1
    have hb : b ∈ (run c initS evs).2 := List.mem_of_mem_take hbm
    rcases hshape b hb with hnd | ⟨_, K, o, hK⟩
    · exact absurd hnd (datakey_mem hyb)
    · have hsb : (keysB b).Pairwise (· ≤ ·) := hsorted.sublist (keysB_sublist_keys hb)
      have ho : o ∈ cpOffsetsB b := cpkey_mem (by rw [hK]; simp)
      refine ⟨o, ?_, ?_⟩
      · rw [cpOffsetsB_append, cpOffsetsB_bodies _ hwfm]
        exact List.mem_append_left _ (List.mem_flatMap.mpr ⟨b, hbm, ho⟩)
      · rw [hK] at hyb hsb
        rcases List.mem_append.mp hyb with h1 | h1
        · have := (List.pairwise_append.mp hsb).2.2 _ h1 (2 * o + 1) (by simp)
          omega
        · simp at h1; omega
  · -- a prefix of an unbracketed batch: such a batch carries no data
    rcases hE' with rfl | ⟨b, hb, hstrip, hpre⟩
    · simp [keysB] at hy2
    · exact absurd (unbracketed_no_data (hshape b hb) hstrip hpre) (datakey_mem hy2)

theorem txn_crash_repeats_nothing (c : SCfg) (hc : c.txnMode = true) (hres : c.resume = true)
    (evs : List Ev) (hm : SMono initS.txn initS.lastOffset evs) (hnn : NonNeg evs)
    (t : TState) (hq : t.queued = none) (k : Nat) :
    let out := (run c initS evs).2
    ∃ E, SameData (applyLog t (out.flatten.take k)) (E.foldl execReq t) ∧
      ∀ y, 2 * y ∈ keysB E → ∃ o ∈ cpOffsetsB E, y ≤ o := by
  obtain ⟨E, _, h1, h2⟩ := txn_crash_repeats_nothing_prefix c hc hres evs hm hnn t hq k
  exact ⟨E, h1, h2⟩

theorem keysB_prefix_ordered (c : SCfg) (evs : List Ev) (hm : SMono initS.txn initS.lastOffset evs)
    {E : List Req} (hE : E <+: bodies (run c initS evs).2) : (keysB E).Pairwise (· ≤ ·) := by
  obtain ⟨R, hR⟩ := hE
  have h := wire_ordered c evs hm
  rw [← keys_bodies _ (run_wf c initS evs), ← hR, keysB_append] at h
  exact (List.pairwise_append.mp h).1

/-- `crash_resume_db` for a target that holds no POSITION (hashes may exist: the
    run-id fields are written first) -/
theorem resume_db_of_no_offsets (c : SCfg) (evs : List Ev) (hm : SMono initS.txn initS.lastOffset evs)
    (t : TState) (hno : ∀ d, (getCp t.cps d).offset = none)
    (E : List Req) (hE : E <+: bodies (run c initS evs).2)
    (E1 E2 : List Req) (o : Int) (hsplit : E = E1 ++ Req.cpOffset o :: E2)
    (hlast : cpOffsetsB E2 = []) :
    UniqueMax (E.foldl execReq t).cps (E1.foldl execReq t).cur o := by
  have hsorted := keysB_prefix_ordered c evs hm hE
  obtain ⟨R, hER⟩ := hE
  -- every key is at least that of the loop's initial offset −1
  have hlow : ∀ k ∈ keysB E, 2 * (-1 : Int) ≤ k := by
    intro k hk
    have := ((run_ok c initS evs (qok_nil _) hm).2.1.2 k (by
      rw [← keys_bodies _ (run_wf c initS evs), ← hER, keysB_append]
      exact List.mem_append_left _ hk)).1
    simp [lowkey, initS] at this
    omega
  subst hsplit
  exact resume_db_unique_from E1 E2 o t (2 * (-1)) (2 * (-1))
    ⟨(by intro d o' h; rw [hno d] at h; cases h), (by intro d _ o' h; rw [hno d] at h; cases h),
      Int.le_refl _, -1, rfl⟩ hsorted hlow hlast

/-- **The next start resumes in the database the position was written in.** Let a
    target that held no checkpoint die after ANY number `k` of the requests of ANY
    run, and let `<rid>_offset o` be the last checkpoint write it executed
    (`E = E1 ++ [cp o] ++ E2`). Then `o` is stored in the database `d` the
    connection had selected at that write — i.e. after every forwarded SELECT that
    precedes it, and by `nothing_skipped` no SELECT that follows it is covered by
    `o` — and every other database holds a strictly smaller offset: the largest
    offset (what `GetCheckpoint` picks) identifies exactly that database. -/
theorem crash_resume_db (c : SCfg) (evs : List Ev) (hm : SMono initS.txn initS.lastOffset evs)
    (t : TState) (hfresh : t.cps = []) (k : Nat)
    (E : List Req) (hE : E <+: bodies (run c initS evs).2)
    (hsame : SameData (applyLog t ((run c initS evs).2.flatten.take k)) (E.foldl execReq t))
    (E1 E2 : List Req) (o : Int) (hsplit : E = E1 ++ Req.cpOffset o :: E2)
    (hlast : cpOffsetsB E2 = []) :
    let crashed := applyLog t ((run c initS evs).2.flatten.take k)
    let d := (E1.foldl execReq t).cur
    (getCp crashed.cps d).offset = some o ∧
    ∀ d', d' ≠ d → ∀ o', (getCp crashed.cps d').offset = some o' → o' < o := by
  simp only
  rw [hsame.2]
  exact resume_db_of_no_offsets c evs hm t (fun d => by rw [hfresh]; rfl) E hE E1 E2 o hsplit hlast

/-! ### The same on a target that already holds records of earlier runs -/

theorem parserItems_ge (pc : PCfg) (start : Int) (raws : List Raw)
    (hraw : (raws.map (·.off)).Pairwise (· < ·)) (hlo : ∀ r ∈ raws, start < r.off) :
    ∀ i ∈ parserItems pc start raws, start ≤ i.offset := by
  intro i hi
  rcases mem_parserItems hi with rfl | h
  · exact Int.le_refl _
  · exact itemsMono_ge (parseAll_itemsMono pc raws { lastSent := start } .no rfl hraw hlo) i h

/-- what the wire of a RESUMED run looks like (the hypotheses of
    `Target.resumed_unique_max`), for the real parser's items: keys ordered, every
    stored position at or above the start, and the commands begin with the initial
    `select <startDbId>` carrying the start offset (when `startDbId > 0`; if
    nothing was forwarded yet, no position was written either), everything else
    ends above the start. -/
theorem resumed_wire (c : SCfg) (pc : PCfg) (raws : List Raw) (start : Int) (evs : List Ev)
    (hitems : itemsOf evs = parserItems pc start raws)
    (hraw : (raws.map (·.off)).Pairwise (· < ·)) (hlo : ∀ r ∈ raws, start < r.off)
    (hstart : 0 ≤ start) :
    (keysB (bodies (run c initS evs).2)).Pairwise (· ≤ ·) ∧
    (∀ o ∈ cpOffsetsB (bodies (run c initS evs).2), start ≤ o) ∧
    (if 0 < pc.startDbId then
        (dataBO (bodies (run c initS evs).2) = [] ∧ cpOffsetsB (bodies (run c initS evs).2) = []) ∨
        (∃ rest, dataBO (bodies (run c initS evs).2) = (bSelect, [intToDec pc.startDbId], start) :: rest ∧
          ∀ x ∈ rest, start < x.2.2)
      else ∀ x ∈ dataBO (bodies (run c initS evs).2), start < x.2.2) := by
  have hwf := run_wf c initS evs
  have hm := resumed_parser_feeds_smono pc raws start evs hitems hraw hlo hstart
  have hbase := parseAll_itemsMono pc raws { lastSent := start }
  rw [cpOffsetsB_bodies _ hwf, dataBO_bodies _ hwf, keys_bodies _ hwf]
  -- conservation, on the schedule up to `done`
  have hcons := run_dataO c initS (cut evs)
  rw [← run_cut, fwdO_cut_items] at hcons
  have hq0 : qdO initS = [] := rfl
  rw [hq0, List.nil_append] at hcons
  have ht0 : initS.txn = Txn.no := rfl
  rw [ht0] at hcons
  have hpre := itemsOf_cut_prefix evs
  rw [hitems] at hpre
  have horigin := run_cp_origin c initS evs
  have hcpcut := run_cp_origin c initS (cut evs)
  rw [← run_cut] at hcpcut
  -- stored positions are item offsets, and those are at or above the start
  have hge : ∀ o ∈ cpOffsets (run c initS evs).2, start ≤ o := by
    intro o ho
    rcases horigin o ho with ⟨he, hp⟩ | ⟨i, hi, he⟩
    · simp only [initS] at he; omega
    · rw [he]; exact parserItems_ge pc start raws hraw hlo i (hitems ▸ hi)
  refine ⟨wire_ordered c evs hm, hge, ?_⟩
  · unfold parserItems at hpre
    split
    · rename_i hpos
      simp only [hpos, ↓reduceIte, List.singleton_append] at hpre
      -- the items consumed: none, or the initial select and a prefix of the parser's
      cases hi' : itemsOf (cut evs) with
      | nil =>
        left
        rw [hi'] at hcons
        simp only [fwdItemsO] at hcons
        refine ⟨(List.append_eq_nil_iff.mp hcons).1, ?_⟩
        apply List.eq_nil_iff_forall_not_mem.mpr
        intro o ho
        rcases hcpcut o ho with ⟨he, hp⟩ | ⟨i, hi, _⟩
        · simp only [initS] at he; omega
        · rw [hi'] at hi; cases hi
      | cons it more =>
        rw [hi'] at hpre hcons
        obtain ⟨hit, hmore⟩ := List.cons_prefix_cons.mp hpre
        subst hit
        have hsp : bSelect ≠ bPing := by decide
        have hF : fwdItemsO Txn.no (selectItem pc.startDbId start :: more) =
            (bSelect, [intToDec pc.startDbId], start) :: fwdItemsO Txn.barrier more := by
          simp [fwdItemsO, fwd1O, selectItem, hsp, txnStatus, cmdClass, forwards]
        rw [hF] at hcons
        have habove : ∀ x ∈ fwdItemsO Txn.barrier more, start < x.2.2 :=
          fwdItemsO_above _ _ _ (itemsMono_prefix (hbase Txn.barrier rfl hraw hlo) hmore)
        cases hd : dataOutO (run c initS evs).2 with
        | nil =>
          left
          refine ⟨rfl, ?_⟩
          rw [hd, List.nil_append] at hcons
          -- the select is still queued: every stored position is below it
          obtain ⟨i, hi, hio⟩ := qdO_mem_offset (s := (run c initS evs).1)
            (x := (bSelect, [intToDec pc.startDbId], start)) (by rw [hcons]; exact List.mem_cons_self ..)
          apply List.eq_nil_iff_forall_not_mem.mpr
          intro o ho
          have h1 := pending_not_covered c evs hm o ho i hi
          have h2 : start ≤ o := hge o ho
          simp only at hio
          omega
        | cons x xs =>
          right
          rw [hd, List.cons_append] at hcons
          injection hcons with hx hxs
          refine ⟨xs, by rw [hx], ?_⟩
          intro y hy
          exact habove y (by rw [← hxs]; exact List.mem_append_left _ hy)
    · rename_i hpos
      simp only [hpos, ↓reduceIte, List.nil_append] at hpre
      intro x hx
      have habove : ∀ x ∈ fwdItemsO Txn.no (itemsOf (cut evs)), start < x.2.2 :=
        fwdItemsO_above _ _ _ (itemsMono_prefix (hbase Txn.no rfl hraw hlo) hpre)
      exact habove x (by rw [← hcons]; exact List.mem_append_left _ hx)

/-- **The next start resumes in the database the position was written in -- on ANY
    target, at ANY restart.** Let the target hold records of earlier runs with the
    largest offset `start` in exactly one database `startDbId` (`UniqueMax`: what
    `StartPoint` read; a target without records is `crash_resume_db`), let the run
    be resumed from there (the real parser's items for any stream above `start`,
    any configuration, any schedule, on a new connection), and let the target die
    after ANY number `k` of its requests. Then either no position was written and
    every stored offset is what it was, or the last position write `o ≥ start` sits
    in the database the connection was in at that write and every other database
    holds a strictly smaller offset: `UniqueMax` again. By induction over restarts
    `GetCheckpoint` therefore never faces a tie, and the database it reports is
    the one the position was written in. -/
theorem crash_resume_db_resumed (c : SCfg) (pc : PCfg) (raws : List Raw) (start : Int) (evs : List Ev)
    (hitems : itemsOf evs = parserItems pc start raws)
    (hraw : (raws.map (·.off)).Pairwise (· < ·)) (hlo : ∀ r ∈ raws, start < r.off)
    (hstart : 0 ≤ start) (hdb : 0 ≤ pc.startDbId)
    (t : TState) (hq : t.queued = none) (hcur : t.cur = 0)
    (hu : UniqueMax t.cps pc.startDbId start) (k : Nat) :
    ∃ E, E <+: bodies (run c initS evs).2 ∧
      SameData (applyLog t ((run c initS evs).2.flatten.take k)) (E.foldl execReq t) ∧
      ((cpOffsetsB E = [] ∧
          ∀ d, (getCp (applyLog t ((run c initS evs).2.flatten.take k)).cps d).offset
            = (getCp t.cps d).offset) ∨
       (∃ E1 o E2, E = E1 ++ Req.cpOffset o :: E2 ∧ cpOffsetsB E2 = [] ∧ start ≤ o ∧
          UniqueMax (applyLog t ((run c initS evs).2.flatten.take k)).cps
            (E1.foldl execReq t).cur o)) := by
  obtain ⟨E, hE, hsame⟩ := crash_executes_body_prefix (run c initS evs).2 (run_wf c initS evs) t hq k
  obtain ⟨hs, hcp, hdata⟩ := resumed_wire c pc raws start evs hitems hraw hlo hstart
  refine ⟨E, hE, hsame, ?_⟩
  rw [hsame.2]
  exact resumed_unique_max _ t pc.startDbId start hu hcur hdb hs hcp hdata E hE

/-- the unique maximum is preserved in both cases of `crash_resume_db_resumed`:
    whatever the crash point, the next `GetCheckpoint` finds exactly one database -/
theorem resumed_crash_keeps_unique_max (c : SCfg) (pc : PCfg) (raws : List Raw) (start : Int)
    (evs : List Ev) (hitems : itemsOf evs = parserItems pc start raws)
    (hraw : (raws.map (·.off)).Pairwise (· < ·)) (hlo : ∀ r ∈ raws, start < r.off)
    (hstart : 0 ≤ start) (hdb : 0 ≤ pc.startDbId)
    (t : TState) (hq : t.queued = none) (hcur : t.cur = 0)
    (hu : UniqueMax t.cps pc.startDbId start) (k : Nat) :
    ∃ d o, start ≤ o ∧ UniqueMax (applyLog t ((run c initS evs).2.flatten.take k)).cps d o := by
  obtain ⟨E, _, _, h⟩ := crash_resume_db_resumed c pc raws start evs hitems hraw hlo hstart hdb t hq hcur hu k
  rcases h with ⟨_, hsame⟩ | ⟨E1, o, E2, _, _, ho, hum⟩
  · exact ⟨pc.startDbId, start, Int.le_refl _,
      by rw [hsame]; exact hu.1, fun d' hd' o' h' => hu.2 d' hd' o' (by rw [← hsame]; exact h')⟩
  · exact ⟨_, o, ho, hum⟩

/-- the checkpoint offset is written into the database the connection is in -/
theorem cp_lands_in_current_db (t : TState) (o : Int) :
    (getCp (execReq t (.cpOffset o)).cps t.cur).offset = some o ∧
    (execReq t (.cpOffset o)).cur = t.cur := by
  simp [execReq, getCp, setCp]

/-! Non-vacuity: transactional run with a SELECT barrier and a transaction;
    the key sequence is sorted, commands and checkpoints interleaved. -/
def exCfg : SCfg := { txnMode := true, resume := true, batchCount := 2, batchBytes := 1000 }
def exEvs : List Ev :=
  [ .item { cmd := [115,101,116], args := [[97],[98]], offset := 1030, db := 0 },
    .item { cmd := bSelect, args := [[49]], offset := 1053, db := 1 },
    .keepaliveTick,
    .item { cmd := bMulti, args := [], offset := 1068, db := 1 },
    .item { cmd := [115,101,116], args := [[99],[100]], offset := 1095, db := 1 },
    .item { cmd := bExec, args := [], offset := 1109, db := 1 } ]

example : SMono initS.txn initS.lastOffset exEvs := by
  simp [SMono, exEvs, initS, fwd1, forwards, txnStatus, cmdClass]
example : NonNeg exEvs := by simp [NonNeg, exEvs]
example : exCfg.txnMode = true ∧ exCfg.resume = true := ⟨rfl, rfl⟩
example : keys (run exCfg initS exEvs).2 = [2060, 2061, 2106, 2107, 2107, 2190, 2219] := by decide +kernel

/-! ### The restart itself (parser / specification level)

The per-run theorems above say what a stored position covers. These two say what
the RESUMED run does: a fresh parser (it has forgotten the database and any
filter state) that starts at a stored offset and first re-selects the database
the position was found in executes exactly the rest of the one-pass
specification `specStream` of C01 -- nothing skipped, nothing repeated, every
resumed command in the database the source intended. The cut may be after ANY
command the parser handed over with its own offset; the offsets the sender
stores are such offsets or the start offset (`stored_comes_from`; a bracket
handed over inside a filtered database carries an earlier such offset,
`Props.C01.bypass_forwards_only_brackets`). That the database a position is
found in is the connection's database at the cut is `cp_lands_in_current_db` /
`crash_resume_db`; that link and the choice of the maximum by the real
GetCheckpoint are exercised on the real code by the resumed-run monitor. -/

theorem restart_completes_spec (c : PCfg) (s0 : PState) (cur0 : Int) (pre : List Raw) (r : Raw)
    (r2 : List Raw) (i : Item) (o : Int)
    (hnf : parseFails c s0 (pre ++ [r]) = false)
    (hemit : (parseStep c (parseState c s0 pre) r).2 = POut.emit i)
    (hown : passBracket (parseState c s0 pre) r.cmd = false)
    (hinv0 : s0.currentDB = cur0 ∨ s0.currentDB = -1)
    (hsel : ∀ x ∈ (pre ++ [r]) ++ r2, x.cmd = bSelect → ∀ a n, x.args = [a] → atoi? a = some n → 0 ≤ n)
    (hmap : ∀ n : Int, 0 ≤ n → mapDb c n ≠ -1)
    (hd : c.startDbId = (seqApplied cur0 (itemCmds (parseAll c s0 (pre ++ [r])))).1)
    (hd0 : 0 ≤ c.startDbId) :
    specStream c s0.bypass cur0 ((pre ++ [r]) ++ r2) =
      (seqApplied cur0 (itemCmds (parseAll c s0 (pre ++ [r])))).2 ++
      (seqApplied 0 (itemCmds (parserItems c o r2))).2 :=
  Sender.restart_completes_spec c s0 cur0 pre r r2 i o hnf hemit hown hinv0 hsel hmap hd hd0

theorem restart_at_start_is_spec (c : PCfg) (r2 : List Raw) (o : Int)
    (hsel : ∀ x ∈ r2, x.cmd = bSelect → ∀ a n, x.args = [a] → atoi? a = some n → 0 ≤ n)
    (hmap : ∀ n : Int, 0 ≤ n → mapDb c n ≠ -1) (hd0 : 0 ≤ c.startDbId) :
    (seqApplied 0 (itemCmds (parserItems c o r2))).2 = specStream c false c.startDbId r2 :=
  Sender.restart_at_start_is_spec c r2 o hsel hmap hd0

/-- a command handed over with its own offset leaves the parser outside a filtered
    database: every offset the sender can store is a safe place to resume without
    any filter state -/
theorem stored_offsets_are_unbypassed (c : PCfg) (s : PState) (r : Raw) (i : Item)
    (h : (parseStep c s r).2 = POut.emit i) (hown : passBracket s r.cmd = false) :
    (parseStep c s r).1.bypass = false :=
  emit_own_offset_unbypassed c s r i h hown

/-! Non-vacuity: db 1 filtered, db 2 mapped to 5. Cut after `set a 1` (offset 50,
    connection in db 5), resume with startDbId = 5: the transaction that wanders
    through the filtered database, and the rest, are executed by the resumed run. -/
def rsPc : PCfg :=
  { filterDb := fun d => d == 1, filterCmd := fun _ => false, filterCmdKey := fun _ a => some a,
    targetDb := -1, dbMap := [(2, 5)], startDbId := 5 }
def rsPre : List Raw := [ { cmd := bSelect, args := [[50]], off := 23 } ]            -- SELECT 2 (→ 5)
def rsCut : Raw := { cmd := [115,101,116], args := [[97],[49]], off := 50 }          -- set a 1
def rsRest : List Raw :=
  [ { cmd := bSelect, args := [[49]], off := 73 },                                   -- SELECT 1 (filtered)
    { cmd := bMulti, args := [], off := 88 },
    { cmd := [115,101,116], args := [[120],[50]], off := 115 },                      -- set x 2 (bypassed)
    { cmd := bSelect, args := [[50]], off := 138 },                                  -- SELECT 2 (→ 5)
    { cmd := [100,101,108], args := [[98]], off := 160 },                            -- del b
    { cmd := bExec, args := [], off := 174 } ]
example : parseFails rsPc {} (rsPre ++ [rsCut]) = false := by decide +kernel
example : (parseStep rsPc (parseState rsPc {} rsPre) rsCut).2 =
    POut.emit { cmd := [115,101,116], args := [[97],[49]], offset := 50, db := 5 } := by decide +kernel
example : passBracket (parseState rsPc {} rsPre) rsCut.cmd = false := by decide +kernel
example : rsPc.startDbId = (seqApplied 0 (itemCmds (parseAll rsPc {} (rsPre ++ [rsCut])))).1 := by
  decide +kernel
example : (seqApplied 0 (itemCmds (parserItems rsPc 50 rsRest))).2 =
    [ { db := 5, name := [100,101,108], args := [[98]] } ] := by decide +kernel

/-! Non-vacuity of `crash_resume_db_resumed`: a target holding records of earlier
    runs (largest offset 50 in database 5, an older 23 in database 0), a run resumed
    from there whose stream moves on to database 7: the hypotheses hold, and after
    the crash the largest offset (119) sits in database 7 only. -/
def rdPc : PCfg :=
  { filterDb := fun d => d == 1, filterCmd := fun _ => false, filterCmdKey := fun _ a => some a,
    targetDb := -1, dbMap := [(2, 5), (3, 7)], startDbId := 5 }
def rdRaws : List Raw :=
  [ { cmd := [115,101,116], args := [[97],[49]], off := 73 },      -- set a 1   (db 5)
    { cmd := bSelect, args := [[51]], off := 96 },                  -- SELECT 3 (→ 7)
    { cmd := [115,101,116], args := [[98],[50]], off := 119 } ]     -- set b 2   (db 7)
def rdCfg : SCfg := { txnMode := false, resume := true, batchCount := 2, batchBytes := 1000 }
def rdEvs : List Ev := .keepaliveTick :: ((parserItems rdPc 50 rdRaws).map Ev.item ++ [.cpTick, .done])
def rdT : TState := { cps := [(5, { offset := some 50, hasRunId := true }), (0, { offset := some 23, hasRunId := true })] }
example : itemsOf rdEvs = parserItems rdPc 50 rdRaws := by decide +kernel
example : UniqueMax rdT.cps rdPc.startDbId 50 := by
  refine ⟨by decide +kernel, ?_⟩
  intro d' hd' o' h
  by_cases h0 : d' = 0
  · subst h0; have : o' = 23 := by simpa [getCp, rdT, List.lookup] using h.symm
    omega
  · exfalso
    have h5 : (d' == 5) = false := by simpa [rdPc] using hd'
    have h0' : (d' == 0) = false := by simpa using h0
    simp [getCp, rdT, List.lookup, h5, h0'] at h
example : bodies (run rdCfg initS rdEvs).2 =
      (bodies (run rdCfg initS rdEvs).2).take 7 ++ Req.cpOffset 119 :: [] ∧
    (((bodies (run rdCfg initS rdEvs).2).take 7).foldl execReq rdT).cur = 7 := by decide +kernel
example : (applyLog rdT ((run rdCfg initS rdEvs).2.flatten.take 8)).cps =
    [(7, { offset := some 119, hasRunId := true }), (5, { offset := some 50, hasRunId := true }),
     (0, { offset := some 23, hasRunId := true })] := by decide +kernel

end GunYu.Props.C02
