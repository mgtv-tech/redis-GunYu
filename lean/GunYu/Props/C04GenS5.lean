/-
  C04 — D23's property on the REGENERATED `Listpack.Next`
  (pkg/redis/types/listpack.go; lean/GunYu/Gen/FnListpack.lean, generator `gofn_listpack`): a call that
  returns has moved the cursor forward (strictly fewer bytes are left behind it), whatever the buffer
  holds; every first byte that is no element encoding panics instead of returning. A loop that calls
  `Next` until the end marker (StreamParser.ExecCmd's expansion of a stream listpack, the walk of
  NewListpack for the count field 65535) therefore ends after at most `len(data)` calls - it cannot
  spin on a damaged byte as it did before 53af0a3. Side conditions: `len(data) < 2^31`, `p ≤ len(data)`.
-/
import GunYu.Proofs.GenS5ListpackNext

namespace GunYu.Props.C04
open GunYu GunYu.Gen

theorem gen_lpNext_progress (lp lp' : Fn.Listpack) (e : Bytes) (hlen : lp.data.length < 2147483648)
    (hp : lp.p.toNat ≤ lp.data.length) (h : Fn.lpNext lp = some (lp', e)) :
    (lp'.data.drop lp'.p.toNat).length < (lp.data.drop lp.p.toNat).length :=
  Proofs.GenS5.gen_lpNext_progress lp lp' e hlen hp h

-- non-vacuity: a returning call (cursor 0 -> 2 on a 7 bit integer), and the damaged byte 0xF5 of D23's witness
example : Fn.lpNext ⟨[5, 1, 0xFF], 0#32, 0#32, 0⟩ = some (⟨[5, 1, 0xFF], 2#32, 0#32, 0⟩, [53]) := by decide +kernel
example : Fn.lpNext ⟨[0xF5, 1, 0xFF], 0#32, 0#32, 0⟩ = none := by decide +kernel

end GunYu.Props.C04
