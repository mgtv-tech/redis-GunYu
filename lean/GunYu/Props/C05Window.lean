/-
  C05, memory backend — the two-lock-section window of `NewAofWritter`
  (Model/StoreMemWindow.lean): whatever happens in it, readers deliver the SOURCE's
  bytes.

  Quantifier: all lists of `WOp` — every operation of the memory model, and at any
  point the three steps of a writer replacement taken apart: `install` (first lock
  section), `oldWake` (the replaced writer, woken on capacity, appends its piece to its
  no longer last segment), `finishOld` (second lock section). Hypothesis `SrcOkW src`:
  every chunk handed to a stream writer is the source's bytes at the end of that
  writer's segment (both connections carry the same replication stream).
-/
import GunYu.Proofs.StoreMemWindow

namespace GunYu.Props.C05
open GunYu GunYu.Store

/-- **mem_window_readers_true.** After ANY such list, every copy loop that holds an
    indexed segment has written to its pipe exactly the source's bytes `[start, pos)`:
    contiguous from `start`, byte `i` is `src (start + i)`. The stray append of a
    replaced writer does not change a single byte a reader delivers. -/
theorem mem_window_readers_true (src : Nat → UInt8) (l m : Nat) (ops : List WOp) (hs : SrcOkW src (MemW.init l m) ops) :
    let w := (MemW.init l m).run ops
    ∀ r ∈ w.s.readers, r.isAof = true → r.released = false → (∃ g ∈ w.s.segs, g.sid = r.seg) →
      r.pos = r.start + r.out.length ∧ ∀ i b, r.out[i]? = some b → b = src (r.start + i) := by
  intro w r hr ha hrel hex
  exact ((WInv.init src l m).run ops hs).core.readers r hr ha hrel hex

/-- … every indexed segment holds the source's bytes at its offsets (also the two
    overlapping ones the stray append leaves behind), … -/
theorem mem_window_segments_true (src : Nat → UInt8) (l m : Nat) (ops : List WOp) (hs : SrcOkW src (MemW.init l m) ops) :
    let w := (MemW.init l m).run ops
    ∀ g ∈ w.s.segs, ∀ i b, g.data[i]? = some b → b = src (g.left + i) := by
  intro w g hg
  exact ((WInv.init src l m).run ops hs).core.segs g hg

/-- … and what a blocked writer is waiting to append — the current one, or a replaced
    one that has not been finished — is the source's bytes at the end of its segment. -/
theorem mem_window_pending_true (src : Nat → UInt8) (l m : Nat) (ops : List WOp) (hs : SrcOkW src (MemW.init l m) ops) :
    let w := (MemW.init l m).run ops
    (∀ buf cur, w.s.pendA = some buf → w.s.aofW = some cur → ∀ g ∈ w.s.segs, g.sid = cur → BytesTrue src g.right buf) ∧
    (∀ o piece, w.old = some ⟨o, some piece⟩ → ∀ g ∈ w.s.segs, g.sid = o → BytesTrue src g.right piece) := by
  intro w
  have h := (WInv.init src l m).run ops hs
  exact ⟨h.pend.res, fun o piece ho => (h.old o (some piece) ho).2.2 piece rfl⟩

/-- **the window with nothing in it is the atomic step.** `install` directly followed by
    `finishOld` is `.newAofWriter` of Model/Store.lean (the step the correspondence harness
    drives): the window model extends the tied model, it does not replace it. -/
theorem mem_window_no_wake_is_atomic (w : MemW) (off : Nat) (hold : w.old = none) :
    ((w.step (.install off)).1.step .finishOld).1.s = (w.s.step (.newAofWriter off)).1 ∧
    ((w.step (.install off)).1.step .finishOld).1.old = none := by
  rw [step_newAofWriter_eq]
  simp only [MemW.step, hold, Option.isSome_none, Bool.false_eq_true, if_false]
  cases hi : w.s.installWriter off with
  | none =>
    dsimp only
    rw [hold]
    exact ⟨rfl, hold⟩
  | some s1 =>
    dsimp only
    cases haw : w.s.aofW with
    | none => exact ⟨rfl, rfl⟩
    | some cur =>
      dsimp only
      refine ⟨?_, rfl⟩
      have e' : Mem.finishAof ({ s1 with pendA := none } : Mem) cur false = Mem.finishAof s1 cur false := rfl
      show ({ Mem.finishAof ({ s1 with pendA := none } : Mem) cur false with pendA := none } : Mem) = _
      rw [e']
      exact pendA_eta _ (finishAof_frame s1 cur false).2.2

/-! ### non-vacuity: a replaced writer blocked on capacity is woken inside the window -/

instance (src : Nat → UInt8) (off : Nat) (bs : Bytes) : Decidable (BytesTrue src off bs) :=
  decidable_of_iff (∀ i : Fin bs.length, bs[i] = src (off + i)) (by
    constructor
    · intro h i b hb
      obtain ⟨hi, e⟩ := List.getElem?_eq_some_iff.mp hb
      rw [← e]; exact h ⟨i, hi⟩
    · intro h i
      exact h i.1 _ (List.getElem?_eq_getElem i.2))

instance (src : Nat → UInt8) (segs : List MSeg) (sid : Nat) (bs : Bytes) : Decidable (Res src segs sid bs) := by
  unfold Res; infer_instance

instance (src : Nat → UInt8) (w : MemW) (op : WOp) : Decidable (ChunkTrueW src w op) := by
  cases op with
  | base o =>
    cases o <;> simp only [ChunkTrueW, ChunkTrue] <;> infer_instance
  | install off => exact isTrue trivial
  | oldWake => exact isTrue trivial
  | finishOld => exact isTrue trivial

instance SrcOkW.dec (src : Nat → UInt8) : (w : MemW) → (ops : List WOp) → Decidable (SrcOkW src w ops)
  | _, [] => isTrue trivial
  | w, op :: rest =>
    have := SrcOkW.dec src (w.step op).1 rest
    inferInstanceAs (Decidable (ChunkTrueW src w op ∧ SrcOkW src (w.step op).1 rest))

/-- the source: offset 100 carries byte 1, 101 byte 2, … -/
def exSrc : Nat → UInt8 := fun n => (n - 99).toUInt8

/-- writer at 100 fills two segments; reader 0 (never started) pins the first, reader 1
    follows from 108; the third append blocks on capacity. The writer is REPLACED
    (`install 116`); in the window reader 0 is closed, the replaced writer is woken and
    appends its 4 bytes to its segment [116,120) — which now overlaps the new writer's
    segment at 116; `finishOld`; the new writer appends the source's bytes from 116. -/
def exWindowOps : List WOp :=
  [ .base (.setRunId "id1"), .base (.newAofWriter 100), .base (.aofAppend [1,2,3,4,5,6,7,8]),
    .base (.openReader 0 100), .base (.aofAppend [9,10,11,12,13,14,15,16]),
    .base (.openReader 1 108), .base (.startReader 1), .base (.copyStep 1),
    .base (.aofAppend [17,18,19,20]),
    .install 116, .base (.closeReader 0), .oldWake, .base (.copyStep 1), .base (.copyStep 1), .finishOld,
    .base (.aofAppend [17,18,19,20,21,22]), .base (.copyStep 1), .base (.copyStep 1), .base (.copyStep 1) ]

example : SrcOkW exSrc (MemW.init 8 16) exWindowOps := by decide
-- the third append is blocked (4 bytes wait), the replaced writer takes them into the window
example : ((MemW.init 8 16).run (exWindowOps.take 9)).s.pendA = some [17,18,19,20] ∧
    ((MemW.init 8 16).run (exWindowOps.take 10)).old = some ⟨2, some [17,18,19,20]⟩ := by decide
-- after the stray append the index is NOT contiguous: [116,120) is followed by the segment at 116
example : ((MemW.init 8 16).run (exWindowOps.take 15)).s.segs.map (fun g => (g.sid, g.left, g.data.length, g.closed)) =
    [(1, 108, 8, true), (2, 116, 4, true), (3, 116, 0, false)] := by decide
-- the reader that followed through the window delivered the source's bytes 108 … 121, each once
example : ((MemW.init 8 16).run exWindowOps).s.readers.map (fun r => (r.id, r.start, r.pos, r.out)) =
    [(0, 100, 100, []), (1, 108, 122, [9,10,11,12,13,14,15,16,17,18,19,20,21,22])] := by decide

end GunYu.Props.C05
