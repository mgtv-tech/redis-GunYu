/-
  C16 — the offset guards of the handshake, REGENERATED from syncer/replica.go on every run
  (harness/extract/c16guards.go → Gen/ReplicaGuards.lean: the conditions found by what their
  branch does, the operands named by where they are defined), are the guards of the hand model
  (Model/Replica.lean). A change of an operator, an operand or a constant in the code changes the
  generated definition and breaks these proofs; renamed locals, swapped operands (`0 < a-b`),
  `!(a <= b)` for `a > b` and the like are absorbed by the proofs (`omega`).

  * `gen_*_eq_model`       : each generated guard equals the model's expression, for all inputs
  * `handle_uses_gen`      : `View.handle` (ServiceReplica + Handle + sendData's start offset) is the
                             same function written with the generated `handleAhead` / `sendDataFallback`
  * `preSync_uses_gen`     : `preSync` … with `preSyncGap` / `preSyncGapPos` / `preSyncGapFar`
  * `aofSync_uses_gen`     : `aofSync` … with `aofSyncDiscard` (`IsInitial()` = run id `"?"`)
  Core Lean only.
-/
import GunYu.Model.Replica
import GunYu.Gen.ReplicaGuards

namespace GunYu.Props.C16
open GunYu GunYu.Replica

theorem gen_handleAhead_eq_model (roff loff : Int) : Gen.handleAhead roff loff = decide (roff - loff > 0) := by
  unfold Gen.handleAhead
  apply decide_eq_decide.mpr
  omega

theorem gen_sendDataFallback_eq_model (valid : Bool) (reqOff lOff : Int) :
    Gen.sendDataFallback valid reqOff lOff = !valid := by
  unfold Gen.sendDataFallback
  cases valid <;> rfl

theorem gen_preSyncGap_eq_model (loff foff : Int) : Gen.preSyncGap loff foff = loff - foff := by
  rfl

theorem gen_preSyncGapPos_eq_model (gap : Int) : Gen.preSyncGapPos gap = decide (gap > 0) := by
  unfold Gen.preSyncGapPos
  apply decide_eq_decide.mpr
  omega

theorem gen_preSyncGapFar_eq_model (gap : Int) : Gen.preSyncGapFar gap = decide (gap > tenMB) := by
  unfold Gen.preSyncGapFar tenMB Gen.replicaGapClear
  apply decide_eq_decide.mpr
  omega

theorem gen_aofSyncDiscard_eq_model (left foff : Int) (initial : Bool) :
    Gen.aofSyncDiscard left foff initial = (decide (left > foff) && !initial) := by
  unfold Gen.aofSyncDiscard
  cases initial <;> simp <;> omega

/-- `View.handle` written with the regenerated guards -/
def handleG (v : View β) (rid : Id) (roff : Int) (ch : List Nat) : Reply β :=
  if !v.l1.serving then ⟨[ctl .failure], .err .plain, ch⟩
  else if !v.l1.started then ⟨[], .err .plain, ch⟩
  else match v.l1.inputIds with
  | [] => ⟨[ctl .failure], .err .brk, ch⟩
  | i0 :: _ =>
    let pre : List (Msg β) := if i0 ≠ v.l1b.cur then [ctl .clear] else []
    let rp : Reply β :=
      if rid = "" || rid = "?" then
        ⟨[⟨.info, v.l2b.cur, false, latest v.l2b.data, 0, []⟩], .eof, ch⟩
      else if v.l2.inputIds.head? ≠ some rid then ⟨[ctl .error], .err .plain, ch⟩
      else if Gen.handleAhead roff (latest v.l2b.data) then
        ⟨[⟨.handover, v.l2b.cur, false, latest v.l2b.data, 0, []⟩], .err .role, ch⟩
      else v.l4.sendData rid
        (if Gen.sendDataFallback (v.l3.valid rid roff) roff (latest v.l2b.data) then latest v.l2b.data else roff) ch
    ⟨pre ++ rp.msgs, rp.fin, rp.rest⟩

/-- **handle_uses_gen.** the model's `ServiceReplica`/`Handle` decides with the regenerated
    hand-over test and the regenerated offset fallback -/
theorem handle_uses_gen (v : View β) (rid : Id) (roff : Int) (ch : List Nat) :
    v.handle rid roff ch = handleG v rid roff ch := by
  unfold View.handle handleG
  simp only [gen_handleAhead_eq_model, gen_sendDataFallback_eq_model, decide_eq_true_eq]
  cases hv : v.l3.valid rid roff <;>
    simp only [Bool.not_false, Bool.not_true, if_true, if_false, Bool.false_eq_true] <;> rfl

/-- `preSync` written with the regenerated guards -/
def preSyncG (bk : Backend) (F : Store β) (lid : Id) (loff : Int) : Store β × (Id × Int) :=
  let r := startPoint bk F lid
  let F1 := r.1
  let sp := r.2
  if sp.1 = "?" || sp.1 = "" || sp.1 ≠ lid then (adopt bk F1 lid, (lid, loff))
  else
    let gap := Gen.preSyncGap loff sp.2
    if Gen.preSyncGapPos gap then
      if Gen.preSyncGapFar gap then (setRunId bk (delRunId bk F1 sp.1) lid, (sp.1, loff))
      else (setRunId bk F1 lid, sp)
    else (F1, sp)

theorem preSync_uses_gen (bk : Backend) (F : Store β) (lid : Id) (loff : Int) :
    preSync bk F lid loff = preSyncG bk F lid loff := by
  unfold preSync preSyncG
  simp only [gen_preSyncGap_eq_model, gen_preSyncGapPos_eq_model, gen_preSyncGapFar_eq_model, decide_eq_true_eq]

/-- `aofSync` written with the regenerated guard; `StartPoint.IsInitial()` is `RunId == "?"` -/
def aofSyncG (bk : Backend) (F : Store β) (x : Id) (m : Msg β) (ms : List (Msg β)) (fin : Fin)
    (budget : Nat) (lost : Loss) : Out β :=
  let r := startPoint bk F x
  let sp := r.2
  let F1 := if Gen.aofSyncDiscard m.offset sp.2 (sp.1 == "?") then setRunId bk (delRunId bk r.1 x) x else r.1
  aofRecv F1 m.offset.toNat ms fin budget lost

theorem aofSync_uses_gen (bk : Backend) (F : Store β) (x : Id) (m : Msg β) (ms : List (Msg β)) (fin : Fin)
    (budget : Nat) (lost : Loss) : aofSync bk F x m ms fin budget lost = aofSyncG bk F x m ms fin budget lost := by
  unfold aofSync aofSyncG
  simp only [gen_aofSyncDiscard_eq_model]
  congr 2
  by_cases h1 : m.offset > (startPoint bk F x).2.2 <;> by_cases h2 : (startPoint bk F x).2.1 = "?" <;> simp [h1, h2]

/-! ### non-vacuity: the guards decide both ways -/
example : Gen.handleAhead 11 10 = true ∧ Gen.handleAhead 10 10 = false ∧ Gen.handleAhead (-1) 10 = false := by decide +kernel
example : Gen.preSyncGapFar 10485761 = true ∧ Gen.preSyncGapFar 10485760 = false ∧ Gen.preSyncGapPos 1 = true ∧
    Gen.preSyncGapPos 0 = false := by decide +kernel
example : Gen.aofSyncDiscard 11 10 false = true ∧ Gen.aofSyncDiscard 10 10 false = false ∧
    Gen.aofSyncDiscard 11 10 true = false := by decide +kernel
example : Gen.sendDataFallback false 5 9 = true ∧ Gen.sendDataFallback true 5 9 = false := by decide +kernel

end GunYu.Props.C16
