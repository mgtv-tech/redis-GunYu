/-
  C05, disk backend — (1) the callers' protocol for stream writers derived from what
  the callers pass (the ANSWER of an earlier `LatestOffset()` query, an empty cache,
  or the offset of the snapshot just announced) instead of assumed in the state of
  the call; (2) progress as safety: a reader below the writer's end always has a
  delivering move.
-/
import GunYu.Proofs.StoreCaller
import GunYu.Proofs.StoreReach

namespace GunYu.Props.C05
open GunYu GunYu.Store

/-! ## The callers' protocol -/

/-- **disk_answer_is_continuation.** On a cache without an open stream writer, what
    `LatestOffset()` answers is an offset at which a stream writer continues the held
    stream (`Disk.okOp (.newAofWriter q)`), … -/
theorem disk_answer_is_continuation (s : Disk) (hl : s.live = none) (q : Nat) (hq : s.latestNat = some q) :
    Continues q s ∧ s.okOp (.newAofWriter q) :=
  ⟨latest_continues hl hq, continues_okOp (latest_continues hl hq)⟩

/-- **disk_answer_stays_continuation.** … and it STAYS one through every operation
    that does not create a writer — reads, rotation steps, readers opened and closed,
    COLLECTOR PASSES, snapshot appends / close, `SetRunId` (the same id or a switch),
    `DelRunId` — in any reachable state: the time between the query and
    `NewAofWritter` (the whole of `syncMeta`, the collector's timer) does not matter. -/
theorem disk_answer_stays_continuation (s : Disk) (hi : DInv s) (q : Nat) (h : Continues q s) (op : DOp)
    (hop : op.opensWriter = false) : Continues q (s.step op).1 :=
  step_continues hi h op hop

/-- a collector pass leaves the end of the stream where it is or removes stream and
    snapshot together (any state) -/
theorem disk_gc_keeps_end_or_clears (s : Disk) (q : Nat) (h : Continues q s) : Continues q s.gc :=
  gc_continues h

/-- **disk_callers_respect_protocol.** Every run the callers produce (`callerOk`: a
    stream writer is created at the offset ANSWERED earlier in the run, on a cache that
    holds nothing, or at the offset of the snapshot just announced; anything else —
    readers, collector, run-id operations, snapshot chunks — interleaved anywhere)
    satisfies the protocol `Disk.wf` the disk theorems assume. -/
theorem disk_callers_respect_protocol (l m : Nat) (cops : List COp) (h : callerOk .none (Disk.init l m) cops) :
    (Disk.init l m).wf (COp.erase cops) :=
  caller_wf cops .none _ (DInv.init l m) trivial h

/-- hence the disk theorems hold for the callers' runs; the two central ones restated -/
theorem disk_reader_delivers_for_callers (l m : Nat) (cops : List COp) (h : callerOk .none (Disk.init l m) cops) :
    let s := (Disk.init l m).run (COp.erase cops)
    ∀ r ∈ s.readers, r.isOpen = true → r.isAof = true →
      s.hbase ≤ r.start ∧ r.start ≤ r.pos ∧ r.pos ≤ s.hbase + s.hist.length ∧
      r.out = (s.hist.drop (r.start - s.hbase)).take (r.pos - r.start) := by
  exact fun r hr ho ha =>
    stream_delivered ((DInv.init l m).run _ (disk_callers_respect_protocol l m cops h)) hr ho ha

theorem disk_refines_for_callers (l m : Nat) (cops : List COp) (h : callerOk .none (Disk.init l m) cops) :
    let s := (Disk.init l m).run (COp.erase cops)
    s.all ≠ [] → s.hbase ≤ s.abs.base ∧ s.abs.bytes = s.hist.drop (s.abs.base - s.hbase) :=
  fun hne => abs_bytes_eq ((DInv.init l m).run _ (disk_callers_respect_protocol l m cops h)) hne

/-! ### non-vacuity: a run in which the collector empties the cache between the
    answer and the writer's creation, and one in which it does not -/

def exCallerRun : List COp :=
  [ .op (.setRunId "id1"), .ask, .op (.newAofWriter 100),          -- empty cache: `ask` answers -1
    .op (.aofAppend [1,2,3,4,5,6,7,8,9,10]), .op (.aofAppend [11,12,13,14,15,16,17,18,19,20]), .op .aofClose,
    .ask,                                                          -- answers 120
    .op (.openReader 0 105 false), .op (.read 0 3), .op .gc, .op (.setRunId "id1"), .op (.read 0 100),
    .op (.newAofWriter 120), .op (.aofAppend [21,22]) ]

example : callerOk .none (Disk.init 24 40) exCallerRun := by decide +kernel
example : ((Disk.init 24 40).run (COp.erase exCallerRun)).segs.map (fun g => (g.left, g.data.length)) = [(100, 10), (110, 10)] ∧
    ((Disk.init 24 40).run (COp.erase exCallerRun)).live.map (fun g => (g.left, g.data)) = some (120, [21, 22]) := by decide +kernel

/-- the collector removes EVERYTHING between the answer (120) and the writer's creation:
    the writer at 120 starts a new history on the empty cache -/
def exCallerRunGc : List COp :=
  [ .op (.setRunId "id1"), .ask, .op (.newAofWriter 100),
    .op (.aofAppend [1,2,3,4,5,6,7,8,9,10]), .op (.aofAppend [11,12,13,14,15,16,17,18,19,20]), .op .aofClose,
    .ask, .op .gc, .op (.newAofWriter 120), .op (.aofAppend [21,22]) ]

example : callerOk .none (Disk.init 24 5) exCallerRunGc := by decide +kernel
example : ((Disk.init 24 5).run ((COp.erase exCallerRunGc).take 6)).all = [] := by decide +kernel
example : ((Disk.init 24 5).run (COp.erase exCallerRunGc)).abs.base = 120 ∧
    ((Disk.init 24 5).run (COp.erase exCallerRunGc)).abs.bytes = [21, 22] := by decide +kernel

/-- a writer at an offset that was NOT answered is not a run of the callers -/
example : ¬ callerOk .none (Disk.init 24 40) (exCallerRun.take 12 ++ [.op (.newAofWriter 200)]) := by decide +kernel

/-- what the disk backend does with such a writer (it does not refuse it, the memory
    backend does: `mem_refuses_discontinuous`): the gap between the held stream and the
    new segment is reported VALID although no reader can be opened there — the reason
    the protocol is needed, and why it is derived for the callers above. -/
example :
    let s := (Disk.init 64 0).run [.setRunId "a", .newAofWriter 100, .aofAppend [1,2,3], .aofClose,
      .newAofWriter 200, .aofAppend [9]]
    s.inRange 150 = true ∧ (s.open 0 150 true).2 = Out.notExist := by decide +kernel

/-! ## Progress as safety (disk) -/

/-- **disk_reader_delivers_next.** In every reachable state, an open stream reader
    that is not in the middle of a rotation step and stands below the writer's end
    has a delivering move: `AofRotateReader.read` (`Disk.follow`: open the next file
    when the current one is exhausted and the next exists, then ONE `file.Read`)
    returns at least one byte — also with a collector pass inside the rotation
    (`Disk.followGc`) — and the bytes are the appended bytes at its position. No
    reachable state leaves a reader behind the writer without a delivering step. -/
theorem disk_reader_delivers_next (l m : Nat) (ops : List DOp) (hwf : (Disk.init l m).wf ops) (withGc : Bool) :
    let s := (Disk.init l m).run ops
    ∀ r ∈ s.readers, r.isOpen = true → r.isAof = true → r.prev = none →
      r.pos < s.hbase + s.hist.length → ∀ n, 0 < n →
      ∃ bs, (if withGc then s.followGc r.id n else s.follow r.id n).2 = Out.data bs ∧ bs ≠ [] ∧
        bs = (s.hist.drop (r.pos - s.hbase)).take bs.length := by
  intro s r hr ho ha hp hlt n hn
  exact follow_delivers ((DInv.init l m).run ops hwf) hr ho ha hp hlt n hn withGc

/-- **disk_valid_offset_has_delivering_move.** A VALID offset covered by the stream and
    below the writer's end can be opened, and the reader opened there delivers at
    least one byte with its first `read` — the bytes appended at that offset. -/
theorem disk_valid_offset_has_delivering_move (l m : Nat) (ops : List DOp) (hwf : (Disk.init l m).wf ops)
    (rid off : Nat) (crc : Bool) :
    let s := (Disk.init l m).run ops
    findReader s.readers rid = none → s.inRange off = true → (indexAof s.all off).isSome = true →
      off < s.hbase + s.hist.length → ∀ n, 0 < n →
      (s.open rid off crc).2 = Out.aof off ∧
      ∃ bs, ((s.open rid off crc).1.follow rid n).2 = Out.data bs ∧ bs ≠ [] ∧
        bs = (s.hist.drop (off - s.hbase)).take bs.length := by
  intro s hfresh hin hidx hlt n hn
  have hinv : DInv s := (DInv.init l m).run ops hwf
  obtain ⟨g, hg⟩ := Option.isSome_iff_exists.mp hidx
  let r0 : DReader := { id := rid, isAof := true, cur := g.left, prev := none, pos := off, isOpen := true,
                        start := off, out := [] }
  have hopen : s.open rid off crc = (({ s with readers := s.readers ++ [r0] } : Disk), Out.aof off) := by
    simp [Disk.open, hfresh, hin, hg, r0]
  have hi1 : DInv (s.open rid off crc).1 := hinv.step (.openReader rid off crc) trivial
  rw [hopen] at hi1 ⊢
  refine ⟨rfl, ?_⟩
  have := follow_delivers hi1 (r := r0) (by simp) rfl rfl rfl hlt n hn false
  simpa using this

/-- **disk_snapshot_reader_delivers_next.** Progress for offsets SERVED BY THE SNAPSHOT:
    in every reachable state an open snapshot reader that has not delivered everything
    the snapshot file holds gets at least one byte from its next `read` — the snapshot's
    bytes at its position; and a snapshot without a writer holds all `size` bytes
    (`disk_snapshot_offered_iff_complete`), so the replay reaches the end. -/
theorem disk_snapshot_reader_delivers_next (l m : Nat) (ops : List DOp) (hwf : (Disk.init l m).wf ops) :
    let s := (Disk.init l m).run ops
    ∀ r ∈ s.readers, r.isOpen = true → r.isAof = false → ∀ rd, s.rdb = some rd → r.pos < rd.data.length →
      ∀ n, 0 < n → ∃ bs, (s.step (.read r.id n)).2 = Out.data bs ∧ bs ≠ [] ∧ bs = (rd.data.drop r.pos).take n ∧
        (rd.writing = false → rd.data.length = rd.size) := by
  intro s r hr ho ha rd hrd hlt n hn
  have hinv : DInv s := (DInv.init l m).run ops hwf
  obtain ⟨hout, hne⟩ := read_snapshot (findReader_of_mem hinv.ids hr) ho ha hrd hlt hn
  exact ⟨_, hout, hne, rfl, fun hw => ((hinv.rdbShape rd hrd).2.2 hw).2⟩

/-- **disk_valid_snapshot_offset_has_delivering_move.** A VALID offset the stream does
    not cover is served by the snapshot: a reader can be opened there (checksum accepted),
    and as soon as the snapshot file holds a byte its first `read` delivers — no valid
    offset, stream- or snapshot-served, is without a delivering move. -/
theorem disk_valid_snapshot_offset_has_delivering_move (l m : Nat) (ops : List DOp) (hwf : (Disk.init l m).wf ops)
    (rid off : Nat) :
    let s := (Disk.init l m).run ops
    findReader s.readers rid = none → s.inRange off = true → indexAof s.all off = none →
      ∃ rd, s.rdb = some rd ∧ off ≤ rd.left ∧ (s.open rid off true).2 = Out.rdb rd.left rd.size ∧
        (rd.data ≠ [] → ∀ n, 0 < n →
          ∃ bs, ((s.open rid off true).1.step (.read rid n)).2 = Out.data bs ∧ bs ≠ [] ∧ bs = rd.data.take n) := by
  intro s hfresh hin hidx
  have hinv : DInv s := (DInv.init l m).run ops hwf
  have hne := (inRange_iff_open hinv rid off hfresh).mp hin
  unfold Disk.open at hne ⊢
  simp only [hfresh, Option.isSome_none, Bool.false_eq_true, if_false, hin, Bool.not_true, hidx] at hne ⊢
  cases hrd : s.rdb with
  | none => rw [hrd] at hne; simp at hne
  | some rd =>
    rw [hrd] at hne
    dsimp only at hne ⊢
    by_cases hle : off ≤ rd.left
    · simp only [hle, if_true, Bool.and_false, Bool.false_eq_true, if_false] at hne ⊢
      refine ⟨rd, rfl, hle, rfl, ?_⟩
      intro hd n hn
      let r0 : DReader := { id := rid, isAof := false, cur := 0, prev := none, pos := 0, isOpen := true, start := 0, out := [] }
      have hfr : findReader (s.readers ++ [r0]) rid = some r0 := by
        unfold findReader at hfresh ⊢
        rw [List.find?_append, hfresh]; simp [r0]
      obtain ⟨hout, hne2⟩ := read_snapshot (s := { s with rdb := some rd, readers := s.readers ++ [r0] }) hfr rfl rfl
        rfl (List.length_pos_iff.mpr hd) hn
      exact ⟨_, hout, hne2, rfl⟩
    · simp [hle] at hne

/-- non-vacuity: the reader of `exOps`-like history standing at the end of a closed
    segment: the follow step rotates and delivers from the next segment -/
example :
    let s := (Disk.init 24 0).run [.setRunId "id1", .newAofWriter 100, .aofAppend [1,2,3,4,5,6,7,8,9,10],
      .aofAppend [11,12,13], .openReader 0 103 false, .read 0 100]
    (s.readers.map (fun r => (r.cur, r.pos))) = [(100, 110)] ∧ (s.follow 0 2).2 = Out.data [11, 12] ∧
      (s.followGc 0 5).2 = Out.data [11, 12, 13] := by decide +kernel

end GunYu.Props.C05
