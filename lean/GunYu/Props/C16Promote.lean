/-
  C16 → C06: a promoted follower's cache, in the vocabulary of C06.

  C16 (Props/C16.lean, `follower_prefix_of_leader_runs`) proves that whatever a follower
  stores under a run id — after any list of sessions against any leaders, restarts and
  periods as leader — is a copy of that id's history (`Data.Faithful`). When the follower is
  PROMOTED (hand-over: syncer/replica.go `ReplicaFollower.Run` reports "take over",
  cmd `runCluster` wins the campaign and starts `RedisInput.Run`), its own input starts
  from this cache: C06 (Model/Psync.lean `syncMeta`/`run`, Props/C06.lean, C06Loop.lean)
  takes a cache description `c : Psync.Cache` with contents `d : Psync.CData` under the
  hypotheses `Psync.CacheWF c` and `Psync.CacheOK w src c d`.

  This file is the bridge, analogous to C08's bridge for a re-opened disk directory
  (Proofs/StoreFsBridge.lean `cacheOf`/`dataOf`, Props/C08.lean `reopened_cache_wf/_holds/_ok`):

    * `encId`, `cacheOfData`, `cdataOfData` : the C06 description of what C16 calls
      `Store.curData` of the current run id `x` (definitions of C06 imported, not copied);
    * `Agrees`             : the two properties talk about the same replication histories;
    * `promoted_cache_wf`, `promoted_cache_holds`, `promoted_cache_ok` : per cache contents;
    * `promoted_follower_cache_ok` : composed with C16's conclusion, for every backend,
      history, start store and step list (no bounds);
    * `promoted_follower_first_connection` : C06's `cache_consistent_after` and
      `delivers_something` instantiated with the bridge.

  Side conditions the models cannot see (as in C08's bridge): offsets are int64, and a
  snapshot held is not empty (C06's `CacheWF.rdb_ok` wants a positive size).
  Core Lean only.
-/
import GunYu.Model.Replica
import GunYu.Proofs.Replica
import GunYu.Props.C16
import GunYu.Model.Psync
import GunYu.Props.C06

namespace GunYu.Props.C16
open GunYu GunYu.Replica

/-! ### run ids: C16's `String` against C06's byte list -/

/-- a run id of C16 (`Replica.Id = String`, the Go `string` of syncer/replica.go and
    pkg/store) as C06 sees it (`Psync.Id = Bytes`, the bytes `SendPSync` puts on the wire):
    its UTF-8 bytes. -/
def encId (x : Replica.Id) : Psync.Id := x.toUTF8.data.toList

/-- two run ids with the same bytes are the same run id: C16's per-id statements and C06's
    per-id statements are about the same ids -/
theorem encId_inj {x y : Replica.Id} (h : encId x = encId y) : x = y :=
  String.toByteArray_inj.mp (ByteArray.ext (Array.toList_inj.mp h))

/-- the empty run id (`""`: "no run id" in pkg/store and memory_channel.go) is C06's `[]` -/
theorem encId_empty : encId "" = [] := by decide +kernel

/-- the literal `"?"` (`StartPoint.Initialize`) is C06's `Psync.qId` -/
theorem encId_q : encId "?" = Psync.qId := by decide +kernel

/-- C16's side condition `x ≠ ""` is C06's `id ≠ []` -/
theorem encId_ne_nil {x : Replica.Id} (hx : x ≠ "") : encId x ≠ [] :=
  fun e => hx (encId_inj (e.trans encId_empty.symm))

/-- C16's side condition `x ≠ "?"` is C06's `id ≠ qId` -/
theorem encId_ne_q {x : Replica.Id} (hx : x ≠ "?") : encId x ≠ Psync.qId :=
  fun e => hx (encId_inj (e.trans encId_q.symm))

/-! ### the description C06 reasons about -/

/-- the two backends (`Replica.Backend` = `Psync.Backend`: pkg/store over the disk,
    syncer/memory_channel.go) -/
def bkOf : Replica.Backend → Psync.Backend
  | .disk => .disk
  | .mem => .memory

/-- the cache description C06 reasons about (`Psync.Cache`: what `Channel.GetRdb`,
    `GetOffsetRange`, `StartPoint`, `IsValidOffset` report to `syncMeta`), for the contents
    `d` C16's follower holds under its current run id `x` at the moment it is promoted.
    A snapshot `s` held at `d.base` is reported as `(left, size) = (base, |s|)`; the stream
    bytes `[base, right)` as the log range — but only when a stream byte is held: a promoted
    follower's writers are closed (`aofSync`/`rdbSync` have returned) and an empty live
    segment is removed on close, so no log range is reported for `bytes = []`. -/
def cacheOfData (bk : Replica.Backend) (x : Replica.Id) : Option (Data UInt8) → Psync.Cache
  | none => { backend := bkOf bk, runId := encId x, rdb := none, aof := none }
  | some d =>
    { backend := bkOf bk, runId := encId x,
      rdb := d.snap.map (fun s => ((d.base : Int), (s.length : Int))),
      aof := if d.bytes = [] then none else some ((d.base : Int), (d.right : Int)) }

/-- the cached contents in C06's vocabulary (`Psync.CData`): the log byte at absolute offset
    `n` is the stream byte C16's `Data` holds there (0 outside the range held — C06 never
    reads there: `Holds.aof_hist` quantifies over the range only); the snapshot is filed
    under its token `(history, offset) = (x, base)`. -/
def cdataOfData (x : Replica.Id) : Option (Data UInt8) → Psync.CData
  | none => ⟨fun _ => 0, (encId x, 0)⟩
  | some d =>
    ⟨fun n => if (d.base : Int) ≤ n then d.bytes.getD (n - (d.base : Int)).toNat 0 else 0,
      (encId x, (d.base : Int))⟩

/-- C16's history `h : Replica.Hist UInt8` and C06's world `w : Psync.World` are the same
    replication histories: the stream byte of run id `id` at offset `n`. Stream bytes only —
    C06's `Holds` constrains a snapshot only through its token `(history, offset)`
    (`Holds.rdb_tok`), never through its bytes. -/
def Agrees (w : Psync.World) (h : Hist UInt8) : Prop :=
  ∀ (id : Replica.Id) (n : Nat), w.hist (encId id) (n : Int) = h.byte id n

/-- `Agrees` is satisfiable for EVERY history of C16 (run ids are decoded through the
    injective `encId`), so the theorems below are not vacuous in `w`. -/
theorem agrees_exists (h : Hist UInt8) : ∃ w : Psync.World, Agrees w h := by
  classical
  refine ⟨⟨fun i n => if hi : ∃ id, encId id = i then h.byte (Classical.choose hi) n.toNat else 0,
    fun _ _ _ => 0⟩, ?_⟩
  intro id n
  have hi : ∃ id', encId id' = encId id := ⟨id, rfl⟩
  simp only [dif_pos hi]
  rw [encId_inj (Classical.choose_spec hi)]
  simp

/-! ### per cache contents -/

/-- **promoted_cache_wf_none.** A promoted follower that holds nothing under its current id
    (C16 `Store.curData = none`: no directory contents / empty memory channel) is a cache C06
    can reason about (`Psync.CacheWF`), whatever the id — also `""`. -/
theorem promoted_cache_wf_none (bk : Replica.Backend) (x : Replica.Id) :
    Psync.CacheWF (cacheOfData bk x none) :=
  ⟨trivial, trivial, trivial, fun _ => ⟨rfl, rfl⟩⟩

/-- **promoted_cache_wf.** ANY contents `d` held under a real run id `x` (C16's side
    conditions `x ≠ ""`, `x ≠ "?"`) give a cache description satisfying C06's
    `Psync.CacheWF`: the log range is ordered, the snapshot offered starts where the log
    starts (both backends: `Data` keeps the snapshot at `base`), data is held under a real id.
    The two side conditions are the ones the models cannot see: offsets are int64, and a
    snapshot held is not empty (real snapshots never are; from a hypothesis on the history:
    `promoted_cache_wf_of_hist`). -/
theorem promoted_cache_wf (bk : Replica.Backend) (x : Replica.Id) (d : Data UInt8)
    (hx1 : x ≠ "") (hx2 : x ≠ "?") (h64 : (d.right : Int) ≤ Psync.maxInt64)
    (hsn : ∀ s, d.snap = some s → s ≠ []) :
    Psync.CacheWF (cacheOfData bk x (some d)) := by
  have hr : (d.right : Int) = (d.base : Int) + (d.bytes.length : Int) := by
    simp [Data.right]
  refine ⟨?_, ?_, ?_, ?_⟩
  · unfold cacheOfData
    dsimp only
    by_cases hb : d.bytes = []
    · rw [if_pos hb]; trivial
    · rw [if_neg hb]; exact ⟨by omega, by omega, h64⟩
  · unfold cacheOfData
    dsimp only
    cases hs : d.snap with
    | none => trivial
    | some s =>
      simp only [Option.map_some]
      have hpos : 0 < s.length := List.length_pos_iff.mpr (hsn s hs)
      exact ⟨by omega, by omega, by omega⟩
  · unfold cacheOfData
    dsimp only
    cases hs : d.snap with
    | none => trivial
    | some s =>
      simp only [Option.map_some]
      by_cases hb : d.bytes = []
      · rw [if_pos hb]; trivial
      · rw [if_neg hb]
        dsimp only
        split
        · rfl
        · exact Int.le_refl _
  · intro hl
    rcases hl with hl | hl
    · exact absurd hl (encId_ne_nil hx1)
    · exact absurd hl (encId_ne_q hx2)

/-- **promoted_cache_wf**, the snapshot side condition taken from the history: contents that
    are a copy of history `x` (C16's `Data.Faithful`) of a history whose snapshots are never
    empty. -/
theorem promoted_cache_wf_of_hist (h : Hist UInt8) (bk : Replica.Backend) (x : Replica.Id)
    (d : Data UInt8) (hd : d.Faithful h x) (hx1 : x ≠ "") (hx2 : x ≠ "?")
    (h64 : (d.right : Int) ≤ Psync.maxInt64) (hh : ∀ id o, h.snap id o ≠ []) :
    Psync.CacheWF (cacheOfData bk x (some d)) :=
  promoted_cache_wf bk x d hx1 hx2 h64 (fun s hs => by rw [hd.2 s hs]; exact hh x d.base)

/-- **promoted_cache_holds.** C16's conclusion about one directory (`d.Faithful h x`: the
    stream bytes held are history `x`'s at their offsets) is C06's `Psync.Holds` for history
    `encId x` in any world that agrees with `h`: the log bytes on the range reported are
    `w.hist (encId x)`, the snapshot is filed under `(encId x, base)`. -/
theorem promoted_cache_holds (h : Hist UInt8) (w : Psync.World) (bk : Replica.Backend)
    (x : Replica.Id) (d : Data UInt8) (hd : d.Faithful h x) (hag : Agrees w h) :
    Psync.Holds w (encId x) (cacheOfData bk x (some d)) (cdataOfData x (some d)) := by
  refine ⟨?_, ?_⟩
  · unfold cacheOfData cdataOfData
    dsimp only
    by_cases hb : d.bytes = []
    · rw [if_pos hb]; trivial
    · rw [if_neg hb]
      dsimp only
      intro n hl hn
      rw [if_pos hl]
      have hi : (n - (d.base : Int)).toNat < d.bytes.length := by
        simp only [Data.right] at hn; omega
      rw [List.getD_eq_getElem?_getD, List.getElem?_eq_getElem hi, Option.getD_some,
        faithful_bytes h x d hd _ hi, ← hag x]
      congr 1
      omega
  · unfold cacheOfData cdataOfData
    dsimp only
    cases hs : d.snap with
    | none => trivial
    | some s => exact ⟨rfl, fun _ _ _ => rfl⟩

/-- a promoted follower that holds nothing `Holds` any history (nothing is reported) -/
theorem promoted_cache_holds_none (w : Psync.World) (bk : Replica.Backend) (x : Replica.Id)
    (i : Psync.Id) : Psync.Holds w i (cacheOfData bk x none) (cdataOfData x none) :=
  ⟨trivial, trivial⟩

/-- `Holds` for whatever is (or is not) held under `x`, as `Store.curData` returns it -/
theorem promoted_cache_holds_opt (h : Hist UInt8) (w : Psync.World) (bk : Replica.Backend)
    (x : Replica.Id) (od : Option (Data UInt8)) (hd : ∀ d, od = some d → d.Faithful h x)
    (hag : Agrees w h) :
    Psync.Holds w (encId x) (cacheOfData bk x od) (cdataOfData x od) := by
  cases od with
  | none => exact promoted_cache_holds_none w bk x _
  | some d => exact promoted_cache_holds h w bk x d (hd d rfl) hag

/-- C06's `CacheOK` from `Holds` of the cache's own label, for any source (as C08's
    `reopen_cacheOK`: the cache is labelled `encId x` and holds history `encId x`; whichever
    of the source's ids the label equals, that is the history held). -/
theorem cacheOK_of_holds (w : Psync.World) (src : Psync.Source) (bk : Replica.Backend)
    (x : Replica.Id) (od : Option (Data UInt8))
    (hh : Psync.Holds w (encId x) (cacheOfData bk x od) (cdataOfData x od)) :
    Psync.CacheOK w src (cacheOfData bk x od) (cdataOfData x od) := by
  have hl : (cacheOfData bk x od).runId = encId x := by cases od <;> rfl
  constructor
  · intro e
    have : encId x = src.id1 := hl.symm.trans e
    rw [← this]; exact hh
  · intro e
    have : encId x = src.id2 := hl.symm.trans e
    rw [← this]; exact Or.inl hh

/-- **promoted_cache_ok.** … hence C06's `Psync.CacheOK` against ANY source `src`: a faithful
    copy of history `x`, labelled `x`, is what `syncMeta` may continue from when the source's
    current or previous id is `x` (under any other label `syncMeta` clears it). -/
theorem promoted_cache_ok (h : Hist UInt8) (w : Psync.World) (src : Psync.Source)
    (bk : Replica.Backend) (x : Replica.Id) (d : Data UInt8) (hd : d.Faithful h x)
    (hag : Agrees w h) :
    Psync.CacheOK w src (cacheOfData bk x (some d)) (cdataOfData x (some d)) :=
  cacheOK_of_holds w src bk x (some d) (promoted_cache_holds h w bk x d hd hag)

/-! ### composed with C16's conclusion -/

/-- **promoted_follower_cache_ok** (C16 ∘ bridge → C06's hypotheses). For every backend,
    history `h`, start store `F` and list of steps (sessions against any faithful, changing
    leaders, each cut anywhere; restarts; periods as leader) under the hypotheses of C16's
    `follower_prefix_of_leader_runs`: if the follower is promoted when its current run id is
    the real id `x`, then the cache its own input (`RedisInput.Run`, C06) starts from —
    `cacheOfData bk x G.curData` with contents `cdataOfData x G.curData` — satisfies C06's
    `CacheOK` for every source and every world that agrees with `h`, and C06's `CacheWF`
    under the int64 / non-empty-snapshot side conditions on what is held. -/
theorem promoted_follower_cache_ok (h : Hist UInt8) (bk : Replica.Backend)
    (steps : List (Step UInt8)) (F : Store UInt8)
    (hok : ∀ (pre : List (Step UInt8)) (st : Step UInt8) (post : List (Step UInt8)),
      steps = pre ++ st :: post → st.Ok h (pre.foldl (step bk) F))
    (hwf : WF bk F) (hF : ∀ id, FaithfulAt h F.dirs id)
    (x : Replica.Id) (hcur : (steps.foldl (step bk) F).cur = x) (hx1 : x ≠ "") (hx2 : x ≠ "?") :
    (∀ (w : Psync.World) (src : Psync.Source), Agrees w h →
      Psync.CacheOK w src (cacheOfData bk x (steps.foldl (step bk) F).curData)
        (cdataOfData x (steps.foldl (step bk) F).curData)) ∧
    ((∀ d, (steps.foldl (step bk) F).curData = some d →
        (d.right : Int) ≤ Psync.maxInt64 ∧ ∀ s, d.snap = some s → s ≠ []) →
      Psync.CacheWF (cacheOfData bk x (steps.foldl (step bk) F).curData)) := by
  have hmain := (follower_prefix_of_leader_runs h bk steps F hok hwf hF).1
  generalize steps.foldl (step bk) F = G at hcur hmain
  have hfa : ∀ d, G.curData = some d → d.Faithful h x := by
    intro d hd
    have hm := curData_mem hd
    rw [hcur] at hm
    exact hmain x d hm
  refine ⟨?_, ?_⟩
  · intro w src hag
    exact cacheOK_of_holds w src bk x _ (promoted_cache_holds_opt h w bk x _ hfa hag)
  · intro hside
    cases hd : G.curData with
    | none => exact promoted_cache_wf_none bk x
    | some d => exact promoted_cache_wf bk x d hx1 hx2 (hside d hd).1 (hside d hd).2

/-- **promoted_follower_cache_wf_of_hist.** The `CacheWF` half of
    `promoted_follower_cache_ok` with the snapshot side condition taken from the history
    (its snapshots are never empty) — what the follower holds is a copy of it. -/
theorem promoted_follower_cache_wf_of_hist (h : Hist UInt8) (bk : Replica.Backend)
    (steps : List (Step UInt8)) (F : Store UInt8)
    (hok : ∀ (pre : List (Step UInt8)) (st : Step UInt8) (post : List (Step UInt8)),
      steps = pre ++ st :: post → st.Ok h (pre.foldl (step bk) F))
    (hwf : WF bk F) (hF : ∀ id, FaithfulAt h F.dirs id)
    (x : Replica.Id) (hcur : (steps.foldl (step bk) F).cur = x) (hx1 : x ≠ "") (hx2 : x ≠ "?")
    (hh : ∀ id o, h.snap id o ≠ [])
    (h64 : ∀ d, (steps.foldl (step bk) F).curData = some d → (d.right : Int) ≤ Psync.maxInt64) :
    Psync.CacheWF (cacheOfData bk x (steps.foldl (step bk) F).curData) := by
  apply (promoted_follower_cache_ok h bk steps F hok hwf hF x hcur hx1 hx2).2
  intro d hd
  refine ⟨h64 d hd, fun s hs => ?_⟩
  have hm := curData_mem hd
  rw [hcur] at hm
  have := (follower_prefix_of_leader_runs h bk steps F hok hwf hF).1 x d hm
  rw [this.2 s hs]
  exact hh x d.base

/-- **promoted_follower_first_connection** (C16 ∘ bridge ∘ C06). The promoted follower's
    first connection to ANY well-formed source (`Psync.run`: `syncMeta`, writer, reader), from
    any stored position `sp`: the run never aborts for lack of a writer or reader
    (C06 `delivers_something`), and after the writer stored `k` further bytes the cache is
    again well formed, labelled with the source's current id and holds only bytes of the
    current history (C06 `cache_consistent_after`) — nothing a follower copied from a leader
    under another id survives into the new leader's stream. -/
theorem promoted_follower_first_connection (h : Hist UInt8) (bk : Replica.Backend)
    (steps : List (Step UInt8)) (F : Store UInt8)
    (hok : ∀ (pre : List (Step UInt8)) (st : Step UInt8) (post : List (Step UInt8)),
      steps = pre ++ st :: post → st.Ok h (pre.foldl (step bk) F))
    (hwf : WF bk F) (hF : ∀ id, FaithfulAt h F.dirs id)
    (x : Replica.Id) (hcur : (steps.foldl (step bk) F).cur = x) (hx1 : x ≠ "") (hx2 : x ≠ "?")
    (hside : ∀ d, (steps.foldl (step bk) F).curData = some d →
      (d.right : Int) ≤ Psync.maxInt64 ∧ ∀ s, d.snap = some s → s ≠ [])
    (w : Psync.World) (hag : Agrees w h) (src : Psync.Source) (hs : Psync.SourceWF src)
    (hsrc : Psync.Agree w src) (sp : Psync.SP) (k : Int) (hk : 0 ≤ k)
    (hbound : src.masterOff + k ≤ Psync.maxInt64) :
    let c := cacheOfData bk x (steps.foldl (step bk) F).curData
    let d := cdataOfData x (steps.foldl (step bk) F).curData
    let r := Psync.run w src sp c d
    (r.writer ≠ .err ∧ r.reader ≠ .notExist) ∧
      Psync.CacheWF (Psync.cacheAfter r.mt k) ∧
      Psync.CacheOK w src (Psync.cacheAfter r.mt k) r.data ∧
      (Psync.cacheAfter r.mt k).runId = src.id1 := by
  intro c d r
  have hb := promoted_follower_cache_ok h bk steps F hok hwf hF x hcur hx1 hx2
  have hcw : Psync.CacheWF c := hb.2 hside
  have hco : Psync.CacheOK w src c d := hb.1 w src hag
  exact ⟨C06.delivers_something w src sp c d hs hcw,
    C06.cache_consistent_after w src sp c d hs hcw hco hsrc k hk hbound r rfl⟩

/-! ### non-vacuity: a concrete follower, its C06 description, the hypotheses met -/

section examples

/-- history A: byte at offset o is o, snapshot at o is [1, 2]; any other id: o + 100 -/
def hU : Hist UInt8 where
  byte := fun id o => if id = "idA" then UInt8.ofNat o else UInt8.ofNat (o + 100)
  snap := fun _ _ => [1, 2]

/-- a world of C06 with the same histories -/
def wU : Psync.World :=
  ⟨fun i n => if i = encId "idA" then UInt8.ofNat n.toNat else UInt8.ofNat (n.toNat + 100),
    fun _ _ i => UInt8.ofNat i⟩

/-- a leader serving idA: snapshot at 10, stream bytes 10..14 -/
def lU : Leader UInt8 :=
  ⟨true, true, ["idA"], "idA", some ⟨10, [10, 11, 12, 13, 14], some [1, 2]⟩, true, [], none⟩

/-- a follower holding bytes 9..11 of idA -/
def fU : Store UInt8 := ⟨"idA", [("idA", some ⟨9, [9, 10, 11], none⟩)]⟩
/-- a follower whose position was collected at the leader: it will take the snapshot -/
def fUold : Store UInt8 := ⟨"idA", [("idA", some ⟨2, [2, 3], none⟩)]⟩

/-- one uncut session against `lU` -/
def sU : Step UInt8 := .sess (fun _ => View.const lU, [1, 2], 10, 0, 3)

example : encId "idA" = [105, 100, 65] := by decide +kernel
example : encId "idA" ≠ [] ∧ encId "idA" ≠ Psync.qId :=
  ⟨encId_ne_nil (by decide), encId_ne_q (by decide)⟩

theorem wU_agrees : Agrees wU hU := by
  intro id n
  by_cases hid : id = "idA"
  · subst hid; simp [wU, hU]
  · have : encId id ≠ encId "idA" := fun e => hid (encId_inj e)
    simp [wU, hU, hid, this]

theorem lU_faithful : lU.Faithful hU := by
  intro d hd; cases hd
  exact ⟨⟨by decide, fun s hs => by cases hs; decide⟩, by decide⟩

theorem sU_ok (F : Store UInt8) : ∀ (pre : List (Step UInt8)) (st : Step UInt8)
    (post : List (Step UInt8)), [sU] = pre ++ st :: post → st.Ok hU (pre.foldl (step .disk) F) := by
  intro pre st post he
  cases pre with
  | nil =>
    simp only [List.nil_append, List.cons.injEq] at he
    rw [← he.1]
    exact ⟨fun _ => lU_faithful, by decide⟩
  | cons a t =>
    simp only [List.cons_append, List.cons.injEq] at he
    have := congrArg List.length he.2
    simp at this

theorem fU_wf : WF .disk fU := ⟨Or.inr (by decide), by decide⟩
theorem fU_faithful : ∀ id, FaithfulAt hU fU.dirs id := by
  intro id d hd
  simp only [fU, List.mem_singleton, Prod.mk.injEq, Option.some.injEq] at hd
  obtain ⟨rfl, rfl⟩ := hd
  exact ⟨by decide, fun s hs => by cases hs⟩
theorem fUold_wf : WF .disk fUold := ⟨Or.inr (by decide), by decide⟩
theorem fUold_faithful : ∀ id, FaithfulAt hU fUold.dirs id := by
  intro id d hd
  simp only [fUold, List.mem_singleton, Prod.mk.injEq, Option.some.injEq] at hd
  obtain ⟨rfl, rfl⟩ := hd
  exact ⟨by decide, fun s hs => by cases hs⟩

-- what the follower holds after the session, and the description C06 reasons about
example : ([sU].foldl (step .disk) fU).curData = some ⟨9, [9, 10, 11, 12, 13, 14], none⟩ := by decide +kernel
example : cacheOfData .disk "idA" ([sU].foldl (step .disk) fU).curData =
    ⟨.disk, [105, 100, 65], none, some (9, 15)⟩ := by decide +kernel
-- … after a snapshot transfer: snapshot (10, 2) and the log [10, 15)
example : cacheOfData .disk "idA" ([sU].foldl (step .disk) fUold).curData =
    ⟨.disk, [105, 100, 65], some (10, 2), some (10, 15)⟩ := by decide +kernel
-- … memory backend; a session cut right after the snapshot: snapshot only, no log range
example : cacheOfData .mem "idA" (session .mem lU fUold [] 3 0 3).store.curData =
    ⟨.memory, [105, 100, 65], some (10, 2), none⟩ := by decide +kernel
-- … nothing held (the copy of another id was discarded, the leader had nothing new)
example : cacheOfData .disk "idA" (none : Option (Data UInt8)) = ⟨.disk, [105, 100, 65], none, none⟩ := by
  decide
-- the contents: the byte at absolute offset 12 is history's byte 12; the snapshot's token
example : (cdataOfData "idA" ([sU].foldl (step .disk) fUold).curData).aofByte 12 = 12 ∧
    (cdataOfData "idA" ([sU].foldl (step .disk) fUold).curData).rdbTok = ([105, 100, 65], 10) := by decide +kernel

-- the composed theorem applies: both of C06's hypotheses for the promoted follower, any source
example (src : Psync.Source) :
    Psync.CacheOK wU src (cacheOfData .disk "idA" ([sU].foldl (step .disk) fUold).curData)
        (cdataOfData "idA" ([sU].foldl (step .disk) fUold).curData) ∧
      Psync.CacheWF (cacheOfData .disk "idA" ([sU].foldl (step .disk) fUold).curData) := by
  have hb := promoted_follower_cache_ok hU .disk [sU] fUold (sU_ok fUold) fUold_wf fUold_faithful
    "idA" (by decide) (by decide) (by decide)
  refine ⟨hb.1 wU src wU_agrees, hb.2 ?_⟩
  intro d hd
  have : ([sU].foldl (step .disk) fUold).curData = some ⟨10, [10, 11, 12, 13, 14], some [1, 2]⟩ := by
    decide
  rw [this] at hd
  cases hd
  exact ⟨by decide, fun s hs => by cases hs; decide⟩

/-- a source whose current history is idA (bytes of `encId "idA"`), backlog [5, 31) -/
def srcU : Psync.Source := ⟨[105, 100, 65], [9], 0, true, 5, 26, 30, 4, true⟩

-- C06's theorems instantiated with the bridge: the promoted follower's first connection to a
-- source that still serves idA, the target having consumed up to offset 12, continues the
-- follower's own copy (PSYNC idA 16 granted, writer at 15, reader at 12)
example : Psync.SourceWF srcU := by
  refine ⟨?_, ?_, ?_, ?_, ?_, ?_, ?_, ?_, ?_⟩ <;> decide
example : Psync.Agree wU srcU := by
  intro n h0 hn; simp only [srcU] at hn; omega
example :
    let c := cacheOfData .disk "idA" ([sU].foldl (step .disk) fU).curData
    let d := cdataOfData "idA" ([sU].foldl (step .disk) fU).curData
    (Psync.run wU srcU ⟨[105, 100, 65], 12⟩ c d).writer = .aof 15 ∧
      (Psync.run wU srcU ⟨[105, 100, 65], 12⟩ c d).mt.ps.full = false ∧
      (Psync.run wU srcU ⟨[105, 100, 65], 12⟩ c d).mt.ps.wireOff = 16 ∧
      (Psync.run wU srcU ⟨[105, 100, 65], 12⟩ c d).reader = .aof 12 := by decide +kernel
example :
    let r := Psync.run wU srcU Psync.SP.initial
      (cacheOfData .disk "idA" ([sU].foldl (step .disk) fU).curData)
      (cdataOfData "idA" ([sU].foldl (step .disk) fU).curData)
    (r.writer ≠ .err ∧ r.reader ≠ .notExist) ∧ Psync.CacheWF (Psync.cacheAfter r.mt 7) ∧
      Psync.CacheOK wU srcU (Psync.cacheAfter r.mt 7) r.data ∧
      (Psync.cacheAfter r.mt 7).runId = srcU.id1 := by
  refine promoted_follower_first_connection hU .disk [sU] fU (sU_ok fU) fU_wf fU_faithful
    "idA" (by decide) (by decide) (by decide) ?_ wU wU_agrees srcU
    (by refine ⟨?_, ?_, ?_, ?_, ?_, ?_, ?_, ?_, ?_⟩ <;> decide)
    (by intro n h0 hn; simp only [srcU] at hn; omega) Psync.SP.initial 7 (by decide) (by decide)
  intro d hd
  have : ([sU].foldl (step .disk) fU).curData = some ⟨9, [9, 10, 11, 12, 13, 14], none⟩ := by decide +kernel
  rw [this] at hd
  cases hd
  exact ⟨by decide, fun s hs => by cases hs⟩

end examples

end GunYu.Props.C16
