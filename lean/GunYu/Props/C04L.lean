/-
  C04 — loops driven by UNGUARDED count fields (stream PEL sizes,
  entry num-fields, consumer counts, list / set / hash lengths …).

  The code bounds none of these counts; the loops end because a round that finds
  no bytes fails (an error from the tee'd reader in ReadBuffer, a recovered panic
  of the in-memory reader in ExecCmd). What a theorem can say about that, for
  EVERY round reader that reads at least k ≥ 1 bytes when it succeeds: the rounds
  that complete — and so everything a round appends or inserts — are at most
  |bytes present| / k, whatever the count field holds; and a count that a walk
  accepted was backed by k bytes per unit (where the decoder reads the count with the same width and signedness —
  see `walked_count_is_backed`).

  Instances proved here: the global PEL of a consumer group (25 bytes per round:
  two map insertions per round in ExecCmd, so ≤ 2·|buf|/25 insertions), the
  consumer PEL (16 bytes per round), strings (1 byte per round). For the listpack
  rounds of ExecCmd (`lp.Next()`: entry-num-fields) the hypothesis "a round reads
  at least one byte or panics" is C03's listpack model / the D23 repair, not
  re-proved here.
-/
import GunYu.Props.C04F
import GunYu.Proofs.RdbLoops

namespace GunYu.Props.C04
open GunYu GunYu.RdbFrame GunYu.RdbFrameX

/-- **a count field buys no more rounds than there are bytes** -/
theorem count_loop_linear (k : Nat) (r : Rd Unit) (h : ConsumesK k r) (n : Nat) (xs : Bytes) :
    k * iterations n r xs ≤ xs.length ∧ iterations n r xs ≤ n :=
  ⟨iterations_le_bytes k r h n xs, iterations_le_count r n xs⟩

/-- a count that a walk (`ReadBuffer`) accepted is backed by the bytes: `k · n ≤ |input|`. The value decoder (`ExecCmd`)
    re-reads the same bytes; where it reads the count the same way it runs a loop that was already paid for. That is NOT
    everywhere the case: `numConsumer` is read as 32 bits by ReadBuffer (`ReadLengthP`) and as 64 bits by ExecCmd
    (`ReadLength64P`), and a count ≥ 2^63 makes ReadBuffer's `int(n)` loops run zero times while ExecCmd's `uint64` loops
    run — for those ExecCmd loops only `count_loop_linear` applies (rounds ≤ bytes/k, then the read fails: an error). -/
theorem walked_count_is_backed (k : Nat) (r : Rd Unit) (h : ConsumesK k r) (n : Nat) (xs rest : Bytes)
    (hw : repeatN n r xs = .ok () rest) : k * n ≤ xs.length := by
  have := iterations_le_bytes k r h n xs
  rw [repeatN_ok_iterations r n xs rest hw] at this
  exact this

/-- the global PEL (`pelSize` unguarded, two map insertions per round in `StreamParser.ExecCmd`): at most
    2·|bytes|/25 insertions whatever `pelSize` is -/
theorem pel_loop_linear (pelSize : Nat) (xs : Bytes) :
    25 * (2 * iterations pelSize pelEntry xs) ≤ 2 * xs.length := by
  have := iterations_le_bytes 25 pelEntry pelEntry_consumes pelSize xs
  omega

/-- the consumer PEL (16 bytes per round) -/
theorem consumer_pel_loop_linear (pelSize : Nat) (xs : Bytes) :
    16 * iterations pelSize (skipBytes 16) xs ≤ xs.length :=
  iterations_le_bytes 16 _ (consumesK_skipBytes 16) pelSize xs

/-- every element loop of the walks (list, set, hash, zset, quicklist, stream nodes): one string per round at least -/
theorem string_loop_linear (n : Nat) (xs : Bytes) : iterations n strX xs ≤ xs.length := by
  have := iterations_le_bytes 1 strX (consumesK_of_consumes (strX_good (P := True)).2) n xs
  omega

/-! non-vacuity: a PEL size of 2^62 over 60 bytes completes two rounds; a walk that accepted 2 rounds had 50 bytes -/
example : iterations (2 ^ 62) pelEntry (List.replicate 60 0) = 2 := by decide +kernel
example : iterations 3 pelEntry (List.replicate 60 0) = 2 := by decide +kernel
example : repeatN 2 pelEntry (List.replicate 60 0) = .ok () (List.replicate 10 0) := by rfl
example : 25 * 2 ≤ (List.replicate 60 (0 : UInt8)).length :=
  walked_count_is_backed 25 pelEntry pelEntry_consumes 2 _ (List.replicate 10 0) (by rfl)

end GunYu.Props.C04
