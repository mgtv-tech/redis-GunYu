/-
  C05, several run-id directories — the bounded-progress theorems of Props/C05Reach.lean
  for the CURRENT index of a store holding several directories (`DiskD`): the reader of
  the current id reaches its writer's end over any schedule, the other directories are
  not touched by the schedule.
-/
import GunYu.Props.C05Reach
import GunYu.Props.C05Dirs

namespace GunYu.Props.C05
open GunYu GunYu.Store

/-- a quiet operation of the schedule, issued on a store with several directories, is the
    same operation on the current index; no other directory changes -/
theorem diskd_quiet_step_is_cur_step (x : DiskD) (rid : Nat) (o : DOp) (hq : quiet rid o = true) :
    (x.step (.base o)).1 = { x with cur := (x.cur.step o).1 } := by
  rw [step_base x (fun id e => by rw [e] at hq; cases hq) (fun e => by rw [e] at hq; cases hq)]

/-- **diskd_reader_lag_bounded.** `disk_reader_lag_bounded` in every state reachable with
    several run-id directories (switches to existing directories, deletes of foreign ids,
    `VerifyRunId`, restarts before): the reader of the current id obeys the counted bound
    over any schedule. -/
theorem diskd_reader_lag_bounded (l m : Nat) (ops : List XOp) (hwf : (DiskD.init l m).wf ops) (rid : Nat)
    (sch : List PMove) :
    let s := ((DiskD.init l m).run ops).cur
    ∀ r, Follows s rid r → s.schedOk rid sch →
      ∃ r', Follows (s.sched rid sch) rid r' ∧ r'.start = r.start ∧ r.pos ≤ r'.pos ∧
        (s.sched rid sch).endOff - r'.pos ≤ lagBound (s.endOff - r.pos) sch ∧
        r'.pos ≤ (s.sched rid sch).endOff ∧
        r'.out = ((s.sched rid sch).hist.drop (r'.start - (s.sched rid sch).hbase)).take (r'.pos - r'.start) := by
  intro s r hF hok
  obtain ⟨r', h1, h2, h3, h4, h5, _, _, h8⟩ := disk_reach_core (diskd_invariant l m ops hwf).cur rid sch r hF hok
  exact ⟨r', h1, h2, h3, h4, h5, h8⟩

/-- **diskd_reader_reaches_end.** … and with no append in the schedule and enough own moves
    it stands at the writer's end of the current id, having delivered everything. -/
theorem diskd_reader_reaches_end (l m : Nat) (ops : List XOp) (hwf : (DiskD.init l m).wf ops) (rid : Nat)
    (sch : List PMove) :
    let s := ((DiskD.init l m).run ops).cur
    ∀ r, Follows s rid r → s.schedOk rid sch → noAppend sch = true → s.endOff - r.pos ≤ ownMoves sch →
      ∃ r', Follows (s.sched rid sch) rid r' ∧ r'.start = r.start ∧
        r'.pos = (s.sched rid sch).endOff ∧
        r'.out = (s.sched rid sch).hist.drop (r'.start - (s.sched rid sch).hbase) := by
  intro s r hF hok hna hk
  exact disk_reach_end_core (diskd_invariant l m ops hwf).cur rid sch r hF hok hna hk

/-! ### non-vacuity: directory "a" parked by a restart, the reader follows the writer of "b" -/

def exReachDOps : List XOp :=
  [ .setRunId "a", .base (.newAofWriter 100), .base (.aofAppend [1,2,3]), .base .aofClose, .restart,
    .setRunId "b", .base (.newAofWriter 500), .base (.aofAppend [51,52,53,54,55,56,57,58,59]),
    .base (.aofAppend [60,61]), .base (.openReader 0 502 true) ]

example : (DiskD.init 24 10).wf exReachDOps := by decide +kernel
example : ((DiskD.init 24 10).run exReachDOps).dirs.map (·.1) = ["a"] := by decide +kernel
example : ((DiskD.init 24 10).run exReachDOps).cur.schedOk 0 [.other .gc, .followGc 4, .follow 100, .other .gc, .follow 100] := by
  decide +kernel
example : (findReader (((DiskD.init 24 10).run exReachDOps).cur.sched 0
      [.other .gc, .followGc 4, .follow 100, .other .gc, .follow 100]).readers 0).map (fun r => (r.pos, r.out)) =
    some (511, [53,54,55,56,57,58,59,60,61]) := by decide +kernel

end GunYu.Props.C05
