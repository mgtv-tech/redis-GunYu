/-
  C01 — Incremental replay applies every source write once, in order, in the
  right database (uninterrupted run, healthy target).

  Layers (model files Sender.lean / Target.lean, tied to the Go code by the
  correspondence harness under virtual time):
    parser  `parseStep`/`parseAll` : decoded source commands → items
    sender  `run`                  : items × ticks (ANY schedule) → batches
    target  `applyLog`             : batches → executed commands with their DB
-/
import GunYu.Proofs.SenderRun
import GunYu.Proofs.TargetSeq
import GunYu.Proofs.Parser
import GunYu.Proofs.EndToEnd
import GunYu.Proofs.Restart
import GunYu.Proofs.Nested

namespace GunYu.Props.C01
open GunYu GunYu.Sender GunYu.Target

/-! ### Sender: nothing dropped, duplicated, reordered, altered or invented -/

/-- For every configuration (batch limits, transactional or ticker mode,
    resumable or not) and EVERY schedule (any interleaving of items with batch,
    keep-alive and checkpoint ticks), the data commands put on the wire followed
    by those still queued are exactly the forwarded stream `fwd` — the items in
    order minus keep-alives and transaction brackets. -/
theorem forwarded_exact (c : SCfg) (evs : List Ev) :
    dataOut (run c initS evs).2 ++ qd (run c initS evs).1 = fwd .no evs := by
  have h := run_data c initS evs
  simpa [qd, initS] using h

/-- what is on the wire is always a prefix of the forwarded stream -/
theorem wire_prefix (c : SCfg) (evs : List Ev) :
    dataOut (run c initS evs).2 <+: fwd .no evs :=
  ⟨_, forwarded_exact c evs⟩

/-- events with no `done` among them -/
def NoDone (evs : List Ev) : Prop := ∀ e ∈ evs, e ≠ .done

theorem run_append_done (c : SCfg) (s : SState) (evs : List Ev) (hnd : NoDone evs) :
    run c s (evs ++ [.done]) =
      ((step c (run c s evs).1 .done).1, (run c s evs).2 ++ (step c (run c s evs).1 .done).2) := by
  induction evs generalizing s with
  | nil => simp [run]
  | cons ev rest ih =>
    have hne : ev ≠ .done := hnd ev (List.mem_cons_self ..)
    have hrest : NoDone rest := fun e he => hnd e (List.mem_cons_of_mem _ he)
    simp only [List.cons_append, run, hne, ↓reduceIte]
    rw [ih _ hrest]
    simp [List.append_assoc]

theorem inTxn_false_plain (c : SCfg) (hc : c.txnMode = false) (s : SState) (hs : s.inTxn = false)
    (ev : Ev) : (step c s ev).1.inTxn = false := by
  have tl : ∀ (s : SState) tb up out, s.inTxn = false → (tail c s tb up out).1.inTxn = false := by
    intro s tb up out h
    rw [tail_eq]
    split
    · rfl
    · exact h
  by_cases hev : ∃ it, ev = .item it
  · obtain ⟨it, rfl⟩ := hev
    simp only [step]
    split
    · exact hs
    · unfold stepItem; simp only [hc, Bool.false_eq_true, ↓reduceIte]
      unfold stepItemPlain
      split
      · exact hs
      · split <;> exact tl _ _ _ _ hs
  · rcases step_tick c s ev (fun it h => hev ⟨it, h⟩) with ⟨_, _, -, h⟩ | ⟨-, h⟩ <;> rw [h] <;>
      exact tl _ _ _ _ hs

theorem run_inTxn_false_plain (c : SCfg) (hc : c.txnMode = false) (s : SState) (hs : s.inTxn = false)
    (evs : List Ev) : (run c s evs).1.inTxn = false := by
  induction evs generalizing s with
  | nil => exact hs
  | cons ev rest ih =>
    simp only [run]
    split
    · exact inTxn_false_plain c hc s hs ev
    · exact ih _ (inTxn_false_plain c hc s hs ev)

theorem done_queue_nil (c : SCfg) (hc : c.txnMode = false) (evs : List Ev) (hnd : NoDone evs) :
    (run c initS (evs ++ [.done])).1.queue = [] := by
  rw [run_append_done c initS evs hnd]
  simp only [step]
  have hin := run_inTxn_false_plain c hc initS rfl evs
  simp only [hin, hc, Bool.not_false, Bool.and_self, ↓reduceIte]
  exact tail_forced_queue_nil _ _ _ _ _ rfl

/-- In ticker (non-transactional) mode the end of a run flushes everything:
    after `done` the wire carries the WHOLE forwarded stream — nothing dropped. -/
theorem done_flushes_all (c : SCfg) (hc : c.txnMode = false) (evs : List Ev) (hnd : NoDone evs) :
    dataOut (run c initS (evs ++ [.done])).2 = fwd .no (evs ++ [.done]) := by
  have h := forwarded_exact c (evs ++ [.done])
  simpa [qd, done_queue_nil c hc evs hnd] using h

/-! ### The forwarded stream is the item stream minus the documented removals -/

def isBracketOrPing (n : Bytes) : Bool := n == bPing || n == bMulti || n == bExec

/-- transactions are not nested (Redis never propagates a MULTI inside a
    MULTI); `inT` = currently between MULTI and EXEC -/
def NoNested : Bool → List Ev → Prop
  | _, [] => True
  | inT, .item it :: rest =>
    if it.cmd = bMulti then inT = false ∧ NoNested true rest
    else if it.cmd = bExec then NoNested false rest
    else NoNested inT rest
  | inT, _ :: rest => NoNested inT rest

def plainItems : List Ev → List Cmd
  | [] => []
  | .item it :: rest =>
    (if isBracketOrPing it.cmd then [] else [(it.cmd, it.args)]) ++ plainItems rest
  | _ :: rest => plainItems rest

theorem noNested_item {b : Bool} {it : Item} {rest : List Ev} (h : NoNested b (.item it :: rest)) :
    (it.cmd = bMulti → b = false) ∧
    NoNested (if it.cmd = bMulti then true else if it.cmd = bExec then false else b) rest := by
  by_cases hm : it.cmd = bMulti <;> by_cases he : it.cmd = bExec <;> simp_all [NoNested]

/-- For well-bracketed streams the forwarded stream is exactly: every item that
    is not a keep-alive or a transaction bracket (database switches ARE
    forwarded — as `select <mapped db>` items built by the parser), in order. -/
theorem fwd_eq_plainItems (t : Txn) (evs : List Ev) (hnd : NoDone evs) (hnn : NoNested (inT t) evs) :
    fwd t evs = plainItems evs := by
  induction evs generalizing t with
  | nil => rfl
  | cons ev rest ih =>
    have hne : ev ≠ .done := hnd ev (List.mem_cons_self ..)
    have hrest : NoDone rest := fun e he => hnd e (List.mem_cons_of_mem _ he)
    cases ev with
    | item it =>
      obtain ⟨hm, hnn'⟩ := noNested_item hnn
      simp only [fwd, fwd1, plainItems, reduceCtorEq, ↓reduceIte, isBracketOrPing]
      by_cases hp : it.cmd = bPing
      · have h1 : bPing ≠ bMulti := by decide
        have h2 : bPing ≠ bExec := by decide
        simp only [hp, h1, h2, ↓reduceIte] at hnn'
        simpa [hp] using ih t hrest hnn'
      · rw [← inT_txnStatus] at hnn'
        simp only [hp, ↓reduceIte, forwards_txnStatus _ _ hm, ih _ hrest hnn']
        simp [hp, ← not_or, ite_not]
    | done => exact absurd rfl hne
    | _ => exact ih t hrest hnn

/-! ### Target: executed in wire order, each command in the database chosen by
    the latest forwarded database switch -/

/-- For every schedule, after the target has executed everything the run sent
    (from a state with no open MULTI): no MULTI is open; the executed data
    commands are `seqApplied` of the forwarded prefix on the wire — i.e. wire
    order, each tagged with the DB selected by the latest forwarded `select`. -/
theorem executed_in_order (c : SCfg) (evs : List Ev) (t : TState) (hq : t.queued = none) :
    let out := (run c initS evs).2
    (applyLog t out.flatten).queued = none ∧
    (applyLog t out.flatten).applied = t.applied ++ (seqApplied t.cur (dataOut out)).2 :=
  let h := applyLog_out (run c initS evs).2 (run_wf c initS evs) t hq
  ⟨h.1, h.2.2⟩

/-! ### Parser: which source commands become items (decision logic) -/

/-- a source `SELECT n` to an unfiltered database puts the parser in the MAPPED
    database and forwards `select <mapped>` exactly when the mapped database
    changes -/
theorem select_maps_db (c : PCfg) (s : PState) (a : Bytes) (n : Int) (off : Int)
    (ha : atoi? a = some n) (hn : 0 ≤ n) (hdb : c.filterDb n = false)
    (hk : (c.filterCmdKey bSelect [a]).isSome) :
    (parseStep c s { cmd := bSelect, args := [a], off := off }).1.currentDB = mapDb c n ∧
    (parseStep c s { cmd := bSelect, args := [a], off := off }).1.bypass = false ∧
    (parseStep c s { cmd := bSelect, args := [a], off := off }).2 =
        (if mapDb c n ≠ s.currentDB then POut.emit (selectItem (mapDb c n) off) else POut.skip) :=
  parseStep_select c s a n off ha hn hdb hk

/-- the forwarded `select` item selects exactly that database on the target -/
theorem forwarded_select_selects (cur db : Int) (off : Int) :
    selArg cur (selectItem db off).args = db := selArg_selectItem cur db off

theorem select_filtered_db_bypasses (c : PCfg) (s : PState) (a : Bytes) (n : Int) (off : Int)
    (ha : atoi? a = some n) (hdb : c.filterDb n = true) :
    parseStep c s { cmd := bSelect, args := [a], off := off } =
      ({ s with bypass := true }, POut.skip) :=
  parseStep_select_filtered c s a n off ha hdb

/-- an ordinary command is forwarded iff not blacklisted, not the sentinel
    hello, its keys pass, and it is not inside a filtered database -- except the
    transaction brackets (`passBracket`): a `MULTI` that opens and an `EXEC` that
    closes a transaction are handed over even there (so that the sender's
    transaction state follows the source and a transaction that leaves or enters
    the filtered database stays one block), carrying the offset of the last
    forwarded item (so that a checkpoint never moves into the filtered region).
    Forwarded = same name, exactly the filtered arguments, its END offset, the
    parser's current database. -/
theorem data_command_forwarded_iff (c : PCfg) (s : PState) (r : Raw)
    (hp : r.cmd ≠ bPing) (hs : r.cmd ≠ bSelect) :
    parseStep c s r =
      if c.filterCmd r.cmd then (s, POut.skip)
      else if r.cmd = bPublish ∧ (r.args.head?.map lower) = some bSentinelHello then (s, POut.skip)
      else if s.bypass ∧ passBracket s r.cmd = false then (s, POut.skip)
      else match c.filterCmdKey r.cmd r.args with
        | none => (s, POut.skip)
        | some a =>
          (sent s r.cmd (if passBracket s r.cmd then s.lastSent else r.off),
           POut.emit { cmd := r.cmd, args := a,
                       offset := (if passBracket s r.cmd then s.lastSent else r.off), db := s.currentDB }) :=
  parseStep_data c s r hp hs

/-- `passBracket` holds only inside a filtered database, only for a `MULTI` while
    no forwarded transaction is open or an `EXEC` while one is -/
theorem passBracket_iff (s : PState) (cmd : Bytes) :
    passBracket s cmd = true ↔
      s.bypass = true ∧ ((cmd = bMulti ∧ s.txnOpen = false) ∨ (cmd = bExec ∧ s.txnOpen = true)) := by
  simp [passBracket]

/-- inside a filtered database nothing but such a bracket is handed over, and it
    carries the offset of the last forwarded item -/
theorem bypass_forwards_only_brackets (c : PCfg) (s : PState) (r : Raw) (i : Item)
    (hb : s.bypass = true) (hs : r.cmd ≠ bSelect)
    (h : (parseStep c s r).2 = POut.emit i) :
    ((i.cmd = bMulti ∧ s.txnOpen = false) ∨ (i.cmd = bExec ∧ s.txnOpen = true)) ∧
    i.offset = s.lastSent := by
  -- inside a filtered database only `passBracket` lets a command through
  have hpb : passBracket s r.cmd = true := by
    by_cases hp : r.cmd = bPing
    · unfold parseStep at h
      simp only [hp, ↓reduceIte, hb] at h
      cases hf : c.filterCmdKey bPing r.args <;> simp [hf] at h
    · rw [parseStep_data c s r hp hs] at h
      cases hpb : passBracket s r.cmd
      · simp only [hpb, hb, and_self, ↓reduceIte] at h
        split at h
        · cases h
        · split at h <;> cases h
      · rfl
  rcases parseStep_cases c s r with ⟨b, h'⟩ | h' | ⟨x, n, hsel, -⟩ | ⟨a, b, off, -, hoff, h'⟩
  · rw [h'] at h; cases h
  · rw [h'] at h; cases h
  · exact absurd hsel hs
  · rw [h'] at h
    cases h
    rcases hoff with ⟨hf, -⟩ | ⟨-, rfl, -⟩
    · rw [hpb] at hf; cases hf
    · exact ⟨((passBracket_iff s r.cmd).1 hpb).2, rfl⟩

/-- the parser never reorders or runs ahead: the offsets it emits never
    decrease and never exceed what it has consumed; each is the END offset of
    the source command, or (a bracket inside a filtered database only) of the last item before it -/
theorem parser_keeps_order (c : PCfg) (raws : List Raw) (s : PState)
    (hraw : (raws.map (·.off)).Pairwise (· < ·)) (hlo : ∀ r ∈ raws, s.lastSent ≤ r.off) :
    ((parseAll c s raws).map (·.offset)).Pairwise (· ≤ ·) ∧
    ∀ i ∈ parseAll c s raws, s.lastSent ≤ i.offset :=
  parseAll_offsets_mono c raws s hraw hlo

/-- **The parser's database tag is the connection's database.** Whatever the
    stream and configuration, every item the parser hands over (other than a
    forwarded `select`) is tagged with the database the target connection is in
    when that item executes, or with −1 (a fresh / resumed parser that has not
    read a SELECT yet): eliding a `select` whose mapped database equals
    `currentDB` is therefore sound. -/
theorem parser_db_is_conn_db (c : PCfg) (raws : List Raw) (s : PState) (cur : Int)
    (hinv : s.currentDB = cur ∨ s.currentDB = -1)
    (hsel : ∀ r ∈ raws, r.cmd = bSelect → ∀ a n, r.args = [a] → atoi? a = some n → 0 ≤ n)
    (pre post : List Item) (i : Item)
    (h : parseAll c s raws = pre ++ i :: post) (hs : i.cmd ≠ bSelect) :
    i.db = -1 ∨ i.db = (seqApplied cur (itemCmds pre)).1 :=
  Sender.parser_db_is_conn_db c raws s cur hinv hsel pre post i h hs

/-! ### End to end: refinement to the one-pass specification `specStream` -/

theorem plainItems_eq_itemCmds (evs : List Ev) : plainItems evs = itemCmds (itemsOf evs) := by
  induction evs with
  | nil => rfl
  | cons ev rest ih =>
    cases ev with
    | item it =>
      simp only [plainItems, itemsOf, itemCmds, List.filterMap_cons, isBracketOrPing,
        itemCmds.isBracketOrPingB] at ih ⊢
      by_cases hb : (it.cmd == bPing || it.cmd == bMulti || it.cmd == bExec) = true
      · simp only [hb, ↓reduceIte, List.nil_append]; exact ih
      · simp only [hb, Bool.false_eq_true, ↓reduceIte, List.singleton_append]; rw [ih]
    | _ => exact ih

theorem fwd_append_done (t : Txn) (evs : List Ev) (hnd : NoDone evs) :
    fwd t (evs ++ [.done]) = fwd t evs := by
  induction evs generalizing t with
  | nil => simp [fwd, fwd1]
  | cons ev rest ih =>
    have hne : ev ≠ .done := hnd ev (List.mem_cons_self ..)
    have hrest : NoDone rest := fun e he => hnd e (List.mem_cons_of_mem _ he)
    simp only [List.cons_append, fwd, hne, ↓reduceIte]
    rw [ih _ hrest]

/-- **End to end, ticker mode, uninterrupted run.** Take any decoded source
    stream `raws` (select arguments ≥ 0, mapped DBs real), any filter/mapping
    configuration `pc`, any batching configuration `sc` in ticker mode, and ANY
    schedule `evs` (arbitrary interleaving of batch / keep-alive / checkpoint
    ticks) whose items are what the parser emits for `raws`, closed by `done`.
    Then what the target has executed afterwards is EXACTLY the specification
    `specStream`: the source stream with only the documented removals, in order,
    nothing dropped, duplicated, altered or invented, each command in the DB
    designated by the latest database switch after mapping. -/
theorem end_to_end_ticker (pc : PCfg) (sc : SCfg) (hsc : sc.txnMode = false)
    (raws : List Raw) (evs : List Ev)
    (start : Int) (hitems : itemsOf evs = parseAll pc { lastSent := start } raws)
    (hnd : NoDone evs) (hnn : NoNested (inT .no) evs)
    (hsel : ∀ r ∈ raws, r.cmd = bSelect → ∀ a n, r.args = [a] → atoi? a = some n → 0 ≤ n)
    (hmap : ∀ n : Int, 0 ≤ n → mapDb pc n ≠ -1)
    (t : TState) (hq : t.queued = none) :
    (applyLog t (run sc initS (evs ++ [.done])).2.flatten).applied =
      t.applied ++ specStream pc false t.cur raws := by
  have h1 := (executed_in_order sc (evs ++ [.done]) t hq).2
  rw [h1, done_flushes_all sc hsc evs hnd, fwd_append_done _ _ hnd,
    fwd_eq_plainItems .no evs hnd hnn, plainItems_eq_itemCmds, hitems,
    parser_refines_spec pc raws { lastSent := start } t.cur (Or.inr rfl) hsel hmap]

/-- **End to end, any mode, any moment.** In every mode and after every
    schedule (not necessarily finished) what the target has executed is a PREFIX
    of the specification: nothing beyond it, nothing out of order, every command
    in its designated DB; the rest is still queued or not yet received. -/
theorem executed_prefix_of_spec (pc : PCfg) (sc : SCfg) (raws : List Raw) (evs : List Ev)
    (start : Int) (hitems : itemsOf evs = parseAll pc { lastSent := start } raws)
    (hnd : NoDone evs) (hnn : NoNested (inT .no) evs)
    (hsel : ∀ r ∈ raws, r.cmd = bSelect → ∀ a n, r.args = [a] → atoi? a = some n → 0 ≤ n)
    (hmap : ∀ n : Int, 0 ≤ n → mapDb pc n ≠ -1)
    (t : TState) (hq : t.queued = none) :
    ∃ rest, t.applied ++ specStream pc false t.cur raws =
      (applyLog t (run sc initS evs).2.flatten).applied ++ rest := by
  have h1 := (executed_in_order sc evs t hq).2
  obtain ⟨pend, hp⟩ := wire_prefix sc evs
  rw [h1, ← parser_refines_spec pc raws { lastSent := start } t.cur (Or.inr rfl) hsel hmap, ← hitems,
    ← plainItems_eq_itemCmds, ← fwd_eq_plainItems .no evs hnd hnn, ← hp, seqApplied_append]
  exact ⟨(seqApplied (seqApplied t.cur (dataOut (run sc initS evs).2)).1 pend).2,
    by simp [List.append_assoc]⟩

/-! Non-vacuity -/
def exCfg : SCfg := { txnMode := false, resume := true, batchCount := 2, batchBytes := 1000 }
def exSet (k : UInt8) (off : Int) : Ev :=
  .item { cmd := [115,101,116], args := [[k],[118]], offset := off, db := 1 }
def exEvs : List Ev :=
  [ .item (selectItem 1 23), exSet 97 50, .item { cmd := bPing, args := [], offset := 64, db := 1 },
    .item { cmd := bMulti, args := [], offset := 79, db := 1 }, exSet 98 106,
    .item { cmd := bExec, args := [], offset := 120, db := 1 }, .keepaliveTick, exSet 99 147 ]

example : NoDone exEvs := by unfold NoDone; decide +kernel
example : NoNested (inT .no) exEvs := by
  simp [exEvs, exSet, NoNested, inT, selectItem, bSelect, bMulti, bExec, bPing]
example : (seqApplied 0 (dataOut (run exCfg initS (exEvs ++ [.done])).2)).2 =
    [ { db := 1, name := [115,101,116], args := [[97],[118]] },
      { db := 1, name := [115,101,116], args := [[98],[118]] },
      { db := 1, name := [115,101,116], args := [[99],[118]] } ] := by decide +kernel

/-! ### The same with hypotheses on the SOURCE stream only -/

theorem noNested_of_items (b : Bool) (evs : List Ev) (h : ItemsNoNested b (itemsOf evs)) :
    NoNested b evs := by
  induction evs generalizing b with
  | nil => trivial
  | cons ev rest ih =>
    cases ev with
    | item it =>
      simp only [itemsOf, ItemsNoNested] at h
      simp only [NoNested]
      split
      · rename_i hm; rw [if_pos hm] at h; exact ⟨h.1, ih _ h.2⟩
      · rename_i hm
        rw [if_neg hm] at h
        split
        · rename_i he; rw [if_pos he] at h; exact ih _ h
        · rename_i he; rw [if_neg he] at h; exact ih _ h
    | _ => exact ih _ h

/-- **End to end, hypotheses on the source only.** For any decoded source stream
    whose SELECT arguments are non-negative and whose MULTI/EXEC are not nested
    (what Redis propagates) and not removed by the user's command/key filters,
    any filter / mapping configuration with real mapped databases, ticker mode,
    and ANY schedule of ticks around the parser's output closed by `done`: the
    target has executed exactly `specStream`. -/
theorem end_to_end_ticker_src (pc : PCfg) (sc : SCfg) (hsc : sc.txnMode = false)
    (raws : List Raw) (evs : List Ev)
    (start : Int) (hitems : itemsOf evs = parseAll pc { lastSent := start } raws)
    (hnd : NoDone evs)
    (hsel : ∀ r ∈ raws, r.cmd = bSelect → ∀ a n, r.args = [a] → atoi? a = some n → 0 ≤ n)
    (hmap : ∀ n : Int, 0 ≤ n → mapDb pc n ≠ -1)
    (hraw : RawNoNested false raws)
    (hpass : ∀ r ∈ raws, (r.cmd = bMulti ∨ r.cmd = bExec) →
      pc.filterCmd r.cmd = false ∧ (pc.filterCmdKey r.cmd r.args).isSome)
    (t : TState) (hq : t.queued = none) :
    (applyLog t (run sc initS (evs ++ [.done])).2.flatten).applied =
      t.applied ++ specStream pc false t.cur raws :=
  end_to_end_ticker pc sc hsc raws evs start hitems hnd
    (noNested_of_items _ evs (by
      rw [hitems]; exact parseAll_noNested pc raws { lastSent := start } false rfl hraw hpass))
    hsel hmap t hq

/-- the prefix version for every mode and every moment, hypotheses on the source only -/
theorem executed_prefix_of_spec_src (pc : PCfg) (sc : SCfg) (raws : List Raw) (evs : List Ev)
    (start : Int) (hitems : itemsOf evs = parseAll pc { lastSent := start } raws)
    (hnd : NoDone evs)
    (hsel : ∀ r ∈ raws, r.cmd = bSelect → ∀ a n, r.args = [a] → atoi? a = some n → 0 ≤ n)
    (hmap : ∀ n : Int, 0 ≤ n → mapDb pc n ≠ -1)
    (hraw : RawNoNested false raws)
    (hpass : ∀ r ∈ raws, (r.cmd = bMulti ∨ r.cmd = bExec) →
      pc.filterCmd r.cmd = false ∧ (pc.filterCmdKey r.cmd r.args).isSome)
    (t : TState) (hq : t.queued = none) :
    ∃ rest, t.applied ++ specStream pc false t.cur raws =
      (applyLog t (run sc initS evs).2.flatten).applied ++ rest :=
  executed_prefix_of_spec pc sc raws evs start hitems hnd
    (noNested_of_items _ evs (by
      rw [hitems]; exact parseAll_noNested pc raws { lastSent := start } false rfl hraw hpass))
    hsel hmap t hq

/-! Non-vacuity of the end-to-end theorem: db 1 filtered, db 2 mapped to 5,
    `flushall` blacklisted, keys starting with 'x' rejected -/
def e2ePc : PCfg :=
  { filterDb := fun d => d == 1,
    filterCmd := fun c => c == [102,108,117,115,104,97,108,108],
    filterCmdKey := fun _ a => match a with
      | (120 :: _) :: _ => none
      | _ => some a,
    targetDb := -1, dbMap := [(2, 5)], startDbId := -1 }
def e2eRaws : List Raw :=
  [ { cmd := bSelect, args := [[50]], off := 23 },                       -- SELECT 2  (→ 5)
    { cmd := [115,101,116], args := [[97],[49]], off := 50 },             -- set a 1
    { cmd := bPing, args := [], off := 64 },
    { cmd := bMulti, args := [], off := 79 },
    { cmd := [115,101,116], args := [[120],[50]], off := 106 },           -- set x 2  (key rejected)
    { cmd := [100,101,108], args := [[98]], off := 128 },                 -- del b
    { cmd := bExec, args := [], off := 142 },
    { cmd := bSelect, args := [[49]], off := 165 },                       -- SELECT 1  (filtered)
    { cmd := [115,101,116], args := [[99],[51]], off := 192 },            -- set c 3  (bypassed)
    { cmd := bSelect, args := [[48]], off := 215 },                       -- SELECT 0
    { cmd := [102,108,117,115,104,97,108,108], args := [], off := 236 },  -- flushall (blacklisted)
    { cmd := [115,101,116], args := [[100],[52]], off := 263 } ]          -- set d 4
def e2eEvs : List Ev :=
  (parseAll e2ePc {} e2eRaws).flatMap (fun i => [Ev.item i, Ev.batchTick])

example : specStream e2ePc false 0 e2eRaws =
    [ { db := 5, name := [115,101,116], args := [[97],[49]] },
      { db := 5, name := [100,101,108], args := [[98]] },
      { db := 0, name := [115,101,116], args := [[100],[52]] } ] := by decide +kernel
example : itemsOf e2eEvs = parseAll e2ePc {} e2eRaws := by decide +kernel
example : RawNoNested false e2eRaws := by
  simp [RawNoNested, e2eRaws, bSelect, bMulti, bExec, bPing]
example : (applyLog {} (run exCfg initS (e2eEvs ++ [.done])).2.flatten).applied =
    specStream e2ePc false 0 e2eRaws := by decide +kernel

end GunYu.Props.C01
