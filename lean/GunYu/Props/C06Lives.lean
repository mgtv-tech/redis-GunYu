/-
  C06 — the coupling with the sender's target over ANY number of lives and (re)connections.

  `afterSend_coupled` (Props/C06Send.lean) keeps `Coupled` - C06's stored offset IS the sender's unique
  largest record, and C06 calls exactly that offset the truth - across ONE resumed life of the sender on
  one attempt's log. `Lives6` is everything the retry loop and the sender do between and during such
  lives while the source goes on granting continuations:

    * `life`       an attempt of the loop hands over the log from the stored offset; the sender runs one
                   resumed life on the stream decoded from there and dies after ANY wire prefix
                   (`afterSend_coupled`'s hypotheses, any configuration / schedule)
    * `reconnect`  the sender's connection to the target is a new one (database 0 selected)
    * `quiet`      an attempt that ends before `Send` and was NOT answered FULLRESYNC, at any stage
                   (with or without ErrCorrupted): the position and the target's data are untouched
    * `gc`, `same` a collector pass; the source moves on under the same ids
    * `snapshot`   a snapshot (after FULLRESYNC, or the cached one) is handed over and its replay completes:
                   the sender's target is whatever the replay leaves, holding `(id, left)` as its unique largest
                   record (premise: `sendRdb` / C03/C04), and the stretch of continuations starts again

  `lives6_coupled`: in every such state the loop's state is a `Loop` state, the coupling holds AND the
  target's applied list is `base ++ A`: what it was when the last snapshot completed, then life after life the
  commands up to the position stored plus the overshoot - by induction over the sequence.
-/
import GunYu.Props.C06Send
import GunYu.Props.C06Att

namespace GunYu.Props.C06
open GunYu GunYu.Psync
open GunYu.Sender GunYu.Target GunYu.Props.C02

/-- an attempt that does not reach `Send` and is not answered FULLRESYNC keeps the stored offset -/
theorem offset_unchanged_before_send (resume : Bool) (w : World) (σ : Sys) (st : Stage) (h : st.reachedSend = false)
    (hnf : (syncMeta σ.s σ.t.stored σ.c).ps.full = false) :
    (attempt resume w σ st).t.stored.offset = σ.t.stored.offset := by
  have hm := run_mt w σ.s σ.t.stored σ.c σ.d
  cases st with
  | early => rfl
  | cleared => simp only [attempt]; split <;> rfl
  | relabelled => rfl
  | reset => simp only [attempt, hnf, Bool.false_eq_true, if_false]
  | metaDone => simp only [attempt, afterMeta_cont resume σ.t hnf]
  | written k => simp only [attempt, hm, afterMeta_cont resume σ.t hnf]
  | delivered d e k => simp [Stage.reachedSend] at h

/-- every state of the loop together with a sender's target: `base` is the target's applied list when the
    current stretch of continuations began (at `start`, or when the last snapshot replay completed), `A` what
    the lives since then added to it -/
inductive Lives6 (w : World) : List Applied → Sys → TState → Int → List Applied → Prop
  | start (σ : Sys) (T : TState) (d : Int) : Loop w σ → Coupled σ.t T d → Lives6 w T.applied σ T d []
  | reconnect (base : List Applied) (σ : Sys) (T : TState) (d : Int) (A : List Applied) :
      Lives6 w base σ T d A → Lives6 w base σ { T with cur := 0 } d A
  | quiet (base : List Applied) (σ : Sys) (T : TState) (d : Int) (A : List Applied) (resume : Bool) (st : Stage) (corrupted : Bool) :
      Lives6 w base σ T d A →
      st.fits σ.s → st.reachedSend = false → (syncMeta σ.s σ.t.stored σ.c).ps.full = false →
      Lives6 w base (if corrupted then (attempt resume w σ st).corrupted else attempt resume w σ st) T d A
  | gc (base : List Applied) (σ : Sys) (T : TState) (d : Int) (A : List Applied) (c' : Cache) :
      Lives6 w base σ T d A → Collected σ.c c' → Lives6 w base ⟨σ.s, σ.t, c', σ.d⟩ T d A
  | same (base : List Applied) (σ : Sys) (T : TState) (d : Int) (A : List Applied) (s' : Source) :
      Lives6 w base σ T d A → SourceWF s' → Agree w s' →
      s'.id1 = σ.s.id1 → s'.id2 = σ.s.id2 → Lives6 w base ⟨s', σ.t, σ.c, σ.d⟩ T d A
  /-- a snapshot (the source's own after FULLRESYNC - `syncMeta`'s ResetStartPoint has deleted the sender's
      records - or the cached one) is handed over and its replay COMPLETES: the target is whatever the replay
      makes of it (`T'`: C03/C04/C20's subject), with the position `(run id, left)` that `sendRdb` stores as its
      unique largest record (the premise); the stretch starts again from `T'.applied` -/
  | snapshot (base : List Applied) (σ : Sys) (T : TState) (d : Int) (A : List Applied) (resume : Bool)
      (tok : Id × Int) (left size e k : Int) (T' : TState) (d' : Int) :
      Lives6 w base σ T d A →
      (Psync.run w σ.s σ.t.stored σ.c σ.d).delivery = .snapshot tok left size →
      UniqueMax T'.cps d' left → 0 ≤ k → σ.s.masterOff + k ≤ maxInt64 →
      Lives6 w T'.applied (attempt resume w σ (.delivered true e k)) T' d' []
  | life (base : List Applied) (σ : Sys) (T : TState) (d0 : Int) (A : List Applied) (resume : Bool) (start : Int) (byte : Int → UInt8)
      (pc : PCfg) (sc : SCfg) (raws : List Raw) (evs : List Ev) (E E1 E2 : List Req) (o d k : Int) :
      Lives6 w base σ T d0 A →
      (Psync.run w σ.s σ.t.stored σ.c σ.d).delivery = .stream start byte →
      itemsOf evs = parserItems { pc with startDbId := d0 } start raws →
      (raws.map (·.off)).Pairwise (· < ·) → (∀ r ∈ raws, start < r.off) → C01.NoDone evs →
      ItemsNoNested false (parseAll pc { lastSent := start } raws) →
      parseFails pc { lastSent := start } raws = false →
      (∀ x ∈ raws, x.cmd = bSelect → ∀ a n, x.args = [a] → atoi? a = some n → 0 ≤ n) →
      (∀ n : Int, 0 ≤ n → mapDb pc n ≠ -1) →
      T.cur = 0 → 0 ≤ d0 →
      E <+: bodies (Sender.run sc initS evs).2 → E = E1 ++ Req.cpOffset o :: E2 → cpOffsetsB E2 = [] →
      d = (E1.foldl execReq T).cur → 0 ≤ d → 0 ≤ k → σ.s.masterOff + k ≤ maxInt64 →
      Lives6 w base (attempt resume w σ (.delivered true o k)) (E.foldl execReq T) d
        (A ++ (seqApplied d0 (itemCmds (parseAll pc { lastSent := start } (raws.filter (fun r => decide (r.off ≤ o)))))).2 ++
          (seqApplied d (dataB E2)).2)

/-- **the coupling is an invariant of the loop and the sender together**: after any number of lives,
    reconnections, failed attempts, collector passes, source moves AND completed snapshot replays in between,
    the state is a state of `Loop` (so `loop_safe` holds for the next attempt), the offset C06 stores - and
    calls the truth - is the sender's unique largest record, and the target's applied list is what it was
    when the last snapshot replay completed (or at the start) followed by, life after life, the commands of
    the stream up to the position that life stored and the overshoot the next life repeats. -/
theorem lives6_coupled (w : World) (base : List Applied) (σ : Sys) (T : TState) (d : Int) (A : List Applied)
    (h : Lives6 w base σ T d A) :
    Loop w σ ∧ Coupled σ.t T d ∧ T.applied = base ++ A := by
  induction h with
  | start σ T d hl hc => exact ⟨hl, hc, by simp⟩
  | reconnect base σ T d A _ ih => exact ⟨ih.1, ⟨ih.2.1.pos, ih.2.1.truth⟩, ih.2.2⟩
  | quiet base σ T d A resume st corrupted _ hfit hns hnf ih =>
    refine ⟨Loop.attempt σ resume st corrupted ih.1 hfit, ?_, ih.2.2⟩
    have ho := offset_unchanged_before_send resume w σ st hns hnf
    have ht := truth_unchanged_before_send resume w σ st hns
    have hc : Coupled (attempt resume w σ st).t T d := by
      refine ⟨by rw [ho]; exact ih.2.1.pos, ?_⟩
      obtain ⟨tid, htid⟩ := ih.2.1.truth
      exact ⟨tid, by rw [ht, ho]; exact htid⟩
    cases corrupted
    · exact hc
    · exact hc
  | gc base σ T d A c' _ hcol ih => exact ⟨Loop.gc σ c' ih.1 hcol, ih.2⟩
  | same base σ T d A s' _ hs' hag h1 h2 ih => exact ⟨Loop.same σ s' ih.1 hs' hag h1 h2, ih.2⟩
  | snapshot base σ T d A resume tok left size e k T' d' _ hdel hU hk hm ih =>
    refine ⟨Loop.attempt σ resume (.delivered true e k) false ih.1 ⟨hk, hm⟩, ?_, by simp⟩
    have ht : (attempt resume w σ (.delivered true e k)).t =
        ⟨⟨(Psync.run w σ.s σ.t.stored σ.c σ.d).mt.runId, left⟩, .at σ.s.id1 left⟩ := by
      simp only [attempt, Psync.step, Tgt.afterSend, hdel, if_true]
    exact ⟨by rw [ht]; exact hU, ⟨σ.s.id1, by rw [ht]⟩⟩
  | life base σ T d0 A resume start byte pc sc raws evs E E1 E2 o d k _ hdel hitems hraw hlo hnd hnn hnf hsel hmap hcur hd0 hE hsplit hlast hdd hdpos hk hm ih =>
    have := afterSend_coupled resume w σ ih.1 start byte hdel pc d0 sc raws evs hitems hraw hlo hnd hnn hnf hsel hmap
      T hcur hd0 ih.2.1 E E1 E2 o hE hsplit hlast d hdd hdpos k hk hm
    refine ⟨Loop.attempt σ resume (.delivered true o k) false ih.1 ⟨hk, hm⟩, this.1, ?_⟩
    rw [this.2.2.2.2.1, ih.2.2]
    simp only [List.append_assoc]

/-- hence the next attempt, after any number of lives and snapshots, continues exactly on the sender's record -/
theorem lives6_next_start (w : World) (base : List Applied) (σ : Sys) (T : TState) (d : Int) (A : List Applied)
    (h : Lives6 w base σ T d A)
    (start : Int) (byte : Int → UInt8) (hd : (Psync.run w σ.s σ.t.stored σ.c σ.d).delivery = .stream start byte) :
    UniqueMax T.cps d start ∧ ∃ tid, σ.t.truth = .at tid start ∧ AgreeBelow w tid σ.s.id1 start ∧
      ∀ n, start ≤ n → byte n = w.hist σ.s.id1 n := by
  obtain ⟨hl, hc, _⟩ := lives6_coupled w base σ T d A h
  obtain ⟨hs, hrest⟩ := loop_safe w σ hl start byte hd
  exact ⟨by rw [hs]; exact hc.pos, hrest⟩

/-- non-vacuity: a coupled state, a reconnection, a failed attempt that was granted a continuation; then a
    completed snapshot replay that stores (id, left) - the coupling holds again at `left` with an empty stretch -/
example (w : World) (σ : Sys) (hl : Loop w σ) (T : TState) (hc : Coupled σ.t T 5)
    (hnf : (syncMeta σ.s σ.t.stored σ.c).ps.full = false) :
    Coupled (attempt true w σ .metaDone).t { T with cur := 0 } 5 :=
  (lives6_coupled w _ _ _ _ _
    (Lives6.quiet _ σ _ 5 _ true .metaDone false (Lives6.reconnect _ σ T 5 _ (Lives6.start σ T 5 hl hc)) trivial rfl hnf)).2.1

example (w : World) (σ : Sys) (hl : Loop w σ) (T T' : TState) (hc : Coupled σ.t T 5) (tok : Id × Int) (left size : Int)
    (hd : (Psync.run w σ.s σ.t.stored σ.c σ.d).delivery = .snapshot tok left size) (hU : UniqueMax T'.cps 0 left)
    (hm : σ.s.masterOff ≤ maxInt64) :
    Coupled (attempt true w σ (.delivered true 0 0)).t T' 0 ∧ T'.applied = T'.applied ++ [] :=
  (lives6_coupled w _ _ _ _ _
    (Lives6.snapshot _ σ T 5 _ true tok left size 0 0 T' 0 (Lives6.start σ T 5 hl hc) hd hU (by omega) (by omega))).2

end GunYu.Props.C06
