/-
  C08 — extended operation set: torn header rewrites as crash images,
  and the writers' steps WITH FAULTS (failing header rewrite at close and at
  rotation, failing open at rotation, failing removals). Model:
  Model/StoreFsX.lean; lemmas: Proofs/StoreFsX*.lean.

  `crashImageX` tears the last write whatever it is (append or the 16-byte header
  rewrite); `xScriptOps` are the file operations of a script with faults that took
  effect, in the order the code issues them (compared op by op, failed attempts
  included, with the strace'd syscalls of the real writers).
-/
import GunYu.Props.C08
import GunYu.Proofs.StoreFsXSafe

namespace GunYu.Props.C08
open GunYu GunYu.Store GunYu.StoreFs GunYu.StoreFsX

/-- **crash_bytes_true_torn.** `crash_bytes_true` with the last write torn WHATEVER it
    is: for every script of the writers, at every instant the process may die (`n`
    operations issued, the last one — an append or a header rewrite — cut after `k`
    bytes), every byte a reader of the re-opened cache delivers is the source's. -/
theorem crash_bytes_true_torn (src : Nat → UInt8) (l m : Nat) (ops : List DOp) (hwf : (Disk.init l m).wf ops)
    (hsrc : SrcOk src (Disk.init l m) ops) (n k : Nat) (verify : Bool) (off : Nat)
    (bs : Bytes) (e : ServeEnd)
    (hs : serve (crashImageX [] (scriptOps (Disk.init l m) ops) n k) verify off = some (bs, e)) :
    ∀ j b, bs[j]? = some b → b = src (off + j) := by
  have hpos : Pos (OpTrueX src) [] (scriptOps (Disk.init l m) ops) :=
    Pos.mono (fun fs o h => OpTrueX_of_OpTrue fs o h) (script_ops_true src l m ops hwf hsrc)
  exact reopen_bytes_true src _ (crashImageX_true (fsTrue_nil src) _ hpos n k) verify off bs e hs

/-- **crash_snapshot_true_torn.** `crash_snapshot_true` (hence `crash_snapshot_complete`)
    for crash images with a torn header rewrite as well. -/
theorem crash_snapshot_true_torn (l m : Nat) (ops : List DOp) (hwf : (Disk.init l m).wf ops) (n k L S : Nat) :
    let img := crashImageX [] (scriptOps (Disk.init l m) ops) n k
    (reopen img).rdb = some (L, S) →
      ∃ c, img.get (rdbName L S) = some c ∧ 0 < S ∧ c.length = S ∧
        ∃ j, j ≤ ops.length ∧ received (ops.take j) = some ⟨L, S, c, false⟩ := by
  intro img h
  have hok : RdbOkP (RecvFrom ⟨"", none⟩ ops) img :=
    crashImageX_rdbOkP (by intro e he; cases he) _
      (scriptOps_safeP ⟨"", none⟩ ops ops [] _ _ rfl hwf (tmpRel_init l m) (GInv.init l m)) n k
  exact reopen_rdb_okP hok h

/-- **fault_ops_true.** The writers' scripts WITH FAULTS keep the directory truthful:
    every operation that takes effect — torn header rewrites, the operations before a
    failed open, what is left undone by failed removals — is truthful where it is
    applied (`script_ops_true` for the extended operation set). -/
theorem fault_ops_true (src : Nat → UInt8) (l m : Nat) (xs : List XOp) (hwf : wfX (XDisk.init l m) xs)
    (hsrc : SrcOkX src (XDisk.init l m) xs) :
    ∀ pre op post, xScriptOps (XDisk.init l m) xs = pre ++ op :: post → OpTrueX src (FS.applyAll [] pre) op :=
  (xrun_ok (src := src) (P := fun _ _ _ => True) ⟨"", none⟩ xs (fun _ _ _ _ => trivial) xs [] _ rfl hwf hsrc
    (xinv_init src l m) (GInv.init l m)).1

/-- **fault_crash_bytes_true.** For EVERY script of the writers with faults anywhere
    (header rewrite failing after `k' < 16` bytes at close or at rotation, the open of
    the next segment failing, removals failing at close / at an incomplete snapshot /
    in a collector pass — any number of them, followed by any further steps), at EVERY
    instant the process may die, the last write torn at any length: every byte a
    reader of the re-opened cache delivers — with or without verification — is the
    source's byte at that offset. -/
theorem fault_crash_bytes_true (src : Nat → UInt8) (l m : Nat) (xs : List XOp) (hwf : wfX (XDisk.init l m) xs)
    (hsrc : SrcOkX src (XDisk.init l m) xs) (n k : Nat) (verify : Bool) (off : Nat)
    (bs : Bytes) (e : ServeEnd)
    (hs : serve (crashImageX [] (xScriptOps (XDisk.init l m) xs) n k) verify off = some (bs, e)) :
    ∀ j b, bs[j]? = some b → b = src (off + j) :=
  reopen_bytes_true src _ (xcrash_true src l m xs hwf hsrc n k) verify off bs e hs

/-- **fault_crash_snapshot_true.** … and a snapshot the re-opened cache OFFERS is a
    committed file holding exactly the announced number of bytes, exactly the bytes a
    snapshot writer of the script received for that announcement (no hypothesis on the
    bytes: the snapshot side needs no source) — also when removals failed and left
    temporary or committed snapshot files behind that the index no longer knows. -/
theorem fault_crash_snapshot_true (l m : Nat) (xs : List XOp) (hwf : wfX (XDisk.init l m) xs) (n k L S : Nat) :
    let img := crashImageX [] (xScriptOps (XDisk.init l m) xs) n k
    (reopen img).rdb = some (L, S) →
      ∃ c, img.get (rdbName L S) = some c ∧ 0 < S ∧ c.length = S ∧
        ∃ j, j ≤ xs.length ∧ received ((xs.take j).map recvOp) = some ⟨L, S, c, false⟩ := by
  intro img h
  obtain ⟨c, hget, hpos, hlen, j, hj, hr⟩ := reopen_rdb_okP (xcrash_received l m xs hwf n k) h
  refine ⟨c, hget, hpos, hlen, j, by simpa using hj, ?_⟩
  rw [List.map_take]
  exact hr

/-- **fault_crash_snapshot_complete.** the length part alone -/
theorem fault_crash_snapshot_complete (l m : Nat) (xs : List XOp) (hwf : wfX (XDisk.init l m) xs) (n k L S : Nat) :
    let img := crashImageX [] (xScriptOps (XDisk.init l m) xs) n k
    (reopen img).rdb = some (L, S) → ∃ c, img.get (rdbName L S) = some c ∧ c.length = S := by
  intro img h
  obtain ⟨c, hget, _, hlen, _⟩ := fault_crash_snapshot_true l m xs hwf n k L S h
  exact ⟨c, hget, hlen⟩

/-! ### non-vacuity -/

/-- a script with every kind of fault: a header rewrite failing after 3 bytes at a
    rotation, a new writer, a failing open at the next rotation, a collector pass whose
    removals fail, an empty segment whose removal fails, an incomplete snapshot whose
    temporary file cannot be removed, a new snapshot over the leftovers -/
def exFaults : List XOp :=
  [.op (.setRunId "a"), .op (.newAofWriter 100), .op (.aofAppend [1, 2, 3]),
   .aofAppendHdrFail [4, 5, 6, 7, 8, 9, 10, 11, 12, 13] 3,
   .op (.newAofWriter 113), .aofAppendOpenFail [14, 15, 16, 17, 18, 19, 20, 21, 22, 23],
   .gcRmFail [] true, .op (.newAofWriter 123), .aofCloseRmFail,
   .op (.newRdbWriter 200 3), .op (.rdbAppend [1]), .rdbCloseRmFail,
   .op (.newRdbWriter 200 3), .op (.rdbAppend [7, 8, 9]), .op (.newAofWriter 200), .op (.aofAppend [9]),
   .aofCloseHdrFail 0]

example : wfX (XDisk.init 24 30) exFaults := by decide

-- the operations that took effect around the first fault: data, then 3 of the 16 header bytes
example : ((xScriptOps (XDisk.init 24 30) exFaults).drop 3).take 2 =
    [.append (.aof 100) [4, 5, 6, 7, 8, 9, 10, 11, 12, 13],
     .pwriteHdr (.aof 100) ((closedHeader [1, 2, 3, 4, 5, 6, 7, 8, 9, 10, 11, 12, 13]).take 3)] := by decide +kernel

-- the failed attempts are part of the run (what strace shows), not of the directory
example : ((xrun (XDisk.init 24 30) exFaults).filter (fun a => !a.ok)).length = 5 := by decide +kernel

-- a collector pass whose removal fails: the index forgets the segment, the file stays, and the
-- re-opened cache serves it again (it still holds the source's bytes)
def exGcFail : List XOp :=
  [.op (.setRunId "a"), .op (.newAofWriter 100), .op (.aofAppend [1, 2, 3, 4, 5, 6, 7, 8, 9, 10]),
   .op (.aofAppend [11, 12, 13, 14, 15, 16, 17, 18, 19, 20]), .gcRmFail [] true]
example : wfX (XDisk.init 24 12) exGcFail := by decide
example : (xrun (XDisk.init 24 12) exGcFail).getLast? = some ⟨.remove (.aof 100), false⟩ := by decide +kernel
example : (xfinal (XDisk.init 24 12) exGcFail).d.segs.map (·.left) = [110] := by decide +kernel
example : ((reopen (xfinal (XDisk.init 24 12) exGcFail).fs).segs.map (·.left)) = [100, 110] := by decide +kernel

-- the final image: the snapshot committed over the leftover temporary file, offered, complete
example : (reopen (crashImageX [] (xScriptOps (XDisk.init 24 30) exFaults) 99 0)).rdb = some (200, 3) := by decide +kernel

-- a crash in the middle of a header rewrite of a fault-free script: 5 of 16 header bytes on disk
example : crashImageX [] (scriptOps (Disk.init 20 0) [.setRunId "a", .newAofWriter 100, .aofAppend [1, 2, 3, 4, 5]]) 4 5 =
    [(.aof 100, (closedHeader [1, 2, 3, 4, 5]).take 5 ++ List.replicate 11 0 ++ [1, 2, 3, 4, 5])] := by decide +kernel

-- a reader without verification serves the bytes, a verifying reader refuses the torn header
example : serve (crashImageX [] (scriptOps (Disk.init 20 0) [.setRunId "a", .newAofWriter 100, .aofAppend [1, 2, 3, 4, 5]]) 4 5)
    false 101 = some ([2, 3, 4, 5], ServeEnd.eof) := by decide +kernel
example : serve (crashImageX [] (scriptOps (Disk.init 20 0) [.setRunId "a", .newAofWriter 100, .aofAppend [1, 2, 3, 4, 5]]) 4 5)
    true 101 = some ([], ServeEnd.corrupt) := by decide +kernel

-- the hypotheses of `fault_crash_bytes_true` are satisfiable with a fault in the script
example : SrcOkX (fun i => UInt8.ofNat (i - 99)) (XDisk.init 20 0)
    [.op (.setRunId "a"), .op (.newAofWriter 100), .aofAppendHdrFail [1, 2, 3, 4, 5] 7] := by
  refine ⟨trivial, trivial, ?_, trivial⟩
  intro i b h
  match i, h with
  | 0, h => simp at h; subst h; decide
  | 1, h => simp at h; subst h; decide
  | 2, h => simp at h; subst h; decide
  | 3, h => simp at h; subst h; decide
  | 4, h => simp at h; subst h; decide
  | n + 5, h => simp at h

end GunYu.Props.C08
