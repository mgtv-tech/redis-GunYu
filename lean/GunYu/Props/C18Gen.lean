/-
  C18 — the slot-grouping decision of `buildBisyncReplayUnitWithMode` REGENERATED
  from /repo.

  `Gen/FnBisyncUnitBuild.lean` is written on every run by harness/extract/c18slot.go
  from syncer/bisync.go: the guards (in source order), the assignments to the
  three loop variables `(slot, slotKnown, keysSeen)`, the error returns and the
  Slot / SlotTag / Commands of the returned literal. The theorems below say that
  what the code says equals the hand model of Model/BisyncUnit.lean
  (`keysLoop`, `cmdsLoop`, `initSt`, `buildUnit`) on which the C18 theorems rest —
  for all slot modes, all key lists, all starting indexes and states, all command
  lists and all resolvers. An edit of the function has to keep these proofs alive.

  Shape of the resolver: the generated functions take the resolver's answer
  `(keys, ok, err)` as the triple `(err != nil, ok, keys)`, the model as `Res`.
  `resOf` reads a triple in the order of the source's three tests (err first,
  then ok); `tripleOf` is the embedding of `Res`; `resOf ∘ tripleOfRes = id`.
  The `_all` theorems hold for EVERY triple-valued resolver (also `err != nil`
  together with `ok = true`), the un-suffixed ones are their instances on `Res`.
  No hypotheses.
-/
import GunYu.Gen.FnBisyncUnitBuild
import GunYu.Model.BisyncUnit

namespace GunYu.Props.C18
open GunYu GunYu.BisyncUnit

/-- the model's `Res` as the triple `(err != nil, ok, keys)` -/
def tripleOfRes : Res → Bool × Bool × List Bytes
  | .err => (true, false, [])
  | .notOk => (false, false, [])
  | .ok ks => (false, true, ks)

def tripleOf (r : Resolver) : Bytes → List Bytes → Bool × Bool × List Bytes :=
  fun c a => tripleOfRes (r c a)

/-- a triple read as the source reads it: `err != nil` first, then `!ok` -/
def resOf : Bool × Bool × List Bytes → Res
  | (true, _, _) => .err
  | (false, false, _) => .notOk
  | (false, true, ks) => .ok ks

theorem resOf_tripleOfRes (x : Res) : resOf (tripleOfRes x) = x := by
  cases x <;> rfl

/-- one round of the key loop = the model's loop on a one-key list -/
theorem gen_keyStep_eq_model (m : SlotMode) (idx : Nat) (key : Bytes) (st : LoopSt) :
    Gen.FnUnit.keyStep m idx key st = BisyncUnit.keysLoop m idx [key] st := by
  obtain ⟨slot, known, seen⟩ := st
  simp only [Gen.FnUnit.keyStep, BisyncUnit.keysLoop]

/-- the key loop, every index, key list and state -/
theorem gen_keysLoop_eq_model (m : SlotMode) (idx : Nat) (keys : List Bytes) (st : LoopSt) :
    Gen.FnUnit.keysLoop m idx keys st = BisyncUnit.keysLoop m idx keys st := by
  induction keys generalizing idx st with
  | nil => simp [Gen.FnUnit.keysLoop, BisyncUnit.keysLoop]
  | cons k ks ih =>
    obtain ⟨slot, known, seen⟩ := st
    simp only [Gen.FnUnit.keysLoop, Gen.FnUnit.keyStep, BisyncUnit.keysLoop]
    by_cases h1 : (!known && idx == 0) = true
    · simp only [h1, if_true, ih]
    · by_cases h2 : (m.forceSlot.isNone && !m.allowCrossSlot && Slot.keyToSlot k != slot) = true
      · simp [h1, h2]
      · simp [h1, h2, ih]

/-- the command loop for every triple-valued resolver -/
theorem gen_cmdsLoop_eq_model_all (m : SlotMode) (r : Bytes → List Bytes → Bool × Bool × List Bytes)
    (cmds : List Cmd) (st : LoopSt) :
    Gen.FnUnit.cmdsLoop m r cmds st = BisyncUnit.cmdsLoop m (fun c a => resOf (r c a)) cmds st := by
  induction cmds generalizing st with
  | nil => simp [Gen.FnUnit.cmdsLoop, BisyncUnit.cmdsLoop]
  | cons c cs ih =>
    obtain ⟨slot, known, seen⟩ := st
    simp only [Gen.FnUnit.cmdsLoop, BisyncUnit.cmdsLoop, Gen.FnUnit.cmdStep]
    rcases h : r c.name c.args with ⟨e, ok, keys⟩
    cases e <;> cases ok <;> cases keys <;> simp [resOf, gen_keysLoop_eq_model, ih]
    rename_i k ks
    cases keysLoop m 0 (k :: ks) (slot, known, seen) <;> rfl

/-- the command loop on the model's resolvers -/
theorem gen_cmdsLoop_eq_model (m : SlotMode) (r : Resolver) (cmds : List Cmd) (st : LoopSt) :
    Gen.FnUnit.cmdsLoop m (tripleOf r) cmds st = BisyncUnit.cmdsLoop m r cmds st := by
  rw [gen_cmdsLoop_eq_model_all]
  simp [tripleOf, resOf_tripleOfRes]

theorem gen_initSt_eq_model (m : SlotMode) : Gen.FnUnit.initSt m = BisyncUnit.initSt m := by
  obtain ⟨f, a⟩ := m
  cases f <;> rfl

/-- the whole function for every triple-valued resolver: same error or the same unit
    (slot, slot tag, commands) -/
theorem gen_buildUnit_eq_model_all (m : SlotMode) (r : Bytes → List Bytes → Bool × Bool × List Bytes)
    (cmds : List Cmd) :
    Gen.FnUnit.build m r cmds = BisyncUnit.buildUnit m (fun c a => resOf (r c a)) cmds := by
  simp only [Gen.FnUnit.build, BisyncUnit.buildUnit, gen_cmdsLoop_eq_model_all, gen_initSt_eq_model]
  cases cmds with
  | nil => simp
  | cons c cs =>
    simp only [List.length_cons, List.isEmpty_cons]
    cases cmdsLoop m (fun c a => resOf (r c a)) (c :: cs) (BisyncUnit.initSt m) with
    | error e => simp
    | ok st =>
      obtain ⟨slot, known, seen⟩ := st
      simp

/-- the whole function on the model's resolvers, plain equality of `Except BuildErr RUnit` -/
theorem gen_buildUnit_eq_model (m : SlotMode) (r : Resolver) (cmds : List Cmd) :
    Gen.FnUnit.build m (tripleOf r) cmds = BisyncUnit.buildUnit m r cmds := by
  rw [gen_buildUnit_eq_model_all]
  simp [tripleOf, resOf_tripleOfRes]

/-! ### non-vacuity: concrete runs of the GENERATED definitions -/

/-- `SET a 1` / `SET b 1`: the resolver of the examples names the first argument -/
def exResolver : Bytes → List Bytes → Bool × Bool × List Bytes :=
  fun _ args => match args with
    | [] => (false, false, [])
    | k :: _ => (false, true, [k])

def exSetA : Cmd := ⟨[115,101,116], [[97], [49]]⟩
def exSetB : Cmd := ⟨[115,101,116], [[98], [49]]⟩

-- keyStep: the first key of a unit fixes the slot; a later key on another slot is refused in cluster mode
example : Gen.FnUnit.keyStep clusterMode 0 [97] (0, false, 0) = .ok (Slot.keyToSlot [97], true, 1) := by
  decide +kernel
example : Gen.FnUnit.keyStep clusterMode 0 [98] (Slot.keyToSlot [97], true, 1) = .error .crossSlot := by
  decide +kernel
example : Gen.FnUnit.keyStep standaloneMode 0 [98] (0, true, 1) = .ok (0, true, 2) := by
  decide +kernel

-- keysLoop: two keys on different slots
example : Gen.FnUnit.keysLoop clusterMode 0 [[97], [98]] (0, false, 0) = .error .crossSlot := by
  decide +kernel
example : Gen.FnUnit.keysLoop clusterMode 0 [[97], [97]] (0, false, 0) = .ok (Slot.keyToSlot [97], true, 2) := by
  decide +kernel

-- cmdsLoop: the order of the three tests (err before ok before the key count)
example : Gen.FnUnit.cmdsLoop clusterMode (fun _ _ => (true, true, [[97]])) [exSetA] (0, false, 0) = .error .resolve := by
  decide +kernel
example : Gen.FnUnit.cmdsLoop clusterMode (fun _ _ => (false, false, [])) [exSetA] (0, false, 0) = .error .notRoutable := by
  decide +kernel
example : Gen.FnUnit.cmdsLoop clusterMode (fun _ _ => (false, true, [])) [exSetA] (0, false, 0) = .error .noKeys := by
  decide +kernel
example : Gen.FnUnit.cmdsLoop clusterMode exResolver [exSetA, exSetB] (0, false, 0) = .error .crossSlot := by
  decide +kernel

-- build: two SETs on different slots → crossSlot in cluster mode, one unit on slot 0 in standalone mode
example : Gen.FnUnit.build clusterMode exResolver [exSetA, exSetB] = .error .crossSlot := by
  decide +kernel
example : Gen.FnUnit.build clusterMode exResolver [] = .error .empty := by
  decide +kernel
example : (Gen.FnUnit.build standaloneMode exResolver [exSetA, exSetB]).toOption.map (·.slot) = some 0 := by
  decide +kernel
example : (Gen.FnUnit.build clusterMode exResolver [exSetA, exSetA]).toOption.map (fun u => (u.slot, u.cmds.length))
    = some (Slot.keyToSlot [97], 2) := by
  decide +kernel

end GunYu.Props.C18
