/-
  C13 — two hypotheses of the global theorems derived:

  * checkpoint names are not ASSUMED brace-free: they are derived from the
    modelled `NewBisyncCheckpointName` (`generated_names_valid`) and from the
    model of every writer of the checkpoint hash (`resolved_names_generated`:
    a name read back from the hash is a generated one);
  * "the tool never writes anything outside the bookkeeping vocabulary"
    (`EvOK' (.toolRaw …) = False`) is derived for the modelled inventory of
    target writers (`tool_writers_in_vocabulary`, `no_loop_generated_names`):
    each request of each writer is a stand-alone request with a generated name.
    The one request that was NOT before /repo b5f636f — the clean-up of a retired
    namespace naming the marker (the only control key with an expiry) in one DEL
    with other keys — is a defect of the repository, since repaired:
    `cleanup_marker_in_shared_del_echoes` is its witness in the model.
-/
import GunYu.Props.C13
import GunYu.Proofs.BisyncWriters

namespace GunYu.Props.C13
open GunYu GunYu.BisyncUnit GunYu.Bisync

/-- **Generated names are valid, whatever the random bytes.** The name
    `NewBisyncCheckpointName` makes lies under `redis-gunyu-checkpoint` (so
    every request on it or on its frontier key is withheld by the reserved
    prefix) and contains no `{` (so the `{tag}` of a control key is the first
    brace pair, and a marker key is recognisable as one). -/
theorem generated_names_valid (buf : Bytes) :
    Gen.checkpointKey <+: newCpName buf ∧ Slot.lbrace ∉ newCpName buf :=
  newCpName_valid buf

-- the twelve bytes 00 01 … 0b
example : newCpName [0,1,2,3,4,5,6,7,8,9,10,11] =
    Gen.bisyncCheckpointKeyPrefix ++ [58] ++ [48,48,48,49,48,50,48,51,48,52,48,53,48,54,48,55,48,56,48,57,48,97,48,98] := by
  decide +kernel
example : hexOfBytes [255, 16] = [102,102,49,48] := by decide +kernel

/-- **A name read back is a generated name.** Start from a checkpoint hash in
    which every stored name is a generated one (`HashGen`: an ASSUMPTION on the
    target, true of the empty hash of a fresh target) and run ANY sequence of
    starts of any syncers against it — bidirectional ones that find no name and
    create one, find one and keep it, or switch the recovery format and replace
    it; plain ones with `redis-gunyu-checkpoint` or the slot-fitted
    `redis-gunyu-checkpoint-<letters>`; each followed by `updateCheckpoint`'s
    relabelling. Then every name any of these starts ends up with is a
    generated one (`GenCp`: the form the theorems below take), hence under the
    reserved prefix and brace-free, and the hash still holds generated names only. -/
theorem resolved_names_generated (h : CpHash) (hg : HashGen h) (ss : List Start) (hs : ∀ s ∈ ss, s.Ok) :
    HashGen (runStarts h ss).1 ∧
      ∀ n ∈ (runStarts h ss).2, GenCp n ∧ Gen.checkpointKey <+: n ∧ Slot.lbrace ∉ n := by
  obtain ⟨h1, h2⟩ := runStarts_gen h hg ss hs
  exact ⟨h1, fun n hn => ⟨h2 n hn, genCp_valid n (h2 n hn)⟩⟩

-- non-vacuity: a fresh target; a bidirectional syncer creates a namespace, a second start (new run id,
-- the old one second) reads it back and relabels, a third switches the recovery format, a plain syncer
-- with a slot-fitted name joins: four names, three distinct, all valid
private def starts4 : List Start :=
  [⟨[114,49], [], .bisync [1,2] false, true, none⟩, ⟨[114,50], [114,49], .bisync [3,4] false, true, some [114,49]⟩,
   ⟨[114,50], [114,49], .bisync [5,6] true, false, none⟩, ⟨[120], [], .plainSlot [97,98,122], true, none⟩]
example : (runStarts [] starts4).2 =
    [newCpName [1,2], newCpName [1,2], newCpName [5,6], slotCpName [97,98,122]] := by decide +kernel
private theorem starts4_ok : ∀ s ∈ starts4, s.Ok := by
  intro s hs
  simp only [starts4, List.mem_cons, List.not_mem_nil, or_false] at hs
  rcases hs with rfl | rfl | rfl | rfl
  · trivial
  · trivial
  · trivial
  · show ∀ b ∈ [97,98,122], (97 : UInt8) ≤ b ∧ b ≤ 122
    decide
example : ∀ s ∈ starts4, s.Ok := starts4_ok
-- the theorem applied: the name the third start (format switch) ends up with is brace-free
example : Slot.lbrace ∉ newCpName [5,6] :=
  ((resolved_names_generated [] hashGen_nil starts4 starts4_ok).2 (newCpName [5,6]) (by decide +kernel)).2.2

/-- **Every request of every writer is in the vocabulary and is passed over.**
    Whatever a writer procedure of the inventory (`Writer`: coordinator flush /
    start-up clean-up, purge, namespace seed, mode save, clean-up of a retired
    namespace, checkpoint-hash and root-checkpoint writes) sends — with the
    generated name of its namespace — is a stand-alone request that an idle
    parser of the opposite link passes over: no unit, no error. -/
theorem tool_writers_in_vocabulary (pc : PCfg) (hf : FOK pc.filter) (w : Writer) (hw : w.Ok)
    (pst : PState) (hi : Idle pst) :
    ∀ bk ∈ w.requests, bk.Valid ∧ bk.Issued ∧
      ∃ pst', parseBlock pc pst (.single bk.toCmd) = ([], pst', none) ∧ Idle pst' ∧ pst'.seq = pst.seq := by
  intro bk hbk
  obtain ⟨hv, hiss⟩ := fromTool_ok bk (writer_requests_fromTool w hw bk hbk)
  exact ⟨hv, hiss, bookkeeping_skipped pc hf bk hv pst hi⟩

-- the clean-up of a retired namespace on a standalone target (one slot tag): three stand-alone requests —
-- the marker alone, the latest / index keys together, the two root keys
example : (Writer.cleanupNamespace (newCpName [1]) [] [slotTag 0]
    [[Gen.latestKey (newCpName [1]) (slotTag 0), Gen.commitIndexKey (newCpName [1]) (slotTag 0)]]).requests.map (·.toCmd.args.length) =
    [1, 2, 2] := by decide +kernel

/-- **No loop, over generated names and whole writer procedures.** As
    `no_loop_always`, for histories made of events AND whole runs of the writer
    procedures (`Step`), between two links whose names are generated ones.
    What this does and does not add, precisely:
    * the hypothesis `Slot.lbrace ∉ cp` of `no_loop_always` becomes the
      stronger `GenCp cp` — still a hypothesis on cpAB / cpBA here; it is
      discharged by `no_loop_resolved_names` below for names that starts resolve;
    * for single bookkeeping events `Valid ∧ Issued` becomes the stronger
      `FromTool` (generated name inside the request);
    * a whole run of a writer procedure needs only `Writer.Ok` (the
      generated name of its namespace; for a clean-up, chunks of latest / index /
      journal keys) — that each of its requests is a stand-alone request of the
      vocabulary with `Valid ∧ Issued` is derived (`writer_requests_fromTool`),
      not asked per request;
    * `Ev.toolRaw` stays excluded by hypothesis (`Step.Ok` of a raw event is
      `False`): that the TOOL never writes outside the vocabulary is the
      completeness of the inventory (source facts), not a theorem.
    Still asked of every event: `ClientOK`, snapshot commands with the first
    argument outside the namespace, expiry visits not on reserved keys. -/
theorem no_loop_generated_names (cfg : WCfg) (hf : FOK cfg.parser.filter) (cpAB cpBA : Bytes)
    (hAB : GenCp cpAB) (hBA : GenCp cpBA) (sa sb : Store) (na nb : Nat) (ha : NsTtl sa) (hb : NsTtl sb)
    (ss : List Step) (hok : ∀ s ∈ ss, s.Ok cfg) :
    let w := runWorld cfg (World.initWith cpAB cpBA sa sb na nb) (flattenSteps ss)
    (∀ t ∈ w.commits, isForeign t.1 = true) ∧
    (∀ s, ∀ tb ∈ (w.site s).stream, isForeign tb.tag = false → QuietB cfg.parser tb.block) ∧
    ((∀ s, ∀ t ∈ dueTags (w.site s).stream (w.link s).pos, t ∈ commitsAt w s.other) ∧
      ∀ s, ∀ p ∈ (w.link s).emitted, ∃ tb ∈ (w.site s).stream, tb.tag = p.1 ∧ p.2.unit.cmds = tb.block.body.map norm) ∧
    (∀ src e, (w.link src).halted = some e → ∃ be, e = .build be) :=
  no_loop_always cfg hf cpAB cpBA sa sb na nb (genCp_nobrace cpAB hAB) (genCp_nobrace cpBA hBA) ha hb
    (flattenSteps ss) (steps_good cfg ss hok)

/-- **The chain in one statement: names that starts resolve ⇒ no loop.** A
    target pair whose checkpoint hashes hold generated names (fresh targets in
    particular); the two syncers take the names ANY sequence of starts resolved
    at their targets (created, read back, switched); then the conclusions of
    `no_loop_always` hold with NO hypothesis on the names. -/
theorem no_loop_resolved_names (cfg : WCfg) (hf : FOK cfg.parser.filter)
    (hA hB : CpHash) (hgA : HashGen hA) (hgB : HashGen hB) (ssA ssB : List Start)
    (hsA : ∀ s ∈ ssA, s.Ok) (hsB : ∀ s ∈ ssB, s.Ok)
    (cpAB cpBA : Bytes) (hAB : cpAB ∈ (runStarts hB ssB).2) (hBA : cpBA ∈ (runStarts hA ssA).2)
    (sa sb : Store) (na nb : Nat) (ha : NsTtl sa) (hb : NsTtl sb) (ss : List Step) (hok : ∀ s ∈ ss, s.Ok cfg) :
    let w := runWorld cfg (World.initWith cpAB cpBA sa sb na nb) (flattenSteps ss)
    (∀ t ∈ w.commits, isForeign t.1 = true) ∧
    (∀ s, ∀ tb ∈ (w.site s).stream, isForeign tb.tag = false → QuietB cfg.parser tb.block) ∧
    ((∀ s, ∀ t ∈ dueTags (w.site s).stream (w.link s).pos, t ∈ commitsAt w s.other) ∧
      ∀ s, ∀ p ∈ (w.link s).emitted, ∃ tb ∈ (w.site s).stream, tb.tag = p.1 ∧ p.2.unit.cmds = tb.block.body.map norm) ∧
    (∀ src e, (w.link src).halted = some e → ∃ be, e = .build be) :=
  no_loop_generated_names cfg hf cpAB cpBA ((resolved_names_generated hB hgB ssB hsB).2 cpAB hAB).1
    ((resolved_names_generated hA hgA ssA hsA).2 cpBA hBA).1 sa sb na nb ha hb ss hok

/-- **Traffic under a prefix the output filter withholds is never forwarded** —
    the tool's high-availability registry and election keys
    (`/redis-gunyu/<group>/registry/<id>`, `…/election…`: `SET … EX`, `EXPIRE`,
    `DEL`, script effects; written by the tool to its INPUT Redis, i.e. into the
    stream its own link reads) and anything else whose every table-resolved key
    lies under `redis-gunyu-checkpoint…` or `/redis-gunyu…`: a stand-alone
    command or a MULTI/EXEC block of such commands — also the block Redis ≥ 7
    makes of a lazy expiry ahead of the SET that met it — produces no unit and
    no error, whatever expiries the keys carry. -/
theorem reserved_traffic_quiet (pc : PCfg) (hf : FOK pc.filter) (b : Block)
    (hb : ∀ c ∈ b.body, TxnSafe c ∧ ∃ idx, Filter.keyIndexes (lower c.name) c.args = some idx ∧
      ∀ i ∈ idx, FilterReserved (c.args.getD i []))
    (pst : PState) (hi : Idle pst) :
    ∃ pst', parseBlock pc pst b = ([], pst', none) ∧ Idle pst' ∧ pst'.seq = pst.seq := by
  have hext : ∀ c ∈ b.body, extOf pc c = [] := by
    intro c hc
    obtain ⟨_, idx, hidx, hres⟩ := hb c hc
    rcases extOf_cases pc c with h | ⟨a', hka, _⟩
    · exact h
    · rw [hf.allReserved _ _ idx hidx hres] at hka
      cases hka
  cases b with
  | single c =>
    exact (parseBlock_single_safe pc c pst hi (hb c (by simp [Block.body])).1).1 (Or.inl (hext c (by simp [Block.body])))
  | multi cs =>
    apply (parseBlock_multi_safe pc cs pst hi (fun c hc => (hb c (by simpa [Block.body] using hc)).1)).1
    right
    apply List.flatMap_eq_nil_iff.mpr
    intro c hc
    exact hext c (by simpa [Block.body] using hc)

-- the registry key refreshed after it had expired unreaped: Redis >= 7 propagates MULTI, DEL key, SET key id PXAT …, EXEC
private def regKey : Bytes := Gen.namespacePrefixKey ++ [47,103,47,114,101,103,47,49]     -- "/redis-gunyu/g/reg/1"
example : (parseBlock ⟨Filter.buildOutput {}, standaloneMode, defaultResolver⟩ {}
    (.multi [⟨wDel, [regKey]⟩, ⟨wSet, [regKey, [49], [80,88,65,84], [57,57]]⟩])).1 = [] := by decide +kernel

/-! ### the defect the inventory found (repaired in /repo b5f636f) -/

private def cp0 : Bytes := newCpName [171]
private def mk0 : Bytes := Gen.markerKey cp0 (slotTag 0)
private def lk0 : Bytes := Gen.latestKey cp0 (slotTag 0)
/-- the old namespace at the target a day after the link's last commit: the
    marker (expiry at 5) expired but not reaped at time 10, the latest record -/
private def oldNs : Store := [(mk0, ⟨.str, [], some 5⟩), (lk0, ⟨.hash, [[102]], none⟩)]
private def pc0 : PCfg := ⟨Filter.buildOutput {}, standaloneMode, defaultResolver⟩
private def redis7 : RedisCfg := ⟨false, true, true⟩

/-- **Why the marker must be alone in its DEL.** The clean-up request of the
    unrepaired code, `DEL <marker> <latest>`, met by a Redis ≥ 7 master while the
    marker has expired but is not reaped: the master propagates ONE MULTI/EXEC
    block `DEL marker, DEL marker latest` (the lazy expiry ahead of the command),
    which holds no marker SET — the opposite link's parser builds a unit from it
    (the echo). The repaired requests, `DEL <marker>` and `DEL <latest>`, leave
    two stand-alone blocks and the parser emits nothing. -/
theorem cleanup_marker_in_shared_del_echoes :
    (toBlocks redis7 false 1 (execCmds redis7 10 oldNs [⟨wDel, [mk0, lk0]⟩]).2 =
        [.multi [⟨wDel, [mk0]⟩, ⟨wDel, [mk0, lk0]⟩]]) ∧
    ((parseBlock pc0 {} (.multi [⟨wDel, [mk0]⟩, ⟨wDel, [mk0, lk0]⟩])).1.length = 1) ∧
    (toBlocks redis7 false 1 (execCmds redis7 10 oldNs [(Bookkeeping.markerDel cp0 (slotTag 0)).toCmd]).2 =
        [.single ⟨wDel, [mk0]⟩]) ∧
    ((parseBlock pc0 {} (.single ⟨wDel, [mk0]⟩)).1 = []) ∧
    ((parseBlock pc0 {} (.single (Bookkeeping.nsDel cp0 [lk0]).toCmd)).1 = []) := by
  decide +kernel

-- non-vacuity of `no_loop_generated_names`: A writes, the A→B link commits it (marker at B), a day passes at B,
-- the A→B syncer switches its recovery format — the namespace is seeded anew and the old one cleaned up by the
-- repaired procedure — and the B→A link reads everything the switch left in B's stream: nothing comes back
private def wcfg : WCfg :=
  { redisA := redis7, redisB := redis7, parser := pc0 }
private def incrN : Cmd := ⟨[105,110,99,114,98,121], [[110,48], [53]]⟩     -- incrby n0 5
private def arg0 : CommitArg := ⟨.latest, [123,125], [[102],[118]]⟩
private def cpA : Bytes := newCpName [1]
private def cpA' : Bytes := newCpName [2]
private def cpB : Bytes := newCpName [3]
private def switchSteps : List Step :=
  [.ev (.client .A false [incrN]), .ev (.link .A arg0), .ev (.tick .B 86400001),
   .writer .A (.seedNamespace cpA' (some ⟨[[111],[49]], .inl [[118],[49]]⟩) [[109],[112]]),
   .writer .A (.hashSet [114] cpA' false),
   .writer .A (.cleanupNamespace cpA [] [slotTag 0] [[Gen.latestKey cpA (slotTag 0), Gen.commitIndexKey cpA (slotTag 0)]]),
   .ev (.link .B arg0), .ev (.link .B arg0), .ev (.link .B arg0), .ev (.link .B arg0), .ev (.link .B arg0), .ev (.link .B arg0)]
private theorem incrN_ok : ClientOK wcfg.parser incrN :=
  clientOK_of_heads _ _ ⟨⟨by decide, by decide, by decide⟩, by decide, by decide⟩ (by decide +kernel) (by decide)
private theorem cleanupA_ok :
    (Writer.cleanupNamespace cpA [] [slotTag 0] [[Gen.latestKey cpA (slotTag 0), Gen.commitIndexKey cpA (slotTag 0)]]).Ok := by
  refine ⟨Or.inl ⟨[1], rfl⟩, (by intro ch hch; cases hch), ?_⟩
  intro ch hch
  rw [List.mem_singleton.mp hch]
  refine ⟨by simp, ?_⟩
  intro k hk
  simp only [List.mem_cons, List.not_mem_nil, or_false] at hk
  rcases hk with rfl | rfl
  · exact ⟨slotTag 0, Or.inl rfl⟩
  · exact ⟨slotTag 0, Or.inr (Or.inl rfl)⟩
private theorem switchSteps_ok : ∀ s ∈ switchSteps, s.Ok wcfg := by
  intro s hs
  simp only [switchSteps, List.mem_cons, List.not_mem_nil, or_false] at hs
  rcases hs with rfl | rfl | rfl | rfl | rfl | rfl | rfl | rfl | rfl | rfl | rfl | rfl
  · exact fun c hc => by rw [List.mem_singleton.mp hc]; exact incrN_ok
  · trivial
  · trivial
  · exact Or.inl ⟨[2], rfl⟩
  · trivial
  · exact cleanupA_ok
  all_goals trivial
-- the switch leaves five stand-alone blocks in B's stream behind the unit's block, one of them the
-- DEL of the expired marker (as Redis propagates it); B→A reads all six and commits nothing
example : ((runWorld wcfg (World.init cpA cpB) (flattenSteps switchSteps)).b.stream.map (·.block.body.length),
    (runWorld wcfg (World.init cpA cpB) (flattenSteps switchSteps)).ba.pos,
    (runWorld wcfg (World.init cpA cpB) (flattenSteps switchSteps)).commits) =
    ([3, 1, 1, 1, 1, 1, 1], 6, [(.foreign 0, .B)]) := by decide +kernel
example : ∀ t ∈ (runWorld wcfg (World.initWith cpA cpB [] [] 0 0) (flattenSteps switchSteps)).commits, isForeign t.1 = true :=
  (no_loop_generated_names wcfg default_filter_ok cpA cpB (Or.inl ⟨[1], rfl⟩) (Or.inl ⟨[3], rfl⟩) [] [] 0 0
    nsTtl_nil nsTtl_nil switchSteps switchSteps_ok).1
-- … and `tool_writers_in_vocabulary` applied to the clean-up run of that history: its marker DEL is passed over
example : ∃ pst', parseBlock pc0 {} (.single (Bookkeeping.markerDel cpA (slotTag 0)).toCmd) = ([], pst', none) ∧ Idle pst' ∧ pst'.seq = 1 :=
  (tool_writers_in_vocabulary pc0 default_filter_ok
    (.cleanupNamespace cpA [] [slotTag 0] [[Gen.latestKey cpA (slotTag 0), Gen.commitIndexKey cpA (slotTag 0)]])
    cleanupA_ok {} ⟨rfl, rfl⟩ (.markerDel cpA (slotTag 0)) (by simp [Writer.requests])).2.2

end GunYu.Props.C13
