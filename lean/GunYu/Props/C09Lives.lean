/-
  C09 across ANY NUMBER of crashes and restarts, as one theorem about the
  transaction groups of the SOURCE stream: for every decomposition
  `raws = pre ++ [MULTI] ++ body ++ [EXEC] ++ post` (`body` without MULTI/EXEC) and
  every target state reachable by transactional resumable lives, what the target
  has executed is a prefix `P` of the one-pass specification that does not end
  strictly inside the group's contribution (`lives_never_split_txn`), and a
  finishing run executes every group exactly once (`lives_complete_txn_once`).

  The subtlety: the stored position CAN lie strictly inside a source group. The
  parser hands an EXEC read inside a filtered database over with the offset of
  the last command it handed over (`passBracket`), so
  `MULTI(60) set b(77) SELECT filtered(96) set x(119) EXEC(134, carried as 77)`
  stores position 77. The statement is therefore about specification
  contributions, not about offsets: whenever the position is inside a group, the
  rest of the group contributes nothing (`GroupInv.grp`), and the proof shows that
  this is the ONLY way a position gets inside a group (`Sender.txn_cp_positions`,
  `Sender.group_tail_quiet`). The non-vacuity instance below is exactly this case.
-/
import GunYu.Proofs.TxnGroups

namespace GunYu.Props.C09
open GunYu GunYu.Sender GunYu.Target GunYu.Props.C02

/-- what the commands of the group `pre ++ [m] ++ body ++ [e]` contribute to the
    one-pass specification: the specification of the stream up to the EXEC minus
    the specification of `pre` (MULTI and EXEC themselves contribute nothing) -/
def grpSpec (pc : PCfg) (pre : List Raw) (m : Raw) (body : List Raw) (e : Raw) : List Applied :=
  (specStream pc false 0 (pre ++ [m] ++ body ++ [e])).drop (specStream pc false 0 pre).length

/-- what follows the group -/
def postSpec (pc : PCfg) (pre : List Raw) (m : Raw) (body : List Raw) (e : Raw) (post : List Raw) :
    List Applied :=
  (specStream pc false 0 (pre ++ [m] ++ body ++ [e] ++ post)).drop
    (specStream pc false 0 (pre ++ [m] ++ body ++ [e])).length

theorem prefix_take_drop {α} {a b : List α} (h : a <+: b) : b = a ++ b.drop a.length := by
  obtain ⟨t, rfl⟩ := h
  simp

theorem spec_upto_group (pc : PCfg) (pre : List Raw) (m : Raw) (body : List Raw) (e : Raw) :
    specStream pc false 0 (pre ++ [m] ++ body ++ [e]) = specStream pc false 0 pre ++ grpSpec pc pre m body e := by
  unfold grpSpec
  apply prefix_take_drop
  have := specStream_prefix pc false 0 pre ([m] ++ body ++ [e])
  simpa [List.append_assoc] using this

theorem spec_whole (pc : PCfg) (pre : List Raw) (m : Raw) (body : List Raw) (e : Raw) (post : List Raw) :
    specStream pc false 0 (pre ++ [m] ++ body ++ [e] ++ post) =
      specStream pc false 0 pre ++ grpSpec pc pre m body e ++ postSpec pc pre m body e post := by
  rw [← spec_upto_group]
  unfold postSpec
  exact prefix_take_drop (specStream_prefix pc false 0 _ post)

/-- **The invariant of a stored position `(o, d)` with respect to a source group.**
    `cont`: the specification of the stream read up to `o` continues, for whatever
    follows, as the specification from `(bypass = false, database d)` -- what a
    resumed run executes; `grp`: if `o` lies inside the group, what is left of the
    group contributes nothing. -/
structure GroupInv (pc : PCfg) (raws body : List Raw) (m e : Raw) (o d : Int) : Prop where
  cont : ∀ Y, (∀ r ∈ Y, r ∈ raws) →
    specStream pc false 0 (raws.filter (fun r => decide (r.off ≤ o)) ++ Y) =
      specStream pc false 0 (raws.filter (fun r => decide (r.off ≤ o))) ++ specStream pc false d Y
  grp : m.off ≤ o → o < e.off →
    specStream pc false d (body.filter (fun r => decide (o < r.off)) ++ [e]) = []

/-- every position stored by any number of transactional resumable lives
    satisfies the invariant -/
theorem lives_group_inv (pc : PCfg) (start : Int) (t0 : TState)
    (pre body post : List Raw) (m e : Raw)
    (hm : m.cmd = bMulti) (he : e.cmd = bExec) (hbody : NoBracket body)
    (hraw : ((pre ++ m :: (body ++ e :: post)).map (·.off)).Pairwise (· < ·))
    (hlo : ∀ r ∈ pre ++ m :: (body ++ e :: post), start < r.off)
    (hstart : 0 ≤ start)
    (hnest : RawNoNested false (pre ++ m :: (body ++ e :: post)))
    (hpass : ∀ r ∈ pre ++ m :: (body ++ e :: post), (r.cmd = bMulti ∨ r.cmd = bExec) →
      pc.filterCmd r.cmd = false ∧ (pc.filterCmdKey r.cmd r.args).isSome)
    (hnf : parseFails pc { lastSent := start } (pre ++ m :: (body ++ e :: post)) = false)
    (hsel : ∀ x ∈ pre ++ m :: (body ++ e :: post), x.cmd = bSelect →
      ∀ a n, x.args = [a] → atoi? a = some n → 0 ≤ n)
    (hmapnn : ∀ n : Int, 0 ≤ n → 0 ≤ mapDb pc n)
    (hno : NoOffsets t0.cps)
    (T : TState) (o d : Int)
    (h : Lives pc (pre ++ m :: (body ++ e :: post)) start t0 true T o d) :
    GroupInv pc (pre ++ m :: (body ++ e :: post)) body m e o d := by
  have hmap := mapDb_ne_of_nonneg pc hmapnn
  obtain ⟨_, hbs, _, hpm, hbme, hme, hepo⟩ := group_order hraw
  generalize hR : pre ++ m :: (body ++ e :: post) = raws at hlo hnest hpass hnf hsel h
  have hrawR : (raws.map (·.off)).Pairwise (· < ·) := by rw [← hR]; exact hraw
  have hmR : m ∈ raws := by rw [← hR]; simp
  induction h with
  | init =>
    have hnil : raws.filter (fun r => decide (r.off ≤ start)) = [] := filter_le_nil hlo
    refine ⟨?_, ?_⟩
    · intro Y _; rw [hnil]; rfl
    · intro h1 _
      have := hlo m hmR
      omega
  | @life T o d hL sc evs k o' d' hitems hnd htx hpos ih =>
    obtain ⟨hsa, hso, hd0, _⟩ := lives_lose_nothing pc raws start t0 true hrawR hlo hstart hnest hpass hnf
      hsel hmapnn hno T o d hL
    have ho0 : 0 ≤ o := Int.le_trans hstart hso
    -- the stream this life reads
    obtain ⟨hrawB, hloB, hnnB, hnfB, hselB, hnestB⟩ :=
      rest_of_stream pc raws start o hrawR hnest hpass hnf hsel
    generalize hB : raws.filter (fun r => decide (o < r.off)) = B at hitems hrawB hloB hnnB hnfB hselB hnestB
    have hBsub : ∀ r ∈ B, r ∈ raws := fun r hr => by rw [← hB] at hr; exact (List.mem_filter.mp hr).1
    have hpassB : ∀ r ∈ B, (r.cmd = bMulti ∨ r.cmd = bExec) →
        pc.filterCmd r.cmd = false ∧ (pc.filterCmdKey r.cmd r.args).isSome :=
      fun r hr => hpass r (hBsub r hr)
    obtain ⟨E, hE, _, _, hout⟩ := life_outcome pc start true B hrawB hloB ho0 hnnB hselB hmap hsa hd0
      sc evs k o' d' hitems hnd htx hpos
    rcases hout with ⟨_, rfl, rfl⟩ | ⟨E1, E2, hsplit, hlast, hdd'⟩
    · -- no position written in this life: the stored position is the old one
      exact ih
    · -- the last position write of this life
      obtain ⟨htxm, _⟩ := htx rfl
      have hcur : (crash T).cur = 0 := rfl
      have hnf0 : parseFails { pc with startDbId := d } { lastSent := o } B = false := by
        rw [parseFails_setDb]; exact hnfB
      obtain ⟨_, hnfA, hbyp, hoE, _, _⟩ := crash_cut_resumed { pc with startDbId := d } sc B o evs
        hitems hrawB hloB ho0 hnd (by rw [parseAll_setDb]; exact hnnB) hnf0 E E1 E2 o' hE hsplit
      rw [parseFails_setDb] at hnfA
      rw [parseState_setDb] at hbyp
      have hocp : o' ∈ cpOffsets (run sc initS evs).2 := cp_of_executed (run_wf sc initS evs) hE hsplit
      -- the database of the new position
      have hdb := (cut_executed pc d sc B o evs hitems hrawB hloB ho0 hnd hnnB hnfB hselB hmap (crash T) hcur hd0
        E E1 E2 o' hE hsplit d' hdd').1
      generalize hA : B.filter (fun r => decide (r.off ≤ o')) = A at hnfA hbyp hdb
      have hAsub : ∀ r ∈ A, r ∈ raws := fun r hr =>
        hBsub r (by rw [← hA] at hr; exact (List.mem_filter.mp hr).1)
      have hselA : ∀ x ∈ A, x.cmd = bSelect → ∀ a n, x.args = [a] → atoi? a = some n → 0 ≤ n :=
        fun x hx => hsel x (hAsub x hx)
      -- this life's piece of the specification, and how it continues
      have hLS : ∀ Y, (∀ r ∈ Y, r ∈ raws) →
          specStream pc false d (A ++ Y) = specStream pc false d A ++ specStream pc false d' Y ∧
          (seqApplied d' (itemCmds (parseAll pc (parseState pc { lastSent := o } A) Y))).2 =
            specStream pc false d' Y :=
        fun Y hY => spec_at_cut pc { lastSent := o } d A Y hnfA hbyp (Or.inr rfl)
          (fun x hx => (List.mem_append.mp hx).elim (hselA x) (fun h => hsel x (hY x h))) hmap hdb
      have hcut : raws.filter (fun r => decide (r.off ≤ o')) =
          raws.filter (fun r => decide (r.off ≤ o)) ++ A := by
        rw [filter_le_split raws o o' hrawR hoE, hB, hA]
      refine ⟨?_, ?_⟩
      · intro Y hY
        have hAY : ∀ r ∈ A ++ Y, r ∈ raws := fun r hr => by
          rcases List.mem_append.mp hr with h | h
          · exact hAsub r h
          · exact hY r h
        rw [hcut, List.append_assoc, ih.cont (A ++ Y) hAY, (hLS Y hY).1, ih.cont A hAsub, List.append_assoc]
      · intro h1 h2
        have hY : ∀ r ∈ body.filter (fun r => decide (o' < r.off)) ++ [e], r ∈ raws := by
          rw [← hR]; exact grp_rest_mem o'
        by_cases hom : m.off ≤ o
        · -- the life started inside the group: what was left of it contributed nothing
          have ho2 : o < e.off := by omega
          have hold := ih.grp hom ho2
          have hBg : B = body.filter (fun r => decide (o < r.off)) ++ e :: post := by
            rw [← hB, ← hR]; exact grp_gt_inside hraw hom ho2
          have hAg : A = (body.filter (fun r => decide (o < r.off))).filter (fun r => decide (r.off ≤ o')) := by
            rw [← hA, hBg, List.filter_append, filter_le_nil (grp_tail_above hraw h2), List.append_nil]
          have hbsub : List.Sublist (body.filter (fun r => decide (o < r.off))) body := List.filter_sublist
          have hbg := sorted_split (body.filter (fun r => decide (o < r.off))) o' (hbs.sublist (hbsub.map _))
          rw [← hAg, filter_gt_filter body o o' hoE] at hbg
          rw [hbg, List.append_assoc] at hold
          rw [(hLS _ hY).1] at hold
          exact (List.append_eq_nil_iff.mp hold).2
        · -- the life read the group from before its MULTI
          have hom' : o < m.off := by omega
          have hBg : B = pre.filter (fun r => decide (o < r.off)) ++ m :: (body ++ e :: post) := by
            rw [← hB, ← hR]; exact grp_gt_before hraw hom'
          have hrawBg : ((pre.filter (fun r => decide (o < r.off)) ++ m :: (body ++ e :: post)).map (·.off)).Pairwise
              (· < ·) := by rw [← hBg]; exact hrawB
          have hAg : A = pre.filter (fun r => decide (o < r.off)) ++
              m :: body.filter (fun r => decide (r.off ≤ o')) := by
            rw [← hA, hBg]; exact grp_le_inside hrawBg h1 h2
          have hquiet := group_tail_quiet { pc with startDbId := d } sc htxm o ho0
            (pre.filter (fun r => decide (o < r.off))) body post m e hm he hbody hrawBg
            (by rw [← hBg]; exact hloB) (by rw [← hBg]; exact hnestB) (by rw [← hBg]; exact hpassB)
            (by rw [← hBg]; exact hnf0) evs hnd (by rw [← hBg]; exact hitems) o' hocp h1 h2
          rw [parseAll_setDb, parseState_setDb, ← hAg] at hquiet
          rw [← (hLS _ hY).2, hquiet]
          rfl

/-- **A source transaction is never split, whatever the number of crashes and
    restarts.** Any number of lives in transactional resumable mode (any batching
    limits, any schedule of ticks, a crash after any number of requests, each life
    resumed from what `StartPoint` reads). For EVERY decomposition of the source
    stream `raws = pre ++ [MULTI] ++ body ++ [EXEC] ++ post` with `body` free of
    MULTI/EXEC -- a source transaction group -- and at EVERY reachable target state
    `T`: what the target has executed since the beginning is a prefix `P` of the
    one-pass specification of the whole stream, and `P` either lies within the
    specification of `pre` (NOTHING of the group has been executed) or contains
    the specification of `pre` followed by everything the group contributes (ALL
    of it has been executed). `specStream raws = S_pre ++ S_grp ++ S_post` is
    `spec_whole`. -/
theorem lives_never_split_txn (pc : PCfg) (raws : List Raw) (start : Int) (t0 : TState)
    (hraw : (raws.map (·.off)).Pairwise (· < ·)) (hlo : ∀ r ∈ raws, start < r.off)
    (hstart : 0 ≤ start)
    (hnest : RawNoNested false raws)
    (hpass : ∀ r ∈ raws, (r.cmd = bMulti ∨ r.cmd = bExec) →
      pc.filterCmd r.cmd = false ∧ (pc.filterCmdKey r.cmd r.args).isSome)
    (hnf : parseFails pc { lastSent := start } raws = false)
    (hsel : ∀ x ∈ raws, x.cmd = bSelect → ∀ a n, x.args = [a] → atoi? a = some n → 0 ≤ n)
    (hmapnn : ∀ n : Int, 0 ≤ n → 0 ≤ mapDb pc n)
    (hno : NoOffsets t0.cps)
    (T : TState) (o d : Int) (h : Lives pc raws start t0 true T o d)
    (pre body post : List Raw) (m e : Raw)
    (hdec : raws = pre ++ [m] ++ body ++ [e] ++ post)
    (hm : m.cmd = bMulti) (he : e.cmd = bExec)
    (hbody : ∀ r ∈ body, r.cmd ≠ bMulti ∧ r.cmd ≠ bExec) :
    ∃ P, T.applied = t0.applied ++ P ∧ P <+: specStream pc false 0 raws ∧
      (P <+: specStream pc false 0 pre ∨
       specStream pc false 0 pre ++ grpSpec pc pre m body e <+: P) := by
  obtain ⟨_, _, _, P, Q, happ, _, hspec, hexact, _⟩ := lives_lose_nothing pc raws start t0 true hraw hlo
    hstart hnest hpass hnf hsel hmapnn hno T o d h
  rw [hexact rfl] at happ
  have hnorm : pre ++ [m] ++ body ++ [e] ++ post = pre ++ m :: (body ++ e :: post) := by simp
  rw [hnorm] at hdec
  subst hdec
  have hinv := lives_group_inv pc start t0 pre body post m e hm he hbody hraw hlo hstart hnest hpass hnf
    hsel hmapnn hno T o d h
  -- what the target holds is the specification of the stream up to the position
  have hgt : ∀ r ∈ (pre ++ m :: (body ++ e :: post)).filter (fun r => decide (o < r.off)),
      r ∈ pre ++ m :: (body ++ e :: post) := fun r hr => (List.mem_filter.mp hr).1
  have hP : P = specStream pc false 0 ((pre ++ m :: (body ++ e :: post)).filter (fun r => decide (r.off ≤ o))) := by
    have h1 := hinv.cont _ hgt
    rw [← sorted_split _ o hraw, hspec] at h1
    exact List.append_cancel_right h1
  refine ⟨P, happ, ⟨_, hspec.symm⟩, ?_⟩
  have hG : specStream pc false 0 pre ++ grpSpec pc pre m body e =
      specStream pc false 0 (pre ++ m :: (body ++ [e])) := by
    rw [← spec_upto_group]; simp
  rw [hG]
  by_cases h1 : o < m.off
  · -- the position is before the group
    left
    rw [hP, grp_le_before hraw h1]
    have hsp := sorted_split pre o (sorted_append_lt hraw).1
    conv => rhs; rw [hsp]
    exact specStream_prefix pc false 0 _ _
  · right
    by_cases h2 : o < e.off
    · -- inside the group: the rest of the group contributes nothing
      have h1' : m.off ≤ o := by omega
      have hle := grp_le_inside hraw h1' h2
      have hb := sorted_split body o (group_order hraw).2.1
      have hc := hinv.cont _ (grp_rest_mem o)
      rw [hinv.grp h1' h2, List.append_nil, hle] at hc
      have hlist : (pre ++ m :: body.filter (fun r => decide (r.off ≤ o))) ++
          (body.filter (fun r => decide (o < r.off)) ++ [e]) = pre ++ m :: (body ++ [e]) := by
        conv => rhs; rw [hb]
        simp
      rw [hlist] at hc
      rw [hc, hP, hle]
      exact List.prefix_refl _
    · -- after the group
      have h2' : e.off ≤ o := by omega
      rw [hP, grp_le_after hraw h2']
      have : pre ++ m :: (body ++ e :: post.filter (fun r => decide (r.off ≤ o))) =
          (pre ++ m :: (body ++ [e])) ++ post.filter (fun r => decide (r.off ≤ o)) := by simp
      rw [this]
      exact specStream_prefix pc false 0 _ _

/-- **... and every source transaction is executed exactly once.** After any
    number of transactional resumable lives let one more resumed run finish (the
    finishing run of `Props.C02.lives_then_complete`: ticker mode, any schedule,
    closed by `done`). The target then holds, since the beginning, EXACTLY the
    one-pass specification of the whole stream, which for every decomposition
    `raws = pre ++ [MULTI] ++ body ++ [EXEC] ++ post` is
    `S_pre ++ S_grp ++ S_post`: the group's contribution once, in one piece, at
    its place -- never a part of it, never twice. -/
theorem lives_complete_txn_once (pc : PCfg) (raws : List Raw) (start : Int) (t0 : TState)
    (hraw : (raws.map (·.off)).Pairwise (· < ·)) (hlo : ∀ r ∈ raws, start < r.off)
    (hstart : 0 ≤ start)
    (hnest : RawNoNested false raws)
    (hpass : ∀ r ∈ raws, (r.cmd = bMulti ∨ r.cmd = bExec) →
      pc.filterCmd r.cmd = false ∧ (pc.filterCmdKey r.cmd r.args).isSome)
    (hnf : parseFails pc { lastSent := start } raws = false)
    (hsel : ∀ x ∈ raws, x.cmd = bSelect → ∀ a n, x.args = [a] → atoi? a = some n → 0 ≤ n)
    (hmapnn : ∀ n : Int, 0 ≤ n → 0 ≤ mapDb pc n)
    (hno : NoOffsets t0.cps)
    (T : TState) (o d : Int) (h : Lives pc raws start t0 true T o d)
    (sc : SCfg) (hsc : sc.txnMode = false) (evs : List Ev)
    (hitems : itemsOf evs =
      parserItems { pc with startDbId := d } o (raws.filter (fun r => decide (o < r.off))))
    (hnd : C01.NoDone evs)
    (pre body post : List Raw) (m e : Raw)
    (hdec : raws = pre ++ [m] ++ body ++ [e] ++ post) :
    (applyLog (crash T) (run sc initS (evs ++ [.done])).2.flatten).applied =
      t0.applied ++ specStream pc false 0 raws ∧
    specStream pc false 0 raws =
      specStream pc false 0 pre ++ grpSpec pc pre m body e ++ postSpec pc pre m body e post := by
  obtain ⟨Q', happ, _, hexact⟩ := lives_then_complete pc raws start t0 true hraw hlo hstart hnest hpass hnf
    hsel hmapnn hno T o d h sc hsc evs hitems hnd
  rw [hexact rfl] at happ
  refine ⟨happ, ?_⟩
  rw [hdec]
  exact spec_whole pc pre m body e post

/-! ### Non-vacuity: the position stored INSIDE a source group

Database 1 filtered, 2 → 5, 3 → 7 (`trPc`). The source transaction
`MULTI(60) set b(77) SELECT 1(96, filtered) set x(119, bypassed) EXEC(134)` is
handed over as `MULTI@60 set b@77 EXEC@77` -- the EXEC carries `lastSent`. Life 1
(transactional) dies after 12 requests, inside its third block: the target has
executed `set a`, `set b` and stored position 77 in database 5 -- strictly inside
the source group `[60, 134)`. Life 2 resumes there, inside the group, and dies
inside its second block: still 77. Both states satisfy `lives_never_split_txn`
for the group -- through its second disjunct: the whole contribution `[set b]`
of the group is on the target. -/

def gRaws : List Raw :=
  [ { cmd := bSelect, args := [[50]], off := 23 },                 -- SELECT 2 (→ 5)
    { cmd := [115,101,116], args := [[97],[49]], off := 50 },      -- set a 1   (db 5)
    { cmd := bMulti, args := [], off := 60 },                       -- MULTI
    { cmd := [115,101,116], args := [[98],[50]], off := 77 },      -- set b 2   (db 5)
    { cmd := bSelect, args := [[49]], off := 96 },                  -- SELECT 1 (filtered)
    { cmd := [115,101,116], args := [[120],[50]], off := 119 },    -- set x 2   (bypassed)
    { cmd := bExec, args := [], off := 134 },                       -- EXEC (handed over as 77)
    { cmd := bSelect, args := [[51]], off := 150 },                 -- SELECT 3 (→ 7)
    { cmd := [100,101,108], args := [[98]], off := 170 } ]          -- del b     (db 7)
def gPre : List Raw := gRaws.take 2
def gM : Raw := { cmd := bMulti, args := [], off := 60 }
def gBody : List Raw := (gRaws.drop 3).take 3
def gE : Raw := { cmd := bExec, args := [], off := 134 }
def gPost : List Raw := gRaws.drop 7
def gEvs : List Ev := (parseAll trPc { lastSent := 0 } gRaws).map Ev.item ++ [.batchTick]
def gT1 : TState := applyLog (crash trT) ((run trCfgTx initS gEvs).2.flatten.take 12)
def gEvs2 : List Ev :=
  (parserItems { trPc with startDbId := 5 } 77 (gRaws.filter (fun r => decide (77 < r.off)))).map Ev.item
    ++ [.keepaliveTick, .batchTick]
def gT2 : TState := applyLog (crash gT1) ((run trCfgTx initS gEvs2).2.flatten.take 8)

example : gRaws = gPre ++ [gM] ++ gBody ++ [gE] ++ gPost := by decide +kernel
/-- the EXEC is handed over with the offset of `set b` -/
example : (parseAll trPc { lastSent := 0 } gRaws).map (fun i => (i.cmd == bExec, i.offset)) =
    [(false, 23), (false, 50), (false, 60), (false, 77), (true, 77), (false, 150), (false, 170)] := by
  decide +kernel

theorem gLives1 : Lives trPc gRaws 0 trT true gT1 77 5 :=
  Lives.life Lives.init trCfgTx gEvs 12 77 5 (by decide +kernel)
    (by unfold GunYu.Props.C01.NoDone; decide +kernel)
    (fun _ => ⟨rfl, rfl⟩)
    (Or.inr (uniqueMaxB_spec _ _ _ (by decide +kernel)))

/-- life 2 starts INSIDE the group -/
theorem gLives2 : Lives trPc gRaws 0 trT true gT2 77 5 :=
  Lives.life gLives1 trCfgTx gEvs2 8 77 5 (by decide +kernel)
    (by unfold GunYu.Props.C01.NoDone; decide +kernel)
    (fun _ => ⟨rfl, rfl⟩)
    (Or.inr (uniqueMaxB_spec _ _ _ (by decide +kernel)))

example : gT1.cps = [(5, { offset := some 77, hasRunId := true })] := by decide +kernel
example : gT2.cps = [(5, { offset := some 77, hasRunId := true })] := by decide +kernel
example : gM.off ≤ 77 ∧ (77 : Int) < gE.off := by decide
example : gT2.applied =
    [ { db := 5, name := [115,101,116], args := [[97],[49]] },
      { db := 5, name := [115,101,116], args := [[98],[50]] } ] := by decide +kernel
example : specStream trPc false 0 gPre = [ { db := 5, name := [115,101,116], args := [[97],[49]] } ] := by
  decide +kernel
example : grpSpec trPc gPre gM gBody gE = [ { db := 5, name := [115,101,116], args := [[98],[50]] } ] := by
  decide +kernel
example : postSpec trPc gPre gM gBody gE gPost = [ { db := 7, name := [100,101,108], args := [[98]] } ] := by
  decide +kernel

theorem gNeverSplit {T : TState} {o d : Int} (h : Lives trPc gRaws 0 trT true T o d) :
    ∃ P, T.applied = trT.applied ++ P ∧ P <+: specStream trPc false 0 gRaws ∧
      (P <+: specStream trPc false 0 gPre ∨
        specStream trPc false 0 gPre ++ grpSpec trPc gPre gM gBody gE <+: P) :=
  lives_never_split_txn trPc gRaws 0 trT (by decide +kernel) (by decide +kernel) (by omega)
    (by simp [RawNoNested, gRaws, bSelect, bMulti, bExec]) (fun r _ _ => ⟨rfl, rfl⟩) (by decide +kernel)
    (selOK_spec gRaws (by decide +kernel)) (mapDb_nonneg trPc rfl (by decide +kernel))
    (fun d => rfl) T o d h gPre gBody gPost gM gE (by decide +kernel) rfl rfl
    (by decide +kernel)

/-- `lives_never_split_txn` on the two lives and the group: every hypothesis is
    discharged; the conclusion holds through its SECOND disjunct (`P` is not a
    prefix of `S_pre`: it has two elements) -/
example : ∃ P, gT2.applied = trT.applied ++ P ∧ P <+: specStream trPc false 0 gRaws ∧
    (P <+: specStream trPc false 0 gPre ∨
      specStream trPc false 0 gPre ++ grpSpec trPc gPre gM gBody gE <+: P) :=
  gNeverSplit gLives2

/-- the same after life 1 alone -/
example : True := by
  have := gNeverSplit gLives1
  trivial

/-- the FIRST disjunct: a life that dies after 8 requests (inside the block that
    carries the group) has stored position 50, before the group, and holds exactly
    `S_pre` -- nothing of the group -/
def gT0 : TState := applyLog (crash trT) ((run trCfgTx initS gEvs).2.flatten.take 8)
theorem gLives0 : Lives trPc gRaws 0 trT true gT0 50 5 :=
  Lives.life Lives.init trCfgTx gEvs 8 50 5 (by decide +kernel)
    (by unfold GunYu.Props.C01.NoDone; decide +kernel)
    (fun _ => ⟨rfl, rfl⟩)
    (Or.inr (uniqueMaxB_spec _ _ _ (by decide +kernel)))
example : gT0.applied = specStream trPc false 0 gPre := by decide +kernel
example : True := by
  have := gNeverSplit gLives0
  trivial

/-- `lives_complete_txn_once`: a ticker-mode run resumed at (77, 5) after the two
    lives finishes; the target holds `S_pre ++ S_grp ++ S_post` -/
def gEvs3 : List Ev :=
  (parserItems { trPc with startDbId := 5 } 77 (gRaws.filter (fun r => decide (77 < r.off)))).map Ev.item
    ++ [.cpTick]
example : (applyLog (crash gT2) (run trCfg initS (gEvs3 ++ [.done])).2.flatten).applied =
    trT.applied ++ specStream trPc false 0 gRaws :=
  (lives_complete_txn_once trPc gRaws 0 trT (by decide +kernel) (by decide +kernel) (by omega)
    (by simp [RawNoNested, gRaws, bSelect, bMulti, bExec]) (fun r _ _ => ⟨rfl, rfl⟩) (by decide +kernel)
    (selOK_spec gRaws (by decide +kernel)) (mapDb_nonneg trPc rfl (by decide +kernel))
    (fun d => rfl) gT2 77 5 gLives2 trCfg rfl gEvs3 (by decide +kernel)
    (by unfold GunYu.Props.C01.NoDone; decide +kernel) gPre gBody gPost gM gE (by decide +kernel)).1
example : (applyLog (crash gT2) (run trCfg initS (gEvs3 ++ [.done])).2.flatten).applied =
    [ { db := 5, name := [115,101,116], args := [[97],[49]] },
      { db := 5, name := [115,101,116], args := [[98],[50]] },
      { db := 7, name := [100,101,108], args := [[98]] } ] := by decide +kernel

end GunYu.Props.C09
