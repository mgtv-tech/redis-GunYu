/-
  C17 — switching the bidirectional recovery format: THE POSITION A BIDIRECTIONAL START REALLY USES.

  `migrate_prefix_safe` (Props/C17.lean) bounds the ROOT checkpoint. A bidirectional start
  (`RedisOutput.StartPoint` → `bisyncStartPoint`, C14's start model `Frontier.startLatest` /
  `Frontier.startFrontier`) overrides the root by the latest record / the rebuilt frontier unless the root
  is newer. `migrate_start_exact`: for the migration proper (stored mode of another recovery family, an
  authoritative seed), stopped after ANY number `k` of its requests — the namespace-level ones included
  (Model/MigrateNs.lean) — the next start of a process configured for the new mode (the switch run again to
  completion on the crash state with another freshly drawn name, then `StartPoint` on the namespace it
  resolved) resumes at EXACTLY the offset the start in the old mode resumed at before the switch began:
  never lower (nothing replayed twice beyond what the old mode would have), never higher (nothing skipped).
  `migrate_start_inferred`: the same when the old namespace carries no mode marker (mode inferred).
-/
import GunYu.Props.C17
import GunYu.Proofs.MigrateStart

namespace GunYu.MigrateNs
open GunYu GunYu.Checkpoint GunYu.Migrate

def NsSeeded (id1 : Bytes) (desired : BMode) (S : Int) (ns : Frontier.NS) : Prop :=
  ns.index = [] ∧
  (if desired.usesFrontier then ∃ s, ns.frontier = some s ∧ s.runId = id1 ∧ s.offset = S
   else ∃ r, ns.latest = some r ∧ r.runId = id1 ∧ r.endOff = S)

/-- the requests after the repointing of the hash -/
def tailB (n r id1 : Bytes) (cur : BMode) : List BReq :=
  (if r ≠ [] ∧ r ≠ id1 then [BReq.cp (Req.hdelHash r)] else [])
  ++ (if cur.usesFrontier then [BReq.dropJournal n] else [])
  ++ [BReq.dropSlots n, BReq.delRoot n]

def seedB (id1 newName ver : Bytes) (desired : BMode) (seq S mt : Int) : BReq :=
  if desired.usesFrontier
    then BReq.seedFrontier newName { runId := id1, seq := seq, offset := S, mtime := mt, version := ver }
    else BReq.seedLatest newName { seq := seq, endOff := S, mtime := mt, runId := id1 }

/-- the requests up to the repointing of the hash -/
def headB (id1 newName ver : Bytes) (desired : BMode) (seq S mt now1 now2 : Int) : List BReq :=
  [BReq.cp (Req.hsetCp 0 newName (cpEntries { runId := id1, offset := S, version := ver } now1)),
   seedB id1 newName ver desired seq S mt,
   BReq.cp (Req.hsetCp 0 newName (modeEntries desired now2)),
   BReq.cp (Req.hsetHash id1 newName)]

theorem migrateReqsB_form (ver : Bytes) (b : BT) (id1 id2 n r newName : Bytes) (cur desired : BMode) (sd : Seed)
    (c : CpInfo) (nows : List Int) (order : List Nat) (mt : Int) (h1 : id1 ≠ [])
    (hn : getHash b.t.hash [id1, id2] = some (n, r)) (hn0 : n ≠ [])
    (hmode : loadMode b.t n = some (some cur)) (hcd : cur ≠ desired) (hfam : sameFamily cur desired = false)
    (hsd : loadSeed ver (b.ns n) [id1, id2] cur = some sd)
    (hgc : getCheckpoint ver b.t n [id1, id2] order = some (c, 0)) :
    migrateReqsB ver b [id1, id2] desired newName nows order mt =
      headB id1 newName ver desired (seedSeq sd c [id1, id2]) (seedOffset sd c [id1, id2]) mt (nows.headD 0)
        (nows.tail.headD 0) ++ tailB n r id1 cur := by
  unfold migrateReqsB
  simp only [hn, hn0, if_false, hmode, hcd, hfam, Bool.false_eq_true, hsd, hgc, migrateCoreB,
    preferredRunId_first id1 id2 _ h1, headB, seedB, tailB, List.cons_append, List.nil_append, List.append_assoc]

theorem cpPart_headB (id1 newName ver : Bytes) (desired : BMode) (seq S mt now1 now2 : Int) :
    (headB id1 newName ver desired seq S mt now1 now2).filterMap cpPart =
      [Req.hsetCp 0 newName (cpEntries { runId := id1, offset := S, version := ver } now1),
       Req.hsetCp 0 newName (modeEntries desired now2), Req.hsetHash id1 newName] := by
  unfold headB seedB
  split <;> rfl

theorem tailB_spec {n r id1 newName : Bytes} (cur : BMode) (hnn : newName ≠ n) (hnf : newName ≠ frontierKey n) :
    ∀ q ∈ tailB n r id1 cur, nsName q ≠ some newName ∧ ∀ q', cpPart q = some q' → PostReq id1 newName q' := by
  intro q hq
  unfold tailB at hq
  simp only [List.mem_append, List.mem_cons, List.not_mem_nil, or_false] at hq
  have hn : some n ≠ some newName := fun h => hnn (Option.some.inj h).symm
  rcases hq with (hq | hq) | rfl | rfl
  · split at hq
    · rename_i hc
      rw [List.mem_singleton.mp hq]
      exact ⟨(fun h => nomatch h), fun q' hq' => Or.inl ⟨r, (Option.some.inj hq').symm, hc.2⟩⟩
    · cases hq
  · split at hq
    · rw [List.mem_singleton.mp hq]; exact ⟨hn, fun _ h => nomatch h⟩
    · cases hq
  · exact ⟨hn, fun _ h => nomatch h⟩
  · refine ⟨hn, fun q' hq' => Or.inr ⟨0, _, (Option.some.inj hq').symm, fun hmem => ?_⟩⟩
    simp only [List.contains_iff_mem, List.mem_cons, List.not_mem_nil, or_false] at hmem
    exact hmem.elim hnn hnf

/-- **the states from the repointing of the hash on**: the target is `Seeded`, the recovery state of the new
    namespace is what `seedBisyncNamespace` wrote -/
theorem run_ge4 {ver id1 id2 n r newName : Bytes} (A : MArgs id1 id2 n newName) (b : BT) (cur desired : BMode)
    (S seq mt now1 now2 : Int) (hS0 : 0 ≤ S) (hSr : InInt64 S)
    (hnow : InInt64 now1) (hf : Fresh [id1, id2] b.t newName)
    (hidx : (b.ns newName).index = []) (j : Nat) :
    Seeded id1 id2 newName desired S
      (applyAllB b (headB id1 newName ver desired seq S mt now1 now2 ++ (tailB n r id1 cur).take j)).t ∧
    NsSeeded id1 desired S
      ((applyAllB b (headB id1 newName ver desired seq S mt now1 now2 ++ (tailB n r id1 cur).take j)).ns
        newName) := by
  constructor
  · rw [applyAllB_t, List.filterMap_append, cpPart_headB, applyAll_append]
    refine seeded_post A.hne A.h1 _ (seeded_after_three A hf desired S now1 now2 hS0 hSr hnow) fun q hq => ?_
    obtain ⟨x, hx, hxq⟩ := List.mem_filterMap.mp hq
    exact (tailB_spec cur A.hnewn A.hnewf x (List.mem_of_mem_take hx)).2 q hxq
  · rw [applyAllB_append, applyAllB_ns_other _ newName _
      (fun q hq => (tailB_spec (id1 := id1) cur A.hnewn A.hnewf q (List.mem_of_mem_take hq)).1)]
    unfold NsSeeded headB seedB
    by_cases hu : desired.usesFrontier = true
    · simp only [hu, if_true, applyAllB, List.foldl_cons, List.foldl_nil, applyB, setNs]
      exact ⟨hidx, _, rfl, rfl, rfl⟩
    · simp only [hu, if_false, applyAllB, List.foldl_cons, List.foldl_nil, applyB, setNs, Bool.false_eq_true]
      exact ⟨hidx, _, rfl, rfl, rfl⟩

/-- a start in the new mode on a seeded namespace resumes at the seed offset: the root checkpoint and the
    seeded record / frontier (no journal) carry the same offset, so it does not matter which one counts -/
theorem start_on_seeded (ver id1 id2 newName : Bytes) (h1 : id1 ≠ []) (bt : BT) (desired : BMode) (S : Int)
    (hs : Seeded id1 id2 newName desired S bt.t) (hns : NsSeeded id1 desired S (bt.ns newName))
    (order : List Nat) (h0 : 0 ∈ order) :
    startOff (bisyncStart ver bt newName [id1, id2] desired order) = some S := by
  obtain ⟨c, hgc, hcS, _, _⟩ := getCheckpoint_of_holds ver hs.holds order h0
  unfold bisyncStart rootOf
  simp only [hgc, show ¬ (((0 : Nat) : Int) < 0) by decide, if_false, Int.toNat_natCast]
  obtain ⟨hidx, hrec⟩ := hns
  by_cases hu : desired.usesFrontier = true
  · simp only [hu, if_true] at hrec ⊢
    obtain ⟨s, hf, hsr, hso⟩ := hrec
    have hsnap : Frontier.loadSnapshot (bt.ns newName) [id1, id2] = some s := by
      simp [Frontier.loadSnapshot, hf, hsr, matchRun_first id1 id2 h1]
    have hrec : Frontier.startRecords (bt.ns newName) [id1, id2] = [] := by
      simp [Frontier.startRecords, Frontier.loadRecords, hidx, Frontier.idxSort]
    rw [startFrontier_off ver { bt.ns newName with root := some (c.runId, c.offset, 0) } _ s _ rfl
      (by rw [loadSnapshot_root, startRecords_root, hsnap, hrec]; rfl), hso, hcS]
    simp only [ite_self]
  · simp only [hu, if_false, Bool.false_eq_true] at hrec ⊢
    obtain ⟨rr, hl, hsr, hso⟩ := hrec
    rw [startLatest_off { bt.ns newName with root := some (c.runId, c.offset, 0) } _ rr _ rfl hl
      (hsr ▸ matchRun_first id1 id2 h1), hso, hcS]
    simp only [ite_self]

/-- the switch has nothing to do, the start reads the seeded namespace -/
theorem nextStart_on_seeded (ver id1 id2 newName : Bytes) (h1 : id1 ≠ []) (hnew0 : newName ≠ []) (bt : BT)
    (desired : BMode) (S : Int) (hs : Seeded id1 id2 newName desired S bt.t)
    (hns : NsSeeded id1 desired S (bt.ns newName)) (nn : Bytes) (nows : List Int) (order : List Nat)
    (h0 : 0 ∈ order) (mt : Int) :
    startOff (nextStart ver bt [id1, id2] desired nn nows order mt) = some S := by
  have hnoop : migrateReqsB ver bt [id1, id2] desired nn nows order mt = [] := by
    unfold migrateReqsB
    simp only [hs.hash, hnew0, if_false, hs.mode, if_true]
  unfold nextStart
  simp only [hnoop, applyAllB, List.foldl_nil, hs.hash, hnew0, if_false]
  exact start_on_seeded ver id1 id2 newName h1 bt desired S hs hns order h0

theorem nextStart_full {ver id1 id2 n r N : Bytes} (A : MArgs id1 id2 n N) {bk : BT} {X : Int}
    {cur desired : BMode} {sd : Seed} {c : CpInfo}
    (hn : getHash bk.t.hash [id1, id2] = some (n, r)) (hn0 : n ≠ []) (hholds : Holds [id1, id2] bk.t n 0 X)
    (hfetch : fetch [id1, id2] (bk.t.cps 0 n) = some c)
    (hmode : loadMode bk.t n = some (some cur)) (hcd : cur ≠ desired) (hfam : sameFamily cur desired = false)
    (hsd : loadSeed ver (bk.ns n) [id1, id2] cur = some sd)
    (hS0 : 0 ≤ seedOffset sd c [id1, id2])
    (hSr : InInt64 (seedOffset sd c [id1, id2]))
    (hf : Fresh [id1, id2] bk.t N) (hidx : (bk.ns N).index = []) (nows : List Int)
    (hnows : ∀ x ∈ nows, InInt64 x) (order : List Nat) (h0 : 0 ∈ order) (mt : Int) :
    startOff (nextStart ver bk [id1, id2] desired N nows order mt) = some (seedOffset sd c [id1, id2]) := by
  obtain ⟨c2, hgc, _, _, hfetch2⟩ := getCheckpoint_of_holds ver hholds order h0
  cases hfetch.symm.trans hfetch2
  obtain ⟨hs, hns⟩ := run_ge4 (ver := ver) (r := r) A bk cur desired (seedOffset sd c [id1, id2])
    (seedSeq sd c [id1, id2]) mt (nows.headD 0) (nows.tail.headD 0) hS0 hSr (headD_range hnows) hf hidx
    (tailB n r id1 cur).length
  rw [List.take_length] at hs hns
  unfold MigrateNs.nextStart
  rw [migrateReqsB_form ver bk id1 id2 n r N cur desired sd c nows order mt A.h1 hn hn0 hmode hcd hfam hsd hgc]
  simp only [hs.hash, A.hnew0, if_false]
  exact start_on_seeded ver id1 id2 N A.h1 _ desired _ hs hns order h0

def AgreeOff (newName : Bytes) (b' b : BT) : Prop :=
  b'.t.hash = b.t.hash ∧ (∀ db nm, nm ≠ newName → b'.t.cps db nm = b.t.cps db nm) ∧
  (∀ nm, nm ≠ newName → b'.ns nm = b.ns nm)

theorem agree_head (b : BT) (id1 newName ver : Bytes) (desired : BMode) (seq S mt now1 now2 : Int) {k : Nat}
    (hk : k ≤ 3) :
    AgreeOff newName (applyAllB b ((headB id1 newName ver desired seq S mt now1 now2).take k)) b := by
  have hcp : ∀ {b' : BT} (es : List Entry), AgreeOff newName b' b →
      AgreeOff newName (applyB b' (BReq.cp (Req.hsetCp 0 newName es))) b := fun es ⟨h1, h2, h3⟩ =>
    ⟨h1, fun db nm hnm => by
      show (applyReq _ (Req.hsetCp 0 newName es)).cps db nm = _
      rw [applyReq_hsetCp_cps, if_neg fun hc => hnm hc.2]; exact h2 db nm hnm, h3⟩
  have hseed : ∀ {b' : BT}, AgreeOff newName b' b →
      AgreeOff newName (applyB b' (seedB id1 newName ver desired seq S mt)) b := fun ⟨h1, h2, h3⟩ => by
    refine ⟨?_, ?_, fun nm hnm => ?_⟩
    · unfold seedB; split <;> exact h1
    · unfold seedB; split <;> exact h2
    · unfold seedB; split <;> exact (if_neg hnm).trans (h3 nm hnm)
  have h0 : AgreeOff newName b b := ⟨rfl, fun _ _ _ => rfl, fun _ _ => rfl⟩
  rcases k with _ | _ | _ | _ | k
  · exact h0
  · exact hcp _ h0
  · exact hseed (hcp _ h0)
  · exact hcp _ (hseed (hcp _ h0))
  · omega

end GunYu.MigrateNs

namespace GunYu.Props.C17
open GunYu GunYu.Checkpoint GunYu.Migrate GunYu.MigrateNs

/-- hypotheses of `migrate_start_exact`: those of `migrate_prefix_safe` (`MigPre`), the stored mode `cur` of the old
    namespace (another recovery family than `desired`), an authoritative seed, and a second freshly drawn name for
    the run of the switch after the crash; both drawn names hold no field of the ids and no journal index -/
structure MigStartPre (ver id1 id2 n r newName newName2 : Bytes) (b : BT) (X : Int) (nows nows2 : List Int)
    (cur desired : BMode) (sd : Seed) : Prop where
  pre : MigPre ver id1 id2 n r newName b.t (b.ns n) X nows
  args2 : MArgs id1 id2 n newName2
  ne12 : newName2 ≠ newName
  fresh2 : Fresh [id1, id2] b.t newName2
  mode : loadMode b.t n = some (some cur)
  hcd : cur ≠ desired
  hfam : sameFamily cur desired = false
  seed : loadSeed ver (b.ns n) [id1, id2] cur = some sd
  idx1 : (b.ns newName).index = []
  idx2 : (b.ns newName2).index = []
  nows2Range : ∀ x ∈ nows2, -(2^63 : Int) ≤ x ∧ x < 2^63

/-- **The recovery-format switch never changes the position a bidirectional start uses.** The start in
    the OLD mode on the old namespace resumes at some offset `S`; after ANY number `k` of the requests of the
    switch (root checkpoint, frontier snapshot / latest record, mode marker, hash, clean-up of the old
    namespace), the next start of a process configured for the NEW mode resumes at exactly `S`. -/
theorem migrate_start_exact (ver id1 id2 n r newName newName2 : Bytes) (b : BT) (X : Int) (nows nows2 : List Int)
    (cur desired : BMode) (sd : Seed) (P : MigStartPre ver id1 id2 n r newName newName2 b X nows nows2 cur desired sd)
    (order order2 : List Nat) (h0 : 0 ∈ order) (h02 : 0 ∈ order2) (mt mt2 : Int) :
    ∃ S, startOff (bisyncStart ver b n [id1, id2] cur order) = some S ∧
      ∀ k, startOff (nextStart ver
          (applyAllB b ((migrateReqsB ver b [id1, id2] desired newName nows order mt).take k))
          [id1, id2] desired newName2 nows2 order2 mt2) = some S := by
  have A := P.pre.args
  obtain ⟨c, hgc, hcX, hcq, hfetch⟩ := getCheckpoint_of_holds ver P.pre.holds order h0
  obtain ⟨hXS, hSr⟩ := seedOffset_ge P.pre hfetch hcX hcq P.seed
  have hS0 : 0 ≤ seedOffset sd c [id1, id2] := Int.le_trans P.pre.holds.nonneg hXS
  refine ⟨seedOffset sd c [id1, id2], ?_, fun k => ?_⟩
  · -- before: the start in the old mode
    unfold bisyncStart rootOf
    simp only [hgc, show ¬ (((0 : Nat) : Int) < 0) by decide, if_false, Int.toNat_natCast]
    rw [← old_start ver (b.ns n) [id1, id2] cur sd P.seed c 0 hcq]
    by_cases hu : cur.usesFrontier = true
    · rw [if_pos hu, if_pos hu]
    · rw [if_neg hu, if_neg hu]
  rw [migrateReqsB_form ver b id1 id2 n r newName cur desired sd c nows order mt A.h1
    P.pre.hn P.pre.hn0 P.mode P.hcd P.hfam P.seed hgc, List.take_append]
  by_cases hk : 4 ≤ k
  · -- the hash is repointed: nothing left to do for the switch, the start reads the seeded namespace
    rw [List.take_of_length_le (show (headB ..).length ≤ k from hk)]
    obtain ⟨hs, hns⟩ := run_ge4 (ver := ver) (r := r) A b cur desired (seedOffset sd c [id1, id2])
      (seedSeq sd c [id1, id2]) mt (nows.headD 0) (nows.tail.headD 0) hS0 hSr (headD_range P.pre.nowsRange)
      P.pre.fresh P.idx1 (k - 4)
    exact nextStart_on_seeded ver id1 id2 newName A.h1 A.hnew0 _ desired _ hs hns newName2 nows2 order2 h02 mt2
  · -- the hash still resolves the old namespace, which is untouched: the switch runs again, into the second name
    rw [show k - (headB ..).length = 0 from Nat.sub_eq_zero_of_le (by show k ≤ 4; omega),
      List.take_zero, List.append_nil]
    obtain ⟨hh, hcps, hnsq⟩ := agree_head b id1 newName ver desired (seedSeq sd c [id1, id2])
      (seedOffset sd c [id1, id2]) mt (nows.headD 0) (nows.tail.headD 0) (k := k) (by omega)
    have hnn : n ≠ newName := fun h => A.hnewn h.symm
    exact nextStart_full P.args2 (hh ▸ P.pre.hn) P.pre.hn0 (P.pre.holds.congr fun db => hcps db n hnn)
      ((hcps 0 n hnn).symm ▸ hfetch) ((loadMode_congr (hcps 0 n hnn)).trans P.mode) P.hcd P.hfam
      ((hnsq n hnn).symm ▸ P.seed) hS0 hSr
      (fun db e he => P.fresh2 db e (hcps db newName2 P.ne12 ▸ he))
      ((hnsq newName2 P.ne12).symm ▸ P.idx2) nows2 P.nows2Range order2 h02 mt2

/-- the mode marker written on a root key changes nothing `GetCheckpoint` reads there -/
theorem getCheckpoint_marker (ver id1 id2 n : Bytes) (hm : matchId [id1, id2] modeField = false)
    {t : Checkpoint.Target} {X : Int} (h : Holds [id1, id2] t n 0 X) (m : BMode) (now : Int) (order : List Nat)
    (h0 : 0 ∈ order) :
    ∃ c c1, getCheckpoint ver t n [id1, id2] order = some (c, 0) ∧
      getCheckpoint ver (applyReq t (Req.hsetCp 0 n (modeEntries m now))) n [id1, id2] order = some (c1, 0) ∧
      c1.offset = c.offset ∧ c1.runId = c.runId := by
  have hes : ∀ e ∈ modeEntries m now, matchId [id1, id2] e.rid = false :=
    fun e he => modeEntries_rid m now e he ▸ hm
  obtain ⟨c, hgc, hcX, _, hf⟩ := getCheckpoint_of_holds ver h order h0
  obtain ⟨c1, hgc1, hcX1, _, hf1⟩ := getCheckpoint_of_holds ver (holds_hset_nonmatching h 0 n _ hes) order h0
  refine ⟨c, c1, hgc, hgc1, hcX1.trans hcX.symm, ?_⟩
  rw [(fetch_foldl_some _ _ {} c hf).2, (fetch_foldl_some _ _ {} c1 hf1).2, applyReq_hsetCp_cps, if_pos ⟨rfl, rfl⟩]
  exact ridOf_hsetMany_irrelevant _ _ _ fun e he => by unfold ridSel; rw [hes e he]; rfl

/-- without a mode marker: the switch stores the inferred mode on the old root key, then does what it does
    on the state with that marker -/
theorem migrateReqsB_marker {ver id1 id2 n r : Bytes} {b : BT} {X : Int} {cur desired : BMode} {sd : Seed}
    (hm : matchId [id1, id2] modeField = false) (h1 : id1 ≠ [])
    (hn : getHash b.t.hash [id1, id2] = some (n, r)) (hn0 : n ≠ []) (hholds : Holds [id1, id2] b.t n 0 X)
    (hmode : loadMode b.t n = none) (hinf : inferMode (b.ns n) [id1, id2] = some cur) (hcd : cur ≠ desired)
    (hfam : sameFamily cur desired = false) (hsd : loadSeed ver (b.ns n) [id1, id2] cur = some sd)
    (N : Bytes) (nows : List Int) (order : List Nat) (h0 : 0 ∈ order) (mt : Int) :
    migrateReqsB ver b [id1, id2] desired N nows order mt =
      BReq.cp (Req.hsetCp 0 n (modeEntries cur (nows.headD 0))) ::
        migrateReqsB ver (applyB b (BReq.cp (Req.hsetCp 0 n (modeEntries cur (nows.headD 0))))) [id1, id2]
          desired N nows.tail order mt := by
  -- the two runs read the same run id and offset on the old root key
  obtain ⟨c, c1, hgc, hgc1, ho1, hr1⟩ := getCheckpoint_marker ver id1 id2 n hm hholds cur (nows.headD 0) order h0
  have hseed : seedOffset sd c1 [id1, id2] = seedOffset sd c [id1, id2] ∧
      seedSeq sd c1 [id1, id2] = seedSeq sd c [id1, id2] := by
    unfold seedOffset seedSeq; rw [ho1, hr1]; exact ⟨rfl, rfl⟩
  rw [migrateReqsB_form ver (applyB b (BReq.cp (Req.hsetCp 0 n (modeEntries cur (nows.headD 0))))) id1 id2 n r N
    cur desired sd c1 nows.tail order mt h1 hn hn0 (loadMode_after _ n cur _) hcd hfam hsd hgc1]
  unfold migrateReqsB
  simp only [hn, hn0, if_false, hmode, hinf, hcd, hfam, Bool.false_eq_true, hsd, hgc, migrateCoreB,
    preferredRunId_first id1 id2 _ h1, headB, seedB, tailB, List.cons_append, List.nil_append, List.append_assoc,
    hseed.1, hseed.2]

/-- **The same when the old namespace carries NO mode marker** and the mode is inferred from its recovery state
    (`inferBisyncNamespaceMode`): the switch first stores the inferred mode on the old root key, then migrates. -/
theorem migrate_start_inferred (ver id1 id2 n r newName newName2 : Bytes) (b : BT) (X : Int) (nows nows2 : List Int)
    (cur desired : BMode) (sd : Seed) (pre : MigPre ver id1 id2 n r newName b.t (b.ns n) X nows)
    (args2 : MArgs id1 id2 n newName2) (ne12 : newName2 ≠ newName) (fresh2 : Fresh [id1, id2] b.t newName2)
    (hmode : loadMode b.t n = none) (hinf : inferMode (b.ns n) [id1, id2] = some cur) (hcd : cur ≠ desired)
    (hfam : sameFamily cur desired = false) (hseed : loadSeed ver (b.ns n) [id1, id2] cur = some sd)
    (idx1 : (b.ns newName).index = []) (idx2 : (b.ns newName2).index = [])
    (nows2Range : ∀ x ∈ nows2, -(2^63 : Int) ≤ x ∧ x < 2^63)
    (order order2 : List Nat) (h0 : 0 ∈ order) (h02 : 0 ∈ order2) (mt mt2 : Int) :
    ∃ S, startOff (bisyncStart ver b n [id1, id2] cur order) = some S ∧
      ∀ k, startOff (MigrateNs.nextStart ver
          (applyAllB b ((migrateReqsB ver b [id1, id2] desired newName nows order mt).take k))
          [id1, id2] desired newName2 nows2 order2 mt2) = some S := by
  have A := pre.args
  -- the state after a mode marker write on the old root key satisfies the hypotheses of `migrate_start_exact`
  have hP : ∀ (now : Int) (nws nws2 : List Int) (hnws : ∀ x ∈ nws, InInt64 x)
      (nows2Range : ∀ x ∈ nws2, InInt64 x),
      MigStartPre ver id1 id2 n r newName newName2 (applyB b (BReq.cp (Req.hsetCp 0 n (modeEntries cur now)))) X nws nws2
        cur desired sd := by
    intro now nws nws2 hnws nows2Range
    have hes := A.modeEntries cur now
    refine ⟨⟨A, pre.h2, pre.hn, pre.hn0, holds_hset_nonmatching pre.holds 0 n _ hes, ?_,
      fresh_hset_nonmatching pre.fresh 0 n _ hes, pre.seedRange, hnws⟩, args2, ne12,
      fresh_hset_nonmatching fresh2 0 n _ hes, loadMode_after _ n cur now, hcd, hfam, hseed, idx1, idx2, nows2Range⟩
    -- the marker fields are no `_runid` fields
    intro db e he hk
    replace he : e ∈ (applyReq b.t (Req.hsetCp 0 n (modeEntries cur now))).cps db n := he
    rw [applyReq_hsetCp_cps] at he
    split at he
    · rcases mem_hsetMany he with he' | he'
      · simp only [modeEntries, List.mem_cons, List.not_mem_nil, or_false] at he'
        rcases he' with rfl | rfl <;> cases hk
      · exact pre.own 0 e he' hk
    · exact pre.own db e he hk
  -- the start in the inferred mode reads the same before and after the marker
  have hstart0 : ∀ (now : Int), bisyncStart ver (applyB b (BReq.cp (Req.hsetCp 0 n (modeEntries cur now)))) n [id1, id2] cur order
      = bisyncStart ver b n [id1, id2] cur order := by
    intro now
    obtain ⟨c0, c3, hg0, hg3, ho3, hr3⟩ := getCheckpoint_marker ver id1 id2 n A.hm pre.holds cur now order h0
    unfold bisyncStart rootOf
    rw [show (applyB b (BReq.cp (Req.hsetCp 0 n (modeEntries cur now)))).t = applyReq b.t (Req.hsetCp 0 n (modeEntries cur now)) from rfl,
      hg0, hg3]
    simp only [ho3, hr3]
    rfl
  have hL := fun N nws ord (h : 0 ∈ ord) m => migrateReqsB_marker (ver := ver) (desired := desired) A.hm A.h1
    pre.hn pre.hn0 pre.holds hmode hinf hcd hfam hseed N nws ord h m
  obtain ⟨S, hS, hall⟩ := migrate_start_exact ver id1 id2 n r newName newName2 _ X nows.tail nows2 cur desired sd
    (hP (nows.headD 0) nows.tail nows2 (tail_range pre.nowsRange) nows2Range) order order2 h0 h02 mt mt2
  rw [hstart0] at hS
  refine ⟨S, hS, fun k => ?_⟩
  cases k with
  | succ k =>
    rw [hL newName nows order h0 mt, List.take_succ_cons]
    exact hall k
  | zero =>
    -- nothing was issued: the next start runs the whole switch, marker included, into the second name
    obtain ⟨S', hS', hall'⟩ := migrate_start_exact ver id1 id2 n r newName newName2 _ X nows2.tail nows2.tail cur desired sd
      (hP (nows2.headD 0) nows2.tail nows2.tail (tail_range nows2Range) (tail_range nows2Range)) order order2 h0 h02 mt mt2
    rw [hstart0, hS] at hS'
    cases hS'
    have h0k := hall' 0
    rw [List.take_zero] at h0k ⊢
    unfold MigrateNs.nextStart at h0k ⊢
    rw [show applyAllB b [] = b from rfl, hL newName2 nows2 order2 h02 mt2]
    exact h0k

/-! ### non-vacuity: `exM` / `exNs` of Props/C17.lean (sync → parallel, root checkpoint 700 newer than the latest
    record 650): the start in sync mode resumed at 700 (root override); after any prefix the next start in
    parallel mode resumes at 700 -/

def exB : BT := { t := exM, ns := fun nm => if nm = exCp then exNs else {} }
def exNew2 : Bytes := [101]

theorem exB_pre : MigStartPre [49] exId1 exId2 exCp exId1 exNew exNew2 exB 700 [5, 6] [7, 8] .sync .parallel
    ⟨exId1, 4, 650, 3⟩ :=
  { pre := exM_pre
    args2 := ⟨by decide, by decide, by decide, by decide, by decide, by decide, by decide⟩
    ne12 := by decide
    fresh2 := by intro db e he; simp [exB, exM, exNew2, exCp] at he
    mode := by decide
    hcd := by decide
    hfam := by decide
    seed := by decide
    idx1 := by decide
    idx2 := by decide
    nows2Range := by decide }

example := migrate_start_exact [49] exId1 exId2 exCp exId1 exNew exNew2 exB 700 [5, 6] [7, 8] .sync .parallel
  ⟨exId1, 4, 650, 3⟩ exB_pre [0] [0] (by decide) (by decide) 3 9
example : (migrateReqsB [49] exB [exId1, exId2] .parallel exNew [5, 6] [0] 3).length = 6 := by decide +kernel
example : startOff (bisyncStart [49] exB exCp [exId1, exId2] .sync [0]) = some 700 := by decide +kernel
example : startOff (MigrateNs.nextStart [49]
    (applyAllB exB ((migrateReqsB [49] exB [exId1, exId2] .parallel exNew [5, 6] [0] 3).take 2))
    [exId1, exId2] .parallel exNew2 [7, 8] [0] 9) = some 700 := by decide +kernel

/-- the same namespace without a mode marker: the mode (sync) is inferred from the latest record; 7 requests
    (the marker on the old root key first) -/
def exM2 : Checkpoint.Target :=
  { hash := [(exId1, exCp)],
    cps := fun db n => if n = exCp ∧ db = 0 then
      [⟨exId1, .runid, exId1⟩, ⟨exId1, .offset, [55, 48, 48]⟩] else [] }
def exB2 : BT := { t := exM2, ns := fun nm => if nm = exCp then exNs else {} }

theorem exM2_pre : MigPre [49] exId1 exId2 exCp exId1 exNew exM2 exNs 700 [5, 6, 7] :=
  ex_migPre exM2 _ _ rfl (fun _ _ => rfl) (by unfold Parses; decide) (by decide)

example := migrate_start_inferred [49] exId1 exId2 exCp exId1 exNew exNew2 exB2 700 [5, 6, 7] [7, 8, 9] .sync .parallel
  ⟨exId1, 4, 650, 3⟩ exM2_pre
  ⟨by decide, by decide, by decide, by decide, by decide, by decide, by decide⟩ (by decide)
  (by intro db e he; simp [exB2, exM2, exNew2, exCp] at he) (by decide) (by decide) (by decide) (by decide)
  (by decide) (by decide) (by decide) (by decide) [0] [0] (by decide) (by decide) 3 9
example : (migrateReqsB [49] exB2 [exId1, exId2] .parallel exNew [5, 6, 7] [0] 3).length = 7 := by decide +kernel
example : startOff (MigrateNs.nextStart [49]
    (applyAllB exB2 ((migrateReqsB [49] exB2 [exId1, exId2] .parallel exNew [5, 6, 7] [0] 3).take 1))
    [exId1, exId2] .parallel exNew2 [7, 8, 9] [0] 9) = some 700 := by decide +kernel

end GunYu.Props.C17
