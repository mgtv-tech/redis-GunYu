/-
  C07, down to the SOURCE stream: `Props/C07.lean` shows that every stored position
  is the offset of an item the loop consumed (`cp_boundary`). The items come from
  the parser, which hands a transaction bracket over from inside a filtered
  database with the offset of the last command it handed over -- so is a stored
  position still "an offset at which a source command ends (or the offset replay
  started from)"? `stored_position_is_command_end`: yes, for every configuration,
  stream and schedule, fresh or resumed.
-/
import GunYu.Props.C07
import GunYu.Proofs.TwoRuns

namespace GunYu.Props.C07
open GunYu GunYu.Sender GunYu.Target

/-- **Every stored position is the end of a source command, or the start offset.** -/
theorem stored_position_is_command_end (pc : PCfg) (sc : SCfg) (raws : List Raw) (start : Int)
    (evs : List Ev) (hitems : itemsOf evs = parserItems pc start raws)
    (hraw : (raws.map (·.off)).Pairwise (· < ·)) (hlo : ∀ r ∈ raws, start < r.off) :
    ∀ o ∈ cpOffsets (run sc initS evs).2, o = start ∨ ∃ r ∈ raws, r.off = o := by
  intro o ho
  rcases run_cp_origin sc initS evs o ho with ⟨he, hp⟩ | ⟨i, hi, he⟩
  · simp only [initS] at he; omega
  · rcases mem_parserItems (hitems ▸ hi) with rfl | h
    · exact Or.inl he
    · rcases offset_cut_unbypassed pc raws { lastSent := start } hraw hlo i h with h1 | ⟨pre, r, post, hr, hro, _, _⟩
      · left; rw [he, h1]
      · right
        exact ⟨r, by rw [hr]; simp, by rw [he, hro]⟩

end GunYu.Props.C07
