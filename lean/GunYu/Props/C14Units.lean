/-
  C14 — the hypothesis "end offsets grow with the unit number" of the transition-system theorems is a
  property of the unit builder (Model/Bisync.lean `parse` = RedisOutput.parseAofReplayUnits, tied to
  the code by C13's correspondence), not an assumption.

  Property theorems only (helper lemmas: Proofs/FrontierUnits.lean).
  Quantifiers: all parser configurations (filters, slot mode, key resolver), all command streams.
-/
import GunYu.Proofs.FrontierUnits
import GunYu.Props.C14
import GunYu.Props.C14Proc

namespace GunYu.Props.C14
open GunYu GunYu.Frontier

/-- For every parser configuration and every command stream read from offset `off`: the units the
    parser emits are numbered 1, 2, … without a gap and end at strictly growing offsets; the numbering
    function they define (`unitsE`: the root offset at number 0, unit i ↦ its end offset) is strictly
    increasing over all integers. -/
theorem unit_offsets_grow (cfg : Bisync.PCfg) (off : Nat) (cmds : List BisyncUnit.Cmd) :
    (∀ i j : Int, i < j → unitsE off 0 (parsedUnits cfg off 1 cmds) i < unitsE off 0 (parsedUnits cfg off 1 cmds) j) ∧
    unitsE off 0 (parsedUnits cfg off 1 cmds) 0 = off ∧
    (∀ u ∈ parsedUnits cfg off 1 cmds, unitsE off 0 (parsedUnits cfg off 1 cmds) (u.seq : Int) = (u.endOff : Int)) ∧
    Numbered 1 off (parsedUnits cfg off 1 cmds) :=
  have hn := parsedUnits_numbered cfg off 1 cmds
  ⟨unitsE_strict _ _ _ 1 off hn rfl, unitsE_base _ _ _, unitsE_at _ _ _ 1 off hn rfl, hn⟩

/-- … also for a loop that continues the numbering after unit `k` (nextUnitSeq = bisyncSeq + 1) from the
    offset that unit ended at -/
theorem unit_offsets_grow_from (cfg : Bisync.PCfg) (off k : Nat) (cmds : List BisyncUnit.Cmd) :
    (∀ i j : Int, i < j → unitsE off k (parsedUnits cfg off (k + 1) cmds) i < unitsE off k (parsedUnits cfg off (k + 1) cmds) j) ∧
    unitsE off k (parsedUnits cfg off (k + 1) cmds) k = off ∧
    (∀ u ∈ parsedUnits cfg off (k + 1) cmds,
      unitsE off k (parsedUnits cfg off (k + 1) cmds) (u.seq : Int) = (u.endOff : Int)) :=
  have hn := parsedUnits_numbered cfg off (k + 1) cmds
  ⟨unitsE_strict _ _ _ (k + 1) off hn rfl, unitsE_base _ _ _, unitsE_at _ _ _ (k + 1) off hn (by omega)⟩

/-- `resume_monotone_traffic` with the hypothesis on the numbering DISCHARGED: for a world whose units
    are those the parser emits for any stream under any configuration -/
theorem resume_monotone_traffic_parsed (cfg : Bisync.PCfg) (off : Nat) (cmds : List BisyncUnit.Cmd) (W : World)
    (hW : W.e = unitsE off 0 (parsedUnits cfg off 1 cmds))
    (hvis : matchRun W.rid W.ids = true) (s₀ : TSys) (h₀ : TInv W s₀) (steps more : List Step) :
    startSeqOf W.ver (trunSteps W s₀ steps).ns W.ids
        ≤ startSeqOf W.ver (trunSteps W s₀ (steps ++ more)).ns W.ids ∧
    startOffOf W.ver (trunSteps W s₀ steps).ns W.ids
        ≤ startOffOf W.ver (trunSteps W s₀ (steps ++ more)).ns W.ids ∧
    (∀ j, 0 < j → j ≤ startSeqOf W.ver (trunSteps W s₀ (steps ++ more)).ns W.ids →
        j ∈ (trunSteps W s₀ (steps ++ more)).committed) :=
  resume_monotone_traffic W
    (mono_of_strict (W := W) (by rw [hW]; exact (unit_offsets_grow cfg off cmds).1)) hvis s₀ h₀ steps more

/-- `resume_monotone_process` (executions with restarts inside a process) likewise -/
theorem resume_monotone_process_parsed (cfg : Bisync.PCfg) (off : Nat) (cmds : List BisyncUnit.Cmd) (W : World)
    (hW : W.e = unitsE off 0 (parsedUnits cfg off 1 cmds))
    (hvis : matchRun W.rid W.ids = true) (s₀ : PSys) (h₀ : PInv W s₀) (steps more : List PStep) :
    startSeqOf W.ver (prunSteps W s₀ steps).t.ns W.ids
        ≤ startSeqOf W.ver (prunSteps W s₀ (steps ++ more)).t.ns W.ids ∧
    startOffOf W.ver (prunSteps W s₀ steps).t.ns W.ids
        ≤ startOffOf W.ver (prunSteps W s₀ (steps ++ more)).t.ns W.ids ∧
    (∀ j, 0 < j → j ≤ startSeqOf W.ver (prunSteps W s₀ (steps ++ more)).t.ns W.ids →
        j ∈ (prunSteps W s₀ (steps ++ more)).t.committed) :=
  resume_monotone_process W (by rw [hW]; exact (unit_offsets_grow cfg off cmds).1) hvis s₀ h₀ steps more

/-! ### non-vacuity -/

/-- three units as the parser hands them to the sender (a source transaction in the middle) -/
def exUnits : List Bisync.Emit :=
  [⟨1, 1000, 1031, false, ⟨0, [], []⟩⟩, ⟨2, 1031, 1102, true, ⟨0, [], []⟩⟩, ⟨3, 1102, 1140, false, ⟨0, [], []⟩⟩]
theorem exUnits_numbered : Numbered 1 1000 exUnits := by
  simp only [exUnits, Numbered]; decide
example : [-1, 0, 1, 2, 3, 4, 5].map (unitsE 1000 0 exUnits) = [999, 1000, 1031, 1102, 1140, 1141, 1142] := by decide +kernel
example : ∀ i j : Int, i < j → unitsE 1000 0 exUnits i < unitsE 1000 0 exUnits j :=
  unitsE_strict exUnits 1000 0 1 1000 exUnits_numbered rfl
/-- the parser itself on a stream of three SETs (no filter, standalone slot mode, static key table): units 1, 2, 3 -/
def exCfg : Bisync.PCfg := { filter := {}, mode := BisyncUnit.standaloneMode, resolver := BisyncUnit.defaultResolver }
def exCmds : List BisyncUnit.Cmd :=
  [⟨[115,101,116], [[97], [49]]⟩, ⟨[115,101,116], [[98], [50]]⟩, ⟨[115,101,116], [[97], [51]]⟩]
example : (parsedUnits exCfg 1000 1 exCmds).map (fun u => (u.seq, u.endOff)) = [(1, 1027), (2, 1054), (3, 1081)] := by decide +kernel

/-- the `_parsed` theorems applied: the world whose numbering IS what the parser emits for that stream, a fresh
    namespace rooted at its offset 1000, the run `exPRetry` (failed purge, retry by the same process, units 1, 2) -/
def exWP : World := { exW with e := unitsE 1000 0 (parsedUnits exCfg 1000 1 exCmds) }
def exPP0 : PSys := { t := { ns := { root := some (exWP.rid, exWP.e 0, 0) } } }
example : [0, 1, 2, 3].map exWP.e = [1000, 1027, 1054, 1081] := by decide +kernel
example : startOffOf exWP.ver (prunSteps exWP exPP0 (exPRetry.take 6)).t.ns exWP.ids
      ≤ startOffOf exWP.ver (prunSteps exWP exPP0 (exPRetry.take 6 ++ exPRetry.drop 6)).t.ns exWP.ids :=
  (resume_monotone_process_parsed exCfg 1000 exCmds exWP rfl (by decide) exPP0 (proc_init_inv exWP 0)
    (exPRetry.take 6) (exPRetry.drop 6)).2.1
example : startSeqOf exWP.ver (trunSteps exWP { ns := { root := some (exWP.rid, exWP.e 0, 0) } } (exTSteps.take 4)).ns exWP.ids
      ≤ startSeqOf exWP.ver (trunSteps exWP { ns := { root := some (exWP.rid, exWP.e 0, 0) } } (exTSteps.take 4 ++ exTSteps.drop 4)).ns exWP.ids :=
  (resume_monotone_traffic_parsed exCfg 1000 exCmds exWP rfl (by decide) _ (traffic_init_inv exWP 0)
    (exTSteps.take 4) (exTSteps.drop 4)).1

end GunYu.Props.C14
