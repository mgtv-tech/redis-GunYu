/-
  C13 — "the exchange quiesces", for EVERY fair schedule.

  `drain_reaches` / `drain_reaches_global` (Props/C13.lean) say that a finite
  drain EXISTS. The theorems here say what the property means by "the exchange
  quiesces": whatever order the two links take their steps in - as long as each
  of them keeps stepping - the exchange ends, and it ends after a number of
  steps known in advance: link `s` needs exactly `needOf w s` of its own steps
  (the distance from its read position to just past its last pending client
  block; 0 for a stopped link), the other link's steps neither help nor hurt.
-/
import GunYu.Props.C13
import GunYu.Proofs.BisyncFair

namespace GunYu.Props.C13
open GunYu GunYu.BisyncUnit GunYu.Bisync

/-- **Work left never grows and each link pays only for itself.** From any
    reachable world, over ANY finite sequence of link steps (any order, any
    commit arguments), the work link `s` has left is at most what it had minus
    the number of steps `s` took. -/
theorem drain_work_bound (cfg : WCfg) (hf : FOK cfg.parser.filter) (cpAB cpBA : Bytes)
    (evs : List Ev) (hgood : GoodRun cfg (World.init cpAB cpBA) evs) (more : List Ev) (hl : ∀ e ∈ more, e.isLink)
    (s : SiteId) :
    let w := runWorld cfg (World.init cpAB cpBA) evs
    needOf (runWorld cfg w more) s ≤ needOf w s - stepsOf s more :=
  needOf_run_le cfg hf more _ (run_preserves cfg hf evs _ (winv_init cfg cpAB cpBA) hgood) hl s

/-- **Every fair schedule drains.** From any reachable world, along ANY infinite
    schedule of link steps in which each link steps again and again (`Fair`; the
    order and the commit arguments are arbitrary), there is an index `N` such
    that every longer prefix of the schedule leaves both links settled (stopped
    on a builder error, or nothing left to read that is owed a commit), and
    nothing moves after `N`: both streams, the commit log and the emitted units
    are those of the prefix of length `N`. -/
theorem every_fair_schedule_drains (cfg : WCfg) (hf : FOK cfg.parser.filter) (cpAB cpBA : Bytes)
    (evs : List Ev) (hgood : GoodRun cfg (World.init cpAB cpBA) evs)
    (sched : Nat → SiteId × CommitArg) (hfair : Fair sched) :
    let w := runWorld cfg (World.init cpAB cpBA) evs
    ∃ N, ∀ n, N ≤ n →
      (∀ s, Settled (runWorld cfg w (schedPrefix sched n)) s) ∧
      (runWorld cfg w (schedPrefix sched n)).a.stream = (runWorld cfg w (schedPrefix sched N)).a.stream ∧
      (runWorld cfg w (schedPrefix sched n)).b.stream = (runWorld cfg w (schedPrefix sched N)).b.stream ∧
      (runWorld cfg w (schedPrefix sched n)).commits = (runWorld cfg w (schedPrefix sched N)).commits ∧
      ∀ s, ((runWorld cfg w (schedPrefix sched n)).link s).emitted = ((runWorld cfg w (schedPrefix sched N)).link s).emitted :=
  fair_schedule_drains cfg hf _ (run_preserves cfg hf evs _ (winv_init cfg cpAB cpBA) hgood) sched hfair

/-- … and a finite schedule is long enough as soon as each link takes as many
    steps as it has work left: the bound is explicit, not merely existent. -/
theorem enough_steps_drain (cfg : WCfg) (hf : FOK cfg.parser.filter) (cpAB cpBA : Bytes)
    (evs : List Ev) (hgood : GoodRun cfg (World.init cpAB cpBA) evs) (more : List Ev) (hl : ∀ e ∈ more, e.isLink) :
    let w := runWorld cfg (World.init cpAB cpBA) evs
    (∀ s, needOf w s ≤ stepsOf s more) → ∀ s, Settled (runWorld cfg w more) s :=
  fun hen => enough_steps_settle cfg hf more _ (run_preserves cfg hf evs _ (winv_init cfg cpAB cpBA) hgood) hl hen

/-- **Every fair schedule drains — the global form.** As
    `every_fair_schedule_drains`, from the worlds of `no_loop_no_false_suppression`:
    two sites holding any data (`NsTtl`), brace-free checkpoint names, ANY list
    of events satisfying a condition on the event alone, restarts included as
    long as they are exact (sync mode). -/
theorem every_fair_schedule_drains_global (cfg : WCfg) (hf : FOK cfg.parser.filter) (cpAB cpBA : Bytes)
    (sa sb : Store) (na nb : Nat)
    (hab : Slot.lbrace ∉ cpAB) (hba : Slot.lbrace ∉ cpBA) (ha : NsTtl sa) (hb : NsTtl sb)
    (evs : List Ev) (hgood : GoodEvents cfg evs)
    (hexact : ExactRestarts cfg (World.initWith cpAB cpBA sa sb na nb) evs)
    (sched : Nat → SiteId × CommitArg) (hfair : Fair sched) :
    let w := runWorld cfg (World.initWith cpAB cpBA sa sb na nb) evs
    ∃ N, ∀ n, N ≤ n →
      (∀ s, Settled (runWorld cfg w (schedPrefix sched n)) s) ∧
      (runWorld cfg w (schedPrefix sched n)).a.stream = (runWorld cfg w (schedPrefix sched N)).a.stream ∧
      (runWorld cfg w (schedPrefix sched n)).b.stream = (runWorld cfg w (schedPrefix sched N)).b.stream ∧
      (runWorld cfg w (schedPrefix sched n)).commits = (runWorld cfg w (schedPrefix sched N)).commits ∧
      ∀ s, ((runWorld cfg w (schedPrefix sched n)).link s).emitted = ((runWorld cfg w (schedPrefix sched N)).link s).emitted :=
  fair_schedule_drains cfg hf _
    (grun cfg hf evs _ (ginv_initWith cfg cpAB cpBA sa sb na nb hab hba ha hb) hgood hexact).winv sched hfair

/-! ### non-vacuity: two writes at A, one at B, nothing forwarded yet; the
    alternating schedule B, A, B, A, … -/

private def wcfgD : WCfg :=
  { redisA := ⟨false, true, true⟩, redisB := ⟨false, true, true⟩,
    parser := ⟨Filter.buildOutput {}, standaloneMode, defaultResolver⟩ }
private def incrD : Cmd := ⟨[105,110,99,114,98,121], [[110,48], [53]]⟩     -- incrby n0 5
private def argD : CommitArg := ⟨.latest, [123,125], [[102],[118]]⟩
private def histD : List Ev := [.client .A false [incrD], .client .A true [incrD, incrD], .client .B false [incrD]]
private def altSched : Nat → SiteId × CommitArg := fun n => (if n % 2 = 0 then .B else .A, argD)

private theorem incrD_ok : ClientOK wcfgD.parser incrD :=
  clientOK_of_heads _ _ ⟨⟨by decide, by decide, by decide⟩, by decide, by decide⟩ (by decide +kernel) (by decide)

private theorem histD_good : GoodRun wcfgD (World.init [99,112,49] [99,112,50]) histD := by
  have h1 : ∀ c ∈ [incrD], ClientOK wcfgD.parser c := fun c hc => by rw [List.mem_singleton.mp hc]; exact incrD_ok
  have h2 : ∀ c ∈ [incrD, incrD], ClientOK wcfgD.parser c := by
    intro c hc
    have : c = incrD := by simpa using hc
    rw [this]; exact incrD_ok
  exact ⟨h1, h2, h1, trivial⟩

private theorem altSched_fair : Fair altSched := by
  intro s n
  cases s
  · exact ⟨2 * n + 1, by omega, if_neg (by omega)⟩
  · exact ⟨2 * n, by omega, if_pos (by omega)⟩

-- one evaluation of the history and of the first steps of the schedule for the three facts below
private def wD : World := runWorld wcfgD (World.init [99,112,49] [99,112,50]) histD
private theorem histD_run :
    (needOf wD .A,
      needOf wD .B) = (2, 1) ∧
    needOf (runWorld wcfgD wD (schedPrefix altSched 3)) .A = 1 ∧
    (needOf (runWorld wcfgD wD (schedPrefix altSched 4)) .A,
      needOf (runWorld wcfgD wD (schedPrefix altSched 4)) .B,
      (runWorld wcfgD wD (schedPrefix altSched 4)).commits.map (·.1)) =
      (0, 0, [.foreign 2, .foreign 0, .foreign 1]) := by decide +kernel
-- work left before the drain: link A has two client blocks to forward, link B one
example : (needOf (runWorld wcfgD (World.init [99,112,49] [99,112,50]) histD) .A,
           needOf (runWorld wcfgD (World.init [99,112,49] [99,112,50]) histD) .B) = (2, 1) := histD_run.1
-- three steps of the alternating schedule (B, A, B) are NOT enough (A has taken one step of two) …
example : needOf (runWorld wcfgD (runWorld wcfgD (World.init [99,112,49] [99,112,50]) histD) (schedPrefix altSched 3)) .A = 1 :=
  histD_run.2.1
-- … four are: three commits, each client block once, and the blocks the links wrote are never owed a commit
example : (needOf (runWorld wcfgD (runWorld wcfgD (World.init [99,112,49] [99,112,50]) histD) (schedPrefix altSched 4)) .A,
           needOf (runWorld wcfgD (runWorld wcfgD (World.init [99,112,49] [99,112,50]) histD) (schedPrefix altSched 4)) .B,
           (runWorld wcfgD (runWorld wcfgD (World.init [99,112,49] [99,112,50]) histD) (schedPrefix altSched 4)).commits.map (·.1)) =
    (0, 0, [.foreign 2, .foreign 0, .foreign 1]) := histD_run.2.2
-- the theorem applied to that world and schedule
example : ∃ N, ∀ n, N ≤ n → ∀ s,
    Settled (runWorld wcfgD (runWorld wcfgD (World.init [99,112,49] [99,112,50]) histD) (schedPrefix altSched n)) s := by
  obtain ⟨N, h⟩ := every_fair_schedule_drains wcfgD default_filter_ok [99,112,49] [99,112,50] histD histD_good altSched altSched_fair
  exact ⟨N, fun n hn => (h n hn).1⟩

end GunYu.Props.C13
