/-
  C17 — `RedisOutput.SetRunId` across calls in one process (Model/BookSys.lean `setRunId`,
  `setRunIdCalls`): the early return `ro.cfg.RunId == id`, the in-memory field, up to three attempts per
  call, each attempt complete or failing after any number of its requests, any number of calls.

  `FieldOK`: the in-memory field `cfg.RunId` is the id the position is labelled with — or the hash already
  maps the master id while the field still holds the second id (an attempt failed after it had repointed the
  hash; the next attempt finds nothing to do and sets the field).
  `setRunIdCalls_good`: on a `Good` state (every reachable one: `reach_good`) any sequence of calls with the
  master id keeps `Good` for the SAME position and `FieldOK`; hence at every moment a start reads the position
  under the ids the source reports (`setRunIdCalls_position`), and a call that returns nil has the position
  labelled with the master id and the field equal to it.
-/
import GunYu.Props.C17Reach
import GunYu.Model.BookRunIdSeq

namespace GunYu.Props.C17
open GunYu GunYu.Checkpoint GunYu.BookSys

def FieldOK (c : Ctl) (runId : Bytes) : Prop := runId = c.lab ∨ (c.lab = c.mas ∧ runId = c.sec)

theorem FieldOK.lab_eq {c : Ctl} {runId : Bytes} (hf : FieldOK c runId) (hr : runId = c.mas) : c.lab = c.mas := by
  rcases hf with h | h
  · exact h.symm.trans hr
  · exact h.1

/-- same reported ids, same key, no rename pending -/
def SameIds (c c' : Ctl) : Prop := c'.key = c.key ∧ c'.mas = c.mas ∧ c'.sec = c.sec ∧ c'.pend = none

theorem relabel_len (ver : Bytes) {t : Checkpoint.Target} {c : Ctl} {X : Int} {d : Nat} (G : Good t c X d)
    (hl : c.lab ≠ c.mas) (o1 o2 : List Nat) (ho1 : d ∈ o1) (now : Int)
    (hnow : -(2^63 : Int) ≤ now ∧ now < 2^63) :
    2 ≤ (updateReqs ver t c.key [c.mas, c.sec] o1 o2 now).length := by
  obtain ⟨_, _, _, _, h⟩ := update_run ver (G.updPre_relabel now hnow) o1 o2 ho1 (Or.inr (Ne.symm hl))
  rw [h]; exact Nat.le_add_left 2 _

/-- **one attempt** of `SetRunId(master id)`: `UpdateCheckpoint(key, [master id, field])`, complete or failing after
    any number of its requests -/
theorem attemptOnce_good (ver : Bytes) {t : Checkpoint.Target} {c : Ctl} {X : Int} {d : Nat} (G : Good t c X d)
    (hp : c.pend = none) {runId : Bytes} (hf : FieldOK c runId) (hr : runId ≠ c.mas) (a : Attempt)
    (ha : d ∈ a.o1 ∧ (-(2^63 : Int) ≤ a.now ∧ a.now < 2^63)) :
    ∃ lab', Good (attemptOnce ver c.key ⟨t, runId⟩ c.mas a).1 { c with lab := lab' } X d ∧
      FieldOK { c with lab := lab' } runId ∧
      ((attemptOnce ver c.key ⟨t, runId⟩ c.mas a).2 = true → lab' = c.mas) := by
  by_cases hl : c.lab = c.mas
  · -- the hash already maps the master id: nothing to do
    have hrs : runId = c.sec := by
      rcases hf with h | h
      · exact absurd (h.trans hl) hr
      · exact h.2
    have hnoop : updateReqs ver t c.key [c.mas, runId] a.o1 a.o2 a.now = [] := by
      rw [hrs]; exact updateReqs_noop ver a.o1 a.o2 a.now (hl ▸ G.hashEq)
    refine ⟨c.lab, ?_, hf, fun _ => hl⟩
    show Good (applyAll t ((updateReqs ver t c.key [c.mas, runId] a.o1 a.o2 a.now).take a.k)) c X d
    rw [hnoop, List.take_nil]; exact G
  · have hls : c.lab = c.sec := by rcases G.ctl.lab with h | h; exact absurd h hl; exact h
    have hrs : runId = c.sec := by
      rcases hf with h | h
      · exact h.trans hls
      · exact absurd h.1 hl
    subst hrs
    have G' := good_relabel ver G hl hp a.o1 a.o2 ha.1 a.now ha.2 a.k
    have hlen := relabel_len ver G hl a.o1 a.o2 ha.1 a.now ha.2
    have hc : relabelCtl c a.k = { c with lab := if 2 ≤ a.k then c.mas else c.lab } := by
      unfold relabelCtl; split <;> rfl
    rw [hc] at G'
    refine ⟨_, G', ?_, ?_⟩
    · show _ ∨ _
      split
      · exact Or.inr ⟨rfl, rfl⟩
      · exact Or.inl hls.symm
    · intro h
      have h' : (updateReqs ver t c.key [c.mas, c.sec] a.o1 a.o2 a.now).length ≤ a.k := of_decide_eq_true h
      exact if_pos (by omega)

/-- **the retry loop**, attempts with any fate, including the fate `rfail` (all writes applied and an error all the
    same: the only way an attempt with nothing left to write can fail) -/
theorem retryLoopF_good (ver : Bytes) (as : List AttemptF) :
    ∀ {t : Checkpoint.Target} {c : Ctl} {X : Int} {d : Nat} (G : Good t c X d) (hp : c.pend = none)
      (runId : Bytes) (hf : FieldOK c runId) (hr : runId ≠ c.mas)
      (has : ∀ a ∈ as, d ∈ a.a.o1 ∧ (-(2^63 : Int) ≤ a.a.now ∧ a.a.now < 2^63)),
      ∃ lab', Good (retryLoopF ver c.key c.mas ⟨t, runId⟩ as).1.t { c with lab := lab' } X d ∧
        FieldOK { c with lab := lab' } (retryLoopF ver c.key c.mas ⟨t, runId⟩ as).1.runId ∧
        ((retryLoopF ver c.key c.mas ⟨t, runId⟩ as).2 = true →
          (retryLoopF ver c.key c.mas ⟨t, runId⟩ as).1.runId = c.mas ∧ lab' = c.mas) := by
  induction as with
  | nil => intro t c X d G hp runId hf hr _; exact ⟨c.lab, G, hf, fun h => by cases h⟩
  | cons a rest ih =>
    intro t c X d G hp runId hf hr has
    obtain ⟨l1, G1, hf1, hT⟩ := attemptOnce_good ver G hp hf hr a.a (has a (List.mem_cons_self ..))
    unfold retryLoopF
    by_cases hok : (attemptOnceF ver c.key ⟨t, runId⟩ c.mas a).2 = true
    · have hl1 : l1 = c.mas := hT (Bool.and_eq_true_iff.mp hok).1
      rw [if_pos hok]
      exact ⟨l1, G1, Or.inl hl1.symm, fun _ => ⟨rfl, hl1⟩⟩
    · -- it failed: the next attempt runs on what it left, with the same field
      rw [if_neg hok]
      exact ih G1 hp runId hf1 hr (fun a' ha' => has a' (List.mem_cons_of_mem _ ha'))

theorem retryLoop_eq (ver loc id : Bytes) (as : List Attempt) : ∀ s : RunIdSt,
    retryLoop ver loc id s as = retryLoopF ver loc id s (as.map (fun a => ⟨a, false⟩)) := by
  induction as with
  | nil => intro s; rfl
  | cons a rest ih =>
    intro s
    simp only [retryLoop, List.map_cons, retryLoopF, attemptOnceF, Bool.not_false, Bool.and_true, ih]

/-- **one call of `SetRunId(master id)`**: the early return, then up to three attempts -/
theorem setRunId_good (ver : Bytes) {t : Checkpoint.Target} {c : Ctl} {X : Int} {d : Nat} (G : Good t c X d)
    (hp : c.pend = none) (runId : Bytes) (hf : FieldOK c runId) (as : List Attempt)
    (has : ∀ a ∈ as, d ∈ a.o1 ∧ (-(2^63 : Int) ≤ a.now ∧ a.now < 2^63)) :
    ∃ c', Good (setRunId ver c.key ⟨t, runId⟩ c.mas as).1.t c' X d ∧ SameIds c c' ∧
      FieldOK c' (setRunId ver c.key ⟨t, runId⟩ c.mas as).1.runId ∧
      ((setRunId ver c.key ⟨t, runId⟩ c.mas as).2 = true →
        (setRunId ver c.key ⟨t, runId⟩ c.mas as).1.runId = c.mas ∧ c'.lab = c.mas) := by
  unfold setRunId
  by_cases hr : runId = c.mas
  · rw [if_pos hr]
    exact ⟨c, G, ⟨rfl, rfl, rfl, hp⟩, hf, fun _ => ⟨hr, hf.lab_eq hr⟩⟩
  · rw [if_neg hr, retryLoop_eq]
    obtain ⟨lab', G', hf', hT⟩ := retryLoopF_good ver ((as.take 3).map (fun a => ⟨a, false⟩)) G hp runId hf hr (fun a ha => by
      obtain ⟨a0, ha0, rfl⟩ := List.mem_map.mp ha
      exact has a0 (List.mem_of_mem_take ha0))
    exact ⟨_, G', ⟨rfl, rfl, rfl, hp⟩, hf', hT⟩

/-- **any sequence of calls in one process**, each with the master id and any fate of its attempts -/
theorem setRunIdCalls_good (ver : Bytes) (calls : List (Bytes × List Attempt)) :
    ∀ {t : Checkpoint.Target} {c : Ctl} {X : Int} {d : Nat} (G : Good t c X d) (hp : c.pend = none)
      (runId : Bytes) (hf : FieldOK c runId)
      (hcalls : ∀ cl ∈ calls, cl.1 = c.mas ∧ ∀ a ∈ cl.2, d ∈ a.o1 ∧ (-(2^63 : Int) ≤ a.now ∧ a.now < 2^63)),
      ∃ c', Good (setRunIdCalls ver c.key ⟨t, runId⟩ calls).t c' X d ∧ SameIds c c' ∧
        FieldOK c' (setRunIdCalls ver c.key ⟨t, runId⟩ calls).runId := by
  induction calls with
  | nil => intro t c X d G hp runId hf _; exact ⟨c, G, ⟨rfl, rfl, rfl, hp⟩, hf⟩
  | cons cl rest ih =>
    intro t c X d G hp runId hf hcalls
    obtain ⟨hid, has⟩ := hcalls cl (List.mem_cons_self ..)
    simp only [setRunIdCalls, hid]
    obtain ⟨c1, G1, ⟨k1, m1, s1, p1⟩, hf1, _⟩ := setRunId_good ver G hp runId hf cl.2 has
    have := ih G1 p1 _ hf1 (fun cl' hcl' => by
      obtain ⟨h1, h2⟩ := hcalls cl' (List.mem_cons_of_mem _ hcl')
      exact ⟨h1.trans m1.symm, h2⟩)
    rw [k1] at this
    obtain ⟨c', G', ⟨k2, m2, s2, p2⟩, hf'⟩ := this
    exact ⟨c', G', ⟨k2.trans k1, m2.trans m1, s2.trans s1, p2⟩, hf'⟩

/-- … hence, whatever the calls and their failed attempts did, the next start reads the SAME position under
    the ids the source reports -/
theorem setRunIdCalls_position (ver : Bytes) {t : Checkpoint.Target} {c : Ctl} (h : Reach ver true t c)
    (hp : c.pend = none) (runId : Bytes) (hf : FieldOK c runId) (calls : List (Bytes × List Attempt))
    (o : List Nat) (ho : Lists o t c.key)
    (hcalls : ∀ cl ∈ calls, cl.1 = c.mas ∧ ∀ a ∈ cl.2, a.o1 = o ∧ (-(2^63 : Int) ≤ a.now ∧ a.now < 2^63)) :
    ∃ X d, startPoint ver [c.mas, c.sec] o t = some (some (X, d)) ∧
      startPoint ver [c.mas, c.sec] o (setRunIdCalls ver c.key ⟨t, runId⟩ calls).t = some (some (X, d)) := by
  obtain ⟨X, d, G⟩ := reach_good ver h
  have hd := ho d G.nonempty
  obtain ⟨c', G', ⟨_, m, s, _⟩, _⟩ := setRunIdCalls_good ver calls G hp runId hf (fun cl hcl => by
    obtain ⟨h1, h2⟩ := hcalls cl hcl
    exact ⟨h1, fun a ha => ⟨(h2 a ha).1 ▸ hd, (h2 a ha).2⟩⟩)
  have := good_startPoint ver G' o hd
  rw [m, s] at this
  exact ⟨X, d, good_startPoint ver G o hd, this⟩

/-! non-vacuity: on the reachable state after the failover (`rx_reach2`: position 50@5 labelled "a", master id
    "b", field "a"): first call — three attempts failing after 1, 0 and 3 requests; second call — an attempt
    that completes (it finds the hash repointed: nothing left to do). -/
example : FieldOK { seedCtl rxLoc rxA rxZ with mas := rxB, sec := rxA, ids := rxB :: [rxA, rxZ] } rxA := Or.inl rfl
example := setRunIdCalls_position rxVer rx_reach2 rfl rxA (Or.inl rfl)
  [(rxB, [⟨1, 9, [0, 5], [0, 5]⟩, ⟨0, 10, [0, 5], [5, 0]⟩, ⟨3, 11, [0, 5], [5]⟩]), (rxB, [⟨9, 12, [0, 5], [0, 5]⟩])]
  [0, 5] rx_lists1
  (by
    intro cl hcl
    simp only [List.mem_cons, List.not_mem_nil, or_false] at hcl
    rcases hcl with rfl | rfl
    · refine ⟨rfl, ?_⟩
      intro a ha
      simp only [List.mem_cons, List.not_mem_nil, or_false] at ha
      rcases ha with rfl | rfl | rfl <;> exact ⟨rfl, by decide⟩
    · refine ⟨rfl, ?_⟩
      intro a ha
      simp only [List.mem_cons, List.not_mem_nil, or_false] at ha
      subst ha; exact ⟨rfl, by decide⟩)

end GunYu.Props.C17
