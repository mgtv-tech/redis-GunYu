/-
  C04 — the LZF decision of the frame model (Model/RdbLzf.lean, the code after D33 with its
  growing output buffer) IS the decision of C03's content-producing decoder (Model/Rdb/Str.lean
  `lzfDecompress`, a buffer of exactly the declared length): neither the growth policy of the buffer nor
  the guard on the declared length changes which compressed strings are accepted.
-/
import GunYu.Props.C04L
import GunYu.Proofs.RdbLzfBridge

namespace GunYu.Props.C04
open GunYu GunYu.RdbLzf

/-- the buffer-following reader accepts exactly the inputs the full-buffer decoder accepts -/
theorem lzf_decision_is_full_buffer_decision (step : Nat) (inp : Bytes) (outlen : Nat) :
    (run step inp outlen).ok = (Rdb.lzfDecompress inp outlen).isSome :=
  run_agrees step inp outlen

/-- in the frame model: an LZF string is walked over iff C03's decoder yields a value for it -/
theorem lzf_frame_decision (inp : Bytes) (outlen : Nat) :
    decompressOk inp outlen = (Rdb.lzfDecompress inp outlen).isSome :=
  lzf_decision_is_full_buffer_decision stepBytes inp outlen

/-! non-vacuity -/
example : Rdb.lzfDecompress [0, 97, 0xE0, 0, 0] 10 = some (List.replicate 10 97) := by decide
example : decompressOk [0, 97, 0xE0, 0, 0] 10 = true := by decide +kernel
example : decompressOk [0, 97, 0xE0, 0, 1] 10 = false ∧ Rdb.lzfDecompress [0, 97, 0xE0, 0, 1] 10 = none := by decide +kernel

end GunYu.Props.C04
