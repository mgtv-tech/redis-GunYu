/-
  C10 / C11 — `RedisKeyFilter.FilterSlot` (pkg/filter/filter.go) TRANSLATED from /repo's Go source on every run
  (Gen/FnTrie.lean, harness/extract/gofn_c10.go; its calls of `RangeList.IsSlotInList` are calls of gofn's translation
  Gen/FnRangeList.lean, which calls the translated `redis.KeyToSlot`) equals the model's slot rule for EVERY key - the
  empty key included (HASH_SLOT "" = 0): black listed, or a white list is configured and does not contain the key's
  HASH_SLOT. A key that the code places "in no slot" (seeded C11-r8-m1: `if len(key) == 0 { return false }`) breaks
  this proof.
-/
import GunYu.Props.C10Gen
import GunYu.Props.C10Trie

namespace GunYu.Props.C10
open GunYu GunYu.Filter GunYu.Gen

/-- a generated `*RangeList` field denotes a model range list (nil = not configured); the lists the Insert* methods
    build hold no nil entry (`concRL`) -/
inductive SRep : Option Fn.RangeList → Option Filter.RangeList → Prop
  | none : SRep none none
  | some (xs : List Fn.Range) (mn mx : BitVec 16) (h : xs.length < 9223372036854775807) :
      SRep (some (concRL xs mn mx)) (some (absRL xs mn mx))

set_option linter.unusedSimpArgs false

/-- the translated `FilterSlot` is the model's slot rule on the key's HASH_SLOT, for every key -/
theorem gen_filterSlot_eq_model {f : Fn.RedisKeyFilter} {m : KeyFilter}
    (hb : SRep f.slotKeyBlackList m.slotBlack) (hw : SRep f.slotKeyWhiteList m.slotWhite) (key : Bytes)
    (hk : key.length < 9223372036854775807) :
    Fn.filterSlot f key = some (m.filterSlot key) := by
  unfold Fn.filterSlot KeyFilter.filterSlot
  revert hb hw
  generalize f.slotKeyBlackList = ob, m.slotBlack = ob', f.slotKeyWhiteList = ow, m.slotWhite = ow'
  intro hb hw
  cases hb with
  | none =>
    cases hw with
    | none => filter_tail []
    | some xs mn mx h =>
      filter_tail [gen_isSlotInList_eq_model xs mn mx key hk h]
      cases (absRL xs mn mx).contains (Slot.keyToSlot key) <;> filter_tail []
  | some ys mn' mx' h' =>
    cases hw with
    | none =>
      filter_tail [gen_isSlotInList_eq_model ys mn' mx' key hk h']
      cases (absRL ys mn' mx').contains (Slot.keyToSlot key) <;> filter_tail []
    | some xs mn mx h =>
      filter_tail [gen_isSlotInList_eq_model ys mn' mx' key hk h', gen_isSlotInList_eq_model xs mn mx key hk h]
      cases (absRL ys mn' mx').contains (Slot.keyToSlot key) <;>
        cases (absRL xs mn mx).contains (Slot.keyToSlot key) <;> filter_tail []

/-- the empty key is in slot 0 -/
theorem keyToSlot_empty : Slot.keyToSlot [] = 0 := by decide +kernel

/-! non-vacuity, the mutation's case: a black list holding slot 0 rejects the empty key; a white list without slot 0
    rejects it; a white list with slot 0 accepts it - on the TRANSLATED code -/

def r00 : Fn.Range := { Left := 0#16, Right := 0#16 }
def r1e : Fn.Range := { Left := 1#16, Right := 16383#16 }
def fEmpty : Fn.RedisKeyFilter :=
  { cmdWhiteTrie := none, cmdBlackTrie := none, prefixKeyWhiteTrie := none, prefixKeyBlackTrie := none,
    slotKeyWhiteList := none, slotKeyBlackList := none }
example : Fn.filterSlot { fEmpty with slotKeyBlackList := some (concRL [r00] 0#16 0#16) } [] = some true := by decide +kernel
example : Fn.filterSlot { fEmpty with slotKeyWhiteList := some (concRL [r1e] 0#16 16383#16) } [] = some true := by decide +kernel
example : Fn.filterSlot { fEmpty with slotKeyWhiteList := some (concRL [r00] 0#16 0#16) } [] = some false := by decide +kernel
example : Fn.filterSlot fEmpty [] = some false := by decide +kernel

end GunYu.Props.C10
