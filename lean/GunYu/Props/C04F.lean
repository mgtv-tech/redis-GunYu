/-
  C04 — the fan-out with MULTIPLICITY and with the cluster-only global
  lane of bidirectional replay.

  Part 1 of Props/C04.lean concludes membership ("every entry is among the applied
  ones"). Here: in every reachable state every entry the distributor took is in
  exactly one place (applied / dropped by a failing worker / queued for the worker
  its route names); when the checkpoint is written, or nil returned, the applied
  entries are a PERMUTATION of the snapshot's entries — each applied exactly once.
  Otherwise the replay is an error (Part 1). The global lane (FUNCTION / AUX
  objects replayed to every primary by one more goroutine) is the same event system
  with n + 1 workers (`withGlobal`); all theorems apply to it, and its routing sends
  exactly the global entries to the global worker.
-/
import GunYu.Props.C04X
import GunYu.Proofs.RdbFanoutOnce

namespace GunYu.Props.C04
open GunYu GunYu.RdbFanout

/-- **never twice**: at every moment of every schedule, what has been applied, what failing workers dropped and what
    is still queued is — with multiplicity — exactly what the distributor took, and that is a prefix of what the
    parser produced. No entry is applied twice, none is invented. -/
theorem applied_at_most_once {α} (c : Cfg α) (hn : 0 < c.n) (items : List (Item α)) (sched : List Ev) :
    ((run c (init items) sched).applied ++ (run c (init items) sched).dropped ++ queued c (run c (init items) sched)).Perm
      (run c (init items) sched).consumed ∧
    ∃ rest, items = (run c (init items) sched).consumed.map Item.entry ++ rest := by
  have inv := run_inv c items hn sched _ (init_inv c _)
  have once := run_once c items hn sched _ (init_inv c _) (init_once c _)
  refine ⟨once.perm.symm, termList (run c (init items) sched).term ++ ((run c (init items) sched).pipe0 ++ (run c (init items) sched).todo), ?_⟩
  have := inv.frame
  rw [List.append_assoc, List.append_assoc] at this
  exact this.symm

/-- **exactly once**: the checkpoint is written only when the applied entries are a permutation of the snapshot's
    entries (and the parser ended with `Done`) -/
theorem checkpoint_exactly_once {α} (c : Cfg α) (hn : 0 < c.n)
    (es : List α) (t : Term) (junk : List (Item α)) (sched : List Ev)
    (hcp : (run c (init (parserOutput es t junk)) sched).checkpoint = true) :
    t = .done ∧ (run c (init (parserOutput es t junk)) sched).applied.Perm es := by
  have once := run_once c (parserOutput es t junk) hn sched _ (init_inv c _) (init_once c _)
  obtain ⟨_, _, hdrop, hq⟩ := once.cpDone hcp
  have hperm := once.perm
  rw [hdrop, hq, List.append_nil, List.append_nil] at hperm
  obtain ⟨ht, hc⟩ := checkpoint_consumed c hn es t junk sched hcp
  rw [hc] at hperm
  exact ⟨ht, hperm.symm⟩

theorem ok_exactly_once {α} (c : Cfg α) (hn : 0 < c.n)
    (es : List α) (t : Term) (junk : List (Item α)) (sched : List Ev)
    (hret : (run c (init (parserOutput es t junk)) sched).ret = some .ok) :
    t = .done ∧ (run c (init (parserOutput es t junk)) sched).applied.Perm es :=
  checkpoint_exactly_once c hn es t junk sched ((run_inv c _ hn sched _ (init_inv c _)).retOk hret)

/-- **from bytes to checkpoint, exactly once** (extended grammar): recorded only if the input parses to `Done` after
    `n` entries and the applied entries are a permutation of `0 … n−1` — none missing, none twice -/
theorem recorded_exactly_once_x (cfg : RdbFrameX.Cfg) (maxVer : Nat) (f : Bytes)
    (junk items : List (Item Nat)) (hfeed : feedO (RdbFrameX.parseX cfg maxVer f) junk = some items)
    (c : Cfg Nat) (hn : 0 < c.n) (sched : List Ev)
    (h : (run c (init items) sched).checkpoint = true ∨ (run c (init items) sched).ret = some .ok) :
    ∃ n, RdbFrameX.parseX cfg maxVer f = .done n ∧ (run c (init items) sched).applied.Perm (List.range n) := by
  obtain ⟨n, hp, _⟩ := recorded_only_if_done_o _ junk items hfeed c hn sched h
  rw [hp] at hfeed; cases hfeed
  have hcp := h.elim id (run_inv c _ hn sched _ (init_inv c _)).retOk
  exact ⟨n, hp, (checkpoint_exactly_once c hn _ _ _ sched hcp).2⟩

theorem withGlobal_pos {α} (c : Cfg α) (glob : α → Bool) : 0 < (withGlobal c glob).n := by
  simp [withGlobal]

theorem withGlobal_route {α} (c : Cfg α) (hn : 0 < c.n) (glob : α → Bool) (a : α) :
    ((withGlobal c glob).route a % (withGlobal c glob).n = c.n ↔ glob a = true) ∧
    (withGlobal c glob).route a % (withGlobal c glob).n < c.n + 1 := by
  simp only [withGlobal]
  cases hg : glob a with
  | true => simp
  | false =>
    have h1 : c.route a % c.n < c.n := Nat.mod_lt _ hn
    have h2 : c.route a % c.n % (c.n + 1) = c.route a % c.n := Nat.mod_eq_of_lt (by omega)
    simp only [Bool.false_eq_true, if_false, h2, iff_false]
    omega

/-- **the global lane carries the global entries and nothing else**: in every reachable state an entry queued for the
    global worker is a global one, an entry queued for a keyed worker is not -/
theorem global_lane_routing {α} (c : Cfg α) (hn : 0 < c.n) (glob : α → Bool) (items : List (Item α)) (sched : List Ev)
    (i : Nat) (hi : i < c.n + 1) (a : α) (ha : a ∈ (run (withGlobal c glob) (init items) sched).pipes i) :
    (i = c.n ↔ glob a = true) := by
  have once := run_once (withGlobal c glob) items (withGlobal_pos c glob) sched _ (init_inv _ _) (init_once _ _)
  have hl := once.lane i (by simpa [withGlobal] using hi) a ha
  rw [← hl]
  exact (withGlobal_route c hn glob a).1

/-- `no_checkpoint_unless_terminated` with the global lane: n keyed workers + the global worker, n + 2 results -/
theorem no_checkpoint_unless_terminated_global {α} (c : Cfg α) (glob : α → Bool)
    (items : List (Item α)) (sched : List Ev) :
    (run (withGlobal c glob) (init items) sched).checkpoint = true →
      (∃ (es : List α) (junk : List (Item α)), items = es.map Item.entry ++ Item.term .done :: junk ∧
          ∀ a ∈ es, a ∈ (run (withGlobal c glob) (init items) sched).applied)
      ∨ (∃ es : List α, items = es.map Item.entry ∧ ∀ a ∈ es, a ∈ (run (withGlobal c glob) (init items) sched).applied) :=
  no_checkpoint_unless_terminated (withGlobal c glob) (withGlobal_pos c glob) items sched

/-- **bytes → checkpoint with the global lane, exactly once**: cluster bidirectional replay records the snapshot only
    if it parses to `Done` and every entry — keyed ones by their worker, FUNCTION / AUX ones by the global lane — was
    applied exactly once -/
theorem recorded_only_if_parsed_and_applied_global (cfg : RdbFrameX.Cfg) (maxVer : Nat) (f : Bytes)
    (junk items : List (Item Nat)) (hfeed : feedO (RdbFrameX.parseX cfg maxVer f) junk = some items)
    (c : Cfg Nat) (glob : Nat → Bool) (sched : List Ev)
    (h : (run (withGlobal c glob) (init items) sched).checkpoint = true ∨
         (run (withGlobal c glob) (init items) sched).ret = some .ok) :
    ∃ n, RdbFrameX.parseX cfg maxVer f = .done n ∧
      (run (withGlobal c glob) (init items) sched).applied.Perm (List.range n) :=
  recorded_exactly_once_x cfg maxVer f junk items hfeed (withGlobal c glob) (withGlobal_pos c glob) sched h

/-! non-vacuity: two keyed workers + the global lane; entries 10, 11, 12 keyed (routes 0, 1, 0), entry 7 global -/
def exCfgG : Cfg Nat := withGlobal { n := 2, cap0 := 2, capW := 1, route := fun a => a } (fun a => a == 7)
def exItemsG : List (Item Nat) := parserOutput [10, 7, 11, 12] .done []
/-- a complete run: worker 2 is the global lane -/
def exGoodG : List Ev :=
  [.parse, .parse, .dist, .dist, .parse, .parse, .work 0, .work 2, .dist, .dist, .parse, .work 1, .work 0, .dist,
   .workClosed 0, .workClosed 1, .workClosed 2, .collectW 1, .collectD, .collectW 0, .collectW 2, .finish true]
example : (run exCfgG (init exItemsG) exGoodG).checkpoint = true := by decide
example : (run exCfgG (init exItemsG) exGoodG).applied = [10, 7, 11, 12] := by decide
/-- the global worker's result missing: no checkpoint, sendRdb has not returned -/
example : (run exCfgG (init exItemsG) (exGoodG.filter (fun e => match e with | .collectW 2 => false | _ => true))).ret = none := by
  decide
/-- the global lane fails on its entry: error, no checkpoint -/
example : (run exCfgG (init exItemsG)
    [.parse, .parse, .dist, .dist, .work 0, .workFail 2, .collectW 2, .distCancel, .workCancel 0, .workCancel 1,
     .collectD, .collectW 0, .collectW 1, .finish true]).ret = some .err := by decide
/-- the D6 window on the global lane: everything distributed, the global worker still holds entry 7, cancel -/
example : (run exCfgG (init exItemsG)
    [.parse, .parse, .dist, .dist, .parse, .parse, .work 0, .dist, .dist, .parse, .work 1, .work 0, .dist,
     .cancel, .workCancel 0, .workCancel 1, .workCancel 2, .collectD, .collectW 0, .collectW 1, .collectW 2, .finish true]).checkpoint = false := by
  decide
/-- exactly once, instantiated -/
example (sched : List Ev) (h : (run exCfgG (init exItemsG) sched).checkpoint = true) :
    (run exCfgG (init exItemsG) sched).applied.Perm [10, 7, 11, 12] :=
  (checkpoint_exactly_once exCfgG (by decide) _ _ _ sched h).2

end GunYu.Props.C04
