/-
  C20 — a collection WITHOUT elements (`Value.ne` fails).

  Decided with the real loader (scope exhaustive-empty-collection: an RDB with a linked list / set / hash table of length
  0): `rdb.Loader` delivers ONE entry (first bin, not split) whose `ExecCmd` expansion is empty; on the expansion path
  the tool sends EXISTS, DEL when the key is held and the policy is replace, no data command, and PEXPIRE when the
  entry has an expiry (on a key that does not exist: no effect). The model says the same (`expand` of `cmds = []`), so:

    * `empty_replace_absent`  replace: the key is ABSENT afterwards whatever it held - the snapshot's value of an empty
                              collection is "no key", and that is what the target ends with; nothing else changes;
    * `empty_fresh_absent`    a key the target does not hold stays absent under every policy;
    * ignore / error on a held key: `ignore_untouched` / `error_before_modify` need `Group` only - they hold as they are.
  On the RESTORE path the payload is sent as it is (what a server makes of an empty collection's payload is the
  server's: the target double stores it) - `replace_final` needs `Value` for the expansion path only through `ne`.
-/
import GunYu.Props.C20

namespace GunYu.Props.C20
open GunYu GunYu.Restore

/-- an entry without commands on the expansion path, reached (its key is absent, or the policy is replace): the probe, DEL
    when the key is held, PEXPIRE on nothing when the entry has an expiry - the key is absent afterwards -/
theorem empty_absent (pol : Policy) (cfg : Cfg) (st : RState) (t : Target) (e : Entry)
    (hd : e.otype = .data) (hf : e.first = true) (hc : e.cmds = []) (hu : useRestore cfg e = false)
    (hreach : t.get e.key = none ∨ pol = .replace) :
    (runPlain pol cfg st t [e]).out = .ok ∧
    (runPlain pol cfg st t [e]).tgt.get e.key = none ∧
    (∀ d k, ¬ (d = t.cur ∧ k = e.key) → (runPlain pol cfg st t [e]).tgt.ks d k = t.ks d k) ∧
    (∀ r ∈ (runPlain pol cfg st t [e]).reqs, (∀ c, r ≠ Req.data c)) := by
  -- `dl`: the DEL of a held key, or nothing
  suffices fin : ∀ dl : List Req, (∀ r ∈ dl, r = Req.del e.key) → objSteps e.key t.now (t.get e.key) dl = none →
      replay pol cfg st (viewOf t e) e = (Req.exists e.key :: (dl ++ expand cfg e), .ok, none) → _ by
    cases hex : t.get e.key with
    | none => exact fin [] (List.forall_mem_nil _) hex (by simp [replay, viewOf, hex, hd, hu, hf])
    | some o =>
      obtain rfl := hreach.resolve_left (by simp [hex])
      exact fin [Req.del e.key] (by simp) (by simp [objSteps, objStep, reqKey, objEffect])
        (by simp [replay, viewOf, hex, hd, hu, hf])
  intro dl hdl hnone h
  obtain ⟨h1, h2, _, h4⟩ := runPlain_cons_ok _ _ _ _ _ [] _ _ h
  simp only [runPlain_nil, List.append_nil] at h1 h2 h4
  have hall : ∀ r ∈ Req.exists e.key :: (dl ++ expand cfg e), onKey e.key r ∧ ∀ c, r ≠ Req.data c := by
    intro r hr
    rcases List.mem_cons.mp hr with rfl | hr
    · exact ⟨rfl, nofun⟩
    rcases List.mem_append.mp hr with hr | hr
    · rw [hdl r hr]; exact ⟨rfl, nofun⟩
    · -- no commands: the expansion is at most the PEXPIRE
      rw [expand, hc] at hr
      split at hr <;> simp at hr
      subst hr; exact ⟨rfl, nofun⟩
  refine ⟨h2, ?_, fun d k hne => ?_, by rw [h1]; exact fun r hr => (hall r hr).2⟩
  · rw [h4, applyReqs_get t _ (fun r hr => onKey_noSel (hall r hr).1)]
    show objSteps e.key t.now (t.get e.key) (dl ++ expand cfg e) = none
    rw [objSteps_append, hnone, expand, hc]
    split <;> simp [objSteps, objStep, reqKey, objEffect]
  · rw [h4]; exact applyReqs_frame t _ e.key (fun r hr => (hall r hr).1) d k hne

/-- **replace, empty collection, expansion path**: EXISTS, DEL, [PEXPIRE on nothing] - the key is absent afterwards -/
theorem empty_replace_absent (cfg : Cfg) (st : RState) (t : Target) (e : Entry)
    (hd : e.otype = .data) (hf : e.first = true) (hc : e.cmds = []) (hu : useRestore cfg e = false) :
    (runPlain .replace cfg st t [e]).out = .ok ∧
    (runPlain .replace cfg st t [e]).tgt.get e.key = none ∧
    (∀ d k, ¬ (d = t.cur ∧ k = e.key) → (runPlain .replace cfg st t [e]).tgt.ks d k = t.ks d k) ∧
    (∀ r ∈ (runPlain .replace cfg st t [e]).reqs, (∀ c, r ≠ Req.data c)) :=
  empty_absent .replace cfg st t e hd hf hc hu (Or.inr rfl)

/-- a key the target does not hold stays absent, under every policy -/
theorem empty_fresh_absent (pol : Policy) (cfg : Cfg) (st : RState) (t : Target) (e : Entry)
    (hd : e.otype = .data) (hf : e.first = true) (hc : e.cmds = []) (hu : useRestore cfg e = false)
    (hex : t.get e.key = none) :
    (runPlain pol cfg st t [e]).out = .ok ∧ (runPlain pol cfg st t [e]).tgt.get e.key = none :=
  have h := empty_absent pol cfg st t e hd hf hc hu (Or.inl hex)
  ⟨h.1, h.2.1⟩

/-! non-vacuity: an empty list under "h" with an expiry, restore off, the target holds "h" with a TTL -/
def exEmpty : Entry := { exR with cmds := [] }
example : (runPlain .replace { exCfg with enableRestore := false } none exT [exEmpty]).reqs =
    [Req.exists [104], Req.del [104], Req.pexpire [104] 4000] := by decide
example : (runPlain .replace { exCfg with enableRestore := false } none exT [exEmpty]).tgt.get [104] = none := by decide
example : (runPlain .ignore { exCfg with enableRestore := false } none exT [exEmpty]).tgt.get [104] = some { val := .old 0, exp := 777 } := by decide

end GunYu.Props.C20
