/-
  C19 — the TRANSACTIONAL path of sendCmdsBatch through Batch / batch2.

  In transactional mode sendFuncOnce brackets the queue with Put("multi") … Put("exec"). The cluster client
  sends neither (chooseNodeWithCmdAndKeys returns no node for them; Put drops such a command): all they do is
  switch `cluster.transactionEnable` on, under which Put refuses a SECOND node batch with ErrCrossSlots
  (ClusterSender.put, txn = true). So there is no atomicity - but there is the one-node constraint, and this
  file states what it gives for every queue: an acknowledged transactional flush went, whole and in queue
  order, into the node batch of exactly ONE node; a queue that touches two nodes is reported, never split.
-/
import GunYu.Props.C19Exec
import GunYu.Props.C19Flush

namespace GunYu.Props.C19
open GunYu.ClusterSender GunYu.ClusterFlush

/-- ONE NODE: an acknowledged sender-transactional flush (blocking or pipelined) has exactly one node batch and
    every command of the queue is in it -/
theorem txn_flush_ack_one_node (pipe : Bool) (evs : List PutEv) (hne : evs ≠ [])
    (h : flushAck codeGuards true pipe evs = true) :
    ∃ nd, (puts true {} evs).nodes = [nd] ∧ ∀ e ∈ evs, e = .routed nd := by
  have hall := flush_ack_all_routed_code true pipe evs h
  have hlen : (puts true {} evs).nodes.length ≤ 1 := txn_batch_one_node evs {} (by simp)
  cases evs with
  | nil => exact absurd rfl hne
  | cons e0 es =>
    obtain ⟨nd0, _, hmem⟩ := hall e0 (List.mem_cons_self ..)
    have hnodes : (puts true {} (e0 :: es)).nodes = [nd0] := by
      cases hn : (puts true {} (e0 :: es)).nodes with
      | nil => rw [hn] at hmem; cases hmem
      | cons a t =>
        rw [hn] at hlen hmem
        cases t with
        | nil =>
          rcases List.mem_cons.mp hmem with rfl | hm
          · rfl
          · cases hm
        | cons b t' => simp at hlen
    refine ⟨nd0, hnodes, ?_⟩
    intro e he
    obtain ⟨nd, rfl, hm⟩ := hall e he
    rw [hnodes] at hm
    rw [List.mem_singleton.mp hm]

/-- … and a transactional queue that touches two nodes is REPORTED (the sender: ErrBreak), never sent in two parts -/
theorem txn_flush_two_nodes_reported (pipe : Bool) (evs : List PutEv) (n1 n2 : Nat)
    (h1 : PutEv.routed n1 ∈ evs) (h2 : PutEv.routed n2 ∈ evs) (hne : n1 ≠ n2) :
    flushAck codeGuards true pipe evs = false := by
  cases hh : flushAck codeGuards true pipe evs with
  | false => rfl
  | true =>
    exfalso
    obtain ⟨nd, _, hall⟩ := txn_flush_ack_one_node pipe evs (by intro h0; rw [h0] at h1; cases h1) hh
    have e1 := hall _ h1
    have e2 := hall _ h2
    injection e1 with e1
    injection e2 with e2
    exact hne (e1.trans e2.symm)

/-- the plain path has no such constraint: a flush over two nodes is acknowledged (node batches run concurrently) -/
example : flushAck goodGuards false false [.routed 0, .routed 1] = true := by decide +kernel
example : flushAck goodGuards true false [.routed 2, .routed 2, .routed 2] = true := by decide +kernel
example : flushAck goodGuards true true [.routed 2, .routed 0] = false := by decide +kernel

end GunYu.Props.C19
