/-
  C16 × C08 — the writers' script a follower's STREAM transfer induces (`streamScript`:
  `SetRunId x; NewAofWritter(left); append chunk …` on the empty directory a fresh follower has)
  satisfies C08's hypotheses `wf`, `SrcOk` and C16Restart's `SnapRecvOk` for EVERY chunking of
  bytes that are history `x` from `left` — which is what `aofRecv` hands to the follower's stream
  writer (`session_stream_payload_is_history`, from `Shape.aof`). So whatever a follower killed at
  ANY instant of that transfer re-opens is a faithful copy, with nothing left to assume
  (`stream_transfer_crash_image_faithful`). Snapshot transfers: Props/C16Snap.lean.
-/
import GunYu.Props.C16Restart

namespace GunYu.Props.C16
open GunYu GunYu.Replica GunYu.Store GunYu.StoreFs

/-- **session_stream_payload_is_history.** The leader's reply to a data request is a stream
    (`Shape.aof`: `conts off cs ++ tl` with `cs.flatten` history `x` from `off`); whatever the
    cut, the pipe loss and the write fault, the bytes the follower's stream writer gets onto its
    file are history `x` from `off`. -/
theorem session_stream_payload_is_history {β : Type} (h : Hist β) (x : Id) (off : Int) (k : Nat)
    (cs : List (List β)) (tl ms : List (Msg β)) (fin : Fin) (budget : Nat) (lost : Loss)
    (hms : ms = conts off cs ++ tl) (htl : Tail tl) (hb : cs.flatten = hseg h x off.toNat k) :
    (lost.written ((aofLoop fin budget ms).2.1.take ((aofLoop fin budget ms).2.1.length - lost.pipe))).1 =
      hseg h x off.toNat
        (lost.written ((aofLoop fin budget ms).2.1.take ((aofLoop fin budget ms).2.1.length - lost.pipe))).1.length := by
  obtain ⟨n, hn⟩ := lost.written_take (aofLoop fin budget ms).2.1 ((aofLoop fin budget ms).2.1.length - lost.pipe)
  rw [hn]
  apply hseg_prefix h x off.toNat k
  have := aofLoop_prefix fin budget ms
  rw [hms, pay_conts_tail _ _ htl, hb] at this
  rw [hms]
  exact (List.take_prefix _ _).trans this

/-- the writers' script of one stream transfer into the empty directory of a fresh follower -/
def streamScript (x : String) (left : Nat) (chunks : List Bytes) : List DOp :=
  [.setRunId x, .newAofWriter left] ++ chunks.map DOp.aofAppend

theorem appends_wf (chunks : List Bytes) (hne : ∀ c ∈ chunks, c ≠ []) (s : Disk) :
    s.wf (chunks.map DOp.aofAppend) := by
  induction chunks generalizing s with
  | nil => trivial
  | cons c rest ih =>
    exact ⟨hne c (by simp), ih (fun c' hc' => hne c' (List.mem_cons_of_mem _ hc')) _⟩

/-- one stream append on a live writer: the writer stays, the written history grows by the chunk -/
theorem aofAppend_live (s : Disk) (c : Bytes) (hl : s.live.isSome = true) :
    (s.step (.aofAppend c)).1.live.isSome = true ∧ (s.step (.aofAppend c)).1.hbase = s.hbase ∧
      (s.step (.aofAppend c)).1.hist = s.hist ++ c := by
  obtain ⟨g, hg⟩ := Option.isSome_iff_exists.mp hl
  simp only [Disk.step, Disk.appendLive, hg]
  split <;> simp

theorem appends_run (chunks : List Bytes) (s : Disk) (hl : s.live.isSome = true) :
    (s.run (chunks.map DOp.aofAppend)).live.isSome = true ∧ (s.run (chunks.map DOp.aofAppend)).hbase = s.hbase ∧
      (s.run (chunks.map DOp.aofAppend)).hist = s.hist ++ chunks.flatten := by
  induction chunks generalizing s with
  | nil => simpa [Disk.run] using hl
  | cons c rest ih =>
    obtain ⟨h1, h2, h3⟩ := aofAppend_live s c hl
    obtain ⟨i1, i2, i3⟩ := ih _ h1
    exact ⟨i1, i2.trans h2, i3.trans (by rw [h3, List.flatten_cons, List.append_assoc])⟩

theorem appends_srcOk (src : Nat → UInt8) (chunks : List Bytes) (s : Disk) (hl : s.live.isSome = true)
    (hfl : ∀ i b, chunks.flatten[i]? = some b → b = src (s.hbase + s.hist.length + i)) :
    SrcOk src s (chunks.map DOp.aofAppend) := by
  induction chunks generalizing s with
  | nil => trivial
  | cons c rest ih =>
    refine ⟨?_, ?_⟩
    · intro i b hb
      apply hfl i b
      simp only [List.flatten_cons]
      have hi : i < c.length := (List.getElem?_eq_some_iff.mp hb).1
      rw [List.getElem?_append_left hi]; exact hb
    · obtain ⟨h1, h2, h3⟩ := aofAppend_live s c hl
      apply ih _ h1
      intro i b hb
      rw [h2, h3, List.length_append]
      have := hfl (c.length + i) b (by
        simp only [List.flatten_cons]
        rw [List.getElem?_append_right (by omega)]
        simpa using hb)
      rw [this]; congr 1; omega

/-- … in particular when the chunks together are history `x` from the writer's position on -/
theorem appends_srcOk_hseg (h : Hist UInt8) (x : Id) (chunks : List Bytes) (s : Disk)
    (hl : s.live.isSome = true) (hp : chunks.flatten = hseg h x (s.hbase + s.hist.length) chunks.flatten.length) :
    SrcOk (fun o => h.byte x o) s (chunks.map DOp.aofAppend) := by
  apply appends_srcOk _ _ _ hl
  intro i b hb
  rw [hp] at hb
  have hi : i < chunks.flatten.length := by simpa using (List.getElem?_eq_some_iff.mp hb).1
  simp only [hseg, List.getElem?_map, List.getElem?_range hi, Option.map_some, Option.some.injEq] at hb
  exact hb.symm

theorem stream_script_wf (l m : Nat) (x : String) (left : Nat) (chunks : List Bytes)
    (hne : ∀ c ∈ chunks, c ≠ []) : (Disk.init l m).wf (streamScript x left chunks) := by
  refine ⟨by simp [Disk.okOp, Disk.init], ?_, appends_wf chunks hne _⟩
  simp [Disk.okOp, Disk.step, Disk.init, Disk.reset, Disk.closeLive, lastRight]

/-- **stream_script_srcOk.** C08's `SrcOk` for the script of a stream transfer whose payload is
    history `x` from `left` — for EVERY chunking. -/
theorem stream_script_srcOk (h : Hist UInt8) (l m : Nat) (x : String) (left : Nat) (chunks : List Bytes)
    (hp : chunks.flatten = hseg h x left chunks.flatten.length) :
    SrcOk (fun o => h.byte x o) (Disk.init l m) (streamScript x left chunks) := by
  refine ⟨trivial, trivial, appends_srcOk_hseg h x chunks _ ?_ ?_⟩
  · simp [Disk.step, Disk.init, Disk.reset, Disk.closeLive]
  · simpa [Disk.step, Disk.init, Disk.reset, Disk.closeLive, lastRight] using hp

theorem recv_none_appends (chunks : List Bytes) (g : RecvG) (hg : g.cur = none) :
    ((chunks.map DOp.aofAppend).foldl recvStep g).cur = none := by
  induction chunks generalizing g with
  | nil => exact hg
  | cons c rest ih => exact ih _ hg

/-- no snapshot writer occurs in the script: `SnapRecvOk` holds (vacuously) -/
theorem stream_script_snapRecvOk (h : Hist UInt8) (x : String) (left : Nat) (chunks : List Bytes) :
    SnapRecvOk h x (streamScript x left chunks) := by
  intro j L S c _ hr _
  exfalso
  have key : ∀ j, received ((streamScript x left chunks).take j) = none := by
    intro j
    unfold received recvRun streamScript
    match j with
    | 0 => rfl
    | 1 => simp [recvStep, stopRecv]
    | j + 2 =>
      simp only [List.cons_append, List.nil_append, List.take_succ_cons, List.foldl_cons]
      rw [← List.map_take]
      apply recv_none_appends
      simp [recvStep, stopRecv]
  rw [key j] at hr
  cases hr

/-- **stream_transfer_crash_image_faithful.** A fresh follower receives a stream whose payload
    `chunks.flatten` is history `x` from `left` (what `session_stream_payload_is_history` says of
    every session against a faithful leader), written in ANY chunking; it is killed at ANY
    instant (`n` file operations issued, the last append torn after `k` bytes). What the next
    process re-opens is a faithful copy of history `x` — C08's theorems applied with C16's own
    conclusion as their `SrcOk`, nothing assumed about the script. -/
theorem stream_transfer_crash_image_faithful (h : Hist UInt8) (l m : Nat) (x : String) (left : Nat)
    (chunks : List Bytes) (hne : ∀ c ∈ chunks, c ≠ [])
    (hp : chunks.flatten = hseg h x left chunks.flatten.length) (n k : Nat) :
    ∀ d, dataOfReopened (crashImage [] (scriptOps (Disk.init l m) (streamScript x left chunks)) n k) = some d →
      d.Faithful h x :=
  crash_image_data_faithful h x l m _ (stream_script_wf l m x left chunks hne)
    (stream_script_srcOk h l m x left chunks hp) (stream_script_snapRecvOk h x left chunks) n k

/-! ### non-vacuity -/

section examples
def hSc : Hist UInt8 := ⟨fun _ o => UInt8.ofNat o, fun _ _ => []⟩
example : ([[100, 101], [102], [103, 104, 105]] : List Bytes).flatten = hseg hSc "idA" 100 6 := by decide +kernel
example : (Disk.init 20 0).wf (streamScript "idA" 100 [[100, 101], [102], [103, 104, 105]]) := by decide +kernel
-- killed after the 2nd append was torn to 0 bytes / after everything: what is re-opened
example : dataOfReopened (crashImage [] (scriptOps (Disk.init 20 0) (streamScript "idA" 100 [[100, 101], [102], [103, 104, 105]])) 99 9) =
    some ⟨100, [100, 101, 102, 103, 104, 105], none⟩ := by decide +kernel
example : ∀ d, dataOfReopened (crashImage [] (scriptOps (Disk.init 20 0) (streamScript "idA" 100 [[100, 101], [102], [103, 104, 105]])) 4 1) = some d →
    d.Faithful hSc "idA" :=
  stream_transfer_crash_image_faithful hSc 20 0 "idA" 100 _ (by decide) (by decide) 4 1
end examples

end GunYu.Props.C16
