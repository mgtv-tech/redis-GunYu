/-
  C08 — above one directory, and life after the restart.
  Model: Model/StoreRoot.lean (base directory, `SetRunId`/`VerifyRunId`/`DelRunId` as
  directory-level syscalls, the index a new process builds from a directory);
  lemmas: Proofs/StoreFsXResume.lean, Proofs/StoreRoot.lean.

  `srcOf id` = the bytes of replication id `id`'s history. The one hypothesis about
  ids: when `SetRunId` RENAMES a directory to a new id (`changeReplId`), what the
  directory holds is history of the new id as well (the source continued the same
  stream under a new replication id; which offsets that covers is C06's).
-/
import GunYu.Props.C08Verify
import GunYu.Proofs.StoreRoot

namespace GunYu.Props.C08
open GunYu GunYu.Store GunYu.StoreFs GunYu.StoreFsX

/-- **resume_crash_bytes_true.** Life after the restart: a NEW process on ANY directory
    whose stream files are truthful (whatever crash, failed removal or interrupted
    RemoveAll produced it) re-opens it (`initDataSet` + `TruncateGap`, removals
    included), the writers run ANY script with faults from the re-built index, the
    process dies at ANY instant with the last write torn — and every byte a reader of
    the cache re-opened once more delivers is the source's byte at that offset. -/
theorem resume_crash_bytes_true (src : Nat → UInt8) (fs : FS) (ht : FsTrue src fs) (hn : NodupNames fs) (hs : SnapOk fs)
    (l m : Nat) (id : String) (xs : List XOp) (hwf : wfX (XDisk.reopened fs l m id) xs)
    (hsrc : SrcOkX src (XDisk.reopened fs l m id) xs) (n k : Nat) (verify : Bool) (off : Nat) (bs : Bytes) (e : ServeEnd)
    (hserve : serve (crashImageX (reopenFs fs) (xScriptOps (XDisk.reopened fs l m id) xs) n k) verify off = some (bs, e)) :
    ∀ j b, bs[j]? = some b → b = src (off + j) :=
  reopen_bytes_true src _ (resume_true fs ht hn hs l m id xs hwf hsrc n k) verify off bs e hserve

/-- **resume_crash_snapshot_complete.** … and a snapshot the cache then offers is
    complete: it was complete in the directory the life began with, or it holds
    exactly the bytes a snapshot writer of this life received. -/
theorem resume_crash_snapshot_complete (fs : FS) (hs : SnapOk fs) (l m : Nat) (id : String) (xs : List XOp)
    (hwf : wfX (XDisk.reopened fs l m id) xs) (n k L S : Nat) :
    let img := crashImageX (reopenFs fs) (xScriptOps (XDisk.reopened fs l m id) xs) n k
    (reopen img).rdb = some (L, S) → ∃ c, img.get (rdbName L S) = some c ∧ 0 < S ∧ c.length = S := by
  intro img h
  obtain ⟨c, hget, h1 | h1⟩ :=
    reopen_rdb_okP (resume_received (P0 := fun _ S c => 0 < S ∧ c.length = S) fs hs hs l m id xs hwf n k) h
  · exact ⟨c, hget, h1.1, h1.2⟩
  · exact ⟨c, hget, h1.1, h1.2.1⟩

/-- **resume_image_reopenable.** The directory the next death leaves satisfies the
    hypotheses again: any number of restarts. -/
theorem resume_image_reopenable (src : Nat → UInt8) (fs : FS) (ht : FsTrue src fs) (hn : NodupNames fs) (hs : SnapOk fs)
    (l m : Nat) (id : String) (xs : List XOp) (hwf : wfX (XDisk.reopened fs l m id) xs)
    (hsrc : SrcOkX src (XDisk.reopened fs l m id) xs) (n k : Nat) :
    let img := crashImageX (reopenFs fs) (xScriptOps (XDisk.reopened fs l m id) xs) n k
    FsTrue src img ∧ NodupNames img ∧ SnapOk img :=
  resume_closed fs ht hn hs l m id xs hwf hsrc n k

/-- what a reader gets under id `id` is `srcOf id`'s, in every base directory whose
    directories hold their own id's bytes -/
theorem rootOk_bytes_true (srcOf : String → Nat → UInt8) (r : Root) (h : RootOk srcOf r) (id : String) (verify : Bool)
    (off : Nat) (bs : Bytes) (e : ServeEnd) (hs : serveRoot r id verify off = some (bs, e)) :
    ∀ j b, bs[j]? = some b → b = srcOf id (off + j) := by
  unfold serveRoot at hs
  cases hg : r.get id with
  | none => simp [hg] at hs
  | some fs =>
    simp only [hg] at hs
    exact reopen_bytes_true (srcOf id) fs (h.get hg).1 verify off bs e hs

/-- **del_run_id_crash_true.** `DelRunId` = `os.RemoveAll`: the entries are unlinked in
    the order `readdir` returns them — ANY order — and the process may die after any
    unlink (any subset survives): whatever id is opened afterwards serves only its own
    id's bytes. -/
theorem del_run_id_crash_true (srcOf : String → Nat → UInt8) (r : Root) (h : RootOk srcOf r) (id : String)
    (order : List FName) (n : Nat) (id' : String) (verify : Bool) (off : Nat) (bs : Bytes) (e : ServeEnd)
    (hs : serveRoot (r.applyAllSys ((delRunIdSys r id order).take n)) id' verify off = some (bs, e)) :
    ∀ j b, bs[j]? = some b → b = srcOf id' (off + j) :=
  rootOk_bytes_true srcOf _ (delRunId_crash_ok r h id order n) id' verify off bs e hs

/-- **set_run_id_crash_true.** `SetRunId(new)` from current id `cur` — directory
    created, or the current directory RENAMED to the new id (`changeReplId`), then
    re-scanned and `TruncateGap`'s leftovers unlinked — cut at any syscall: every id
    serves only its own bytes. The one hypothesis is asked ONLY IF the operation renames
    (`setRunIdRenames`: there is a current directory and the new id has none): what the
    renamed directory holds is history of the new id too. -/
theorem set_run_id_crash_true (srcOf : String → Nat → UInt8) (r : Root) (h : RootOk srcOf r) (cur new : String)
    (hcont : setRunIdRenames r cur new = true → ∀ fs, r.get cur = some fs → FsTrue (srcOf new) fs) (n : Nat)
    (id' : String) (verify : Bool) (off : Nat) (bs : Bytes) (e : ServeEnd)
    (hs : serveRoot (r.applyAllSys ((setRunIdSys r cur new).take n)) id' verify off = some (bs, e)) :
    ∀ j b, bs[j]? = some b → b = srcOf id' (off + j) :=
  rootOk_bytes_true srcOf _ (setRunId_crash_ok r h cur new hcont n) id' verify off bs e hs

/-- **set_run_id_rename_agree.** … and that hypothesis follows from what PSYNC2 gives (C06,
    Model/Psync.lean `Agree`: after `+CONTINUE <new id>` the new id's history equals the old
    one's below the switch offset `x`) together with the directory holding no stream byte at or
    beyond `x` (C06 `cache_consistent_after` / `Holds`: a cache labelled with an id holds only
    bytes of that id's history; `reach_safe` is the end-to-end statement). The composition with
    C06's `World` is by this lemma, not by import (a broken C06 must not break C08). -/
theorem set_run_id_rename_agree (srcOf : String → Nat → UInt8) (r : Root) (h : RootOk srcOf r) (cur new : String) (x : Nat)
    (hag : ∀ n, n < x → srcOf new n = srcOf cur n) (hbelow : ∀ fs, r.get cur = some fs → HeldBelow x fs) (n : Nat)
    (id' : String) (verify : Bool) (off : Nat) (bs : Bytes) (e : ServeEnd)
    (hs : serveRoot (r.applyAllSys ((setRunIdSys r cur new).take n)) id' verify off = some (bs, e)) :
    ∀ j b, bs[j]? = some b → b = srcOf id' (off + j) :=
  set_run_id_crash_true srcOf r h cur new
    (fun _ fs hg => renOk_of_agree x (h.get hg).1 hag (hbelow fs hg)) n id' verify off bs e hs

/-- **verify_run_id_right_id.** `VerifyRunId(ids)` among several directories takes an id by
    exactly the code's rule (`Chosen`: ids that are not real or have no directory are skipped; a
    real id with a directory is entered and taken unless its newest offset is 0, then the search
    goes on), the id taken is one of those asked for, and — also when it is cut at any syscall —
    what is served under any id afterwards is that id's (no hypothesis: it never renames). -/
theorem verify_run_id_right_id (srcOf : String → Nat → UInt8) (r : Root) (h : RootOk srcOf r) (cur : String)
    (ids : List String) :
    (∀ id, (verifyRunId r cur ids).2.2.2 = some id ↔ Chosen r cur ids id) ∧
    (∀ id, (verifyRunId r cur ids).2.2.2 = some id → id ∈ ids ∧ realId id = true) ∧
    ∀ n id' verify off bs e,
      serveRoot (r.applyAllSys ((verifyRunId r cur ids).1.take n)) id' verify off = some (bs, e) →
      ∀ j b, bs[j]? = some b → b = srcOf id' (off + j) := by
  obtain ⟨h1, _, h3⟩ := verifyRunId_spec ids r cur
  refine ⟨fun id => verifyRunId_rule ids r cur id, h3, ?_⟩
  intro n id' verify off bs e hs
  exact rootOk_bytes_true srcOf _ (sys_crash_ok r h _ (renOk_of_no_rename _ _ h1) n) id' verify off bs e hs

/-- **root_bytes_true.** Everything together, any number of times in any order: lives of
    the writers on any id's directory (re-opening, any script with faults, death at any
    instant, the last write torn) and id-level operations cut at any syscall (directory
    created, renamed on an id change, entries unlinked in any order, directory
    removed): whatever a reader gets under id `id` after the next restart is the byte
    the source sent under THAT id at that offset. -/
theorem root_bytes_true (srcOf : String → Nat → UInt8) (r : Root) (h : RootReach srcOf r) (id : String) (verify : Bool)
    (off : Nat) (bs : Bytes) (e : ServeEnd) (hs : serveRoot r id verify off = some (bs, e)) :
    ∀ j b, bs[j]? = some b → b = srcOf id (off + j) :=
  rootOk_bytes_true srcOf r (rootReach_ok h) id verify off bs e hs

/-- **root_snapshot_complete.** … and a snapshot offered under any id is a committed
    file with exactly the announced number of bytes. -/
theorem root_snapshot_complete (srcOf : String → Nat → UInt8) (r : Root) (h : RootReach srcOf r) (id : String) (fs : FS)
    (hg : r.get id = some fs) (L S : Nat) (hr : (reopen fs).rdb = some (L, S)) :
    ∃ c, fs.get (rdbName L S) = some c ∧ 0 < S ∧ c.length = S :=
  reopened_rdb ((rootReach_ok h).get hg).2.2 hr

/-! ### non-vacuity -/

def exDir : FS := [(.aof 100, fixHeader ++ [100, 101, 102]), (.aof 103, fixHeader ++ [103]), (.rdb 100 2, [7, 7])]
def exRoot : Root := [("A", exDir), ("B", [(.aof 500, fixHeader ++ [9])])]

-- an id change renames the directory; nothing is re-created, the bytes are now served under the new id
example : setRunIdSys exRoot "A" "C" = [.renameDir "A" "C"] := by decide
example : (exRoot.applyAllSys (setRunIdSys exRoot "A" "C")).get "A" = none ∧
    serveRoot (exRoot.applyAllSys (setRunIdSys exRoot "A" "C")) "C" false 101 = some ([101, 102, 103], ServeEnd.eof) := by
  decide
-- switching to an id that has a directory: no rename
example : setRunIdSys exRoot "A" "B" = [] := by decide
-- VerifyRunId skips "?" and ids without a directory and takes the first that has one
example : (verifyRunId exRoot "" ["?", "Z", "B", "A"]).2.2.2 = some "B" := by decide
-- DelRunId in some readdir order, the process dies after two unlinks: what is left is served truthfully
example : ((exRoot.applyAllSys ((delRunIdSys exRoot "A" [.aof 103, .rdb 100 2, .aof 100]).take 2)).get "A") =
    some [(.aof 100, fixHeader ++ [100, 101, 102])] := by decide
-- … complete: the directory is gone
example : (exRoot.applyAllSys (delRunIdSys exRoot "A" [.aof 103, .rdb 100 2, .aof 100])).get "A" = none := by decide
-- a new process on a directory with a gap: the older segment is unlinked, the writer goes on from 104
def exGap : FS := [(.aof 90, fixHeader ++ [1, 2]), (.aof 100, fixHeader ++ [100, 101, 102, 103])]
example : reopenOps exGap = [.remove (.aof 90)] := by decide
example : wfX (XDisk.reopened exGap 32 0 "A") [.op (.newAofWriter 104), .op (.aofAppend [104, 105])] := by decide
example : (xScriptOps (XDisk.reopened exGap 32 0 "A") [.op (.newAofWriter 104), .op (.aofAppend [104, 105])]).length = 3 := by
  decide
example : serve (crashImageX (reopenFs exGap) (xScriptOps (XDisk.reopened exGap 32 0 "A")
    [.op (.newAofWriter 104), .op (.aofAppend [104, 105])]) 3 1) false 101 = some ([101, 102, 103, 104], ServeEnd.eof) := by
  decide +kernel


/-! ### instances that DISCHARGE the hypotheses -/

/-- the source: offset `i` carries byte `i` -/
def exSrc : Nat → UInt8 := fun i => UInt8.ofNat i

/-- a directory a crash left: a segment [100,103) with a zero header and a committed snapshot -/
def exDirR : FS := [(.aof 100, fixHeader ++ [100, 101, 102]), (.rdb 100 2, [7, 7])]

theorem exDirR_true : FsTrue exSrc exDirR := by
  intro e he l hp i b hb
  simp [exDirR] at he
  rcases he with rfl | rfl
  · simp [parseAofName] at hp; subst hp
    have hd : (fixHeader ++ [100, 101, 102] : Bytes).drop headerSize = [100, 101, 102] := by decide
    rw [hd] at hb
    match i, hb with
    | 0, hb => simp at hb; subst hb; decide
    | 1, hb => simp at hb; subst hb; decide
    | 2, hb => simp at hb; subst hb; decide
    | n + 3, hb => simp at hb
  · simp [parseAofName] at hp

theorem exDirR_nodup : NodupNames exDirR := by unfold NodupNames; decide

theorem exDirR_snap : SnapOk exDirR := by
  intro e he L S hp
  simp [exDirR] at he
  rcases he with rfl | rfl
  · simp [parseRdbName] at hp
  · simp [parseRdbName] at hp; obtain ⟨_, rfl⟩ := hp; exact ⟨by decide, rfl⟩

/-- the next life: the writer resumes at 103, appends, its close's header rewrite fails after 5 bytes -/
def exLifeR : List XOp := [.op (.newAofWriter 103), .op (.aofAppend [103, 104]), .aofCloseHdrFail 5]

theorem exLifeR_wf : wfX (XDisk.reopened exDirR 32 0 "A") exLifeR := by decide
theorem exLifeR_src : SrcOkX exSrc (XDisk.reopened exDirR 32 0 "A") exLifeR :=
  srcOkXB_sound exSrc _ _ (by decide)

-- `resume_crash_bytes_true` APPLIED: all hypotheses discharged, the process dies in the middle of the
-- failing header rewrite (3 of its 5 bytes written), the cache re-opened once more serves [101, 105)
example : ∀ j b, ([101, 102, 103, 104] : Bytes)[j]? = some b → b = exSrc (101 + j) :=
  resume_crash_bytes_true exSrc exDirR exDirR_true exDirR_nodup exDirR_snap 32 0 "A" exLifeR exLifeR_wf exLifeR_src
    4 3 false 101 [101, 102, 103, 104] ServeEnd.eof (by decide +kernel)

/-- one history under every id: the source continued the stream under a new replication id -/
def exSrcOf : String → Nat → UInt8 := fun _ => exSrc

def exLifeA : List XOp := [.op (.newAofWriter 100), .op (.aofAppend [100, 101, 102]), .op .aofClose]
theorem exLifeA_wf : wfX (XDisk.reopened [] 32 0 "A") exLifeA := by decide
theorem exLifeA_src : SrcOkX exSrc (XDisk.reopened [] 32 0 "A") exLifeA := srcOkXB_sound exSrc _ _ (by decide)

/-- a base directory reached by: a life of the writers under id A on an empty store … -/
def exRootA : Root :=
  Root.set [] "A" (crashImageX (reopenFs ((Root.get [] "A").getD []))
    (xScriptOps (XDisk.reopened ((Root.get [] "A").getD []) 32 0 "A") exLifeA) 99 99)

theorem exRootA_reach : RootReach exSrcOf exRootA :=
  RootReach.life [] "A" 32 0 exLifeA 99 99 RootReach.empty exLifeA_wf exLifeA_src

theorem exRename : setRunIdSys exRootA "A" "C" = [.renameDir "A" "C"] := by decide +kernel

/-- … then `SetRunId("C")`: the directory is renamed; `RenOk` proved (the new id continues the history) -/
theorem exRootC_reach : RootReach exSrcOf (exRootA.applyAllSys ((setRunIdSys exRootA "A" "C").take 1)) := by
  apply RootReach.sys exRootA _ 1 exRootA_reach
  rw [exRename]
  exact ⟨fun fs hg => ((rootReach_ok exRootA_reach).get hg).1, trivial⟩

-- `root_bytes_true` APPLIED to it: under the new id the renamed cache serves the source's bytes
example : ∀ j b, ([101, 102] : Bytes)[j]? = some b → b = exSrcOf "C" (101 + j) :=
  root_bytes_true exSrcOf _ exRootC_reach "C" true 101 [101, 102] ServeEnd.eof (by decide +kernel)

end GunYu.Props.C08
