/-
  C08 — the CRC64 the disk cache writes into a closed segment's header and
  checks on reopen / verify (`AofRotater.closeAof`, `AofRotateReader.isCorrupted`,
  `RdbReader.checkHeader` all feed `digest.New()` through `digest.update`) is REGENERATED from
  pkg/digest/crc64.go on every run (lean/GunYu/Gen/FnCrc64.lean, generator `gofn_crc64`, over the
  table regenerated by generator `c03`); proved here for every input: it is `StoreFs.crc64`, the
  function every C08 theorem about headers, footers and the burst fact (`crc64_window8`) is about.
-/
import GunYu.Proofs.GenS5Crc64
import GunYu.Proofs.StoreFsCrcBurst

namespace GunYu.Props.C08
open GunYu GunYu.Gen

/-- the regenerated `digest.update` on a fresh digest = `StoreFs.crc64` (as the number written
    little-endian into the header / footer) -/
theorem gen_crc64_eq_model (p : Bytes) (hlen : p.length < 9223372036854775807) :
    (Fn.crc64Update ⟨0#64⟩ p).map (fun d => d.crc.toNat) = some (StoreFs.crc64 p) := by
  rw [Proofs.GenS5.gen_crc64Update_eq_tabFrom ⟨0#64⟩ p hlen, StoreFs.crc64_eq_tab]
  rfl

/-- streaming: the writer feeds the digest one `write` at a time, the verifier in 4 KiB reads -
    any chunking gives the checksum of the concatenation -/
theorem gen_crc64_chunks (d : Fn.digest) (p q : Bytes)
    (hp : p.length < 9223372036854775807) (hq : q.length < 9223372036854775807)
    (hpq : (p ++ q).length < 9223372036854775807) :
    (Fn.crc64Update d p).bind (fun d' => Fn.crc64Update d' q) = Fn.crc64Update d (p ++ q) :=
  Proofs.GenS5.gen_crc64Update_append d p q hp hq hpq

-- non-vacuity (Redis crc64.c test vector on the generated definition)
example : (Fn.crc64Update ⟨0#64⟩ [49, 50, 51, 52, 53, 54, 55, 56, 57]).map (fun d => d.crc.toNat) =
    some 0xe9c6d914c4b8d9ca := by decide +kernel

end GunYu.Props.C08
