/-
  C16 — A follower's cache is a faithful copy of the leader's stream.

  Property theorems only (model: Model/Replica.lean, helper lemmas: Proofs/Replica.lean).

  Quantifier: all pairs of leader and follower cache states (any `Leader`, any
  well-formed follower `Store`: empty, prefix, equal, ahead, other id, position already
  collected at the leader are all instances), snapshot and log transfers of any chunking
  (`ch : List Nat`), interruption at any message (`cut : Nat`, with any `lost : Loss`:
  received-but-unwritten bytes dropped, a failing file write after any number of bytes), any number of metaSync rounds (`fuel`), and any
  sequence of such sessions against changing leaders.

  "Faithful" is relative to an arbitrary history `h : Hist β` (for every run id a byte at
  every offset and a snapshot at every offset). NO relation between the histories of two
  run ids is assumed, so the theorems say that the follower never keeps bytes of one id
  under another one. (With a PSYNC2 fail-over, history `new` agrees with history `old`
  below the switch offset; keeping the old bytes below that offset under the new id
  would then also be faithful — `relabel_faithful_iff_join` — but neither the follower
  nor the protocol knows the switch offset, so the repaired code discards; the property
  demands faithfulness, which discarding always satisfies.)

  Consequence to keep in mind: at every fail-over of the source the leader relabels its
  cache while every follower deletes its whole copy and restarts at the leader's newest
  offset without a snapshot; HANDOVER is not reachable across a fail-over, and an ahead
  follower that meets a leader whose input has already moved on gets CLEAR and deletes
  (`clear_deletes_any`).

  Hypothesis `hq : (V 0).l2b.cur ≠ "?"` of the session theorems (the leader's channel run id is
  never the literal "?") is discharged in Props/C16Id.lean (`follower_prefix_of_leader_src`:
  disk leader unconditionally, memory leader unless the source itself reports "?").
  `lost : Loss` carries, besides the bytes lost in the pipe, a write fault / failing commit of
  the follower's own store (Props/C16Fault.lean); open readers: Props/C16Reader.lean; restart
  from a crash image: Props/C16Restart.lean; promotion (C06's CacheOK): Props/C16Promote.lean.
  "Is offered leadership": follower side `ahead_gets_handover`, leader side
  `handover_leader_steps_down` (Sync stops the syncer); what runCluster does afterwards:
  Props/C16Handover.lean.
-/
import GunYu.Model.Replica
import GunYu.Proofs.Replica

namespace GunYu.Props.C16
open GunYu GunYu.Replica

/-- **follower_prefix_of_leader** (invariant, one session, any interruption point, a leader
    that changes under the session). `V n` is the leader's state as the `n`-th request of
    the session reads it, at four separate points of `ServiceReplica`/`Handle` (gate and
    self inspection; input ids and `StartPoint`; `IsValidOffset`; `NewReader`) — the
    leader's own input may switch run id, re-snapshot or collect in between. If every cache
    a reader is opened on is a copy of history and everything the follower holds under run
    id `id` is a copy of history `id`, then after a session cut after ANY number of
    messages, with ANY chunking, the same holds — for every id separately, so bytes never
    move from one id to another — and the store stays well formed. -/
theorem follower_prefix_of_leader {β : Type} (h : Hist β) (bk : Backend) (V : Nat → View β)
    (F : Store β) (ch : List Nat) (cut : Nat) (lost : Loss) (fuel : Nat)
    (hL : ∀ n, (V n).l4.Faithful h) (hq : (V 0).l2b.cur ≠ "?") (hwf : WF bk F) (id : Id)
    (hF : FaithfulAt h F.dirs id) :
    FaithfulAt h (sessionV bk V F ch cut lost fuel).store.dirs id ∧
      WF bk (sessionV bk V F ch cut lost fuel).store :=
  have k := session_kept bk V F ch cut lost fuel hq hwf
  ⟨k.faithful h id hL hF, k.wf⟩

/-- one follower session as a state transformer -/
def run {β : Type} (bk : Backend) (F : Store β) (r : (Nat → View β) × List Nat × Nat × Loss × Nat) :
    Store β :=
  (sessionV bk r.1 F r.2.1 r.2.2.1 r.2.2.2.1 r.2.2.2.2).store

/-- what can happen to a follower's cache between two looks at it -/
inductive Step (β : Type)
  /-- one pass of `ReplicaFollower.Run` (handshake … first error), any leader, any cut -/
  | sess (r : (Nat → View β) × List Nat × Nat × Loss × Nat)
  /-- (disk) the process restarts: the storer forgets its current id, directories stay -/
  | restart
  /-- the follower was leader for a while: its own input appended to the current id -/
  | ownAppend (p : List β)

def step {β : Type} (bk : Backend) (F : Store β) : Step β → Store β
  | .sess r => run bk F r
  | .restart => match bk with
    | .disk => { F with cur := "" }
    | .mem => ⟨"", []⟩
  | .ownAppend p => match F.curData with
    | some d => F.setCur (some { d with bytes := d.bytes ++ p })
    | none => F

/-- the step keeps faithfulness: sessions against faithful leaders; what the follower's own
    input appends as leader is history of the current id -/
def Step.Ok {β : Type} (h : Hist β) (F : Store β) : Step β → Prop
  | .sess r => (∀ n, (r.1 n).l4.Faithful h) ∧ (r.1 0).l2b.cur ≠ "?"
  | .restart => True
  | .ownAppend p => ∀ d, F.curData = some d → p = hseg h F.cur d.right p.length

theorem step_ok {β : Type} (h : Hist β) (bk : Backend) (F : Store β) (st : Step β)
    (hst : st.Ok h F) (hwf : WF bk F) (hF : ∀ id, FaithfulAt h F.dirs id) :
    (∀ id, FaithfulAt h (step bk F st).dirs id) ∧ WF bk (step bk F st) := by
  cases st with
  | sess r =>
    exact ⟨fun id => (follower_prefix_of_leader h bk r.1 F _ _ _ _ hst.1 hst.2 hwf id (hF id)).1,
      (follower_prefix_of_leader h bk r.1 F _ _ _ _ hst.1 hst.2 hwf "" (hF "")).2⟩
  | restart =>
    cases bk with
    | disk => exact ⟨hF, ⟨Or.inl rfl, by simp [step]⟩⟩
    | mem =>
      refine ⟨?_, ?_, fun _ => rfl, by simp [step]⟩
      · intro id d hd; cases hd
      · intro p hp; cases hp
  | ownAppend p =>
    simp only [step]
    cases hcd : F.curData with
    | none => exact ⟨hF, hwf⟩
    | some d =>
      simp only
      have hmem := curData_mem hcd
      refine ⟨fun id => setCur_faithful _ _ _ ?_ (hF id), ?_⟩
      · intro hid d' hd'
        cases hd'
        have hdf := hF id d (hid ▸ hmem)
        refine ⟨?_, hdf.2⟩
        simp only [List.length_append]
        rw [hseg_append, ← hdf.1, hid]
        congr 1
        exact hst d hcd
      · -- well-formedness: the current id keeps its directory
        cases bk with
        | disk =>
          refine ⟨Or.inr ?_, hwf.2⟩
          rw [has_iff_get, getD_isSome]
          exact ⟨(F.cur, some { d with bytes := d.bytes ++ p }), by simp [Store.setCur], rfl⟩
        | mem =>
          obtain ⟨hk, hn, hq⟩ := hwf
          refine ⟨?_, ?_, hq⟩
          · intro q hq'
            simp only [Store.setCur, List.mem_cons] at hq'
            rcases hq' with rfl | hq'
            · rfl
            · exact hk q (mem_dropKey.mp hq').1
          · intro h0
            have : F.dirs = [] := hn h0
            rw [this] at hmem; cases hmem

/-- **follower_prefix_of_leader**, any history of the follower: sessions against leaders in
    arbitrary (faithful, changing) states — grown, collected, re-snapshotted, under another
    run id — each interrupted anywhere, process restarts, and periods as leader in between.
    Whatever the follower stores under any id is byte-identical to history at the same
    offsets. -/
theorem follower_prefix_of_leader_runs {β : Type} (h : Hist β) (bk : Backend) :
    ∀ (steps : List (Step β)) (F : Store β),
      (∀ (pre : List (Step β)) (st : Step β) (post : List (Step β)), steps = pre ++ st :: post →
        st.Ok h (pre.foldl (step bk) F)) →
      WF bk F → (∀ id, FaithfulAt h F.dirs id) →
      (∀ id, FaithfulAt h (steps.foldl (step bk) F).dirs id) ∧ WF bk (steps.foldl (step bk) F) := by
  intro steps F hok hwf hF
  exact foldl_invariant (step bk) (fun F st => st.Ok h F) (fun F => (∀ id, FaithfulAt h F.dirs id) ∧ WF bk F)
    (fun F st hst hi => step_ok h bk F st hst hi.2 hi.1) steps F hok ⟨hF, hwf⟩

/-- the stream bytes of a faithful cache, spelled out: the byte stored at offset `o` of
    run id `id` is history's byte at `(id, o)`; stored bytes are one contiguous range
    `[base, base + n)` of one id (this is what `Data` is). -/
theorem faithful_bytes {β : Type} (h : Hist β) (id : Id) (d : Data β) (hd : d.Faithful h id)
    (i : Nat) (hi : i < d.bytes.length) : d.bytes[i] = h.byte id (d.base + i) := by
  have := hd.1
  have e : d.bytes[i] = (hseg h id d.base d.bytes.length)[i]'(by simpa using hi) := by
    congr 1
  rw [e]
  simp [hseg]

/-- **contiguous**: the follower never opens its stream writer anywhere but at the end of
    the data it holds (or on an empty cache) — for ANY leader state, faithful or not; the
    sentinel outcome `discont`, which stands for overlapping / disjoint segments on disk
    and for the memory backend's refusal, is unreachable. -/
theorem follower_contiguous {β : Type} (bk : Backend) (V : Nat → View β) (F : Store β)
    (ch : List Nat) (cut : Nat) (lost : Loss) (fuel : Nat) (hq : (V 0).l2b.cur ≠ "?") (hwf : WF bk F) :
    (sessionV bk V F ch cut lost fuel).cls ≠ .discont :=
  (session_kept bk V F ch cut lost fuel hq hwf).cls

/-- **unjoinable_discards**: the follower's current copy belongs to run id `y`, the leader
    announces another id `x` for which the follower holds nothing. `preSync` then leaves
    no directory `y`, an empty cache under `x`, and asks for the leader's offset — the
    old bytes are discarded, not kept under the new id. -/
theorem unjoinable_discards {β : Type} (bk : Backend) (F : Store β) (x y : Id) (loff : Int)
    (hx1 : x ≠ "") (hx2 : x ≠ "?") (hy : y = F.cur) (hy0 : y ≠ "") (hyx : y ≠ x)
    (hwf : WF bk F) (hnox : getD F.dirs x = none) :
    (preSync bk F x loff).1.cur = x ∧ (preSync bk F x loff).1.curData = none ∧
      getD (preSync bk F x loff).1.dirs y = none ∧ (preSync bk F x loff).2 = (x, loff) := by
  have hsp := special_false hx1 hx2
  subst hy
  have hc : (F.cur ≠ "" && F.cur ≠ x) = true := by simp [hy0, hyx]
  cases bk with
  | disk =>
    obtain ⟨hcur, hq⟩ := hwf
    have hhc : F.has F.cur = true := hcur.resolve_left hy0
    have hg : F.get x = none := hnox
    have hst : startPoint .disk F x = (F, (F.cur, 0)) := by
      simp only [startPoint, hsp, Bool.false_eq_true, if_false, hg, hy0]
    have hnx : Store.has (⟨"", dropKey F.dirs F.cur⟩ : Store β) x = false := by
      rw [has_false_iff]
      simp only
      rw [getD_dropKey_ne _ (Ne.symm hyx)]
      exact hnox
    have hadopt : adopt .disk F x = ⟨x, dropKey F.dirs F.cur ++ [(x, none)]⟩ := by
      unfold adopt
      rw [hc]
      simp only [if_true]
      rw [delRunId_disk_has (special_false hy0 hq) hhc, setRunId_disk_nocur rfl,
        newRunIdDisk_new hsp hnx]
    have hpre : preSync .disk F x loff = (⟨x, dropKey F.dirs F.cur ++ [(x, none)]⟩, (x, loff)) := by
      unfold preSync
      simp only [hst, hyx, ne_eq, not_false_eq_true, decide_true, Bool.or_true, if_true, hadopt]
    rw [hpre]
    have hgx : getD (dropKey F.dirs F.cur ++ [(x, none)]) x = some none :=
      getD_append_none _ _ (by rw [getD_dropKey_ne _ (Ne.symm hyx)]; exact hnox)
    refine ⟨rfl, curData_none_of_get (Or.inr hgx), ?_, rfl⟩
    rw [getD_none]
    intro p hp
    simp only [List.mem_append, List.mem_singleton] at hp
    rcases hp with hp | rfl
    · exact (mem_dropKey.mp hp).2
    · exact Ne.symm hyx
  | mem =>
    have hne : ¬ (x = F.cur) := fun e => hyx e.symm
    have hst : startPoint .mem F x = (F, ("?", -1)) := by
      simp only [startPoint, hsp, hne, Bool.not_false, decide_false, Bool.and_false,
        Bool.false_eq_true, if_false]
    have hadopt : adopt .mem F x = ⟨x, []⟩ := by
      unfold adopt
      rw [hc]
      simp only [if_true]
      rw [delRunId_mem_cur]
      simp [setRunId]
    have hpre : preSync .mem F x loff = (⟨x, []⟩, (x, loff)) := by
      unfold preSync
      simp only [hst, decide_true, Bool.true_or, if_true, hadopt]
    rw [hpre]
    exact ⟨rfl, by simp [Store.curData, Store.get, getD], by simp [getD], rfl⟩

/-- **others_untouched**: whatever the leader does and wherever the session is cut, every
    directory of the follower afterwards is the one of the id announced in the handshake or
    is, unchanged, a directory it had before: a session never creates, fills or relabels a
    directory of another id. -/
theorem others_untouched {β : Type} (bk : Backend) (V : Nat → View β) (F : Store β)
    (ch : List Nat) (cut : Nat) (lost : Loss) (fuel : Nat) (hq : (V 0).l2b.cur ≠ "?") (hwf : WF bk F) :
    ∀ p ∈ (sessionV bk V F ch cut lost fuel).store.dirs, p.1 = (V 0).l2b.cur ∨ p ∈ F.dirs :=
  (session_kept bk V F ch cut lost fuel hq hwf).ksub

/-- **unjoinable_discards**, session level: the leader serves `x`, the follower's current
    copy is `y ≠ x` and it holds nothing for `x`. As soon as the handshake has been delivered
    (`cut ≥ 1`), and wherever the session is cut afterwards, no directory `y` is left — the
    old copy is gone for good, it does not come back under any id. (Static leader. When the
    disk follower DOES hold a directory `x`, `StartPoint` switches to it and the directory `y`
    stays on disk, unchanged and under its own id — `others_untouched` — it is merely no
    longer current.) -/
theorem unjoinable_discards_session {β : Type} (bk : Backend) (L : Leader β) (F : Store β)
    (ch : List Nat) (c : Nat) (lost : Loss) (fuel : Nat) (x y : Id) (hs : Serves L x)
    (hx1 : x ≠ "") (hx2 : x ≠ "?") (hy : y = F.cur) (hy0 : y ≠ "") (hyx : y ≠ x)
    (hwf : WF bk F) (hnox : getD F.dirs x = none) :
    getD (session bk L F ch (c + 1) lost fuel).store.dirs y = none := by
  rw [session_static hs hx1, Out.pre_store]
  have hp := preSync_spec bk F x (latest L.data) hx1 hx2 hwf
  have hu := unjoinable_discards bk F x y (latest L.data) hx1 hx2 hy hy0 hyx hwf hnox
  have hk := (syncLoop_kept bk (fun _ => View.const L) lost x hx1 hx2 fuel 1 c ch _ _ hp.1 hp.2.1 hp.2.2.2.2).ksub
  rw [getD_none]
  intro p hp' hpy
  rcases hk p hp' with h | h
  · exact hyx (hpy ▸ h)
  · exact (getD_none.mp hu.2.2.1) p h hpy

/-- **gap_discards** (a lemma about the function `preSync`; the session-level consequence is
    `gap_discards_session`; the 10 MiB rule): same run id, the leader is more than
    10 MiB ahead of the follower's end: the follower deletes its copy and asks for the
    leader's offset. (At 10 MiB or less it keeps it and asks for its own end.) -/
theorem gap_discards {β : Type} (bk : Backend) (F : Store β) (x : Id) (e : Data β) (loff : Int)
    (hx1 : x ≠ "") (hx2 : x ≠ "?") (hwf : WF bk F) (hF : F.get x = some (some e))
    (hm : bk = .mem → F.cur = x) :
    (loff - (e.right : Int) > tenMB →
        (preSync bk F x loff).1.curData = none ∧ (preSync bk F x loff).1.cur = x ∧
          (preSync bk F x loff).2 = (x, loff)) ∧
      (¬ loff - (e.right : Int) > tenMB →
        (preSync bk F x loff).1 = ⟨x, F.dirs⟩ ∧ (preSync bk F x loff).2 = (x, (e.right : Int))) := by
  rw [preSync_sameid bk F x e loff hx1 hx2 hwf hF hm]
  constructor
  · intro hg
    rw [if_pos hg]
    have hr := reset_at bk ⟨x, F.dirs⟩ x hx1 hx2 (at_sameid bk F x e hwf hF hm)
    exact ⟨hr.2.2.1, hr.1.1, rfl⟩
  · intro hg
    rw [if_neg hg]
    exact ⟨rfl, rfl⟩

/-- **collected_discards**: same run id, but the follower's end lies before everything the
    leader still holds and the leader has no snapshot (the position was collected). With
    the handshake and the announcement delivered (`cut ≥ 2`), whatever the follower holds
    for `x` afterwards starts at the leader's newest offset: the old part, which could not
    be joined, is gone, and no snapshot is kept. -/
theorem collected_discards {β : Type} (bk : Backend) (L : Leader β) (F : Store β)
    (ch : List Nat) (c : Nat) (lost : Loss) (f : Nat) (x : Id) (d e : Data β) (hs : Serves L x)
    (hx1 : x ≠ "") (hx2 : x ≠ "?") (hd : L.data = some d) (hsn : d.snap = none)
    (hw : L.hasSegs d = true) (hwf : WF bk F) (hF : F.get x = some (some e))
    (hm : bk = .mem → F.cur = x) (hgap : e.right < d.base) :
    ∀ e', (session bk L F ch (c + 2) lost (f + 1)).store.curData = some e' →
      e'.base = d.right ∧ e'.snap = none := by
  have hlat : latest L.data = (d.right : Int) := by rw [hd]; rfl
  have hat := at_sameid bk F x e hwf hF hm
  have hdr : d.base ≤ d.right := by simp [Data.right]
  rw [session_static hs hx1, Out.pre_store, hlat, preSync_sameid bk F x e _ hx1 hx2 hwf hF hm]
  -- in both branches of preSync the answer is the stream from the leader's newest offset
  have key : ∀ (G : Store β) (roff : Int), At bk G x → (roff = (d.right : Int) ∨ roff = (e.right : Int)) →
      (∀ e0, G.curData = some e0 → (e0.right : Int) < (d.right : Int)) →
      ∀ e', (syncLoopV bk (fun _ => View.const L) lost x (f + 1) 1 (c + 1) ch G (x, roff)).store.curData = some e' →
        e'.base = d.right ∧ e'.snap = none := by
    intro G roff hG hroff hbey e' he'
    have hle : ¬ roff - latest L.data > 0 := by
      rw [hlat]; rcases hroff with h | h <;> rw [h] <;> omega
    have hoff : (if L.valid x roff then roff else latest L.data) = (d.right : Int) := by
      rcases hroff with h | h
      · rw [h, hlat]; split <;> rfl
      · have : L.valid x roff = false := by
          simp only [Leader.valid, hs.cur, decide_true, Bool.true_and, hd, Leader.inAof, inRdb, hsn,
            Option.isSome_none, Bool.false_and, Bool.or_false, h]
          have : ¬ ((d.base : Int) ≤ (e.right : Int)) := by omega
          simp [this]
        rw [this, hlat]; rfl
    obtain ⟨ms, fin, rest, hsd⟩ := sendData_newest hs.cur d hd hw ch
    rw [syncLoopV_aof bk _ lost x f 1 c ch G (x, roff) _ ms fin rest
      (by rw [meta_static hs hx1 hx2 roff ch hle, hoff, hsd]) rfl (fun e => by cases e) rfl, Out.pre_store] at he'
    have := aofSync_fresh bk G x ⟨.info, "", true, d.right, -1, []⟩ ms fin c lost hx1 hx2 hG
      (by intro e0 h0; exact hbey e0 h0) e' he'
    simpa using this
  split
  · have hr := reset_at bk ⟨x, F.dirs⟩ x hx1 hx2 hat
    exact key _ _ hr.1 (Or.inl rfl) (by intro e0 h0; rw [hr.2.2.1] at h0; cases h0)
  · refine key _ _ hat (Or.inr rfl) ?_
    intro e0 h0
    rw [curData_sameid F x e hF] at h0
    cases h0
    omega

/-- **clear_deletes**: the leader answers the request with `CLEAR` (here: it holds nothing
    and no writer is open, so `NewReader` fails). The follower deletes the run id and ends
    the attempt: nothing is left under `x`, no snapshot is invented. -/
theorem clear_deletes {β : Type} (bk : Backend) (L : Leader β) (F : Store β)
    (ch : List Nat) (c : Nat) (lost : Loss) (f : Nat) (x : Id) (hs : Serves L x)
    (hx1 : x ≠ "") (hx2 : x ≠ "?") (hd : L.data = none) (hwf : WF bk F)
    (hnot : ∀ e, F.get x = some (some e) → False) :
    (session bk L F ch (c + 2) lost (f + 1)).cls = .clear ∧
      (session bk L F ch (c + 2) lost (f + 1)).store.cur = "" ∧
      ∀ e', (x, some e') ∉ (session bk L F ch (c + 2) lost (f + 1)).store.dirs := by
  have hlat : latest L.data = -1 := by rw [hd]; rfl
  have hp := preSync_spec bk F x (-1) hx1 hx2 hwf
  have hoff : (preSync bk F x (-1)).2.2 = -1 := by
    rcases preSync_off bk F x (-1) hx1 hx2 hwf with h | h | ⟨e, he, _⟩
    · exact h
    · exact h
    · exact absurd he (hnot e)
  rw [session_static hs hx1, hlat]
  generalize preSync bk F x (-1) = P at hp hoff
  obtain ⟨G, fsp⟩ := P
  obtain ⟨hG, hfx, _⟩ := hp
  simp only at hG hfx hoff
  have hle : ¬ fsp.2 - latest L.data > 0 := by rw [hlat, hoff]; omega
  have hm : (View.const L).handle fsp.1 fsp.2 ch = ⟨ctl .clear :: [], .err .plain, ch⟩ := by
    rw [hfx, meta_static hs hx1 hx2 fsp.2 ch hle]
    simp only [Leader.sendData, hd]
  rw [syncLoop_clear bk _ lost x f 1 c ch G fsp _ _ _ hm, hfx]
  exact ⟨rfl, delRunId_gone bk G x hx1 hx2 hG⟩

/-- **clear_deletes**, the general form: the handshake of a serving leader announced `x`; the
    next request meets a leader whose input has already moved to another run id than its
    channel (selfInspection: "wait a moment", answered with `CLEAR` — this is what a source
    fail-over or resynchronisation looks like from outside). Whatever the follower holds —
    also a copy of `x` that is AHEAD of the leader — it deletes run id `x` and ends the
    attempt: `HANDOVER` is not offered in this situation (the ahead test comes after the
    self inspection), nothing is left under `x`, no snapshot is invented. -/
theorem clear_deletes_any {β : Type} (bk : Backend) (V : Nat → View β) (F : Store β)
    (ch : List Nat) (c : Nat) (lost : Loss) (f : Nat) (x : Id) (h0 : Serves (V 0).l1 x) (h01 : (V 0).l1b.cur = x)
    (h02 : (V 0).l2b.cur = x)
    (hx1 : x ≠ "") (hx2 : x ≠ "?") (h1g : (V 1).l1.serving = true) (h1s : (V 1).l1.started = true)
    (i0 : Id) (tl : List Id) (h1i : (V 1).l1.inputIds = i0 :: tl) (h1c : i0 ≠ (V 1).l1b.cur)
    (hwf : WF bk F) :
    (sessionV bk V F ch (c + 2) lost (f + 1)).cls = .clear ∧
      (sessionV bk V F ch (c + 2) lost (f + 1)).store.cur = "" ∧
      ∀ e', (x, some e') ∉ (sessionV bk V F ch (c + 2) lost (f + 1)).store.dirs := by
  obtain ⟨tl0, hi0⟩ := h0.ids
  have hh : (V 0).handle "" 0 ch = ⟨[⟨.info, x, false, latest (V 0).l2b.data, 0, []⟩], .eof, ch⟩ := by
    simp [View.handle, h0.gate, h0.started, hi0, h01, h02]
  have hp := preSync_spec bk F x (latest (V 0).l2b.data) hx1 hx2 hwf
  unfold sessionV
  simp only [hh, respErr, hx1, if_false]
  generalize preSync bk F x (latest (V 0).l2b.data) = P at hp
  obtain ⟨G, fsp⟩ := P
  obtain ⟨hG, hfx, _⟩ := hp
  simp only at hG hfx
  have hm : ∃ ms fin rest, (V 1).handle fsp.1 fsp.2 ch = ⟨ctl .clear :: ms, fin, rest⟩ := by
    simp only [View.handle, h1g, h1s, Bool.not_true, Bool.false_eq_true, if_false, h1i, h1c, ne_eq,
      not_false_eq_true, if_true, List.cons_append, List.nil_append]
    exact ⟨_, _, _, rfl⟩
  obtain ⟨ms, fin, rest, hm⟩ := hm
  rw [syncLoop_clear bk V lost x f 1 c ch G fsp ms fin rest hm, hfx]
  exact ⟨rfl, delRunId_gone bk G x hx1 hx2 hG⟩

/-- a session cut right after the handshake leaves exactly what `preSync` decided -/
theorem session_cut_after_handshake {β : Type} (bk : Backend) (L : Leader β) (F : Store β)
    (ch : List Nat) (lost : Loss) (fuel : Nat) (x : Id) (hs : Serves L x) (hx1 : x ≠ "") :
    (session bk L F ch 1 lost (fuel + 1)).store = (preSync bk F x (latest L.data)).1 := by
  rw [session_static hs hx1, Out.pre_store]
  unfold syncLoopV
  rfl

/-- **gap_discards**, session level: same run id, the leader more than 10 MiB ahead. Already
    when only the handshake has been delivered the follower's copy is gone. -/
theorem gap_discards_session {β : Type} (bk : Backend) (L : Leader β) (F : Store β) (ch : List Nat)
    (lost : Loss) (fuel : Nat) (x : Id) (e : Data β) (hs : Serves L x) (hx1 : x ≠ "") (hx2 : x ≠ "?")
    (hwf : WF bk F) (hF : F.get x = some (some e)) (hm : bk = .mem → F.cur = x)
    (hgap : latest L.data - (e.right : Int) > tenMB) :
    (session bk L F ch 1 lost (fuel + 1)).store.curData = none ∧
      (session bk L F ch 1 lost (fuel + 1)).store.cur = x := by
  rw [session_cut_after_handshake bk L F ch lost fuel x hs hx1]
  have := (gap_discards bk F x e (latest L.data) hx1 hx2 hwf hF hm).1 hgap
  exact ⟨this.1, this.2.1⟩

/-- **offered leadership**, the leader's half: whenever the leader answers a request with
    `HANDOVER` (whatever its state, changing or not), `ServiceReplica` returns a role error and
    `SyncerCmd.Sync` stops this input's syncer — which is what makes `runCluster` resign the
    lease so that the follower's next campaign can succeed. (What `runCluster` does with the
    stopped syncer: Props/C16Handover.lean.) -/
theorem handover_leader_steps_down {β : Type} (v : View β) (rid : Id) (roff : Int) (ch : List Nat)
    (h : ∃ m ∈ (v.handle rid roff ch).msgs, m.code = .handover) :
    syncReact (v.handle rid roff ch).fin = .stopSyncer :=
  handover_stops_leader v rid roff ch h

/-- the outcome "caught up": the session ended inside the stream transfer with nothing left
    to fetch, and the follower's current copy — if it holds one — ends exactly at the leader's
    end including what arrived during the session. NOTE what this does not say: a follower
    that had to discard (other id, collected position, more than 10 MiB behind, nothing held)
    starts at the leader's newest offset, so "caught up" can mean "positioned at the leader's
    tip holding only what arrived since" — possibly nothing (`curData = none`, then nothing
    arrived: `tail = []`). It holds the leader's older bytes only where its own copy joined. -/
def AtLeaderTip {β : Type} (L : Leader β) (d : Data β) (o : Out β) : Prop :=
  o.stage = .aof ∧ o.cls = .cut ∧
    (∀ e', o.store.curData = some e' → (e'.right : Int) = (d.right : Int) + L.tail.length) ∧
    (o.store.curData = none → L.tail = [])

/-- **resynchronises** (progress, not only safety): a leader that serves `x`, holds `d`, has
    stream segments and is not stopped; a follower that is not ahead of it — whatever else it
    holds: nothing, a prefix, a position already collected, another id, a copy more than
    10 MiB behind. If the session is not cut before everything the leader has was delivered
    and nothing is lost, it ends `AtLeaderTip` (after at most one snapshot transfer; `fuel ≥ 2`
    metaSync rounds are enough). See `AtLeaderTip` for what that does and does not mean. -/
theorem resynchronises {β : Type} (bk : Backend) (L : Leader β) (F : Store β) (ch : List Nat)
    (c fuel : Nat) (x : Id) (d : Data β) (hs : Serves L x) (hh : L.halt = none) (hx1 : x ≠ "")
    (hx2 : x ≠ "?") (hd : L.data = some d) (hw : L.hasSegs d = true) (hwf : WF bk F)
    (hna : ∀ e, F.get x = some (some e) → e.right ≤ d.right)
    (hc : (d.snap.getD []).length + 1 + d.bytes.length + L.tail.length ≤ c) :
    AtLeaderTip L d (session bk L F ch (c + 2) 0 (fuel + 2)) := by
  have hlat : latest L.data = (d.right : Int) := by rw [hd]; rfl
  rw [session_static hs hx1, hlat]
  have hp := preSync_spec bk F x (d.right : Int) hx1 hx2 hwf
  have hpos := preSync_pos bk F x (d.right : Int) hx1 hx2 hwf
  have hle : (preSync bk F x (d.right : Int)).2.2 ≤ (d.right : Int) := by
    rcases preSync_off bk F x (d.right : Int) hx1 hx2 hwf with h | h | ⟨e, he, h⟩ <;> rw [h]
    · exact Int.le_refl _
    · omega
    · exact Int.ofNat_le.mpr (hna e he)
  generalize preSync bk F x (d.right : Int) = P at hp hpos hle
  obtain ⟨G, fx, roff⟩ := P
  obtain ⟨hG, hfx, _⟩ := hp
  simp only at hG hfx hpos hle
  subst hfx
  have := syncLoop_reach bk L fx d hs hh hx1 hx2 hd hw fuel 1 c ch G roff hG hle
    (by intro e he; exact (hpos e he).symm) hc
  simpa [Reached, AtLeaderTip] using this

/-- … and where the follower's own copy joins the leader's (same id, its end inside the
    leader's stream, not more than 10 MiB behind) it KEEPS that copy and extends it: after the
    uncut session it holds `[e.base, leader's end)`. -/
theorem resynchronises_keeps_copy {β : Type} (bk : Backend) (L : Leader β) (F : Store β) (ch : List Nat)
    (c fuel : Nat) (x : Id) (d e : Data β) (hs : Serves L x) (hh : L.halt = none) (hx1 : x ≠ "")
    (hx2 : x ≠ "?") (hd : L.data = some d) (hw : L.hasSegs d = true) (hwf : WF bk F)
    (hF : F.get x = some (some e)) (hm : bk = .mem → F.cur = x)
    (hjoin : d.base ≤ e.right ∧ e.right ≤ d.right) (hnear : ¬ (d.right : Int) - (e.right : Int) > tenMB)
    (hc : d.bytes.length + L.tail.length ≤ c) :
    ∃ e', (session bk L F ch (c + 2) 0 (fuel + 1)).store.curData = some e' ∧ e'.base = e.base ∧
      e'.snap = e.snap ∧ (e'.right : Int) = (d.right : Int) + L.tail.length ∧
      e'.bytes.take e.bytes.length = e.bytes := by
  have hlat : latest L.data = (d.right : Int) := by rw [hd]; rfl
  have hat := at_sameid bk F x e hwf hF hm
  have hcd := curData_sameid F x e hF
  rw [session_static hs hx1, Out.pre_store, hlat, preSync_sameid bk F x e _ hx1 hx2 hwf hF hm,
    if_neg hnear]
  simp only
  -- the leader answers with the stream from the follower's own end
  have hin : L.inAof d (e.right : Int) = true :=
    inAof_of_le hw (Int.ofNat_le.mpr hjoin.1) (Int.ofNat_le.mpr hjoin.2)
  have hv := valid_of_inAof hs.cur hd hin
  have hnh : ¬ (e.right : Int) - latest L.data > 0 := by rw [hlat]; omega
  rw [syncLoopV_aof bk _ 0 x fuel 1 c ch _ (x, (e.right : Int)) _ _ _ _
    (by rw [meta_static hs hx1 hx2 _ ch hnh, hv, if_pos rfl, sendData_aof_eval hs.cur hh d hd _ hin ch])
    rfl (fun e => by cases e) rfl, Out.pre_store]
  -- aofSync on the kept copy: the writer is opened at its end, everything sent is appended
  have hk : ((e.right : Int) - (d.base : Int)).toNat ≤ d.bytes.length := by
    simp only [Data.right] at hjoin ⊢; omega
  have hlen := chop_length_le ch (d.bytes.drop ((e.right : Int) - (d.base : Int)).toNat ++ L.tail)
  have hfl := chop_flatten ch (d.bytes.drop ((e.right : Int) - (d.base : Int)).toNat ++ L.tail)
  generalize (chop ch (d.bytes.drop ((e.right : Int) - (d.base : Int)).toNat ++ L.tail)).1 = cs at hlen hfl
  simp only [List.length_append, List.length_drop] at hlen
  rcases aofSync_eq bk ⟨x, F.dirs⟩ x ⟨.info, "", true, e.right, -1, []⟩ (conts e.right cs) .blocks c 0
    hx1 hx2 hat (fun e0 h0 => by rw [hcd] at h0; cases h0; exact Int.le_refl _)
    with ⟨eq, _⟩ | ⟨_, hlt⟩
  · rw [eq, (aofRecv_all _ _ _ cs c (by omega) (fun e0 h0 => by rw [hcd] at h0; cases h0; simp)).2.2, hcd]
    refine ⟨_, rfl, rfl, rfl, ?_, by simp⟩
    simp only [Data.right, List.length_append, hfl, List.length_drop]
    simp only [Data.right] at hjoin
    omega
  · exact absurd (hlt e hcd) (Int.lt_irrefl _)

/-- keeping bytes under another id is faithful exactly when the two histories agree on
    the kept range (the PSYNC2 fail-over prefix) — which no history-independent rule can
    know -/
theorem relabel_faithful_iff_join {β : Type} (h : Hist β) (old new : Id) (d : Data β)
    (hsn : d.snap = none) (hd : d.Faithful h old) :
    d.Faithful h new ↔ hseg h old d.base d.bytes.length = hseg h new d.base d.bytes.length := by
  constructor
  · intro hn; rw [← hd.1, ← hn.1]
  · intro he; exact ⟨by rw [← he]; exact hd.1, fun s hs => by rw [hsn] at hs; cases hs⟩

/-- **ahead_gets_handover**: same run id, the follower holds more than the leader. The
    second message of the session is `HANDOVER`, the follower reports "take over
    leadership" and its cache is untouched. -/
theorem ahead_gets_handover {β : Type} (bk : Backend) (L : Leader β) (F : Store β)
    (ch : List Nat) (cut : Nat) (lost : Loss) (fuel : Nat) (x : Id) (tl : List Id) (d : Data β)
    (hg : L.serving = true) (hs : L.started = true) (hi : L.inputIds = x :: tl) (hc : L.cur = x)
    (hx1 : x ≠ "") (hx2 : x ≠ "?") (hwf : WF bk F)
    (hF : F.get x = some (some d)) (hm : bk = .mem → F.cur = x)
    (hahead : (d.right : Int) > latest L.data) (hcut : 2 ≤ cut) (hfuel : 1 ≤ fuel) :
    (session bk L F ch cut lost fuel).cls = .takeover ∧
      (session bk L F ch cut lost fuel).stage = .msync ∧
      (session bk L F ch cut lost fuel).store.dirs = F.dirs ∧
      (session bk L F ch cut lost fuel).store.cur = x ∧
      (session bk L F ch cut lost fuel).trace.map (·.code) = [.info, .handover] := by
  obtain ⟨c, rfl⟩ : ∃ c, cut = c + 2 := ⟨cut - 2, by omega⟩
  obtain ⟨f, rfl⟩ : ∃ f, fuel = f + 1 := ⟨fuel - 1, by omega⟩
  -- handshake
  have hh : L.handle "" 0 ch = ⟨[⟨.info, x, false, latest L.data, 0, []⟩], .eof, ch⟩ := by
    simp [Leader.handle, View.handle, View.const, hg, hs, hi, hc]
  -- preSync: the follower's own end offset is kept
  have hpre : preSync bk F x (latest L.data) = (⟨x, F.dirs⟩, (x, (d.right : Int))) := by
    rw [preSync_sameid bk F x d _ hx1 hx2 hwf hF hm, if_neg]
    have : (0 : Int) ≤ tenMB := by decide
    omega
  -- metaSync: HANDOVER
  have hh2 : L.handle x (d.right : Int) ch = ⟨[⟨.handover, x, false, latest L.data, 0, []⟩], .err .role, ch⟩ := by
    have : ((x = "") || (x = "?")) = false := by simp [hx1, hx2]
    simp [Leader.handle, View.handle, View.const, hg, hs, hi, hc, this, hahead]
  have hh' : (View.const L).handle "" 0 ch = ⟨[⟨.info, x, false, latest L.data, 0, []⟩], .eof, ch⟩ := hh
  have hh2' : (View.const L).handle x (d.right : Int) ch =
      ⟨[⟨.handover, x, false, latest L.data, 0, []⟩], .err .role, ch⟩ := hh2
  simp only [session, sessionV, hh', respErr, Out.pre, hx1, if_false, hpre, syncLoopV, hh2']
  simp

/-! ### non-vacuity: concrete states meet the hypotheses and show the behaviours -/

section examples

/-- history A: byte at offset o is o, snapshot at o is [o, o]; history B: o + 500 -/
def hEx : Hist Nat where
  byte := fun id o => if id = "idA" then o else o + 500
  snap := fun id o => if id = "idA" then [o, o] else [o + 500]

def lEx : Leader Nat := ⟨true, true, ["idA"], "idA", some ⟨10, [10, 11, 12, 13, 14], some [10, 10]⟩, true, [], none⟩
/-- the same leader receiving two more bytes while its stream reader is open -/
def lGrow : Leader Nat := { lEx with tail := [15, 16] }
/-- the follower process was following run id B (bytes 8..15 of B) -/
def fOther : Store Nat := ⟨"idB", [("idB", some ⟨8, [508, 509, 510, 511, 512, 513, 514, 515], none⟩)]⟩
def fPrefix : Store Nat := ⟨"idA", [("idA", some ⟨9, [9, 10, 11], none⟩)]⟩
def fAhead : Store Nat := ⟨"idA", [("idA", some ⟨9, [9, 10, 11, 12, 13, 14, 15, 16], none⟩)]⟩
def fOld : Store Nat := ⟨"idA", [("idA", some ⟨2, [2, 3], none⟩)]⟩

example : lEx.Faithful hEx := by
  intro d hd; cases hd
  exact ⟨⟨by decide, fun s hs => by cases hs; decide⟩, by decide⟩
example : lGrow.Faithful hEx := by
  intro d hd; cases hd
  exact ⟨⟨by decide, fun s hs => by cases hs; decide⟩, by decide⟩
example : WF .disk fOther ∧ WF .mem fOther ∧ WF .disk fPrefix ∧ WF .mem fAhead := by
  refine ⟨⟨Or.inr (by decide), by decide⟩, ⟨by decide, by decide, by decide⟩,
    ⟨Or.inr (by decide), by decide⟩, ⟨by decide, by decide, by decide⟩⟩
example : FaithfulAt hEx fOther.dirs "idB" := by
  intro d hd
  simp only [fOther, List.mem_singleton, Prod.mk.injEq, Option.some.injEq, true_and] at hd
  subst hd
  exact ⟨by decide, fun s hs => by cases hs⟩

-- other id: the old copy is discarded, the leader's stream is fetched from its end
example : (session .disk lEx fOther [] 10 0 3).store.dirs = [("idA", none)] := by decide +kernel
example : (session .mem lEx fOther [] 10 0 3).store.dirs = [] ∧ (session .mem lEx fOther [] 10 0 3).store.cur = "idA" := by decide +kernel
-- prefix: continues at its own end; cut after every message keeps a prefix
example : (session .disk lEx fPrefix [1, 2] 10 0 3).store.dirs = [("idA", some ⟨9, [9, 10, 11, 12, 13, 14], none⟩)] := by decide +kernel
example : (session .disk lEx fPrefix [1, 2] 3 0 3).store.dirs = [("idA", some ⟨9, [9, 10, 11, 12], none⟩)] := by decide +kernel
example : (session .disk lEx fPrefix [1, 2] 4 1 3).store.dirs = [("idA", some ⟨9, [9, 10, 11, 12, 13], none⟩)] := by decide +kernel
-- a live leader: the bytes appended during the session arrive too
example : (session .disk lGrow fPrefix [] 10 0 3).store.dirs = [("idA", some ⟨9, [9, 10, 11, 12, 13, 14, 15, 16], none⟩)] := by decide +kernel
-- position below the leader's first offset: the snapshot is taken, then the stream
example : (session .disk lEx fOld [] 10 0 3).store.dirs = [("idA", some ⟨10, [10, 11, 12, 13, 14], some [10, 10]⟩)] := by decide +kernel
-- … and an interrupted snapshot transfer leaves nothing
example : (session .mem lEx fOld [1] 3 0 3).store.dirs = [("idA", none)] := by decide +kernel
-- position collected at a leader without snapshot: the old part is discarded
example : (session .disk { lEx with data := some ⟨10, [10, 11, 12], none⟩ } fOld [] 10 0 3).store.dirs
    = [("idA", some ⟨13, [], none⟩)] ∨ (session .disk { lEx with data := some ⟨10, [10, 11, 12], none⟩ } fOld [] 10 0 3).store.dirs
    = [("idA", none)] := by decide +kernel
example : (session .disk { lGrow with data := some ⟨10, [10, 11, 12, 13, 14], none⟩ } fOld [] 10 0 3).store.dirs
    = [("idA", some ⟨15, [15, 16], none⟩)] := by decide +kernel
-- bytes lost in the follower's pipe at an abrupt cut (memory backend): still a prefix
example : (session .mem lEx fPrefix [1, 2] 4 2 3).store.dirs = [("idA", some ⟨9, [9, 10, 11, 12], none⟩)] := by decide +kernel
-- the leader's input resynchronises under idB between StartPoint and NewReader of the second
-- request: the (repaired) leader answers ERROR, nothing of idB reaches the follower
example : (sessionV .disk (fun n => if n = 1 then ⟨lEx, lEx, lEx, lEx, { lEx with cur := "idB", inputIds := ["idB"], data := some ⟨20, [], some [520]⟩ },
      { lEx with cur := "idB", inputIds := ["idB"], data := some ⟨20, [], some [520]⟩ }⟩ else View.const lEx) ⟨"", []⟩ [] 10 0 3).cls = .error := by decide +kernel
-- the leader is stopped after one chunk of the stream: clean end of stream, or FAULT — a prefix either way
example : (session .disk { lEx with halt := some (1, .clean) } fPrefix [1, 1, 1] 10 0 3).store.dirs
    = [("idA", some ⟨9, [9, 10, 11, 12], none⟩)] ∧
    (session .disk { lEx with halt := some (1, .clean) } fPrefix [1, 1, 1] 10 0 3).cls = .eof := by decide +kernel
example : (session .mem { lEx with halt := some (2, .fault) } fPrefix [1, 1, 1] 10 0 3).store.dirs
    = [("idA", some ⟨9, [9, 10, 11, 12, 13], none⟩)] ∧
    (session .mem { lEx with halt := some (2, .fault) } fPrefix [1, 1, 1] 10 0 3).cls = .fault := by decide +kernel
-- … stopped in the middle of the snapshot: nothing is kept
example : (session .disk { lEx with halt := some (1, .clean) } fOld [1] 10 0 3).store.dirs = [("idA", none)] ∧
    (session .disk { lEx with halt := some (1, .clean) } fOld [1] 10 0 3).cls = .eof := by decide +kernel
-- "caught up" may mean holding nothing: another id is discarded, the leader has nothing new
example : AtLeaderTip lEx ⟨10, [10, 11, 12, 13, 14], some [10, 10]⟩ (session .disk lEx fOther [] 20 0 3) ∧
    (session .disk lEx fOther [] 20 0 3).store.curData = none := by
  have hn : (session .disk lEx fOther [] 20 0 3).store.curData = none := by decide +kernel
  refine ⟨⟨by decide, by decide, ?_, ?_⟩, hn⟩
  · intro e' he'; rw [hn] at he'; cases he'
  · intro _; decide
-- CLEAR ("wait a moment": the leader's input already follows idC) to a follower that is AHEAD: the copy is deleted
example : (sessionV .disk (fun n => if n = 0 then View.const lEx else View.const { lEx with inputIds := ["idC", "idA"] })
      fAhead [] 10 0 3).cls = .clear ∧
    (sessionV .disk (fun n => if n = 0 then View.const lEx else View.const { lEx with inputIds := ["idC", "idA"] })
      fAhead [] 10 0 3).store.dirs = [] := by decide +kernel
-- HANDOVER makes Sync stop the leader's syncer; an empty input id list restarts the process
example : syncReact ((View.const lEx).handle "idA" 99 []).fin = .stopSyncer := by decide +kernel
example : syncReact ((View.const { lEx with inputIds := [] }).handle "idA" 12 []).fin = .stopAll := by decide +kernel
example : syncReact ((View.const lEx).handle "idA" 12 []).fin = .nothing := by decide +kernel
-- the input switches the channel to idB between Handle's read of the input ids and StartPoint(nil):
-- the request negotiated idA, the reader would be idB's — ERROR, the follower's copy of idA stays as it is
example : (sessionV .disk (fun n => if n = 1 then
        ⟨lEx, lEx, lEx, { lEx with cur := "idB", inputIds := ["idB"], data := some ⟨10, [510, 511, 512, 513, 514, 515, 516], none⟩ },
          { lEx with cur := "idB", inputIds := ["idB"], data := some ⟨10, [510, 511, 512, 513, 514, 515, 516], none⟩ },
          { lEx with cur := "idB", inputIds := ["idB"], data := some ⟨10, [510, 511, 512, 513, 514, 515, 516], none⟩ }⟩
        else View.const lEx) fPrefix [] 10 0 3).cls = .error ∧
    (sessionV .disk (fun n => if n = 1 then
        ⟨lEx, lEx, lEx, { lEx with cur := "idB", inputIds := ["idB"], data := some ⟨10, [510, 511, 512, 513, 514, 515, 516], none⟩ },
          { lEx with cur := "idB", inputIds := ["idB"], data := some ⟨10, [510, 511, 512, 513, 514, 515, 516], none⟩ },
          { lEx with cur := "idB", inputIds := ["idB"], data := some ⟨10, [510, 511, 512, 513, 514, 515, 516], none⟩ }⟩
        else View.const lEx) fPrefix [] 10 0 3).store.dirs = fPrefix.dirs := by decide +kernel
-- ahead: HANDOVER, cache untouched
example : (session .disk lEx fAhead [] 10 0 3).cls = .takeover ∧ (session .disk lEx fAhead [] 10 0 3).store.dirs = fAhead.dirs := by decide +kernel
-- the unrepaired relabelling would not be faithful: B's bytes are not A's
example : ¬ (⟨8, [508, 509], none⟩ : Data Nat).Faithful hEx "idA" := by
  intro h; have := h.1; revert this; decide

end examples

end GunYu.Props.C16
