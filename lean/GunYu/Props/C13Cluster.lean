/-
  C13 × C18 — the closed loop in CLUSTER mode, composed formally.

  The closed-loop histories of C13 run a standalone pair. In cluster mode the
  same two steps happen per node: the link builds a unit in `clusterMode`
  (C18: single-slot or refused), commits it as ONE transaction whose every key
  - marker, business keys, record, index - hashes to the unit's slot
  (`C18.unit_single_slot_generated`), i.e. on the one master that owns that
  slot; that master propagates the blocks of the commit into ITS replication
  stream; the opposite link reads that node's stream with a parser in cluster
  mode and passes the blocks over (`mirrored_recognised`, which holds for any
  slot mode). One theorem, for one client block met by a cluster-mode link:
-/
import GunYu.Props.C13
import GunYu.Props.C13Names
import GunYu.Props.C18Nodes

namespace GunYu.Props.C13
open GunYu GunYu.BisyncUnit GunYu.Bisync

/-- **Cluster mode: one slot, one node, recognised there.** A link whose parser
    runs in cluster mode (any key resolver - whatever `COMMAND GETKEYS` answers)
    meets a client block (forwardable commands outside the reserved namespace,
    any values). Either the builder refuses it and the replay stops (cross-slot,
    unroutable: allowed), or exactly one unit comes out holding exactly the
    block's commands, and for every way of committing it under a generated
    checkpoint name:

    1. the slot of the unit is a cluster slot and EVERY key of the commit
       transaction - the business keys the resolver names, the marker, the record
       and the index key - hashes to it: the transaction executes on one master;
    2. every block that master propagates for the commit - from any store contents
       and clock, under every propagation variant, the lazy expiry of the previous
       marker ahead of the SET included - is passed over by the opposite link's
       parser, in cluster mode or standalone, with any resolver: no unit, no
       error, idle, numbering untouched. -/
theorem cluster_commit_single_node_and_recognised (pc : PCfg) (hf : FOK pc.filter) (hm : pc.mode = clusterMode)
    (b : Block) (hb : ∀ c ∈ b.body, Fgn pc c) (hne : b.body ≠ []) (pst : PState) (hi : Idle pst) :
    (∃ pst' e, parseBlock pc pst b = ([], pst', some (.build e))) ∨
    (∃ pst' e, parseBlock pc pst b = ([e], pst', none) ∧ e.unit.cmds = b.body.map norm ∧
      ∀ (cp : Bytes) (k : CommitKind) (p : Payload), GenCp cp →
        (e.unit.slot < 16384 ∧
          ∀ key ∈ unitKeys pc.resolver e.unit ++ controlKeys cp k e.unit p, Slot.hashSlotSpec key = e.unit.slot) ∧
        ∀ (pc2 : PCfg), FOK pc2.filter → ∀ (rcfg : RedisCfg) (now : Nat) (st : Store) (pst2 : PState), Idle pst2 →
          ∀ blk ∈ toBlocks rcfg true (commitCmds cp k e.unit p).length (execCmds rcfg now st (commitCmds cp k e.unit p)).2,
            ∃ pst3, parseBlock pc2 pst2 blk = ([], pst3, none) ∧ Idle pst3 ∧ pst3.seq = pst2.seq) := by
  rcases foreign_block pc hf b hb hne pst hi with ⟨p2, e2, h2, _, _, _, hc, hbu⟩ | ⟨p2, e2, h2, _⟩
  · right
    refine ⟨p2, e2, h2, hc, ?_⟩
    intro cp k p hg
    rw [hm] at hbu
    refine ⟨C18.unit_single_slot_generated pc.resolver (b.body.map norm) e2.unit cp k p hg hbu, ?_⟩
    intro pc2 hf2 rcfg now st pst2 hi2
    exact mirrored_recognised pc2 hf2 rcfg now st cp k e2.unit p (emitted_units_safe pc hf b hb hne pst p2 hi e2 h2) pst2 hi2
  · exact Or.inl ⟨p2, e2, h2⟩

/-! ### non-vacuity -/

private def pcC : PCfg := ⟨Filter.buildOutput {}, clusterMode, defaultResolver⟩
private def setC (k v : Bytes) : Cmd := ⟨[83,69,84], [k, v]⟩      -- "SET" k v
private def kA : Bytes := [123,97,125,49]                           -- "{a}1"
private def kA2 : Bytes := [123,97,125,50]                          -- "{a}2"
private def kB : Bytes := [123,98,125,49]                           -- "{b}1"

private theorem setC_fgn (k v : Bytes) (hk : k.head? ≠ some 114 ∧ k.head? ≠ some 47) : Fgn pcC (setC k v) :=
  fgn_set pcC default_filter_ok _ k v (by decide) hk

-- a same-slot transaction comes out as one unit in the slot of {a}; a cross-slot one stops the replay
private theorem sameSlot_run :
    ((parseBlock pcC {} (.multi [setC kA [118], setC kA2 [118]])).1.map (fun e => (e.unit.slot, e.unit.cmds.length))) =
      [(15495, 2)] ∧
    (parseBlock pcC {} (.multi [setC kA [118], setC kA2 [118]])).2.2 = none := by decide +kernel
example : ((parseBlock pcC {} (.multi [setC kA [118], setC kA2 [118]])).1.map (fun e => (e.unit.slot, e.unit.cmds.length))) =
    [(15495, 2)] := sameSlot_run.1
example : (parseBlock pcC {} (.multi [setC kA [118], setC kB [118]])).2.2 ≠ none ∧
    (parseBlock pcC {} (.multi [setC kA [118], setC kB [118]])).1 = [] := by decide +kernel
-- the theorem applied to the same-slot transaction: its second disjunct is the one that holds
example : ∃ pst' e, parseBlock pcC {} (.multi [setC kA [118], setC kA2 [118]]) = ([e], pst', none) ∧
    ∀ key ∈ controlKeys (newCpName [1,2]) .journal e.unit ⟨[123,125], [[102],[118]], 4⟩, Slot.hashSlotSpec key = e.unit.slot := by
  have hb : ∀ c ∈ (Block.multi [setC kA [118], setC kA2 [118]]).body, Fgn pcC c := by
    intro c hc
    have : c = setC kA [118] ∨ c = setC kA2 [118] := by simpa [Block.body] using hc
    rcases this with rfl | rfl <;> exact setC_fgn _ _ (by decide)
  rcases cluster_commit_single_node_and_recognised pcC default_filter_ok rfl _ hb (by simp [Block.body]) {} ⟨rfl, rfl⟩ with
    ⟨p1, e1, h1⟩ | ⟨p1, e1, h1, _, h3⟩
  · exfalso
    have := sameSlot_run.2
    rw [h1] at this
    cases this
  · refine ⟨p1, e1, h1, ?_⟩
    intro key hkey
    exact (h3 (newCpName [1,2]) .journal ⟨[123,125], [[102],[118]], 4⟩ (Or.inl ⟨[1,2], rfl⟩)).1.2 key
      (List.mem_append_right _ hkey)

end GunYu.Props.C13
