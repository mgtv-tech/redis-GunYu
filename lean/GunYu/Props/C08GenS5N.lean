/-
  C08 — `store.ParseRdbFile` (pkg/store/rdb_writer.go), the function that decides
  on reopen which files of a run directory are snapshots, at which offset and of which size, is
  REGENERATED from /repo on every run (lean/GunYu/Gen/FnRdbName.lean, generator `gofn_rdbname`).
  Proved for every offset / size below 2^63 and every other name:
  * `<offset>_<size>.rdb` (what `rdbFilePath` writes; `StoreFs.rdbName`'s key) parses to exactly that
    offset and size, never as temporary - with or without `includeTmpRdb`;
  * `<offset>_<size>.rdb.tmp` (`StoreFs.rdbTmpName`) is a snapshot only when temporaries are asked for
    (then marked `tmp`), and INVALID (offset -1) otherwise - the reopen path never takes a snapshot that
    was still being received for a complete one;
  * a name with neither suffix (segments `<left>.aof`, anything else) is invalid.
  This ties the abstract `FName` constructors of Model/StoreFs.lean (`parseRdbName : .rdb l s ↦ (l, s)`,
  everything else `none`) to the bytes of real file names.
-/
import GunYu.Proofs.GenS5RdbName

namespace GunYu.Props.C08
open GunYu GunYu.Gen GunYu.Proofs.GenS5

def rdbSuffix : Bytes := [46, 114, 100, 98]                          -- ".rdb"
def rdbTmpSuffix : Bytes := [46, 114, 100, 98, 46, 116, 109, 112]    -- ".rdb.tmp"

/-- committed snapshot names parse back, whatever `includeTmpRdb` is -/
theorem gen_parseRdbFile_rdbName (l s : Nat) (hl : l < 2 ^ 63) (hs : s < 2 ^ 63) (inc : Bool) :
    Fn.parseRdbFile (natToDec l ++ [95] ++ natToDec s ++ rdbSuffix) inc =
      some (some ⟨(l : Int), (s : Int), natToDec l ++ [95] ++ natToDec s ++ rdbSuffix, false⟩) := by
  have h1 : GoSem.hasSuffix (natToDec l ++ [95] ++ natToDec s ++ rdbSuffix) rdbTmpSuffix = false :=
    hasSuffix_false_of_last _ _ 98 112 (by rw [List.getLast?_append]; simp [rdbSuffix]) (by simp [rdbTmpSuffix]) (by decide)
  have h2 := GoSem.hasSuffix_append (natToDec l ++ [95] ++ natToDec s) rdbSuffix
  have h3 := GoSem.trimSuffix_append (natToDec l ++ [95] ++ natToDec s) rdbSuffix
  have h4 := split_two (natToDec l) (natToDec s) (digit_ne_sep l) (digit_ne_sep s)
  unfold rdbSuffix rdbTmpSuffix at *
  unfold Fn.parseRdbFile
  simp only [h1, h2, h3, h4, Bool.false_eq_true, false_and, ↓reduceIte, GoSem.len, List.length_cons, List.length_nil]
  simp [GoSem.index, pure, bind, parseInt_natToDec l hl, parseInt_natToDec s hs]

/-- names of snapshots still being received: a snapshot (marked tmp) only when asked for, invalid otherwise -/
theorem gen_parseRdbFile_tmpName (l s : Nat) (hl : l < 2 ^ 63) (hs : s < 2 ^ 63) (inc : Bool) :
    Fn.parseRdbFile (natToDec l ++ [95] ++ natToDec s ++ rdbTmpSuffix) inc =
      some (some (if inc then ⟨(l : Int), (s : Int), natToDec l ++ [95] ++ natToDec s ++ rdbTmpSuffix, true⟩
                  else ⟨-1, 0, natToDec l ++ [95] ++ natToDec s ++ rdbTmpSuffix, false⟩)) := by
  have h1 : GoSem.hasSuffix (natToDec l ++ [95] ++ natToDec s ++ rdbTmpSuffix) rdbSuffix = false :=
    hasSuffix_false_of_last _ _ 112 98 (by rw [List.getLast?_append]; simp [rdbTmpSuffix]) (by simp [rdbSuffix]) (by decide)
  have h2 := GoSem.hasSuffix_append (natToDec l ++ [95] ++ natToDec s) rdbTmpSuffix
  have h3 := GoSem.trimSuffix_append (natToDec l ++ [95] ++ natToDec s) rdbTmpSuffix
  have h4 := split_two (natToDec l) (natToDec s) (digit_ne_sep l) (digit_ne_sep s)
  unfold rdbSuffix rdbTmpSuffix at *
  unfold Fn.parseRdbFile
  cases inc with
  | true =>
    simp only [h2, h3, h4, and_self, ↓reduceIte, GoSem.len, List.length_cons, List.length_nil]
    simp [GoSem.index, pure, bind, parseInt_natToDec l hl, parseInt_natToDec s hs]
  | false =>
    simp only [h1, Bool.false_eq_true, and_false, ↓reduceIte, pure]

/-- every name with neither suffix (segment files, foreign files) is invalid: offset -1 -/
theorem gen_parseRdbFile_other (name : Bytes) (inc : Bool) (h1 : GoSem.hasSuffix name rdbSuffix = false)
    (h2 : GoSem.hasSuffix name rdbTmpSuffix = false ∨ inc = false) :
    Fn.parseRdbFile name inc = some (some ⟨-1, 0, name, false⟩) := by
  unfold rdbSuffix rdbTmpSuffix at *
  unfold Fn.parseRdbFile
  have hc : ¬ (GoSem.hasSuffix name [46, 114, 100, 98, 46, 116, 109, 112] = true ∧ inc = true) := by
    rcases h2 with h | h <;> simp [h]
  simp only [hc, h1, Bool.false_eq_true, ↓reduceIte, pure]

-- non-vacuity, evaluated on the GENERATED definition: "100_2048.rdb", "100_2048.rdb.tmp", "100.aof", and
-- names the abstract model cannot express: "1_2_3.rdb" (three fields), "x_1.rdb", "_1.rdb", "-5_3.rdb"
-- (strconv.ParseInt accepts a sign: offset -5, which RdbFile.IsValid then refuses)
example : Fn.parseRdbFile [49,48,48,95,50,48,52,56,46,114,100,98] false =
    some (some ⟨100, 2048, [49,48,48,95,50,48,52,56,46,114,100,98], false⟩) := by decide +kernel
example : Fn.parseRdbFile [49,48,48,95,50,48,52,56,46,114,100,98,46,116,109,112] true =
    some (some ⟨100, 2048, [49,48,48,95,50,48,52,56,46,114,100,98,46,116,109,112], true⟩) := by decide +kernel
example : Fn.parseRdbFile [49,48,48,46,97,111,102] true = some (some ⟨-1, 0, [49,48,48,46,97,111,102], false⟩) := by
  decide +kernel
example : (Fn.parseRdbFile [49,95,50,95,51,46,114,100,98] false).map (·.map (·.offset)) = some (some (-1)) := by decide +kernel
example : (Fn.parseRdbFile [120,95,49,46,114,100,98] false).map (·.map (·.offset)) = some (some (-1)) := by decide +kernel
example : (Fn.parseRdbFile [95,49,46,114,100,98] false).map (·.map (·.offset)) = some (some (-1)) := by decide +kernel
example : (Fn.parseRdbFile [45,53,95,51,46,114,100,98] false).map (·.map (·.offset)) = some (some (-5)) := by decide +kernel

end GunYu.Props.C08
