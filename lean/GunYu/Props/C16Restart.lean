/-
  C16 × C08 — a follower that is KILLED in the middle of a transfer and re-opens what the
  file operations issued so far left in its cache directories still holds, under every run
  id, only that id's history.

  Props/C16.lean's `Step.restart` is a CLEAN restart (directories unchanged, the storer
  forgets its current id). Here the restart is from a CRASH IMAGE: the directory of a run
  id is an arbitrary `fs : StoreFs.FS` (C08's directory images: whatever prefix of the
  writers' file operations was issued, the last append possibly torn, a `.rdb.tmp` possibly
  left behind), and the next process re-opens it with C08's `reopen` (`NewStorer` +
  `SetRunId` → `initDataSet` + `TruncateGap`), read as a `Replica.Data` by `dataOfReopened`.
  A truthful image (`ImageOk`) re-opens to faithful contents; C16's steps extended by such a
  restart (`StepC`) keep `FaithfulAt` and `WF`; and `ImageOk` is what C08 proves of every crash
  image of every writers' script, plus the explicit link `SnapRecvOk` (what the snapshot writer
  RECEIVED is the history's snapshot — C16's `Shape.rdb`).

  Quantifier: all directory images, all lists of images, all step lists; no bounds.
-/
import GunYu.Model.Replica
import GunYu.Proofs.Replica
import GunYu.Props.C16
import GunYu.Model.StoreFs
import GunYu.Model.ReplicaReopen
import GunYu.Proofs.StoreFs
import GunYu.Proofs.StoreFsTrue
import GunYu.Props.C08
import GunYu.Proofs.ReplicaRestart

namespace GunYu.Props.C16
open GunYu GunYu.Replica GunYu.Store GunYu.StoreFs

/-! ### what a re-opened directory holds, in C16's vocabulary -/

/-- a directory image is a copy of history `id` (the hypothesis of the crash step): every
    stream file holds, after its header, bytes of history `id` at the file's offsets (C08's
    `FsTrue`), and a committed snapshot file that `reopen` OFFERS holds history `id`'s
    snapshot at the offset in its name. -/
def ImageOk (h : Hist UInt8) (id : Replica.Id) (fs : FS) : Prop :=
  FsTrue (fun o => h.byte id o) fs ∧
    ∀ L S c, (reopen fs).rdb = some (L, S) → fs.get (rdbName L S) = some c → c = h.snap id L

/-- **reopened_data_faithful** (C08 → C16). Whatever instant the process died at: if the
    image is truthful for `id` (C08 `FsTrue` against history `id`'s bytes) and the snapshot
    file it offers is history `id`'s snapshot, then what the fresh `Storer` holds after
    re-opening the directory is `Data.Faithful` — byte-identical to history `id` on one
    contiguous range, the snapshot taken at the range's base. Uses C08's
    `reopen_range_contiguous` (`reopen_contig`), `reopen_segs_true`, `reopen_snapshot_aligned`. -/
theorem reopened_data_faithful (h : Hist UInt8) (id : Replica.Id) (fs : FS)
    (ht : FsTrue (fun o => h.byte id o) fs)
    (hs : ∀ L S c, (reopen fs).rdb = some (L, S) → fs.get (rdbName L S) = some c → c = h.snap id L) :
    ∀ d, dataOfReopened fs = some d → d.Faithful h id := by
  intro d hd
  rw [dataOfReopened_eq] at hd
  cases hsegs : (reopen fs).segs with
  | nil =>
    cases hr : (reopen fs).rdb with
    | none => rw [hsegs, hr] at hd; cases hd
    | some p =>
      obtain ⟨L, S⟩ := p
      rw [hsegs, hr] at hd
      cases hd
      exact ⟨by simp [hseg], fun s hsn => hs L S s hr hsn⟩
  | cons g rest =>
    have hb : segsBytes (g :: rest) = hseg h id g.left (segsBytes (g :: rest)).length :=
      contig_true_hseg h id rest g (hsegs ▸ reopen_contig fs)
        (fun x hx => reopen_segs_true ht x (hsegs ▸ hx))
    cases hr : (reopen fs).rdb with
    | none => rw [hsegs, hr] at hd; cases hd; exact ⟨hb, fun s hsn => by cases hsn⟩
    | some p =>
      obtain ⟨L, S⟩ := p
      rw [hsegs, hr] at hd
      cases hd
      refine ⟨hb, fun s hsn => ?_⟩
      rw [hs L S s hr hsn, Props.C08.reopen_snapshot_aligned fs L S g rest hr hsegs]

/-- the translation loses nothing (1): the result is `none` exactly when the re-opened
    store indexes no segment and offers no snapshot -/
theorem reopened_none_iff (fs : FS) :
    dataOfReopened fs = none ↔ (reopen fs).segs = [] ∧ (reopen fs).rdb = none := by
  rw [dataOfReopened_eq]
  rcases (reopen fs).segs with _ | ⟨g, rest⟩ <;> rcases (reopen fs).rdb with _ | ⟨L, S⟩ <;> simp

/-- the translation loses nothing (2): the stream range of the translated contents is the
    range `[firstLeft, lastRight]` the re-opened index reports (C08's
    `reopen_range_contiguous` / `reopen_range_covered` speak about) -/
theorem reopened_data_range (fs : FS) (d : Replica.Data UInt8) (hd : dataOfReopened fs = some d)
    (hne : (reopen fs).segs ≠ []) :
    firstLeft (reopen fs).segs = some d.base ∧ lastRight (reopen fs).segs = some d.right ∧
      d.bytes = segsBytes (reopen fs).segs := by
  rw [dataOfReopened_eq] at hd
  cases hsegs : (reopen fs).segs with
  | nil => exact absurd hsegs hne
  | cons g rest =>
    have hc := contig_right rest g (hsegs ▸ reopen_contig fs)
    cases hr : (reopen fs).rdb with
    | none => rw [hsegs, hr] at hd; cases hd; exact ⟨rfl, hc, rfl⟩
    | some p => obtain ⟨L, S⟩ := p; rw [hsegs, hr] at hd; cases hd; exact ⟨rfl, hc, rfl⟩

/-- the translation loses nothing (3): a snapshot that the re-opened store OFFERS is kept,
    with the content of the committed file, at the base of the contents -/
theorem reopened_snapshot_kept (fs : FS) (L S : Nat) (hr : (reopen fs).rdb = some (L, S)) :
    ∃ d c, dataOfReopened fs = some d ∧ d.base = L ∧ d.snap = some c ∧
      fs.get (rdbName L S) = some c := by
  obtain ⟨⟨content, hmem⟩, _⟩ := Props.C08.tmp_snapshot_not_offered fs L S hr
  obtain ⟨c, hget, _⟩ := get_some_of_mem hmem
  rw [dataOfReopened_eq, hr]
  cases hsegs : (reopen fs).segs with
  | nil => exact ⟨_, c, rfl, rfl, hget, hget⟩
  | cons g rest =>
    exact ⟨_, c, rfl, (Props.C08.reopen_snapshot_aligned fs L S g rest hr hsegs).symm, hget, hget⟩

/-! ### the crash step -/

/-- what can happen to a follower's cache between two looks at it: C16's `Step`
    (session / clean restart / own append), or the process is KILLED — in the middle of a
    snapshot or stream transfer, of a rotation, of a reset — and restarts on what is on disk:
    `imgs` lists, for every run-id directory of the cache, the directory image the dead
    process left (C08's `FS`; for a writers' script: `crashImage`). The byte type is the
    driver's `UInt8` wherever a crash step is executed (`stepC`). -/
inductive StepC (β : Type)
  | plain (s : Step β)
  | crash (imgs : List (Replica.Id × FS))

/-- `step` extended by the crash restart. Disk backend: a fresh `Storer` over the directory
    tree — no current id (as after `Step.restart`), every run-id directory re-opened from
    its image (`dataOfReopened`, i.e. C08's `reopen`). Memory backend: a memory cache does
    not survive the process. -/
def stepC (bk : Backend) (F : Store UInt8) : StepC UInt8 → Store UInt8
  | .plain s => step bk F s
  | .crash imgs => match bk with
    | .disk => ⟨"", imgs.map (fun p => (p.1, dataOfReopened p.2))⟩
    | .mem => ⟨"", []⟩

/-- the step keeps faithfulness: C16's `Step.Ok` for the plain steps; for a crash, every
    directory image is a copy of the history of the id it is filed under (`ImageOk`: C08's
    `FsTrue` + the snapshot clause — discharged for the writers' own crash images by
    `crash_image_step_ok`). No relation between the images and the store before the crash
    is needed, and the ids need not be distinct. -/
def StepC.Ok (h : Hist UInt8) (F : Store UInt8) : StepC UInt8 → Prop
  | .plain s => s.Ok h F
  | .crash imgs => ∀ p ∈ imgs, ImageOk h p.1 p.2

/-- one step of the extended system keeps `FaithfulAt` for every id and `WF` -/
theorem stepC_ok (h : Hist UInt8) (bk : Backend) (F : Store UInt8) (st : StepC UInt8)
    (hst : st.Ok h F) (hwf : WF bk F) (hF : ∀ id, FaithfulAt h F.dirs id) :
    (∀ id, FaithfulAt h (stepC bk F st).dirs id) ∧ WF bk (stepC bk F st) := by
  cases st with
  | plain s => exact step_ok h bk F s hst hwf hF
  | crash imgs =>
    cases bk with
    | disk =>
      refine ⟨?_, Or.inl rfl, by simp [stepC]⟩
      intro id d hd
      simp only [stepC, List.mem_map, Prod.mk.injEq] at hd
      obtain ⟨p, hp, hid, hdp⟩ := hd
      have hok := hst p hp
      rw [hid] at hok
      exact reopened_data_faithful h id p.2 hok.1 hok.2 d hdp
    | mem =>
      refine ⟨?_, ?_, fun _ => rfl, by simp [stepC]⟩
      · intro id d hd; cases hd
      · intro p hp; cases hp

/-- **follower_prefix_of_leader**, any history of the follower INCLUDING process deaths:
    sessions against leaders in arbitrary (faithful, changing) states, each interrupted
    anywhere; clean restarts; periods as leader; and crash restarts — the process killed at
    any instant of a transfer, every directory re-opened from whatever the file operations
    issued so far (the last append torn, a temporary snapshot left behind) produced.
    Whatever the follower stores under any id is byte-identical to that id's history at the
    same offsets, and the store stays well formed. (`follower_prefix_of_leader_runs` over
    `StepC`; the crash case is `reopened_data_faithful`.) -/
theorem follower_prefix_of_leader_crash_runs (h : Hist UInt8) (bk : Backend) :
    ∀ (steps : List (StepC UInt8)) (F : Store UInt8),
      (∀ (pre : List (StepC UInt8)) (st : StepC UInt8) (post : List (StepC UInt8)),
        steps = pre ++ st :: post → st.Ok h (pre.foldl (stepC bk) F)) →
      WF bk F → (∀ id, FaithfulAt h F.dirs id) →
      (∀ id, FaithfulAt h (steps.foldl (stepC bk) F).dirs id) ∧
        WF bk (steps.foldl (stepC bk) F) := by
  intro steps F hok hwf hF
  exact foldl_invariant (stepC bk) (fun F st => st.Ok h F) (fun F => (∀ id, FaithfulAt h F.dirs id) ∧ WF bk F)
    (fun F st hst hi => stepC_ok h bk F st hst hi.2 hi.1) steps F hok ⟨hF, hwf⟩

/-- the extension is conservative: a list of plain steps runs exactly as in Props/C16.lean -/
theorem stepC_plain_runs (bk : Backend) (steps : List (Step UInt8)) (F : Store UInt8) :
    (steps.map StepC.plain).foldl (stepC bk) F = steps.foldl (step bk) F := by
  induction steps generalizing F with
  | nil => rfl
  | cons s rest ih => simp only [List.map_cons, List.foldl_cons]; exact ih _

/-- after a crash restart the follower's next session starts like a first contact: the
    storer has no current id, whatever the images hold -/
theorem crash_forgets_cur (bk : Backend) (F : Store UInt8) (imgs : List (Replica.Id × FS)) :
    (stepC bk F (.crash imgs)).cur = "" := by
  cases bk <;> rfl

/-! ### the hypothesis of the crash step is what C08 proves -/

/-- the link that is NOT C08's: every COMPLETE snapshot the follower's snapshot writer
    received along the script (C08's ghost `received`: `size` bytes announced at offset
    `L`, all `size` bytes seen, the writer detached) is history `id`'s snapshot at `L`.
    This is what C16's session theorem provides: the leader's snapshot reply has
    `Shape.rdb` (Proofs/Replica.lean, `sendData_shape`: the `CONTINUE` chunks after
    `META{offset = base, size = |snap|}` flatten to a prefix of `h.snap id base`), and
    `rdbLoop_complete_eq` says that a transfer that sees all `size` bytes received exactly
    that snapshot. Stated as a hypothesis because the writers' script (`DOp`s) and the
    session (`sessionV`) are two models of the same run; the harness ties them. -/
def SnapRecvOk (h : Hist UInt8) (id : Replica.Id) (ops : List DOp) : Prop :=
  ∀ j L S c, j ≤ ops.length → received (ops.take j) = some ⟨L, S, c, false⟩ → c.length = S →
    c = h.snap id L

/-- **crash_image_step_ok** (C08 re-exported in C16's terms). For EVERY script `ops` of the
    disk writers that respects the callers' protocol (`wf`) and appends history `id`'s bytes
    at the offsets they are appended at (`SrcOk` — for a follower: `aofRecv` appends the
    payload of `CONTINUE` messages, which `Shape.aof` says are history's), at EVERY instant
    the process may die (`n` file operations issued, the last one — if an append — torn
    after `k` bytes), the directory image satisfies the hypothesis of the crash step:
    `FsTrue` is C08's `crash_images_truthful` + `script_ops_true` (`crashImage_true`), the
    snapshot clause is C08's `crash_snapshot_true` (an offered snapshot is a committed file
    holding exactly what the snapshot writer RECEIVED, complete) + `SnapRecvOk`. -/
theorem crash_image_step_ok (h : Hist UInt8) (id : Replica.Id) (l m : Nat) (ops : List DOp)
    (hwf : (Disk.init l m).wf ops) (hsrc : SrcOk (fun o => h.byte id o) (Disk.init l m) ops)
    (hrecv : SnapRecvOk h id ops) (n k : Nat) :
    ImageOk h id (crashImage [] (scriptOps (Disk.init l m) ops) n k) := by
  refine ⟨crashImage_true _ l m ops hwf hsrc n k, ?_⟩
  intro L S c hr hg
  obtain ⟨c', hg', _, hlen, j, hj, hrc⟩ := Props.C08.crash_snapshot_true l m ops hwf n k L S hr
  rw [hg'] at hg
  cases hg
  exact hrecv j L S _ hj hrc hlen

/-- … hence what a killed follower re-opens from ANY crash image of ANY such script is a
    faithful copy of history `id` (`crash_image_step_ok` + `reopened_data_faithful`) -/
theorem crash_image_data_faithful (h : Hist UInt8) (id : Replica.Id) (l m : Nat) (ops : List DOp)
    (hwf : (Disk.init l m).wf ops) (hsrc : SrcOk (fun o => h.byte id o) (Disk.init l m) ops)
    (hrecv : SnapRecvOk h id ops) (n k : Nat) :
    ∀ d, dataOfReopened (crashImage [] (scriptOps (Disk.init l m) ops) n k) = some d →
      d.Faithful h id :=
  let ok := crash_image_step_ok h id l m ops hwf hsrc hrecv n k
  reopened_data_faithful h id _ ok.1 ok.2

/-- one run-id directory of a killed follower: the writers' script that produced it (from
    the empty directory `NewStorer` creates) and the instant of death -/
structure CrashDir where
  id : Replica.Id
  logSize : Nat
  maxSize : Nat
  ops : List DOp
  /-- file operations issued before the process died -/
  n : Nat
  /-- bytes of the last operation (if an append) that reached the file -/
  k : Nat

/-- the directory image the dead process left -/
def CrashDir.image (c : CrashDir) : FS :=
  crashImage [] (scriptOps (Disk.init c.logSize c.maxSize) c.ops) c.n c.k

/-- the script respects the callers' protocol and wrote what the session received -/
def CrashDir.Ok (h : Hist UInt8) (c : CrashDir) : Prop :=
  (Disk.init c.logSize c.maxSize).wf c.ops ∧
    SrcOk (fun o => h.byte c.id o) (Disk.init c.logSize c.maxSize) c.ops ∧ SnapRecvOk h c.id c.ops

/-- **crash_step_ok**: a crash step over the crash images of writers' scripts — any number
    of directories, any scripts, any instants of death, any torn lengths — satisfies
    `StepC.Ok`; so `follower_prefix_of_leader_crash_runs` applies to it with no hypothesis
    about the images left. -/
theorem crash_step_ok (h : Hist UInt8) (F : Store UInt8) (cs : List CrashDir)
    (hcs : ∀ c ∈ cs, c.Ok h) :
    (StepC.crash (cs.map (fun c => (c.id, c.image))) : StepC UInt8).Ok h F := by
  intro p hp
  obtain ⟨c, hc, rfl⟩ := List.mem_map.mp hp
  obtain ⟨hwf, hsrc, hrecv⟩ := hcs c hc
  exact crash_image_step_ok h c.id c.logSize c.maxSize c.ops hwf hsrc hrecv c.n c.k


/-! ### the hypotheses in recursive / decidable form -/

/-- `StepC.Ok` at every position of a step list, threaded through the run (the recursive
    form of the hypothesis of `follower_prefix_of_leader_crash_runs`, in the style of C08's
    `Disk.wf` / `SrcOk`) -/
def OkAll (h : Hist UInt8) (bk : Backend) : List (StepC UInt8) → Store UInt8 → Prop
  | [], _ => True
  | st :: rest, F => st.Ok h F ∧ OkAll h bk rest (stepC bk F st)

/-- `OkAll` is the hypothesis of `follower_prefix_of_leader_crash_runs` -/
theorem okAll_positions (h : Hist UInt8) (bk : Backend) :
    ∀ (steps : List (StepC UInt8)) (F : Store UInt8), OkAll h bk steps F →
      ∀ (pre : List (StepC UInt8)) (st : StepC UInt8) (post : List (StepC UInt8)),
        steps = pre ++ st :: post → st.Ok h (pre.foldl (stepC bk) F)
  | [], _, _, pre, st, post, he => by cases pre <;> cases he
  | s :: rest, F, hok, [], st, post, he => by
    cases he; exact hok.1
  | s :: rest, F, hok, p :: pre, st, post, he => by
    cases he
    exact okAll_positions h bk _ _ hok.2 pre st post rfl

/-- `follower_prefix_of_leader_crash_runs` with the hypothesis in recursive form -/
theorem follower_prefix_of_leader_crash_runs' (h : Hist UInt8) (bk : Backend)
    (steps : List (StepC UInt8)) (F : Store UInt8) (hok : OkAll h bk steps F) (hwf : WF bk F)
    (hF : ∀ id, FaithfulAt h F.dirs id) :
    (∀ id, FaithfulAt h (steps.foldl (stepC bk) F).dirs id) ∧ WF bk (steps.foldl (stepC bk) F) :=
  follower_prefix_of_leader_crash_runs h bk steps F (okAll_positions h bk steps F hok) hwf hF

/-- `SnapRecvOk` as a check over the points of a concrete script -/
def snapRecvOkB (h : Hist UInt8) (id : Replica.Id) (ops : List DOp) : Bool :=
  (List.range (ops.length + 1)).all fun j =>
    match received (ops.take j) with
    | some x => x.receiving || x.bytes.length != x.size || x.bytes == h.snap id x.left
    | none => true

/-- the check is sound -/
theorem snapRecvOk_of_check (h : Hist UInt8) (id : Replica.Id) (ops : List DOp)
    (hb : snapRecvOkB h id ops = true) : SnapRecvOk h id ops := by
  intro j L S c hj hr hl
  have := List.all_eq_true.mp hb j (List.mem_range.mpr (by omega))
  rw [hr] at this
  simpa [hl] using this

/-! ### non-vacuity: concrete crash images, what they re-open to, a crash step in a run -/

section examples

/-- history A: the byte at offset `o` is `o mod 256`, every snapshot is `[1, 2, 3]`;
    history B: `o + 100 mod 256`, snapshots `[4]` -/
def hCr : Hist UInt8 where
  byte := fun id o => if id = "idA" then UInt8.ofNat o else UInt8.ofNat (o + 100)
  snap := fun id _ => if id = "idA" then [1, 2, 3] else [4]

/-- directory `idA`: a snapshot `500_3.rdb` received completely and committed, then the
    stream from 500; the segment size makes the second append rotate (`500.aof` closed,
    `505.aof` opened) -/
def scSnap : List DOp :=
  [.setRunId "idA", .newRdbWriter 500 3, .rdbAppend [1, 2], .rdbAppend [3], .newAofWriter 500,
   .aofAppend [244, 245], .aofAppend [246, 247, 248], .aofAppend [249, 250, 251]]

/-- directory `idB`: the snapshot transfer was interrupted after 2 of 3 bytes and the writer
    never closed (the `.rdb.tmp` stays), then the stream from 500 -/
def scTmp : List DOp :=
  [.setRunId "idB", .newRdbWriter 500 3, .rdbAppend [4, 4], .newAofWriter 500,
   .aofAppend [88, 89], .aofAppend [90, 91, 92]]

/-- killed during the last append of `scSnap`: 1 of its 3 bytes reached `505.aof` -/
def dirA : CrashDir := ⟨"idA", 20, 0, scSnap, 12, 1⟩
/-- killed during the last append of `scTmp`: 2 of its 3 bytes reached `500.aof` -/
def dirB : CrashDir := ⟨"idB", 20, 0, scTmp, 6, 2⟩

-- the images: a torn last segment; a temporary snapshot next to a torn segment
example : dirA.image =
    [(.rdb 500 3, [1, 2, 3]),
     (.aof 500, closedHeader [244, 245, 246, 247, 248] ++ [244, 245, 246, 247, 248]),
     (.aof 505, fixHeader ++ [249])] := by decide +kernel
example : dirB.image = [(.rdbTmp 500 3, [4, 4]), (.aof 500, fixHeader ++ [88, 89, 90, 91])] := by decide +kernel
-- what they re-open to: the committed snapshot and both segments joined; the temporary
-- snapshot is not read
example : dataOfReopened dirA.image = some ⟨500, [244, 245, 246, 247, 248, 249], some [1, 2, 3]⟩ := by decide +kernel
example : dataOfReopened dirB.image = some ⟨500, [88, 89, 90, 91], none⟩ := by decide +kernel
-- killed before any stream byte and before the snapshot's commit: an empty directory
example : dataOfReopened (crashImage [] (scriptOps (Disk.init 20 0) scSnap) 3 0) = none := by decide +kernel
-- killed right after the commit: the snapshot alone
example : dataOfReopened (crashImage [] (scriptOps (Disk.init 20 0) scSnap) 4 0) = some ⟨500, [], some [1, 2, 3]⟩ := by decide +kernel
-- an image no writer produces: a gap (the older segment is discarded by `reopen`), the
-- snapshot below the gap is not offered
example : dataOfReopened [(.rdb 100 1, [9]), (.aof 100, fixHeader ++ [1, 2]), (.aof 105, fixHeader ++ [7])]
    = some ⟨105, [7], none⟩ := by decide +kernel

-- the hypotheses of `crash_image_step_ok` / `crash_step_ok` hold for both directories
theorem dirA_ok : dirA.Ok hCr :=
  ⟨by decide, srcOk_of_check _ _ _ (by decide), snapRecvOk_of_check _ _ _ (by decide)⟩
theorem dirB_ok : dirB.Ok hCr :=
  ⟨by decide, srcOk_of_check _ _ _ (by decide), snapRecvOk_of_check _ _ _ (by decide)⟩
example : dirA.Ok hCr := dirA_ok
example : dirB.Ok hCr := dirB_ok
-- … a script that wrote B's bytes into A's directory does not pass
example : srcOkB (fun o => hCr.byte "idA" o) (Disk.init 20 0) scTmp = false := by decide +kernel

/-- the leader serves `idA`: snapshot at 500, stream `[500, 509)` -/
def lCr : Leader UInt8 :=
  ⟨true, true, ["idA"], "idA", some ⟨500, [244, 245, 246, 247, 248, 249, 250, 251, 252], some [1, 2, 3]⟩,
    true, [], none⟩

theorem lCr_faithful : lCr.Faithful hCr := by
  intro d hd; cases hd
  exact ⟨⟨by decide, fun s hs => by cases hs; decide⟩, by decide⟩
example : lCr.Faithful hCr := lCr_faithful

/-- a follower's life: killed (both directories re-opened from their crash images), then a
    session against the leader — it continues `idA` at its own end 506 — a clean restart,
    and a second kill that leaves `idA`'s directory as it was first found -/
def lifeCr : List (StepC UInt8) :=
  [.crash [(dirA.id, dirA.image), (dirB.id, dirB.image)],
   .plain (.sess (fun _ => View.const lCr, [2], 10, 0, 3)),
   .plain .restart,
   .crash [(dirA.id, dirA.image)]]

example : ([lifeCr[0]].foldl (stepC .disk) ⟨"idB", []⟩).dirs =
    [("idA", some ⟨500, [244, 245, 246, 247, 248, 249], some [1, 2, 3]⟩),
     ("idB", some ⟨500, [88, 89, 90, 91], none⟩)] := by decide +kernel
example : ((lifeCr.take 2).foldl (stepC .disk) ⟨"idB", []⟩).dirs =
    [("idA", some ⟨500, [244, 245, 246, 247, 248, 249, 250, 251, 252], some [1, 2, 3]⟩),
     ("idB", some ⟨500, [88, 89, 90, 91], none⟩)] ∧
    ((lifeCr.take 2).foldl (stepC .disk) ⟨"idB", []⟩).cur = "idA" := by decide +kernel
example : (lifeCr.foldl (stepC .disk) ⟨"idB", []⟩).cur = "" ∧
    (lifeCr.foldl (stepC .disk) ⟨"idB", []⟩).dirs =
      [("idA", some ⟨500, [244, 245, 246, 247, 248, 249], some [1, 2, 3]⟩)] := by decide +kernel
-- the memory backend keeps nothing through a kill
example : ((lifeCr.take 1).foldl (stepC .mem) ⟨"idB", []⟩).dirs = [] := by decide +kernel

/-- the hypothesis of `follower_prefix_of_leader_crash_runs` holds along this life … -/
theorem lifeCr_ok (F : Store UInt8) : OkAll hCr .disk lifeCr F :=
  ⟨crash_step_ok hCr F [dirA, dirB] (by simp [dirA_ok, dirB_ok]), ⟨fun _ => lCr_faithful, by decide⟩, trivial,
    crash_step_ok hCr _ [dirA] (by simp [dirA_ok]), trivial⟩

/-- … so its conclusion holds for it, from any faithful well-formed start -/
example : (∀ id, FaithfulAt hCr (lifeCr.foldl (stepC .disk) ⟨"", []⟩).dirs id) ∧
    WF .disk (lifeCr.foldl (stepC .disk) ⟨"", []⟩) :=
  follower_prefix_of_leader_crash_runs' hCr .disk lifeCr ⟨"", []⟩ (lifeCr_ok _)
    ⟨Or.inl rfl, by decide⟩ (fun id d hd => by cases hd)

-- a lying image is rejected by the hypothesis, and what it re-opens to is not faithful:
-- B's bytes filed under `idA`
example : ¬ (⟨500, [88, 89, 90, 91], none⟩ : Replica.Data UInt8).Faithful hCr "idA" := by
  intro h; have := h.1; revert this; decide

end examples

end GunYu.Props.C16
