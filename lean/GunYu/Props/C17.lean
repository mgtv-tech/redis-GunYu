/-
  C17 — Resume bookkeeping maintenance never loses the live resume position.

  Quantifier: every initial bookkeeping state satisfying the stated
  preconditions, every database iteration order of every `for db := range mp`
  loop (the operation's own loops and the next start's), every prefix `k` of
  the write requests the operation issues.

  `startPoint ver ids order t` = `GetCheckpointHash` + `GetCheckpoint` on target
  state `t` (what `RedisOutput.StartPoint` reads), `some (some (X, d))` = resume
  at offset `X` in database `d`.
-/
import GunYu.Model.Checkpoint
import GunYu.Proofs.Checkpoint
import GunYu.Proofs.CheckpointOps
import GunYu.Proofs.CheckpointUpdate
import GunYu.Proofs.CheckpointRerun
import GunYu.Proofs.CheckpointMigrate
import GunYu.Gen.CheckpointConsts

namespace GunYu.Props.C17
open GunYu GunYu.Checkpoint GunYu.Migrate

/-- `UpdateCheckpoint` (renaming the checkpoint key and/or moving it to a new
    replication id), stopped after ANY number `k` of its write requests, leaves a
    target on which the next start reads the same offset in the same database.

    Preconditions (`UpdPre`, on the state before): the two ids are distinct, the
    new one is neither empty nor "?"; the hash resolves them to key `n`; under `n`
    database `d` reads offset `X ≥ 0` with a run id and every `_offset` field of
    the ids in any other database is smaller (`Holds`); `_runid` fields store
    their own id; a new key name holds no field of the ids yet OR what a rename cut after its
    first HSET left (`LocOk`: its fields of the ids read `X` in `d` and are smaller elsewhere,
    so the re-run after such a cut is covered as well). Nothing is asked of fields of the new id that
    `d` already holds under a key that stays: since the repair D34 the operation does not delete the
    entry it has just written.
    `o1`,`o2` = database orders of the operation's two loops, `oS` = of the next
    start (each only has to contain `d`, which is non-empty). -/
theorem update_prefix_safe (ver id1 id2 loc : Bytes) (t₀ : Target) (n r : Bytes) (d : Nat) (X now : Int)
    (P : UpdPre id1 id2 loc t₀ n r d X now) (o1 o2 oS : List Nat) (ho1 : d ∈ o1) (hoS : d ∈ oS)
    (k : Nat) :
    startPoint ver [id1, id2] oS
      (applyAll t₀ ((updateReqs ver t₀ loc [id1, id2] o1 o2 now).take k)) = some (some (X, d)) := by
  rcases crash_class ver P o1 o2 ho1 k with ⟨_, F⟩ | ⟨_, hI, _⟩
  · exact startPoint_of_holds ver (F.hash ▸ P.hn) P.hn0 F.holds oS hoS
  · exact hI.startPoint P.hloc ver oS hoS

/-- … and that is the position held before the operation began. -/
theorem update_position_before (ver id1 id2 loc : Bytes) (t₀ : Target) (n r : Bytes) (d : Nat) (X now : Int)
    (P : UpdPre id1 id2 loc t₀ n r d X now) (oS : List Nat) (hoS : d ∈ oS) :
    startPoint ver [id1, id2] oS t₀ = some (some (X, d)) :=
  startPoint_of_holds ver P.hn P.hn0 P.holds oS hoS

/-- preconditions of `gc_prefix_safe` on the state before -/
structure GcPre (id1 id2 : Bytes) (live : List Bytes) (t₀ : Target) (n r : Bytes) (d : Nat) (X : Int) : Prop where
  hne : id1 ≠ id2
  h1 : id1 ≠ []
  h1q : id1 ≠ qmark
  h2q : id2 ≠ qmark
  live1 : id1 ∈ live
  live2 : id2 ∈ live
  hn : getHash t₀.hash [id1, id2] = some (n, r)
  hn0 : n ≠ []
  holds : Holds [id1, id2] t₀ n d X
  own : RunidOwn t₀ n
  /-- one of the two ids alone reads the position in `d` -/
  carrier : Carrier id1 t₀ n d X ∨ Carrier id2 t₀ n d X

/-- Garbage collection of stale checkpoints (`gcStaleCp`: `DelStaleCheckpoint` +
    `DelCheckpointHash` over every pair of the checkpoint hash), stopped after ANY
    number of its write requests, for EVERY staleness threshold `before` and every
    database order of every scan, keeps the resume position of ids the sources
    still report. -/
theorem gc_prefix_safe (ver id1 id2 : Bytes) (live : List Bytes) (t₀ : Target) (n r : Bytes) (d : Nat)
    (X : Int) (P : GcPre id1 id2 live t₀ n r d X) (before : Int) (orders : List (List Nat))
    (oS : List Nat) (hoS : d ∈ oS) (k : Nat) :
    startPoint ver [id1, id2] oS (applyAll t₀ ((gcReqs t₀ live before orders).take k))
      = some (some (X, d)) := by
  obtain ⟨A, hA, hAq, hc⟩ : ∃ A, (A = id1 ∨ A = id2) ∧ A ≠ qmark ∧ Carrier A t₀ n d X :=
    P.carrier.elim (fun hc => ⟨id1, Or.inl rfl, P.h1q, hc⟩) (fun hc => ⟨id2, Or.inr rfl, P.h2q, hc⟩)
  exact (gcLoop_prefix P.hne P.h1 hA hAq live P.live1 P.live2 before t₀.hash orders t₀
    ⟨P.hn, P.holds, hc, ridok_of_own P.own P.h1q P.h2q⟩ P.own k).startPoint P.hn0 ver oS hoS

/-- `DelStaleCheckpoint` with `exceptNewest` (what gc passes for an id a source
    still reports) never deletes in the database its scan found to hold the id's
    largest offset — for every clock position `before`, every state, every
    database order. -/
theorem gc_spares_newest_of_live_id (t : Target) (name rid : Bytes) (before : Int) (order : List Nat)
    (s : StaleScan) (hs : staleScan t name rid order = some s) :
    ∀ q ∈ (delStale t name rid before true order).2.2,
      ∃ db ks, q = Req.hdelCp db name ks ∧ db ≠ s.newestDb := by
  intro q hq
  obtain ⟨s', p, hs', _, hnew, _, rfl⟩ := mem_delStale hq
  cases hs.symm.trans hs'
  exact ⟨p.1, _, rfl, fun h => hnew ⟨h, rfl⟩⟩

/-- "Garbage collection never removes the newest checkpoint of a replication id that a source
    still reports": for ANY id `rid` of the live set (not only the two of the next start) whose
    largest offset `X ≥ 0` under key `name` is read in database `d` (smaller in every other
    database), whole-pass statement — NO request of `gcStaleCp`, whichever pair of the
    checkpoint hash it stems from (same key other id, other key, `rid` itself), for every
    threshold and every database order, deletes a field of `rid` in `d` or its hash entry.
    (`hown`: `_runid` fields store their own id, in every key the pass looks at.) -/
theorem gc_spares_live_id (t₀ : Target) (live : List Bytes) (before : Int) (orders : List (List Nat))
    (rid name : Bytes) (d : Nat) (X : Int) (hl : rid ∈ live) (hq : rid ≠ qmark)
    (hsolo : Solo rid t₀ name d X) (hown : ∀ n, RunidOwn t₀ n) :
    ∀ q ∈ gcReqs t₀ live before orders,
      q ≠ Req.hdelHash rid ∧ ∀ ks, q = Req.hdelCp d name ks → ∀ k ∈ ks, k.1 ≠ rid := by
  intro q hq'
  have hs := gcLoop_gsafe hq live hl before t₀.hash orders t₀ ⟨hsolo, hown name⟩ q hq'
  constructor
  · rintro rfl; exact hs rfl
  · rintro ks rfl k hk
    obtain ⟨ρ, hkeys, hsafe⟩ := hs
    exact hkeys k hk ▸ (hsafe rfl).resolve_right (fun h => h rfl)

/-! ### after a cut: the next start runs `UpdateCheckpoint` again, to completion, and reads under
    the LOCAL key

    `t₁` = the crash state (ANY prefix `k` of the first run's requests). Two kinds of "again":
    a START (`nextStart`: `syncer.updateCheckpoint` orders the reported ids by the checkpoint hash,
    then `UpdateCheckpoint(loc, ordered)`), with the ids reported in the order the first run had
    them or — when the first run was itself a start that swapped them — in the other order; and
    the RETRY of the same call with the same arguments (`RedisOutput.SetRunId` retries on an
    error). Both, run to completion on every crash state, leave the position readable under the
    LOCAL key: same offset, same database. -/

theorem update_restart_reads_local (ver id1 id2 loc : Bytes) (t₀ : Target) (n r : Bytes) (d : Nat)
    (X now now' : Int) (P : UpdPre id1 id2 loc t₀ n r d X now) (h2 : id2 ≠ [])
    (o1 o2 o1' o2' oS : List Nat) (ho1 : d ∈ o1) (ho1' : d ∈ o1') (hoS : d ∈ oS)
    (hnow' : -(2^63 : Int) ≤ now' ∧ now' < 2^63) (k : Nat) :
    ∃ c, getCheckpoint ver
        (nextStart ver (applyAll t₀ ((updateReqs ver t₀ loc [id1, id2] o1 o2 now).take k)) loc [id1, id2]
          o1' o2' now') loc [id1, id2] oS = some (c, (d : Int)) ∧ c.offset = X := by
  suffices h : Holds [id1, id2]
      (nextStart ver (applyAll t₀ ((updateReqs ver t₀ loc [id1, id2] o1 o2 now).take k)) loc [id1, id2]
        o1' o2' now') loc d X from (read_local ver h oS hoS).1
  unfold nextStart
  rcases crash_class ver P o1 o2 ho1 k with ⟨_, F⟩ | ⟨_, ⟨hh, hH, _, _⟩, _⟩
  · -- the hash is untouched: the ids are ordered as before, or swapped if it maps the second one
    rw [startIds_eq (F.hash ▸ P.hn)]
    by_cases hr : r = id2
    · subst hr
      rw [if_pos ⟨rfl, fun h => P.hne h.symm⟩]
      exact rerun_swapped ver P h2 F hnow' o1' o2' ho1'
    · rw [if_neg (fun h => hr h.1)]
      exact update_complete_holds ver (F.updPre P hnow') o1' o2' ho1'
  · -- nothing to do: the hash maps `id1` to the LOCAL key
    rw [startIds_eq hh, if_neg (fun h => P.hne h.1), updateReqs_noop ver o1' o2' now' hh]
    exact hH

/-- the first run was a START that reported `[id2, id1]` and swapped them (the hash maps `id1`,
    the usual restart after a fail-over: reported `[new, old]`, stored under `old`): the next start
    reports the same `[id2, id1]`. -/
theorem update_restart_reads_local_swapped (ver id1 id2 loc : Bytes) (t₀ : Target) (n r : Bytes) (d : Nat)
    (X now now' : Int) (P : UpdPre id1 id2 loc t₀ n r d X now)
    (hs : startIds t₀.hash [id2, id1] = [id1, id2])
    (o1 o2 o1' o2' oS : List Nat) (ho1 : d ∈ o1) (ho1' : d ∈ o1') (hoS : d ∈ oS)
    (hnow' : -(2^63 : Int) ≤ now' ∧ now' < 2^63) (k : Nat) :
    ∃ c, getCheckpoint ver
        (nextStart ver (applyAll t₀ ((updateReqs ver t₀ loc [id1, id2] o1 o2 now).take k)) loc [id2, id1]
          o1' o2' now') loc [id2, id1] oS = some (c, (d : Int)) ∧ c.offset = X := by
  suffices h : Holds [id1, id2]
      (nextStart ver (applyAll t₀ ((updateReqs ver t₀ loc [id1, id2] o1 o2 now).take k)) loc [id2, id1]
        o1' o2' now') loc d X from (read_local ver h oS hoS).2
  have hu := startIds_swapped P.hne hs
  unfold nextStart
  rcases crash_class ver P o1 o2 ho1 k with ⟨_, F⟩ | ⟨_, ⟨hh, hH, _, _⟩, h3⟩
  · rw [F.hash, hs]
    exact update_complete_holds ver (F.updPre P hnow') o1' o2' ho1'
  · -- `id2` is still unmapped: the start swaps the ids again and has nothing to do
    rw [startIds_eq (getHash_of_second (h3 hu) (getHash_first P.hne P.h1 hh).1), if_pos ⟨rfl, P.hne⟩,
      updateReqs_noop ver o1' o2' now' hh]
    exact hH

/-- the RETRY of the same call (same ids, same order) on every state an attempt that did not complete
    leaves — a stop after `k` requests, or an error reply to request `k+1` (the failing request is not
    applied and `UpdateCheckpoint` returns: the same target state). After the repairs D33
    (`RedisOutput.SetRunId` keeps the old id while attempts fail, so its `RetryLinearJitter` passes
    `[new, old]` again) and D34 (`UpdateCheckpoint` does not delete the entry it has just written) this
    is what the code retries, and it needs no precondition beyond `update_prefix_safe`'s. -/
theorem update_rerun_reads_local (ver id1 id2 loc : Bytes) (t₀ : Target) (n r : Bytes) (d : Nat)
    (X now now' : Int) (P : UpdPre id1 id2 loc t₀ n r d X now)
    (o1 o2 o1' o2' oS : List Nat) (ho1 : d ∈ o1) (ho1' : d ∈ o1') (hoS : d ∈ oS)
    (hnow' : -(2^63 : Int) ≤ now' ∧ now' < 2^63) (k : Nat) :
    ∃ c, getCheckpoint ver
        (applyAll (applyAll t₀ ((updateReqs ver t₀ loc [id1, id2] o1 o2 now).take k))
          (updateReqs ver (applyAll t₀ ((updateReqs ver t₀ loc [id1, id2] o1 o2 now).take k)) loc [id1, id2]
            o1' o2' now')) loc [id1, id2] oS = some (c, (d : Int)) ∧ c.offset = X := by
  have h1 := rerunnable_attempt ver P.rerunnable ⟨k, now, o1, o2⟩ ho1 P.hnow
  exact (read_local ver (rerunnable_complete ver h1 o1' o2' ho1' now' hnow') oS hoS).1

/-- `RedisOutput.SetRunId(new)` as a whole (`afterAttempts`): ANY number of attempts that do not complete
    (each stopped, or answered with an error, after any number of its requests; the 3 of one
    `RetryLinearJitter`, those of later calls, those of later processes), each reading the target as
    the ones before left it, then one attempt that completes: the position is read under the LOCAL
    key, same offset, same database. -/
theorem setrunid_retries_read_local (ver id1 id2 loc : Bytes) (t₀ : Target) (n r : Bytes) (d : Nat)
    (X now : Int) (P : UpdPre id1 id2 loc t₀ n r d X now) (as : List Attempt)
    (has : ∀ a ∈ as, d ∈ a.o1 ∧ (-(2^63 : Int) ≤ a.now ∧ a.now < 2^63))
    (o1 o2 oS : List Nat) (ho1 : d ∈ o1) (hoS : d ∈ oS) (now' : Int)
    (hnow' : -(2^63 : Int) ≤ now' ∧ now' < 2^63) :
    ∃ c, getCheckpoint ver
        (applyAll (afterAttempts ver loc [id1, id2] t₀ as)
          (updateReqs ver (afterAttempts ver loc [id1, id2] t₀ as) loc [id1, id2] o1 o2 now'))
        loc [id1, id2] oS = some (c, (d : Int)) ∧ c.offset = X := by
  have h1 := rerunnable_attempts ver as P.rerunnable has
  exact (read_local ver (rerunnable_complete ver h1 o1 o2 ho1 now' hnow') oS hoS).1

/-- … and at every moment in between (after any number of incomplete attempts) a START reads it too:
    through the checkpoint hash, same offset, same database. -/
theorem setrunid_retries_start_safe (ver id1 id2 loc : Bytes) (t₀ : Target) (n r : Bytes) (d : Nat)
    (X now : Int) (P : UpdPre id1 id2 loc t₀ n r d X now) (as : List Attempt)
    (has : ∀ a ∈ as, d ∈ a.o1 ∧ (-(2^63 : Int) ≤ a.now ∧ a.now < 2^63)) (oS : List Nat) (hoS : d ∈ oS) :
    startPoint ver [id1, id2] oS (afterAttempts ver loc [id1, id2] t₀ as) = some (some (X, d)) := by
  rcases rerunnable_attempts ver as P.rerunnable has with ⟨n', r', P'⟩ | ⟨hh, hH⟩
  · exact startPoint_of_holds ver P'.hn P'.hn0 P'.holds oS hoS
  · exact startPoint_of_holds ver hh P.hloc hH oS hoS

/-- gc asks for `exceptNewest` exactly for the ids that are live -/
theorem gc_passes_exceptNewest (live : List Bytes) (before : Int) (t : Target) (rid cpn : Bytes)
    (rest : List (Bytes × Bytes)) (orders : List (List Nat)) :
    ∃ tail, gcLoop live before t ((rid, cpn) :: rest) orders
      = (delStale t cpn rid before (live.contains rid) (orders.headD [])).2.2 ++ tail := by
  rw [gcLoop_cons, gcRound, List.append_assoc]
  exact ⟨_, rfl⟩

/-- Switching the bidirectional recovery format (`resolveBisyncCheckpointNameWithClient`:
    mode inference, in-place switch, or migration to a freshly seeded namespace with
    repointing of the checkpoint hash and clean-up of the old namespace), stopped after ANY
    number of its requests to the checkpoint hash / the root keys, leaves a target on which
    the next start reads a position that is not smaller, in the same database (0, where
    bidirectional namespaces keep their root checkpoint).

    `ns` = recovery state of the old namespace (any), `nows` = the clock values used,
    `order` = database order of the operation's `GetCheckpoint`, `oS` = of the next start.
    Preconditions (`MigPre`): ids distinct, non-empty, not "?" and not a prefix-match of
    "bisync_mode"; the hash resolves to root key `n` holding `X ≥ 0` in database 0 (`Holds`);
    `_runid` fields store their own id; the freshly drawn name is new (no field of the ids,
    different from `n` and `n:frontier`); stored offsets / clock values are int64. -/
theorem migrate_prefix_safe (ver id1 id2 n r newName : Bytes) (t₀ : Target) (ns : Frontier.NS) (X : Int)
    (nows : List Int) (P : MigPre ver id1 id2 n r newName t₀ ns X nows) (desired : BMode)
    (order oS : List Nat) (ho : 0 ∈ order) (hoS : 0 ∈ oS) (k : Nat) :
    ∃ X', X ≤ X' ∧
      startPoint ver [id1, id2] oS
        (applyAll t₀ ((migrateReqs ver t₀ ns [id1, id2] desired newName nows order).take k))
        = some (some (X', 0)) := by
  obtain ⟨pre, core, heq, hpre, hcore⟩ := migrateReqs_form P order ho desired
  rw [heq]
  exact (minv_pre_core P.args ⟨P.hn, P.holds, P.fresh⟩ pre core hpre hcore k).startPoint
    P.hn0 P.args.hnew0 ver oS hoS

/-- what the scan calls "newest": no database it visited reads a larger offset for the id,
    and (when anything was read) `newestDb` is a visited database reading exactly it -/
theorem gc_newest_is_largest (t : Target) (name rid : Bytes) (order : List Nat) (s : StaleScan)
    (h : staleScan t name rid order = some s) : ScanMax t name rid order s :=
  (staleScan_spec t name rid order s h).1

/-- the literal names the models use are those of the Go source (regenerated each run by
    harness/extract/c17.go into Gen/CheckpointConsts.lean) -/
theorem consts_match_source :
    Migrate.modeField = Gen.bisyncModeField ∧
    Gen.bisyncModeMtimeField = Gen.bisyncModeField ++ Gen.cpSuffixMtime ∧
    BMode.bytes .sync = Gen.bisyncModeSync ∧ BMode.bytes .pipeline = Gen.bisyncModePipeline ∧
    BMode.bytes .parallel = Gen.bisyncModeParallel ∧
    (∀ n, Migrate.frontierKey n = n ++ Gen.bisyncFrontierSuffix) ∧
    -- the four suffixes are pairwise not suffixes of one another (field names parse uniquely)
    (∀ a ∈ [Gen.cpSuffixRunId, Gen.cpSuffixVersion, Gen.cpSuffixOffset, Gen.cpSuffixMtime],
      ∀ b ∈ [Gen.cpSuffixRunId, Gen.cpSuffixVersion, Gen.cpSuffixOffset, Gen.cpSuffixMtime],
        a ≠ b → ¬ a.isSuffixOf b = true) := by
  refine ⟨by decide +kernel, by decide +kernel, by decide +kernel, by decide +kernel, by decide +kernel,
    fun n => rfl, by decide +kernel⟩

/-! ### non-vacuity: a concrete state meeting the preconditions

  ids "a" (new) and "b" (old); the hash maps b ↦ key "c"; key "c" holds the
  position 700 in database 2 and an older one (100) in database 5. -/

def exId1 : Bytes := [97]
def exId2 : Bytes := [98]
def exCp : Bytes := [99]
def exA2 : Cp := [⟨exId2, .mtime, [53]⟩, ⟨exId2, .runid, exId2⟩, ⟨exId2, .offset, [55, 48, 48]⟩]
def exA5 : Cp := [⟨exId2, .runid, exId2⟩, ⟨exId2, .offset, [49, 48, 48]⟩]
def exT : Target :=
  { hash := [(exId2, exCp)],
    cps := fun db n => if n = exCp then (if db = 2 then exA2 else if db = 5 then exA5 else []) else [] }

theorem exT_cps (db : Nat) : exT.cps db exCp = if db = 2 then exA2 else if db = 5 then exA5 else [] := by
  simp [exT]

theorem exT_mem (db : Nat) :
    exT.cps db exCp ∈ [exA2, exA5, []] ∧ (db ≠ 2 → exT.cps db exCp ∈ [exA5, []]) := by
  rw [exT_cps]
  split
  · simp [*]
  · split <;> simp

theorem ex_table : ∀ fs ∈ [exA2, exA5, []], ∀ e ∈ fs,
    ((e.kind = .offset ∨ e.kind = .mtime) → (Resp.parseInt64 e.val).isSome = true) ∧
    (e.kind = .runid → e.val = e.rid) := by decide

theorem ex_parses (ids : List Bytes) : ∀ db, Parses ids (exT.cps db exCp) :=
  fun db e he _ hk => (ex_table _ (exT_mem db).1 e he).1 hk

theorem ex_holds : Holds [exId1, exId2] exT exCp 2 700 := by
  refine ⟨by decide, ex_parses _, by rw [exT_cps]; decide, by rw [exT_cps]; decide,
    fun db hdb x hx _ v hv => ?_⟩
  have : ∀ fs ∈ [exA5, []], ∀ x ∈ fs, ∀ v ∈ Resp.parseInt64 x.val, v < 700 := by decide
  exact this _ ((exT_mem db).2 hdb) x hx v hv

theorem ex_own : RunidOwn exT exCp :=
  fun db e he hk => (ex_table _ (exT_mem db).1 e he).2 hk

theorem ex_updPre : UpdPre exId1 exId2 exCp exT exCp exId2 2 700 9 :=
  { hne := by decide, h1 := by decide, h1q := by decide, h2q := by decide, hloc := by decide,
    hn := by decide, hn0 := by decide, holds := ex_holds, own := ex_own,
    fresh := fun h => absurd rfl h,
    hnow := by decide }

/-- the preconditions of `update_prefix_safe` are met, and the operation is not
    trivial there: 5 write requests (HSET new fields, repoint, 2 × HDEL, HDEL hash) -/
example : UpdPre exId1 exId2 exCp exT exCp exId2 2 700 9 := ex_updPre
example : (updateReqs [49] exT exCp [exId1, exId2] [5, 2] [2, 5] 9).length = 5 := by decide +kernel
example : startPoint [49] [exId1, exId2] [5, 2]
    (applyAll exT ((updateReqs [49] exT exCp [exId1, exId2] [5, 2] [2, 5] 9).take 3))
    = some (some (700, 2)) :=
  update_prefix_safe [49] exId1 exId2 exCp exT exCp exId2 2 700 9 ex_updPre [5, 2] [2, 5] [5, 2]
    (by decide) (by decide) 3

/-- the next start / the retry after a cut at request 1, 2, 3 of that run: position 700@2 under the LOCAL key -/
example (k : Nat) : ∃ c, getCheckpoint [49]
    (nextStart [49] (applyAll exT ((updateReqs [49] exT exCp [exId1, exId2] [5, 2] [2, 5] 9).take k)) exCp
      [exId1, exId2] [2, 5] [5, 2] 11) exCp [exId1, exId2] [5, 2] = some (c, ((2 : Nat) : Int)) ∧ c.offset = 700 :=
  update_restart_reads_local [49] exId1 exId2 exCp exT exCp exId2 2 700 9 11 ex_updPre (by decide)
    [5, 2] [2, 5] [2, 5] [5, 2] [5, 2] (by decide) (by decide) (by decide) (by decide) k
example (k : Nat) : ∃ c, getCheckpoint [49]
    (applyAll (applyAll exT ((updateReqs [49] exT exCp [exId1, exId2] [5, 2] [2, 5] 9).take k))
      (updateReqs [49] (applyAll exT ((updateReqs [49] exT exCp [exId1, exId2] [5, 2] [2, 5] 9).take k)) exCp
        [exId1, exId2] [2, 5] [5, 2] 11)) exCp [exId1, exId2] [5, 2] = some (c, ((2 : Nat) : Int)) ∧ c.offset = 700 :=
  update_rerun_reads_local [49] exId1 exId2 exCp exT exCp exId2 2 700 9 11 ex_updPre
    [5, 2] [2, 5] [2, 5] [5, 2] [5, 2] (by decide) (by decide) (by decide) (by decide) k
/-- the usual restart after a fail-over: the source reports `[new, old] = [exId1, exId2]`, the position is
    stored under the old id, the start swaps the ids and renames the key to `[100]` (4 requests); cut
    anywhere, the next start (same report) reads 700@2 under the new key -/
theorem ex_updPre_rename : UpdPre exId2 exId1 [100] exT exCp exId2 2 700 9 :=
  { hne := by decide, h1 := by decide, h1q := by decide, h2q := by decide, hloc := by decide,
    hn := by decide, hn0 := by decide, holds := ex_holds.swap, own := ex_own,
    fresh := fun _ => LocOk.of_fresh (by intro db e he; simp [exT, exCp] at he),
    hnow := by decide }
example : startIds exT.hash [exId1, exId2] = [exId2, exId1] := by decide +kernel
example : (updateReqs [49] exT [100] [exId2, exId1] [5, 2] [2, 5] 9).length = 4 := by decide +kernel
example (k : Nat) : ∃ c, getCheckpoint [49]
    (nextStart [49] (applyAll exT ((updateReqs [49] exT [100] [exId2, exId1] [5, 2] [2, 5] 9).take k)) [100]
      [exId1, exId2] [2, 5] [5, 2] 11) [100] [exId1, exId2] [5, 2] = some (c, ((2 : Nat) : Int)) ∧ c.offset = 700 :=
  update_restart_reads_local_swapped [49] exId2 exId1 [100] exT exCp exId2 2 700 9 11 ex_updPre_rename (by decide)
    [5, 2] [2, 5] [2, 5] [5, 2] [5, 2] (by decide) (by decide) (by decide) (by decide) k

/-- the retry really runs a second time after a cut at request 1: it writes the new id's entry again and
    repoints the hash, and (D34) deletes nothing — it read its own new id back; the start does not run
    (it orders the ids by the hash, which still maps the old id: nothing to do) -/
example : (updateReqs [49] (applyAll exT ((updateReqs [49] exT exCp [exId1, exId2] [5, 2] [2, 5] 9).take 1)) exCp
    [exId1, exId2] [2, 5] [5, 2] 11).length = 2 := by decide +kernel
/-- three attempts cut after 1, 0 and 3 requests, then a complete one -/
example : ∃ c, getCheckpoint [49]
    (applyAll (afterAttempts [49] exCp [exId1, exId2] exT [⟨1, 9, [5, 2], [2, 5]⟩, ⟨0, 10, [2, 5], [5, 2]⟩, ⟨3, 11, [2], [2]⟩])
      (updateReqs [49] (afterAttempts [49] exCp [exId1, exId2] exT [⟨1, 9, [5, 2], [2, 5]⟩, ⟨0, 10, [2, 5], [5, 2]⟩, ⟨3, 11, [2], [2]⟩])
        exCp [exId1, exId2] [2, 5] [5, 2] 12)) exCp [exId1, exId2] [5, 2] = some (c, ((2 : Nat) : Int)) ∧ c.offset = 700 :=
  setrunid_retries_read_local [49] exId1 exId2 exCp exT exCp exId2 2 700 9 ex_updPre
    [⟨1, 9, [5, 2], [2, 5]⟩, ⟨0, 10, [2, 5], [5, 2]⟩, ⟨3, 11, [2], [2]⟩]
    (by decide)
    [2, 5] [5, 2] [5, 2] (by decide) (by decide) 12 (by decide)
example : startIds (applyAll exT ((updateReqs [49] exT exCp [exId1, exId2] [5, 2] [2, 5] 9).take 1)).hash
    [exId1, exId2] = [exId2, exId1] := by decide +kernel

/-- the state that made the retry lose the position BEFORE the repair D34 (it needed a precondition
    `Carrier id2` then): the hash maps the old id, whose own entry in database 2 reads 50; a larger
    `<new>_offset = 70` beside it makes the pair read 70@2 (reachable on the code before D33: the
    relabel failed three times, the next SetRunId of the process returned at once, the replay wrote
    under the unmapped new id). Cut after the first HSET, then the same call again: it read run
    id = NEW id, took it for the old one and deleted the new id's fields — 70 fell back to 50. With
    the repaired operation both the retry and the start keep 70@2. -/
def exOrph : Target :=
  { hash := [(exId2, exCp)],
    cps := fun db n => if n = exCp ∧ db = 2 then
      [⟨exId2, .runid, exId2⟩, ⟨exId2, .offset, [53, 48]⟩, ⟨exId1, .offset, [55, 48]⟩] else [] }
example : startPoint [49] [exId1, exId2] [2] exOrph = some (some (70, 2)) := by decide +kernel
example : startPoint [49] [exId1, exId2] [2]
    (applyAll (applyAll exOrph ((updateReqs [49] exOrph exCp [exId1, exId2] [2] [2] 9).take 1))
      (updateReqs [49] (applyAll exOrph ((updateReqs [49] exOrph exCp [exId1, exId2] [2] [2] 9).take 1)) exCp
        [exId1, exId2] [2] [2] 11)) = some (some (70, 2)) := by decide +kernel
example : startPoint [49] [exId1, exId2] [2]
    (nextStart [49] (applyAll exOrph ((updateReqs [49] exOrph exCp [exId1, exId2] [2] [2] 9).take 1)) exCp
      [exId1, exId2] [2] [2] 11) = some (some (70, 2)) := by decide +kernel

/-- the preconditions of `gc_prefix_safe` are met; gc deletes the stale entry of database 5 -/
example : GcPre exId1 exId2 [exId1, exId2] exT exCp exId2 2 700 :=
  { hne := by decide, h1 := by decide, h1q := by decide, h2q := by decide,
    live1 := by decide, live2 := by decide, hn := by decide, hn0 := by decide,
    holds := ex_holds, own := ex_own,
    carrier := Or.inr ⟨by rw [exT_cps]; decide, by rw [exT_cps]; decide⟩ }
example : gcReqs exT [exId1, exId2] 10 [[5, 2]]
    = [Req.hdelCp 5 exCp (staleKeys exId2 true)] := by decide +kernel

/-- the shape the replay path leaves: the NEWEST entry (database 2) has no `_mtime` field at all
    (Mtime reads 0, "stale" for every threshold) — gc still only deletes the older entry of database 5 -/
def exNoMt : Target :=
  { hash := [(exId2, exCp)],
    cps := fun db n => if n = exCp then
      (if db = 2 then [⟨exId2, .runid, exId2⟩, ⟨exId2, .offset, [55, 48, 48]⟩]
       else if db = 5 then [⟨exId2, .mtime, [53]⟩, ⟨exId2, .runid, exId2⟩, ⟨exId2, .offset, [49, 48, 48]⟩]
       else []) else [] }
example : gcReqs exNoMt [exId1, exId2] 10 [[5, 2]] = [Req.hdelCp 5 exCp (staleKeys exId2 true)] := by decide +kernel
example : startPoint [49] [exId1, exId2] [5, 2] (applyAll exNoMt (gcReqs exNoMt [exId1, exId2] 10 [[5, 2]]))
    = some (some (700, 2)) := by decide +kernel

/-- the strict maximum (`Holds.dom`) is needed: with EQUAL offsets in two databases
    `GetCheckpoint` breaks the tie by mtime, `DelStaleCheckpoint` by iteration order —
    gc visiting database 5 first deletes the entry the next start would have chosen, and
    the resume position moves to another database. (After the C02 repair stored offsets
    in different databases are never equal; the tie is outside the reachable states.) -/
def exTie : Target :=
  { hash := [(exId2, exCp)],
    cps := fun db n => if n = exCp then
      (if db = 2 then [⟨exId2, .mtime, [57]⟩, ⟨exId2, .runid, exId2⟩, ⟨exId2, .offset, [49, 48, 48]⟩]
       else if db = 5 then [⟨exId2, .mtime, [53]⟩, ⟨exId2, .runid, exId2⟩, ⟨exId2, .offset, [49, 48, 48]⟩]
       else []) else [] }
example : startPoint [49] [exId1, exId2] [5, 2] exTie = some (some (100, 2)) := by decide +kernel
example : startPoint [49] [exId1, exId2] [5, 2]
    (applyAll exTie (gcReqs exTie [exId1, exId2] 20 [[5, 2]])) = some (some (100, 5)) := by decide +kernel

/-! ### non-vacuity of `migrate_prefix_safe`: sync → parallel with a root checkpoint (700)
    newer than the latest record (650): 4 requests, the new namespace is seeded with 700 -/
def exM : Target :=
  { hash := [(exId1, exCp)],
    cps := fun db n => if n = exCp ∧ db = 0 then
      [⟨exId1, .runid, exId1⟩, ⟨exId1, .offset, [55, 48, 48]⟩, ⟨modeField, .other, BMode.bytes .sync⟩]
      else [] }
def exNs : Frontier.NS := { latest := some { seq := 4, endOff := 650, mtime := 3, runId := exId1 } }
def exNew : Bytes := [100]

theorem ex_migPre (t : Target) (L : Cp) (nows : List Int) (hh : t.hash = [(exId1, exCp)])
    (hc : ∀ db n, t.cps db n = if n = exCp ∧ db = 0 then L else [])
    (hL : Parses [exId1, exId2] L ∧ offOf [exId1, exId2] L = 700 ∧ ridOf [exId1, exId2] L ≠ qmark ∧
      ∀ e ∈ L, e.kind = .runid → e.val = e.rid)
    (hnows : ∀ x ∈ nows, -(2^63 : Int) ≤ x ∧ x < 2^63) :
    MigPre [49] exId1 exId2 exCp exId1 exNew t exNs 700 nows := by
  have h0 : t.cps 0 exCp = L := by rw [hc, if_pos ⟨rfl, rfl⟩]
  have hne : ∀ db, db ≠ 0 → t.cps db exCp = [] := fun db hdb => by rw [hc, if_neg fun h => hdb h.2]
  refine ⟨⟨by decide, by decide, by decide, by decide, by decide, by decide, by decide⟩, by decide,
    by rw [hh]; decide, by decide, ⟨by decide, fun db => ?_, h0 ▸ hL.2.1, h0 ▸ hL.2.2.1, fun db hdb => ?_⟩,
    fun db => ?_, fun db e he => ?_, fun cur sd h => ?_, hnows⟩
  · by_cases hdb : db = 0
    · exact hdb ▸ h0 ▸ hL.1
    · rw [hne db hdb]; exact fun _ h => (nomatch h)
  · rw [hne db hdb]; exact fun _ h => (nomatch h)
  · by_cases hdb : db = 0
    · exact hdb ▸ h0 ▸ hL.2.2.2
    · rw [hne db hdb]; exact fun _ h => (nomatch h)
  · rw [hc, if_neg fun h => absurd h.1 (by decide)] at he; cases he
  · have : (loadSeed [49] exNs [exId1, exId2] cur).all
        (fun sd => decide (-(2^63 : Int) ≤ sd.offset ∧ sd.offset < 2^63)) = true := by cases cur <;> decide
    rw [h] at this; exact of_decide_eq_true this

theorem exM_pre : MigPre [49] exId1 exId2 exCp exId1 exNew exM exNs 700 [5, 6] :=
  ex_migPre exM _ _ rfl (fun _ _ => rfl) (by unfold Parses; decide) (by decide)

example : (migrateReqs [49] exM exNs [exId1, exId2] .parallel exNew [5, 6] [0]).length = 4 := by decide +kernel
example : startPoint [49] [exId1, exId2] [0]
    (applyAll exM ((migrateReqs [49] exM exNs [exId1, exId2] .parallel exNew [5, 6] [0]).take 3))
    = some (some (700, 0)) := by decide +kernel

end GunYu.Props.C17
