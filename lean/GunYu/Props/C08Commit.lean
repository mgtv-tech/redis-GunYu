/-
  C08 — the COMMIT of a cached snapshot: `RdbWriter.closeRdb` after the last
  announced byte has been written —

      Sync ; Close ; os.Rename(x.rdb.tmp, x.rdb) ; observer.Close(left, size, false)

  — with a failure at any of the three syscalls (repaired in /repo 45f65ae: sync, close and
  rename must ALL succeed before the index is told; otherwise the snapshot is dropped like an
  incomplete one: `Close(left, size, true)` + `os.Remove(tmp)`, and `Wait` returns the error).

  Model: `XOp.rdbCommitFail chunk ren rmOk` (Model/StoreFsX.lean) — the last chunk reaches the
  temporary file, `ren` = the rename was attempted (sync and close had succeeded) and failed,
  `rmOk` = the removal of the temporary file succeeded. Sync and Close are not directory
  operations: under process-death semantics a cut before / after them is the same directory
  image as the cut after the last write, so "cut at every syscall" = every prefix of
  [append, (failed rename), remove] with the append torn at every length.

  Because `rdbCommitFail` is a constructor of `XOp`, EVERY theorem over scripts with faults
  (`fault_crash_bytes_true`, `fault_crash_snapshot_true`, `resume_*`, `root_*`, `live_*`,
  `closed_segment_file_exact`) quantifies over scripts with failing commits anywhere; the
  theorems below say what is specific to the step.

  Also here: a committed NAME whose file has another size than announced is not offered
  (`reopen_snapshot_sized`, `wrong_size_snapshot_not_offered`: the size defence of `initDataSet`).
-/
import GunYu.Props.C08Faults
import GunYu.Proofs.StoreRoot

namespace GunYu.Props.C08
open GunYu GunYu.Store GunYu.StoreFs GunYu.StoreFsX

/-- the step is the failing commit (not its fall-back `rdbAppend`): a snapshot writer is attached
    and `chunk` is the last announced piece -/
def CommitPoint (s : XDisk) (r : DRdb) (chunk : Bytes) : Prop :=
  s.d.rdb = some r ∧ r.writing = true ∧ r.data.length + chunk.length = r.size

theorem commitFail_step {s : XDisk} {r : DRdb} {chunk : Bytes} (h : CommitPoint s r chunk) (ren rmOk : Bool) :
    xstep s (.rdbCommitFail chunk ren rmOk) =
      (⟨(s.d.step .rdbClose).1, s.fs.applyAll (okOps (commitFailAtts r chunk ren rmOk)), s.zombies⟩,
       commitFailAtts r chunk ren rmOk) := by
  obtain ⟨hr, hw, hl⟩ := h
  simp only [xstep, hr, hw, hl, Bool.true_and, decide_true, if_true]

/-- **commit_fail_dropped.** A commit that fails — at the sync, the close or the rename — is not
    announced: the index holds no snapshot afterwards, no rename took effect, and the attempted
    syscalls are exactly: the last write, the rename (only if sync and close succeeded), the
    removal of the temporary file. -/
theorem commit_fail_dropped {s : XDisk} {r : DRdb} {chunk : Bytes} (h : CommitPoint s r chunk) (ren rmOk : Bool) :
    (xstep s (.rdbCommitFail chunk ren rmOk)).1.d.rdb = none ∧
    (∀ o ∈ okOps (xstep s (.rdbCommitFail chunk ren rmOk)).2, ∀ a b, o ≠ .rename a b) ∧
    (xstep s (.rdbCommitFail chunk ren rmOk)).2 =
      [⟨.append (rdbTmpName r.left r.size) chunk, true⟩] ++
      (if ren then [⟨.rename (rdbTmpName r.left r.size) (rdbName r.left r.size), false⟩] else []) ++
      [⟨.remove (rdbTmpName r.left r.size), rmOk⟩] := by
  rw [commitFail_step h]
  refine ⟨?_, ?_, rfl⟩
  · simp only [Disk.step, h.1, h.2.1, if_true]
  · intro o ho a b e
    rcases commitFail_okOps_mem r chunk ren rmOk o ho with rfl | rfl <;> cases e

theorem tornLastX_names (ops : List FsOp) (k : Nat) :
    ∀ o ∈ tornLastX ops k, ∃ o' ∈ ops, o.names = o'.names := by
  intro o ho
  unfold tornLastX at ho
  split at ho
  · rename_i n bs hl
    rcases List.mem_append.mp ho with h1 | h1
    · exact ⟨o, List.dropLast_subset _ h1, rfl⟩
    · simp at h1; subst h1
      exact ⟨_, List.mem_of_getLast? hl, rfl⟩
  · rename_i n hdr hl
    rcases List.mem_append.mp ho with h1 | h1
    · exact ⟨o, List.dropLast_subset _ h1, rfl⟩
    · simp at h1; subst h1
      exact ⟨_, List.mem_of_getLast? hl, rfl⟩
  · exact ⟨o, ho, rfl⟩

/-- **commit_fail_crash_not_offered.** The process dies at ANY point of a failing commit (after
    `n` of its operations, the last write torn after `k` bytes — i.e. before or after the sync, the
    close, the failed rename, the announcement `Close(.., true)`, the removal): a snapshot the
    re-opened cache offers was a committed file of the directory BEFORE the step. The snapshot
    whose commit failed is never offered on the strength of this step. -/
theorem commit_fail_crash_not_offered {s : XDisk} {r : DRdb} {chunk : Bytes} (h : CommitPoint s r chunk)
    (ren rmOk : Bool) (n k L S : Nat)
    (ho : (reopen (crashImageX s.fs (okOps (xstep s (.rdbCommitFail chunk ren rmOk)).2) n k)).rdb = some (L, S)) :
    ∃ c, s.fs.get (rdbName L S) = some c := by
  rw [commitFail_step h] at ho
  obtain ⟨c', hget, _⟩ := reopen_rdb_okP (P := fun _ _ _ => True) (fun _ _ _ _ _ => trivial) ho
  refine ⟨c', ?_⟩
  rw [← hget]
  symm
  apply get_applyAll_other
  intro o hoo
  obtain ⟨o', ho', hn⟩ := tornLastX_names _ k o hoo
  rw [hn, commitFail_okOps_names r chunk ren rmOk o' (List.mem_of_mem_take ho')]
  simp [rdbName, rdbTmpName]

/-- **commit_fail_then_nothing_new_offered**, for whole scripts from the empty store: a script
    whose LAST step is a failing commit, cut anywhere: what is offered is complete and is what a
    snapshot writer of the script received (instance of `fault_crash_snapshot_true`: the theorems
    over `XOp` cover the new step) -/
theorem commit_fail_script_snapshot_true (l m : Nat) (xs : List XOp) (chunk : Bytes) (ren rmOk : Bool)
    (hwf : wfX (XDisk.init l m) (xs ++ [.rdbCommitFail chunk ren rmOk])) (n k L S : Nat) :
    let img := crashImageX [] (xScriptOps (XDisk.init l m) (xs ++ [.rdbCommitFail chunk ren rmOk])) n k
    (reopen img).rdb = some (L, S) → ∃ c, img.get (rdbName L S) = some c ∧ c.length = S :=
  fault_crash_snapshot_complete l m _ hwf n k L S

/-! ### a committed NAME whose file has another size than announced -/

/-- **reopen_snapshot_sized.** For ANY directory image — not only crash images of the writers —
    a snapshot the re-opened cache offers is a file holding exactly the announced number of
    bytes: `initDataSet` compares `info.Size()` with the size in the name (a /repo fix;
    before it the NAME was trusted whatever the file held). The length part of `SnapOk` for the
    OFFERED snapshot is a theorem of `reopen`, not a hypothesis. -/
theorem reopen_snapshot_sized (fs : FS) (l sz : Nat) (h : (reopen fs).rdb = some (l, sz)) :
    ∃ c, fs.get (rdbName l sz) = some c ∧ c.length = sz := by
  obtain ⟨c', hget, _⟩ := reopen_rdb_okP (P := fun _ _ _ => True) (fun _ _ _ _ _ => trivial) h
  refine ⟨c', hget, ?_⟩
  have := scanRdb_sized (reopen_rdb_some h)
  rw [hget] at this
  exact this

/-- **wrong_size_snapshot_not_offered.** A committed name with fewer (or more) bytes than
    announced — what a POWER LOSS can leave when the rename reaches the disk before the data, a
    copy cut short, a file-system repair — is NOT offered after re-opening, whatever else the
    directory holds. (No process death at a syscall of the writers produces such a file:
    `fault_crash_snapshot_complete`; this theorem widens the covered images to any image in which
    a committed name has the wrong size.) Lost pages INSIDE a full-length file are detected only by
    the optional CRC footer with verification on. -/
theorem wrong_size_snapshot_not_offered (fs : FS) (l sz : Nat)
    (h : ∀ c, fs.get (rdbName l sz) = some c → c.length ≠ sz) : (reopen fs).rdb ≠ some (l, sz) := by
  intro ho
  obtain ⟨c, hget, hlen⟩ := reopen_snapshot_sized fs l sz ho
  exact h c hget hlen

/-! ### `changeReplId` (pkg/store/util.go) and its second branch -/

/-- `changeReplId(dir, a, b)` as directory-level syscalls: `none` = the error of `Stat(a)` is
    returned; `b` absent: `os.Rename(a, b)`; `b` PRESENT (second branch): `os.RemoveAll(b)` (the
    entries in `readdir` order `order`, then the directory) and `os.MkdirAll(a)` — no syscall effect,
    `a` exists. -/
def changeReplIdSys (r : Root) (a b : String) (order : List FName) : Option (List RSys) :=
  if !r.has a then none
  else if !r.has b then some [.renameDir a b]
  else some (order.map (RSys.unlink b) ++ [.rmdir b])

/-- **changeReplId_second_branch_unreachable.** Whenever `SetRunId` calls `changeReplId` (its two
    guards — no current directory / the new id has a directory — did not send it to `newRunId`),
    the new id has NO directory: `changeReplId` takes its first branch, the rename, and that is
    the first thing `setRunIdSys` issues. The second branch (RemoveAll of the new id's directory)
    needs another process to create `<base>/<new>` between `ExistReplId` and `Stat` — outside the
    model (one process owns the base directory). -/
theorem changeReplId_second_branch_unreachable (r : Root) (cur new : String) (order : List FName)
    (hreal : realId new = true) (h : setRunIdRenames r cur new = true) :
    changeReplIdSys r cur new order = some [.renameDir cur new] ∧
    setRunIdSys r cur new = [.renameDir cur new] ++ newRunIdSys (r.applySys (.renameDir cur new)) cur new := by
  simp only [setRunIdRenames, Bool.and_eq_true, Bool.not_eq_true', Bool.or_eq_false_iff, Bool.not_eq_false'] at h
  obtain ⟨⟨h1, h2⟩, h3, h4⟩ := h
  constructor
  · simp [changeReplIdSys, h2, h4]
  · simp [setRunIdSys, hreal, h1, h2, h3, h4]

/-- **placeholder_id_ignored.** `SetRunId("")` / `SetRunId("?")` issue no syscall whatever the
    current id and the directories are (/repo 02e084c: before it, "?" with a current directory
    renamed that directory to `<base>/?`). -/
theorem placeholder_id_ignored (r : Root) (cur new : String) (h : realId new = false) :
    setRunIdSys r cur new = [] := by
  simp [setRunIdSys, h]

-- the second branch, had it been reached: the NEW id's directory is destroyed, the old one stays
-- under its old name (nothing of it is served under the new id)
example : changeReplIdSys [("A", [(.aof 100, [1])]), ("B", [(.aof 7, [2])])] "A" "B" [.aof 7] =
    some [.unlink "B" (.aof 7), .rmdir "B"] := by decide
example : (Root.applyAllSys [("A", [(.aof 100, [1])]), ("B", [(.aof 7, [2])])]
    [.unlink "B" (.aof 7), .rmdir "B"]).map (·.1) = ["A"] := by decide
example : setRunIdSys [("A", [])] "A" "?" = [] := placeholder_id_ignored _ _ _ rfl
example : setRunIdRenames [("A", [])] "A" "C" = true := by decide

/-! ### non-vacuity -/

/-- a snapshot whose commit fails at the rename (temporary file removed), received again and
    committed; then one whose commit fails at the sync and whose temporary file stays -/
def exCommit : List XOp :=
  [.op (.setRunId "a"), .op (.newRdbWriter 200 3), .op (.rdbAppend [7]), .rdbCommitFail [8, 9] true true,
   .op (.newRdbWriter 200 3), .op (.rdbAppend [7, 8, 9]),
   .op (.newRdbWriter 300 2), .rdbCommitFail [1, 2] false false]

example : wfX (XDisk.init 24 30) exCommit := by decide

-- the attempted syscalls of the first failing commit: write, failed rename, removal
example : ((xrun (XDisk.init 24 30) (exCommit.take 4)).drop 2) =
    [⟨.append (.rdbTmp 200 3) [8, 9], true⟩, ⟨.rename (.rdbTmp 200 3) (.rdb 200 3), false⟩,
     ⟨.remove (.rdbTmp 200 3), true⟩] := by decide +kernel

-- at the commit point the hypotheses of the step theorems hold
example : CommitPoint (xfinal (XDisk.init 24 30) (exCommit.take 3))
    ⟨200, 3, [7], true, false⟩ [8, 9] := ⟨by decide +kernel, rfl, rfl⟩

-- nothing is offered at any cut of the failing commit (here: after the complete last write)
example : (reopen (crashImageX [] (xScriptOps (XDisk.init 24 30) (exCommit.take 4)) 3 9)).rdb = none := by
  decide +kernel
-- the index dropped it
example : (xfinal (XDisk.init 24 30) (exCommit.take 4)).d.rdb = none := by decide +kernel
-- received again: offered, complete
example : (reopen (xfinal (XDisk.init 24 30) (exCommit.take 6)).fs).rdb = some (200, 3) := by decide +kernel
-- the second failing commit: the complete temporary file STAYS (removal failed) and is not offered
example : (xfinal (XDisk.init 24 30) exCommit).fs = [(.rdbTmp 300 2, [1, 2])] := by decide +kernel
example : (reopen (xfinal (XDisk.init 24 30) exCommit).fs).rdb = none := by decide +kernel

-- a committed name with 1 of 3 announced bytes is NOT offered; an older well-sized snapshot beside it is
example : (reopen [(rdbName 200 3, [7])]).rdb = none := by decide +kernel
example : (reopen [(rdbName 200 3, [7, 8, 9])]).rdb = some (200, 3) := by decide +kernel
example : (reopen [(rdbName 100 2, [1, 2]), (rdbName 200 3, [7])]).rdb = some (100, 2) := by decide +kernel

end GunYu.Props.C08
