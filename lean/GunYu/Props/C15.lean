/-
  C15 — At most one instance holds a source's leader lease at any time.

  Property theorems only (helper lemmas: Proofs/Lease.lean). Quantifier: every
  list of events `campaign | renew | resign | leader | tick δ | lost call
  (script applied or not)` by any number of instances on any number of
  election keys, from any initial store contents and clock. The two Lua
  scripts are the ASTs regenerated from pkg/cluster/redis_election.go
  (Gen/LeaseScripts.lean); `cfg id` is instance `id`'s ttl in seconds.

  Assumptions (named in the evidence): one `evalLua` is atomic and the lease
  store has one authoritative clock; instance ids are distinct; ttl ≥ 1 s
  (`lease_bounds` below gives ttl ≥ 3 for every configuration `fix` accepts).
-/
import GunYu.Model.Lease
import GunYu.Proofs.Lease
import GunYu.Model.LeaseTimed
import GunYu.Proofs.LeaseTimed

namespace GunYu.Props.C15
open GunYu GunYu.Lease

/-! ### at most one holder -/

/-- For EVERY list of events, from any initial store and clock, two instances
    that both were told "leader" for `key` and whose lease (counted from their
    last successful campaign/renew) has not run out are the same instance. -/
theorem at_most_one_holder (cfg : Bytes → Nat) (hcfg : ∀ id, 1 ≤ cfg id)
    (st : Store) (now : Nat) (evs : List Ev) (key i j : Bytes)
    (hi : holder (run cfg (Sys.init st now) evs) key i)
    (hj : holder (run cfg (Sys.init st now) evs) key j) : i = j := by
  have hinv : Inv cfg (run cfg (Sys.init st now) evs) :=
    inv_run evs (inv_init cfg st now) (fun ev _ => by cases ev <;> simp [Ev.ttlOk, hcfg])
  exact holder_unique_of_inv hinv hi hj

/-- "at any time": the same at every point of the schedule -/
theorem at_most_one_holder_always (cfg : Bytes → Nat) (hcfg : ∀ id, 1 ≤ cfg id)
    (st : Store) (now : Nat) (evs : List Ev) (n : Nat) (key i j : Bytes)
    (hi : holder (run cfg (Sys.init st now) (evs.take n)) key i)
    (hj : holder (run cfg (Sys.init st now) (evs.take n)) key j) : i = j :=
  at_most_one_holder cfg hcfg st now (evs.take n) key i j hi hj

/-- a holder's value is what the lease store shows for the key, unexpired -/
theorem holder_is_in_store (cfg : Bytes → Nat) (hcfg : ∀ id, 1 ≤ cfg id)
    (st : Store) (now : Nat) (evs : List Ev) (key i : Bytes)
    (hi : holder (run cfg (Sys.init st now) evs) key i) :
    ∃ e, lookup (run cfg (Sys.init st now) evs).store (run cfg (Sys.init st now) evs).now key = some e
         ∧ e.val = i := by
  have hinv : Inv cfg (run cfg (Sys.init st now) evs) :=
    inv_run evs (inv_init cfg st now) (fun ev _ => by cases ev <;> simp [Ev.ttlOk, hcfg])
  obtain ⟨d, ht, hd⟩ := hi
  obtain ⟨e, hs, hv, hde⟩ := (hinv key i d ht).2 hd
  exact ⟨e, lookup_of_live hs (Nat.le_trans hd hde), hv⟩

/-! Non-vacuity: instances a = "a", b = "b" on key "k", ttl 3 s. -/
section examples
def exCfg : Bytes → Nat := fun _ => 3
def kK : Bytes := [107]
def iA : Bytes := [97]
def iB : Bytes := [98]
def exRun (evs : List Ev) : Sys := run exCfg (Sys.init Store.empty 5) evs

-- a wins, b is refused, both believe the right thing
example : isHolder (exRun [.campaign kK iA, .campaign kK iB]) kK iA = true := by decide +kernel
example : isHolder (exRun [.campaign kK iA, .campaign kK iB]) kK iB = false := by decide +kernel
-- a stops; 3001 ms later b takes over and a no longer counts
example : isHolder (exRun [.campaign kK iA, .tick 3001, .campaign kK iB]) kK iB = true := by decide +kernel
example : isHolder (exRun [.campaign kK iA, .tick 3001, .campaign kK iB]) kK iA = false := by decide +kernel
-- exactly at the expiry instant the key is still live: b is refused
example : (step exCfg (exRun [.campaign kK iA, .tick 3000]) (.campaign kK iB)).2 = .role .follower .ok := by decide +kernel
-- a lost-but-applied campaign of b blocks a although nobody believes to lead
example : (step exCfg (exRun [.lostCampaign kK iB true]) (.campaign kK iA)).2 = .role .follower .ok := by decide +kernel
example : isHolder (exRun [.lostCampaign kK iB true, .campaign kK iA]) kK iB = false := by decide +kernel
-- the hypothesis of the theorem is met by a state with a holder
example : holder (exRun [.campaign kK iA, .renew kK iA]) kK iA := ⟨3005, by decide, by decide⟩
end examples

/-! ### a campaign or renewal succeeds only for the current holder or when no unexpired lease exists -/

theorem success_only_holder_or_free (cfg : Bytes → Nat) (s : Sys) (key id : Bytes) (h1 : 1 ≤ cfg id) :
    ((step cfg s (.campaign key id)).2 = .role .leader .ok ↔
      (lookup s.store s.now key = none ∨ ∃ e, lookup s.store s.now key = some e ∧ e.val = id)) ∧
    ((step cfg s (.renew key id)).2 = .err .ok ↔
      (lookup s.store s.now key = none ∨ ∃ e, lookup s.store s.now key = some e ∧ e.val = id)) := by
  rcases campaign_cases s.store s.now key id (cfg id) h1 with ⟨hf, hc⟩ | ⟨⟨e, hl, hv⟩, hc⟩
  · simp only [step, hc, campaignResult, replyInt, renewResult, ↓reduceIte, true_iff]
    exact ⟨hf, hf⟩
  · simp only [step, hc, campaignResult, replyInt, renewResult, hl]
    simp [hv]

/-- otherwise the answer is "follower" (campaign) / ErrNotLeader (renew), never leader -/
theorem refused_when_foreign (cfg : Bytes → Nat) (s : Sys) (key id : Bytes) (h1 : 1 ≤ cfg id)
    (e : Entry) (hl : lookup s.store s.now key = some e) (hv : e.val ≠ id) :
    (step cfg s (.campaign key id)).2 = .role .follower .ok ∧
    (step cfg s (.renew key id)).2 = .err .notLeader ∧
    (step cfg s (.campaign key id)).1.store = s.store := by
  rcases campaign_cases s.store s.now key id (cfg id) h1 with ⟨hf, _⟩ | ⟨_, hc⟩
  · rcases hf with hf | ⟨e2, hf, hv2⟩
    · rw [hf] at hl; cases hl
    · rw [hf] at hl; cases hl; exact absurd hv2 hv
  · simp [step, hc, campaignResult, replyInt, renewResult]

-- non-vacuity: free, own, foreign
example : (step exCfg (exRun []) (.campaign kK iA)).2 = .role .leader .ok := by decide +kernel
example : (step exCfg (exRun [.campaign kK iA, .tick 2000]) (.renew kK iA)).2 = .err .ok := by decide +kernel
example : lookup (exRun [.campaign kK iA]).store (exRun [.campaign kK iA]).now kK = some ⟨iA, 3005⟩ := by decide +kernel

/-! ### a failed renewal is reported as loss of leadership -/

/-- A renewal either extends the caller's lease to a full ttl from now and
    returns nil, or — exactly when an unexpired lease of somebody else
    exists — changes nothing in the store, returns ErrNotLeader, and the
    caller no longer counts as holder. -/
theorem failed_renew_reports_loss (cfg : Bytes → Nat) (s : Sys) (key id : Bytes) (h1 : 1 ≤ cfg id) :
    ((step cfg s (.renew key id)).2 = .err .ok ∧
      (step cfg s (.renew key id)).1.store key = some ⟨id, s.now + cfg id * 1000⟩ ∧
      holder (step cfg s (.renew key id)).1 key id) ∨
    ((step cfg s (.renew key id)).2 = .err .notLeader ∧
      (∃ e, lookup s.store s.now key = some e ∧ e.val ≠ id) ∧
      (step cfg s (.renew key id)).1.store = s.store ∧
      ¬ holder (step cfg s (.renew key id)).1 key id) := by
  rcases campaign_cases s.store s.now key id (cfg id) h1 with ⟨_, hc⟩ | ⟨hf, hc⟩
  · left
    simp only [step, hc, campaignResult, replyInt, renewResult, ↓reduceIte, toldAfter, set_same,
      true_and]
    exact ⟨_, setTold_same _ _ _ _, Nat.le_add_right _ _⟩
  · right
    simp only [step, hc, campaignResult, replyInt, renewResult, toldAfter]
    simp only [show ¬ ((0:Nat) = 1) by decide, ↓reduceIte, true_and]
    refine ⟨hf, ?_⟩
    rintro ⟨d, ht, _⟩
    simp [setTold_same] at ht

-- non-vacuity: b took over after a's lease ran out; a's renewal fails and is reported
example : (step exCfg (exRun [.campaign kK iA, .tick 3001, .campaign kK iB]) (.renew kK iA)).2
    = .err .notLeader := by decide +kernel
example : isHolder (exRun [.campaign kK iA, .tick 3001, .campaign kK iB, .renew kK iA]) kK iA = false := by
  decide +kernel

/-! ### resigning releases only one's own lease -/

theorem resign_only_own (cfg : Bytes → Nat) (s : Sys) (key id : Bytes) :
    (∀ k, k ≠ key → (step cfg s (.resign key id)).1.store k = s.store k) ∧
    ((∃ e, lookup s.store s.now key = some e ∧ e.val = id) →
        lookup (step cfg s (.resign key id)).1.store s.now key = none) ∧
    (¬ (∃ e, lookup s.store s.now key = some e ∧ e.val = id) →
        (step cfg s (.resign key id)).1.store = s.store) ∧
    (step cfg s (.resign key id)).1.now = s.now := by
  simp only [step, resignCall_eq_spec]
  unfold resignSpec
  cases hl : lookup s.store s.now key with
  | none => simp
  | some e =>
    by_cases hv : e.val = id
    · simp only [hv, ↓reduceIte]
      refine ⟨fun k hk => del_other _ _ _ hk, fun _ => ?_, fun h => absurd ⟨e, rfl, hv⟩ h, trivial⟩
      simp [lookup, del_same]
    · simp only [hv, ↓reduceIte]
      refine ⟨?_, ?_, ?_, ?_⟩
      · intro _ _; trivial
      · rintro ⟨e2, h2, hv2⟩
        cases h2; exact absurd hv2 hv
      · intro _; trivial
      · trivial

/-- the same holds for a resign whose reply was lost but whose script ran -/
theorem lost_resign_only_own (cfg : Bytes → Nat) (s : Sys) (key id : Bytes) (applied : Bool) :
    (step cfg s (.lostResign key id applied)).1.store = s.store ∨
    (step cfg s (.lostResign key id applied)).1.store = (step cfg s (.resign key id)).1.store := by
  cases applied <;> simp [step]

-- non-vacuity: b's resign leaves a's lease alone; a's own resign frees the key
example : lookup (exRun [.campaign kK iA, .resign kK iB]).store 5 kK = some ⟨iA, 3005⟩ := by decide +kernel
example : lookup (exRun [.campaign kK iA, .resign kK iA]).store 5 kK = none := by decide +kernel
example : (step exCfg (exRun [.campaign kK iA, .resign kK iA]) (.campaign kK iB)).2 = .role .leader .ok := by
  decide +kernel

/-! ### an instance that stops renewing ceases to be the holder within one lease period -/

/-- Between two of its own calls an instance counts as holder exactly while
    the store's clock is within one ttl of its last successful renewal,
    whatever the others do. (What the instance DOES in that time — keep
    `RunLeader` going until an answer tells it otherwise — is cmd/syncer.go
    `clusterTicker`, see `ticker_failed_renewal_stops_leader`; an instance
    whose renewal call never returns is outside this model.) -/
theorem holder_until_deadline (cfg : Bytes → Nat) (s : Sys) (key id : Bytes) (h1 : 1 ≤ cfg id)
    (hok : (step cfg s (.renew key id)).2 = .err .ok)
    (evs : List Ev) (hstop : ∀ ev ∈ evs, ev.isBy key id = false) :
    holder (run cfg (step cfg s (.renew key id)).1 evs) key id ↔
      (run cfg (step cfg s (.renew key id)).1 evs).now ≤ s.now + cfg id * 1000 := by
  have htold : (run cfg (step cfg s (.renew key id)).1 evs).told key id
      = some (s.now + cfg id * 1000) := by
    rw [told_run_notBy cfg evs _ key id hstop]
    rcases campaign_cases s.store s.now key id (cfg id) h1 with ⟨_, hc⟩ | ⟨_, hc⟩
    · simp only [step, hc, campaignResult, replyInt, ↓reduceIte, toldAfter, setTold_same]
    · simp [step, hc, campaignResult, replyInt, renewResult] at hok
  constructor
  · rintro ⟨d, ht, hd⟩
    rw [htold] at ht; cases ht; exact hd
  · intro h; exact ⟨_, htold, h⟩

/-- Hence: after a successful campaign/renew of `id` at store time `s.now`, if `id`
    issues no further call for `key`, then whatever everybody else does, once
    the store's clock is past `s.now + ttl·1000` the instance is not a holder,
    and the store no longer shows an unexpired lease with its value. -/
theorem expiry_bound (cfg : Bytes → Nat) (s : Sys) (key id : Bytes) (h1 : 1 ≤ cfg id)
    (hok : (step cfg s (.renew key id)).2 = .err .ok)
    (evs : List Ev) (hstop : ∀ ev ∈ evs, ev.isBy key id = false)
    (hlate : s.now + cfg id * 1000 < (run cfg (step cfg s (.renew key id)).1 evs).now) :
    ¬ holder (run cfg (step cfg s (.renew key id)).1 evs) key id ∧
    ∀ e, lookup (run cfg (step cfg s (.renew key id)).1 evs).store
           (run cfg (step cfg s (.renew key id)).1 evs).now key = some e → e.val ≠ id := by
  refine ⟨fun h => ?_, fun e hl hv => ?_⟩
  · have := (holder_until_deadline cfg s key id h1 hok evs hstop).1 h
    omega
  · rcases campaign_cases s.store s.now key id (cfg id) h1 with ⟨_, hc⟩ | ⟨_, hc⟩
    · have hbound : OwnBound (step cfg s (.renew key id)).1 key id (s.now + cfg id * 1000) := by
        intro e he _
        simp only [step, hc, set_same] at he
        cases he; exact Nat.le_refl _
      obtain ⟨hs, hle⟩ := lookup_some hl
      have := ownBound_run cfg evs _ key id _ hstop hbound e hs hv
      omega
    · simp [step, hc, campaignResult, replyInt, renewResult] at hok

/-- same statement for a successful campaign -/
theorem expiry_bound_campaign (cfg : Bytes → Nat) (s : Sys) (key id : Bytes) (h1 : 1 ≤ cfg id)
    (hok : (step cfg s (.campaign key id)).2 = .role .leader .ok)
    (evs : List Ev) (hstop : ∀ ev ∈ evs, ev.isBy key id = false)
    (hlate : s.now + cfg id * 1000 < (run cfg (step cfg s (.campaign key id)).1 evs).now) :
    ¬ holder (run cfg (step cfg s (.campaign key id)).1 evs) key id ∧
    ∀ e, lookup (run cfg (step cfg s (.campaign key id)).1 evs).store
           (run cfg (step cfg s (.campaign key id)).1 evs).now key = some e → e.val ≠ id := by
  have hsame : (step cfg s (.campaign key id)).1 = (step cfg s (.renew key id)).1 := by simp [step]
  have hok' : (step cfg s (.renew key id)).2 = .err .ok :=
    ((success_only_holder_or_free cfg s key id h1).2).2 (((success_only_holder_or_free cfg s key id h1).1).1 hok)
  rw [hsame] at hlate ⊢
  exact expiry_bound cfg s key id h1 hok' evs hstop hlate

/-- Takeover: once the instance that stopped calling is one lease period past
    its last successful renewal, a campaign of any other instance `j` is
    answered "leader" — unless a THIRD party's unexpired lease is in the way. -/
theorem takeover_possible (cfg : Bytes → Nat) (s : Sys) (key id j : Bytes)
    (h1 : 1 ≤ cfg id) (hj : 1 ≤ cfg j)
    (hok : (step cfg s (.renew key id)).2 = .err .ok) (evs : List Ev)
    (hstop : ∀ ev ∈ evs, ev.isBy key id = false)
    (hlate : s.now + cfg id * 1000 < (run cfg (step cfg s (.renew key id)).1 evs).now) :
    (step cfg (run cfg (step cfg s (.renew key id)).1 evs) (.campaign key j)).2 = .role .leader .ok ∨
    ∃ e, lookup (run cfg (step cfg s (.renew key id)).1 evs).store
           (run cfg (step cfg s (.renew key id)).1 evs).now key = some e ∧ e.val ≠ id ∧ e.val ≠ j := by
  have hb := (expiry_bound cfg s key id h1 hok evs hstop hlate).2
  have hiff := (success_only_holder_or_free cfg (run cfg (step cfg s (.renew key id)).1 evs) key j hj).1
  cases hl : lookup (run cfg (step cfg s (.renew key id)).1 evs).store
      (run cfg (step cfg s (.renew key id)).1 evs).now key with
  | none => exact Or.inl (hiff.2 (Or.inl hl))
  | some e =>
    by_cases hv : e.val = j
    · exact Or.inl (hiff.2 (Or.inr ⟨e, hl, hv⟩))
    · exact Or.inr ⟨e, rfl, hb e hl, hv⟩

-- non-vacuity: a renews at t=5, then only others act and time passes
example : (step exCfg (exRun [.campaign kK iA]) (.renew kK iA)).2 = .err .ok := by decide +kernel
example : ∀ ev ∈ [Ev.campaign kK iB, .tick 3001, .campaign kK iB], ev.isBy kK iA = false := by decide +kernel
example : (exRun [.campaign kK iA, .renew kK iA, .campaign kK iB, .tick 3001, .campaign kK iB]).now = 3006 := by
  decide +kernel

-- takeover: nobody else around, b wins 3001 ms after a's last renewal
example : (step exCfg (exRun [.campaign kK iA, .renew kK iA, .tick 3001]) (.campaign kK iB)).2
    = .role .leader .ok := by decide +kernel

/-! ### what the instance does with the answers (cmd/syncer.go clusterTicker) -/

/-- For EVERY script of election answers — failures, late successes, calls
    that never return — every renew period, hold, observation length and
    initial deadline: when the leader's `clusterTicker` returns, the send
    instant of its last successful call lies at most `hold` back (`deadline`
    = that instant + hold), and if it has not returned within the observed
    horizon, the horizon is still inside that window. -/
theorem ticker_returns_by_deadline (R H hor : Nat) :
    ∀ (n i dl : Nat) (script : List TRes) (calls : List Nat),
      (∀ r, (tickerLeader R H hor i n dl script calls).returned = some r →
          r ≤ (tickerLeader R H hor i n dl script calls).deadline) ∧
      ((tickerLeader R H hor i n dl script calls).returned = none →
          hor < (tickerLeader R H hor i n dl script calls).deadline) := by
  have hw : ∀ (calls : List Nat) (dl : Nat),
      (∀ r, (watchdogOut calls dl hor).returned = some r → r ≤ (watchdogOut calls dl hor).deadline) ∧
      ((watchdogOut calls dl hor).returned = none → hor < (watchdogOut calls dl hor).deadline) := by
    intro calls dl
    unfold watchdogOut
    split
    · exact ⟨fun r hr => by cases hr; exact Nat.le_refl _, fun hr => (by cases hr)⟩
    · next h => exact ⟨fun r hr => (by cases hr), fun _ => Nat.lt_of_not_le h⟩
  intro n i dl script calls
  -- along the recursion of `tickerLeader`: the watchdog branches, the two re-armed rounds, the double failure
  fun_induction tickerLeader R H hor i n dl script calls
  case case1 | case2 | case3 | case5 => exact hw _ _
  case case4 ih | case6 ih => exact ih
  case case7 => exact ⟨fun r hr => by cases hr; exact Nat.le_of_not_lt (by assumption), fun hr => (by cases hr)⟩

/-- the same for the whole ticker: it returns within `H` of the send of the
    campaign that made it leader (`ago` before it started) or of its last
    successful renewal; this is the schedule condition `TAllowed` of the
    timed system model, for calls that answer at once or never return
    (`tickerRun`); calls of ANY duration: `tickd_leads_within_hold`
    (Props/C15Ticker.lean). -/
theorem ticker_leads_within_hold (R H ago n : Nat) (script : List TRes) :
    (∀ r, (tickerRun true R H ago n script).returned = some r →
        r ≤ (tickerRun true R H ago n script).deadline) ∧
    ((tickerRun true R H ago n script).returned = none →
        n * R + R / 2 < (tickerRun true R H ago n script).deadline) := by
  simp only [tickerRun, ↓reduceIte]
  exact ticker_returns_by_deadline R H _ n 1 _ script []

theorem tickerLeader_stops (R H hor : Nat) (hRH : R ≤ H) (k : Nat) :
    ∀ (i n dl : Nat) (a1 a2 : TRes) (rest : List TRes) (calls : List Nat),
      renewErr a1 ≠ .ok → renewErr a2 ≠ .ok → a1 ≠ .blk → a2 ≠ .blk → k < n → i * R ≤ dl →
      (tickerLeader R H hor i n dl (List.replicate k .ok ++ a1 :: a2 :: rest) calls).closed
        = some ((i + k) * R, renewErr a2) ∧
      (tickerLeader R H hor i n dl (List.replicate k .ok ++ a1 :: a2 :: rest) calls).returned
        = some ((i + k) * R) := by
  induction k with
  | zero =>
    intro i n dl a1 a2 rest calls h1 h2 b1 b2 hn hdl
    obtain ⟨m, rfl⟩ : ∃ m, n = m + 1 := ⟨n - 1, by omega⟩
    have : ¬ dl < i * R := by omega
    simp [tickerLeader, h1, h2, b1, b2, this]
  | succ k ih =>
    intro i n dl a1 a2 rest calls h1 h2 b1 b2 hn hdl
    obtain ⟨m, rfl⟩ : ∃ m, n = m + 1 := ⟨n - 1, by omega⟩
    have hlt : ¬ dl < i * R := by omega
    have := ih (i + 1) m (i * R + H) a1 a2 rest (i * R :: calls) h1 h2 b1 b2 (by omega)
      (by rw [Nat.add_mul]; omega)
    simp only [List.replicate_succ, List.cons_append, tickerLeader, List.headD_cons, hlt,
      show (TRes.ok = TRes.blk) = False by simp, show renewErr .ok = .ok from rfl, ↓reduceIte,
      List.tail_cons]
    rw [this.1, this.2, show i + 1 + k = i + (k + 1) by omega]
    exact ⟨rfl, rfl⟩

/-- A leader whose renewal fails (both attempts of one tick, whatever the
    error: ErrNotLeader or an I/O error) after `k` good ticks closes its
    syncer's wait and returns at that very tick, with that error (the lease
    timer has not fired: renew period ≤ hold, first tick inside the hold of
    the campaign). -/
theorem ticker_failed_renewal_stops_leader (R H ago k n : Nat) (a1 a2 : TRes) (rest : List TRes)
    (h1 : renewErr a1 ≠ .ok) (h2 : renewErr a2 ≠ .ok) (b1 : a1 ≠ .blk) (b2 : a2 ≠ .blk) (hk : k < n)
    (hRH : R ≤ H) (h0 : ago + R ≤ H) :
    (tickerRun true R H ago n (List.replicate k .ok ++ a1 :: a2 :: rest)).closed
      = some ((k + 1) * R, renewErr a2) ∧
    (tickerRun true R H ago n (List.replicate k .ok ++ a1 :: a2 :: rest)).returned = some ((k + 1) * R) ∧
    renewErr a2 ≠ .ok := by
  have := tickerLeader_stops R H (n * R + R / 2) hRH k 1 n (H - ago) a1 a2 rest [] h1 h2 b1 b2 hk (by omega)
  simp only [tickerRun, ↓reduceIte, this, show 1 + k = k + 1 by omega]
  exact ⟨trivial, trivial, h2⟩

/-- …and that instant lies before the deadline of the lease it last renewed
    (`k·R + T`, last success sent at tick `k`, or the campaign) whenever the
    renew period is shorter than the lease, which every fixed configuration
    satisfies (`two_renewals_within_ttl`). -/
theorem ticker_stops_before_lease_deadline (R H T ago k n : Nat) (a1 a2 : TRes) (rest : List TRes)
    (h1 : renewErr a1 ≠ .ok) (h2 : renewErr a2 ≠ .ok) (b1 : a1 ≠ .blk) (b2 : a2 ≠ .blk) (hk : k < n)
    (hRH : R ≤ H) (h0 : ago + R ≤ H) (hRT : R < T) :
    ∃ t e, (tickerRun true R H ago n (List.replicate k .ok ++ a1 :: a2 :: rest)).closed = some (t, e)
      ∧ e ≠ .ok ∧ t < k * R + T := by
  refine ⟨(k + 1) * R, renewErr a2,
    (ticker_failed_renewal_stops_leader R H ago k n a1 a2 rest h1 h2 b1 b2 hk hRH h0).1, h2, ?_⟩
  rw [Nat.add_mul]; omega

theorem watchdogOut_returned (calls : List Nat) (dl hor : Nat) :
    (watchdogOut calls dl hor).returned = if dl ≤ hor then some dl else none := by
  unfold watchdogOut; split <;> rfl

theorem tickerLeader_blocked (R H hor : Nat) (hRH : R ≤ H) (rest : List TRes) (k : Nat) :
    ∀ (i m dl : Nat) (calls : List Nat), k < m → i * R ≤ dl →
      (tickerLeader R H hor i m dl (List.replicate k .ok ++ .blk :: rest) calls).returned
        = if (if k = 0 then dl else (i + k - 1) * R + H) ≤ hor
          then some (if k = 0 then dl else (i + k - 1) * R + H) else none := by
  induction k with
  | zero =>
    intro i m dl calls hm hdl
    obtain ⟨m', rfl⟩ : ∃ m', m = m' + 1 := ⟨m - 1, by omega⟩
    have : ¬ dl < i * R := by omega
    simp [tickerLeader, this, watchdogOut_returned]
  | succ k ih =>
    intro i m dl calls hm hdl
    obtain ⟨m', rfl⟩ : ∃ m', m = m' + 1 := ⟨m - 1, by omega⟩
    have hlt : ¬ dl < i * R := by omega
    have := ih (i + 1) m' (i * R + H) (i * R :: calls) (by omega) (by rw [Nat.add_mul]; omega)
    simp only [List.replicate_succ, List.cons_append, tickerLeader, List.headD_cons, hlt,
      show (TRes.ok = TRes.blk) = False by simp, show renewErr .ok = .ok from rfl, ↓reduceIte,
      List.tail_cons]
    rw [this]
    by_cases hk' : k = 0
    · subst hk'; simp
    · have e2 : (i + 1 + k - 1) = (i + (k + 1) - 1) := by omega
      simp [hk', e2]

/-- A renewal that never returns: the lease timer ends the leader's ticker at
    `hold` after the send of the last successful call — it does not wait for
    the call. (Before /repo 8b531f9 the ticker never returned in this case.) -/
theorem ticker_blocked_renewal_stops_leader (R H ago k n : Nat) (rest : List TRes)
    (hk : k < n) (hRH : R ≤ H) (h0 : ago + R ≤ H) (hk0 : 0 < k) (hhor : k * R + H ≤ n * R + R / 2) :
    (tickerRun true R H ago n (List.replicate k .ok ++ .blk :: rest)).returned = some (k * R + H) := by
  have := tickerLeader_blocked R H (n * R + R / 2) hRH rest k 1 n (H - ago) [] hk (by omega)
  have hk1 : ¬ k = 0 := by omega
  have e : 1 + k - 1 = k := by omega
  simp only [tickerRun, ↓reduceIte, this, hk1, e, hhor]

-- non-vacuity (R = 1.5 s, hold 3.5 s = lease 5 s − R, campaign sent 200 ms before the ticker started)
-- two good ticks, then ErrNotLeader twice: closed and returned at 4.5 s
example : tickerRun true 1500 3500 200 6 [.ok, .ok, .notLeader, .notLeader]
    = { calls := [1500, 3000, 4500, 4500], closed := some (4500, .notLeader), returned := some 4500,
        deadline := 6500 } := by decide +kernel
-- a failed first attempt that succeeds on the retry keeps the leader running
example : (tickerRun true 1500 3500 200 3 [.err, .ok]).returned = none := by decide +kernel
-- the first renewal never returns: the lease timer ends the ticker at -200 + 3500
example : tickerRun true 1500 3500 200 6 [.blk]
    = { calls := [1500], closed := some (3300, .notLeader), returned := some 3300, deadline := 3300 } := by
  decide +kernel
-- one good renewal at 1.5 s, the next never returns: ended at 1500 + 3500
example : (tickerRun true 1500 3500 200 7 [.ok, .blk]).returned = some 5000 := by decide +kernel
-- a follower that wins closes the wait with nil (restart as leader)
example : (tickerRun false 1500 3500 200 5 [.follower, .leader]).closed = some (3000, .ok) := by decide +kernel

/-! ### at most one instance RUNS RunLeader — election calls of any duration -/

/-- For EVERY schedule of sends, script executions, answers (arbitrarily late
    or never), abandoned calls, stray executions, stops, crashes, resigns and
    clock ticks, by any number of instances on any number of keys, from any
    initial store — subject only to `TAllowed`: real time does not pass beyond
    `okSent + hold id` while instance `id` leads, with `hold id ≤ ttl` — two
    instances that both run RunLeader for `key` are the same instance. -/
theorem at_most_one_acting (cfg hold : Bytes → Nat) (hcfg : ∀ id, 1 ≤ cfg id)
    (hh : ∀ id, hold id ≤ cfg id * 1000) (st : Store) (now : Nat) (evs : List TEv)
    (hok : trunOk cfg hold (TSys.init st now) evs) (key i j : Bytes)
    (hi : ((trun cfg hold (TSys.init st now) evs).inst key i).acting = true)
    (hj : ((trun cfg hold (TSys.init st now) evs).inst key j).acting = true) : i = j := by
  have h := tinv_run hcfg hh evs (tinv_init cfg hold st now) hok
  exact holder_unique_of_inv h.1 (acting_holder hh h hi) (acting_holder hh h hj)

theorem trunOk_take (cfg hold : Bytes → Nat) (evs : List TEv) :
    ∀ (s : TSys) (n : Nat), trunOk cfg hold s evs → trunOk cfg hold s (evs.take n) := by
  induction evs with
  | nil => intro s n h; simp [trunOk]
  | cons ev rest ih =>
    intro s n h
    cases n with
    | zero => simp [trunOk]
    | succ n => simp only [List.take_succ_cons, trunOk]; exact ⟨h.1, ih _ n h.2⟩

/-- the acting intervals of two different instances are disjoint in real time:
    at NO point of the schedule do two of them lead -/
theorem acting_intervals_disjoint (cfg hold : Bytes → Nat) (hcfg : ∀ id, 1 ≤ cfg id)
    (hh : ∀ id, hold id ≤ cfg id * 1000) (st : Store) (now : Nat) (evs : List TEv)
    (hok : trunOk cfg hold (TSys.init st now) evs) (n : Nat) (key i j : Bytes)
    (hi : ((trun cfg hold (TSys.init st now) (evs.take n)).inst key i).acting = true)
    (hj : ((trun cfg hold (TSys.init st now) (evs.take n)).inst key j).acting = true) : i = j :=
  at_most_one_acting cfg hold hcfg hh st now (evs.take n) (trunOk_take cfg hold evs _ n hok) key i j hi hj

/-- an instance that leads holds the lease at the store: its value, unexpired -/
theorem acting_has_lease (cfg hold : Bytes → Nat) (hcfg : ∀ id, 1 ≤ cfg id)
    (hh : ∀ id, hold id ≤ cfg id * 1000) (st : Store) (now : Nat) (evs : List TEv)
    (hok : trunOk cfg hold (TSys.init st now) evs) (key i : Bytes)
    (hi : ((trun cfg hold (TSys.init st now) evs).inst key i).acting = true) :
    ∃ e, lookup (trun cfg hold (TSys.init st now) evs).base.store
            (trun cfg hold (TSys.init st now) evs).base.now key = some e ∧ e.val = i := by
  have h := tinv_run hcfg hh evs (tinv_init cfg hold st now) hok
  obtain ⟨d, ht, hd⟩ := acting_holder hh h hi
  obtain ⟨e, hs, hv, hde⟩ := (h.1 key i d ht).2 hd
  exact ⟨e, lookup_of_live hs (Nat.le_trans hd hde), hv⟩

/-- with the code's quantities: `H` = leaseHold on the instance's clock, `D` =
    drift of that clock against the store's over one lease, `S` = time to stop
    the syncer after the ticker returned. Enough: `H + D + S ≤ ttl` — with
    `H = ttl − renew period` (cmd/syncer.go leaseHold): `D + S ≤ renew period`. -/
theorem at_most_one_acting_with_drift (cfg H D S : Bytes → Nat) (hcfg : ∀ id, 1 ≤ cfg id)
    (hh : ∀ id, H id + D id + S id ≤ cfg id * 1000) (st : Store) (now : Nat) (evs : List TEv)
    (hok : trunOk cfg (fun id => H id + D id + S id) (TSys.init st now) evs) (key i j : Bytes)
    (hi : ((trun cfg (fun id => H id + D id + S id) (TSys.init st now) evs).inst key i).acting = true)
    (hj : ((trun cfg (fun id => H id + D id + S id) (TSys.init st now) evs).inst key j).acting = true) :
    i = j :=
  at_most_one_acting cfg _ hcfg hh st now evs hok key i j hi hj

section timedExamples
def exHold : Bytes → Nat := fun _ => 2000      -- ttl 3 s − renew period 1 s
def tRun (evs : List TEv) : TSys := trun exCfg exHold (TSys.init Store.empty 5) evs

-- the hypotheses are met by a schedule with a slow call: a campaigns at 5, the script runs at 405,
-- the answer arrives at 905; a leads; renewal sent at 1805, answered at 1905; time moves on to 3705 ≤ 1805 + 2000
def okEvs : List TEv := [.send kK iA, .tick 400, .exec kK iA, .tick 500, .answer kK iA, .tick 900,
  .send kK iA, .tick 50, .exec kK iA, .tick 50, .answer kK iA, .tick 1800]
example : ((tRun okEvs).inst kK iA).acting = true := by decide +kernel
example : ((tRun okEvs).inst kK iA).okSent = 1805 := by decide +kernel
example : (tRun okEvs).base.now = 3705 := by decide +kernel
-- an answer "leader" that arrives later than `hold` after its send does not make a leader
example : ((tRun [.send kK iA, .exec kK iA, .tick 2001, .answer kK iA]).inst kK iA).acting = false := by decide +kernel
example : trunOk exCfg exHold (TSys.init Store.empty 5) okEvs :=
  trunOk_of_B exCfg exHold [(kK, iA)] okEvs _ (fun _ _ _ => rfl) (by decide) (by decide)
end timedExamples

/-- COUNTER-WITNESS without the schedule condition: a's renewal never returns
    (sent at 1005, no answer), real time passes the end of a's lease (3005),
    b campaigns and is answered "leader": both run RunLeader. This is what the
    code did before /repo 8b531f9 (clusterTicker blocked in the call). -/
def blockedEvs : List TEv := [.send kK iA, .exec kK iA, .answer kK iA, .tick 1000, .send kK iA,
  .tick 2001, .send kK iB, .exec kK iB, .answer kK iB]

example : ((tRun blockedEvs).inst kK iA).acting = true ∧ ((tRun blockedEvs).inst kK iB).acting = true := by
  decide +kernel
-- …and it is exactly the tick past okSent + hold that `TAllowed` forbids
example : ¬ trunOk exCfg exHold (TSys.init Store.empty 5) blockedEvs := by
  intro h
  have h6 := h.2.2.2.2.2.1 kK iA (by decide)
  exact absurd h6 (by decide)

/-! ### election identity (config ServerConfig.fix + cluster-mode check) -/

/-- In cluster mode an accepted configuration contends under an address that
    was written in the configuration (listenPeer, else listen) — never under a
    built-in default — and whose host part is not empty / 0.0.0.0 / ::.
    (Little more than the definition of `electionId` read backwards; its
    content is the tie of `electionId` to the real configuration code.) -/
theorem election_id_configured (listen peer id : Bytes)
    (h : electionId true listen peer = some id) :
    ((peer ≠ [] ∧ id = peer) ∨ (peer = [] ∧ listen ≠ [] ∧ id = listen)) ∧
    ∃ host, hostOf id = some host ∧ unspecHost host = false := by
  unfold electionId at h
  simp only [↓reduceIte] at h
  by_cases hd : listen = [] ∧ peer = []
  · simp [hd] at h
  · simp only [hd, ↓reduceIte] at h
    cases hh : hostOf (peerAddr listen peer) with
    | none => simp [hh] at h
    | some host =>
      simp only [hh] at h
      by_cases hu : unspecHost host = true
      · simp [hu] at h
      · simp only [hu, Bool.false_eq_true, ↓reduceIte, Option.some.injEq] at h
        subst h
        refine ⟨?_, host, hh, by simpa using hu⟩
        unfold peerAddr
        by_cases hp : peer = []
        · have hl : listen ≠ [] := fun hl => hd ⟨hl, hp⟩
          simp [hp, hl]
        · simp [hp]

/-- Two hosts whose configured peer addresses differ contend under different
    ids: the hypothesis "ids are distinct" of `at_most_one_holder` is REDUCED
    to "the configured peer strings are distinct" (not discharged: two hosts
    given the same string, e.g. `localhost:18001`, are one contender). -/
theorem distinct_addresses_distinct_ids (l1 p1 l2 p2 i1 i2 : Bytes)
    (h1 : electionId true l1 p1 = some i1) (h2 : electionId true l2 p2 = some i2)
    (hne : (if p1 = [] then l1 else p1) ≠ (if p2 = [] then l2 else p2)) : i1 ≠ i2 := by
  obtain ⟨c1, _⟩ := election_id_configured l1 p1 i1 h1
  obtain ⟨c2, _⟩ := election_id_configured l2 p2 i2 h2
  rcases c1 with ⟨hp1, rfl⟩ | ⟨hp1, _, rfl⟩ <;> rcases c2 with ⟨hp2, rfl⟩ | ⟨hp2, _, rfl⟩ <;>
    simp_all

-- non-vacuity: default server section refused in cluster mode, accepted otherwise;
-- "1.2.3.4:1" is its own id; 0.0.0.0 / empty host / [::] refused; a host name passes
example : electionId true [] [] = none := by decide +kernel
example : electionId false [] [] = some defaultListen := by decide +kernel
example : electionId true [49,46,50,46,51,46,52,58,49] [] = some [49,46,50,46,51,46,52,58,49] := by decide +kernel
example : electionId true [49,46,50,46,51,46,52,58,49] [53,46,54,46,55,46,56,58,50] = some [53,46,54,46,55,46,56,58,50] := by decide +kernel
example : electionId true [48,46,48,46,48,46,48,58,49] [] = none := by decide +kernel
example : electionId true [58,49] [] = none := by decide +kernel
example : electionId true [] [91,58,58,93,58,49] = none := by decide +kernel
example : electionId true [] [108,111,99,97,108,104,111,115,116,58,49] = some [108,111,99,97,108,104,111,115,116,58,49] := by decide +kernel

/-! ### lease / renew bounds of the configuration -/

/-- `(*ClusterConfig).fix`: for EVERY pair of input durations,
    3 s ≤ lease ≤ 600 s and 1 s ≤ renew ≤ lease/3; the ttl handed to the lease
    store is between 3 and 600 seconds. -/
theorem renew_le_third (c : Cfg) :
    3 * second ≤ (fixCfg c).lease ∧ (fixCfg c).lease ≤ 600 * second ∧
    second ≤ (fixCfg c).renew ∧ (fixCfg c).renew ≤ (fixCfg c).lease / 3 ∧
    3 ≤ ttlSeconds (fixCfg c) ∧ ttlSeconds (fixCfg c) ≤ 600 := by
  unfold fixCfg ttlSeconds second
  extract_lets l0 l r0 r
  have hl : 3000000000 ≤ l ∧ l ≤ 600000000000 := by unfold l; omega
  have hr : 1000000000 ≤ r ∧ r ≤ l / 3 := by unfold r; omega
  simp only
  omega

/-- the ttl of every fixed configuration meets the hypothesis of
    `at_most_one_holder` -/
theorem lease_bounds (c : Cfg) : 1 ≤ (ttlSeconds (fixCfg c)).toNat := by
  have := (renew_le_third c).2.2.2.2.1
  omega

/-- a leader gets at least two renewal attempts before its lease (in whole
    seconds, as the store counts it) runs out -/
theorem two_renewals_within_ttl (c : Cfg) :
    2 * (fixCfg c).renew < ttlSeconds (fixCfg c) * second := by
  have h := renew_le_third c
  simp only [ttlSeconds, second] at h ⊢
  omega

/-- `fix` is idempotent (applying it to an already fixed configuration
    changes nothing) -/
theorem fixCfg_idem (c : Cfg) : fixCfg (fixCfg c) = fixCfg c := by
  have h := renew_le_third c
  simp only [second] at h
  generalize fixCfg c = f at h
  obtain ⟨l, r⟩ := f
  simp only at h
  simp only [fixCfg, second, Cfg.mk.injEq]
  have hl : ¬ l = 0 := by omega
  have hr : ¬ r = 0 := by omega
  have h1 : ¬ l < 3 * 1000000000 := by omega
  have h2 : ¬ l > 600 * 1000000000 := by omega
  simp only [hl, hr, h1, h2, ↓reduceIte]
  have h3 : ¬ r < 1 * 1000000000 := by omega
  have h4 : ¬ r > l / 3 := by omega
  simp only [h3, h4, ↓reduceIte, and_self]

-- non-vacuity: defaults, clamping, odd values
example : fixCfg ⟨0, 0⟩ = ⟨10 * second, 3333333333⟩ := by decide +kernel
example : fixCfg ⟨1, 5 * second⟩ = ⟨3 * second, second⟩ := by decide +kernel
example : fixCfg ⟨700 * second, 300 * second⟩ = ⟨600 * second, 200 * second⟩ := by decide +kernel
example : fixCfg ⟨-5, -5⟩ = ⟨3 * second, second⟩ := by decide +kernel
example : ttlSeconds (fixCfg ⟨3900000000, 0⟩) = 3 := by decide +kernel

end GunYu.Props.C15
