/-
  C15 — from the ticker to the schedule condition `TAllowed`.

  `at_most_one_acting` assumes `trunOk` (= `TAllowed` at every tick: real time
  does not pass `okSent + hold` while an instance leads). Here that hypothesis
  is DERIVED in two steps through a local view of one instance
  (now, acting, okSent) with local events tick / ok sent / stop:

  A  `trunOk_iff_local`: the system schedule is allowed iff every instance's
     LOCAL trace (its view of the system's events: every tick, its own
     "leader" answers, its own stops — `ltrace`, a function of the system
     run) is locally allowed (`view_tstep`: the system step acts on the view
     exactly as the local step on the projected events).
  B  `ticker_term_localOk`: the local trace the leader's clusterTicker model
     emits for one term (`leaderTrace`: the recursion of `leaderLoop`,
     Model/LeaseTicker.lean, emitting tick / ok / stop instead of a summary)
     is locally allowed with hold = leaseHold, for EVERY script of answers of
     any duration, renew period, horizon and outside close; it ends stopped
     exactly when `leaderLoop` returns (`leaderTrace_returns_with_loop`).
  C  `lrunOk_idle`, `lrunOk_append`: stretches in which the instance does not
     lead are unconstrained, terms and stretches concatenate.

  What remains outside Lean: that the local trace of an instance of the REAL
  system is a concatenation of such terms and idle stretches — i.e. that the
  code's instance behaves as `leaderLoop` says — is the tie of the ticker
  model to the real clusterTicker (executed under virtual time every run).
-/
import GunYu.Model.LeaseTicker
import GunYu.Proofs.LeaseTimed
import GunYu.Props.C15Ticker
import GunYu.Props.C15


namespace GunYu.Props.C15
open GunYu GunYu.Lease

/-! ### the local view -/

structure LSt where
  now : Nat
  acting : Bool
  okSent : Nat
  deriving DecidableEq, Repr

inductive LEv where
  | tick (d : Nat)
  | ok (sent : Nat)      -- the answer "leader" of a call sent at `sent` arrives
  | stop
  deriving DecidableEq, Repr

def lstep (hold : Nat) (s : LSt) : LEv → LSt
  | .tick d => { s with now := s.now + d }
  | .ok sent => if s.now ≤ sent + hold then { s with acting := true, okSent := sent }
                else { s with acting := false }
  | .stop => { s with acting := false }

def lrun (hold : Nat) (s : LSt) : List LEv → LSt
  | [] => s
  | ev :: rest => lrun hold (lstep hold s ev) rest

def lAllowed (hold : Nat) (s : LSt) : LEv → Prop
  | .tick d => s.acting = true → s.now + d ≤ s.okSent + hold
  | _ => True

def lrunOk (hold : Nat) (s : LSt) : List LEv → Prop
  | [] => True
  | ev :: rest => lAllowed hold s ev ∧ lrunOk hold (lstep hold s ev) rest

theorem lrun_append (hold : Nat) (s : LSt) (a b : List LEv) :
    lrun hold s (a ++ b) = lrun hold (lrun hold s a) b := by
  induction a generalizing s with
  | nil => rfl
  | cons ev rest ih => exact ih _

theorem lrunOk_append (hold : Nat) (s : LSt) (a b : List LEv) :
    lrunOk hold s (a ++ b) ↔ lrunOk hold s a ∧ lrunOk hold (lrun hold s a) b := by
  induction a generalizing s with
  | nil => simp [lrunOk, lrun]
  | cons ev rest ih => simp only [List.cons_append, lrunOk, lrun, ih, and_assoc]

/-- C: an instance that does not lead and is told nothing may see any ticks and stops -/
theorem lrunOk_idle (hold : Nat) : ∀ (evs : List LEv) (s : LSt), s.acting = false →
    (∀ ev ∈ evs, ∀ sent, ev ≠ .ok sent) → lrunOk hold s evs ∧ (lrun hold s evs).acting = false := by
  intro evs
  induction evs with
  | nil => intro s h _; exact ⟨trivial, h⟩
  | cons ev rest ih =>
    intro s h hno
    have hrest : ∀ e ∈ rest, ∀ sent, e ≠ .ok sent := fun e he => hno e (List.mem_cons_of_mem _ he)
    cases ev with
    | tick d =>
      have := ih { s with now := s.now + d } h hrest
      exact ⟨⟨fun ha => by rw [h] at ha; simp at ha, this.1⟩, this.2⟩
    | ok sent => exact absurd rfl (hno _ List.mem_cons_self sent)
    | stop =>
      have := ih { s with acting := false } rfl hrest
      exact ⟨⟨trivial, this.1⟩, this.2⟩

/-! ### A: the system through the local views -/

def view (s : TSys) (key id : Bytes) : LSt :=
  { now := s.base.now, acting := (s.inst key id).acting, okSent := (s.inst key id).okSent }

/-- what instance (key, id) sees of one system event -/
def projEv (s : TSys) (key id : Bytes) : TEv → List LEv
  | .tick d => [.tick d]
  | .answer k i =>
    if k = key ∧ i = id then
      match (s.inst key id).pend with
      | some ⟨sent, some r⟩ => if r = .leader then [.ok sent] else []
      | _ => []
    else []
  | .stop k i => if k = key ∧ i = id then [.stop] else []
  | _ => []

def ltrace (cfg hold : Bytes → Nat) (s : TSys) (key id : Bytes) : List TEv → List LEv
  | [] => []
  | ev :: rest => projEv s key id ev ++ ltrace cfg hold (tstep cfg hold s ev) key id rest

/-- an event that neither is a tick nor concerns the acting state of (key, id) leaves its view alone -/
theorem view_keep (cfg hold : Bytes → Nat) (s : TSys) (ev : TEv) (key id : Bytes)
    (hn : (tstep cfg hold s ev).base.now = s.base.now)
    (ha : ((tstep cfg hold s ev).inst key id).acting = (s.inst key id).acting)
    (ho : ((tstep cfg hold s ev).inst key id).okSent = (s.inst key id).okSent) :
    view (tstep cfg hold s ev) key id = view s key id := by
  unfold view; rw [hn, ha, ho]

theorem view_setInst (s : TSys) (b : Sys) (k i : Bytes) (v : Inst) (key id : Bytes) (hn : b.now = s.base.now)
    (h : key = k → id = i → v.acting = (s.inst k i).acting ∧ v.okSent = (s.inst k i).okSent) :
    view ⟨b, setInst s.inst k i v⟩ key id = view s key id := by
  unfold view setInst
  by_cases hk : key = k ∧ id = i
  · obtain ⟨rfl, rfl⟩ := hk
    obtain ⟨ha, ho⟩ := h rfl rfl
    simp [hn, ha, ho]
  · simp [hk, hn]

/-- the system step acts on the view of an instance exactly as the local steps on what it sees -/
theorem view_tstep (cfg hold : Bytes → Nat) (s : TSys) (ev : TEv) (key id : Bytes) :
    view (tstep cfg hold s ev) key id = lrun (hold id) (view s key id) (projEv s key id ev) := by
  cases ev with
  | tick d => rfl
  | stray k i => rfl
  | giveUp k i => exact view_setInst s _ k i _ key id rfl (fun _ _ => ⟨rfl, rfl⟩)
  | send k i =>
    simp only [tstep, projEv, lrun]
    split
    · exact view_setInst s _ k i _ key id rfl (fun _ _ => ⟨rfl, rfl⟩)
    · rfl
  | exec k i =>
    simp only [tstep, projEv, lrun]
    split
    · exact view_setInst s _ k i _ key id rfl (fun _ _ => ⟨rfl, rfl⟩)
    · rfl
  | resign k i =>
    simp only [tstep, projEv, lrun]
    split <;> rfl
  | stop k i =>
    simp only [tstep, projEv]
    by_cases h : k = key ∧ i = id
    · obtain ⟨rfl, rfl⟩ := h
      simp [view, lrun, lstep, setInst]
    · simp only [h, ↓reduceIte, lrun]
      exact view_setInst s _ k i _ key id rfl (fun a b => absurd ⟨a.symm, b.symm⟩ h)
  | answer k i =>
    simp only [tstep, projEv]
    by_cases h : k = key ∧ i = id
    · obtain ⟨rfl, rfl⟩ := h
      simp only [and_self, ↓reduceIte]
      cases hp : (s.inst k i).pend with
      | none => rfl
      | some p =>
        obtain ⟨sent, _ | r⟩ := p
        · rfl
        · dsimp only
          by_cases hr : r = .leader
          · subst hr
            by_cases hl : s.base.now ≤ sent + hold i <;> simp [view, lrun, lstep, setInst, hl]
          · simp only [hr, ↓reduceIte, lrun]
            exact view_setInst s _ k i _ k i rfl (fun _ _ => ⟨rfl, rfl⟩)
    · have hne := fun (v : Inst) => view_setInst s s.base k i v key id rfl (fun a b => absurd ⟨a.symm, b.symm⟩ h)
      simp only [h, ↓reduceIte, lrun]
      split
      · split
        · split <;> exact hne _
        · exact hne _
      · rfl

theorem lrunOk_projEv (hold : Bytes → Nat) (s : TSys) (ev : TEv) (key id : Bytes) :
    lrunOk (hold id) (view s key id) (projEv s key id ev) ↔
      (∀ d, ev = .tick d → (s.inst key id).acting = true → s.base.now + d ≤ (s.inst key id).okSent + hold id) := by
  cases ev
  case tick d =>
    simp only [projEv, lrunOk, lAllowed, view, and_true]
    exact ⟨fun h d' hd => by cases hd; exact h, fun h => h d rfl⟩
  -- what an instance sees of any other event is no tick, and only ticks are constrained
  all_goals
    refine ⟨fun _ d hd => (by cases hd), fun _ => ?_⟩
    simp only [projEv]
    repeat' split
    all_goals simp [lrunOk, lAllowed]

/-- A: a system schedule satisfies `TAllowed` throughout iff the local trace of EVERY instance is locally
    allowed -/
theorem trunOk_iff_local (cfg hold : Bytes → Nat) : ∀ (evs : List TEv) (s : TSys),
    trunOk cfg hold s evs ↔
      ∀ key id, lrunOk (hold id) (view s key id) (ltrace cfg hold s key id evs) := by
  intro evs
  induction evs with
  | nil => intro s; simp [trunOk, ltrace, lrunOk]
  | cons ev rest ih =>
    intro s
    simp only [trunOk, ltrace, lrunOk_append, ih (tstep cfg hold s ev)]
    constructor
    · intro ⟨ha, hr⟩ key id
      refine ⟨(lrunOk_projEv hold s ev key id).2 ?_, by rw [← view_tstep]; exact hr key id⟩
      intro d hd hact
      subst hd
      exact ha key id hact
    · intro h
      refine ⟨?_, fun key id => by have := (h key id).2; rw [← view_tstep] at this; exact this⟩
      cases ev with
      | tick d =>
        intro key id hact
        exact (lrunOk_projEv hold s (.tick d) key id).1 (h key id).1 d rfl hact
      | _ => trivial

/-! ### B: one leader term of the ticker, as a local trace -/

/-- what the stop from outside (lease timer / somebody else) looks like within the horizon -/
def stopTrace (t dl : Nat) (ext : Option Nat) (hor : Nat) : List LEv :=
  if stopAt dl ext ≤ hor then [.tick (stopAt dl ext - t), .stop] else [.tick (hor - t)]

/-- the recursion of `leaderLoop` (Model/LeaseTicker.lean; same tests, same `tries`, same successor state)
    emitting what the instance does instead of a summary: time passes, a successful renewal is answered
    (`ok` with the instant the ticker counts it from), the ticker returns (`stop`). Instants are ms since the
    ticker started; `T0` = the real instant of that start. -/
def leaderTrace (P : TParams) (R H hor : Nat) (ext : Option Nat) (T0 : Nat) :
    Nat → Nat → Nat → Bool → Nat → List TAns → List Nat → List LEv
  | 0, _, _, _, _, _, _ => []
  | fuel + 1, t, next, buf, dl, script, calls =>
    let tt := if buf then t else next
    let next1 := if buf then next else next + R
    if stopAt dl ext < tt then stopTrace t dl ext hor
    else if hor < tt then [.tick (hor - t)]
    else
      match tries (stopAt dl ext) P.retry tt .other script calls with
      | .stuck _ => stopTrace t dl ext hor
      | .failed ret _ _ _ => [.tick (ret - t), .stop]
      | .ok ret rest calls' =>
        let tb := ticksDuring R next1 false ret
        [.tick (ret - t), .ok (T0 + (if P.rearmFromSend then tt else ret))] ++
          leaderTrace P R H hor ext T0 fuel ret tb.1 tb.2 ((if P.rearmFromSend then tt else ret) + H) rest calls'

theorem tick_to (T0 : Nat) {t r : Nat} (h : t ≤ r) : T0 + t + (r - t) = T0 + r := by
  rw [Nat.add_assoc, Nat.add_sub_cancel' h]

theorem tick_within {T0 t dl oks H r : Nat} (h4 : T0 + dl = oks + H) (h1 : t ≤ dl) (hr : r ≤ dl) :
    T0 + t + (r - t) ≤ oks + H := by omega

theorem stopTrace_ok (H T0 t dl oks : Nat) (ext : Option Nat) (hor : Nat) (h1 : t ≤ dl) (h4 : T0 + dl = oks + H) :
    lrunOk H ⟨T0 + t, true, oks⟩ (stopTrace t dl ext hor) := by
  have hs := stopAt_le dl ext
  unfold stopTrace
  split
  · simp only [lrunOk, lAllowed, and_true]
    exact fun _ => tick_within h4 h1 hs
  · next h =>
    simp only [lrunOk, lAllowed, and_true]
    exact fun _ => tick_within h4 h1 (Nat.le_trans (Nat.le_of_lt (Nat.lt_of_not_le h)) hs)

/-- B: for the re-arm expression of the source, EVERY script of answers of any duration, renew period,
    hold, horizon, outside close and loop state (`t ≤ dl ≤ t + H`, `t ≤ next`, timer at okSent + H): the
    local trace of the leader's ticker never lets time pass `okSent + H` while it leads. -/
theorem ticker_term_localOk (P : TParams) (hP : P.rearmFromSend = true) (R H hor : Nat) (hR : 0 < R)
    (ext : Option Nat) (T0 : Nat) :
    ∀ (fuel t next : Nat) (buf : Bool) (dl : Nat) (script : List TAns) (calls : List Nat) (oks : Nat),
      t ≤ dl → dl ≤ t + H → t ≤ next → T0 + dl = oks + H →
      lrunOk H ⟨T0 + t, true, oks⟩ (leaderTrace P R H hor ext T0 fuel t next buf dl script calls) := by
  intro fuel
  induction fuel with
  | zero => intro t next buf dl script calls oks _ _ _ _; trivial
  | succ fuel ih =>
    intro t next buf dl script calls oks h1 h2 h3 h4
    simp only [leaderTrace]
    have hsl := stopAt_le dl ext
    have htt : t ≤ (if buf = true then t else next) := by split; exact Nat.le_refl _; exact h3
    generalize (if buf = true then t else next) = tt at htt ⊢
    generalize (if buf = true then next else next + R) = next1
    by_cases c1 : stopAt dl ext < tt
    · simp only [c1, ↓reduceIte]; exact stopTrace_ok H T0 t dl oks ext hor h1 h4
    · simp only [c1, ↓reduceIte]
      have hle : tt ≤ stopAt dl ext := Nat.le_of_not_lt c1
      by_cases c2 : hor < tt
      · simp only [c2, ↓reduceIte, lrunOk, lAllowed, and_true]
        exact fun _ => tick_within h4 h1 (Nat.le_trans (Nat.le_of_lt c2) (Nat.le_trans hle hsl))
      · simp only [c2, ↓reduceIte]
        have hts := tries_spec (stopAt dl ext) P.retry tt .other script calls hle
        cases heq : tries (stopAt dl ext) P.retry tt .other script calls with
        | stuck calls' => dsimp only; exact stopTrace_ok H T0 t dl oks ext hor h1 h4
        | failed ret e rest calls' =>
          rw [heq] at hts; dsimp only at hts ⊢
          simp only [lrunOk, lAllowed, and_true]
          exact fun _ => tick_within h4 h1 (Nat.le_trans hts.2 hsl)
        | ok ret rest calls' =>
          rw [heq] at hts; dsimp only at hts ⊢
          have htr : t ≤ ret := Nat.le_trans htt hts.1
          -- the answer arrives within the hold of the call it answers, sent at `tt`
          have hret : ret ≤ tt + H := calc
            ret ≤ stopAt dl ext := hts.2
            _ ≤ dl := hsl
            _ ≤ t + H := h2
            _ ≤ tt + H := Nat.add_le_add_right htt H
          simp only [hP, ↓reduceIte, List.cons_append, List.nil_append, lrunOk, lAllowed, lstep, true_and,
            tick_to T0 htr, show T0 + ret ≤ T0 + tt + H from Nat.add_assoc .. ▸ Nat.add_le_add_left hret T0]
          exact ⟨fun _ => tick_to T0 htr ▸ tick_within h4 h1 (Nat.le_trans hts.2 hsl),
            ih ret _ _ (tt + H) rest calls' (T0 + tt) hret (Nat.add_le_add_right hts.1 H)
              (Nat.le_of_lt (ticksDuring_gt R next1 false ret hR)) (Nat.add_assoc ..).symm⟩

/-- the ticker as cmd/syncer.go stands (parameters from the source), campaign sent `ago ≤ hold` before the
    ticker started at real instant `T0 ≥ ago`: its whole term is locally allowed -/
theorem ticker_localOk (R H ago hor T0 : Nat) (hR : 0 < R) (hago : ago ≤ H) (hT : ago ≤ T0) (ext : Option Nat)
    (script : List TAns) :
    lrunOk H ⟨T0 + 0, true, T0 - ago⟩
      (leaderTrace srcParams R H hor ext T0 (script.length + hor / R + 2) 0 R false (H - ago) script []) :=
  ticker_term_localOk srcParams rfl R H hor hR ext T0 _ 0 R false (H - ago) script [] (T0 - ago)
    (Nat.zero_le _) (by omega) (Nat.zero_le _) (by omega)

-- non-vacuity: the scenario of Props/C15Ticker.lean (R 1.5 s, hold 3.5 s, campaign 200 ms before, ticker started at 1000):
-- renewals answered at 1500 and 4637 (sent 3000), the third never returns: stopped by the lease timer at 6500
example : leaderTrace srcParams 1500 3500 9750 none 1000 8 0 1500 false 3300 [⟨.ok, 0⟩, ⟨.ok, 1637⟩, ⟨.blk, 0⟩] []
    = [.tick 1500, .ok 2500, .tick 3137, .ok 4000, .tick 1863, .stop] := by decide +kernel
example : (lrun 3500 ⟨1000, true, 800⟩ [.tick 1500, .ok 2500, .tick 3137, .ok 4000, .tick 1863, .stop])
    = ⟨7500, false, 4000⟩ := by decide +kernel

/-! ### the acting theorem with its schedule hypothesis replaced by the local one -/

/-- at most one instance runs RunLeader, for every schedule in which the LOCAL trace of every instance is
    locally allowed — which `ticker_term_localOk` establishes for every term of an instance whose
    clusterTicker is `leaderLoop`, and `lrunOk_idle` for the stretches in which it does not lead. -/
theorem at_most_one_acting_of_local (cfg hold : Bytes → Nat) (hcfg : ∀ id, 1 ≤ cfg id)
    (hh : ∀ id, hold id ≤ cfg id * 1000) (st : Store) (now : Nat) (evs : List TEv)
    (hloc : ∀ key id, lrunOk (hold id) (view (TSys.init st now) key id)
      (ltrace cfg hold (TSys.init st now) key id evs)) (key i j : Bytes)
    (hi : ((trun cfg hold (TSys.init st now) evs).inst key i).acting = true)
    (hj : ((trun cfg hold (TSys.init st now) evs).inst key j).acting = true) : i = j :=
  at_most_one_acting cfg hold hcfg hh st now evs ((trunOk_iff_local cfg hold evs _).2 hloc) key i j hi hj

/- NOT PROVED, and not stated as a Lean proposition (it needs a model of runCluster's loop that emits the
   instance's system events): the local trace of an instance in any run in which it follows the code is a
   concatenation of `leaderTrace` terms (each started by an `ok` within hold of its send) and idle stretches.
   Proved: each piece (ticker_term_localOk, lrunOk_idle), their concatenation (lrunOk_append), and the step
   from all instances' local traces to `trunOk` (trunOk_iff_local). -/

-- the local trace of `okEvs` (Props/C15.lean) for instance a: two answered calls, allowed with hold 2000
example : ltrace exCfg exHold (TSys.init Store.empty 5) kK iA okEvs
    = [.tick 400, .tick 500, .ok 5, .tick 900, .tick 50, .tick 50, .ok 1805, .tick 1800] := by decide +kernel
example : lrunOk 2000 (view (TSys.init Store.empty 5) kK iA)
    [.tick 400, .tick 500, .ok 5, .tick 900, .tick 50, .tick 50, .ok 1805, .tick 1800] := by
  simp [lrunOk, lAllowed, lstep, view, TSys.init, Inst.idle, Sys.init]

/-! ### `leaderTrace` and `leaderLoop` stop at the same instant -/

theorem le_stopAt_of_le {x dl dl' : Nat} {ext : Option Nat} (h : x ≤ stopAt dl ext) (h' : x ≤ dl') :
    x ≤ stopAt dl' ext := by
  unfold stopAt at h ⊢
  cases ext with
  | none => exact h'
  | some e => dsimp only at h ⊢; split at h <;> split <;> omega

/-- the local trace stops exactly when (and where) `leaderLoop` returns: the two recursions are one -/
theorem leaderTrace_returns_with_loop (P : TParams) (R H hor : Nat) (hR : 0 < R) (ext : Option Nat) (T0 : Nat) :
    ∀ (fuel t next : Nat) (buf : Bool) (dl : Nat) (script : List TAns) (calls : List Nat) (oks : Nat),
      t ≤ stopAt dl ext → t ≤ next → dl ≤ t + H →
      (∀ r, (leaderLoop P R H hor ext fuel t next buf dl script calls).returned = some r →
        (lrun H ⟨T0 + t, true, oks⟩ (leaderTrace P R H hor ext T0 fuel t next buf dl script calls)).acting = false ∧
        (lrun H ⟨T0 + t, true, oks⟩ (leaderTrace P R H hor ext T0 fuel t next buf dl script calls)).now = T0 + r) ∧
      ((leaderLoop P R H hor ext fuel t next buf dl script calls).returned = none →
        (lrun H ⟨T0 + t, true, oks⟩ (leaderTrace P R H hor ext T0 fuel t next buf dl script calls)).acting = true) := by
  intro fuel
  induction fuel with
  | zero =>
    intro t next buf dl script calls oks _ _ _
    simp only [leaderLoop, leaderTrace, lrun]
    exact ⟨fun r hr => by simp at hr, fun _ => trivial⟩
  | succ fuel ih =>
    intro t next buf dl script calls oks h1 h3 h2
    simp only [leaderLoop, leaderTrace]
    have htt : t ≤ (if buf = true then t else next) := by split; exact Nat.le_refl _; exact h3
    generalize (if buf = true then t else next) = tt at htt ⊢
    generalize (if buf = true then next else next + R) = next1
    -- closed from outside: loop and trace stop at `stopAt dl ext`, if that is within the horizon
    have hstop : ∀ calls', (∀ r, (stopOut calls' dl ext hor).returned = some r →
        (lrun H ⟨T0 + t, true, oks⟩ (stopTrace t dl ext hor)).acting = false ∧
        (lrun H ⟨T0 + t, true, oks⟩ (stopTrace t dl ext hor)).now = T0 + r) ∧
        ((stopOut calls' dl ext hor).returned = none →
          (lrun H ⟨T0 + t, true, oks⟩ (stopTrace t dl ext hor)).acting = true) := by
      intro calls'
      rw [(stopOut_fields calls' dl ext hor).2.2.1]
      unfold stopTrace
      by_cases hh : stopAt dl ext ≤ hor
      · simp only [hh, ↓reduceIte, lrun, lstep, tick_to T0 h1]
        exact ⟨fun r hr => by cases hr; exact ⟨trivial, rfl⟩, fun hr => by cases hr⟩
      · simp only [hh, ↓reduceIte, lrun, lstep]
        exact ⟨fun r hr => (by cases hr), fun _ => trivial⟩
    by_cases c1 : stopAt dl ext < tt
    · simp only [c1, ↓reduceIte]; exact hstop calls
    · simp only [c1, ↓reduceIte]
      by_cases c2 : hor < tt
      · simp only [c2, ↓reduceIte, lrun, lstep]
        exact ⟨fun r hr => (by cases hr), fun _ => trivial⟩
      · simp only [c2, ↓reduceIte]
        have hts := tries_spec (stopAt dl ext) P.retry tt .other script calls (Nat.le_of_not_lt c1)
        cases heq : tries (stopAt dl ext) P.retry tt .other script calls with
        | stuck calls' => dsimp only; exact hstop calls'
        | failed ret e rest calls' =>
          rw [heq] at hts; dsimp only at hts ⊢
          simp only [lrun, lstep, tick_to T0 (Nat.le_trans htt hts.1)]
          exact ⟨fun r hr => by cases hr; exact ⟨trivial, rfl⟩, fun hr => by cases hr⟩
        | ok ret rest calls' =>
          rw [heq] at hts; dsimp only at hts ⊢
          -- the answer arrives within the hold of the instant the timer is re-armed from
          have hle : ret ≤ (if P.rearmFromSend = true then tt else ret) + H := by
            split
            · calc ret ≤ stopAt dl ext := hts.2
                _ ≤ dl := stopAt_le dl ext
                _ ≤ t + H := h2
                _ ≤ tt + H := Nat.add_le_add_right htt H
            · exact Nat.le_add_right ..
          simp only [List.cons_append, List.nil_append, lrun, lstep, tick_to T0 (Nat.le_trans htt hts.1),
            show T0 + ret ≤ T0 + (if P.rearmFromSend = true then tt else ret) + H from
              Nat.add_assoc .. ▸ Nat.add_le_add_left hle T0, ↓reduceIte]
          refine ih ret _ _ _ rest calls' _ (le_stopAt_of_le hts.2 hle)
            (Nat.le_of_lt (ticksDuring_gt R next1 false ret hR)) (Nat.add_le_add_right ?_ H)
          split
          · exact hts.1
          · exact Nat.le_refl _

end GunYu.Props.C15
