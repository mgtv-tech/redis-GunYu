/-
  C12 — Stream decoding is lossless and its offsets equal the bytes consumed.

  Property theorems only (helper lemmas: Proofs/Decimal.lean, Proofs/Resp.lean).
  Quantifier: all sequences of multi-bulk commands, arbitrary binary / empty /
  arbitrarily long arguments, any argument count ≥ 1, any start offset.
  `WF c` only says what every Go value satisfies (slice lengths below 2^63)
  plus "the command name is not empty" (`ParseArgs` rejects an empty name) and
  "the command name is ASCII" (Go lower-cases it with `strings.ToLower`, which
  is byte-wise only on ASCII; the model and the harness are restricted to the
  same domain). Arguments are arbitrary bytes.
  Buffer sizes and read fragmentation: Props/C12Frag.lean (the same decoder over a
  model of bufio.Reader in front of a reader that cuts the stream into arbitrary
  pieces computes exactly what the functions below compute on the plain bytes).
-/
import GunYu.Model.Resp
import GunYu.Proofs.Decimal
import GunYu.Proofs.Resp

namespace GunYu.Props.C12
open GunYu GunYu.Resp

/-- decimal rendering then strict decimal parsing is the identity, every `n` -/
theorem dec_natToDec (n : Nat) : decToNat? (natToDec n) = some n :=
  Decimal.decToNat?_natToDec n

/-- the decoder's `strconv.ParseInt` reads back every length a Go slice can have -/
theorem parseInt64_natToDec (n : Nat) (h : n < 2^63) : parseInt64 (natToDec n) = some (n : Int) :=
  Resp.parseInt64_natToDec n h

/-- … and every int64 rendered by `strconv.AppendInt` (integer arguments of `WriteArgs`) -/
theorem parseInt64_intToDec (i : Int) (lo : -(2^63 : Int) ≤ i) (hi : i < 2^63) :
    parseInt64 (intToDec i) = some i :=
  Resp.parseInt64_intToDec i lo hi

/-- **Lossless, exact count, nothing over-read.** A fresh decoder on the
    encoding of any command followed by any bytes `rest` returns the lower-cased
    name, exactly the argument bytes sent, an offset equal to the length of the
    encoding, and leaves exactly `rest` unread. -/
theorem decodeOne_encode (c : List Bytes) (rest : Bytes) (h : WF c) :
    decodeOne (encodeCmd c ++ rest) = .ok (cmdOf c, (encodeCmd c).length, rest) := by
  simpa using decodeOne_nl_enc 0 c rest h

/-- newline bytes in front of a command (the source's keep-alive `\n`) are
    skipped and counted: the offset is still the number of stream bytes consumed -/
theorem decodeOne_newlines_encode (k : Nat) (c : List Bytes) (rest : Bytes) (h : WF c) :
    decodeOne (List.replicate k 10 ++ (encodeCmd c ++ rest)) =
      .ok (cmdOf c, k + (encodeCmd c).length, rest) :=
  decodeOne_nl_enc k c rest h

/-- `boundaries` is DESIGN §3's `boundary s start (i+1)`: start plus the encoded
    length of the first `i+1` commands -/
theorem boundaries_getElem? (start : Nat) (s : List (List Bytes)) (i : Nat) (h : i < s.length) :
    (boundaries start s)[i]? = some (start + ((s.take (i + 1)).flatMap encodeCmd).length) := by
  induction s generalizing start i with
  | nil => simp at h
  | cons c cs ih =>
    cases i with
    | zero => simp [boundaries]
    | succ i =>
      simp only [boundaries, List.getElem?_cons_succ, List.take_succ_cons, List.flatMap_cons,
        List.length_append]
      rw [ih _ i (by simpa using h)]
      congr 1; omega

/-- **Offsets = boundaries.** The parser loop (`startOffset + incrOffset` after
    each `MustDecodeOpt`) on the concatenated encodings of any command sequence,
    from any start offset, reports every command with exactly its arguments and
    the offset of its end, and then ends with `io.EOF`. -/
theorem decodeAll_offsets (start : Nat) (s : List (List Bytes)) (h : ∀ c ∈ s, WF c) :
    decodeAll start (s.flatMap encodeCmd) = ((s.map cmdOf).zip (boundaries start s), .eof) :=
  decodeAllFrom_stream start 0 s h

/-- the same for a stream that is cut or damaged anywhere after the first
    `s.length` commands: what was completely received is reported exactly -/
theorem decodeAll_prefix (start : Nat) (s : List (List Bytes)) (tail : Bytes) (h : ∀ c ∈ s, WF c) :
    (decodeAll start (s.flatMap encodeCmd ++ tail)).1.take s.length
      = (s.map cmdOf).zip (boundaries start s) := by
  obtain ⟨F, m, _, h'⟩ := decodeAllFrom_append start 0 s tail h
  rw [decodeAll, h']
  exact List.take_left' (expected_length start s)

/-- **Truncation.** A command cut anywhere before its last byte is never
    reported as a command: the decoder ends with `io.EOF` or `io.ErrUnexpectedEOF`. -/
theorem decodeOne_truncated (c : List Bytes) (h : WF c) (k : Nat) (hk : k < (encodeCmd c).length) :
    decodeOne ((encodeCmd c).take k) = .error .eof ∨ decodeOne ((encodeCmd c).take k) = .error .ueof := by
  obtain ⟨e, he, hE⟩ := decodeCmd_trunc (((encodeCmd c).take k).length + 1) c h _ _
    (List.take_append_drop k _).symm (fun h => by have := List.drop_eq_nil_iff.mp h; omega)
    (Nat.lt_succ_self _) 0
  rw [decodeOne, he]
  exact hE.imp (congrArg _) (congrArg _)

/-- a stream cut inside its last command: exactly the complete commands are
    reported, with their boundaries, nothing is invented from the partial one,
    and the loop ends with an end-of-input error -/
theorem decodeAll_truncated (start : Nat) (s : List (List Bytes)) (c : List Bytes) (k : Nat)
    (hs : ∀ c ∈ s, WF c) (hc : WF c) (hk : k < (encodeCmd c).length) :
    decodeAll start (s.flatMap encodeCmd ++ (encodeCmd c).take k)
        = ((s.map cmdOf).zip (boundaries start s), .eof) ∨
    decodeAll start (s.flatMap encodeCmd ++ (encodeCmd c).take k)
        = ((s.map cmdOf).zip (boundaries start s), .ueof) :=
  decodeAllFrom_trunc start 0 s c k hs hc hk

/-- a decoder whose counter already stands at `pre` (a long-lived connection)
    keeps exact offsets: boundaries are simply shifted by `pre` -/
theorem decodeAllFrom_offsets (start pre : Nat) (s : List (List Bytes)) (h : ∀ c ∈ s, WF c) :
    decodeAllFrom start pre (s.flatMap encodeCmd)
      = ((s.map cmdOf).zip (boundaries (start + pre) s), .eof) :=
  decodeAllFrom_stream start pre s h

/-- every reported offset lies between the start offset and the end of the
    stream (a statement over natural numbers: by itself it says nothing about
    Go's int64 arithmetic — that is the next three theorems) -/
theorem decodeAll_offsets_le_end (start : Nat) (s : List (List Bytes)) (h : ∀ c ∈ s, WF c) :
    ∀ p ∈ (decodeAll start (s.flatMap encodeCmd)).1,
      start ≤ p.2 ∧ p.2 ≤ start + (s.flatMap encodeCmd).length := by
  intro p hp
  rw [decodeAll_offsets start s h] at hp
  exact boundaries_bounds start s p.2 (List.of_mem_zip hp).2

/-- Go's wrapping `int64` addition is the mathematical sum when both operands
    are non-negative and the sum is below 2^63 (explicit no-overflow hypothesis) -/
theorem int64_add_exact (x y : Int64) (hx : 0 ≤ x.toInt) (hy : 0 ≤ y.toInt)
    (h : x.toInt + y.toInt < 2^63) : (x + y).toInt = x.toInt + y.toInt :=
  Resp.int64_add_exact x y hx hy h

/-- the decoder's counter as Go computes it (`d.offset++`, `d.offset += int64(len(b))`
    in wrapping int64, from any preset) equals the natural-number count of the
    model as long as the true total stays below 2^63 -/
theorem counter_int64_exact (pre : Nat) (ks : List Nat) (h : pre + ks.sum < 2^63) :
    (count64 (Int64.ofNat pre) ks).toInt = (pre + ks.sum : Nat) := by
  rw [count64_ofNat, Int64.toInt_ofNat_of_lt h]

/-- the parser's `startOffset + incrOffset`, computed in wrapping int64, is the
    model's offset for every command of every well-formed stream whose end lies
    below 2^63 -/
theorem parser_sum_int64_exact (start : Nat) (s : List (List Bytes)) (h : ∀ c ∈ s, WF c)
    (hb : start + (s.flatMap encodeCmd).length < 2^63) :
    ∀ p ∈ (decodeAll start (s.flatMap encodeCmd)).1,
      (Int64.ofNat start + Int64.ofNat (p.2 - start)).toInt = (p.2 : Nat) := by
  intro p hp
  obtain ⟨h1, h2⟩ := decodeAll_offsets_le_end start s h p hp
  rw [← int64_ofNat_add, Nat.add_sub_cancel' h1, Int64.toInt_ofNat_of_lt (by omega)]

/-- `proto.Writer.WriteArgs` produces the RESP framing of the arguments' payloads -/
theorem writeArgs_eq_encodeCmd (as : List Arg) : writeArgs as = encodeCmd (as.map Arg.payload) := by
  simp [writeArgs, encodeCmd, List.flatMap_map]

/-- **Encode for the target, decode again.** The bytes `WriteArgs` sends decode
    to the same command and arguments, with offset = bytes written. -/
theorem decode_writeArgs (as : List Arg) (rest : Bytes) (h : WF (as.map Arg.payload)) :
    decodeOne (writeArgs as ++ rest) =
      .ok (cmdOf (as.map Arg.payload), (writeArgs as).length, rest) := by
  rw [writeArgs_eq_encodeCmd]; exact decodeOne_encode _ rest h

/-- **Offset = bytes consumed for everything the decoder accepts** as a typed
    value (not only canonical encodings: signed or zero-padded lengths, `$-1`,
    nested arrays, newlines): the unread input is a suffix of the input and the
    counter advanced by exactly the length of what was consumed. -/
theorem decodeResp_offset_exact (fuel depth : Nat) (inp : Bytes) (off : Nat)
    (v : Resp.Resp) (off' : Nat) (rest : Bytes)
    (hty : typed inp) (h : decodeResp fuel depth inp off = .ok (v, off', rest)) :
    ∃ pre, inp = pre ++ rest ∧ off' = off + pre.length :=
  decodeResp_exact fuel depth inp off (Or.inl hty) v off' rest h

/-! ## Non-vacuity -/

-- SET k "\r\n$" : a binary argument containing protocol bytes; followed by more stream
example : WF [[83,69,84],[107],[13,10,36]] := by
  refine ⟨by decide, by decide, ?_, ?_⟩
  · intro a ha; simp at ha; rcases ha with rfl | rfl | rfl <;> decide
  · intro b hb; simp at hb; rcases hb with rfl | rfl | rfl <;> decide
-- cut after 19 of 29 bytes (inside the second bulk): io.ErrUnexpectedEOF; cut inside a length line: io.EOF
example : decodeOne ((encodeCmd [[83,69,84],[107],[13,10,36]]).take 19) = .error .ueof := by decide
example : decodeOne ((encodeCmd [[83,69,84],[107],[13,10,36]]).take 15) = .error .eof := by decide
-- a decoder that has already counted 2^32 - 3 bytes
example : decodeAllFrom 0 4294967293 (encodeCmd [[80,73,78,71]]) =
    ([(⟨[112,105,110,103], []⟩, 4294967307)], .eof) := by decide
example : decodeOne (encodeCmd [[83,69,84],[107],[13,10,36]] ++ [42,49]) =
    .ok (⟨[115,101,116], [[107],[13,10,36]]⟩, 29, [42,49]) := by decide
-- empty argument
example : decodeOne (encodeCmd [[71,69,84],[]]) = .ok (⟨[103,101,116], [[]]⟩, 19, []) := by decide
-- two commands from offset 1000: boundaries 1014 and 1035
example : decodeAll 1000 ([[[80,73,78,71]], [[71,69,84],[107,49]]].flatMap encodeCmd) =
    ([(⟨[112,105,110,103], []⟩, 1014), (⟨[103,101,116], [[107,49]]⟩, 1035)], .eof) := by decide
-- a truncated second command: the first is still reported exactly, then io.ErrUnexpectedEOF
example : decodeAll 0 (encodeCmd [[80,73,78,71]] ++ [42,49,13,10,36,52,13,10,80]) =
    ([(⟨[112,105,110,103], []⟩, 14)], .ueof) := by decide
-- WriteArgs of (string "SET", []byte "k", int64 -5)
example : decodeOne (writeArgs [.str [83,69,84], .bytes [107], .int (-5)]) =
    .ok (⟨[115,101,116], [[107],[45,53]]⟩, 28, []) := by decide
-- observation (outside the property): an inline command `PING\r\n` (6 bytes) is
-- reported with offset 7 — its first byte is counted by decodeType and again with the line
example : decodeOne [80,73,78,71,13,10] = .ok (⟨[112,105,110,103], []⟩, 7, []) := by decide

end GunYu.Props.C12
