/-
  C13 — the snapshot phase: which key a snapshot unit is written under, and why
  it lies outside the reserved namespace (defect D40, /repo f9044ee).

  `EvOK'` asks of a snapshot unit that the first argument of its commands is
  outside the namespace (`isNamespaceKey … = false`): the snapshot filter
  withholds reserved keys. Before the repair that filter
  (`rdbReplayBisync`) tested the SNAPSHOT's key, while with `replaceHashTag` the
  unit is written under `bisyncRdbTargetKey key` - the key with its first `{`
  and its first `}` removed. Transcribed here:

  * `rdbTargetKey`      : RedisOutput.bisyncRdbTargetKey (syncer/bisync_rdb.go)
  * `rdbTargetReserved` : RedisOutput.bisyncRdbTargetReserved (the repair)
  * `rdbKept`           : the filter condition of rdbReplayBisync, the user's
                          key / slot filter being any predicate
  * `rdbKeptOld`        : the condition before the repair

  Tied to the code by the hash-tag probe (real rdbReplayBisync over real loader
  entries, harness/overlay/syncer/vf_c13_hashtag_test.go) and the source fact
  `c13_rdb_filter`.
-/
import GunYu.Props.C13

namespace GunYu.Props.C13
open GunYu GunYu.BisyncUnit GunYu.Bisync

/-- `bisyncRdbTargetKey`: `bytes.Replace(k, "{", "", 1)` then `bytes.Replace(k, "}", "", 1)`
    when replace-hashtag is on (`List.erase` removes the first occurrence) -/
def rdbTargetKey (rh : Bool) (key : Bytes) : Bytes :=
  if rh then (key.erase 123).erase 125 else key

/-- `bisyncRdbTargetReserved` (the repair) -/
def rdbTargetReserved (rh : Bool) (key : Bytes) : Bool :=
  rh && (isNamespaceKey (rdbTargetKey rh key) || hasPrefix Gen.namespacePrefixKey (rdbTargetKey rh key))

/-- an entry reaches the unit builder (`filterOut` stays false); `uf` = the
    user's key and slot filters on the snapshot's key -/
def rdbKept (rh : Bool) (uf : Bytes → Bool) (key : Bytes) : Bool :=
  !(uf key || isNamespaceKey key || rdbTargetReserved rh key)

/-- … before the repair -/
def rdbKeptOld (uf : Bytes → Bool) (key : Bytes) : Bool :=
  !(uf key || isNamespaceKey key)

/-- **The key a kept snapshot entry is written under is outside the namespace** —
    with or without replace-hashtag, whatever the user's filters. -/
theorem snapshot_target_outside_namespace (rh : Bool) (uf : Bytes → Bool) (key : Bytes)
    (h : rdbKept rh uf key = true) : isNamespaceKey (rdbTargetKey rh key) = false := by
  simp only [rdbKept, Bool.not_eq_true', Bool.or_eq_false_iff] at h
  obtain ⟨⟨_, hkey⟩, hres⟩ := h
  cases rh with
  | false => exact hkey
  | true => exact (Bool.or_eq_false_iff.mp hres).1

/-- hence a snapshot unit built from kept entries, each command addressing the
    key its entry is written under, satisfies the event condition of the global
    theorems: the condition is a consequence of the filter, not an
    assumption on the snapshot's keys -/
theorem snapshot_event_ok (cfg : WCfg) (src : SiteId) (cmds : List Cmd) (arg : CommitArg) (rh : Bool) (uf : Bytes → Bool)
    (h : ∀ c ∈ cmds, TxnSafe c ∧ ∃ key, rdbKept rh uf key = true ∧ c.args.headD [] = rdbTargetKey rh key) :
    EvOK' cfg (.snapshot src cmds arg) := by
  intro c hc
  obtain ⟨hs, key, hk, he⟩ := h c hc
  exact ⟨hs, by rw [he]; exact snapshot_target_outside_namespace rh uf key hk⟩

-- "{redis-gunyu-bisync:}cp:latest:{t}"
private def braced : Bytes := [123] ++ Gen.bisyncKeyPrefix ++ [58, 125] ++ [99,112] ++ Gen.latestInfix ++ [116, 125]

example : rdbTargetKey true braced = Gen.latestKey [99,112] [116] := by decide +kernel
example : rdbTargetKey false braced = braced := rfl
example : rdbKept true (fun _ => false) braced = false := by decide +kernel
example : rdbKept false (fun _ => false) braced = true := by decide +kernel
-- an ordinary braced key is kept and written without its braces: "{u}ser" -> "user"
example : rdbKept true (fun _ => false) [123,117,125,115,101,114] = true ∧
    rdbTargetKey true [123,117,125,115,101,114] = [117,115,101,114] := by decide +kernel

/-- **D40, as a counter-witness.** Before the repair the filter kept an entry
    whose target key IS a control key: `{redis-gunyu-bisync:}cp:latest:{t}` is
    written over the latest record of namespace `cp`. -/
theorem old_snapshot_filter_admits_reserved_target :
    ∃ key, rdbKeptOld (fun _ => false) key = true ∧ isLatestKey (rdbTargetKey true key) = true ∧
      isNamespaceKey (rdbTargetKey true key) = true :=
  ⟨braced, by decide +kernel, by decide +kernel, by decide +kernel⟩

end GunYu.Props.C13
