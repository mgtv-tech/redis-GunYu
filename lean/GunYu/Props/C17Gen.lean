/-
  C17 — the decisions of `GetCheckpoint` / `DelStaleCheckpoint` REGENERATED from the Go source on every run
  (harness/extract/c17guards.go → Gen/CheckpointGuards.lean) are the ones the hand model uses
  (Model/Checkpoint.lean `bestStep`, `staleScanStep`, `staleVictims`, `StaleScan`): every theorem of Props/C17*.lean
  about `getCheckpoint` / `startPoint` / `delStale` / `gcReqs` is a theorem about what the code decides NOW. An edit of
  one of these conditions in /repo (`>=` for `>`, the mtime tie-break dropped, `cpi.Mtime >= before`, the
  `exceptNewest` conjunct removed, another initial `newest`) changes the generated definition and breaks the
  equivalence proof below.
-/
import GunYu.Model.Checkpoint
import GunYu.Gen.CheckpointGuards

namespace GunYu.Props.C17
open GunYu GunYu.Checkpoint

/-- GetCheckpoint's selection: larger offset, newer mtime on a tie -/
theorem gen_cpBetter_eq_model (tc cpi : CpInfo) :
    (tc.offset > cpi.offset ∨ (tc.offset = cpi.offset ∧ tc.mtime > cpi.mtime)) ↔
      Gen.cpBetter tc.offset tc.mtime cpi.offset cpi.mtime = true := by
  simp [Gen.cpBetter]

/-- … hence one iteration of `for db := range mp` in the model is the generated decision -/
theorem gen_bestStep_eq_model (ids : List Bytes) (t : Target) (name : Bytes) (cpi : CpInfo) (rec : Int) (db : Nat) :
    bestStep ids t name (some (cpi, rec)) db =
      match fetch ids (t.cps db name) with
      | none => none
      | some tc => if Gen.cpBetter tc.offset tc.mtime cpi.offset cpi.mtime then some (tc, (db : Int)) else some (cpi, rec) := by
  unfold bestStep
  cases fetch ids (t.cps db name) with
  | none => rfl
  | some tc =>
    simp only
    by_cases h : tc.offset > cpi.offset ∨ (tc.offset = cpi.offset ∧ tc.mtime > cpi.mtime)
    · rw [if_pos h, if_pos ((gen_cpBetter_eq_model tc cpi).1 h)]
    · rw [if_neg h, if_neg (fun h' => h ((gen_cpBetter_eq_model tc cpi).2 h'))]

/-- DelStaleCheckpoint: the initial `newest` -/
theorem gen_staleNewest0_eq_model : ({} : StaleScan).newest = Gen.staleNewest0 := rfl

/-- DelStaleCheckpoint, first loop -/
theorem gen_staleScanStep_eq_model (t : Target) (name rid : Bytes) (s : StaleScan) (db : Nat) :
    staleScanStep t name rid (some s) db =
      match fetch [rid] (t.cps db name) with
      | none => none
      | some cpi =>
        let s1 := if Gen.staleNewer cpi.offset s.newest then { s with newest := cpi.offset, newestDb := db } else s
        some (if Gen.staleFound cpi.offset then { s1 with found := s1.found ++ [(db, cpi)] } else s1) := by
  unfold staleScanStep
  cases fetch [rid] (t.cps db name) with
  | none => rfl
  | some cpi => simp [Gen.staleNewer, Gen.staleFound]

/-- DelStaleCheckpoint, second loop: the entries that are NOT spared -/
theorem gen_staleVictims_eq_model (s : StaleScan) (before : Int) (exceptNewest : Bool) :
    staleVictims s before exceptNewest =
      s.found.filter (fun p => !Gen.staleSkip (decide (p.1 = s.newestDb)) exceptNewest p.2.mtime before) := by
  unfold staleVictims
  congr 1
  funext p
  simp only [Gen.staleSkip, decide_not, Bool.decide_or, Bool.decide_and, Bool.decide_eq_true]

/-! non-vacuity: the tie-break and the spared newest entry are really decided by these functions -/
example : Gen.cpBetter 50 9 50 3 = true ∧ Gen.cpBetter 50 3 50 3 = false ∧ Gen.cpBetter 49 9 50 3 = false := by decide
example : Gen.staleSkip true true 0 100 = true ∧ Gen.staleSkip true false 0 100 = false ∧
    Gen.staleSkip false true 100 100 = false ∧ Gen.staleSkip false true 101 100 = true := by decide
example : Gen.staleFound 0 = false ∧ Gen.staleFound 1 = true ∧ Gen.staleNewer (-1) Gen.staleNewest0 = true := by decide

end GunYu.Props.C17
